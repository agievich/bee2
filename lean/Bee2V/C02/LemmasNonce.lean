/-
C02 — the nonce loop of alg. 6.3.3 (`k ← H; do k ← belt-WBL(k, θ) while k ∉ {1..q-1}`) in terms of the
iterates of WBL_θ, and the orbit argument: an injective length-preserving map on the 2l-bit strings is a
permutation of a finite set, so the orbit of H is a cycle through H.
-/
import Mathlib.Data.Fintype.Pigeonhole
import Mathlib.Logic.Function.Iterate
import Bee2V.C02.Lemmas
namespace Bee2V.C02
variable {G : Type} {C : Ctx G}

/-- the value of the loop variable after `i` rounds -/
def nonceIter (C : Ctx G) (θ : Bytes) (i : Nat) (k0 : Bytes) : Bytes := (C.wbl θ)^[i] k0

/-- the key of the nonce loop: theta = belt-hash(oid ‖ d ‖ t) (`t = none`: the NULL pointer, nothing is hashed) -/
def nonceKey (C : Ctx G) (oid priv : Bytes) (t : Option Bytes) : Bytes :=
  C.hash (oid ++ priv ++ (match t with | some t => t | none => []))

theorem nc_sign2_eq (C : Ctx G) (fuel : Nat) (oid Hb priv : Bytes) (t : Option Bytes) :
    sign2 C fuel oid Hb priv t =
      if !C.oidOk oid then some (.badOid, []) else
      if !privOk C (leNat priv) then some (.badPrivkey, []) else
      match nonceLoop C (nonceKey C oid priv t) fuel Hb with
      | none => none
      | some k => some (signWith C oid Hb (leNat priv) k) := rfl

/-- the exit condition `!wwIsZero(k) && wwCmp(k, q) < 0` -/
def nonceOk (C : Ctx G) (b : Bytes) : Prop := leNat b ≠ 0 ∧ leNat b < C.q

instance (C : Ctx G) (b : Bytes) : Decidable (nonceOk C b) := by unfold nonceOk; infer_instance

theorem nc_iter_succ (C : Ctx G) (θ : Bytes) (i : Nat) (k0 : Bytes) :
    nonceIter C θ (i + 1) k0 = nonceIter C θ i (C.wbl θ k0) := by
  unfold nonceIter; rw [Function.iterate_succ_apply]

/-- the loop returns the FIRST iterate that satisfies the exit condition -/
theorem nc_loop_first (θ : Bytes) : ∀ (n fuel : Nat) (k0 : Bytes), n < fuel →
    (∀ i, i < n → ¬ nonceOk C (nonceIter C θ (i + 1) k0)) → nonceOk C (nonceIter C θ (n + 1) k0) →
    nonceLoop C θ fuel k0 = some (leNat (nonceIter C θ (n + 1) k0)) := by
  intro n
  induction n with
  | zero =>
    intro fuel k0 hf _ hok
    obtain ⟨f, rfl⟩ : ∃ f, fuel = f + 1 := ⟨fuel - 1, by omega⟩
    have e : nonceIter C θ 1 k0 = C.wbl θ k0 := rfl
    rw [e] at hok ⊢
    simp only [nonceLoop]
    rw [if_pos (show leNat (C.wbl θ k0) ≠ 0 ∧ leNat (C.wbl θ k0) < C.q from hok)]
  | succ n ih =>
    intro fuel k0 hf hno hok
    obtain ⟨f, rfl⟩ : ∃ f, fuel = f + 1 := ⟨fuel - 1, by omega⟩
    have h1 : ¬ nonceOk C (C.wbl θ k0) := hno 0 (by omega)
    simp only [nonceLoop]
    rw [if_neg (show ¬ (leNat (C.wbl θ k0) ≠ 0 ∧ leNat (C.wbl θ k0) < C.q) from h1), nc_iter_succ]
    apply ih f (C.wbl θ k0) (by omega)
    · intro i hi
      rw [← nc_iter_succ]
      exact hno (i + 1) (by omega)
    · rw [← nc_iter_succ]; exact hok

/-! ### the orbit of an injective length-preserving map -/

theorem nc_finite_strings (n : Nat) : Finite {b : Bytes // b.length = n} := by
  have hinj : Function.Injective (fun b : {b : Bytes // b.length = n} =>
      (⟨leNat b.1, by have := leNat_lt b.1; rw [b.2] at this; exact this⟩ : Fin (256 ^ n))) := by
    intro a b h
    have hv : leNat a.1 = leNat b.1 := by simpa using congrArg Fin.val h
    apply Subtype.ext
    rw [← natLE_leNat a.1, ← natLE_leNat b.1, a.2, b.2, hv]
  exact Finite.of_injective _ hinj

/-- the orbit of H under an injective length-preserving map of the n-octet strings returns to H -/
theorem nc_orbit_returns (f : Bytes → Bytes) (n : Nat) (hlen : ∀ a, a.length = n → (f a).length = n)
    (hinj : ∀ a b, a.length = n → b.length = n → f a = f b → a = b) (H : Bytes) (hH : H.length = n) :
    ∃ m, 0 < m ∧ f^[m] H = H := by
  haveI := nc_finite_strings n
  let g : {b : Bytes // b.length = n} → {b : Bytes // b.length = n} := fun b => ⟨f b.1, hlen b.1 b.2⟩
  have hg : Function.Injective g := by
    intro a b h
    exact Subtype.ext (hinj a.1 b.1 a.2 b.2 (congrArg Subtype.val h))
  have hval : ∀ (m : Nat) (s : {b : Bytes // b.length = n}), (g^[m] s).1 = f^[m] s.1 := by
    intro m
    induction m with
    | zero => intro s; rfl
    | succ m ih => intro s; rw [Function.iterate_succ_apply, Function.iterate_succ_apply, ih]
  obtain ⟨x, y, hxy, he⟩ := Finite.exists_ne_map_eq_of_infinite (fun i : Nat => g^[i] ⟨H, hH⟩)
  have key : ∀ a b : Nat, a < b → g^[a] ⟨H, hH⟩ = g^[b] ⟨H, hH⟩ → ∃ m, 0 < m ∧ f^[m] H = H := by
    intro a b hab h
    have hb : b = a + (b - a) := by omega
    rw [hb, Function.iterate_add_apply] at h
    have := (hg.iterate a) h
    refine ⟨b - a, by omega, ?_⟩
    have h2 := congrArg Subtype.val this
    rw [hval] at h2
    exact h2.symm
  rcases Nat.lt_or_gt_of_ne hxy with h | h
  · exact key x y h he
  · exact key y x h he.symm

/-- periodicity: `f^[m] H = H` ⇒ every iterate `f^[j] H`, j ≥ 1, is one of `f^[1] H … f^[m] H` -/
theorem nc_iter_mod (f : Bytes → Bytes) (H : Bytes) (m : Nat) (hm : 0 < m) (hp : f^[m] H = H) (j : Nat) :
    f^[j + 1] H = f^[j % m + 1] H := by
  have hmul : ∀ b : Nat, f^[m * b] H = H := by
    intro b
    induction b with
    | zero => rfl
    | succ b ih => rw [Nat.mul_succ, Function.iterate_add_apply, hp, ih]
  have e : j + 1 = (j % m + 1) + m * (j / m) := by
    have := Nat.mod_add_div j m; omega
  rw [e, Function.iterate_add_apply, hmul]

end Bee2V.C02
