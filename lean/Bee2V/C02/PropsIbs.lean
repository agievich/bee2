/-
C02 — property theorems for the identity-based signatures of bign_ibs.c
(STB 34.101.45, appendix B.2): bignIdExtract, bignIdSign, bignIdSign2, bignIdVerify.
Every theorem of this file is an obligation; the helper lemmas are in LemmasIbs.lean.
-/
import Bee2V.C02.LemmasIbs
namespace Bee2V.C02
variable {G : Type} [AddCommGroup G] {C : Ctx G}

omit [AddCommGroup G] in
/-- the error codes of bignIdVerify and their order: oid, then id_pubkey, then pubkey; after
that only ERR_OK / ERR_BAD_SIG -/
theorem idverify_codes (oid idH Hb idSig idPub pub : Bytes) :
    (C.oidOk oid = false → idVerify C oid idH Hb idSig idPub pub = .badOid) ∧
    (C.oidOk oid = true → loadPub C idPub = none →
      idVerify C oid idH Hb idSig idPub pub = .badPubkey) ∧
    (C.oidOk oid = true → loadPub C idPub ≠ none → loadPub C pub = none →
      idVerify C oid idH Hb idSig idPub pub = .badPubkey) ∧
    (C.oidOk oid = true → loadPub C idPub ≠ none → loadPub C pub ≠ none →
      idVerify C oid idH Hb idSig idPub pub = .ok ∨
      idVerify C oid idH Hb idSig idPub pub = .badSig) := by
  refine ⟨fun ho => ?_, fun ho hR => ?_, fun ho hR hQ => ?_, fun ho hR hQ => ?_⟩
  · simp [idVerify, ho]
  · simp [idVerify, ho, hR]
  · obtain ⟨R, hR'⟩ := Option.ne_none_iff_exists'.1 hR
    simp [idVerify, ho, hR', hQ]
  · obtain ⟨R, hR'⟩ := Option.ne_none_iff_exists'.1 hR
    obtain ⟨Q, hQ'⟩ := Option.ne_none_iff_exists'.1 hQ
    unfold idVerify
    simp only [ho, hR', hQ', Bool.not_true, Bool.false_eq_true, ↓reduceIte]
    split
    · exact Or.inr rfl
    · split
      · exact Or.inr rfl
      · split
        · exact Or.inl rfl
        · exact Or.inr rfl

/-- the acceptance set of bignIdVerify: `s1 < q`, the point
`V = ((s1 + H) mod q) G + (s0 + 2^l) R + (-(t + 2^l)(s0 + 2^l) mod q) Q` is not O and
`<belt-hash(oid ‖ <V>_{2l} ‖ H0 ‖ H)>_l = s0`, where `t = <belt-hash(oid ‖ <R>_{2l} ‖ H0)>_l` -/
theorem idverify_exact (L : Laws C) (oid idH Hb idSig idPub pub : Bytes) (hH : Hb.length = C.no) :
    idVerify C oid idH Hb idSig idPub pub = .ok ↔
      C.oidOk oid = true ∧ ∃ R Q, loadPub C idPub = some R ∧ loadPub C pub = some Q ∧
        leNat (idSig.drop (C.no / 2)) < C.q ∧
        ∃ x y, C.xy (((leNat (idSig.drop (C.no / 2)) + leNat Hb) % C.q) • C.base
              + (leNat (idSig.take (C.no / 2)) + 2 ^ C.l) • R
              + ((C.q - ((leNat (hashL C (oid ++ idPub.take C.no ++ idH)) + 2 ^ C.l)
                    * (leNat (idSig.take (C.no / 2)) + 2 ^ C.l)) % C.q) % C.q) • Q) = some (x, y) ∧
          hashL C (oid ++ natLE C.no x ++ idH ++ Hb) = idSig.take (C.no / 2) := by
  cases ho : C.oidOk oid with
  | false => exact iff_of_false (by rw [(idverify_codes oid idH Hb idSig idPub pub).1 ho]; nofun) (fun h => nomatch h.1)
  | true =>
    cases hR : loadPub C idPub with
    | none =>
      exact iff_of_false (by rw [(idverify_codes oid idH Hb idSig idPub pub).2.1 ho hR]; nofun)
        (fun ⟨_, _, _, h, _⟩ => nomatch h)
    | some R =>
      cases hQ : loadPub C pub with
      | none =>
        exact iff_of_false (by rw [(idverify_codes oid idH Hb idSig idPub pub).2.2.1 ho (by simp [hR]) hQ]; nofun)
          (fun ⟨_, _, _, _, h, _⟩ => nomatch h)
      | some Q =>
        have h := Par.vcore_isSome L.par oid (idH ++ Hb) (L.leNat_lt_W hH) idSig
          (R - (leNat (hashL C (oid ++ idPub.take C.no ++ idH)) + 2 ^ C.l) • Q)
        rw [ibs_idVerify_vcore L idH idSig ho hR hQ]
        simp only [← List.append_assoc] at h
        simp only [true_and, Option.some.injEq, exists_and_left, exists_eq_left', ibs_derived L, ← h]
        cases (C.par.vcore oid (idH ++ Hb) (leNat Hb) idSig _).isSome <;> simp

/-- completeness of sign -> verify for an extracted key pair: if `R = e G + (t + 2^l) Q` with
`t = <belt-hash(oid ‖ <R>_{2l} ‖ H0)>_l` (what bignIdExtract returns as id_privkey = e and
id_pubkey = <R>_{4l}), then a signature made by bignIdSign with any nonce `0 < k < q` is accepted
by bignIdVerify under id_pubkey = <R>_{4l} and any encoding `pub` of the trusted party's key Q -/
theorem idsign_idverify_pub (L : Laws C) (oid idH Hb pub : Bytes) (e k xR yR : Nat) (R Q : G)
    (hoid : C.oidOk oid = true) (hH : Hb.length = C.no)
    (hk0 : 0 < k) (hk : k < C.q)
    (hR : C.xy R = some (xR, yR)) (hQ : loadPub C pub = some Q)
    (hrel : e • C.base + (leNat (hashL C (oid ++ natLE C.no xR ++ idH)) + 2 ^ C.l) • Q = R) :
    ∃ isig, idSignWith C oid idH Hb e k = (.ok, isig) ∧ isig.length = C.no + C.no / 2 ∧
      idVerify C oid idH Hb isig (encXY C (xR, yR)) pub = .ok := by
  obtain ⟨xV, yV, hV⟩ := L.xy_some (L.base_mul_ne hk0 hk)
  have ht : (encXY C (xR, yR)).take C.no = natLE C.no xR := take_natLE_append C.no xR (natLE C.no yR)
  obtain ⟨m, hm⟩ := Par.vcore_sig L.par oid (idH ++ Hb) e (P := C.par) hk (L.leNat_lt_W hH) hV
  refine ⟨_, by rw [ibs_idSignWith_sig L, hV], (Par.sig_length L.par ..).trans (Nat.add_comm ..), ?_⟩
  -- the derived public key of an extracted pair is `e G`
  rw [ibs_idVerify_vcore L idH _ hoid (L.loadPub_encXY hR) hQ, ht, ← hrel, add_sub_cancel_right]
  exact if_pos (by rw [show C.base = C.par.base from rfl, hm]; rfl)

/-- the same with the trusted party's public key in its standard encoding `<Q>_{4l}` -/
theorem idsign_idverify (L : Laws C) (oid idH Hb : Bytes) (e k xR yR xQ yQ : Nat) (R Q : G)
    (hoid : C.oidOk oid = true) (hH : Hb.length = C.no)
    (hk0 : 0 < k) (hk : k < C.q)
    (hR : C.xy R = some (xR, yR)) (hQ : C.xy Q = some (xQ, yQ))
    (hrel : e • C.base + (leNat (hashL C (oid ++ natLE C.no xR ++ idH)) + 2 ^ C.l) • Q = R) :
    ∃ isig, idSignWith C oid idH Hb e k = (.ok, isig) ∧ isig.length = C.no + C.no / 2 ∧
      idVerify C oid idH Hb isig (encXY C (xR, yR)) (encXY C (xQ, yQ)) = .ok :=
  idsign_idverify_pub L oid idH Hb _ e k xR yR R Q hoid hH hk0 hk hR (L.loadPub_encXY hQ) hrel

/-- bignIdExtract succeeds exactly on the signatures of the identity hash that alg. 7.1.4 accepts
under Q, and returns `e = (s1 + H0) mod q` and both coordinates of
`R = e G + (s0 + 2^l) Q` -/
theorem idextract_exact (L : Laws C) (oid idH sig pub out : Bytes) (hH : idH.length = C.no) :
    idExtract C oid idH sig pub = (.ok, out) ↔
      C.oidOk oid = true ∧ ∃ Q, loadPub C pub = some Q ∧
        leNat (sig.drop (C.no / 2)) < C.q ∧
        ∃ x y, C.xy (((leNat (sig.drop (C.no / 2)) + leNat idH) % C.q) • C.base
                  + (leNat (sig.take (C.no / 2)) + 2 ^ C.l) • Q) = some (x, y) ∧
          hashL C (oid ++ natLE C.no x ++ idH) = sig.take (C.no / 2) ∧
          out = natLE C.no ((leNat (sig.drop (C.no / 2)) + leNat idH) % C.q) ++ encXY C (x, y) := by
  unfold idExtract
  cases ho : C.oidOk oid with
  | false => exact iff_of_false (by simp) (fun h => nomatch h.1)
  | true =>
    cases hQ : loadPub C pub with
    | none => exact iff_of_false (by simp) (fun ⟨_, _, h, _⟩ => nomatch h)
    | some Q =>
      simp only [Bool.not_true, Bool.false_eq_true, ↓reduceIte, true_and, Option.some.injEq, exists_eq_left']
      rcases sg_verifyCore_cases L oid sig Q hH with ⟨x, y, hs, hx, hh, hv⟩ | ⟨hv, hn⟩
      · rw [hv]
        simp only [↓reduceIte, Prod.mk.injEq, true_and]
        constructor
        · exact fun h => ⟨hs, x, y, hx, hh, h.symm⟩
        · rintro ⟨_, x', y', hx', _, rfl⟩
          rw [hx] at hx'
          cases hx'
          rfl
      · rw [hv]
        simp only [reduceCtorEq, ↓reduceIte, Prod.mk.injEq, false_and, false_iff]
        rintro ⟨hs, x, y, hx, hh, _⟩
        exact hn ⟨hs, x, y, hx, hh⟩

/-- the whole chain on the code's own outputs: whatever bignIdExtract returns (id_privkey ‖
id_pubkey) for a signature of the identity hash under `pub`, a signature made with id_privkey
and any nonce `0 < k < q` is accepted by bignIdVerify under id_pubkey and `pub` -/
theorem idextract_idsign_idverify (L : Laws C) (oid idH Hb sig pub out : Bytes) (k : Nat)
    (hH0 : idH.length = C.no) (hH : Hb.length = C.no) (hk0 : 0 < k) (hk : k < C.q)
    (hex : idExtract C oid idH sig pub = (.ok, out)) :
    leNat (out.take C.no) < C.q ∧ out.length = 3 * C.no ∧
    ∃ isig, idSignWith C oid idH Hb (leNat (out.take C.no)) k = (.ok, isig) ∧
      isig.length = C.no + C.no / 2 ∧
      idVerify C oid idH Hb isig (out.drop C.no) pub = .ok := by
  obtain ⟨hoid, Q, hQ, _, x, y, hx, hh, rfl⟩ := (idextract_exact L oid idH sig pub out hH0).1 hex
  have hq : (leNat (sig.drop (C.no / 2)) + leNat idH) % C.q < C.q := Nat.mod_lt _ L.q_pos
  have he : leNat (natLE C.no ((leNat (sig.drop (C.no / 2)) + leNat idH) % C.q))
      = (leNat (sig.drop (C.no / 2)) + leNat idH) % C.q := by
    apply leNat_natLE_of_lt
    rw [L.pow256]
    exact Nat.lt_trans hq L.q_hi
  rw [take_natLE_append, drop_natLE_append, he]
  refine ⟨hq, ?_, ?_⟩
  · rw [List.length_append, natLE_length, encXY_length]
    omega
  · refine idsign_idverify_pub L oid idH Hb pub _ k x y _ Q hoid hH hk0 hk hx hQ ?_
    rw [hh]

/-- bignIdSign for a private key `e < q`: ERR_BAD_RNG iff the generator gives no nonce within the
attempts of zzRandNZMod; otherwise the nonce is in [1, q-1] and the result is ERR_OK with the
signature of `idSignWith` for this nonce -/
theorem idsign_complete (L : Laws C) (oid idH Hb idPriv tape : Bytes)
    (hoid : C.oidOk oid = true) (he : leNat idPriv < C.q) (hH : Hb.length = C.no) :
    (∀ rest, randNZMod C tape = (none, rest) →
      idSign C oid idH Hb idPriv tape = (.badRng, [], rest)) ∧
    (∀ k rest, randNZMod C tape = (some k, rest) → 0 < k ∧ k < C.q ∧
      ∃ isig, idSignWith C oid idH Hb (leNat idPriv) k = (.ok, isig) ∧
        idSign C oid idH Hb idPriv tape = (.ok, isig, rest)) := by
  have he' : ¬ leNat idPriv ≥ C.q := by omega
  constructor
  · intro rest h
    unfold idSign
    simp only [hoid, Bool.not_true, Bool.false_eq_true, ↓reduceIte, he', h]
  · intro k rest h
    obtain ⟨hk0, hk⟩ := randNZMod_range h
    obtain ⟨isig, hs⟩ := ibs_idSignWith_ok L oid idH Hb (leNat idPriv) hk0 hk
    refine ⟨hk0, hk, isig, hs, ?_⟩
    unfold idSign
    simp only [hoid, Bool.not_true, Bool.false_eq_true, ↓reduceIte, he', h, hs]

/-- bignIdSign2 for a private key `e < q`: if the deterministic nonce loop ends within `fuel`
rounds, its nonce is in [1, q-1] and the result is ERR_OK with the signature of `idSignWith` -/
theorem idsign2_complete (L : Laws C) (fuel : Nat) (oid idH Hb idPriv : Bytes) (t : Option Bytes)
    (hoid : C.oidOk oid = true) (he : leNat idPriv < C.q) (hH : Hb.length = C.no) :
    (nonceLoop C (C.hash (oid ++ idPriv ++ t.getD [])) fuel Hb = none →
      idSign2 C fuel oid idH Hb idPriv t = none) ∧
    (∀ k, nonceLoop C (C.hash (oid ++ idPriv ++ t.getD [])) fuel Hb = some k → 0 < k ∧ k < C.q ∧
      ∃ isig, idSignWith C oid idH Hb (leNat idPriv) k = (.ok, isig) ∧
        idSign2 C fuel oid idH Hb idPriv t = some (.ok, isig)) := by
  have he' : ¬ leNat idPriv ≥ C.q := by omega
  have h2 : idSign2 C fuel oid idH Hb idPriv t =
      match nonceLoop C (C.hash (oid ++ idPriv ++ t.getD [])) fuel Hb with
      | none => none
      | some k => some (idSignWith C oid idH Hb (leNat idPriv) k) := by
    unfold idSign2
    simp only [hoid, Bool.not_true, Bool.false_eq_true, ↓reduceIte, he']
    cases t <;> rfl
  rw [h2]
  constructor
  · intro h
    simp only [h]
  · intro k h
    obtain ⟨hk0, hk⟩ := nonceLoop_range _ _ _ _ _ h
    obtain ⟨isig, hs⟩ := ibs_idSignWith_ok L oid idH Hb (leNat idPriv) hk0 hk
    refine ⟨hk0, hk, isig, hs, ?_⟩
    simp only [h, hs]

end Bee2V.C02
