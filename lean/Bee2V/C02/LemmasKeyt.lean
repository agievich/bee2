/-
C02 — helper lemmas for the key-transport properties (PropsKeyt.lean): the branches of
bignKeyWrap / bignKeyUnwrap one at a time, the shared secret.
-/
import Bee2V.C02.Lemmas
namespace Bee2V.C02

/-- header as the 16 octets that are protected: NULL = zero header -/
def hdrOctets : Option Bytes → Bytes
  | some h => h
  | none => zeros 16

variable {G : Type}

theorem keyt_privOk_false (C : Ctx G) (d : Nat) : privOk C d = false ↔ d = 0 ∨ C.q ≤ d := by
  unfold privOk
  simp only [decide_eq_false_iff_not]
  omega

/-! ### bignKeyWrap branch by branch -/

variable [AddCommGroup G] {C : Ctx G}

theorem keyt_wrap_some (L : Laws C) {key : Bytes} {header : Option Bytes} {pub tape rest : Bytes} {k : Nat}
    {Q : G} {T R : Nat × Nat}
    (h : 16 ≤ key.length) (hr : randNZMod C tape = (some k, rest)) (hp : loadPub C pub = some Q)
    (hT : C.xy (k • Q) = some T) (hR : C.xy (k • C.base) = some R) :
    keyWrap C key header pub tape =
      (.ok, natLE C.no R.1 ++ C.kwpE (theta C T.1) (key ++ hdrOctets header), rest) := by
  unfold keyWrap
  rw [if_neg (by omega)]
  simp only [hr, hp, L.smul_eq, hT, hR]
  cases header <;> rfl

/-! ### bignKeyUnwrap branch by branch -/

omit [AddCommGroup G] in
theorem keyt_unwrap_short (C : Ctx G) {token : Bytes} (header : Option Bytes) (priv : Bytes)
    (h : token.length < 32 + C.no) : keyUnwrap C token header priv = (.badKeytoken, []) := by
  unfold keyUnwrap
  simp [h]

omit [AddCommGroup G] in
theorem keyt_unwrap_priv (C : Ctx G) {token : Bytes} (header : Option Bytes) {priv : Bytes}
    (h1 : 32 + C.no ≤ token.length) (h2 : privOk C (leNat priv) = false) :
    keyUnwrap C token header priv = (.badPrivkey, []) := by
  unfold keyUnwrap
  have h1' : ¬ token.length < 32 + C.no := by omega
  simp [h1', h2]

omit [AddCommGroup G] in
theorem keyt_unwrap_p (C : Ctx G) {token : Bytes} (header : Option Bytes) {priv : Bytes}
    (h1 : 32 + C.no ≤ token.length) (h2 : privOk C (leNat priv) = true)
    (h4 : C.p ≤ leNat (token.take C.no)) :
    keyUnwrap C token header priv = (.badKeytoken, []) := by
  unfold keyUnwrap
  have h1' : ¬ token.length < 32 + C.no := by omega
  simp [h1', h2, h4]

omit [AddCommGroup G] in
theorem keyt_unwrap_lift (C : Ctx G) {token : Bytes} (header : Option Bytes) {priv : Bytes}
    (h1 : 32 + C.no ≤ token.length) (h2 : privOk C (leNat priv) = true)
    (h4 : leNat (token.take C.no) < C.p) (h5 : C.liftX (leNat (token.take C.no)) = none) :
    keyUnwrap C token header priv = (.badKeytoken, []) := by
  unfold keyUnwrap
  have h1' : ¬ token.length < 32 + C.no := by omega
  have h4' : ¬ C.p ≤ leNat (token.take C.no) := by omega
  simp [h1', h2, h4', h5]

theorem keyt_unwrap_some (L : Laws C) {token : Bytes} {header : Option Bytes} {priv : Bytes}
    {R : G} {T : Nat × Nat}
    (h1 : 32 + C.no ≤ token.length) (h2 : privOk C (leNat priv) = true)
    (h4 : leNat (token.take C.no) < C.p) (h5 : C.liftX (leNat (token.take C.no)) = some R)
    (h6 : C.xy (leNat priv • R) = some T) :
    keyUnwrap C token header priv =
      if (C.kwpD (theta C T.1) ((token.drop C.no).take (token.length - C.no - 16))
            ((token.drop C.no).drop (token.length - C.no - 16))).2 = hdrOctets header
      then (.ok, (C.kwpD (theta C T.1) ((token.drop C.no).take (token.length - C.no - 16))
            ((token.drop C.no).drop (token.length - C.no - 16))).1)
      else (.badKeytoken, []) := by
  unfold keyUnwrap
  have h1' : ¬ token.length < 32 + C.no := by omega
  have h4' : ¬ leNat (token.take C.no) ≥ C.p := by omega
  simp only [L.smul_eq, h1', h2, h4', h5, h6, ↓reduceIte, Bool.not_true, Bool.false_eq_true]
  generalize C.kwpD _ _ _ = r
  cases header with
  | none =>
    by_cases hh : r.2 = zeros 16
    · simp [hdrOctets, hh]
    · simp [hdrOctets, hh]
  | some h =>
    by_cases hh : r.2 = h
    · simp [hdrOctets, hh]
    · have hh' : ¬ h = r.2 := fun e => hh e.symm
      simp [hdrOctets, hh, hh']

/-! ### the shared point -/

/-- the x-coordinate of kG decompresses to a point R' with the same x-coordinate of dR' as k(dG) -/
theorem keyt_lift_shared (L : Laws C) {d k xR yR xT yT : Nat}
    (hR : C.xy (k • C.base) = some (xR, yR)) (hT : C.xy (k • (d • C.base)) = some (xT, yT)) :
    ∃ R' y', C.liftX xR = some R' ∧ C.xy (d • R') = some (xT, y') := by
  have hc : d • (k • C.base) = k • (d • C.base) := by
    rw [← mul_nsmul', ← mul_nsmul', Nat.mul_comm d k]
  rcases L.liftX_of _ _ _ hR with h | h
  · exact ⟨_, yT, h, by rw [hc]; exact hT⟩
  · obtain ⟨y', hy'⟩ := L.xy_neg _ _ _ hT
    exact ⟨_, y', h, by rw [neg_nsmul, hc]; exact hy'⟩

theorem keyt_kwp_roundtrip (L : Laws C) (θ key hdr : Bytes) (hθ : θ.length = min 32 C.no)
    (hk : 16 ≤ key.length) (hh : hdr.length = 16) :
    C.kwpD θ ((C.kwpE θ (key ++ hdr)).take key.length) ((C.kwpE θ (key ++ hdr)).drop key.length)
      = (key, hdr) := by
  have hl : (key ++ hdr).length - 16 = key.length := by rw [List.length_append]; omega
  have h := L.kwp_inv θ (key ++ hdr) hθ (by rw [List.length_append]; omega)
  rw [hl] at h
  rw [h, List.take_left' rfl, List.drop_left' rfl]

/-- unwrapping the token built from kG and the x-coordinate of k(dG) -/
theorem keyt_unwrap_wrap (L : Laws C) {d k : Nat} (hd0 : 0 < d) (hdq : d < C.q)
    {xR yR xT yT : Nat}
    (hR : C.xy (k • C.base) = some (xR, yR)) (hT : C.xy (k • (d • C.base)) = some (xT, yT))
    (key hdr : Bytes) (hk : 16 ≤ key.length) (hh : hdr.length = 16)
    (header' : Option Bytes) (he : hdrOctets header' = hdr) :
    keyUnwrap C (natLE C.no xR ++ C.kwpE (theta C xT) (key ++ hdr)) header' (natLE C.no d)
      = (.ok, key) := by
  obtain ⟨R', y', hl, hxy⟩ := keyt_lift_shared L hR hT
  have htl : (natLE C.no xR ++ C.kwpE (theta C xT) (key ++ hdr)).length = C.no + (key.length + 16) := by
    have h32 : 32 ≤ (key ++ hdr).length := by rw [List.length_append]; omega
    simp only [List.length_append, natLE_length, L.kwp_len _ _ h32, hh]
  have hq := L.q_hi
  have hp := L.p_hi
  have hxR := (L.xy_lt _ _ _ hR).1
  have hpriv : leNat (natLE C.no d) = d := leNat_natLE_of_lt (by rw [L.pow256]; omega)
  have hx : leNat (natLE C.no xR) = xR := leNat_natLE_of_lt (by rw [L.pow256]; omega)
  have htake := take_natLE_append C.no xR (C.kwpE (theta C xT) (key ++ hdr))
  have h := keyt_unwrap_some L (token := natLE C.no xR ++ C.kwpE (theta C xT) (key ++ hdr))
    (header := header') (priv := natLE C.no d) (R := R') (T := (xT, y'))
    (by rw [htl]; omega) (by rw [hpriv]; exact (privOk_iff C d).2 ⟨hd0, hdq⟩)
    (by rw [htake, hx]; exact hxR) (by rw [htake, hx]; exact hl) (by rw [hpriv]; exact hxy)
  have hn : C.no + (key.length + 16) - C.no - 16 = key.length := by omega
  rw [h, drop_natLE_append, htl, hn]
  have hrt := keyt_kwp_roundtrip L (theta C xT) key hdr (theta_length C xT) hk hh
  simp only [hrt, he, ↓reduceIte]

end Bee2V.C02
