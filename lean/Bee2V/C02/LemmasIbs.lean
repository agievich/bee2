/-
C02 — identity-based signatures (bign_ibs.c, STB 34.101.45 appendix B.2): bignIdVerify is the core of bignVerify
(`Par.vcore`) under the derived public key `Y = R − (t + 2^l) Q`, `t = <belt-hash(oid ‖ <R>_{2l} ‖ H0)>_l`; the code's
third summand `(−(t + 2^l)(s0 + 2^l) mod q) Q` is `−(s0 + 2^l)(t + 2^l) Q` because every point has order dividing q.
For an extracted pair `R = e G + (t + 2^l) Q` the derived key is `e G`, so extract → sign → verify is `Par.vcore_sig`.
-/
import Mathlib.Tactic.Ring
import Bee2V.C02.LemmasSign2
namespace Bee2V.C02

/-! ### arithmetic modulo q -/

/-- `n + (-n mod q) ≡ 0` -/
theorem ibs_cong2 {q : Nat} (hq : 0 < q) (n : Nat) : (n + (q - n % q) % q) % q = 0 := by
  have h1 := Nat.mod_add_div n q
  have h2 := Nat.mod_lt n hq
  have h3 : n + (q - n % q) = q + q * (n / q) := by omega
  rw [Nat.add_mod_mod, h3, Nat.add_mul_mod_self_left, Nat.mod_self]

theorem ibs_poly (t S a : Nat) : t * S + a * t + a * S + a * a = (t + a) * (S + a) := by
  ring

/-- the value `t1` of bignIdVerify -/
theorem ibs_t1 {q : Nat} (hq : 0 < q) (t S l : Nat) :
    negMod ((t * S + 2 ^ l * t + 2 ^ l * S + 2 ^ (2 * l)) % q) q
      = (q - ((t + 2 ^ l) * (S + 2 ^ l)) % q) % q := by
  have h : t * S + 2 ^ l * t + 2 ^ l * S + 2 ^ (2 * l) = (t + 2 ^ l) * (S + 2 ^ l) := by
    rw [Nat.two_mul, Nat.pow_add]
    exact ibs_poly t S (2 ^ l)
  rw [h, negMod_eq (Nat.mod_lt _ hq)]

variable {G : Type} [AddCommGroup G] {C : Ctx G}

theorem Laws.neg_nsmul (L : Laws C) (n : Nat) (Q : G) : ((C.q - n % C.q) % C.q) • Q = -(n • Q) := by
  obtain ⟨j, rfl⟩ := L.gen Q
  rw [eq_neg_iff_add_eq_zero, ← add_nsmul, ← mul_nsmul', Nat.add_comm]
  exact (L.order _).2 (Dvd.dvd.mul_right (Nat.dvd_of_mod_eq_zero (ibs_cong2 L.q_pos n)) j)

/-- the point recomputed by bignIdVerify (three summands) is the point of the verifier's core under the
derived public key `R − T Q` -/
theorem ibs_derived (L : Laws C) (m u T : Nat) (R Q : G) :
    m • C.base + u • R + ((C.q - (T * u) % C.q) % C.q) • Q = m • C.base + u • (R - T • Q) := by
  rw [L.neg_nsmul, mul_nsmul, smul_sub, ← add_sub_assoc, sub_eq_add_neg]

theorem ibs_idSignWith_sig (L : Laws C) (oid idH Hb : Bytes) (e k : Nat) :
    idSignWith C oid idH Hb e k =
      match C.xy (k • C.base) with
      | none => (.badParams, [])
      | some V => (.ok, C.par.sig oid (idH ++ Hb) e k (leNat Hb) V) := by
  unfold idSignWith Par.sig Par.s1 signS1
  simp only [L.smul_eq, Nat.add_mul, List.append_assoc]
  rfl

theorem ibs_idSignWith_ok (L : Laws C) (oid idH Hb : Bytes) (e : Nat) {k : Nat} (hk0 : 0 < k) (hk : k < C.q) :
    ∃ isig, idSignWith C oid idH Hb e k = (.ok, isig) := by
  obtain ⟨x, y, hV⟩ := L.xy_some (L.base_mul_ne hk0 hk)
  exact ⟨_, by rw [ibs_idSignWith_sig L, hV]⟩

theorem ibs_idVerify_vcore (L : Laws C) {oid : Bytes} (idH : Bytes) {Hb : Bytes} (idSig : Bytes)
    {idPub pub : Bytes} {R Q : G} (hoid : C.oidOk oid = true)
    (hR : loadPub C idPub = some R) (hQ : loadPub C pub = some Q) :
    idVerify C oid idH Hb idSig idPub pub =
      if (C.par.vcore oid (idH ++ Hb) (leNat Hb) idSig
          (R - (leNat (hashL C (oid ++ idPub.take C.no ++ idH)) + 2 ^ C.l) • Q)).isSome then .ok else .badSig := by
  unfold idVerify Par.vcore
  simp only [hoid, hR, hQ, Bool.not_true, Bool.false_eq_true, if_false, L.smul_eq, L.add_eq,
    ibs_t1 L.q_pos, ibs_derived L, List.append_assoc]
  by_cases hs : leNat (idSig.drop (C.no / 2)) ≥ C.q
  · simp only [if_pos hs]; rfl
  · simp only [if_neg hs]
    generalize C.xy _ = o
    cases o with
    | none => rfl
    | some V => dsimp only; split <;> rfl

end Bee2V.C02
