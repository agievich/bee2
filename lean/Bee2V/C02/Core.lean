/-
C02 — what the signers and verifiers of the bign family share, with every size a variable: the signer's tail
`s1 = (k − u d − H) mod q` as computed on words (`Par.s1`, `Par.sig`) and the verifier once the public key Y is loaded
(`Par.vcore`), where `u = s0 + off`.  The proofs use of the sizes only `Par.Ok`: nothing depends on how long s0 is or which
number is added to it.  bign is `(W, no, n0, off) = (2^(2l), l/4, l/8, 2^l)`, bign96 `(2^192, 24, 10, 2^103)`; bignIdVerify
is the core of bign under the derived public key `R − (t + 2^l) Q`.
-/
import Bee2V.C02.Lemmas
namespace Bee2V.C02

structure Par (G : Type) where
  W : Nat
  q : Nat
  no : Nat
  n0 : Nat
  off : Nat
  base : G
  xy : G → Option (Nat × Nat)
  hp : Bytes → Bytes

variable {G : Type} [AddCommGroup G]

structure Par.Ok (P : Par G) : Prop where
  order : ∀ n : Nat, n • P.base = 0 ↔ P.q ∣ n
  q_lt_W : P.q < P.W
  W_lt_2q : P.W < 2 * P.q
  W_eq : 256 ^ P.no = P.W
  hp_len : ∀ m, (P.hp m).length = P.n0

namespace Par
variable (P : Par G)

/-- `s1 <- (k - u d - H) mod q` as computed: zzMod, zzSubMod, the hash reduced once, zzSubMod -/
def s1 (u d k h : Nat) : Nat :=
  subMod P.W (subMod P.W k ((u * d) % P.q) P.q) (redOnce h P.q) P.q

def sig (pre post : Bytes) (d k h : Nat) (R : Nat × Nat) : Bytes :=
  P.hp (pre ++ natLE P.no R.1 ++ post) ++
    natLE P.no (P.s1 (leNat (P.hp (pre ++ natLE P.no R.1 ++ post)) + P.off) d k h)

/-- `none` = ERR_BAD_SIG -/
def vcore (pre post : Bytes) (h : Nat) (sg : Bytes) (Y : G) : Option (Nat × (Nat × Nat)) :=
  if leNat (sg.drop P.n0) ≥ P.q then none else
  match P.xy (addMod P.W (leNat (sg.drop P.n0)) (redOnce h P.q) P.q • P.base
      + (leNat (sg.take P.n0) + P.off) • Y) with
  | none => none
  | some R => if P.hp (pre ++ natLE P.no R.1 ++ post) = sg.take P.n0
      then some (addMod P.W (leNat (sg.drop P.n0)) (redOnce h P.q) P.q, R) else none

variable {P}

theorem Ok.q_pos (ok : P.Ok) : 0 < P.q := by have := ok.W_lt_2q; have := ok.q_lt_W; omega

theorem sig_length (ok : P.Ok) (pre post : Bytes) (d k h : Nat) (R : Nat × Nat) :
    (P.sig pre post d k h R).length = P.n0 + P.no := by
  unfold sig
  rw [List.length_append, ok.hp_len, natLE_length]

theorem s1_spec (ok : P.Ok) (u d : Nat) {k h : Nat} (hk : k < P.q) (hh : h < P.W) :
    P.s1 u d k h < P.q ∧
      (addMod P.W (P.s1 u d k h) (redOnce h P.q) P.q + u * d) % P.q = k % P.q := by
  have hq := ok.q_pos
  have ht : (u * d) % P.q < P.q := Nat.mod_lt _ hq
  have hr : h % P.q < P.q := Nat.mod_lt _ hq
  have e : P.s1 u d k h = ((k + (P.q - (u * d) % P.q)) % P.q + (P.q - h % P.q)) % P.q := by
    unfold s1
    rw [subMod_eq hk ht ok.q_lt_W, redOnce_eq hh ok.W_lt_2q, subMod_eq (Nat.mod_lt _ hq) hr ok.q_lt_W]
  have hlt : P.s1 u d k h < P.q := e ▸ Nat.mod_lt _ hq
  refine ⟨hlt, ?_⟩
  rw [redOnce_eq hh ok.W_lt_2q, addMod_eq hlt hr ok.q_lt_W, e, Nat.add_mod_mod, sub_add_mod hq, Nat.mod_mod,
    sub_add_mod hq]

theorem vcore_eq_some (ok : P.Ok) (pre post : Bytes) {h : Nat} (hh : h < P.W) (sg : Bytes) (Y : G)
    (r : Nat × (Nat × Nat)) :
    P.vcore pre post h sg Y = some r ↔
      leNat (sg.drop P.n0) < P.q ∧ r.1 = (leNat (sg.drop P.n0) + h) % P.q ∧
      P.xy (((leNat (sg.drop P.n0) + h) % P.q) • P.base + (leNat (sg.take P.n0) + P.off) • Y) = some r.2 ∧
      P.hp (pre ++ natLE P.no r.2.1 ++ post) = sg.take P.n0 := by
  unfold vcore
  by_cases hs : leNat (sg.drop P.n0) ≥ P.q
  · rw [if_pos hs]
    exact iff_of_false nofun fun h => absurd h.1 (by omega)
  · have hs' : leNat (sg.drop P.n0) < P.q := by omega
    rw [if_neg hs, redOnce_eq hh ok.W_lt_2q, addMod_eq hs' (Nat.mod_lt _ ok.q_pos) ok.q_lt_W, Nat.add_mod_mod]
    cases hx : P.xy (((leNat (sg.drop P.n0) + h) % P.q) • P.base + (leNat (sg.take P.n0) + P.off) • Y) with
    | none => exact iff_of_false nofun fun h => nomatch h.2.2.1
    | some R =>
      dsimp only
      split
      · rename_i hc
        rw [Option.some.injEq]
        constructor
        · rintro rfl; exact ⟨hs', rfl, rfl, hc⟩
        · rintro ⟨_, h1, h2, _⟩; exact Prod.ext h1.symm (Option.some.inj h2)
      · rename_i hc
        refine iff_of_false nofun fun h => hc ?_
        rw [Option.some.inj h.2.2.1]; exact h.2.2.2

theorem vcore_isSome (ok : P.Ok) (pre post : Bytes) {h : Nat} (hh : h < P.W) (sg : Bytes) (Y : G) :
    (P.vcore pre post h sg Y).isSome = true ↔
      leNat (sg.drop P.n0) < P.q ∧
      ∃ x y, P.xy (((leNat (sg.drop P.n0) + h) % P.q) • P.base + (leNat (sg.take P.n0) + P.off) • Y) = some (x, y) ∧
        P.hp (pre ++ natLE P.no x ++ post) = sg.take P.n0 := by
  rw [Option.isSome_iff_exists]
  constructor
  · rintro ⟨r, hr⟩
    obtain ⟨h1, _, h3, h4⟩ := (vcore_eq_some ok pre post hh sg Y r).1 hr
    exact ⟨h1, _, _, h3, h4⟩
  · rintro ⟨h1, x, y, h3, h4⟩
    exact ⟨(_, (x, y)), (vcore_eq_some ok pre post hh sg Y _).2 ⟨h1, rfl, h3, h4⟩⟩

theorem vcore_sig (ok : P.Ok) (pre post : Bytes) (d : Nat) {k h : Nat} (hk : k < P.q) (hh : h < P.W)
    {R : Nat × Nat} (hR : P.xy (k • P.base) = some R) :
    ∃ m, P.vcore pre post h (P.sig pre post d k h R) (d • P.base) = some (m, R) := by
  unfold sig
  generalize hs0 : P.hp (pre ++ natLE P.no R.1 ++ post) = s0
  have hl0 : s0.length = P.n0 := by rw [← hs0]; exact ok.hp_len _
  obtain ⟨hlt, hc⟩ := s1_spec ok (leNat s0 + P.off) d hk hh
  refine ⟨_, (vcore_eq_some ok pre post hh _ _ _).2 ⟨?_, rfl, ?_, ?_⟩⟩
  · rw [← hl0, List.drop_left' rfl, leNat_natLE_of_lt (by rw [ok.W_eq]; exact Nat.lt_trans hlt ok.q_lt_W)]
    exact hlt
  · rw [← hl0, List.drop_left' rfl, List.take_left' rfl,
      leNat_natLE_of_lt (by rw [ok.W_eq]; exact Nat.lt_trans hlt ok.q_lt_W), ← mul_nsmul', ← add_nsmul]
    rw [redOnce_eq hh ok.W_lt_2q, addMod_eq hlt (Nat.mod_lt _ ok.q_pos) ok.q_lt_W, Nat.add_mod_mod] at hc
    rw [nsmul_congr ok.order hc, hR]
  · rw [← hl0, List.take_left' rfl]; exact hs0

end Par
end Bee2V.C02
