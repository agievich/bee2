/-
C02 — the two facts every signing entry point shares: `signWith` produces the standard's value,
and that value passes `verify` under the matching public key.
-/
import Bee2V.C02.LemmasSign
namespace Bee2V.C02
variable {G : Type} [AddCommGroup G] {C : Ctx G}

theorem sg_specSig_shape (L : Laws C) {oid Hb : Bytes} {d k : Nat} (hk0 : 0 < k) (hkq : k < C.q) :
    ∃ xR yR, C.xy (k • C.base) = some (xR, yR) ∧
      specSig C oid Hb d k = hashL C (oid ++ natLE C.no xR ++ Hb) ++
        natLE C.no (subQ C.q (subQ C.q k (leNat Hb)) ((leNat (hashL C (oid ++ natLE C.no xR ++ Hb)) + 2 ^ C.l) * d)) := by
  obtain ⟨x, y, hxy⟩ := L.xy_some (L.base_mul_ne hk0 hkq)
  refine ⟨x, y, hxy, ?_⟩
  unfold specSig
  rw [L.smul_eq, hxy]

theorem sg_signWith (L : Laws C) {oid Hb : Bytes} (hH : Hb.length = C.no) {d k : Nat} (hk0 : 0 < k) (hkq : k < C.q) :
    signWith C oid Hb d k = (.ok, specSig C oid Hb d k) := by
  obtain ⟨x, y, hxy, hs⟩ := sg_specSig_shape (oid := oid) (Hb := Hb) (d := d) L hk0 hkq
  unfold signWith
  rw [L.smul_eq, hxy, hs]
  simp only
  rw [sg_signS1_eq L hkq hH]

theorem sg_specSig_length (L : Laws C) {oid Hb : Bytes} {d k : Nat} (hk0 : 0 < k) (hkq : k < C.q) :
    (specSig C oid Hb d k).length = C.no + C.no / 2 := by
  obtain ⟨x, y, _, hs⟩ := sg_specSig_shape (oid := oid) (Hb := Hb) (d := d) L hk0 hkq
  rw [hs, List.length_append, L.hashL_len, natLE_length]
  omega

theorem sg_verify_signWith (L : Laws C) {oid Hb pub : Bytes} (ho : C.oidOk oid = true) (hH : Hb.length = C.no)
    {d k : Nat} (hk0 : 0 < k) (hkq : k < C.q) (hp : loadPub C pub = some (d • C.base)) :
    verify C oid Hb (signWith C oid Hb d k).2 pub = .ok := by
  obtain ⟨x, y, hxy⟩ := L.xy_some (L.base_mul_ne hk0 hkq)
  obtain ⟨m, hm⟩ := Par.vcore_sig L.par oid Hb d (P := C.par) hkq (L.leNat_lt_W hH) hxy
  have hm : C.par.vcore oid Hb (leNat Hb) (C.par.sig oid Hb d k (leNat Hb) (x, y)) (d • C.base) = some (m, x, y) := hm
  unfold verify
  rw [ho, hp, sg_signWith_sig L, hxy]
  simp only [Bool.not_true, Bool.false_eq_true, if_false, sg_verifyCore_vcore L, hm]

theorem sg_verify_specSig (L : Laws C) {oid Hb : Bytes} (ho : C.oidOk oid = true) (hH : Hb.length = C.no)
    {d k : Nat} (hd0 : 0 < d) (hdq : d < C.q) (hk0 : 0 < k) (hkq : k < C.q) :
    verify C oid Hb (specSig C oid Hb d k) (pubOf C d) = .ok := by
  obtain ⟨_, _, _, _, hl⟩ := sg_pubOf L hd0 hdq
  have h := sg_verify_signWith (oid := oid) L ho hH hk0 hkq hl
  rwa [sg_signWith L hH hk0 hkq] at h

end Bee2V.C02
