/-
C02 — property theorems, part 1: key pairs, signatures, verification, Diffie–Hellman.
(part 2: PropsKeyt.lean — key transport; part 3: PropsIbs.lean — identity-based signatures.)

All theorems are about the code-shaped model of Model.lean under the hypotheses `Laws C`
(Laws.lean).  `randNZMod C tape` is the model of zzRandNZMod over the caller's generator `tape`.
-/
import Bee2V.C02.LemmasSign2
namespace Bee2V.C02
variable {G : Type} [AddCommGroup G] {C : Ctx G}

/-- bignKeypairGen: for EVERY tape the result is ERR_BAD_RNG (65 rejected draws) or a pair (d, dG) with
0 < d < q that passes bignKeypairVal; ERR_BAD_PARAMS is impossible -/
theorem keygen_valid (L : Laws C) (tape : Bytes) :
    (∀ rest, randNZMod C tape = (none, rest) → keypairGen C tape = (.badRng, [], rest)) ∧
    (∀ d rest, randNZMod C tape = (some d, rest) →
      0 < d ∧ d < C.q ∧ keypairGen C tape = (.ok, natLE C.no d ++ pubOf C d, rest) ∧
      keypairVal C (natLE C.no d) (pubOf C d) = .ok) := by
  constructor
  · intro rest h
    unfold keypairGen; rw [h]
  · intro d rest h
    obtain ⟨h0, hq⟩ := randNZMod_range h
    obtain ⟨x, y, hxy, hp, _⟩ := sg_pubOf L h0 hq
    refine ⟨h0, hq, ?_, ?_⟩
    · unfold keypairGen; rw [h]; simp only [L.smul_eq, hxy, hp]
    · unfold keypairVal
      simp only [sg_leNat_priv L hq, L.smul_eq, hxy, hp]
      rw [if_neg (by omega)]
      simp

/-- bignKeypairVal accepts exactly the pairs (d, <dG>) with 0 < d < q -/
theorem keypairVal_exact (L : Laws C) (priv pub : Bytes) :
    keypairVal C priv pub = .ok ↔ 0 < leNat priv ∧ leNat priv < C.q ∧ pub = pubOf C (leNat priv) := by
  unfold keypairVal
  simp only
  by_cases hd : leNat priv = 0 ∨ leNat priv ≥ C.q
  · rw [if_pos hd]
    constructor
    · intro h; cases h
    · intro h; omega
  · rw [if_neg hd]
    have h0 : 0 < leNat priv := by omega
    have hq : leNat priv < C.q := by omega
    obtain ⟨x, y, hxy, hp, _⟩ := sg_pubOf L h0 hq
    simp only [L.smul_eq, hxy, hp]
    constructor
    · intro h
      refine ⟨h0, hq, ?_⟩
      by_cases he : encXY C (x, y) = pub
      · exact he.symm
      · rw [if_neg he] at h; cases h
    · intro h; rw [if_pos h.2.2.symm]

/-- bignPubkeyVal / the public-key check of every verifier: coordinates < p and on the curve -/
theorem pubkeyVal_exact (C : Ctx G) (pub : Bytes) :
    pubkeyVal C pub = .ok ↔
      leNat (pub.take C.no) < C.p ∧ leNat (pub.drop C.no) < C.p ∧
      ∃ Q, C.ofXY (leNat (pub.take C.no)) (leNat (pub.drop C.no)) = some Q := by
  unfold pubkeyVal loadPub
  simp only
  by_cases h : leNat (pub.take C.no) ≥ C.p ∨ leNat (pub.drop C.no) ≥ C.p
  · rw [if_pos h]
    constructor
    · intro h'; cases h'
    · intro h'; omega
  · rw [if_neg h]
    cases hq : C.ofXY (leNat (pub.take C.no)) (leNat (pub.drop C.no)) with
    | none => simp
    | some Q => simp; omega

/-- bignSign is complete and equals the standard's value: for every private key in [1, q-1], every
hash value of l/4 octets (also ≥ q), every identifier and every tape, the result is ERR_BAD_RNG
(no accepted draw) or the signature `specSig` of alg. 7.1.3 for the drawn one-time key, and that
signature passes bignVerify under the matching public key -/
theorem sign_complete (L : Laws C) {oid Hb priv : Bytes} (ho : C.oidOk oid = true) (hH : Hb.length = C.no)
    (hd0 : 0 < leNat priv) (hdq : leNat priv < C.q) (tape : Bytes) :
    (∀ rest, randNZMod C tape = (none, rest) → sign C oid Hb priv tape = (.badRng, [], rest)) ∧
    (∀ k rest, randNZMod C tape = (some k, rest) →
      sign C oid Hb priv tape = (.ok, specSig C oid Hb (leNat priv) k, rest) ∧
      (specSig C oid Hb (leNat priv) k).length = C.no + C.no / 2 ∧
      verify C oid Hb (specSig C oid Hb (leNat priv) k) (pubOf C (leNat priv)) = .ok) := by
  have hp := (privOk_iff C _).2 ⟨hd0, hdq⟩
  constructor
  · intro rest h
    unfold sign; simp only [ho, hp, h]; rfl
  · intro k rest h
    obtain ⟨hk0, hkq⟩ := randNZMod_range h
    refine ⟨?_, sg_specSig_length L hk0 hkq, sg_verify_specSig L ho hH hd0 hdq hk0 hkq⟩
    unfold sign; simp only [ho, hp, h, sg_signWith L hH hk0 hkq]; rfl

/-- bignSign2 (deterministic nonce, alg. 6.3.3): whenever the nonce loop finishes, the result is the
standard's signature for the nonce it found (the first iterate of belt-WBL under
theta = belt-hash(oid ‖ d ‖ t) that lies in [1, q-1]), and it verifies.
PARTIAL with respect to termination: the C loop is `while (1)`; the model runs it with `fuel` -/
theorem sign2_complete_partial (L : Laws C) {oid Hb priv : Bytes} (ho : C.oidOk oid = true) (hH : Hb.length = C.no)
    (hd0 : 0 < leNat priv) (hdq : leNat priv < C.q) (fuel : Nat) (t : Option Bytes) (r : Err × Bytes)
    (h : sign2 C fuel oid Hb priv t = some r) :
    ∃ k, nonceLoop C (C.hash (oid ++ priv ++ (match t with | some t => t | none => []))) fuel Hb = some k ∧
      0 < k ∧ k < C.q ∧ r = (.ok, specSig C oid Hb (leNat priv) k) ∧
      verify C oid Hb r.2 (pubOf C (leNat priv)) = .ok := by
  have hp := (privOk_iff C _).2 ⟨hd0, hdq⟩
  unfold sign2 at h
  simp only [ho, hp, Bool.not_true, Bool.false_eq_true, if_false] at h
  split at h
  · cases h
  · rename_i k hn
    obtain ⟨hk0, hkq⟩ := nonceLoop_range C _ _ _ _ hn
    simp only [Option.some.injEq] at h
    rw [sg_signWith L hH hk0 hkq] at h
    refine ⟨k, hn, hk0, hkq, h.symm, ?_⟩
    rw [← h]
    exact sg_verify_specSig L ho hH hd0 hdq hk0 hkq

/-- the acceptance set of bignVerify is EXACTLY the standard's: valid identifier, public key with
coordinates < p on the curve, `s1 < q`, `R = ((s1 + H) mod q) G + (s0 + 2^l) Q ≠ O` and
`<belt-hash(oid ‖ <R>_2l ‖ H)>_l = s0` -/
theorem verify_exact (L : Laws C) {oid Hb sig pub : Bytes} (hH : Hb.length = C.no) :
    verify C oid Hb sig pub = .ok ↔
      C.oidOk oid = true ∧ ∃ Q, loadPub C pub = some Q ∧ specAccept C oid Hb sig Q := by
  unfold verify
  cases ho : C.oidOk oid with
  | false => simp
  | true =>
    cases hl : loadPub C pub with
    | none => simp
    | some Q =>
      simp only [Bool.not_true, Bool.false_eq_true, if_false, true_and, Option.some.injEq, exists_eq_left']
      rcases sg_verifyCore_cases L oid sig Q hH with ⟨x, y, hs, hx, hh, hv⟩ | ⟨hv, hn⟩
      · rw [hv]
        exact ⟨fun _ => ⟨hs, x, y, hx, hh⟩, fun _ => rfl⟩
      · rw [hv]
        exact ⟨nofun, fun h => absurd h hn⟩

/-- the error codes of bignVerify and their order: identifier, then public key, then signature -/
theorem verify_codes (L : Laws C) {oid Hb sig pub : Bytes} (hH : Hb.length = C.no) :
    (C.oidOk oid = false → verify C oid Hb sig pub = .badOid) ∧
    (C.oidOk oid = true → loadPub C pub = none → verify C oid Hb sig pub = .badPubkey) ∧
    (C.oidOk oid = true → ∀ Q, loadPub C pub = some Q → ¬ specAccept C oid Hb sig Q →
      verify C oid Hb sig pub = .badSig) := by
  refine ⟨?_, ?_, ?_⟩
  · intro h; unfold verify; simp [h]
  · intro h hl; unfold verify; simp [h, hl]
  · intro h Q hl hn
    unfold verify
    simp only [h, hl, Bool.not_true, Bool.false_eq_true, if_false]
    rcases sg_verifyCore_cases L oid sig Q hH with ⟨x, y, hs, hx, hh, _⟩ | ⟨hv, _⟩
    · exact absurd ⟨hs, x, y, hx, hh⟩ hn
    · rw [hv]

/-- a signature whose second part is not reduced (s1 ≥ q: s1 = q, s1 + q, 2^2l - 1, …) is rejected -/
theorem verify_rejects_unreduced (L : Laws C) {oid Hb sig pub : Bytes} (hH : Hb.length = C.no)
    (h : C.q ≤ leNat (sig.drop (C.no / 2))) : verify C oid Hb sig pub ≠ .ok := by
  intro he
  obtain ⟨_, Q, _, ha, _⟩ := (verify_exact L hH).1 he
  omega

/-- bignDH is symmetric: both parties obtain the same octets, and never an error, for all private
keys in [1, q-1] and every admitted key length -/
theorem dh_symm (L : Laws C) {da db : Nat} (ha0 : 0 < da) (haq : da < C.q) (hb0 : 0 < db) (hbq : db < C.q)
    (n : Nat) (hn : n ≤ 2 * C.no) :
    dh C (natLE C.no da) (pubOf C db) n = dh C (natLE C.no db) (pubOf C da) n ∧
    (dh C (natLE C.no da) (pubOf C db) n).1 = .ok := by
  obtain ⟨_, _, _, _, hla⟩ := sg_pubOf L ha0 haq
  obtain ⟨_, _, _, _, hlb⟩ := sg_pubOf L hb0 hbq
  have hpa : privOk C da = true := by simp [privOk]; omega
  have hpb : privOk C db = true := by simp [privOk]; omega
  obtain ⟨x, y, hxy⟩ := L.xy_some (L.mul_mul_ne ha0 haq hb0 hbq)
  have hxy' : C.xy (db • da • C.base) = some (x, y) := by rw [smul_comm]; exact hxy
  unfold dh
  simp only [if_neg (Nat.not_lt.2 hn), sg_leNat_priv L haq, sg_leNat_priv L hbq, hpa, hpb, hla, hlb,
    L.smul_eq, hxy, hxy', Bool.not_true, Bool.false_eq_true, if_false, and_self]

end Bee2V.C02
