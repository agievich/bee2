/-
C02 — basic lemmas shared by the property files: octets <-> numbers, sizes, the modular steps
inside their preconditions, scalar multiples of a point of prime order, the ranges of the generator and of the
nonce loop.  The octet and zz lemmas also serve the C16 models, whose `Common.lean` repeats these definitions.
-/
import Bee2V.C02.Laws
import Bee2V.Base.Bytes
namespace Bee2V.C02

/-! ### octets -/

theorem leNat_eq : leNat = Proto.leNat := Proto.leNat_unique _ rfl fun _ _ => rfl
theorem natLE_eq : natLE = Proto.natLE := Proto.natLE_unique _ (fun _ => rfl) fun _ _ => rfl

theorem natLE_length (n v : Nat) : (natLE n v).length = n := natLE_eq ▸ Proto.natLE_length n v

theorem leNat_natLE (n v : Nat) : leNat (natLE n v) = v % 256 ^ n := leNat_eq ▸ natLE_eq ▸ Proto.leNat_natLE n v

theorem leNat_lt (b : Bytes) : leNat b < 256 ^ b.length := leNat_eq ▸ Proto.leNat_lt b

theorem natLE_leNat (b : Bytes) : natLE b.length (leNat b) = b := leNat_eq ▸ natLE_eq ▸ Proto.natLE_leNat b

theorem leNat_natLE_of_lt {n v : Nat} (h : v < 256 ^ n) : leNat (natLE n v) = v :=
  leNat_eq ▸ natLE_eq ▸ Proto.leNat_natLE_of_lt h

theorem take_natLE_append (n v : Nat) (r : Bytes) : (natLE n v ++ r).take n = natLE n v :=
  natLE_eq ▸ Proto.take_natLE_append n v r

theorem drop_natLE_append (n v : Nat) (r : Bytes) : (natLE n v ++ r).drop n = r :=
  natLE_eq ▸ Proto.drop_natLE_append n v r

/-! ### sizes -/

variable {G : Type} [AddCommGroup G] {C : Ctx G}

theorem Laws.no8 (L : Laws C) : 8 * C.no = 2 * C.l := by
  have := L.l_mod
  unfold Ctx.no
  omega

theorem Laws.W_eq (L : Laws C) : C.W = 2 ^ (2 * C.l) := by
  unfold Ctx.W
  rw [L.no8]

theorem pow256 (n : Nat) : 256 ^ n = 2 ^ (8 * n) := by
  have : (256 : Nat) = 2 ^ 8 := by decide
  rw [this, ← Nat.pow_mul]

theorem Laws.pow256 (L : Laws C) : 256 ^ C.no = 2 ^ (2 * C.l) := by
  rw [Bee2V.C02.pow256, L.no8]

theorem Laws.pow256h (L : Laws C) : 256 ^ (C.no / 2) = 2 ^ C.l := by
  have h : 8 * (C.no / 2) = C.l := by
    have := L.l_mod
    unfold Ctx.no
    omega
  rw [Bee2V.C02.pow256, h]

theorem Laws.q_lt_W (L : Laws C) : C.q < C.W := by
  rw [L.W_eq]; exact L.q_hi

theorem Laws.W_lt_2q (L : Laws C) : C.W < 2 * C.q := by
  rw [L.W_eq]
  have h := L.q_lo
  have hl := L.l_pos
  have : 2 ^ (2 * C.l) = 2 * 2 ^ (2 * C.l - 1) := by
    rw [← Nat.pow_succ']
    congr 1
    omega
  omega

theorem Laws.q_pos (L : Laws C) : 0 < C.q := L.q_prime.pos

/-! ### the modular steps inside their preconditions -/

theorem subMod_eq {W a b q : Nat} (ha : a < q) (hb : b < q) (hq : q < W) :
    subMod W a b q = (a + (q - b)) % q := by
  unfold subMod
  split
  · have h1 : a + W - b + q = (a + (q - b)) + W := by omega
    rw [h1, Nat.add_mod_right, Nat.mod_eq_of_lt (by omega), Nat.mod_eq_of_lt (by omega)]
  · have h1 : a + (q - b) = (a - b) + q := by omega
    rw [h1, Nat.add_mod_right, Nat.mod_eq_of_lt (by omega)]

/-- `zzAddMod` for reduced operands -/
theorem addMod_eq {W a b q : Nat} (ha : a < q) (hb : b < q) (hq : q < W) :
    addMod W a b q = (a + b) % q := by
  unfold addMod
  simp only
  by_cases h : a + b ≥ W
  · have hc : (a + b) % W = a + b - W := by
      rw [Nat.mod_eq_sub_mod h, Nat.mod_eq_of_lt (by omega)]
    rw [if_pos (Or.inl h), hc]
    have h2 : a + b - W + W - q = a + b - q := by omega
    rw [h2, Nat.mod_eq_of_lt (by omega)]
    have : a + b = (a + b - q) + q := by omega
    conv_rhs => rw [this, Nat.add_mod_right]
    exact (Nat.mod_eq_of_lt (by omega)).symm
  · have hc : (a + b) % W = a + b := Nat.mod_eq_of_lt (by omega)
    rw [hc]
    by_cases h' : a + b ≥ q
    · rw [if_pos (Or.inr h')]
      have h2 : a + b + W - q = (a + b - q) + W := by omega
      rw [h2, Nat.add_mod_right, Nat.mod_eq_of_lt (by omega)]
      have : a + b = (a + b - q) + q := by omega
      conv_rhs => rw [this, Nat.add_mod_right]
      exact (Nat.mod_eq_of_lt (by omega)).symm
    · have hn : ¬ (a + b ≥ W ∨ a + b ≥ q) := by omega
      rw [if_neg hn]
      exact (Nat.mod_eq_of_lt (by omega)).symm

/-- subtracting modulo q and adding back -/
theorem sub_add_mod {q : Nat} (hq : 0 < q) (x a : Nat) :
    ((x + (q - a % q)) % q + a) % q = x % q := by
  have h1 := Nat.mod_add_div a q
  have h2 := Nat.mod_lt a hq
  have h3 : x + (q - a % q) + a = x + q + q * (a / q) := by omega
  rw [Nat.mod_add_mod, h3, Nat.add_mul_mod_self_left, Nat.add_mod_right]

theorem redOnce_eq {h q W : Nat} (hh : h < W) (hW : W < 2 * q) : redOnce h q = h % q := by
  unfold redOnce
  split
  · rw [Nat.mod_eq_sub_mod (by omega), Nat.mod_eq_of_lt (by omega)]
  · exact (Nat.mod_eq_of_lt (by omega)).symm

theorem negMod_eq {a q : Nat} (ha : a < q) : negMod a q = (q - a) % q := by
  unfold negMod
  split
  · have : a = 0 := by omega
    subst this; simp
  · exact (Nat.mod_eq_of_lt (by omega)).symm

/-! ### multiples of the base point -/

section order
variable {base : G} {q : Nat} (order : ∀ n : Nat, n • base = 0 ↔ q ∣ n)
include order

/-- multiples of a point of order q only depend on the scalar modulo q -/
theorem nsmul_mod (n : Nat) : (n % q) • base = n • base := by
  conv_rhs => rw [← Nat.mod_add_div n q]
  have : q • base = 0 := (order q).2 (dvd_refl _)
  rw [add_nsmul, mul_nsmul, this, nsmul_zero, add_zero]

theorem nsmul_congr {a b : Nat} (h : a % q = b % q) : a • base = b • base := by
  rw [← nsmul_mod order a, ← nsmul_mod order b, h]

theorem base_mul_ne {d : Nat} (h0 : 0 < d) (hq : d < q) : d • base ≠ 0 := by
  intro h
  have := Nat.le_of_dvd h0 ((order d).1 h)
  omega

end order

theorem Laws.nsmul_mod (L : Laws C) (n : Nat) : (n % C.q) • C.base = n • C.base := Bee2V.C02.nsmul_mod L.order n

theorem Laws.nsmul_congr (L : Laws C) {a b : Nat} (h : a % C.q = b % C.q) : a • C.base = b • C.base :=
  Bee2V.C02.nsmul_congr L.order h

theorem Laws.base_mul_ne (L : Laws C) {d : Nat} (h0 : 0 < d) (hq : d < C.q) : d • C.base ≠ 0 :=
  Bee2V.C02.base_mul_ne L.order h0 hq

theorem Laws.mul_mul_ne (L : Laws C) {d k : Nat} (h0 : 0 < d) (hq : d < C.q) (k0 : 0 < k) (kq : k < C.q) :
    d • (k • C.base) ≠ 0 := by
  intro h
  rw [← mul_nsmul'] at h
  have hd := (L.order _).1 h
  rcases (Nat.Prime.dvd_mul L.q_prime).1 hd with h1 | h1
  · have := Nat.le_of_dvd h0 h1; omega
  · have := Nat.le_of_dvd k0 h1; omega

/-- a non-zero element multiplied by a scalar in [1, q-1] stays non-zero -/
theorem Laws.nsmul_ne (L : Laws C) {P : G} (hP : P ≠ 0) {d : Nat} (h0 : 0 < d) (hq : d < C.q) : d • P ≠ 0 := by
  obtain ⟨n, rfl⟩ := L.gen P
  intro h
  rw [← mul_nsmul'] at h
  have hd := (L.order _).1 h
  rcases (Nat.Prime.dvd_mul L.q_prime).1 hd with h1 | h1
  · have := Nat.le_of_dvd h0 h1; omega
  · exact hP ((L.order n).2 h1)

theorem Laws.xy_some (L : Laws C) {P : G} (hP : P ≠ 0) : ∃ x y, C.xy P = some (x, y) := by
  cases h : C.xy P with
  | none => exact absurd ((L.xy_none P).1 h) hP
  | some v => exact ⟨v.1, v.2, rfl⟩

theorem Laws.ne_of_xy (L : Laws C) {P : G} {v : Nat × Nat} (h : C.xy P = some v) : P ≠ 0 := by
  intro h0
  rw [(L.xy_none P).2 h0] at h
  cases h

/-- decoding an encoded affine point (coordinates < p < 256^no) -/
theorem Laws.loadPub_encXY (L : Laws C) {P : G} {x y : Nat} (h : C.xy P = some (x, y)) :
    loadPub C (encXY C (x, y)) = some P := by
  obtain ⟨hx, hy⟩ := L.xy_lt P x y h
  have hp := L.p_hi
  unfold loadPub encXY
  simp only [take_natLE_append, drop_natLE_append]
  rw [leNat_natLE_of_lt (by rw [L.pow256]; omega), leNat_natLE_of_lt (by rw [L.pow256]; omega)]
  rw [if_neg (by omega)]
  exact L.ofXY_xy P x y h

/-- `loadPub` succeeds only on the coordinates of an affine point -/
theorem Laws.loadPub_xy (L : Laws C) {m : Bytes} {P : G} (h : loadPub C m = some P) :
    C.xy P = some (leNat (m.take C.no), leNat (m.drop C.no)) := by
  unfold loadPub at h
  simp only at h
  split at h
  · cases h
  · exact L.xy_ofXY _ _ _ h

omit [AddCommGroup G] in
theorem encXY_length (C : Ctx G) (v : Nat × Nat) : (encXY C v).length = 2 * C.no := by
  simp [encXY, natLE_length]; omega

omit [AddCommGroup G] in
theorem theta_length (C : Ctx G) (x : Nat) : (theta C x).length = min 32 C.no := by
  simp [theta, natLE_length]

omit [AddCommGroup G] in
theorem hashL_length (hl : ∀ m, (C.hash m).length = 32) (h : C.no / 2 ≤ 32) (m : Bytes) :
    (hashL C m).length = C.no / 2 := by
  simp [hashL, hl]; omega

theorem Laws.no_half_le (L : Laws C) : C.no / 2 ≤ 32 := by
  have := L.l_le
  unfold Ctx.no
  omega

theorem Laws.hashL_len (L : Laws C) (m : Bytes) : (hashL C m).length = C.no / 2 :=
  hashL_length L.hash_len L.no_half_le m

theorem Laws.no_even (L : Laws C) : C.no / 2 + C.no / 2 = C.no := by
  have := L.l_mod
  unfold Ctx.no
  omega

theorem Laws.leNat_lt_W (L : Laws C) {b : Bytes} (hb : b.length = C.no) : leNat b < C.W := by
  have h := leNat_lt b
  rwa [hb, L.pow256, ← L.W_eq] at h

/-! ### the generator, the nonce loop, private keys -/

/-- every value produced by the rejection loop of zzRandNZMod lies in [1, q-1] -/
theorem randLoop_range (no q : Nat) : ∀ (i : Nat) (tape : Bytes) (v : Nat) (rest : Bytes),
    randLoop no q i tape = (some v, rest) → 0 < v ∧ v < q := by
  intro i
  induction i with
  | zero => intro tape v rest h; simp [randLoop] at h
  | succ i ih =>
    intro tape v rest h
    simp only [randLoop] at h
    split at h
    · exact ih _ _ _ h
    · rename_i hc
      simp only [Prod.mk.injEq, Option.some.injEq] at h
      omega

omit [AddCommGroup G] in
theorem randNZMod_range {tape rest : Bytes} {v : Nat} (h : randNZMod C tape = (some v, rest)) : 0 < v ∧ v < C.q :=
  randLoop_range _ _ _ _ _ _ h

omit [AddCommGroup G] in
/-- the nonce of alg. 6.3.3, when the loop finishes, lies in [1, q-1] -/
theorem nonceLoop_range (C : Ctx G) (θ : Bytes) : ∀ (fuel : Nat) (k0 : Bytes) (k : Nat),
    nonceLoop C θ fuel k0 = some k → 0 < k ∧ k < C.q := by
  intro fuel
  induction fuel with
  | zero => intro k0 k h; simp [nonceLoop] at h
  | succ n ih =>
    intro k0 k h
    simp only [nonceLoop] at h
    split at h
    · rename_i hc
      simp only [Option.some.injEq] at h
      omega
    · exact ih _ _ h

omit [AddCommGroup G] in
theorem privOk_iff (C : Ctx G) (d : Nat) : privOk C d = true ↔ 0 < d ∧ d < C.q := by
  unfold privOk
  simp only [decide_eq_true_eq]
  omega

end Bee2V.C02
