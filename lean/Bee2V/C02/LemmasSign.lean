/-
C02 — `subQ` in `ZMod q` and `signS1` as the standard's value; bign as an instance of the core (`Ctx.par`: `verifyCore`
is `Par.vcore`, `signWith` returns `Par.sig`); the two outcomes of `verifyCore` (bignVerify, bignIdExtract); public keys.
-/
import Mathlib.Data.ZMod.Basic
import Mathlib.Tactic.Ring
import Bee2V.C02.Core
namespace Bee2V.C02

/-! ### arithmetic modulo q -/

theorem sg_subQ_cast (q a b : Nat) (hq : 0 < q) : ((subQ q a b : ℕ) : ZMod q) = (a : ZMod q) - b := by
  have h1 : b % q ≤ q := (Nat.mod_lt _ hq).le
  unfold subQ
  rw [ZMod.natCast_mod]
  push_cast [Nat.cast_sub h1, ZMod.natCast_mod, ZMod.natCast_self]
  ring

theorem sg_subQ_lt (q a b : Nat) (hq : 0 < q) : subQ q a b < q := Nat.mod_lt _ hq

/-- equality of residues from equality in ZMod q -/
theorem sg_mod_eq_of_cast {q a b : Nat} (h : (a : ZMod q) = (b : ZMod q)) : a % q = b % q :=
  (ZMod.natCast_eq_natCast_iff' a b q).1 h

theorem sg_subQ_comm (q k a b : Nat) (hq : 0 < q) : subQ q (subQ q k a) b = subQ q (subQ q k b) a := by
  have h1 := sg_subQ_lt q (subQ q k a) b hq
  have h2 := sg_subQ_lt q (subQ q k b) a hq
  have := sg_mod_eq_of_cast (q := q) (a := subQ q (subQ q k a) b) (b := subQ q (subQ q k b) a) (by
    rw [sg_subQ_cast _ _ _ hq, sg_subQ_cast _ _ _ hq, sg_subQ_cast _ _ _ hq, sg_subQ_cast _ _ _ hq]; ring)
  rwa [Nat.mod_eq_of_lt h1, Nat.mod_eq_of_lt h2] at this

variable {G : Type} [AddCommGroup G] {C : Ctx G}

/-- `signS1` (zzMul, zzAdd, zzMod, zzSubMod, zzSubMod with the hash reduced once) is the standard's
`(k - H - (s0 + 2^l) d) mod q` -/
theorem sg_signS1_eq (L : Laws C) {s0 d k : Nat} (hk : k < C.q) {Hb : Bytes} (hH : Hb.length = C.no) :
    signS1 C s0 d k Hb = subQ C.q (subQ C.q k (leNat Hb)) ((s0 + 2 ^ C.l) * d) := by
  have hq := L.q_pos
  have hHW := L.leNat_lt_W hH
  unfold signS1
  simp only
  have ht : (s0 * d + 2 ^ C.l * d) % C.q < C.q := Nat.mod_lt _ hq
  rw [subMod_eq hk ht L.q_lt_W, redOnce_eq hHW L.W_lt_2q]
  rw [subMod_eq (Nat.mod_lt _ hq) (Nat.mod_lt _ hq) L.q_lt_W]
  have e1 : (k + (C.q - (s0 * d + 2 ^ C.l * d) % C.q)) % C.q = subQ C.q k ((s0 + 2 ^ C.l) * d) := by
    unfold subQ
    rw [Nat.add_mul]
  have e2 : (subQ C.q k ((s0 + 2 ^ C.l) * d) + (C.q - leNat Hb % C.q)) % C.q
      = subQ C.q (subQ C.q k ((s0 + 2 ^ C.l) * d)) (leNat Hb) := by
    unfold subQ
    rfl
  rw [e1, e2, sg_subQ_comm _ _ _ _ hq]

/-! ### the verifier's core -/

-- an `abbrev`: with a `def` the `Decidable` instance inside `Par.vcore` keeps `C.par.q` and `if_pos` does not match
abbrev Ctx.par (C : Ctx G) : Par G := ⟨C.W, C.q, C.no, C.no / 2, 2 ^ C.l, C.base, C.xy, hashL C⟩

theorem Laws.par (L : Laws C) : C.par.Ok :=
  ⟨L.order, L.q_lt_W, L.W_lt_2q, L.pow256.trans L.W_eq.symm, L.hashL_len⟩

theorem sg_verifyCore_vcore (L : Laws C) (oid Hb sig : Bytes) (Q : G) :
    verifyCore C oid Hb sig Q =
      match C.par.vcore oid Hb (leNat Hb) sig Q with
      | none => (.badSig, 0, (0, 0))
      | some r => (.ok, r.1, r.2) := by
  unfold verifyCore Par.vcore
  simp only [L.smul_eq, L.add_eq]
  by_cases hs : leNat (sig.drop (C.no / 2)) ≥ C.q
  · simp only [if_pos hs]
  · simp only [if_neg hs]
    generalize C.xy _ = o
    cases o with
    | none => rfl
    | some R => dsimp only; split <;> rfl

theorem sg_signWith_sig (L : Laws C) (oid Hb : Bytes) (d k : Nat) :
    signWith C oid Hb d k =
      match C.xy (k • C.base) with
      | none => (.badParams, [])
      | some R => (.ok, C.par.sig oid Hb d k (leNat Hb) R) := by
  unfold signWith Par.sig Par.s1 signS1
  simp only [L.smul_eq, Nat.add_mul]
  rfl

/-- the two outcomes of `verifyCore` -/
theorem sg_verifyCore_cases (L : Laws C) (oid : Bytes) {Hb : Bytes} (sig : Bytes) (Q : G)
    (hH : Hb.length = C.no) :
    (∃ x y, leNat (sig.drop (C.no / 2)) < C.q ∧
      C.xy (((leNat (sig.drop (C.no / 2)) + leNat Hb) % C.q) • C.base
                  + (leNat (sig.take (C.no / 2)) + 2 ^ C.l) • Q) = some (x, y) ∧
      hashL C (oid ++ natLE C.no x ++ Hb) = sig.take (C.no / 2) ∧
      verifyCore C oid Hb sig Q = (Err.ok, (leNat (sig.drop (C.no / 2)) + leNat Hb) % C.q, (x, y)))
    ∨ (verifyCore C oid Hb sig Q = (Err.badSig, 0, (0, 0)) ∧ ¬ specAccept C oid Hb sig Q) := by
  rw [sg_verifyCore_vcore L]
  cases hv : C.par.vcore oid Hb (leNat Hb) sig Q with
  | none =>
    refine .inr ⟨rfl, fun h => ?_⟩
    have := (Par.vcore_isSome L.par oid Hb (L.leNat_lt_W hH) sig Q).2 h
    rw [hv] at this
    cases this
  | some r =>
    obtain ⟨h1, h2, h3, h4⟩ := (Par.vcore_eq_some L.par oid Hb (L.leNat_lt_W hH) sig Q r).1 hv
    exact .inl ⟨r.2.1, r.2.2, h1, h3, h4, by rw [← h2]⟩

/-! ### public keys -/

theorem sg_pubOf (L : Laws C) {d : Nat} (h0 : 0 < d) (hq : d < C.q) :
    ∃ x y, C.xy (d • C.base) = some (x, y) ∧ pubOf C d = encXY C (x, y) ∧
      loadPub C (pubOf C d) = some (d • C.base) := by
  obtain ⟨x, y, hxy⟩ := L.xy_some (L.base_mul_ne h0 hq)
  refine ⟨x, y, hxy, ?_, ?_⟩
  · unfold pubOf; rw [L.smul_eq, hxy]
  · unfold pubOf; rw [L.smul_eq, hxy]; exact L.loadPub_encXY hxy

theorem sg_leNat_priv (L : Laws C) {d : Nat} (hq : d < C.q) : leNat (natLE C.no d) = d := by
  apply leNat_natLE_of_lt
  rw [L.pow256]
  exact Nat.lt_trans hq L.q_hi

end Bee2V.C02
