/-
C02 — property theorems of the key transport (bign_keyt.c): bignKeyWrap / bignKeyUnwrap.
Helpers are in LemmasKeyt.lean; every theorem of this file is an obligation.
-/
import Bee2V.C02.LemmasKeyt
namespace Bee2V.C02
variable {G : Type} [AddCommGroup G] {C : Ctx G}

/-- Unwrap(Wrap(key)) = key for every private key in [1, q-1], every key of at least 16 octets,
every header (NULL or 16 octets) and every generator tape; the NULL header and the all-zero header
are interchangeable on the unwrap side -/
theorem keywrap_roundtrip (L : Laws C) {d : Nat} (hd0 : 0 < d) (hdq : d < C.q)
    (key : Bytes) (hk : 16 ≤ key.length) (header : Option Bytes)
    (hh : (hdrOctets header).length = 16) (tape : Bytes) :
    match randNZMod C tape with
    | (none, rest) => keyWrap C key header (pubOf C d) tape = (.badRng, [], rest)
    | (some _, rest) => ∃ token, keyWrap C key header (pubOf C d) tape = (.ok, token, rest) ∧
        token.length = C.no + key.length + 16 ∧
        ∀ header', hdrOctets header' = hdrOctets header →
          keyUnwrap C token header' (natLE C.no d) = (.ok, key) := by
  have hQ0 : d • C.base ≠ 0 := L.base_mul_ne hd0 hdq
  obtain ⟨xQ, yQ, hQ⟩ := L.xy_some hQ0
  have hpub : pubOf C d = encXY C (xQ, yQ) := by
    simp only [pubOf, L.smul_eq, hQ]
  have hload : loadPub C (pubOf C d) = some (d • C.base) := by
    rw [hpub]; exact L.loadPub_encXY hQ
  split
  · rename_i rest hr
    unfold keyWrap
    rw [if_neg (by omega)]
    simp only [hr]
  · rename_i k rest hr
    obtain ⟨hk0, hkq⟩ := randNZMod_range hr
    obtain ⟨xT, yT, hT⟩ := L.xy_some (L.nsmul_ne hQ0 hk0 hkq)
    obtain ⟨xR, yR, hR⟩ := L.xy_some (L.base_mul_ne hk0 hkq)
    refine ⟨_, keyt_wrap_some L hk hr hload hT hR, ?_, ?_⟩
    · have h32 : 32 ≤ (key ++ hdrOctets header).length := by rw [List.length_append]; omega
      simp only [List.length_append, natLE_length, L.kwp_len _ _ h32, hh]
      omega
    · intro header' he
      exact keyt_unwrap_wrap L hd0 hdq hR hT key _ hk hh header' he

/-- the acceptance set of bignKeyUnwrap: token long enough, private key in range, x-coordinate < p
and decompressible, and the unprotected trailer equals the header (NULL = zeros) -/
theorem keyunwrap_exact (L : Laws C) (token : Bytes) (header : Option Bytes) (priv key : Bytes) :
    keyUnwrap C token header priv = (.ok, key) ↔
      32 + C.no ≤ token.length ∧ 0 < leNat priv ∧ leNat priv < C.q ∧
      leNat (token.take C.no) < C.p ∧
      ∃ R T, C.liftX (leNat (token.take C.no)) = some R ∧ C.xy (leNat priv • R) = some T ∧
        C.kwpD (theta C T.1) ((token.drop C.no).take (token.length - C.no - 16))
            ((token.drop C.no).drop (token.length - C.no - 16)) = (key, hdrOctets header) := by
  constructor
  · intro h
    by_cases h1 : token.length < 32 + C.no
    · rw [keyt_unwrap_short C header priv h1] at h; cases h
    have h1' : 32 + C.no ≤ token.length := by omega
    cases h2 : privOk C (leNat priv) with
    | false => rw [keyt_unwrap_priv C header h1' h2] at h; cases h
    | true =>
      obtain ⟨hd0, hdq⟩ := (privOk_iff C _).1 h2
      by_cases h4 : C.p ≤ leNat (token.take C.no)
      · rw [keyt_unwrap_p C header h1' h2 h4] at h; cases h
      have h4' : leNat (token.take C.no) < C.p := by omega
      cases h5 : C.liftX (leNat (token.take C.no)) with
      | none => rw [keyt_unwrap_lift C header h1' h2 h4' h5] at h; cases h
      | some R =>
        obtain ⟨y, hy⟩ := L.liftX_x _ _ h5
        obtain ⟨xT, yT, h6⟩ := L.xy_some (L.nsmul_ne (L.ne_of_xy hy) hd0 hdq)
        rw [keyt_unwrap_some L h1' h2 h4' h5 h6] at h
        refine ⟨h1', hd0, hdq, h4', R, (xT, yT), rfl, h6, ?_⟩
        split at h
        · rename_i hc
          simp only [Prod.mk.injEq, true_and] at h
          exact Prod.ext h hc
        · cases h
  · rintro ⟨h1, hd0, hdq, h4, R, T, h5, h6, h7⟩
    rw [keyt_unwrap_some L h1 ((privOk_iff C _).2 ⟨hd0, hdq⟩) h4 h5 h6, h7]
    simp only [↓reduceIte]

/-- under `Laws C` the code of bignKeyUnwrap is never ERR_BAD_PARAMS, and the order of the checks is
length, private key, token -/
theorem keyunwrap_codes (L : Laws C) (token : Bytes) (header : Option Bytes) (priv : Bytes) :
    (keyUnwrap C token header priv).1 =
      if token.length < 32 + C.no then Err.badKeytoken
      else if leNat priv = 0 ∨ C.q ≤ leNat priv then Err.badPrivkey
      else if (keyUnwrap C token header priv).1 = Err.ok then Err.ok else Err.badKeytoken := by
  by_cases h1 : token.length < 32 + C.no
  · rw [if_pos h1, keyt_unwrap_short C header priv h1]
  have h1' : 32 + C.no ≤ token.length := by omega
  rw [if_neg h1]
  by_cases h2 : leNat priv = 0 ∨ C.q ≤ leNat priv
  · rw [if_pos h2, keyt_unwrap_priv C header h1' ((keyt_privOk_false C _).2 h2)]
  rw [if_neg h2]
  have h2' : privOk C (leNat priv) = true := (privOk_iff C _).2 (by omega)
  have hd : 0 < leNat priv ∧ leNat priv < C.q := by omega
  by_cases h4 : C.p ≤ leNat (token.take C.no)
  · rw [keyt_unwrap_p C header h1' h2' h4]; rfl
  have h4' : leNat (token.take C.no) < C.p := by omega
  cases h5 : C.liftX (leNat (token.take C.no)) with
  | none => rw [keyt_unwrap_lift C header h1' h2' h4' h5]; rfl
  | some R =>
    obtain ⟨y, hy⟩ := L.liftX_x _ _ h5
    obtain ⟨xT, yT, h6⟩ := L.xy_some (L.nsmul_ne (L.ne_of_xy hy) hd.1 hd.2)
    rw [keyt_unwrap_some L h1' h2' h4' h5 h6]
    split <;> rfl

/-- the order of the checks of bignKeyWrap: key length (the generator is not called), generator,
public key; under `Laws C` the code is never ERR_BAD_PARAMS -/
theorem keywrap_codes (L : Laws C) (key : Bytes) (header : Option Bytes) (pub tape : Bytes) :
    (keyWrap C key header pub tape).1 =
      if key.length < 16 then Err.badInput
      else match randNZMod C tape with
        | (none, _) => Err.badRng
        | (some _, _) => if (loadPub C pub).isNone then Err.badPubkey else Err.ok := by
  unfold keyWrap
  by_cases h1 : key.length < 16
  · rw [if_pos h1, if_pos h1]
  rw [if_neg h1, if_neg h1]
  rcases hr : randNZMod C tape with ⟨_ | k, rest⟩
  · rfl
  obtain ⟨hk0, hkq⟩ := randNZMod_range hr
  cases hp : loadPub C pub with
  | none => rfl
  | some Q =>
    obtain ⟨xT, yT, hT⟩ := L.xy_some (L.nsmul_ne (L.ne_of_xy (L.loadPub_xy hp)) hk0 hkq)
    obtain ⟨xR, yR, hR⟩ := L.xy_some (L.base_mul_ne hk0 hkq)
    simp only [L.smul_eq, hT, hR]
    rfl

end Bee2V.C02
