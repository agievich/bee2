/-
C02 — NON-VACUITY of `Laws`: a small concrete context `toyCtx : Ctx (ZMod 65521)` with
`toyLaws : Laws toyCtx`, and instances of the property theorems at it.

The toy: l = 8 (no = 2 octets, 8·no = 2l = 16 bits), p = q = 65521 (the largest prime below 2^16),
the group is (ZMod 65521, +) with base point 1 (prime order q, cofactor 1).
"Coordinates" of P ≠ 0 with v = P.val: (min v (q - v), v) — P and -P share the x-coordinate, and
exactly one of the two has y < q/2 (the one chosen by the decompression `liftX`).
`xyN`, `ofXYN` are `ToySig.xyN 65521`, `ToySig.ofXYN 65521` of Bee2V/C16/ToySig.lean (by `rfl`); the clauses about the
group and the coordinates are its lemmas for a modulus q.
belt part: constant hash, identity WBL/KWP (the laws only ask for lengths and invertibility).
-/
import Mathlib.Data.ZMod.Basic
import Bee2V.C02.Props
import Bee2V.C02.PropsKeyt
import Bee2V.C02.PropsIbs
import Bee2V.C16.ToySig
namespace Bee2V.C02.Toy
open Bee2V.C02
open Bee2V.C16.ToySig (xyN_some ofXYN_some)

instance : NeZero (65521 : Nat) := ⟨by omega⟩

/-! ### the coordinate maps on naturals -/

def xyN (v : Nat) : Option (Nat × Nat) :=
  if v = 0 then none else some (min v (65521 - v), v)

def ofXYN (x y : Nat) : Option (ZMod 65521) :=
  if y ≠ 0 ∧ y < 65521 ∧ x = min y (65521 - y) then some (y : ZMod 65521) else none

def liftXN (x : Nat) : Option (ZMod 65521) :=
  if 0 < x ∧ 2 * x < 65521 then some (x : ZMod 65521) else none

theorem xyN_of_ne {v : Nat} (hv : v ≠ 0) : xyN v = some (min v (65521 - v), v) :=
  Bee2V.C16.ToySig.xyN_of_ne hv

theorem liftXN_some {x : Nat} {P : ZMod 65521} (h : liftXN x = some P) :
    0 < x ∧ 2 * x < 65521 ∧ P = (x : ZMod 65521) := by
  unfold liftXN at h
  by_cases hc : 0 < x ∧ 2 * x < 65521
  · rw [if_pos hc] at h
    simp only [Option.some.injEq] at h
    exact ⟨hc.1, hc.2, h.symm⟩
  · rw [if_neg hc] at h; cases h

theorem val_ne {P : ZMod 65521} (h : P.val ≠ 0) : P ≠ 0 :=
  fun h0 => h ((ZMod.val_eq_zero P).2 h0)

theorem neg_val_of_ne {P : ZMod 65521} (h : P.val ≠ 0) : (-P).val = 65521 - P.val := by
  rw [ZMod.neg_val, if_neg (val_ne h)]

theorem cast_sub_val (P : ZMod 65521) : ((65521 - P.val : Nat) : ZMod 65521) = -P := by
  have hlt : P.val ≤ 65521 := Nat.le_of_lt (ZMod.val_lt P)
  rw [Nat.cast_sub hlt, ZMod.natCast_self, ZMod.natCast_zmod_val, zero_sub]

/-! ### the context -/

def toyCtx : Ctx (ZMod 65521) where
  l := 8
  p := 65521
  q := 65521
  zero := 0
  add := fun a b => a + b
  neg := fun a => -a
  smul := fun n a => n • a
  base := 1
  xy := fun P => xyN P.val
  ofXY := ofXYN
  liftX := liftXN
  oidOk := fun _ => true
  hash := fun _ => List.replicate 32 0
  wbl := fun _ b => b
  kwpE := fun _ x => x
  kwpD := fun _ a b => (a, b)

theorem toyLaws : Laws toyCtx where
  zero_eq := rfl
  add_eq := fun _ _ => rfl
  neg_eq := fun _ => rfl
  smul_eq := fun _ _ => rfl
  q_prime := Bee2V.C16.ToySig.prime_q
  order := Bee2V.C16.ToySig.order_q
  gen := by
    intro P
    refine ⟨P.val, ?_⟩
    show P = P.val • (1 : ZMod 65521)
    rw [nsmul_one, ZMod.natCast_zmod_val]
  l_pos := by show 0 < 8; omega
  l_mod := by show 8 % 8 = 0; rfl
  l_le := by show 8 ≤ 256; omega
  q_lo := by show 2 ^ (2 * 8 - 1) < 65521; decide
  q_hi := by show 65521 < 2 ^ (2 * 8); decide
  p_hi := by show 65521 < 2 ^ (2 * 8); decide
  xy_none := Bee2V.C16.ToySig.xy_none_q
  xy_lt := Bee2V.C16.ToySig.xy_lt_q
  ofXY_xy := Bee2V.C16.ToySig.ofXY_xy_q
  xy_ofXY := Bee2V.C16.ToySig.xy_ofXY_q
  liftX_x := by
    intro x P h
    obtain ⟨h0, h2, hP⟩ := liftXN_some h
    refine ⟨x, ?_⟩
    show xyN P.val = some (x, x)
    rw [hP, ZMod.val_cast_of_lt (by omega), xyN_of_ne (by omega)]
    have : min x (65521 - x) = x := by omega
    rw [this]
  liftX_of := by
    intro P x y h
    obtain ⟨hv, hx, hy⟩ := xyN_some h
    have hlt : P.val < 65521 := ZMod.val_lt P
    show liftXN x = some P ∨ liftXN x = some (-P)
    by_cases hc : 2 * P.val < 65521
    · left
      have hxv : x = P.val := by omega
      unfold liftXN
      rw [if_pos ⟨by omega, by omega⟩, hxv, ZMod.natCast_zmod_val]
    · right
      have hxv : x = 65521 - P.val := by omega
      unfold liftXN
      rw [if_pos ⟨by omega, by omega⟩, hxv, cast_sub_val]
  xy_neg := by
    intro P x y h
    obtain ⟨hv, hx, hy⟩ := xyN_some h
    have hlt : P.val < 65521 := ZMod.val_lt P
    refine ⟨65521 - P.val, ?_⟩
    show xyN (-P).val = some (x, 65521 - P.val)
    rw [neg_val_of_ne hv, xyN_of_ne (by omega)]
    have : min (65521 - P.val) (65521 - (65521 - P.val)) = x := by omega
    rw [this]
  hash_len := by
    intro m
    show (List.replicate 32 (0 : UInt8)).length = 32
    exact List.length_replicate
  kwp_len := fun _ _ _ => rfl
  kwp_inv := fun _ _ _ _ => rfl

/-! ### non-vacuity witnesses -/

/-- the hypothesis structure of every C02 property theorem is satisfiable -/
theorem laws_satisfiable : ∃ C : Ctx (ZMod 65521), Laws C := ⟨toyCtx, toyLaws⟩

theorem toy_no : toyCtx.no = 2 := rfl

example : ∃ C : Ctx (ZMod 65521), Laws C := ⟨toyCtx, toyLaws⟩

/-- zzRandNZMod on a concrete tape: the draw 0 and the draw 65521 = q are rejected, 9 is accepted -/
theorem toy_rand : randNZMod toyCtx [0, 0, 241, 255, 9, 0] = (some 9, []) := by decide

theorem toy_rand7 : randNZMod toyCtx [0, 0, 7, 0] = (some 7, []) := by decide

/-- all hypotheses of `sign_complete` are satisfiable together: private key 5, the hash value
0xFFFF ≥ q, a tape whose first draw is rejected -/
example := sign_complete toyLaws (oid := []) (Hb := [255, 255]) (priv := [5, 0]) rfl rfl
  (by decide) (by decide) [0, 0, 7, 0]

/-- … and the conclusion is about a run that really signs and verifies -/
example :
    sign toyCtx [] [255, 255] [5, 0] [0, 0, 7, 0] = (.ok, specSig toyCtx [] [255, 255] 5 7, []) ∧
    verify toyCtx [] [255, 255] (specSig toyCtx [] [255, 255] 5 7) (pubOf toyCtx 5) = .ok := by
  have h := (sign_complete toyLaws (oid := []) (Hb := [255, 255]) (priv := [5, 0]) rfl rfl
    (by decide) (by decide) [0, 0, 7, 0]).2 7 [] toy_rand7
  exact ⟨h.1, h.2.2⟩

example := verify_exact toyLaws (oid := []) (Hb := [255, 255]) (sig := [1, 2, 3])
  (pub := [1, 0, 1, 0]) rfl

example := verify_rejects_unreduced toyLaws (oid := []) (Hb := [255, 255]) (sig := [1, 241, 255])
  (pub := [1, 0, 1, 0]) rfl (by decide)

example := keygen_valid toyLaws [0, 0, 241, 255, 9, 0]

example : keypairGen toyCtx [0, 0, 241, 255, 9, 0] = (.ok, natLE 2 9 ++ pubOf toyCtx 9, []) :=
  ((keygen_valid toyLaws [0, 0, 241, 255, 9, 0]).2 9 [] toy_rand).2.2.1

example := dh_symm toyLaws (da := 3) (db := 65520) (by decide) (by decide) (by decide) (by decide)
  4 (by decide)

example := keywrap_roundtrip toyLaws (d := 5) (by decide) (by decide) (List.replicate 16 7)
  (by decide) none (by decide) [9, 0]

/-! ### a few fully evaluated values (the toy is not degenerate) -/

theorem toy_xy_smul {d : Nat} (h0 : d ≠ 0) (hq : d < 65521) :
    toyCtx.xy (toyCtx.smul d toyCtx.base) = some (min d (65521 - d), d) := by
  show xyN (d • (1 : ZMod 65521)).val = _
  rw [nsmul_one, ZMod.val_cast_of_lt hq, xyN_of_ne h0]

theorem toy_pubOf {d : Nat} (h0 : d ≠ 0) (hq : d < 65521) :
    pubOf toyCtx d = natLE 2 (min d (65521 - d)) ++ natLE 2 d := by
  unfold pubOf; rw [toy_xy_smul h0 hq]; rfl

/-- public keys of d = 5 and of d = q - 1 = -1: (5, 5) and (1, 65520) -/
theorem toy_pubOf_5 : pubOf toyCtx 5 = [5, 0, 5, 0] := by
  rw [toy_pubOf (by decide) (by decide)]; decide

theorem toy_pubOf_m1 : pubOf toyCtx 65520 = [1, 0, 240, 255] := by
  rw [toy_pubOf (by decide) (by decide)]; decide

/-- the public key (5, 5) is accepted, (5, 6) (not "on the curve") and (5, q + 5) are not -/
example : pubkeyVal toyCtx [5, 0, 5, 0] = .ok := by
  obtain ⟨_, _, _, _, hl⟩ := sg_pubOf toyLaws (d := 5) (by decide) (by decide)
  rw [toy_pubOf_5] at hl
  unfold pubkeyVal; rw [hl]

example : pubkeyVal toyCtx [5, 0, 6, 0] = .badPubkey := by decide

example : pubkeyVal toyCtx [5, 0, 246, 255] = .badPubkey := by decide

/-! ### identity-based signatures (PropsIbs.lean) -/

example := idverify_exact toyLaws [] [1, 0] [255, 255] [1, 2, 3] [1, 0, 1, 0] [2, 0, 2, 0] rfl

example := idsign_complete toyLaws [] [1, 0] [255, 255] [0, 0] [0, 0, 7, 0] rfl (by decide) rfl

/-- the hypothesis `idExtract … = (.ok, out)` of `idextract_idsign_idverify` is satisfiable:
the signature (S0, S1) = ([0], 0) of the identity hash [1, 0] is accepted under the public key of 5
(the toy hash is constant, so only `s1 < q` and `R ≠ O` remain) -/
theorem toy_idextract :
    ∃ out, idExtract toyCtx [] [1, 0] [0, 0, 0] (pubOf toyCtx 5) = (.ok, out) := by
  obtain ⟨_, _, _, _, hload⟩ := sg_pubOf toyLaws (d := 5) (by decide) (by decide)
  have h1 : (leNat (([0, 0, 0] : Bytes).drop (toyCtx.no / 2)) + leNat [1, 0]) % toyCtx.q = 1 := by
    decide
  have h2 : leNat (([0, 0, 0] : Bytes).take (toyCtx.no / 2)) + 2 ^ toyCtx.l = 256 := by decide
  have hne : 1 • toyCtx.base + 256 • (5 • toyCtx.base) ≠ 0 := by
    rw [← mul_nsmul', ← add_nsmul]
    exact toyLaws.base_mul_ne (by decide) (by decide)
  obtain ⟨x, y, hxy⟩ := toyLaws.xy_some hne
  exact ⟨_, (idextract_exact toyLaws [] [1, 0] [0, 0, 0] (pubOf toyCtx 5) _ rfl).2
    ⟨rfl, _, hload, by decide, x, y, by rw [h1, h2]; exact hxy, rfl, rfl⟩⟩

/-- extract, then sign with the extracted key and the one-time key 7, then verify: accepted -/
example : ∃ out isig,
    idExtract toyCtx [] [1, 0] [0, 0, 0] (pubOf toyCtx 5) = (.ok, out) ∧
    idSignWith toyCtx [] [1, 0] [255, 255] (leNat (out.take 2)) 7 = (.ok, isig) ∧
    idVerify toyCtx [] [1, 0] [255, 255] isig (out.drop 2) (pubOf toyCtx 5) = .ok := by
  obtain ⟨out, hex⟩ := toy_idextract
  obtain ⟨_, _, isig, hs, _, hv⟩ := idextract_idsign_idverify toyLaws [] [1, 0] [255, 255]
    [0, 0, 0] (pubOf toyCtx 5) out 7 rfl rfl (by decide) (by decide) hex
  exact ⟨out, isig, hex, hs, hv⟩

end Bee2V.C02.Toy
