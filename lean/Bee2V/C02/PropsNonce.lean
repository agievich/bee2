/-
C02 — property theorems, part 5: termination of the deterministic-nonce loop of alg. 6.3.3
(`bignSign2`, `bignIdSign2`: `k ← H; while (1) { k ← belt-WBL(k, θ); if (0 < k < q) break; }`).

What the code does.  belt-WBL under a fixed key is a permutation of the 2l-bit strings, so the sequence
of loop values H, E(H), E²(H), … is a CYCLE through H (`nonce_orbit_cycle`).  Hence exactly one of two
things happens (`nonce_dichotomy`): some value of the cycle lies in {1..q−1} — then the loop stops at the
first such value, after at most (cycle length) rounds, whatever fuel ≥ that the model is given — or no
value of the cycle does, and the C loop runs through the cycle FOREVER (no other exit, no error code).
If H itself is in {1..q−1} (as a number) the first case holds, because H is on its own cycle
(`nonce_terminates_hash_in_range`).  For H = 0 or H ≥ q (probability < 1/2 for a random hash) termination
needs "the cycle of H under WBL_θ meets {1..q−1}", which is a statistical property of belt (each value
is in range with probability > 1/2) and is not provable: see `sign2_terminates_partial` below.
-/
import Bee2V.C02.LemmasNonce
import Bee2V.C02.LemmasSign2
namespace Bee2V.C02
variable {G : Type} {C : Ctx G}

/-- if one of the first `fuel` iterates satisfies the exit condition, the loop returns the FIRST such iterate -/
theorem nonceLoop_of_hit (θ : Bytes) (fuel : Nat) (k0 : Bytes)
    (h : ∃ n, n < fuel ∧ nonceOk C (nonceIter C θ (n + 1) k0)) :
    ∃ n, n < fuel ∧ (∀ i, i < n → ¬ nonceOk C (nonceIter C θ (i + 1) k0)) ∧
      nonceOk C (nonceIter C θ (n + 1) k0) ∧
      nonceLoop C θ fuel k0 = some (leNat (nonceIter C θ (n + 1) k0)) := by
  classical
  have hex : ∃ n, nonceOk C (nonceIter C θ (n + 1) k0) := by
    obtain ⟨n, _, hn⟩ := h; exact ⟨n, hn⟩
  obtain ⟨n, hnf, hn⟩ := h
  have hle : Nat.find hex ≤ n := Nat.find_min' hex hn
  refine ⟨Nat.find hex, by omega, fun i hi => Nat.find_min hex hi, Nat.find_spec hex, ?_⟩
  exact nc_loop_first θ _ fuel k0 (by omega) (fun i hi => Nat.find_min hex hi) (Nat.find_spec hex)

/-- the model runs out of fuel exactly when none of the first `fuel` iterates satisfies the exit condition
(the C loop is then still running) -/
theorem nonceLoop_none_iff (θ : Bytes) (fuel : Nat) (k0 : Bytes) :
    nonceLoop C θ fuel k0 = none ↔ ∀ i, i < fuel → ¬ nonceOk C (nonceIter C θ (i + 1) k0) := by
  revert k0
  induction fuel with
  | zero => intro k0; simp [nonceLoop]
  | succ f ih =>
    intro k0
    simp only [nonceLoop]
    by_cases h1 : nonceOk C (C.wbl θ k0)
    · rw [if_pos (show leNat (C.wbl θ k0) ≠ 0 ∧ leNat (C.wbl θ k0) < C.q from h1)]
      constructor
      · intro h; cases h
      · intro h; exact absurd h1 (h 0 (by omega))
    · rw [if_neg (show ¬ (leNat (C.wbl θ k0) ≠ 0 ∧ leNat (C.wbl θ k0) < C.q) from h1), ih]
      constructor
      · intro h i hi
        cases i with
        | zero => exact h1
        | succ i => rw [nc_iter_succ]; exact h i (by omega)
      · intro h i hi
        rw [← nc_iter_succ]; exact h (i + 1) (by omega)

/-- more fuel does not change a result -/
theorem nonceLoop_mono (θ : Bytes) (fuel fuel' : Nat) (k0 : Bytes) (k : Nat) (hf : fuel ≤ fuel')
    (h : nonceLoop C θ fuel k0 = some k) : nonceLoop C θ fuel' k0 = some k := by
  have hne : ¬ (nonceLoop C θ fuel k0 = none) := by rw [h]; simp
  rw [nonceLoop_none_iff] at hne
  have hex : ∃ n, n < fuel ∧ nonceOk C (nonceIter C θ (n + 1) k0) := by
    by_contra hc
    exact hne (fun i hi hok => hc ⟨i, hi, hok⟩)
  obtain ⟨n, hn, hmin, hok, he⟩ := nonceLoop_of_hit θ fuel k0 hex
  rw [h] at he
  rw [he]
  exact nc_loop_first θ n fuel' k0 (by omega) hmin hok

/-- the loop values form a cycle through H when WBL_θ is injective and length preserving on 2l-bit strings
(for belt: `belt_wbl_injective` in PropsBelt.lean) -/
theorem nonce_orbit_cycle (θ : Bytes) (hlen : ∀ a, a.length = C.no → (C.wbl θ a).length = C.no)
    (hinj : ∀ a b, a.length = C.no → b.length = C.no → C.wbl θ a = C.wbl θ b → a = b)
    (Hb : Bytes) (hH : Hb.length = C.no) :
    ∃ m, 0 < m ∧ nonceIter C θ m Hb = Hb ∧ ∀ j, nonceIter C θ (j + 1) Hb = nonceIter C θ (j % m + 1) Hb := by
  obtain ⟨m, hm, hp⟩ := nc_orbit_returns (C.wbl θ) C.no hlen hinj Hb hH
  exact ⟨m, hm, hp, fun j => nc_iter_mod (C.wbl θ) Hb m hm hp j⟩

/-- EITHER the cycle of H contains a value in {1..q−1}: then for every fuel ≥ the cycle length the loop
returns the first such value; OR it contains none: then the loop never exits (for every fuel the model
reports `none`; the C code keeps running) -/
theorem nonce_dichotomy (θ : Bytes) (hlen : ∀ a, a.length = C.no → (C.wbl θ a).length = C.no)
    (hinj : ∀ a b, a.length = C.no → b.length = C.no → C.wbl θ a = C.wbl θ b → a = b)
    (Hb : Bytes) (hH : Hb.length = C.no) :
    ∃ m, 0 < m ∧ nonceIter C θ m Hb = Hb ∧
      ((∃ k, 0 < k ∧ k < C.q ∧ ∀ fuel, m ≤ fuel → nonceLoop C θ fuel Hb = some k) ∨
       ((∀ j, ¬ nonceOk C (nonceIter C θ (j + 1) Hb)) ∧ ∀ fuel, nonceLoop C θ fuel Hb = none)) := by
  obtain ⟨m, hm, hp, hmod⟩ := nonce_orbit_cycle θ hlen hinj Hb hH
  refine ⟨m, hm, hp, ?_⟩
  by_cases hex : ∃ n, n < m ∧ nonceOk C (nonceIter C θ (n + 1) Hb)
  · left
    obtain ⟨n, hn, hmin, hok, he⟩ := nonceLoop_of_hit θ m Hb hex
    refine ⟨leNat (nonceIter C θ (n + 1) Hb), Nat.pos_of_ne_zero hok.1, hok.2, ?_⟩
    intro fuel hf
    exact nonceLoop_mono θ m fuel Hb _ hf he
  · right
    have hall : ∀ j, ¬ nonceOk C (nonceIter C θ (j + 1) Hb) := by
      intro j hok
      rw [hmod j] at hok
      exact hex ⟨j % m, Nat.mod_lt _ hm, hok⟩
    exact ⟨hall, fun fuel => (nonceLoop_none_iff θ fuel Hb).2 (fun i _ => hall i)⟩

/-- a hash value that is itself in {1..q−1} guarantees termination: H lies on its own cycle -/
theorem nonce_terminates_hash_in_range (θ : Bytes) (hlen : ∀ a, a.length = C.no → (C.wbl θ a).length = C.no)
    (hinj : ∀ a b, a.length = C.no → b.length = C.no → C.wbl θ a = C.wbl θ b → a = b)
    (Hb : Bytes) (hH : Hb.length = C.no) (h0 : leNat Hb ≠ 0) (hq : leNat Hb < C.q) :
    ∃ m k, 0 < k ∧ k < C.q ∧ ∀ fuel, m ≤ fuel → nonceLoop C θ fuel Hb = some k := by
  obtain ⟨m, hm, hp, hd⟩ := nonce_dichotomy θ hlen hinj Hb hH
  rcases hd with ⟨k, hk0, hkq, hk⟩ | ⟨hall, _⟩
  · exact ⟨m, k, hk0, hkq, hk⟩
  · exfalso
    apply hall (m - 1)
    have e : m - 1 + 1 = m := by omega
    rw [e, hp]
    exact ⟨h0, hq⟩

section sign
variable [AddCommGroup G]

/-- bignSign2 under an explicit termination hypothesis: if one of the first `fuel` WBL-iterates of H lies in
{1..q−1}, the call returns ERR_OK with the standard's signature for the FIRST such iterate, and it verifies -/
theorem sign2_complete_of_hit (L : Laws C) {oid Hb priv : Bytes} (ho : C.oidOk oid = true) (hH : Hb.length = C.no)
    (hd0 : 0 < leNat priv) (hdq : leNat priv < C.q) (fuel : Nat) (t : Option Bytes)
    (hit : ∃ n, n < fuel ∧ nonceOk C (nonceIter C (nonceKey C oid priv t) (n + 1) Hb)) :
    ∃ n, n < fuel ∧
      (∀ i, i < n → ¬ nonceOk C (nonceIter C (nonceKey C oid priv t) (i + 1) Hb)) ∧
      sign2 C fuel oid Hb priv t = some (.ok, specSig C oid Hb (leNat priv)
        (leNat (nonceIter C (nonceKey C oid priv t) (n + 1) Hb))) ∧
      verify C oid Hb (specSig C oid Hb (leNat priv)
        (leNat (nonceIter C (nonceKey C oid priv t) (n + 1) Hb)))
        (pubOf C (leNat priv)) = .ok := by
  have hp := (privOk_iff C _).2 ⟨hd0, hdq⟩
  obtain ⟨n, hn, hmin, hok, he⟩ := nonceLoop_of_hit _ fuel Hb hit
  have hk0 := Nat.pos_of_ne_zero hok.1
  refine ⟨n, hn, hmin, ?_, sg_verify_specSig L ho hH hd0 hdq hk0 hok.2⟩
  rw [nc_sign2_eq]
  simp only [ho, hp, Bool.not_true, Bool.false_eq_true, if_false, he, sg_signWith L hH hk0 hok.2]

/-- bignSign2 terminates, returns ERR_OK and a verifying signature whenever the hash value is in {1..q−1}
and WBL_θ is a permutation of the 2l-bit strings (no fuel hypothesis: a sufficient fuel exists) -/
theorem sign2_terminates_hash_in_range (L : Laws C) {oid Hb priv : Bytes} (ho : C.oidOk oid = true)
    (hH : Hb.length = C.no) (hd0 : 0 < leNat priv) (hdq : leNat priv < C.q) (t : Option Bytes)
    (hlen : ∀ θ a, a.length = C.no → (C.wbl θ a).length = C.no)
    (hinj : ∀ θ a b, a.length = C.no → b.length = C.no → C.wbl θ a = C.wbl θ b → a = b)
    (h0 : leNat Hb ≠ 0) (hq : leNat Hb < C.q) :
    ∃ m k, 0 < k ∧ k < C.q ∧ ∀ fuel, m ≤ fuel →
      sign2 C fuel oid Hb priv t = some (.ok, specSig C oid Hb (leNat priv) k) ∧
      verify C oid Hb (specSig C oid Hb (leNat priv) k) (pubOf C (leNat priv)) = .ok := by
  have hp := (privOk_iff C _).2 ⟨hd0, hdq⟩
  obtain ⟨m, k, hk0, hkq, hk⟩ := nonce_terminates_hash_in_range
    (nonceKey C oid priv t) (hlen _) (hinj _) Hb hH h0 hq
  refine ⟨m, k, hk0, hkq, fun fuel hf => ⟨?_, sg_verify_specSig L ho hH hd0 hdq hk0 hkq⟩⟩
  rw [nc_sign2_eq]
  simp only [ho, hp, Bool.not_true, Bool.false_eq_true, if_false, hk fuel hf, sg_signWith L hH hk0 hkq]

/- FULL STATEMENT (not proved, not provable from the laws): for EVERY hash value of l/4 octets
     ∃ fuel k, sign2 C fuel oid Hb priv t = some (.ok, specSig C oid Hb (leNat priv) k).
   `sign2_terminates_partial` proves it for the hash values in {1..q−1} and, for the others (H = 0 or H ≥ q),
   reduces it to the single missing fact "the cycle of H under WBL_θ contains a value in {1..q−1}"
   (`nonce_dichotomy`: otherwise bignSign2 does not return at all). -/
theorem sign2_terminates_partial (L : Laws C) {oid Hb priv : Bytes} (ho : C.oidOk oid = true)
    (hH : Hb.length = C.no) (hd0 : 0 < leNat priv) (hdq : leNat priv < C.q) (t : Option Bytes)
    (hlen : ∀ θ a, a.length = C.no → (C.wbl θ a).length = C.no)
    (hinj : ∀ θ a b, a.length = C.no → b.length = C.no → C.wbl θ a = C.wbl θ b → a = b)
    (hmeet : (leNat Hb ≠ 0 ∧ leNat Hb < C.q) ∨
      ∃ j, nonceOk C (nonceIter C (nonceKey C oid priv t) (j + 1) Hb)) :
    ∃ fuel k, sign2 C fuel oid Hb priv t = some (.ok, specSig C oid Hb (leNat priv) k) := by
  rcases hmeet with ⟨h0, hq⟩ | ⟨j, hj⟩
  · obtain ⟨m, k, _, _, hk⟩ := sign2_terminates_hash_in_range L ho hH hd0 hdq t hlen hinj h0 hq
    exact ⟨m, k, (hk m (Nat.le_refl m)).1⟩
  · obtain ⟨n, _, _, hs, _⟩ := sign2_complete_of_hit L ho hH hd0 hdq (j + 1) t ⟨j, by omega, hj⟩
    exact ⟨j + 1, _, hs⟩

end sign
end Bee2V.C02
