/- GENERATED by xlate/x_c07_use.py from /repo/src (word configuration W64, part 6 of 8) — do not edit.
   For every function that carves a scratch stack or a blob: offset of every call that
   receives the rest of the area + the callee's DECLARED depth <= the declared depth;
   for object constructors additionally their post-condition (goals `post`). -/
import Bee2V.Gen.C07DeepW64
import Bee2V.C07.Mono

namespace Bee2V.Gen.C07.W64.Use
open Bee2V.Gen.C07.W64

/- the lists of definitions to open are computed per function, not trimmed per goal -/
set_option linter.unusedSimpArgs false

/-- src/crypto/belt/belt_kwp.c : beltKWPUnwrap
  [carve] -/
theorem use_le_deep_beltKWPUnwrap    :
    (((0 + (beltWBL_keep * 1)) + 16) ≤ (beltWBL_keep + 32)) := by
  simp only [beltWBL_keep, ← Nat.add_max_add_left, ← Nat.add_max_add_right, Std.le_max, Nat.max_le]
  omega

/-- src/crypto/bign96.c : bign96PubkeyCalc
  [call ecMulA]
  [call state->f->to]
  [carve] -/
theorem use_le_deep_bign96PubkeyCalc (state_deep : Nat) (state_f_deep : Nat) (state_keep : Nat) (h_0 : state_f_deep ≤ (gfpCreate_deep 24)) (h_1 : state_deep ≤ (ecpCreateJ_deep 3 (gfpCreate_deep 24))) (h_2 : state_keep ≤ ((gfpCreate_keep 24) + (ecpCreateJ_keep 3)))  :
    (((((0 + (state_keep * 1)) + 24) + 48) + (ecMulA_deep 3 3 state_deep 3)) ≤ (bign96Start_keep (some bign96PubkeyCalc_deep))) ∧
    (((((0 + (state_keep * 1)) + 24) + 48) + state_f_deep) ≤ (bign96Start_keep (some bign96PubkeyCalc_deep))) ∧
    ((((0 + (state_keep * 1)) + 24) + 48) ≤ (bign96Start_keep (some bign96PubkeyCalc_deep))) := by
  simp only [bign96PubkeyCalc_deep, bign96Start_keep, ecCreateGroup_deep, ecMulA_deep, ecpCreateJ_deep_eq, ← Nat.add_max_add_left, ← Nat.add_max_add_right, Std.le_max, Nat.max_le] at *
  omega

/- OPEN (not a theorem): users of the bignStart post-condition whose goals are a many-way max: not among the proved obligations
/ -- src/crypto/bign/bign_ibs.c : bignIdSign2
  [call ecMulA]
  [call state->f->to]
  [call zzMul]
  [call zzMod]
  [carve]
  [carve] - /
open_obligation use_le_deep_bignIdSign2 (params_l : Nat) (state_deep : Nat) (state_f_deep : Nat) (state_keep : Nat) (h_0 : state_f_deep ≤ (gfpCreate_deep (((2 * params_l) + 7) / 8))) (h_1 : state_deep ≤ (ecpCreateJ_deep ((((2 * params_l) + 64) - 1) / 64) (gfpCreate_deep (((2 * params_l) + 7) / 8)))) (h_2 : state_keep ≤ ((gfpCreate_keep (((2 * params_l) + 7) / 8)) + (ecpCreateJ_keep ((((2 * params_l) + 64) - 1) / 64))))  :
    (((((((0 + (state_keep * 1)) + (((((2 * params_l) + 64) - 1) / 64) * 8)) + (((((2 * params_l) + 64) - 1) / 64) * 8)) + ((2 * ((((2 * params_l) + 64) - 1) / 64)) * 8)) + (beltHash_keep * 1)) + (ecMulA_deep ((((2 * params_l) + 64) - 1) / 64) 3 state_deep ((((2 * params_l) + 64) - 1) / 64))) ≤ (bignStart_keep params_l (some bignIdSign2_deep))) ∧
    (((((((0 + (state_keep * 1)) + (((((2 * params_l) + 64) - 1) / 64) * 8)) + (((((2 * params_l) + 64) - 1) / 64) * 8)) + ((2 * ((((2 * params_l) + 64) - 1) / 64)) * 8)) + (beltHash_keep * 1)) + state_f_deep) ≤ (bignStart_keep params_l (some bignIdSign2_deep))) ∧
    (((((((0 + (state_keep * 1)) + (((((2 * params_l) + 64) - 1) / 64) * 8)) + (((((2 * params_l) + 64) - 1) / 64) * 8)) + ((2 * ((((2 * params_l) + 64) - 1) / 64)) * 8)) + (beltHash_keep * 1)) + (zzMul_deep (((((2 * params_l) + 64) - 1) / 64) / 2) ((((2 * params_l) + 64) - 1) / 64))) ≤ (bignStart_keep params_l (some bignIdSign2_deep))) ∧
    (((((((0 + (state_keep * 1)) + (((((2 * params_l) + 64) - 1) / 64) * 8)) + (((((2 * params_l) + 64) - 1) / 64) * 8)) + ((2 * ((((2 * params_l) + 64) - 1) / 64)) * 8)) + (beltHash_keep * 1)) + (zzMod_deep ((((((2 * params_l) + 64) - 1) / 64) + (((((2 * params_l) + 64) - 1) / 64) / 2)) + 1) ((((2 * params_l) + 64) - 1) / 64))) ≤ (bignStart_keep params_l (some bignIdSign2_deep))) ∧
    ((((((0 + (state_keep * 1)) + (((((2 * params_l) + 64) - 1) / 64) * 8)) + (((((2 * params_l) + 64) - 1) / 64) * 8)) + (((((2 * params_l) + 64) - 1) / 64) * 8)) + ((((((2 * params_l) + 64) - 1) / 64) / 2) * 8)) ≤ (bignStart_keep params_l (some bignIdSign2_deep))) ∧
    ((((((0 + (state_keep * 1)) + (((((2 * params_l) + 64) - 1) / 64) * 8)) + (((((2 * params_l) + 64) - 1) / 64) * 8)) + ((2 * ((((2 * params_l) + 64) - 1) / 64)) * 8)) + (beltHash_keep * 1)) ≤ (bignStart_keep params_l (some bignIdSign2_deep)))
-/

/-- src/crypto/bign/bign_misc.c : bignPubkeyVal
  [call state->f->from]
  [call ecpIsOnA]
  [carve] -/
theorem use_le_deep_bignPubkeyVal (params_l : Nat) (state_f_deep : Nat) (state_keep : Nat) (h_0 : state_f_deep ≤ (gfpCreate_deep (((2 * params_l) + 7) / 8))) (h_1 : state_keep ≤ ((gfpCreate_keep (((2 * params_l) + 7) / 8)) + (ecpCreateJ_keep ((((2 * params_l) + 64) - 1) / 64))))  :
    ((((0 + (state_keep * 1)) + ((2 * ((((2 * params_l) + 64) - 1) / 64)) * 8)) + state_f_deep) ≤ (bignStart_keep params_l (some bignPubkeyVal_deep))) ∧
    ((((0 + (state_keep * 1)) + ((2 * ((((2 * params_l) + 64) - 1) / 64)) * 8)) + (ecpIsOnA_deep ((((2 * params_l) + 64) - 1) / 64) state_f_deep)) ≤ (bignStart_keep params_l (some bignPubkeyVal_deep))) ∧
    (((0 + (state_keep * 1)) + ((2 * ((((2 * params_l) + 64) - 1) / 64)) * 8)) ≤ (bignStart_keep params_l (some bignPubkeyVal_deep))) := by
  simp only [bignPubkeyVal_deep, bignStart_keep, ecCreateGroup_deep, ecpIsOnA_deep, ecpCreateJ_deep_eq, ← Nat.add_max_add_left, ← Nat.add_max_add_right, Std.le_max, Nat.max_le] at *
  omega

/-- src/math/ec2.c : ec2AddALD
  [call ec->f->sqr]
  [call ec2DblALD]
  [carve] -/
theorem use_le_deep_ec2AddALD (ec_f_deep : Nat) (ec_f_n : Nat)   :
    ((((((0 + (ec_f_n * 8)) + (ec_f_n * 8)) + (ec_f_n * 8)) + (ec_f_n * 8)) + ec_f_deep) ≤ (ec2AddALD_deep ec_f_n ec_f_deep)) ∧
    ((((((0 + (ec_f_n * 8)) + (ec_f_n * 8)) + (ec_f_n * 8)) + (ec_f_n * 8)) + (ec2DblALD_deep ec_f_n ec_f_deep)) ≤ (ec2AddALD_deep ec_f_n ec_f_deep)) ∧
    (((((0 + (ec_f_n * 8)) + (ec_f_n * 8)) + (ec_f_n * 8)) + (ec_f_n * 8)) ≤ (ec2AddALD_deep ec_f_n ec_f_deep)) := by
  simp only [ec2AddALD_deep, ← Nat.add_max_add_left, ← Nat.add_max_add_right, Std.le_max, Nat.max_le]
  omega

/-- src/math/ec2.c : ec2NegLD
  [call ec->f->mul]
  [carve] -/
theorem use_le_deep_ec2NegLD (ec_f_deep : Nat) (ec_f_n : Nat)   :
    (((0 + (ec_f_n * 8)) + ec_f_deep) ≤ (ec2NegLD_deep ec_f_n ec_f_deep)) ∧
    ((0 + (ec_f_n * 8)) ≤ (ec2NegLD_deep ec_f_n ec_f_deep)) := by
  simp only [ec2NegLD_deep, ← Nat.add_max_add_left, ← Nat.add_max_add_right, Std.le_max, Nat.max_le]
  omega

/-- src/math/ec.c : ecMulA
  [call ec->froma]
  [carve] -/
theorem use_le_deep_ecMulA (ec_d : Nat) (ec_deep : Nat) (ec_f_n : Nat) (m : Nat)   :
    ((((((0 + ((2 * m) * 8)) + 8) + ((ec_d * ec_f_n) * 8)) + ((((1 <<< ((ecNAFWidth (m * 64)) - 2)) * ec_d) * ec_f_n) * 8)) + ec_deep) ≤ (ecMulA_deep ec_f_n ec_d ec_deep m)) ∧
    (((((0 + ((2 * m) * 8)) + 8) + ((ec_d * ec_f_n) * 8)) + ((((1 <<< ((ecNAFWidth (m * 64)) - 2)) * ec_d) * ec_f_n) * 8)) ≤ (ecMulA_deep ec_f_n ec_d ec_deep m)) := by
  simp only [ecMulA_deep, ← Nat.add_max_add_left, ← Nat.add_max_add_right, Std.le_max, Nat.max_le]
  simp only [Nat.mul_assoc, Nat.mul_comm, Nat.mul_left_comm]
  omega

/-- src/crypto/bign/bign_params.c : ecpDetIsZero
  [call zzSqrMod]
  [call zzMulMod]
  [call zzMulWMod]
  [carve] -/
theorem use_le_deep_ecpDetIsZero (n : Nat)   :
    ((((0 + (n * 8)) + (n * 8)) + (zzSqrMod_deep n)) ≤ (ecpDetIsZero_deep n)) ∧
    ((((0 + (n * 8)) + (n * 8)) + (zzMulMod_deep n)) ≤ (ecpDetIsZero_deep n)) ∧
    ((((0 + (n * 8)) + (n * 8)) + (zzMulWMod_deep n)) ≤ (ecpDetIsZero_deep n)) ∧
    (((0 + (n * 8)) + (n * 8)) ≤ (ecpDetIsZero_deep n)) := by
  simp only [ecpDetIsZero_deep, ← Nat.add_max_add_left, ← Nat.add_max_add_right, Std.le_max, Nat.max_le]
  omega

/-- src/math/ecp.c : ecpSubAJ
  [call ecpAddAJ]
  [carve] -/
theorem use_le_deep_ecpSubAJ (ec_f_deep : Nat) (ec_f_n : Nat)   :
    (((0 + ((2 * ec_f_n) * 8)) + (ecpAddAJ_deep ec_f_n ec_f_deep)) ≤ (ecpSubAJ_deep ec_f_n ec_f_deep)) ∧
    ((0 + ((2 * ec_f_n) * 8)) ≤ (ecpSubAJ_deep ec_f_n ec_f_deep)) := by
  simp only [ecpSubAJ_deep, ← Nat.add_max_add_left, ← Nat.add_max_add_right, Std.le_max, Nat.max_le]
  omega

/-- src/math/gf2.c : gf2MulTrinomial0
  [call ppMul]
  [carve] -/
theorem use_le_deep_gf2MulTrinomial0 (f_n : Nat)   :
    (((0 + ((2 * f_n) * 8)) + (ppMul_deep f_n f_n)) ≤ (gf2MulTrinomial0_deep f_n)) ∧
    ((0 + ((2 * f_n) * 8)) ≤ (gf2MulTrinomial0_deep f_n)) := by
  simp only [gf2MulTrinomial0_deep, ppMul1_deep, ppMul2_deep, ppMul3_deep, ppMul4_deep, ppMul5_deep, ppMul6_deep, ppMul7_deep, ppMul8_deep, ppMul9_deep, ← Nat.add_max_add_left, ← Nat.add_max_add_right, Std.le_max, Nat.max_le]
  omega

/-- src/math/gfp.c : gfpIsValid
  [call priIsPrime] -/
theorem use_le_deep_gfpIsValid (f_n : Nat)   :
    ((0 + (priIsPrime_deep f_n)) ≤ (gfpIsValid_deep f_n)) := by
  simp only [gfpIsValid_deep, prngCOMBO_keep, ← Nat.add_max_add_left, ← Nat.add_max_add_right, Std.le_max, Nat.max_le]
  omega

/-- src/math/pp/pp_gcd.c : ppGCD
  [carve] -/
theorem use_le_deep_ppGCD (m : Nat) (n : Nat)   :
    (((0 + (n * 8)) + (m * 8)) ≤ (ppGCD_deep n m)) := by
  simp only [ppGCD_deep, ← Nat.add_max_add_left, ← Nat.add_max_add_right, Std.le_max, Nat.max_le]
  omega

/-- src/math/pp/pp_mul.c : ppMul7
  [call ppMul4]
  [call ppMul3]
  [call ppMul4] -/
theorem use_le_deep_ppMul7    :
    ((0 + ppMul4_deep) ≤ ppMul7_deep) ∧
    ((0 + ppMul3_deep) ≤ ppMul7_deep) ∧
    ((96 + ppMul4_deep) ≤ ppMul7_deep) := by
  simp only [ppMul7_deep, ppMul1_deep, ppMul2_deep, ppMul3_deep, ppMul4_deep, ← Nat.add_max_add_left, ← Nat.add_max_add_right, Std.le_max, Nat.max_le]
  omega

/-- src/math/pri.c : priIsPrimeW
  [call zzPowerModW] -/
theorem use_le_deep_priIsPrimeW    :
    ((0 + zzPowerModW_deep) ≤ priIsPrimeW_deep) := by
  simp only [priIsPrimeW_deep, zzPowerModW_deep, ← Nat.add_max_add_left, ← Nat.add_max_add_right, Std.le_max, Nat.max_le]
  omega

/-- src/math/zm.c : zmCreateMont
  [call zzMod]
  [install r->from=zmFromMont]
  [install r->to=zmToMont]
  [install r->mul=zmMulMont]
  [install r->sqr=zmSqrMont]
  [install r->inv=zmInvMont]
  [install r->div=zmDivMont]
  [post r->n (<=)]
  [post r->no (<=)]
  [post r->deep]
  [post r->keep] -/
theorem use_le_deep_zmCreateMont (no : Nat)   :
    ((0 + (zzMod_deep (((no + 8) - 1) / 8) (((no + 8) - 1) / 8))) ≤ (zmCreateMont_deep no)) ∧
    ((zmFromMont_deep (((no + 8) - 1) / 8)) ≤ (max (zmFromMont_deep (((no + 8) - 1) / 8)) (max (zmToMont_deep (((no + 8) - 1) / 8)) (max (zmMulMont_deep (((no + 8) - 1) / 8)) (max (zmSqrMont_deep (((no + 8) - 1) / 8)) (max (zmInvMont_deep (((no + 8) - 1) / 8)) (zmDivMont_deep (((no + 8) - 1) / 8)))))))) ∧
    ((zmToMont_deep (((no + 8) - 1) / 8)) ≤ (max (zmFromMont_deep (((no + 8) - 1) / 8)) (max (zmToMont_deep (((no + 8) - 1) / 8)) (max (zmMulMont_deep (((no + 8) - 1) / 8)) (max (zmSqrMont_deep (((no + 8) - 1) / 8)) (max (zmInvMont_deep (((no + 8) - 1) / 8)) (zmDivMont_deep (((no + 8) - 1) / 8)))))))) ∧
    ((zmMulMont_deep (((no + 8) - 1) / 8)) ≤ (max (zmFromMont_deep (((no + 8) - 1) / 8)) (max (zmToMont_deep (((no + 8) - 1) / 8)) (max (zmMulMont_deep (((no + 8) - 1) / 8)) (max (zmSqrMont_deep (((no + 8) - 1) / 8)) (max (zmInvMont_deep (((no + 8) - 1) / 8)) (zmDivMont_deep (((no + 8) - 1) / 8)))))))) ∧
    ((zmSqrMont_deep (((no + 8) - 1) / 8)) ≤ (max (zmFromMont_deep (((no + 8) - 1) / 8)) (max (zmToMont_deep (((no + 8) - 1) / 8)) (max (zmMulMont_deep (((no + 8) - 1) / 8)) (max (zmSqrMont_deep (((no + 8) - 1) / 8)) (max (zmInvMont_deep (((no + 8) - 1) / 8)) (zmDivMont_deep (((no + 8) - 1) / 8)))))))) ∧
    ((zmInvMont_deep (((no + 8) - 1) / 8)) ≤ (max (zmFromMont_deep (((no + 8) - 1) / 8)) (max (zmToMont_deep (((no + 8) - 1) / 8)) (max (zmMulMont_deep (((no + 8) - 1) / 8)) (max (zmSqrMont_deep (((no + 8) - 1) / 8)) (max (zmInvMont_deep (((no + 8) - 1) / 8)) (zmDivMont_deep (((no + 8) - 1) / 8)))))))) ∧
    ((zmDivMont_deep (((no + 8) - 1) / 8)) ≤ (max (zmFromMont_deep (((no + 8) - 1) / 8)) (max (zmToMont_deep (((no + 8) - 1) / 8)) (max (zmMulMont_deep (((no + 8) - 1) / 8)) (max (zmSqrMont_deep (((no + 8) - 1) / 8)) (max (zmInvMont_deep (((no + 8) - 1) / 8)) (zmDivMont_deep (((no + 8) - 1) / 8)))))))) ∧
    ((((no + 8) - 1) / 8) ≤ (((no + 8) - 1) / 8)) ∧
    (no ≤ no) ∧
    ((max (zmFromMont_deep (((no + 8) - 1) / 8)) (max (zmToMont_deep (((no + 8) - 1) / 8)) (max (zmMulMont_deep (((no + 8) - 1) / 8)) (max (zmSqrMont_deep (((no + 8) - 1) / 8)) (max (zmInvMont_deep (((no + 8) - 1) / 8)) (zmDivMont_deep (((no + 8) - 1) / 8))))))) ≤ (zmCreateMont_deep no)) ∧
    ((144 + (((2 * (((no + 8) - 1) / 8)) + 1) * 8)) ≤ (zmCreateMont_keep no)) := by
  refine ⟨?_, ?_, ?_, ?_, ?_, ?_, ?_, ?_, ?_, ?_, ?_⟩
  · simp only [zmCreateMont_deep, zmDivMont_deep, zmFromMont_deep, zmInvMont_deep, zmMulMont_deep, zmSqrMont_deep, zmToMont_deep, zzAlmostInvMod_deep, zzMod_deep, zzMul_deep, zzRedMont_deep, zzSqr_deep]
    omega
  · simp only [Std.le_max, Nat.le_refl, true_or, or_true]
  · simp only [Std.le_max, Nat.le_refl, true_or, or_true]
  · simp only [Std.le_max, Nat.le_refl, true_or, or_true]
  · simp only [Std.le_max, Nat.le_refl, true_or, or_true]
  · simp only [Std.le_max, Nat.le_refl, true_or, or_true]
  · simp only [Std.le_max, Nat.le_refl, true_or, or_true]
  · exact Nat.le_refl _
  · exact Nat.le_refl _
  · simp only [zmCreateMont_deep, zmDivMont_deep, zmFromMont_deep, zmInvMont_deep, zmMulMont_deep, zmSqrMont_deep, zmToMont_deep, zzAlmostInvMod_deep, zzMod_deep, zzMul_deep, zzRedMont_deep, zzSqr_deep]
    omega
  · simp only [zmCreateMont_keep]
    omega

/-- src/math/zm.c : zmInvMont2
  [call zzAlmostInvMod] -/
theorem use_le_deep_zmInvMont2 (r_n : Nat)   :
    ((0 + (zzAlmostInvMod_deep r_n)) ≤ (zmInvMont2_deep r_n)) := by
  simp only [zmInvMont2_deep, ← Nat.add_max_add_left, ← Nat.add_max_add_right, Std.le_max, Nat.max_le]
  omega

/-- src/math/zm.c : zmSqrBarr
  [call zzSqr]
  [call zzRedBarr]
  [carve] -/
theorem use_le_deep_zmSqrBarr (r_n : Nat)   :
    (((0 + ((2 * r_n) * 8)) + (zzSqr_deep r_n)) ≤ (zmSqrBarr_deep r_n)) ∧
    (((0 + ((2 * r_n) * 8)) + (zzRedBarr_deep r_n)) ≤ (zmSqrBarr_deep r_n)) ∧
    ((0 + ((2 * r_n) * 8)) ≤ (zmSqrBarr_deep r_n)) := by
  simp only [zmSqrBarr_deep, ← Nat.add_max_add_left, ← Nat.add_max_add_right, Std.le_max, Nat.max_le]
  omega

/-- src/math/zz/zz_gcd.c : zzExGCD
  [carve] -/
theorem use_le_deep_zzExGCD (m : Nat) (n : Nat)   :
    (((((((0 + (n * 8)) + (m * 8)) + (n * 8)) + (m * 8)) + (m * 8)) + (n * 8)) ≤ (zzExGCD_deep n m)) := by
  simp only [zzExGCD_deep, ← Nat.add_max_add_left, ← Nat.add_max_add_right, Std.le_max, Nat.max_le]
  omega

/-- src/math/zz/zz_red.c : zzRed
  [call zzMod] -/
theorem use_le_deep_zzRed (n : Nat)   :
    ((0 + (zzMod_deep (2 * n) n)) ≤ (zzRed_deep n)) := by
  simp only [zzRed_deep, ← Nat.add_max_add_left, ← Nat.add_max_add_right, Std.le_max, Nat.max_le]
  omega

end Bee2V.Gen.C07.W64.Use
