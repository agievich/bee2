/- GENERATED by xlate/x_c14_ir.py — per-routine obligations of property C14: the body of each
   routine extracted from the current C source is accepted by the verified checker. -/
import Bee2V.C14.IR
import Bee2V.Gen.C14Prim
namespace Bee2V.C14.OblPrim
open Bee2V.C14.IR Bee2V.Gen.C14Prim

theorem ct_beltBlockEncr : ctFun prog false f_beltBlockEncr = true := by decide +kernel
theorem ct_beltBlockEncr2 : ctFun prog false f_beltBlockEncr2 = true := by decide +kernel
theorem ct_beltBlockEncr3 : ctFun prog false f_beltBlockEncr3 = true := by decide +kernel
theorem ct_beltBlockDecr : ctFun prog false f_beltBlockDecr = true := by decide +kernel
theorem ct_beltBlockDecr2 : ctFun prog false f_beltBlockDecr2 = true := by decide +kernel
theorem ct_beltBlockDecr3 : ctFun prog false f_beltBlockDecr3 = true := by decide +kernel
theorem ct_beltCompr : ctFun prog false f_beltCompr = true := by decide +kernel
theorem ct_beltCompr2 : ctFun prog false f_beltCompr2 = true := by decide +kernel
theorem ct_ppRedBelt : ctFun prog false f_ppRedBelt = true := by decide +kernel
theorem ct_wwCopy : ctFun prog false f_wwCopy = true := by decide +kernel
theorem ct_beltPolyMul : ctFun prog false f_beltPolyMul = true := by decide +kernel
theorem ct_beltBlockMulC : ctFun prog false f_beltBlockMulC = true := by decide +kernel
theorem ct_bashF0 : ctFun prog false f_bashF0 = true := by decide +kernel
theorem ct_bashF : ctFun prog false f_bashF = true := by decide +kernel
theorem ct_ppMul1 : ctFun prog false f_ppMul1 = true := by decide +kernel
theorem ct_ppMul2 : ctFun prog false f_ppMul2 = true := by decide +kernel
theorem ct_ppMul4 : ctFun prog false f_ppMul4 = true := by decide +kernel
/-- the whole program (callees are checked against the labels of their definitions) -/
theorem ct_prog : ctProg prog false = true := by
  show List.all [f_beltBlockEncr, f_beltBlockEncr2, f_beltBlockEncr3, f_beltBlockDecr, f_beltBlockDecr2, f_beltBlockDecr3, f_beltCompr, f_beltCompr2, f_ppRedBelt, f_wwCopy, f_beltPolyMul, f_beltBlockMulC, f_bashF0, f_bashF, f_ppMul1, f_ppMul2, f_ppMul4] (ctFun prog false) = true
  simp only [List.all_cons, List.all_nil, Bool.and_self, ct_beltBlockEncr, ct_beltBlockEncr2, ct_beltBlockEncr3, ct_beltBlockDecr, ct_beltBlockDecr2, ct_beltBlockDecr3, ct_beltCompr, ct_beltCompr2, ct_ppRedBelt, ct_wwCopy, ct_beltPolyMul, ct_beltBlockMulC, ct_bashF0, ct_bashF, ct_ppMul1, ct_ppMul2, ct_ppMul4]
end Bee2V.C14.OblPrim
