/- GENERATED by xlate/x_c07_use.py from /repo/src (word configuration W32, part 1 of 8) — do not edit.
   For every function that carves a scratch stack or a blob: offset of every call that
   receives the rest of the area + the callee's DECLARED depth <= the declared depth;
   for object constructors additionally their post-condition (goals `post`). -/
import Bee2V.Gen.C07DeepW32
import Bee2V.C07.Mono

namespace Bee2V.Gen.C07.W32.Use
open Bee2V.Gen.C07.W32

/- the lists of definitions to open are computed per function, not trimmed per goal -/
set_option linter.unusedSimpArgs false

/-- src/crypto/bake.c : bakeKDF
  [carve] -/
theorem use_le_deep_bakeKDF    :
    ((0 + (beltKRP_keep * 1)) ≤ (max beltHash_keep (beltKRP_keep + 16))) := by
  simp only [beltHash_keep, beltKRP_keep, beltCompr_deep, ← Nat.add_max_add_left, ← Nat.add_max_add_right, Std.le_max, Nat.max_le]
  omega

/-- src/crypto/belt/belt_sde.c : beltSDEDecr
  [carve] -/
theorem use_le_deep_beltSDEDecr    :
    ((0 + (beltSDE_keep * 1)) ≤ (beltSDE_keep + 16)) := by
  simp only [beltSDE_keep, ← Nat.add_max_add_left, ← Nat.add_max_add_right, Std.le_max, Nat.max_le]
  omega

/-- src/crypto/bign96.c : bign96Sign2
  [call ecMulA]
  [call state->f->to]
  [call zzMul]
  [call zzMod]
  [carve]
  [carve] -/
theorem use_le_deep_bign96Sign2 (state_deep : Nat) (state_f_deep : Nat) (state_keep : Nat) (h_0 : state_f_deep ≤ (gfpCreate_deep 24)) (h_1 : state_deep ≤ (ecpCreateJ_deep 6 (gfpCreate_deep 24))) (h_2 : state_keep ≤ ((gfpCreate_keep 24) + (ecpCreateJ_keep 6)))  :
    (((((((((0 + (state_keep * 1)) + 24) + 24) + 24) + 16) + 16) + (beltHash_keep * 1)) + (ecMulA_deep 6 3 state_deep 6)) ≤ (bign96Start_keep (some bign96Sign2_deep))) ∧
    (((((((((0 + (state_keep * 1)) + 24) + 24) + 24) + 16) + 16) + (beltHash_keep * 1)) + state_f_deep) ≤ (bign96Start_keep (some bign96Sign2_deep))) ∧
    (((((((((0 + (state_keep * 1)) + 24) + 24) + 24) + 16) + 16) + (beltHash_keep * 1)) + (zzMul_deep 4 6)) ≤ (bign96Start_keep (some bign96Sign2_deep))) ∧
    (((((((((0 + (state_keep * 1)) + 24) + 24) + 24) + 16) + 16) + (beltHash_keep * 1)) + (zzMod_deep 10 6)) ≤ (bign96Start_keep (some bign96Sign2_deep))) ∧
    ((((0 + (state_keep * 1)) + 24) + 24) ≤ (bign96Start_keep (some bign96Sign2_deep))) ∧
    ((((((((0 + (state_keep * 1)) + 24) + 24) + 24) + 16) + 16) + (beltHash_keep * 1)) ≤ (bign96Start_keep (some bign96Sign2_deep))) := by
  simp only [beltCompr_deep, beltHash_keep, beltWBL_keep, bign96Sign2_deep, bign96Start_keep, ecCreateGroup_deep, ecMulA_deep, zzMod_deep, zzMul_deep, ecpCreateJ_deep_eq, ← Nat.add_max_add_left, ← Nat.add_max_add_right, Std.le_max, Nat.max_le] at *
  omega

/- OPEN (not a theorem): users of the bignStart post-condition whose goals are a many-way max: not among the proved obligations
/ -- src/crypto/bign/bign_misc.c : bignKeypairGen
  [call ecMulA]
  [call state->f->to]
  [carve] - /
open_obligation use_le_deep_bignKeypairGen (params_l : Nat) (state_deep : Nat) (state_f_deep : Nat) (state_keep : Nat) (h_0 : state_f_deep ≤ (gfpCreate_deep (((2 * params_l) + 7) / 8))) (h_1 : state_deep ≤ (ecpCreateJ_deep ((((2 * params_l) + 32) - 1) / 32) (gfpCreate_deep (((2 * params_l) + 7) / 8)))) (h_2 : state_keep ≤ ((gfpCreate_keep (((2 * params_l) + 7) / 8)) + (ecpCreateJ_keep ((((2 * params_l) + 32) - 1) / 32))))  :
    (((((0 + (state_keep * 1)) + (((((2 * params_l) + 32) - 1) / 32) * 4)) + ((2 * ((((2 * params_l) + 32) - 1) / 32)) * 4)) + (ecMulA_deep ((((2 * params_l) + 32) - 1) / 32) 3 state_deep ((((2 * params_l) + 32) - 1) / 32))) ≤ (bignStart_keep params_l (some bignKeypairGen_deep))) ∧
    (((((0 + (state_keep * 1)) + (((((2 * params_l) + 32) - 1) / 32) * 4)) + ((2 * ((((2 * params_l) + 32) - 1) / 32)) * 4)) + state_f_deep) ≤ (bignStart_keep params_l (some bignKeypairGen_deep))) ∧
    ((((0 + (state_keep * 1)) + (((((2 * params_l) + 32) - 1) / 32) * 4)) + ((2 * ((((2 * params_l) + 32) - 1) / 32)) * 4)) ≤ (bignStart_keep params_l (some bignKeypairGen_deep)))
-/

/-- src/crypto/bign/bign_sign.c : bignVerify
  [call state->f->from]
  [call ecpIsOnA]
  [call ecAddMulA]
  [carve] -/
theorem use_le_deep_bignVerify (params_l : Nat) (state_deep : Nat) (state_f_deep : Nat) (state_keep : Nat) (h_0 : state_f_deep ≤ (gfpCreate_deep (((2 * params_l) + 7) / 8))) (h_1 : state_deep ≤ (ecpCreateJ_deep ((((2 * params_l) + 32) - 1) / 32) (gfpCreate_deep (((2 * params_l) + 7) / 8)))) (h_2 : state_keep ≤ ((gfpCreate_keep (((2 * params_l) + 7) / 8)) + (ecpCreateJ_keep ((((2 * params_l) + 32) - 1) / 32))))  :
    ((((((0 + (state_keep * 1)) + ((2 * ((((2 * params_l) + 32) - 1) / 32)) * 4)) + (((((2 * params_l) + 32) - 1) / 32) * 4)) + (((((2 * params_l) + 32) - 1) / 32) * 4)) + state_f_deep) ≤ (bignStart_keep params_l (some bignVerify_deep))) ∧
    ((((((0 + (state_keep * 1)) + ((2 * ((((2 * params_l) + 32) - 1) / 32)) * 4)) + (((((2 * params_l) + 32) - 1) / 32) * 4)) + (((((2 * params_l) + 32) - 1) / 32) * 4)) + (ecpIsOnA_deep ((((2 * params_l) + 32) - 1) / 32) state_f_deep)) ≤ (bignStart_keep params_l (some bignVerify_deep))) ∧
    ((((((0 + (state_keep * 1)) + ((2 * ((((2 * params_l) + 32) - 1) / 32)) * 4)) + (((((2 * params_l) + 32) - 1) / 32) * 4)) + (((((2 * params_l) + 32) - 1) / 32) * 4)) + (ecAddMulA_deep ((((2 * params_l) + 32) - 1) / 32) 3 state_deep 2 [((((2 * params_l) + 32) - 1) / 32), ((((((2 * params_l) + 32) - 1) / 32) / 2) + 1)])) ≤ (bignStart_keep params_l (some bignVerify_deep))) ∧
    (((((0 + (state_keep * 1)) + ((2 * ((((2 * params_l) + 32) - 1) / 32)) * 4)) + (((((2 * params_l) + 32) - 1) / 32) * 4)) + (((((2 * params_l) + 32) - 1) / 32) * 4)) ≤ (bignStart_keep params_l (some bignVerify_deep))) := by
  simp only [beltCompr_deep, beltHash_keep, bignStart_keep, bignVerify_deep, ecAddMulA_deep, ecCreateGroup_deep, ecpIsOnA_deep, ecpCreateJ_deep_eq, ← Nat.add_max_add_left, ← Nat.add_max_add_right, Std.le_max, Nat.max_le] at *
  omega

/-- src/math/ec2.c : ec2DblALD
  [call ec->f->sqr]
  [carve] -/
theorem use_le_deep_ec2DblALD (ec_f_deep : Nat) (ec_f_n : Nat)   :
    (((0 + (ec_f_n * 4)) + ec_f_deep) ≤ (ec2DblALD_deep ec_f_n ec_f_deep)) ∧
    ((0 + (ec_f_n * 4)) ≤ (ec2DblALD_deep ec_f_n ec_f_deep)) := by
  simp only [ec2DblALD_deep, ← Nat.add_max_add_left, ← Nat.add_max_add_right, Std.le_max, Nat.max_le]
  omega

/-- src/math/ec2.c : ec2SubALD
  [call ec2AddALD]
  [carve] -/
theorem use_le_deep_ec2SubALD (ec_f_deep : Nat) (ec_f_n : Nat)   :
    (((0 + ((2 * ec_f_n) * 4)) + (ec2AddALD_deep ec_f_n ec_f_deep)) ≤ (ec2SubALD_deep ec_f_n ec_f_deep)) ∧
    ((0 + ((2 * ec_f_n) * 4)) ≤ (ec2SubALD_deep ec_f_n ec_f_deep)) := by
  simp only [ec2SubALD_deep, ← Nat.add_max_add_left, ← Nat.add_max_add_right, Std.le_max, Nat.max_le]
  omega

/-- src/math/ecp.c : ecpAddJ
  [call ec->f->sqr]
  [call ecpDblJ]
  [carve] -/
theorem use_le_deep_ecpAddJ (ec_f_deep : Nat) (ec_f_n : Nat)   :
    ((((((0 + (ec_f_n * 4)) + (ec_f_n * 4)) + (ec_f_n * 4)) + (ec_f_n * 4)) + ec_f_deep) ≤ (ecpAddJ_deep ec_f_n ec_f_deep)) ∧
    ((((((0 + (ec_f_n * 4)) + (ec_f_n * 4)) + (ec_f_n * 4)) + (ec_f_n * 4)) + (ecpDblJ_deep ec_f_n ec_f_deep)) ≤ (ecpAddJ_deep ec_f_n ec_f_deep)) ∧
    (((((0 + (ec_f_n * 4)) + (ec_f_n * 4)) + (ec_f_n * 4)) + (ec_f_n * 4)) ≤ (ecpAddJ_deep ec_f_n ec_f_deep)) := by
  simp only [ecpAddJ_deep, ← Nat.add_max_add_left, ← Nat.add_max_add_right, Std.le_max, Nat.max_le]
  omega

/-- src/math/ecp.c : ecpIsValid
  [call gfpIsValid]
  [call ec->f->sqr]
  [carve] -/
theorem use_le_deep_ecpIsValid (ec_f_deep : Nat) (ec_f_n : Nat)   :
    (((((0 + (ec_f_n * 4)) + (ec_f_n * 4)) + (ec_f_n * 4)) + (gfpIsValid_deep ec_f_n)) ≤ (ecpIsValid_deep ec_f_n ec_f_deep)) ∧
    (((((0 + (ec_f_n * 4)) + (ec_f_n * 4)) + (ec_f_n * 4)) + ec_f_deep) ≤ (ecpIsValid_deep ec_f_n ec_f_deep)) ∧
    ((((0 + (ec_f_n * 4)) + (ec_f_n * 4)) + (ec_f_n * 4)) ≤ (ecpIsValid_deep ec_f_n ec_f_deep)) := by
  simp only [ecpIsValid_deep, prngCOMBO_keep, ← Nat.add_max_add_left, ← Nat.add_max_add_right, Std.le_max, Nat.max_le]
  omega

/-- src/math/ecp.c : ecpTplJ
  [call ec->f->sqr]
  [carve] -/
theorem use_le_deep_ecpTplJ (ec_f_deep : Nat) (ec_f_n : Nat)   :
    ((((((((((0 + (ec_f_n * 4)) + (ec_f_n * 4)) + (ec_f_n * 4)) + (ec_f_n * 4)) + (ec_f_n * 4)) + (ec_f_n * 4)) + (ec_f_n * 4)) + (ec_f_n * 4)) + ec_f_deep) ≤ (ecpTplJ_deep ec_f_n ec_f_deep)) ∧
    (((((((((0 + (ec_f_n * 4)) + (ec_f_n * 4)) + (ec_f_n * 4)) + (ec_f_n * 4)) + (ec_f_n * 4)) + (ec_f_n * 4)) + (ec_f_n * 4)) + (ec_f_n * 4)) ≤ (ecpTplJ_deep ec_f_n ec_f_deep)) := by
  simp only [ecpTplJ_deep, ← Nat.add_max_add_left, ← Nat.add_max_add_right, Std.le_max, Nat.max_le]
  omega

/-- src/math/gf2.c : gf2SqrPentanomial
  [call ppSqr]
  [carve] -/
theorem use_le_deep_gf2SqrPentanomial (f_n : Nat)   :
    (((0 + ((2 * f_n) * 4)) + (ppSqr_deep f_n)) ≤ (gf2SqrPentanomial_deep f_n)) ∧
    ((0 + ((2 * f_n) * 4)) ≤ (gf2SqrPentanomial_deep f_n)) := by
  simp only [gf2SqrPentanomial_deep, ← Nat.add_max_add_left, ← Nat.add_max_add_right, Std.le_max, Nat.max_le]
  omega

/- OPEN (not a theorem): pfokDH/MTI/PubkeyCalc call qrPower with an exponent of W_OF_B(r) words while the blob is sized for W_OF_B(l): needs the parameter-domain fact r <= l (and monotonicity of qrPower_deep in m), which the model does not have; pfokParamsVal: goal too large
/ -- src/crypto/pfok.c : pfokParamsVal
  [call priIsPrime]
  [call zmMontCreate]
  [call qr->from]
  [call qrPower]
  [carve] - /
open_obligation use_le_deep_pfokParamsVal (params_l : Nat) (qr_deep : Nat) (h_0 : qr_deep ≤ (zmMontCreate_deep ((params_l + 7) / 8)))  :
    (((((0 + ((((params_l + 32) - 1) / 32) * 4)) + ((((params_l + 32) - 1) / 32) * 4)) + ((zmMontCreate_keep ((params_l + 7) / 8)) * 1)) + (priIsPrime_deep (((params_l + 32) - 1) / 32))) ≤ ((((2 * (((params_l + 32) - 1) / 32)) * 4) + (zmMontCreate_keep ((params_l + 7) / 8))) + (max (priIsPrime_deep (((params_l + 32) - 1) / 32)) (max (zmMontCreate_deep ((params_l + 7) / 8)) (qrPower_deep (((params_l + 32) - 1) / 32) (((params_l + 32) - 1) / 32) (zmMontCreate_deep ((params_l + 7) / 8))))))) ∧
    (((((0 + ((((params_l + 32) - 1) / 32) * 4)) + ((((params_l + 32) - 1) / 32) * 4)) + ((zmMontCreate_keep ((params_l + 7) / 8)) * 1)) + (zmMontCreate_deep ((params_l + 7) / 8))) ≤ ((((2 * (((params_l + 32) - 1) / 32)) * 4) + (zmMontCreate_keep ((params_l + 7) / 8))) + (max (priIsPrime_deep (((params_l + 32) - 1) / 32)) (max (zmMontCreate_deep ((params_l + 7) / 8)) (qrPower_deep (((params_l + 32) - 1) / 32) (((params_l + 32) - 1) / 32) (zmMontCreate_deep ((params_l + 7) / 8))))))) ∧
    (((((0 + ((((params_l + 32) - 1) / 32) * 4)) + ((((params_l + 32) - 1) / 32) * 4)) + ((zmMontCreate_keep ((params_l + 7) / 8)) * 1)) + qr_deep) ≤ ((((2 * (((params_l + 32) - 1) / 32)) * 4) + (zmMontCreate_keep ((params_l + 7) / 8))) + (max (priIsPrime_deep (((params_l + 32) - 1) / 32)) (max (zmMontCreate_deep ((params_l + 7) / 8)) (qrPower_deep (((params_l + 32) - 1) / 32) (((params_l + 32) - 1) / 32) (zmMontCreate_deep ((params_l + 7) / 8))))))) ∧
    (((((0 + ((((params_l + 32) - 1) / 32) * 4)) + ((((params_l + 32) - 1) / 32) * 4)) + ((zmMontCreate_keep ((params_l + 7) / 8)) * 1)) + (qrPower_deep (((((params_l + 7) / 8) + 4) - 1) / 4) ((((params_l - 1) + 32) - 1) / 32) qr_deep)) ≤ ((((2 * (((params_l + 32) - 1) / 32)) * 4) + (zmMontCreate_keep ((params_l + 7) / 8))) + (max (priIsPrime_deep (((params_l + 32) - 1) / 32)) (max (zmMontCreate_deep ((params_l + 7) / 8)) (qrPower_deep (((params_l + 32) - 1) / 32) (((params_l + 32) - 1) / 32) (zmMontCreate_deep ((params_l + 7) / 8))))))) ∧
    ((((0 + ((((params_l + 32) - 1) / 32) * 4)) + ((((params_l + 32) - 1) / 32) * 4)) + ((zmMontCreate_keep ((params_l + 7) / 8)) * 1)) ≤ ((((2 * (((params_l + 32) - 1) / 32)) * 4) + (zmMontCreate_keep ((params_l + 7) / 8))) + (max (priIsPrime_deep (((params_l + 32) - 1) / 32)) (max (zmMontCreate_deep ((params_l + 7) / 8)) (qrPower_deep (((params_l + 32) - 1) / 32) (((params_l + 32) - 1) / 32) (zmMontCreate_deep ((params_l + 7) / 8)))))))
-/

/- OPEN (not a theorem): l = ppDeg(mod) is read from data: unconstrained in the model, the obligation needs l <= n * B_PER_W
/ -- src/math/pp/pp_etc.c : ppMinPolyMod
  [call ppMulMod]
  [call ppMinPoly]
  [carve] - /
open_obligation use_le_deep_ppMinPolyMod (l_u1 : Nat) (n : Nat)   :
    ((((0 + (n * 4)) + ((2 * n) * 4)) + (ppMulMod_deep n)) ≤ (ppMinPolyMod_deep n)) ∧
    ((((0 + (n * 4)) + ((2 * n) * 4)) + (ppMinPoly_deep l_u1)) ≤ (ppMinPolyMod_deep n)) ∧
    (((0 + (n * 4)) + ((2 * n) * 4)) ≤ (ppMinPolyMod_deep n))
-/

/-- src/math/pp/pp_mod.c : ppMulMod
  [call ppMul]
  [call ppMod]
  [carve] -/
theorem use_le_deep_ppMulMod (n : Nat)   :
    (((0 + ((2 * n) * 4)) + (ppMul_deep n n)) ≤ (ppMulMod_deep n)) ∧
    (((0 + ((2 * n) * 4)) + (ppMod_deep (2 * n) n)) ≤ (ppMulMod_deep n)) ∧
    ((0 + ((2 * n) * 4)) ≤ (ppMulMod_deep n)) := by
  simp only [ppMulMod_deep, ppMul1_deep, ppMul2_deep, ppMul3_deep, ppMul4_deep, ppMul5_deep, ppMul6_deep, ppMul7_deep, ppMul8_deep, ppMul9_deep, ← Nat.add_max_add_left, ← Nat.add_max_add_right, Std.le_max, Nat.max_le]
  omega

/-- src/math/pri.c : priNextPrimeW
  [call priIsPrimeW] -/
theorem use_le_deep_priNextPrimeW    :
    ((0 + priIsPrimeW_deep) ≤ priNextPrimeW_deep) := by
  simp only [priNextPrimeW_deep, priIsPrimeW_deep, zzPowerModW_deep, ← Nat.add_max_add_left, ← Nat.add_max_add_right, Std.le_max, Nat.max_le]
  omega

/-- src/math/zm.c : zmDivMont
  [call zmInvMont]
  [call zmMulMont]
  [carve] -/
theorem use_le_deep_zmDivMont (r_n : Nat)   :
    (((0 + (r_n * 4)) + (zmInvMont_deep r_n)) ≤ (zmDivMont_deep r_n)) ∧
    (((0 + (r_n * 4)) + (zmMulMont_deep r_n)) ≤ (zmDivMont_deep r_n)) ∧
    ((0 + (r_n * 4)) ≤ (zmDivMont_deep r_n)) := by
  simp only [zmDivMont_deep, ← Nat.add_max_add_left, ← Nat.add_max_add_right, Std.le_max, Nat.max_le]
  omega

/-- src/math/zm.c : zmMulBarr
  [call zzMul]
  [call zzRedBarr]
  [carve] -/
theorem use_le_deep_zmMulBarr (r_n : Nat)   :
    (((0 + ((2 * r_n) * 4)) + (zzMul_deep r_n r_n)) ≤ (zmMulBarr_deep r_n)) ∧
    (((0 + ((2 * r_n) * 4)) + (zzRedBarr_deep r_n)) ≤ (zmMulBarr_deep r_n)) ∧
    ((0 + ((2 * r_n) * 4)) ≤ (zmMulBarr_deep r_n)) := by
  simp only [zmMulBarr_deep, ← Nat.add_max_add_left, ← Nat.add_max_add_right, Std.le_max, Nat.max_le]
  omega

/-- src/math/zm.c : zmSqrMont2
  [call zzSqr]
  [call zzRedMont]
  [carve] -/
theorem use_le_deep_zmSqrMont2 (r_n : Nat)   :
    (((0 + ((2 * r_n) * 4)) + (zzSqr_deep r_n)) ≤ (zmSqrMont2_deep r_n)) ∧
    (((0 + ((2 * r_n) * 4)) + (zzRedMont_deep r_n)) ≤ (zmSqrMont2_deep r_n)) ∧
    ((0 + ((2 * r_n) * 4)) ≤ (zmSqrMont2_deep r_n)) := by
  simp only [zmSqrMont2_deep, ← Nat.add_max_add_left, ← Nat.add_max_add_right, Std.le_max, Nat.max_le]
  omega

/-- src/math/zz/zz_gcd.c : zzIsCoprime
  [call zzGCD]
  [carve] -/
theorem use_le_deep_zzIsCoprime (m : Nat) (n : Nat)   :
    (((0 + ((if (n < m) then n else m) * 4)) + (zzGCD_deep n m)) ≤ (zzIsCoprime_deep n m)) ∧
    ((0 + ((if (n < m) then n else m) * 4)) ≤ (zzIsCoprime_deep n m)) := by
  simp only [zzIsCoprime_deep, ← Nat.add_max_add_left, ← Nat.add_max_add_right, Std.le_max, Nat.max_le]
  omega

/-- src/math/zz/zz_mod.c : zzSqrMod
  [call zzSqr]
  [call zzMod]
  [carve] -/
theorem use_le_deep_zzSqrMod (n : Nat)   :
    (((0 + ((2 * n) * 4)) + (zzSqr_deep n)) ≤ (zzSqrMod_deep n)) ∧
    (((0 + ((2 * n) * 4)) + (zzMod_deep (2 * n) n)) ≤ (zzSqrMod_deep n)) ∧
    ((0 + ((2 * n) * 4)) ≤ (zzSqrMod_deep n)) := by
  simp only [zzSqrMod_deep, ← Nat.add_max_add_left, ← Nat.add_max_add_right, Std.le_max, Nat.max_le]
  omega

end Bee2V.Gen.C07.W32.Use
