-- GENERATED by xlate/x_c09obl.py and xlate/x_c09spec.py — do not edit.  C09 obligations:
--  alloc_<f>   : allocation failure is handled on every path (checker `allocFailSafe`, sound by
--               `Bee2V.C09.allocFailSafe_sound`), for EVERY err_t function of src/crypto, src/core;
--  sticky_<f>  : a recorded error is never overwritten and nothing is written after it (`errorSticky`, sound by
--               `Bee2V.C09.errorSticky_sound`), for EVERY err_t function;
--  release_<f> : no output is left written-and-not-zeroised on a non-OK return (`releaseSafe`);
--  contract_<f>: the argument-check cascade of the code agrees with the header's \\expect lists
--               on the scalar arguments (all pointers valid).
import Bee2V.C15.Cfg
import Bee2V.Gen.CfgAll
import Bee2V.Gen.C09Checks
import Bee2V.C09.Spec
import Bee2V.C09.Cascade
set_option linter.unusedVariables false
namespace Bee2V.Gen.C09Obl
open Bee2V.C15 Bee2V.Gen.CfgAll Bee2V.Gen.C09Checks
open Bee2V.C09 (firstViol cascade_cons ite_ite_same firstViol_cons firstViol_nil ite_not_and firstViol_one_some firstViol_one_none)

theorem alloc_rngTRNGRead : allocFailSafe cfg_rngTRNGRead = true := by decide +kernel
theorem alloc_rngTRNG2Read : allocFailSafe cfg_rngTRNG2Read = true := by decide +kernel
theorem alloc_rngSysRead : allocFailSafe cfg_rngSysRead = true := by decide +kernel
theorem alloc_rngSys2Read : allocFailSafe cfg_rngSys2Read = true := by decide +kernel
theorem alloc_rngTimerRead : allocFailSafe cfg_rngTimerRead = true := by decide +kernel
theorem alloc_rngESRead : allocFailSafe cfg_rngESRead = true := by decide +kernel
theorem alloc_rngESTest : allocFailSafe cfg_rngESTest = true := by decide +kernel
theorem alloc_rngESHealth2 : allocFailSafe cfg_rngESHealth2 = true := by decide +kernel
theorem alloc_rngESHealth : allocFailSafe cfg_rngESHealth = true := by decide +kernel
theorem alloc_rngCreate : allocFailSafe cfg_rngCreate = true := by decide +kernel
theorem alloc_bakeKDF : allocFailSafe cfg_bakeKDF = true := by decide +kernel
theorem alloc_bakeSWU : allocFailSafe cfg_bakeSWU = true := by decide +kernel
theorem alloc_bakeBMQVStart : allocFailSafe cfg_bakeBMQVStart = true := by decide +kernel
theorem alloc_bakeBMQVStep2 : allocFailSafe cfg_bakeBMQVStep2 = true := by decide +kernel
theorem alloc_bakeBMQVStep3 : allocFailSafe cfg_bakeBMQVStep3 = true := by decide +kernel
theorem alloc_bakeBMQVStep4 : allocFailSafe cfg_bakeBMQVStep4 = true := by decide +kernel
theorem alloc_bakeBMQVStep5 : allocFailSafe cfg_bakeBMQVStep5 = true := by decide +kernel
theorem alloc_bakeBMQVStepG : allocFailSafe cfg_bakeBMQVStepG = true := by decide +kernel
theorem alloc_bakeBMQVRunB : allocFailSafe cfg_bakeBMQVRunB = true := by decide +kernel
theorem alloc_bakeBMQVRunA : allocFailSafe cfg_bakeBMQVRunA = true := by decide +kernel
theorem alloc_bakeBSTSStart : allocFailSafe cfg_bakeBSTSStart = true := by decide +kernel
theorem alloc_bakeBSTSStep2 : allocFailSafe cfg_bakeBSTSStep2 = true := by decide +kernel
theorem alloc_bakeBSTSStep3 : allocFailSafe cfg_bakeBSTSStep3 = true := by decide +kernel
theorem alloc_bakeBSTSStep4 : allocFailSafe cfg_bakeBSTSStep4 = true := by decide +kernel
theorem alloc_bakeBSTSStep5 : allocFailSafe cfg_bakeBSTSStep5 = true := by decide +kernel
theorem alloc_bakeBSTSStepG : allocFailSafe cfg_bakeBSTSStepG = true := by decide +kernel
theorem alloc_bakeBSTSRunB : allocFailSafe cfg_bakeBSTSRunB = true := by decide +kernel
theorem alloc_bakeBSTSRunA : allocFailSafe cfg_bakeBSTSRunA = true := by decide +kernel
theorem alloc_bakeBPACEStart : allocFailSafe cfg_bakeBPACEStart = true := by decide +kernel
theorem alloc_bakeBPACEStep2 : allocFailSafe cfg_bakeBPACEStep2 = true := by decide +kernel
theorem alloc_bakeBPACEStep3 : allocFailSafe cfg_bakeBPACEStep3 = true := by decide +kernel
theorem alloc_bakeBPACEStep4 : allocFailSafe cfg_bakeBPACEStep4 = true := by decide +kernel
theorem alloc_bakeBPACEStep5 : allocFailSafe cfg_bakeBPACEStep5 = true := by decide +kernel
theorem alloc_bakeBPACEStep6 : allocFailSafe cfg_bakeBPACEStep6 = true := by decide +kernel
theorem alloc_bakeBPACEStepG : allocFailSafe cfg_bakeBPACEStepG = true := by decide +kernel
theorem alloc_bakeBPACERunB : allocFailSafe cfg_bakeBPACERunB = true := by decide +kernel
theorem alloc_bakeBPACERunA : allocFailSafe cfg_bakeBPACERunA = true := by decide +kernel
theorem alloc_bashHash : allocFailSafe cfg_bashHash = true := by decide +kernel
theorem alloc_belsStdM : allocFailSafe cfg_belsStdM = true := by decide +kernel
theorem alloc_belsValM : allocFailSafe cfg_belsValM = true := by decide +kernel
theorem alloc_belsGenM0 : allocFailSafe cfg_belsGenM0 = true := by decide +kernel
theorem alloc_belsGenMi : allocFailSafe cfg_belsGenMi = true := by decide +kernel
theorem alloc_belsGenMid : allocFailSafe cfg_belsGenMid = true := by decide +kernel
theorem alloc_belsShare : allocFailSafe cfg_belsShare = true := by decide +kernel
theorem alloc_belsShare2 : allocFailSafe cfg_belsShare2 = true := by decide +kernel
theorem alloc_belsShare3 : allocFailSafe cfg_belsShare3 = true := by decide +kernel
theorem alloc_belsRecover : allocFailSafe cfg_belsRecover = true := by decide +kernel
theorem alloc_belsRecover2 : allocFailSafe cfg_belsRecover2 = true := by decide +kernel
theorem alloc_beltBDEEncr : allocFailSafe cfg_beltBDEEncr = true := by decide +kernel
theorem alloc_beltBDEDecr : allocFailSafe cfg_beltBDEDecr = true := by decide +kernel
theorem alloc_beltCBCEncr : allocFailSafe cfg_beltCBCEncr = true := by decide +kernel
theorem alloc_beltCBCDecr : allocFailSafe cfg_beltCBCDecr = true := by decide +kernel
theorem alloc_beltCFBEncr : allocFailSafe cfg_beltCFBEncr = true := by decide +kernel
theorem alloc_beltCFBDecr : allocFailSafe cfg_beltCFBDecr = true := by decide +kernel
theorem alloc_beltCHEWrap : allocFailSafe cfg_beltCHEWrap = true := by decide +kernel
theorem alloc_beltCHEUnwrap : allocFailSafe cfg_beltCHEUnwrap = true := by decide +kernel
theorem alloc_beltCTR : allocFailSafe cfg_beltCTR = true := by decide +kernel
theorem alloc_beltDWPWrap : allocFailSafe cfg_beltDWPWrap = true := by decide +kernel
theorem alloc_beltDWPUnwrap : allocFailSafe cfg_beltDWPUnwrap = true := by decide +kernel
theorem alloc_beltECBEncr : allocFailSafe cfg_beltECBEncr = true := by decide +kernel
theorem alloc_beltECBDecr : allocFailSafe cfg_beltECBDecr = true := by decide +kernel
theorem alloc_beltFMTEncr : allocFailSafe cfg_beltFMTEncr = true := by decide +kernel
theorem alloc_beltFMTDecr : allocFailSafe cfg_beltFMTDecr = true := by decide +kernel
theorem alloc_beltHash : allocFailSafe cfg_beltHash = true := by decide +kernel
theorem alloc_beltHMAC : allocFailSafe cfg_beltHMAC = true := by decide +kernel
theorem alloc_beltKRP : allocFailSafe cfg_beltKRP = true := by decide +kernel
theorem alloc_beltKWPWrap : allocFailSafe cfg_beltKWPWrap = true := by decide +kernel
theorem alloc_beltKWPUnwrap : allocFailSafe cfg_beltKWPUnwrap = true := by decide +kernel
theorem alloc_beltMAC : allocFailSafe cfg_beltMAC = true := by decide +kernel
theorem alloc_beltPBKDF2 : allocFailSafe cfg_beltPBKDF2 = true := by decide +kernel
theorem alloc_beltSDEEncr : allocFailSafe cfg_beltSDEEncr = true := by decide +kernel
theorem alloc_beltSDEDecr : allocFailSafe cfg_beltSDEDecr = true := by decide +kernel
theorem alloc_bignIdExtract : allocFailSafe cfg_bignIdExtract = true := by decide +kernel
theorem alloc_bignIdSign : allocFailSafe cfg_bignIdSign = true := by decide +kernel
theorem alloc_bignIdSign2 : allocFailSafe cfg_bignIdSign2 = true := by decide +kernel
theorem alloc_bignIdVerify : allocFailSafe cfg_bignIdVerify = true := by decide +kernel
theorem alloc_bignKeyWrap : allocFailSafe cfg_bignKeyWrap = true := by decide +kernel
theorem alloc_bignKeyUnwrap : allocFailSafe cfg_bignKeyUnwrap = true := by decide +kernel
theorem alloc_bignStart : allocFailSafe cfg_bignStart = true := by decide +kernel
theorem alloc_bignOidToDER : allocFailSafe cfg_bignOidToDER = true := by decide +kernel
theorem alloc_bignKeypairGen : allocFailSafe cfg_bignKeypairGen = true := by decide +kernel
theorem alloc_bignKeypairVal : allocFailSafe cfg_bignKeypairVal = true := by decide +kernel
theorem alloc_bignPubkeyVal : allocFailSafe cfg_bignPubkeyVal = true := by decide +kernel
theorem alloc_bignPubkeyCalc : allocFailSafe cfg_bignPubkeyCalc = true := by decide +kernel
theorem alloc_bignDH : allocFailSafe cfg_bignDH = true := by decide +kernel
theorem alloc_bignParamsStd : allocFailSafe cfg_bignParamsStd = true := by decide +kernel
theorem alloc_bignParamsVal : allocFailSafe cfg_bignParamsVal = true := by decide +kernel
theorem alloc_bignParamsGen : allocFailSafe cfg_bignParamsGen = true := by decide +kernel
theorem alloc_bignParamsEnc : allocFailSafe cfg_bignParamsEnc = true := by decide +kernel
theorem alloc_bignParamsDec : allocFailSafe cfg_bignParamsDec = true := by decide +kernel
theorem alloc_bignSign : allocFailSafe cfg_bignSign = true := by decide +kernel
theorem alloc_bignSign2 : allocFailSafe cfg_bignSign2 = true := by decide +kernel
theorem alloc_bignVerify : allocFailSafe cfg_bignVerify = true := by decide +kernel
theorem alloc_bign96ParamsStd : allocFailSafe cfg_bign96ParamsStd = true := by decide +kernel
theorem alloc_bign96Start : allocFailSafe cfg_bign96Start = true := by decide +kernel
theorem alloc_bign96ParamsVal : allocFailSafe cfg_bign96ParamsVal = true := by decide +kernel
theorem alloc_bign96KeypairGen : allocFailSafe cfg_bign96KeypairGen = true := by decide +kernel
theorem alloc_bign96KeypairVal : allocFailSafe cfg_bign96KeypairVal = true := by decide +kernel
theorem alloc_bign96PubkeyVal : allocFailSafe cfg_bign96PubkeyVal = true := by decide +kernel
theorem alloc_bign96PubkeyCalc : allocFailSafe cfg_bign96PubkeyCalc = true := by decide +kernel
theorem alloc_bign96Sign : allocFailSafe cfg_bign96Sign = true := by decide +kernel
theorem alloc_bign96Sign2 : allocFailSafe cfg_bign96Sign2 = true := by decide +kernel
theorem alloc_bign96Verify : allocFailSafe cfg_bign96Verify = true := by decide +kernel
theorem alloc_botpHOTPRand : allocFailSafe cfg_botpHOTPRand = true := by decide +kernel
theorem alloc_botpHOTPVerify : allocFailSafe cfg_botpHOTPVerify = true := by decide +kernel
theorem alloc_botpTOTPRand : allocFailSafe cfg_botpTOTPRand = true := by decide +kernel
theorem alloc_botpTOTPVerify : allocFailSafe cfg_botpTOTPVerify = true := by decide +kernel
theorem alloc_botpOCRARand : allocFailSafe cfg_botpOCRARand = true := by decide +kernel
theorem alloc_botpOCRAVerify : allocFailSafe cfg_botpOCRAVerify = true := by decide +kernel
theorem alloc_bpkiPrivkeyWrap : allocFailSafe cfg_bpkiPrivkeyWrap = true := by decide +kernel
theorem alloc_bpkiPrivkeyUnwrap : allocFailSafe cfg_bpkiPrivkeyUnwrap = true := by decide +kernel
theorem alloc_bpkiShareWrap : allocFailSafe cfg_bpkiShareWrap = true := by decide +kernel
theorem alloc_bpkiShareUnwrap : allocFailSafe cfg_bpkiShareUnwrap = true := by decide +kernel
theorem alloc_bpkiCSRRewrap : allocFailSafe cfg_bpkiCSRRewrap = true := by decide +kernel
theorem alloc_bpkiCSRUnwrap : allocFailSafe cfg_bpkiCSRUnwrap = true := by decide +kernel
theorem alloc_brngCTRRand : allocFailSafe cfg_brngCTRRand = true := by decide +kernel
theorem alloc_brngHMACRand : allocFailSafe cfg_brngHMACRand = true := by decide +kernel
theorem alloc_btokBAuthTStart : allocFailSafe cfg_btokBAuthTStart = true := by decide +kernel
theorem alloc_btokBAuthCTStart : allocFailSafe cfg_btokBAuthCTStart = true := by decide +kernel
theorem alloc_btokBAuthCTStep2 : allocFailSafe cfg_btokBAuthCTStep2 = true := by decide +kernel
theorem alloc_btokBAuthTStep3 : allocFailSafe cfg_btokBAuthTStep3 = true := by decide +kernel
theorem alloc_btokBAuthCTStep4 : allocFailSafe cfg_btokBAuthCTStep4 = true := by decide +kernel
theorem alloc_btokBAuthTStep5 : allocFailSafe cfg_btokBAuthTStep5 = true := by decide +kernel
theorem alloc_btokBAuthCTStepG : allocFailSafe cfg_btokBAuthCTStepG = true := by decide +kernel
theorem alloc_btokBAuthTStepG : allocFailSafe cfg_btokBAuthTStepG = true := by decide +kernel
theorem alloc_btokParamsStd : allocFailSafe cfg_btokParamsStd = true := by decide +kernel
theorem alloc_btokPubkeyCalc : allocFailSafe cfg_btokPubkeyCalc = true := by decide +kernel
theorem alloc_btokPubkeyVal : allocFailSafe cfg_btokPubkeyVal = true := by decide +kernel
theorem alloc_btokKeypairVal : allocFailSafe cfg_btokKeypairVal = true := by decide +kernel
theorem alloc_btokSign : allocFailSafe cfg_btokSign = true := by decide +kernel
theorem alloc_btokVerify : allocFailSafe cfg_btokVerify = true := by decide +kernel
theorem alloc_btokCVCCheck : allocFailSafe cfg_btokCVCCheck = true := by decide +kernel
theorem alloc_btokCVCCheck2 : allocFailSafe cfg_btokCVCCheck2 = true := by decide +kernel
theorem alloc_btokCVCWrap : allocFailSafe cfg_btokCVCWrap = true := by decide +kernel
theorem alloc_btokCVCUnwrap : allocFailSafe cfg_btokCVCUnwrap = true := by decide +kernel
theorem alloc_btokCVCIss : allocFailSafe cfg_btokCVCIss = true := by decide +kernel
theorem alloc_btokCVCVal : allocFailSafe cfg_btokCVCVal = true := by decide +kernel
theorem alloc_btokCVCVal2 : allocFailSafe cfg_btokCVCVal2 = true := by decide +kernel
theorem alloc_btokCVCMatch : allocFailSafe cfg_btokCVCMatch = true := by decide +kernel
theorem alloc_btokSMCmdWrap : allocFailSafe cfg_btokSMCmdWrap = true := by decide +kernel
theorem alloc_btokSMCmdUnwrap : allocFailSafe cfg_btokSMCmdUnwrap = true := by decide +kernel
theorem alloc_btokSMRespWrap : allocFailSafe cfg_btokSMRespWrap = true := by decide +kernel
theorem alloc_btokSMRespUnwrap : allocFailSafe cfg_btokSMRespUnwrap = true := by decide +kernel
theorem alloc_dstuParamsStd : allocFailSafe cfg_dstuParamsStd = true := by decide +kernel
theorem alloc_dstuEcCreate : allocFailSafe cfg_dstuEcCreate = true := by decide +kernel
theorem alloc_dstuParamsVal : allocFailSafe cfg_dstuParamsVal = true := by decide +kernel
theorem alloc_dstuPointGen : allocFailSafe cfg_dstuPointGen = true := by decide +kernel
theorem alloc_dstuPointVal : allocFailSafe cfg_dstuPointVal = true := by decide +kernel
theorem alloc_dstuPointCompress : allocFailSafe cfg_dstuPointCompress = true := by decide +kernel
theorem alloc_dstuPointRecover : allocFailSafe cfg_dstuPointRecover = true := by decide +kernel
theorem alloc_dstuKeypairGen : allocFailSafe cfg_dstuKeypairGen = true := by decide +kernel
theorem alloc_dstuSign : allocFailSafe cfg_dstuSign = true := by decide +kernel
theorem alloc_dstuVerify : allocFailSafe cfg_dstuVerify = true := by decide +kernel
theorem alloc_g12sParamsStd : allocFailSafe cfg_g12sParamsStd = true := by decide +kernel
theorem alloc_g12sEcCreate : allocFailSafe cfg_g12sEcCreate = true := by decide +kernel
theorem alloc_g12sParamsVal : allocFailSafe cfg_g12sParamsVal = true := by decide +kernel
theorem alloc_g12sKeypairGen : allocFailSafe cfg_g12sKeypairGen = true := by decide +kernel
theorem alloc_g12sSign : allocFailSafe cfg_g12sSign = true := by decide +kernel
theorem alloc_g12sVerify : allocFailSafe cfg_g12sVerify = true := by decide +kernel
theorem alloc_pfokParamsStd : allocFailSafe cfg_pfokParamsStd = true := by decide +kernel
theorem alloc_pfokZiVal : allocFailSafe cfg_pfokZiVal = true := by decide +kernel
theorem alloc_pfokLiVal : allocFailSafe cfg_pfokLiVal = true := by decide +kernel
theorem alloc_pfokSeedVal : allocFailSafe cfg_pfokSeedVal = true := by decide +kernel
theorem alloc_pfokSeedAdj : allocFailSafe cfg_pfokSeedAdj = true := by decide +kernel
theorem alloc_pfokParamsGen : allocFailSafe cfg_pfokParamsGen = true := by decide +kernel
theorem alloc_pfokParamsVal : allocFailSafe cfg_pfokParamsVal = true := by decide +kernel
theorem alloc_pfokKeypairGen : allocFailSafe cfg_pfokKeypairGen = true := by decide +kernel
theorem alloc_pfokPubkeyVal : allocFailSafe cfg_pfokPubkeyVal = true := by decide +kernel
theorem alloc_pfokPubkeyCalc : allocFailSafe cfg_pfokPubkeyCalc = true := by decide +kernel
theorem alloc_pfokDH : allocFailSafe cfg_pfokDH = true := by decide +kernel
theorem alloc_pfokMTI : allocFailSafe cfg_pfokMTI = true := by decide +kernel
theorem alloc_stb99ParamsStd : allocFailSafe cfg_stb99ParamsStd = true := by decide +kernel
theorem alloc_stb99ZiVal : allocFailSafe cfg_stb99ZiVal = true := by decide +kernel
theorem alloc_stb99DiVal : allocFailSafe cfg_stb99DiVal = true := by decide +kernel
theorem alloc_stb99RiVal : allocFailSafe cfg_stb99RiVal = true := by decide +kernel
theorem alloc_stb99SeedVal : allocFailSafe cfg_stb99SeedVal = true := by decide +kernel
theorem alloc_stb99SeedAdj : allocFailSafe cfg_stb99SeedAdj = true := by decide +kernel
theorem alloc_stb99ParamsGen : allocFailSafe cfg_stb99ParamsGen = true := by decide +kernel
theorem alloc_stb99ParamsVal : allocFailSafe cfg_stb99ParamsVal = true := by decide +kernel

theorem sticky_rngTRNGRead : errorSticky cfg_rngTRNGRead = true := by decide +kernel
theorem sticky_rngTRNG2Read : errorSticky cfg_rngTRNG2Read = true := by decide +kernel
theorem sticky_rngSysRead : errorSticky cfg_rngSysRead = true := by decide +kernel
theorem sticky_rngSys2Read : errorSticky cfg_rngSys2Read = true := by decide +kernel
theorem sticky_rngTimerRead : errorSticky cfg_rngTimerRead = true := by decide +kernel
theorem sticky_rngESRead : errorSticky cfg_rngESRead = true := by decide +kernel
theorem sticky_rngESTest : errorSticky cfg_rngESTest = true := by decide +kernel
theorem sticky_rngESHealth2 : errorSticky cfg_rngESHealth2 = true := by decide +kernel
theorem sticky_rngESHealth : errorSticky cfg_rngESHealth = true := by decide +kernel
theorem sticky_rngCreate : errorSticky cfg_rngCreate = true := by decide +kernel
theorem sticky_bakeKDF : errorSticky cfg_bakeKDF = true := by decide +kernel
theorem sticky_bakeSWU : errorSticky cfg_bakeSWU = true := by decide +kernel
theorem sticky_bakeBMQVStart : errorSticky cfg_bakeBMQVStart = true := by decide +kernel
theorem sticky_bakeBMQVStep2 : errorSticky cfg_bakeBMQVStep2 = true := by decide +kernel
theorem sticky_bakeBMQVStep3 : errorSticky cfg_bakeBMQVStep3 = true := by decide +kernel
theorem sticky_bakeBMQVStep4 : errorSticky cfg_bakeBMQVStep4 = true := by decide +kernel
theorem sticky_bakeBMQVStep5 : errorSticky cfg_bakeBMQVStep5 = true := by decide +kernel
theorem sticky_bakeBMQVStepG : errorSticky cfg_bakeBMQVStepG = true := by decide +kernel
theorem sticky_bakeBMQVRunB : errorSticky cfg_bakeBMQVRunB = true := by decide +kernel
theorem sticky_bakeBMQVRunA : errorSticky cfg_bakeBMQVRunA = true := by decide +kernel
theorem sticky_bakeBSTSStart : errorSticky cfg_bakeBSTSStart = true := by decide +kernel
theorem sticky_bakeBSTSStep2 : errorSticky cfg_bakeBSTSStep2 = true := by decide +kernel
theorem sticky_bakeBSTSStep3 : errorSticky cfg_bakeBSTSStep3 = true := by decide +kernel
theorem sticky_bakeBSTSStep4 : errorSticky cfg_bakeBSTSStep4 = true := by decide +kernel
theorem sticky_bakeBSTSStep5 : errorSticky cfg_bakeBSTSStep5 = true := by decide +kernel
theorem sticky_bakeBSTSStepG : errorSticky cfg_bakeBSTSStepG = true := by decide +kernel
theorem sticky_bakeBSTSRunB : errorSticky cfg_bakeBSTSRunB = true := by decide +kernel
theorem sticky_bakeBSTSRunA : errorSticky cfg_bakeBSTSRunA = true := by decide +kernel
theorem sticky_bakeBPACEStart : errorSticky cfg_bakeBPACEStart = true := by decide +kernel
theorem sticky_bakeBPACEStep2 : errorSticky cfg_bakeBPACEStep2 = true := by decide +kernel
theorem sticky_bakeBPACEStep3 : errorSticky cfg_bakeBPACEStep3 = true := by decide +kernel
theorem sticky_bakeBPACEStep4 : errorSticky cfg_bakeBPACEStep4 = true := by decide +kernel
theorem sticky_bakeBPACEStep5 : errorSticky cfg_bakeBPACEStep5 = true := by decide +kernel
theorem sticky_bakeBPACEStep6 : errorSticky cfg_bakeBPACEStep6 = true := by decide +kernel
theorem sticky_bakeBPACEStepG : errorSticky cfg_bakeBPACEStepG = true := by decide +kernel
theorem sticky_bakeBPACERunB : errorSticky cfg_bakeBPACERunB = true := by decide +kernel
theorem sticky_bakeBPACERunA : errorSticky cfg_bakeBPACERunA = true := by decide +kernel
theorem sticky_bashHash : errorSticky cfg_bashHash = true := by decide +kernel
theorem sticky_belsStdM : errorSticky cfg_belsStdM = true := by decide +kernel
theorem sticky_belsValM : errorSticky cfg_belsValM = true := by decide +kernel
theorem sticky_belsGenM0 : errorSticky cfg_belsGenM0 = true := by decide +kernel
theorem sticky_belsGenMi : errorSticky cfg_belsGenMi = true := by decide +kernel
theorem sticky_belsGenMid : errorSticky cfg_belsGenMid = true := by decide +kernel
theorem sticky_belsShare : errorSticky cfg_belsShare = true := by decide +kernel
theorem sticky_belsShare2 : errorSticky cfg_belsShare2 = true := by decide +kernel
theorem sticky_belsShare3 : errorSticky cfg_belsShare3 = true := by decide +kernel
theorem sticky_belsRecover : errorSticky cfg_belsRecover = true := by decide +kernel
theorem sticky_belsRecover2 : errorSticky cfg_belsRecover2 = true := by decide +kernel
theorem sticky_beltBDEEncr : errorSticky cfg_beltBDEEncr = true := by decide +kernel
theorem sticky_beltBDEDecr : errorSticky cfg_beltBDEDecr = true := by decide +kernel
theorem sticky_beltCBCEncr : errorSticky cfg_beltCBCEncr = true := by decide +kernel
theorem sticky_beltCBCDecr : errorSticky cfg_beltCBCDecr = true := by decide +kernel
theorem sticky_beltCFBEncr : errorSticky cfg_beltCFBEncr = true := by decide +kernel
theorem sticky_beltCFBDecr : errorSticky cfg_beltCFBDecr = true := by decide +kernel
theorem sticky_beltCHEWrap : errorSticky cfg_beltCHEWrap = true := by decide +kernel
theorem sticky_beltCHEUnwrap : errorSticky cfg_beltCHEUnwrap = true := by decide +kernel
theorem sticky_beltCTR : errorSticky cfg_beltCTR = true := by decide +kernel
theorem sticky_beltDWPWrap : errorSticky cfg_beltDWPWrap = true := by decide +kernel
theorem sticky_beltDWPUnwrap : errorSticky cfg_beltDWPUnwrap = true := by decide +kernel
theorem sticky_beltECBEncr : errorSticky cfg_beltECBEncr = true := by decide +kernel
theorem sticky_beltECBDecr : errorSticky cfg_beltECBDecr = true := by decide +kernel
theorem sticky_beltFMTEncr : errorSticky cfg_beltFMTEncr = true := by decide +kernel
theorem sticky_beltFMTDecr : errorSticky cfg_beltFMTDecr = true := by decide +kernel
theorem sticky_beltHash : errorSticky cfg_beltHash = true := by decide +kernel
theorem sticky_beltHMAC : errorSticky cfg_beltHMAC = true := by decide +kernel
theorem sticky_beltKRP : errorSticky cfg_beltKRP = true := by decide +kernel
theorem sticky_beltKWPWrap : errorSticky cfg_beltKWPWrap = true := by decide +kernel
theorem sticky_beltKWPUnwrap : errorSticky cfg_beltKWPUnwrap = true := by decide +kernel
theorem sticky_beltMAC : errorSticky cfg_beltMAC = true := by decide +kernel
theorem sticky_beltPBKDF2 : errorSticky cfg_beltPBKDF2 = true := by decide +kernel
theorem sticky_beltSDEEncr : errorSticky cfg_beltSDEEncr = true := by decide +kernel
theorem sticky_beltSDEDecr : errorSticky cfg_beltSDEDecr = true := by decide +kernel
theorem sticky_bignIdExtract : errorSticky cfg_bignIdExtract = true := by decide +kernel
theorem sticky_bignIdSign : errorSticky cfg_bignIdSign = true := by decide +kernel
theorem sticky_bignIdSign2 : errorSticky cfg_bignIdSign2 = true := by decide +kernel
theorem sticky_bignIdVerify : errorSticky cfg_bignIdVerify = true := by decide +kernel
theorem sticky_bignKeyWrap : errorSticky cfg_bignKeyWrap = true := by decide +kernel
theorem sticky_bignKeyUnwrap : errorSticky cfg_bignKeyUnwrap = true := by decide +kernel
theorem sticky_bignStart : errorSticky cfg_bignStart = true := by decide +kernel
theorem sticky_bignOidToDER : errorSticky cfg_bignOidToDER = true := by decide +kernel
theorem sticky_bignKeypairGen : errorSticky cfg_bignKeypairGen = true := by decide +kernel
theorem sticky_bignKeypairVal : errorSticky cfg_bignKeypairVal = true := by decide +kernel
theorem sticky_bignPubkeyVal : errorSticky cfg_bignPubkeyVal = true := by decide +kernel
theorem sticky_bignPubkeyCalc : errorSticky cfg_bignPubkeyCalc = true := by decide +kernel
theorem sticky_bignDH : errorSticky cfg_bignDH = true := by decide +kernel
theorem sticky_bignParamsStd : errorSticky cfg_bignParamsStd = true := by decide +kernel
theorem sticky_bignParamsVal : errorSticky cfg_bignParamsVal = true := by decide +kernel
theorem sticky_bignParamsGen : errorSticky cfg_bignParamsGen = true := by decide +kernel
theorem sticky_bignParamsEnc : errorSticky cfg_bignParamsEnc = true := by decide +kernel
theorem sticky_bignParamsDec : errorSticky cfg_bignParamsDec = true := by decide +kernel
theorem sticky_bignSign : errorSticky cfg_bignSign = true := by decide +kernel
theorem sticky_bignSign2 : errorSticky cfg_bignSign2 = true := by decide +kernel
theorem sticky_bignVerify : errorSticky cfg_bignVerify = true := by decide +kernel
theorem sticky_bign96ParamsStd : errorSticky cfg_bign96ParamsStd = true := by decide +kernel
theorem sticky_bign96Start : errorSticky cfg_bign96Start = true := by decide +kernel
theorem sticky_bign96ParamsVal : errorSticky cfg_bign96ParamsVal = true := by decide +kernel
theorem sticky_bign96KeypairGen : errorSticky cfg_bign96KeypairGen = true := by decide +kernel
theorem sticky_bign96KeypairVal : errorSticky cfg_bign96KeypairVal = true := by decide +kernel
theorem sticky_bign96PubkeyVal : errorSticky cfg_bign96PubkeyVal = true := by decide +kernel
theorem sticky_bign96PubkeyCalc : errorSticky cfg_bign96PubkeyCalc = true := by decide +kernel
theorem sticky_bign96Sign : errorSticky cfg_bign96Sign = true := by decide +kernel
theorem sticky_bign96Sign2 : errorSticky cfg_bign96Sign2 = true := by decide +kernel
theorem sticky_bign96Verify : errorSticky cfg_bign96Verify = true := by decide +kernel
theorem sticky_botpHOTPRand : errorSticky cfg_botpHOTPRand = true := by decide +kernel
theorem sticky_botpHOTPVerify : errorSticky cfg_botpHOTPVerify = true := by decide +kernel
theorem sticky_botpTOTPRand : errorSticky cfg_botpTOTPRand = true := by decide +kernel
theorem sticky_botpTOTPVerify : errorSticky cfg_botpTOTPVerify = true := by decide +kernel
theorem sticky_botpOCRARand : errorSticky cfg_botpOCRARand = true := by decide +kernel
theorem sticky_botpOCRAVerify : errorSticky cfg_botpOCRAVerify = true := by decide +kernel
theorem sticky_bpkiPrivkeyWrap : errorSticky cfg_bpkiPrivkeyWrap = true := by decide +kernel
theorem sticky_bpkiPrivkeyUnwrap : errorSticky cfg_bpkiPrivkeyUnwrap = true := by decide +kernel
theorem sticky_bpkiShareWrap : errorSticky cfg_bpkiShareWrap = true := by decide +kernel
theorem sticky_bpkiShareUnwrap : errorSticky cfg_bpkiShareUnwrap = true := by decide +kernel
theorem sticky_bpkiCSRRewrap : errorSticky cfg_bpkiCSRRewrap = true := by decide +kernel
theorem sticky_bpkiCSRUnwrap : errorSticky cfg_bpkiCSRUnwrap = true := by decide +kernel
theorem sticky_brngCTRRand : errorSticky cfg_brngCTRRand = true := by decide +kernel
theorem sticky_brngHMACRand : errorSticky cfg_brngHMACRand = true := by decide +kernel
theorem sticky_btokBAuthTStart : errorSticky cfg_btokBAuthTStart = true := by decide +kernel
theorem sticky_btokBAuthCTStart : errorSticky cfg_btokBAuthCTStart = true := by decide +kernel
theorem sticky_btokBAuthCTStep2 : errorSticky cfg_btokBAuthCTStep2 = true := by decide +kernel
theorem sticky_btokBAuthTStep3 : errorSticky cfg_btokBAuthTStep3 = true := by decide +kernel
theorem sticky_btokBAuthCTStep4 : errorSticky cfg_btokBAuthCTStep4 = true := by decide +kernel
theorem sticky_btokBAuthTStep5 : errorSticky cfg_btokBAuthTStep5 = true := by decide +kernel
theorem sticky_btokBAuthCTStepG : errorSticky cfg_btokBAuthCTStepG = true := by decide +kernel
theorem sticky_btokBAuthTStepG : errorSticky cfg_btokBAuthTStepG = true := by decide +kernel
theorem sticky_btokParamsStd : errorSticky cfg_btokParamsStd = true := by decide +kernel
theorem sticky_btokPubkeyCalc : errorSticky cfg_btokPubkeyCalc = true := by decide +kernel
theorem sticky_btokPubkeyVal : errorSticky cfg_btokPubkeyVal = true := by decide +kernel
theorem sticky_btokKeypairVal : errorSticky cfg_btokKeypairVal = true := by decide +kernel
theorem sticky_btokSign : errorSticky cfg_btokSign = true := by decide +kernel
theorem sticky_btokVerify : errorSticky cfg_btokVerify = true := by decide +kernel
theorem sticky_btokCVCCheck : errorSticky cfg_btokCVCCheck = true := by decide +kernel
theorem sticky_btokCVCCheck2 : errorSticky cfg_btokCVCCheck2 = true := by decide +kernel
theorem sticky_btokCVCWrap : errorSticky cfg_btokCVCWrap = true := by decide +kernel
theorem sticky_btokCVCUnwrap : errorSticky cfg_btokCVCUnwrap = true := by decide +kernel
theorem sticky_btokCVCIss : errorSticky cfg_btokCVCIss = true := by decide +kernel
theorem sticky_btokCVCVal : errorSticky cfg_btokCVCVal = true := by decide +kernel
theorem sticky_btokCVCVal2 : errorSticky cfg_btokCVCVal2 = true := by decide +kernel
theorem sticky_btokCVCMatch : errorSticky cfg_btokCVCMatch = true := by decide +kernel
theorem sticky_btokSMCmdWrap : errorSticky cfg_btokSMCmdWrap = true := by decide +kernel
theorem sticky_btokSMCmdUnwrap : errorSticky cfg_btokSMCmdUnwrap = true := by decide +kernel
theorem sticky_btokSMRespWrap : errorSticky cfg_btokSMRespWrap = true := by decide +kernel
theorem sticky_btokSMRespUnwrap : errorSticky cfg_btokSMRespUnwrap = true := by decide +kernel
theorem sticky_dstuParamsStd : errorSticky cfg_dstuParamsStd = true := by decide +kernel
theorem sticky_dstuEcCreate : errorSticky cfg_dstuEcCreate = true := by decide +kernel
theorem sticky_dstuParamsVal : errorSticky cfg_dstuParamsVal = true := by decide +kernel
theorem sticky_dstuPointGen : errorSticky cfg_dstuPointGen = true := by decide +kernel
theorem sticky_dstuPointVal : errorSticky cfg_dstuPointVal = true := by decide +kernel
theorem sticky_dstuPointCompress : errorSticky cfg_dstuPointCompress = true := by decide +kernel
theorem sticky_dstuPointRecover : errorSticky cfg_dstuPointRecover = true := by decide +kernel
theorem sticky_dstuKeypairGen : errorSticky cfg_dstuKeypairGen = true := by decide +kernel
theorem sticky_dstuSign : errorSticky cfg_dstuSign = true := by decide +kernel
theorem sticky_dstuVerify : errorSticky cfg_dstuVerify = true := by decide +kernel
theorem sticky_g12sParamsStd : errorSticky cfg_g12sParamsStd = true := by decide +kernel
theorem sticky_g12sEcCreate : errorSticky cfg_g12sEcCreate = true := by decide +kernel
theorem sticky_g12sParamsVal : errorSticky cfg_g12sParamsVal = true := by decide +kernel
theorem sticky_g12sKeypairGen : errorSticky cfg_g12sKeypairGen = true := by decide +kernel
theorem sticky_g12sSign : errorSticky cfg_g12sSign = true := by decide +kernel
theorem sticky_g12sVerify : errorSticky cfg_g12sVerify = true := by decide +kernel
theorem sticky_pfokParamsStd : errorSticky cfg_pfokParamsStd = true := by decide +kernel
theorem sticky_pfokZiVal : errorSticky cfg_pfokZiVal = true := by decide +kernel
theorem sticky_pfokLiVal : errorSticky cfg_pfokLiVal = true := by decide +kernel
theorem sticky_pfokSeedVal : errorSticky cfg_pfokSeedVal = true := by decide +kernel
theorem sticky_pfokSeedAdj : errorSticky cfg_pfokSeedAdj = true := by decide +kernel
theorem sticky_pfokParamsGen : errorSticky cfg_pfokParamsGen = true := by decide +kernel
theorem sticky_pfokParamsVal : errorSticky cfg_pfokParamsVal = true := by decide +kernel
theorem sticky_pfokKeypairGen : errorSticky cfg_pfokKeypairGen = true := by decide +kernel
theorem sticky_pfokPubkeyVal : errorSticky cfg_pfokPubkeyVal = true := by decide +kernel
theorem sticky_pfokPubkeyCalc : errorSticky cfg_pfokPubkeyCalc = true := by decide +kernel
theorem sticky_pfokDH : errorSticky cfg_pfokDH = true := by decide +kernel
theorem sticky_pfokMTI : errorSticky cfg_pfokMTI = true := by decide +kernel
theorem sticky_stb99ParamsStd : errorSticky cfg_stb99ParamsStd = true := by decide +kernel
theorem sticky_stb99ZiVal : errorSticky cfg_stb99ZiVal = true := by decide +kernel
theorem sticky_stb99DiVal : errorSticky cfg_stb99DiVal = true := by decide +kernel
theorem sticky_stb99RiVal : errorSticky cfg_stb99RiVal = true := by decide +kernel
theorem sticky_stb99SeedVal : errorSticky cfg_stb99SeedVal = true := by decide +kernel
theorem sticky_stb99SeedAdj : errorSticky cfg_stb99SeedAdj = true := by decide +kernel
theorem sticky_stb99ParamsGen : errorSticky cfg_stb99ParamsGen = true := by decide +kernel
theorem sticky_stb99ParamsVal : errorSticky cfg_stb99ParamsVal = true := by decide +kernel

/-- `beltCHEUnwrap`: output `dest` -/
theorem release_beltCHEUnwrap : releaseSafe 0 cfg_beltCHEUnwrap = true := by decide +kernel
/-- `beltDWPUnwrap`: output `dest` -/
theorem release_beltDWPUnwrap : releaseSafe 0 cfg_beltDWPUnwrap = true := by decide +kernel
/-- `beltKWPUnwrap`: output `dest` -/
theorem release_beltKWPUnwrap : releaseSafe 0 cfg_beltKWPUnwrap = true := by decide +kernel
/-- `bignKeyUnwrap`: output `key` -/
theorem release_bignKeyUnwrap : releaseSafe 0 cfg_bignKeyUnwrap = true := by decide +kernel
/-- `beltCHEUnwrap`: output `dest` is first written after the verification call -/
theorem vfirst_beltCHEUnwrap : verifyFirst 0 cfg_beltCHEUnwrap = true := by decide +kernel
/-- `beltDWPUnwrap`: output `dest` is first written after the verification call -/
theorem vfirst_beltDWPUnwrap : verifyFirst 0 cfg_beltDWPUnwrap = true := by decide +kernel
/-- `bpkiPrivkeyUnwrap`: output `privkey` is first written after the verification call -/
theorem vfirst_bpkiPrivkeyUnwrap : verifyFirst 0 cfg_bpkiPrivkeyUnwrap = true := by decide +kernel
/-- `bpkiShareUnwrap`: output `share` is first written after the verification call -/
theorem vfirst_bpkiShareUnwrap : verifyFirst 0 cfg_bpkiShareUnwrap = true := by decide +kernel
/-- `btokSMCmdUnwrap`: output `cmd` is first written after the verification call -/
theorem vfirst_btokSMCmdUnwrap : verifyFirst 0 cfg_btokSMCmdUnwrap = true := by decide +kernel
/-- `btokSMRespUnwrap`: output `resp` is first written after the verification call -/
theorem vfirst_btokSMRespUnwrap : verifyFirst 0 cfg_btokSMRespUnwrap = true := by decide +kernel

/-- `rngCreate`: the documented class ERR_NOT_ENOUGH_ENTROPY can be produced -/
theorem class_rngCreate_303 : 303 ∈ cfg_rngCreate.classes := by decide +kernel
/-- `bakeKDF`: the documented class ERR_BAD_INPUT can be produced -/
theorem class_bakeKDF_109 : 109 ∈ cfg_bakeKDF.classes := by decide +kernel
/-- `bakeSWU`: the documented class ERR_BAD_PARAMS can be produced -/
theorem class_bakeSWU_502 : 502 ∈ cfg_bakeSWU.classes := by decide +kernel
/-- `bakeBMQVStart`: the documented class ERR_BAD_CERT can be produced -/
theorem class_bakeBMQVStart_514 : 514 ∈ cfg_bakeBMQVStart.classes := by decide +kernel
/-- `bakeBMQVStart`: the documented class ERR_BAD_INPUT can be produced -/
theorem class_bakeBMQVStart_109 : 109 ∈ cfg_bakeBMQVStart.classes := by decide +kernel
/-- `bakeBMQVStart`: the documented class ERR_BAD_PARAMS can be produced -/
theorem class_bakeBMQVStart_502 : 502 ∈ cfg_bakeBMQVStart.classes := by decide +kernel
/-- `bakeBMQVStart`: the documented class ERR_BAD_RNG can be produced -/
theorem class_bakeBMQVStart_304 : 304 ∈ cfg_bakeBMQVStart.classes := by decide +kernel
/-- `bakeBSTSStart`: the documented class ERR_BAD_CERT can be produced -/
theorem class_bakeBSTSStart_514 : 514 ∈ cfg_bakeBSTSStart.classes := by decide +kernel
/-- `bakeBSTSStart`: the documented class ERR_BAD_INPUT can be produced -/
theorem class_bakeBSTSStart_109 : 109 ∈ cfg_bakeBSTSStart.classes := by decide +kernel
/-- `bakeBSTSStart`: the documented class ERR_BAD_PARAMS can be produced -/
theorem class_bakeBSTSStart_502 : 502 ∈ cfg_bakeBSTSStart.classes := by decide +kernel
/-- `bakeBSTSStart`: the documented class ERR_BAD_RNG can be produced -/
theorem class_bakeBSTSStart_304 : 304 ∈ cfg_bakeBSTSStart.classes := by decide +kernel
/-- `bakeBPACEStart`: the documented class ERR_BAD_INPUT can be produced -/
theorem class_bakeBPACEStart_109 : 109 ∈ cfg_bakeBPACEStart.classes := by decide +kernel
/-- `bakeBPACEStart`: the documented class ERR_BAD_PARAMS can be produced -/
theorem class_bakeBPACEStart_502 : 502 ∈ cfg_bakeBPACEStart.classes := by decide +kernel
/-- `bakeBPACEStart`: the documented class ERR_BAD_RNG can be produced -/
theorem class_bakeBPACEStart_304 : 304 ∈ cfg_bakeBPACEStart.classes := by decide +kernel
/-- `bashHash`: the documented class ERR_BAD_INPUT can be produced -/
theorem class_bashHash_109 : 109 ∈ cfg_bashHash.classes := by decide +kernel
/-- `bashHash`: the documented class ERR_BAD_PARAMS can be produced -/
theorem class_bashHash_502 : 502 ∈ cfg_bashHash.classes := by decide +kernel
/-- `belsStdM`: the documented class ERR_BAD_INPUT can be produced -/
theorem class_belsStdM_109 : 109 ∈ cfg_belsStdM.classes := by decide +kernel
/-- `belsValM`: the documented class ERR_BAD_INPUT can be produced -/
theorem class_belsValM_109 : 109 ∈ cfg_belsValM.classes := by decide +kernel
/-- `belsGenM0`: the documented class ERR_BAD_ANG can be produced -/
theorem class_belsGenM0_305 : 305 ∈ cfg_belsGenM0.classes := by decide +kernel
/-- `belsGenM0`: the documented class ERR_BAD_INPUT can be produced -/
theorem class_belsGenM0_109 : 109 ∈ cfg_belsGenM0.classes := by decide +kernel
/-- `belsGenMi`: the documented class ERR_BAD_ANG can be produced -/
theorem class_belsGenMi_305 : 305 ∈ cfg_belsGenMi.classes := by decide +kernel
/-- `belsGenMi`: the documented class ERR_BAD_INPUT can be produced -/
theorem class_belsGenMi_109 : 109 ∈ cfg_belsGenMi.classes := by decide +kernel
/-- `belsGenMi`: the documented class ERR_BAD_PUBKEY can be produced -/
theorem class_belsGenMi_505 : 505 ∈ cfg_belsGenMi.classes := by decide +kernel
/-- `belsGenMid`: the documented class ERR_BAD_INPUT can be produced -/
theorem class_belsGenMid_109 : 109 ∈ cfg_belsGenMid.classes := by decide +kernel
/-- `belsGenMid`: the documented class ERR_BAD_PUBKEY can be produced -/
theorem class_belsGenMid_505 : 505 ∈ cfg_belsGenMid.classes := by decide +kernel
/-- `belsShare`: the documented class ERR_BAD_INPUT can be produced -/
theorem class_belsShare_109 : 109 ∈ cfg_belsShare.classes := by decide +kernel
/-- `belsShare`: the header promises ERR_BAD_PUBKEY but no `return`/`code =` of the function or of a callee whose code it passes through carries that constant -/
theorem class_belsShare_505_unproducible : ¬ (505 ∈ cfg_belsShare.classes) := by decide +kernel
/-- `belsShare`: the documented class ERR_BAD_RNG can be produced -/
theorem class_belsShare_304 : 304 ∈ cfg_belsShare.classes := by decide +kernel
/-- `belsShare2`: the documented class ERR_BAD_INPUT can be produced -/
theorem class_belsShare2_109 : 109 ∈ cfg_belsShare2.classes := by decide +kernel
/-- `belsShare2`: the documented class ERR_BAD_RNG can be produced -/
theorem class_belsShare2_304 : 304 ∈ cfg_belsShare2.classes := by decide +kernel
/-- `belsShare3`: the documented class ERR_BAD_INPUT can be produced -/
theorem class_belsShare3_109 : 109 ∈ cfg_belsShare3.classes := by decide +kernel
/-- `belsRecover`: the documented class ERR_BAD_INPUT can be produced -/
theorem class_belsRecover_109 : 109 ∈ cfg_belsRecover.classes := by decide +kernel
/-- `belsRecover`: the documented class ERR_BAD_PUBKEY can be produced -/
theorem class_belsRecover_505 : 505 ∈ cfg_belsRecover.classes := by decide +kernel
/-- `belsRecover2`: the documented class ERR_BAD_INPUT can be produced -/
theorem class_belsRecover2_109 : 109 ∈ cfg_belsRecover2.classes := by decide +kernel
/-- `belsRecover2`: the documented class ERR_BAD_PUBKEY can be produced -/
theorem class_belsRecover2_505 : 505 ∈ cfg_belsRecover2.classes := by decide +kernel
/-- `beltBDEEncr`: the documented class ERR_BAD_INPUT can be produced -/
theorem class_beltBDEEncr_109 : 109 ∈ cfg_beltBDEEncr.classes := by decide +kernel
/-- `beltBDEDecr`: the documented class ERR_BAD_INPUT can be produced -/
theorem class_beltBDEDecr_109 : 109 ∈ cfg_beltBDEDecr.classes := by decide +kernel
/-- `beltCBCEncr`: the documented class ERR_BAD_INPUT can be produced -/
theorem class_beltCBCEncr_109 : 109 ∈ cfg_beltCBCEncr.classes := by decide +kernel
/-- `beltCBCDecr`: the documented class ERR_BAD_INPUT can be produced -/
theorem class_beltCBCDecr_109 : 109 ∈ cfg_beltCBCDecr.classes := by decide +kernel
/-- `beltCFBEncr`: the documented class ERR_BAD_INPUT can be produced -/
theorem class_beltCFBEncr_109 : 109 ∈ cfg_beltCFBEncr.classes := by decide +kernel
/-- `beltCFBDecr`: the documented class ERR_BAD_INPUT can be produced -/
theorem class_beltCFBDecr_109 : 109 ∈ cfg_beltCFBDecr.classes := by decide +kernel
/-- `beltCHEWrap`: the documented class ERR_BAD_INPUT can be produced -/
theorem class_beltCHEWrap_109 : 109 ∈ cfg_beltCHEWrap.classes := by decide +kernel
/-- `beltCHEUnwrap`: the documented class ERR_BAD_INPUT can be produced -/
theorem class_beltCHEUnwrap_109 : 109 ∈ cfg_beltCHEUnwrap.classes := by decide +kernel
/-- `beltCTR`: the documented class ERR_BAD_INPUT can be produced -/
theorem class_beltCTR_109 : 109 ∈ cfg_beltCTR.classes := by decide +kernel
/-- `beltDWPWrap`: the documented class ERR_BAD_INPUT can be produced -/
theorem class_beltDWPWrap_109 : 109 ∈ cfg_beltDWPWrap.classes := by decide +kernel
/-- `beltDWPUnwrap`: the documented class ERR_BAD_INPUT can be produced -/
theorem class_beltDWPUnwrap_109 : 109 ∈ cfg_beltDWPUnwrap.classes := by decide +kernel
/-- `beltECBEncr`: the documented class ERR_BAD_INPUT can be produced -/
theorem class_beltECBEncr_109 : 109 ∈ cfg_beltECBEncr.classes := by decide +kernel
/-- `beltECBDecr`: the documented class ERR_BAD_INPUT can be produced -/
theorem class_beltECBDecr_109 : 109 ∈ cfg_beltECBDecr.classes := by decide +kernel
/-- `beltFMTEncr`: the documented class ERR_BAD_INPUT can be produced -/
theorem class_beltFMTEncr_109 : 109 ∈ cfg_beltFMTEncr.classes := by decide +kernel
/-- `beltFMTEncr`: the documented class ERR_NOT_IMPLEMENTED can be produced -/
theorem class_beltFMTEncr_119 : 119 ∈ cfg_beltFMTEncr.classes := by decide +kernel
/-- `beltFMTDecr`: the documented class ERR_BAD_INPUT can be produced -/
theorem class_beltFMTDecr_109 : 109 ∈ cfg_beltFMTDecr.classes := by decide +kernel
/-- `beltFMTDecr`: the documented class ERR_NOT_IMPLEMENTED can be produced -/
theorem class_beltFMTDecr_119 : 119 ∈ cfg_beltFMTDecr.classes := by decide +kernel
/-- `beltKRP`: the documented class ERR_BAD_INPUT can be produced -/
theorem class_beltKRP_109 : 109 ∈ cfg_beltKRP.classes := by decide +kernel
/-- `beltKWPWrap`: the documented class ERR_BAD_INPUT can be produced -/
theorem class_beltKWPWrap_109 : 109 ∈ cfg_beltKWPWrap.classes := by decide +kernel
/-- `beltKWPUnwrap`: the documented class ERR_BAD_INPUT can be produced -/
theorem class_beltKWPUnwrap_109 : 109 ∈ cfg_beltKWPUnwrap.classes := by decide +kernel
/-- `beltMAC`: the documented class ERR_BAD_INPUT can be produced -/
theorem class_beltMAC_109 : 109 ∈ cfg_beltMAC.classes := by decide +kernel
/-- `beltPBKDF2`: the documented class ERR_BAD_INPUT can be produced -/
theorem class_beltPBKDF2_109 : 109 ∈ cfg_beltPBKDF2.classes := by decide +kernel
/-- `beltSDEEncr`: the documented class ERR_BAD_INPUT can be produced -/
theorem class_beltSDEEncr_109 : 109 ∈ cfg_beltSDEEncr.classes := by decide +kernel
/-- `beltSDEDecr`: the documented class ERR_BAD_INPUT can be produced -/
theorem class_beltSDEDecr_109 : 109 ∈ cfg_beltSDEDecr.classes := by decide +kernel
/-- `bignIdExtract`: the documented class ERR_BAD_OID can be produced -/
theorem class_bignIdExtract_301 : 301 ∈ cfg_bignIdExtract.classes := by decide +kernel
/-- `bignIdExtract`: the documented class ERR_BAD_PARAMS can be produced -/
theorem class_bignIdExtract_502 : 502 ∈ cfg_bignIdExtract.classes := by decide +kernel
/-- `bignIdExtract`: the documented class ERR_BAD_PUBKEY can be produced -/
theorem class_bignIdExtract_505 : 505 ∈ cfg_bignIdExtract.classes := by decide +kernel
/-- `bignIdSign`: the documented class ERR_BAD_OID can be produced -/
theorem class_bignIdSign_301 : 301 ∈ cfg_bignIdSign.classes := by decide +kernel
/-- `bignIdSign`: the documented class ERR_BAD_PARAMS can be produced -/
theorem class_bignIdSign_502 : 502 ∈ cfg_bignIdSign.classes := by decide +kernel
/-- `bignIdSign`: the documented class ERR_BAD_PRIVKEY can be produced -/
theorem class_bignIdSign_504 : 504 ∈ cfg_bignIdSign.classes := by decide +kernel
/-- `bignIdSign`: the documented class ERR_BAD_RNG can be produced -/
theorem class_bignIdSign_304 : 304 ∈ cfg_bignIdSign.classes := by decide +kernel
/-- `bignIdSign2`: the documented class ERR_BAD_OID can be produced -/
theorem class_bignIdSign2_301 : 301 ∈ cfg_bignIdSign2.classes := by decide +kernel
/-- `bignIdSign2`: the documented class ERR_BAD_PARAMS can be produced -/
theorem class_bignIdSign2_502 : 502 ∈ cfg_bignIdSign2.classes := by decide +kernel
/-- `bignIdSign2`: the documented class ERR_BAD_PRIVKEY can be produced -/
theorem class_bignIdSign2_504 : 504 ∈ cfg_bignIdSign2.classes := by decide +kernel
/-- `bignIdVerify`: the documented class ERR_BAD_OID can be produced -/
theorem class_bignIdVerify_301 : 301 ∈ cfg_bignIdVerify.classes := by decide +kernel
/-- `bignIdVerify`: the documented class ERR_BAD_PARAMS can be produced -/
theorem class_bignIdVerify_502 : 502 ∈ cfg_bignIdVerify.classes := by decide +kernel
/-- `bignIdVerify`: the documented class ERR_BAD_PUBKEY can be produced -/
theorem class_bignIdVerify_505 : 505 ∈ cfg_bignIdVerify.classes := by decide +kernel
/-- `bignKeyWrap`: the documented class ERR_BAD_INPUT can be produced -/
theorem class_bignKeyWrap_109 : 109 ∈ cfg_bignKeyWrap.classes := by decide +kernel
/-- `bignKeyWrap`: the documented class ERR_BAD_PARAMS can be produced -/
theorem class_bignKeyWrap_502 : 502 ∈ cfg_bignKeyWrap.classes := by decide +kernel
/-- `bignKeyWrap`: the documented class ERR_BAD_PUBKEY can be produced -/
theorem class_bignKeyWrap_505 : 505 ∈ cfg_bignKeyWrap.classes := by decide +kernel
/-- `bignKeyWrap`: the documented class ERR_BAD_RNG can be produced -/
theorem class_bignKeyWrap_304 : 304 ∈ cfg_bignKeyWrap.classes := by decide +kernel
/-- `bignKeyUnwrap`: the documented class ERR_BAD_PARAMS can be produced -/
theorem class_bignKeyUnwrap_502 : 502 ∈ cfg_bignKeyUnwrap.classes := by decide +kernel
/-- `bignKeyUnwrap`: the documented class ERR_BAD_PRIVKEY can be produced -/
theorem class_bignKeyUnwrap_504 : 504 ∈ cfg_bignKeyUnwrap.classes := by decide +kernel
/-- `bignKeypairGen`: the documented class ERR_BAD_PARAMS can be produced -/
theorem class_bignKeypairGen_502 : 502 ∈ cfg_bignKeypairGen.classes := by decide +kernel
/-- `bignKeypairGen`: the documented class ERR_BAD_RNG can be produced -/
theorem class_bignKeypairGen_304 : 304 ∈ cfg_bignKeypairGen.classes := by decide +kernel
/-- `bignKeypairVal`: the documented class ERR_BAD_PARAMS can be produced -/
theorem class_bignKeypairVal_502 : 502 ∈ cfg_bignKeypairVal.classes := by decide +kernel
/-- `bignPubkeyVal`: the documented class ERR_BAD_PARAMS can be produced -/
theorem class_bignPubkeyVal_502 : 502 ∈ cfg_bignPubkeyVal.classes := by decide +kernel
/-- `bignPubkeyCalc`: the documented class ERR_BAD_PARAMS can be produced -/
theorem class_bignPubkeyCalc_502 : 502 ∈ cfg_bignPubkeyCalc.classes := by decide +kernel
/-- `bignPubkeyCalc`: the documented class ERR_BAD_PRIVKEY can be produced -/
theorem class_bignPubkeyCalc_504 : 504 ∈ cfg_bignPubkeyCalc.classes := by decide +kernel
/-- `bignDH`: the documented class ERR_BAD_PARAMS can be produced -/
theorem class_bignDH_502 : 502 ∈ cfg_bignDH.classes := by decide +kernel
/-- `bignDH`: the documented class ERR_BAD_PRIVKEY can be produced -/
theorem class_bignDH_504 : 504 ∈ cfg_bignDH.classes := by decide +kernel
/-- `bignDH`: the documented class ERR_BAD_PUBKEY can be produced -/
theorem class_bignDH_505 : 505 ∈ cfg_bignDH.classes := by decide +kernel
/-- `bignDH`: the documented class ERR_BAD_SHAREDKEY can be produced -/
theorem class_bignDH_507 : 507 ∈ cfg_bignDH.classes := by decide +kernel
/-- `bignParamsStd`: the documented class ERR_BAD_INPUT can be produced -/
theorem class_bignParamsStd_109 : 109 ∈ cfg_bignParamsStd.classes := by decide +kernel
/-- `bignParamsGen`: the documented class ERR_BAD_INPUT can be produced -/
theorem class_bignParamsGen_109 : 109 ∈ cfg_bignParamsGen.classes := by decide +kernel
/-- `bignSign`: the documented class ERR_BAD_INPUT can be produced -/
theorem class_bignSign_109 : 109 ∈ cfg_bignSign.classes := by decide +kernel
/-- `bignSign`: the documented class ERR_BAD_OID can be produced -/
theorem class_bignSign_301 : 301 ∈ cfg_bignSign.classes := by decide +kernel
/-- `bignSign`: the documented class ERR_BAD_PARAMS can be produced -/
theorem class_bignSign_502 : 502 ∈ cfg_bignSign.classes := by decide +kernel
/-- `bignSign`: the documented class ERR_BAD_PRIVKEY can be produced -/
theorem class_bignSign_504 : 504 ∈ cfg_bignSign.classes := by decide +kernel
/-- `bignSign`: the documented class ERR_BAD_RNG can be produced -/
theorem class_bignSign_304 : 304 ∈ cfg_bignSign.classes := by decide +kernel
/-- `bignSign2`: the documented class ERR_BAD_INPUT can be produced -/
theorem class_bignSign2_109 : 109 ∈ cfg_bignSign2.classes := by decide +kernel
/-- `bignSign2`: the documented class ERR_BAD_OID can be produced -/
theorem class_bignSign2_301 : 301 ∈ cfg_bignSign2.classes := by decide +kernel
/-- `bignSign2`: the documented class ERR_BAD_PARAMS can be produced -/
theorem class_bignSign2_502 : 502 ∈ cfg_bignSign2.classes := by decide +kernel
/-- `bignSign2`: the documented class ERR_BAD_PRIVKEY can be produced -/
theorem class_bignSign2_504 : 504 ∈ cfg_bignSign2.classes := by decide +kernel
/-- `bignVerify`: the documented class ERR_BAD_OID can be produced -/
theorem class_bignVerify_301 : 301 ∈ cfg_bignVerify.classes := by decide +kernel
/-- `bignVerify`: the documented class ERR_BAD_PARAMS can be produced -/
theorem class_bignVerify_502 : 502 ∈ cfg_bignVerify.classes := by decide +kernel
/-- `bignVerify`: the documented class ERR_BAD_PUBKEY can be produced -/
theorem class_bignVerify_505 : 505 ∈ cfg_bignVerify.classes := by decide +kernel
/-- `bign96ParamsStd`: the documented class ERR_BAD_INPUT can be produced -/
theorem class_bign96ParamsStd_109 : 109 ∈ cfg_bign96ParamsStd.classes := by decide +kernel
/-- `bign96KeypairGen`: the documented class ERR_BAD_PARAMS can be produced -/
theorem class_bign96KeypairGen_502 : 502 ∈ cfg_bign96KeypairGen.classes := by decide +kernel
/-- `bign96KeypairGen`: the documented class ERR_BAD_RNG can be produced -/
theorem class_bign96KeypairGen_304 : 304 ∈ cfg_bign96KeypairGen.classes := by decide +kernel
/-- `bign96KeypairVal`: the documented class ERR_BAD_PARAMS can be produced -/
theorem class_bign96KeypairVal_502 : 502 ∈ cfg_bign96KeypairVal.classes := by decide +kernel
/-- `bign96PubkeyVal`: the documented class ERR_BAD_PARAMS can be produced -/
theorem class_bign96PubkeyVal_502 : 502 ∈ cfg_bign96PubkeyVal.classes := by decide +kernel
/-- `bign96PubkeyCalc`: the documented class ERR_BAD_PARAMS can be produced -/
theorem class_bign96PubkeyCalc_502 : 502 ∈ cfg_bign96PubkeyCalc.classes := by decide +kernel
/-- `bign96PubkeyCalc`: the documented class ERR_BAD_PRIVKEY can be produced -/
theorem class_bign96PubkeyCalc_504 : 504 ∈ cfg_bign96PubkeyCalc.classes := by decide +kernel
/-- `bign96Sign`: the documented class ERR_BAD_INPUT can be produced -/
theorem class_bign96Sign_109 : 109 ∈ cfg_bign96Sign.classes := by decide +kernel
/-- `bign96Sign`: the documented class ERR_BAD_OID can be produced -/
theorem class_bign96Sign_301 : 301 ∈ cfg_bign96Sign.classes := by decide +kernel
/-- `bign96Sign`: the documented class ERR_BAD_PARAMS can be produced -/
theorem class_bign96Sign_502 : 502 ∈ cfg_bign96Sign.classes := by decide +kernel
/-- `bign96Sign`: the documented class ERR_BAD_PRIVKEY can be produced -/
theorem class_bign96Sign_504 : 504 ∈ cfg_bign96Sign.classes := by decide +kernel
/-- `bign96Sign`: the documented class ERR_BAD_RNG can be produced -/
theorem class_bign96Sign_304 : 304 ∈ cfg_bign96Sign.classes := by decide +kernel
/-- `bign96Sign2`: the documented class ERR_BAD_INPUT can be produced -/
theorem class_bign96Sign2_109 : 109 ∈ cfg_bign96Sign2.classes := by decide +kernel
/-- `bign96Sign2`: the documented class ERR_BAD_OID can be produced -/
theorem class_bign96Sign2_301 : 301 ∈ cfg_bign96Sign2.classes := by decide +kernel
/-- `bign96Sign2`: the documented class ERR_BAD_PARAMS can be produced -/
theorem class_bign96Sign2_502 : 502 ∈ cfg_bign96Sign2.classes := by decide +kernel
/-- `bign96Sign2`: the documented class ERR_BAD_PRIVKEY can be produced -/
theorem class_bign96Sign2_504 : 504 ∈ cfg_bign96Sign2.classes := by decide +kernel
/-- `bign96Verify`: the documented class ERR_BAD_OID can be produced -/
theorem class_bign96Verify_301 : 301 ∈ cfg_bign96Verify.classes := by decide +kernel
/-- `bign96Verify`: the documented class ERR_BAD_PARAMS can be produced -/
theorem class_bign96Verify_502 : 502 ∈ cfg_bign96Verify.classes := by decide +kernel
/-- `bign96Verify`: the documented class ERR_BAD_PUBKEY can be produced -/
theorem class_bign96Verify_505 : 505 ∈ cfg_bign96Verify.classes := by decide +kernel
/-- `botpHOTPRand`: the documented class ERR_BAD_INPUT can be produced -/
theorem class_botpHOTPRand_109 : 109 ∈ cfg_botpHOTPRand.classes := by decide +kernel
/-- `botpHOTPRand`: the documented class ERR_BAD_PARAMS can be produced -/
theorem class_botpHOTPRand_502 : 502 ∈ cfg_botpHOTPRand.classes := by decide +kernel
/-- `botpHOTPVerify`: the documented class ERR_BAD_PWD can be produced -/
theorem class_botpHOTPVerify_518 : 518 ∈ cfg_botpHOTPVerify.classes := by decide +kernel
/-- `botpTOTPRand`: the documented class ERR_BAD_PARAMS can be produced -/
theorem class_botpTOTPRand_502 : 502 ∈ cfg_botpTOTPRand.classes := by decide +kernel
/-- `botpTOTPRand`: the documented class ERR_BAD_TIME can be produced -/
theorem class_botpTOTPRand_307 : 307 ∈ cfg_botpTOTPRand.classes := by decide +kernel
/-- `botpTOTPVerify`: the documented class ERR_BAD_PWD can be produced -/
theorem class_botpTOTPVerify_518 : 518 ∈ cfg_botpTOTPVerify.classes := by decide +kernel
/-- `botpTOTPVerify`: the documented class ERR_BAD_TIME can be produced -/
theorem class_botpTOTPVerify_307 : 307 ∈ cfg_botpTOTPVerify.classes := by decide +kernel
/-- `botpOCRARand`: the documented class ERR_BAD_FORMAT can be produced -/
theorem class_botpOCRARand_306 : 306 ∈ cfg_botpOCRARand.classes := by decide +kernel
/-- `botpOCRARand`: the documented class ERR_BAD_PARAMS can be produced -/
theorem class_botpOCRARand_502 : 502 ∈ cfg_botpOCRARand.classes := by decide +kernel
/-- `botpOCRARand`: the documented class ERR_BAD_TIME can be produced -/
theorem class_botpOCRARand_307 : 307 ∈ cfg_botpOCRARand.classes := by decide +kernel
/-- `botpOCRAVerify`: the documented class ERR_BAD_FORMAT can be produced -/
theorem class_botpOCRAVerify_306 : 306 ∈ cfg_botpOCRAVerify.classes := by decide +kernel
/-- `botpOCRAVerify`: the documented class ERR_BAD_PARAMS can be produced -/
theorem class_botpOCRAVerify_502 : 502 ∈ cfg_botpOCRAVerify.classes := by decide +kernel
/-- `botpOCRAVerify`: the documented class ERR_BAD_PWD can be produced -/
theorem class_botpOCRAVerify_518 : 518 ∈ cfg_botpOCRAVerify.classes := by decide +kernel
/-- `botpOCRAVerify`: the documented class ERR_BAD_TIME can be produced -/
theorem class_botpOCRAVerify_307 : 307 ∈ cfg_botpOCRAVerify.classes := by decide +kernel
/-- `bpkiPrivkeyWrap`: the documented class ERR_BAD_INPUT can be produced -/
theorem class_bpkiPrivkeyWrap_109 : 109 ∈ cfg_bpkiPrivkeyWrap.classes := by decide +kernel
/-- `bpkiPrivkeyWrap`: the documented class ERR_BAD_PRIVKEY can be produced -/
theorem class_bpkiPrivkeyWrap_504 : 504 ∈ cfg_bpkiPrivkeyWrap.classes := by decide +kernel
/-- `bpkiShareWrap`: the documented class ERR_BAD_INPUT can be produced -/
theorem class_bpkiShareWrap_109 : 109 ∈ cfg_bpkiShareWrap.classes := by decide +kernel
/-- `bpkiShareWrap`: the documented class ERR_BAD_SHAREKEY can be produced -/
theorem class_bpkiShareWrap_508 : 508 ∈ cfg_bpkiShareWrap.classes := by decide +kernel
/-- `bpkiShareUnwrap`: the documented class ERR_BAD_SHAREKEY can be produced -/
theorem class_bpkiShareUnwrap_508 : 508 ∈ cfg_bpkiShareUnwrap.classes := by decide +kernel
/-- `bpkiCSRRewrap`: the documented class ERR_BAD_FORMAT can be produced -/
theorem class_bpkiCSRRewrap_306 : 306 ∈ cfg_bpkiCSRRewrap.classes := by decide +kernel
/-- `bpkiCSRRewrap`: the documented class ERR_NOT_IMPLEMENTED can be produced -/
theorem class_bpkiCSRRewrap_119 : 119 ∈ cfg_bpkiCSRRewrap.classes := by decide +kernel
/-- `bpkiCSRUnwrap`: the documented class ERR_BAD_FORMAT can be produced -/
theorem class_bpkiCSRUnwrap_306 : 306 ∈ cfg_bpkiCSRUnwrap.classes := by decide +kernel
/-- `brngCTRRand`: the documented class ERR_BAD_INPUT can be produced -/
theorem class_brngCTRRand_109 : 109 ∈ cfg_brngCTRRand.classes := by decide +kernel
/-- `brngHMACRand`: the documented class ERR_BAD_INPUT can be produced -/
theorem class_brngHMACRand_109 : 109 ∈ cfg_brngHMACRand.classes := by decide +kernel
/-- `btokBAuthTStart`: the documented class ERR_BAD_CERT can be produced -/
theorem class_btokBAuthTStart_514 : 514 ∈ cfg_btokBAuthTStart.classes := by decide +kernel
/-- `btokBAuthTStart`: the documented class ERR_BAD_INPUT can be produced -/
theorem class_btokBAuthTStart_109 : 109 ∈ cfg_btokBAuthTStart.classes := by decide +kernel
/-- `btokBAuthTStart`: the documented class ERR_BAD_PARAMS can be produced -/
theorem class_btokBAuthTStart_502 : 502 ∈ cfg_btokBAuthTStart.classes := by decide +kernel
/-- `btokBAuthTStart`: the documented class ERR_BAD_RNG can be produced -/
theorem class_btokBAuthTStart_304 : 304 ∈ cfg_btokBAuthTStart.classes := by decide +kernel
/-- `btokBAuthCTStart`: the documented class ERR_BAD_CERT can be produced -/
theorem class_btokBAuthCTStart_514 : 514 ∈ cfg_btokBAuthCTStart.classes := by decide +kernel
/-- `btokBAuthCTStart`: the documented class ERR_BAD_INPUT can be produced -/
theorem class_btokBAuthCTStart_109 : 109 ∈ cfg_btokBAuthCTStart.classes := by decide +kernel
/-- `btokBAuthCTStart`: the documented class ERR_BAD_PARAMS can be produced -/
theorem class_btokBAuthCTStart_502 : 502 ∈ cfg_btokBAuthCTStart.classes := by decide +kernel
/-- `btokBAuthCTStart`: the documented class ERR_BAD_RNG can be produced -/
theorem class_btokBAuthCTStart_304 : 304 ∈ cfg_btokBAuthCTStart.classes := by decide +kernel
/-- `btokBAuthTStep5`: the documented class ERR_BAD_LOGIC can be produced -/
theorem class_btokBAuthTStep5_517 : 517 ∈ cfg_btokBAuthTStep5.classes := by decide +kernel
/-- `btokCVCCheck`: the documented class ERR_BAD_INPUT can be produced -/
theorem class_btokCVCCheck_109 : 109 ∈ cfg_btokCVCCheck.classes := by decide +kernel
/-- `btokSMCmdWrap`: the documented class ERR_BAD_APDU can be produced -/
theorem class_btokSMCmdWrap_312 : 312 ∈ cfg_btokSMCmdWrap.classes := by decide +kernel
/-- `btokSMCmdWrap`: the documented class ERR_BAD_LOGIC can be produced -/
theorem class_btokSMCmdWrap_517 : 517 ∈ cfg_btokSMCmdWrap.classes := by decide +kernel
/-- `btokSMCmdUnwrap`: the documented class ERR_BAD_APDU can be produced -/
theorem class_btokSMCmdUnwrap_312 : 312 ∈ cfg_btokSMCmdUnwrap.classes := by decide +kernel
/-- `btokSMCmdUnwrap`: the documented class ERR_BAD_LOGIC can be produced -/
theorem class_btokSMCmdUnwrap_517 : 517 ∈ cfg_btokSMCmdUnwrap.classes := by decide +kernel
/-- `btokSMRespWrap`: the documented class ERR_BAD_LOGIC can be produced -/
theorem class_btokSMRespWrap_517 : 517 ∈ cfg_btokSMRespWrap.classes := by decide +kernel
/-- `btokSMRespUnwrap`: the documented class ERR_BAD_LOGIC can be produced -/
theorem class_btokSMRespUnwrap_517 : 517 ∈ cfg_btokSMRespUnwrap.classes := by decide +kernel
/-- `dstuParamsStd`: the documented class ERR_BAD_INPUT can be produced -/
theorem class_dstuParamsStd_109 : 109 ∈ cfg_dstuParamsStd.classes := by decide +kernel
/-- `dstuPointGen`: the documented class ERR_BAD_PARAMS can be produced -/
theorem class_dstuPointGen_502 : 502 ∈ cfg_dstuPointGen.classes ∨ (cfg_dstuPointGen.passes = true ∧ (502 ∈ cfg_dstuEcCreate.classes)) := by decide +kernel
/-- `dstuPointVal`: the documented class ERR_BAD_PARAMS can be produced -/
theorem class_dstuPointVal_502 : 502 ∈ cfg_dstuPointVal.classes ∨ (cfg_dstuPointVal.passes = true ∧ (502 ∈ cfg_dstuEcCreate.classes)) := by decide +kernel
/-- `dstuPointCompress`: the documented class ERR_BAD_PARAMS can be produced -/
theorem class_dstuPointCompress_502 : 502 ∈ cfg_dstuPointCompress.classes ∨ (cfg_dstuPointCompress.passes = true ∧ (502 ∈ cfg_dstuEcCreate.classes)) := by decide +kernel
/-- `dstuPointRecover`: the documented class ERR_BAD_PARAMS can be produced -/
theorem class_dstuPointRecover_502 : 502 ∈ cfg_dstuPointRecover.classes := by decide +kernel
/-- `dstuKeypairGen`: the documented class ERR_BAD_PARAMS can be produced -/
theorem class_dstuKeypairGen_502 : 502 ∈ cfg_dstuKeypairGen.classes := by decide +kernel
/-- `dstuKeypairGen`: the documented class ERR_BAD_RNG can be produced -/
theorem class_dstuKeypairGen_304 : 304 ∈ cfg_dstuKeypairGen.classes := by decide +kernel
/-- `dstuSign`: the documented class ERR_BAD_INPUT can be produced -/
theorem class_dstuSign_109 : 109 ∈ cfg_dstuSign.classes := by decide +kernel
/-- `dstuSign`: the documented class ERR_BAD_PARAMS can be produced -/
theorem class_dstuSign_502 : 502 ∈ cfg_dstuSign.classes := by decide +kernel
/-- `dstuSign`: the documented class ERR_BAD_PRIVKEY can be produced -/
theorem class_dstuSign_504 : 504 ∈ cfg_dstuSign.classes := by decide +kernel
/-- `dstuSign`: the documented class ERR_BAD_RNG can be produced -/
theorem class_dstuSign_304 : 304 ∈ cfg_dstuSign.classes := by decide +kernel
/-- `dstuVerify`: the documented class ERR_BAD_PARAMS can be produced -/
theorem class_dstuVerify_502 : 502 ∈ cfg_dstuVerify.classes ∨ (cfg_dstuVerify.passes = true ∧ (502 ∈ cfg_dstuEcCreate.classes)) := by decide +kernel
/-- `dstuVerify`: the documented class ERR_BAD_PUBKEY can be produced -/
theorem class_dstuVerify_505 : 505 ∈ cfg_dstuVerify.classes := by decide +kernel
/-- `g12sParamsStd`: the documented class ERR_BAD_INPUT can be produced -/
theorem class_g12sParamsStd_109 : 109 ∈ cfg_g12sParamsStd.classes := by decide +kernel
/-- `g12sKeypairGen`: the documented class ERR_BAD_PARAMS can be produced -/
theorem class_g12sKeypairGen_502 : 502 ∈ cfg_g12sKeypairGen.classes := by decide +kernel
/-- `g12sKeypairGen`: the documented class ERR_BAD_RNG can be produced -/
theorem class_g12sKeypairGen_304 : 304 ∈ cfg_g12sKeypairGen.classes := by decide +kernel
/-- `g12sSign`: the documented class ERR_BAD_PARAMS can be produced -/
theorem class_g12sSign_502 : 502 ∈ cfg_g12sSign.classes ∨ (cfg_g12sSign.passes = true ∧ (502 ∈ cfg_g12sEcCreate.classes)) := by decide +kernel
/-- `g12sSign`: the documented class ERR_BAD_PRIVKEY can be produced -/
theorem class_g12sSign_504 : 504 ∈ cfg_g12sSign.classes := by decide +kernel
/-- `g12sSign`: the documented class ERR_BAD_RNG can be produced -/
theorem class_g12sSign_304 : 304 ∈ cfg_g12sSign.classes := by decide +kernel
/-- `g12sVerify`: the documented class ERR_BAD_PARAMS can be produced -/
theorem class_g12sVerify_502 : 502 ∈ cfg_g12sVerify.classes := by decide +kernel
/-- `g12sVerify`: the documented class ERR_BAD_PUBKEY can be produced -/
theorem class_g12sVerify_505 : 505 ∈ cfg_g12sVerify.classes := by decide +kernel
/-- `pfokSeedVal`: the documented class ERR_BAD_INPUT can be produced -/
theorem class_pfokSeedVal_109 : 109 ∈ cfg_pfokSeedVal.classes := by decide +kernel
/-- `pfokKeypairGen`: the documented class ERR_BAD_PARAMS can be produced -/
theorem class_pfokKeypairGen_502 : 502 ∈ cfg_pfokKeypairGen.classes := by decide +kernel
/-- `pfokKeypairGen`: the documented class ERR_BAD_RNG can be produced -/
theorem class_pfokKeypairGen_304 : 304 ∈ cfg_pfokKeypairGen.classes := by decide +kernel
/-- `pfokPubkeyVal`: the documented class ERR_BAD_PARAMS can be produced -/
theorem class_pfokPubkeyVal_502 : 502 ∈ cfg_pfokPubkeyVal.classes := by decide +kernel
/-- `pfokPubkeyCalc`: the documented class ERR_BAD_PARAMS can be produced -/
theorem class_pfokPubkeyCalc_502 : 502 ∈ cfg_pfokPubkeyCalc.classes := by decide +kernel
/-- `pfokPubkeyCalc`: the documented class ERR_BAD_PRIVKEY can be produced -/
theorem class_pfokPubkeyCalc_504 : 504 ∈ cfg_pfokPubkeyCalc.classes := by decide +kernel
/-- `pfokDH`: the documented class ERR_BAD_PARAMS can be produced -/
theorem class_pfokDH_502 : 502 ∈ cfg_pfokDH.classes := by decide +kernel
/-- `pfokDH`: the documented class ERR_BAD_PRIVKEY can be produced -/
theorem class_pfokDH_504 : 504 ∈ cfg_pfokDH.classes := by decide +kernel
/-- `pfokDH`: the documented class ERR_BAD_PUBKEY can be produced -/
theorem class_pfokDH_505 : 505 ∈ cfg_pfokDH.classes := by decide +kernel
/-- `pfokMTI`: the documented class ERR_BAD_PARAMS can be produced -/
theorem class_pfokMTI_502 : 502 ∈ cfg_pfokMTI.classes := by decide +kernel
/-- `pfokMTI`: the documented class ERR_BAD_PRIVKEY can be produced -/
theorem class_pfokMTI_504 : 504 ∈ cfg_pfokMTI.classes := by decide +kernel
/-- `pfokMTI`: the documented class ERR_BAD_PUBKEY can be produced -/
theorem class_pfokMTI_505 : 505 ∈ cfg_pfokMTI.classes := by decide +kernel
/-- `stb99SeedVal`: the documented class ERR_BAD_INPUT can be produced -/
theorem class_stb99SeedVal_109 : 109 ∈ cfg_stb99SeedVal.classes := by decide +kernel
-- classes documented for functions that pass through the code of an indirect callee (not decidable here): -

/-- `bignIdSign`: ERR_BAD_PRIVKEY is returned exactly for keys outside {0,…,q−1} -/
theorem range_ok_bignIdSign_0 : ∀ d q : Nat, range_bignIdSign_0 d q ↔ ¬ Bee2V.C09.Spec.PrivkeyOkZ d q := by
  intro d q; simp only [range_bignIdSign_0, Bee2V.C09.Spec.PrivkeyOkZ]; omega
/-- `bignIdSign2`: ERR_BAD_PRIVKEY is returned exactly for keys outside {0,…,q−1} -/
theorem range_ok_bignIdSign2_0 : ∀ d q : Nat, range_bignIdSign2_0 d q ↔ ¬ Bee2V.C09.Spec.PrivkeyOkZ d q := by
  intro d q; simp only [range_bignIdSign2_0, Bee2V.C09.Spec.PrivkeyOkZ]; omega
/-- `bignKeyUnwrap`: ERR_BAD_PRIVKEY is returned exactly for keys outside {1,…,q−1} -/
theorem range_ok_bignKeyUnwrap_0 : ∀ d q : Nat, range_bignKeyUnwrap_0 d q ↔ ¬ Bee2V.C09.Spec.PrivkeyOk d q := by
  intro d q; simp only [range_bignKeyUnwrap_0, Bee2V.C09.Spec.PrivkeyOk]; omega
/-- `bignKeypairVal`: ERR_BAD_PRIVKEY is returned exactly for keys outside {1,…,q−1} -/
theorem range_ok_bignKeypairVal_0 : ∀ d q : Nat, range_bignKeypairVal_0 d q ↔ ¬ Bee2V.C09.Spec.PrivkeyOk d q := by
  intro d q; simp only [range_bignKeypairVal_0, Bee2V.C09.Spec.PrivkeyOk]; omega
/-- `bignPubkeyCalc`: ERR_BAD_PRIVKEY is returned exactly for keys outside {1,…,q−1} -/
theorem range_ok_bignPubkeyCalc_0 : ∀ d q : Nat, range_bignPubkeyCalc_0 d q ↔ ¬ Bee2V.C09.Spec.PrivkeyOk d q := by
  intro d q; simp only [range_bignPubkeyCalc_0, Bee2V.C09.Spec.PrivkeyOk]; omega
/-- `bignDH`: ERR_BAD_PRIVKEY is returned exactly for keys outside {1,…,q−1} -/
theorem range_ok_bignDH_0 : ∀ d q : Nat, range_bignDH_0 d q ↔ ¬ Bee2V.C09.Spec.PrivkeyOk d q := by
  intro d q; simp only [range_bignDH_0, Bee2V.C09.Spec.PrivkeyOk]; omega
/-- `bignSign`: ERR_BAD_PRIVKEY is returned exactly for keys outside {1,…,q−1} -/
theorem range_ok_bignSign_0 : ∀ d q : Nat, range_bignSign_0 d q ↔ ¬ Bee2V.C09.Spec.PrivkeyOk d q := by
  intro d q; simp only [range_bignSign_0, Bee2V.C09.Spec.PrivkeyOk]; omega
/-- `bignSign2`: ERR_BAD_PRIVKEY is returned exactly for keys outside {1,…,q−1} -/
theorem range_ok_bignSign2_0 : ∀ d q : Nat, range_bignSign2_0 d q ↔ ¬ Bee2V.C09.Spec.PrivkeyOk d q := by
  intro d q; simp only [range_bignSign2_0, Bee2V.C09.Spec.PrivkeyOk]; omega
/-- `bign96KeypairVal`: ERR_BAD_PRIVKEY is returned exactly for keys outside {1,…,q−1} -/
theorem range_ok_bign96KeypairVal_0 : ∀ d q : Nat, range_bign96KeypairVal_0 d q ↔ ¬ Bee2V.C09.Spec.PrivkeyOk d q := by
  intro d q; simp only [range_bign96KeypairVal_0, Bee2V.C09.Spec.PrivkeyOk]; omega
/-- `bign96PubkeyCalc`: ERR_BAD_PRIVKEY is returned exactly for keys outside {1,…,q−1} -/
theorem range_ok_bign96PubkeyCalc_0 : ∀ d q : Nat, range_bign96PubkeyCalc_0 d q ↔ ¬ Bee2V.C09.Spec.PrivkeyOk d q := by
  intro d q; simp only [range_bign96PubkeyCalc_0, Bee2V.C09.Spec.PrivkeyOk]; omega
/-- `bign96Sign`: ERR_BAD_PRIVKEY is returned exactly for keys outside {1,…,q−1} -/
theorem range_ok_bign96Sign_0 : ∀ d q : Nat, range_bign96Sign_0 d q ↔ ¬ Bee2V.C09.Spec.PrivkeyOk d q := by
  intro d q; simp only [range_bign96Sign_0, Bee2V.C09.Spec.PrivkeyOk]; omega
/-- `bign96Sign2`: ERR_BAD_PRIVKEY is returned exactly for keys outside {1,…,q−1} -/
theorem range_ok_bign96Sign2_0 : ∀ d q : Nat, range_bign96Sign2_0 d q ↔ ¬ Bee2V.C09.Spec.PrivkeyOk d q := by
  intro d q; simp only [range_bign96Sign2_0, Bee2V.C09.Spec.PrivkeyOk]; omega
/-- `dstuSign`: ERR_BAD_PRIVKEY is returned exactly for keys outside {1,…,q−1} -/
theorem range_ok_dstuSign_0 : ∀ d q : Nat, range_dstuSign_0 d q ↔ ¬ Bee2V.C09.Spec.PrivkeyOk d q := by
  intro d q; simp only [range_dstuSign_0, Bee2V.C09.Spec.PrivkeyOk]; omega
/-- `g12sSign`: ERR_BAD_PRIVKEY is returned exactly for keys outside {1,…,q−1} -/
theorem range_ok_g12sSign_0 : ∀ d q : Nat, range_g12sSign_0 d q ↔ ¬ Bee2V.C09.Spec.PrivkeyOk d q := by
  intro d q; simp only [range_g12sSign_0, Bee2V.C09.Spec.PrivkeyOk]; omega
/-- `pfokPubkeyCalc`: ERR_BAD_PRIVKEY is returned exactly for keys outside {0,…,q−1} -/
theorem range_ok_pfokPubkeyCalc_0 : ∀ d q : Nat, range_pfokPubkeyCalc_0 d q ↔ ¬ Bee2V.C09.Spec.PrivkeyOkZ d q := by
  intro d q; simp only [range_pfokPubkeyCalc_0, Bee2V.C09.Spec.PrivkeyOkZ]; omega
/-- `pfokDH`: ERR_BAD_PRIVKEY is returned exactly for keys outside {0,…,q−1} -/
theorem range_ok_pfokDH_0 : ∀ d q : Nat, range_pfokDH_0 d q ↔ ¬ Bee2V.C09.Spec.PrivkeyOkZ d q := by
  intro d q; simp only [range_pfokDH_0, Bee2V.C09.Spec.PrivkeyOkZ]; omega
/-- `pfokMTI`: ERR_BAD_PRIVKEY is returned exactly for keys outside {0,…,q−1} -/
theorem range_ok_pfokMTI_0 : ∀ d q : Nat, range_pfokMTI_0 d q ↔ ¬ Bee2V.C09.Spec.PrivkeyOkZ d q := by
  intro d q; simp only [range_pfokMTI_0, Bee2V.C09.Spec.PrivkeyOkZ]; omega
/-- `pfokMTI`: ERR_BAD_PRIVKEY is returned exactly for keys outside {0,…,q−1} -/
theorem range_ok_pfokMTI_1 : ∀ d q : Nat, range_pfokMTI_1 d q ↔ ¬ Bee2V.C09.Spec.PrivkeyOkZ d q := by
  intro d q; simp only [range_pfokMTI_1, Bee2V.C09.Spec.PrivkeyOkZ]; omega

/-- `belsRecover2`, field `si[i*(len+1)]` — bels.h: номера открытых ключей в первых октетах частичных секретов принадлежат {1, 2, ..., 16} -/
theorem fguard_ok_belsRecover2_0 : ∀ v : Int, 0 ≤ v → v ≤ 255 → (fguard_belsRecover2_0 v ↔ ¬ (1 ≤ v ∧ v ≤ 16)) := by
  intro v h0 h1; simp only [fguard_belsRecover2_0]; omega
theorem fguard_class_belsRecover2_0 : (505 : Nat) = 505 := by decide
/-- `bpkiShareWrap`, field `share[0]` — bpki.h: если share != 0, то 1 <= share[0] <= 16 -/
theorem fguard_ok_bpkiShareWrap_0 : ∀ v : Int, 0 ≤ v → v ≤ 255 → (fguard_bpkiShareWrap_0 v ↔ ¬ (1 ≤ v ∧ v ≤ 16)) := by
  intro v h0 h1; simp only [fguard_bpkiShareWrap_0]; omega
theorem fguard_class_bpkiShareWrap_0 : (508 : Nat) = 508 := by decide

/-! `agree_<f>`: the code's argument checks are `Bee2V.C09.firstViol` over the header's conditions `dom_f_k`, listed in the
order in which the code tests them: that order decides the class when several conditions are violated (the header fixes
none).  One `c ↔ ¬ dom` per line of the code is the only arithmetic; `contract_`, `accept_`, `order_<f>` follow. -/

theorem agree_bakeSWU (p_params_ok : Bool)  :
    check_bakeSWU p_params_ok = firstViol [(502, dom_bakeSWU_502 p_params_ok)] := by
  unfold check_bakeSWU
  exact cascade_cons .rfl rfl

/-- outside the documented domain `bakeSWU` returns a documented class whose condition is violated -/
theorem contract_bakeSWU (p_params_ok : Bool)  :
    ¬ (dom_bakeSWU_502 p_params_ok) →
    (check_bakeSWU p_params_ok = some 502 ∧ ¬ dom_bakeSWU_502 p_params_ok) := by
  exact firstViol_one_some (agree_bakeSWU p_params_ok)

/-- inside the documented domain (pointers valid) `bakeSWU` passes its argument checks -/
theorem accept_bakeSWU (p_params_ok : Bool)  :
    dom_bakeSWU_502 p_params_ok → check_bakeSWU p_params_ok = none := by
  exact firstViol_one_none (agree_bakeSWU p_params_ok)

theorem agree_bashHash (a_l : Nat) (a_count : Nat)  :
    check_bashHash a_l a_count = firstViol [(502, dom_bashHash_502 a_l a_count)] := by
  unfold check_bashHash
  exact cascade_cons (by simp only [dom_bashHash_502]; omega) rfl

/-- outside the documented domain `bashHash` returns a documented class whose condition is violated -/
theorem contract_bashHash (a_l : Nat) (a_count : Nat)  :
    ¬ (dom_bashHash_502 a_l a_count) →
    (check_bashHash a_l a_count = some 502 ∧ ¬ dom_bashHash_502 a_l a_count) := by
  exact firstViol_one_some (agree_bashHash a_l a_count)

/-- inside the documented domain (pointers valid) `bashHash` passes its argument checks -/
theorem accept_bashHash (a_l : Nat) (a_count : Nat)  :
    dom_bashHash_502 a_l a_count → check_bashHash a_l a_count = none := by
  exact firstViol_one_none (agree_bashHash a_l a_count)

theorem agree_belsStdM (a_len : Nat) (a_num : Nat)  :
    check_belsStdM a_len a_num = firstViol [(109, dom_belsStdM_109 a_len a_num)] := by
  unfold check_belsStdM
  exact cascade_cons (by simp only [dom_belsStdM_109]; omega) rfl

/-- outside the documented domain `belsStdM` returns a documented class whose condition is violated -/
theorem contract_belsStdM (a_len : Nat) (a_num : Nat)  :
    ¬ (dom_belsStdM_109 a_len a_num) →
    (check_belsStdM a_len a_num = some 109 ∧ ¬ dom_belsStdM_109 a_len a_num) := by
  exact firstViol_one_some (agree_belsStdM a_len a_num)

/-- inside the documented domain (pointers valid) `belsStdM` passes its argument checks -/
theorem accept_belsStdM (a_len : Nat) (a_num : Nat)  :
    dom_belsStdM_109 a_len a_num → check_belsStdM a_len a_num = none := by
  exact firstViol_one_none (agree_belsStdM a_len a_num)

/-- ORDER: `belsStdM` returns the class of the FIRST \expect item (header listing order) that is violated -/
theorem order_belsStdM (a_len : Nat) (a_num : Nat)  :
    check_belsStdM a_len a_num = first_belsStdM a_len a_num := by
  rw [agree_belsStdM a_len a_num]
  simp only [first_belsStdM, dom_belsStdM_109, firstViol_cons, firstViol_nil, ite_not_and]

theorem agree_belsValM (a_len : Nat)  :
    check_belsValM a_len = firstViol [(109, dom_belsValM_109 a_len)] := by
  unfold check_belsValM
  exact cascade_cons (by simp only [dom_belsValM_109]; omega) rfl

/-- outside the documented domain `belsValM` returns a documented class whose condition is violated -/
theorem contract_belsValM (a_len : Nat)  :
    ¬ (dom_belsValM_109 a_len) →
    (check_belsValM a_len = some 109 ∧ ¬ dom_belsValM_109 a_len) := by
  exact firstViol_one_some (agree_belsValM a_len)

/-- inside the documented domain (pointers valid) `belsValM` passes its argument checks -/
theorem accept_belsValM (a_len : Nat)  :
    dom_belsValM_109 a_len → check_belsValM a_len = none := by
  exact firstViol_one_none (agree_belsValM a_len)

theorem agree_belsGenM0 (a_len : Nat) (p_ang_ok : Bool)  :
    check_belsGenM0 a_len p_ang_ok = firstViol [(305, dom_belsGenM0_305 a_len p_ang_ok), (109, dom_belsGenM0_109 a_len p_ang_ok)] := by
  unfold check_belsGenM0
  exact cascade_cons .rfl (cascade_cons (by simp only [dom_belsGenM0_109]; omega) rfl)

/-- outside the documented domain `belsGenM0` returns a documented class whose condition is violated -/
theorem contract_belsGenM0 (a_len : Nat) (p_ang_ok : Bool)  :
    ¬ (dom_belsGenM0_109 a_len p_ang_ok ∧ dom_belsGenM0_305 a_len p_ang_ok) →
    (check_belsGenM0 a_len p_ang_ok = some 109 ∧ ¬ dom_belsGenM0_109 a_len p_ang_ok) ∨
    (check_belsGenM0 a_len p_ang_ok = some 305 ∧ ¬ dom_belsGenM0_305 a_len p_ang_ok) := by
  rw [agree_belsGenM0 a_len p_ang_ok]
  by_cases h109 : dom_belsGenM0_109 a_len p_ang_ok <;> by_cases h305 : dom_belsGenM0_305 a_len p_ang_ok <;> simp [firstViol, h109, h305]

/-- inside the documented domain (pointers valid) `belsGenM0` passes its argument checks -/
theorem accept_belsGenM0 (a_len : Nat) (p_ang_ok : Bool)  :
    dom_belsGenM0_109 a_len p_ang_ok ∧ dom_belsGenM0_305 a_len p_ang_ok → check_belsGenM0 a_len p_ang_ok = none := by
  rw [agree_belsGenM0 a_len p_ang_ok]
  intro h
  simp [firstViol, h]

theorem agree_belsGenMi (a_len : Nat) (p_ang_ok : Bool)  :
    check_belsGenMi a_len p_ang_ok = firstViol [(305, dom_belsGenMi_305 a_len p_ang_ok), (109, dom_belsGenMi_109 a_len p_ang_ok)] := by
  unfold check_belsGenMi
  exact cascade_cons .rfl (cascade_cons (by simp only [dom_belsGenMi_109]; omega) rfl)

/-- outside the documented domain `belsGenMi` returns a documented class whose condition is violated -/
theorem contract_belsGenMi (a_len : Nat) (p_ang_ok : Bool)  :
    ¬ (dom_belsGenMi_109 a_len p_ang_ok ∧ dom_belsGenMi_305 a_len p_ang_ok) →
    (check_belsGenMi a_len p_ang_ok = some 109 ∧ ¬ dom_belsGenMi_109 a_len p_ang_ok) ∨
    (check_belsGenMi a_len p_ang_ok = some 305 ∧ ¬ dom_belsGenMi_305 a_len p_ang_ok) := by
  rw [agree_belsGenMi a_len p_ang_ok]
  by_cases h109 : dom_belsGenMi_109 a_len p_ang_ok <;> by_cases h305 : dom_belsGenMi_305 a_len p_ang_ok <;> simp [firstViol, h109, h305]

/-- inside the documented domain (pointers valid) `belsGenMi` passes its argument checks -/
theorem accept_belsGenMi (a_len : Nat) (p_ang_ok : Bool)  :
    dom_belsGenMi_109 a_len p_ang_ok ∧ dom_belsGenMi_305 a_len p_ang_ok → check_belsGenMi a_len p_ang_ok = none := by
  rw [agree_belsGenMi a_len p_ang_ok]
  intro h
  simp [firstViol, h]

theorem agree_belsGenMid (a_len : Nat) (a_id_len : Nat)  :
    check_belsGenMid a_len a_id_len = firstViol [(109, dom_belsGenMid_109 a_len a_id_len)] := by
  unfold check_belsGenMid
  exact cascade_cons (by simp only [dom_belsGenMid_109]; omega) rfl

/-- outside the documented domain `belsGenMid` returns a documented class whose condition is violated -/
theorem contract_belsGenMid (a_len : Nat) (a_id_len : Nat)  :
    ¬ (dom_belsGenMid_109 a_len a_id_len) →
    (check_belsGenMid a_len a_id_len = some 109 ∧ ¬ dom_belsGenMid_109 a_len a_id_len) := by
  exact firstViol_one_some (agree_belsGenMid a_len a_id_len)

/-- inside the documented domain (pointers valid) `belsGenMid` passes its argument checks -/
theorem accept_belsGenMid (a_len : Nat) (a_id_len : Nat)  :
    dom_belsGenMid_109 a_len a_id_len → check_belsGenMid a_len a_id_len = none := by
  exact firstViol_one_none (agree_belsGenMid a_len a_id_len)

theorem agree_belsShare (a_count : Nat) (a_threshold : Nat) (a_len : Nat) (p_rng_ok : Bool)  :
    check_belsShare a_count a_threshold a_len p_rng_ok = firstViol [(304, dom_belsShare_304 a_count a_threshold a_len p_rng_ok), (109, dom_belsShare_109 a_count a_threshold a_len p_rng_ok)] := by
  unfold check_belsShare
  exact cascade_cons .rfl (cascade_cons (by simp only [dom_belsShare_109]; omega) rfl)

/-- outside the documented domain `belsShare` returns a documented class whose condition is violated -/
theorem contract_belsShare (a_count : Nat) (a_threshold : Nat) (a_len : Nat) (p_rng_ok : Bool)  :
    ¬ (dom_belsShare_109 a_count a_threshold a_len p_rng_ok ∧ dom_belsShare_304 a_count a_threshold a_len p_rng_ok) →
    (check_belsShare a_count a_threshold a_len p_rng_ok = some 109 ∧ ¬ dom_belsShare_109 a_count a_threshold a_len p_rng_ok) ∨
    (check_belsShare a_count a_threshold a_len p_rng_ok = some 304 ∧ ¬ dom_belsShare_304 a_count a_threshold a_len p_rng_ok) := by
  rw [agree_belsShare a_count a_threshold a_len p_rng_ok]
  by_cases h109 : dom_belsShare_109 a_count a_threshold a_len p_rng_ok <;> by_cases h304 : dom_belsShare_304 a_count a_threshold a_len p_rng_ok <;> simp [firstViol, h109, h304]

/-- inside the documented domain (pointers valid) `belsShare` passes its argument checks -/
theorem accept_belsShare (a_count : Nat) (a_threshold : Nat) (a_len : Nat) (p_rng_ok : Bool)  :
    dom_belsShare_109 a_count a_threshold a_len p_rng_ok ∧ dom_belsShare_304 a_count a_threshold a_len p_rng_ok → check_belsShare a_count a_threshold a_len p_rng_ok = none := by
  rw [agree_belsShare a_count a_threshold a_len p_rng_ok]
  intro h
  simp [firstViol, h]

theorem agree_belsShare2 (a_count : Nat) (a_threshold : Nat) (a_len : Nat) (p_rng_ok : Bool)  :
    check_belsShare2 a_count a_threshold a_len p_rng_ok = firstViol [(304, dom_belsShare2_304 a_count a_threshold a_len p_rng_ok), (109, dom_belsShare2_109 a_count a_threshold a_len p_rng_ok)] := by
  unfold check_belsShare2
  exact cascade_cons .rfl (cascade_cons (by simp only [dom_belsShare2_109]; omega) rfl)

/-- outside the documented domain `belsShare2` returns a documented class whose condition is violated -/
theorem contract_belsShare2 (a_count : Nat) (a_threshold : Nat) (a_len : Nat) (p_rng_ok : Bool)  :
    ¬ (dom_belsShare2_109 a_count a_threshold a_len p_rng_ok ∧ dom_belsShare2_304 a_count a_threshold a_len p_rng_ok) →
    (check_belsShare2 a_count a_threshold a_len p_rng_ok = some 109 ∧ ¬ dom_belsShare2_109 a_count a_threshold a_len p_rng_ok) ∨
    (check_belsShare2 a_count a_threshold a_len p_rng_ok = some 304 ∧ ¬ dom_belsShare2_304 a_count a_threshold a_len p_rng_ok) := by
  rw [agree_belsShare2 a_count a_threshold a_len p_rng_ok]
  by_cases h109 : dom_belsShare2_109 a_count a_threshold a_len p_rng_ok <;> by_cases h304 : dom_belsShare2_304 a_count a_threshold a_len p_rng_ok <;> simp [firstViol, h109, h304]

/-- inside the documented domain (pointers valid) `belsShare2` passes its argument checks -/
theorem accept_belsShare2 (a_count : Nat) (a_threshold : Nat) (a_len : Nat) (p_rng_ok : Bool)  :
    dom_belsShare2_109 a_count a_threshold a_len p_rng_ok ∧ dom_belsShare2_304 a_count a_threshold a_len p_rng_ok → check_belsShare2 a_count a_threshold a_len p_rng_ok = none := by
  rw [agree_belsShare2 a_count a_threshold a_len p_rng_ok]
  intro h
  simp [firstViol, h]

theorem agree_belsShare3 (a_count : Nat) (a_threshold : Nat) (a_len : Nat)  :
    check_belsShare3 a_count a_threshold a_len = firstViol [(109, dom_belsShare3_109 a_count a_threshold a_len)] := by
  unfold check_belsShare3
  rw [ite_ite_same]
  exact cascade_cons (by simp only [dom_belsShare3_109]; omega) rfl

/-- outside the documented domain `belsShare3` returns a documented class whose condition is violated -/
theorem contract_belsShare3 (a_count : Nat) (a_threshold : Nat) (a_len : Nat)  :
    ¬ (dom_belsShare3_109 a_count a_threshold a_len) →
    (check_belsShare3 a_count a_threshold a_len = some 109 ∧ ¬ dom_belsShare3_109 a_count a_threshold a_len) := by
  exact firstViol_one_some (agree_belsShare3 a_count a_threshold a_len)

/-- inside the documented domain (pointers valid) `belsShare3` passes its argument checks -/
theorem accept_belsShare3 (a_count : Nat) (a_threshold : Nat) (a_len : Nat)  :
    dom_belsShare3_109 a_count a_threshold a_len → check_belsShare3 a_count a_threshold a_len = none := by
  exact firstViol_one_none (agree_belsShare3 a_count a_threshold a_len)

/-- ORDER: `belsShare3` returns the class of the FIRST \expect item (header listing order) that is violated -/
theorem order_belsShare3 (a_count : Nat) (a_threshold : Nat) (a_len : Nat)  :
    check_belsShare3 a_count a_threshold a_len = first_belsShare3 a_count a_threshold a_len := by
  rw [agree_belsShare3 a_count a_threshold a_len]
  simp only [first_belsShare3, dom_belsShare3_109, firstViol_cons, firstViol_nil, ite_not_and]

/-- outside the documented domain `belsRecover` returns a documented class whose condition is violated -/
theorem contract_belsRecover (a_count : Nat) (a_len : Nat)  :
    ¬ (dom_belsRecover_109 a_count a_len) →
    (check_belsRecover a_count a_len = some 109 ∧ ¬ dom_belsRecover_109 a_count a_len) := by
  intro hd
  unfold check_belsRecover
  rw [if_pos (by simp only [dom_belsRecover_109] at hd; omega)]
  exact ⟨rfl, hd⟩

/-- outside the documented domain `belsRecover2` returns a documented class whose condition is violated -/
theorem contract_belsRecover2 (a_count : Nat) (a_len : Nat)  :
    ¬ (dom_belsRecover2_109 a_count a_len) →
    (check_belsRecover2 a_count a_len = some 109 ∧ ¬ dom_belsRecover2_109 a_count a_len) := by
  intro hd
  unfold check_belsRecover2
  rw [if_pos (by simp only [dom_belsRecover2_109] at hd; omega)]
  exact ⟨rfl, hd⟩

theorem agree_beltBDEEncr (a_count : Nat) (a_len : Nat)  :
    check_beltBDEEncr a_count a_len = firstViol [(109, dom_beltBDEEncr_109 a_count a_len)] := by
  unfold check_beltBDEEncr
  exact cascade_cons (by simp only [dom_beltBDEEncr_109]; omega) rfl

/-- outside the documented domain `beltBDEEncr` returns a documented class whose condition is violated -/
theorem contract_beltBDEEncr (a_count : Nat) (a_len : Nat)  :
    ¬ (dom_beltBDEEncr_109 a_count a_len) →
    (check_beltBDEEncr a_count a_len = some 109 ∧ ¬ dom_beltBDEEncr_109 a_count a_len) := by
  exact firstViol_one_some (agree_beltBDEEncr a_count a_len)

/-- inside the documented domain (pointers valid) `beltBDEEncr` passes its argument checks -/
theorem accept_beltBDEEncr (a_count : Nat) (a_len : Nat)  :
    dom_beltBDEEncr_109 a_count a_len → check_beltBDEEncr a_count a_len = none := by
  exact firstViol_one_none (agree_beltBDEEncr a_count a_len)

/-- ORDER: `beltBDEEncr` returns the class of the FIRST \expect item (header listing order) that is violated -/
theorem order_beltBDEEncr (a_count : Nat) (a_len : Nat)  :
    check_beltBDEEncr a_count a_len = first_beltBDEEncr a_count a_len := by
  rw [agree_beltBDEEncr a_count a_len]
  simp only [first_beltBDEEncr, dom_beltBDEEncr_109, firstViol_cons, firstViol_nil, ite_not_and]

theorem agree_beltBDEDecr (a_count : Nat) (a_len : Nat)  :
    check_beltBDEDecr a_count a_len = firstViol [(109, dom_beltBDEDecr_109 a_count a_len)] := by
  unfold check_beltBDEDecr
  exact cascade_cons (by simp only [dom_beltBDEDecr_109]; omega) rfl

/-- outside the documented domain `beltBDEDecr` returns a documented class whose condition is violated -/
theorem contract_beltBDEDecr (a_count : Nat) (a_len : Nat)  :
    ¬ (dom_beltBDEDecr_109 a_count a_len) →
    (check_beltBDEDecr a_count a_len = some 109 ∧ ¬ dom_beltBDEDecr_109 a_count a_len) := by
  exact firstViol_one_some (agree_beltBDEDecr a_count a_len)

/-- inside the documented domain (pointers valid) `beltBDEDecr` passes its argument checks -/
theorem accept_beltBDEDecr (a_count : Nat) (a_len : Nat)  :
    dom_beltBDEDecr_109 a_count a_len → check_beltBDEDecr a_count a_len = none := by
  exact firstViol_one_none (agree_beltBDEDecr a_count a_len)

/-- ORDER: `beltBDEDecr` returns the class of the FIRST \expect item (header listing order) that is violated -/
theorem order_beltBDEDecr (a_count : Nat) (a_len : Nat)  :
    check_beltBDEDecr a_count a_len = first_beltBDEDecr a_count a_len := by
  rw [agree_beltBDEDecr a_count a_len]
  simp only [first_beltBDEDecr, dom_beltBDEDecr_109, firstViol_cons, firstViol_nil, ite_not_and]

theorem agree_beltCBCEncr (a_count : Nat) (a_len : Nat)  :
    check_beltCBCEncr a_count a_len = firstViol [(109, dom_beltCBCEncr_109 a_count a_len)] := by
  unfold check_beltCBCEncr
  exact cascade_cons (by simp only [dom_beltCBCEncr_109]; omega) rfl

/-- outside the documented domain `beltCBCEncr` returns a documented class whose condition is violated -/
theorem contract_beltCBCEncr (a_count : Nat) (a_len : Nat)  :
    ¬ (dom_beltCBCEncr_109 a_count a_len) →
    (check_beltCBCEncr a_count a_len = some 109 ∧ ¬ dom_beltCBCEncr_109 a_count a_len) := by
  exact firstViol_one_some (agree_beltCBCEncr a_count a_len)

/-- inside the documented domain (pointers valid) `beltCBCEncr` passes its argument checks -/
theorem accept_beltCBCEncr (a_count : Nat) (a_len : Nat)  :
    dom_beltCBCEncr_109 a_count a_len → check_beltCBCEncr a_count a_len = none := by
  exact firstViol_one_none (agree_beltCBCEncr a_count a_len)

/-- ORDER: `beltCBCEncr` returns the class of the FIRST \expect item (header listing order) that is violated -/
theorem order_beltCBCEncr (a_count : Nat) (a_len : Nat)  :
    check_beltCBCEncr a_count a_len = first_beltCBCEncr a_count a_len := by
  rw [agree_beltCBCEncr a_count a_len]
  simp only [first_beltCBCEncr, dom_beltCBCEncr_109, firstViol_cons, firstViol_nil, ite_not_and]

theorem agree_beltCBCDecr (a_count : Nat) (a_len : Nat)  :
    check_beltCBCDecr a_count a_len = firstViol [(109, dom_beltCBCDecr_109 a_count a_len)] := by
  unfold check_beltCBCDecr
  exact cascade_cons (by simp only [dom_beltCBCDecr_109]; omega) rfl

/-- outside the documented domain `beltCBCDecr` returns a documented class whose condition is violated -/
theorem contract_beltCBCDecr (a_count : Nat) (a_len : Nat)  :
    ¬ (dom_beltCBCDecr_109 a_count a_len) →
    (check_beltCBCDecr a_count a_len = some 109 ∧ ¬ dom_beltCBCDecr_109 a_count a_len) := by
  exact firstViol_one_some (agree_beltCBCDecr a_count a_len)

/-- inside the documented domain (pointers valid) `beltCBCDecr` passes its argument checks -/
theorem accept_beltCBCDecr (a_count : Nat) (a_len : Nat)  :
    dom_beltCBCDecr_109 a_count a_len → check_beltCBCDecr a_count a_len = none := by
  exact firstViol_one_none (agree_beltCBCDecr a_count a_len)

/-- ORDER: `beltCBCDecr` returns the class of the FIRST \expect item (header listing order) that is violated -/
theorem order_beltCBCDecr (a_count : Nat) (a_len : Nat)  :
    check_beltCBCDecr a_count a_len = first_beltCBCDecr a_count a_len := by
  rw [agree_beltCBCDecr a_count a_len]
  simp only [first_beltCBCDecr, dom_beltCBCDecr_109, firstViol_cons, firstViol_nil, ite_not_and]

theorem agree_beltCFBEncr (a_count : Nat) (a_len : Nat)  :
    check_beltCFBEncr a_count a_len = firstViol [(109, dom_beltCFBEncr_109 a_count a_len)] := by
  unfold check_beltCFBEncr
  exact cascade_cons (by simp only [dom_beltCFBEncr_109]; omega) rfl

/-- outside the documented domain `beltCFBEncr` returns a documented class whose condition is violated -/
theorem contract_beltCFBEncr (a_count : Nat) (a_len : Nat)  :
    ¬ (dom_beltCFBEncr_109 a_count a_len) →
    (check_beltCFBEncr a_count a_len = some 109 ∧ ¬ dom_beltCFBEncr_109 a_count a_len) := by
  exact firstViol_one_some (agree_beltCFBEncr a_count a_len)

/-- inside the documented domain (pointers valid) `beltCFBEncr` passes its argument checks -/
theorem accept_beltCFBEncr (a_count : Nat) (a_len : Nat)  :
    dom_beltCFBEncr_109 a_count a_len → check_beltCFBEncr a_count a_len = none := by
  exact firstViol_one_none (agree_beltCFBEncr a_count a_len)

theorem agree_beltCFBDecr (a_count : Nat) (a_len : Nat)  :
    check_beltCFBDecr a_count a_len = firstViol [(109, dom_beltCFBDecr_109 a_count a_len)] := by
  unfold check_beltCFBDecr
  exact cascade_cons (by simp only [dom_beltCFBDecr_109]; omega) rfl

/-- outside the documented domain `beltCFBDecr` returns a documented class whose condition is violated -/
theorem contract_beltCFBDecr (a_count : Nat) (a_len : Nat)  :
    ¬ (dom_beltCFBDecr_109 a_count a_len) →
    (check_beltCFBDecr a_count a_len = some 109 ∧ ¬ dom_beltCFBDecr_109 a_count a_len) := by
  exact firstViol_one_some (agree_beltCFBDecr a_count a_len)

/-- inside the documented domain (pointers valid) `beltCFBDecr` passes its argument checks -/
theorem accept_beltCFBDecr (a_count : Nat) (a_len : Nat)  :
    dom_beltCFBDecr_109 a_count a_len → check_beltCFBDecr a_count a_len = none := by
  exact firstViol_one_none (agree_beltCFBDecr a_count a_len)

theorem agree_beltCHEWrap (a_count1 : Nat) (a_count2 : Nat) (a_len : Nat)  :
    check_beltCHEWrap a_count1 a_count2 a_len = firstViol [(109, dom_beltCHEWrap_109 a_count1 a_count2 a_len)] := by
  unfold check_beltCHEWrap
  exact cascade_cons (by simp only [dom_beltCHEWrap_109]; omega) rfl

/-- outside the documented domain `beltCHEWrap` returns a documented class whose condition is violated -/
theorem contract_beltCHEWrap (a_count1 : Nat) (a_count2 : Nat) (a_len : Nat)  :
    ¬ (dom_beltCHEWrap_109 a_count1 a_count2 a_len) →
    (check_beltCHEWrap a_count1 a_count2 a_len = some 109 ∧ ¬ dom_beltCHEWrap_109 a_count1 a_count2 a_len) := by
  exact firstViol_one_some (agree_beltCHEWrap a_count1 a_count2 a_len)

/-- inside the documented domain (pointers valid) `beltCHEWrap` passes its argument checks -/
theorem accept_beltCHEWrap (a_count1 : Nat) (a_count2 : Nat) (a_len : Nat)  :
    dom_beltCHEWrap_109 a_count1 a_count2 a_len → check_beltCHEWrap a_count1 a_count2 a_len = none := by
  exact firstViol_one_none (agree_beltCHEWrap a_count1 a_count2 a_len)

theorem agree_beltCHEUnwrap (a_count1 : Nat) (a_count2 : Nat) (a_len : Nat)  :
    check_beltCHEUnwrap a_count1 a_count2 a_len = firstViol [(109, dom_beltCHEUnwrap_109 a_count1 a_count2 a_len)] := by
  unfold check_beltCHEUnwrap
  exact cascade_cons (by simp only [dom_beltCHEUnwrap_109]; omega) rfl

/-- outside the documented domain `beltCHEUnwrap` returns a documented class whose condition is violated -/
theorem contract_beltCHEUnwrap (a_count1 : Nat) (a_count2 : Nat) (a_len : Nat)  :
    ¬ (dom_beltCHEUnwrap_109 a_count1 a_count2 a_len) →
    (check_beltCHEUnwrap a_count1 a_count2 a_len = some 109 ∧ ¬ dom_beltCHEUnwrap_109 a_count1 a_count2 a_len) := by
  exact firstViol_one_some (agree_beltCHEUnwrap a_count1 a_count2 a_len)

/-- inside the documented domain (pointers valid) `beltCHEUnwrap` passes its argument checks -/
theorem accept_beltCHEUnwrap (a_count1 : Nat) (a_count2 : Nat) (a_len : Nat)  :
    dom_beltCHEUnwrap_109 a_count1 a_count2 a_len → check_beltCHEUnwrap a_count1 a_count2 a_len = none := by
  exact firstViol_one_none (agree_beltCHEUnwrap a_count1 a_count2 a_len)

theorem agree_beltCTR (a_count : Nat) (a_len : Nat)  :
    check_beltCTR a_count a_len = firstViol [(109, dom_beltCTR_109 a_count a_len)] := by
  unfold check_beltCTR
  exact cascade_cons (by simp only [dom_beltCTR_109]; omega) rfl

/-- outside the documented domain `beltCTR` returns a documented class whose condition is violated -/
theorem contract_beltCTR (a_count : Nat) (a_len : Nat)  :
    ¬ (dom_beltCTR_109 a_count a_len) →
    (check_beltCTR a_count a_len = some 109 ∧ ¬ dom_beltCTR_109 a_count a_len) := by
  exact firstViol_one_some (agree_beltCTR a_count a_len)

/-- inside the documented domain (pointers valid) `beltCTR` passes its argument checks -/
theorem accept_beltCTR (a_count : Nat) (a_len : Nat)  :
    dom_beltCTR_109 a_count a_len → check_beltCTR a_count a_len = none := by
  exact firstViol_one_none (agree_beltCTR a_count a_len)

theorem agree_beltDWPWrap (a_count1 : Nat) (a_count2 : Nat) (a_len : Nat)  :
    check_beltDWPWrap a_count1 a_count2 a_len = firstViol [(109, dom_beltDWPWrap_109 a_count1 a_count2 a_len)] := by
  unfold check_beltDWPWrap
  exact cascade_cons (by simp only [dom_beltDWPWrap_109]; omega) rfl

/-- outside the documented domain `beltDWPWrap` returns a documented class whose condition is violated -/
theorem contract_beltDWPWrap (a_count1 : Nat) (a_count2 : Nat) (a_len : Nat)  :
    ¬ (dom_beltDWPWrap_109 a_count1 a_count2 a_len) →
    (check_beltDWPWrap a_count1 a_count2 a_len = some 109 ∧ ¬ dom_beltDWPWrap_109 a_count1 a_count2 a_len) := by
  exact firstViol_one_some (agree_beltDWPWrap a_count1 a_count2 a_len)

/-- inside the documented domain (pointers valid) `beltDWPWrap` passes its argument checks -/
theorem accept_beltDWPWrap (a_count1 : Nat) (a_count2 : Nat) (a_len : Nat)  :
    dom_beltDWPWrap_109 a_count1 a_count2 a_len → check_beltDWPWrap a_count1 a_count2 a_len = none := by
  exact firstViol_one_none (agree_beltDWPWrap a_count1 a_count2 a_len)

theorem agree_beltDWPUnwrap (a_count1 : Nat) (a_count2 : Nat) (a_len : Nat)  :
    check_beltDWPUnwrap a_count1 a_count2 a_len = firstViol [(109, dom_beltDWPUnwrap_109 a_count1 a_count2 a_len)] := by
  unfold check_beltDWPUnwrap
  exact cascade_cons (by simp only [dom_beltDWPUnwrap_109]; omega) rfl

/-- outside the documented domain `beltDWPUnwrap` returns a documented class whose condition is violated -/
theorem contract_beltDWPUnwrap (a_count1 : Nat) (a_count2 : Nat) (a_len : Nat)  :
    ¬ (dom_beltDWPUnwrap_109 a_count1 a_count2 a_len) →
    (check_beltDWPUnwrap a_count1 a_count2 a_len = some 109 ∧ ¬ dom_beltDWPUnwrap_109 a_count1 a_count2 a_len) := by
  exact firstViol_one_some (agree_beltDWPUnwrap a_count1 a_count2 a_len)

/-- inside the documented domain (pointers valid) `beltDWPUnwrap` passes its argument checks -/
theorem accept_beltDWPUnwrap (a_count1 : Nat) (a_count2 : Nat) (a_len : Nat)  :
    dom_beltDWPUnwrap_109 a_count1 a_count2 a_len → check_beltDWPUnwrap a_count1 a_count2 a_len = none := by
  exact firstViol_one_none (agree_beltDWPUnwrap a_count1 a_count2 a_len)

theorem agree_beltECBEncr (a_count : Nat) (a_len : Nat)  :
    check_beltECBEncr a_count a_len = firstViol [(109, dom_beltECBEncr_109 a_count a_len)] := by
  unfold check_beltECBEncr
  exact cascade_cons (by simp only [dom_beltECBEncr_109]; omega) rfl

/-- outside the documented domain `beltECBEncr` returns a documented class whose condition is violated -/
theorem contract_beltECBEncr (a_count : Nat) (a_len : Nat)  :
    ¬ (dom_beltECBEncr_109 a_count a_len) →
    (check_beltECBEncr a_count a_len = some 109 ∧ ¬ dom_beltECBEncr_109 a_count a_len) := by
  exact firstViol_one_some (agree_beltECBEncr a_count a_len)

/-- inside the documented domain (pointers valid) `beltECBEncr` passes its argument checks -/
theorem accept_beltECBEncr (a_count : Nat) (a_len : Nat)  :
    dom_beltECBEncr_109 a_count a_len → check_beltECBEncr a_count a_len = none := by
  exact firstViol_one_none (agree_beltECBEncr a_count a_len)

/-- ORDER: `beltECBEncr` returns the class of the FIRST \expect item (header listing order) that is violated -/
theorem order_beltECBEncr (a_count : Nat) (a_len : Nat)  :
    check_beltECBEncr a_count a_len = first_beltECBEncr a_count a_len := by
  rw [agree_beltECBEncr a_count a_len]
  simp only [first_beltECBEncr, dom_beltECBEncr_109, firstViol_cons, firstViol_nil, ite_not_and]

theorem agree_beltECBDecr (a_count : Nat) (a_len : Nat)  :
    check_beltECBDecr a_count a_len = firstViol [(109, dom_beltECBDecr_109 a_count a_len)] := by
  unfold check_beltECBDecr
  exact cascade_cons (by simp only [dom_beltECBDecr_109]; omega) rfl

/-- outside the documented domain `beltECBDecr` returns a documented class whose condition is violated -/
theorem contract_beltECBDecr (a_count : Nat) (a_len : Nat)  :
    ¬ (dom_beltECBDecr_109 a_count a_len) →
    (check_beltECBDecr a_count a_len = some 109 ∧ ¬ dom_beltECBDecr_109 a_count a_len) := by
  exact firstViol_one_some (agree_beltECBDecr a_count a_len)

/-- inside the documented domain (pointers valid) `beltECBDecr` passes its argument checks -/
theorem accept_beltECBDecr (a_count : Nat) (a_len : Nat)  :
    dom_beltECBDecr_109 a_count a_len → check_beltECBDecr a_count a_len = none := by
  exact firstViol_one_none (agree_beltECBDecr a_count a_len)

/-- ORDER: `beltECBDecr` returns the class of the FIRST \expect item (header listing order) that is violated -/
theorem order_beltECBDecr (a_count : Nat) (a_len : Nat)  :
    check_beltECBDecr a_count a_len = first_beltECBDecr a_count a_len := by
  rw [agree_beltECBDecr a_count a_len]
  simp only [first_beltECBDecr, dom_beltECBDecr_109, firstViol_cons, firstViol_nil, ite_not_and]

theorem agree_beltFMTEncr (a_mod : Nat) (a_count : Nat) (a_len : Nat)  :
    check_beltFMTEncr a_mod a_count a_len = firstViol [(109, dom_beltFMTEncr_109 a_mod a_count a_len), (119, dom_beltFMTEncr_119 a_mod a_count a_len)] := by
  unfold check_beltFMTEncr
  exact cascade_cons (by simp only [dom_beltFMTEncr_109]; omega) (cascade_cons (by simp only [dom_beltFMTEncr_119]; omega) rfl)

/-- outside the documented domain `beltFMTEncr` returns a documented class whose condition is violated -/
theorem contract_beltFMTEncr (a_mod : Nat) (a_count : Nat) (a_len : Nat)  :
    ¬ (dom_beltFMTEncr_109 a_mod a_count a_len ∧ dom_beltFMTEncr_119 a_mod a_count a_len) →
    (check_beltFMTEncr a_mod a_count a_len = some 109 ∧ ¬ dom_beltFMTEncr_109 a_mod a_count a_len) ∨
    (check_beltFMTEncr a_mod a_count a_len = some 119 ∧ ¬ dom_beltFMTEncr_119 a_mod a_count a_len) := by
  rw [agree_beltFMTEncr a_mod a_count a_len]
  by_cases h109 : dom_beltFMTEncr_109 a_mod a_count a_len <;> by_cases h119 : dom_beltFMTEncr_119 a_mod a_count a_len <;> simp [firstViol, h109, h119]

/-- inside the documented domain (pointers valid) `beltFMTEncr` passes its argument checks -/
theorem accept_beltFMTEncr (a_mod : Nat) (a_count : Nat) (a_len : Nat)  :
    dom_beltFMTEncr_109 a_mod a_count a_len ∧ dom_beltFMTEncr_119 a_mod a_count a_len → check_beltFMTEncr a_mod a_count a_len = none := by
  rw [agree_beltFMTEncr a_mod a_count a_len]
  intro h
  simp [firstViol, h]

/-- ORDER: `beltFMTEncr` returns the class of the FIRST \expect item (header listing order) that is violated -/
theorem order_beltFMTEncr (a_mod : Nat) (a_count : Nat) (a_len : Nat)  :
    check_beltFMTEncr a_mod a_count a_len = first_beltFMTEncr a_mod a_count a_len := by
  rw [agree_beltFMTEncr a_mod a_count a_len]
  simp only [first_beltFMTEncr, dom_beltFMTEncr_109, dom_beltFMTEncr_119, firstViol_cons, firstViol_nil, ite_not_and]

theorem agree_beltFMTDecr (a_mod : Nat) (a_count : Nat) (a_len : Nat)  :
    check_beltFMTDecr a_mod a_count a_len = firstViol [(109, dom_beltFMTDecr_109 a_mod a_count a_len), (119, dom_beltFMTDecr_119 a_mod a_count a_len)] := by
  unfold check_beltFMTDecr
  exact cascade_cons (by simp only [dom_beltFMTDecr_109]; omega) (cascade_cons (by simp only [dom_beltFMTDecr_119]; omega) rfl)

/-- outside the documented domain `beltFMTDecr` returns a documented class whose condition is violated -/
theorem contract_beltFMTDecr (a_mod : Nat) (a_count : Nat) (a_len : Nat)  :
    ¬ (dom_beltFMTDecr_109 a_mod a_count a_len ∧ dom_beltFMTDecr_119 a_mod a_count a_len) →
    (check_beltFMTDecr a_mod a_count a_len = some 109 ∧ ¬ dom_beltFMTDecr_109 a_mod a_count a_len) ∨
    (check_beltFMTDecr a_mod a_count a_len = some 119 ∧ ¬ dom_beltFMTDecr_119 a_mod a_count a_len) := by
  rw [agree_beltFMTDecr a_mod a_count a_len]
  by_cases h109 : dom_beltFMTDecr_109 a_mod a_count a_len <;> by_cases h119 : dom_beltFMTDecr_119 a_mod a_count a_len <;> simp [firstViol, h109, h119]

/-- inside the documented domain (pointers valid) `beltFMTDecr` passes its argument checks -/
theorem accept_beltFMTDecr (a_mod : Nat) (a_count : Nat) (a_len : Nat)  :
    dom_beltFMTDecr_109 a_mod a_count a_len ∧ dom_beltFMTDecr_119 a_mod a_count a_len → check_beltFMTDecr a_mod a_count a_len = none := by
  rw [agree_beltFMTDecr a_mod a_count a_len]
  intro h
  simp [firstViol, h]

/-- ORDER: `beltFMTDecr` returns the class of the FIRST \expect item (header listing order) that is violated -/
theorem order_beltFMTDecr (a_mod : Nat) (a_count : Nat) (a_len : Nat)  :
    check_beltFMTDecr a_mod a_count a_len = first_beltFMTDecr a_mod a_count a_len := by
  rw [agree_beltFMTDecr a_mod a_count a_len]
  simp only [first_beltFMTDecr, dom_beltFMTDecr_109, dom_beltFMTDecr_119, firstViol_cons, firstViol_nil, ite_not_and]

theorem agree_beltKRP (a_m : Nat) (a_n : Nat)  :
    check_beltKRP a_m a_n = firstViol [(109, dom_beltKRP_109 a_m a_n)] := by
  unfold check_beltKRP
  exact cascade_cons (by simp only [dom_beltKRP_109]; omega) rfl

/-- outside the documented domain `beltKRP` returns a documented class whose condition is violated -/
theorem contract_beltKRP (a_m : Nat) (a_n : Nat)  :
    ¬ (dom_beltKRP_109 a_m a_n) →
    (check_beltKRP a_m a_n = some 109 ∧ ¬ dom_beltKRP_109 a_m a_n) := by
  exact firstViol_one_some (agree_beltKRP a_m a_n)

/-- inside the documented domain (pointers valid) `beltKRP` passes its argument checks -/
theorem accept_beltKRP (a_m : Nat) (a_n : Nat)  :
    dom_beltKRP_109 a_m a_n → check_beltKRP a_m a_n = none := by
  exact firstViol_one_none (agree_beltKRP a_m a_n)

/-- ORDER: `beltKRP` returns the class of the FIRST \expect item (header listing order) that is violated -/
theorem order_beltKRP (a_m : Nat) (a_n : Nat)  :
    check_beltKRP a_m a_n = first_beltKRP a_m a_n := by
  rw [agree_beltKRP a_m a_n]
  simp only [first_beltKRP, dom_beltKRP_109, firstViol_cons, firstViol_nil, ite_not_and]

theorem agree_beltKWPWrap (a_count : Nat) (a_len : Nat)  :
    check_beltKWPWrap a_count a_len = firstViol [(109, dom_beltKWPWrap_109 a_count a_len)] := by
  unfold check_beltKWPWrap
  exact cascade_cons (by simp only [dom_beltKWPWrap_109]; omega) rfl

/-- outside the documented domain `beltKWPWrap` returns a documented class whose condition is violated -/
theorem contract_beltKWPWrap (a_count : Nat) (a_len : Nat)  :
    ¬ (dom_beltKWPWrap_109 a_count a_len) →
    (check_beltKWPWrap a_count a_len = some 109 ∧ ¬ dom_beltKWPWrap_109 a_count a_len) := by
  exact firstViol_one_some (agree_beltKWPWrap a_count a_len)

/-- inside the documented domain (pointers valid) `beltKWPWrap` passes its argument checks -/
theorem accept_beltKWPWrap (a_count : Nat) (a_len : Nat)  :
    dom_beltKWPWrap_109 a_count a_len → check_beltKWPWrap a_count a_len = none := by
  exact firstViol_one_none (agree_beltKWPWrap a_count a_len)

/-- ORDER: `beltKWPWrap` returns the class of the FIRST \expect item (header listing order) that is violated -/
theorem order_beltKWPWrap (a_count : Nat) (a_len : Nat)  :
    check_beltKWPWrap a_count a_len = first_beltKWPWrap a_count a_len := by
  rw [agree_beltKWPWrap a_count a_len]
  simp only [first_beltKWPWrap, dom_beltKWPWrap_109, firstViol_cons, firstViol_nil, ite_not_and]

theorem agree_beltKWPUnwrap (a_count : Nat) (a_len : Nat)  :
    check_beltKWPUnwrap a_count a_len = firstViol [(109, dom_beltKWPUnwrap_109 a_count a_len)] := by
  unfold check_beltKWPUnwrap
  exact cascade_cons (by simp only [dom_beltKWPUnwrap_109]; omega) rfl

/-- outside the documented domain `beltKWPUnwrap` returns a documented class whose condition is violated -/
theorem contract_beltKWPUnwrap (a_count : Nat) (a_len : Nat)  :
    ¬ (dom_beltKWPUnwrap_109 a_count a_len) →
    (check_beltKWPUnwrap a_count a_len = some 109 ∧ ¬ dom_beltKWPUnwrap_109 a_count a_len) := by
  exact firstViol_one_some (agree_beltKWPUnwrap a_count a_len)

/-- inside the documented domain (pointers valid) `beltKWPUnwrap` passes its argument checks -/
theorem accept_beltKWPUnwrap (a_count : Nat) (a_len : Nat)  :
    dom_beltKWPUnwrap_109 a_count a_len → check_beltKWPUnwrap a_count a_len = none := by
  exact firstViol_one_none (agree_beltKWPUnwrap a_count a_len)

/-- ORDER: `beltKWPUnwrap` returns the class of the FIRST \expect item (header listing order) that is violated -/
theorem order_beltKWPUnwrap (a_count : Nat) (a_len : Nat)  :
    check_beltKWPUnwrap a_count a_len = first_beltKWPUnwrap a_count a_len := by
  rw [agree_beltKWPUnwrap a_count a_len]
  simp only [first_beltKWPUnwrap, dom_beltKWPUnwrap_109, firstViol_cons, firstViol_nil, ite_not_and]

theorem agree_beltMAC (a_count : Nat) (a_len : Nat)  :
    check_beltMAC a_count a_len = firstViol [(109, dom_beltMAC_109 a_count a_len)] := by
  unfold check_beltMAC
  exact cascade_cons (by simp only [dom_beltMAC_109]; omega) rfl

/-- outside the documented domain `beltMAC` returns a documented class whose condition is violated -/
theorem contract_beltMAC (a_count : Nat) (a_len : Nat)  :
    ¬ (dom_beltMAC_109 a_count a_len) →
    (check_beltMAC a_count a_len = some 109 ∧ ¬ dom_beltMAC_109 a_count a_len) := by
  exact firstViol_one_some (agree_beltMAC a_count a_len)

/-- inside the documented domain (pointers valid) `beltMAC` passes its argument checks -/
theorem accept_beltMAC (a_count : Nat) (a_len : Nat)  :
    dom_beltMAC_109 a_count a_len → check_beltMAC a_count a_len = none := by
  exact firstViol_one_none (agree_beltMAC a_count a_len)

theorem agree_beltPBKDF2 (a_pwd_len : Nat) (a_iter : Nat) (a_salt_len : Nat)  :
    check_beltPBKDF2 a_pwd_len a_iter a_salt_len = firstViol [(109, dom_beltPBKDF2_109 a_pwd_len a_iter a_salt_len)] := by
  unfold check_beltPBKDF2
  exact cascade_cons (by simp only [dom_beltPBKDF2_109]; omega) rfl

/-- outside the documented domain `beltPBKDF2` returns a documented class whose condition is violated -/
theorem contract_beltPBKDF2 (a_pwd_len : Nat) (a_iter : Nat) (a_salt_len : Nat)  :
    ¬ (dom_beltPBKDF2_109 a_pwd_len a_iter a_salt_len) →
    (check_beltPBKDF2 a_pwd_len a_iter a_salt_len = some 109 ∧ ¬ dom_beltPBKDF2_109 a_pwd_len a_iter a_salt_len) := by
  exact firstViol_one_some (agree_beltPBKDF2 a_pwd_len a_iter a_salt_len)

/-- inside the documented domain (pointers valid) `beltPBKDF2` passes its argument checks -/
theorem accept_beltPBKDF2 (a_pwd_len : Nat) (a_iter : Nat) (a_salt_len : Nat)  :
    dom_beltPBKDF2_109 a_pwd_len a_iter a_salt_len → check_beltPBKDF2 a_pwd_len a_iter a_salt_len = none := by
  exact firstViol_one_none (agree_beltPBKDF2 a_pwd_len a_iter a_salt_len)

theorem agree_beltSDEEncr (a_count : Nat) (a_len : Nat)  :
    check_beltSDEEncr a_count a_len = firstViol [(109, dom_beltSDEEncr_109 a_count a_len)] := by
  unfold check_beltSDEEncr
  exact cascade_cons (by simp only [dom_beltSDEEncr_109]; omega) rfl

/-- outside the documented domain `beltSDEEncr` returns a documented class whose condition is violated -/
theorem contract_beltSDEEncr (a_count : Nat) (a_len : Nat)  :
    ¬ (dom_beltSDEEncr_109 a_count a_len) →
    (check_beltSDEEncr a_count a_len = some 109 ∧ ¬ dom_beltSDEEncr_109 a_count a_len) := by
  exact firstViol_one_some (agree_beltSDEEncr a_count a_len)

/-- inside the documented domain (pointers valid) `beltSDEEncr` passes its argument checks -/
theorem accept_beltSDEEncr (a_count : Nat) (a_len : Nat)  :
    dom_beltSDEEncr_109 a_count a_len → check_beltSDEEncr a_count a_len = none := by
  exact firstViol_one_none (agree_beltSDEEncr a_count a_len)

/-- ORDER: `beltSDEEncr` returns the class of the FIRST \expect item (header listing order) that is violated -/
theorem order_beltSDEEncr (a_count : Nat) (a_len : Nat)  :
    check_beltSDEEncr a_count a_len = first_beltSDEEncr a_count a_len := by
  rw [agree_beltSDEEncr a_count a_len]
  simp only [first_beltSDEEncr, dom_beltSDEEncr_109, firstViol_cons, firstViol_nil, ite_not_and]

theorem agree_beltSDEDecr (a_count : Nat) (a_len : Nat)  :
    check_beltSDEDecr a_count a_len = firstViol [(109, dom_beltSDEDecr_109 a_count a_len)] := by
  unfold check_beltSDEDecr
  exact cascade_cons (by simp only [dom_beltSDEDecr_109]; omega) rfl

/-- outside the documented domain `beltSDEDecr` returns a documented class whose condition is violated -/
theorem contract_beltSDEDecr (a_count : Nat) (a_len : Nat)  :
    ¬ (dom_beltSDEDecr_109 a_count a_len) →
    (check_beltSDEDecr a_count a_len = some 109 ∧ ¬ dom_beltSDEDecr_109 a_count a_len) := by
  exact firstViol_one_some (agree_beltSDEDecr a_count a_len)

/-- inside the documented domain (pointers valid) `beltSDEDecr` passes its argument checks -/
theorem accept_beltSDEDecr (a_count : Nat) (a_len : Nat)  :
    dom_beltSDEDecr_109 a_count a_len → check_beltSDEDecr a_count a_len = none := by
  exact firstViol_one_none (agree_beltSDEDecr a_count a_len)

/-- ORDER: `beltSDEDecr` returns the class of the FIRST \expect item (header listing order) that is violated -/
theorem order_beltSDEDecr (a_count : Nat) (a_len : Nat)  :
    check_beltSDEDecr a_count a_len = first_beltSDEDecr a_count a_len := by
  rw [agree_beltSDEDecr a_count a_len]
  simp only [first_beltSDEDecr, dom_beltSDEDecr_109, firstViol_cons, firstViol_nil, ite_not_and]

theorem agree_bignIdExtract (a_oid_len : Nat) (p_params_ok : Bool) (p_oid_ok : Bool)  :
    check_bignIdExtract a_oid_len p_params_ok p_oid_ok = firstViol [(502, dom_bignIdExtract_502 a_oid_len p_params_ok p_oid_ok), (301, dom_bignIdExtract_301 a_oid_len p_params_ok p_oid_ok)] := by
  unfold check_bignIdExtract
  exact cascade_cons .rfl (cascade_cons .rfl rfl)

/-- outside the documented domain `bignIdExtract` returns a documented class whose condition is violated -/
theorem contract_bignIdExtract (a_oid_len : Nat) (p_params_ok : Bool) (p_oid_ok : Bool)  :
    ¬ (dom_bignIdExtract_301 a_oid_len p_params_ok p_oid_ok ∧ dom_bignIdExtract_502 a_oid_len p_params_ok p_oid_ok) →
    (check_bignIdExtract a_oid_len p_params_ok p_oid_ok = some 301 ∧ ¬ dom_bignIdExtract_301 a_oid_len p_params_ok p_oid_ok) ∨
    (check_bignIdExtract a_oid_len p_params_ok p_oid_ok = some 502 ∧ ¬ dom_bignIdExtract_502 a_oid_len p_params_ok p_oid_ok) := by
  rw [agree_bignIdExtract a_oid_len p_params_ok p_oid_ok]
  by_cases h301 : dom_bignIdExtract_301 a_oid_len p_params_ok p_oid_ok <;> by_cases h502 : dom_bignIdExtract_502 a_oid_len p_params_ok p_oid_ok <;> simp [firstViol, h301, h502]

/-- inside the documented domain (pointers valid) `bignIdExtract` passes its argument checks -/
theorem accept_bignIdExtract (a_oid_len : Nat) (p_params_ok : Bool) (p_oid_ok : Bool)  :
    dom_bignIdExtract_301 a_oid_len p_params_ok p_oid_ok ∧ dom_bignIdExtract_502 a_oid_len p_params_ok p_oid_ok → check_bignIdExtract a_oid_len p_params_ok p_oid_ok = none := by
  rw [agree_bignIdExtract a_oid_len p_params_ok p_oid_ok]
  intro h
  simp [firstViol, h]

/-- ORDER: `bignIdExtract` returns the class of the FIRST \expect item (header listing order) that is violated -/
theorem order_bignIdExtract (a_oid_len : Nat) (p_params_ok : Bool) (p_oid_ok : Bool)  :
    check_bignIdExtract a_oid_len p_params_ok p_oid_ok = first_bignIdExtract a_oid_len p_params_ok p_oid_ok := by
  rw [agree_bignIdExtract a_oid_len p_params_ok p_oid_ok]
  simp only [first_bignIdExtract, dom_bignIdExtract_301, dom_bignIdExtract_502, firstViol_cons, firstViol_nil]

theorem agree_bignIdSign (a_oid_len : Nat) (p_params_ok : Bool) (p_oid_ok : Bool) (p_rng_ok : Bool)  :
    check_bignIdSign a_oid_len p_params_ok p_oid_ok p_rng_ok = firstViol [(502, dom_bignIdSign_502 a_oid_len p_params_ok p_oid_ok p_rng_ok), (301, dom_bignIdSign_301 a_oid_len p_params_ok p_oid_ok p_rng_ok), (304, dom_bignIdSign_304 a_oid_len p_params_ok p_oid_ok p_rng_ok)] := by
  unfold check_bignIdSign
  exact cascade_cons .rfl (cascade_cons .rfl (cascade_cons .rfl rfl))

/-- outside the documented domain `bignIdSign` returns a documented class whose condition is violated -/
theorem contract_bignIdSign (a_oid_len : Nat) (p_params_ok : Bool) (p_oid_ok : Bool) (p_rng_ok : Bool)  :
    ¬ (dom_bignIdSign_301 a_oid_len p_params_ok p_oid_ok p_rng_ok ∧ dom_bignIdSign_304 a_oid_len p_params_ok p_oid_ok p_rng_ok ∧ dom_bignIdSign_502 a_oid_len p_params_ok p_oid_ok p_rng_ok) →
    (check_bignIdSign a_oid_len p_params_ok p_oid_ok p_rng_ok = some 301 ∧ ¬ dom_bignIdSign_301 a_oid_len p_params_ok p_oid_ok p_rng_ok) ∨
    (check_bignIdSign a_oid_len p_params_ok p_oid_ok p_rng_ok = some 304 ∧ ¬ dom_bignIdSign_304 a_oid_len p_params_ok p_oid_ok p_rng_ok) ∨
    (check_bignIdSign a_oid_len p_params_ok p_oid_ok p_rng_ok = some 502 ∧ ¬ dom_bignIdSign_502 a_oid_len p_params_ok p_oid_ok p_rng_ok) := by
  rw [agree_bignIdSign a_oid_len p_params_ok p_oid_ok p_rng_ok]
  by_cases h301 : dom_bignIdSign_301 a_oid_len p_params_ok p_oid_ok p_rng_ok <;> by_cases h304 : dom_bignIdSign_304 a_oid_len p_params_ok p_oid_ok p_rng_ok <;> by_cases h502 : dom_bignIdSign_502 a_oid_len p_params_ok p_oid_ok p_rng_ok <;> simp [firstViol, h301, h304, h502]

/-- inside the documented domain (pointers valid) `bignIdSign` passes its argument checks -/
theorem accept_bignIdSign (a_oid_len : Nat) (p_params_ok : Bool) (p_oid_ok : Bool) (p_rng_ok : Bool)  :
    dom_bignIdSign_301 a_oid_len p_params_ok p_oid_ok p_rng_ok ∧ dom_bignIdSign_304 a_oid_len p_params_ok p_oid_ok p_rng_ok ∧ dom_bignIdSign_502 a_oid_len p_params_ok p_oid_ok p_rng_ok → check_bignIdSign a_oid_len p_params_ok p_oid_ok p_rng_ok = none := by
  rw [agree_bignIdSign a_oid_len p_params_ok p_oid_ok p_rng_ok]
  intro h
  simp [firstViol, h]

/-- ORDER: `bignIdSign` returns the class of the FIRST \expect item (header listing order) that is violated -/
theorem order_bignIdSign (a_oid_len : Nat) (p_params_ok : Bool) (p_oid_ok : Bool) (p_rng_ok : Bool)  :
    check_bignIdSign a_oid_len p_params_ok p_oid_ok p_rng_ok = first_bignIdSign a_oid_len p_params_ok p_oid_ok p_rng_ok := by
  rw [agree_bignIdSign a_oid_len p_params_ok p_oid_ok p_rng_ok]
  simp only [first_bignIdSign, dom_bignIdSign_301, dom_bignIdSign_304, dom_bignIdSign_502, firstViol_cons, firstViol_nil]

theorem agree_bignIdSign2 (a_oid_len : Nat) (a_t_len : Nat) (p_params_ok : Bool) (p_oid_ok : Bool)  :
    check_bignIdSign2 a_oid_len a_t_len p_params_ok p_oid_ok = firstViol [(502, dom_bignIdSign2_502 a_oid_len a_t_len p_params_ok p_oid_ok), (301, dom_bignIdSign2_301 a_oid_len a_t_len p_params_ok p_oid_ok)] := by
  unfold check_bignIdSign2
  exact cascade_cons .rfl (cascade_cons .rfl rfl)

/-- outside the documented domain `bignIdSign2` returns a documented class whose condition is violated -/
theorem contract_bignIdSign2 (a_oid_len : Nat) (a_t_len : Nat) (p_params_ok : Bool) (p_oid_ok : Bool)  :
    ¬ (dom_bignIdSign2_301 a_oid_len a_t_len p_params_ok p_oid_ok ∧ dom_bignIdSign2_502 a_oid_len a_t_len p_params_ok p_oid_ok) →
    (check_bignIdSign2 a_oid_len a_t_len p_params_ok p_oid_ok = some 301 ∧ ¬ dom_bignIdSign2_301 a_oid_len a_t_len p_params_ok p_oid_ok) ∨
    (check_bignIdSign2 a_oid_len a_t_len p_params_ok p_oid_ok = some 502 ∧ ¬ dom_bignIdSign2_502 a_oid_len a_t_len p_params_ok p_oid_ok) := by
  rw [agree_bignIdSign2 a_oid_len a_t_len p_params_ok p_oid_ok]
  by_cases h301 : dom_bignIdSign2_301 a_oid_len a_t_len p_params_ok p_oid_ok <;> by_cases h502 : dom_bignIdSign2_502 a_oid_len a_t_len p_params_ok p_oid_ok <;> simp [firstViol, h301, h502]

/-- inside the documented domain (pointers valid) `bignIdSign2` passes its argument checks -/
theorem accept_bignIdSign2 (a_oid_len : Nat) (a_t_len : Nat) (p_params_ok : Bool) (p_oid_ok : Bool)  :
    dom_bignIdSign2_301 a_oid_len a_t_len p_params_ok p_oid_ok ∧ dom_bignIdSign2_502 a_oid_len a_t_len p_params_ok p_oid_ok → check_bignIdSign2 a_oid_len a_t_len p_params_ok p_oid_ok = none := by
  rw [agree_bignIdSign2 a_oid_len a_t_len p_params_ok p_oid_ok]
  intro h
  simp [firstViol, h]

/-- ORDER: `bignIdSign2` returns the class of the FIRST \expect item (header listing order) that is violated -/
theorem order_bignIdSign2 (a_oid_len : Nat) (a_t_len : Nat) (p_params_ok : Bool) (p_oid_ok : Bool)  :
    check_bignIdSign2 a_oid_len a_t_len p_params_ok p_oid_ok = first_bignIdSign2 a_oid_len a_t_len p_params_ok p_oid_ok := by
  rw [agree_bignIdSign2 a_oid_len a_t_len p_params_ok p_oid_ok]
  simp only [first_bignIdSign2, dom_bignIdSign2_301, dom_bignIdSign2_502, firstViol_cons, firstViol_nil]

theorem agree_bignIdVerify (a_oid_len : Nat) (p_params_ok : Bool) (p_oid_ok : Bool)  :
    check_bignIdVerify a_oid_len p_params_ok p_oid_ok = firstViol [(502, dom_bignIdVerify_502 a_oid_len p_params_ok p_oid_ok), (301, dom_bignIdVerify_301 a_oid_len p_params_ok p_oid_ok)] := by
  unfold check_bignIdVerify
  exact cascade_cons .rfl (cascade_cons .rfl rfl)

/-- outside the documented domain `bignIdVerify` returns a documented class whose condition is violated -/
theorem contract_bignIdVerify (a_oid_len : Nat) (p_params_ok : Bool) (p_oid_ok : Bool)  :
    ¬ (dom_bignIdVerify_301 a_oid_len p_params_ok p_oid_ok ∧ dom_bignIdVerify_502 a_oid_len p_params_ok p_oid_ok) →
    (check_bignIdVerify a_oid_len p_params_ok p_oid_ok = some 301 ∧ ¬ dom_bignIdVerify_301 a_oid_len p_params_ok p_oid_ok) ∨
    (check_bignIdVerify a_oid_len p_params_ok p_oid_ok = some 502 ∧ ¬ dom_bignIdVerify_502 a_oid_len p_params_ok p_oid_ok) := by
  rw [agree_bignIdVerify a_oid_len p_params_ok p_oid_ok]
  by_cases h301 : dom_bignIdVerify_301 a_oid_len p_params_ok p_oid_ok <;> by_cases h502 : dom_bignIdVerify_502 a_oid_len p_params_ok p_oid_ok <;> simp [firstViol, h301, h502]

/-- inside the documented domain (pointers valid) `bignIdVerify` passes its argument checks -/
theorem accept_bignIdVerify (a_oid_len : Nat) (p_params_ok : Bool) (p_oid_ok : Bool)  :
    dom_bignIdVerify_301 a_oid_len p_params_ok p_oid_ok ∧ dom_bignIdVerify_502 a_oid_len p_params_ok p_oid_ok → check_bignIdVerify a_oid_len p_params_ok p_oid_ok = none := by
  rw [agree_bignIdVerify a_oid_len p_params_ok p_oid_ok]
  intro h
  simp [firstViol, h]

/-- ORDER: `bignIdVerify` returns the class of the FIRST \expect item (header listing order) that is violated -/
theorem order_bignIdVerify (a_oid_len : Nat) (p_params_ok : Bool) (p_oid_ok : Bool)  :
    check_bignIdVerify a_oid_len p_params_ok p_oid_ok = first_bignIdVerify a_oid_len p_params_ok p_oid_ok := by
  rw [agree_bignIdVerify a_oid_len p_params_ok p_oid_ok]
  simp only [first_bignIdVerify, dom_bignIdVerify_301, dom_bignIdVerify_502, firstViol_cons, firstViol_nil]

theorem agree_bignKeyWrap (a_len : Nat) (p_params_ok : Bool) (p_rng_ok : Bool)  :
    check_bignKeyWrap a_len p_params_ok p_rng_ok = firstViol [(502, dom_bignKeyWrap_502 a_len p_params_ok p_rng_ok), (304, dom_bignKeyWrap_304 a_len p_params_ok p_rng_ok), (109, dom_bignKeyWrap_109 a_len p_params_ok p_rng_ok)] := by
  unfold check_bignKeyWrap
  exact cascade_cons .rfl (cascade_cons .rfl (cascade_cons (by simp only [dom_bignKeyWrap_109]; omega) rfl))

/-- outside the documented domain `bignKeyWrap` returns a documented class whose condition is violated -/
theorem contract_bignKeyWrap (a_len : Nat) (p_params_ok : Bool) (p_rng_ok : Bool)  :
    ¬ (dom_bignKeyWrap_109 a_len p_params_ok p_rng_ok ∧ dom_bignKeyWrap_304 a_len p_params_ok p_rng_ok ∧ dom_bignKeyWrap_502 a_len p_params_ok p_rng_ok) →
    (check_bignKeyWrap a_len p_params_ok p_rng_ok = some 109 ∧ ¬ dom_bignKeyWrap_109 a_len p_params_ok p_rng_ok) ∨
    (check_bignKeyWrap a_len p_params_ok p_rng_ok = some 304 ∧ ¬ dom_bignKeyWrap_304 a_len p_params_ok p_rng_ok) ∨
    (check_bignKeyWrap a_len p_params_ok p_rng_ok = some 502 ∧ ¬ dom_bignKeyWrap_502 a_len p_params_ok p_rng_ok) := by
  rw [agree_bignKeyWrap a_len p_params_ok p_rng_ok]
  by_cases h109 : dom_bignKeyWrap_109 a_len p_params_ok p_rng_ok <;> by_cases h304 : dom_bignKeyWrap_304 a_len p_params_ok p_rng_ok <;> by_cases h502 : dom_bignKeyWrap_502 a_len p_params_ok p_rng_ok <;> simp [firstViol, h109, h304, h502]

/-- inside the documented domain (pointers valid) `bignKeyWrap` passes its argument checks -/
theorem accept_bignKeyWrap (a_len : Nat) (p_params_ok : Bool) (p_rng_ok : Bool)  :
    dom_bignKeyWrap_109 a_len p_params_ok p_rng_ok ∧ dom_bignKeyWrap_304 a_len p_params_ok p_rng_ok ∧ dom_bignKeyWrap_502 a_len p_params_ok p_rng_ok → check_bignKeyWrap a_len p_params_ok p_rng_ok = none := by
  rw [agree_bignKeyWrap a_len p_params_ok p_rng_ok]
  intro h
  simp [firstViol, h]

theorem agree_bignKeyUnwrap (a_len : Nat) (p_params_ok : Bool)  :
    check_bignKeyUnwrap a_len p_params_ok = firstViol [(502, dom_bignKeyUnwrap_502 a_len p_params_ok)] := by
  unfold check_bignKeyUnwrap
  exact cascade_cons .rfl rfl

/-- outside the documented domain `bignKeyUnwrap` returns a documented class whose condition is violated -/
theorem contract_bignKeyUnwrap (a_len : Nat) (p_params_ok : Bool)  :
    ¬ (dom_bignKeyUnwrap_502 a_len p_params_ok) →
    (check_bignKeyUnwrap a_len p_params_ok = some 502 ∧ ¬ dom_bignKeyUnwrap_502 a_len p_params_ok) := by
  exact firstViol_one_some (agree_bignKeyUnwrap a_len p_params_ok)

/-- inside the documented domain (pointers valid) `bignKeyUnwrap` passes its argument checks -/
theorem accept_bignKeyUnwrap (a_len : Nat) (p_params_ok : Bool)  :
    dom_bignKeyUnwrap_502 a_len p_params_ok → check_bignKeyUnwrap a_len p_params_ok = none := by
  exact firstViol_one_none (agree_bignKeyUnwrap a_len p_params_ok)

theorem agree_bignKeypairGen (p_params_ok : Bool) (p_rng_ok : Bool)  :
    check_bignKeypairGen p_params_ok p_rng_ok = firstViol [(502, dom_bignKeypairGen_502 p_params_ok p_rng_ok), (304, dom_bignKeypairGen_304 p_params_ok p_rng_ok)] := by
  unfold check_bignKeypairGen
  exact cascade_cons .rfl (cascade_cons .rfl rfl)

/-- outside the documented domain `bignKeypairGen` returns a documented class whose condition is violated -/
theorem contract_bignKeypairGen (p_params_ok : Bool) (p_rng_ok : Bool)  :
    ¬ (dom_bignKeypairGen_304 p_params_ok p_rng_ok ∧ dom_bignKeypairGen_502 p_params_ok p_rng_ok) →
    (check_bignKeypairGen p_params_ok p_rng_ok = some 304 ∧ ¬ dom_bignKeypairGen_304 p_params_ok p_rng_ok) ∨
    (check_bignKeypairGen p_params_ok p_rng_ok = some 502 ∧ ¬ dom_bignKeypairGen_502 p_params_ok p_rng_ok) := by
  rw [agree_bignKeypairGen p_params_ok p_rng_ok]
  by_cases h304 : dom_bignKeypairGen_304 p_params_ok p_rng_ok <;> by_cases h502 : dom_bignKeypairGen_502 p_params_ok p_rng_ok <;> simp [firstViol, h304, h502]

/-- inside the documented domain (pointers valid) `bignKeypairGen` passes its argument checks -/
theorem accept_bignKeypairGen (p_params_ok : Bool) (p_rng_ok : Bool)  :
    dom_bignKeypairGen_304 p_params_ok p_rng_ok ∧ dom_bignKeypairGen_502 p_params_ok p_rng_ok → check_bignKeypairGen p_params_ok p_rng_ok = none := by
  rw [agree_bignKeypairGen p_params_ok p_rng_ok]
  intro h
  simp [firstViol, h]

/-- ORDER: `bignKeypairGen` returns the class of the FIRST \expect item (header listing order) that is violated -/
theorem order_bignKeypairGen (p_params_ok : Bool) (p_rng_ok : Bool)  :
    check_bignKeypairGen p_params_ok p_rng_ok = first_bignKeypairGen p_params_ok p_rng_ok := by
  rw [agree_bignKeypairGen p_params_ok p_rng_ok]
  simp only [first_bignKeypairGen, dom_bignKeypairGen_304, dom_bignKeypairGen_502, firstViol_cons, firstViol_nil]

theorem agree_bignKeypairVal (p_params_ok : Bool)  :
    check_bignKeypairVal p_params_ok = firstViol [(502, dom_bignKeypairVal_502 p_params_ok)] := by
  unfold check_bignKeypairVal
  exact cascade_cons .rfl rfl

/-- outside the documented domain `bignKeypairVal` returns a documented class whose condition is violated -/
theorem contract_bignKeypairVal (p_params_ok : Bool)  :
    ¬ (dom_bignKeypairVal_502 p_params_ok) →
    (check_bignKeypairVal p_params_ok = some 502 ∧ ¬ dom_bignKeypairVal_502 p_params_ok) := by
  exact firstViol_one_some (agree_bignKeypairVal p_params_ok)

/-- inside the documented domain (pointers valid) `bignKeypairVal` passes its argument checks -/
theorem accept_bignKeypairVal (p_params_ok : Bool)  :
    dom_bignKeypairVal_502 p_params_ok → check_bignKeypairVal p_params_ok = none := by
  exact firstViol_one_none (agree_bignKeypairVal p_params_ok)

theorem agree_bignPubkeyVal (p_params_ok : Bool)  :
    check_bignPubkeyVal p_params_ok = firstViol [(502, dom_bignPubkeyVal_502 p_params_ok)] := by
  unfold check_bignPubkeyVal
  exact cascade_cons .rfl rfl

/-- outside the documented domain `bignPubkeyVal` returns a documented class whose condition is violated -/
theorem contract_bignPubkeyVal (p_params_ok : Bool)  :
    ¬ (dom_bignPubkeyVal_502 p_params_ok) →
    (check_bignPubkeyVal p_params_ok = some 502 ∧ ¬ dom_bignPubkeyVal_502 p_params_ok) := by
  exact firstViol_one_some (agree_bignPubkeyVal p_params_ok)

/-- inside the documented domain (pointers valid) `bignPubkeyVal` passes its argument checks -/
theorem accept_bignPubkeyVal (p_params_ok : Bool)  :
    dom_bignPubkeyVal_502 p_params_ok → check_bignPubkeyVal p_params_ok = none := by
  exact firstViol_one_none (agree_bignPubkeyVal p_params_ok)

theorem agree_bignPubkeyCalc (p_params_ok : Bool)  :
    check_bignPubkeyCalc p_params_ok = firstViol [(502, dom_bignPubkeyCalc_502 p_params_ok)] := by
  unfold check_bignPubkeyCalc
  exact cascade_cons .rfl rfl

/-- outside the documented domain `bignPubkeyCalc` returns a documented class whose condition is violated -/
theorem contract_bignPubkeyCalc (p_params_ok : Bool)  :
    ¬ (dom_bignPubkeyCalc_502 p_params_ok) →
    (check_bignPubkeyCalc p_params_ok = some 502 ∧ ¬ dom_bignPubkeyCalc_502 p_params_ok) := by
  exact firstViol_one_some (agree_bignPubkeyCalc p_params_ok)

/-- inside the documented domain (pointers valid) `bignPubkeyCalc` passes its argument checks -/
theorem accept_bignPubkeyCalc (p_params_ok : Bool)  :
    dom_bignPubkeyCalc_502 p_params_ok → check_bignPubkeyCalc p_params_ok = none := by
  exact firstViol_one_none (agree_bignPubkeyCalc p_params_ok)

theorem agree_bignDH (a_key_len : Nat) (p_params_ok : Bool)  :
    check_bignDH a_key_len p_params_ok = firstViol [(502, dom_bignDH_502 a_key_len p_params_ok)] := by
  unfold check_bignDH
  exact cascade_cons .rfl rfl

/-- outside the documented domain `bignDH` returns a documented class whose condition is violated -/
theorem contract_bignDH (a_key_len : Nat) (p_params_ok : Bool)  :
    ¬ (dom_bignDH_502 a_key_len p_params_ok) →
    (check_bignDH a_key_len p_params_ok = some 502 ∧ ¬ dom_bignDH_502 a_key_len p_params_ok) := by
  exact firstViol_one_some (agree_bignDH a_key_len p_params_ok)

/-- inside the documented domain (pointers valid) `bignDH` passes its argument checks -/
theorem accept_bignDH (a_key_len : Nat) (p_params_ok : Bool)  :
    dom_bignDH_502 a_key_len p_params_ok → check_bignDH a_key_len p_params_ok = none := by
  exact firstViol_one_none (agree_bignDH a_key_len p_params_ok)

theorem agree_bignSign (a_oid_len : Nat) (p_params_ok : Bool) (p_oid_ok : Bool) (p_rng_ok : Bool)  :
    check_bignSign a_oid_len p_params_ok p_oid_ok p_rng_ok = firstViol [(502, dom_bignSign_502 a_oid_len p_params_ok p_oid_ok p_rng_ok), (301, dom_bignSign_301 a_oid_len p_params_ok p_oid_ok p_rng_ok), (304, dom_bignSign_304 a_oid_len p_params_ok p_oid_ok p_rng_ok)] := by
  unfold check_bignSign
  exact cascade_cons .rfl (cascade_cons .rfl (cascade_cons .rfl rfl))

/-- outside the documented domain `bignSign` returns a documented class whose condition is violated -/
theorem contract_bignSign (a_oid_len : Nat) (p_params_ok : Bool) (p_oid_ok : Bool) (p_rng_ok : Bool)  :
    ¬ (dom_bignSign_301 a_oid_len p_params_ok p_oid_ok p_rng_ok ∧ dom_bignSign_304 a_oid_len p_params_ok p_oid_ok p_rng_ok ∧ dom_bignSign_502 a_oid_len p_params_ok p_oid_ok p_rng_ok) →
    (check_bignSign a_oid_len p_params_ok p_oid_ok p_rng_ok = some 301 ∧ ¬ dom_bignSign_301 a_oid_len p_params_ok p_oid_ok p_rng_ok) ∨
    (check_bignSign a_oid_len p_params_ok p_oid_ok p_rng_ok = some 304 ∧ ¬ dom_bignSign_304 a_oid_len p_params_ok p_oid_ok p_rng_ok) ∨
    (check_bignSign a_oid_len p_params_ok p_oid_ok p_rng_ok = some 502 ∧ ¬ dom_bignSign_502 a_oid_len p_params_ok p_oid_ok p_rng_ok) := by
  rw [agree_bignSign a_oid_len p_params_ok p_oid_ok p_rng_ok]
  by_cases h301 : dom_bignSign_301 a_oid_len p_params_ok p_oid_ok p_rng_ok <;> by_cases h304 : dom_bignSign_304 a_oid_len p_params_ok p_oid_ok p_rng_ok <;> by_cases h502 : dom_bignSign_502 a_oid_len p_params_ok p_oid_ok p_rng_ok <;> simp [firstViol, h301, h304, h502]

/-- inside the documented domain (pointers valid) `bignSign` passes its argument checks -/
theorem accept_bignSign (a_oid_len : Nat) (p_params_ok : Bool) (p_oid_ok : Bool) (p_rng_ok : Bool)  :
    dom_bignSign_301 a_oid_len p_params_ok p_oid_ok p_rng_ok ∧ dom_bignSign_304 a_oid_len p_params_ok p_oid_ok p_rng_ok ∧ dom_bignSign_502 a_oid_len p_params_ok p_oid_ok p_rng_ok → check_bignSign a_oid_len p_params_ok p_oid_ok p_rng_ok = none := by
  rw [agree_bignSign a_oid_len p_params_ok p_oid_ok p_rng_ok]
  intro h
  simp [firstViol, h]

/-- ORDER: `bignSign` returns the class of the FIRST \expect item (header listing order) that is violated -/
theorem order_bignSign (a_oid_len : Nat) (p_params_ok : Bool) (p_oid_ok : Bool) (p_rng_ok : Bool)  :
    check_bignSign a_oid_len p_params_ok p_oid_ok p_rng_ok = first_bignSign a_oid_len p_params_ok p_oid_ok p_rng_ok := by
  rw [agree_bignSign a_oid_len p_params_ok p_oid_ok p_rng_ok]
  simp only [first_bignSign, dom_bignSign_301, dom_bignSign_304, dom_bignSign_502, firstViol_cons, firstViol_nil]

theorem agree_bignSign2 (a_oid_len : Nat) (a_t_len : Nat) (p_params_ok : Bool) (p_oid_ok : Bool)  :
    check_bignSign2 a_oid_len a_t_len p_params_ok p_oid_ok = firstViol [(502, dom_bignSign2_502 a_oid_len a_t_len p_params_ok p_oid_ok), (301, dom_bignSign2_301 a_oid_len a_t_len p_params_ok p_oid_ok)] := by
  unfold check_bignSign2
  exact cascade_cons .rfl (cascade_cons .rfl rfl)

/-- outside the documented domain `bignSign2` returns a documented class whose condition is violated -/
theorem contract_bignSign2 (a_oid_len : Nat) (a_t_len : Nat) (p_params_ok : Bool) (p_oid_ok : Bool)  :
    ¬ (dom_bignSign2_301 a_oid_len a_t_len p_params_ok p_oid_ok ∧ dom_bignSign2_502 a_oid_len a_t_len p_params_ok p_oid_ok) →
    (check_bignSign2 a_oid_len a_t_len p_params_ok p_oid_ok = some 301 ∧ ¬ dom_bignSign2_301 a_oid_len a_t_len p_params_ok p_oid_ok) ∨
    (check_bignSign2 a_oid_len a_t_len p_params_ok p_oid_ok = some 502 ∧ ¬ dom_bignSign2_502 a_oid_len a_t_len p_params_ok p_oid_ok) := by
  rw [agree_bignSign2 a_oid_len a_t_len p_params_ok p_oid_ok]
  by_cases h301 : dom_bignSign2_301 a_oid_len a_t_len p_params_ok p_oid_ok <;> by_cases h502 : dom_bignSign2_502 a_oid_len a_t_len p_params_ok p_oid_ok <;> simp [firstViol, h301, h502]

/-- inside the documented domain (pointers valid) `bignSign2` passes its argument checks -/
theorem accept_bignSign2 (a_oid_len : Nat) (a_t_len : Nat) (p_params_ok : Bool) (p_oid_ok : Bool)  :
    dom_bignSign2_301 a_oid_len a_t_len p_params_ok p_oid_ok ∧ dom_bignSign2_502 a_oid_len a_t_len p_params_ok p_oid_ok → check_bignSign2 a_oid_len a_t_len p_params_ok p_oid_ok = none := by
  rw [agree_bignSign2 a_oid_len a_t_len p_params_ok p_oid_ok]
  intro h
  simp [firstViol, h]

/-- ORDER: `bignSign2` returns the class of the FIRST \expect item (header listing order) that is violated -/
theorem order_bignSign2 (a_oid_len : Nat) (a_t_len : Nat) (p_params_ok : Bool) (p_oid_ok : Bool)  :
    check_bignSign2 a_oid_len a_t_len p_params_ok p_oid_ok = first_bignSign2 a_oid_len a_t_len p_params_ok p_oid_ok := by
  rw [agree_bignSign2 a_oid_len a_t_len p_params_ok p_oid_ok]
  simp only [first_bignSign2, dom_bignSign2_301, dom_bignSign2_502, firstViol_cons, firstViol_nil]

theorem agree_bignVerify (a_oid_len : Nat) (p_params_ok : Bool) (p_oid_ok : Bool)  :
    check_bignVerify a_oid_len p_params_ok p_oid_ok = firstViol [(502, dom_bignVerify_502 a_oid_len p_params_ok p_oid_ok), (301, dom_bignVerify_301 a_oid_len p_params_ok p_oid_ok)] := by
  unfold check_bignVerify
  exact cascade_cons .rfl (cascade_cons .rfl rfl)

/-- outside the documented domain `bignVerify` returns a documented class whose condition is violated -/
theorem contract_bignVerify (a_oid_len : Nat) (p_params_ok : Bool) (p_oid_ok : Bool)  :
    ¬ (dom_bignVerify_301 a_oid_len p_params_ok p_oid_ok ∧ dom_bignVerify_502 a_oid_len p_params_ok p_oid_ok) →
    (check_bignVerify a_oid_len p_params_ok p_oid_ok = some 301 ∧ ¬ dom_bignVerify_301 a_oid_len p_params_ok p_oid_ok) ∨
    (check_bignVerify a_oid_len p_params_ok p_oid_ok = some 502 ∧ ¬ dom_bignVerify_502 a_oid_len p_params_ok p_oid_ok) := by
  rw [agree_bignVerify a_oid_len p_params_ok p_oid_ok]
  by_cases h301 : dom_bignVerify_301 a_oid_len p_params_ok p_oid_ok <;> by_cases h502 : dom_bignVerify_502 a_oid_len p_params_ok p_oid_ok <;> simp [firstViol, h301, h502]

/-- inside the documented domain (pointers valid) `bignVerify` passes its argument checks -/
theorem accept_bignVerify (a_oid_len : Nat) (p_params_ok : Bool) (p_oid_ok : Bool)  :
    dom_bignVerify_301 a_oid_len p_params_ok p_oid_ok ∧ dom_bignVerify_502 a_oid_len p_params_ok p_oid_ok → check_bignVerify a_oid_len p_params_ok p_oid_ok = none := by
  rw [agree_bignVerify a_oid_len p_params_ok p_oid_ok]
  intro h
  simp [firstViol, h]

/-- ORDER: `bignVerify` returns the class of the FIRST \expect item (header listing order) that is violated -/
theorem order_bignVerify (a_oid_len : Nat) (p_params_ok : Bool) (p_oid_ok : Bool)  :
    check_bignVerify a_oid_len p_params_ok p_oid_ok = first_bignVerify a_oid_len p_params_ok p_oid_ok := by
  rw [agree_bignVerify a_oid_len p_params_ok p_oid_ok]
  simp only [first_bignVerify, dom_bignVerify_301, dom_bignVerify_502, firstViol_cons, firstViol_nil]

theorem agree_bign96KeypairGen (p_params_ok : Bool) (p_rng_ok : Bool)  :
    check_bign96KeypairGen p_params_ok p_rng_ok = firstViol [(502, dom_bign96KeypairGen_502 p_params_ok p_rng_ok), (304, dom_bign96KeypairGen_304 p_params_ok p_rng_ok)] := by
  unfold check_bign96KeypairGen
  exact cascade_cons .rfl (cascade_cons .rfl rfl)

/-- outside the documented domain `bign96KeypairGen` returns a documented class whose condition is violated -/
theorem contract_bign96KeypairGen (p_params_ok : Bool) (p_rng_ok : Bool)  :
    ¬ (dom_bign96KeypairGen_304 p_params_ok p_rng_ok ∧ dom_bign96KeypairGen_502 p_params_ok p_rng_ok) →
    (check_bign96KeypairGen p_params_ok p_rng_ok = some 304 ∧ ¬ dom_bign96KeypairGen_304 p_params_ok p_rng_ok) ∨
    (check_bign96KeypairGen p_params_ok p_rng_ok = some 502 ∧ ¬ dom_bign96KeypairGen_502 p_params_ok p_rng_ok) := by
  rw [agree_bign96KeypairGen p_params_ok p_rng_ok]
  by_cases h304 : dom_bign96KeypairGen_304 p_params_ok p_rng_ok <;> by_cases h502 : dom_bign96KeypairGen_502 p_params_ok p_rng_ok <;> simp [firstViol, h304, h502]

/-- inside the documented domain (pointers valid) `bign96KeypairGen` passes its argument checks -/
theorem accept_bign96KeypairGen (p_params_ok : Bool) (p_rng_ok : Bool)  :
    dom_bign96KeypairGen_304 p_params_ok p_rng_ok ∧ dom_bign96KeypairGen_502 p_params_ok p_rng_ok → check_bign96KeypairGen p_params_ok p_rng_ok = none := by
  rw [agree_bign96KeypairGen p_params_ok p_rng_ok]
  intro h
  simp [firstViol, h]

/-- ORDER: `bign96KeypairGen` returns the class of the FIRST \expect item (header listing order) that is violated -/
theorem order_bign96KeypairGen (p_params_ok : Bool) (p_rng_ok : Bool)  :
    check_bign96KeypairGen p_params_ok p_rng_ok = first_bign96KeypairGen p_params_ok p_rng_ok := by
  rw [agree_bign96KeypairGen p_params_ok p_rng_ok]
  simp only [first_bign96KeypairGen, dom_bign96KeypairGen_304, dom_bign96KeypairGen_502, firstViol_cons, firstViol_nil]

theorem agree_bign96KeypairVal (p_params_ok : Bool)  :
    check_bign96KeypairVal p_params_ok = firstViol [(502, dom_bign96KeypairVal_502 p_params_ok)] := by
  unfold check_bign96KeypairVal
  exact cascade_cons .rfl rfl

/-- outside the documented domain `bign96KeypairVal` returns a documented class whose condition is violated -/
theorem contract_bign96KeypairVal (p_params_ok : Bool)  :
    ¬ (dom_bign96KeypairVal_502 p_params_ok) →
    (check_bign96KeypairVal p_params_ok = some 502 ∧ ¬ dom_bign96KeypairVal_502 p_params_ok) := by
  exact firstViol_one_some (agree_bign96KeypairVal p_params_ok)

/-- inside the documented domain (pointers valid) `bign96KeypairVal` passes its argument checks -/
theorem accept_bign96KeypairVal (p_params_ok : Bool)  :
    dom_bign96KeypairVal_502 p_params_ok → check_bign96KeypairVal p_params_ok = none := by
  exact firstViol_one_none (agree_bign96KeypairVal p_params_ok)

theorem agree_bign96PubkeyVal (p_params_ok : Bool)  :
    check_bign96PubkeyVal p_params_ok = firstViol [(502, dom_bign96PubkeyVal_502 p_params_ok)] := by
  unfold check_bign96PubkeyVal
  exact cascade_cons .rfl rfl

/-- outside the documented domain `bign96PubkeyVal` returns a documented class whose condition is violated -/
theorem contract_bign96PubkeyVal (p_params_ok : Bool)  :
    ¬ (dom_bign96PubkeyVal_502 p_params_ok) →
    (check_bign96PubkeyVal p_params_ok = some 502 ∧ ¬ dom_bign96PubkeyVal_502 p_params_ok) := by
  exact firstViol_one_some (agree_bign96PubkeyVal p_params_ok)

/-- inside the documented domain (pointers valid) `bign96PubkeyVal` passes its argument checks -/
theorem accept_bign96PubkeyVal (p_params_ok : Bool)  :
    dom_bign96PubkeyVal_502 p_params_ok → check_bign96PubkeyVal p_params_ok = none := by
  exact firstViol_one_none (agree_bign96PubkeyVal p_params_ok)

theorem agree_bign96PubkeyCalc (p_params_ok : Bool)  :
    check_bign96PubkeyCalc p_params_ok = firstViol [(502, dom_bign96PubkeyCalc_502 p_params_ok)] := by
  unfold check_bign96PubkeyCalc
  exact cascade_cons .rfl rfl

/-- outside the documented domain `bign96PubkeyCalc` returns a documented class whose condition is violated -/
theorem contract_bign96PubkeyCalc (p_params_ok : Bool)  :
    ¬ (dom_bign96PubkeyCalc_502 p_params_ok) →
    (check_bign96PubkeyCalc p_params_ok = some 502 ∧ ¬ dom_bign96PubkeyCalc_502 p_params_ok) := by
  exact firstViol_one_some (agree_bign96PubkeyCalc p_params_ok)

/-- inside the documented domain (pointers valid) `bign96PubkeyCalc` passes its argument checks -/
theorem accept_bign96PubkeyCalc (p_params_ok : Bool)  :
    dom_bign96PubkeyCalc_502 p_params_ok → check_bign96PubkeyCalc p_params_ok = none := by
  exact firstViol_one_none (agree_bign96PubkeyCalc p_params_ok)

theorem agree_bign96Sign (a_oid_len : Nat) (p_params_ok : Bool) (p_oid_ok : Bool) (p_rng_ok : Bool)  :
    check_bign96Sign a_oid_len p_params_ok p_oid_ok p_rng_ok = firstViol [(502, dom_bign96Sign_502 a_oid_len p_params_ok p_oid_ok p_rng_ok), (301, dom_bign96Sign_301 a_oid_len p_params_ok p_oid_ok p_rng_ok), (304, dom_bign96Sign_304 a_oid_len p_params_ok p_oid_ok p_rng_ok)] := by
  unfold check_bign96Sign
  exact cascade_cons .rfl (cascade_cons .rfl (cascade_cons .rfl rfl))

/-- outside the documented domain `bign96Sign` returns a documented class whose condition is violated -/
theorem contract_bign96Sign (a_oid_len : Nat) (p_params_ok : Bool) (p_oid_ok : Bool) (p_rng_ok : Bool)  :
    ¬ (dom_bign96Sign_301 a_oid_len p_params_ok p_oid_ok p_rng_ok ∧ dom_bign96Sign_304 a_oid_len p_params_ok p_oid_ok p_rng_ok ∧ dom_bign96Sign_502 a_oid_len p_params_ok p_oid_ok p_rng_ok) →
    (check_bign96Sign a_oid_len p_params_ok p_oid_ok p_rng_ok = some 301 ∧ ¬ dom_bign96Sign_301 a_oid_len p_params_ok p_oid_ok p_rng_ok) ∨
    (check_bign96Sign a_oid_len p_params_ok p_oid_ok p_rng_ok = some 304 ∧ ¬ dom_bign96Sign_304 a_oid_len p_params_ok p_oid_ok p_rng_ok) ∨
    (check_bign96Sign a_oid_len p_params_ok p_oid_ok p_rng_ok = some 502 ∧ ¬ dom_bign96Sign_502 a_oid_len p_params_ok p_oid_ok p_rng_ok) := by
  rw [agree_bign96Sign a_oid_len p_params_ok p_oid_ok p_rng_ok]
  by_cases h301 : dom_bign96Sign_301 a_oid_len p_params_ok p_oid_ok p_rng_ok <;> by_cases h304 : dom_bign96Sign_304 a_oid_len p_params_ok p_oid_ok p_rng_ok <;> by_cases h502 : dom_bign96Sign_502 a_oid_len p_params_ok p_oid_ok p_rng_ok <;> simp [firstViol, h301, h304, h502]

/-- inside the documented domain (pointers valid) `bign96Sign` passes its argument checks -/
theorem accept_bign96Sign (a_oid_len : Nat) (p_params_ok : Bool) (p_oid_ok : Bool) (p_rng_ok : Bool)  :
    dom_bign96Sign_301 a_oid_len p_params_ok p_oid_ok p_rng_ok ∧ dom_bign96Sign_304 a_oid_len p_params_ok p_oid_ok p_rng_ok ∧ dom_bign96Sign_502 a_oid_len p_params_ok p_oid_ok p_rng_ok → check_bign96Sign a_oid_len p_params_ok p_oid_ok p_rng_ok = none := by
  rw [agree_bign96Sign a_oid_len p_params_ok p_oid_ok p_rng_ok]
  intro h
  simp [firstViol, h]

/-- ORDER: `bign96Sign` returns the class of the FIRST \expect item (header listing order) that is violated -/
theorem order_bign96Sign (a_oid_len : Nat) (p_params_ok : Bool) (p_oid_ok : Bool) (p_rng_ok : Bool)  :
    check_bign96Sign a_oid_len p_params_ok p_oid_ok p_rng_ok = first_bign96Sign a_oid_len p_params_ok p_oid_ok p_rng_ok := by
  rw [agree_bign96Sign a_oid_len p_params_ok p_oid_ok p_rng_ok]
  simp only [first_bign96Sign, dom_bign96Sign_301, dom_bign96Sign_304, dom_bign96Sign_502, firstViol_cons, firstViol_nil]

theorem agree_bign96Verify (a_oid_len : Nat) (p_params_ok : Bool) (p_oid_ok : Bool)  :
    check_bign96Verify a_oid_len p_params_ok p_oid_ok = firstViol [(502, dom_bign96Verify_502 a_oid_len p_params_ok p_oid_ok), (301, dom_bign96Verify_301 a_oid_len p_params_ok p_oid_ok)] := by
  unfold check_bign96Verify
  exact cascade_cons .rfl (cascade_cons .rfl rfl)

/-- outside the documented domain `bign96Verify` returns a documented class whose condition is violated -/
theorem contract_bign96Verify (a_oid_len : Nat) (p_params_ok : Bool) (p_oid_ok : Bool)  :
    ¬ (dom_bign96Verify_301 a_oid_len p_params_ok p_oid_ok ∧ dom_bign96Verify_502 a_oid_len p_params_ok p_oid_ok) →
    (check_bign96Verify a_oid_len p_params_ok p_oid_ok = some 301 ∧ ¬ dom_bign96Verify_301 a_oid_len p_params_ok p_oid_ok) ∨
    (check_bign96Verify a_oid_len p_params_ok p_oid_ok = some 502 ∧ ¬ dom_bign96Verify_502 a_oid_len p_params_ok p_oid_ok) := by
  rw [agree_bign96Verify a_oid_len p_params_ok p_oid_ok]
  by_cases h301 : dom_bign96Verify_301 a_oid_len p_params_ok p_oid_ok <;> by_cases h502 : dom_bign96Verify_502 a_oid_len p_params_ok p_oid_ok <;> simp [firstViol, h301, h502]

/-- inside the documented domain (pointers valid) `bign96Verify` passes its argument checks -/
theorem accept_bign96Verify (a_oid_len : Nat) (p_params_ok : Bool) (p_oid_ok : Bool)  :
    dom_bign96Verify_301 a_oid_len p_params_ok p_oid_ok ∧ dom_bign96Verify_502 a_oid_len p_params_ok p_oid_ok → check_bign96Verify a_oid_len p_params_ok p_oid_ok = none := by
  rw [agree_bign96Verify a_oid_len p_params_ok p_oid_ok]
  intro h
  simp [firstViol, h]

/-- ORDER: `bign96Verify` returns the class of the FIRST \expect item (header listing order) that is violated -/
theorem order_bign96Verify (a_oid_len : Nat) (p_params_ok : Bool) (p_oid_ok : Bool)  :
    check_bign96Verify a_oid_len p_params_ok p_oid_ok = first_bign96Verify a_oid_len p_params_ok p_oid_ok := by
  rw [agree_bign96Verify a_oid_len p_params_ok p_oid_ok]
  simp only [first_bign96Verify, dom_bign96Verify_301, dom_bign96Verify_502, firstViol_cons, firstViol_nil]

theorem agree_botpHOTPRand (a_digit : Nat) (a_key_len : Nat)  :
    check_botpHOTPRand a_digit a_key_len = firstViol [(502, dom_botpHOTPRand_502 a_digit a_key_len)] := by
  unfold check_botpHOTPRand
  exact cascade_cons (by simp only [dom_botpHOTPRand_502]; omega) rfl

/-- outside the documented domain `botpHOTPRand` returns a documented class whose condition is violated -/
theorem contract_botpHOTPRand (a_digit : Nat) (a_key_len : Nat)  :
    ¬ (dom_botpHOTPRand_502 a_digit a_key_len) →
    (check_botpHOTPRand a_digit a_key_len = some 502 ∧ ¬ dom_botpHOTPRand_502 a_digit a_key_len) := by
  exact firstViol_one_some (agree_botpHOTPRand a_digit a_key_len)

/-- inside the documented domain (pointers valid) `botpHOTPRand` passes its argument checks -/
theorem accept_botpHOTPRand (a_digit : Nat) (a_key_len : Nat)  :
    dom_botpHOTPRand_502 a_digit a_key_len → check_botpHOTPRand a_digit a_key_len = none := by
  exact firstViol_one_none (agree_botpHOTPRand a_digit a_key_len)

theorem agree_botpTOTPRand (a_digit : Nat) (a_key_len : Nat) (a_t : Nat) (h_digit : a_digit < W) (h_key_len : a_key_len < W) (h_t : a_t < W) :
    check_botpTOTPRand a_digit a_key_len a_t = firstViol [(502, dom_botpTOTPRand_502 a_digit a_key_len a_t), (307, dom_botpTOTPRand_307 a_digit a_key_len a_t)] := by
  unfold check_botpTOTPRand
  exact cascade_cons (by simp only [dom_botpTOTPRand_502]; omega) (cascade_cons (by simp only [W, dom_botpTOTPRand_307]; omega) rfl)

/-- outside the documented domain `botpTOTPRand` returns a documented class whose condition is violated -/
theorem contract_botpTOTPRand (a_digit : Nat) (a_key_len : Nat) (a_t : Nat) (h_digit : a_digit < W) (h_key_len : a_key_len < W) (h_t : a_t < W) :
    ¬ (dom_botpTOTPRand_307 a_digit a_key_len a_t ∧ dom_botpTOTPRand_502 a_digit a_key_len a_t) →
    (check_botpTOTPRand a_digit a_key_len a_t = some 307 ∧ ¬ dom_botpTOTPRand_307 a_digit a_key_len a_t) ∨
    (check_botpTOTPRand a_digit a_key_len a_t = some 502 ∧ ¬ dom_botpTOTPRand_502 a_digit a_key_len a_t) := by
  rw [agree_botpTOTPRand a_digit a_key_len a_t h_digit h_key_len h_t]
  by_cases h307 : dom_botpTOTPRand_307 a_digit a_key_len a_t <;> by_cases h502 : dom_botpTOTPRand_502 a_digit a_key_len a_t <;> simp [firstViol, h307, h502]

/-- inside the documented domain (pointers valid) `botpTOTPRand` passes its argument checks -/
theorem accept_botpTOTPRand (a_digit : Nat) (a_key_len : Nat) (a_t : Nat) (h_digit : a_digit < W) (h_key_len : a_key_len < W) (h_t : a_t < W) :
    dom_botpTOTPRand_307 a_digit a_key_len a_t ∧ dom_botpTOTPRand_502 a_digit a_key_len a_t → check_botpTOTPRand a_digit a_key_len a_t = none := by
  rw [agree_botpTOTPRand a_digit a_key_len a_t h_digit h_key_len h_t]
  intro h
  simp [firstViol, h]

/-- ORDER: `botpTOTPRand` returns the class of the FIRST \expect item (header listing order) that is violated -/
theorem order_botpTOTPRand (a_digit : Nat) (a_key_len : Nat) (a_t : Nat) (h_digit : a_digit < W) (h_key_len : a_key_len < W) (h_t : a_t < W) :
    check_botpTOTPRand a_digit a_key_len a_t = first_botpTOTPRand a_digit a_key_len a_t := by
  rw [agree_botpTOTPRand a_digit a_key_len a_t h_digit h_key_len h_t]
  simp only [first_botpTOTPRand, dom_botpTOTPRand_307, dom_botpTOTPRand_502, firstViol_cons, firstViol_nil, ite_not_and]

theorem agree_botpTOTPVerify (a_key_len : Nat) (a_t : Nat) (h_key_len : a_key_len < W) (h_t : a_t < W) :
    check_botpTOTPVerify a_key_len a_t = firstViol [(307, dom_botpTOTPVerify_307 a_key_len a_t)] := by
  unfold check_botpTOTPVerify
  exact cascade_cons (by simp only [W, dom_botpTOTPVerify_307]; omega) rfl

/-- outside the documented domain `botpTOTPVerify` returns a documented class whose condition is violated -/
theorem contract_botpTOTPVerify (a_key_len : Nat) (a_t : Nat) (h_key_len : a_key_len < W) (h_t : a_t < W) :
    ¬ (dom_botpTOTPVerify_307 a_key_len a_t) →
    (check_botpTOTPVerify a_key_len a_t = some 307 ∧ ¬ dom_botpTOTPVerify_307 a_key_len a_t) := by
  exact firstViol_one_some (agree_botpTOTPVerify a_key_len a_t h_key_len h_t)

/-- inside the documented domain (pointers valid) `botpTOTPVerify` passes its argument checks -/
theorem accept_botpTOTPVerify (a_key_len : Nat) (a_t : Nat) (h_key_len : a_key_len < W) (h_t : a_t < W) :
    dom_botpTOTPVerify_307 a_key_len a_t → check_botpTOTPVerify a_key_len a_t = none := by
  exact firstViol_one_none (agree_botpTOTPVerify a_key_len a_t h_key_len h_t)

theorem agree_bpkiPrivkeyWrap (a_privkey_len : Nat) (a_pwd_len : Nat) (a_iter : Nat)  :
    check_bpkiPrivkeyWrap a_privkey_len a_pwd_len a_iter = firstViol [(109, dom_bpkiPrivkeyWrap_109 a_privkey_len a_pwd_len a_iter), (504, dom_bpkiPrivkeyWrap_504 a_privkey_len a_pwd_len a_iter)] := by
  unfold check_bpkiPrivkeyWrap
  exact cascade_cons (by simp only [dom_bpkiPrivkeyWrap_109]; omega) (cascade_cons (by simp only [dom_bpkiPrivkeyWrap_504]; omega) rfl)

/-- outside the documented domain `bpkiPrivkeyWrap` returns a documented class whose condition is violated -/
theorem contract_bpkiPrivkeyWrap (a_privkey_len : Nat) (a_pwd_len : Nat) (a_iter : Nat)  :
    ¬ (dom_bpkiPrivkeyWrap_109 a_privkey_len a_pwd_len a_iter ∧ dom_bpkiPrivkeyWrap_504 a_privkey_len a_pwd_len a_iter) →
    (check_bpkiPrivkeyWrap a_privkey_len a_pwd_len a_iter = some 109 ∧ ¬ dom_bpkiPrivkeyWrap_109 a_privkey_len a_pwd_len a_iter) ∨
    (check_bpkiPrivkeyWrap a_privkey_len a_pwd_len a_iter = some 504 ∧ ¬ dom_bpkiPrivkeyWrap_504 a_privkey_len a_pwd_len a_iter) := by
  rw [agree_bpkiPrivkeyWrap a_privkey_len a_pwd_len a_iter]
  by_cases h109 : dom_bpkiPrivkeyWrap_109 a_privkey_len a_pwd_len a_iter <;> by_cases h504 : dom_bpkiPrivkeyWrap_504 a_privkey_len a_pwd_len a_iter <;> simp [firstViol, h109, h504]

/-- inside the documented domain (pointers valid) `bpkiPrivkeyWrap` passes its argument checks -/
theorem accept_bpkiPrivkeyWrap (a_privkey_len : Nat) (a_pwd_len : Nat) (a_iter : Nat)  :
    dom_bpkiPrivkeyWrap_109 a_privkey_len a_pwd_len a_iter ∧ dom_bpkiPrivkeyWrap_504 a_privkey_len a_pwd_len a_iter → check_bpkiPrivkeyWrap a_privkey_len a_pwd_len a_iter = none := by
  rw [agree_bpkiPrivkeyWrap a_privkey_len a_pwd_len a_iter]
  intro h
  simp [firstViol, h]

theorem agree_bpkiShareWrap (a_share_len : Nat) (a_pwd_len : Nat) (a_iter : Nat)  :
    check_bpkiShareWrap a_share_len a_pwd_len a_iter = firstViol [(109, dom_bpkiShareWrap_109 a_share_len a_pwd_len a_iter), (508, dom_bpkiShareWrap_508 a_share_len a_pwd_len a_iter)] := by
  unfold check_bpkiShareWrap
  exact cascade_cons (by simp only [dom_bpkiShareWrap_109]; omega) (cascade_cons (by simp only [dom_bpkiShareWrap_508]; omega) rfl)

/-- outside the documented domain `bpkiShareWrap` returns a documented class whose condition is violated -/
theorem contract_bpkiShareWrap (a_share_len : Nat) (a_pwd_len : Nat) (a_iter : Nat)  :
    ¬ (dom_bpkiShareWrap_109 a_share_len a_pwd_len a_iter ∧ dom_bpkiShareWrap_508 a_share_len a_pwd_len a_iter) →
    (check_bpkiShareWrap a_share_len a_pwd_len a_iter = some 109 ∧ ¬ dom_bpkiShareWrap_109 a_share_len a_pwd_len a_iter) ∨
    (check_bpkiShareWrap a_share_len a_pwd_len a_iter = some 508 ∧ ¬ dom_bpkiShareWrap_508 a_share_len a_pwd_len a_iter) := by
  rw [agree_bpkiShareWrap a_share_len a_pwd_len a_iter]
  by_cases h109 : dom_bpkiShareWrap_109 a_share_len a_pwd_len a_iter <;> by_cases h508 : dom_bpkiShareWrap_508 a_share_len a_pwd_len a_iter <;> simp [firstViol, h109, h508]

/-- inside the documented domain (pointers valid) `bpkiShareWrap` passes its argument checks -/
theorem accept_bpkiShareWrap (a_share_len : Nat) (a_pwd_len : Nat) (a_iter : Nat)  :
    dom_bpkiShareWrap_109 a_share_len a_pwd_len a_iter ∧ dom_bpkiShareWrap_508 a_share_len a_pwd_len a_iter → check_bpkiShareWrap a_share_len a_pwd_len a_iter = none := by
  rw [agree_bpkiShareWrap a_share_len a_pwd_len a_iter]
  intro h
  simp [firstViol, h]

theorem agree_pfokKeypairGen (p_params_ok : Bool)  :
    check_pfokKeypairGen p_params_ok = firstViol [(502, dom_pfokKeypairGen_502 p_params_ok)] := by
  unfold check_pfokKeypairGen
  exact cascade_cons .rfl rfl

/-- outside the documented domain `pfokKeypairGen` returns a documented class whose condition is violated -/
theorem contract_pfokKeypairGen (p_params_ok : Bool)  :
    ¬ (dom_pfokKeypairGen_502 p_params_ok) →
    (check_pfokKeypairGen p_params_ok = some 502 ∧ ¬ dom_pfokKeypairGen_502 p_params_ok) := by
  exact firstViol_one_some (agree_pfokKeypairGen p_params_ok)

/-- inside the documented domain (pointers valid) `pfokKeypairGen` passes its argument checks -/
theorem accept_pfokKeypairGen (p_params_ok : Bool)  :
    dom_pfokKeypairGen_502 p_params_ok → check_pfokKeypairGen p_params_ok = none := by
  exact firstViol_one_none (agree_pfokKeypairGen p_params_ok)

theorem agree_pfokPubkeyVal (p_params_ok : Bool)  :
    check_pfokPubkeyVal p_params_ok = firstViol [(502, dom_pfokPubkeyVal_502 p_params_ok)] := by
  unfold check_pfokPubkeyVal
  exact cascade_cons .rfl rfl

/-- outside the documented domain `pfokPubkeyVal` returns a documented class whose condition is violated -/
theorem contract_pfokPubkeyVal (p_params_ok : Bool)  :
    ¬ (dom_pfokPubkeyVal_502 p_params_ok) →
    (check_pfokPubkeyVal p_params_ok = some 502 ∧ ¬ dom_pfokPubkeyVal_502 p_params_ok) := by
  exact firstViol_one_some (agree_pfokPubkeyVal p_params_ok)

/-- inside the documented domain (pointers valid) `pfokPubkeyVal` passes its argument checks -/
theorem accept_pfokPubkeyVal (p_params_ok : Bool)  :
    dom_pfokPubkeyVal_502 p_params_ok → check_pfokPubkeyVal p_params_ok = none := by
  exact firstViol_one_none (agree_pfokPubkeyVal p_params_ok)

theorem agree_pfokPubkeyCalc (p_params_ok : Bool)  :
    check_pfokPubkeyCalc p_params_ok = firstViol [(502, dom_pfokPubkeyCalc_502 p_params_ok)] := by
  unfold check_pfokPubkeyCalc
  exact cascade_cons .rfl rfl

/-- outside the documented domain `pfokPubkeyCalc` returns a documented class whose condition is violated -/
theorem contract_pfokPubkeyCalc (p_params_ok : Bool)  :
    ¬ (dom_pfokPubkeyCalc_502 p_params_ok) →
    (check_pfokPubkeyCalc p_params_ok = some 502 ∧ ¬ dom_pfokPubkeyCalc_502 p_params_ok) := by
  exact firstViol_one_some (agree_pfokPubkeyCalc p_params_ok)

/-- inside the documented domain (pointers valid) `pfokPubkeyCalc` passes its argument checks -/
theorem accept_pfokPubkeyCalc (p_params_ok : Bool)  :
    dom_pfokPubkeyCalc_502 p_params_ok → check_pfokPubkeyCalc p_params_ok = none := by
  exact firstViol_one_none (agree_pfokPubkeyCalc p_params_ok)

theorem agree_pfokDH (p_params_ok : Bool)  :
    check_pfokDH p_params_ok = firstViol [(502, dom_pfokDH_502 p_params_ok)] := by
  unfold check_pfokDH
  exact cascade_cons .rfl rfl

/-- outside the documented domain `pfokDH` returns a documented class whose condition is violated -/
theorem contract_pfokDH (p_params_ok : Bool)  :
    ¬ (dom_pfokDH_502 p_params_ok) →
    (check_pfokDH p_params_ok = some 502 ∧ ¬ dom_pfokDH_502 p_params_ok) := by
  exact firstViol_one_some (agree_pfokDH p_params_ok)

/-- inside the documented domain (pointers valid) `pfokDH` passes its argument checks -/
theorem accept_pfokDH (p_params_ok : Bool)  :
    dom_pfokDH_502 p_params_ok → check_pfokDH p_params_ok = none := by
  exact firstViol_one_none (agree_pfokDH p_params_ok)

theorem agree_pfokMTI (p_params_ok : Bool)  :
    check_pfokMTI p_params_ok = firstViol [(502, dom_pfokMTI_502 p_params_ok)] := by
  unfold check_pfokMTI
  exact cascade_cons .rfl rfl

/-- outside the documented domain `pfokMTI` returns a documented class whose condition is violated -/
theorem contract_pfokMTI (p_params_ok : Bool)  :
    ¬ (dom_pfokMTI_502 p_params_ok) →
    (check_pfokMTI p_params_ok = some 502 ∧ ¬ dom_pfokMTI_502 p_params_ok) := by
  exact firstViol_one_some (agree_pfokMTI p_params_ok)

/-- inside the documented domain (pointers valid) `pfokMTI` passes its argument checks -/
theorem accept_pfokMTI (p_params_ok : Bool)  :
    dom_pfokMTI_502 p_params_ok → check_pfokMTI p_params_ok = none := by
  exact firstViol_one_none (agree_pfokMTI p_params_ok)

end Bee2V.Gen.C09Obl
