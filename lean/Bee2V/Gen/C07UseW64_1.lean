/- GENERATED by xlate/x_c07_use.py from /repo/src (word configuration W64, part 2 of 8) — do not edit.
   For every function that carves a scratch stack or a blob: offset of every call that
   receives the rest of the area + the callee's DECLARED depth <= the declared depth;
   for object constructors additionally their post-condition (goals `post`). -/
import Bee2V.Gen.C07DeepW64
import Bee2V.C07.Mono

namespace Bee2V.Gen.C07.W64.Use
open Bee2V.Gen.C07.W64

/- the lists of definitions to open are computed per function, not trimmed per goal -/
set_option linter.unusedSimpArgs false

/-- src/crypto/bake.c : bakeSWU
  [call bakeSWU2] -/
theorem use_le_deep_bakeSWU (params_l : Nat) (state_deep : Nat) (state_f_deep : Nat) (state_keep : Nat) (h_0 : state_f_deep ≤ (gfpCreate_deep (((2 * params_l) + 7) / 8))) (h_1 : state_deep ≤ (ecpCreateJ_deep ((((2 * params_l) + 64) - 1) / 64) (gfpCreate_deep (((2 * params_l) + 7) / 8)))) (h_2 : state_keep ≤ ((gfpCreate_keep (((2 * params_l) + 7) / 8)) + (ecpCreateJ_keep ((((2 * params_l) + 64) - 1) / 64))))  :
    (((0 + (state_keep * 1)) + (bakeSWU2_deep ((((2 * params_l) + 64) - 1) / 64) state_f_deep 3 state_deep)) ≤ (bignStart_keep params_l (some bakeSWU2_deep))) := by
  simp only [bakeSWU2_deep, bignStart_keep, ecCreateGroup_deep, ecpSWU_deep, qrPower_deep, zzMod_deep, ecpCreateJ_deep_eq, ← Nat.add_max_add_left, ← Nat.add_max_add_right, Std.le_max, Nat.max_le] at *
  omega

/-- src/crypto/belt/belt_sde.c : beltSDEEncr
  [carve] -/
theorem use_le_deep_beltSDEEncr    :
    ((0 + (beltSDE_keep * 1)) ≤ (beltSDE_keep + 16)) := by
  simp only [beltSDE_keep, ← Nat.add_max_add_left, ← Nat.add_max_add_right, Std.le_max, Nat.max_le]
  omega

/-- src/crypto/bign96.c : bign96Verify
  [call state->f->from]
  [call ecpIsOnA]
  [call ecAddMulA]
  [carve] -/
theorem use_le_deep_bign96Verify (state_deep : Nat) (state_f_deep : Nat) (state_keep : Nat) (h_0 : state_f_deep ≤ (gfpCreate_deep 24)) (h_1 : state_deep ≤ (ecpCreateJ_deep 3 (gfpCreate_deep 24))) (h_2 : state_keep ≤ ((gfpCreate_keep 24) + (ecpCreateJ_keep 3)))  :
    ((((((0 + (state_keep * 1)) + 48) + 24) + 24) + state_f_deep) ≤ (bign96Start_keep (some bign96Verify_deep))) ∧
    ((((((0 + (state_keep * 1)) + 48) + 24) + 24) + (ecpIsOnA_deep 3 state_f_deep)) ≤ (bign96Start_keep (some bign96Verify_deep))) ∧
    ((((((0 + (state_keep * 1)) + 48) + 24) + 24) + (ecAddMulA_deep 3 3 state_deep 2 [3, 2])) ≤ (bign96Start_keep (some bign96Verify_deep))) ∧
    (((((0 + (state_keep * 1)) + 48) + 24) + 24) ≤ (bign96Start_keep (some bign96Verify_deep))) := by
  simp only [beltCompr_deep, beltHash_keep, bign96Start_keep, bign96Verify_deep, ecAddMulA_deep, ecCreateGroup_deep, ecpIsOnA_deep, ecpCreateJ_deep_eq, List.take, List.foldl, Nat.reduceSub, Nat.reduceDiv, Nat.reduceAdd, Nat.reduceMul, ← Nat.add_max_add_left, ← Nat.add_max_add_right, Std.le_max, Nat.max_le] at *
  omega

/- OPEN (not a theorem): users of the bignStart post-condition whose goals are a many-way max: not among the proved obligations
/ -- src/crypto/bign/bign_misc.c : bignKeypairVal
  [call ecMulA]
  [call state->f->to]
  [carve] - /
open_obligation use_le_deep_bignKeypairVal (params_l : Nat) (state_deep : Nat) (state_f_deep : Nat) (state_keep : Nat) (h_0 : state_f_deep ≤ (gfpCreate_deep (((2 * params_l) + 7) / 8))) (h_1 : state_deep ≤ (ecpCreateJ_deep ((((2 * params_l) + 64) - 1) / 64) (gfpCreate_deep (((2 * params_l) + 7) / 8)))) (h_2 : state_keep ≤ ((gfpCreate_keep (((2 * params_l) + 7) / 8)) + (ecpCreateJ_keep ((((2 * params_l) + 64) - 1) / 64))))  :
    (((((0 + (state_keep * 1)) + (((((2 * params_l) + 64) - 1) / 64) * 8)) + ((2 * ((((2 * params_l) + 64) - 1) / 64)) * 8)) + (ecMulA_deep ((((2 * params_l) + 64) - 1) / 64) 3 state_deep ((((2 * params_l) + 64) - 1) / 64))) ≤ (bignStart_keep params_l (some bignKeypairVal_deep))) ∧
    (((((0 + (state_keep * 1)) + (((((2 * params_l) + 64) - 1) / 64) * 8)) + ((2 * ((((2 * params_l) + 64) - 1) / 64)) * 8)) + state_f_deep) ≤ (bignStart_keep params_l (some bignKeypairVal_deep))) ∧
    ((((0 + (state_keep * 1)) + (((((2 * params_l) + 64) - 1) / 64) * 8)) + ((2 * ((((2 * params_l) + 64) - 1) / 64)) * 8)) ≤ (bignStart_keep params_l (some bignKeypairVal_deep)))
-/

/-- src/crypto/btok/btok_cvc.c : btokCVCVal
  [carve] -/
theorem use_le_deep_btokCVCVal    :
    (296 ≤ 592) := by
  omega

/-- src/math/ec2.c : ec2DblLD
  [call ec->f->mul]
  [carve] -/
theorem use_le_deep_ec2DblLD (ec_f_deep : Nat) (ec_f_n : Nat)   :
    ((((0 + (ec_f_n * 8)) + (ec_f_n * 8)) + ec_f_deep) ≤ (ec2DblLD_deep ec_f_n ec_f_deep)) ∧
    (((0 + (ec_f_n * 8)) + (ec_f_n * 8)) ≤ (ec2DblLD_deep ec_f_n ec_f_deep)) := by
  simp only [ec2DblLD_deep, ← Nat.add_max_add_left, ← Nat.add_max_add_right, Std.le_max, Nat.max_le]
  omega

/-- src/math/ec2.c : ec2SubLD
  [call ec->f->mul]
  [call ec2AddLD]
  [carve] -/
theorem use_le_deep_ec2SubLD (ec_f_deep : Nat) (ec_f_n : Nat)   :
    (((0 + ((3 * ec_f_n) * 8)) + ec_f_deep) ≤ (ec2SubLD_deep ec_f_n ec_f_deep)) ∧
    (((0 + ((3 * ec_f_n) * 8)) + (ec2AddLD_deep ec_f_n ec_f_deep)) ≤ (ec2SubLD_deep ec_f_n ec_f_deep)) ∧
    ((0 + ((3 * ec_f_n) * 8)) ≤ (ec2SubLD_deep ec_f_n ec_f_deep)) := by
  simp only [ec2SubLD_deep, ← Nat.add_max_add_left, ← Nat.add_max_add_right, Std.le_max, Nat.max_le]
  omega

/-- src/math/ecp.c : ecpCreateJ
  [call f->from]
  [install ec->toa=ecpToAJ]
  [install ec->add=ecpAddJ]
  [install ec->adda=ecpAddAJ]
  [install ec->sub=ecpSubJ]
  [install ec->suba=ecpSubAJ]
  [install ec->dbla=ecpDblAJ]
  [post ec->d (<=)]
  [post ec->deep]
  [post ec->keep] -/
theorem use_le_deep_ecpCreateJ (bA3_u1 : Nat) (f_deep : Nat) (f_n : Nat)   :
    ((0 + f_deep) ≤ (ecpCreateJ_deep f_n f_deep)) ∧
    ((ecpToAJ_deep f_n f_deep) ≤ (max (ecpToAJ_deep f_n f_deep) (max (ecpAddJ_deep f_n f_deep) (max (ecpAddAJ_deep f_n f_deep) (max (ecpSubJ_deep f_n f_deep) (max (ecpSubAJ_deep f_n f_deep) (max (if (bA3_u1 ≠ 0) then (ecpDblJA3_deep f_n f_deep) else (ecpDblJ_deep f_n f_deep)) (max (ecpDblAJ_deep f_n f_deep) (if (bA3_u1 ≠ 0) then (ecpTplJA3_deep f_n f_deep) else (ecpTplJ_deep f_n f_deep)))))))))) ∧
    ((ecpAddJ_deep f_n f_deep) ≤ (max (ecpToAJ_deep f_n f_deep) (max (ecpAddJ_deep f_n f_deep) (max (ecpAddAJ_deep f_n f_deep) (max (ecpSubJ_deep f_n f_deep) (max (ecpSubAJ_deep f_n f_deep) (max (if (bA3_u1 ≠ 0) then (ecpDblJA3_deep f_n f_deep) else (ecpDblJ_deep f_n f_deep)) (max (ecpDblAJ_deep f_n f_deep) (if (bA3_u1 ≠ 0) then (ecpTplJA3_deep f_n f_deep) else (ecpTplJ_deep f_n f_deep)))))))))) ∧
    ((ecpAddAJ_deep f_n f_deep) ≤ (max (ecpToAJ_deep f_n f_deep) (max (ecpAddJ_deep f_n f_deep) (max (ecpAddAJ_deep f_n f_deep) (max (ecpSubJ_deep f_n f_deep) (max (ecpSubAJ_deep f_n f_deep) (max (if (bA3_u1 ≠ 0) then (ecpDblJA3_deep f_n f_deep) else (ecpDblJ_deep f_n f_deep)) (max (ecpDblAJ_deep f_n f_deep) (if (bA3_u1 ≠ 0) then (ecpTplJA3_deep f_n f_deep) else (ecpTplJ_deep f_n f_deep)))))))))) ∧
    ((ecpSubJ_deep f_n f_deep) ≤ (max (ecpToAJ_deep f_n f_deep) (max (ecpAddJ_deep f_n f_deep) (max (ecpAddAJ_deep f_n f_deep) (max (ecpSubJ_deep f_n f_deep) (max (ecpSubAJ_deep f_n f_deep) (max (if (bA3_u1 ≠ 0) then (ecpDblJA3_deep f_n f_deep) else (ecpDblJ_deep f_n f_deep)) (max (ecpDblAJ_deep f_n f_deep) (if (bA3_u1 ≠ 0) then (ecpTplJA3_deep f_n f_deep) else (ecpTplJ_deep f_n f_deep)))))))))) ∧
    ((ecpSubAJ_deep f_n f_deep) ≤ (max (ecpToAJ_deep f_n f_deep) (max (ecpAddJ_deep f_n f_deep) (max (ecpAddAJ_deep f_n f_deep) (max (ecpSubJ_deep f_n f_deep) (max (ecpSubAJ_deep f_n f_deep) (max (if (bA3_u1 ≠ 0) then (ecpDblJA3_deep f_n f_deep) else (ecpDblJ_deep f_n f_deep)) (max (ecpDblAJ_deep f_n f_deep) (if (bA3_u1 ≠ 0) then (ecpTplJA3_deep f_n f_deep) else (ecpTplJ_deep f_n f_deep)))))))))) ∧
    ((ecpDblAJ_deep f_n f_deep) ≤ (max (ecpToAJ_deep f_n f_deep) (max (ecpAddJ_deep f_n f_deep) (max (ecpAddAJ_deep f_n f_deep) (max (ecpSubJ_deep f_n f_deep) (max (ecpSubAJ_deep f_n f_deep) (max (if (bA3_u1 ≠ 0) then (ecpDblJA3_deep f_n f_deep) else (ecpDblJ_deep f_n f_deep)) (max (ecpDblAJ_deep f_n f_deep) (if (bA3_u1 ≠ 0) then (ecpTplJA3_deep f_n f_deep) else (ecpTplJ_deep f_n f_deep)))))))))) ∧
    (3 ≤ 3) ∧
    ((max (ecpToAJ_deep f_n f_deep) (max (ecpAddJ_deep f_n f_deep) (max (ecpAddAJ_deep f_n f_deep) (max (ecpSubJ_deep f_n f_deep) (max (ecpSubAJ_deep f_n f_deep) (max (if (bA3_u1 ≠ 0) then (ecpDblJA3_deep f_n f_deep) else (ecpDblJ_deep f_n f_deep)) (max (ecpDblAJ_deep f_n f_deep) (if (bA3_u1 ≠ 0) then (ecpTplJA3_deep f_n f_deep) else (ecpTplJ_deep f_n f_deep))))))))) ≤ (ecpCreateJ_deep f_n f_deep)) ∧
    ((176 + (((5 * f_n) + 1) * 8)) ≤ (ecpCreateJ_keep f_n)) := by
  refine ⟨?_, ?_, ?_, ?_, ?_, ?_, ?_, ?_, ?_, ?_⟩
  · simp only [ecpAddAJ_deep, ecpAddJ_deep, ecpCreateJ_deep, ecpDblAJ_deep, ecpDblJA3_deep, ecpDblJ_deep, ecpSubAJ_deep, ecpSubJ_deep, ecpToAJ_deep, ecpTplJA3_deep, ecpTplJ_deep]
    omega
  · simp only [Std.le_max, Nat.le_refl, true_or, or_true]
  · simp only [Std.le_max, Nat.le_refl, true_or, or_true]
  · simp only [Std.le_max, Nat.le_refl, true_or, or_true]
  · simp only [Std.le_max, Nat.le_refl, true_or, or_true]
  · simp only [Std.le_max, Nat.le_refl, true_or, or_true]
  · simp only [Std.le_max, Nat.le_refl, true_or, or_true]
  · exact Nat.le_refl _
  · by_cases hb : bA3_u1 ≠ 0
    · simp only [if_pos hb, ecpCreateJ_deep, Nat.max_le]
      simp only [Std.le_max, Nat.le_refl, true_or, or_true, and_self]
    · simp only [if_neg hb, ecpCreateJ_deep, Nat.max_le]
      simp only [Std.le_max, Nat.le_refl, true_or, or_true, and_self]
  · simp only [ecpCreateJ_keep]
    omega

/-- src/crypto/bign/bign_params.c : ecpMOVIsMet
  [call zzMod]
  [call zzMulMod]
  [carve] -/
theorem use_le_deep_ecpMOVIsMet (n : Nat)   :
    ((((0 + (n * 8)) + (n * 8)) + (zzMod_deep n n)) ≤ (ecpMOVIsMet_deep n)) ∧
    ((((0 + (n * 8)) + (n * 8)) + (zzMulMod_deep n)) ≤ (ecpMOVIsMet_deep n)) ∧
    (((0 + (n * 8)) + (n * 8)) ≤ (ecpMOVIsMet_deep n)) := by
  simp only [ecpMOVIsMet_deep, ← Nat.add_max_add_left, ← Nat.add_max_add_right, Std.le_max, Nat.max_le]
  omega

/-- src/math/ecp.c : ecpTplJA3
  [call ec->f->sqr]
  [carve] -/
theorem use_le_deep_ecpTplJA3 (ec_f_deep : Nat) (ec_f_n : Nat)   :
    (((((((((0 + (ec_f_n * 8)) + (ec_f_n * 8)) + (ec_f_n * 8)) + (ec_f_n * 8)) + (ec_f_n * 8)) + (ec_f_n * 8)) + (ec_f_n * 8)) + ec_f_deep) ≤ (ecpTplJA3_deep ec_f_n ec_f_deep)) ∧
    ((((((((0 + (ec_f_n * 8)) + (ec_f_n * 8)) + (ec_f_n * 8)) + (ec_f_n * 8)) + (ec_f_n * 8)) + (ec_f_n * 8)) + (ec_f_n * 8)) ≤ (ecpTplJA3_deep ec_f_n ec_f_deep)) := by
  simp only [ecpTplJA3_deep, ← Nat.add_max_add_left, ← Nat.add_max_add_right, Std.le_max, Nat.max_le]
  omega

/-- src/math/gf2.c : gf2SqrTrinomial0
  [call ppSqr]
  [carve] -/
theorem use_le_deep_gf2SqrTrinomial0 (f_n : Nat)   :
    (((0 + ((2 * f_n) * 8)) + (ppSqr_deep f_n)) ≤ (gf2SqrTrinomial0_deep f_n)) ∧
    ((0 + ((2 * f_n) * 8)) ≤ (gf2SqrTrinomial0_deep f_n)) := by
  simp only [gf2SqrTrinomial0_deep, ← Nat.add_max_add_left, ← Nat.add_max_add_right, Std.le_max, Nat.max_le]
  omega

/- OPEN (not a theorem): pfokDH/MTI/PubkeyCalc call qrPower with an exponent of W_OF_B(r) words while the blob is sized for W_OF_B(l): needs the parameter-domain fact r <= l (and monotonicity of qrPower_deep in m), which the model does not have; pfokParamsVal: goal too large
/ -- src/crypto/pfok.c : pfokPubkeyCalc
  [call zmMontCreate]
  [call qrPower]
  [call qr->to]
  [carve] - /
open_obligation use_le_deep_pfokPubkeyCalc (params_l : Nat) (params_r : Nat) (qr_deep : Nat) (h_0 : qr_deep ≤ (zmMontCreate_deep ((params_l + 7) / 8)))  :
    (((((0 + ((((params_r + 64) - 1) / 64) * 8)) + ((((params_l + 64) - 1) / 64) * 8)) + ((zmMontCreate_keep ((params_l + 7) / 8)) * 1)) + (zmMontCreate_deep ((params_l + 7) / 8))) ≤ (((((((params_l + 64) - 1) / 64) * 8) + ((((params_r + 64) - 1) / 64) * 8)) + (zmMontCreate_keep ((params_l + 7) / 8))) + (max (zmMontCreate_deep ((params_l + 7) / 8)) (qrPower_deep (((params_l + 64) - 1) / 64) (((params_l + 64) - 1) / 64) (zmMontCreate_deep ((params_l + 7) / 8)))))) ∧
    (((((0 + ((((params_r + 64) - 1) / 64) * 8)) + ((((params_l + 64) - 1) / 64) * 8)) + ((zmMontCreate_keep ((params_l + 7) / 8)) * 1)) + (qrPower_deep (((((params_l + 7) / 8) + 8) - 1) / 8) (((params_r + 64) - 1) / 64) qr_deep)) ≤ (((((((params_l + 64) - 1) / 64) * 8) + ((((params_r + 64) - 1) / 64) * 8)) + (zmMontCreate_keep ((params_l + 7) / 8))) + (max (zmMontCreate_deep ((params_l + 7) / 8)) (qrPower_deep (((params_l + 64) - 1) / 64) (((params_l + 64) - 1) / 64) (zmMontCreate_deep ((params_l + 7) / 8)))))) ∧
    (((((0 + ((((params_r + 64) - 1) / 64) * 8)) + ((((params_l + 64) - 1) / 64) * 8)) + ((zmMontCreate_keep ((params_l + 7) / 8)) * 1)) + qr_deep) ≤ (((((((params_l + 64) - 1) / 64) * 8) + ((((params_r + 64) - 1) / 64) * 8)) + (zmMontCreate_keep ((params_l + 7) / 8))) + (max (zmMontCreate_deep ((params_l + 7) / 8)) (qrPower_deep (((params_l + 64) - 1) / 64) (((params_l + 64) - 1) / 64) (zmMontCreate_deep ((params_l + 7) / 8)))))) ∧
    ((((0 + ((((params_r + 64) - 1) / 64) * 8)) + ((((params_l + 64) - 1) / 64) * 8)) + ((zmMontCreate_keep ((params_l + 7) / 8)) * 1)) ≤ (((((((params_l + 64) - 1) / 64) * 8) + ((((params_r + 64) - 1) / 64) * 8)) + (zmMontCreate_keep ((params_l + 7) / 8))) + (max (zmMontCreate_deep ((params_l + 7) / 8)) (qrPower_deep (((params_l + 64) - 1) / 64) (((params_l + 64) - 1) / 64) (zmMontCreate_deep ((params_l + 7) / 8))))))
-/

/-- src/math/pp/pp_mul.c : ppMod
  [call ppAddMulW]
  [carve] -/
theorem use_le_deep_ppMod (m : Nat) (m'2 : Nat) (n : Nat) (h_0 : m'2 ≤ m)  :
    (((((((0 + (n * 8)) + 8) + (m * 8)) + 128) + 128) + (ppAddMulW_deep m'2)) ≤ (ppMod_deep n m)) ∧
    ((((((0 + (n * 8)) + 8) + (m * 8)) + 128) + 128) ≤ (ppMod_deep n m)) := by
  simp only [ppAddMulW_deep, ppMod_deep, ← Nat.add_max_add_left, ← Nat.add_max_add_right, Std.le_max, Nat.max_le] at *
  omega

/-- src/math/pp/pp_red.c : ppRed
  [call ppMod] -/
theorem use_le_deep_ppRed (n : Nat)   :
    ((0 + (ppMod_deep (2 * n) n)) ≤ (ppRed_deep n)) := by
  simp only [ppRed_deep, ← Nat.add_max_add_left, ← Nat.add_max_add_right, Std.le_max, Nat.max_le]
  omega

/-- src/math/qr.c : qrPower
  [call r->sqr]
  [carve] -/
theorem use_le_deep_qrPower (m : Nat) (r_deep : Nat) (r_n : Nat)   :
    ((((0 + (r_n * 8)) + ((r_n * (1 <<< ((qrCalcSlideWidth m) - 1))) * 8)) + r_deep) ≤ (qrPower_deep r_n m r_deep)) ∧
    (((0 + (r_n * 8)) + ((r_n * (1 <<< ((qrCalcSlideWidth m) - 1))) * 8)) ≤ (qrPower_deep r_n m r_deep)) := by
  simp only [qrPower_deep, ← Nat.add_max_add_left, ← Nat.add_max_add_right, Std.le_max, Nat.max_le]
  omega

/-- src/math/zm.c : zmDivMont2
  [call zmInvMont2]
  [call zmMulMont2]
  [carve] -/
theorem use_le_deep_zmDivMont2 (r_n : Nat)   :
    (((0 + (r_n * 8)) + (zmInvMont2_deep r_n)) ≤ (zmDivMont2_deep r_n)) ∧
    (((0 + (r_n * 8)) + (zmMulMont2_deep r_n)) ≤ (zmDivMont2_deep r_n)) ∧
    ((0 + (r_n * 8)) ≤ (zmDivMont2_deep r_n)) := by
  simp only [zmDivMont2_deep, ← Nat.add_max_add_left, ← Nat.add_max_add_right, Std.le_max, Nat.max_le]
  omega

/-- src/math/zm.c : zmMulCrand
  [call zzMul]
  [call zzRedCrand]
  [carve] -/
theorem use_le_deep_zmMulCrand (r_n : Nat)   :
    (((0 + ((2 * r_n) * 8)) + (zzMul_deep r_n r_n)) ≤ (zmMulCrand_deep r_n)) ∧
    (((0 + ((2 * r_n) * 8)) + (zzRedCrand_deep r_n)) ≤ (zmMulCrand_deep r_n)) ∧
    ((0 + ((2 * r_n) * 8)) ≤ (zmMulCrand_deep r_n)) := by
  simp only [zmMulCrand_deep, ← Nat.add_max_add_left, ← Nat.add_max_add_right, Std.le_max, Nat.max_le]
  omega

/-- src/math/zm.c : zmToMont
  [call zzRedMont]
  [carve] -/
theorem use_le_deep_zmToMont (r_n : Nat)   :
    (((0 + ((2 * r_n) * 8)) + (zzRedMont_deep r_n)) ≤ (zmToMont_deep r_n)) ∧
    ((0 + ((2 * r_n) * 8)) ≤ (zmToMont_deep r_n)) := by
  simp only [zmToMont_deep, ← Nat.add_max_add_left, ← Nat.add_max_add_right, Std.le_max, Nat.max_le]
  omega

/-- src/math/zz/zz_mul.c : zzMod
  [carve] -/
theorem use_le_deep_zzMod (m : Nat) (n : Nat)   :
    (((((0 + (n * 8)) + 8) + (m * 8)) + 24) ≤ (zzMod_deep n m)) := by
  simp only [zzMod_deep, ← Nat.add_max_add_left, ← Nat.add_max_add_right, Std.le_max, Nat.max_le]
  omega

/-- src/math/zz/zz_etc.c : zzSqrt
  [call zzDiv]
  [carve] -/
theorem use_le_deep_zzSqrt (m'2 : Nat) (m'3 : Nat) (n : Nat) (n' : Nat) (h_0 : n' ≤ n) (h_1 : m'2 ≤ ((n + 1) / 2)) (h_2 : m'3 ≤ m'2)  :
    (((((0 + (((n + 1) / 2) * 8)) + 8) + (((n + 1) / 2) * 8)) + (zzDiv_deep n' m'3)) ≤ (zzSqrt_deep n)) ∧
    ((((0 + (((n + 1) / 2) * 8)) + 8) + (((n + 1) / 2) * 8)) ≤ (zzSqrt_deep n)) := by
  simp only [zzDiv_deep, zzSqrt_deep, ← Nat.add_max_add_left, ← Nat.add_max_add_right, Std.le_max, Nat.max_le] at *
  omega

end Bee2V.Gen.C07.W64.Use
