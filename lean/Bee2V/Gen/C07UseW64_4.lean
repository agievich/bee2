/- GENERATED by xlate/x_c07_use.py from /repo/src (word configuration W64, part 5 of 8) — do not edit.
   For every function that carves a scratch stack or a blob: offset of every call that
   receives the rest of the area + the callee's DECLARED depth <= the declared depth;
   for object constructors additionally their post-condition (goals `post`). -/
import Bee2V.Gen.C07DeepW64
import Bee2V.C07.Mono

namespace Bee2V.Gen.C07.W64.Use
open Bee2V.Gen.C07.W64

/- the lists of definitions to open are computed per function, not trimmed per goal -/
set_option linter.unusedSimpArgs false

/-- src/crypto/bels.c : belsValM
  [call ppIsIrred]
  [carve] -/
theorem use_le_deep_belsValM (len : Nat)   :
    ((((0 + ((((len + 8) - 1) / 8) * 8)) + 8) + (ppIsIrred_deep ((((len + 8) - 1) / 8) + 1))) ≤ ((((((len + 8) - 1) / 8) + 1) * 8) + (ppIsIrred_deep ((((len + 8) - 1) / 8) + 1)))) ∧
    (((0 + ((((len + 8) - 1) / 8) * 8)) + 8) ≤ ((((((len + 8) - 1) / 8) + 1) * 8) + (ppIsIrred_deep ((((len + 8) - 1) / 8) + 1)))) := by
  simp only [ppIsIrred_deep, ← Nat.add_max_add_left, ← Nat.add_max_add_right, Std.le_max, Nat.max_le]
  omega

/- OPEN (not a theorem): users of the bignStart post-condition whose goals are a many-way max: not among the proved obligations
/ -- src/crypto/bign96.c : bign96ParamsVal
  [call zzMod]
  [call state->f->from]
  [call ecpIsValid]
  [call ecpIsSafeGroup]
  [call zzJacobi]
  [call qrPower]
  [call ecHasOrderA]
  [carve] - /
open_obligation use_le_deep_bign96ParamsVal (state_deep : Nat) (state_f_deep : Nat) (state_keep : Nat) (h_0 : state_f_deep ≤ (gfpCreate_deep 24)) (h_1 : state_deep ≤ (ecpCreateJ_deep 3 (gfpCreate_deep 24))) (h_2 : state_keep ≤ ((gfpCreate_keep 24) + (ecpCreateJ_keep 3)))  :
    (((((0 + (state_keep * 1)) + (beltHash_keep * 1)) + 64) + (zzMod_deep 8 3)) ≤ (bign96Start_keep (some bign96ParamsVal_deep))) ∧
    (((((0 + (state_keep * 1)) + (beltHash_keep * 1)) + 64) + state_f_deep) ≤ (bign96Start_keep (some bign96ParamsVal_deep))) ∧
    (((((0 + (state_keep * 1)) + (beltHash_keep * 1)) + 64) + (ecpIsValid_deep 3 state_f_deep)) ≤ (bign96Start_keep (some bign96ParamsVal_deep))) ∧
    (((((0 + (state_keep * 1)) + (beltHash_keep * 1)) + 64) + (ecpIsSafeGroup_deep 3)) ≤ (bign96Start_keep (some bign96ParamsVal_deep))) ∧
    (((((0 + (state_keep * 1)) + (beltHash_keep * 1)) + 64) + (zzJacobi_deep 3 3)) ≤ (bign96Start_keep (some bign96ParamsVal_deep))) ∧
    (((((0 + (state_keep * 1)) + (beltHash_keep * 1)) + 64) + (qrPower_deep 3 3 state_f_deep)) ≤ (bign96Start_keep (some bign96ParamsVal_deep))) ∧
    (((((0 + (state_keep * 1)) + (beltHash_keep * 1)) + 64) + (ecHasOrderA_deep 3 3 state_deep 3)) ≤ (bign96Start_keep (some bign96ParamsVal_deep))) ∧
    ((((0 + (state_keep * 1)) + (beltHash_keep * 1)) + 64) ≤ (bign96Start_keep (some bign96ParamsVal_deep)))
-/

/- OPEN (not a theorem): users of the bignStart post-condition whose goals are a many-way max: not among the proved obligations
/ -- src/crypto/bign/bign_ibs.c : bignIdSign
  [call ecMulA]
  [call state->f->to]
  [call zzMul]
  [call zzMod]
  [carve]
  [carve] - /
open_obligation use_le_deep_bignIdSign (params_l : Nat) (state_deep : Nat) (state_f_deep : Nat) (state_keep : Nat) (h_0 : state_f_deep ≤ (gfpCreate_deep (((2 * params_l) + 7) / 8))) (h_1 : state_deep ≤ (ecpCreateJ_deep ((((2 * params_l) + 64) - 1) / 64) (gfpCreate_deep (((2 * params_l) + 7) / 8)))) (h_2 : state_keep ≤ ((gfpCreate_keep (((2 * params_l) + 7) / 8)) + (ecpCreateJ_keep ((((2 * params_l) + 64) - 1) / 64))))  :
    ((((((0 + (state_keep * 1)) + (((((2 * params_l) + 64) - 1) / 64) * 8)) + (((((2 * params_l) + 64) - 1) / 64) * 8)) + ((2 * ((((2 * params_l) + 64) - 1) / 64)) * 8)) + (ecMulA_deep ((((2 * params_l) + 64) - 1) / 64) 3 state_deep ((((2 * params_l) + 64) - 1) / 64))) ≤ (bignStart_keep params_l (some bignIdSign_deep))) ∧
    ((((((0 + (state_keep * 1)) + (((((2 * params_l) + 64) - 1) / 64) * 8)) + (((((2 * params_l) + 64) - 1) / 64) * 8)) + ((2 * ((((2 * params_l) + 64) - 1) / 64)) * 8)) + state_f_deep) ≤ (bignStart_keep params_l (some bignIdSign_deep))) ∧
    ((((((0 + (state_keep * 1)) + (((((2 * params_l) + 64) - 1) / 64) * 8)) + (((((2 * params_l) + 64) - 1) / 64) * 8)) + ((2 * ((((2 * params_l) + 64) - 1) / 64)) * 8)) + (zzMul_deep (((((2 * params_l) + 64) - 1) / 64) / 2) ((((2 * params_l) + 64) - 1) / 64))) ≤ (bignStart_keep params_l (some bignIdSign_deep))) ∧
    ((((((0 + (state_keep * 1)) + (((((2 * params_l) + 64) - 1) / 64) * 8)) + (((((2 * params_l) + 64) - 1) / 64) * 8)) + ((2 * ((((2 * params_l) + 64) - 1) / 64)) * 8)) + (zzMod_deep ((((((2 * params_l) + 64) - 1) / 64) + (((((2 * params_l) + 64) - 1) / 64) / 2)) + 1) ((((2 * params_l) + 64) - 1) / 64))) ≤ (bignStart_keep params_l (some bignIdSign_deep))) ∧
    ((((((0 + (state_keep * 1)) + (((((2 * params_l) + 64) - 1) / 64) * 8)) + (((((2 * params_l) + 64) - 1) / 64) * 8)) + (((((2 * params_l) + 64) - 1) / 64) * 8)) + ((((((2 * params_l) + 64) - 1) / 64) / 2) * 8)) ≤ (bignStart_keep params_l (some bignIdSign_deep))) ∧
    (((((0 + (state_keep * 1)) + (((((2 * params_l) + 64) - 1) / 64) * 8)) + (((((2 * params_l) + 64) - 1) / 64) * 8)) + ((2 * ((((2 * params_l) + 64) - 1) / 64)) * 8)) ≤ (bignStart_keep params_l (some bignIdSign_deep)))
-/

/- OPEN (not a theorem): users of the bignStart post-condition whose goals are a many-way max: not among the proved obligations
/ -- src/crypto/bign/bign_misc.c : bignPubkeyCalc
  [call ecMulA]
  [call state->f->to]
  [carve] - /
open_obligation use_le_deep_bignPubkeyCalc (params_l : Nat) (state_deep : Nat) (state_f_deep : Nat) (state_keep : Nat) (h_0 : state_f_deep ≤ (gfpCreate_deep (((2 * params_l) + 7) / 8))) (h_1 : state_deep ≤ (ecpCreateJ_deep ((((2 * params_l) + 64) - 1) / 64) (gfpCreate_deep (((2 * params_l) + 7) / 8)))) (h_2 : state_keep ≤ ((gfpCreate_keep (((2 * params_l) + 7) / 8)) + (ecpCreateJ_keep ((((2 * params_l) + 64) - 1) / 64))))  :
    (((((0 + (state_keep * 1)) + (((((2 * params_l) + 64) - 1) / 64) * 8)) + ((2 * ((((2 * params_l) + 64) - 1) / 64)) * 8)) + (ecMulA_deep ((((2 * params_l) + 64) - 1) / 64) 3 state_deep ((((2 * params_l) + 64) - 1) / 64))) ≤ (bignStart_keep params_l (some bignPubkeyCalc_deep))) ∧
    (((((0 + (state_keep * 1)) + (((((2 * params_l) + 64) - 1) / 64) * 8)) + ((2 * ((((2 * params_l) + 64) - 1) / 64)) * 8)) + state_f_deep) ≤ (bignStart_keep params_l (some bignPubkeyCalc_deep))) ∧
    ((((0 + (state_keep * 1)) + (((((2 * params_l) + 64) - 1) / 64) * 8)) + ((2 * ((((2 * params_l) + 64) - 1) / 64)) * 8)) ≤ (bignStart_keep params_l (some bignPubkeyCalc_deep)))
-/

/-- src/math/ec2.c : ec2AddAA
  [call ec->f->div]
  [carve] -/
theorem use_le_deep_ec2AddAA (ec_f_deep : Nat) (ec_f_n : Nat)   :
    (((((0 + (ec_f_n * 8)) + (ec_f_n * 8)) + (ec_f_n * 8)) + ec_f_deep) ≤ (ec2AddAA_deep ec_f_n ec_f_deep)) ∧
    ((((0 + (ec_f_n * 8)) + (ec_f_n * 8)) + (ec_f_n * 8)) ≤ (ec2AddAA_deep ec_f_n ec_f_deep)) := by
  simp only [ec2AddAA_deep, ← Nat.add_max_add_left, ← Nat.add_max_add_right, Std.le_max, Nat.max_le]
  omega

/-- src/math/ec2.c : ec2IsValid
  [call gf2IsValid] -/
theorem use_le_deep_ec2IsValid (ec_f_n : Nat)   :
    ((0 + (gf2IsValid_deep ec_f_n)) ≤ (ec2IsValid_deep ec_f_n)) := by
  simp only [ec2IsValid_deep, ← Nat.add_max_add_left, ← Nat.add_max_add_right, Std.le_max, Nat.max_le]
  omega

/-- src/math/ec.c : ecHasOrderA
  [call ecMulA]
  [carve] -/
theorem use_le_deep_ecHasOrderA (ec_d : Nat) (ec_deep : Nat) (ec_f_n : Nat) (m : Nat)   :
    (((0 + ((ec_d * ec_f_n) * 8)) + (ecMulA_deep ec_f_n ec_d ec_deep m)) ≤ (ecHasOrderA_deep ec_f_n ec_d ec_deep m)) ∧
    ((0 + ((ec_d * ec_f_n) * 8)) ≤ (ecHasOrderA_deep ec_f_n ec_d ec_deep m)) := by
  simp only [ecHasOrderA_deep, ← Nat.add_max_add_left, ← Nat.add_max_add_right, Std.le_max, Nat.max_le]
  omega

/-- src/math/ecp.c : ecpDblJA3
  [call ec->f->sqr]
  [carve] -/
theorem use_le_deep_ecpDblJA3 (ec_f_deep : Nat) (ec_f_n : Nat)   :
    ((((0 + (ec_f_n * 8)) + (ec_f_n * 8)) + ec_f_deep) ≤ (ecpDblJA3_deep ec_f_n ec_f_deep)) ∧
    (((0 + (ec_f_n * 8)) + (ec_f_n * 8)) ≤ (ecpDblJA3_deep ec_f_n ec_f_deep)) := by
  simp only [ecpDblJA3_deep, ← Nat.add_max_add_left, ← Nat.add_max_add_right, Std.le_max, Nat.max_le]
  omega

/-- src/math/ecp.c : ecpSubAA
  [call ec->f->sqr]
  [carve] -/
theorem use_le_deep_ecpSubAA (ec_f_deep : Nat) (ec_f_n : Nat)   :
    (((((0 + (ec_f_n * 8)) + (ec_f_n * 8)) + (ec_f_n * 8)) + ec_f_deep) ≤ (ecpSubAA_deep ec_f_n ec_f_deep)) ∧
    ((((0 + (ec_f_n * 8)) + (ec_f_n * 8)) + (ec_f_n * 8)) ≤ (ecpSubAA_deep ec_f_n ec_f_deep)) := by
  simp only [ecpSubAA_deep, ← Nat.add_max_add_left, ← Nat.add_max_add_right, Std.le_max, Nat.max_le]
  omega

/-- src/math/gf2.c : gf2MulPentanomial
  [call ppMul]
  [carve] -/
theorem use_le_deep_gf2MulPentanomial (f_n : Nat)   :
    (((0 + ((2 * f_n) * 8)) + (ppMul_deep f_n f_n)) ≤ (gf2MulPentanomial_deep f_n)) ∧
    ((0 + ((2 * f_n) * 8)) ≤ (gf2MulPentanomial_deep f_n)) := by
  simp only [gf2MulPentanomial_deep, ppMul1_deep, ppMul2_deep, ppMul3_deep, ppMul4_deep, ppMul5_deep, ppMul6_deep, ppMul7_deep, ppMul8_deep, ppMul9_deep, ← Nat.add_max_add_left, ← Nat.add_max_add_right, Std.le_max, Nat.max_le]
  omega

/-- src/math/gfp.c : gfpCreate
  [call zmCreate]
  [post r->n (<=)]
  [post r->no (<=)]
  [post r->deep]
  [post r->keep] -/
theorem use_le_deep_gfpCreate (no : Nat) (r_deep : Nat) (r_keep : Nat) (h_0 : r_deep ≤ (zmCreate_deep no)) (h_1 : r_keep ≤ (zmCreate_keep no))  :
    ((0 + (zmCreate_deep no)) ≤ (gfpCreate_deep no)) ∧
    ((((no + 8) - 1) / 8) ≤ (((no + 8) - 1) / 8)) ∧
    (no ≤ no) ∧
    (r_deep ≤ (gfpCreate_deep no)) ∧
    (r_keep ≤ (gfpCreate_keep no)) := by
  refine ⟨?_, ?_, ?_, ?_, ?_⟩
  · simp only [gfpCreate_deep, zmCreate_deep_eq] at *
    omega
  · exact Nat.le_refl _
  · exact Nat.le_refl _
  · simp only [gfpCreate_deep, zmCreate_deep_eq] at *
    omega
  · simp only [gfpCreate_keep, zmCreate_keep_eq] at *
    omega

/-- src/math/pp/pp_gcd.c : ppExGCD
  [carve] -/
theorem use_le_deep_ppExGCD (m : Nat) (n : Nat)   :
    (((((((0 + (n * 8)) + (m * 8)) + (n * 8)) + (m * 8)) + (m * 8)) + (n * 8)) ≤ (ppExGCD_deep n m)) := by
  simp only [ppExGCD_deep, ← Nat.add_max_add_left, ← Nat.add_max_add_right, Std.le_max, Nat.max_le]
  omega

/-- src/math/pp/pp_mul.c : ppMul6
  [call ppMul3]
  [call ppMul3] -/
theorem use_le_deep_ppMul6    :
    ((0 + ppMul3_deep) ≤ ppMul6_deep) ∧
    ((72 + ppMul3_deep) ≤ ppMul6_deep) := by
  simp only [ppMul6_deep, ppMul3_deep, ← Nat.add_max_add_left, ← Nat.add_max_add_right, Std.le_max, Nat.max_le]
  omega

/-- src/math/pri.c : priIsPrime
  [call priRMTest] -/
theorem use_le_deep_priIsPrime (n : Nat)   :
    ((0 + (priRMTest_deep n)) ≤ (priIsPrime_deep n)) := by
  simp only [priIsPrime_deep, prngCOMBO_keep, ← Nat.add_max_add_left, ← Nat.add_max_add_right, Std.le_max, Nat.max_le]
  omega

/-- src/math/zm.c : zmCreateCrand
  [install r->mul=zmMulCrand]
  [install r->sqr=zmSqrCrand]
  [install r->inv=zmInv]
  [install r->div=zmDiv]
  [post r->n (<=)]
  [post r->no (<=)]
  [post r->deep]
  [post r->keep] -/
theorem use_le_deep_zmCreateCrand (no : Nat)   :
    ((zmMulCrand_deep (((no + 8) - 1) / 8)) ≤ (max (zmMulCrand_deep (((no + 8) - 1) / 8)) (max (zmSqrCrand_deep (((no + 8) - 1) / 8)) (max (zmInv_deep (((no + 8) - 1) / 8)) (zmDiv_deep (((no + 8) - 1) / 8)))))) ∧
    ((zmSqrCrand_deep (((no + 8) - 1) / 8)) ≤ (max (zmMulCrand_deep (((no + 8) - 1) / 8)) (max (zmSqrCrand_deep (((no + 8) - 1) / 8)) (max (zmInv_deep (((no + 8) - 1) / 8)) (zmDiv_deep (((no + 8) - 1) / 8)))))) ∧
    ((zmInv_deep (((no + 8) - 1) / 8)) ≤ (max (zmMulCrand_deep (((no + 8) - 1) / 8)) (max (zmSqrCrand_deep (((no + 8) - 1) / 8)) (max (zmInv_deep (((no + 8) - 1) / 8)) (zmDiv_deep (((no + 8) - 1) / 8)))))) ∧
    ((zmDiv_deep (((no + 8) - 1) / 8)) ≤ (max (zmMulCrand_deep (((no + 8) - 1) / 8)) (max (zmSqrCrand_deep (((no + 8) - 1) / 8)) (max (zmInv_deep (((no + 8) - 1) / 8)) (zmDiv_deep (((no + 8) - 1) / 8)))))) ∧
    ((((no + 8) - 1) / 8) ≤ (((no + 8) - 1) / 8)) ∧
    (no ≤ no) ∧
    ((max (zmMulCrand_deep (((no + 8) - 1) / 8)) (max (zmSqrCrand_deep (((no + 8) - 1) / 8)) (max (zmInv_deep (((no + 8) - 1) / 8)) (zmDiv_deep (((no + 8) - 1) / 8))))) ≤ (zmCreateCrand_deep no)) ∧
    ((144 + ((2 * (((no + 8) - 1) / 8)) * 8)) ≤ (zmCreateCrand_keep no)) := by
  refine ⟨?_, ?_, ?_, ?_, ?_, ?_, ?_, ?_⟩
  · simp only [Std.le_max, Nat.le_refl, true_or, or_true]
  · simp only [Std.le_max, Nat.le_refl, true_or, or_true]
  · simp only [Std.le_max, Nat.le_refl, true_or, or_true]
  · simp only [Std.le_max, Nat.le_refl, true_or, or_true]
  · exact Nat.le_refl _
  · exact Nat.le_refl _
  · simp only [zmCreateCrand_deep, zmDiv_deep, zmInv_deep, zmMulCrand_deep, zmSqrCrand_deep, zzDivMod_deep, zzInvMod_deep, zzMul_deep, zzRedCrand_deep, zzSqr_deep]
    omega
  · simp only [zmCreateCrand_keep]
    omega

/-- src/math/zm.c : zmInvMont
  [call zzAlmostInvMod] -/
theorem use_le_deep_zmInvMont (r_n : Nat)   :
    ((0 + (zzAlmostInvMod_deep r_n)) ≤ (zmInvMont_deep r_n)) := by
  simp only [zmInvMont_deep, ← Nat.add_max_add_left, ← Nat.add_max_add_right, Std.le_max, Nat.max_le]
  omega

/-- src/math/zm.c : zmSqr
  [call zzSqr]
  [call zzRed]
  [carve] -/
theorem use_le_deep_zmSqr (r_n : Nat)   :
    (((0 + ((2 * r_n) * 8)) + (zzSqr_deep r_n)) ≤ (zmSqr_deep r_n)) ∧
    (((0 + ((2 * r_n) * 8)) + (zzRed_deep r_n)) ≤ (zmSqr_deep r_n)) ∧
    ((0 + ((2 * r_n) * 8)) ≤ (zmSqr_deep r_n)) := by
  simp only [zmSqr_deep, ← Nat.add_max_add_left, ← Nat.add_max_add_right, Std.le_max, Nat.max_le]
  omega

/-- src/math/zz/zz_gcd.c : zzDivMod
  [carve] -/
theorem use_le_deep_zzDivMod (n : Nat)   :
    (((((0 + (n * 8)) + (n * 8)) + (n * 8)) + (n * 8)) ≤ (zzDivMod_deep n)) := by
  simp only [zzDivMod_deep, ← Nat.add_max_add_left, ← Nat.add_max_add_right, Std.le_max, Nat.max_le]
  omega

/-- src/math/zz/zz_pow.c : zzPowerMod
  [call zmCreate]
  [call r->from]
  [call qrPower]
  [carve] -/
theorem use_le_deep_zzPowerMod (m : Nat) (n : Nat) (no' : Nat) (r_deep : Nat) (h_0 : no' ≤ (n * 8)) (h_1 : r_deep ≤ (zmCreate_deep no'))  :
    ((((0 + (n * 8)) + ((zmCreate_keep no') * 1)) + (zmCreate_deep no')) ≤ (zzPowerMod_deep n m)) ∧
    ((((0 + (n * 8)) + ((zmCreate_keep no') * 1)) + r_deep) ≤ (zzPowerMod_deep n m)) ∧
    ((((0 + (n * 8)) + ((zmCreate_keep no') * 1)) + (qrPower_deep (((no' + 8) - 1) / 8) m r_deep)) ≤ (zzPowerMod_deep n m)) ∧
    (((0 + (n * 8)) + ((zmCreate_keep no') * 1)) ≤ (zzPowerMod_deep n m)) := by
  have hk := zmCreate_keep_mono _ _ h_0
  have hd := zmCreate_deep_mono _ _ h_0
  have hq := qrPower_deep_mono (((no' + 8) - 1) / 8) n m r_deep (zmCreate_deep (n * 8)) (by omega) (by omega)
  simp only [zzPowerMod_deep, ← Nat.add_max_add_left, ← Nat.add_max_add_right, Std.le_max, Nat.max_le]
  omega

end Bee2V.Gen.C07.W64.Use
