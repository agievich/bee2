/- GENERATED by xlate/x_c07_use.py from /repo/src (word configuration W32, part 7 of 8) — do not edit.
   For every function that carves a scratch stack or a blob: offset of every call that
   receives the rest of the area + the callee's DECLARED depth <= the declared depth;
   for object constructors additionally their post-condition (goals `post`). -/
import Bee2V.Gen.C07DeepW32
import Bee2V.C07.Mono

namespace Bee2V.Gen.C07.W32.Use
open Bee2V.Gen.C07.W32

/- the lists of definitions to open are computed per function, not trimmed per goal -/
set_option linter.unusedSimpArgs false

/-- src/crypto/belt/belt_pbkdf.c : beltPBKDF2
  [carve] -/
theorem use_le_deep_beltPBKDF2    :
    ((0 + (beltHMAC_keep * 1)) ≤ (beltHMAC_keep + 32)) := by
  simp only [beltHMAC_keep, beltCompr_deep, ← Nat.add_max_add_left, ← Nat.add_max_add_right, Std.le_max, Nat.max_le]
  omega

/-- src/crypto/bign96.c : bign96PubkeyVal
  [call state->f->from]
  [call ecpIsOnA]
  [carve] -/
theorem use_le_deep_bign96PubkeyVal (state_f_deep : Nat) (state_keep : Nat) (h_0 : state_f_deep ≤ (gfpCreate_deep 24)) (h_1 : state_keep ≤ ((gfpCreate_keep 24) + (ecpCreateJ_keep 6)))  :
    ((((0 + (state_keep * 1)) + 48) + state_f_deep) ≤ (bign96Start_keep (some bign96PubkeyVal_deep))) ∧
    ((((0 + (state_keep * 1)) + 48) + (ecpIsOnA_deep 6 state_f_deep)) ≤ (bign96Start_keep (some bign96PubkeyVal_deep))) ∧
    (((0 + (state_keep * 1)) + 48) ≤ (bign96Start_keep (some bign96PubkeyVal_deep))) := by
  simp only [bign96PubkeyVal_deep, bign96Start_keep, ecCreateGroup_deep, ecpIsOnA_deep, ecpCreateJ_deep_eq, ← Nat.add_max_add_left, ← Nat.add_max_add_right, Std.le_max, Nat.max_le] at *
  omega

/-- src/crypto/bign/bign_ibs.c : bignIdVerify
  [call state->f->from]
  [call ecpIsOnA]
  [call zzMul]
  [call zzMod]
  [call ecAddMulA]
  [carve]
  [carve]
  [carve] -/
theorem use_le_deep_bignIdVerify (params_l : Nat) (state_deep : Nat) (state_f_deep : Nat) (state_keep : Nat) (h_0 : state_f_deep ≤ (gfpCreate_deep (((2 * params_l) + 7) / 8))) (h_1 : state_deep ≤ (ecpCreateJ_deep ((((2 * params_l) + 32) - 1) / 32) (gfpCreate_deep (((2 * params_l) + 7) / 8)))) (h_2 : state_keep ≤ ((gfpCreate_keep (((2 * params_l) + 7) / 8)) + (ecpCreateJ_keep ((((2 * params_l) + 32) - 1) / 32))))  :
    ((((((((((((0 + (state_keep * 1)) + ((2 * ((((2 * params_l) + 32) - 1) / 32)) * 4)) + ((2 * ((((2 * params_l) + 32) - 1) / 32)) * 4)) + ((((((2 * params_l) + 32) - 1) / 32) / 2) * 4)) + 4) + (((((2 * params_l) + 32) - 1) / 32) * 4)) + ((((((2 * params_l) + 32) - 1) / 32) / 2) * 4)) + (((((2 * params_l) + 32) - 1) / 32) * 4)) + 4) + (beltHash_keep * 1)) + state_f_deep) ≤ (bignStart_keep params_l (some bignIdVerify_deep))) ∧
    ((((((((((((0 + (state_keep * 1)) + ((2 * ((((2 * params_l) + 32) - 1) / 32)) * 4)) + ((2 * ((((2 * params_l) + 32) - 1) / 32)) * 4)) + ((((((2 * params_l) + 32) - 1) / 32) / 2) * 4)) + 4) + (((((2 * params_l) + 32) - 1) / 32) * 4)) + ((((((2 * params_l) + 32) - 1) / 32) / 2) * 4)) + (((((2 * params_l) + 32) - 1) / 32) * 4)) + 4) + (beltHash_keep * 1)) + (ecpIsOnA_deep ((((2 * params_l) + 32) - 1) / 32) state_f_deep)) ≤ (bignStart_keep params_l (some bignIdVerify_deep))) ∧
    ((((((((((((0 + (state_keep * 1)) + ((2 * ((((2 * params_l) + 32) - 1) / 32)) * 4)) + ((2 * ((((2 * params_l) + 32) - 1) / 32)) * 4)) + ((((((2 * params_l) + 32) - 1) / 32) / 2) * 4)) + 4) + (((((2 * params_l) + 32) - 1) / 32) * 4)) + ((((((2 * params_l) + 32) - 1) / 32) / 2) * 4)) + (((((2 * params_l) + 32) - 1) / 32) * 4)) + 4) + (beltHash_keep * 1)) + (zzMul_deep (((((2 * params_l) + 32) - 1) / 32) / 2) (((((2 * params_l) + 32) - 1) / 32) / 2))) ≤ (bignStart_keep params_l (some bignIdVerify_deep))) ∧
    ((((((((((((0 + (state_keep * 1)) + ((2 * ((((2 * params_l) + 32) - 1) / 32)) * 4)) + ((2 * ((((2 * params_l) + 32) - 1) / 32)) * 4)) + ((((((2 * params_l) + 32) - 1) / 32) / 2) * 4)) + 4) + (((((2 * params_l) + 32) - 1) / 32) * 4)) + ((((((2 * params_l) + 32) - 1) / 32) / 2) * 4)) + (((((2 * params_l) + 32) - 1) / 32) * 4)) + 4) + (beltHash_keep * 1)) + (zzMod_deep (((((2 * params_l) + 32) - 1) / 32) + 1) ((((2 * params_l) + 32) - 1) / 32))) ≤ (bignStart_keep params_l (some bignIdVerify_deep))) ∧
    ((((((((((((0 + (state_keep * 1)) + ((2 * ((((2 * params_l) + 32) - 1) / 32)) * 4)) + ((2 * ((((2 * params_l) + 32) - 1) / 32)) * 4)) + ((((((2 * params_l) + 32) - 1) / 32) / 2) * 4)) + 4) + (((((2 * params_l) + 32) - 1) / 32) * 4)) + ((((((2 * params_l) + 32) - 1) / 32) / 2) * 4)) + (((((2 * params_l) + 32) - 1) / 32) * 4)) + 4) + (beltHash_keep * 1)) + (ecAddMulA_deep ((((2 * params_l) + 32) - 1) / 32) 3 state_deep 3 [((((2 * params_l) + 32) - 1) / 32), ((((((2 * params_l) + 32) - 1) / 32) / 2) + 1), ((((2 * params_l) + 32) - 1) / 32)])) ≤ (bignStart_keep params_l (some bignIdVerify_deep))) ∧
    ((((0 + (state_keep * 1)) + ((2 * ((((2 * params_l) + 32) - 1) / 32)) * 4)) + ((2 * ((((2 * params_l) + 32) - 1) / 32)) * 4)) ≤ (bignStart_keep params_l (some bignIdVerify_deep))) ∧
    ((((((((0 + (state_keep * 1)) + ((2 * ((((2 * params_l) + 32) - 1) / 32)) * 4)) + ((2 * ((((2 * params_l) + 32) - 1) / 32)) * 4)) + ((((((2 * params_l) + 32) - 1) / 32) / 2) * 4)) + 4) + (((((2 * params_l) + 32) - 1) / 32) * 4)) + ((((((2 * params_l) + 32) - 1) / 32) / 2) * 4)) ≤ (bignStart_keep params_l (some bignIdVerify_deep))) ∧
    (((((((((((0 + (state_keep * 1)) + ((2 * ((((2 * params_l) + 32) - 1) / 32)) * 4)) + ((2 * ((((2 * params_l) + 32) - 1) / 32)) * 4)) + ((((((2 * params_l) + 32) - 1) / 32) / 2) * 4)) + 4) + (((((2 * params_l) + 32) - 1) / 32) * 4)) + ((((((2 * params_l) + 32) - 1) / 32) / 2) * 4)) + (((((2 * params_l) + 32) - 1) / 32) * 4)) + 4) + (beltHash_keep * 1)) ≤ (bignStart_keep params_l (some bignIdVerify_deep))) := by
  simp only [beltCompr_deep, beltHash_keep, bignIdVerify_deep, bignStart_keep, ecAddMulA_deep, ecCreateGroup_deep, ecpIsOnA_deep, zzMod_deep, zzMul_deep, ecpCreateJ_deep_eq, ← Nat.add_max_add_left, ← Nat.add_max_add_right, Std.le_max, Nat.max_le] at *
  omega

/- OPEN (not a theorem): users of the bignStart post-condition whose goals are a many-way max: not among the proved obligations
/ -- src/crypto/bign/bign_sign.c : bignSign
  [call ecMulA]
  [call state->f->to]
  [call zzMul]
  [call zzMod]
  [carve]
  [carve] - /
open_obligation use_le_deep_bignSign (params_l : Nat) (state_deep : Nat) (state_f_deep : Nat) (state_keep : Nat) (h_0 : state_f_deep ≤ (gfpCreate_deep (((2 * params_l) + 7) / 8))) (h_1 : state_deep ≤ (ecpCreateJ_deep ((((2 * params_l) + 32) - 1) / 32) (gfpCreate_deep (((2 * params_l) + 7) / 8)))) (h_2 : state_keep ≤ ((gfpCreate_keep (((2 * params_l) + 7) / 8)) + (ecpCreateJ_keep ((((2 * params_l) + 32) - 1) / 32))))  :
    ((((((0 + (state_keep * 1)) + (((((2 * params_l) + 32) - 1) / 32) * 4)) + (((((2 * params_l) + 32) - 1) / 32) * 4)) + ((2 * ((((2 * params_l) + 32) - 1) / 32)) * 4)) + (ecMulA_deep ((((2 * params_l) + 32) - 1) / 32) 3 state_deep ((((2 * params_l) + 32) - 1) / 32))) ≤ (bignStart_keep params_l (some bignSign_deep))) ∧
    ((((((0 + (state_keep * 1)) + (((((2 * params_l) + 32) - 1) / 32) * 4)) + (((((2 * params_l) + 32) - 1) / 32) * 4)) + ((2 * ((((2 * params_l) + 32) - 1) / 32)) * 4)) + state_f_deep) ≤ (bignStart_keep params_l (some bignSign_deep))) ∧
    ((((((0 + (state_keep * 1)) + (((((2 * params_l) + 32) - 1) / 32) * 4)) + (((((2 * params_l) + 32) - 1) / 32) * 4)) + ((2 * ((((2 * params_l) + 32) - 1) / 32)) * 4)) + (zzMul_deep (((((2 * params_l) + 32) - 1) / 32) / 2) ((((2 * params_l) + 32) - 1) / 32))) ≤ (bignStart_keep params_l (some bignSign_deep))) ∧
    ((((((0 + (state_keep * 1)) + (((((2 * params_l) + 32) - 1) / 32) * 4)) + (((((2 * params_l) + 32) - 1) / 32) * 4)) + ((2 * ((((2 * params_l) + 32) - 1) / 32)) * 4)) + (zzMod_deep ((((((2 * params_l) + 32) - 1) / 32) + (((((2 * params_l) + 32) - 1) / 32) / 2)) + 1) ((((2 * params_l) + 32) - 1) / 32))) ≤ (bignStart_keep params_l (some bignSign_deep))) ∧
    ((((((0 + (state_keep * 1)) + (((((2 * params_l) + 32) - 1) / 32) * 4)) + (((((2 * params_l) + 32) - 1) / 32) * 4)) + (((((2 * params_l) + 32) - 1) / 32) * 4)) + ((((((2 * params_l) + 32) - 1) / 32) / 2) * 4)) ≤ (bignStart_keep params_l (some bignSign_deep))) ∧
    (((((0 + (state_keep * 1)) + (((((2 * params_l) + 32) - 1) / 32) * 4)) + (((((2 * params_l) + 32) - 1) / 32) * 4)) + ((2 * ((((2 * params_l) + 32) - 1) / 32)) * 4)) ≤ (bignStart_keep params_l (some bignSign_deep)))
-/

/-- src/math/ec2.c : ec2AddLD
  [call ec->f->mul]
  [call ec2DblLD]
  [carve] -/
theorem use_le_deep_ec2AddLD (ec_f_deep : Nat) (ec_f_n : Nat)   :
    ((((((((0 + (ec_f_n * 4)) + (ec_f_n * 4)) + (ec_f_n * 4)) + (ec_f_n * 4)) + (ec_f_n * 4)) + (ec_f_n * 4)) + ec_f_deep) ≤ (ec2AddLD_deep ec_f_n ec_f_deep)) ∧
    ((((((((0 + (ec_f_n * 4)) + (ec_f_n * 4)) + (ec_f_n * 4)) + (ec_f_n * 4)) + (ec_f_n * 4)) + (ec_f_n * 4)) + (ec2DblLD_deep ec_f_n ec_f_deep)) ≤ (ec2AddLD_deep ec_f_n ec_f_deep)) ∧
    (((((((0 + (ec_f_n * 4)) + (ec_f_n * 4)) + (ec_f_n * 4)) + (ec_f_n * 4)) + (ec_f_n * 4)) + (ec_f_n * 4)) ≤ (ec2AddLD_deep ec_f_n ec_f_deep)) := by
  simp only [ec2AddLD_deep, ← Nat.add_max_add_left, ← Nat.add_max_add_right, Std.le_max, Nat.max_le]
  omega

/-- src/math/ec2.c : ec2SeemsValidGroup
  [call ec2IsOnA]
  [call zzSqr]
  [carve]
  [carve] -/
theorem use_le_deep_ec2SeemsValidGroup (ec_f_deep : Nat) (ec_f_n : Nat) (n' : Nat) (h_0 : n' ≤ (ec_f_n + 2))  :
    (((((((0 + (ec_f_n * 4)) + 4) + (ec_f_n * 4)) + 8) + ((2 * ec_f_n) * 4)) + (ec2IsOnA_deep ec_f_n ec_f_deep)) ≤ (ec2SeemsValidGroup_deep ec_f_n ec_f_deep)) ∧
    (((((((0 + (ec_f_n * 4)) + 4) + (ec_f_n * 4)) + 8) + ((2 * ec_f_n) * 4)) + (zzSqr_deep n')) ≤ (ec2SeemsValidGroup_deep ec_f_n ec_f_deep)) ∧
    (((0 + (ec_f_n * 4)) + 4) ≤ (ec2SeemsValidGroup_deep ec_f_n ec_f_deep)) ∧
    ((((((0 + (ec_f_n * 4)) + 4) + (ec_f_n * 4)) + 8) + ((2 * ec_f_n) * 4)) ≤ (ec2SeemsValidGroup_deep ec_f_n ec_f_deep)) := by
  simp only [ec2IsOnA_deep, ec2SeemsValidGroup_deep, zzSqr_deep, ← Nat.add_max_add_left, ← Nat.add_max_add_right, Std.le_max, Nat.max_le] at *
  omega

/-- src/math/ecp.c : ecpAddAA
  [call ec->f->sqr]
  [carve] -/
theorem use_le_deep_ecpAddAA (ec_f_deep : Nat) (ec_f_n : Nat)   :
    (((((0 + (ec_f_n * 4)) + (ec_f_n * 4)) + (ec_f_n * 4)) + ec_f_deep) ≤ (ecpAddAA_deep ec_f_n ec_f_deep)) ∧
    ((((0 + (ec_f_n * 4)) + (ec_f_n * 4)) + (ec_f_n * 4)) ≤ (ecpAddAA_deep ec_f_n ec_f_deep)) := by
  simp only [ecpAddAA_deep, ← Nat.add_max_add_left, ← Nat.add_max_add_right, Std.le_max, Nat.max_le]
  omega

/-- src/math/ecp.c : ecpIsOnA
  [call ec->f->sqr]
  [carve] -/
theorem use_le_deep_ecpIsOnA (ec_f_deep : Nat) (ec_f_n : Nat)   :
    ((((0 + (ec_f_n * 4)) + (ec_f_n * 4)) + ec_f_deep) ≤ (ecpIsOnA_deep ec_f_n ec_f_deep)) ∧
    (((0 + (ec_f_n * 4)) + (ec_f_n * 4)) ≤ (ecpIsOnA_deep ec_f_n ec_f_deep)) := by
  simp only [ecpIsOnA_deep, ← Nat.add_max_add_left, ← Nat.add_max_add_right, Std.le_max, Nat.max_le]
  omega

/-- src/math/ecp.c : ecpSubJ
  [call ecpAddJ]
  [carve] -/
theorem use_le_deep_ecpSubJ (ec_f_deep : Nat) (ec_f_n : Nat)   :
    (((0 + ((3 * ec_f_n) * 4)) + (ecpAddJ_deep ec_f_n ec_f_deep)) ≤ (ecpSubJ_deep ec_f_n ec_f_deep)) ∧
    ((0 + ((3 * ec_f_n) * 4)) ≤ (ecpSubJ_deep ec_f_n ec_f_deep)) := by
  simp only [ecpSubJ_deep, ← Nat.add_max_add_left, ← Nat.add_max_add_right, Std.le_max, Nat.max_le]
  omega

/-- src/math/gf2.c : gf2MulTrinomial1
  [call ppMul]
  [carve] -/
theorem use_le_deep_gf2MulTrinomial1 (f_n : Nat)   :
    (((0 + ((2 * f_n) * 4)) + (ppMul_deep f_n f_n)) ≤ (gf2MulTrinomial1_deep f_n)) ∧
    ((0 + ((2 * f_n) * 4)) ≤ (gf2MulTrinomial1_deep f_n)) := by
  simp only [gf2MulTrinomial1_deep, ppMul1_deep, ppMul2_deep, ppMul3_deep, ppMul4_deep, ppMul5_deep, ppMul6_deep, ppMul7_deep, ppMul8_deep, ppMul9_deep, ← Nat.add_max_add_left, ← Nat.add_max_add_right, Std.le_max, Nat.max_le]
  omega

/- OPEN (not a theorem): pfokDH/MTI/PubkeyCalc call qrPower with an exponent of W_OF_B(r) words while the blob is sized for W_OF_B(l): needs the parameter-domain fact r <= l (and monotonicity of qrPower_deep in m), which the model does not have; pfokParamsVal: goal too large
/ -- src/crypto/pfok.c : pfokDH
  [call zmMontCreate]
  [call qrPower]
  [call qr->to]
  [carve] - /
open_obligation use_le_deep_pfokDH (params_l : Nat) (params_r : Nat) (qr_deep : Nat) (h_0 : qr_deep ≤ (zmMontCreate_deep ((params_l + 7) / 8)))  :
    (((((0 + ((((params_r + 32) - 1) / 32) * 4)) + ((((params_l + 32) - 1) / 32) * 4)) + ((zmMontCreate_keep ((params_l + 7) / 8)) * 1)) + (zmMontCreate_deep ((params_l + 7) / 8))) ≤ (((((((params_l + 32) - 1) / 32) * 4) + ((((params_r + 32) - 1) / 32) * 4)) + (zmMontCreate_keep ((params_l + 7) / 8))) + (max (zmMontCreate_deep ((params_l + 7) / 8)) (qrPower_deep (((params_l + 32) - 1) / 32) (((params_l + 32) - 1) / 32) (zmMontCreate_deep ((params_l + 7) / 8)))))) ∧
    (((((0 + ((((params_r + 32) - 1) / 32) * 4)) + ((((params_l + 32) - 1) / 32) * 4)) + ((zmMontCreate_keep ((params_l + 7) / 8)) * 1)) + (qrPower_deep (((((params_l + 7) / 8) + 4) - 1) / 4) (((params_r + 32) - 1) / 32) qr_deep)) ≤ (((((((params_l + 32) - 1) / 32) * 4) + ((((params_r + 32) - 1) / 32) * 4)) + (zmMontCreate_keep ((params_l + 7) / 8))) + (max (zmMontCreate_deep ((params_l + 7) / 8)) (qrPower_deep (((params_l + 32) - 1) / 32) (((params_l + 32) - 1) / 32) (zmMontCreate_deep ((params_l + 7) / 8)))))) ∧
    (((((0 + ((((params_r + 32) - 1) / 32) * 4)) + ((((params_l + 32) - 1) / 32) * 4)) + ((zmMontCreate_keep ((params_l + 7) / 8)) * 1)) + qr_deep) ≤ (((((((params_l + 32) - 1) / 32) * 4) + ((((params_r + 32) - 1) / 32) * 4)) + (zmMontCreate_keep ((params_l + 7) / 8))) + (max (zmMontCreate_deep ((params_l + 7) / 8)) (qrPower_deep (((params_l + 32) - 1) / 32) (((params_l + 32) - 1) / 32) (zmMontCreate_deep ((params_l + 7) / 8)))))) ∧
    ((((0 + ((((params_r + 32) - 1) / 32) * 4)) + ((((params_l + 32) - 1) / 32) * 4)) + ((zmMontCreate_keep ((params_l + 7) / 8)) * 1)) ≤ (((((((params_l + 32) - 1) / 32) * 4) + ((((params_r + 32) - 1) / 32) * 4)) + (zmMontCreate_keep ((params_l + 7) / 8))) + (max (zmMontCreate_deep ((params_l + 7) / 8)) (qrPower_deep (((params_l + 32) - 1) / 32) (((params_l + 32) - 1) / 32) (zmMontCreate_deep ((params_l + 7) / 8))))))
-/

/-- src/math/pp/pp_mod.c : ppInvMod
  [call ppDivMod]
  [carve] -/
theorem use_le_deep_ppInvMod (n : Nat)   :
    (((0 + (n * 4)) + (ppDivMod_deep n)) ≤ (ppInvMod_deep n)) ∧
    ((0 + (n * 4)) ≤ (ppInvMod_deep n)) := by
  simp only [ppInvMod_deep, ← Nat.add_max_add_left, ← Nat.add_max_add_right, Std.le_max, Nat.max_le]
  omega

/-- src/math/pp/pp_mul.c : ppMul8
  [call ppMul4]
  [call ppMul4] -/
theorem use_le_deep_ppMul8    :
    ((0 + ppMul4_deep) ≤ ppMul8_deep) ∧
    ((48 + ppMul4_deep) ≤ ppMul8_deep) := by
  simp only [ppMul8_deep, ppMul1_deep, ppMul2_deep, ppMul4_deep, ← Nat.add_max_add_left, ← Nat.add_max_add_right, Std.le_max, Nat.max_le]
  omega

/-- src/math/pri.c : priIsSGPrime
  [call zmCreate]
  [call qr->add]
  [call qrPower]
  [carve] -/
theorem use_le_deep_priIsSGPrime (n : Nat) (no' : Nat) (qr_deep : Nat) (h_0 : no' ≤ ((n + 1) * 4)) (h_1 : qr_deep ≤ (zmCreate_deep no'))  :
    (((((0 + (n * 4)) + 4) + ((zmCreate_keep ((n + 1) * 4)) * 1)) + (zmCreate_deep no')) ≤ (priIsSGPrime_deep n)) ∧
    ((((0 + (n * 4)) + 4) + qr_deep) ≤ (priIsSGPrime_deep n)) ∧
    (((((0 + (n * 4)) + 4) + ((zmCreate_keep ((n + 1) * 4)) * 1)) + (qrPower_deep (((no' + 4) - 1) / 4) n qr_deep)) ≤ (priIsSGPrime_deep n)) ∧
    ((((0 + (n * 4)) + 4) + ((zmCreate_keep ((n + 1) * 4)) * 1)) ≤ (priIsSGPrime_deep n)) := by
  have hd := zmCreate_deep_mono _ _ h_0
  have hq := qrPower_deep_mono (((no' + 4) - 1) / 4) (n + 1) n qr_deep (zmCreate_deep ((n + 1) * 4)) (by omega) (by omega)
  simp only [priIsSGPrime_deep, ← Nat.add_max_add_left, ← Nat.add_max_add_right, Std.le_max, Nat.max_le]
  omega

/-- src/math/zm.c : zmCreatePlain
  [install r->mul=zmMul]
  [install r->sqr=zmSqr]
  [install r->inv=zmInv]
  [install r->div=zmDiv]
  [post r->n (<=)]
  [post r->no (<=)]
  [post r->deep]
  [post r->keep] -/
theorem use_le_deep_zmCreatePlain (no : Nat)   :
    ((zmMul_deep (((no + 4) - 1) / 4)) ≤ (max (zmMul_deep (((no + 4) - 1) / 4)) (max (zmSqr_deep (((no + 4) - 1) / 4)) (max (zmInv_deep (((no + 4) - 1) / 4)) (zmDiv_deep (((no + 4) - 1) / 4)))))) ∧
    ((zmSqr_deep (((no + 4) - 1) / 4)) ≤ (max (zmMul_deep (((no + 4) - 1) / 4)) (max (zmSqr_deep (((no + 4) - 1) / 4)) (max (zmInv_deep (((no + 4) - 1) / 4)) (zmDiv_deep (((no + 4) - 1) / 4)))))) ∧
    ((zmInv_deep (((no + 4) - 1) / 4)) ≤ (max (zmMul_deep (((no + 4) - 1) / 4)) (max (zmSqr_deep (((no + 4) - 1) / 4)) (max (zmInv_deep (((no + 4) - 1) / 4)) (zmDiv_deep (((no + 4) - 1) / 4)))))) ∧
    ((zmDiv_deep (((no + 4) - 1) / 4)) ≤ (max (zmMul_deep (((no + 4) - 1) / 4)) (max (zmSqr_deep (((no + 4) - 1) / 4)) (max (zmInv_deep (((no + 4) - 1) / 4)) (zmDiv_deep (((no + 4) - 1) / 4)))))) ∧
    ((((no + 4) - 1) / 4) ≤ (((no + 4) - 1) / 4)) ∧
    (no ≤ no) ∧
    ((max (zmMul_deep (((no + 4) - 1) / 4)) (max (zmSqr_deep (((no + 4) - 1) / 4)) (max (zmInv_deep (((no + 4) - 1) / 4)) (zmDiv_deep (((no + 4) - 1) / 4))))) ≤ (zmCreatePlain_deep no)) ∧
    ((144 + ((2 * (((no + 4) - 1) / 4)) * 4)) ≤ (zmCreatePlain_keep no)) := by
  refine ⟨?_, ?_, ?_, ?_, ?_, ?_, ?_, ?_⟩
  · simp only [Std.le_max, Nat.le_refl, true_or, or_true]
  · simp only [Std.le_max, Nat.le_refl, true_or, or_true]
  · simp only [Std.le_max, Nat.le_refl, true_or, or_true]
  · simp only [Std.le_max, Nat.le_refl, true_or, or_true]
  · exact Nat.le_refl _
  · exact Nat.le_refl _
  · simp only [zmCreatePlain_deep, zmDiv_deep, zmInv_deep, zmMul_deep, zmSqr_deep, zzDivMod_deep, zzInvMod_deep, zzMod_deep, zzMul_deep, zzRed_deep, zzSqr_deep]
    omega
  · simp only [zmCreatePlain_keep]
    omega

/-- src/math/zm.c : zmMontCreate
  [call zzMod]
  [install r->mul=zmMulMont2]
  [install r->sqr=zmSqrMont2]
  [install r->inv=zmInvMont2]
  [install r->div=zmDivMont2]
  [post r->n (<=)]
  [post r->no (<=)]
  [post r->deep]
  [post r->keep] -/
theorem use_le_deep_zmMontCreate (no : Nat)   :
    ((0 + (zzMod_deep (((no + 4) - 1) / 4) (((no + 4) - 1) / 4))) ≤ (zmMontCreate_deep no)) ∧
    ((zmMulMont2_deep (((no + 4) - 1) / 4)) ≤ (max (zmMulMont2_deep (((no + 4) - 1) / 4)) (max (zmSqrMont2_deep (((no + 4) - 1) / 4)) (max (zmInvMont2_deep (((no + 4) - 1) / 4)) (zmDivMont2_deep (((no + 4) - 1) / 4)))))) ∧
    ((zmSqrMont2_deep (((no + 4) - 1) / 4)) ≤ (max (zmMulMont2_deep (((no + 4) - 1) / 4)) (max (zmSqrMont2_deep (((no + 4) - 1) / 4)) (max (zmInvMont2_deep (((no + 4) - 1) / 4)) (zmDivMont2_deep (((no + 4) - 1) / 4)))))) ∧
    ((zmInvMont2_deep (((no + 4) - 1) / 4)) ≤ (max (zmMulMont2_deep (((no + 4) - 1) / 4)) (max (zmSqrMont2_deep (((no + 4) - 1) / 4)) (max (zmInvMont2_deep (((no + 4) - 1) / 4)) (zmDivMont2_deep (((no + 4) - 1) / 4)))))) ∧
    ((zmDivMont2_deep (((no + 4) - 1) / 4)) ≤ (max (zmMulMont2_deep (((no + 4) - 1) / 4)) (max (zmSqrMont2_deep (((no + 4) - 1) / 4)) (max (zmInvMont2_deep (((no + 4) - 1) / 4)) (zmDivMont2_deep (((no + 4) - 1) / 4)))))) ∧
    ((((no + 4) - 1) / 4) ≤ (((no + 4) - 1) / 4)) ∧
    (no ≤ no) ∧
    ((max (zmMulMont2_deep (((no + 4) - 1) / 4)) (max (zmSqrMont2_deep (((no + 4) - 1) / 4)) (max (zmInvMont2_deep (((no + 4) - 1) / 4)) (zmDivMont2_deep (((no + 4) - 1) / 4))))) ≤ (zmMontCreate_deep no)) ∧
    (((144 + ((2 * (((no + 4) - 1) / 4)) * 4)) + 16) ≤ (zmMontCreate_keep no)) := by
  refine ⟨?_, ?_, ?_, ?_, ?_, ?_, ?_, ?_, ?_⟩
  · simp only [zmDivMont_deep, zmInvMont_deep, zmMontCreate_deep, zmMulMont_deep, zmSqrMont_deep, zzAlmostInvMod_deep, zzMod_deep, zzMul_deep, zzRedMont_deep, zzSqr_deep]
    omega
  · simp only [Std.le_max, Nat.le_refl, true_or, or_true]
  · simp only [Std.le_max, Nat.le_refl, true_or, or_true]
  · simp only [Std.le_max, Nat.le_refl, true_or, or_true]
  · simp only [Std.le_max, Nat.le_refl, true_or, or_true]
  · exact Nat.le_refl _
  · exact Nat.le_refl _
  · simp only [zmDivMont2_deep, zmDivMont_deep, zmInvMont2_deep, zmInvMont_deep, zmMontCreate_deep, zmMulMont2_deep, zmMulMont_deep, zmSqrMont2_deep, zmSqrMont_deep, zzAlmostInvMod_deep, zzMod_deep, zzMul_deep, zzRedMont_deep, zzSqr_deep]
    omega
  · simp only [zmMontCreate_keep]
    omega

/-- src/math/zm.c : zmSqrCrand
  [call zzSqr]
  [call zzRedCrand]
  [carve] -/
theorem use_le_deep_zmSqrCrand (r_n : Nat)   :
    (((0 + ((2 * r_n) * 4)) + (zzSqr_deep r_n)) ≤ (zmSqrCrand_deep r_n)) ∧
    (((0 + ((2 * r_n) * 4)) + (zzRedCrand_deep r_n)) ≤ (zmSqrCrand_deep r_n)) ∧
    ((0 + ((2 * r_n) * 4)) ≤ (zmSqrCrand_deep r_n)) := by
  simp only [zmSqrCrand_deep, ← Nat.add_max_add_left, ← Nat.add_max_add_right, Std.le_max, Nat.max_le]
  omega

/-- src/math/zz/zz_gcd.c : zzGCD
  [carve] -/
theorem use_le_deep_zzGCD (m : Nat) (n : Nat)   :
    (((0 + (n * 4)) + (m * 4)) ≤ (zzGCD_deep n m)) := by
  simp only [zzGCD_deep, ← Nat.add_max_add_left, ← Nat.add_max_add_right, Std.le_max, Nat.max_le]
  omega

/-- src/math/zz/zz_red.c : zzRedBarr
  [call zzMul]
  [call zzMul]
  [carve]
  [carve] -/
theorem use_le_deep_zzRedBarr (n : Nat)   :
    ((((((0 + ((n + 1) * 4)) + ((n + 2) * 4)) + ((n + 2) * 4)) + (n * 4)) + (zzMul_deep (n + 1) (n + 2))) ≤ (zzRedBarr_deep n)) ∧
    ((((((0 + ((n + 1) * 4)) + ((n + 2) * 4)) + ((n + 2) * 4)) + (n * 4)) + (zzMul_deep (n + 2) n)) ≤ (zzRedBarr_deep n)) ∧
    (((0 + ((n + 1) * 4)) + ((n + 2) * 4)) ≤ (zzRedBarr_deep n)) ∧
    (((((0 + ((n + 1) * 4)) + ((n + 2) * 4)) + ((n + 2) * 4)) + (n * 4)) ≤ (zzRedBarr_deep n)) := by
  simp only [zzRedBarr_deep, ← Nat.add_max_add_left, ← Nat.add_max_add_right, Std.le_max, Nat.max_le]
  omega

end Bee2V.Gen.C07.W32.Use
