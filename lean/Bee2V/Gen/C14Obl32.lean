/- GENERATED by xlate/x_c14_ir.py — per-routine obligations of property C14: the body of each
   routine extracted from the current C source is accepted by the verified checker. -/
import Bee2V.C14.IR
import Bee2V.Gen.C14IR32
namespace Bee2V.C14.Obl32
open Bee2V.C14.IR Bee2V.Gen.C14IR32

theorem ct_memEq : ctFun prog true f_memEq = true := by decide +kernel
theorem ct_memCmp : ctFun prog true f_memCmp = true := by decide +kernel
theorem ct_memCmpRev : ctFun prog true f_memCmpRev = true := by decide +kernel
theorem ct_memIsZero : ctFun prog true f_memIsZero = true := by decide +kernel
theorem ct_memIsRep : ctFun prog true f_memIsRep = true := by decide +kernel
theorem ct_strlen : ctFun prog true f_strlen = true := by decide +kernel
theorem ct_strLen : ctFun prog true f_strLen = true := by decide +kernel
theorem ct_hexToO : ctFun prog true f_hexToO = true := by decide +kernel
theorem ct_hexEq : ctFun prog true f_hexEq = true := by decide +kernel
theorem ct_hexEqRev : ctFun prog true f_hexEqRev = true := by decide +kernel
theorem ct_u16Weight : ctFun prog true f_u16Weight = true := by decide +kernel
theorem ct_u16CTZ : ctFun prog true f_u16CTZ = true := by decide +kernel
theorem ct_u16CLZ : ctFun prog true f_u16CLZ = true := by decide +kernel
theorem ct_u32Weight : ctFun prog true f_u32Weight = true := by decide +kernel
theorem ct_u32CTZ : ctFun prog true f_u32CTZ = true := by decide +kernel
theorem ct_u32CLZ : ctFun prog true f_u32CLZ = true := by decide +kernel
theorem ct_u64Weight : ctFun prog true f_u64Weight = true := by decide +kernel
theorem ct_u64CTZ : ctFun prog true f_u64CTZ = true := by decide +kernel
theorem ct_u64CLZ : ctFun prog true f_u64CLZ = true := by decide +kernel
theorem ct_wwEq : ctFun prog true f_wwEq = true := by decide +kernel
theorem ct_wwCmp : ctFun prog true f_wwCmp = true := by decide +kernel
theorem ct_wwIsZero : ctFun prog true f_wwIsZero = true := by decide +kernel
theorem ct_wwCmp2 : ctFun prog true f_wwCmp2 = true := by decide +kernel
theorem ct_wwCmpW : ctFun prog true f_wwCmpW = true := by decide +kernel
theorem ct_wwIsW : ctFun prog true f_wwIsW = true := by decide +kernel
theorem ct_wwIsRepW : ctFun prog true f_wwIsRepW = true := by decide +kernel
theorem ct_zzIsSumEq : ctFun prog true f_zzIsSumEq = true := by decide +kernel
theorem ct_zzIsSumWEq : ctFun prog true f_zzIsSumWEq = true := by decide +kernel
theorem ct_zzSubAndW : ctFun prog true f_zzSubAndW = true := by decide +kernel
theorem ct_zzAddMod : ctFun prog true f_zzAddMod = true := by decide +kernel
theorem ct_zzAddWMod : ctFun prog true f_zzAddWMod = true := by decide +kernel
theorem ct_zzSub : ctFun prog true f_zzSub = true := by decide +kernel
theorem ct_zzAddAndW : ctFun prog true f_zzAddAndW = true := by decide +kernel
theorem ct_zzSubMod : ctFun prog true f_zzSubMod = true := by decide +kernel
theorem ct_zzSubW : ctFun prog true f_zzSubW = true := by decide +kernel
theorem ct_zzSubWMod : ctFun prog true f_zzSubWMod = true := by decide +kernel
theorem ct_zzNegMod : ctFun prog true f_zzNegMod = true := by decide +kernel
theorem ct_zzDoubleMod : ctFun prog true f_zzDoubleMod = true := by decide +kernel
theorem ct_zzHalfMod : ctFun prog true f_zzHalfMod = true := by decide +kernel
theorem ct_zzAddMulW : ctFun prog true f_zzAddMulW = true := by decide +kernel
theorem ct_zzAddW2 : ctFun prog true f_zzAddW2 = true := by decide +kernel
theorem ct_zzRedCrand : ctFun prog true f_zzRedCrand = true := by decide +kernel
theorem ct_wwSetZero : ctFun prog true f_wwSetZero = true := by decide +kernel
theorem ct_zzMul : ctFun prog true f_zzMul = true := by decide +kernel
theorem ct_zzSub2 : ctFun prog true f_zzSub2 = true := by decide +kernel
theorem ct_zzRedBarr : ctFun prog true f_zzRedBarr = true := by decide +kernel
theorem ct_zzRedMont : ctFun prog true f_zzRedMont = true := by decide +kernel
theorem ct_zzSubW2 : ctFun prog true f_zzSubW2 = true := by decide +kernel
theorem ct_zzRedCrandMont : ctFun prog true f_zzRedCrandMont = true := by decide +kernel
theorem ct_zzAdd : ctFun prog true f_zzAdd = true := by decide +kernel
theorem ct_zzAdd2 : ctFun prog true f_zzAdd2 = true := by decide +kernel
theorem ct_zzAddW : ctFun prog true f_zzAddW = true := by decide +kernel
theorem ct_zzModW2 : ctFun prog true f_zzModW2 = true := by decide +kernel
theorem ct_beltMACStepG_internal : ctFun prog true f_beltMACStepG_internal = true := by decide +kernel
theorem ct_beltMACStepV : ctFun prog true f_beltMACStepV = true := by decide +kernel
theorem ct_beltMACStepV2 : ctFun prog true f_beltMACStepV2 = true := by decide +kernel
theorem ct_beltDWPStepG_internal : ctFun prog true f_beltDWPStepG_internal = true := by decide +kernel
theorem ct_beltDWPStepV : ctFun prog true f_beltDWPStepV = true := by decide +kernel
theorem ct_beltCHEStepG_internal : ctFun prog true f_beltCHEStepG_internal = true := by decide +kernel
theorem ct_beltCHEStepV : ctFun prog true f_beltCHEStepV = true := by decide +kernel
theorem ct_beltHashStepG_internal : ctFun prog true f_beltHashStepG_internal = true := by decide +kernel
theorem ct_beltHashStepV : ctFun prog true f_beltHashStepV = true := by decide +kernel
theorem ct_beltHashStepV2 : ctFun prog true f_beltHashStepV2 = true := by decide +kernel
theorem ct_beltHMACStepG_internal : ctFun prog true f_beltHMACStepG_internal = true := by decide +kernel
theorem ct_beltHMACStepV : ctFun prog true f_beltHMACStepV = true := by decide +kernel
theorem ct_beltHMACStepV2 : ctFun prog true f_beltHMACStepV2 = true := by decide +kernel
theorem ct_bashHashStepG_internal : ctFun prog true f_bashHashStepG_internal = true := by decide +kernel
theorem ct_bashHashStepV : ctFun prog true f_bashHashStepV = true := by decide +kernel
theorem ct_memIsValid : ctFun prog true f_memIsValid = true := by decide +kernel
theorem ct_beltKWPUnwrap : ctFun prog true f_beltKWPUnwrap = true := by decide +kernel
/-- the whole program (callees are checked against the labels of their definitions) -/
theorem ct_prog : ctProg prog true = true := by
  show List.all [f_memEq, f_memCmp, f_memCmpRev, f_memIsZero, f_memIsRep, f_strlen, f_strLen, f_hexToO, f_hexEq, f_hexEqRev, f_u16Weight, f_u16CTZ, f_u16CLZ, f_u32Weight, f_u32CTZ, f_u32CLZ, f_u64Weight, f_u64CTZ, f_u64CLZ, f_wwEq, f_wwCmp, f_wwIsZero, f_wwCmp2, f_wwCmpW, f_wwIsW, f_wwIsRepW, f_zzIsSumEq, f_zzIsSumWEq, f_zzSubAndW, f_zzAddMod, f_zzAddWMod, f_zzSub, f_zzAddAndW, f_zzSubMod, f_zzSubW, f_zzSubWMod, f_zzNegMod, f_zzDoubleMod, f_zzHalfMod, f_zzAddMulW, f_zzAddW2, f_zzRedCrand, f_wwSetZero, f_zzMul, f_zzSub2, f_zzRedBarr, f_zzRedMont, f_zzSubW2, f_zzRedCrandMont, f_zzAdd, f_zzAdd2, f_zzAddW, f_zzModW2, f_beltMACStepG_internal, f_beltMACStepV, f_beltMACStepV2, f_beltDWPStepG_internal, f_beltDWPStepV, f_beltCHEStepG_internal, f_beltCHEStepV, f_beltHashStepG_internal, f_beltHashStepV, f_beltHashStepV2, f_beltHMACStepG_internal, f_beltHMACStepV, f_beltHMACStepV2, f_bashHashStepG_internal, f_bashHashStepV, f_memIsValid, f_beltKWPUnwrap] (ctFun prog true) = true
  simp only [List.all_cons, List.all_nil, Bool.and_self, ct_memEq, ct_memCmp, ct_memCmpRev, ct_memIsZero, ct_memIsRep, ct_strlen, ct_strLen, ct_hexToO, ct_hexEq, ct_hexEqRev, ct_u16Weight, ct_u16CTZ, ct_u16CLZ, ct_u32Weight, ct_u32CTZ, ct_u32CLZ, ct_u64Weight, ct_u64CTZ, ct_u64CLZ, ct_wwEq, ct_wwCmp, ct_wwIsZero, ct_wwCmp2, ct_wwCmpW, ct_wwIsW, ct_wwIsRepW, ct_zzIsSumEq, ct_zzIsSumWEq, ct_zzSubAndW, ct_zzAddMod, ct_zzAddWMod, ct_zzSub, ct_zzAddAndW, ct_zzSubMod, ct_zzSubW, ct_zzSubWMod, ct_zzNegMod, ct_zzDoubleMod, ct_zzHalfMod, ct_zzAddMulW, ct_zzAddW2, ct_zzRedCrand, ct_wwSetZero, ct_zzMul, ct_zzSub2, ct_zzRedBarr, ct_zzRedMont, ct_zzSubW2, ct_zzRedCrandMont, ct_zzAdd, ct_zzAdd2, ct_zzAddW, ct_zzModW2, ct_beltMACStepG_internal, ct_beltMACStepV, ct_beltMACStepV2, ct_beltDWPStepG_internal, ct_beltDWPStepV, ct_beltCHEStepG_internal, ct_beltCHEStepV, ct_beltHashStepG_internal, ct_beltHashStepV, ct_beltHashStepV2, ct_beltHMACStepG_internal, ct_beltHMACStepV, ct_beltHMACStepV2, ct_bashHashStepG_internal, ct_bashHashStepV, ct_memIsValid, ct_beltKWPUnwrap]
end Bee2V.C14.Obl32
