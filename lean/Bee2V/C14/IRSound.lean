/-
C14 — soundness of the information-flow checker of `IR.lean`, proved once, for every program:

  ctProg P strict = true →
    for every function `fn` of `P`, every fuel, every two environments that agree on the PUBLIC
    variables of `fn` and on the public memory (and may differ arbitrarily in every secret
    variable and in the whole secret memory), the two executions of `fn.body` produce the
    SAME observation trace (branch outcomes, loop-exit tests, and — address-observing
    semantics — the addresses of all loads and stores).
-/
import Bee2V.C14.IR

namespace Bee2V.C14.IR

/-- agreement of two environments on everything the policy of `fn` declares public -/
structure LowEq (fn : Fun) (e1 e2 : Env) : Prop where
  vars : ∀ x, fn.L x = true → rd e1.vars x = rd e2.vars x
  pub : ∀ k, rd e1.pub k = rd e2.pub k
  st : e1.st = e2.st
  rv : fn.retPub = true → e1.rv = e2.rv
  ora : e1.ora = e2.ora

theorem rd_empty (k : Nat) : rd (∅ : Store) k = 0 := by simp [rd]

theorem loadN_congr (m1 m2 : Store) (h : ∀ k, rd m1 k = rd m2 k) (a n : Nat) :
    loadN m1 a n = loadN m2 a n := by
  induction n generalizing a with
  | zero => rfl
  | succ n ih => simp [loadN, h, ih]

theorem storeN_congr (n : Nat) : ∀ (m1 m2 : Store), (∀ k, rd m1 k = rd m2 k) → ∀ (a v k : Nat),
    rd (storeN m1 a v n) k = rd (storeN m2 a v n) k := by
  induction n with
  | zero => intro m1 m2 h a v k; simpa [storeN] using h k
  | succ n ih =>
    intro m1 m2 h a v k
    simp only [storeN]
    apply ih
    intro k'
    simp [rd_wr, h]

/-- expressions: same trace; same value when the label is public -/
theorem evalE_ni (strict : Bool) (L : Nat → Bool) (e1 e2 : Env)
    (hv : ∀ x, L x = true → rd e1.vars x = rd e2.vars x)
    (hp : ∀ k, rd e1.pub k = rd e2.pub k) :
    ∀ x : Expr, ctE strict L x = true →
      (evalE strict e1 x).2 = (evalE strict e2 x).2 ∧
      (lab L x = false → (evalE strict e1 x).1 = (evalE strict e2 x).1) := by
  intro x
  induction x with
  | var x => intro _; exact ⟨rfl, fun h => hv x (by simpa [lab] using h)⟩
  | const n => intro _; exact ⟨rfl, fun _ => rfl⟩
  | un op t a ih =>
    intro h
    simp only [ctE] at h
    have := ih h
    refine ⟨by simpa [evalE] using this.1, ?_⟩
    intro hl
    simp only [lab] at hl
    simp [evalE, this.2 hl]
  | bin op t a b iha ihb =>
    intro h
    simp only [ctE, Bool.and_eq_true] at h
    have ha := iha h.1
    have hb := ihb h.2
    refine ⟨by simp [evalE, ha.1, hb.1], ?_⟩
    intro hl
    simp only [lab, Bool.or_eq_false_iff] at hl
    simp [evalE, ha.2 hl.1, hb.2 hl.2]
  | cast s d a ih =>
    intro h
    simp only [ctE] at h
    have := ih h
    refine ⟨by simpa [evalE] using this.1, ?_⟩
    intro hl
    simp only [lab] at hl
    simp [evalE, this.2 hl]
  | load p n a ih =>
    intro h
    simp only [ctE, Bool.and_eq_true, Bool.or_eq_true, Bool.not_eq_true'] at h
    have ha := ih h.1
    constructor
    · cases strict with
      | false => simp [evalE, ha.1]
      | true =>
        have hl : lab L a = false := by simpa using h.2
        simp [evalE, ha.1, ha.2 hl]
    · intro hl
      simp only [lab, Bool.or_eq_false_iff, Bool.not_eq_false'] at hl
      have hpv : p = true := hl.1
      subst hpv
      simp only [evalE, if_true]
      rw [ha.2 hl.2]
      exact loadN_congr _ _ hp _ _
  | land a b iha ihb =>
    intro h
    simp only [ctE, Bool.and_eq_true, Bool.not_eq_true'] at h
    have ha := iha h.1.1
    have hb := ihb h.1.2
    have hva := ha.2 h.2
    simp only [evalE, hva, ha.1, hb.1]
    constructor
    · split <;> rfl
    · intro hl
      simp only [lab, Bool.or_eq_false_iff] at hl
      split
      · rfl
      · simp [hb.2 hl.2]
  | lor a b iha ihb =>
    intro h
    simp only [ctE, Bool.and_eq_true, Bool.not_eq_true'] at h
    have ha := iha h.1.1
    have hb := ihb h.1.2
    have hva := ha.2 h.2
    simp only [evalE, hva, ha.1, hb.1]
    constructor
    · split <;> rfl
    · intro hl
      simp only [lab, Bool.or_eq_false_iff] at hl
      split
      · simp [hb.2 hl.2]
      · rfl
  | cond c a b ihc iha ihb =>
    intro h
    simp only [ctE, Bool.and_eq_true, Bool.not_eq_true'] at h
    have hc := ihc h.1.1.1
    have ha := iha h.1.1.2
    have hb := ihb h.1.2
    have hvc := hc.2 h.2
    simp only [evalE, hvc, hc.1, ha.1, hb.1]
    constructor
    · split <;> rfl
    · intro hl
      simp only [lab, Bool.or_eq_false_iff] at hl
      split
      · simp [hb.2 hl.2]
      · simp [ha.2 hl.1.2]

theorem evalArgs_trace (strict : Bool) (L : Nat → Bool) (e1 e2 : Env)
    (hv : ∀ x, L x = true → rd e1.vars x = rd e2.vars x)
    (hp : ∀ k, rd e1.pub k = rd e2.pub k) (cal : Fun) :
    ∀ (as : List Expr) (i : Nat), ctArgs strict L cal i as = true →
      (evalArgs strict e1 as).2 = (evalArgs strict e2 as).2 := by
  intro as
  induction as with
  | nil => intro _ _; rfl
  | cons a as ih =>
    intro i h
    simp only [ctArgs, Bool.and_eq_true] at h
    have ha := evalE_ni strict L e1 e2 hv hp a h.1.1
    simp [evalArgs, ha.1, ih (i + 1) h.2]

theorem evalExt_trace (strict : Bool) (L : Nat → Bool) (e1 e2 : Env)
    (hv : ∀ x, L x = true → rd e1.vars x = rd e2.vars x)
    (hp : ∀ k, rd e1.pub k = rd e2.pub k) :
    ∀ (as : List Expr), ctExt strict L as = true →
      (evalArgs strict e1 as).2 = (evalArgs strict e2 as).2 := by
  intro as
  induction as with
  | nil => intro _; rfl
  | cons a as ih =>
    intro h
    simp only [ctExt, Bool.and_eq_true] at h
    have ha := evalE_ni strict L e1 e2 hv hp a h.1
    simp [evalArgs, ha.1, ih h.2]

/-- the callee frames built from the evaluated arguments agree on the callee's public variables -/
theorem bindArgs_loweq (strict : Bool) (L : Nat → Bool) (e1 e2 : Env)
    (hv : ∀ x, L x = true → rd e1.vars x = rd e2.vars x)
    (hp : ∀ k, rd e1.pub k = rd e2.pub k) (cal : Fun) :
    ∀ (as : List Expr) (i : Nat) (s1 s2 : Store), ctArgs strict L cal i as = true →
      (∀ x, cal.L x = true → rd s1 x = rd s2 x) →
      ∀ x, cal.L x = true →
        rd (bindArgs i (evalArgs strict e1 as).1 s1) x = rd (bindArgs i (evalArgs strict e2 as).1 s2) x := by
  intro as
  induction as with
  | nil => intro i s1 s2 _ hs x hx; simpa [evalArgs, bindArgs] using hs x hx
  | cons a as ih =>
    intro i s1 s2 h hs x hx
    simp only [ctArgs, Bool.and_eq_true, Bool.or_eq_true, Bool.not_eq_true'] at h
    have ha := evalE_ni strict L e1 e2 hv hp a h.1.1
    simp only [evalArgs, bindArgs]
    apply ih (i + 1) _ _ h.2 _ x hx
    intro y hy
    simp only [rd_wr]
    by_cases hiy : i = y
    · subst hiy
      simp only [if_true]
      rcases h.1.2 with hh | hh
      · rw [hh] at hy; cases hy
      · exact ha.2 hh
    · simp [hiy, hs y hy]

theorem LowEq.withSt {fn : Fun} {e1 e2 : Env} (h : LowEq fn e1 e2) (k : Nat) :
    LowEq fn { e1 with st := k } { e2 with st := k } :=
  ⟨h.vars, h.pub, rfl, h.rv, h.ora⟩

/-- assigning values that agree whenever the variable is public -/
theorem LowEq.setVar {fn : Fun} {e1 e2 : Env} (h : LowEq fn e1 e2) (x v1 v2 : Nat)
    (hv : fn.L x = true → v1 = v2) : LowEq fn (e1.setVar x v1) (e2.setVar x v2) := by
  refine ⟨fun y hy => ?_, h.pub, h.st, h.rv, h.ora⟩
  simp only [Env.setVar, rd_wr]
  by_cases hxy : x = y
  · rw [if_pos hxy, if_pos hxy]; exact hv (hxy ▸ hy)
  · rw [if_neg hxy, if_neg hxy]; exact h.vars y hy

/-- the caller's frame after a call: memories, oracle and a fatal status are the callee's -/
theorem LowEq.afterCall {fn cal : Fun} {e1 e2 r1 r2 : Env} (h : LowEq fn e1 e2) (hr : LowEq cal r1 r2) :
    LowEq fn
      { e1 with sec := r1.sec, pub := r1.pub, ora := r1.ora, st := if r1.st = 8 ∨ r1.st = 9 then r1.st else 0 }
      { e2 with sec := r2.sec, pub := r2.pub, ora := r2.ora, st := if r2.st = 8 ∨ r2.st = 9 then r2.st else 0 } :=
  ⟨h.vars, hr.pub, by rw [hr.st], h.rv, hr.ora⟩

/-- what the checker asks of an assigned / returned / passed value: public target ⇒ public label -/
theorem of_flow {b l : Bool} (h : b = false ∨ l = false) (hb : b = true) : l = false :=
  h.resolve_left (by rw [hb]; exact Bool.noConfusion)

/-- **Soundness of the checker** (non-interference on traces), all statements of all functions. -/
theorem exec_ni (P : Prog) (strict : Bool) (hP : ctProg P strict = true) :
    ∀ (fuel : Nat) (fn : Fun) (s : Stmt), ctS P strict fn s = true →
      ∀ e1 e2 : Env, LowEq fn e1 e2 →
        (exec P strict fuel s e1).2 = (exec P strict fuel s e2).2 ∧
        LowEq fn (exec P strict fuel s e1).1 (exec P strict fuel s e2).1 := by
  intro fuel
  induction fuel with
  | zero =>
    intro fn s _ e1 e2 h
    exact ⟨rfl, h.withSt 9⟩
  | succ f ih =>
    intro fn s hs e1 e2 h
    cases s with
    | skip => exact ⟨rfl, h⟩
    | assign x a =>
      simp only [ctS, Bool.and_eq_true, Bool.or_eq_true, Bool.not_eq_true'] at hs
      have ha := evalE_ni strict fn.L e1 e2 h.vars h.pub a hs.1
      exact ⟨ha.1, h.setVar x _ _ fun hx => ha.2 (of_flow hs.2 hx)⟩
    | store p n a v =>
      simp only [ctS, Bool.and_eq_true, Bool.or_eq_true, Bool.not_eq_true'] at hs
      obtain ⟨⟨⟨hca, hcv⟩, hsa⟩, hpp⟩ := hs
      have ha := evalE_ni strict fn.L e1 e2 h.vars h.pub a hca
      have hv := evalE_ni strict fn.L e1 e2 h.vars h.pub v hcv
      constructor
      · cases strict with
        | false => simp [exec, ha.1, hv.1]
        | true =>
          have hl : lab fn.L a = false := by simpa using hsa
          simp [exec, ha.1, hv.1, ha.2 hl]
      · cases p with
        | false =>
          simp only [exec]
          exact ⟨h.vars, h.pub, h.st, h.rv, h.ora⟩
        | true =>
          have hl : lab fn.L a = false ∧ lab fn.L v = false := by simpa using hpp
          simp only [exec, if_true]
          refine ⟨h.vars, ?_, h.st, h.rv, h.ora⟩
          rw [ha.2 hl.1, hv.2 hl.2]
          exact storeN_congr _ _ _ h.pub _ _
    | seq a b =>
      simp only [ctS, Bool.and_eq_true] at hs
      have h1 := ih fn a hs.1 e1 e2 h
      simp only [exec]
      rw [← h1.2.st]
      split
      · have h2 := ih fn b hs.2 _ _ h1.2
        exact ⟨by simp [h1.1, h2.1], h2.2⟩
      · exact h1
    | ite c a b =>
      simp only [ctS, Bool.and_eq_true, Bool.not_eq_true'] at hs
      obtain ⟨⟨⟨hcc, hlc⟩, hsa⟩, hsb⟩ := hs
      have hc := evalE_ni strict fn.L e1 e2 h.vars h.pub c hcc
      simp only [exec]
      rw [← hc.2 hlc, ← hc.1]
      split
      · have h2 := ih fn b hsb e1 e2 h
        exact ⟨by simp [h2.1], h2.2⟩
      · have h2 := ih fn a hsa e1 e2 h
        exact ⟨by simp [h2.1], h2.2⟩
    | loop pre c body step =>
      have hs' := hs
      simp only [ctS, Bool.and_eq_true, Bool.not_eq_true'] at hs
      obtain ⟨⟨⟨⟨hpre, hcc⟩, hlc⟩, hbody⟩, hstep⟩ := hs
      have h0 := ih fn pre hpre e1 e2 h
      simp only [exec]
      -- the unfolded term repeats every sub-execution many times: each is named before the next
      -- test is decided, and the tests are decided by rewriting (`split` is slow on a term this size)
      generalize exec P strict f pre e1 = r01 at h0 ⊢
      generalize exec P strict f pre e2 = r02 at h0 ⊢
      rw [← h0.2.st, ← h0.1]
      by_cases hst0 : r01.1.st = 0
      · have hc := evalE_ni strict fn.L _ _ h0.2.vars h0.2.pub c hcc
        rw [if_pos hst0, if_pos hst0, ← hc.2 hlc, ← hc.1]
        by_cases hcv : (evalE strict r01.1 c).1 = 0
        · rw [if_pos hcv, if_pos hcv]
          exact ⟨rfl, h0.2⟩
        · have h1 := ih fn body hbody _ _ h0.2
          rw [if_neg hcv, if_neg hcv]
          generalize exec P strict f body r01.1 = r11 at h1 ⊢
          generalize exec P strict f body r02.1 = r12 at h1 ⊢
          rw [← h1.2.st, ← h1.1]
          by_cases hst1 : r11.1.st = 1
          · rw [if_pos hst1, if_pos hst1]
            exact ⟨rfl, h1.2.withSt 0⟩
          · rw [if_neg hst1, if_neg hst1]
            by_cases hst2 : r11.1.st = 0 ∨ r11.1.st = 2
            · have h2 := ih fn step hstep _ _ (h1.2.withSt 0)
              rw [if_pos hst2, if_pos hst2]
              generalize exec P strict f step { r11.1 with st := 0 } = r21 at h2 ⊢
              generalize exec P strict f step { r12.1 with st := 0 } = r22 at h2 ⊢
              rw [← h2.2.st, ← h2.1]
              by_cases hst3 : r21.1.st = 0
              · have h3 := ih fn (.loop pre c body step) hs' _ _ h2.2
                rw [if_pos hst3, if_pos hst3]
                exact ⟨by rw [h3.1], h3.2⟩
              · rw [if_neg hst3, if_neg hst3]
                exact ⟨rfl, h2.2⟩
            · rw [if_neg hst2, if_neg hst2]
              exact ⟨rfl, h1.2⟩
      · rw [if_neg hst0, if_neg hst0]
        exact h0
    | ret a =>
      simp only [ctS, Bool.and_eq_true, Bool.or_eq_true, Bool.not_eq_true'] at hs
      have ha := evalE_ni strict fn.L e1 e2 h.vars h.pub a hs.1
      exact ⟨ha.1, h.vars, h.pub, rfl, fun hr => ha.2 (of_flow hs.2 hr), h.ora⟩
    | brk => exact ⟨rfl, h.withSt 1⟩
    | cont => exact ⟨rfl, h.withSt 2⟩
    | call dst g args =>
      simp only [ctS] at hs
      simp only [exec]
      cases hg : P.funs[g]? with
      | none => simp [hg] at hs
      | some cal =>
        simp only [hg, Bool.and_eq_true] at hs
        have hmem : cal ∈ P.funs := List.mem_of_getElem? hg
        have hcal : ctS P strict cal cal.body = true := by
          have := List.all_eq_true.mp hP cal hmem
          simpa [ctFun] using this
        have htr := evalArgs_trace strict fn.L e1 e2 h.vars h.pub cal args 0 hs.1
        have hfr : LowEq cal
            { vars := bindArgs 0 (evalArgs strict e1 args).1 ∅, sec := e1.sec, pub := e1.pub, st := 0, rv := 0, ora := e1.ora }
            { vars := bindArgs 0 (evalArgs strict e2 args).1 ∅, sec := e2.sec, pub := e2.pub, st := 0, rv := 0, ora := e2.ora } := by
          refine ⟨?_, h.pub, rfl, fun _ => rfl, h.ora⟩
          exact bindArgs_loweq strict fn.L e1 e2 h.vars h.pub cal args 0 ∅ ∅ hs.1 (fun _ _ => rfl)
        have hr := ih cal cal.body hcal _ _ hfr
        refine ⟨by simp only [htr, hr.1], ?_⟩
        cases dst with
        | none => exact h.afterCall hr.2
        | some x =>
          exact (h.afterCall hr.2).setVar x _ _ fun hx =>
            hr.2.rv (((Bool.or_eq_true _ _).mp hs.2).resolve_left (by rw [hx]; exact Bool.noConfusion))
    | ext dst g args =>
      simp only [ctS, Bool.and_eq_true] at hs
      have htr := evalExt_trace strict fn.L e1 e2 h.vars h.pub args hs.2
      refine ⟨by simp [exec, htr], ?_⟩
      cases dst with
      | none => exact h
      | some x =>
        exact (LowEq.mk h.vars h.pub h.st h.rv (congrArg List.tail h.ora) :
          LowEq fn { e1 with ora := e1.ora.tail } { e2 with ora := e2.ora.tail }).setVar x _ _
            fun _ => congrArg (List.headD · 0) h.ora

/-- **Trace non-interference of a checked function**: the executed branches (and accessed
addresses) of `fn.body` are the same for any two inputs that agree on `fn`'s public variables
and on the public memory. -/
theorem fun_trace_ni (P : Prog) (strict : Bool) (hP : ctProg P strict = true)
    (fn : Fun) (hfn : fn ∈ P.funs) (fuel : Nat) (e1 e2 : Env) (h : LowEq fn e1 e2) :
    (exec P strict fuel fn.body e1).2 = (exec P strict fuel fn.body e2).2 := by
  have hc : ctS P strict fn fn.body = true := by
    have := List.all_eq_true.mp hP fn hfn
    simpa [ctFun] using this
  exact (exec_ni P strict hP fuel fn fn.body hc e1 e2 h).1

/-! two small programs used by the non-vacuity theorems of Props.lean -/

/-- `for (i = 0; i < n; ++i) if (a[i] != b[i]) return 0; return 1` (0=a 1=b 2=n public, 3=i) -/
def exEarlyExit : Prog :=
  { funs := [{ nparams := 3, pubv := [0, 1, 2, 3], retPub := false,
               body :=
                .seq (.assign 3 (.const 0))
                  (.seq (.loop .skip (.bin .lt ⟨64, false⟩ (.var 3) (.var 2))
                    (.ite (.bin .ne ⟨64, false⟩
                        (.load false 8 (.bin .add ⟨64, false⟩ (.var 0) (.bin .mul ⟨64, false⟩ (.var 3) (.const 8))))
                        (.load false 8 (.bin .add ⟨64, false⟩ (.var 1) (.bin .mul ⟨64, false⟩ (.var 3) (.const 8)))))
                      (.ret (.const 0)) .skip)
                    (.assign 3 (.bin .add ⟨64, false⟩ (.var 3) (.const 1))))
                  (.ret (.const 1))) }],
    allowExt := [] }

/-- `return memcmp(a, b, n) == 0` with memcmp = external routine 7, not on the allow-list -/
def exUnknownCallee : Prog :=
  { funs := [{ nparams := 3, pubv := [0, 1, 2], retPub := false,
               body := .seq (.ext (some 3) 7 [.var 0, .var 1, .var 2])
                        (.ret (.bin .eq ⟨32, true⟩ (.var 3) (.const 0))) }],
    allowExt := [0, 1] }

end Bee2V.C14.IR
