/-
C14 — comparison family, lemmas for hex.c: the decoding table, hexToO, hexEq, hexEqRev.
-/
import Bee2V.C14.CmpMem
namespace Bee2V.C14.Cmp

theorem octet_forall {P : Octet → Prop} (h : ∀ n < 256, P (BitVec.ofNat 8 n)) (c : Octet) : P c := by
  have := h c.toNat c.isLt
  rwa [BitVec.ofNat_toNat, BitVec.setWidth_eq] at this

/-- `hex_dec_table` has 256 entries: compared with the character classes entry by entry -/
theorem hexDecTable_table : ∀ n < 256,
    (hexDecTable (BitVec.ofNat 8 n)).toNat = hexVal (BitVec.ofNat 8 n) ∧
    (hexDecTable (BitVec.ofNat 8 n) != 0xFF) = decide (hexVal (BitVec.ofNat 8 n) < 16) := by
  decide +kernel

theorem hexDecTable_spec (c : Octet) :
    (hexDecTable c).toNat = hexVal c ∧ (hexDecTable c != 0xFF) = decide (hexVal c < 16) :=
  octet_forall (P := fun c => (hexDecTable c).toNat = hexVal c ∧ (hexDecTable c != 0xFF) = decide (hexVal c < 16))
    hexDecTable_table c

theorem hexDecTable_toNat (c : Octet) : (hexDecTable c).toNat = hexVal c := (hexDecTable_spec c).1

theorem hexToO_table : ∀ h < 16, ∀ l < 16,
    (o2i (BitVec.ofNat 8 h) <<< 4 ||| o2i (BitVec.ofNat 8 l)).setWidth 8 = BitVec.ofNat 8 (16 * h + l) := by
  decide +kernel

theorem hexToO_eq (c0 c1 : Octet) (h0 : hexVal c0 < 16) (h1 : hexVal c1 < 16) :
    hexToO c0 c1 = BitVec.ofNat 8 (16 * hexVal c0 + hexVal c1) := by
  have e : ∀ c, hexDecTable c = BitVec.ofNat 8 (hexVal c) := fun c => by
    rw [← hexDecTable_toNat, BitVec.ofNat_toNat, BitVec.setWidth_eq]
  rw [hexToO, e c0, e c1]
  exact hexToO_table _ h0 _ h1

theorem hexIsValid_iff (hex : List Octet) :
    hexIsValid hex = true ↔ hex.length % 2 = 0 ∧ ∀ c ∈ hex, hexVal c < 16 := by
  unfold hexIsValid
  by_cases hl : hex.length % 2 = 0
  · rw [if_neg (fun h => h hl), List.all_eq_true, and_iff_right hl]
    exact forall_congr' fun c => forall_congr' fun _ => by rw [(hexDecTable_spec c).2, decide_eq_true_iff]
  · rw [if_pos hl]
    exact ⟨fun h => (by cases h), fun h => absurd h.1 hl⟩

section
variable (O : Nat)

theorem hexEq_safe_loop_zero (hO : 0 < O) (buf hex : List Octet) (diff : BitVec (8 * O))
    (hl : hex.length = 2 * buf.length) (hv : ∀ c ∈ hex, hexVal c < 16) :
    hexEq_safe.loop O buf hex diff = 0 ↔ diff = 0 ∧ buf = hexDecode hex := by
  induction buf generalizing hex diff with
  | nil => cases List.length_eq_zero_iff.mp hl; simp [hexEq_safe.loop, hexDecode]
  | cons x buf ih =>
    match hex, hl, hv with
    | c0 :: c1 :: hex, hl, hv =>
      rw [hexEq_safe.loop, ih hex _ (by simp at hl; omega) (fun c hc => hv c (by simp [hc])),
        or_eq_zero, i2w_xor_eq_zero (by omega), hexDecode,
        hexToO_eq c0 c1 (hv c0 (by simp)) (hv c1 (by simp)), List.cons.injEq, and_assoc]
    | [], hl, _ => simp at hl
    | [_], hl, _ => simp at hl; omega

theorem hexEq_fast_iff (buf hex : List Octet)
    (hl : hex.length = 2 * buf.length) (hv : ∀ c ∈ hex, hexVal c < 16) :
    hexEq_fast buf hex = true ↔ buf = hexDecode hex := by
  induction buf generalizing hex with
  | nil => cases List.length_eq_zero_iff.mp hl; simp [hexEq_fast, hexDecode]
  | cons x buf ih =>
    match hex, hl, hv with
    | c0 :: c1 :: hex, hl, hv =>
      rw [hexEq_fast, exit_iff, ih hex (by simp at hl; omega) (fun c hc => hv c (by simp [hc])), hexDecode,
        hexToO_eq c0 c1 (hv c0 (by simp)) (hv c1 (by simp)), List.cons.injEq]
    | [], hl, _ => simp at hl
    | [_], hl, _ => simp at hl; omega

/-! hexEqRev reads the string backwards, two characters at a time -/

theorem hexDecode_append (a b : List Octet) (ha : a.length % 2 = 0) :
    hexDecode (a ++ b) = hexDecode a ++ hexDecode b := by
  fun_induction hexDecode a with
  | case1 c0 c1 hex ih =>
    rw [List.cons_append, List.cons_append, hexDecode, ih (by simp at ha; omega), List.cons_append]
  | case2 a hne =>
    match a, hne, ha with
    | [], _, _ => rfl
    | [_], _, ha => simp at ha
    | c0 :: c1 :: t, hne, _ => exact absurd rfl (hne c0 c1 t)

/-- the decoded prefix grows by the octet of the next two characters -/
theorem hexDecode_take_step (hex : List Octet) (n : Nat) (hn : n % 2 = 0) (h : n + 2 ≤ hex.length)
    (hv : ∀ c ∈ hex, hexVal c < 16) :
    (hexDecode (hex.take (n + 2))).reverse
      = hexToO (hex.getD n 0) (hex.getD (n + 1) 0) :: (hexDecode (hex.take n)).reverse := by
  have h0 : n < hex.length := by omega
  have h1 : n + 1 < hex.length := by omega
  rw [getD_eq_getElem hex 0 h0, getD_eq_getElem hex 0 h1,
    hexToO_eq _ _ (hv _ (List.getElem_mem h0)) (hv _ (List.getElem_mem h1)),
    show n + 2 = n + 1 + 1 from rfl, List.take_add_one, List.take_add_one, List.getElem?_eq_getElem h0,
    List.getElem?_eq_getElem h1, List.append_assoc, hexDecode_append _ _ (by simp; omega)]
  simp [hexDecode]

theorem hexEqRev_safe_loop_zero (hO : 0 < O) (hex buf : List Octet) (diff : BitVec (8 * O))
    (hl : 2 * buf.length ≤ hex.length) (hv : ∀ c ∈ hex, hexVal c < 16) :
    hexEqRev_safe.loop O hex (2 * buf.length) (2 * buf.length) buf diff = 0 ↔
      diff = 0 ∧ buf = (hexDecode (hex.take (2 * buf.length))).reverse := by
  induction buf generalizing diff with
  | nil => simp [hexEqRev_safe.loop, hexDecode]
  | cons x buf ih =>
    rw [List.length_cons, Nat.mul_succ] at hl ⊢
    rw [hexEqRev_safe.loop, Nat.add_sub_cancel, ih _ (by omega), or_eq_zero, i2w_xor_eq_zero (by omega),
      hexDecode_take_step hex _ (by omega) hl hv, List.cons.injEq, and_assoc]

theorem hexEqRev_fast_loop_iff (hex buf : List Octet)
    (hl : 2 * buf.length ≤ hex.length) (hv : ∀ c ∈ hex, hexVal c < 16) :
    hexEqRev_fast.loop hex (2 * buf.length) (2 * buf.length) buf = true ↔
      buf = (hexDecode (hex.take (2 * buf.length))).reverse := by
  induction buf with
  | nil => simp [hexEqRev_fast.loop, hexDecode]
  | cons x buf ih =>
    rw [List.length_cons, Nat.mul_succ] at hl ⊢
    rw [hexEqRev_fast.loop, Nat.add_sub_cancel, exit_iff, ih (by omega),
      hexDecode_take_step hex _ (by omega) hl hv, List.cons.injEq]

end

end Bee2V.C14.Cmp
