/-
C14 — comparison family, lemmas for mem.c: octet strings as numbers, the little-endian word
load, memEq / memIsZero / memIsRep, and the two SAFE three-way comparisons memCmp (big-endian
packing into registers that are never cleared) and memCmpRev.
-/
import Bee2V.C14.CmpWW
namespace Bee2V.C14.Cmp

/-! ### octet strings as numbers: `leNat` is `wwNat` for 8-bit words -/

theorem leNat_eq_wwNat (l : List Octet) : leNat l = wwNat l := by
  induction l with
  | nil => rfl
  | cons x l ih => rw [leNat, wwNat, ih]

theorem two_pow_8mul (O : Nat) : 2 ^ (8 * O) = 256 ^ O := Nat.pow_mul 2 8 O

theorem leNat_lt (l : List Octet) : leNat l < 256 ^ l.length := by
  rw [leNat_eq_wwNat, ← two_pow_8mul]; exact wwNat_lt l

theorem leNat_eq_zero (l : List Octet) : leNat l = 0 ↔ ∀ x ∈ l, x = 0 := by
  rw [leNat_eq_wwNat]; exact wwNat_eq_zero l

theorem leNat_append (a b : List Octet) : leNat (a ++ b) = leNat a + 256 ^ a.length * leNat b := by
  simp only [leNat_eq_wwNat, wwNat_append, two_pow_8mul]

theorem leNat_take_add (l : List Octet) (m n : Nat) (h : m ≤ l.length) :
    leNat (l.take (m + n)) = leNat (l.take m) + 256 ^ m * leNat ((l.drop m).take n) := by
  rw [List.take_add, leNat_append, List.length_take, Nat.min_eq_left h]

theorem leNat_take_lt (l : List Octet) (n : Nat) : leNat (l.take n) < 256 ^ n :=
  Nat.lt_of_lt_of_le (leNat_lt _) (Nat.pow_le_pow_right (by decide) (List.length_take_le n l))

theorem leNat_inj (a b : List Octet) (h : a.length = b.length) (he : leNat a = leNat b) : a = b := by
  induction a generalizing b with
  | nil => exact (List.length_eq_zero_iff.mp h.symm).symm
  | cons x a ih =>
    cases b with
    | nil => simp at h
    | cons y b =>
      simp only [leNat] at he
      have hx := x.isLt; have hy := y.isLt
      rw [BitVec.eq_of_toNat_eq (show x.toNat = y.toNat by omega), ih b (by simpa using h) (by omega)]

/-- the shift-in step `w << 8 | octet` -/
theorem shl8_or_toNat {W : Nat} (v : BitVec W) (x : Octet) :
    (v <<< 8 ||| x.setWidth W).toNat = (v.toNat * 256 + x.toNat) % 2 ^ W := by
  have h : v <<< 8 &&& x.setWidth W = 0 := by
    ext i hi
    simp only [BitVec.getElem_and, BitVec.getElem_shiftLeft, BitVec.getElem_setWidth]
    by_cases h8 : i < 8
    · simp [h8]
    · simp [BitVec.getLsbD_of_ge x i (by omega)]
  rw [← BitVec.add_eq_or_of_and_eq_zero _ _ h, BitVec.toNat_add, BitVec.toNat_shiftLeft,
    BitVec.toNat_setWidth, Nat.shiftLeft_eq]
  simp only [Nat.mod_add_mod, Nat.add_mod_mod]

/-! ### the little-endian word load -/

theorem loadLE_toNat (O : Nat) (l : List Octet) : (loadLE O l).toNat = leNat (l.take O) := by
  have key : ∀ t : List Octet, t.length ≤ O →
      (t.foldr (fun x (acc : BitVec (8 * O)) => acc <<< 8 ||| x.setWidth (8 * O)) 0).toNat = leNat t := by
    intro t
    induction t with
    | nil => intro _; rfl
    | cons x t ih =>
      intro h
      have h1 := leNat_lt (x :: t)
      have h2 : 256 ^ (x :: t).length ≤ 256 ^ O := Nat.pow_le_pow_right (by decide) h
      rw [List.foldr_cons, shl8_or_toNat, ih (Nat.le_of_succ_le h), two_pow_8mul, Nat.mod_eq_of_lt]
      · rw [leNat]; omega
      · rw [leNat] at h1; omega
  exact key _ (List.length_take_le O l)

theorem loadLE_eq_zero (O : Nat) (l : List Octet) : loadLE O l = 0 ↔ ∀ x ∈ l.take O, x = 0 := by
  rw [← leNat_eq_zero, ← loadLE_toNat, ← BitVec.toNat_inj]; rfl

theorem loadLE_inj (O : Nat) (a b : List Octet) (h : a.length = b.length) :
    loadLE O a = loadLE O b ↔ a.take O = b.take O := by
  refine ⟨fun he => leNat_inj _ _ (by simp [h]) ?_, fun he => by rw [loadLE, he, loadLE]⟩
  rw [← loadLE_toNat, ← loadLE_toNat, he]

theorem eq_iff_take_drop {α} (k : Nat) (a b : List α) : a = b ↔ a.take k = b.take k ∧ a.drop k = b.drop k := by
  refine ⟨fun h => by rw [h]; exact ⟨rfl, rfl⟩, fun ⟨h1, h2⟩ => ?_⟩
  rw [← List.take_append_drop k a, ← List.take_append_drop k b, h1, h2]

theorem forall_mem_iff_take_drop {α} (k : Nat) (l : List α) (P : α → Prop) :
    (∀ x ∈ l, P x) ↔ (∀ x ∈ l.take k, P x) ∧ (∀ x ∈ l.drop k, P x) := by
  rw [← List.forall_mem_append, List.take_append_drop]

/-! ### memEq, memIsZero, memIsRep -/
section
variable (O : Nat)

theorem setWidth_octet_eq_zero {W : Nat} (hW : 8 ≤ W) (z : Octet) : z.setWidth W = 0 ↔ z = 0 := by
  rw [← BitVec.toNat_inj, ← BitVec.toNat_inj, BitVec.toNat_setWidth,
    Nat.mod_eq_of_lt (Nat.lt_of_lt_of_le z.isLt (Nat.pow_le_pow_right (by decide) hW))]
  rfl

/-- the difference of two octets after promotion to int and conversion to word -/
theorem i2w_xor_eq_zero {W : Nat} (hW : 8 ≤ W) (x y : Octet) :
    (i2w (o2i x ^^^ o2i y) : BitVec W) = 0 ↔ x = y := by
  have h : (i2w (o2i x ^^^ o2i y) : BitVec W) = (x ^^^ y).setWidth W := by
    rw [o2i, o2i, ← BitVec.setWidth_xor, i2w,
      BitVec.signExtend_eq_setWidth_of_msb_false (by simp [BitVec.msb_setWidth])]
    exact BitVec.setWidth_setWidth (by omega)
  rw [h, setWidth_octet_eq_zero hW, xor_eq_zero]

theorem memEq_safe_octets_zero (hO : 0 < O) (b1 b2 : List Octet) (diff : BitVec (8 * O))
    (h : b1.length = b2.length) :
    memEq_safe.octets O b1 b2 diff = 0 ↔ diff = 0 ∧ b1 = b2 := by
  induction b1 generalizing b2 diff with
  | nil => cases List.length_eq_zero_iff.mp h.symm; simp [memEq_safe.octets]
  | cons x b1 ih =>
    cases b2 with
    | nil => simp at h
    | cons y b2 =>
      rw [memEq_safe.octets, ih _ _ (by simpa using h), or_eq_zero, i2w_xor_eq_zero (by omega),
        List.cons.injEq, and_assoc]

theorem memEq_safe_words_zero (hO : 0 < O) (b1 b2 : List Octet) (diff : BitVec (8 * O))
    (h : b1.length = b2.length) :
    (memEq_safe.octets O (memEq_safe.words O hO b1 b2 diff).1 (memEq_safe.words O hO b1 b2 diff).2.1
      (memEq_safe.words O hO b1 b2 diff).2.2 = 0) ↔ diff = 0 ∧ b1 = b2 := by
  fun_induction memEq_safe.words O hO b1 b2 diff with
  | case1 b1 b2 diff hle ih =>
    rw [ih (by simp [h]), or_eq_zero, xor_eq_zero, loadLE_inj O b1 b2 h, eq_iff_take_drop O b1 b2, and_assoc]
  | case2 b1 b2 diff hlt => exact memEq_safe_octets_zero O hO b1 b2 diff h

theorem memEq_safe_iff (hO : 0 < O) (b1 b2 : List Octet) (h : b1.length = b2.length) :
    memEq_safe O hO b1 b2 = true ↔ b1 = b2 := by
  rw [memEq_safe, beq_iff_eq, memEq_safe_words_zero O hO b1 b2 0 h]
  exact and_iff_right rfl

theorem memcmp_eq_zero (b1 b2 : List Octet) (h : b1.length = b2.length) :
    memcmp b1 b2 = 0 ↔ b1 = b2 := by
  induction b1 generalizing b2 with
  | nil => cases List.length_eq_zero_iff.mp h.symm; simp [memcmp]
  | cons x b1 ih =>
    cases b2 with
    | nil => simp at h
    | cons y b2 =>
      rw [memcmp, List.cons.injEq, ← ih b2 (by simpa using h)]
      by_cases hxy : x = y
      · rw [if_neg (fun h => h hxy)]; exact (and_iff_right hxy).symm
      · have : x.toNat ≠ y.toNat := fun he => hxy (BitVec.eq_of_toNat_eq he)
        rw [if_pos hxy]
        exact ⟨fun h => by omega, fun h => absurd h.1 hxy⟩

theorem memEq_fast_iff (b1 b2 : List Octet) (h : b1.length = b2.length) :
    memEq_fast b1 b2 = true ↔ b1 = b2 := by
  rw [memEq_fast, beq_iff_eq, memcmp_eq_zero b1 b2 h]

theorem memIsZero_safe_octets_zero (hO : 0 < O) (buf : List Octet) (diff : BitVec (8 * O)) :
    memIsZero_safe.octets O buf diff = 0 ↔ diff = 0 ∧ ∀ x ∈ buf, x = 0 := by
  induction buf generalizing diff with
  | nil => simp [memIsZero_safe.octets]
  | cons x buf ih =>
    rw [memIsZero_safe.octets, ih, or_eq_zero, setWidth_octet_eq_zero (by omega), List.forall_mem_cons, and_assoc]

theorem memIsZero_safe_words_zero (hO : 0 < O) (buf : List Octet) (diff : BitVec (8 * O)) :
    (memIsZero_safe.octets O (memIsZero_safe.words O hO buf diff).1
      (memIsZero_safe.words O hO buf diff).2 = 0) ↔ diff = 0 ∧ ∀ x ∈ buf, x = 0 := by
  fun_induction memIsZero_safe.words O hO buf diff with
  | case1 buf diff hle ih => rw [ih, or_eq_zero, loadLE_eq_zero, forall_mem_iff_take_drop O buf, and_assoc]
  | case2 buf diff hlt => exact memIsZero_safe_octets_zero O hO buf diff

theorem memIsZero_safe_iff (hO : 0 < O) (buf : List Octet) :
    memIsZero_safe O hO buf = true ↔ ∀ x ∈ buf, x = 0 := by
  rw [memIsZero_safe, beq_iff_eq, memIsZero_safe_words_zero O hO buf 0]
  exact and_iff_right rfl

theorem memIsZero_fast_octets_iff (buf : List Octet) :
    memIsZero_fast.octets buf = true ↔ ∀ x ∈ buf, x = 0 := by
  induction buf with
  | nil => simp [memIsZero_fast.octets]
  | cons x buf ih => rw [memIsZero_fast.octets, exit_iff, ih, List.forall_mem_cons]

theorem memIsZero_fast_iff (hO : 0 < O) (buf : List Octet) :
    memIsZero_fast O hO buf = true ↔ ∀ x ∈ buf, x = 0 := by
  unfold memIsZero_fast
  fun_induction memIsZero_fast.words O hO buf with
  | case1 buf hle hne =>
    rw [forall_mem_iff_take_drop O buf, ← loadLE_eq_zero]
    exact ⟨fun h => (by cases h), fun h => absurd h.1 hne⟩
  | case2 buf hle he ih =>
    rw [ih, forall_mem_iff_take_drop O buf, ← loadLE_eq_zero]
    exact (and_iff_right (Classical.not_not.mp he)).symm
  | case3 buf hlt => exact memIsZero_fast_octets_iff buf

theorem memIsRep_safe_loop_zero (hO : 0 < O) (o : Octet) (buf : List Octet) (diff : BitVec (8 * O)) :
    memIsRep_safe.loop O o buf diff = 0 ↔ diff = 0 ∧ ∀ x ∈ buf, x = o := by
  induction buf generalizing diff with
  | nil => simp [memIsRep_safe.loop]
  | cons x buf ih =>
    rw [memIsRep_safe.loop, ih, or_eq_zero, i2w_xor_eq_zero (by omega), List.forall_mem_cons, and_assoc]

theorem memIsRep_safe_iff (hO : 0 < O) (buf : List Octet) (o : Octet) :
    memIsRep_safe O buf o = true ↔ ∀ x ∈ buf, x = o := by
  rw [memIsRep_safe, beq_iff_eq, memIsRep_safe_loop_zero O hO]
  exact and_iff_right rfl

theorem memIsRep_fast_iff (buf : List Octet) (o : Octet) :
    memIsRep_fast buf o = true ↔ ∀ x ∈ buf, x = o := by
  induction buf with
  | nil => simp [memIsRep_fast]
  | cons x buf ih => rw [memIsRep_fast, exit_iff, ih, List.forall_mem_cons]

end

/-! ### big-endian value, lexicographic comparison, the FAST editions of memCmp / memCmpRev -/

theorem beNat_append (a b : List Octet) : beNat (a ++ b) = beNat b + 256 ^ b.length * beNat a := by
  simp only [beNat, List.reverse_append, leNat_append, List.length_reverse]

theorem beNat_snoc (l : List Octet) (x : Octet) : beNat (l ++ [x]) = x.toNat + 256 * beNat l := by
  simp [beNat, leNat]

theorem beNat_cons (x : Octet) (l : List Octet) : beNat (x :: l) = x.toNat * 256 ^ l.length + beNat l := by
  simpa [beNat, leNat, Nat.add_comm, Nat.mul_comm] using beNat_append [x] l

theorem beNat_lt (l : List Octet) : beNat l < 256 ^ l.length := by
  simpa [beNat] using leNat_lt l.reverse

/-- more significant octets `e` before less significant `t` -/
theorem cmp3_beNat_append (e1 e2 t1 t2 : List Octet) (ht : t1.length = t2.length) :
    cmp3 (beNat (e1 ++ t1)) (beNat (e2 ++ t2)) = lex (cmp3 (beNat e1) (beNat e2)) (cmp3 (beNat t1) (beNat t2)) := by
  rw [beNat_append, beNat_append, ← ht, cmp3_top _ _ _ _ _ (beNat_lt t1) (ht ▸ beNat_lt t2)]

theorem cmp3_lex (x y : Nat) (r : Int) :
    (if x < y then -1 else if y < x then 1 else r) = lex (cmp3 x y) r := by
  unfold cmp3 lex
  split
  · rfl
  · split <;> rfl

theorem lexCmp_eq_cmp3 (a b : List Octet) (h : a.length = b.length) :
    lexCmp a b = cmp3 (beNat a) (beNat b) := by
  induction a generalizing b with
  | nil => cases List.length_eq_zero_iff.mp h.symm; rfl
  | cons x a ih =>
    cases b with
    | nil => simp at h
    | cons y b =>
      have hl : a.length = b.length := by simpa using h
      rw [lexCmp, ih b hl, cmp3_lex]
      exact (cmp3_beNat_append [x] [y] a b hl).symm

theorem lexCmp_append (e1 e2 t1 t2 : List Octet) (h : e1.length = e2.length) :
    lexCmp (e1 ++ t1) (e2 ++ t2) = lex (lexCmp e1 e2) (lexCmp t1 t2) := by
  induction e1 generalizing e2 with
  | nil => cases List.length_eq_zero_iff.mp h.symm; rfl
  | cons x e1 ih =>
    cases e2 with
    | nil => simp at h
    | cons y e2 =>
      rw [List.cons_append, List.cons_append, lexCmp, lexCmp, ih e2 (by simpa using h), cmp3_lex, cmp3_lex, lex_assoc]

theorem memCmp_fast_eq (a b : List Octet) : memCmp_fast a b = lexCmp a b := by
  induction a generalizing b with
  | nil => rw [memCmp_fast, lexCmp] <;> simp
  | cons x a ih =>
    cases b with
    | nil => rw [memCmp_fast, lexCmp] <;> simp
    | cons y b => rw [memCmp_fast, lexCmp, ih, ult_lex, cmp3_lex]

theorem memCmpRev_fast_eq_wwCmp (a b : List Octet) (n : Nat) : memCmpRev_fast a b n = wwCmp_fast a b n := by
  induction n with
  | zero => rfl
  | succ n ih => rw [memCmpRev_fast, wwCmp_fast, ih]

theorem memCmpRev_fast_eq_take (a b : List Octet) (n : Nat) (ha : n ≤ a.length) (hb : n ≤ b.length) :
    memCmpRev_fast a b n = cmp3 (leNat (a.take n)) (leNat (b.take n)) := by
  rw [memCmpRev_fast_eq_wwCmp, wwCmp_fast_eq_take a b n ha hb, leNat_eq_wwNat, leNat_eq_wwNat]

/-! ### SAFE(memCmpRev): a tail loop down to a word boundary, then whole words -/
section
variable (O : Nat)

theorem leNat_take_succ (a : List Octet) (n : Nat) (hn : n < a.length) :
    leNat (a.take (n + 1)) = leNat (a.take n) + 256 ^ n * (a.getD n 0).toNat := by
  rw [leNat_eq_wwNat, leNat_eq_wwNat, wwNat_take_succ a n hn, two_pow_8mul]

theorem mod_mul_add_mod (a M c x : Nat) : ((a % M) * c + x) % M = (a * c + x) % M := by
  rw [Nat.add_mod, Nat.mul_mod, Nat.mod_mod, ← Nat.mul_mod, ← Nat.add_mod]

/-- shifting octet `k + r` of `b` into `w` and then the `r` octets below it (last one first) is
shifting in `r + 1` octets -/
theorem shiftIn_succ (b : List Octet) (k r : Nat) (w : BitVec (8 * O)) (h : k + r < b.length) :
    BitVec.ofNat (8 * O)
        ((w <<< 8 ||| (b.getD (k + r) 0).setWidth (8 * O)).toNat * 256 ^ r + leNat ((b.drop k).take r))
      = BitVec.ofNat (8 * O) (w.toNat * 256 ^ (r + 1) + leNat ((b.drop k).take (r + 1))) := by
  apply BitVec.eq_of_toNat_eq
  rw [BitVec.toNat_ofNat, BitVec.toNat_ofNat, shl8_or_toNat, mod_mul_add_mod,
    leNat_take_succ _ r (by rw [List.length_drop]; omega), getD_drop, Nat.pow_succ, Nat.add_mul]
  congr 1
  ac_rfl

/-- the tail loop of SAFE(memCmpRev) started at `q*O + r` (r < O) stops at `q*O` having shifted in
octets `q*O + r - 1, ..., q*O` -/
theorem memCmpRev_tail (b1 b2 : List Octet) (q r : Nat) (hr : r < O) (w1 w2 : BitVec (8 * O))
    (h1 : q * O + r ≤ b1.length) (h2 : q * O + r ≤ b2.length) :
    memCmpRev_safe.tail O b1 b2 (q * O + r) w1 w2 =
      (q * O, BitVec.ofNat _ (w1.toNat * 256 ^ r + leNat ((b1.drop (q * O)).take r)),
        BitVec.ofNat _ (w2.toNat * 256 ^ r + leNat ((b2.drop (q * O)).take r))) := by
  induction r generalizing w1 w2 with
  | zero =>
    simp only [Nat.add_zero, Nat.pow_zero, Nat.mul_one, List.take_zero, leNat, BitVec.ofNat_toNat,
      BitVec.setWidth_eq]
    cases hq : q * O with
    | zero => rfl
    | succ c => rw [memCmpRev_safe.tail, if_neg (by rw [← hq, Nat.mul_mod_left]; exact fun h => h rfl)]
  | succ r ih =>
    rw [← Nat.add_assoc, memCmpRev_safe.tail,
      if_pos (by rw [Nat.add_assoc, Nat.mul_add_mod_of_lt hr]; omega),
      ih (by omega) _ _ (by omega) (by omega), shiftIn_succ O b1 _ r w1 (by omega),
      shiftIn_succ O b2 _ r w2 (by omega)]

theorem memCmpRev_words (b1 b2 : List Octet) (q : Nat) (c : Int) (hc : Sign c)
    (h1 : q * O ≤ b1.length) (h2 : q * O ≤ b2.length) :
    memCmpRev_safe.words O b1 b2 q (enc c).1 (enc c).2
      = enc (lex c (cmp3 (leNat (b1.take (q * O))) (leNat (b2.take (q * O))))) := by
  induction q generalizing c with
  | zero =>
    rw [memCmpRev_safe.words, Nat.zero_mul, List.take_zero, List.take_zero]
    exact (congrArg enc (lex_zero_right c)).symm
  | succ q ih =>
    rw [Nat.succ_mul q O] at h1 h2 ⊢
    rw [memCmpRev_safe.words, lgStep_cmp3 c hc, loadLE_toNat, loadLE_toNat,
      ih _ (lex_sign hc (cmp3_sign _ _)) (by omega) (by omega), lex_assoc,
      leNat_take_add b1 _ _ (by omega), leNat_take_add b2 _ _ (by omega),
      cmp3_top _ _ _ _ _ (leNat_take_lt b1 _) (leNat_take_lt b2 _)]

/-- the word loop, entered with the comparison `c` of the top `r` octets in the accumulator -/
theorem memCmpRev_finish (a b : List Octet) (q r : Nat) (hq : 0 < 8 * O)
    (ha : a.length = q * O + r) (hb : b.length = q * O + r) (c : Int)
    (hc : c = cmp3 (leNat ((a.drop (q * O)).take r)) (leNat ((b.drop (q * O)).take r))) :
    lgRet (memCmpRev_safe.words O a b q (enc c).1 (enc c).2).1 (memCmpRev_safe.words O a b q (enc c).1 (enc c).2).2
      = cmp3 (leNat a) (leNat b) := by
  subst hc
  rw [memCmpRev_words O a b q _ (cmp3_sign _ _) (by omega) (by omega),
    lgRet_enc hq _ (lex_sign (cmp3_sign _ _) (cmp3_sign _ _)),
    ← cmp3_top _ _ _ _ _ (leNat_take_lt a _) (leNat_take_lt b _),
    ← leNat_take_add a _ _ (by omega), ← leNat_take_add b _ _ (by omega),
    List.take_of_length_le (by omega), List.take_of_length_le (by omega)]

theorem memCmpRev_safe_eq (hO : 0 < O) (a b : List Octet) (count : Nat)
    (ha : a.length = count) (hb : b.length = count) :
    memCmpRev_safe O a b count = cmp3 (leNat a) (leNat b) := by
  obtain ⟨q, r, hr, rfl⟩ : ∃ q r, r < O ∧ count = q * O + r :=
    ⟨count / O, count % O, Nat.mod_lt _ hO, by rw [Nat.mul_comm]; exact (Nat.div_add_mod count O).symm⟩
  unfold memCmpRev_safe
  rw [Nat.mul_add_mod_of_lt hr]
  by_cases hr0 : r = 0
  · subst hr0
    have fin := memCmpRev_finish O a b q 0 (by omega) ha hb 0 rfl
    rw [enc_zero] at fin
    simpa [Nat.mul_div_cancel _ hO] using fin
  · -- the registers of the tail loop start at 0 and do not overflow
    have hlt : ∀ l : List Octet,
        (BitVec.ofNat (8 * O) ((0 : BitVec (8 * O)).toNat * 256 ^ r + leNat (l.take r))).toNat = leNat (l.take r) := by
      intro l
      rw [BitVec.toNat_ofNat, show (0 : BitVec (8 * O)).toNat = 0 from rfl, Nat.zero_mul, Nat.zero_add, two_pow_8mul]
      exact Nat.mod_eq_of_lt
        (Nat.lt_of_lt_of_le (leNat_take_lt l r) (Nat.pow_le_pow_right (by decide) (Nat.le_of_lt hr)))
    have hs := lgStep_cmp3 (w := 8 * O) 0 (Or.inr (Or.inl rfl))
    rw [enc_zero] at hs
    rw [if_pos hr0, memCmpRev_tail O a b q r hr 0 0 (by omega) (by omega)]
    simp only [hs, hlt, lex_zero_left, Nat.mul_div_cancel _ hO]
    exact memCmpRev_finish O a b q r (by omega) ha hb _ rfl

end

/-! ### SAFE(memCmp): big-endian packing; the registers are never cleared, old octets are shifted
out modulo 2^B_PER_W -/
section
variable (O : Nat)

/-- what SAFE(memCmp) does after its loop -/
def memCmp_finish (st : BitVec (8 * O) × BitVec (8 * O) × BitVec (8 * O) × BitVec (8 * O) × Nat) : Int :=
  let lg := if st.2.2.2.2 ≠ 0 then
      lgStep st.1 st.2.1 (st.2.2.1.ult st.2.2.2.1) (st.2.2.2.1.ult st.2.2.1)
    else (st.1, st.2.1)
  lgRet lg.1 lg.2

/-- (X·P + T) mod (Q·P) keeps T and the low part of X -/
theorem mod_window (X P Q T : Nat) (hT : T < P) : (X * P + T) % (Q * P) = (X % Q) * P + T := by
  by_cases hQ : Q = 0
  · subst hQ; simp
  have hlt : (X % Q) * P + T < Q * P := by
    have h2 : (X % Q + 1) * P ≤ Q * P := Nat.mul_le_mul_right _ (Nat.mod_lt _ (by omega))
    rw [Nat.add_mul] at h2; omega
  have hX : X * P + T = (X % Q) * P + T + (Q * P) * (X / Q) := by
    conv => lhs; rw [← Nat.div_add_mod X Q]
    rw [Nat.add_mul]
    have : Q * (X / Q) * P = Q * P * (X / Q) := by ac_rfl
    omega
  rw [hX, Nat.add_mul_mod_self_left, Nat.mod_eq_of_lt hlt]

theorem cmp3_add_left (K x y : Nat) : cmp3 (K + x) (K + y) = cmp3 x y := by
  simp only [cmp3, Nat.add_lt_add_iff_left]

/-- registers holding the last octets of two strings that agree (as numbers) before their last `f`
octets compare like those last `f` octets: the stale high octets are the same -/
theorem cmp3_stale (E T1 T2 f : Nat) (hf : f ≤ O) (h1 : T1 < 256 ^ f) (h2 : T2 < 256 ^ f) :
    cmp3 ((T1 + 256 ^ f * E) % 256 ^ O) ((T2 + 256 ^ f * E) % 256 ^ O) = cmp3 T1 T2 := by
  have hP : 256 ^ O = 256 ^ (O - f) * 256 ^ f := by rw [← Nat.pow_add]; congr 1; omega
  rw [hP, Nat.add_comm T1, Nat.add_comm T2, Nat.mul_comm _ E, mod_window _ _ _ _ h1, mod_window _ _ _ _ h2,
    cmp3_add_left]

theorem lex_congr (c : Int) {d d' : Int} (h : c = 0 → d = d') : lex c d = lex c d' := by
  unfold lex; split
  · exact h ‹_›
  · rfl

theorem shiftIn_toNat (p : List Octet) (w1 : BitVec (8 * O)) (x : Octet)
    (hw : w1.toNat = beNat p % 256 ^ O) :
    (w1 <<< 8 ||| x.setWidth (8 * O)).toNat = beNat (p ++ [x]) % 256 ^ O := by
  rw [shl8_or_toNat, hw, two_pow_8mul, mod_mul_add_mod, beNat_snoc]
  congr 1; ac_rfl

/-- invariant of the loop of SAFE(memCmp): `e` = the octets already compared (whole words), `t` =
the octets of the word being filled, the registers hold the last `O` octets read -/
theorem memCmp_loop (r1 r2 e1 e2 t1 t2 : List Octet) (w1 w2 : BitVec (8 * O)) (c : Int)
    (ht : t1.length = t2.length) (hf : t1.length < O) (hr : r1.length = r2.length)
    (hw1 : w1.toNat = beNat (e1 ++ t1) % 256 ^ O) (hw2 : w2.toNat = beNat (e2 ++ t2) % 256 ^ O)
    (hc : c = cmp3 (beNat e1) (beNat e2)) :
    memCmp_finish O (memCmp_safe.loop O r1 r2 (enc c).1 (enc c).2 w1 w2 t1.length)
      = cmp3 (beNat (e1 ++ t1 ++ r1)) (beNat (e2 ++ t2 ++ r2)) := by
  have hs : Sign c := hc ▸ cmp3_sign _ _
  induction r1 generalizing r2 e1 e2 t1 t2 w1 w2 c with
  | nil =>
    cases List.length_eq_zero_iff.mp hr.symm
    rw [List.append_nil, List.append_nil, cmp3_beNat_append e1 e2 t1 t2 ht, ← hc]
    by_cases hf0 : t1.length = 0
    · cases List.length_eq_zero_iff.mp hf0
      cases List.length_eq_zero_iff.mp (hf0 ▸ ht.symm)
      simp only [memCmp_safe.loop, memCmp_finish, List.length_nil, ne_eq, not_true_eq_false, if_false]
      rw [lgRet_enc (by omega) c hs]
      exact (lex_zero_right c).symm
    · simp only [memCmp_safe.loop, memCmp_finish, ne_eq, hf0, not_false_eq_true, if_true]
      rw [lgStep_cmp3 c hs, lgRet_enc (by omega) _ (lex_sign hs (cmp3_sign _ _)), hw1, hw2,
        beNat_append, beNat_append, ← ht]
      refine lex_congr c fun h0 => ?_
      rw [(cmp3_eq_zero_iff (beNat e1) (beNat e2)).mp (hc.symm.trans h0)]
      exact cmp3_stale O _ _ _ _ (Nat.le_of_lt hf) (beNat_lt t1) (ht ▸ beNat_lt t2)
  | cons x r1 ih =>
    cases r2 with
    | nil => simp at hr
    | cons y r2 =>
      have hr' : r1.length = r2.length := by simpa using hr
      have hw1' := shiftIn_toNat O (e1 ++ t1) w1 x hw1
      have hw2' := shiftIn_toNat O (e2 ++ t2) w2 y hw2
      have ht' : (t1 ++ [x]).length = (t2 ++ [y]).length := by simp [ht]
      rw [List.append_assoc] at hw1' hw2'
      rw [memCmp_safe.loop, show e1 ++ t1 ++ x :: r1 = e1 ++ (t1 ++ [x]) ++ r1 by simp,
        show e2 ++ t2 ++ y :: r2 = e2 ++ (t2 ++ [y]) ++ r2 by simp]
      by_cases hfull : t1.length + 1 = O
      · have hO1 : (t1 ++ [x]).length = O := by simpa using hfull
        have win : ∀ (e t : List Octet), t.length = O → beNat (e ++ t) % 256 ^ O = beNat t := by
          intro e t h
          rw [beNat_append, h, Nat.mul_comm, Nat.add_mul_mod_self_right, Nat.mod_eq_of_lt (h ▸ beNat_lt t)]
        rw [if_pos hfull, lgStep_cmp3 c hs, hw1', hw2', win _ _ hO1, win _ _ (ht' ▸ hO1), hc,
          ← cmp3_beNat_append _ _ _ _ ht']
        have := ih r2 (e1 ++ (t1 ++ [x])) (e2 ++ (t2 ++ [y])) [] [] _ _ _ rfl (by simp; omega) hr'
          (by rw [List.append_nil]; exact hw1') (by rw [List.append_nil]; exact hw2') rfl (cmp3_sign _ _)
        simpa using this
      · have := ih r2 e1 e2 (t1 ++ [x]) (t2 ++ [y]) _ _ c ht' (by simp; omega) hr' hw1' hw2' hc hs
        rw [if_neg hfull]
        simpa using this

theorem memCmp_safe_eq (hO : 0 < O) (a b : List Octet) (h : a.length = b.length) :
    memCmp_safe O a b = lexCmp a b := by
  have := memCmp_loop O a b [] [] [] [] 0 0 0 rfl hO h rfl rfl rfl
  rw [enc_zero] at this
  rw [lexCmp_eq_cmp3 a b h]
  exact this

end

end Bee2V.C14.Cmp
