/-
C14 — comparison family.  Property theorems only (models: ModelCmp.lean, lemmas: CmpWW.lean, CmpMem.lean, CmpHex.lean, CmpBits.lean).

For every routine both editions are proved equal to a structure-free predicate, for ALL lengths:
  SAFE edition = spec,  FAST edition = spec,  hence SAFE = FAST.
Word strings: `wwNat a` is the little-endian number of the word list `a` (any word width `w`;
the comparison theorems need `0 < w`, the C has w ∈ {16, 32, 64}).
Each theorem is followed by an `example` with concrete non-trivial operands satisfying the
hypotheses (and evaluating the executable model on them).
-/
import Bee2V.C14.CmpHex
import Bee2V.C14.CmpBits
namespace Bee2V.C14
open Cmp

/-! ### mem.c  (`O` = O_PER_W > 0, word width 8·O) -/
section Mem
variable (O : Nat)

/-- SAFE(memEq) (word-at-a-time, then octet tail) decides equality of the buffers -/
theorem memEq_safe_spec (hO : 0 < O) (a b : List Octet) (h : a.length = b.length) :
    memEq_safe O hO a b = decide (a = b) := bool_eq_decide (memEq_safe_iff O hO a b h)

/-- FAST(memEq) (`memcmp(..) == 0`) decides equality of the buffers -/
theorem memEq_fast_spec (a b : List Octet) (h : a.length = b.length) :
    memEq_fast a b = decide (a = b) := bool_eq_decide (memEq_fast_iff a b h)

theorem memEq_safe_eq_fast (hO : 0 < O) (a b : List Octet) (h : a.length = b.length) :
    memEq_safe O hO a b = memEq_fast a b := by
  rw [memEq_safe_spec O hO a b h, memEq_fast_spec a b h]

example : ([1, 2, 3, 4, 5] : List Octet).length = [1, 2, 3, 4, 6].length := rfl
example : memEq_safe 2 (by decide) [1, 2, 3, 4, 5] [1, 2, 3, 4, 6] = false
    ∧ memEq_fast [1, 2, 3, 4, 5] [1, 2, 3, 4, 5] = true := by
  rw [memEq_safe_spec 2 (by decide) [1, 2, 3, 4, 5] [1, 2, 3, 4, 6] rfl]; decide

/-- SAFE(memIsZero): all octets are zero -/
theorem memIsZero_safe_spec (hO : 0 < O) (a : List Octet) :
    memIsZero_safe O hO a = decide (∀ x ∈ a, x = 0) := bool_eq_decide (memIsZero_safe_iff O hO a)

theorem memIsZero_fast_spec (hO : 0 < O) (a : List Octet) :
    memIsZero_fast O hO a = decide (∀ x ∈ a, x = 0) := bool_eq_decide (memIsZero_fast_iff O hO a)

theorem memIsZero_safe_eq_fast (hO : 0 < O) (a : List Octet) :
    memIsZero_safe O hO a = memIsZero_fast O hO a := by
  rw [memIsZero_safe_spec, memIsZero_fast_spec]

example : memIsZero_safe 2 (by decide) [0, 0, 0, 0, 1] = false
    ∧ memIsZero_fast 2 (by decide) [0, 0, 0, 0, 0] = true := by
  rw [memIsZero_safe_spec, memIsZero_fast_spec]; simp

/-- SAFE(memIsRep): all octets equal `o` -/
theorem memIsRep_safe_spec (hO : 0 < O) (a : List Octet) (o : Octet) :
    memIsRep_safe O a o = decide (∀ x ∈ a, x = o) := bool_eq_decide (memIsRep_safe_iff O hO a o)

theorem memIsRep_fast_spec (a : List Octet) (o : Octet) :
    memIsRep_fast a o = decide (∀ x ∈ a, x = o) := bool_eq_decide (memIsRep_fast_iff a o)

theorem memIsRep_safe_eq_fast (hO : 0 < O) (a : List Octet) (o : Octet) :
    memIsRep_safe O a o = memIsRep_fast a o := by
  rw [memIsRep_safe_spec O hO, memIsRep_fast_spec]

example : memIsRep_safe 8 [7, 7, 7] 7 = true ∧ memIsRep_fast [7, 7, 6] 7 = false := by decide

/-- SAFE(memCmp) is the lexicographic comparison from the FIRST octet.  (The registers w1, w2
are never cleared in the C; the proof shows the stale high octets cannot change the verdict.) -/
theorem memCmp_safe_spec (hO : 0 < O) (a b : List Octet) (h : a.length = b.length) :
    memCmp_safe O a b = lexCmp a b := memCmp_safe_eq O hO a b h

theorem memCmp_fast_spec (a b : List Octet) : memCmp_fast a b = lexCmp a b := memCmp_fast_eq a b

/-- the lexicographic order from the first octet is the order of the big-endian numbers -/
theorem memCmp_safe_value (hO : 0 < O) (a b : List Octet) (h : a.length = b.length) :
    memCmp_safe O a b = cmp3 (beNat a) (beNat b) ∧ memCmp_fast a b = cmp3 (beNat a) (beNat b) := by
  rw [memCmp_safe_spec O hO a b h, memCmp_fast_spec, lexCmp_eq_cmp3 a b h]; exact ⟨rfl, rfl⟩

example : memCmp_safe 2 [1, 2, 3, 4, 5] [1, 2, 3, 4, 6] = -1 ∧ memCmp_fast [1, 2, 9, 4, 5] [1, 2, 3, 4, 6] = 1
    ∧ memCmp_safe 2 [9, 9, 3, 4, 5] [9, 9, 3, 4, 5] = 0 ∧ memCmp_safe 2 [1, 2, 3, 5, 5] [1, 2, 3, 4, 6] = 1 := by
  decide

/-- SAFE(memCmpRev) compares from the LAST octet: the order of the little-endian numbers -/
theorem memCmpRev_safe_spec (hO : 0 < O) (a b : List Octet) (count : Nat)
    (ha : a.length = count) (hb : b.length = count) :
    memCmpRev_safe O a b count = cmp3 (leNat a) (leNat b) := memCmpRev_safe_eq O hO a b count ha hb

theorem memCmpRev_fast_spec (a b : List Octet) (count : Nat) (ha : a.length = count) (hb : b.length = count) :
    memCmpRev_fast a b count = cmp3 (leNat a) (leNat b) := by
  rw [memCmpRev_fast_eq_take a b count (by omega) (by omega), List.take_of_length_le (by omega),
    List.take_of_length_le (by omega)]

example : memCmpRev_safe 2 [1, 2, 3, 4, 5] [9, 2, 3, 4, 5] 5 = -1
    ∧ memCmpRev_fast [1, 2, 3, 4, 5] [9, 2, 3, 4, 4] 5 = 1
    ∧ memCmpRev_safe 2 [1, 2, 3, 4, 5] [1, 2, 3, 4, 5] 5 = 0 := by decide

end Mem

/-! ### hex.c  (C strings as lists of chars-as-octets; precondition `hexIsValid hex`) -/
section Hex
variable (O : Nat)

/-- SAFE(hexEq): the buffer is the decoded hex string (octet i = 16·digit(2i) + digit(2i+1)) -/
theorem hexEq_safe_spec (hO : 0 < O) (buf hex : List Octet) (hv : hexIsValid hex = true)
    (hl : hex.length = 2 * buf.length) :
    hexEq_safe O buf hex = decide (buf = hexDecode hex) :=
  bool_eq_decide (by
    rw [hexEq_safe, beq_iff_eq, hexEq_safe_loop_zero O hO buf hex 0 hl ((hexIsValid_iff hex).mp hv).2]
    simp)

theorem hexEq_fast_spec (buf hex : List Octet) (hv : hexIsValid hex = true)
    (hl : hex.length = 2 * buf.length) :
    hexEq_fast buf hex = decide (buf = hexDecode hex) :=
  bool_eq_decide (hexEq_fast_iff buf hex hl ((hexIsValid_iff hex).mp hv).2)

/-- "0A1b" (as chars) is valid and has length 2·2 -/
example : hexIsValid [0x30, 0x41, 0x31, 0x62] = true ∧ hexDecode [0x30, 0x41, 0x31, 0x62] = [0x0A, 0x1B] := by
  decide
example : hexEq_safe 8 [0x0A, 0x1B] [0x30, 0x41, 0x31, 0x62] = true
    ∧ hexEq_fast [0x0A, 0x1C] [0x30, 0x41, 0x31, 0x62] = false := by decide

/-- SAFE(hexEqRev): the buffer is the decoded hex string in reverse octet order -/
theorem hexEqRev_safe_spec (hO : 0 < O) (buf hex : List Octet) (hv : hexIsValid hex = true)
    (hl : hex.length = 2 * buf.length) :
    hexEqRev_safe O buf hex = decide (buf = (hexDecode hex).reverse) :=
  bool_eq_decide (by
    have := hexEqRev_safe_loop_zero O hO hex buf 0 (by omega) ((hexIsValid_iff hex).mp hv).2
    rw [← hl, List.take_length] at this
    rw [hexEqRev_safe, beq_iff_eq, this]; simp)

theorem hexEqRev_fast_spec (buf hex : List Octet) (hv : hexIsValid hex = true)
    (hl : hex.length = 2 * buf.length) :
    hexEqRev_fast buf hex = decide (buf = (hexDecode hex).reverse) :=
  bool_eq_decide (by
    have := hexEqRev_fast_loop_iff hex buf (by omega) ((hexIsValid_iff hex).mp hv).2
    rw [← hl, List.take_length] at this
    rw [hexEqRev_fast, this])

example : hexEqRev_safe 8 [0x1B, 0x0A] [0x30, 0x41, 0x31, 0x62] = true
    ∧ hexEqRev_fast [0x0A, 0x1B] [0x30, 0x41, 0x31, 0x62] = false := by decide

end Hex

/-! ### ww.c -/
section WW
variable {w : Nat}

/-- SAFE(wwEq) decides equality of the two word strings -/
theorem wwEq_safe_spec (a b : List (BitVec w)) (n : Nat) (ha : a.length = n) (hb : b.length = n) :
    wwEq_safe a b n = decide (a = b) :=
  bool_eq_decide (by
    rw [wwEq_safe, beq_iff_eq, wwEq_safe_loop_zero, list_eq_iff_getD 0 a b n ha hb]; simp)

/-- FAST(wwEq) decides equality of the two word strings -/
theorem wwEq_fast_spec (a b : List (BitVec w)) (n : Nat) (ha : a.length = n) (hb : b.length = n) :
    wwEq_fast a b n = decide (a = b) :=
  bool_eq_decide (by rw [wwEq_fast_iff, list_eq_iff_getD 0 a b n ha hb])

theorem wwEq_safe_eq_fast (a b : List (BitVec w)) (n : Nat) (ha : a.length = n) (hb : b.length = n) :
    wwEq_safe a b n = wwEq_fast a b n := by
  rw [wwEq_safe_spec a b n ha hb, wwEq_fast_spec a b n ha hb]

example : wwEq_safe [1, 2, 3#64] [1, 2, 3] 3 = true ∧ wwEq_fast [1, 2, 3#64] [5, 2, 3] 3 = false := by
  decide

/-- SAFE(wwIsZero): all words are zero -/
theorem wwIsZero_safe_spec (a : List (BitVec w)) (n : Nat) (ha : a.length = n) :
    wwIsZero_safe a n = decide (∀ x ∈ a, x = 0) :=
  bool_eq_decide (by rw [wwIsZero_safe_eq_fast, wwIsZero_fast_iff_mem a n ha])

theorem wwIsZero_fast_spec (a : List (BitVec w)) (n : Nat) (ha : a.length = n) :
    wwIsZero_fast a n = decide (∀ x ∈ a, x = 0) :=
  bool_eq_decide (wwIsZero_fast_iff_mem a n ha)

/-- the same as a statement about the number: `a` is zero iff its value is 0 -/
theorem wwIsZero_safe_value (a : List (BitVec w)) (n : Nat) (ha : a.length = n) :
    wwIsZero_safe a n = decide (wwNat a = 0) ∧ wwIsZero_fast a n = decide (wwNat a = 0) := by
  rw [wwIsZero_safe_spec a n ha, wwIsZero_fast_spec a n ha]
  simp only [wwNat_eq_zero, and_self]

example : wwIsZero_safe [0, 0, 0#64] 3 = true ∧ wwIsZero_fast [0, 4, 0#64] 3 = false := by decide

/-- SAFE(wwCmp) is the three-way comparison of the numbers -/
theorem wwCmp_safe_spec (hw : 0 < w) (a b : List (BitVec w)) (n : Nat)
    (ha : a.length = n) (hb : b.length = n) :
    wwCmp_safe a b n = cmp3 (wwNat a) (wwNat b) := by
  rw [wwCmp_safe_eq_fast hw, wwCmp_fast_eq_take a b n (by omega) (by omega),
    List.take_of_length_le (by omega), List.take_of_length_le (by omega)]

theorem wwCmp_fast_spec (a b : List (BitVec w)) (n : Nat) (ha : a.length = n) (hb : b.length = n) :
    wwCmp_fast a b n = cmp3 (wwNat a) (wwNat b) := by
  rw [wwCmp_fast_eq_take a b n (by omega) (by omega),
    List.take_of_length_le (by omega), List.take_of_length_le (by omega)]

/-- the editions agree on every prefix length, whatever the operands -/
theorem wwCmp_safe_eq_fast_all (hw : 0 < w) (a b : List (BitVec w)) (n : Nat) :
    wwCmp_safe a b n = wwCmp_fast a b n := wwCmp_safe_eq_fast hw a b n

example : wwCmp_safe [7, 2, 3#64] [1, 9, 3] 3 = -1 ∧ wwCmp_fast [7, 2, 3#64] [9, 1, 3] 3 = 1 := by
  decide

/-- SAFE(wwCmp2): comparison of numbers given with different word counts -/
theorem wwCmp2_safe_spec (hw : 0 < w) (a b : List (BitVec w)) (n m : Nat)
    (ha : a.length = n) (hb : b.length = m) :
    wwCmp2_safe a n b m = cmp3 (wwNat a) (wwNat b) := by
  rw [wwCmp2_safe_eq_fast hw, wwCmp2_fast_eq a b n m ha hb]

theorem wwCmp2_fast_spec (a b : List (BitVec w)) (n m : Nat) (ha : a.length = n) (hb : b.length = m) :
    wwCmp2_fast a n b m = cmp3 (wwNat a) (wwNat b) := wwCmp2_fast_eq a b n m ha hb

example : wwCmp2_safe [7, 2, 0#64] 3 [1, 9] 2 = -1 ∧ wwCmp2_fast [7#64] 1 [9, 0, 1] 3 = -1
    ∧ wwCmp2_safe [7, 2, 1#64] 3 [1, 9] 2 = 1 := by decide

/-- SAFE(wwCmpW): comparison of the number with a single word (n = 0: the number is 0) -/
theorem wwCmpW_safe_spec (a : List (BitVec w)) (n : Nat) (x : BitVec w) (ha : a.length = n) :
    wwCmpW_safe a n x = cmp3 (wwNat a) x.toNat := wwCmpW_safe_eq a n x ha

theorem wwCmpW_fast_spec (a : List (BitVec w)) (n : Nat) (x : BitVec w) (ha : a.length = n) :
    wwCmpW_fast a n x = cmp3 (wwNat a) x.toNat := wwCmpW_fast_eq a n x ha

example : wwCmpW_safe [7, 0, 0#64] 3 9 = -1 ∧ wwCmpW_fast [7, 0, 1#64] 3 9 = 1
    ∧ wwCmpW_safe ([] : List (BitVec 64)) 0 9 = -1 := by decide

/-- SAFE(wwIsW): the number equals the word (n = 0: the word is 0) -/
theorem wwIsW_safe_spec (a : List (BitVec w)) (n : Nat) (x : BitVec w) (ha : a.length = n) :
    wwIsW_safe a n x = decide (wwNat a = x.toNat) := bool_eq_decide (wwIsW_safe_iff a n x ha)

theorem wwIsW_fast_spec (a : List (BitVec w)) (n : Nat) (x : BitVec w) (ha : a.length = n) :
    wwIsW_fast a n x = decide (wwNat a = x.toNat) := bool_eq_decide (wwIsW_fast_iff a n x ha)

example : wwIsW_safe [7, 0, 0#64] 3 7 = true ∧ wwIsW_fast [7, 0, 1#64] 3 7 = false
    ∧ wwIsW_fast ([] : List (BitVec 64)) 0 0 = true := by decide

/-- SAFE(wwIsRepW): every word equals `x` (n = 0: `x` is 0) -/
theorem wwIsRepW_safe_spec (a : List (BitVec w)) (n : Nat) (x : BitVec w) (ha : a.length = n) :
    wwIsRepW_safe a n x = if n = 0 then decide (x = 0) else decide (∀ y ∈ a, y = x) := by
  by_cases hn : n = 0
  · subst hn; rw [if_pos rfl]; exact bool_eq_decide (by simp [wwIsRepW_safe])
  · rw [if_neg hn]; exact bool_eq_decide (wwIsRepW_safe_iff a n x ha hn)

theorem wwIsRepW_fast_spec (a : List (BitVec w)) (n : Nat) (x : BitVec w) (ha : a.length = n) :
    wwIsRepW_fast a n x = if n = 0 then decide (x = 0) else decide (∀ y ∈ a, y = x) := by
  by_cases hn : n = 0
  · subst hn; rw [if_pos rfl]; exact bool_eq_decide (by simp [wwIsRepW_fast])
  · rw [if_neg hn]; exact bool_eq_decide (wwIsRepW_fast_iff a n x ha hn)

example : wwIsRepW_safe [7, 7, 7#64] 3 7 = true ∧ wwIsRepW_fast [7, 7, 1#64] 3 7 = false
    ∧ wwIsRepW_fast [1, 7, 7#64] 3 7 = false := by decide

end WW

/-! ### u16.c / u32.c / u64.c
`ctzSpec x` / `clzSpec x`: index of the first set bit from the bottom / from the top (the width
for x = 0).  SAFE = SWAR weight of `w | -w` resp. of the complemented smear; FAST = dichotomy. -/
section UNN

theorem u16CTZ_safe_spec (w : BitVec 16) : u16CTZ_safe w = ctzSpec w := ctz_safe_eq u16Weight u16Weight_hiMask w

theorem u16CTZ_fast_spec (w : BitVec 16) : u16CTZ_fast w = ctzSpec w := by
  unfold u16CTZ_fast
  simp only [ctzStep_eq, ctzRet_eq]
  exact dRet_eq _ w (by decide) _ (dStep_inv _ w 2 _ (dStep_inv _ w 4 _ (dStep_inv _ w 8 _ (DInv_init _ w))))

theorem u32CTZ_safe_spec (w : BitVec 32) : u32CTZ_safe w = ctzSpec w := ctz_safe_eq u32Weight u32Weight_hiMask w

theorem u32CTZ_fast_spec (w : BitVec 32) : u32CTZ_fast w = ctzSpec w := by
  unfold u32CTZ_fast
  simp only [ctzStep_eq, ctzRet_eq]
  exact dRet_eq _ w (by decide) _ (dStep_inv _ w 2 _ (dStep_inv _ w 4 _ (dStep_inv _ w 8 _
    (dStep_inv _ w 16 _ (DInv_init _ w)))))

theorem u64CTZ_safe_spec (w : BitVec 64) : u64CTZ_safe w = ctzSpec w := ctz_safe_eq u64Weight u64Weight_hiMask w

theorem u64CTZ_fast_spec (w : BitVec 64) : u64CTZ_fast w = ctzSpec w := by
  unfold u64CTZ_fast
  simp only [ctzStep_eq, ctzRet_eq]
  exact dRet_eq _ w (by decide) _ (dStep_inv _ w 2 _ (dStep_inv _ w 4 _ (dStep_inv _ w 8 _
    (dStep_inv _ w 16 _ (dStep_inv _ w 32 _ (DInv_init _ w))))))

theorem u16CLZ_safe_spec (w : BitVec 16) : u16CLZ_safe w = clzSpec w := by
  have hle : clzSpec w ≤ 16 := fi_le 16 _
  unfold u16CLZ_safe
  simp only
  rw [not_smear_eq_hiMask w _ (smear_step w _ 8 (smear_step w _ 4 (smear_step w _ 2 (smear_step w _ 1 (smear_init w))))),
    u16Weight_hiMask _ (by omega)]

theorem u16CLZ_fast_spec (w : BitVec 16) : u16CLZ_fast w = clzSpec w := by
  unfold u16CLZ_fast
  simp only [clzStep_eq, clzRet_eq]
  exact dRet_eq _ w (by decide) _ (dStep_inv _ w 2 _ (dStep_inv _ w 4 _ (dStep_inv _ w 8 _ (DInv_init _ w))))

theorem u32CLZ_safe_spec (w : BitVec 32) : u32CLZ_safe w = clzSpec w := by
  have hle : clzSpec w ≤ 32 := fi_le 32 _
  unfold u32CLZ_safe
  simp only
  rw [not_smear_eq_hiMask w _ (smear_step w _ 16 (smear_step w _ 8 (smear_step w _ 4 (smear_step w _ 2
      (smear_step w _ 1 (smear_init w)))))),
    u32Weight_hiMask _ (by omega)]

theorem u32CLZ_fast_spec (w : BitVec 32) : u32CLZ_fast w = clzSpec w := by
  unfold u32CLZ_fast
  simp only [clzStep_eq, clzRet_eq]
  exact dRet_eq _ w (by decide) _ (dStep_inv _ w 2 _ (dStep_inv _ w 4 _ (dStep_inv _ w 8 _
    (dStep_inv _ w 16 _ (DInv_init _ w)))))

theorem u64CLZ_safe_spec (w : BitVec 64) : u64CLZ_safe w = clzSpec w := by
  have hle : clzSpec w ≤ 64 := fi_le 64 _
  unfold u64CLZ_safe
  simp only
  rw [not_smear_eq_hiMask w _ (smear_step w _ 32 (smear_step w _ 16 (smear_step w _ 8 (smear_step w _ 4
      (smear_step w _ 2 (smear_step w _ 1 (smear_init w))))))),
    u64Weight_hiMask _ (by omega)]

theorem u64CLZ_fast_spec (w : BitVec 64) : u64CLZ_fast w = clzSpec w := by
  unfold u64CLZ_fast
  simp only [clzStep_eq, clzRet_eq]
  exact dRet_eq _ w (by decide) _ (dStep_inv _ w 2 _ (dStep_inv _ w 4 _ (dStep_inv _ w 8 _
    (dStep_inv _ w 16 _ (dStep_inv _ w 32 _ (DInv_init _ w))))))

/-- the spec really counts zeros: below `ctzSpec x` all bits are clear, the bit at it is set -/
theorem ctzSpec_char {n : Nat} (x : BitVec n) :
    ctzSpec x ≤ n ∧ (∀ j < ctzSpec x, x.getLsbD j = false) ∧ (ctzSpec x < n → x.getLsbD (ctzSpec x) = true) :=
  ⟨fi_le n _, fun j hj => fi_low n (fun i => x.getLsbD i) j hj, fun h => fi_bit n (fun i => x.getLsbD i) h⟩

theorem clzSpec_char {n : Nat} (x : BitVec n) :
    clzSpec x ≤ n ∧ (∀ j < clzSpec x, x.getMsbD j = false) ∧ (clzSpec x < n → x.getMsbD (clzSpec x) = true) :=
  ⟨fi_le n _, fun j hj => fi_low n (fun i => x.getMsbD i) j hj, fun h => fi_bit n (fun i => x.getMsbD i) h⟩

example : u16CTZ_safe 0x0500 = 8 ∧ u16CTZ_fast 0x0500 = 8 ∧ u16CLZ_safe 0x0500 = 5 ∧ u16CLZ_fast 0x0500 = 5
    ∧ u16CTZ_safe 0 = 16 ∧ u16CLZ_fast 0 = 16 := by decide
example : u32CTZ_safe 0x00050000 = 16 ∧ u32CTZ_fast 0x00050000 = 16 ∧ u32CLZ_safe 0x00050000 = 13
    ∧ u32CLZ_fast 0x00050000 = 13 ∧ u32CTZ_fast 0 = 32 ∧ u32CLZ_safe 0 = 32 := by decide
example : u64CTZ_safe 0x0000050000000000 = 40 ∧ u64CTZ_fast 0x0000050000000000 = 40
    ∧ u64CLZ_safe 0x0000050000000000 = 21 ∧ u64CLZ_fast 0x0000050000000000 = 21
    ∧ u64CTZ_safe 0 = 64 ∧ u64CLZ_fast 0 = 64 := by decide
example : ctzSpec (0x0500 : BitVec 16) = 8 ∧ clzSpec (0x0500 : BitVec 16) = 5 := by decide

end UNN

end Bee2V.C14
