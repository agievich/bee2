/-
C14 — regularity of the SAFE routines and of the verification paths.  Property theorems only.

`Bee2V.Gen.C14IR.prog` is REGENERATED from the C sources on every run (xlate/x_c14_ir.py): the
bodies of all 33 `SAFE(f)` routines, of the helpers they call (zzSubAndW, zzAddAndW, zzAddW2,
zzSubW2, zzAddMulW, zzMul, zzSub, zzSub2, zzSubW, uNNWeight, hexToO, ...), of
belt{MAC,DWP,CHE,Hash,HMAC}StepV[2], bashHashStepV and of beltKWPUnwrap.

* `checker_sound` — the information-flow checker `ctProg` is sound for the trace semantics of
  the IR (proved once, for every program, in IRSound.lean): accepted ⇒ the sequence of branch
  outcomes, loop-exit tests and load/store addresses of every function is the same for any two
  inputs that agree on lengths / pointers (the public variables) and on public memory.
* `prog_regular` — the program regenerated from the current source is accepted (kernel
  evaluation of the checker; the per-routine obligations are in Gen/C14Obl.lean).
* `safe_routines_trace_independent` — the conclusion for every translated function.

Secret = every word/octet operand passed by value, all memory reached through any pointer
(operands, moduli, tags, keys, states), except the hex string of hexEq/hexEqRev and constant tables.
Public = pointers, size_t lengths, and what the checker can derive from them (loop counters).
-/
import Bee2V.C14.IRSound
import Bee2V.Gen.C14IR
import Bee2V.Gen.C14IR32
import Bee2V.Gen.C14Obl
import Bee2V.Gen.C14Obl32
import Bee2V.Gen.C14OblPrim

namespace Bee2V.C14
open Bee2V.C14.IR Bee2V.Gen.C14IR

/-- Soundness of the checker, for every program and both observation models
(`strict = true`: branches and addresses; `strict = false`: branches only). -/
theorem checker_sound (P : Prog) (strict : Bool) (hP : ctProg P strict = true)
    (fn : Fun) (hfn : fn ∈ P.funs) (fuel : Nat) (e1 e2 : Env) (h : LowEq fn e1 e2) :
    (exec P strict fuel fn.body e1).2 = (exec P strict fuel fn.body e2).2 :=
  fun_trace_ni P strict hP fn hfn fuel e1 e2 h

/-- The program extracted from the current C source passes the checker in the
address-observing semantics (every branch condition and every load/store address is public;
no call of an external routine outside the allow-list). -/
theorem prog_regular : ctProg prog true = true := Obl.ct_prog

/-- Every translated routine (all SAFE routines, their helpers, the Verify steps, the header
check of beltKWPUnwrap up to the consumption of the verdict): the observation trace does not
depend on secret data. -/
theorem safe_routines_trace_independent (fn : Fun) (hfn : fn ∈ prog.funs) (fuel : Nat)
    (e1 e2 : Env) (h : LowEq fn e1 e2) :
    (exec prog true fuel fn.body e1).2 = (exec prog true fuel fn.body e2).2 :=
  checker_sound prog true prog_regular fn hfn fuel e1 e2 h

/-- The same for the 32-bit-word configuration (`B_PER_W = 32`, `-U__SIZEOF_INT128__`: the
`#if B_PER_W` branches, `dword = u64`), extracted into `Gen.C14IR32`. -/
theorem prog32_regular : ctProg Bee2V.Gen.C14IR32.prog true = true := Obl32.ct_prog

theorem safe_routines_trace_independent_w32 (fn : Fun) (hfn : fn ∈ Bee2V.Gen.C14IR32.prog.funs) (fuel : Nat)
    (e1 e2 : Env) (h : LowEq fn e1 e2) :
    (exec Bee2V.Gen.C14IR32.prog true fuel fn.body e1).2 = (exec Bee2V.Gen.C14IR32.prog true fuel fn.body e2).2 :=
  checker_sound _ true prog32_regular fn hfn fuel e1 e2 h

theorem roots_translated_w32 :
    Bee2V.Gen.C14IR32.roots.all (fun r => Bee2V.Gen.C14IR32.names.any (fun n => n.1 == r)) = true := by decide +kernel

/-- Block primitives (beltBlockEncr/Decr[2,3], beltCompr[2], beltPolyMul with ppMul1/2/4 and ppRedBelt,
beltBlockMulC, bashF with bashF0), re-extracted into `Gen.C14Prim`: accepted by the checker in the
BRANCHES-ONLY observation model (`strict = false`; table look-ups `H[x]` indexed by secret octets are
outside the model, as safe.h says; every `if`, loop test, `&&`, `||`, `?:` is inside).  Kernel evaluation of the
checker in Gen/C14OblPrim.lean (per routine and for the whole program). -/
theorem primitives_regular : ctProg Bee2V.Gen.C14Prim.prog false = true := Bee2V.C14.OblPrim.ct_prog

/-- the executed branches of every block primitive do not depend on key, block or state contents -/
theorem block_primitives_branch_independent (fn : Fun) (hfn : fn ∈ Bee2V.Gen.C14Prim.prog.funs) (fuel : Nat)
    (e1 e2 : Env) (h : LowEq fn e1 e2) :
    (exec Bee2V.Gen.C14Prim.prog false fuel fn.body e1).2 = (exec Bee2V.Gen.C14Prim.prog false fuel fn.body e2).2 :=
  checker_sound _ false primitives_regular fn hfn fuel e1 e2 h

/-- Every routine that the source defines as `SAFE(f)` (found by scanning the source text) and
every verification path has a translated body in `prog`. -/
theorem roots_translated : roots.all (fun r => names.any (fun n => n.1 == r)) = true := by decide +kernel

theorem safe_routines_are_roots : safeRoutines.all (fun r => roots.contains r) = true := by decide +kernel

/-- the checker is not vacuous: it rejects an early-exit comparison
`for (i = 0; i < n; ++i) if (a[i] != b[i]) return 0; return 1`
(variables 0=a 1=b 2=n public, 3=i) -/
theorem checker_rejects_early_exit : ctProg exEarlyExit true = false := by decide

/-- ... and a call of an external routine that is not on the allow-list (e.g. libc memcmp) -/
theorem checker_rejects_unknown_callee : ctProg exUnknownCallee true = false := by decide

/-! non-vacuity: two environments that differ in the secret memory and in a secret variable
are low-equivalent for memEq (index 0 of `prog`), and memEq is a member of `prog` -/
example : prog.funs[0]? = some f_memEq := rfl

example : LowEq f_memEq
    { vars := wr (wr (wr ∅ 0 4096) 1 8192) 2 16, sec := wr ∅ 4096 1, pub := ∅, st := 0, rv := 0, ora := [] }
    { vars := wr (wr (wr (wr ∅ 0 4096) 1 8192) 2 16) 3 77, sec := wr ∅ 4096 200, pub := ∅, st := 0, rv := 0, ora := [] } := by
  refine ⟨?_, fun _ => rfl, rfl, fun _ => rfl, rfl⟩
  intro x hx
  have : x = 0 ∨ x = 1 ∨ x = 2 ∨ x = 4 := by
    simp [Fun.L, f_memEq] at hx
    omega
  rcases this with h | h | h | h <;> subst h <;> simp [rd_wr, rd_empty]

end Bee2V.C14
