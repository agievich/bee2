/-
C14 — comparison family, lemmas for ww.c: word strings as numbers, the equality-type loops
(wwEq, wwIsZero, wwIsW, wwIsRepW), the (less, greater) accumulator of the SAFE three-way
comparisons, wwCmp, wwCmp2, wwCmpW.

Every SAFE equality loop ORs differences into an accumulator (`BitVec.or_eq_zero_iff` per step);
every FAST one leaves at the first difference (`exit_iff` per step).
-/
import Bee2V.C14.ModelCmp
namespace Bee2V.C14.Cmp

theorem bool_eq_decide {b : Bool} {p : Prop} [Decidable p] (h : b = true ↔ p) : b = decide p := by
  cases b <;> simp_all

/-- one pass of an early-exit loop: `if (x != y) return FALSE; <rest>` -/
theorem exit_eq {α : Type _} [DecidableEq α] (x y : α) (r : Bool) :
    (if x ≠ y then false else r) = (x == y && r) := by
  by_cases h : x = y <;> simp [h]

theorem exit_iff {α : Type _} [DecidableEq α] (x y : α) (r : Bool) :
    (if x ≠ y then false else r) = true ↔ x = y ∧ r = true := by
  rw [exit_eq, Bool.and_eq_true, beq_iff_eq]

theorem forall_lt_succ {P : Nat → Prop} (n : Nat) : (∀ i < n + 1, P i) ↔ P n ∧ ∀ i < n, P i :=
  Nat.forall_lt_succ_right.trans and_comm

theorem getD_eq_getElem {α} (a : List α) (d : α) {i : Nat} (h : i < a.length) : a.getD i d = a[i] := by
  simp [List.getD_eq_getElem?_getD, h]

theorem getD_drop {α} (a : List α) (k i : Nat) (d : α) : (a.drop k).getD i d = a.getD (k + i) d := by
  simp [List.getD_eq_getElem?_getD, List.getElem?_drop]

theorem forall_getD_iff_mem {α} (d : α) (P : α → Prop) (a : List α) (n : Nat) (ha : a.length = n) :
    (∀ i < n, P (a.getD i d)) ↔ ∀ x ∈ a, P x := by
  subst ha
  rw [List.forall_mem_iff_forall_getElem]
  exact forall_congr' fun i => forall_congr' fun hi => by rw [getD_eq_getElem a d hi]

theorem list_eq_iff_getD {α} (d : α) (a b : List α) (n : Nat) (ha : a.length = n) (hb : b.length = n) :
    a = b ↔ ∀ i < n, a.getD i d = b.getD i d := by
  refine ⟨fun h _ _ => by rw [h], fun h => List.ext_getElem (by omega) fun i h1 h2 => ?_⟩
  rw [← getD_eq_getElem a d h1, ← getD_eq_getElem b d h2]
  exact h i (by omega)

variable {w : Nat}

/- the core lemmas are stated for the literal `0#w` -/
theorem or_eq_zero (x y : BitVec w) : x ||| y = 0 ↔ x = 0 ∧ y = 0 := BitVec.or_eq_zero_iff
theorem xor_eq_zero (x y : BitVec w) : x ^^^ y = 0 ↔ x = y := BitVec.xor_eq_zero_iff

/-! ### wwEq, wwIsZero -/

theorem wwEq_safe_loop_zero (a b : List (BitVec w)) (n : Nat) (diff : BitVec w) :
    wwEq_safe.loop a b n diff = 0 ↔ diff = 0 ∧ ∀ i < n, a.getD i 0 = b.getD i 0 := by
  induction n generalizing diff with
  | zero => simp [wwEq_safe.loop]
  | succ n ih =>
    rw [wwEq_safe.loop, ih, or_eq_zero, xor_eq_zero, forall_lt_succ, and_assoc]

theorem wwEq_fast_iff (a b : List (BitVec w)) (n : Nat) :
    wwEq_fast a b n = true ↔ ∀ i < n, a.getD i 0 = b.getD i 0 := by
  induction n with
  | zero => simp [wwEq_fast]
  | succ n ih => rw [wwEq_fast, exit_iff, ih, forall_lt_succ]

theorem wwIsZero_safe_loop_zero (a : List (BitVec w)) (n : Nat) (diff : BitVec w) :
    wwIsZero_safe.loop a n diff = 0 ↔ diff = 0 ∧ ∀ i < n, a.getD i 0 = 0 := by
  induction n generalizing diff with
  | zero => simp [wwIsZero_safe.loop]
  | succ n ih => rw [wwIsZero_safe.loop, ih, or_eq_zero, forall_lt_succ, and_assoc]

theorem wwIsZero_fast_iff (a : List (BitVec w)) (n : Nat) :
    wwIsZero_fast a n = true ↔ ∀ i < n, a.getD i 0 = 0 := by
  induction n with
  | zero => simp [wwIsZero_fast]
  | succ n ih => rw [wwIsZero_fast, exit_iff, ih, forall_lt_succ]

theorem wwIsZero_safe_eq_fast (a : List (BitVec w)) (n : Nat) :
    wwIsZero_safe a n = wwIsZero_fast a n := by
  rw [Bool.eq_iff_iff, wwIsZero_fast_iff, wwIsZero_safe, beq_iff_eq, wwIsZero_safe_loop_zero]
  exact and_iff_right rfl

theorem wwIsZero_fast_iff_mem (a : List (BitVec w)) (n : Nat) (ha : a.length = n) :
    wwIsZero_fast a n = true ↔ ∀ x ∈ a, x = 0 := by
  rw [wwIsZero_fast_iff, forall_getD_iff_mem 0 (fun x => x = 0) a n ha]

/-! ### the number of a word string -/

theorem wwNat_append (a b : List (BitVec w)) :
    wwNat (a ++ b) = wwNat a + 2 ^ (w * a.length) * wwNat b := by
  induction a with
  | nil => simp [wwNat]
  | cons x a ih =>
    simp only [List.cons_append, wwNat, ih, List.length_cons, Nat.mul_add, Nat.mul_one, Nat.pow_add]
    ac_rfl

theorem wwNat_lt (a : List (BitVec w)) : wwNat a < 2 ^ (w * a.length) := by
  induction a with
  | nil => simp [wwNat]
  | cons x a ih =>
    have : 2 ^ w * (wwNat a + 1) ≤ 2 ^ w * 2 ^ (w * a.length) := Nat.mul_le_mul_left _ ih
    rw [Nat.mul_add] at this
    rw [wwNat, List.length_cons, Nat.mul_add, Nat.mul_one, Nat.pow_add, Nat.mul_comm (2 ^ (w * a.length))]
    have := x.isLt
    omega

theorem wwNat_eq_zero (a : List (BitVec w)) : wwNat a = 0 ↔ ∀ x ∈ a, x = 0 := by
  induction a with
  | nil => simp [wwNat]
  | cons x a ih =>
    rw [wwNat, Nat.add_eq_zero_iff, Nat.mul_eq_zero, ih, List.forall_mem_cons, ← BitVec.toNat_inj]
    simp

theorem wwIsZero_fast_iff_wwNat (a : List (BitVec w)) : wwIsZero_fast a a.length = true ↔ wwNat a = 0 := by
  rw [wwIsZero_fast_iff_mem a _ rfl, wwNat_eq_zero]

theorem wwNat_take_succ (a : List (BitVec w)) (n : Nat) (hn : n < a.length) :
    wwNat (a.take (n + 1)) = wwNat (a.take n) + 2 ^ (w * n) * (a.getD n 0).toNat := by
  rw [List.take_add_one, wwNat_append, getD_eq_getElem a 0 hn]
  simp [List.getElem?_eq_getElem hn, wwNat, Nat.min_eq_left (Nat.le_of_lt hn)]

theorem nil_eq_word (x : BitVec w) : (x == 0) = true ↔ wwNat ([] : List (BitVec w)) = x.toNat := by
  rw [beq_iff_eq, ← BitVec.toNat_inj, eq_comm]; rfl

/-- `wwNat a = x` for a single word `x` -/
theorem wwNat_cons_eq_word (y x : BitVec w) (t : List (BitVec w)) :
    wwNat (y :: t) = x.toNat ↔ y = x ∧ ∀ z ∈ t, z = 0 := by
  rw [← wwNat_eq_zero, wwNat, ← BitVec.toNat_inj]
  constructor
  · intro h
    have : wwNat t = 0 := by
      rcases Nat.eq_zero_or_pos (wwNat t) with h0 | hpos
      · exact h0
      · have := Nat.mul_le_mul_left (2 ^ w) hpos
        have := x.isLt
        omega
    rw [this] at h
    exact ⟨by omega, this⟩
  · rintro ⟨h1, h2⟩; rw [h1, h2]; rfl

/-! ### wwIsW, wwIsRepW: the loops run over the words 1 .. n-1 -/

theorem getD_tail_iff (y x : BitVec w) (t : List (BitVec w)) :
    (∀ i < t.length, (y :: t).getD (i + 1) 0 = x) ↔ ∀ z ∈ t, z = x := by
  simp only [List.getD_cons_succ]
  exact forall_getD_iff_mem 0 (fun z => z = x) t _ rfl

theorem wwIsRepW_safe_loop_iff (a : List (BitVec w)) (x : BitVec w) (m : Nat) (ret : Bool) :
    wwIsRepW_safe.loop a x (m + 1) ret = true ↔ ret = true ∧ ∀ i < m, a.getD (i + 1) 0 = x := by
  induction m generalizing ret with
  | zero => simp [wwIsRepW_safe.loop]
  | succ m ih =>
    rw [wwIsRepW_safe.loop, if_pos (Nat.succ_ne_zero m), ih, forall_lt_succ, Bool.and_eq_true,
      beq_iff_eq, and_assoc]

theorem wwIsW_safe_loop_eq (a : List (BitVec w)) (n : Nat) (ret : Bool) :
    wwIsW_safe.loop a n ret = wwIsRepW_safe.loop a 0 n ret := by
  induction n generalizing ret with
  | zero => rfl
  | succ n ih => rw [wwIsW_safe.loop, wwIsRepW_safe.loop, ih]

theorem wwIsW_fast_loop_iff (a : List (BitVec w)) (m : Nat) (ret : Bool) :
    wwIsW_fast.loop a (m + 1) ret = true ↔ ret = true ∧ ∀ i < m, a.getD (i + 1) 0 = 0 := by
  induction m generalizing ret with
  | zero => simp [wwIsW_fast.loop]
  | succ m ih =>
    rw [wwIsW_fast.loop]
    cases ret
    · simp
    · rw [if_pos (by simp), ih, forall_lt_succ, beq_iff_eq]; simp

theorem wwIsRepW_fast_loop_iff (a : List (BitVec w)) (x : BitVec w) (m : Nat) :
    wwIsRepW_fast.loop a x (m + 1) = true ↔ ∀ i < m + 1, a.getD i 0 = x := by
  induction m with
  | zero => simp [wwIsRepW_fast.loop]
  | succ m ih =>
    rw [wwIsRepW_fast.loop, forall_lt_succ, ← ih]
    simp

theorem wwIsW_safe_iff (a : List (BitVec w)) (n : Nat) (x : BitVec w) (ha : a.length = n) :
    wwIsW_safe a n x = true ↔ wwNat a = x.toNat := by
  subst ha
  cases a with
  | nil => exact nil_eq_word x
  | cons y t =>
    rw [wwIsW_safe, List.length_cons, if_neg (Nat.succ_ne_zero _), wwIsW_safe_loop_eq,
      wwIsRepW_safe_loop_iff, getD_tail_iff, wwNat_cons_eq_word, beq_iff_eq]
    rfl

theorem wwIsW_fast_iff (a : List (BitVec w)) (n : Nat) (x : BitVec w) (ha : a.length = n) :
    wwIsW_fast a n x = true ↔ wwNat a = x.toNat := by
  subst ha
  cases a with
  | nil => exact nil_eq_word x
  | cons y t =>
    rw [wwIsW_fast, List.length_cons, if_neg (Nat.succ_ne_zero _), wwIsW_fast_loop_iff, getD_tail_iff,
      wwNat_cons_eq_word, beq_iff_eq]
    rfl

theorem wwIsRepW_safe_iff (a : List (BitVec w)) (n : Nat) (x : BitVec w) (ha : a.length = n) (hn : n ≠ 0) :
    wwIsRepW_safe a n x = true ↔ ∀ y ∈ a, y = x := by
  subst ha
  cases a with
  | nil => exact absurd rfl hn
  | cons y t =>
    rw [wwIsRepW_safe, if_neg hn, List.length_cons, wwIsRepW_safe_loop_iff, getD_tail_iff, beq_iff_eq,
      List.forall_mem_cons]
    rfl

theorem wwIsRepW_fast_iff (a : List (BitVec w)) (n : Nat) (x : BitVec w) (ha : a.length = n) (hn : n ≠ 0) :
    wwIsRepW_fast a n x = true ↔ ∀ y ∈ a, y = x := by
  obtain ⟨m, rfl⟩ := Nat.exists_eq_succ_of_ne_zero hn
  rw [wwIsRepW_fast, if_neg hn, wwIsRepW_fast_loop_iff, forall_getD_iff_mem 0 (fun y => y = x) a _ ha]

/-! ### three-way comparison of numbers given by digits -/

def Sign (c : Int) : Prop := c = -1 ∨ c = 0 ∨ c = 1

/-- the comparison of the more significant parts decides unless it is 0 -/
def lex (c d : Int) : Int := if c = 0 then d else c

theorem lex_zero_left (d : Int) : lex 0 d = d := rfl
theorem lex_zero_right (c : Int) : lex c 0 = c := by unfold lex; split <;> simp [*]
theorem lex_assoc (c d e : Int) : lex (lex c d) e = lex c (lex d e) := by
  unfold lex; by_cases h : c = 0 <;> simp [h]
theorem lex_sign {c d : Int} (hc : Sign c) (hd : Sign d) : Sign (lex c d) := by
  unfold lex; split <;> assumption

theorem cmp3_sign (x y : Nat) : Sign (cmp3 x y) := by
  unfold cmp3 Sign; split
  · simp
  · split <;> simp

theorem cmp3_eq_zero_iff (x y : Nat) : cmp3 x y = 0 ↔ x = y := by
  unfold cmp3; split
  · simp; omega
  · split <;> simp <;> omega

/-- the top digits decide unless they are equal -/
theorem cmp3_top (A B x y M : Nat) (hA : A < M) (hB : B < M) :
    cmp3 (A + M * x) (B + M * y) = lex (cmp3 x y) (cmp3 A B) := by
  rcases Nat.lt_trichotomy x y with h | rfl | h
  · have := Nat.mul_le_mul_left M h
    rw [Nat.mul_succ] at this
    rw [cmp3, cmp3, if_pos (by omega), if_pos h]; rfl
  · simp [cmp3, lex]
  · have := Nat.mul_le_mul_left M h
    rw [Nat.mul_succ] at this
    rw [cmp3, cmp3, if_neg (by omega), if_pos (by omega), if_neg (by omega), if_pos h]; rfl

theorem ult_asymm (x y : BitVec w) : ¬(x.ult y = true ∧ y.ult x = true) := by
  simp only [BitVec.ult_iff_lt, BitVec.lt_def]; omega

theorem cmp3_toNat (x y : BitVec w) :
    cmp3 x.toNat y.toNat = if x.ult y then -1 else if y.ult x then 1 else 0 := by
  simp [cmp3, BitVec.ult_iff_lt, BitVec.lt_def]

/-- the FAST editions test `>` first -/
theorem ult_lex (x y : BitVec w) (r : Int) :
    (if y.ult x then 1 else if x.ult y then -1 else r) = lex (cmp3 x.toNat y.toNat) r := by
  have := ult_asymm x y
  rw [cmp3_toNat]
  cases h1 : y.ult x <;> cases h2 : x.ult y <;> simp_all [lex]

/-- high words `hi` on top of `lo`, against a number that fits into `lo`'s length -/
theorem cmp3_append (lo hi : List (BitVec w)) (B : Nat) (hB : B < 2 ^ (w * lo.length)) :
    cmp3 (wwNat (lo ++ hi)) B = (if wwIsZero_fast hi hi.length then cmp3 (wwNat lo) B else 1) ∧
    cmp3 B (wwNat (lo ++ hi)) = (if wwIsZero_fast hi hi.length then cmp3 B (wwNat lo) else -1) := by
  rw [wwNat_append]
  by_cases hz : wwIsZero_fast hi hi.length = true
  · simp [hz, (wwIsZero_fast_iff_wwNat hi).mp hz]
  · have hpos : 0 < wwNat hi := Nat.pos_of_ne_zero (mt (wwIsZero_fast_iff_wwNat hi).mpr hz)
    have := Nat.mul_le_mul_left (2 ^ (w * lo.length)) hpos
    rw [if_neg hz, if_neg hz, cmp3, cmp3, if_neg (by omega), if_pos (by omega), if_pos (by omega)]
    exact ⟨rfl, rfl⟩

/-! ### the (less, greater) accumulator of the SAFE comparisons holds a comparison result -/

def enc (c : Int) : BitVec w × BitVec w := (b2w (c == -1), b2w (c == 1))

theorem enc_zero : (enc 0 : BitVec w × BitVec w) = (0, 0) := by simp [enc, b2w]

/-- one step `less |= ~greater & (x < y); greater |= ~less & (y < x)` -/
theorem lgStep_cmp3 (c : Int) (hc : Sign c) (x y : BitVec w) :
    lgStep (enc c).1 (enc c).2 (x.ult y) (y.ult x) = (enc (lex c (cmp3 x.toNat y.toNat)) : BitVec w × BitVec w) := by
  have := ult_asymm x y
  rw [cmp3_toNat]
  rcases hc with rfl | rfl | rfl <;> cases h1 : x.ult y <;> cases h2 : y.ult x <;>
    simp_all [lgStep, enc, b2w, lex, BitVec.not_and_self]

theorem toInt_ofInt_sign (c : Int) (hc : Sign c) : (BitVec.ofInt 32 c).toInt = c := by
  rcases hc with rfl | rfl | rfl <;> decide

/-- `(wordEq(less, 0) - 1) | wordNeq(greater, 0)` as C `int` -/
theorem lgInt_enc (hw : 0 < w) (c : Int) (hc : Sign c) :
    (b2i ((enc c : BitVec w × BitVec w).1 == 0) - 1) ||| b2i ((enc c : BitVec w × BitVec w).2 != 0)
      = BitVec.ofInt 32 c := by
  have h1 : w ≠ 0 := by omega
  rcases hc with rfl | rfl | rfl <;> simp [enc, b2w, b2i, h1] <;> decide

theorem lgRet_enc (hw : 0 < w) (c : Int) (hc : Sign c) :
    lgRet (enc c : BitVec w × BitVec w).1 (enc c).2 = c := by
  rw [lgRet, lgInt_enc hw c hc, toInt_ofInt_sign c hc]

/-! ### wwCmp -/

theorem wwCmp_fast_succ (a b : List (BitVec w)) (n : Nat) :
    wwCmp_fast a b (n + 1) = lex (cmp3 (a.getD n 0).toNat (b.getD n 0).toNat) (wwCmp_fast a b n) := by
  rw [wwCmp_fast, ult_lex]

theorem wwCmp_fast_sign (a b : List (BitVec w)) (n : Nat) : Sign (wwCmp_fast a b n) := by
  induction n with
  | zero => exact Or.inr (Or.inl rfl)
  | succ n ih => rw [wwCmp_fast_succ]; exact lex_sign (cmp3_sign _ _) ih

theorem wwCmp_safe_loop_enc (a b : List (BitVec w)) (n : Nat) (c : Int) (hc : Sign c) :
    wwCmp_safe.loop a b n (enc c).1 (enc c).2 = enc (lex c (wwCmp_fast a b n)) := by
  induction n generalizing c with
  | zero => rw [wwCmp_safe.loop, wwCmp_fast, lex_zero_right]
  | succ n ih =>
    rw [wwCmp_safe.loop, lgStep_cmp3 c hc, ih _ (lex_sign hc (cmp3_sign _ _)), lex_assoc, wwCmp_fast_succ]

theorem wwCmp_safe_int_eq (hw : 0 < w) (a b : List (BitVec w)) (n : Nat) :
    wwCmp_safe.int a b n = BitVec.ofInt 32 (wwCmp_fast a b n) := by
  have h := wwCmp_safe_loop_enc a b n 0 (Or.inr (Or.inl rfl))
  rw [enc_zero] at h
  rw [wwCmp_safe.int, h]
  exact lgInt_enc hw _ (wwCmp_fast_sign a b n)

theorem wwCmp_safe_eq_fast (hw : 0 < w) (a b : List (BitVec w)) (n : Nat) :
    wwCmp_safe a b n = wwCmp_fast a b n := by
  rw [wwCmp_safe, wwCmp_safe_int_eq hw, toInt_ofInt_sign _ (wwCmp_fast_sign a b n)]

theorem wwCmp_fast_eq_take (a b : List (BitVec w)) (n : Nat) (ha : n ≤ a.length) (hb : n ≤ b.length) :
    wwCmp_fast a b n = cmp3 (wwNat (a.take n)) (wwNat (b.take n)) := by
  induction n with
  | zero => rfl
  | succ n ih =>
    rw [wwCmp_fast_succ, wwNat_take_succ a n (by omega), wwNat_take_succ b n (by omega), cmp3_top,
      ih (by omega) (by omega)]
    · simpa [Nat.min_eq_left (show n ≤ a.length by omega)] using wwNat_lt (a.take n)
    · simpa [Nat.min_eq_left (show n ≤ b.length by omega)] using wwNat_lt (b.take n)

theorem wwCmp_fast_eq (a b : List (BitVec w)) (n : Nat) (ha : a.length = n) (hb : b.length = n) :
    wwCmp_fast a b n = cmp3 (wwNat a) (wwNat b) := by
  rw [wwCmp_fast_eq_take a b n (by omega) (by omega), List.take_of_length_le (by omega),
    List.take_of_length_le (by omega)]

/-! ### wwCmp2, wwCmpW: the SAFE editions select by masks `-z`, `z - 1` in int arithmetic -/

theorem mask_pos (zb : Bool) (c : Int) (hc : Sign c) :
    ((-(b2i zb) &&& BitVec.ofInt 32 c) ||| ((b2i zb - 1) &&& 1)).toInt = if zb then c else 1 := by
  rcases hc with rfl | rfl | rfl <;> cases zb <;> decide

theorem mask_neg (zb : Bool) (c : Int) (hc : Sign c) :
    ((-(b2i zb) &&& BitVec.ofInt 32 c) ||| ((b2i zb - 1) &&& -1)).toInt = if zb then c else -1 := by
  rcases hc with rfl | rfl | rfl <;> cases zb <;> decide

theorem wwCmp2_safe_eq_fast (hw : 0 < w) (a b : List (BitVec w)) (n m : Nat) :
    wwCmp2_safe a n b m = wwCmp2_fast a n b m := by
  unfold wwCmp2_safe wwCmp2_fast
  simp only [wwCmp_safe_int_eq hw, wwIsZero_safe_eq_fast]
  split
  · exact mask_pos _ _ (wwCmp_fast_sign a b m)
  · split
    · exact mask_neg _ _ (wwCmp_fast_sign a b n)
    · rw [toInt_ofInt_sign _ (wwCmp_fast_sign a b n), show n = m by omega]

theorem wwCmp2_fast_eq (a b : List (BitVec w)) (n m : Nat) (ha : a.length = n) (hb : b.length = m) :
    wwCmp2_fast a n b m = cmp3 (wwNat a) (wwNat b) := by
  subst ha hb
  unfold wwCmp2_fast
  split
  · have h := (cmp3_append (a.take b.length) (a.drop b.length) (wwNat b)
      (by simpa [Nat.min_eq_left (show b.length ≤ a.length by omega)] using wwNat_lt b)).1
    rw [List.take_append_drop, List.length_drop] at h
    rw [h, wwCmp_fast_eq_take a b _ (by omega) (Nat.le_refl _), List.take_length]
  · split
    · have h := (cmp3_append (b.take a.length) (b.drop a.length) (wwNat a)
        (by simpa [Nat.min_eq_left (show a.length ≤ b.length by omega)] using wwNat_lt a)).2
      rw [List.take_append_drop, List.length_drop] at h
      rw [h, wwCmp_fast_eq_take a b _ (Nat.le_refl _) (by omega), List.take_length]
    · exact wwCmp_fast_eq a b _ (by omega) rfl

theorem cmpw_int (x y : BitVec w) :
    ((-b2i (x.ult y) &&& -1) ||| (-b2i (y.ult x) &&& 1) : CInt) = BitVec.ofInt 32 (cmp3 x.toNat y.toNat) := by
  have := ult_asymm x y
  rw [cmp3_toNat]
  cases h1 : x.ult y <;> cases h2 : y.ult x <;> first | decide | simp_all

theorem nil_cmp_word (x : BitVec w) :
    cmp3 (wwNat ([] : List (BitVec w))) x.toNat = if x = 0 then 0 else -1 := by
  rw [wwNat, cmp3]
  by_cases hx : x = 0
  · subst hx; rfl
  · have : x.toNat ≠ 0 := fun h => hx (BitVec.eq_of_toNat_eq h)
    rw [if_neg hx, if_pos (by omega)]

/-- number against a single word: the words above the lowest decide unless they are all zero -/
theorem cons_cmp_word (y x : BitVec w) (t : List (BitVec w)) :
    cmp3 (wwNat (y :: t)) x.toNat = if wwIsZero_fast t t.length then cmp3 y.toNat x.toNat else 1 := by
  have := (cmp3_append [y] t x.toNat (by simpa using x.isLt)).1
  simpa [wwNat] using this

theorem wwCmpW_safe_eq (a : List (BitVec w)) (n : Nat) (x : BitVec w) (ha : a.length = n) :
    wwCmpW_safe a n x = cmp3 (wwNat a) x.toNat := by
  subst ha
  unfold wwCmpW_safe
  cases a with
  | nil =>
    rw [nil_cmp_word, List.length_nil, if_pos rfl]
    by_cases hx : x = 0
    · rw [if_pos hx, beq_iff_eq.mpr hx]; decide
    · rw [if_neg hx, beq_false_of_ne hx]; decide
  | cons y t =>
    rw [List.length_cons, if_neg (Nat.succ_ne_zero _), List.getD_cons_zero, cmpw_int, mask_pos _ _ (cmp3_sign _ _),
      cons_cmp_word, wwIsZero_safe_eq_fast]
    rfl

/-- `cmp` is 0 until the first nonzero word among `a[n-1], …, a[1]` -/
theorem wwCmpW_fast_loop (y : BitVec w) (t : List (BitVec w)) (m : Nat) (b : Bool) :
    wwCmpW_fast.loop (y :: t) (m + 1) (if b then 0 else 1) = if b && wwIsZero_fast t m then 0 else 1 := by
  induction m generalizing b with
  | zero => cases b <;> rfl
  | succ m ih =>
    rw [wwCmpW_fast.loop]
    cases b
    · simp
    · rw [if_pos (by simp), List.getD_cons_succ, ih, wwIsZero_fast, exit_eq, Bool.true_and]

theorem sign_toInt (lt gt : Bool) :
    (if lt then -1 else if gt then 1 else 0 : CInt).toInt = if lt then -1 else if gt then 1 else 0 := by
  cases lt <;> cases gt <;> rfl

theorem wwCmpW_fast_eq (a : List (BitVec w)) (n : Nat) (x : BitVec w) (ha : a.length = n) :
    wwCmpW_fast a n x = cmp3 (wwNat a) x.toNat := by
  subst ha
  unfold wwCmpW_fast
  cases a with
  | nil =>
    rw [nil_cmp_word, List.length_nil, if_pos rfl]
    by_cases hx : x = 0
    · rw [if_pos hx, if_neg (fun h => h hx)]; decide
    · rw [if_neg hx, if_pos hx]; decide
  | cons y t =>
    have := wwCmpW_fast_loop y t t.length true
    rw [Bool.true_and, if_pos rfl] at this
    rw [List.length_cons, if_neg (Nat.succ_ne_zero _), this, cons_cmp_word, cmp3_toNat, List.getD_cons_zero]
    cases wwIsZero_fast t t.length
    · rfl
    · exact sign_toInt _ _

end Bee2V.C14.Cmp
