/-
C14 — comparison family, lemmas for u16.c / u32.c / u64.c.
FAST(uNNCTZ) / FAST(uNNCLZ): first-set-bit index and the dichotomy steps, generic in the width and in
the direction.  SAFE(uNNCTZ) / SAFE(uNNCLZ): the SWAR weight is only ever applied to words of the
form "top k bits set" (w | -w, resp. the complement of the smeared word), so it is evaluated on
those n+1 words only (n = 16, 32, 64); everything else is generic bit-level reasoning.
-/
import Bee2V.C14.ModelCmp
namespace Bee2V.C14.Cmp

/-- index of the first `true` of `f` below `n` (`n` if none) -/
def firstIdx (n : Nat) (f : Nat → Bool) : Nat := (List.range n).findIdx f

theorem fi_le (n : Nat) (f : Nat → Bool) : firstIdx n f ≤ n := by
  have := @List.findIdx_le_length _ f (List.range n)
  simpa [firstIdx] using this

theorem fi_low (n : Nat) (f : Nat → Bool) (j : Nat) (h : j < firstIdx n f) : f j = false := by
  have hj : j < n := Nat.lt_of_lt_of_le h (fi_le n f)
  have := @List.not_of_lt_findIdx _ f (List.range n) j h
  simpa using this

theorem fi_bit (n : Nat) (f : Nat → Bool) (h : firstIdx n f < n) : f (firstIdx n f) = true := by
  have := @List.findIdx_getElem _ f (List.range n) (by simpa [firstIdx] using h)
  simpa [firstIdx] using this

theorem fi_unique (n : Nat) (f : Nat → Bool) (k : Nat) (hk : k ≤ n) (hlow : ∀ j < k, f j = false)
    (hbit : k < n → f k = true) : firstIdx n f = k := by
  rcases Nat.lt_trichotomy (firstIdx n f) k with h | h | h
  · have h1 := fi_bit n f (by omega)
    rw [hlow _ h] at h1; cases h1
  · exact h
  · have h1 := fi_low n f k h
    have := fi_le n f
    rw [hbit (by omega)] at h1; cases h1

theorem fi_eq_n_iff (n : Nat) (f : Nat → Bool) : firstIdx n f = n ↔ ∀ i < n, f i = false := by
  constructor
  · intro h i hi; exact fi_low n f i (by omega)
  · intro h; exact fi_unique n f n (Nat.le_refl _) h (fun h => absurd h (Nat.lt_irrefl _))

/-- the bit reader after shifting by `s` towards higher indices -/
def shiftF (n s : Nat) (f : Nat → Bool) : Nat → Bool :=
  fun i => decide (i < n) && (!decide (i < s) && f (i - s))

theorem fi_shift (n s : Nat) (f : Nat → Bool) (h : ∃ i, i < n ∧ shiftF n s f i = true) :
    firstIdx n (shiftF n s f) = firstIdx n f + s := by
  obtain ⟨i, hi, hb⟩ := h
  simp only [shiftF, Bool.and_eq_true, decide_eq_true_eq, Bool.not_eq_true', decide_eq_false_iff_not] at hb
  have hc : firstIdx n f ≤ i - s := by
    apply Nat.le_of_not_lt
    intro hlt
    have := fi_low n f _ hlt
    rw [hb.2.2] at this; cases this
  apply fi_unique
  · omega
  · intro j hj
    simp only [shiftF]
    by_cases h1 : j < s
    · simp [h1]
    · have := fi_low n f (j - s) (by omega)
      simp [this]
  · intro hk
    have := fi_bit n f (by omega)
    simp only [shiftF, Nat.add_sub_cancel, this, Bool.and_true, Bool.and_eq_true, decide_eq_true_eq,
      Bool.not_eq_true', decide_eq_false_iff_not]
    omega

theorem fi_shift_none (n s : Nat) (f : Nat → Bool) (h : ∀ i, i < n → shiftF n s f i = false) :
    n - s ≤ firstIdx n f := by
  apply Nat.le_of_not_lt
  intro hlt
  have hb := fi_bit n f (by omega)
  have := h (firstIdx n f + s) (by omega)
  simp only [shiftF, Nat.add_sub_cancel, hb, Bool.and_true, Bool.and_eq_false_iff, decide_eq_false_iff_not,
    Bool.not_eq_false', decide_eq_true_eq] at this
  omega

/-- one dichotomy step on an abstract state: `c0 + (n - l) = c` is preserved, the bound improves -/
theorem step_generic (n s c0 l c c' : Nat) (hl : l ≤ n) (hinv : c0 + (n - l) = c) (hb : n - 2 * s ≤ c)
    (hc' : c' = c + s) (hlt : c' < n) :
    l - s ≤ n ∧ c0 + (n - (l - s)) = c' ∧ n - s ≤ c' := by omega

variable {n : Nat}

/-- a direction: a bit reader `r` and a shift `sh` that moves bits to higher reader indices -/
structure Dir (n : Nat) where
  r : BitVec n → Nat → Bool
  sh : BitVec n → Nat → BitVec n
  r_sh : ∀ x s i, r (sh x s) i = shiftF n s (r x) i
  zero_iff : ∀ x, x = 0 ↔ ∀ i, i < n → r x i = false

def Dir.idx (d : Dir n) (x : BitVec n) : Nat := firstIdx n (d.r x)

def dStep (d : Dir n) (s : Nat) (lw : Nat × BitVec n) : Nat × BitVec n :=
  let t := d.sh lw.2 s
  if t ≠ 0 then (lw.1 - s, t) else lw

def dRet (d : Dir n) (lw : Nat × BitVec n) : Nat :=
  if d.sh lw.2 1 ≠ 0 then lw.1 - 2 else lw.1 - (if lw.2 ≠ 0 then 1 else 0)

/-- `l` has been lowered by exactly the amount the word has been shifted, and the first set bit
of the shifted word is within `b` of the end -/
def DInv (d : Dir n) (x0 : BitVec n) (b : Nat) (st : Nat × BitVec n) : Prop :=
  st.1 ≤ n ∧ d.idx x0 + (n - st.1) = d.idx st.2 ∧ n - b ≤ d.idx st.2

theorem Dir.ne_zero_iff (d : Dir n) (x : BitVec n) : x ≠ 0 ↔ ∃ i, i < n ∧ d.r x i = true := by
  rw [Ne, d.zero_iff]
  constructor
  · intro h
    apply Classical.byContradiction
    intro hne
    apply h
    intro i hi
    cases hb : d.r x i
    · rfl
    · exact absurd ⟨i, hi, hb⟩ hne
  · rintro ⟨i, hi, hb⟩ h
    rw [h i hi] at hb; cases hb

theorem Dir.idx_lt_iff (d : Dir n) (x : BitVec n) : d.idx x < n ↔ x ≠ 0 := by
  rw [d.ne_zero_iff]
  constructor
  · intro h; exact ⟨_, h, fi_bit n _ h⟩
  · rintro ⟨i, hi, hb⟩
    apply Nat.lt_of_le_of_lt _ hi
    apply Nat.le_of_not_lt
    intro hlt
    have := fi_low n _ _ hlt
    rw [hb] at this; cases this

theorem Dir.idx_sh (d : Dir n) (x : BitVec n) (s : Nat) (h : d.sh x s ≠ 0) :
    d.idx (d.sh x s) = d.idx x + s := by
  obtain ⟨i, hi, hb⟩ := (d.ne_zero_iff _).mp h
  have e : d.r (d.sh x s) = shiftF n s (d.r x) := funext (d.r_sh x s)
  unfold Dir.idx
  rw [e]
  exact fi_shift n s _ ⟨i, hi, by rw [← e]; exact hb⟩

theorem Dir.idx_sh_zero (d : Dir n) (x : BitVec n) (s : Nat) (h : d.sh x s = 0) :
    n - s ≤ d.idx x := by
  apply fi_shift_none
  intro i hi
  rw [← d.r_sh]
  exact (d.zero_iff _).mp h i hi

theorem dStep_inv (d : Dir n) (x0 : BitVec n) (s : Nat) (st : Nat × BitVec n)
    (h : DInv d x0 (2 * s) st) : DInv d x0 s (dStep d s st) := by
  obtain ⟨l, w⟩ := st
  obtain ⟨h1, h2, h3⟩ := h
  unfold dStep
  by_cases ht : d.sh w s = 0
  · rw [if_neg (fun h => h ht)]
    exact ⟨h1, h2, d.idx_sh_zero w s ht⟩
  · rw [if_pos ht]
    exact step_generic n s _ l _ _ h1 h2 h3 (d.idx_sh w s ht) ((d.idx_lt_iff _).mpr ht)

/-- the return statement is one more step (by 1) and a last look at the word -/
theorem dRet_eq (d : Dir n) (x0 : BitVec n) (hn : 2 ≤ n) (st : Nat × BitVec n)
    (h : DInv d x0 2 st) : dRet d st = d.idx x0 := by
  have e : dRet d st = (dStep d 1 st).1 - (if (dStep d 1 st).2 ≠ 0 then 1 else 0) := by
    simp only [dRet, dStep]
    split <;> rfl
  obtain ⟨h1, h2, h3⟩ := dStep_inv d x0 1 st h
  generalize dStep d 1 st = st' at e h1 h2 h3
  have hle : d.idx st'.2 ≤ n := fi_le n _
  rw [e]
  by_cases hw : st'.2 = 0
  · have := mt (d.idx_lt_iff st'.2).mp (fun h => h hw)
    rw [if_neg (fun h => h hw)]
    omega
  · have := (d.idx_lt_iff st'.2).mpr hw
    rw [if_pos hw]
    omega

/-- the CTZ direction: reader = LSB-first bits, shift = `<<<` -/
def ctzDir (n : Nat) : Dir n where
  r x i := x.getLsbD i
  sh x s := x <<< s
  r_sh x s i := by
    simp only [shiftF, BitVec.getLsbD_shiftLeft, Bool.and_assoc]
  zero_iff x := by
    constructor
    · rintro rfl i _; simp
    · intro h; apply BitVec.eq_of_getLsbD_eq; intro i hi; simp [h i hi]

/-- the CLZ direction: reader = MSB-first bits, shift = `>>>` -/
def clzDir (n : Nat) : Dir n where
  r x i := x.getMsbD i
  sh x s := x >>> s
  r_sh x s i := by
    simp only [shiftF, BitVec.getMsbD_ushiftRight]
  zero_iff x := by
    constructor
    · rintro rfl i _; simp
    · intro h; apply BitVec.eq_of_getLsbD_eq; intro i hi
      have := h (n - 1 - i) (by omega)
      rw [BitVec.getMsbD_eq_getLsbD] at this
      have e : n - 1 - (n - 1 - i) = i := by omega
      rw [e] at this
      simpa [show n - 1 - i < n by omega] using this

theorem ctzDir_idx (x : BitVec n) : (ctzDir n).idx x = ctzSpec x := rfl
theorem clzDir_idx (x : BitVec n) : (clzDir n).idx x = clzSpec x := rfl
theorem ctzStep_eq (s : Nat) (st : Nat × BitVec n) : ctzStep s st = dStep (ctzDir n) s st := rfl
theorem clzStep_eq (s : Nat) (st : Nat × BitVec n) : clzStep s st = dStep (clzDir n) s st := rfl
theorem ctzRet_eq (st : Nat × BitVec n) : ctzRet st = dRet (ctzDir n) st := rfl
theorem clzRet_eq (st : Nat × BitVec n) : clzRet st = dRet (clzDir n) st := rfl

theorem DInv_init (d : Dir n) (x : BitVec n) : DInv d x n (n, x) := by
  unfold DInv; simp

/-! ### the SAFE editions -/

/-- the top `k` bits set -/
def hiMask (n k : Nat) : BitVec n := BitVec.allOnes n <<< (n - k)

theorem hiMask_getLsbD (k i : Nat) : (hiMask n k).getLsbD i = (decide (i < n) && decide (n - k ≤ i)) := by
  unfold hiMask
  rw [BitVec.getLsbD_shiftLeft]
  by_cases h1 : i < n
  · by_cases h2 : i < n - k
    · simp [h1, h2]; omega
    · simp [h1, h2]; omega
  · simp [h1]

theorem u16Weight_hiMask : ∀ k < 17, u16Weight (hiMask 16 k) = k := by decide +kernel
theorem u32Weight_hiMask : ∀ k < 33, u32Weight (hiMask 32 k) = k := by decide +kernel
theorem u64Weight_hiMask : ∀ k < 65, u64Weight (hiMask 64 k) = k := by decide +kernel

/-- `w | -w` sets exactly the bits from the lowest set bit upwards -/
theorem or_neg_eq_hiMask (w : BitVec n) : w ||| (0 - w) = hiMask n (n - ctzSpec w) := by
  have hle : ctzSpec w ≤ n := fi_le n _
  apply BitVec.eq_of_getLsbD_eq
  intro i hi
  have e0 : (0 : BitVec n) - w = -w := by simp
  rw [e0, BitVec.getLsbD_or, BitVec.getLsbD_neg, hiMask_getLsbD]
  have hsub : n - (n - ctzSpec w) = ctzSpec w := by omega
  rw [hsub]
  by_cases hc : ctzSpec w ≤ i
  · have hb : w.getLsbD (ctzSpec w) = true := fi_bit n _ (by unfold ctzSpec firstIdx at *; omega)
    simp only [hi, decide_true, hc, Bool.and_self, Bool.true_and]
    by_cases he : ctzSpec w = i
    · rw [← he, hb]; rfl
    · have : ∃ j, j < i ∧ w.getLsbD j = true := ⟨ctzSpec w, by omega, hb⟩
      simp [this]
  · have hci : i < ctzSpec w := by omega
    have hlow : ∀ j, j ≤ i → w.getLsbD j = false := fun j hj =>
      fi_low n (fun i => w.getLsbD i) j (show j < ctzSpec w from Nat.lt_of_le_of_lt hj hci)
    have : ¬ ∃ j, j < i ∧ w.getLsbD j = true := by
      rintro ⟨j, hj, hb⟩; rw [hlow j (by omega)] at hb; cases hb
    simp [hlow i (Nat.le_refl _), this, hc]

/-- smearing invariant: bit i of x = OR of bits i .. i+d-1 of w -/
def Smear (w x : BitVec n) (d : Nat) : Prop :=
  ∀ i, x.getLsbD i = true ↔ ∃ j, i ≤ j ∧ j < i + d ∧ w.getLsbD j = true

theorem smear_init (w : BitVec n) : Smear w w 1 := by
  intro i
  constructor
  · intro h; exact ⟨i, Nat.le_refl _, by omega, h⟩
  · rintro ⟨j, h1, h2, h3⟩
    have : j = i := by omega
    subst this; exact h3

theorem smear_step (w x : BitVec n) (d : Nat) (h : Smear w x d) : Smear w (x ||| x >>> d) (2 * d) := by
  intro i
  rw [BitVec.getLsbD_or, BitVec.getLsbD_ushiftRight, Bool.or_eq_true, h i, h (d + i)]
  constructor
  · rintro (⟨j, h1, h2, h3⟩ | ⟨j, h1, h2, h3⟩)
    · exact ⟨j, h1, by omega, h3⟩
    · exact ⟨j, by omega, by omega, h3⟩
  · rintro ⟨j, h1, h2, h3⟩
    by_cases hj : j < i + d
    · exact Or.inl ⟨j, h1, hj, h3⟩
    · exact Or.inr ⟨j, by omega, by omega, h3⟩

/-- a fully smeared word, complemented, is the mask of the leading zeros -/
theorem not_smear_eq_hiMask (w x : BitVec n) (h : Smear w x n) : ~~~x = hiMask n (clzSpec w) := by
  have hle : clzSpec w ≤ n := fi_le n _
  apply BitVec.eq_of_getLsbD_eq
  intro i hi
  rw [BitVec.getLsbD_not, hiMask_getLsbD]
  simp only [hi, decide_true, Bool.true_and]
  by_cases hc : n - clzSpec w ≤ i
  · have : x.getLsbD i = false := by
      cases hb : x.getLsbD i
      · rfl
      · obtain ⟨j, h1, h2, h3⟩ := (h i).mp hb
        have hjn : j < n := by
          apply Nat.lt_of_not_le; intro hge
          rw [BitVec.getLsbD_of_ge _ _ hge] at h3; cases h3
        have := fi_low n (fun k => w.getMsbD k) (n - 1 - j) (by unfold clzSpec firstIdx at *; omega)
        simp only [BitVec.getMsbD_eq_getLsbD] at this
        rw [show n - 1 - (n - 1 - j) = j by omega, h3] at this
        simp [show n - 1 - j < n by omega] at this
    simp [this, hc]
  · have hcl : clzSpec w < n := by omega
    have hb : w.getMsbD (clzSpec w) = true :=
      fi_bit n (fun k => w.getMsbD k) (by unfold clzSpec firstIdx at *; omega)
    rw [BitVec.getMsbD_eq_getLsbD] at hb
    have hb' : w.getLsbD (n - 1 - clzSpec w) = true := by simpa [hcl] using hb
    have : x.getLsbD i = true := (h i).mpr ⟨n - 1 - clzSpec w, by omega, by omega, hb'⟩
    simp [this, hc]

/-- SAFE(uNNCTZ) for any width, given the weight routine on the masks -/
theorem ctz_safe_eq (wt : BitVec n → Nat) (hwt : ∀ k < n + 1, wt (hiMask n k) = k) (w : BitVec n) :
    n - wt (w ||| (0 - w)) = ctzSpec w := by
  have hle : ctzSpec w ≤ n := fi_le n _
  rw [or_neg_eq_hiMask, hwt _ (by omega)]; omega

end Bee2V.C14.Cmp
