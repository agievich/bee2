import Bee2V.C11.Math
import Bee2V.C05.PropsAlias
/-! Helper lemmas for Bee2V/C11/PropsMath.lean. -/
namespace Bee2V.C11.Math
open Bee2V.C05 Bee2V.C05.Alias

/-- pointwise form of the descending element-wise loop under the header's precondition -/
theorem elem2Desc_apply (f : Nat → Nat → Nat) (c a b : Nat) : ∀ (n : Nat) (m : Mem) (j : Nat),
    SameOrDisj c a n → SameOrDisj c b n →
    elem2Desc f c a b n m j = if c ≤ j ∧ j < c + n then f (m (a + (j - c))) (m (b + (j - c))) else m j := by
  intro n
  induction n with
  | zero => intro m j _ _; simp only [elem2Desc]; grind
  | succ n ih =>
    intro m j ha hb
    unfold SameOrDisj Disj at ha hb
    rw [elem2Desc, ih _ _ (by unfold SameOrDisj Disj; omega) (by unfold SameOrDisj Disj; omega)]
    simp only [write]
    grind

theorem pure1_ppMulW (w x : Nat) : ∀ (l : List Nat) (c : Nat), pure1 (ppMulWStep w x) c l = ppMulWLoop w x l c := by
  intro l
  induction l with
  | nil => intro c; simp [pure1, ppMulWLoop]
  | cons a as ih => intro c; simp [pure1, ppMulWLoop, ppMulWStep, ih]

theorem pure2_ppAddMulW (w x : Nat) : ∀ (bs as : List Nat) (c : Nat),
    pure2 (ppAddMulWStep w x) c bs as = ppAddMulWLoop w x bs as c := by
  intro bs
  induction bs with
  | nil => intro as c; simp [pure2, ppAddMulWLoop]
  | cons b bs ih =>
    intro as c
    cases as with
    | nil => simp [pure2, ppAddMulWLoop]
    | cons a as => simp [pure2, ppAddMulWLoop, ppAddMulWStep, ih]

theorem readN_append (m : Mem) (a n k : Nat) : readN m a (n + k) = readN m a n ++ readN m (a + n) k := by
  induction n generalizing a with
  | zero => simp [readN]
  | succ n ih =>
    rw [show n + 1 + k = (n + k) + 1 by omega, readN, readN, ih (a + 1)]
    simp [show a + 1 + n = a + (n + 1) by omega]

theorem readN_take (m : Mem) (a n k : Nat) (h : k ≤ n) : (readN m a n).take k = readN m a k := by
  rw [show n = k + (n - k) by omega, readN_append]
  exact List.take_left' (readN_length _ _ _)

theorem readN_drop (m : Mem) (a n k : Nat) (h : k ≤ n) : (readN m a n).drop k = readN m (a + k) (n - k) := by
  conv => lhs; rw [show n = k + (n - k) by omega, readN_append]
  exact List.drop_left' (readN_length _ _ _)

theorem readN_ext (m1 m2 : Mem) : ∀ (n p q : Nat), (∀ i, i < n → m1 (p + i) = m2 (q + i)) →
    readN m1 p n = readN m2 q n := by
  intro n
  induction n with
  | zero => intro p q _; rfl
  | succ n ih =>
    intro p q h
    simp only [readN]
    rw [show m1 p = m2 q from by simpa using h 0 (by omega)]
    rw [ih (p + 1) (q + 1) (fun i hi => by
      have := h (i + 1) (by omega)
      simpa [Nat.add_assoc, Nat.add_comm 1 i] using this)]

end Bee2V.C11.Math
