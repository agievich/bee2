import Bee2V.C11.Mem
/-! Pointwise characterisations of the memory helpers (helper lemmas of C11). -/
namespace Bee2V.C11

theorem disj2_iff (a n b k : Nat) :
    disj2 a n b k = true ↔ (n = 0 ∨ k = 0 ∨ a + n ≤ b ∨ b + k ≤ a) := by
  simp [disj2, or_assoc]

theorem read_length (m : Mem) (a n : Nat) : (read m a n).length = n := by simp [read]

theorem read_getElem (m : Mem) (a n i : Nat) (h : i < (read m a n).length) :
    (read m a n)[i] = m (a + i) := by simp [read]

theorem read_getD (m : Mem) (a n i : Nat) (h : i < n) : (read m a n).getD i 0 = m (a + i) := by
  simp [read, List.getD, h]

/-- two regions are equal as lists iff they agree pointwise -/
theorem read_eq_iff (m m' : Mem) (a b n : Nat) :
    read m a n = read m' b n ↔ ∀ i, i < n → m (a + i) = m' (b + i) := by
  constructor
  · intro h i hi
    have := congrArg (fun l => l.getD i 0) h
    simp only [read_getD _ _ _ _ hi] at this
    exact this
  · intro h
    apply List.ext_getElem
    · simp [read_length]
    · intro i h1 h2
      simp [read_length] at h1
      simp [read_getElem, h i h1]

theorem read_append (m : Mem) (a n k : Nat) : read m a (n + k) = read m a n ++ read m (a + n) k := by
  apply List.ext_getElem
  · simp [read_length]
  · intro i h1 h2
    simp [read_length] at h1
    by_cases hi : i < n
    · rw [List.getElem_append_left (by simpa [read_length] using hi)]
      simp [read_getElem]
    · rw [List.getElem_append_right (by simpa [read_length] using hi)]
      simp only [read_getElem, read_length]
      congr 1; omega

theorem write_read_apply (m m0 : Mem) (d s n x : Nat) :
    write m d (read m0 s n) x = if d ≤ x ∧ x < d + n then m0 (s + (x - d)) else m x := by
  unfold write
  simp only [read_length]
  split
  · next h => rw [read_getD _ _ _ _ (by omega)]
  · rfl

/-- `memMove` = write the snapshot of the source -/
theorem memMove_eq_write (m : Mem) (d s n : Nat) : memMove m d s n = write m d (read m s n) := by
  funext x; rw [write_read_apply]; rfl

theorem read_write_same (m : Mem) (d : Nat) (bs : Bytes) : read (write m d bs) d bs.length = bs := by
  apply List.ext_getElem
  · simp [read_length]
  · intro i h1 h2
    simp only [read_getElem, write]
    have : d ≤ d + i ∧ d + i < d + bs.length := by omega
    simp [this, List.getD, h2]

theorem write_outside (m : Mem) (d : Nat) (bs : Bytes) (x : Nat) (h : ¬ (d ≤ x ∧ x < d + bs.length)) :
    write m d bs x = m x := by
  rw [write, if_neg h]

theorem read_write_disj (m : Mem) (a : Nat) (bs : Bytes) (b k : Nat) (h : disj2 a bs.length b k = true) :
    read (write m a bs) b k = read m b k := by
  rw [disj2_iff] at h
  rw [read_eq_iff]
  intro i hi
  exact write_outside _ _ _ _ (by omega)

theorem read_memMove_self (m : Mem) (d s n : Nat) : read (memMove m d s n) d n = read m s n := by
  have := read_write_same m d (read m s n)
  rwa [read_length, ← memMove_eq_write] at this

theorem memSet_eq_write (m : Mem) (d : Nat) (v : UInt8) (n : Nat) :
    memSet m d v n = write m d (List.replicate n v) := by
  funext x
  simp only [memSet, write, List.length_replicate]
  by_cases h : d ≤ x ∧ x < d + n
  · rw [if_pos h, if_pos h, List.getD_eq_getElem?_getD, List.getElem?_replicate_of_lt (by omega)]; rfl
  · rw [if_neg h, if_neg h]

/-- rotLoop after `k ≤ n` passes, pointwise -/
theorem rotLoop_apply (dest n : Nat) : ∀ (k : Nat) (m : Mem) (x : Nat), k ≤ n →
    rotLoop dest n k m x =
      if dest ≤ x ∧ x < dest + (n - k) then m (x + k)
      else if dest + (n - k) ≤ x ∧ x < dest + n then m (x + k - n)
      else m x := by
  intro k
  induction k with
  | zero =>
    intro m x _
    simp only [rotLoop]
    grind
  | succ k ih =>
    intro m x hk
    rw [rotLoop, ih _ _ (by omega)]
    simp only [rotl1, memMove]
    grind

/-- the result `memJoin` must produce, pointwise: `dest[0..c1) = old src1`, `dest[c1..c1+c2) = old src2`,
    everything else untouched -/
def joinSpec (m : Mem) (dest src1 c1 src2 c2 : Nat) : Mem :=
  fun x => if dest ≤ x ∧ x < dest + c1 then m (src1 + (x - dest))
    else if dest + c1 ≤ x ∧ x < dest + c1 + c2 then m (src2 + (x - dest - c1))
    else m x

/-- each branch, and the `goto repeat` step, is compared with the specification octet by octet: both
sides are nested case distinctions on intervals of `x`, decided by linear arithmetic from the branch
conditions -/
theorem memJoin_eq_spec (m : Mem) (dest src1 c1 src2 c2 : Nat) :
    memJoin m dest src1 c1 src2 c2 = joinSpec m dest src1 c1 src2 c2 := by
  fun_induction memJoin m dest src1 c1 src2 c2 with
  | case1 m dest src1 c1 c2 h =>
    rw [disj2_iff] at h
    funext x
    simp only [memMove, joinSpec]
    grind
  | case2 m dest src1 c1 c2 h1 h =>
    rw [disj2_iff] at h
    funext x
    simp only [memMove, joinSpec]
    grind
  | case3 m dest src1 c1 c2 h1 h2 h =>
    simp only [disj2_iff] at h1 h2 h
    funext x
    rw [rotLoop_apply _ _ _ _ _ (by omega)]
    simp only [memMove, joinSpec]
    grind
  | case4 m dest src1 c1 c2 h1 h2 h3 h =>
    simp only [disj2_iff] at h1 h2 h3 h
    funext x
    rw [rotLoop_apply _ _ _ _ _ (by omega)]
    simp only [memMove, joinSpec]
    grind
  | case5 m dest src1 c1 c2 h1 h2 h3 h4 m1 m2 ih =>
    simp only [disj2_iff] at h1 h2 h3 h4
    rw [ih]
    funext x
    simp only [joinSpec, m2, m1, set1]
    grind

/-- with `read_write_same` and `write_outside` the whole overlap contract of `memJoin` -/
theorem memJoin_eq_write (m : Mem) (dest src1 c1 src2 c2 : Nat) :
    memJoin m dest src1 c1 src2 c2 = write m dest (read m src1 c1 ++ read m src2 c2) := by
  rw [memJoin_eq_spec]
  funext x
  simp only [joinSpec, write, List.length_append, read_length]
  by_cases a : dest ≤ x ∧ x < dest + c1
  · rw [if_pos a, if_pos (by omega), List.getD_eq_getElem?_getD, List.getElem?_append_left (by rw [read_length]; omega),
      ← List.getD_eq_getElem?_getD, read_getD _ _ _ _ (by omega)]
  · by_cases b : dest + c1 ≤ x ∧ x < dest + c1 + c2
    · rw [if_neg a, if_pos b, if_pos (by omega), List.getD_eq_getElem?_getD,
        List.getElem?_append_right (by rw [read_length]; omega), ← List.getD_eq_getElem?_getD, read_length,
        read_getD _ _ _ _ (by omega)]
    · rw [if_neg a, if_neg b, if_neg (by omega)]

end Bee2V.C11
