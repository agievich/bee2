import Bee2V.C11.LemmasMem
import Bee2V.C11.Prog
import Bee2V.C11.Der
import Bee2V.Base.Bytes
/-! Helper lemmas of C11 (regions untouched by a write, the XOR loops pointwise). -/
namespace Bee2V.C11

/-- reading a region that a `memMove` does not touch -/
theorem read_memMove_disj (m : Mem) (d s n a k : Nat) (h : disj2 d n a k = true) :
    read (memMove m d s n) a k = read m a k := by
  rw [memMove_eq_write]
  exact read_write_disj _ _ _ _ _ (by rwa [read_length])

/-- the buffer `beltKWPWrap` hands to the core when header = 0 -/
theorem read_move_zero (m : Mem) (dest src count : Nat) :
    read (memSet (memMove m dest src count) (dest + count) 0 16) dest (count + 16) =
      read m src count ++ List.replicate 16 0 := by
  rw [memSet_eq_write, read_append,
    read_write_disj _ _ _ _ _ (by rw [disj2_iff, List.length_replicate]; omega), read_memMove_self]
  congr 1
  exact read_write_same _ _ (List.replicate 16 0)

theorem memXor_apply : ∀ (n : Nat) (m : Mem) (d s1 s2 x : Nat),
    (s1 = d ∨ s1 + n ≤ d ∨ d + n ≤ s1) → (s2 = d ∨ s2 + n ≤ d ∨ d + n ≤ s2) →
    memXor m d s1 s2 n x = if d ≤ x ∧ x < d + n then m (s1 + (x - d)) ^^^ m (s2 + (x - d)) else m x := by
  intro n
  induction n with
  | zero => intro m d s1 s2 x _ _; simp only [memXor]; grind
  | succ n ih =>
    intro m d s1 s2 x h1 h2
    rw [memXor, ih _ _ _ _ _ (by omega) (by omega)]
    simp only [set1]
    grind

/-- `memXor2(dest, src, n)` is `memXor(dest, dest, src, n)` -/
theorem memXor2_eq_memXor (m : Mem) (d s n : Nat) : memXor2 m d s n = memXor m d d s n := by
  induction n generalizing m d s with
  | zero => rfl
  | succ n ih => rw [memXor2, memXor, ih]

theorem memXor2_apply (n : Nat) (m : Mem) (d s x : Nat) (h : s = d ∨ s + n ≤ d ∨ d + n ≤ s) :
    memXor2 m d s n x = if d ≤ x ∧ x < d + n then m x ^^^ m (s + (x - d)) else m x := by
  rw [memXor2_eq_memXor, memXor_apply n m d d s x (Or.inl rfl) h]
  grind


theorem xorBytes_length (a b : Bytes) : (xorBytes a b).length = min a.length b.length := by
  fun_induction xorBytes a b with
  | case1 a as b bs ih => simp [ih]
  | case2 a b h =>
    cases a with
    | nil => simp
    | cons x xs => cases b with
      | nil => simp
      | cons y ys => exact (h x xs y ys rfl rfl).elim

theorem xorBytes_getElem (a b : Bytes) (i : Nat) (h : i < (xorBytes a b).length) :
    (xorBytes a b)[i] = a[i]'(by rw [xorBytes_length] at h; omega) ^^^ b[i]'(by rw [xorBytes_length] at h; omega) := by
  fun_induction xorBytes a b generalizing i with
  | case1 a as b bs ih => cases i <;> simp [xorBytes, ih]
  | case2 a b h' => simp [xorBytes] at h


end Bee2V.C11
