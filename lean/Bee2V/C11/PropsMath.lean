import Bee2V.C11.LemmasMath
/-
C11 — math headers (ww.h, zz.h, pp.h): "the output buffer either coincides with or is disjoint from each
input".  18 functions are proved in Bee2V/C05/PropsAlias.lean (named in `Bee2V.C11.covered`); the
remaining ones here, on the same word-addressed memory, for every base address and length.
-/
namespace Bee2V.C11.Math
open Bee2V.C05 Bee2V.C05.Alias

/-- ww.h `wwXor` ("Буфер c либо не пересекается, либо совпадает с каждым из буферов a, b"): every word of c
    is the XOR of the ORIGINAL words of a and b; nothing else changes.  (a, b may overlap each other freely.) -/
theorem wwXor_alias (c a b n : Nat) (m : Mem) (ha : SameOrDisj c a n) (hb : SameOrDisj c b n) :
    (∀ i, i < n → wwXorMem c a b n m (c + i) = m (a + i) ^^^ m (b + i)) ∧
    ∀ j, (j < c ∨ c + n ≤ j) → wwXorMem c a b n m j = m j := by
  constructor
  · intro i hi
    have : c ≤ c + i ∧ c + i < c + n := by omega
    simp only [wwXorMem, elem2Desc_apply _ _ _ _ _ _ _ ha hb, this, and_self, if_true]
    congr 2 <;> omega
  · intro j hj
    have : ¬ (c ≤ j ∧ j < c + n) := by omega
    simp only [wwXorMem, elem2Desc_apply _ _ _ _ _ _ _ ha hb, this, if_false]

example : wwXorMem 0 0 0 3 (ofList [5, 6, 7] 0) 1 = 0 ∧ wwXorMem 0 0 3 2 (ofList [5, 6, 7, 1, 2] 0) 1 = 4 := by decide

/-- ww.h `wwXor2` (b ^= a, b the same as or disjoint from a) -/
theorem wwXor2_alias (b a n : Nat) (m : Mem) (h : SameOrDisj b a n) :
    (∀ i, i < n → wwXor2Mem b a n m (b + i) = m (b + i) ^^^ m (a + i)) ∧
    ∀ j, (j < b ∨ b + n ≤ j) → wwXor2Mem b a n m j = m j :=
  wwXor_alias b b a n m (Or.inl rfl) h

example : SameOrDisj 0 0 3 ∧ SameOrDisj 0 3 3 := by decide

/-- ww.h `wwCopy` (b the same as or disjoint from a) -/
theorem wwCopy_alias (b a n : Nat) (m : Mem) (h : SameOrDisj b a n) :
    (∀ i, i < n → wwCopyMem b a n m (b + i) = m (a + i)) ∧
    ∀ j, (j < b ∨ b + n ≤ j) → wwCopyMem b a n m j = m j := by
  constructor
  · intro i hi
    have : b ≤ b + i ∧ b + i < b + n := by omega
    simp only [wwCopyMem, elem2Desc_apply _ _ _ _ _ _ _ h h, this, and_self, if_true]
    congr 1; omega
  · intro j hj
    have : ¬ (b ≤ j ∧ j < b + n) := by omega
    simp only [wwCopyMem, elem2Desc_apply _ _ _ _ _ _ _ h h, this, if_false]

/-- the hypothesis matters: a descending copy one word DOWN over itself smears the top word -/
example : wwCopyMem 0 1 3 (ofList [1, 2, 3, 4] 0) 1 ≠ 3 ∧ ¬ SameOrDisj 0 1 3 := by decide

/-- pp.h `ppMulW` (b the same as or disjoint from a): b and the carry word are C05's list function of the
    ORIGINAL a -/
theorem ppMulW_alias (w b a n x : Nat) (m : Mem) (h : SameOrDisj b a n) :
    readN (ppMulWMem w b a n x m).1 b n = (ppMulW w (readN m a n) x).1
    ∧ (ppMulWMem w b a n x m).2 = (ppMulW w (readN m a n) x).2
    ∧ ∀ j, (j < b ∨ b + n ≤ j) → (ppMulWMem w b a n x m).1 j = m j := by
  have := loop1_alias (ppMulWStep w x) a b n 0 m h
  rw [pure1_ppMulW] at this
  exact this

/-- pp.h `ppAddMulW` -/
theorem ppAddMulW_alias (w b a n x : Nat) (m : Mem) (h : SameOrDisj b a n) :
    readN (ppAddMulWMem w b a n x m).1 b n = (ppAddMulW w (readN m b n) (readN m a n) x).1
    ∧ (ppAddMulWMem w b a n x m).2 = (ppAddMulW w (readN m b n) (readN m a n) x).2
    ∧ ∀ j, (j < b ∨ b + n ≤ j) → (ppAddMulWMem w b a n x m).1 j = m j := by
  have := loopIO_alias (ppAddMulWStep w x) b a n 0 m h
  rw [pure2_ppAddMulW] at this
  exact this

example : readN (ppMulWMem 8 0 0 2 3 (ofList [5, 129] 0)).1 0 2 = (ppMulW 8 [5, 129] 3).1 := by decide

/-! ### zz.h zzAdd3 -/

/-- the unequal-length branches of zzAdd3: `wwCopy(c + k, a + k, n - k); carry = zzAdd(c, p, q, k);
    zzAddW2(c + k, n - k, carry)`, where a[n] is the longer operand (k ≤ n), {p, q} are a and the shorter
    operand in the order of the branch, and c[n] is the same as or disjoint from each -/
theorem zzAdd3_long (w c a n p q k : Nat) (m : Mem) (hk : k ≤ n)
    (ha : c = a ∨ c + n ≤ a ∨ a + n ≤ c) (hp : c = p ∨ c + n ≤ p ∨ p + k ≤ c) (hq : c = q ∨ c + n ≤ q ∨ q + k ≤ c) :
    let m1 := wwCopyMem (c + k) (a + k) (n - k) m
    let r := zzAddMem w c p q k m1
    let t := zzAddWMem w (c + k) (c + k) (n - k) r.2 r.1
    let r' := zzAdd w (readN m p k) (readN m q k)
    let r2 := zzAddW w (readN m (a + k) (n - k)) r'.2
    readN t.1 c n = r'.1 ++ r2.1 ∧ t.2 = r2.2 ∧ ∀ j, (j < c ∨ c + n ≤ j) → t.1 j = m j := by
  intro m1 r t r' r2
  have hc := wwCopy_alias (c + k) (a + k) (n - k) m (by unfold SameOrDisj Disj; omega)
  have hadd := zzAdd_alias w c p q k m1 (by unfold SameOrDisj Disj; omega) (by unfold SameOrDisj Disj; omega)
  have haw := zzAddW_alias w (c + k) (c + k) (n - k) r.2 r.1 (Or.inl rfl)
  -- the copy of the upper words touches neither operand of the addition, the addition not the copy
  have e1 : readN m1 p k = readN m p k := readN_congr _ _ _ _ (fun j h1 h2 => hc.2 j (by omega))
  have e2 : readN m1 q k = readN m q k := readN_congr _ _ _ _ (fun j h1 h2 => hc.2 j (by omega))
  have e3 : readN r.1 (c + k) (n - k) = readN m (a + k) (n - k) :=
    (readN_congr _ _ _ _ (fun j h1 h2 => hadd.2.2 j (by omega))).trans (readN_ext _ _ _ _ _ hc.1)
  rw [e1, e2] at hadd
  refine ⟨?_, by rw [haw.2.1, e3, hadd.2.1], fun j hj => ?_⟩
  · have hsplit := readN_append t.1 c k (n - k)
    rw [show k + (n - k) = n by omega] at hsplit
    rw [hsplit, haw.1, e3, hadd.2.1, readN_congr r.1 t.1 c k (fun j h1 h2 => haw.2.2 j (by omega)), hadd.1]
  · exact (haw.2.2 j (by omega)).trans ((hadd.2.2 j (by omega)).trans (hc.2 j (by omega)))

/-- zz.h `zzAdd3` ("Буфер c либо не пересекается, либо совпадает с каждым из буферов a, b"; c has max(n, k)
    words): for every base address and all lengths the sum and the carry are C05's list function
    `zzAdd3` of the ORIGINAL a[n], b[k]; nothing outside c changes. -/
theorem zzAdd3_alias (w c a n b k : Nat) (m : Mem)
    (ha : c = a ∨ c + max n k ≤ a ∨ a + n ≤ c) (hb : c = b ∨ c + max n k ≤ b ∨ b + k ≤ c) :
    readN (zzAdd3Mem w c a n b k m).1 c (max n k) = (zzAdd3 w (readN m a n) (readN m b k)).1
    ∧ (zzAdd3Mem w c a n b k m).2 = (zzAdd3 w (readN m a n) (readN m b k)).2
    ∧ ∀ j, (j < c ∨ c + max n k ≤ j) → (zzAdd3Mem w c a n b k m).1 j = m j := by
  by_cases h1 : n > k
  · have hk : k ≤ n := by omega
    rw [show max n k = n by omega] at ha hb ⊢
    simp only [zzAdd3Mem, zzAdd3, readN_length, h1, if_true, zzAddW2, readN_take _ _ _ _ hk, readN_drop _ _ _ _ hk]
    exact zzAdd3_long w c a n a b k m hk (by omega) (by omega) (by omega)
  · by_cases h2 : n < k
    · have hn : n ≤ k := by omega
      rw [show max n k = k by omega] at ha hb ⊢
      simp only [zzAdd3Mem, zzAdd3, readN_length, h1, h2, if_true, if_false, zzAddW2, readN_take _ _ _ _ hn,
        readN_drop _ _ _ _ hn]
      exact zzAdd3_long w c b k a b n m hn (by omega) (by omega) (by omega)
    · obtain rfl : k = n := by omega
      rw [show max k k = k by omega] at ha hb ⊢
      simp only [zzAdd3Mem, zzAdd3, readN_length, h1, if_false]
      exact zzAdd_alias w c a b k m (by unfold SameOrDisj Disj; omega) (by unfold SameOrDisj Disj; omega)

example : readN (zzAdd3Mem 8 0 0 3 3 1 (ofList [255, 255, 1, 7] 0)).1 0 3 = (zzAdd3 8 [255, 255, 1] [7]).1 := by decide



/-! ### the 18 functions proved by C05 (Bee2V/C05/PropsAlias.lean) — referenced here: renaming or removing one of them
    makes this file fail (the names are listed in `Bee2V.C11.covered`) -/
example := @zzAdd_alias
example := @zzSub_alias
example := @zzAdd2_alias
example := @zzSub2_alias
example := @zzAddW_alias
example := @zzSubW_alias
example := @zzNeg_alias
example := @zzMulW_alias
example := @zzAddMulW_alias
example := @zzSubMulW_alias
example := @zzDivW_alias
example := And.intro @zzAddMod_safe_alias @zzAddMod_fast_alias
example := And.intro @zzSubMod_safe_alias @zzSubMod_fast_alias
example := And.intro @zzAddWMod_safe_alias @zzAddWMod_fast_alias
example := And.intro @zzSubWMod_safe_alias @zzSubWMod_fast_alias
example := And.intro @zzNegMod_safe_alias @zzNegMod_fast_alias
example := And.intro @zzDoubleMod_safe_alias @zzDoubleMod_fast_alias
example := And.intro @zzHalfMod_safe_alias @zzHalfMod_fast_alias

end Bee2V.C11.Math
