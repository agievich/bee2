import Bee2V.C11.Lemmas
/-! Helper lemmas of C11 for the concrete memory programs of der.c / belt_block.c
    (PropsConc.lean): regions after `memMove` / `memRev` / `set1` / `putSize`, the XOR words of
    `beltKeyExpand`, and the pure value functions `uintBody`, `bitBody`. -/
namespace Bee2V.C11

/-! ### regions -/

/-- a sub-region of the destination of a `memMove` holds the OLD source octets -/
theorem read_memMove_sub (m : Mem) (d s n o k : Nat) (h : o + k ≤ n) :
    read (memMove m d s n) (d + o) k = read m (s + o) k := by
  rw [read_eq_iff]
  intro i hi
  have : d ≤ d + o + i ∧ d + o + i < d + n := by omega
  simp only [memMove, this, and_self, if_true]
  congr 1; omega

theorem read_set1_disj (m : Mem) (a : Nat) (v : UInt8) (b k : Nat) (h : a < b ∨ b + k ≤ a) :
    read (set1 m a v) b k = read m b k := by
  rw [read_eq_iff]
  intro i hi
  have : ¬ (b + i = a) := by omega
  simp only [set1, this, if_false]

theorem read_memRev_self (m : Mem) (a n : Nat) : read (memRev m a n) a n = (read m a n).reverse := by
  have := read_write_same m a (read m a n).reverse
  rwa [List.length_reverse, read_length] at this

theorem read_memRev_disj (m : Mem) (a n b k : Nat) (h : disj2 a n b k = true) :
    read (memRev m a n) b k = read m b k := by
  unfold memRev
  exact read_write_disj _ _ _ _ _ (by rwa [List.length_reverse, read_length])

theorem read_putSize_self (m : Mem) (a v : Nat) : read (putSize m a v) a 8 = Bee2V.Proto.natLE 8 v := by
  have := read_write_same m a (Bee2V.Proto.natLE 8 v)
  rwa [Proto.natLE_length] at this

theorem read_putSize_disj (m : Mem) (a v b k : Nat) (h : disj2 a 8 b k = true) :
    read (putSize m a v) b k = read m b k := by
  unfold putSize
  exact read_write_disj _ _ _ _ _ (by rwa [Proto.natLE_length])

theorem putSize_apply_disj (m : Mem) (a v x : Nat) (h : x < a ∨ a + 8 ≤ x) : putSize m a v x = m x := by
  have : ¬ (a ≤ x ∧ x < a + (Bee2V.Proto.natLE 8 v).length) := by rw [Proto.natLE_length]; omega
  simp only [putSize, write, this, if_false]

theorem read_congr (m m' : Mem) (a n : Nat) (h : ∀ i, i < n → m (a + i) = m' (a + i)) :
    read m a n = read m' a n := (read_eq_iff m m' a a n).2 h

/-! ### beltKeyExpand -/

/-- a slice of a region is the region at the shifted address -/
theorem read_drop_take (m : Mem) (a n o k : Nat) (h : o + k ≤ n) :
    ((read m a n).drop o).take k = read m (a + o) k := by
  apply List.ext_getElem
  · simp [read_length]; omega
  · intro i h1 h2
    simp only [List.getElem_take, List.getElem_drop, read_getElem]
    congr 1; omega

theorem read_take (m : Mem) (a n k : Nat) (h : k ≤ n) : (read m a n).take k = read m a k := by
  have := read_drop_take m a n 0 k (by omega)
  simpa using this

/-- two adjacent moves from adjacent sources = one move, when the first destination piece does not
    cover the second source piece -/
theorem memMove_adj (m : Mem) (d s n k : Nat) (h : d + n ≤ s + n ∨ s + n + k ≤ d) :
    memMove (memMove m d s n) (d + n) (s + n) k = memMove m d s (n + k) := by
  funext x
  simp only [memMove]
  by_cases a : d + n ≤ x ∧ x < d + n + k
  · have b : ¬ (d ≤ s + n + (x - (d + n)) ∧ s + n + (x - (d + n)) < d + n) := by omega
    have c : d ≤ x ∧ x < d + (n + k) := by omega
    simp only [a, b, c, and_self, if_true, if_false]
    congr 1; omega
  · by_cases b : d ≤ x ∧ x < d + n
    · have c : d ≤ x ∧ x < d + (n + k) := by omega
      simp only [a, b, c, and_self, if_true, if_false]
    · have c : ¬ (d ≤ x ∧ x < d + (n + k)) := by omega
      simp only [a, b, c, if_false]

/-- the key block followed by two stored words -/
theorem read_write_two (m1 : Mem) (k_ : Nat) (X1 X2 : Bytes) (h1 : X1.length = 4) (h2 : X2.length = 4) :
    read (write (write m1 (k_ + 24) X1) (k_ + 28) X2) k_ 32 = read m1 k_ 24 ++ X1 ++ X2 := by
  rw [show (32 : Nat) = 24 + 4 + 4 from rfl, read_append, read_append]
  congr 1
  · congr 1
    · rw [read_write_disj _ _ _ _ _ (by rw [disj2_iff]; omega),
        read_write_disj _ _ _ _ _ (by rw [disj2_iff]; omega)]
    · rw [read_write_disj _ _ _ _ _ (by rw [disj2_iff]; omega)]
      have := read_write_same m1 (k_ + 24) X1
      rwa [h1] at this
  · have := read_write_same (write m1 (k_ + 24) X1) (k_ + 28) X2
    rwa [h2] at this

theorem keyExpand2_16 (m : Mem) (key_ key : Nat) : keyExpand2 m key_ key 16 = keyExpand m key_ key 16 := by
  simp only [keyExpand2, keyExpand, if_true, ← memMove_eq_write]
  have e1 := memMove_adj (memMove m key_ key 16) (key_ + 16) key_ 4 4 (by omega)
  have e2 := memMove_adj (memMove m key_ key 16) (key_ + 16) key_ (4 + 4) 4 (by omega)
  have e3 := memMove_adj (memMove m key_ key 16) (key_ + 16) key_ (4 + 4 + 4) 4 (by omega)
  rw [show key_ + 20 = key_ + 16 + 4 from rfl, e1,
    show key_ + 24 = key_ + 16 + (4 + 4) from rfl, show key_ + 8 = key_ + (4 + 4) from rfl, e2,
    show key_ + 28 = key_ + 16 + (4 + 4 + 4) from rfl, show key_ + 12 = key_ + (4 + 4 + 4) from rfl, e3]

theorem keyExpand_16 (m : Mem) (key_ key : Nat) :
    read (keyExpand m key_ key 16) key_ 32 = keyExpandPure (read m key 16) := by
  simp only [keyExpand, keyExpandPure, read_length, if_true]
  rw [show (32 : Nat) = 16 + 16 from rfl, read_append]
  congr 1
  · rw [read_memMove_disj _ _ _ _ _ _ (by rw [disj2_iff]; omega)]; exact read_memMove_self _ _ _ _
  · rw [read_memMove_self]; exact read_memMove_self _ _ _ _

theorem keyExpand_32 (m : Mem) (key_ key : Nat) :
    read (keyExpand m key_ key 32) key_ 32 = keyExpandPure (read m key 32) := by
  simp [keyExpand, keyExpandPure, read_length, read_memMove_self]

theorem keyExpand2_32 (m : Mem) (key_ key : Nat) : keyExpand2 m key_ key 32 = keyExpand m key_ key 32 := by
  simp [keyExpand2, keyExpand]

/-- the words `w[i]` of the moved key are slices of the OLD key -/
theorem keyWord (m : Mem) (key_ key i : Nat) (h : i < 6) :
    read (memMove m key_ key 24) (key_ + 4 * i) 4 = ((read m key 24).drop (4 * i)).take 4 := by
  rw [read_memMove_sub _ _ _ _ _ _ (by omega), read_drop_take _ _ _ _ _ (by omega)]

theorem keyExpand_24 (m : Mem) (key_ key : Nat) :
    read (keyExpand m key_ key 24) key_ 32 = keyExpandPure (read m key 24) := by
  have e : ¬ ((24 : Nat) = 16) := by decide
  simp only [keyExpand, keyExpandPure, read_length, e, if_true, if_false]
  rw [read_write_two _ _ _ _ (by simp [xorBytes_length, read_length]) (by simp [xorBytes_length, read_length]),
    read_memMove_self]
  rw [keyWord _ _ _ 0 (by omega), keyWord _ _ _ 1 (by omega), keyWord _ _ _ 2 (by omega),
    keyWord _ _ _ 3 (by omega), keyWord _ _ _ 4 (by omega), keyWord _ _ _ 5 (by omega)]
  rfl

theorem keyExpand2_24 (m : Mem) (key_ key : Nat) : keyExpand2 m key_ key 24 = keyExpand m key_ key 24 := by
  have e : ¬ ((24 : Nat) = 16) := by decide
  simp only [keyExpand2, keyExpand, e, if_true, if_false]
  have hx : ∀ X : Bytes, X.length = 4 → ∀ i, i < 6 →
      read (write (memMove m key_ key 24) (key_ + 24) X) (key_ + 4 * i) 4 =
        read (memMove m key_ key 24) (key_ + 4 * i) 4 := by
    intro X hX i hi
    exact read_write_disj _ _ _ _ _ (by rw [disj2_iff]; omega)
  rw [hx _ (by simp [xorBytes_length, read_length]) 3 (by omega),
    hx _ (by simp [xorBytes_length, read_length]) 4 (by omega),
    hx _ (by simp [xorBytes_length, read_length]) 5 (by omega)]

/-! ### derTUINTEnc -/

/-- drop leading zero octets of a big-endian number, keeping at least one octet -/
def dropLeadZ : Bytes → Bytes
  | a :: b :: bs => if a = 0 then dropLeadZ (b :: bs) else a :: b :: bs
  | l => l

/-- the V octets of an unsigned INTEGER whose value is the little-endian number `v`: trailing (most
    significant) zero octets stripped down to at least one octet, reversed to big-endian, and a zero octet
    in front when the leading octet has bit 7 set -/
def uintBody (v : Bytes) : Bytes :=
  let b := dropLeadZ v.reverse
  if b.headD 0 &&& 128 != 0 then 0 :: b else b

theorem read_succ (m : Mem) (a n : Nat) : read m a (n + 1) = read m a n ++ [m (a + n)] := by
  rw [read_append]; simp [read]

theorem read_reverse_succ (m : Mem) (a n : Nat) :
    (read m a (n + 1)).reverse = m (a + n) :: (read m a n).reverse := by
  rw [read_succ]; simp

theorem stripLen_pos (m : Mem) (val n : Nat) (h : 0 < n) : 0 < stripLen m val n := by
  induction n with
  | zero => omega
  | succ n ih =>
    rw [stripLen]
    split
    · next hc => exact ih (by omega)
    · omega

theorem stripLen_le (m : Mem) (val n : Nat) : stripLen m val n ≤ n := by
  induction n with
  | zero => simp [stripLen]
  | succ n ih =>
    rw [stripLen]
    split
    · omega
    · omega

/-- the loop `while (len > 1 && val[len - 1] == 0) --len` = dropping the leading zeros of the
    big-endian number -/
theorem stripLen_spec (m : Mem) (val n : Nat) :
    (read m val (stripLen m val n)).reverse = dropLeadZ (read m val n).reverse := by
  induction n with
  | zero => simp [stripLen, read, dropLeadZ]
  | succ n ih =>
    rw [stripLen]
    by_cases h : n + 1 > 1 ∧ m (val + n) = 0
    · rw [if_pos h, ih]
      obtain ⟨k, rfl⟩ : ∃ k, n = k + 1 := ⟨n - 1, by omega⟩
      rw [read_reverse_succ m val (k + 1), read_reverse_succ m val k, dropLeadZ, if_pos h.2]
    · rw [if_neg h]
      cases n with
      | zero => simp [read, dropLeadZ]
      | succ k =>
        have h0 : ¬ (m (val + (k + 1)) = 0) := fun e => h ⟨by omega, e⟩
        rw [read_reverse_succ m val (k + 1), read_reverse_succ m val k, dropLeadZ, if_neg h0]

theorem headD_read_reverse (m : Mem) (a n : Nat) (h : 0 < n) :
    (read m a n).reverse.headD 0 = m (a + n - 1) := by
  obtain ⟨k, rfl⟩ : ∃ k, n = k + 1 := ⟨n - 1, by omega⟩
  rw [read_reverse_succ]
  simp only [List.headD_cons]
  congr 1

/-- the value octets the encoder must produce, in terms of the variables of the code -/
theorem uintBody_read (m : Mem) (val len : Nat) (h : 0 < len) :
    uintBody (read m val len) =
      (if m (val + stripLen m val len - 1) &&& 128 != 0 then [0] else []) ++
        (read m val (stripLen m val len)).reverse := by
  unfold uintBody
  simp only []
  rw [← stripLen_spec, headD_read_reverse _ _ _ (stripLen_pos m val len h)]
  split <;> simp

/-- V is produced in place: move, optional zero octet, reverse; TL is written last -/
theorem uintEnc_core (m : Mem) (der val L ex : Nat) (tl : Bytes) :
    read (write (memRev (if ex = 1 then set1 (memMove m (der + tl.length) val L) (der + tl.length + L) 0
        else memMove m (der + tl.length) val L) (der + tl.length) (L + (if ex = 1 then 1 else 0))) der tl) der
      (tl.length + (L + (if ex = 1 then 1 else 0))) =
    tl ++ ((if ex = 1 then [0] else []) ++ (read m val L).reverse) := by
  rw [read_append]
  congr 1
  · exact read_write_same _ _ _
  · rw [read_write_disj _ _ _ _ _ (by rw [disj2_iff]; omega), read_memRev_self]
    by_cases he : ex = 1
    · simp only [he, if_true]
      rw [read_succ, read_set1_disj _ _ _ _ _ (by omega), read_memMove_self]
      simp [set1]
    · simp only [he, if_false, Nat.add_zero, List.nil_append]
      rw [read_memMove_self]

/-! ### derTBITEnc -/

/-- the V octets of a BIT STRING of `len` bits held in the octets `v` (`(len + 7) / 8` of them): the
    pad-count octet, then the octets, the low `8 - len % 8` bits of the last one (index `len / 8`)
    cleared when `len % 8 ≠ 0` -/
def bitBody (len : Nat) (v : Bytes) : Bytes :=
  if len % 8 != 0 then
    let sh := UInt8.ofNat (8 - len % 8)
    sh :: v.modify (len / 8) (fun b => (b >>> sh) <<< sh)
  else 0 :: v

theorem read_one_add (m : Mem) (a n : Nat) : read m a (1 + n) = m a :: read m (a + 1) n := by
  rw [read_append]; simp [read]

/-- rewriting one octet of a region in place -/
theorem read_set1_modify (m : Mem) (b n j : Nat) (f : UInt8 → UInt8) :
    read (set1 m (b + j) (f (m (b + j)))) b n = (read m b n).modify j f := by
  apply List.ext_getElem
  · simp [read_length]
  · intro i h1 h2
    rw [List.getElem_modify]
    simp only [read_getElem, set1]
    by_cases e : j = i
    · subst e; simp
    · have : ¬ (b + i = b + j) := by omega
      simp only [this, e, if_false]

/-- V of the BIT STRING is produced in place after the move; TL is written last -/
theorem bitEnc_core (m : Mem) (der val len : Nat) (tl : Bytes) :
    read (derTBITEnc m der val len tl) der (tl.length + (1 + (len + 7) / 8)) =
      tl ++ bitBody len (read m val ((len + 7) / 8)) := by
  rw [read_append]
  congr 1
  · exact read_write_same _ _ _
  · simp only [derTBITEnc]
    rw [read_write_disj _ _ _ _ _ (by rw [disj2_iff]; omega), read_one_add]
    by_cases c : (len % 8 != 0) = true
    · simp only [c, if_true, bitBody]
      rw [read_set1_disj _ _ _ _ _ (by omega)]
      rw [read_set1_modify (memMove m (der + tl.length + 1) val ((len + 7) / 8)) (der + tl.length + 1)
        ((len + 7) / 8) (len / 8)
        (fun b => (b >>> UInt8.ofNat (8 - len % 8)) <<< UInt8.ofNat (8 - len % 8)),
        read_memMove_self]
      simp [set1]
    · simp only [c, Bool.false_eq_true, if_false, bitBody]
      rw [read_set1_disj _ _ _ _ _ (by omega), read_memMove_self]
      simp [set1]

end Bee2V.C11
