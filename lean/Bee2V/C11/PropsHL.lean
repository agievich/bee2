import Bee2V.C11.LemmasHL
import Bee2V.Gen.C11Inv
/-
C11 — high-level functions with several octet buffers about whose overlap the HEADER IS SILENT (the inventory
Bee2V/Gen/C11Inv.lean is regenerated from include/bee2/{core,crypto}/*.h on every run).  Their models are order
programs (Prog.lean): everything is absorbed into the blob, results are stored last; for the named bign key
transport functions the programs follow the statements.  All addresses are universally quantified.
-/
namespace Bee2V.C11

/-- generic public-key / container function: for EVERY placement inside the model's domain the cryptographic core
    receives the OLD contents of all inputs (in the order of the parameter list) and the outputs are computed from
    them; outside the domain (a not-tolerated pair overlaps) the model makes no claim. -/
theorem progIO_overlap (c : Core) (m : Mem) (ins : List (Nat × Nat)) (outs : List (String × Nat × Nat)) :
    run c (progIO true ins outs) ⟨m, [], 0⟩ =
      some ⟨emitMem c (ins.map fun p => read m p.1 p.2) outs m, ins.map fun p => read m p.1 p.2, 0⟩ ∧
    run c (progIO false ins outs) ⟨m, [], 0⟩ = none := by
  constructor
  · simp only [progIO, run, if_true]
    rw [run_absorbs, run_emits]
    simp
  · simp [progIO, run]

/-- one output over one input, e.g. `bignPubkeyCalc(pubkey, params, privkey)` in place -/
example (c : Core) (m : Mem) (a : Nat) :
    (run c (progIO true [(a, 32)] [("pub", a, 64)]) ⟨m, [], 0⟩).map (·.tr) = some [read m a 32] := by
  rw [(progIO_overlap c m _ _).1]; rfl

/-- bign.h `bignKeyWrap` (header silent; source: "буферы key, header и token могут пересекаться"): for EVERY placement
    of token, key, header, pubkey the KWP plaintext is `old key ‖ saved header`, where the saved header is a function
    of the OLD header octets — also when the header lies inside `[token + no, token + no + len)` or the token is built
    in place over `key ‖ header`. -/
theorem bignKeyWrap_overlap (c : Core) (id : String) (m : Mem) (token key len header pubkey no : Nat) (hdrNull : Bool)
    (hg : ∀ tr, (c.g (id ++ ".hdr") tr 16).length = 16) :
    let P := read m pubkey (2 * no)
    let Hd := read m header (if hdrNull then 0 else 16)
    (run c (progBignKeyWrap id token key len header pubkey no hdrNull) ⟨m, [], 0⟩).map (·.tr) =
      some [P, Hd, read m key len ++ c.g (id ++ ".hdr") [P, Hd] 16] := by
  intro P Hd
  have e : read (write (memMove m (token + no) key len) (token + no + len) (c.g (id ++ ".hdr") [P, Hd] 16))
      (token + no) (len + 16) = read m key len ++ c.g (id ++ ".hdr") [P, Hd] 16 := by
    rw [read_append]
    congr 1
    · rw [read_write_disj _ _ _ _ _ (by rw [disj2_iff, hg]; omega)]
      exact read_memMove_self m (token + no) key len
    · have := read_write_same (memMove m (token + no) key len) (token + no + len) (c.g (id ++ ".hdr") [P, Hd] 16)
      rwa [hg] at this
  simp only [run, progBignKeyWrap, List.nil_append, List.cons_append, Option.map_some]
  simp only [P, Hd] at e
  rw [e]

/-- non-vacuity: in place, `buf = key ‖ header`, `token = key = buf` (no = 32, len = 48: the header lies inside the
    region the key is moved to) -/
example : disj2 (0 + 32) 48 48 16 = false := by decide

/-- the seeded change C02-m5 reads the header from the memory in which the key has ALREADY been moved -/
theorem bignKeyWrap_m5_reads_moved_header (c : Core) (id : String) (m : Mem) (token key len header pubkey no : Nat) :
    (run c (progBignKeyWrap_m5 id token key len header pubkey no) ⟨m, [], 0⟩).map (·.tr) =
      some [read m pubkey (2 * no),
            read (memMove (memMove m (token + no) key len) (token + no + len) header 16)
              (token + no) (len + 16)] := by
  simp [run, progBignKeyWrap_m5]

/-- bign.h `bignKeyUnwrap` (header silent; source: "буферы могут пересекаться"), code as fixed by docs/C11.fix-6.diff:
    for every placement — in place (key = token), key over the tail of token, header inside key — the core receives the
    OLD private key, point, token tail, header and token body. -/
theorem bignKeyUnwrap_overlap (c : Core) (id : String) (m : Mem) (key token len header privkey no : Nat) (hdrNull : Bool) :
    let K := [read m privkey no, read m token no, read m (token + len - 16) 16, read m header (if hdrNull then 0 else 16)]
    let B := read m (token + no) (len - no - 16)
    run c (progBignKeyUnwrap id key token len header privkey no hdrNull) ⟨m, [], 0⟩ =
      let m1 := write (memMove m key (token + no) (len - no - 16)) key (c.x (id ++ ".x") K B)
      if c.ok (id ++ ".v") (K ++ [B]) [] then some ⟨m1, K ++ [B], 0⟩
      else some ⟨memSet m1 key 0 (len - no - 16), K ++ [B], ERR_BAD_KEYTOKEN⟩ := by
  intro K B
  have h0 : ∀ mm : Mem, read mm 0 0 = [] := fun _ => rfl
  simp only [run, progBignKeyUnwrap, List.nil_append, List.cons_append, K, B,
    read_memMove_self m key (token + no) (len - no - 16), h0]

/-! ### the inventory is closed -/

/-- functions of the inventory whose header is silent and which are covered by an order program + the pairwise
    overlapped-vs-disjoint sweep (harness/c11_hl.c) -/
def hlCovered : List String := [
  "bignPubkeyCalc", "bignDH", "bignSign", "bignSign2", "bignKeyWrap", "bignKeyUnwrap", "bignIdExtract", "bignIdSign",
  "bignIdSign2", "bignOidToDER", "bign96PubkeyCalc", "bign96Sign", "bign96Sign2",
  "belsGenMi", "belsGenMid", "belsShare", "belsShare2", "belsShare3", "belsRecover", "belsRecover2",
  "bakeKDF", "bakeSWU", "bpkiPrivkeyWrap", "bpkiPrivkeyUnwrap", "bpkiShareWrap", "bpkiShareUnwrap", "bpkiCSRRewrap",
  "bpkiCSRUnwrap", "btokCVCWrap", "btokCVCIss", "dstuSign", "g12sSign", "pfokPubkeyCalc", "pfokDH", "pfokMTI",
  "hexTo", "hexToRev", "u16From", "u16To"]

/-- silent functions that are NOT exercised, each with its reason in xlate/x_c11_hl.py (`NOT_EXERCISED`) and docs/C11.md -/
def hlNotExercised : List String := [
  "objCopy", "objAppend", "rngESRead",
  "bakeBMQVStep3", "bakeBMQVStep4", "bakeBMQVRunA", "bakeBMQVRunB", "bakeBSTSStep3", "bakeBSTSStep4", "bakeBSTSRunA",
  "bakeBSTSRunB", "bakeBPACEStep3", "bakeBPACEStep4", "bakeBPACEStep5", "bakeBPACERunA", "bakeBPACERunB",
  "btokBAuthTStep3", "btokBAuthCTStep4"]

/-- fail-closed: every function with >= 2 octet buffers whose header neither allows nor excludes overlap is in one
    of the two lists; a new such function (or a removed exclusion sentence) makes this theorem fail -/
theorem inventory_complete :
    Bee2V.Gen.C11Inv.silent.all (fun f => hlCovered.contains f || hlNotExercised.contains f) = true := by decide +kernel

end Bee2V.C11
