/-
C16 — the loops of gf2Tr / gf2QSolve over a field of characteristic 2 (`FOps` under `FLaws`) compute `Char2.trSum`, `Char2.htrSum`;
trace 0/1, square root, half-trace, the quadratic solver.
-/
import Bee2V.C16.LawsField
import Bee2V.Base.Char2
import Mathlib.Algebra.BigOperators.Intervals
import Mathlib.Tactic.Ring
import Mathlib.Tactic.LinearCombination
import Mathlib.Tactic.FieldSimp

namespace Bee2V.C16.Fld
open Bee2V.C16 Finset Bee2V.Char2

variable {F : Type} [Field F]

/-- the spelling of the trace in the statements about `gf2Tr` -/
theorem sum_range_eq_trSum (m : Nat) (a : F) : ∑ i ∈ range m, a ^ (2 ^ i) = trSum a m := by
  induction m with
  | zero => rfl
  | succ m ih => rw [sum_range_succ, ih]; rfl

theorem iter_sqr (n : Nat) (b : F) : FOps.iter (fun t : F => t * t) n b = b ^ (2 ^ n) := by
  induction n generalizing b with
  | zero => simp [FOps.iter]
  | succ n ih => rw [FOps.iter, ih, ← pow_two, ← pow_mul, pow_succ']

section char2
variable (h2 : ∀ x : F, x + x = 0)
include h2

theorem mul_self_add (a b : F) : (a + b) * (a + b) = a * a + b * b := by
  linear_combination (h2 (a * b))

theorem trSum_01 {m : Nat} {a : F} (hf : a ^ (2 ^ m) = a) : trSum a m = 0 ∨ trSum a m = 1 := by
  have h := trSum_idem h2 hf
  have : trSum a m * (trSum a m - 1) = 0 := by linear_combination h
  rcases mul_eq_zero.1 this with h0 | h1
  · exact Or.inl h0
  · exact Or.inr (sub_eq_zero.1 h1)

theorem iter_tr (a : F) (n k : Nat) :
    FOps.iter (fun t : F => t * t + a) n (trSum a (k + 1)) = trSum a (k + 1 + n) := by
  induction n generalizing k with
  | zero => rfl
  | succ n ih =>
    rw [FOps.iter, ← pow_two, trSum_sq_add h2, ih (k + 1)]
    congr 1
    omega

theorem iter_htr (t : F) (n k : Nat) :
    FOps.iter (fun x : F => (x * x) * (x * x) + t) n (htrSum t (k + 1)) = htrSum t (k + 1 + n) := by
  induction n generalizing k with
  | zero => rfl
  | succ n ih =>
    rw [FOps.iter, ← pow_two, ← pow_two, htrSum_pow4_add h2, ih (k + 1)]
    congr 1
    omega

end char2

/-! ### the operations of `FOps` under `FLaws` -/

section laws
variable {O : FOps F} (L : FLaws O)
include L

theorem m_pos : 0 < O.m := by have := L.m_odd; omega

theorem isZero_false_iff (a : F) : O.isZero a = false ↔ a ≠ 0 := by
  constructor
  · intro h e
    rw [(L.isZero_iff a).2 e] at h
    cases h
  · intro h
    cases hz : O.isZero a
    · rfl
    · exact absurd ((L.isZero_iff a).1 hz) h

theorem tr_val (a : F) :
    FOps.iter (fun t => O.add (O.sqr t) a) (O.m - 1) a = trSum a O.m := by
  have hf : (fun t => O.add (O.sqr t) a) = fun t : F => t * t + a := by
    funext t; rw [L.add_eq, L.sqr_eq]
  have h1 : trSum a (0 + 1) = a := by simp [trSum]
  have h := iter_tr L.char2 a (O.m - 1) 0
  rw [h1] at h
  rw [hf, h]
  congr 1
  have := m_pos L
  omega

theorem Tr01 (a : F) : trSum a O.m = 0 ∨ trSum a O.m = 1 := trSum_01 L.char2 (L.frob a)

theorem tr_iff (a : F) : O.tr a = true ↔ trSum a O.m = 1 := by
  unfold FOps.tr
  rw [tr_val L]
  rcases Tr01 L a with h | h
  · rw [h, (L.isZero_iff 0).2 rfl]; simp
  · rw [h, (isZero_false_iff L 1).2 one_ne_zero]; simp

theorem tr_false_iff (a : F) : O.tr a = false ↔ trSum a O.m = 0 := by
  rcases Tr01 L a with h | h
  · have : ¬ O.tr a = true := by rw [tr_iff L, h]; exact zero_ne_one
    simp [h, this]
  · have : O.tr a = true := by rw [tr_iff L, h]
    simp [h, this]

/-- the Boolean and the field value of the trace together -/
theorem tr_cases (a : F) :
    (O.tr a = false ∧ trSum a O.m = 0) ∨ (O.tr a = true ∧ trSum a O.m = 1) := by
  rcases Tr01 L a with h | h
  · exact Or.inl ⟨(tr_false_iff L a).2 h, h⟩
  · exact Or.inr ⟨(tr_iff L a).2 h, h⟩

theorem tr_add (a b : F) : O.tr (a + b) = xor (O.tr a) (O.tr b) := by
  have hs := trSum_add L.char2 a b O.m
  have h11 : (1 : F) + 1 = 0 := L.char2 1
  rcases tr_cases L a with ⟨ha, va⟩ | ⟨ha, va⟩ <;> rcases tr_cases L b with ⟨hb, vb⟩ | ⟨hb, vb⟩ <;>
    rw [ha, hb] <;> rw [va, vb] at hs
  · rw [add_zero] at hs; simpa using (tr_false_iff L _).2 hs
  · rw [zero_add] at hs; simpa using (tr_iff L _).2 hs
  · rw [add_zero] at hs; simpa using (tr_iff L _).2 hs
  · rw [h11] at hs; simpa using (tr_false_iff L _).2 hs

theorem tr_sqr (a : F) : O.tr (a * a) = O.tr a := by
  have h : trSum (a * a) O.m = trSum a O.m := by
    rw [← pow_two, trSum_sq L.char2, trSum_idem L.char2 (L.frob a)]
  rcases tr_cases L a with ⟨ha, va⟩ | ⟨ha, va⟩
  · rw [ha, tr_false_iff L, h, va]
  · rw [ha, tr_iff L, h, va]

theorem tr_one : O.tr (1 : F) = true := (tr_iff L 1).2 (trSum_one L.char2 L.m_odd)

theorem tr_zero : O.tr (0 : F) = false := (tr_false_iff L 0).2 (trSum_zero O.m)

theorem tr_add_one (a : F) : O.tr (a + 1) = !O.tr a := by
  rw [tr_add L, tr_one L]; simp

theorem tr_sq_add_self (w : F) : O.tr (w * w + w) = false := by
  rw [tr_add L, tr_sqr L]; simp

theorem tr_bool (A : Bool) : O.tr (if A then (1 : F) else 0) = A := by
  cases A
  · simpa using tr_zero L
  · simpa using tr_one L

/-! square root -/

theorem sqrtF_val (b : F) : O.sqrtF b = b ^ (2 ^ (O.m - 1)) := by
  unfold FOps.sqrtF
  have hf : O.sqr = fun t : F => t * t := by funext t; rw [L.sqr_eq]
  rw [hf, iter_sqr]

theorem pow_half_sq (b : F) : (b ^ (2 ^ (O.m - 1))) ^ 2 = b := by
  rw [← pow_mul, ← pow_succ]
  have : O.m - 1 + 1 = O.m := by have := m_pos L; omega
  rw [this, L.frob]

theorem sqrtF_sq (b : F) : O.sqrtF b * O.sqrtF b = b := by
  rw [sqrtF_val L, ← pow_two, pow_half_sq L]

theorem sqrtF_mul_self (y : F) : O.sqrtF (y * y) = y := by
  rw [sqrtF_val L, ← pow_two, ← pow_mul, ← pow_succ']
  have : O.m - 1 + 1 = O.m := by have := m_pos L; omega
  rw [this, L.frob]

/-! half-trace -/

theorem htr_val (t : F) : O.htr t = htrSum t ((O.m - 1) / 2 + 1) := by
  unfold FOps.htr
  have hf : (fun x => O.add (O.sqr (O.sqr x)) t) = fun x : F => (x * x) * (x * x) + t := by
    funext x; rw [L.add_eq, L.sqr_eq, L.sqr_eq]
  have h1 : htrSum t (0 + 1) = t := by simp [htrSum]
  have h := iter_htr L.char2 t ((O.m - 1) / 2) 0
  rw [h1, Nat.zero_add] at h
  rw [hf, h, Nat.add_comm]

theorem htr_eq (c : F) :
    O.htr c * O.htr c + O.htr c = c + (if O.tr c then 1 else 0) := by
  have hm : 2 * ((O.m - 1) / 2 + 1) = O.m + 1 := by have := L.m_odd; omega
  have h := htrSum_sq_add L.char2 c ((O.m - 1) / 2 + 1)
  rw [hm, show trSum c (O.m + 1) = trSum c O.m + c ^ 2 ^ O.m from rfl, L.frob, add_comm (trSum c O.m)] at h
  rw [htr_val L, ← pow_two, h]
  rcases tr_cases L c with ⟨hc, vc⟩ | ⟨hc, vc⟩ <;> rw [hc, vc] <;> simp

/-! the quadratic solver -/

theorem qsolve_sound {a b z : F} (h : O.qsolve a b = some z) : z * z + a * z = b := by
  unfold FOps.qsolve at h
  split at h
  · rename_i ha
    have ha0 := (L.isZero_iff a).1 ha
    simp only [Option.some.injEq] at h
    subst h
    rw [ha0, sqrtF_sq L]; ring
  · rename_i ha
    have ha0 : a ≠ 0 := fun e => ha ((L.isZero_iff a).2 e)
    split at h
    · rename_i hb
      have hb0 := (L.isZero_iff b).1 hb
      simp only [Option.some.injEq] at h
      subst h
      rw [hb0, L.zero_eq]; ring
    · simp only at h
      split at h
      · exact absurd h (by simp)
      · rename_i ht
        simp only [Option.some.injEq] at h
        subst h
        have hh := htr_eq L (O.div b (O.sqr a))
        have ht' : O.tr (O.div b (O.sqr a)) = false := by simpa using ht
        rw [ht', L.div_eq, L.sqr_eq] at hh
        simp only [Bool.false_eq_true, if_false, add_zero] at hh
        rw [L.mul_eq, L.div_eq, L.sqr_eq]
        have : (O.htr (b / (a * a)) * O.htr (b / (a * a)) + O.htr (b / (a * a))) * (a * a) = b := by
          rw [hh]; field_simp
        linear_combination this

theorem qsolve_complete {a b : F} (ha : a ≠ 0) (hz : ∃ z, z * z + a * z = b) :
    (O.qsolve a b).isSome = true := by
  obtain ⟨z, hz⟩ := hz
  unfold FOps.qsolve
  have ha' : O.isZero a = false := (isZero_false_iff L a).2 ha
  rw [ha']
  simp only [Bool.false_eq_true, if_false]
  split
  · rfl
  · have ht : O.tr (O.div b (O.sqr a)) = false := by
      rw [L.div_eq, L.sqr_eq]
      have : b / (a * a) = (z / a) * (z / a) + z / a := by
        rw [← hz]; field_simp
      rw [this, tr_sq_add_self L]
    simp [ht]

/-- the solver applied to a = 1 and a right-hand side of trace 0 -/
theorem qsolve_one {b w : F} (hw : w * w + w = b) :
    ∃ z, O.qsolve O.one b = some z ∧ (z = w ∨ z = w + 1) := by
  have h1 : (1 : F) ≠ 0 := one_ne_zero
  have hs := qsolve_complete L (b := b) h1 ⟨w, by rw [one_mul]; exact hw⟩
  rw [L.one_eq]
  obtain ⟨z, hz⟩ := Option.isSome_iff_exists.1 hs
  refine ⟨z, hz, ?_⟩
  have hzz := qsolve_sound L hz
  rw [one_mul] at hzz
  have : (z + w) * (z + w + 1) = 0 := by
    linear_combination hzz - hw + L.char2 (z * w) + L.char2 (w * w) + L.char2 w
  rcases mul_eq_zero.1 this with e | e
  · left; linear_combination e - L.char2 w
  · right; linear_combination e - L.char2 w - L.char2 1

/-! the bit-0 manipulations -/

theorem low_clearLow (x : F) : O.low (O.clearLow x) = false := by
  unfold FOps.clearLow
  split
  · rename_i h; rw [L.add_eq, L.one_eq, L.low_add_one, h]; rfl
  · rename_i h; simpa using h

theorem clearLow_cases (x : F) :
    (O.low x = false ∧ O.clearLow x = x) ∨ (O.low x = true ∧ O.clearLow x = x + 1) := by
  unfold FOps.clearLow
  cases h : O.low x
  · left; simp
  · right; simp [L.add_eq, L.one_eq]

theorem add_one_add_one (x : F) : x + 1 + 1 = x := by
  linear_combination L.char2 1

theorem low_one : O.low (1 : F) = true := by
  have := L.low_add_one 0
  rw [zero_add, L.low_zero] at this
  simpa using this

end laws

end Bee2V.C16.Fld
