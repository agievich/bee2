/-
C16 — properties of the gf2Tr / gf2QSolve / dstuPointCompress / dstuPointRecover models over an
abstract field of characteristic 2 with 2^m elements, m odd (`FLaws`, LawsField.lean).
-/
import Bee2V.C16.LemmasField3

namespace Bee2V.C16

variable {F G : Type} [Field F]

/-! ### 1. the trace -/

/-- the loop of gf2Tr computes a + a² + … + a^(2^(m-1)) -/
theorem tr_loop (O : FOps F) (L : FLaws O) (a : F) :
    FOps.iter (fun t => O.add (O.sqr t) a) (O.m - 1) a = ∑ i ∈ Finset.range O.m, a ^ (2 ^ i) := by
  rw [Fld.sum_range_eq_trSum]; exact Fld.tr_val L a

theorem tr_spec (O : FOps F) (L : FLaws O) (a : F) :
    (O.tr a = true ↔ (∑ i ∈ Finset.range O.m, a ^ (2 ^ i)) = 1) ∧
    (O.tr a = false ↔ (∑ i ∈ Finset.range O.m, a ^ (2 ^ i)) = 0) ∧
    ((∑ i ∈ Finset.range O.m, a ^ (2 ^ i)) = 0 ∨ (∑ i ∈ Finset.range O.m, a ^ (2 ^ i)) = 1) := by
  rw [Fld.sum_range_eq_trSum]; exact ⟨Fld.tr_iff L a, Fld.tr_false_iff L a, Fld.Tr01 L a⟩

/-! ### 2. its algebra -/

theorem tr_sqr (O : FOps F) (L : FLaws O) (a : F) : O.tr (a * a) = O.tr a := Fld.tr_sqr L a

theorem tr_add (O : FOps F) (L : FLaws O) (a b : F) : O.tr (a + b) = xor (O.tr a) (O.tr b) :=
  Fld.tr_add L a b

theorem tr_one (O : FOps F) (L : FLaws O) : O.tr (1 : F) = true := Fld.tr_one L

theorem tr_zero (O : FOps F) (L : FLaws O) : O.tr (0 : F) = false := Fld.tr_zero L

/-! ### 3. the half-trace (m odd) -/

theorem htr_spec (O : FOps F) (L : FLaws O) (c : F) :
    O.htr c * O.htr c + O.htr c = c + (if O.tr c then 1 else 0) :=
  Fld.htr_eq L c

/-! ### 4. gf2QSolve -/

theorem sqrtF_spec (O : FOps F) (L : FLaws O) (b : F) : O.sqrtF b * O.sqrtF b = b :=
  Fld.sqrtF_sq L b

theorem qsolve_sound (O : FOps F) (L : FLaws O) {a b z : F} (h : O.qsolve a b = some z) :
    z * z + a * z = b :=
  Fld.qsolve_sound L h

/-- the solver says FALSE only if there is no solution -/
theorem qsolve_complete (O : FOps F) (L : FLaws O) {a b : F} (ha : a ≠ 0)
    (hz : ∃ z, z * z + a * z = b) : (O.qsolve a b).isSome = true :=
  Fld.qsolve_complete L ha hz

/-- a = 0: always solvable -/
theorem qsolve_zero (O : FOps F) (L : FLaws O) (b : F) : (O.qsolve 0 b).isSome = true := by
  unfold FOps.qsolve
  rw [if_pos ((L.isZero_iff 0).2 rfl)]
  rfl

/-! ### 5. the x-coordinate of a doubled point has trace A -/

theorem tr_x_of_double (O : FOps F) (L : FLaws O) (A : Bool) (x y : F) (_hx : x ≠ 0) :
    let lam := x + y / x
    O.tr (lam * lam + lam + (if A then 1 else 0)) = A := by
  intro lam
  rw [Fld.tr_add L, Fld.tr_sq_add_self L, Fld.tr_bool L]
  simp

/-! ### 6. Recover ∘ Compress = id on the points with tr(x) = A

For x = 1 clearing bit 0 gives 0, so the point (1, y) with tr(y) = 0 would be stored as the zero
string, the code of (0, √B).  dstuPointCompress refuses exactly this point (docs/C16.fix-5.diff);
every other point of the curve with tr(x) = A round-trips, and the compressed code is injective. -/

/-- ERR_BAD_POINT on an encoded pair ⇔ it is (1, y) with tr(y) = 0 -/
theorem compress_refuses_iff (C : Dstu G F) (L : FLaws C.f) (x y : F) :
    C.compress (C.encXY (x, y)) = (.badPoint, []) ↔ x = 1 ∧ C.f.tr y = false :=
  Fld.compress_bad_iff C L x y

/-- MAIN -/
theorem recover_compress (C : Dstu G F) (L : FLaws C.f) (x y : F) {xp : Bytes}
    (hcomp : C.compress (C.encXY (x, y)) = (.ok, xp))
    (hc : y * y + x * y = x * x * x + (if C.A then x * x else 0) + C.B)
    (htr : x = 0 ∨ C.f.tr x = C.A) :
    xp.length = C.no ∧ C.recover xp = (.ok, C.encXY (x, y)) := by
  have hx1 : x = 1 → C.f.tr y = true := by
    intro h1
    cases hy : C.f.tr y
    · rw [(Fld.compress_bad_iff C L x y).2 ⟨h1, hy⟩] at hcomp; cases hcomp
    · rfl
  obtain ⟨xp', h1, h2, h3⟩ := Fld.recover_compress_aux C L x y hc htr hx1
  rw [hcomp] at h1
  simp only [Prod.mk.injEq, true_and] at h1
  subst h1
  exact ⟨h2, h3⟩

/-- the same as one statement: refused (exactly the point without a code) or round-trip -/
theorem recover_compress_total (C : Dstu G F) (L : FLaws C.f) (x y : F)
    (hc : y * y + x * y = x * x * x + (if C.A then x * x else 0) + C.B)
    (htr : x = 0 ∨ C.f.tr x = C.A) :
    (x = 1 ∧ C.f.tr y = false ∧ C.compress (C.encXY (x, y)) = (.badPoint, [])) ∨
    (∃ xp, C.compress (C.encXY (x, y)) = (.ok, xp) ∧ xp.length = C.no ∧
      C.recover xp = (.ok, C.encXY (x, y))) := by
  by_cases h : x = 1 ∧ C.f.tr y = false
  · exact Or.inl ⟨h.1, h.2, (Fld.compress_bad_iff C L x y).2 h⟩
  · right
    refine Fld.recover_compress_aux C L x y hc htr ?_
    intro h1
    cases hy : C.f.tr y
    · exact absurd ⟨h1, hy⟩ h
    · rfl

/-- no refusal at all on curves with A = 0 … -/
theorem recover_compress_A0 (C : Dstu G F) (L : FLaws C.f) (x y : F) (hA : C.A = false)
    (hc : y * y + x * y = x * x * x + (if C.A then x * x else 0) + C.B)
    (htr : x = 0 ∨ C.f.tr x = C.A) :
    ∃ xp, C.compress (C.encXY (x, y)) = (.ok, xp) ∧ xp.length = C.no ∧
      C.recover xp = (.ok, C.encXY (x, y)) := by
  refine Fld.recover_compress_aux C L x y hc htr ?_
  intro h1
  rcases htr with h0 | h
  · rw [h0] at h1; exact absurd h1 zero_ne_one
  · rw [h1, Fld.tr_one L, hA] at h; cases h

/-- … and on curves with tr(B) = 1 -/
theorem recover_compress_trB (C : Dstu G F) (L : FLaws C.f) (x y : F) (hB : C.f.tr C.B = true)
    (hc : y * y + x * y = x * x * x + (if C.A then x * x else 0) + C.B)
    (htr : x = 0 ∨ C.f.tr x = C.A) :
    ∃ xp, C.compress (C.encXY (x, y)) = (.ok, xp) ∧ xp.length = C.no ∧
      C.recover xp = (.ok, C.encXY (x, y)) := by
  refine Fld.recover_compress_aux C L x y hc htr ?_
  intro h1
  rcases htr with h0 | h
  · rw [h0] at h1; exact absurd h1 zero_ne_one
  · exfalso
    rw [h1, Fld.tr_one L] at h
    rw [h1, ← h] at hc
    simp only [if_true, mul_one, one_mul] at hc
    have : C.B = y * y + y := by linear_combination -hc - L.char2 1
    rw [this, Fld.tr_sq_add_self L] at hB
    cases hB

/-- the collision is gone: two points of the curve with tr(x) = A (or x = 0) that Compress accepts
with the same code are equal -/
theorem compress_injective (C : Dstu G F) (L : FLaws C.f) (x₁ y₁ x₂ y₂ : F) {xp : Bytes}
    (hc₁ : y₁ * y₁ + x₁ * y₁ = x₁ * x₁ * x₁ + (if C.A then x₁ * x₁ else 0) + C.B)
    (hc₂ : y₂ * y₂ + x₂ * y₂ = x₂ * x₂ * x₂ + (if C.A then x₂ * x₂ else 0) + C.B)
    (ht₁ : x₁ = 0 ∨ C.f.tr x₁ = C.A) (ht₂ : x₂ = 0 ∨ C.f.tr x₂ = C.A)
    (h₁ : C.compress (C.encXY (x₁, y₁)) = (.ok, xp))
    (h₂ : C.compress (C.encXY (x₂, y₂)) = (.ok, xp)) :
    x₁ = x₂ ∧ y₁ = y₂ := by
  have r₁ := (recover_compress C L x₁ y₁ h₁ hc₁ ht₁).2
  have r₂ := (recover_compress C L x₂ y₂ h₂ hc₂ ht₂).2
  rw [r₁] at r₂
  simp only [Prod.mk.injEq, true_and] at r₂
  have := Fld.encXY_inj C L r₂
  exact ⟨congrArg Prod.fst this, congrArg Prod.snd this⟩

/-! ### 7. Recover returns points of the curve only -/

theorem recover_sound (C : Dstu G F) (L : FLaws C.f) {xp pt : Bytes}
    (h : C.recover xp = (.ok, pt)) :
    ∃ x y, pt = C.encXY (x, y) ∧ pt.length = 2 * C.no ∧
      y * y + x * y = x * x * x + (if C.A then x * x else 0) + C.B := by
  cases hd : C.f.ofNat (leNat xp) with
  | none => rw [Fld.recover_none C hd] at h; cases h
  | some x' =>
    by_cases hx' : x' = 0
    · subst hx'
      rw [Fld.recover_zero C L hd] at h
      simp only [Prod.mk.injEq, true_and] at h
      refine ⟨0, C.f.sqrtF C.B, h.symm, ?_, ?_⟩
      · rw [← h, Fld.encXY_length]; ring
      · rw [Fld.sqrtF_sq L]
        cases C.A <;> simp
    · by_cases hxn : Fld.xfix C x' = 0
      · rw [Fld.recover_nz_zero C L hd hx' hxn] at h; cases h
      rw [Fld.recover_nz C L hd hx' hxn] at h
      cases hq : C.f.qsolve C.f.one (Fld.bval C (Fld.xfix C x')) with
      | none => rw [hq] at h; cases h
      | some z =>
        rw [hq] at h
        simp only [Prod.mk.injEq, true_and] at h
        refine ⟨_, _, h.symm, ?_, ?_⟩
        · rw [← h, Fld.encXY_length]; ring
        · have hz := Fld.qsolve_sound L hq
          rw [L.one_eq, one_mul] at hz
          exact Fld.curve_of_root C L hxn hz _

/-! ### non-vacuity

`FLaws` has models: GF(2) with m = 1 (`Fld.toyF2_laws`) and GF(8) = GF(2)[x]/(x³+x+1) with m = 3
(`Fld.gf8_laws`), both in LemmasField3.lean. -/

example : FLaws Fld.toyF2 := Fld.toyF2_laws
example : FLaws Fld.gf8Ops := Fld.gf8_laws

/-- GF(2), curve y² + xy = x³ + x²: the hypotheses of `recover_compress_total` hold for (1, 1) … -/
example : ∃ xp, Fld.toyDstu.compress (Fld.toyDstu.encXY (1, 1)) = (.ok, xp) ∧
    xp.length = Fld.toyDstu.no ∧ Fld.toyDstu.recover xp = (.ok, Fld.toyDstu.encXY (1, 1)) :=
  (recover_compress_total Fld.toyDstu Fld.toyF2_laws 1 1 (by decide) (Or.inr (by decide))).resolve_left
    (fun h => absurd h.2.1 (by decide))

/-- … and for (0, 0) (branch x = 0) -/
example : ∃ xp, Fld.toyDstu.compress (Fld.toyDstu.encXY (0, 0)) = (.ok, xp) ∧
    xp.length = Fld.toyDstu.no ∧ Fld.toyDstu.recover xp = (.ok, Fld.toyDstu.encXY (0, 0)) :=
  (recover_compress_total Fld.toyDstu Fld.toyF2_laws 0 0 (by decide) (Or.inl rfl)).resolve_left
    (fun h => absurd h.1 (by decide))

/-- GF(8), curve y² + xy = x³ + x² + 1: `recover_compress` applied to the point (5, 5) of order 7 -/
example : ([5] : Bytes).length = Fld.gf8Dstu.no ∧
    Fld.gf8Dstu.recover [5] = (.ok, Fld.gf8Dstu.encXY (⟨5⟩, ⟨5⟩)) :=
  recover_compress Fld.gf8Dstu Fld.gf8_laws ⟨5⟩ ⟨5⟩ (xp := [5]) (by decide +kernel)
    (by decide +kernel) (Or.inr (by decide +kernel))

/-- the same run evaluated: both points with x = 5 round-trip through codes 05 and 04 -/
example : Fld.gf8Dstu.compress (Fld.gf8Dstu.encXY (⟨5⟩, ⟨5⟩)) = (.ok, [5]) ∧
    Fld.gf8Dstu.compress (Fld.gf8Dstu.encXY (⟨5⟩, ⟨0⟩)) = (.ok, [4]) ∧
    Fld.gf8Dstu.recover [5] = (.ok, Fld.gf8Dstu.encXY (⟨5⟩, ⟨5⟩)) ∧
    Fld.gf8Dstu.recover [4] = (.ok, Fld.gf8Dstu.encXY (⟨5⟩, ⟨0⟩)) := by
  decide +kernel

/-- the corner evaluated on y² + xy = x³ + x² + x over GF(8) (A = 1, tr(B) = 0): the point (1, 4) is
on the curve, tr(x) = 1 = A, tr(y) = 0: Compress refuses it; (1, 5) is stored as 01 and comes back;
the code 00 belongs to (0, √B) = (0, 6) alone -/
example : (⟨4⟩ : Fld.GF8) * ⟨4⟩ + 1 * ⟨4⟩ = 1 * 1 * 1 + 1 * 1 + Fld.gf8DstuB2.B ∧
    Fld.gf8DstuB2.f.tr 1 = Fld.gf8DstuB2.A ∧
    Fld.gf8DstuB2.compress (Fld.gf8DstuB2.encXY (1, ⟨4⟩)) = (.badPoint, []) ∧
    Fld.gf8DstuB2.compress (Fld.gf8DstuB2.encXY (1, ⟨5⟩)) = (.ok, [1]) ∧
    Fld.gf8DstuB2.recover [1] = (.ok, Fld.gf8DstuB2.encXY (1, ⟨5⟩)) ∧
    Fld.gf8DstuB2.compress (Fld.gf8DstuB2.encXY (0, ⟨6⟩)) = (.ok, [0]) ∧
    Fld.gf8DstuB2.recover [0] = (.ok, Fld.gf8DstuB2.encXY (0, ⟨6⟩)) := by
  decide +kernel

end Bee2V.C16
