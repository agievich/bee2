/-
C16 — property theorems for the model of bign96.c (Bign96.lean) under the hypotheses `B96Laws C`
(LawsSig.lean): key pairs, bign96Sign / bign96Sign2 against bign96Verify, the exact acceptance set of
bign96Verify.  `leNat` is the number of a little-endian octet string.
-/
import Bee2V.C16.LemmasSig2
import Bee2V.C16.ToySig
namespace Bee2V.C16
open Sig
variable {G : Type} [AddCommGroup G] {C : B96 G}

/-- bign96PubkeyCalc: for every private key in [1, q-1] the result is a 48-octet public key that passes
bign96PubkeyVal and bign96KeypairVal and decodes to dG; ERR_BAD_PARAMS is impossible -/
theorem b96_pubkeyCalc_valid (L : B96Laws C) {priv : Bytes}
    (h0 : leNat priv ≠ 0) (hq : leNat priv < C.q) :
    ∃ pub, C.pubkeyCalc priv = (.ok, pub) ∧ pub.length = 48 ∧ C.pubkeyVal pub = .ok ∧
      C.keypairVal priv pub = .ok ∧ C.loadPub pub = some (leNat priv • C.base) := by
  obtain ⟨x, y, hxy⟩ := e_xy_base_mul L.toELaws (Nat.pos_of_ne_zero h0) hq
  have hxy' := hxy
  rw [L.smul_eq] at hxy'
  have hload := b_loadPub_encXY L hxy'
  refine ⟨B96.encXY (x, y), ?_, b_encXY_length _, ?_, ?_, hload⟩
  · unfold B96.pubkeyCalc
    simp only
    rw [if_neg (by omega), hxy]
  · unfold B96.pubkeyVal
    rw [hload]
  · unfold B96.keypairVal
    simp only
    rw [if_neg (by omega), hxy]
    simp

/-- bign96KeypairGen: whenever it succeeds (any tape, any number of rejected draws) the private key is
a number in [1, q-1] (sampled modulo the group order q) and the pair passes bign96KeypairVal and
bign96PubkeyVal -/
theorem b96_keygen_valid (L : B96Laws C) {tape kp : Bytes} {used : Nat}
    (h : C.keypairGen tape = (.ok, kp, used)) :
    C.keypairVal (kp.take 24) (kp.drop 24) = .ok ∧ C.pubkeyVal (kp.drop 24) = .ok ∧
      0 < leNat (kp.take 24) ∧ leNat (kp.take 24) < C.q := by
  unfold B96.keypairGen at h
  split at h
  · cases h
  · rename_i d rest used' hr
    obtain ⟨h0, hq⟩ := randNZMod_range hr
    obtain ⟨x, y, hxy⟩ := e_xy_base_mul L.toELaws h0 hq
    rw [hxy] at h
    simp only [Prod.mk.injEq, true_and] at h
    obtain ⟨hkp, _⟩ := h
    have ht : kp.take 24 = natLE 24 d := by rw [← hkp]; exact take_natLE_append _ _ _
    have hd : kp.drop 24 = B96.encXY (x, y) := by rw [← hkp]; exact drop_natLE_append _ _ _
    have hle := b_leNat_natLE L hq
    have hxy' := hxy
    rw [L.smul_eq] at hxy'
    rw [ht, hd, hle]
    refine ⟨?_, ?_, h0, hq⟩
    · unfold B96.keypairVal
      simp only [hle]
      rw [if_neg (by omega), hxy]
      simp
    · unfold B96.pubkeyVal
      rw [b_loadPub_encXY L hxy']

/-- bign96KeypairVal accepts exactly the pairs (d, <dG>) with 0 < d < q -/
theorem b96_keypairVal_exact (L : B96Laws C) {priv pub : Bytes}
    (hp : pub.length = 48) :
    C.keypairVal priv pub = .ok ↔
      0 < leNat priv ∧ leNat priv < C.q ∧ C.loadPub pub = some (leNat priv • C.base) := by
  unfold B96.keypairVal
  simp only
  by_cases hd : leNat priv = 0 ∨ leNat priv ≥ C.q
  · rw [if_pos hd]
    constructor
    · intro h; cases h
    · intro h; omega
  · rw [if_neg hd]
    have h0 : 0 < leNat priv := by omega
    have hq : leNat priv < C.q := by omega
    obtain ⟨x, y, hxy⟩ := e_xy_base_mul L.toELaws h0 hq
    rw [hxy]
    rw [L.smul_eq] at hxy
    simp only
    constructor
    · intro h
      refine ⟨h0, hq, ?_⟩
      by_cases he : B96.encXY (x, y) = pub
      · rw [← he]; exact b_loadPub_encXY L hxy
      · rw [if_neg he] at h; cases h
    · rintro ⟨_, _, hl⟩
      obtain ⟨hxy2, henc⟩ := b_encXY_of_loadPub L hp hl
      rw [hxy] at hxy2
      cases hxy2
      rw [if_pos henc]

/-- bign96Sign never fails for a valid identifier and a private key in [1, q-1] once the generator
yields a one-time key: 34 octets, and exactly the octets requested by zzRandNZMod are consumed -/
theorem b96_sign_ok (L : B96Laws C) {oid Hb priv tape : Bytes} {k : Nat} (ho : C.oidOk oid = true)
    (hd0 : 0 < leNat priv) (hdq : leNat priv < C.q) (hk : (randNZMod C.q tape).1 = some k) :
    ∃ sig, C.sign oid Hb priv tape = (.ok, sig, (randNZMod C.q tape).2.2) ∧ sig.length = 34 := by
  obtain ⟨hk0, hkq⟩ := randNZMod_range (q := C.q) (tape := tape) (v := k)
    (rest := (randNZMod C.q tape).2.1) (used := (randNZMod C.q tape).2.2) (by rw [← hk])
  obtain ⟨h1, h2⟩ := b_signWith_length L oid Hb (leNat priv) hk0 hkq
  refine ⟨(B96.signWith C oid Hb (leNat priv) k).2, ?_, h2⟩
  have hr : randNZMod C.q tape = (some k, (randNZMod C.q tape).2.1, (randNZMod C.q tape).2.2) := by
    rw [← hk]
  unfold B96.sign
  simp only [ho, Bool.not_true, Bool.false_eq_true, if_false]
  rw [if_neg (by omega)]
  rw [hr]
  simp only [h1]

/-- bign96Sign is complete: every signature it returns — for EVERY 24-octet hash value (0, all-ones,
≥ q, multiples of q), every identifier and every tape, including the rounds rejected by zzRandNZMod —
passes bign96Verify under the public key computed by bign96PubkeyCalc -/
theorem b96_sign_complete (L : B96Laws C) {oid Hb priv tape sig pub : Bytes} {used : Nat}
    (hH : Hb.length = 24)
    (hs : C.sign oid Hb priv tape = (.ok, sig, used)) (hp : C.pubkeyCalc priv = (.ok, pub)) :
    C.verify oid Hb sig pub = .ok := by
  unfold B96.sign at hs
  by_cases ho : C.oidOk oid = true
  swap
  · simp [ho] at hs
  simp only [ho, Bool.not_true, Bool.false_eq_true, if_false] at hs
  by_cases hd : leNat priv = 0 ∨ leNat priv ≥ C.q
  · rw [if_pos hd] at hs; cases hs
  rw [if_neg hd] at hs
  have h0 : leNat priv ≠ 0 := by omega
  have hq : leNat priv < C.q := by omega
  obtain ⟨pub', hp', _, _, _, hload⟩ := b96_pubkeyCalc_valid L h0 hq
  rw [hp] at hp'
  cases hp'
  split at hs
  · cases hs
  · rename_i k rest used' hr
    obtain ⟨hk0, hkq⟩ := randNZMod_range hr
    simp only [Prod.mk.injEq] at hs
    rw [← hs.2.1]
    exact b_verify_signWith L ho hH hk0 hkq hload

/-- bign96Sign2 (deterministic one-time key) is complete: whenever the nonce loop finishes, the
signature passes bign96Verify under the matching public key.
(Termination of the `while (1)` loop is not part of the statement: the model runs it with `fuel`.) -/
theorem b96_sign2_complete (L : B96Laws C) {oid Hb priv sig pub : Bytes} {fuel : Nat} {t : Option Bytes}
    (hH : Hb.length = 24)
    (hs : C.sign2 fuel oid Hb priv t = some (.ok, sig)) (hp : C.pubkeyCalc priv = (.ok, pub)) :
    C.verify oid Hb sig pub = .ok := by
  unfold B96.sign2 at hs
  by_cases ho : C.oidOk oid = true
  swap
  · simp [ho] at hs
  simp only [ho, Bool.not_true, Bool.false_eq_true, if_false] at hs
  by_cases hd : leNat priv = 0 ∨ leNat priv ≥ C.q
  · rw [if_pos hd] at hs; cases hs
  rw [if_neg hd] at hs
  have h0 : leNat priv ≠ 0 := by omega
  have hq : leNat priv < C.q := by omega
  obtain ⟨pub', hp', _, _, _, hload⟩ := b96_pubkeyCalc_valid L h0 hq
  rw [hp] at hp'
  cases hp'
  split at hs
  · cases hs
  · rename_i k hn
    obtain ⟨hk0, hkq⟩ := b_nonceLoop_range C _ _ _ _ _ hn
    simp only [Option.some.injEq] at hs
    have := b_verify_signWith (oid := oid) (d := leNat priv) L ho hH hk0 hkq hload
    rw [hs] at this
    exact this

/-- the acceptance set of bign96Verify, exactly: valid identifier, public key on the curve, `s1 < q`,
`R = ((s1 + H) mod q) G + (s0 + 2^103) Q ≠ O` and `belt-hash(oid ‖ <x_R>_24 ‖ H)[0..10) = s0`
(the constant of the code is 2^103, see `B96.s0Full`) -/
theorem b96_verify_exact (L : B96Laws C) {oid Hb sig pub : Bytes} (hH : Hb.length = 24) :
    C.verify oid Hb sig pub = .ok ↔
      C.oidOk oid = true ∧ ∃ Q, C.loadPub pub = some Q ∧ leNat (sig.drop 10) < C.q ∧
        ∃ x y, C.xy (((leNat (sig.drop 10) + leNat Hb) % C.q) • C.base
                      + (leNat (sig.take 10) + 2 ^ 103) • Q) = some (x, y) ∧
          B96.hash80 C (oid ++ natLE 24 x ++ Hb) = sig.take 10 := by
  rw [b_verify_vcore L]
  simp only [leNat_eq, natLE_eq]
  cases ho : C.oidOk oid with
  | false => simp
  | true =>
    cases hl : B96.loadPub C pub with
    | none => simp
    | some Q =>
      simp only [Bool.not_true, Bool.false_eq_true, if_false, true_and, Option.some.injEq, exists_eq_left']
      rw [← leNat_eq Hb, ← C02.Par.vcore_isSome (b_par L) oid Hb (b_leNat24 hH) sig Q]
      cases (C.par.vcore oid Hb (leNat Hb) sig Q).isSome <;> simp

omit [AddCommGroup G] in
/-- a signature whose second part is not reduced (s1 ≥ q: s1 = q, s1 + q, 2^192 - 1, …) is rejected
with ERR_BAD_SIG -/
theorem b96_verify_rejects_s1 (C : B96 G) {oid Hb sig pub : Bytes} (h : leNat (sig.drop 10) ≥ C.q)
    (ho : C.oidOk oid = true) (hp : C.loadPub pub ≠ none) : C.verify oid Hb sig pub = .badSig := by
  unfold B96.verify
  simp only [ho, Bool.not_true, Bool.false_eq_true, if_false]
  cases hl : B96.loadPub C pub with
  | none => exact absurd hl hp
  | some Q => simp only; rw [if_pos h]

omit [AddCommGroup G] in
/-- a public key that is not a pair of field elements on the curve is rejected with ERR_BAD_PUBKEY -/
theorem b96_verify_rejects_pub (C : B96 G) {oid Hb sig pub : Bytes} (ho : C.oidOk oid = true)
    (hp : C.loadPub pub = none) : C.verify oid Hb sig pub = .badPubkey := by
  unfold B96.verify
  simp only [ho, Bool.not_true, Bool.false_eq_true, if_false, hp]

/-! ### non-vacuity: the hypotheses of the theorems above are satisfiable together (ToySig.lean:
`toyB96` over (ZMod Q96, +), Q96 = 13·2^188 + 1; private key 5, the hash value 2^192 - 1 ≥ q, a tape whose
first two draws (0 and 2^192 - 1) are rejected and whose third draw is 7) -/
section examples
open ToySig
set_option maxRecDepth 8000

example : ∃ C : B96 (ZMod Q96), B96Laws C := ⟨toyB96, toyB96Laws⟩

example := b96_pubkeyCalc_valid toyB96Laws (priv := priv5) (by decide) (by decide)

example : toyB96.keypairGen tape7 = (.ok, natLE 24 7 ++ natLE 24 7 ++ natLE 24 7, 72) := by decide

example := b96_keygen_valid toyB96Laws (tape := tape7) (kp := natLE 24 7 ++ natLE 24 7 ++ natLE 24 7)
  (used := 72) (by decide)

example := b96_keypairVal_exact toyB96Laws (priv := priv5) (pub := natLE 24 5 ++ natLE 24 5) (by decide)

example : randNZMod toyB96.q tape7 = (some 7, [], 72) := by decide

example := b96_sign_ok toyB96Laws (oid := [1]) (Hb := hFF) (priv := priv5) (tape := tape7) (k := 7)
  (by decide) (by decide) (by decide) (by decide)

/-- a run that really signs (after two rejected draws) and verifies -/
example : ∃ sig pub, toyB96.sign [1] hFF priv5 tape7 = (.ok, sig, 72) ∧ sig.length = 34 ∧
    toyB96.pubkeyCalc priv5 = (.ok, pub) ∧ toyB96.verify [1] hFF sig pub = .ok := by
  obtain ⟨sig, hs, hl⟩ := b96_sign_ok toyB96Laws (oid := [1]) (Hb := hFF) (priv := priv5)
    (tape := tape7) (k := 7) (by decide) (by decide) (by decide) (by decide)
  obtain ⟨pub, hp, _⟩ := b96_pubkeyCalc_valid toyB96Laws (priv := priv5) (by decide) (by decide)
  exact ⟨sig, pub, hs, hl, hp, b96_sign_complete toyB96Laws (by decide) hs hp⟩

/-- bign96Sign2 with H = 0 (the first iterate of the toy block cipher is 1): signs and verifies -/
example : ∃ sig pub, toyB96.sign2 3 [1] (zeros 24) priv5 none = some (.ok, sig) ∧
    toyB96.pubkeyCalc priv5 = (.ok, pub) ∧ toyB96.verify [1] (zeros 24) sig pub = .ok := by
  obtain ⟨pub, hp, _⟩ := b96_pubkeyCalc_valid toyB96Laws (priv := priv5) (by decide) (by decide)
  have hs : toyB96.sign2 3 [1] (zeros 24) priv5 none = some (.ok,
      [38, 31, 0, 0, 0, 0, 0, 0, 0, 0, 68, 100, 255, 255, 255, 255, 255, 255, 255, 255, 255, 255, 127,
       253, 255, 255, 255, 255, 255, 255, 255, 255, 255, 207]) := by decide
  exact ⟨_, pub, hs, hp, b96_sign2_complete toyB96Laws (by decide) hs hp⟩

example := b96_verify_exact toyB96Laws (oid := [1]) (Hb := hFF) (sig := zeros 34) (pub := zeros 48)
  (by decide)

example := b96_verify_rejects_s1 toyB96 (oid := [1]) (Hb := hFF)
  (sig := zeros 10 ++ List.replicate 24 255) (pub := natLE 24 5 ++ natLE 24 5)
  (by decide) (by decide) (by decide)

example := b96_verify_rejects_pub toyB96 (oid := [1]) (Hb := hFF) (sig := zeros 34) (pub := zeros 48)
  (by decide) (by decide)

end examples

end Bee2V.C16
