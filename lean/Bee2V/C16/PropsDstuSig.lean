/-
C16 — property theorems for the signature part of the model of dstu.c (Dstu.lean, DSTU 4145-2002)
under the hypotheses `DLaws C` (LawsSig.lean).  Private key d, public key Q = -dP; all numbers
little-endian; `ld` is the length of the signature in bits, `oo = order_no`.
-/
import Bee2V.C16.LemmasSig4
import Bee2V.C16.ToySig
namespace Bee2V.C16
open Sig
variable {G F : Type} [AddCommGroup G] {C : Dstu G F}

/-- dstuKeypairGen: whenever it succeeds (any tape, any number of zero draws) the private key is the
code of a number d in [1, n-1] (in fact d < 2^(nb-1)) and the public key is the encoding of -dP;
ERR_BAD_PARAMS is impossible -/
theorem dstu_keygen_valid (L : DLaws C) {fuel : Nat} {tape kp : Bytes} {used : Nat}
    (h : C.keypairGen fuel tape = some (.ok, kp, used)) :
    ∃ d, 0 < d ∧ d < C.n ∧ kp.take C.oo = natLE C.oo d ∧
      ∃ Q, C.xy (-(d • C.base)) = some Q ∧ kp.drop C.oo = C.encXY Q := by
  unfold Dstu.keypairGen at h
  split at h
  · cases h
  · rename_i d rest used' hr
    obtain ⟨h0, h1⟩ := d_randTrim_range C _ _ _ _ _ _ hr
    have hdn : d < C.n := Nat.lt_of_lt_of_le h1 (d_pow_lo L)
    rw [L.smul_eq, L.neg_eq] at h
    split at h
    · simp at h
    · rename_i Q hQ
      simp only [Option.some.injEq, Prod.mk.injEq, true_and] at h
      refine ⟨d, h0, hdn, ?_, Q, hQ, ?_⟩
      · rw [← h.1]; exact take_natLE_append _ _ _
      · rw [← h.1]; exact drop_natLE_append _ _ _

/-- dstuSign against dstuVerify: every returned signature — for every hash value of every length, every
admissible `ld` (minimal or larger), every tape including the rounds repeated because x_R = 0, r = 0 or
s = 0 — passes dstuVerify under the public key -dP -/
theorem dstu_sign_complete (L : DLaws C) {fuel ld : Nat} {Hb priv tape sig : Bytes} {used : Nat}
    {Q : F × F} (hs : C.sign fuel ld Hb priv tape = some (.ok, sig, used))
    (hQ : C.xy (-(leNat priv • C.base)) = some Q) :
    C.verify ld Hb sig (C.encXY Q) = .ok := by
  have hn := d_n_pos L
  unfold Dstu.sign at hs
  by_cases hc : ld % 16 ≠ 0 ∨ ld < 16 * C.oo
  · rw [if_pos hc] at hs; simp at hs
  rw [if_neg hc] at hs
  by_cases hd : leNat priv = 0 ∨ leNat priv ≥ C.n
  · rw [if_pos hd] at hs; simp at hs
  rw [if_neg hd] at hs
  split at hs
  · cases hs
  · rename_i h hh
    obtain ⟨e, x, y, _, he1, hxy, hr0, hs0, hsig⟩ := d_signLoop_shape C _ _ _ _ _ _ _ _ hs
    have hen : e < C.n := Nat.lt_of_lt_of_le he1 (d_pow_lo L)
    rw [addMod_eq (Nat.mod_lt _ hn) hen (d_n_lt_Wn C)] at hs0 hsig
    rw [L.smul_eq] at hxy
    rw [hsig]
    exact d_verify_sig L (by omega) (by omega) hh hxy hr0 hs0 hQ

/-- dstuSign rejects a private key outside {1, …, n − 1} (after the ld checks, before anything is drawn
from the generator) -/
theorem dstu_sign_rejects_privkey (C : Dstu G F) {fuel ld : Nat} {Hb priv tape : Bytes}
    (h1 : ld % 16 = 0) (h2 : 16 * C.oo ≤ ld) (hd : leNat priv = 0 ∨ leNat priv ≥ C.n) :
    C.sign fuel ld Hb priv tape = some (.badPrivkey, [], 0) := by
  unfold Dstu.sign
  rw [if_neg (by omega), if_pos hd]

/-- the acceptance set of dstuVerify, exactly: admissible `ld`, public key a pair of field elements on
the curve, a hash value that is loadable, zero padding in both halves, 0 < r, s < n, and
`R = sP + rQ ≠ O` with `trunc(h x_R) = r` -/
theorem dstu_verify_exact (L : DLaws C) {ld : Nat} {Hb sig pub : Bytes} :
    C.verify ld Hb sig pub = .ok ↔
      ld % 16 = 0 ∧ 16 * C.oo ≤ ld ∧
      ∃ xq yq Q h, C.loadXY pub = some (xq, yq) ∧ C.ofXY xq yq = some Q ∧ C.hashF Hb = some h ∧
        (∀ b ∈ (sig.take (ld / 16)).drop C.oo, b = 0) ∧ (∀ b ∈ (sig.drop (ld / 16)).drop C.oo, b = 0) ∧
        let r := leNat (sig.take C.oo)
        let s := leNat ((sig.drop (ld / 16)).take C.oo)
        0 < r ∧ r < C.n ∧ 0 < s ∧ s < C.n ∧
          ∃ x y, C.xy (s • C.base + r • Q) = some (x, y) ∧ r = C.truncR h x := by
  constructor
  · intro hv
    unfold Dstu.verify at hv
    simp only at hv
    (repeat' split at hv) <;> cases hv
    rename_i hc _ xq yq hl _ Q hof _ h hh hpad hrs _ x y hxy hr
    rw [L.smul_eq, L.smul_eq, L.add_eq] at hxy
    rw [not_or, not_any_ne_zero_iff, not_any_ne_zero_iff] at hpad
    refine ⟨by omega, by omega, xq, yq, Q, h, hl, hof, hh, hpad.1, hpad.2, ?_⟩
    dsimp only
    exact ⟨by omega, by omega, by omega, by omega, x, y, hxy, hr⟩
  · rintro ⟨h16, hld, xq, yq, Q, h, hl, hof, hh, hp1, hp2, hrest⟩
    dsimp only at hrest
    obtain ⟨hr0, hrn, hs0, hsn, x, y, hxy, hr⟩ := hrest
    rw [← not_any_ne_zero_iff] at hp1 hp2
    unfold Dstu.verify
    rw [if_neg (by omega)]
    simp only [hl, hof, hh]
    rw [if_neg (by rw [not_or]; exact ⟨hp1, hp2⟩), if_neg (by omega), L.smul_eq, L.smul_eq, L.add_eq, hxy]
    simp only
    rw [if_pos hr]

/-- a non-zero octet in either padding region (positions oo ≤ i < ld/16 of the first or of the second
half of the signature) makes dstuVerify fail -/
theorem dstu_verify_rejects_padding (L : DLaws C) {ld : Nat} {Hb sig pub : Bytes} {i : Nat} {b : UInt8}
    (h1 : C.oo ≤ i) (h2 : i < ld / 16) (hb : b ≠ 0)
    (h : sig[i]? = some b ∨ sig[ld / 16 + i]? = some b) :
    C.verify ld Hb sig pub ≠ .ok := by
  intro hv
  obtain ⟨_, _, _, _, _, _, _, _, _, hp1, hp2, _⟩ := (dstu_verify_exact L).1 hv
  rcases h with h | h
  · exact hb (hp1 b (d_pad_mem1 h h1 h2))
  · exact hb (hp2 b (d_pad_mem2 h h1))

/-! ### non-vacuity: the hypotheses of the theorems above are satisfiable together (ToySig.lean:
`toyDstu` over (ZMod 65521, +), m = 16, oo = 2: minimal ld = 32) -/
section examples
open ToySig
set_option maxRecDepth 4000

example : ∃ C : Dstu (ZMod 65521) (Fin 65536), DLaws C := ⟨toyDstu, toyDLaws⟩

/-- a zero draw is repeated; d = 9, Q = -9P -/
example := dstu_keygen_valid toyDLaws (fuel := 3) (tape := [0, 0, 9, 0]) (kp := [9, 0, 9, 0, 232, 255])
  (used := 4) (by decide)

/-- ld larger than the minimum (64 > 32): zero padding in both halves; signs and verifies -/
example : toyDstu.sign 5 64 [1, 2, 3] [5, 0] [0, 0, 7, 0] = some (.ok, [7, 0, 0, 0, 42, 0, 0, 0], 4) ∧
    toyDstu.verify 64 [1, 2, 3] [7, 0, 0, 0, 42, 0, 0, 0] (toyDstu.encXY (5, 65516)) = .ok :=
  have hs : toyDstu.sign 5 64 [1, 2, 3] [5, 0] [0, 0, 7, 0]
      = some (.ok, [7, 0, 0, 0, 42, 0, 0, 0], 4) := by decide
  ⟨hs, dstu_sign_complete toyDLaws hs (by decide)⟩

/-- minimal ld -/
example : toyDstu.verify 32 [1, 2, 3] [7, 0, 42, 0] (toyDstu.encXY (5, 65516)) = .ok :=
  dstu_sign_complete toyDLaws (fuel := 5) (priv := [5, 0]) (tape := [0, 0, 7, 0]) (used := 4)
    (by decide) (by decide)

example := dstu_verify_exact toyDLaws (ld := 64) (Hb := [1, 2, 3]) (sig := [7, 0, 0, 0, 42, 0, 0, 0])
  (pub := [5, 0, 236, 255])

/-- the valid signature with one padding octet set (position 2 of the first half, of the second half) -/
example : toyDstu.verify 64 [1, 2, 3] [7, 0, 1, 0, 42, 0, 0, 0] (toyDstu.encXY (5, 65516)) ≠ .ok :=
  dstu_verify_rejects_padding toyDLaws (i := 2) (b := 1) (by decide) (by decide) (by decide)
    (Or.inl (by decide))

example : toyDstu.verify 64 [1, 2, 3] [7, 0, 0, 0, 42, 0, 1, 0] (toyDstu.encXY (5, 65516)) ≠ .ok :=
  dstu_verify_rejects_padding toyDLaws (i := 2) (b := 1) (by decide) (by decide) (by decide)
    (Or.inr (by decide))

end examples

end Bee2V.C16
