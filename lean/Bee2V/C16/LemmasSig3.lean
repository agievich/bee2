/-
C16 — lemmas for the g12s theorems: `zzInvMod` (extended Euclid) is the inverse modulo a prime, the
congruence `z1 + z2 d ≡ k` of GOST R 34.10-2012, the signing loop, signatures against `verify`.
-/
import Bee2V.C16.LemmasSig2
namespace Bee2V.C16.Sig
open Bee2V.C16

/-! ### zzInvMod -/

/-- the invariant of extended Euclid: `r_i ≡ t_i a (mod m)`, hence the result times a is the gcd -/
theorem xgcd_spec (m a : Nat) : ∀ (r1 r0 : Nat) (t0 t1 : Int),
    ((r0 : ℕ) : ZMod m) = (t0 : ZMod m) * (a : ZMod m) →
    ((r1 : ℕ) : ZMod m) = (t1 : ZMod m) * (a : ZMod m) →
    ((xgcd r0 r1 t0 t1 : ℤ) : ZMod m) * (a : ZMod m) = ((Nat.gcd r0 r1 : ℕ) : ZMod m) := by
  intro r1
  induction r1 using Nat.strong_induction_on with
  | _ r1 ih =>
    intro r0 t0 t1 h0 h1
    rw [xgcd]
    by_cases hz : r1 = 0
    · rw [dif_pos hz]
      subst hz
      rw [Nat.gcd_zero_right, h0]
    · rw [dif_neg hz]
      have hlt : r0 % r1 < r1 := Nat.mod_lt _ (Nat.pos_of_ne_zero hz)
      have hg : Nat.gcd r1 (r0 % r1) = Nat.gcd r0 r1 := by
        rw [Nat.gcd_comm r1 (r0 % r1), ← Nat.gcd_rec, Nat.gcd_comm]
      rw [← hg]
      apply ih (r0 % r1) hlt r1 t1 _ h1
      have hm : ((r0 % r1 : ℕ) : ZMod m) = (r0 : ZMod m) - (r1 : ZMod m) * ((r0 / r1 : ℕ) : ZMod m) := by
        have := congrArg (fun n : ℕ => (n : ZMod m)) (Nat.mod_add_div r0 r1)
        simp only [Nat.cast_add, Nat.cast_mul] at this
        rw [← this]
        ring
      rw [hm, h0, h1, Int.cast_sub, Int.cast_mul, Int.cast_natCast]
      ring

/-- `zzInvMod` modulo a prime: the result is reduced and is the inverse -/
theorem invMod_spec {q e : Nat} (hq : Nat.Prime q) (h0 : 0 < e) (he : e < q) :
    invMod e q < q ∧ (invMod e q * e) % q = 1 := by
  have hqpos : 0 < q := hq.pos
  have hcop : Nat.gcd q e = 1 := by
    have : Nat.Coprime q e := (Nat.Prime.coprime_iff_not_dvd hq).2 (fun hd => by
      have := Nat.le_of_dvd h0 hd
      omega)
    exact this
  have hx := xgcd_spec q e e q 0 1 (by simp) (by simp)
  rw [hcop, Nat.cast_one] at hx
  unfold invMod
  rw [Nat.mod_eq_of_lt he]
  generalize xgcd q e 0 1 = t at hx
  have hnn : 0 ≤ t % (q : ℤ) := Int.emod_nonneg _ (by omega)
  have hlt : t % (q : ℤ) < q := Int.emod_lt_of_pos _ (by omega)
  refine ⟨by omega, ?_⟩
  have hc : (((t % (q : ℤ)).toNat : ℕ) : ZMod q) = (t : ZMod q) := by
    have h1 : (((t % (q : ℤ)).toNat : ℕ) : ℤ) = t % (q : ℤ) := Int.toNat_of_nonneg hnn
    have h2 : ((((t % (q : ℤ)).toNat : ℕ) : ℤ) : ZMod q) = (((t % (q : ℤ)).toNat : ℕ) : ZMod q) :=
      Int.cast_natCast _
    rw [← h2, h1, ZMod.intCast_mod]
  have h1 : 1 % q = 1 := Nat.mod_eq_of_lt hq.one_lt
  rw [← h1]
  apply mod_eq_of_cast
  push_cast
  rw [hc, hx]

/-- the inverse modulo a prime is unique among the reduced numbers -/
theorem invMod_unique {q e v : Nat} (hq : Nat.Prime q) (h0 : 0 < e) (he : e < q) (hv : v < q)
    (h : (v * e) % q = 1) : v = invMod e q := by
  obtain ⟨hi, hm⟩ := invMod_spec hq h0 he
  have h1 : 1 % q = 1 := Nat.mod_eq_of_lt hq.one_lt
  have c1 : (v : ZMod q) * (e : ZMod q) = 1 := by
    have := cast_of_mod_eq (q := q) (a := v * e) (b := 1) (by rw [h, h1])
    simpa using this
  have c2 : (invMod e q : ZMod q) * (e : ZMod q) = 1 := by
    have := cast_of_mod_eq (q := q) (a := invMod e q * e) (b := 1) (by rw [hm, h1])
    simpa using this
  have c3 : (v : ZMod q) = (invMod e q : ZMod q) := by
    calc (v : ZMod q) = (v : ZMod q) * ((invMod e q : ZMod q) * (e : ZMod q)) := by rw [c2, mul_one]
      _ = (invMod e q : ZMod q) * ((v : ZMod q) * (e : ZMod q)) := by ring
      _ = (invMod e q : ZMod q) := by rw [c1, mul_one]
  have := mod_eq_of_cast c3
  rwa [Nat.mod_eq_of_lt hv, Nat.mod_eq_of_lt hi] at this

/-- the congruence of GOST R 34.10: with `s = (r d + k e) mod q` and `v e ≡ 1`,
`z1 = s v`, `z2 = -(v r)` give `z1 + z2 d ≡ k` -/
theorem gost_cong {q v e r d k : Nat} (hq : 0 < q) (hv : (v * e) % q = 1 % q) :
    ((((r * d) % q + (k * e) % q) % q * v) % q + ((q - (v * r) % q) % q) * d) % q = k % q := by
  have c1 : (v : ZMod q) * (e : ZMod q) = 1 := by
    have := cast_of_mod_eq (q := q) (a := v * e) (b := 1) hv
    simpa using this
  have hle : (v * r) % q ≤ q := (Nat.mod_lt _ hq).le
  apply mod_eq_of_cast
  push_cast [ZMod.natCast_mod, Nat.cast_sub hle, ZMod.natCast_self]
  calc ((r : ZMod q) * d + k * e) * v + (0 - v * r) * d = (k : ZMod q) * ((v : ZMod q) * e) := by ring
    _ = k := by rw [c1, mul_one]

/-! ### g12s sizes and keys -/

variable {G : Type} [AddCommGroup G] {C : G12 G}

theorem g_q_pos (L : G12Laws C) : 0 < C.q := L.q_prime.pos

theorem g_pow_mo (L : G12Laws C) : 256 ^ C.mo = 2 ^ C.l := by
  rw [C02.pow256]
  congr 1
  have := L.l_mod
  unfold G12.mo
  omega

theorem g_q_lt_W (L : G12Laws C) : C.q < 2 ^ C.l := L.q_hi

theorem g_lt_pow (L : G12Laws C) {v : Nat} (h : v < C.q) : v < 256 ^ C.mo := by
  rw [g_pow_mo L]; exact Nat.lt_trans h L.q_hi

omit [AddCommGroup G] in
theorem g_hashE_range (C : G12 G) (hq : 1 < C.q) (H : Bytes) : 0 < C.hashE H ∧ C.hashE H < C.q := by
  unfold G12.hashE
  simp only
  have := Nat.mod_lt (beNat H) (show 0 < C.q by omega)
  split <;> omega

theorem g_loadPub_encXY (L : G12Laws C) {P : G} {x y : Nat} (h : C.xy P = some (x, y)) :
    C.loadPub (C.encXY (x, y)) = some P := by
  obtain ⟨hx, hy⟩ := L.xy_lt P x y h
  unfold G12.loadPub G12.encXY
  simp only [take_natLE_append, drop_natLE_append]
  rw [leNat_natLE_of_lt (by rw [C02.pow256]; exact hx), leNat_natLE_of_lt (by rw [C02.pow256]; exact hy)]
  exact L.ofXY_xy P x y h

/-! ### the signing loop -/

omit [AddCommGroup G] in
/-- every successful exit of the `gen_k:` loop has the shape r ‖ s for some one-time key in [1, q-1]
with r = x_{kP} mod q ≠ 0 and s = (r d + k e) mod q ≠ 0 -/
theorem g_signLoop_shape (C : G12 G) (d e : Nat) : ∀ (fuel : Nat) (tape : Bytes) (used : Nat)
    (sig : Bytes) (used' : Nat), C.signLoop d e fuel tape used = some (.ok, sig, used') →
    ∃ k x y, 0 < k ∧ k < C.q ∧ C.xy (C.smul k C.base) = some (x, y) ∧ x % C.q ≠ 0 ∧
      addMod (2 ^ C.l) ((x % C.q * d) % C.q) ((k * e) % C.q) C.q ≠ 0 ∧
      sig = natBE C.mo (x % C.q) ++
        natBE C.mo (addMod (2 ^ C.l) ((x % C.q * d) % C.q) ((k * e) % C.q) C.q) := by
  intro fuel
  induction fuel with
  | zero => intro tape used sig used' h; simp [G12.signLoop] at h
  | succ n ih =>
    intro tape used sig used' h
    simp only [G12.signLoop] at h
    split at h
    · simp at h
    · rename_i k rest u hr
      obtain ⟨hk0, hkq⟩ := randLoop_range _ _ _ _ _ _ _ hr
      split at h
      · simp at h
      · rename_i R hR
        split at h
        · exact ih _ _ _ _ h
        · rename_i hr0
          split at h
          · exact ih _ _ _ _ h
          · rename_i hs0
            simp only [Option.some.injEq, Prod.mk.injEq, true_and] at h
            exact ⟨k, R.1, R.2, hk0, hkq, hR, hr0, hs0, h.1.symm⟩

/-- a signature r ‖ s with r = x_{kP} mod q ≠ 0, s = (r d + k e) mod q ≠ 0 passes `verify` under dP -/
theorem g_verify_sig (L : G12Laws C) {Hb pub : Bytes} {d k x y : Nat}
    (hk : C.xy (k • C.base) = some (x, y)) (hr0 : x % C.q ≠ 0)
    (hs0 : ((x % C.q * d) % C.q + (k * C.hashE Hb) % C.q) % C.q ≠ 0)
    (hp : C.loadPub pub = some (d • C.base)) :
    C.verify Hb (natBE C.mo (x % C.q) ++
      natBE C.mo (((x % C.q * d) % C.q + (k * C.hashE Hb) % C.q) % C.q)) pub = .ok := by
  have hq := g_q_pos L
  have hq1 : 1 < C.q := L.q_prime.one_lt
  obtain ⟨he0, heq⟩ := g_hashE_range C hq1 Hb
  obtain ⟨hvq, hve⟩ := invMod_spec L.q_prime he0 heq
  unfold G12.verify
  generalize C.hashE Hb = e at *
  generalize hr : x % C.q = r at *
  have hrq : r < C.q := by rw [← hr]; exact Nat.mod_lt _ hq
  generalize hs : ((r * d) % C.q + (k * e) % C.q) % C.q = s at *
  have hsq : s < C.q := by rw [← hs]; exact Nat.mod_lt _ hq
  have hbr : beNat (natBE C.mo r) = r := by
    rw [beNat_natBE, Nat.mod_eq_of_lt (g_lt_pow L hrq)]
  have hbs : beNat (natBE C.mo s) = s := by
    rw [beNat_natBE, Nat.mod_eq_of_lt (g_lt_pow L hsq)]
  simp only [hp, take_natBE_append, drop_natBE_append, hbr, hbs]
  rw [if_neg (by omega)]
  rw [negMod_eq (Nat.mod_lt _ hq), L.smul_eq, L.smul_eq, L.add_eq, ← mul_nsmul', ← add_nsmul]
  have h1 : 1 % C.q = 1 := Nat.mod_eq_of_lt hq1
  have hc := gost_cong (q := C.q) (v := invMod e C.q) (e := e) (r := r) (d := d) (k := k) hq
    (by rw [hve, h1])
  rw [hs] at hc
  rw [nsmul_congr L.order hc, hk]
  simp only [hr, if_true]

/-- every successful run of g12sSign: the private key is in [1, q-1] and the signature is r ‖ s with
r = x_{kP} mod q ≠ 0, s = (r d + k e) mod q ≠ 0 for a one-time key k -/
theorem g_sign_shape (L : G12Laws C) {Hb priv tape sig : Bytes} {fuel used : Nat}
    (hs : C.sign fuel Hb priv tape = some (.ok, sig, used)) :
    0 < leNat priv ∧ leNat priv < C.q ∧ ∃ k x y, C.xy (k • C.base) = some (x, y) ∧ x % C.q ≠ 0 ∧
      ((x % C.q * leNat priv) % C.q + (k * C.hashE Hb) % C.q) % C.q ≠ 0 ∧
      sig = natBE C.mo (x % C.q) ++
        natBE C.mo (((x % C.q * leNat priv) % C.q + (k * C.hashE Hb) % C.q) % C.q) ∧
      beNat (sig.drop C.mo) = ((x % C.q * leNat priv) % C.q + (k * C.hashE Hb) % C.q) % C.q := by
  have hq := g_q_pos L
  unfold G12.sign at hs
  simp only at hs
  by_cases hd : leNat priv = 0 ∨ leNat priv ≥ C.q
  · rw [if_pos hd] at hs; simp at hs
  rw [if_neg hd] at hs
  obtain ⟨k, x, y, _, _, hxy, hr0, hs0, hsig⟩ := g_signLoop_shape C _ _ _ _ _ _ _ hs
  rw [L.smul_eq] at hxy
  rw [addMod_eq (Nat.mod_lt _ hq) (Nat.mod_lt _ hq) (g_q_lt_W L)] at hsig hs0
  refine ⟨by omega, by omega, k, x, y, hxy, hr0, hs0, hsig, ?_⟩
  rw [hsig, drop_natBE_append, beNat_natBE, Nat.mod_eq_of_lt (g_lt_pow L (Nat.mod_lt _ hq))]

end Bee2V.C16.Sig
