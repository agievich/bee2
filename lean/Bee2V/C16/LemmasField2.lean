/-
C16 — helper lemmas for dstuPointCompress / dstuPointRecover: octet round trips of field elements and
the normal forms of the two functions over a field satisfying `FLaws`.
-/
import Bee2V.C16.LemmasField
import Bee2V.C16.LemmasPfok

namespace Bee2V.C16.Fld
open Bee2V.C16

variable {F G : Type} [Field F]

/-! ### octets of field elements -/

section enc
variable (C : Dstu G F) (L : FLaws C.f)

omit [Field F] in
theorem m_le_no : C.f.m ≤ 8 * C.no := by unfold Dstu.no; omega

omit [Field F] in
theorem encF_length (x : F) : (C.encF x).length = C.no := Sig.natLE_length _ _

omit [Field F] in
theorem encXY_length (p : F × F) : (C.encXY p).length = C.no + C.no := by
  unfold Dstu.encXY; rw [List.length_append, encF_length, encF_length]

include L

theorem leNat_encF (x : F) : leNat (C.encF x) = C.f.toNat x :=
  Pf.leNat_natLE' (lt_of_lt_of_le (L.toNat_lt x) (Nat.pow_le_pow_right (by norm_num) (m_le_no C)))

theorem decode_encF (x : F) : C.f.ofNat (leNat (C.encF x)) = some x := by
  rw [leNat_encF C L, L.enc_dec]

theorem encF_zero : C.encF 0 = zeros C.no := by
  unfold Dstu.encF; rw [L.toNat_zero, Pf.natLE_zero]

theorem decode_zeros (n : Nat) : C.f.ofNat (leNat (zeros n)) = some 0 := by
  rw [Pf.leNat_zeros, ← L.toNat_zero, L.enc_dec]

theorem loadXY_encXY (x y : F) : C.loadXY (C.encXY (x, y)) = some (x, y) := by
  unfold Dstu.loadXY Dstu.encXY
  simp only
  rw [List.take_left' (encF_length C x), List.drop_left' (encF_length C x),
    decode_encF C L, decode_encF C L]

/-- codes are injective -/
theorem encF_inj {x y : F} (h : C.encF x = C.encF y) : x = y := by
  have := decode_encF C L x
  rw [h, decode_encF C L] at this
  exact (Option.some.inj this).symm

end enc

/-! ### normal forms -/

section forms
variable (C : Dstu G F)

/-- the x-coordinate after `wwSetBit(x, 0, 0)` and the trace correction -/
def xfix (x' : F) : F :=
  if C.f.tr (C.f.clearLow x') != C.A then C.f.clearLow x' + 1 else C.f.clearLow x'

/-- x + A + B / x² as dstuPointRecover computes it -/
def bval (x : F) : F := if C.A then C.B / (x * x) + x + 1 else C.B / (x * x) + x

/-- the choice of the root -/
def ysel (x z : F) (trace : Bool) : F := if C.f.tr z == trace then x * z else x * z + x

variable (L : FLaws C.f)
include L

theorem compress_zero (y : F) : C.compress (C.encXY (0, y)) = (.ok, zeros C.no) := by
  unfold Dstu.compress
  rw [loadXY_encXY C L]
  simp only
  rw [if_pos ((L.isZero_iff 0).2 rfl)]

theorem isZero_add_one (x : F) : C.f.isZero (x + 1) = true ↔ x = 1 := by
  rw [L.isZero_iff]
  constructor
  · intro h; linear_combination h - L.char2 1
  · intro h; rw [h]; exact L.char2 1

/-- the point (1, y) with tr(y) = 0 is refused -/
theorem compress_one_refused {y : F} (hy : C.f.tr y = false) :
    C.compress (C.encXY (1, y)) = (.badPoint, []) := by
  unfold Dstu.compress
  rw [loadXY_encXY C L]
  simp only
  rw [(isZero_false_iff L 1).2 one_ne_zero]
  simp only [Bool.false_eq_true, if_false, L.div_eq, L.add_eq, L.one_eq, div_one, hy,
    (isZero_add_one C L 1).2 rfl, Bool.not_false, Bool.and_self, if_true]

theorem compress_nz {x : F} (hx : x ≠ 0) (y : F) (hx1 : x = 1 → C.f.tr (y / x) = true) :
    C.compress (C.encXY (x, y)) =
      (.ok, C.encF (if C.f.tr (y / x) then C.f.clearLow x + 1 else C.f.clearLow x)) := by
  have hcond : (C.f.isZero (x + 1) && !C.f.tr (y / x)) = false := by
    cases h : C.f.isZero (x + 1)
    · rfl
    · rw [hx1 ((isZero_add_one C L x).1 h)]; rfl
  unfold Dstu.compress
  rw [loadXY_encXY C L]
  simp only
  rw [(isZero_false_iff L x).2 hx]
  simp only [Bool.false_eq_true, if_false, L.div_eq, L.add_eq, L.one_eq, hcond]

omit [Field F] L in
theorem recover_none {xp : Bytes} (h : C.f.ofNat (leNat xp) = none) :
    C.recover xp = (.badPoint, []) := by
  unfold Dstu.recover; rw [h]

theorem recover_zero {xp : Bytes} (h : C.f.ofNat (leNat xp) = some 0) :
    C.recover xp = (.ok, C.encXY (0, C.f.sqrtF C.B)) := by
  unfold Dstu.recover
  rw [h]
  simp only
  rw [if_pos ((L.isZero_iff 0).2 rfl)]
  unfold Dstu.encXY
  rw [encF_zero C L]

theorem recover_nz {xp : Bytes} {x' : F} (h : C.f.ofNat (leNat xp) = some x') (hx : x' ≠ 0)
    (hf : xfix C x' ≠ 0) :
    C.recover xp =
      match C.f.qsolve C.f.one (bval C (xfix C x')) with
      | none => (.badParams, [])
      | some z => (.ok, C.encXY (xfix C x', ysel C (xfix C x') z (C.f.low x'))) := by
  have e := (isZero_false_iff L (xfix C x')).2 hf
  unfold xfix at e
  unfold Dstu.recover
  rw [h]
  simp only
  rw [(isZero_false_iff L x').2 hx]
  simp only [Bool.false_eq_true, if_false, L.div_eq, L.add_eq, L.one_eq, L.sqr_eq, L.mul_eq, e]
  rfl

/-- a string whose x-coordinate becomes 0 after the trace rule is rejected (docs/C16.fix-8.diff) -/
theorem recover_nz_zero {xp : Bytes} {x' : F} (h : C.f.ofNat (leNat xp) = some x') (hx : x' ≠ 0)
    (hf : xfix C x' = 0) : C.recover xp = (.badPoint, []) := by
  have e := (L.isZero_iff (xfix C x')).2 hf
  unfold xfix at e
  unfold Dstu.recover
  rw [h]
  simp only
  rw [(isZero_false_iff L x').2 hx]
  simp only [Bool.false_eq_true, if_false, L.add_eq, L.one_eq, e, if_true]

omit L in
/-- the curve equation in terms of w = y / x -/
theorem curve_w {x y : F} (hx : x ≠ 0)
    (hc : y * y + x * y = x * x * x + (if C.A then x * x else 0) + C.B) :
    (y / x) * (y / x) + y / x = bval C x := by
  unfold bval
  cases hA : C.A <;> rw [hA] at hc <;> simp only [Bool.false_eq_true, if_false, if_true] at hc ⊢ <;>
    field_simp <;> linear_combination hc

/-- and back: any root z of z² + z = x + A + B/x² gives the points (x, xz), (x, xz + x) -/
theorem curve_of_root {x z : F} (hx : x ≠ 0) (hz : z * z + z = bval C x) (trace : Bool) :
    ysel C x z trace * ysel C x z trace + x * ysel C x z trace
      = x * x * x + (if C.A then x * x else 0) + C.B := by
  have hb : (x * x) * bval C x = x * x * x + (if C.A then x * x else 0) + C.B := by
    unfold bval
    cases C.A <;> simp only [Bool.false_eq_true, if_false, if_true] <;> field_simp <;> ring
  rw [← hb, ← hz]
  unfold ysel
  split
  · ring
  · linear_combination L.char2 (x * x * z) + L.char2 (x * x)

omit [Field F] L in
theorem clearLow_false {O : FOps F} {x : F} (h : O.low x = false) : O.clearLow x = x := by
  unfold FOps.clearLow; rw [h]; simp

omit L in
theorem clearLow_true {O : FOps F} (L : FLaws O) {x : F} (h : O.low x = true) :
    O.clearLow x = x + 1 := by
  unfold FOps.clearLow; rw [h, if_pos rfl, L.add_eq, L.one_eq]

/-- the stored x-coordinate is not zero unless x = 1 and tr(y) = 0 -/
theorem stored_props {x : F} (hx : x ≠ 0) (t : Bool) (hx1 : x = 1 → t = true) :
    let x' := if t then C.f.clearLow x + 1 else C.f.clearLow x
    x' ≠ 0 ∧ C.f.low x' = t ∧ C.f.clearLow x' = C.f.clearLow x := by
  have hl0 := low_clearLow L x
  cases t
  · simp only [Bool.false_eq_true, if_false]
    refine ⟨?_, hl0, ?_⟩
    · intro h0
      rcases clearLow_cases L x with ⟨_, e⟩ | ⟨_, e⟩
      · exact hx (e.symm.trans h0)
      · rw [e] at h0
        have : x = 1 := by linear_combination h0 - L.char2 1
        exact absurd (hx1 this) (by simp)
    · exact clearLow_false hl0
  · simp only [if_true]
    have hl1 : C.f.low (C.f.clearLow x + 1) = true := by rw [L.low_add_one, hl0]; rfl
    refine ⟨?_, hl1, ?_⟩
    · intro h0
      rw [h0, L.low_zero] at hl1
      cases hl1
    · rw [clearLow_true L hl1, add_one_add_one L]

/-- clearing bit 0 and correcting the trace reconstructs x -/
theorem xfix_clearLow {x : F} (ht : C.f.tr x = C.A) {x' : F} (h : C.f.clearLow x' = C.f.clearLow x) :
    xfix C x' = x := by
  unfold xfix
  rw [h]
  rcases clearLow_cases L x with ⟨_, e⟩ | ⟨_, e⟩
  · rw [e, ht]; simp
  · rw [e, tr_add_one L, ht, add_one_add_one L]
    cases C.A <;> simp

/-- Recover ∘ Compress = id, the point (1, y) with tr(y) = 0 set aside -/
theorem recover_compress_aux (x y : F)
    (hc : y * y + x * y = x * x * x + (if C.A then x * x else 0) + C.B)
    (htr : x = 0 ∨ C.f.tr x = C.A)
    (hx1 : x = 1 → C.f.tr y = true) :
    ∃ xp, C.compress (C.encXY (x, y)) = (.ok, xp) ∧ xp.length = C.no ∧
      C.recover xp = (.ok, C.encXY (x, y)) := by
  by_cases hx : x = 0
  · subst hx
    refine ⟨_, compress_zero C L y, Sig.zeros_length _, ?_⟩
    rw [recover_zero C L (decode_zeros C L _)]
    have hB : C.B = y * y := by
      have : y * y = C.B := by
        rw [← sub_eq_zero]
        have h := hc
        simp only [zero_mul, mul_zero, ite_self, add_zero, zero_add] at h
        linear_combination h
      exact this.symm
    rw [hB, sqrtF_mul_self L]
  · have ht : C.f.tr x = C.A := htr.resolve_left hx
    have hx1' : x = 1 → C.f.tr (y / x) = true := by
      intro h1; rw [h1, div_one]; exact hx1 h1
    obtain ⟨hs0, hslow, hsclr⟩ := stored_props C L hx (C.f.tr (y / x)) hx1'
    refine ⟨_, compress_nz C L hx y hx1', encF_length C _, ?_⟩
    rw [recover_nz C L (decode_encF C L _) hs0 (by rw [xfix_clearLow C L ht hsclr]; exact hx), xfix_clearLow C L ht hsclr, hslow]
    obtain ⟨z, hz, hzw⟩ := qsolve_one L (curve_w C hx hc)
    rw [hz]
    simp only
    have hy : ysel C x z (C.f.tr (y / x)) = y := by
      unfold ysel
      have hxx : x * (y / x) = y := by field_simp
      rcases hzw with e | e
      · rw [e, beq_self_eq_true, if_pos rfl]
        exact hxx
      · rw [e, tr_add_one L]
        have : ((!C.f.tr (y / x)) == C.f.tr (y / x)) = false := by cases C.f.tr (y / x) <;> rfl
        rw [this]
        simp only [Bool.false_eq_true, if_false]
        linear_combination hxx + L.char2 x
    rw [hy]

/-- Compress says ERR_BAD_POINT on an encoded pair exactly for (1, y), tr(y) = 0 -/
theorem compress_bad_iff (x y : F) :
    C.compress (C.encXY (x, y)) = (.badPoint, []) ↔ x = 1 ∧ C.f.tr y = false := by
  constructor
  · intro h
    by_cases hx : x = 0
    · subst hx; rw [compress_zero C L] at h; cases h
    · by_contra hn
      have hx1 : x = 1 → C.f.tr (y / x) = true := by
        intro h1
        rw [h1, div_one]
        cases ht : C.f.tr y
        · exact absurd ⟨h1, ht⟩ hn
        · rfl
      rw [compress_nz C L hx y hx1] at h
      cases h
  · rintro ⟨h1, hy⟩
    rw [h1]; exact compress_one_refused C L hy

theorem encXY_inj {p q : F × F} (h : C.encXY p = C.encXY q) : p = q := by
  unfold Dstu.encXY at h
  obtain ⟨h1, h2⟩ := List.append_inj h (by rw [encF_length, encF_length])
  exact Prod.ext (encF_inj C L h1) (encF_inj C L h2)

end forms

end Bee2V.C16.Fld
