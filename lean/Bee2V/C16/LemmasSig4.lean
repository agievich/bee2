/-
C16 — lemmas for the dstu theorems: sizes (`order_nb`, `order_no`, `B^order_n`), the point encoding, the
rejection loops, the layout r ‖ 0.. ‖ s ‖ 0.. of the signature, signatures against `verify`
(`Q = -dP`, `s = (e + d r) mod n  ⇒  sP + rQ = eP`).
-/
import Mathlib.Tactic.Abel
import Bee2V.C16.LemmasSig
namespace Bee2V.C16.Sig
open Bee2V.C16

variable {G F : Type}

/-! ### lists -/

theorem zeros_any (k : Nat) : (zeros k).any (· != 0) = false := by
  induction k with
  | zero => rfl
  | succ k ih =>
    have : zeros (k + 1) = 0 :: zeros k := rfl
    rw [this, List.any_cons, ih]
    rfl

theorem any_ne_zero_iff (l : Bytes) : l.any (· != 0) = true ↔ ∃ b ∈ l, b ≠ 0 := by
  simp

theorem not_any_ne_zero_iff (l : Bytes) : ¬ (l.any (· != 0) = true) ↔ ∀ b ∈ l, b = 0 := by
  simp

/-- the pieces of `r ‖ 0.. ‖ s ‖ 0..` -/
theorem d_layout (oo half r s : Nat) (h : oo ≤ half) :
    let sig := natLE oo r ++ zeros (half - oo) ++ natLE oo s ++ zeros (half - oo)
    sig.take oo = natLE oo r ∧ (sig.take half).drop oo = zeros (half - oo) ∧
    (sig.drop half).take oo = natLE oo s ∧ (sig.drop half).drop oo = zeros (half - oo) ∧
    sig.length = 2 * half := by
  intro sig
  have hl : (natLE oo r ++ zeros (half - oo)).length = half := by
    rw [List.length_append, natLE_length, zeros_length]; omega
  have e1 : sig = natLE oo r ++ (zeros (half - oo) ++ (natLE oo s ++ zeros (half - oo))) := by
    simp only [sig, List.append_assoc]
  have e2 : sig = (natLE oo r ++ zeros (half - oo)) ++ (natLE oo s ++ zeros (half - oo)) := by
    simp only [sig, List.append_assoc]
  have t : sig.take half = natLE oo r ++ zeros (half - oo) := by
    rw [e2]; exact List.take_left' hl
  have d : sig.drop half = natLE oo s ++ zeros (half - oo) := by
    rw [e2]; exact List.drop_left' hl
  refine ⟨?_, ?_, ?_, ?_, ?_⟩
  · rw [e1]; exact take_natLE_append _ _ _
  · rw [t]; exact drop_natLE_append _ _ _
  · rw [d]; exact take_natLE_append _ _ _
  · rw [d]; exact drop_natLE_append _ _ _
  · rw [e2, List.length_append, hl, List.length_append, natLE_length, zeros_length]; omega

/-- an octet at position i, oo ≤ i < half, of the first half lies in the first padding region -/
theorem d_pad_mem1 {sig : Bytes} {oo half i : Nat} {b : UInt8} (h : sig[i]? = some b) (h1 : oo ≤ i)
    (h2 : i < half) : b ∈ (sig.take half).drop oo := by
  rw [List.mem_iff_getElem?]
  refine ⟨i - oo, ?_⟩
  rw [List.getElem?_drop, List.getElem?_take]
  have : oo + (i - oo) = i := by omega
  rw [this, if_pos h2, h]

/-- an octet at position i ≥ oo of the second half lies in the second padding region -/
theorem d_pad_mem2 {sig : Bytes} {oo half i : Nat} {b : UInt8} (h : sig[half + i]? = some b)
    (h1 : oo ≤ i) : b ∈ (sig.drop half).drop oo := by
  rw [List.mem_iff_getElem?]
  refine ⟨i - oo, ?_⟩
  rw [List.getElem?_drop, List.getElem?_drop]
  have : half + (oo + (i - oo)) = half + i := by omega
  rw [this, h]

/-! ### sizes -/

variable [AddCommGroup G] {C : Dstu G F}

theorem d_n_pos (L : DLaws C) : 0 < C.n := by have := L.n_big; omega

theorem d_pow_lo (L : DLaws C) : 2 ^ (C.nb - 1) ≤ C.n := bitLen_lo (d_n_pos L)

omit [AddCommGroup G] in
theorem d_n_lt_pow_oo (C : Dstu G F) : C.n < 256 ^ C.oo := by
  rw [C02.pow256]
  refine Nat.lt_of_lt_of_le (bitLen_hi C.n) (Nat.pow_le_pow_right (by omega) ?_)
  unfold Dstu.oo Dstu.nb
  omega

omit [AddCommGroup G] in
theorem d_n_lt_Wn (C : Dstu G F) : C.n < C.Wn := by
  unfold Dstu.Wn
  refine Nat.lt_of_lt_of_le (bitLen_hi C.n) (Nat.pow_le_pow_right (by omega) ?_)
  unfold Dstu.nb
  omega

omit [AddCommGroup G] in
theorem d_pow_m_le (C : Dstu G F) : 2 ^ C.f.m ≤ 256 ^ C.no := by
  rw [C02.pow256]
  refine Nat.pow_le_pow_right (by omega) ?_
  unfold Dstu.no
  omega

omit [AddCommGroup G] in
theorem d_leNat_natLE (C : Dstu G F) {v : Nat} (h : v < C.n) : leNat (natLE C.oo v) = v :=
  leNat_natLE_of_lt (Nat.lt_trans h (d_n_lt_pow_oo C))

theorem d_truncR_lt (L : DLaws C) (h x : F) : C.truncR h x < C.n := by
  unfold Dstu.truncR
  exact Nat.lt_of_lt_of_le (Nat.mod_lt _ (Nat.two_pow_pos _)) (d_pow_lo L)

/-! ### points -/

theorem d_loadXY_encXY (L : DLaws C) (Q : F × F) : C.loadXY (C.encXY Q) = some Q := by
  obtain ⟨x, y⟩ := Q
  have hx : leNat (natLE C.no (C.f.toNat x)) = C.f.toNat x :=
    leNat_natLE_of_lt (Nat.lt_of_lt_of_le (L.toNat_lt x) (d_pow_m_le C))
  have hy : leNat (natLE C.no (C.f.toNat y)) = C.f.toNat y :=
    leNat_natLE_of_lt (Nat.lt_of_lt_of_le (L.toNat_lt y) (d_pow_m_le C))
  unfold Dstu.loadXY Dstu.encXY Dstu.encF
  simp only [take_natLE_append, drop_natLE_append, hx, hy, L.enc_dec]

theorem d_xy_some (L : DLaws C) {P : G} (hP : P ≠ 0) : ∃ Q, C.xy P = some Q := by
  cases h : C.xy P with
  | none => exact absurd ((L.xy_none P).1 h) hP
  | some v => exact ⟨v, rfl⟩

/-! ### the rejection loops -/

omit [AddCommGroup G] in
theorem d_randTrim_range (C : Dstu G F) : ∀ (fuel : Nat) (tape : Bytes) (used v : Nat) (rest : Bytes)
    (used' : Nat), C.randTrim fuel tape used = some (v, rest, used') → 0 < v ∧ v < 2 ^ (C.nb - 1) := by
  intro fuel
  induction fuel with
  | zero => intro tape used v rest used' h; simp [Dstu.randTrim] at h
  | succ n ih =>
    intro tape used v rest used' h
    simp only [Dstu.randTrim] at h
    split at h
    · cases h
    · rename_i chunk rest' _
      split at h
      · exact ih _ _ _ _ _ h
      · rename_i hv
        simp only [Option.some.injEq, Prod.mk.injEq] at h
        have : 0 < 2 ^ (C.nb - 1) := Nat.two_pow_pos _
        have := Nat.mod_lt (leNat chunk) this
        omega

omit [AddCommGroup G] in
/-- every successful exit of the `step8:` loop: a one-time key e in [1, 2^(nb-1)), `R = eP` with
x_R ≠ 0, r = trunc(h x_R) ≠ 0, s = (d r + e) mod n ≠ 0 and the layout of the signature -/
theorem d_signLoop_shape (C : Dstu G F) (ld d : Nat) (h : F) : ∀ (fuel : Nat) (tape : Bytes) (used : Nat)
    (sig : Bytes) (used' : Nat), C.signLoop ld d h fuel tape used = some (.ok, sig, used') →
    ∃ e x y, 0 < e ∧ e < 2 ^ (C.nb - 1) ∧ C.xy (C.smul e C.base) = some (x, y) ∧ C.truncR h x ≠ 0 ∧
      addMod C.Wn ((d * C.truncR h x) % C.n) e C.n ≠ 0 ∧
      sig = natLE C.oo (C.truncR h x) ++ zeros (ld / 16 - C.oo) ++
        natLE C.oo (addMod C.Wn ((d * C.truncR h x) % C.n) e C.n) ++ zeros (ld / 16 - C.oo) := by
  intro fuel
  induction fuel with
  | zero => intro tape used sig used' hs; simp [Dstu.signLoop] at hs
  | succ n ih =>
    intro tape used sig used' hs
    simp only [Dstu.signLoop] at hs
    split at hs
    · cases hs
    · rename_i e rest u hr
      obtain ⟨he0, he1⟩ := d_randTrim_range C _ _ _ _ _ _ hr
      split at hs
      · simp at hs
      · rename_i x y hxy
        split at hs
        · exact ih _ _ _ _ hs
        · split at hs
          · exact ih _ _ _ _ hs
          · rename_i hr0
            split at hs
            · exact ih _ _ _ _ hs
            · rename_i hs0
              simp only [Option.some.injEq, Prod.mk.injEq, true_and] at hs
              exact ⟨e, x, y, he0, he1, hxy, hr0, hs0, hs.1.symm⟩

/-! ### signatures against verify -/

/-- `s = (d r + e) mod n`, `Q = -dP`  ⇒  `sP + rQ = eP` -/
theorem d_point_eq (L : DLaws C) (d r e : Nat) :
    (((d * r) % C.n + e) % C.n) • C.base + r • (-(d • C.base)) = e • C.base := by
  rw [nsmul_mod L.order, add_nsmul, nsmul_mod L.order, smul_neg, ← mul_nsmul', Nat.mul_comm r d]
  abel

/-- a signature r ‖ 0.. ‖ s ‖ 0.. with r = trunc(h x_{eP}) ≠ 0, s = (d r + e) mod n ≠ 0 passes
`verify` under the public key -dP -/
theorem d_verify_sig (L : DLaws C) {ld : Nat} {Hb : Bytes} {h : F} (h16 : ld % 16 = 0)
    (hld : 16 * C.oo ≤ ld) (hh : C.hashF Hb = some h) {d e : Nat} {x y : F} {Q : F × F}
    (hxy : C.xy (e • C.base) = some (x, y)) (hr0 : C.truncR h x ≠ 0)
    (hs0 : ((d * C.truncR h x) % C.n + e) % C.n ≠ 0) (hQ : C.xy (-(d • C.base)) = some Q) :
    C.verify ld Hb (natLE C.oo (C.truncR h x) ++ zeros (ld / 16 - C.oo) ++
      natLE C.oo (((d * C.truncR h x) % C.n + e) % C.n) ++ zeros (ld / 16 - C.oo)) (C.encXY Q) = .ok := by
  have hn := d_n_pos L
  have hrn := d_truncR_lt L h x
  generalize hr : C.truncR h x = r at *
  have hsn : ((d * r) % C.n + e) % C.n < C.n := Nat.mod_lt _ hn
  have hpt := d_point_eq L d r e
  generalize ((d * r) % C.n + e) % C.n = s at *
  obtain ⟨l1, l2, l3, l4, _⟩ := d_layout C.oo (ld / 16) r s (by omega)
  have hof : C.ofXY Q.1 Q.2 = some (-(d • C.base)) := L.ofXY_xy _ _ _ hQ
  unfold Dstu.verify
  rw [if_neg (by omega), d_loadXY_encXY L Q]
  simp only [hof, hh, l1, l2, l3, l4, zeros_any, d_leNat_natLE C hrn, d_leNat_natLE C hsn]
  rw [if_neg (by simp), if_neg (by omega), L.smul_eq, L.smul_eq, L.add_eq, hpt, hxy]
  simp [hr]

end Bee2V.C16.Sig
