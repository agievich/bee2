/-
C16 — basic lemmas for the signature theorems: octets <-> numbers, the modular steps of zz inside their
preconditions, the rejection loop of zzRandNZMod, scalar multiples of a point of prime order,
`zzInvMod` (extended Euclid), `wwBitSize`.
-/
import Mathlib.Data.ZMod.Basic
import Mathlib.Tactic.Ring
import Bee2V.C16.LawsSig
import Bee2V.C02.Lemmas
namespace Bee2V.C16.Sig
open Bee2V.C16

/-! ### octets: the functions of `Common.lean` are those of the bign model (`Bee2V.C02`), and so are their lemmas -/

theorem leNat_eq : ∀ b : Bytes, leNat b = Bee2V.C02.leNat b
  | [] => rfl
  | x :: xs => by rw [leNat, Bee2V.C02.leNat, leNat_eq xs]

theorem natLE_eq : ∀ n v : Nat, natLE n v = Bee2V.C02.natLE n v
  | 0, _ => rfl
  | n + 1, v => by rw [natLE, Bee2V.C02.natLE, natLE_eq n]

theorem natLE_length (n v : Nat) : (natLE n v).length = n := by
  rw [natLE_eq]; exact Bee2V.C02.natLE_length n v

theorem leNat_natLE (n v : Nat) : leNat (natLE n v) = v % 256 ^ n := by
  rw [natLE_eq, leNat_eq]; exact Bee2V.C02.leNat_natLE n v

theorem leNat_lt (b : Bytes) : leNat b < 256 ^ b.length := by
  rw [leNat_eq]; exact Bee2V.C02.leNat_lt b

theorem natLE_leNat (b : Bytes) : natLE b.length (leNat b) = b := by
  rw [natLE_eq, leNat_eq]; exact Bee2V.C02.natLE_leNat b

theorem leNat_natLE_of_lt {n v : Nat} (h : v < 256 ^ n) : leNat (natLE n v) = v := by
  rw [leNat_natLE, Nat.mod_eq_of_lt h]

theorem take_natLE_append (n v : Nat) (r : Bytes) : (natLE n v ++ r).take n = natLE n v := by
  rw [natLE_eq]; exact Bee2V.C02.take_natLE_append n v r

theorem drop_natLE_append (n v : Nat) (r : Bytes) : (natLE n v ++ r).drop n = r := by
  rw [natLE_eq]; exact Bee2V.C02.drop_natLE_append n v r

theorem zeros_length (k : Nat) : (zeros k).length = k := by simp [zeros]

theorem natBE_length (n v : Nat) : (natBE n v).length = n := by
  simp [natBE, natLE_length]

theorem beNat_natBE (n v : Nat) : beNat (natBE n v) = v % 256 ^ n := by
  simp [beNat, natBE, leNat_natLE]

theorem take_natBE_append (n v : Nat) (r : Bytes) : (natBE n v ++ r).take n = natBE n v := by
  have h := natBE_length n v
  rw [List.take_append_of_le_length (by omega), List.take_of_length_le (by omega)]

theorem drop_natBE_append (n v : Nat) (r : Bytes) : (natBE n v ++ r).drop n = r := by
  have h := natBE_length n v
  rw [List.drop_append_of_le_length (by omega)]
  simp [List.drop_eq_nil_of_le, h]

/-- a string of n octets split at n and re-encoded is the string -/
theorem natLE_take_drop (n : Nat) (b : Bytes) (h : b.length = 2 * n) :
    natLE n (leNat (b.take n)) ++ natLE n (leNat (b.drop n)) = b := by
  have h1 : (b.take n).length = n := by rw [List.length_take]; omega
  have h2 : (b.drop n).length = n := by rw [List.length_drop]; omega
  have e1 := natLE_leNat (b.take n)
  have e2 := natLE_leNat (b.drop n)
  rw [h1] at e1
  rw [h2] at e2
  rw [e1, e2, List.take_append_drop]

/-! ### the modular steps inside their preconditions -/

theorem addMod_c02 : @addMod = @Bee2V.C02.addMod := rfl
theorem subMod_c02 : @subMod = @Bee2V.C02.subMod := rfl
theorem redOnce_c02 : @redOnce = @Bee2V.C02.redOnce := rfl

theorem subMod_eq {W a b q : Nat} (ha : a < q) (hb : b < q) (hq : q < W) :
    subMod W a b q = (a + (q - b)) % q := Bee2V.C02.subMod_eq ha hb hq

theorem addMod_eq {W a b q : Nat} (ha : a < q) (hb : b < q) (hq : q < W) :
    addMod W a b q = (a + b) % q := Bee2V.C02.addMod_eq ha hb hq

theorem redOnce_eq {h q W : Nat} (hh : h < W) (hW : W < 2 * q) : redOnce h q = h % q :=
  Bee2V.C02.redOnce_eq hh hW

theorem negMod_eq {a q : Nat} (ha : a < q) : negMod a q = (q - a) % q := by
  unfold negMod
  split
  · have : a = 0 := by omega
    subst this; simp
  · exact (Nat.mod_eq_of_lt (by omega)).symm

/-! ### the rejection loop of zzRandNZMod -/

theorem randLoop_range (q : Nat) : ∀ (i : Nat) (tape : Bytes) (used : Nat) (v : Nat) (rest : Bytes) (used' : Nat),
    randLoop q i tape used = (some v, rest, used') → 0 < v ∧ v < q := by
  intro i
  induction i with
  | zero => intro tape used v rest used' h; simp [randLoop] at h
  | succ i ih =>
    intro tape used v rest used' h
    simp only [randLoop] at h
    split at h
    · exact ih _ _ _ _ _ h
    · rename_i hc
      simp only [Prod.mk.injEq, Option.some.injEq] at h
      omega

theorem randNZMod_range {q : Nat} {tape : Bytes} {v : Nat} {rest : Bytes} {used : Nat}
    (h : randNZMod q tape = (some v, rest, used)) : 0 < v ∧ v < q :=
  randLoop_range _ _ _ _ _ _ _ h

/-! ### arithmetic modulo q through ZMod q -/

theorem mod_eq_of_cast {q a b : Nat} (h : (a : ZMod q) = (b : ZMod q)) : a % q = b % q :=
  (ZMod.natCast_eq_natCast_iff' a b q).1 h

theorem cast_of_mod_eq {q a b : Nat} (h : a % q = b % q) : (a : ZMod q) = (b : ZMod q) :=
  (ZMod.natCast_eq_natCast_iff' a b q).2 h

/-- `(a + (q - x)) mod q` is `a - x` -/
theorem sub_cast (q a x : Nat) (hx : x ≤ q) : (((a + (q - x)) % q : ℕ) : ZMod q) = (a : ZMod q) - x := by
  rw [ZMod.natCast_mod]
  push_cast [Nat.cast_sub hx, ZMod.natCast_self]
  ring

/-! ### multiples of a point of order q in a commutative group -/

section group
variable {G : Type} [AddCommGroup G] {base : G} {q : Nat}

theorem nsmul_mod (order : ∀ n : Nat, n • base = 0 ↔ q ∣ n) (n : Nat) : (n % q) • base = n • base :=
  Bee2V.C02.nsmul_mod order n

theorem nsmul_congr (order : ∀ n : Nat, n • base = 0 ↔ q ∣ n) {a b : Nat} (h : a % q = b % q) :
    a • base = b • base :=
  Bee2V.C02.nsmul_congr order h

theorem base_mul_ne (order : ∀ n : Nat, n • base = 0 ↔ q ∣ n) {d : Nat} (h0 : 0 < d) (hq : d < q) :
    d • base ≠ 0 :=
  Bee2V.C02.base_mul_ne order h0 hq

end group

/-! ### wwBitSize -/

theorem bitLen_lo {n : Nat} (h : 0 < n) : 2 ^ (bitLen n - 1) ≤ n := by
  unfold bitLen
  rw [if_neg (by omega)]
  exact Nat.log2_self_le (by omega)

theorem bitLen_hi (n : Nat) : n < 2 ^ bitLen n := by
  unfold bitLen
  split
  · subst_vars; simp
  · exact Nat.lt_log2_self

end Bee2V.C16.Sig
