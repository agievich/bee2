/-
C16 — helper lemmas for the pfok model (Montgomery group B_p) and the octet round trips that both
PropsPfok and PropsDstuPoint use.
-/
import Bee2V.C16.Pfok
import Bee2V.C16.LemmasSig
import Mathlib.Data.ZMod.Basic
import Mathlib.Algebra.Field.ZMod
import Mathlib.Data.Nat.ModEq
import Mathlib.Tactic.Ring
import Mathlib.Tactic.FieldSimp

namespace Bee2V.C16.Pf
open Bee2V.C16 Sig

/-! ### octets -/

theorem leNat_natLE' {n v : Nat} (h : v < 2 ^ (8 * n)) : leNat (natLE n v) = v :=
  leNat_natLE_of_lt (by rw [C02.pow256]; exact h)

theorem leNat_zeros (n : Nat) : leNat (zeros n) = 0 := by
  induction n with
  | zero => rfl
  | succ n ih =>
    show leNat ((0 : UInt8) :: zeros n) = 0
    simp [leNat, ih]

theorem natLE_zero (n : Nat) : natLE n 0 = zeros n := by
  induction n with
  | zero => rfl
  | succ n ih =>
    show UInt8.ofNat (0 % 256) :: natLE n (0 / 256) = (0 : UInt8) :: zeros n
    simp [ih]

/-! ### halving -/

theorem halve_mod {p : Nat} (hp : p % 2 = 1) (x : Nat) : (2 * halve p x) % p = x % p := by
  unfold halve
  split
  · rw [Nat.mul_div_cancel' (Nat.dvd_of_mod_eq_zero ‹_›)]
  · have h2 : (x + p) % 2 = 0 := by omega
    rw [Nat.mul_div_cancel' (Nat.dvd_of_mod_eq_zero h2)]
    simp

theorem halve_lt {p x : Nat} (h : x < p) : halve p x < p := by
  unfold halve
  split <;> omega

theorem halveN_mod {p : Nat} (hp : p % 2 = 1) (k x : Nat) :
    (halveN p k x * 2 ^ k) % p = x % p := by
  induction k generalizing x with
  | zero => simp [halveN]
  | succ k ih =>
    rw [halveN, pow_succ, ← Nat.mul_assoc, Nat.mul_mod, ih, ← Nat.mul_mod, Nat.mul_comm, halve_mod hp]

theorem halveN_lt {p : Nat} (k : Nat) {x : Nat} (h : x < p) : halveN p k x < p := by
  induction k generalizing x with
  | zero => simpa [halveN]
  | succ k ih => rw [halveN]; exact ih (halve_lt h)

/-! ### the Montgomery group -/

theorem odd_of_prime {p : Nat} (hp : Nat.Prime p) (hp2 : p ≠ 2) : p % 2 = 1 :=
  (Nat.Prime.eq_two_or_odd hp).resolve_left hp2

theorem rinv_mod (C : Pfok) (hp : C.p % 2 = 1) : (C.rinv * 2 ^ C.lR) % C.p = 1 % C.p := by
  unfold Pfok.rinv
  rw [halveN_mod hp, Nat.mod_mod]

theorem mulM_mod (C : Pfok) (hp : C.p % 2 = 1) (u v : Nat) :
    (C.mulM u v * 2 ^ C.lR) % C.p = (u * v) % C.p := by
  unfold Pfok.mulM
  rw [Nat.mul_mod, Nat.mod_mod, ← Nat.mul_mod, Nat.mul_assoc, Nat.mul_mod, rinv_mod C hp,
    ← Nat.mul_mod, Nat.mul_one, Nat.mod_mod]

theorem mulM_lt (C : Pfok) (hp : 0 < C.p) (u v : Nat) : C.mulM u v < C.p := by
  unfold Pfok.mulM; exact Nat.mod_lt _ hp

theorem unity_lt (C : Pfok) (hp : 0 < C.p) : C.unity < C.p := by
  unfold Pfok.unity; exact Nat.mod_lt _ hp

theorem powM_lt (C : Pfok) (hp : 0 < C.p) (a e : Nat) : C.powM a e < C.p := by
  rw [Pfok.powM]
  split
  · exact unity_lt C hp
  · simp only
    split <;> exact mulM_lt C hp _ _

section zmod
variable (C : Pfok) [Fact (Nat.Prime C.p)]

/-- R = 2^lR in ZMod p -/
def R : ZMod C.p := (2 : ZMod C.p) ^ C.lR

theorem two_ne_zero (hp2 : C.p ≠ 2) : (2 : ZMod C.p) ≠ 0 := by
  intro h
  have h' : ((2 : Nat) : ZMod C.p) = 0 := by exact_mod_cast h
  rw [ZMod.natCast_eq_zero_iff] at h'
  have hp : Nat.Prime C.p := Fact.out
  exact hp2 ((Nat.prime_dvd_prime_iff_eq hp Nat.prime_two).1 h')

theorem R_ne_zero (hp2 : C.p ≠ 2) : R C ≠ 0 := pow_ne_zero _ (two_ne_zero C hp2)

theorem eq_of_cast_eq {p a b : Nat} (ha : a < p) (hb : b < p) (h : (a : ZMod p) = (b : ZMod p)) :
    a = b := by
  have := mod_eq_of_cast h
  rwa [Nat.mod_eq_of_lt ha, Nat.mod_eq_of_lt hb] at this

theorem mulM_cast (hp2 : C.p ≠ 2) (u v : Nat) :
    ((C.mulM u v : Nat) : ZMod C.p) = u * v * (R C)⁻¹ := by
  have hp : Nat.Prime C.p := Fact.out
  have h := cast_of_mod_eq (mulM_mod C (odd_of_prime hp hp2) u v)
  have hR := R_ne_zero C hp2
  push_cast at h
  rw [eq_mul_inv_iff_mul_eq₀ hR]
  exact h

theorem unity_cast : ((C.unity : Nat) : ZMod C.p) = R C := by
  unfold Pfok.unity R
  rw [ZMod.natCast_mod]; push_cast; rfl

theorem powM_cast (hp2 : C.p ≠ 2) (a e : Nat) :
    ((C.powM a e : Nat) : ZMod C.p) = ((a : ZMod C.p) * (R C)⁻¹) ^ e * R C := by
  have hR := R_ne_zero C hp2
  induction e using Nat.strong_induction_on with
  | _ e ih =>
    rw [Pfok.powM]
    split
    · subst e; rw [unity_cast]; simp
    · rename_i he
      have ih' := ih (e / 2) (by omega)
      simp only
      have hs : ((C.mulM (C.powM a (e / 2)) (C.powM a (e / 2)) : Nat) : ZMod C.p)
          = ((a : ZMod C.p) * (R C)⁻¹) ^ (2 * (e / 2)) * R C := by
        rw [mulM_cast C hp2, ih', Nat.mul_comm, pow_mul, pow_two]
        field_simp
      split
      · rename_i hodd
        rw [mulM_cast C hp2, hs]
        conv_rhs => rw [← Nat.div_add_mod e 2, hodd, pow_succ]
        ring
      · rename_i heven
        rw [hs]
        conv_rhs => rw [← Nat.div_add_mod e 2, show e % 2 = 0 by omega, Nat.add_zero]

end zmod

/-! ### key functions -/

theorem r_le_mo (C : Pfok) : C.r ≤ 8 * C.mo := by unfold Pfok.mo; omega

theorem pubkeyCalc_eq (C : Pfok) {priv : Bytes} (h : leNat priv < 2 ^ C.r) :
    C.pubkeyCalc priv = (.ok, natLE C.no (C.powM C.g (leNat priv))) := by
  unfold Pfok.pubkeyCalc
  simp only
  rw [if_neg (by omega)]

theorem leNat_pub (C : Pfok) (hp : 0 < C.p) (hno : C.p < 2 ^ (8 * C.no)) (a e : Nat) :
    leNat (natLE C.no (C.powM a e)) = C.powM a e :=
  leNat_natLE' (lt_trans (powM_lt C hp a e) hno)

theorem dh_eq (C : Pfok) {priv pub : Bytes} (h : leNat priv < 2 ^ C.r)
    (h0 : leNat pub ≠ 0) (h1 : leNat pub < C.p) :
    C.dh priv pub = (.ok, C.trimKey (C.powM (leNat pub) (leNat priv))) := by
  unfold Pfok.dh
  simp only
  rw [if_neg (by omega), if_neg (by omega)]

theorem mti_eq (C : Pfok) {priv priv1 pub pub1 : Bytes} (h : leNat priv < 2 ^ C.r)
    (h' : leNat priv1 < 2 ^ C.r)
    (h0 : leNat pub ≠ 0) (h1 : leNat pub < C.p) (h2 : leNat pub1 ≠ 0) (h3 : leNat pub1 < C.p) :
    C.mti priv priv1 pub pub1 =
      (.ok, C.trimKey (Nat.xor (C.powM (leNat pub) (leNat priv1)) (C.powM (leNat pub1) (leNat priv)))) := by
  unfold Pfok.mti
  simp only
  rw [if_neg (by omega), if_neg (by omega)]

/-! ### a toy context: p = 23, g = 5, l = 5, lR = l + 2 = 7, r = 3, n = 4 -/

def toyPfok : Pfok := { l := 5, r := 3, n := 4, p := 23, g := 5, lR := 7 }

theorem toy_rinv : toyPfok.rinv = 16 := by decide

/-- concrete run: x_A = 3, x_B = 6, y_A = 7, y_B = 2, shared key 1 -/
theorem toy_dh_eval : toyPfok.pubkeyCalc [3] = (.ok, [7]) ∧ toyPfok.pubkeyCalc [6] = (.ok, [2]) ∧
    toyPfok.dh [3] [2] = (.ok, [1]) ∧ toyPfok.dh [6] [7] = (.ok, [1]) := by
  simp [Pfok.pubkeyCalc, Pfok.dh, Pfok.trimKey, leNat, natLE, Pfok.powM, Pfok.mulM, toy_rinv,
    Pfok.unity, show toyPfok.no = 1 from rfl, show toyPfok.ko = 1 from rfl,
    show toyPfok.p = 23 from rfl, show toyPfok.g = 5 from rfl, show toyPfok.lR = 7 from rfl,
    show toyPfok.r = 3 from rfl, show toyPfok.n = 4 from rfl]

/-- concrete MTI run: long-term (3, 7), (6, 2); one-time (5, 19), (7, 22); shared key 8 -/
theorem toy_mti_eval : toyPfok.pubkeyCalc [5] = (.ok, [19]) ∧ toyPfok.pubkeyCalc [7] = (.ok, [22]) ∧
    toyPfok.mti [3] [5] [2] [22] = (.ok, [8]) ∧ toyPfok.mti [6] [7] [7] [19] = (.ok, [8]) := by
  simp [Pfok.pubkeyCalc, Pfok.mti, Pfok.trimKey, leNat, natLE, Pfok.powM, Pfok.mulM, toy_rinv,
    Pfok.unity, show toyPfok.no = 1 from rfl, show toyPfok.ko = 1 from rfl,
    show toyPfok.p = 23 from rfl, show toyPfok.g = 5 from rfl, show toyPfok.lR = 7 from rfl,
    show toyPfok.r = 3 from rfl, show toyPfok.n = 4 from rfl]

end Bee2V.C16.Pf
