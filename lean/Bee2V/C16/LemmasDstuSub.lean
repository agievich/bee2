/-
C16 — the link between the abstract group of `Dstu G F` and the coordinates of its elements that is needed to
state "every point of the subgroup of (odd) order n has Tr(x) = A" for GROUP ELEMENTS: `DCurveLaws`, the halving
argument (P = Q + Q with Q = ((n + 1) / 2) • P), and a concrete model (non-vacuity): the whole group of
y² + xy = x³ + x² + 1 over GF(8) — cyclic of order 14, generated by (2, 5) — as `ZMod 14` with tabulated
coordinates, the base point 2·(2, 5) = (3, 3) of order 7.
-/
import Bee2V.C16.PropsDstuPoint
import Bee2V.C16.LawsSig
import Mathlib.Data.ZMod.Basic

namespace Bee2V.C16

variable {G F : Type}

/-- what the theory of the curve y² + xy = x³ + A x² + B over GF(2^m) gives for the coordinates of the
elements of its group: they satisfy the equation, doubling follows the tangent formula, and the order of the
subgroup is odd -/
structure DCurveLaws [AddCommGroup G] [Field F] (C : Dstu G F) : Prop where
  on_curve : ∀ P x y, C.xy P = some (x, y) →
    y * y + x * y = x * x * x + (if C.A then x * x else 0) + C.B
  /-- the doubling formula of y² + xy = x³ + A x² + B (vacuous for the point of order 2, x = 0, whose
  double has no coordinates) -/
  dbl_x : ∀ P x y x' y', C.xy P = some (x, y) → C.xy (P + P) = some (x', y') →
    x' = (x + y / x) * (x + y / x) + (x + y / x) + (if C.A then 1 else 0)
  n_odd : C.n % 2 = 1

end Bee2V.C16

namespace Bee2V.C16.Sub
open Bee2V.C16

variable {G F : Type}

/-- halving in a subgroup of odd order -/
theorem half_double [AddCommGroup G] {n : Nat} (hn : n % 2 = 1) {P : G} (hP : n • P = 0) :
    ((n + 1) / 2) • P + ((n + 1) / 2) • P = P := by
  rw [← add_nsmul]
  have : (n + 1) / 2 + (n + 1) / 2 = n + 1 := by omega
  rw [this, succ_nsmul, hP, zero_add]

/-- A1 -/
theorem trace_of_order [AddCommGroup G] [Field F] (C : Dstu G F) (L : DLaws C) (FL : FLaws C.f)
    (CL : DCurveLaws C) {P : G} {x y : F} (hP : C.n • P = 0) (hxy : C.xy P = some (x, y)) :
    C.f.tr x = C.A := by
  have hd := half_double CL.n_odd hP
  have hP0 : P ≠ 0 := by
    intro h
    rw [(L.xy_none P).2 h] at hxy
    cases hxy
  have hQ0 : ((C.n + 1) / 2) • P ≠ 0 := by
    intro h
    rw [h, add_zero] at hd
    exact hP0 hd.symm
  cases hq : C.xy (((C.n + 1) / 2) • P) with
  | none => exact absurd ((L.xy_none _).1 hq) hQ0
  | some q =>
    obtain ⟨xq, yq⟩ := q
    have hxy' : C.xy (((C.n + 1) / 2) • P + ((C.n + 1) / 2) • P) = some (x, y) := by rw [hd]; exact hxy
    have hx := CL.dbl_x _ xq yq x y hq hxy'
    by_cases h0 : xq = 0
    · rw [h0] at hx
      simp only [div_zero, add_zero, mul_zero, zero_add] at hx
      rw [hx]
      exact Fld.tr_bool FL C.A
    · rw [hx]
      exact tr_x_of_double C.f FL C.A xq yq h0

/-- the public key: n • (-(d • base)) = 0 -/
theorem pub_order [AddCommGroup G] (C : Dstu G F) (L : DLaws C) (d : Nat) :
    C.n • C.neg (C.smul d C.base) = 0 := by
  rw [L.neg_eq, L.smul_eq, smul_neg, ← mul_nsmul', (L.order _).2 (Dvd.intro _ rfl), neg_zero]

/-- unfolding dstuKeypairGen -/
theorem keypairGen_ok (C : Dstu G F) {fuel : Nat} {tape out : Bytes} {used : Nat}
    (h : C.keypairGen fuel tape = some (.ok, out, used)) :
    ∃ d rest x y, C.randTrim fuel tape 0 = some (d, rest, used) ∧
      C.xy (C.neg (C.smul d C.base)) = some (x, y) ∧ out = natLE C.oo d ++ C.encXY (x, y) := by
  unfold Dstu.keypairGen at h
  cases hr : C.randTrim fuel tape 0 with
  | none => rw [hr] at h; cases h
  | some r =>
    obtain ⟨d, rest, u⟩ := r
    rw [hr] at h
    simp only at h
    cases hq : C.xy (C.neg (C.smul d C.base)) with
    | none => rw [hq] at h; simp at h
    | some Q =>
      rw [hq] at h
      simp only [Option.some.injEq, Prod.mk.injEq, true_and] at h
      obtain ⟨x, y⟩ := Q
      exact ⟨d, rest, x, y, by rw [h.2], hq, h.1.symm⟩

/-! ### a model: the group of y² + xy = x³ + x² + 1 over GF(8) -/

/-- k ↦ k·(2, 5), k = 1 … 13 -/
def gf8xy (k : ZMod 14) : Option (Fld.GF8 × Fld.GF8) :=
  match k.val with
  | 1 => some (⟨2⟩, ⟨5⟩) | 2 => some (⟨3⟩, ⟨3⟩) | 3 => some (⟨4⟩, ⟨3⟩) | 4 => some (⟨7⟩, ⟨7⟩)
  | 5 => some (⟨6⟩, ⟨5⟩) | 6 => some (⟨5⟩, ⟨0⟩) | 7 => some (⟨0⟩, ⟨1⟩) | 8 => some (⟨5⟩, ⟨5⟩)
  | 9 => some (⟨6⟩, ⟨3⟩) | 10 => some (⟨7⟩, ⟨0⟩) | 11 => some (⟨4⟩, ⟨7⟩) | 12 => some (⟨3⟩, ⟨0⟩)
  | 13 => some (⟨2⟩, ⟨7⟩) | _ => none

def gf8ofXY (x y : Fld.GF8) : Option (ZMod 14) :=
  (List.finRange 14).find? (fun k : Fin 14 => gf8xy k == some (x, y))

/-- the whole curve group (order 14) with the base point (3, 3) of order 7 -/
def gf8G : Dstu (ZMod 14) Fld.GF8 where
  f := Fld.gf8Ops
  A := true
  B := 1
  n := 7
  zero := 0
  add := fun a b => a + b
  neg := fun a => -a
  smul := fun n a => n • a
  base := 2
  xy := gf8xy
  ofXY := gf8ofXY

/-- the doubling formula checked on one element -/
def gf8dbl (P : ZMod 14) : Bool :=
  match gf8xy P, gf8xy (P + P) with
  | some p, some q => decide (q.1 = (p.1 + p.2 / p.1) * (p.1 + p.2 / p.1) + (p.1 + p.2 / p.1) + 1)
  | _, _ => true

theorem gf8G_order (k : Nat) : k • (2 : ZMod 14) = 0 ↔ 7 ∣ k := by
  rw [nsmul_eq_mul]
  have : ((k : ZMod 14) * 2) = ((k * 2 : Nat) : ZMod 14) := by push_cast; rfl
  rw [this, ZMod.natCast_eq_zero_iff]
  omega

theorem gf8G_DLaws : DLaws gf8G where
  zero_eq := rfl
  add_eq := fun _ _ => rfl
  neg_eq := fun _ => rfl
  smul_eq := fun _ _ => rfl
  n_prime := by show Nat.Prime 7; decide
  order := gf8G_order
  xy_none := by show ∀ P : ZMod 14, gf8xy P = none ↔ P = 0; decide +kernel
  ofXY_xy := by
    show ∀ (P : ZMod 14) (x y : Fld.GF8), gf8xy P = some (x, y) → gf8ofXY x y = some P
    decide +kernel
  xy_ofXY := by
    show ∀ (x y : Fld.GF8) (P : ZMod 14), gf8ofXY x y = some P → gf8xy P = some (x, y)
    decide +kernel
  n_big := by show 2 < 7; omega
  enc_dec := Fld.gf8_laws.enc_dec
  toNat_lt := Fld.gf8_laws.toNat_lt
  m_pos := by show 0 < 3; omega

theorem gf8G_CurveLaws : DCurveLaws gf8G where
  on_curve := by
    show ∀ (P : ZMod 14) (x y : Fld.GF8), gf8xy P = some (x, y) →
      y * y + x * y = x * x * x + (if true then x * x else 0) + 1
    decide +kernel
  dbl_x := by
    have key : ∀ P : ZMod 14, gf8dbl P = true := by decide +kernel
    intro P x y x' y' h1 h2
    have := key P
    unfold gf8dbl at this
    rw [show gf8G.xy = gf8xy from rfl] at h1 h2
    rw [h1, h2] at this
    exact of_decide_eq_true this
  n_odd := rfl

end Bee2V.C16.Sub
