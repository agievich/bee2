/-
C16 — properties of the pfok model (src/crypto/pfok.c): the Montgomery group B_p with the single
constant R = 2^lR, exponentiation in it, and the agreement of pfokDH / pfokMTI.

Hypotheses used throughout: `hp : Nat.Prime C.p`, `hp2 : C.p ≠ 2`; where octets are decoded again:
`hno : C.p < 2 ^ (8 * C.no)` (p fits into `no` octets) and `hg : C.g % C.p ≠ 0`.
-/
import Bee2V.C16.LemmasPfok
import Mathlib.Tactic.NormNum.Prime

namespace Bee2V.C16
open Pf Sig

/-! ### 1. halving, R⁻¹ -/

theorem halve_spec {p : Nat} (hp : p % 2 = 1) (x : Nat) :
    (2 * halve p x) % p = x % p ∧ (x < p → halve p x < p) :=
  ⟨halve_mod hp x, fun h => halve_lt h⟩

theorem rinv_spec (C : Pfok) (hp : Nat.Prime C.p) (hp2 : C.p ≠ 2) :
    (C.rinv * 2 ^ C.lR) % C.p = 1 % C.p :=
  rinv_mod C (odd_of_prime hp hp2)

/-! ### 2. the Montgomery multiplication: `mulM u v · 2^lR ≡ u v (mod p)` -/

theorem mulM_spec (C : Pfok) (hp : Nat.Prime C.p) (hp2 : C.p ≠ 2) (u v : Nat) :
    (C.mulM u v * 2 ^ C.lR) % C.p = (u * v) % C.p ∧ C.mulM u v < C.p :=
  ⟨mulM_mod C (odd_of_prime hp hp2) u v, mulM_lt C hp.pos u v⟩

theorem mulM_zmod (C : Pfok) (hp : Nat.Prime C.p) (hp2 : C.p ≠ 2) (u v : Nat) :
    ((C.mulM u v : Nat) : ZMod C.p) = u * v * ((2 : ZMod C.p) ^ C.lR)⁻¹ :=
  haveI : Fact (Nat.Prime C.p) := ⟨hp⟩
  mulM_cast C hp2 u v

theorem mulM_comm (C : Pfok) (u v : Nat) : C.mulM u v = C.mulM v u := by
  unfold Pfok.mulM; rw [Nat.mul_comm u v]

theorem mulM_assoc (C : Pfok) (hp : Nat.Prime C.p) (hp2 : C.p ≠ 2) (u v w : Nat) :
    C.mulM (C.mulM u v) w = C.mulM u (C.mulM v w) := by
  have : Fact (Nat.Prime C.p) := ⟨hp⟩
  apply eq_of_cast_eq (mulM_lt C hp.pos _ _) (mulM_lt C hp.pos _ _)
  simp only [mulM_cast C hp2]
  ring

theorem mulM_unity (C : Pfok) (hp : Nat.Prime C.p) (hp2 : C.p ≠ 2) {u : Nat} (hu : u < C.p) :
    C.mulM u C.unity = u := by
  have : Fact (Nat.Prime C.p) := ⟨hp⟩
  have hR := R_ne_zero C hp2
  apply eq_of_cast_eq (mulM_lt C hp.pos _ _) hu
  rw [mulM_cast C hp2, unity_cast]
  field_simp

/-! ### 3. exponentiation in B_p -/

theorem powM_spec (C : Pfok) (hp : Nat.Prime C.p) (hp2 : C.p ≠ 2) (a e : Nat) :
    ((C.powM a e : Nat) : ZMod C.p)
      = ((a : ZMod C.p) * ((2 : ZMod C.p) ^ C.lR)⁻¹) ^ e * (2 : ZMod C.p) ^ C.lR :=
  haveI : Fact (Nat.Prime C.p) := ⟨hp⟩
  powM_cast C hp2 a e

theorem powM_lt (C : Pfok) (hp : Nat.Prime C.p) (a e : Nat) : C.powM a e < C.p :=
  Pf.powM_lt C hp.pos a e

theorem powM_zero (C : Pfok) (a : Nat) : C.powM a 0 = C.unity := by
  rw [Pfok.powM]; simp

theorem powM_one (C : Pfok) (hp : Nat.Prime C.p) (hp2 : C.p ≠ 2) {a : Nat} (ha : a < C.p) :
    C.powM a 1 = a := by
  have : Fact (Nat.Prime C.p) := ⟨hp⟩
  apply eq_of_cast_eq (Pf.powM_lt C hp.pos _ _) ha
  rw [powM_cast C hp2]
  have hR := R_ne_zero C hp2
  field_simp

theorem powM_add (C : Pfok) (hp : Nat.Prime C.p) (hp2 : C.p ≠ 2) (a x y : Nat) :
    C.powM a (x + y) = C.mulM (C.powM a x) (C.powM a y) := by
  have : Fact (Nat.Prime C.p) := ⟨hp⟩
  apply eq_of_cast_eq (Pf.powM_lt C hp.pos _ _) (mulM_lt C hp.pos _ _)
  rw [mulM_cast C hp2, powM_cast C hp2, powM_cast C hp2, powM_cast C hp2, pow_add]
  have hR := R_ne_zero C hp2
  field_simp

theorem powM_pow (C : Pfok) (hp : Nat.Prime C.p) (hp2 : C.p ≠ 2) (a x y : Nat) :
    C.powM (C.powM a x) y = C.powM a (x * y) := by
  have : Fact (Nat.Prime C.p) := ⟨hp⟩
  have hR := R_ne_zero C hp2
  apply eq_of_cast_eq (Pf.powM_lt C hp.pos _ _) (Pf.powM_lt C hp.pos _ _)
  rw [powM_cast C hp2, powM_cast C hp2, powM_cast C hp2, pow_mul]
  congr 2
  field_simp

theorem powM_comm (C : Pfok) (hp : Nat.Prime C.p) (hp2 : C.p ≠ 2) (a x y : Nat) :
    C.powM (C.powM a x) y = C.powM (C.powM a y) x := by
  rw [powM_pow C hp hp2, powM_pow C hp hp2, Nat.mul_comm]

theorem powM_ne_zero (C : Pfok) (hp : Nat.Prime C.p) (hp2 : C.p ≠ 2) {a : Nat}
    (ha : a % C.p ≠ 0) (e : Nat) : C.powM a e ≠ 0 := by
  have : Fact (Nat.Prime C.p) := ⟨hp⟩
  intro h
  have h1 := powM_cast C hp2 a e
  rw [h] at h1
  have hR := R_ne_zero C hp2
  have ha' : (a : ZMod C.p) ≠ 0 := by
    intro h0
    rw [ZMod.natCast_eq_zero_iff] at h0
    exact ha (Nat.mod_eq_zero_of_dvd h0)
  have : ((a : ZMod C.p) * (R C)⁻¹) ^ e * R C ≠ 0 :=
    mul_ne_zero (pow_ne_zero _ (mul_ne_zero ha' (inv_ne_zero hR))) hR
  exact this (by rw [← h1]; simp)

/-! ### 4. public keys -/

theorem pfok_pubkey_valid (C : Pfok) (hp : Nat.Prime C.p) (hp2 : C.p ≠ 2)
    (hno : C.p < 2 ^ (8 * C.no)) (hg : C.g % C.p ≠ 0) {priv : Bytes}
    (hx : leNat priv < 2 ^ C.r) :
    ∃ pub, C.pubkeyCalc priv = (.ok, pub) ∧ pub.length = C.no ∧ C.pubkeyVal pub = .ok ∧
      leNat pub = C.powM C.g (leNat priv) := by
  refine ⟨_, pubkeyCalc_eq C hx, natLE_length _ _, ?_, leNat_pub C hp.pos hno _ _⟩
  unfold Pfok.pubkeyVal
  simp only
  rw [leNat_pub C hp.pos hno, if_neg]
  have h0 := powM_ne_zero C hp hp2 hg (leNat priv)
  have h1 := powM_lt C hp C.g (leNat priv)
  omega

theorem pfok_keygen_valid (C : Pfok) (hp : Nat.Prime C.p) (hp2 : C.p ≠ 2)
    (hno : C.p < 2 ^ (8 * C.no)) (hg : C.g % C.p ≠ 0) {tape kp : Bytes} {used : Nat}
    (h : C.keypairGen tape = (.ok, kp, used)) :
    (kp.take C.mo).length = C.mo ∧ (kp.drop C.mo).length = C.no ∧
    leNat (kp.take C.mo) < 2 ^ C.r ∧
    C.pubkeyCalc (kp.take C.mo) = (.ok, kp.drop C.mo) ∧ C.pubkeyVal (kp.drop C.mo) = .ok := by
  unfold Pfok.keypairGen at h
  simp only [Prod.mk.injEq, true_and] at h
  obtain ⟨hkp, -⟩ := h
  subst hkp
  have hl : (natLE C.mo (leNat (tapeRead C.mo tape).1 % 2 ^ C.r)).length = C.mo := natLE_length _ _
  rw [List.take_left' hl, List.drop_left' hl]
  have hx : leNat (tapeRead C.mo tape).1 % 2 ^ C.r < 2 ^ C.r := Nat.mod_lt _ (Nat.pow_pos (by norm_num))
  have hx8 : leNat (tapeRead C.mo tape).1 % 2 ^ C.r < 2 ^ (8 * C.mo) :=
    lt_of_lt_of_le hx (Nat.pow_le_pow_right (by norm_num) (r_le_mo C))
  have hle := leNat_natLE' hx8
  have hx' : leNat (natLE C.mo (leNat (tapeRead C.mo tape).1 % 2 ^ C.r)) < 2 ^ C.r := by
    rw [hle]; exact hx
  obtain ⟨pub, h1, h2, h3, h4⟩ := pfok_pubkey_valid C hp hp2 hno hg hx'
  rw [pubkeyCalc_eq C hx'] at h1
  rw [hle] at h1
  simp only [Prod.mk.injEq, true_and] at h1
  subst h1
  refine ⟨hl, natLE_length _ _, hx', ?_, h3⟩
  rw [pubkeyCalc_eq C hx', hle]

/-! ### 5. pfokDH: both sides derive the same key -/

/-- the value of the shared key: g^(xa·xb) in B_p, trimmed to n bits -/
theorem pfok_dh_key (C : Pfok) (hp : Nat.Prime C.p) (hp2 : C.p ≠ 2)
    (hno : C.p < 2 ^ (8 * C.no)) (hg : C.g % C.p ≠ 0) {privA privB pubB : Bytes}
    (hA : leNat privA < 2 ^ C.r) (hB : leNat privB < 2 ^ C.r)
    (hpB : C.pubkeyCalc privB = (.ok, pubB)) :
    C.dh privA pubB = (.ok, C.trimKey (C.powM C.g (leNat privA * leNat privB))) := by
  rw [pubkeyCalc_eq C hB] at hpB
  simp only [Prod.mk.injEq, true_and] at hpB
  subst hpB
  have h0 := powM_ne_zero C hp hp2 hg (leNat privB)
  have h1 := powM_lt C hp C.g (leNat privB)
  rw [dh_eq C hA (by rw [leNat_pub C hp.pos hno]; exact h0) (by rw [leNat_pub C hp.pos hno]; exact h1),
    leNat_pub C hp.pos hno, powM_pow C hp hp2, Nat.mul_comm]

theorem pfok_dh_agree (C : Pfok) (hp : Nat.Prime C.p) (hp2 : C.p ≠ 2)
    (hno : C.p < 2 ^ (8 * C.no)) (hg : C.g % C.p ≠ 0) {privA privB pubA pubB : Bytes}
    (_hlA : privA.length = C.mo) (_hlB : privB.length = C.mo)
    (hA : leNat privA < 2 ^ C.r) (hB : leNat privB < 2 ^ C.r)
    (hpA : C.pubkeyCalc privA = (.ok, pubA)) (hpB : C.pubkeyCalc privB = (.ok, pubB)) :
    ∃ key, C.dh privA pubB = (.ok, key) ∧ C.dh privB pubA = (.ok, key) ∧ key.length = C.ko := by
  refine ⟨_, pfok_dh_key C hp hp2 hno hg hA hB hpB, ?_, natLE_length _ _⟩
  rw [pfok_dh_key C hp hp2 hno hg hB hA hpA, Nat.mul_comm]

/-! ### 6. pfokMTI -/

theorem pfok_mti_key (C : Pfok) (hp : Nat.Prime C.p) (hp2 : C.p ≠ 2)
    (hno : C.p < 2 ^ (8 * C.no)) (hg : C.g % C.p ≠ 0) {xa ua xb ub yb vb : Bytes}
    (hxa : leNat xa < 2 ^ C.r) (hua : leNat ua < 2 ^ C.r)
    (hxb : leNat xb < 2 ^ C.r) (hub : leNat ub < 2 ^ C.r)
    (hyb : C.pubkeyCalc xb = (.ok, yb)) (hvb : C.pubkeyCalc ub = (.ok, vb)) :
    C.mti xa ua yb vb = (.ok, C.trimKey (Nat.xor (C.powM C.g (leNat xb * leNat ua))
        (C.powM C.g (leNat ub * leNat xa)))) := by
  rw [pubkeyCalc_eq C hxb] at hyb
  rw [pubkeyCalc_eq C hub] at hvb
  simp only [Prod.mk.injEq, true_and] at hyb hvb
  subst hyb hvb
  have h0 := powM_ne_zero C hp hp2 hg (leNat xb)
  have h1 := powM_lt C hp C.g (leNat xb)
  have h2 := powM_ne_zero C hp hp2 hg (leNat ub)
  have h3 := powM_lt C hp C.g (leNat ub)
  rw [mti_eq C hxa hua (by rw [leNat_pub C hp.pos hno]; exact h0)
      (by rw [leNat_pub C hp.pos hno]; exact h1) (by rw [leNat_pub C hp.pos hno]; exact h2)
      (by rw [leNat_pub C hp.pos hno]; exact h3),
    leNat_pub C hp.pos hno, leNat_pub C hp.pos hno, powM_pow C hp hp2, powM_pow C hp hp2]

/-- A holds (xa, ya) long-term and (ua, va) one-time, B holds (xb, yb) and (ub, vb) -/
theorem pfok_mti_agree (C : Pfok) (hp : Nat.Prime C.p) (hp2 : C.p ≠ 2)
    (hno : C.p < 2 ^ (8 * C.no)) (hg : C.g % C.p ≠ 0) {xa ua xb ub ya va yb vb : Bytes}
    (hxa : leNat xa < 2 ^ C.r) (hua : leNat ua < 2 ^ C.r)
    (hxb : leNat xb < 2 ^ C.r) (hub : leNat ub < 2 ^ C.r)
    (hya : C.pubkeyCalc xa = (.ok, ya)) (hva : C.pubkeyCalc ua = (.ok, va))
    (hyb : C.pubkeyCalc xb = (.ok, yb)) (hvb : C.pubkeyCalc ub = (.ok, vb)) :
    ∃ key, C.mti xa ua yb vb = (.ok, key) ∧ C.mti xb ub ya va = (.ok, key) ∧ key.length = C.ko := by
  refine ⟨_, pfok_mti_key C hp hp2 hno hg hxa hua hxb hub hyb hvb, ?_, natLE_length _ _⟩
  rw [pfok_mti_key C hp hp2 hno hg hxb hub hxa hua hya hva]
  have e : Nat.xor (C.powM C.g (leNat xa * leNat ub)) (C.powM C.g (leNat ua * leNat xb))
      = Nat.xor (C.powM C.g (leNat xb * leNat ua)) (C.powM C.g (leNat ub * leNat xa)) := by
    rw [Nat.mul_comm (leNat xa), Nat.mul_comm (leNat ua)]
    exact Nat.xor_comm _ _
  rw [e]

/-! ### 7. one constant: the public key and the shared value as residues, with R = 2^lR of the SAME
context at every place (key generation, public-key calculation, DH) -/

theorem pfok_same_constant (C : Pfok) (hp : Nat.Prime C.p) (hp2 : C.p ≠ 2)
    (hno : C.p < 2 ^ (8 * C.no)) {priv pub : Bytes}
    (hx : leNat priv < 2 ^ C.r) (hpub : C.pubkeyCalc priv = (.ok, pub)) :
    ((leNat pub : Nat) : ZMod C.p)
      = ((C.g : ZMod C.p) * ((2 : ZMod C.p) ^ C.lR)⁻¹) ^ leNat priv * (2 : ZMod C.p) ^ C.lR := by
  rw [pubkeyCalc_eq C hx] at hpub
  simp only [Prod.mk.injEq, true_and] at hpub
  subst hpub
  rw [leNat_pub C hp.pos hno, powM_spec C hp hp2]

/-! ### non-vacuity: p = 23, g = 5, l = 5, lR = l + 2 = 7, r = 3, n = 4 (`Pf.toyPfok`) -/

example : Nat.Prime toyPfok.p ∧ toyPfok.p ≠ 2 ∧ toyPfok.p < 2 ^ (8 * toyPfok.no) ∧
    toyPfok.g % toyPfok.p ≠ 0 := by
  refine ⟨by norm_num [toyPfok], by decide, by decide, by decide⟩

example : ∃ key, toyPfok.dh [3] [2] = (.ok, key) ∧ toyPfok.dh [6] [7] = (.ok, key) ∧
    key.length = toyPfok.ko :=
  pfok_dh_agree toyPfok (by norm_num [toyPfok]) (by decide) (by decide) (by decide)
    (privA := [3]) (privB := [6]) rfl rfl (by decide) (by decide)
    toy_dh_eval.1 toy_dh_eval.2.1

/-- the evaluated runs (LemmasPfok.lean): DH with x_A = 3, x_B = 6 gives key 1 on both sides; MTI with
long-term (3, 7), (6, 2) and one-time (5, 19), (7, 22) gives key 8 on both sides -/
example : toyPfok.dh [3] [2] = (.ok, [1]) ∧ toyPfok.dh [6] [7] = (.ok, [1]) :=
  toy_dh_eval.2.2

example : toyPfok.mti [3] [5] [2] [22] = (.ok, [8]) ∧ toyPfok.mti [6] [7] [7] [19] = (.ok, [8]) :=
  toy_mti_eval.2.2

example : ∃ key, toyPfok.mti [3] [5] [2] [22] = (.ok, key) ∧ toyPfok.mti [6] [7] [7] [19] = (.ok, key) ∧
    key.length = toyPfok.ko :=
  pfok_mti_agree toyPfok (by norm_num [toyPfok]) (by decide) (by decide) (by decide)
    (xa := [3]) (ua := [5]) (xb := [6]) (ub := [7]) (by decide) (by decide) (by decide) (by decide)
    toy_dh_eval.1 toy_mti_eval.1 toy_dh_eval.2.1 toy_mti_eval.2.1

end Bee2V.C16
