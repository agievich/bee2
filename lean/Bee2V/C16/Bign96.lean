/-
C16 — executable, code-shaped model of src/crypto/bign96.c over an abstract context `B96 G`
(the operations of `ec_o` + belt that bign96 calls).  No Mathlib.

bign96 has the shape of bign with 24-octet field elements / scalars (l = 96), but is not the instance
l = 96 of the bign model: s0 is 80 bits (10 octets) of belt-hash where bign takes l/8 = 12 octets, and the
number added to s0 is 2^103 where bign adds 2^l (`s0Full`).  Signature = s0 ‖ s1 (10 + 24 octets); the
deterministic nonce of bign96Sign2 uses belt-32block with a running round counter.  The public-key check `ecpIsOnA` in bign96Verify is the REPAIRED behaviour
(docs/C16.fix-1.diff).
-/
import Bee2V.C16.Common
namespace Bee2V.C16

/-- the group operations of `ec_o` as the high-level functions see them (prime or binary curve) -/
structure ECtx (G : Type) where
  /-- group order `ec->order` -/
  q : Nat
  /-- the point at infinity -/
  zero : G
  add : G → G → G
  neg : G → G
  /-- `ecMulA` / one summand of `ecAddMulA` (before the conversion to affine coordinates) -/
  smul : Nat → G → G
  /-- `ec->base` -/
  base : G
  /-- affine coordinates as numbers (`qrTo` + `wwFrom`), `none` for O (the C functions then return FALSE) -/
  xy : G → Option (Nat × Nat)
  /-- `qrFrom(x) && qrFrom(y) && ec*IsOnA`: the point with these coordinates, if they are field elements
  and satisfy the curve equation -/
  ofXY : Nat → Nat → Option G

structure B96 (G : Type) extends ECtx G where
  /-- `oidFromDER(0, oid_der, oid_len) != SIZE_MAX` -/
  oidOk : Bytes → Bool
  /-- belt-hash (32 octets) of the concatenation of everything fed to beltHashStepH -/
  hash : Bytes → Bytes
  /-- `belt32BlockEncr(block, key, &round)` with `key = beltKeyExpand2(theta)`: theta, the value of
  `round` on entry (it is advanced by 3), the 24-octet block -/
  b32 : Bytes → Nat → Bytes → Bytes

variable {G : Type}

/-- `B^n` for n = W_OF_B(192) -/
def W192 : Nat := 2 ^ 192

namespace B96

/-- `qrFrom(x) && qrFrom(y) && ecpIsOnA` on the 48-octet public key -/
def loadPub (C : B96 G) (pub : Bytes) : Option G :=
  C.ofXY (leNat (pub.take 24)) (leNat (pub.drop 24))

/-- `qrTo(pubkey, x); qrTo(pubkey + 24, y)` -/
def encXY (xy : Nat × Nat) : Bytes := natLE 24 xy.1 ++ natLE 24 xy.2

/-- `beltHashStepG2(sig, 10, ..)`: 80 bits of belt-hash -/
def hash80 (C : B96 G) (m : Bytes) : Bytes := (C.hash m).take 10

/-- `sig[10] = sig[11] = 0, sig[12] = 0x80; wwFrom(s0, sig, 13)`: the 13-octet number s0 ‖ 00 00 80,
i.e. s0 + 2^103.  (The comments of bign96.c say "s0 + 2^l"; the octet 0x80 at position 12 is bit 103.
bign96Sign, bign96Sign2 and bign96Verify use the same constant, and the code is the only definition of
this experimental scheme, so the model follows the code.) -/
def s0Full (s0 : Bytes) : Nat := leNat s0 + 2 ^ 103

/-- the tail of bign96Sign / bign96Sign2 after `s0` is known:
`s1 <- (k - (s0 + 2^l) d - H) mod q` exactly as computed (zzMul, zzMod, zzSubMod, reduction of H, zzSubMod) -/
def signS1 (C : B96 G) (s0 : Bytes) (d k : Nat) (Hb : Bytes) : Nat :=
  let t := (s0Full s0 * d) % C.q
  let s1 := subMod W192 k t C.q
  subMod W192 s1 (redOnce (leNat Hb) C.q) C.q

/-- bign96KeypairGen: (code, privkey ‖ pubkey, octets requested from the generator) -/
def keypairGen (C : B96 G) (tape : Bytes) : Err × Bytes × Nat :=
  match randNZMod C.q tape with
  | (none, _, used) => (.badRng, [], used)
  | (some d, _, used) =>
    match C.xy (C.smul d C.base) with
    | some Q => (.ok, natLE 24 d ++ encXY Q, used)
    | none => (.badParams, [], used)

/-- bign96KeypairVal -/
def keypairVal (C : B96 G) (priv pub : Bytes) : Err :=
  let d := leNat priv
  if d = 0 ∨ d ≥ C.q then .badPrivkey else
  match C.xy (C.smul d C.base) with
  | some Q => if encXY Q = pub then .ok else .badPubkey
  | none => .badParams

/-- bign96PubkeyVal -/
def pubkeyVal (C : B96 G) (pub : Bytes) : Err :=
  match loadPub C pub with
  | some _ => .ok
  | none => .badPubkey

/-- bign96PubkeyCalc -/
def pubkeyCalc (C : B96 G) (priv : Bytes) : Err × Bytes :=
  let d := leNat priv
  if d = 0 ∨ d ≥ C.q then (.badPrivkey, []) else
  match C.xy (C.smul d C.base) with
  | some Q => (.ok, encXY Q)
  | none => (.badParams, [])

/-- the common part of bign96Sign and bign96Sign2 once the nonce k is fixed -/
def signWith (C : B96 G) (oid Hb : Bytes) (d k : Nat) : Err × Bytes :=
  match C.xy (C.smul k C.base) with
  | none => (.badParams, [])
  | some R =>
    let s0 := hash80 C (oid ++ natLE 24 R.1 ++ Hb)
    (.ok, s0 ++ natLE 24 (signS1 C s0 d k Hb))

/-- bign96Sign: (code, sig, octets requested) -/
def sign (C : B96 G) (oid Hb priv tape : Bytes) : Err × Bytes × Nat :=
  if !C.oidOk oid then (.badOid, [], 0) else
  let d := leNat priv
  if d = 0 ∨ d ≥ C.q then (.badPrivkey, [], 0) else
  match randNZMod C.q tape with
  | (none, _, used) => (.badRng, [], used)
  | (some k, _, used) => let r := signWith C oid Hb d k; (r.1, r.2, used)

/-- the deterministic nonce of bign96Sign2: `k <- H; do k <- belt32Block(k, theta) while k ∉ {1..q-1}`,
the round counter starts at 1 and runs on.  The C loop is `while (1)`; `fuel` bounds the rounds of the
model (`none` = not finished). -/
def nonceLoop (C : B96 G) (theta : Bytes) : Nat → Nat → Bytes → Option Nat
  | 0, _, _ => none
  | fuel + 1, round, k =>
    let k := C.b32 theta round k
    let v := leNat k
    if v ≠ 0 ∧ v < C.q then some v else nonceLoop C theta fuel (round + 3) k

/-- bign96Sign2 (`t = none` is the NULL pointer); `none` = the nonce loop did not finish within `fuel` -/
def sign2 (C : B96 G) (fuel : Nat) (oid Hb priv : Bytes) (t : Option Bytes) : Option (Err × Bytes) :=
  if !C.oidOk oid then some (.badOid, []) else
  let d := leNat priv
  if d = 0 ∨ d ≥ C.q then some (.badPrivkey, []) else
  let theta := C.hash (oid ++ priv ++ (match t with | some t => t | none => []))
  match nonceLoop C theta fuel 1 Hb with
  | none => none
  | some k => some (signWith C oid Hb d k)

/-- bign96Verify -/
def verify (C : B96 G) (oid Hb sig pub : Bytes) : Err :=
  if !C.oidOk oid then .badOid else
  match loadPub C pub with
  | none => .badPubkey
  | some Q =>
    let s1 := leNat (sig.drop 10)
    if s1 ≥ C.q then .badSig else
    let s1 := addMod W192 s1 (redOnce (leNat Hb) C.q) C.q
    match C.xy (C.add (C.smul s1 C.base) (C.smul (s0Full (sig.take 10)) Q)) with
    | none => .badSig
    | some R => if hash80 C (oid ++ natLE 24 R.1 ++ Hb) = sig.take 10 then .ok else .badSig

end B96
end Bee2V.C16
