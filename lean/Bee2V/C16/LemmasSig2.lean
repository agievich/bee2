/-
C16 — bign96: public keys; bign96 as an instance of the core of Bee2V/C02/Core.lean (`B96.par`: after the checks of
identifier and public key `verify` is `Par.vcore`, `signWith` returns `Par.sig`).
-/
import Bee2V.C02.Core
import Bee2V.C16.LemmasSig
namespace Bee2V.C16.Sig
open Bee2V.C16

variable {G : Type} [AddCommGroup G]

/-! ### the group part -/

theorem e_xy_some {E : ECtx G} (L : ELaws E) {P : G} (hP : P ≠ 0) : ∃ x y, E.xy P = some (x, y) := by
  cases h : E.xy P with
  | none => exact absurd ((L.xy_none P).1 h) hP
  | some v => exact ⟨v.1, v.2, rfl⟩

theorem e_ne_of_xy {E : ECtx G} (L : ELaws E) {P : G} {v : Nat × Nat} (h : E.xy P = some v) : P ≠ 0 := by
  intro h0
  rw [(L.xy_none P).2 h0] at h
  cases h

theorem e_xy_base_mul {E : ECtx G} (L : ELaws E) {d : Nat} (h0 : 0 < d) (hq : d < E.q) :
    ∃ x y, E.xy (E.smul d E.base) = some (x, y) := by
  rw [L.smul_eq]
  exact e_xy_some L (base_mul_ne L.order h0 hq)

/-! ### bign96 sizes -/

variable {C : B96 G}

theorem b_q_lt_W (L : B96Laws C) : C.q < W192 := L.q_hi

theorem b_W_lt_2q (L : B96Laws C) : W192 < 2 * C.q := by
  have h := L.q_lo
  have : W192 = 2 * 2 ^ 191 := by unfold W192; rw [← Nat.pow_succ']
  omega

theorem b_pow24 : 256 ^ 24 = W192 := by
  unfold W192; rw [C02.pow256]

theorem b_leNat24 {b : Bytes} (h : b.length = 24) : leNat b < W192 := by
  have := leNat_lt b
  rw [h, b_pow24] at this
  exact this

theorem b_leNat_natLE (L : B96Laws C) {v : Nat} (h : v < C.q) : leNat (natLE 24 v) = v := by
  apply leNat_natLE_of_lt
  rw [b_pow24]
  exact Nat.lt_trans h (b_q_lt_W L)

theorem b_encXY_length (v : Nat × Nat) : (B96.encXY v).length = 48 := by
  simp [B96.encXY, natLE_length]

theorem b_hash80_length (L : B96Laws C) (m : Bytes) : (B96.hash80 C m).length = 10 := by
  simp [B96.hash80, L.hash_len]

/-! ### public keys -/

theorem b_loadPub_encXY (L : B96Laws C) {P : G} {x y : Nat} (h : C.xy P = some (x, y)) :
    B96.loadPub C (B96.encXY (x, y)) = some P := by
  obtain ⟨hx, hy⟩ := L.xy_lt P x y h
  unfold B96.loadPub B96.encXY
  simp only [take_natLE_append, drop_natLE_append]
  rw [leNat_natLE_of_lt (by rw [b_pow24]; exact hx), leNat_natLE_of_lt (by rw [b_pow24]; exact hy)]
  exact L.ofXY_xy P x y h

/-- a 48-octet string that decodes to P is the encoding of the coordinates of P -/
theorem b_encXY_of_loadPub (L : B96Laws C) {pub : Bytes} (hl : pub.length = 48) {P : G}
    (h : B96.loadPub C pub = some P) :
    C.xy P = some (leNat (pub.take 24), leNat (pub.drop 24)) ∧
    B96.encXY (leNat (pub.take 24), leNat (pub.drop 24)) = pub := by
  refine ⟨L.xy_ofXY _ _ _ h, ?_⟩
  unfold B96.encXY
  exact natLE_take_drop 24 pub (by omega)

abbrev _root_.Bee2V.C16.B96.par (C : B96 G) : C02.Par G := ⟨W192, C.q, 24, 10, 2 ^ 103, C.base, C.xy, B96.hash80 C⟩

theorem b_par (L : B96Laws C) : C.par.Ok :=
  ⟨L.order, b_q_lt_W L, b_W_lt_2q L, b_pow24, b_hash80_length L⟩

theorem b_verify_vcore (L : B96Laws C) (oid Hb sig pub : Bytes) :
    C.verify oid Hb sig pub =
      if !C.oidOk oid then .badOid else
      match C.loadPub pub with
      | none => .badPubkey
      | some Q => if (C.par.vcore oid Hb (leNat Hb) sig Q).isSome then .ok else .badSig := by
  unfold B96.verify C02.Par.vcore B96.s0Full
  simp only [L.smul_eq, L.add_eq, leNat_eq, natLE_eq, addMod_c02, redOnce_c02]
  cases C.oidOk oid with
  | false => rfl
  | true =>
    cases B96.loadPub C pub with
    | none => rfl
    | some Q =>
      simp only [Bool.not_true, Bool.false_eq_true, if_false]
      by_cases hs : C02.leNat (sig.drop 10) ≥ C.q
      · simp only [if_pos hs]; rfl
      · simp only [if_neg hs]
        generalize C.xy _ = o
        cases o with
        | none => rfl
        | some R => dsimp only; split <;> rfl

theorem b_signWith_sig (L : B96Laws C) (oid Hb : Bytes) (d k : Nat) :
    C.signWith oid Hb d k =
      match C.xy (k • C.base) with
      | none => (.badParams, [])
      | some R => (.ok, C.par.sig oid Hb d k (leNat Hb) R) := by
  unfold B96.signWith C02.Par.sig C02.Par.s1 B96.signS1 B96.s0Full
  simp only [L.smul_eq, leNat_eq, natLE_eq, subMod_c02, redOnce_c02]
  rfl

theorem b_signWith_length (L : B96Laws C) (oid Hb : Bytes) (d : Nat) {k : Nat} (hk0 : 0 < k) (hkq : k < C.q) :
    (B96.signWith C oid Hb d k).1 = .ok ∧ (B96.signWith C oid Hb d k).2.length = 34 := by
  obtain ⟨x, y, hxy⟩ := e_xy_some L.toELaws (base_mul_ne L.order hk0 hkq)
  rw [b_signWith_sig L, hxy]
  exact ⟨rfl, C02.Par.sig_length (b_par L) ..⟩

/-- whatever `signWith` returns for a one-time key in [1, q-1] passes `verify` under the public key dG -/
theorem b_verify_signWith (L : B96Laws C) {oid Hb pub : Bytes} (ho : C.oidOk oid = true)
    (hH : Hb.length = 24) {d k : Nat} (hk0 : 0 < k) (hkq : k < C.q)
    (hp : B96.loadPub C pub = some (d • C.base)) :
    B96.verify C oid Hb (B96.signWith C oid Hb d k).2 pub = .ok := by
  obtain ⟨x, y, hxy⟩ := e_xy_some L.toELaws (base_mul_ne L.order hk0 hkq)
  obtain ⟨m, hm⟩ := C02.Par.vcore_sig (b_par L) oid Hb d (P := C.par) hkq (b_leNat24 hH) hxy
  have hm : C.par.vcore oid Hb (leNat Hb) (C.par.sig oid Hb d k (leNat Hb) (x, y)) (d • C.base) = some (m, x, y) := hm
  rw [b_verify_vcore L, ho, hp, b_signWith_sig L, hxy]
  simp only [Bool.not_true, Bool.false_eq_true, if_false, hm, Option.isSome_some, if_true]

omit [AddCommGroup G] in
/-- the nonce of bign96Sign2, when the loop finishes, lies in [1, q-1] -/
theorem b_nonceLoop_range (C : B96 G) (θ : Bytes) : ∀ (fuel round : Nat) (k0 : Bytes) (k : Nat),
    B96.nonceLoop C θ fuel round k0 = some k → 0 < k ∧ k < C.q := by
  intro fuel
  induction fuel with
  | zero => intro round k0 k h; simp [B96.nonceLoop] at h
  | succ n ih =>
    intro round k0 k h
    simp only [B96.nonceLoop] at h
    split at h
    · rename_i hc
      simp only [Option.some.injEq] at h
      omega
    · exact ih _ _ _ h

end Bee2V.C16.Sig
