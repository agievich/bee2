/-
C17 — response round trip of secure messaging (lemmas).  No Mathlib.
-/
import Bee2V.C17.LemmasSM
import Bee2V.C17.LemmasMac
import Bee2V.C17.LemmasDer
import Bee2V.C01.PropsStream
namespace Bee2V.C17
open Bee2V.C01 (Cipher)
open Bee2V.C08 (Cmd Resp W)
open Bee2V.Gen.C17Src

/-- the parser on  prot ‖ 8E 08 T ‖ SW1 SW2  once the 0x87 part is known -/
theorem respParse_frame (prot M : Bytes) (sw1 sw2 : UInt8) (hM : M.length = 8) (yOff n : Nat)
    (hp87 : parse87 (prot ++ [0x8E, 8] ++ M) = .ok (prot.length, yOff, n)) :
    smRespParse (prot ++ [0x8E, 8] ++ M ++ [sw1, sw2]) = .ok ⟨prot.length, yOff, n, prot.length + 2⟩ := by
  have hlen : (prot ++ [0x8E, 8] ++ M ++ [sw1, sw2]).length = prot.length + 12 := by simp [hM]
  have hbody : (prot ++ [0x8E, 8] ++ M ++ [sw1, sw2]).take (prot.length + 12 - 2) = prot ++ [0x8E, 8] ++ M := by
    have : prot.length + 12 - 2 = (prot ++ [0x8E, 8] ++ M).length := by simp [hM]
    rw [this, List.take_left']
    rfl
  have hrest : (prot ++ [0x8E, 8] ++ M).drop prot.length = [0x8E, 8] ++ M ++ [] := by
    rw [List.append_assoc, List.drop_left']
    · simp
    · rfl
  have h8 := parse8E_present M [] hM (by simp only [List.length_nil]; unfold W; omega)
  unfold smRespParse
  simp only [hlen, respMin_eq, hbody, hp87, hrest, h8]
  have : ¬ (prot.length + 12 < 12) := by omega
  simp only [this, if_false]
  have : ¬ (prot.length + 10 + 2 ≠ prot.length + 12) := by omega
  simp only [this, if_false]

/-- belt-CFB under the SM state: the ciphertext has the length of the data and decrypts to it -/
theorem sm_cfb (C : Cipher) (hC : CipherOK C) (st : SmSt) (hctr : st.ctr.length = 16) (data : Bytes) :
    (Bee2V.C01.cfbStepD C (Bee2V.C01.cfbStart st.key2 st.ctr)
      (Bee2V.C01.cfbStepE C (Bee2V.C01.cfbStart st.key2 st.ctr) data).2).2 = data ∧
    (Bee2V.C01.cfbStepE C (Bee2V.C01.cfbStart st.key2 st.ctr) data).2.length = data.length :=
  Bee2V.C01.cfbStepD_cfbStepE C hC (Bee2V.C01.cfbStart st.key2 st.ctr) (by simp [Bee2V.C01.cfbStart])
    (by simpa [Bee2V.C01.cfbStart] using hctr) data

/-- btokSMRespUnwrap on  prot ‖ 8E 08 T ‖ SW1 SW2  once the parse result and the MAC verdict are known -/
theorem respUnwrap_frame (C : Cipher) (st : SmSt) (prot M : Bytes) (sw1 sw2 : UInt8) (hM : M.length = 8) (yOff n : Nat)
    (hp : smRespParse (prot ++ [0x8E, 8] ++ M ++ [sw1, sw2]) = .ok ⟨prot.length, yOff, n, prot.length + 2⟩)
    (hpar : ctrParity st = 0) (hmac : mac2V C st.key1 prot [sw1, sw2] M = true) :
    smRespUnwrap C (prot ++ [0x8E, 8] ++ M ++ [sw1, sw2]) st =
      (.ok, some ⟨sw1, sw2,
        if n ≠ 0 then (Bee2V.C01.cfbStepD C (Bee2V.C01.cfbStart st.key2 st.ctr)
          (((prot ++ [0x8E, 8] ++ M ++ [sw1, sw2]).drop yOff).take n)).2
        else ((prot ++ [0x8E, 8] ++ M ++ [sw1, sw2]).drop yOff).take n⟩) := by
  have hlen : (prot ++ [0x8E, 8] ++ M ++ [sw1, sw2]).length = prot.length + 12 := by simp [hM]
  have hsw : (prot ++ [0x8E, 8] ++ M ++ [sw1, sw2]).drop (prot.length + 12 - 2) = [sw1, sw2] := by
    have : prot.length + 12 - 2 = (prot ++ [0x8E, 8] ++ M).length := by simp [hM]
    rw [this, List.drop_left']
    rfl
  have htk : (prot ++ [0x8E, 8] ++ M ++ [sw1, sw2]).take prot.length = prot := by
    rw [List.append_assoc, List.append_assoc, List.take_left']
    rfl
  have htag : ((prot ++ [0x8E, 8] ++ M ++ [sw1, sw2]).drop (prot.length + 2)).take 8 = M := by
    have e : prot ++ [0x8E, 8] ++ M ++ [sw1, sw2] = (prot ++ [0x8E, 8]) ++ (M ++ [sw1, sw2]) := by simp
    have : prot.length + 2 = (prot ++ [0x8E, 8]).length := by simp
    rw [e, this, List.drop_left', ← hM, List.take_left']
    · rfl
    · rfl
  unfold smRespUnwrap
  rw [hp]
  simp only [parRespUnwrap_eq, hpar, ne_eq, not_true_eq_false, if_false, hlen, hsw, htk, htag, hmac, Bool.not_true,
    Bool.false_eq_true]

/-- `e` is the field that follows the 0x87 field: 0x97 or 0x8E in a command, 0x8E in a response -/
theorem f87_parse (C : Cipher) (hC : CipherOK C) (st : SmSt) (hctr : st.ctr.length = 16) (data : Bytes)
    (tag' : Nat) (e val rest : Bytes) (hE : Bee2V.C08.derEnc tag' val = .ok e) (htag : tag' < 65536) (hne : tag' ≠ 0x87)
    (hlen : 20 + data.length + e.length + val.length + rest.length < W) :
    ∃ yOff, parse87 (f87 C st data ++ (e ++ rest)) = .ok ((f87 C st data).length, yOff, data.length) ∧
      (∀ rest', ((f87 C st data ++ rest').drop yOff).take data.length =
        if data.length ≠ 0 then (Bee2V.C01.cfbStepE C (Bee2V.C01.cfbStart st.key2 st.ctr) data).2 else []) ∧
      (f87 C st data).length = (if data.length ≠ 0 then (tl 0x87 (data.length + 1)).length + 1 + data.length else 0) := by
  obtain ⟨_, hylen⟩ := sm_cfb C hC st hctr data
  by_cases hn : data.length ≠ 0
  · let y := (Bee2V.C01.cfbStepE C (Bee2V.C01.cfbStart st.key2 st.ctr) data).2
    have hyl : y.length = data.length := hylen
    have hP : f87 C st data = tl 0x87 (y.length + 1) ++ [2] ++ y := by
      unfold f87; rw [if_pos hn, hyl]
    have hPl : (f87 C st data).length = (tl 0x87 (y.length + 1)).length + 1 + y.length := by
      rw [hP]; simp only [List.length_append, List.length_cons, List.length_nil]
    refine ⟨(tl 0x87 (y.length + 1)).length + 1, ?_, fun rest' => ?_, by rw [if_pos hn, hPl, hyl]⟩
    · have := parse87_present y (e ++ rest) (by omega) (by rw [List.length_append]; omega)
      rw [hPl, hP, ← hyl]; exact this
    · rw [if_pos hn, hP, ← hyl]
      have e' : tl 0x87 (y.length + 1) ++ [2] ++ y ++ rest' = (tl 0x87 (y.length + 1) ++ [2]) ++ (y ++ rest') := by simp
      rw [e', List.drop_left' (by simp), List.take_left' rfl]
  · have hn0 : data.length = 0 := by simpa using hn
    have hP : f87 C st data = [] := by simp [f87, hn0]
    refine ⟨0, ?_, fun rest' => by simp [hn0], by simp [hn0, hP]⟩
    rw [hP, hn0, List.nil_append]
    exact parse87_absent tag' e val rest hE (Bee2V.C08.ltU32 htag) hne (by omega)

/-- the whole response round trip on the explicit octets -/
theorem resp_roundtrip_core (C : Cipher) (hC : CipherOK C) (sw1 sw2 : UInt8) (rdf : Bytes) (st : SmSt)
    (hctr : st.ctr.length = 16) (hv : rdf.length ≤ 65536) (hpar : ctrParity st = 0) :
    let apdu := f87 C st rdf ++ [0x8E, 8] ++ mac3 C st.key1 (f87 C st rdf) [sw1] [sw2] ++ [sw1, sw2]
    smRespUnwrap C apdu st = (.ok, some ⟨sw1, sw2, rdf⟩) ∧ smRespUnwrapFmt apdu = (.ok, rdf.length) ∧
    apdu.length = (f87 C st rdf).length + 12 := by
  intro apdu
  have hMl := mac3_length C hC st.key1 (f87 C st rdf) [sw1] [sw2]
  have hmac : mac2V C st.key1 (f87 C st rdf) [sw1, sw2]
      (mac3 C st.key1 (f87 C st rdf) [sw1] [sw2]) = true :=
    mac2V_mac3 C hC st.key1 (f87 C st rdf) [sw1] [sw2]
  obtain ⟨hdec, hylen⟩ := sm_cfb C hC st hctr rdf
  revert apdu
  generalize hM : mac3 C st.key1 (f87 C st rdf) [sw1] [sw2] = M at *
  intro apdu
  have hE : Bee2V.C08.derEnc 0x8E M = .ok ([0x8E, 8] ++ M) := by rw [derEnc_8E, hMl, tl_8E_8]
  obtain ⟨yOff, h87, hy, _⟩ := f87_parse C hC st hctr rdf 0x8E _ M [] hE (by omega) (by omega) (by
    simp only [List.length_append, List.length_cons, List.length_nil, hMl]; unfold W; omega)
  rw [List.append_nil, ← List.append_assoc] at h87
  have hp := respParse_frame (f87 C st rdf) M sw1 sw2 hMl _ _ h87
  have hu := respUnwrap_frame C st (f87 C st rdf) M sw1 sw2 hMl _ _ hp hpar hmac
  have hct := hy ([0x8E, 8] ++ M ++ [sw1, sw2])
  simp only [← List.append_assoc] at hct
  refine ⟨?_, ?_, by simp [apdu, hMl]⟩
  · rw [hu, hct]
    by_cases hn : rdf.length ≠ 0
    · rw [if_pos hn, if_pos hn, hdec]
    · rw [if_neg hn, if_neg hn, List.length_eq_zero_iff.mp (by omega : rdf.length = 0)]
  · unfold smRespUnwrapFmt; rw [hp]

end Bee2V.C17
