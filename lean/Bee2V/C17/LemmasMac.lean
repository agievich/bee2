/-
C17 — belt-MAC facts needed by the secure-messaging round trips: the tag has 8 octets, the fragmentation
of the input does not matter (C01 `mac_chunk_independent`).  No Mathlib.
-/
import Bee2V.C17.ModelSM
import Bee2V.C17.Laws
import Bee2V.C01.PropsChunk
namespace Bee2V.C17
open Bee2V.C01

theorem macChain_length (C : Cipher) (hC : CipherOK C) (k : Bytes) :
    ∀ (n : Nat) (s X : Bytes), 16 * n ≤ X.length → s.length = 16 → (macChain C k n s X).length = 16 := by
  intro n
  induction n with
  | zero => intro s X _ hs; simpa [macChain] using hs
  | succ n ih =>
    intro s X hX hs
    simp only [macChain]
    apply ih
    · simp only [List.length_drop]; omega
    · apply hC
      rw [length_xorb, hs, List.length_take]; omega

/-- the 16-octet `mac` field after `beltMACStepG_internal`, for a state reached from Start by StepA calls -/
theorem macG_length (C : Cipher) (hC : CipherOK C) (key : Bytes) (cs : List Bytes) :
    (macStepGInternal C (cs.foldl (macStepA C) (macStart C key))).mac.length = 16 := by
  obtain ⟨hk, hr, hs, hf, _, hb⟩ := mac_state_spec C key cs
  generalize cs.foldl (macStepA C) (macStart C key) = st at *
  generalize cs.flatten = X at *
  have hrl : st.r.length = 16 := by rw [hr]; exact hC _ _ (length_zeros 16)
  have hsl : st.s.length = 16 := by
    rw [hs]; apply macChain_length C hC
    · omega
    · exact length_zeros 16
  have hfl : st.filled ≤ 16 := by rw [hf]; split <;> omega
  unfold macStepGInternal
  split
  · apply hC
    simp only [length_xorb, List.length_append, List.length_take, List.length_drop, hrl, hsl, hb]
    decide
  · rename_i hne
    have hne' : st.filled ≠ 16 := by simpa using hne
    apply hC
    simp only [length_xorb, List.length_append, List.length_take, List.length_drop, hrl, hsl, hb, length_zeros,
      List.length_cons, List.length_nil]
    omega

theorem mac2_length (C : Cipher) (hC : CipherOK C) (key a b : Bytes) : (mac2 C key a b).length = 8 := by
  have h := macG_length C hC key [a, b]
  simp only [List.foldl_cons, List.foldl_nil] at h
  simp only [mac2, macStepG, List.length_take, h]
  rfl

theorem mac3_length (C : Cipher) (hC : CipherOK C) (key a b c : Bytes) : (mac3 C key a b c).length = 8 := by
  have h := macG_length C hC key [a, b, c]
  simp only [List.foldl_cons, List.foldl_nil] at h
  simp only [mac3, macStepG, List.length_take, h]
  rfl

/-- verification against the tag computed over the same fragments succeeds -/
theorem mac2V_mac2 (C : Cipher) (hC : CipherOK C) (key a b : Bytes) : mac2V C key a b (mac2 C key a b) = true := by
  have hl := mac2_length C hC key a b
  simp only [mac2V, macStepV, decide_eq_true_eq]
  rw [hl]
  simp only [mac2, macStepG]

/-- three fragments on the sending side, two on the receiving side: same tag (C01 chunk independence) -/
theorem mac2V_mac3 (C : Cipher) (hC : CipherOK C) (key a b c : Bytes) :
    mac2V C key a (b ++ c) (mac3 C key a b c) = true := by
  have h3 := mac_chunk_independent C key [a, b, c] 8
  have h2 := mac_chunk_independent C key [a, b ++ c] 8
  simp only [List.foldl_cons, List.foldl_nil, List.flatten_cons, List.flatten_nil, List.append_nil] at h3 h2
  have e : mac3 C key a b c = mac2 C key a (b ++ c) := by
    simp only [mac3, mac2]; rw [h3, h2]
  rw [e]; exact mac2V_mac2 C hC key a (b ++ c)

/-- a received tag of at most 8 octets verifies iff it equals the recomputed tag (cut to its length) -/
theorem mac2V_iff (C : Cipher) (key a b t : Bytes) (ht : t.length ≤ 8) :
    mac2V C key a b t = true ↔ t = (mac2 C key a b).take t.length := by
  simp only [mac2V, macStepV, decide_eq_true_eq, mac2, macStepG, List.take_take]
  rw [Nat.min_eq_left ht]

theorem mac2_take8 (C : Cipher) (key a b : Bytes) : (mac2 C key a b).take 8 = mac2 C key a b := by
  simp only [mac2, macStepG, List.take_take, Nat.min_self]

end Bee2V.C17
