/-
C17 — the DER fields of secure messaging: what the parsers of ModelSM return on the fields written by the
wrappers (over the C08 round-trip theorem for TLV).  No Mathlib.
-/
import Bee2V.C17.ModelSM
import Bee2V.C08.Props3
namespace Bee2V.C17
open Bee2V.C08

theorem derTEnc_87 : derTEnc 0x87 = .ok [0x87] := by decide +kernel
theorem derTEnc_97 : derTEnc 0x97 = .ok [0x97] := by decide +kernel
theorem derTEnc_8E : derTEnc 0x8E = .ok [0x8E] := by decide +kernel

/-- the `[]` arm of `tl` (ASSERT in the C text) is never taken for the three tags of secure messaging -/
theorem tl_87 (n : Nat) : tl 0x87 n = 0x87 :: derLEnc n := by simp [tl, derTLEnc, derTEnc_87]
theorem tl_97 (n : Nat) : tl 0x97 n = 0x97 :: derLEnc n := by simp [tl, derTLEnc, derTEnc_97]
theorem tl_8E (n : Nat) : tl 0x8E n = 0x8E :: derLEnc n := by simp [tl, derTLEnc, derTEnc_8E]
theorem tl_8E_8 : tl 0x8E 8 = [0x8E, 8] := by rw [tl_8E]; rfl

theorem derEnc_87 (v : Bytes) : derEnc 0x87 v = .ok (tl 0x87 v.length ++ v) := by simp [derEnc, derTEnc_87, tl_87]
theorem derEnc_97 (v : Bytes) : derEnc 0x97 v = .ok (tl 0x97 v.length ++ v) := by simp [derEnc, derTEnc_97, tl_97]
theorem derEnc_8E (v : Bytes) : derEnc 0x8E v = .ok (tl 0x8E v.length ++ v) := by simp [derEnc, derTEnc_8E, tl_8E]

/-- a field with another tag is "absent" for derDec2 / derDec3 -/
theorem derDec2_other (tag tag' : Nat) (e val rest : Bytes) (hE : derEnc tag' val = .ok e) (htag : tag' < U32)
    (hne : tag' ≠ tag) (hlen : 13 + val.length + rest.length < W) : derDec2 (e ++ rest) tag = .err := by
  unfold derDec2
  rw [(derEnc_roundtrip tag' val e rest htag hlen hE).1]
  simp [hne]

/-- the 0x87 field written by the wrappers (data ≠ []) -/
theorem parse87_present (y rest : Bytes) (hy : 1 ≤ y.length) (hlen : 20 + y.length + rest.length < W) :
    parse87 (tl 0x87 (y.length + 1) ++ [2] ++ y ++ rest) =
      .ok ((tl 0x87 (y.length + 1)).length + 1 + y.length, (tl 0x87 (y.length + 1)).length + 1, y.length) := by
  have hE : derEnc 0x87 (2 :: y) = .ok (tl 0x87 (y.length + 1) ++ (2 :: y)) := by
    have := derEnc_87 (2 :: y); simpa using this
  obtain ⟨hd, hs⟩ := derEnc_roundtrip 0x87 (2 :: y) _ rest (ltU32 (by omega)) (by simp only [List.length_cons]; omega) hE
  have e1 : tl 0x87 (y.length + 1) ++ [2] ++ y ++ rest = tl 0x87 (y.length + 1) ++ (2 :: y) ++ rest := by simp
  rw [e1]
  unfold parse87 derDec2
  rw [hd]
  simp only [List.length_append, List.length_cons, ne_eq, not_true_eq_false, if_false]
  have hoff : (tl 0x87 (y.length + 1)).length + (y.length + 1) - (y.length + 1) = (tl 0x87 (y.length + 1)).length := by omega
  simp only [List.length_append, List.length_cons] at hs
  rw [hoff] at hs ⊢
  have hh : (List.drop (tl 0x87 (y.length + 1)).length (tl 0x87 (y.length + 1) ++ 2 :: y ++ rest)).head? = some 2 := by
    simp
  rw [hh]
  have : ¬ (y.length + 1 < 2) := by omega
  simp only [this, false_or, not_true_eq_false, if_false]
  congr 2 <;> omega

/-- no 0x87 field when the buffer starts with a field of another tag -/
theorem parse87_absent (tag' : Nat) (e val rest : Bytes) (hE : derEnc tag' val = .ok e) (htag : tag' < U32)
    (hne : tag' ≠ 0x87) (hlen : 13 + val.length + rest.length < W) : parse87 (e ++ rest) = .ok (0, 0, 0) := by
  unfold parse87
  rw [derDec2_other 0x87 tag' e val rest hE htag hne hlen]

/-- parse8E in terms of derDec, for an ARBITRARY buffer (never unfold the parsers on a buffer whose first octets
are literals: `whnf` would then run the well-founded tag/length loops of the C08 model) -/
theorem parse8E_of_derDec (x : Bytes) (off c : Nat) (h : derDec x = .ok (0x8E, off, 8, c)) : parse8E x = .ok (off, c) := by
  unfold parse8E derDec3
  rw [h]
  simp

/-- the 0x8E field written by the wrappers -/
theorem parse8E_present (mac rest : Bytes) (hm : mac.length = 8) (hlen : 40 + rest.length < W) :
    parse8E ([0x8E, 8] ++ mac ++ rest) = .ok (2, 10) := by
  have hE : derEnc 0x8E mac = .ok ([0x8E, 8] ++ mac) := by rw [derEnc_8E, hm, tl_8E_8]
  have hl : 13 + mac.length + rest.length < W := by rw [hm]; omega
  obtain ⟨hd, _⟩ := derEnc_roundtrip 0x8E mac _ rest (ltU32 (by omega)) hl hE
  have hl1 : ([0x8E, 8] ++ mac).length = 10 := by simp [hm]
  rw [hl1, hm] at hd
  exact parse8E_of_derDec _ _ _ hd

/-- parse97 in terms of derDec for an arbitrary buffer -/
theorem parse97_of_derDec (x : Bytes) (n off l c : Nat) (h : derDec x = .ok (0x97, off, l, c)) :
    parse97 x n =
      match (x.drop off).take l with
      | [v0] =>
        let r := if v0.toNat = 0 then 256 else v0.toNat
        if n ≥ 256 then .error .badApdu else .ok (c, r)
      | [v0, v1] =>
        let r := if v0.toNat * 256 + v1.toNat = 0 then 65536 else v0.toNat * 256 + v1.toNat
        if (n < 256 ∧ r ≤ 256) ∨ n = 0 then .error .badApdu else .ok (c, r)
      | [v0, v1, v2] =>
        let r := if v1.toNat * 256 + v2.toNat = 0 then 65536 else v1.toNat * 256 + v2.toNat
        if v0 ≠ 0 ∨ n ≠ 0 ∨ r ≤ 256 then .error .badApdu else .ok (c, r)
      | _ => .error .badApdu := by
  unfold parse97 derDec2
  rw [h]
  simp only [ne_eq, not_true_eq_false, if_false]
  rfl

theorem parse97_absent (tag' : Nat) (e val rest : Bytes) (n : Nat) (hE : derEnc tag' val = .ok e) (htag : tag' < U32)
    (hne : tag' ≠ 0x97) (hlen : 13 + val.length + rest.length < W) : parse97 (e ++ rest) n = .ok (0, 0) := by
  unfold parse97
  rw [derDec2_other 0x97 tag' e val rest hE htag hne hlen]

/-- the 0x97 field written by btokSMCmdWrap, for each of the three forms of Le -/
theorem parse97_present (n rdf : Nat) (rest : Bytes) (hr : rdf ≠ 0) (hrdf : rdf ≤ 65536) (hlen : 40 + rest.length < W) :
    let l := if n < 256 ∧ rdf ≤ 256 then 1 else if n ≠ 0 then 2 else 3
    parse97 (tl 0x97 l ++ leVal rdf l ++ rest) n = .ok (2 + l, rdf) := by
  intro l
  have hl : l = 1 ∨ l = 2 ∨ l = 3 := by
    simp only [l]; by_cases h1 : n < 256 ∧ rdf ≤ 256 <;> by_cases h2 : n ≠ 0 <;> simp [h1, h2]
  have hvl : (leVal rdf l).length = l := by
    rcases hl with h | h | h <;> simp [leVal, h]
  have htl : tl 0x97 l = [0x97, oct l] := by
    rw [tl_97]; simp only [derLEnc]
    have : l < 128 := by omega
    simp [this]
  have hE : derEnc 0x97 (leVal rdf l) = .ok (tl 0x97 l ++ leVal rdf l) := by rw [derEnc_97, hvl]
  obtain ⟨hd, hs⟩ := derEnc_roundtrip 0x97 (leVal rdf l) _ rest (ltU32 (by omega)) (by rw [hvl]; omega) hE
  have hlen2 : (tl 0x97 l ++ leVal rdf l).length = 2 + l := by rw [htl]; simp [hvl]; omega
  rw [hlen2, hvl] at hd hs
  rw [parse97_of_derDec _ n _ _ _ hd, hs]
  by_cases c1 : n < 256 ∧ rdf ≤ 256
  · have h : l = 1 := by simp [l, c1]
    simp only [h, leVal, if_true, Bee2V.C08.toNat_oct]
    have : ¬ n ≥ 256 := by omega
    simp only [this, if_false]
    congr 2
    split <;> omega
  · by_cases c2 : n ≠ 0
    · have h : l = 2 := by simp [l, c1, c2]
      have e2 : leVal rdf 2 = [oct (rdf / 256), oct rdf] := by simp [leVal]
      simp only [h, e2, Bee2V.C08.toNat_oct]
      by_cases h65 : rdf = 65536
      · subst h65
        have : ¬ ((n < 256 ∧ 65536 ≤ 256) ∨ n = 0) := by omega
        simp [this]
        exact c2
      · have hne : rdf / 256 % 256 * 256 + rdf % 256 = rdf := by omega
        have : ¬ ((n < 256 ∧ rdf ≤ 256) ∨ n = 0) := by omega
        simp only [hne, hr, if_false, this]
    · have h : l = 3 := by simp [l, c1, c2]
      have hn0 : n = 0 := by simpa using c2
      have e3 : leVal rdf 3 = [0, oct (rdf / 256), oct rdf] := by simp [leVal]
      simp only [h, e3, Bee2V.C08.toNat_oct]
      have hgt : 256 < rdf := by omega
      by_cases h65 : rdf = 65536
      · subst h65; simp [hn0]
      · have hne : rdf / 256 % 256 * 256 + rdf % 256 = rdf := by omega
        have : ¬ ((0 : UInt8) ≠ 0 ∨ n ≠ 0 ∨ rdf ≤ 256) := by simp [hn0]; omega
        simp only [hne, hr, if_false, this]

end Bee2V.C17
