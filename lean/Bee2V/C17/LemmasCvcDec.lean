/-
C17 — decoder side of the CV-certificate round trip: btokCVCBodyDec on the explicit code of CvcCode.lean.
The one idea of the file: a C08 decoder must never be unfolded (nor `tlvC`, `oidC` … reduced by `whnf`, `omega`'s
atom comparison or `rfl`) on a buffer whose head octets are literals — the tag and length loops are well-founded
recursions and evaluating them on ground terms takes minutes.  Hence four layers: (1) the control flow of bodyDec /
decHatEid / decHatEsign for an ARBITRARY buffer, every decoder result given as a hypothesis; (2) the primitive
decoders on `tlvC tag v` with `tag` a variable, instantiated later; (3), (4) the optional parts and the body on
their explicit codes, with the code constructors made irreducible.  No Mathlib.
-/
import Bee2V.C17.LemmasCvcEnc
import Bee2V.C08.LemmasSid
namespace Bee2V.C17
open Bee2V.C08
open Bee2V.Gen.C17Src (nameMin nameMax keyBits)

/-! ### Layer 1: control flow -/

theorem R_bind_ok {α β : Type} (a : α) (f : α → R β) : (R.ok a >>= f) = f a := rfl

/-- decHatEid when the optional CertHAT is absent -/
theorem decHatEid_absent (body : Bytes) (p : Nat) (h : derStartsWith (body.drop p) 0x7F4C = .err) :
    decHatEid body p = .ok (zeros 5, p) := by
  unfold decHatEid; rw [h]

/-- decHatEid when it is present -/
theorem decHatEid_present (body : Bytes) (p : Nat) (a : Anchor) (t t1 t2 : Nat) (hat : Bytes)
    (h0 : derStartsWith (body.drop p) 0x7F4C = .ok ())
    (h1 : derTSEQDecStart (body.drop p) 0x7F4C = .ok (a, t))
    (h2 : derOIDDec2 (body.drop (p + t)) oid_eid_access = .ok t1)
    (h3 : derTOCTDec2 (body.drop (p + t + t1)) 4 5 = .ok (hat, t2))
    (h4 : derTSEQDecStop (p + t + t1 + t2 - p) a = .ok ()) :
    decHatEid body p = .ok (hat, p + t + t1 + t2) := by
  unfold decHatEid; rw [h0]
  simp only [h1, R_bind_ok, h2, h3, h4]
  rfl

theorem decHatEsign_absent (body : Bytes) (p : Nat) (h : derStartsWith (body.drop p) 0x65 = .err) :
    decHatEsign body p = .ok (zeros 2, p) := by
  unfold decHatEsign; rw [h]

theorem decHatEsign_present (body : Bytes) (p : Nat) (aE aD aH : Anchor) (tE tD tO tH tO2 tV : Nat) (hat : Bytes)
    (h0 : derStartsWith (body.drop p) 0x65 = .ok ())
    (h1 : derTSEQDecStart (body.drop p) 0x65 = .ok (aE, tE))
    (h2 : derTSEQDecStart (body.drop (p + tE)) 0x73 = .ok (aD, tD))
    (h3 : derOIDDec2 (body.drop (p + tE + tD)) oid_esign_auth_ext = .ok tO)
    (h4 : derTSEQDecStart (body.drop (p + tE + tD + tO)) 0x7F4C = .ok (aH, tH))
    (h5 : derOIDDec2 (body.drop (p + tE + tD + tO + tH)) oid_esign_access = .ok tO2)
    (h6 : derTOCTDec2 (body.drop (p + tE + tD + tO + tH + tO2)) 4 2 = .ok (hat, tV))
    (h7 : derTSEQDecStop (p + tE + tD + tO + tH + tO2 + tV - (p + tE + tD + tO)) aH = .ok ())
    (h8 : derTSEQDecStop (p + tE + tD + tO + tH + tO2 + tV - (p + tE)) aD = .ok ())
    (h9 : derTSEQDecStop (p + tE + tD + tO + tH + tO2 + tV - p) aE = .ok ()) :
    decHatEsign body p = .ok (hat, p + tE + tD + tO + tH + tO2 + tV) := by
  unfold decHatEsign; rw [h0]
  simp only [h1, R_bind_ok, h2, h3, h4, h5, h6, h7, h8, h9]
  rfl

theorem guard_true : guard true = .ok () := rfl

/-- control flow of btokCVCBodyDec -/
theorem bodyDec_core (body : Bytes) (aB aP : Anchor) (t0 tv ta tp to tb th tf tu p8 p11 bits : Nat)
    (auth holder pk fr un he hs : Bytes)
    (H1 : derTSEQDecStart body 0x7F4E = .ok (aB, t0))
    (H2 : derTSIZEDec2 (body.drop t0) 0x5F29 0 = .ok tv)
    (H3 : derTPSTRDec (body.drop (t0 + tv)) 0x42 = .ok (auth, ta))
    (G3 : (decide (nameMin ≤ auth.length) && decide (auth.length ≤ nameMax)) = true)
    (H4 : derTSEQDecStart (body.drop (t0 + tv + ta)) 0x7F49 = .ok (aP, tp))
    (H5 : derOIDDec2 (body.drop (t0 + tv + ta + tp)) oid_pubkey = .ok to)
    (H6 : derTBITDec (body.drop (t0 + tv + ta + tp + to)) 3 = .ok (pk, bits, tb))
    (G6 : keyBits.contains bits = true)
    (H7 : derTSEQDecStop (t0 + tv + ta + tp + to + tb - (t0 + tv + ta)) aP = .ok ())
    (H8 : derTPSTRDec (body.drop (t0 + tv + ta + tp + to + tb)) 0x5F20 = .ok (holder, th))
    (G8 : (decide (nameMin ≤ holder.length) && decide (holder.length ≤ nameMax)) = true)
    (H9 : decHatEid body (t0 + tv + ta + tp + to + tb + th) = .ok (he, p8))
    (H10 : derTOCTDec2 (body.drop p8) 0x5F25 6 = .ok (fr, tf))
    (H11 : derTOCTDec2 (body.drop (p8 + tf)) 0x5F24 6 = .ok (un, tu))
    (H12 : decHatEsign body (p8 + tf + tu) = .ok (hs, p11))
    (H13 : derTSEQDecStop p11 aB = .ok ()) :
    bodyDec body = .ok (⟨auth, holder, pk, fr, un, he, hs, []⟩, p11) := by
  unfold bodyDec
  simp only [H1, R_bind_ok, H2, H3, G3, guard_true, H4, H5, H6, G6, H7, H8, G8, H9, H10, H11, H12, H13]
  rfl

/-! ### Layer 2: the primitive decoders at a position `p` of a buffer where the code of the value stands
(tags are variables here) -/

/-- head of a tlvC code: T ‖ L -/
def tlHd (tag : Nat) (content : Bytes) : Bytes := beBytes (tCount tag) tag ++ derLEnc content.length

theorem tlvC_split (tag : Nat) (content : Bytes) : tlvC tag content = tlHd tag content ++ content := by
  simp only [tlvC, tlHd]

theorem tlHd_length (tag : Nat) (content : Bytes) :
    (tlHd tag content).length = tCount tag + (derLEnc content.length).length := by
  simp only [tlHd, List.length_append, beBytes_length]

/-- what stands at position `p` lies inside the buffer -/
theorem len_at {body x : Bytes} {p : Nat} (hd : body.drop p = x) : x.length ≤ body.length := by
  rw [← hd, List.length_drop]; omega

theorem seqStart_at {body content tail : Bytes} {p : Nat} (tag : Nat) (hd : body.drop p = tlvC tag content ++ tail)
    (hv : derTIsValid tag = true) (hc : derTIsConstructive tag = true) (hlt : tag < 65536)
    (hb : body.length < SIZE_MAX) :
    derTSEQDecStart (body.drop p) tag = .ok (⟨0, tag, content.length⟩, (tlHd tag content).length) := by
  have := len_at hd
  rw [List.length_append, tlvC_length] at this
  rw [hd, tlHd_length]
  exact derTSEQDecStart_enc tag content tail hv hc (ltU32 hlt) (by omega)

theorem startsWith_at {body v tail : Bytes} {p : Nat} (tag tag' : Nat) (hd : body.drop p = tlvC tag v ++ tail)
    (hv : derTIsValid tag = true) (hlt : tag < 65536) :
    derStartsWith (body.drop p) tag' = if tag = tag' then .ok () else .err := by
  rw [hd]
  unfold derStartsWith tlvC
  rw [List.append_assoc, List.append_assoc, derT_roundtrip' tag hv (ltU32 hlt)]

theorem pstrDec_at {body v tail : Bytes} {p : Nat} (tag : Nat) (hd : body.drop p = tlvC tag v ++ tail)
    (hp : v.all (fun c => isPrintable c.toNat) = true) (hv : derTIsValid tag = true) (hlt : tag < 65536)
    (hb : body.length < W) : derTPSTRDec (body.drop p) tag = .ok (v, (tlvC tag v).length) :=
  dec_at (derTPSTRDec · tag) hd hb fun hl => by
    rw [derTPSTRDec_eq _ _ hl]
    exact tlvDec_code (by unfold pstrV; rw [if_pos hp]) tag hv (ltU32 hlt) tail hl

theorem octDec2_at {body v tail : Bytes} {p : Nat} (tag : Nat) (hd : body.drop p = tlvC tag v ++ tail)
    (hv : derTIsValid tag = true) (hlt : tag < 65536) (hb : body.length < W) :
    derTOCTDec2 (body.drop p) tag v.length = .ok (v, (tlvC tag v).length) :=
  dec_at (derTOCTDec2 · tag v.length) hd hb fun hl => by
    rw [derTOCTDec2_eq _ _ _ hl]
    exact tlvDec_code (by unfold octV; rw [if_pos rfl]) tag hv (ltU32 hlt) tail hl

theorem oidDec2_at {body tail : Bytes} {p : Nat} (oid : Bytes) (hd : body.drop p = oidC oid ++ tail)
    (hok : derOIDEnc oid = .ok (oidC oid)) (hb : body.length < W) :
    derOIDDec2 (body.drop p) oid = .ok (oidC oid).length :=
  dec_at (derOIDDec2 · oid) hd hb (derOIDDec2_roundtrip oid (oidC oid) tail hok)

theorem sizeDec2_at {body tail : Bytes} {p : Nat} (hd : body.drop p = verC ++ tail) :
    derTSIZEDec2 (body.drop p) 0x5F29 0 = .ok verC.length := by
  obtain ⟨e, he, hdec⟩ := derTSIZE_roundtrip' 0x5F29 0 tv_5F29 (ltU32 (by omega)) (by unfold W; omega) tail
  rw [verC_ok] at he
  cases he
  rw [← hd] at hdec
  unfold derTSIZEDec2
  rw [hdec]
  rfl

/-- BIT STRING of whole octets -/
theorem bitDec_at {body pk tail : Bytes} {p : Nat} (hd : body.drop p = bitC pk ++ tail) (hb : body.length < W)
    (h8 : 8 * pk.length + 15 < W) : derTBITDec (body.drop p) 3 = .ok (pk, 8 * pk.length, (bitC pk).length) :=
  dec_at (derTBITDec · 3) hd hb fun hl => by
    have hV : bitV (0 :: pk) = some (pk, 8 * pk.length) := by
      have h0 : (0 : UInt8).toNat = 0 := rfl
      rw [bitV_cons, h0, if_neg (by omega), Nat.pow_zero, Nat.mod_one, if_neg (fun h => h rfl), Nat.sub_zero,
        Nat.add_mod_right, Nat.mod_eq_of_lt (by omega), Nat.mul_comm]
    rw [derTBITDec_eq _ _ hl]
    exact tlvDec_code (k := fun r c => (r.1, r.2, c)) hV 3 tv_3 (by decide) tail hl

theorem stop_ok (tag : Nat) (content : Bytes) (pos : Nat) (hv : derTIsValid tag = true) (hlt : tag < 65536)
    (hl : content.length < 4294967296) (hpos : pos = (tlHd tag content).length + content.length) :
    derTSEQDecStop pos ⟨0, tag, content.length⟩ = .ok () := by
  have h4 := tCount_le4 tag (ltU32 hlt)
  have h9 := derLEnc_le9 content.length (by unfold W; omega)
  rw [hpos, tlHd_length]
  exact derTSEQDecStop_enc 0 tag _ hv (by unfold W; omega)

theorem isZero_eq_zeros (b : Bytes) (h : isZero b = true) : b = zeros b.length := by
  induction b with
  | nil => rfl
  | cons x xs ih =>
    simp only [isZero, List.all_cons, Bool.and_eq_true, beq_iff_eq] at h
    have := ih (by simpa [isZero] using h.2)
    rw [h.1]
    simp only [List.length_cons, zeros, Bee2V.C01.zeros, List.replicate_succ]
    congr 1

/-! ### Layer 3: the optional parts on their explicit codes -/

section
attribute [local irreducible] tlvC tlHd oidC

theorem hatEid_fact (c : Cvc) {body x tail : Bytes} {p : Nat}
    (hd : body.drop p = hatEidC c ++ (tlvC 0x5F25 x ++ tail)) (he : c.hatEid.length = 5)
    (hb : body.length + 100 < 4294967296) :
    decHatEid body p = .ok (c.hatEid, p + (hatEidC c).length) := by
  have hbW : body.length + 13 < W := by unfold W; omega
  by_cases hz : isZero c.hatEid = true
  · have hC : hatEidC c = [] := by simp [hatEidC, hz]
    rw [hC, List.nil_append] at hd
    have h0 : derStartsWith (body.drop p) 0x7F4C = .err := by
      rw [startsWith_at 0x5F25 0x7F4C hd tv_5F25 (by omega)]; rfl
    rw [decHatEid_absent body _ h0, hC]
    have := isZero_eq_zeros c.hatEid hz
    rw [he] at this
    rw [this]; rfl
  · have hz' : isZero c.hatEid = false := by simpa using hz
    have hC : hatEidC c = tlvC 0x7F4C (oidC oid_eid_access ++ tlvC 4 c.hatEid) := by simp [hatEidC, hz']
    rw [hC] at hd ⊢
    have hl := len_at hd
    rw [List.length_append, tlvC_length, List.length_append] at hl
    have h0 : derStartsWith (body.drop p) 0x7F4C = .ok () := by
      rw [startsWith_at 0x7F4C 0x7F4C hd tv_7F4C (by omega)]; rfl
    have h1 := seqStart_at 0x7F4C hd tv_7F4C tc_7F4C (by omega) (by unfold SIZE_MAX; omega)
    have d1 := drop_after (C := tlHd 0x7F4C (oidC oid_eid_access ++ tlvC 4 c.hatEid))
      (rest := oidC oid_eid_access ++ (tlvC 4 c.hatEid ++ (tlvC 0x5F25 x ++ tail)))
      (by rw [hd, tlvC_split 0x7F4C, List.append_assoc, List.append_assoc])
    have h2 := oidDec2_at oid_eid_access d1 oidC_ok_eid (by omega)
    have d2 := drop_after d1
    have h3 := octDec2_at 4 d2 tv_4 (by omega) (by omega)
    rw [he] at h3
    have h4 : derTSEQDecStop (p + (tlHd 0x7F4C (oidC oid_eid_access ++ tlvC 4 c.hatEid)).length +
        (oidC oid_eid_access).length + (tlvC 4 c.hatEid).length - p)
        ⟨0, 0x7F4C, (oidC oid_eid_access ++ tlvC 4 c.hatEid).length⟩ = .ok () :=
      stop_ok 0x7F4C _ _ tv_7F4C (by omega) (by rw [List.length_append]; omega)
        (by rw [List.length_append]; omega)
    rw [decHatEid_present body p _ _ _ _ _ h0 h1 h2 h3 h4]
    congr 2
    rw [tlvC_split 0x7F4C, List.length_append, List.length_append]; omega

theorem hatEsign_fact (c : Cvc) {body tail : Bytes} {p : Nat} (hd : body.drop p = hatEsignC c ++ tail)
    (hs : c.hatEsign.length = 2) (hb : body.length + 100 < 4294967296)
    (hnext : isZero c.hatEsign = true → derStartsWith tail 0x65 = .err) :
    decHatEsign body p = .ok (c.hatEsign, p + (hatEsignC c).length) := by
  have hbW : body.length + 13 < W := by unfold W; omega
  by_cases hz : isZero c.hatEsign = true
  · have hC : hatEsignC c = [] := by simp [hatEsignC, hz]
    rw [hC, List.nil_append] at hd
    have h0 : derStartsWith (body.drop p) 0x65 = .err := by rw [hd]; exact hnext hz
    rw [decHatEsign_absent body _ h0, hC]
    have := isZero_eq_zeros c.hatEsign hz
    rw [hs] at this
    rw [this]; rfl
  · have hz' : isZero c.hatEsign = false := by simpa using hz
    have hC : hatEsignC c =
        tlvC 0x65 (tlvC 0x73 (oidC oid_esign_auth_ext ++ tlvC 0x7F4C (oidC oid_esign_access ++ tlvC 4 c.hatEsign))) := by
      simp [hatEsignC, hz']
    rw [hC] at hd ⊢
    -- the nested contents, their heads and sizes
    generalize hH : tlvC 0x7F4C (oidC oid_esign_access ++ tlvC 4 c.hatEsign) = H at hd ⊢
    generalize hDD : tlvC 0x73 (oidC oid_esign_auth_ext ++ H) = DD at hd ⊢
    have lH : H.length = (tlHd 0x7F4C (oidC oid_esign_access ++ tlvC 4 c.hatEsign)).length +
        ((oidC oid_esign_access).length + (tlvC 4 c.hatEsign).length) := by
      rw [← hH, tlvC_split 0x7F4C, List.length_append, List.length_append]
    have lDD : DD.length = (tlHd 0x73 (oidC oid_esign_auth_ext ++ H)).length +
        ((oidC oid_esign_auth_ext).length + H.length) := by
      rw [← hDD, tlvC_split 0x73, List.length_append, List.length_append]
    have hl := len_at hd
    rw [List.length_append, tlvC_split 0x65, List.length_append] at hl
    -- the decoder calls, stepping through the buffer
    have h0 : derStartsWith (body.drop p) 0x65 = .ok () := by
      rw [startsWith_at 0x65 0x65 hd tv_65 (by omega)]; rfl
    have h1 := seqStart_at 0x65 hd tv_65 tc_65 (by omega) (by unfold SIZE_MAX; omega)
    have d1 : body.drop (p + (tlHd 0x65 DD).length) = tlvC 0x73 (oidC oid_esign_auth_ext ++ H) ++ tail := by
      rw [hDD]; exact drop_after (by rw [hd, tlvC_split 0x65, List.append_assoc])
    have h2 := seqStart_at 0x73 d1 tv_73 tc_73 (by omega) (by unfold SIZE_MAX; omega)
    have d2 := drop_after (C := tlHd 0x73 (oidC oid_esign_auth_ext ++ H)) (rest := oidC oid_esign_auth_ext ++ (H ++ tail))
      (by rw [d1, tlvC_split 0x73, List.append_assoc, List.append_assoc])
    have h3 := oidDec2_at oid_esign_auth_ext d2 oidC_ok_ext (by omega)
    have d3 : body.drop (p + (tlHd 0x65 DD).length + (tlHd 0x73 (oidC oid_esign_auth_ext ++ H)).length +
        (oidC oid_esign_auth_ext).length) = tlvC 0x7F4C (oidC oid_esign_access ++ tlvC 4 c.hatEsign) ++ tail := by
      rw [hH]; exact drop_after d2
    have h4 := seqStart_at 0x7F4C d3 tv_7F4C tc_7F4C (by omega) (by unfold SIZE_MAX; omega)
    have d4 := drop_after (C := tlHd 0x7F4C (oidC oid_esign_access ++ tlvC 4 c.hatEsign))
      (rest := oidC oid_esign_access ++ (tlvC 4 c.hatEsign ++ tail))
      (by rw [d3, tlvC_split 0x7F4C, List.append_assoc, List.append_assoc])
    have h5 := oidDec2_at oid_esign_access d4 oidC_ok_esign (by omega)
    have d5 := drop_after d4
    have h6 := octDec2_at 4 d5 tv_4 (by omega) (by omega)
    rw [hs] at h6
    have h7 := stop_ok 0x7F4C (oidC oid_esign_access ++ tlvC 4 c.hatEsign)
      (p + (tlHd 0x65 DD).length + (tlHd 0x73 (oidC oid_esign_auth_ext ++ H)).length + (oidC oid_esign_auth_ext).length +
        (tlHd 0x7F4C (oidC oid_esign_access ++ tlvC 4 c.hatEsign)).length + (oidC oid_esign_access).length +
        (tlvC 4 c.hatEsign).length -
        (p + (tlHd 0x65 DD).length + (tlHd 0x73 (oidC oid_esign_auth_ext ++ H)).length + (oidC oid_esign_auth_ext).length))
      tv_7F4C (by omega) (by rw [List.length_append]; omega) (by rw [List.length_append]; omega)
    have h8 := stop_ok 0x73 (oidC oid_esign_auth_ext ++ H)
      (p + (tlHd 0x65 DD).length + (tlHd 0x73 (oidC oid_esign_auth_ext ++ H)).length + (oidC oid_esign_auth_ext).length +
        (tlHd 0x7F4C (oidC oid_esign_access ++ tlvC 4 c.hatEsign)).length + (oidC oid_esign_access).length +
        (tlvC 4 c.hatEsign).length - (p + (tlHd 0x65 DD).length))
      tv_73 (by omega) (by rw [List.length_append]; omega) (by rw [List.length_append]; omega)
    have h9 := stop_ok 0x65 DD
      (p + (tlHd 0x65 DD).length + (tlHd 0x73 (oidC oid_esign_auth_ext ++ H)).length + (oidC oid_esign_auth_ext).length +
        (tlHd 0x7F4C (oidC oid_esign_access ++ tlvC 4 c.hatEsign)).length + (oidC oid_esign_access).length +
        (tlvC 4 c.hatEsign).length - p)
      tv_65 (by omega) (by omega) (by omega)
    rw [decHatEsign_present body p _ _ _ _ _ _ _ _ _ _ h0 h1 h2 h3 h4 h5 h6 h7 h8 h9]
    congr 2
    rw [tlvC_split 0x65, List.length_append]; omega
end

/-! ### Layer 4: btokCVCBodyDec on the explicit code of a valid content -/

section
attribute [local irreducible] tlvC tlHd hatEidC hatEsignC bodyContent bodyCode verC oidC bitC

theorem bodyDec_bodyCode (c : Cvc) (rest : Bytes) (hv : cvcSeemsValid c = true) (he : c.hatEid.length = 5)
    (hs : c.hatEsign.length = 2) (hrest : rest.length + 2000 < 4294967296)
    (hnext : isZero c.hatEsign = true → derStartsWith rest 0x65 = .err) :
    bodyDec (bodyCode c ++ rest) = .ok ({ c with sig := [] }, (bodyCode c).length) := by
  obtain ⟨hna, hnh, hfl, hul, hpk⟩ := seemsValid_facts c hv
  obtain ⟨ha1, ha2, hap⟩ := name_facts _ hna
  obtain ⟨hh1, hh2, hhp⟩ := name_facts _ hnh
  have hbits : keyBits.contains (8 * c.pubkey.length) = true := by
    rw [keyBits_eq]; rcases hpk with h | h | h | h <;> simp [h]
  have hcl := bodyCode_le c hv (by omega) (by omega)
  -- the buffer: T0 ‖ members ‖ rest, right-nested
  have sB : bodyCode c = tlHd 0x7F4E (bodyContent c) ++ bodyContent c := by unfold bodyCode; exact tlvC_split _ _
  have D0 : (bodyCode c ++ rest).drop 0 = tlvC 0x7F4E (bodyContent c) ++ rest := by unfold bodyCode; rfl
  generalize hT0 : tlHd 0x7F4E (bodyContent c) = T0 at sB
  have hK : bodyContent c = verC ++ (tlvC 0x42 c.authority ++ (tlvC 0x7F49 (oidC oid_pubkey ++ bitC c.pubkey) ++
      (tlvC 0x5F20 c.holder ++ (hatEidC c ++ (tlvC 0x5F25 c.from_ ++ (tlvC 0x5F24 c.until_ ++ hatEsignC c)))))) := by
    unfold bodyContent; simp only [List.append_assoc]
  have hKlen : (bodyContent c).length = verC.length + (tlvC 0x42 c.authority).length +
      (tlHd 0x7F49 (oidC oid_pubkey ++ bitC c.pubkey)).length + (oidC oid_pubkey).length + (bitC c.pubkey).length +
      (tlvC 0x5F20 c.holder).length + (hatEidC c).length + (tlvC 0x5F25 c.from_).length +
      (tlvC 0x5F24 c.until_).length + (hatEsignC c).length := by
    rw [hK, tlvC_split 0x7F49]; simp only [List.length_append]; omega
  generalize hbody : bodyCode c ++ rest = body at D0
  have hbl : body.length + 100 < 4294967296 := by rw [← hbody, List.length_append]; omega
  have hbW : body.length + 40 < W := by unfold W; omega
  have hbS : body.length < SIZE_MAX := by unfold SIZE_MAX; omega
  have hKl : T0.length + (bodyContent c).length < 4294967296 := by rw [sB, List.length_append] at hcl; omega
  -- the decoder calls, stepping through the buffer
  have H1 := seqStart_at 0x7F4E D0 tv_7F4E tc_7F4E (by omega) hbS
  rw [List.drop_zero, hT0] at H1
  have D2 : body.drop T0.length = verC ++ (tlvC 0x42 c.authority ++ (tlvC 0x7F49 (oidC oid_pubkey ++ bitC c.pubkey) ++
      (tlvC 0x5F20 c.holder ++ (hatEidC c ++ (tlvC 0x5F25 c.from_ ++ (tlvC 0x5F24 c.until_ ++ (hatEsignC c ++ rest))))))) := by
    rw [← hbody, sB, List.append_assoc, List.drop_left, hK]; simp only [List.append_assoc]
  have H2 := sizeDec2_at D2
  have D3 := drop_after D2
  have H3 := pstrDec_at 0x42 D3 hap tv_42 (by omega) (by omega)
  have D4 := drop_after D3
  have H4 := seqStart_at 0x7F49 D4 tv_7F49 tc_7F49 (by omega) hbS
  have D5 := drop_after (C := tlHd 0x7F49 (oidC oid_pubkey ++ bitC c.pubkey))
    (by rw [D4, tlvC_split 0x7F49, List.append_assoc, List.append_assoc])
  have H5 := oidDec2_at oid_pubkey D5 oidC_ok_pubkey (by omega)
  have D6 := drop_after D5
  have H6 := bitDec_at D6 (by omega) (by unfold W; omega)
  have D8 := drop_after D6
  have H7 := stop_ok 0x7F49 (oidC oid_pubkey ++ bitC c.pubkey)
    (T0.length + verC.length + (tlvC 0x42 c.authority).length + (tlHd 0x7F49 (oidC oid_pubkey ++ bitC c.pubkey)).length +
      (oidC oid_pubkey).length + (bitC c.pubkey).length - (T0.length + verC.length + (tlvC 0x42 c.authority).length))
    tv_7F49 (by omega) (by rw [List.length_append]; omega) (by rw [List.length_append]; omega)
  have H8 := pstrDec_at 0x5F20 D8 hhp tv_5F20 (by omega) (by omega)
  have D9 := drop_after D8
  have H9 := hatEid_fact c D9 he hbl
  have D10 := drop_after D9
  have H10 := octDec2_at 0x5F25 D10 tv_5F25 (by omega) (by omega)
  rw [hfl] at H10
  have D11 := drop_after D10
  have H11 := octDec2_at 0x5F24 D11 tv_5F24 (by omega) (by omega)
  rw [hul] at H11
  have D12 := drop_after D11
  have H12 := hatEsign_fact c D12 hs hbl hnext
  have H13 := stop_ok 0x7F4E (bodyContent c)
    (T0.length + verC.length + (tlvC 0x42 c.authority).length + (tlHd 0x7F49 (oidC oid_pubkey ++ bitC c.pubkey)).length +
      (oidC oid_pubkey).length + (bitC c.pubkey).length + (tlvC 0x5F20 c.holder).length + (hatEidC c).length +
      (tlvC 0x5F25 c.from_).length + (tlvC 0x5F24 c.until_).length + (hatEsignC c).length)
    tv_7F4E (by omega) (by omega) (by rw [hT0, hKlen]; omega)
  have G3 : (decide (nameMin ≤ c.authority.length) && decide (c.authority.length ≤ nameMax)) = true := by
    rw [nameMin_eq, nameMax_eq]; simp [ha1, ha2]
  have G8 : (decide (nameMin ≤ c.holder.length) && decide (c.holder.length ≤ nameMax)) = true := by
    rw [nameMin_eq, nameMax_eq]; simp [hh1, hh2]
  rw [bodyDec_core body _ _ _ _ _ _ _ _ _ _ _ _ _ _ _ _ _ _ _ _ _ H1 H2 H3 G3 H4 H5 H6 hbits H7 H8 G8 H9 H10 H11 H12 H13]
  congr 2
  rw [sB, List.length_append, hKlen]; omega

end

end Bee2V.C17
