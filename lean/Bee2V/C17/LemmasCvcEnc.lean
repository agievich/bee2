/-
C17 — encoder side of the CV-certificate code: the code-shaped encoders `bodyEnc` / `certEnc` (lists of
`derEncStep` lines run by the C08 interpreter `runEnc`, with the SEQ anchors patched by derTSEQEncStop) write
exactly the explicit DER code of CvcCode.lean.  No Mathlib.
-/
import Bee2V.C17.CvcCode
import Bee2V.C17.LemmasCVC
namespace Bee2V.C17
open Bee2V.C08

/-! ### ground facts (each evaluated once by the kernel) -/

theorem oidC_of_isOk (oid : Bytes) (h : (derOIDEnc oid).isOk = true) : derOIDEnc oid = .ok (oidC oid) := by
  unfold oidC
  generalize derOIDEnc oid = r at h ⊢
  cases r with
  | ok b => rfl
  | err => exact absurd h (by decide)
  | oob => exact absurd h (by decide)

theorem oid_pubkey_isOk : (derOIDEnc oid_pubkey).isOk = true := by decide +kernel
theorem oid_eid_isOk : (derOIDEnc oid_eid_access).isOk = true := by decide +kernel
theorem oid_esign_isOk : (derOIDEnc oid_esign_access).isOk = true := by decide +kernel
theorem oid_ext_isOk : (derOIDEnc oid_esign_auth_ext).isOk = true := by decide +kernel

theorem oidC_ok_pubkey : derOIDEnc oid_pubkey = .ok (oidC oid_pubkey) := oidC_of_isOk _ oid_pubkey_isOk
theorem oidC_ok_eid : derOIDEnc oid_eid_access = .ok (oidC oid_eid_access) := oidC_of_isOk _ oid_eid_isOk
theorem oidC_ok_esign : derOIDEnc oid_esign_access = .ok (oidC oid_esign_access) := oidC_of_isOk _ oid_esign_isOk
theorem oidC_ok_ext : derOIDEnc oid_esign_auth_ext = .ok (oidC oid_esign_auth_ext) := oidC_of_isOk _ oid_ext_isOk

theorem oidC_len_pubkey : (oidC oid_pubkey).length ≤ 16 := by decide +kernel
theorem oidC_len_eid : (oidC oid_eid_access).length ≤ 16 := by decide +kernel
theorem oidC_len_esign : (oidC oid_esign_access).length ≤ 16 := by decide +kernel
theorem oidC_len_ext : (oidC oid_esign_auth_ext).length ≤ 16 := by decide +kernel

theorem verC_ok : derTSIZEEnc 0x5F29 0 = .ok verC := by decide +kernel

theorem tv_7F4E : derTIsValid 0x7F4E = true := by decide +kernel
theorem tv_5F29 : derTIsValid 0x5F29 = true := by decide +kernel
theorem tv_42 : derTIsValid 0x42 = true := by decide +kernel
theorem tv_7F49 : derTIsValid 0x7F49 = true := by decide +kernel
theorem tv_5F20 : derTIsValid 0x5F20 = true := by decide +kernel
theorem tv_7F4C : derTIsValid 0x7F4C = true := by decide +kernel
theorem tv_5F25 : derTIsValid 0x5F25 = true := by decide +kernel
theorem tv_5F24 : derTIsValid 0x5F24 = true := by decide +kernel
theorem tv_65 : derTIsValid 0x65 = true := by decide +kernel
theorem tv_73 : derTIsValid 0x73 = true := by decide +kernel
theorem tv_7F21 : derTIsValid 0x7F21 = true := by decide +kernel
theorem tv_5F37 : derTIsValid 0x5F37 = true := by decide +kernel
theorem tv_3 : derTIsValid 3 = true := by decide +kernel
theorem tv_4 : derTIsValid 4 = true := by decide +kernel

theorem tc_7F4E : derTIsConstructive 0x7F4E = true := by decide +kernel
theorem tc_7F49 : derTIsConstructive 0x7F49 = true := by decide +kernel
theorem tc_7F4C : derTIsConstructive 0x7F4C = true := by decide +kernel
theorem tc_65 : derTIsConstructive 0x65 = true := by decide +kernel
theorem tc_73 : derTIsConstructive 0x73 = true := by decide +kernel
theorem tc_7F21 : derTIsConstructive 0x7F21 = true := by decide +kernel

/-! ### the primitive encoders write the explicit codes -/

theorem tlvC_eq : tlvC = tlvCode := rfl

theorem tlvC_ok (tag : Nat) (v : Bytes) (hv : derTIsValid tag = true) : derEnc tag v = .ok (tlvC tag v) :=
  derEnc_eq tag v hv

theorem pstrC_ok (tag : Nat) (v : Bytes) (hv : derTIsValid tag = true)
    (hp : v.all (fun c => isPrintable c.toNat) = true) : derTPSTREnc tag v = .ok (tlvC tag v) := by
  unfold derTPSTREnc
  rw [hp]
  exact tlvC_ok tag v hv

theorem derTEnc_3 : derTEnc 3 = .ok [3] := by decide +kernel
theorem tCount_3 : beBytes (tCount 3) 3 = [3] := by decide +kernel

theorem bitC_ok (pk : Bytes) (h : 8 * pk.length + 15 < W) :
    derTBITEnc 3 pk (8 * pk.length) = .ok (bitC pk) := by
  have e1 : (8 * pk.length + 7) % W / 8 = pk.length := by
    rw [Nat.mod_eq_of_lt (by omega)]; omega
  have e2 : (8 * pk.length + 15) % W / 8 = pk.length + 1 := by
    rw [Nat.mod_eq_of_lt (by omega)]; omega
  have e3 : 8 * pk.length % 8 = 0 := by omega
  have e4 : rdSlice pk 0 pk.length = .ok pk := by
    unfold rdSlice; simp
  unfold derTBITEnc
  simp only [e1, e2, e3, e4, derTEnc_3, ne_eq, not_true_eq_false, if_false]
  unfold bitC tlvC
  rw [tCount_3]
  simp

/-! ### the structure written by btokCVCBodyEnc as a tree of codes -/

/-- the optional CertHAT (eId) -/
def hatEidTree (c : Cvc) : List Tree :=
  if !isZero c.hatEid then [.seq 2 0x7F4C [.prim (oidC oid_eid_access), .prim (tlvC 4 c.hatEid)]] else []

/-- the optional CVExt (eSign) -/
def hatEsignTree (c : Cvc) : List Tree :=
  if !isZero c.hatEsign then
    [.seq 3 0x65 [.seq 4 0x73 [.prim (oidC oid_esign_auth_ext),
      .seq 5 0x7F4C [.prim (oidC oid_esign_access), .prim (tlvC 4 c.hatEsign)]]]]
  else []

/-- CertificateBody with the anchor slots of btokCVCBodyEnc -/
def bodyTree (c : Cvc) : Tree :=
  .seq 0 0x7F4E
    ([.prim verC, .prim (tlvC 0x42 c.authority),
      .seq 1 0x7F49 [.prim (oidC oid_pubkey), .prim (bitC c.pubkey)],
      .prim (tlvC 0x5F20 c.holder)] ++ hatEidTree c ++
     [.prim (tlvC 0x5F25 c.from_), .prim (tlvC 0x5F24 c.until_)] ++ hatEsignTree c)

theorem code_prim (b : Bytes) : (Tree.prim b).code = b := by simp only [Tree.code]

theorem code_seq (slot tag : Nat) (kids : List Tree) : (Tree.seq slot tag kids).code = tlvC tag (Tree.codeL kids) := by
  simp only [Tree.code, tlvC]

/-- the `derEncStep` lines of btokCVCBodyEnc are the lines of the tree (all primitive encoders succeed) -/
theorem bodyEncSteps_eq (c : Cvc) (ha : c.authority.all (fun ch => isPrintable ch.toNat) = true)
    (hh : c.holder.all (fun ch => isPrintable ch.toNat) = true) (hk : 8 * c.pubkey.length + 15 < W) :
    bodyEncSteps c = Tree.stepsL [bodyTree c] := by
  unfold bodyEncSteps bodyTree hatEidTree hatEsignTree
  rw [verC_ok, pstrC_ok _ _ tv_42 ha, pstrC_ok _ _ tv_5F20 hh, oidC_ok_pubkey, oidC_ok_eid, oidC_ok_esign,
    oidC_ok_ext, bitC_ok _ hk, tlvC_ok _ c.hatEid tv_4, tlvC_ok _ c.hatEsign tv_4, tlvC_ok _ _ tv_5F25,
    tlvC_ok _ _ tv_5F24]
  generalize oidC oid_pubkey = o1
  generalize oidC oid_eid_access = o2
  generalize oidC oid_esign_access = o3
  generalize oidC oid_esign_auth_ext = o4
  cases isZero c.hatEid <;> cases isZero c.hatEsign <;>
    simp only [Bool.not_true, Bool.not_false, Bool.false_eq_true, if_true, if_false, Tree.stepsL, Tree.steps,
      List.cons_append, List.nil_append, List.append_nil]

/-- the code of the tree is the explicit code -/
theorem bodyTree_code (c : Cvc) : Tree.codeL [bodyTree c] = bodyCode c := by
  unfold bodyCode bodyContent hatEidC hatEsignC bodyTree hatEidTree hatEsignTree
  generalize oidC oid_pubkey = o1
  generalize oidC oid_eid_access = o2
  generalize oidC oid_esign_access = o3
  generalize oidC oid_esign_auth_ext = o4
  cases isZero c.hatEid <;> cases isZero c.hatEsign <;>
    simp only [Bool.not_true, Bool.not_false, Bool.false_eq_true, if_true, if_false, Tree.codeL, code_prim, code_seq,
      List.cons_append, List.nil_append, List.append_nil, List.append_assoc]

/-- tags valid / constructive / u32; no slot reused inside its own SEQUENCE -/
theorem bodyTree_ok (c : Cvc) : Tree.OkL [bodyTree c] := by
  unfold bodyTree hatEidTree hatEsignTree
  cases isZero c.hatEid <;> cases isZero c.hatEsign <;>
    simp only [Bool.not_true, Bool.not_false, Bool.false_eq_true, if_true, if_false, Tree.OkL, Tree.Ok, Tree.slotsL,
      Tree.slots, List.cons_append, List.nil_append, List.append_nil, tv_7F4E, tv_7F49, tv_7F4C, tv_65, tv_73,
      tc_7F4E, tc_7F49, tc_7F4C, tc_65, tc_73, and_true, true_and] <;>
    decide

theorem tlvC_length (tag : Nat) (v : Bytes) :
    (tlvC tag v).length = tCount tag + (derLEnc v.length).length + v.length :=
  tlvCode_len tag v

theorem tlvC_le (tag : Nat) (v : Bytes) (hlt : tag < U32) (hl : v.length < W) :
    2 ≤ (tlvC tag v).length ∧ (tlvC tag v).length ≤ 13 + v.length := by
  rw [tlvC_length]
  have h4 := tCount_le4 tag hlt
  have h9 := derLEnc_le9 v.length hl
  omega

theorem bitC_len (pk : Bytes) (h : pk.length + 1 < W) : (bitC pk).length ≤ pk.length + 14 := by
  have := (tlvC_le 3 (0 :: pk) (by decide) (by simpa using h)).2
  rw [List.length_cons] at this
  unfold bitC
  omega

theorem date_len (d : Bytes) (h : dateIsValid d = true) : d.length = 6 := by
  unfold dateIsValid at h
  split at h
  · rfl
  · exact absurd h (by decide)

theorem name_facts (n : Bytes) (h : nameIsValid n = true) :
    8 ≤ n.length ∧ n.length ≤ 12 ∧ n.all (fun ch => isPrintable ch.toNat) = true := by
  unfold nameIsValid at h
  simp only [Bool.and_eq_true, decide_eq_true_eq] at h
  exact ⟨h.1.1, h.1.2, h.2⟩

theorem pubkey_len_cases (n : Nat) (h : pubkeyLenOk n = true) : n = 48 ∨ n = 64 ∨ n = 96 ∨ n = 128 := by
  unfold pubkeyLenOk at h
  rw [pubLens_eq] at h
  simpa using h

/-- what btokCVCSeemsValid says about the single fields -/
theorem seemsValid_facts (c : Cvc) (hv : cvcSeemsValid c = true) :
    nameIsValid c.authority = true ∧ nameIsValid c.holder = true ∧ c.from_.length = 6 ∧ c.until_.length = 6 ∧
    (c.pubkey.length = 48 ∨ c.pubkey.length = 64 ∨ c.pubkey.length = 96 ∨ c.pubkey.length = 128) := by
  simp only [cvcSeemsValid, Bool.and_eq_true] at hv
  obtain ⟨⟨⟨⟨⟨h1, h2⟩, h3⟩, h4⟩, _⟩, h6⟩ := hv
  exact ⟨h1, h2, date_len _ h3, date_len _ h4, pubkey_len_cases _ h6⟩

/- 13 per SEQUENCE head (Tree.bound), 16 per OID code (oidC_len_*): 29 = 13 + 16, 71 = 3·13 + 2·16 -/
theorem hatEidTree_bound (c : Cvc) : Tree.boundL (hatEidTree c) ≤ (tlvC 4 c.hatEid).length + 29 := by
  have o := oidC_len_eid
  unfold hatEidTree
  cases isZero c.hatEid <;>
    simp only [Bool.not_true, Bool.not_false, Bool.false_eq_true, if_true, if_false, Tree.boundL, Tree.bound] <;>
    omega

theorem hatEsignTree_bound (c : Cvc) : Tree.boundL (hatEsignTree c) ≤ (tlvC 4 c.hatEsign).length + 71 := by
  have o3 := oidC_len_esign
  have o4 := oidC_len_ext
  unfold hatEsignTree
  cases isZero c.hatEsign <;>
    simp only [Bool.not_true, Bool.not_false, Bool.false_eq_true, if_true, if_false, Tree.boundL, Tree.bound] <;>
    omega

/-- the code-length bound of the tree (402 = 2·13 + 4 + 25 + 16 + 142 + 25 + 2·19 + 13 + 29 + 13 + 71: heads, version,
    names, OID, key of ≤ 128 octets, dates, the two optional parts).  The bounds on the two HAT fields (5 and 2 octets in `btok_cvc_t`; any
    bound below 2^32 serves) only exclude size_t wrap of the lengths. -/
theorem bodyTree_bound (c : Cvc) (hv : cvcSeemsValid c = true) (he : c.hatEid.length < 4294967296)
    (hs : c.hatEsign.length < 4294967296) :
    Tree.boundL [bodyTree c] ≤ c.hatEid.length + c.hatEsign.length + 402 := by
  obtain ⟨h1, h2, hf, hu, hk⟩ := seemsValid_facts c hv
  obtain ⟨_, ha, _⟩ := name_facts _ h1
  obtain ⟨_, hh, _⟩ := name_facts _ h2
  have l1 := (tlvC_le 0x42 c.authority (by decide) (by omegaW)).2
  have l2 := (tlvC_le 0x5F20 c.holder (by decide) (by omegaW)).2
  have l3 := (tlvC_le 0x5F25 c.from_ (by decide) (by omegaW)).2
  have l4 := (tlvC_le 0x5F24 c.until_ (by decide) (by omegaW)).2
  have l5 := (tlvC_le 4 c.hatEid (by decide) (by omegaW)).2
  have l6 := (tlvC_le 4 c.hatEsign (by decide) (by omegaW)).2
  have l7 := bitC_len c.pubkey (by omegaW)
  have l8 : verC.length = 4 := rfl
  have o1 := oidC_len_pubkey
  have e1 := hatEidTree_bound c
  have e2 := hatEsignTree_bound c
  unfold bodyTree
  simp only [Tree.boundL, Tree.bound, Tree.boundL_append, l8]
  omega

/-- btokCVCBodyEnc writes exactly the explicit code of CertificateBody -/
theorem bodyEnc_eq' (c : Cvc) (hv : cvcSeemsValid c = true) (he : c.hatEid.length < 4294967296)
    (hs : c.hatEsign.length < 4294967296) : bodyEnc c = .ok (bodyCode c) := by
  obtain ⟨h1, h2, _, _, hk⟩ := seemsValid_facts c hv
  have hb := bodyTree_bound c hv he hs
  unfold bodyEnc
  rw [hv, Bool.not_true, if_neg Bool.false_ne_true,
    bodyEncSteps_eq c (name_facts _ h1).2.2 (name_facts _ h2).2.2 (by omegaW),
    runEnc_tree [bodyTree c] (bodyTree_ok c) [] [] (by simp only [List.length_nil]; omegaW), List.nil_append,
    bodyTree_code]

theorem bodyEnc_eq (c : Cvc) (hv : cvcSeemsValid c = true) (he : c.hatEid.length ≤ 5) (hs : c.hatEsign.length ≤ 2) :
    bodyEnc c = .ok (bodyCode c) :=
  bodyEnc_eq' c hv (by omega) (by omega)

theorem bodyCode_le (c : Cvc) (hv : cvcSeemsValid c = true) (he : c.hatEid.length < 4294967296)
    (hs : c.hatEsign.length < 4294967296) : (bodyCode c).length ≤ c.hatEid.length + c.hatEsign.length + 402 := by
  have hb := bodyTree_bound c hv he hs
  have := Tree.codeL_le [bodyTree c] (bodyTree_ok c) (by omegaW)
  rw [bodyTree_code] at this
  omega

/-- non-vacuity: a certificate with both optional parts satisfies the hypotheses -/
example : let c : Cvc := ⟨cstr "BYCA0000", cstr "BYCA1000", List.replicate 64 7, [2, 2, 0, 7, 0, 7],
      [2, 3, 0, 7, 0, 7], [1, 2, 3, 4, 5], [6, 7], []⟩
    cvcSeemsValid c = true ∧ c.hatEid.length ≤ 5 ∧ c.hatEsign.length ≤ 2 ∧ isZero c.hatEid = false ∧
      isZero c.hatEsign = false := by decide +kernel

/-! ### CVCertificate -/

/-- btokCVCWrap's SEQ[0x7F21] { body, OCT[0x5F37] sig } is the explicit code -/
theorem certEnc_eq (body sig : Bytes) (hW : body.length + sig.length + 64 < W) :
    certEnc body sig = .ok (certCode body sig) := by
  have l1 := (tlvC_le 0x5F37 sig (by decide) (by omegaW)).2
  have hs : [EStep.start 0 0x7F21, .bytes (.ok body), .bytes (.ok (tlvC 0x5F37 sig)), .stop 0] =
      Tree.stepsL [.seq 0 0x7F21 [.prim body, .prim (tlvC 0x5F37 sig)]] := by
    simp only [Tree.stepsL, Tree.steps, List.cons_append, List.nil_append, List.append_nil]
  have hok : Tree.OkL [.seq 0 0x7F21 [.prim body, .prim (tlvC 0x5F37 sig)]] := by
    simp only [Tree.OkL, Tree.Ok, Tree.slotsL, Tree.slots, List.append_nil, tv_7F21, tc_7F21,
      and_true, true_and]
    decide
  unfold certEnc
  rw [tlvC_ok _ _ tv_5F37, hs, runEnc_tree _ hok [] []
    (by simp only [Tree.boundL, Tree.bound, List.length_nil]; omegaW), List.nil_append]
  simp only [Tree.codeL, code_prim, code_seq, List.append_nil, certCode]

end Bee2V.C17
