/-
C17 — command round trip of secure messaging (lemmas).  No Mathlib.
-/
import Bee2V.C17.LemmasResp
namespace Bee2V.C17
open Bee2V.C01 (Cipher)
open Bee2V.C08 (Cmd Resp W)
open Bee2V.Gen.C17Src

/-- control flow of the parser of btokSMCmdUnwrap for an arbitrary buffer, given what each step sees -/
theorem cmdParse_core (A : Bytes) (a4 a5 a6 : UInt8) (t body : Bytes) (lcLen L k c1 c2 yOff n rdf : Nat)
    (hcount : A.length = 4 + lcLen + L + k) (hmin : 15 ≤ A.length) (hbit : smBit (A.headD 0) = true)
    (hA4 : A.drop 4 = a4 :: a5 :: a6 :: t)
    (hlen : (if a4 ≠ 0 then a4.toNat else a5.toNat * 256 + a6.toNat) = L)
    (hlcl : (if a4 ≠ 0 then 1 else 3) = lcLen)
    (hbody : (A.drop (4 + lcLen)).take L = body)
    (h87 : parse87 body = .ok (c1, yOff, n)) (h97 : parse97 (body.drop c1) n = .ok (c2, rdf))
    (hk : k = (if rdf = 0 then 0 else if L < 256 ∧ rdf ≤ 256 then 1 else 2)) (hk2 : k ≤ 2)
    (hz : isZero ((A.drop (4 + lcLen + L)).take k) = true)
    (hform : lcLen = (if k = 2 ∨ L ≥ 256 then 3 else 1))
    (h8E : parse8E (body.drop (c1 + c2)) = .ok (2, 10)) (hsum : c1 + c2 + 10 = L) :
    smCmdParse A = .ok ⟨lcLen, L, c1, c2, 4 + lcLen + yOff, n, rdf, 4 + lcLen + c1 + c2 + 2⟩ := by
  unfold smCmdParse
  rw [cmdMin_eq]
  have h1 : ¬ (A.length < 15 ∨ (!smBit (A.headD 0)) = true) := by
    intro h; rcases h with h | h
    · omega
    · rw [hbit] at h; cases h
  simp only [h1, if_false, hA4, hlen, hlcl]
  have h2 : ¬ (4 + lcLen + L > A.length ∨ 4 + lcLen + L + 2 < A.length) := by omega
  simp only [h2, if_false, hbody, h87, h97, ← hk]
  have h3 : ¬ (A.length ≠ 4 + lcLen + L + k ∨ (!isZero ((A.drop (4 + lcLen + L)).take k)) = true) := by
    intro h; rcases h with h | h
    · exact h hcount
    · rw [hz] at h; cases h
  simp only [h3, if_false, ← hform, ne_eq, not_true_eq_false, h8E]
  have h4 : ¬ (c1 + c2 + 10 ≠ L) := by omega
  simp only [h4, if_false]

/-! ### list algebra on  H ‖ LC ‖ P ‖ T ‖ M ‖ Z -/

theorem isZero_zeros (k : Nat) : isZero (zeros k) = true := by
  simp [isZero, zeros, Bee2V.C01.zeros]

theorem oct_ne_zero {v : Nat} (h1 : v % 256 ≠ 0) : oct v ≠ 0 := by
  intro h
  have := congrArg UInt8.toNat h
  rw [Bee2V.C08.toNat_oct] at this
  exact h1 (by simpa using this)

theorem clr_set (c : UInt8) (h : smBit c = false) : clrSmBit (setSmBit c) = c ∧ smBit (setSmBit c) = true := by
  have hlt : c.toNat < 256 := c.toNat_lt
  have h0 : ¬ (c.toNat / 4 % 2 = 1) := by simpa [smBit] using h
  have hs : setSmBit c = oct (c.toNat + 4) := by simp [setSmBit, h]
  have hsn : (setSmBit c).toNat = c.toNat + 4 := by rw [hs, Bee2V.C08.toNat_oct]; omega
  have hb : smBit (setSmBit c) = true := by simp only [smBit, hsn, decide_eq_true_eq]; omega
  refine ⟨?_, hb⟩
  simp only [clrSmBit, hb, if_true, hsn]
  apply UInt8.toNat_inj.mp
  rw [Bee2V.C08.toNat_oct]; omega

/-! ### the protected fields and the length of CDF* -/

theorem tl97_len (l : Nat) (h : l < 128) : (tl 0x97 l).length = 2 := by
  rw [tl_97]; simp only [Bee2V.C08.derLEnc]; simp [h]

theorem f97_len (c : Cmd) : (f97 c).length = if c.rdf_len ≠ 0 then 2 + rdfLenLen c else 0 := by
  unfold f97
  by_cases h : c.rdf_len ≠ 0
  · have hl : rdfLenLen c = 1 ∨ rdfLenLen c = 2 ∨ rdfLenLen c = 3 := by
      unfold rdfLenLen
      by_cases h1 : c.cdf.length < 256 ∧ c.rdf_len ≤ 256 <;> by_cases h2 : c.cdf.length ≠ 0 <;> simp [h, h1, h2]
    have htl := tl97_len (rdfLenLen c) (by omega)
    have hv : (leVal c.rdf_len (rdfLenLen c)).length = rdfLenLen c := by
      rcases hl with h' | h' | h' <;> simp [leVal, h']
    rw [if_pos h, if_pos h, List.length_append, htl, hv]
  · simp [h]

theorem rdfLenLen_le (c : Cmd) : rdfLenLen c ≤ 3 := by
  unfold rdfLenLen
  split
  · omega
  · split
    · omega
    · split <;> omega

theorem leVal_len_le (r l : Nat) : (leVal r l).length ≤ 3 := by
  unfold leVal
  split
  · simp
  · split <;> simp

/-- what the two field parsers return on the protected fields written by btokSMCmdWrap, whatever follows -/
theorem fields_parse (C : Cipher) (hC : CipherOK C) (cmd : Cmd) (st : SmSt) (hctr : st.ctr.length = 16)
    (hcdf : cmd.cdf.length < 65536) (hrdf : cmd.rdf_len ≤ 65536) (M : Bytes) (hMl : M.length = 8) :
    ∃ yOff,
      parse87 (f87 C st cmd.cdf ++ f97 cmd ++ [0x8E, 8] ++ M) = .ok ((f87 C st cmd.cdf).length, yOff, cmd.cdf.length) ∧
      parse97 ((f87 C st cmd.cdf ++ f97 cmd ++ [0x8E, 8] ++ M).drop (f87 C st cmd.cdf).length) cmd.cdf.length =
        .ok ((f97 cmd).length, cmd.rdf_len) ∧
      (∀ rest, ((f87 C st cmd.cdf ++ rest).drop yOff).take cmd.cdf.length =
        if cmd.cdf.length ≠ 0 then (Bee2V.C01.cfbStepE C (Bee2V.C01.cfbStart st.key2 st.ctr) cmd.cdf).2 else []) ∧
      (f87 C st cmd.cdf).length = (if cmd.cdf.length ≠ 0 then (tl 0x87 (cmd.cdf.length + 1)).length + 1 + cmd.cdf.length else 0) := by
  have hE8 : Bee2V.C08.derEnc 0x8E M = .ok ([0x8E, 8] ++ M) := by rw [derEnc_8E, hMl, tl_8E_8]
  have h97len := f97_len cmd
  -- the 0x97 part, common to both cases
  have h97 : parse97 (f97 cmd ++ [0x8E, 8] ++ M) cmd.cdf.length = .ok ((f97 cmd).length, cmd.rdf_len) := by
    by_cases hr : cmd.rdf_len ≠ 0
    · have := parse97_present cmd.cdf.length cmd.rdf_len ([0x8E, 8] ++ M) hr hrdf (by
        simp only [List.length_append, List.length_cons, List.length_nil, hMl]; unfold W; omega)
      simp only at this
      have hl : rdfLenLen cmd = (if cmd.cdf.length < 256 ∧ cmd.rdf_len ≤ 256 then 1 else if cmd.cdf.length ≠ 0 then 2 else 3) := by
        unfold rdfLenLen; rw [if_neg hr]
      rw [h97len, if_pos hr, hl]
      unfold f97
      rw [if_pos hr, hl]
      simpa [List.append_assoc] using this
    · have hr0 : cmd.rdf_len = 0 := by simpa using hr
      have hf : f97 cmd = [] := by simp [f97, hr0]
      rw [hf]
      have := parse97_absent 0x8E ([0x8E, 8] ++ M) M [] cmd.cdf.length hE8 (Bee2V.C08.ltU32 (by omega)) (by omega)
        (by rw [hMl]; simp only [List.length_nil]; unfold W; omega)
      simpa [hr0] using this
  -- what follows the 0x87 field: the 0x97 field, or at once the 0x8E field
  obtain ⟨tag', e, val, rest, hE, htag, hne, hfol, hl⟩ : ∃ tag' e val rest, Bee2V.C08.derEnc tag' val = .ok e ∧
      tag' < 65536 ∧ tag' ≠ 0x87 ∧ f97 cmd ++ [0x8E, 8] ++ M = e ++ rest ∧
      20 + cmd.cdf.length + e.length + val.length + rest.length < W := by
    have hvl := leVal_len_le cmd.rdf_len (rdfLenLen cmd)
    have hll := rdfLenLen_le cmd
    by_cases hr : cmd.rdf_len ≠ 0
    · have hE : Bee2V.C08.derEnc 0x97 (leVal cmd.rdf_len (rdfLenLen cmd)) = .ok (f97 cmd) := by
        have hl : (leVal cmd.rdf_len (rdfLenLen cmd)).length = rdfLenLen cmd := by
          have := h97len; rw [if_pos hr] at this
          unfold f97 at this; rw [if_pos hr, List.length_append] at this
          have htl := tl97_len (rdfLenLen cmd) (by omega)
          omega
        rw [derEnc_97, hl]; simp [f97, hr]
      refine ⟨0x97, f97 cmd, _, [0x8E, 8] ++ M, hE, by omega, by omega, by rw [List.append_assoc], ?_⟩
      rw [h97len, if_pos hr]
      simp only [List.length_append, List.length_cons, List.length_nil, hMl]; unfold W; omega
    · have hf : f97 cmd = [] := by simp [f97, (by simpa using hr : cmd.rdf_len = 0)]
      refine ⟨0x8E, [0x8E, 8] ++ M, M, [], hE8, by omega, by omega, by rw [hf, List.nil_append, List.append_nil], ?_⟩
      simp only [List.length_append, List.length_cons, List.length_nil, hMl]; unfold W; omega
  obtain ⟨yOff, h87, hy, hl87⟩ := f87_parse C hC st hctr cmd.cdf tag' e val rest hE htag hne hl
  rw [← hfol, ← List.append_assoc, ← List.append_assoc] at h87
  refine ⟨yOff, h87, ?_, hy, hl87⟩
  rw [List.append_assoc, List.append_assoc, List.drop_left' rfl]
  simpa [List.append_assoc] using h97

/-- rules 1–3 as computed by Wrap are what Unwrap re-derives -/
theorem star_spec (cmd : Cmd) :
    ((starLens cmd).1 = 1 ∨ (starLens cmd).1 = 3) ∧ ((starLens cmd).1 = 1 → cdfStarLen cmd < 256) ∧
    (starLens cmd).2 = (if cmd.rdf_len = 0 then 0 else if cdfStarLen cmd < 256 ∧ cmd.rdf_len ≤ 256 then 1 else 2) ∧
    (starLens cmd).1 = (if (starLens cmd).2 = 2 ∨ cdfStarLen cmd ≥ 256 then 3 else 1) ∧ (starLens cmd).2 ≤ 2 := by
  unfold starLens
  by_cases h0 : cmd.rdf_len = 0
  · by_cases h1 : cdfStarLen cmd < 256
    · simp [h0, h1]
    · simp [h0, h1]
  · by_cases h1 : cmd.rdf_len ≤ 256 ∧ cdfStarLen cmd < 256
    · have h2 : cdfStarLen cmd < 256 ∧ cmd.rdf_len ≤ 256 := ⟨h1.2, h1.1⟩
      simp [h0, h1, h2]
    · have h2 : ¬ (cdfStarLen cmd < 256 ∧ cmd.rdf_len ≤ 256) := fun h => h1 ⟨h.2, h.1⟩
      simp [h0, h1, h2]

theorem cdfStarLen_eq (C : Cipher) (st : SmSt) (cmd : Cmd)
    (h87 : (f87 C st cmd.cdf).length = (if cmd.cdf.length ≠ 0 then (tl 0x87 (cmd.cdf.length + 1)).length + 1 + cmd.cdf.length else 0)) :
    cdfStarLen cmd = (f87 C st cmd.cdf).length + (f97 cmd).length + 10 := by
  unfold cdfStarLen
  rw [h87, f97_len, tl_8E_8]
  have := rdfLenLen_le cmd
  by_cases hn : cmd.cdf.length ≠ 0 <;> by_cases hr : cmd.rdf_len ≠ 0
  · rw [if_pos hn, if_pos hr, if_pos hn, if_pos hr, tl97_len _ (by omega)]; simp only [List.length_cons, List.length_nil]; omega
  · rw [if_pos hn, if_neg hr, if_pos hn, if_neg hr]; simp only [List.length_cons, List.length_nil]; omega
  · rw [if_neg hn, if_pos hr, if_neg hn, if_pos hr, tl97_len _ (by omega)]; simp only [List.length_cons, List.length_nil]; omega
  · rw [if_neg hn, if_neg hr, if_neg hn, if_neg hr]; simp only [List.length_cons, List.length_nil]; omega

/-- the fields of  A = H ‖ LC ‖ P87 ‖ P97 ‖ 8E 08 ‖ M ‖ Z  (H of four, M of eight octets) by position -/
theorem apdu_slices (H lc P87 P97 M Z A : Bytes) (hH : H.length = 4) (hM : M.length = 8)
    (hA : A = H ++ lc ++ (P87 ++ P97) ++ [0x8E, 8] ++ M ++ Z) :
    A.length = 4 + lc.length + (P87.length + P97.length + 10) + Z.length ∧
    A.take 4 = H ∧ A.drop 4 = lc ++ (P87 ++ P97 ++ [0x8E, 8] ++ M ++ Z) ∧
    A.drop (4 + lc.length) = P87 ++ (P97 ++ ([0x8E, 8] ++ (M ++ Z))) ∧
    (A.drop (4 + lc.length)).take (P87.length + P97.length + 10) = P87 ++ P97 ++ [0x8E, 8] ++ M ∧
    A.drop (4 + lc.length + (P87.length + P97.length + 10)) = Z ∧
    (A.drop (4 + lc.length)).take (P87.length + P97.length) = P87 ++ P97 ∧
    (A.drop (4 + lc.length + P87.length + P97.length + 2)).take 8 = M := by
  have hAr : A = H ++ (lc ++ (P87 ++ (P97 ++ ([0x8E, 8] ++ (M ++ Z))))) := by rw [hA]; simp only [List.append_assoc]
  have D4 : A.drop 4 = lc ++ (P87 ++ (P97 ++ ([0x8E, 8] ++ (M ++ Z)))) := by rw [hAr]; exact List.drop_left' hH
  have D5 := Bee2V.C08.drop_after D4
  have D8 : A.drop (4 + lc.length + P87.length + P97.length + 2) = M ++ Z :=
    Bee2V.C08.drop_after (Bee2V.C08.drop_after (Bee2V.C08.drop_after D5))
  have D9 := Bee2V.C08.drop_after D8
  rw [show 4 + lc.length + P87.length + P97.length + 2 + M.length = 4 + lc.length + (P87.length + P97.length + 10) by omega]
    at D9
  refine ⟨?_, ?_, ?_, D5, ?_, D9, ?_, ?_⟩
  · rw [hA]; simp only [List.length_append, List.length_cons, List.length_nil, hH, hM]; omega
  · rw [hAr]; exact List.take_left' hH
  · rw [D4]; simp only [List.append_assoc]
  · rw [D5]; simp only [← List.append_assoc]
    exact List.take_left' (by simp only [List.length_append, List.length_cons, List.length_nil, hM])
  · rw [D5, ← List.append_assoc]; exact List.take_left' List.length_append
  · rw [D8]; exact List.take_left' hM

/-- the Lc* octets written by Wrap (one octet, or 00 and two octets) read back as Unwrap reads them -/
theorem lc_head (lc T : Bytes) (L lcLen : Nat) (h13 : lcLen = 1 ∨ lcLen = 3) (h1 : lcLen = 1 → L < 256)
    (h10 : 10 ≤ L) (hL : L ≤ 65535) (hlc : lc = if lcLen = 1 then [oct L] else [0, oct (L / 256), oct L])
    (hT : 2 ≤ T.length) :
    ∃ a4 a5 a6 t, lc ++ T = a4 :: a5 :: a6 :: t ∧
      (if a4 ≠ 0 then a4.toNat else a5.toNat * 256 + a6.toNat) = L ∧ (if a4 ≠ 0 then 1 else 3) = lcLen := by
  rcases h13 with h | h
  · have hl256 := h1 h
    rw [if_pos h] at hlc
    have hne : oct L ≠ 0 := oct_ne_zero (by omega)
    match T, hT with
    | a5 :: a6 :: t, _ =>
      refine ⟨oct L, a5, a6, t, by rw [hlc]; rfl, ?_, by rw [if_pos hne, h]⟩
      rw [if_pos hne, Bee2V.C08.toNat_oct]; omega
  · rw [h, if_neg (by omega)] at hlc
    refine ⟨0, oct (L / 256), oct L, T, by rw [hlc]; rfl, ?_, by rw [if_neg (fun hn => hn rfl), h]⟩
    rw [if_neg (fun hn => hn rfl), Bee2V.C08.toNat_oct, Bee2V.C08.toNat_oct]; omega

/-- COMMAND ROUND TRIP on the explicit octets written by btokSMCmdWrap -/
theorem cmd_roundtrip_core (C : Cipher) (hC : CipherOK C) (cmd : Cmd) (st : SmSt) (hctr : st.ctr.length = 16)
    (hcdf : cmd.cdf.length < 65536) (hrdf : cmd.rdf_len ≤ 65536) (hbit : smBit cmd.cla = false)
    (hL : cdfStarLen cmd ≤ 65535) (hpar : ctrParity st = 1)
    (M : Bytes) (hM : M = mac2 C st.key1 [setSmBit cmd.cla, cmd.ins, cmd.p1, cmd.p2] (f87 C st cmd.cdf ++ f97 cmd))
    (lc : Bytes) (hlc : lc = if (starLens cmd).1 = 1 then [oct (cdfStarLen cmd)] else [0, oct (cdfStarLen cmd / 256), oct (cdfStarLen cmd)])
    (A : Bytes) (hA : A = [setSmBit cmd.cla, cmd.ins, cmd.p1, cmd.p2] ++ lc ++ (f87 C st cmd.cdf ++ f97 cmd) ++ [0x8E, 8] ++ M ++
      zeros (starLens cmd).2) :
    smCmdUnwrap C A st = (.ok, some cmd) ∧ smCmdUnwrapFmt A = (.ok, cmd.cdf.length) ∧
    A.length = 4 + (starLens cmd).1 + cdfStarLen cmd + (starLens cmd).2 := by
  have hMl : M.length = 8 := by rw [hM]; exact mac2_length C hC _ _ _
  have hmac : mac2V C st.key1 [setSmBit cmd.cla, cmd.ins, cmd.p1, cmd.p2] (f87 C st cmd.cdf ++ f97 cmd) M = true := by
    rw [hM]; exact mac2V_mac2 C hC _ _ _
  obtain ⟨hdec, _⟩ := sm_cfb C hC st hctr cmd.cdf
  obtain ⟨yOff, h87, h97, hy, h87l⟩ := fields_parse C hC cmd st hctr hcdf hrdf M hMl
  have hLeq := cdfStarLen_eq C st cmd h87l
  clear h87l
  obtain ⟨hlc13, hlc1, hk, hform, hk2⟩ := star_spec cmd
  obtain ⟨hclr, hset⟩ := clr_set cmd.cla hbit
  -- abbreviations
  generalize hP87 : f87 C st cmd.cdf = P87 at *
  generalize hP97 : f97 cmd = P97 at *
  generalize hLL : cdfStarLen cmd = L at *
  generalize hkk : (starLens cmd).2 = k at *
  generalize hll : (starLens cmd).1 = lcLen at *
  have hlcl : lc.length = lcLen := by
    rw [hlc]; rcases hlc13 with h | h <;> simp [h]
  -- the fields of A by position
  obtain ⟨hcount, htk4, hd4, D5, hbody, D9, hprot, htag⟩ :=
    apdu_slices [setSmBit cmd.cla, cmd.ins, cmd.p1, cmd.p2] lc P87 P97 M (zeros k) A rfl hMl hA
  rw [hlcl, ← hLeq] at hcount hbody D9
  rw [hlcl] at D5 hprot htag
  rw [C01.length_zeros] at hcount
  have h8E : parse8E ((P87 ++ P97 ++ [0x8E, 8] ++ M).drop (P87.length + P97.length)) = .ok (2, 10) := by
    have : (P87 ++ P97 ++ [0x8E, 8] ++ M) = (P87 ++ P97) ++ ([0x8E, 8] ++ M ++ []) := by simp [List.append_assoc]
    rw [this, List.drop_left' (by simp)]
    exact parse8E_present M [] hMl (by simp only [List.length_nil]; unfold W; omega)
  obtain ⟨a4, a5, a6, t, hA4, hlenv, hlclv⟩ := lc_head lc (P87 ++ P97 ++ [0x8E, 8] ++ M ++ zeros k) L lcLen hlc13 hlc1
    (by omega) hL hlc (by simp only [List.length_append, List.length_cons, List.length_nil, hMl]; omega)
  rw [← hd4] at hA4
  have hhead : smBit (A.headD 0) = true := by rw [hA]; simpa using hset
  have hparse := cmdParse_core A a4 a5 a6 t _ lcLen L k P87.length P97.length yOff cmd.cdf.length cmd.rdf_len hcount
    (by omega) hhead hA4 hlenv hlclv hbody h87 h97 hk hk2 (by rw [D9, List.take_of_length_le (by rw [C01.length_zeros]; exact Nat.le_refl _)]; exact isZero_zeros k)
    hform h8E hLeq.symm
  refine ⟨?_, ?_, hcount⟩
  · -- Unwrap
    have hct : (A.drop (4 + lcLen + yOff)).take cmd.cdf.length =
        if cmd.cdf.length ≠ 0 then (Bee2V.C01.cfbStepE C (Bee2V.C01.cfbStart st.key2 st.ctr) cmd.cdf).2 else [] := by
      rw [← List.drop_drop, D5]; exact hy _
    unfold smCmdUnwrap
    rw [hparse]
    simp only [parCmdUnwrap_eq, hpar, ne_eq, not_true_eq_false, if_false, htk4, hprot, htag, hmac, Bool.not_true,
      Bool.false_eq_true, hct, hclr]
    by_cases hn : cmd.cdf.length = 0
    · have hnil : cmd.cdf = [] := List.length_eq_zero_iff.mp hn
      have hc : cmd = ⟨cmd.cla, cmd.ins, cmd.p1, cmd.p2, [], cmd.rdf_len⟩ := by
        revert hnil; cases cmd; intro h; simp only at h; simp [h]
      simp only [hn, not_true_eq_false, if_false, List.take_zero]
      exact congrArg (fun x => (E.ok, some x)) hc.symm
    · simp only [hn, not_false_eq_true, if_true, hdec]
  · unfold smCmdUnwrapFmt; rw [hparse]

end Bee2V.C17
