/-
C17 — lemmas for the secure-messaging theorems (PropsSM.lean).  No Mathlib.
-/
import Bee2V.C17.ModelSM
import Bee2V.C17.Laws
import Bee2V.C08.LemmasBE
namespace Bee2V.C17
open Bee2V.C01 (leNat Cipher)
open Bee2V.C08 (Cmd Resp)
open Bee2V.Gen.C17Src

/-- the carry loop adds `carry` to the little-endian number, modulo 256^len -/
theorem ctrIncLoop_spec (ctr : Bytes) (c : Nat) :
    (ctrIncLoop ctr c).length = ctr.length ∧
    leNat (ctrIncLoop ctr c) = (leNat ctr + c) % 256 ^ ctr.length := by
  induction ctr generalizing c with
  | nil => simp [ctrIncLoop, leNat, Nat.mod_one]
  | cons b bs ih =>
    obtain ⟨h1, h2⟩ := ih ((c + b.toNat) / 256)
    refine ⟨by simp [ctrIncLoop, h1], ?_⟩
    simp only [ctrIncLoop, leNat, List.length_cons, Bee2V.C08.toNat_oct, h2]
    rw [Nat.pow_succ, Nat.mul_comm (256 ^ bs.length) 256, Nat.mod_mul]
    have e1 : (b.toNat + 256 * leNat bs + c) % 256 = (c + b.toNat) % 256 := by omega
    have e2 : (b.toNat + 256 * leNat bs + c) / 256 = leNat bs + (c + b.toNat) / 256 := by omega
    rw [e1, e2]

/-! ### the regenerated constants (a change of the source breaks these lemmas, hence every theorem) -/
theorem parCmdWrap_eq : parCmdWrap = 1 := by decide
theorem parCmdUnwrap_eq : parCmdUnwrap = 1 := by decide
theorem parRespWrap_eq : parRespWrap = 0 := by decide
theorem parRespUnwrap_eq : parRespUnwrap = 0 := by decide
theorem cdfStarMax_eq : cdfStarMax = 65535 := by decide
theorem cmdMin_eq : cmdMin = 15 := by decide
theorem respMin_eq : respMin = 12 := by decide
theorem respRdfMax_eq : respRdfMax = 65536 := by decide

theorem ctrParity_lt (st : SmSt) : ctrParity st < 2 := by unfold ctrParity; omega

/-- the parity read from `ctr[0]` is the parity of the 128-bit counter -/
theorem ctrParity_eq (st : SmSt) (h : st.ctr.length = 16) : ctrParity st = leNat st.ctr % 2 := by
  unfold ctrParity
  match hc : st.ctr with
  | [] => simp [hc] at h
  | b :: bs => simp only [List.headD_cons, leNat]; omega

/-! ### result codes -/

theorem smCmdWrapPre_eq (cmd : Cmd) :
    smCmdWrapPre cmd =
      if Bee2V.C08.apduCmdIsValid cmd = false ∨ smBit cmd.cla = true then some .badApdu
      else if cdfStarLen cmd > 65535 then some .badApdu else none := by
  unfold smCmdWrapPre
  rw [cdfStarMax_eq]
  cases Bee2V.C08.apduCmdIsValid cmd <;> cases smBit cmd.cla <;> simp

theorem smCmdWrap_code' (C : Cipher) (cmd : Cmd) (st : SmSt) :
    (smCmdWrap C cmd st).1 =
      if Bee2V.C08.apduCmdIsValid cmd = false ∨ smBit cmd.cla = true then .badApdu
      else if cdfStarLen cmd > 65535 then .badApdu
      else if ctrParity st ≠ 1 then .badLogic else .ok := by
  unfold smCmdWrap
  rw [smCmdWrapPre_eq, parCmdWrap_eq]
  by_cases h1 : Bee2V.C08.apduCmdIsValid cmd = false ∨ smBit cmd.cla = true
  · simp only [if_pos h1]
  · simp only [if_neg h1]
    by_cases h2 : cdfStarLen cmd > 65535
    · simp only [if_pos h2]
    · simp only [if_neg h2]
      by_cases h3 : ctrParity st ≠ 1
      · simp only [if_pos h3]
      · simp only [if_neg h3]

theorem smCmdUnwrap_code' (C : Cipher) (apdu : Bytes) (st : SmSt) :
    (smCmdUnwrap C apdu st).1 =
      match smCmdParse apdu with
      | .error e => e
      | .ok p =>
        if ctrParity st ≠ 1 then .badLogic
        else if mac2V C st.key1 (apdu.take 4) ((apdu.drop (4 + p.lcLen)).take (p.c1 + p.c2)) ((apdu.drop p.macOff).take 8) = false
          then .badMac
        else match apdu.take 4 with
          | [_, _, _, _] => .ok
          | _ => .badApdu := by
  unfold smCmdUnwrap
  rw [parCmdUnwrap_eq]
  cases hp : smCmdParse apdu with
  | error e => rfl
  | ok p =>
    simp only []
    by_cases h3 : ctrParity st ≠ 1
    · simp only [if_pos h3]
    · simp only [if_neg h3]
      cases hm : mac2V C st.key1 (apdu.take 4) ((apdu.drop (4 + p.lcLen)).take (p.c1 + p.c2)) ((apdu.drop p.macOff).take 8) with
      | false => simp
      | true =>
        simp only [Bool.not_true, Bool.false_eq_true, if_false]
        generalize apdu.take 4 = hdr
        rcases hdr with _ | ⟨a, _ | ⟨b, _ | ⟨c, _ | ⟨d, _ | ⟨e, t⟩⟩⟩⟩⟩ <;> simp

theorem smRespWrap_code' (C : Cipher) (resp : Resp) (st : SmSt) :
    (smRespWrap C resp st).1 =
      if resp.rdf.length > 65536 then .badApdu else if ctrParity st ≠ 0 then .badLogic else .ok := by
  unfold smRespWrap apduRespIsValid
  rw [parRespWrap_eq, respRdfMax_eq]
  by_cases h1 : resp.rdf.length > 65536
  · have : ¬ resp.rdf.length ≤ 65536 := by omega
    simp [h1, this]
  · have : resp.rdf.length ≤ 65536 := by omega
    simp only [if_neg h1, this, decide_true, Bool.not_true, Bool.false_eq_true, if_false]
    by_cases h3 : ctrParity st ≠ 0
    · simp only [if_pos h3]
    · simp only [if_neg h3]

theorem smRespUnwrap_code' (C : Cipher) (apdu : Bytes) (st : SmSt) :
    (smRespUnwrap C apdu st).1 =
      match smRespParse apdu with
      | .error e => e
      | .ok p =>
        if ctrParity st ≠ 0 then .badLogic
        else if mac2V C st.key1 (apdu.take p.c1) (apdu.drop (apdu.length - 2)) ((apdu.drop p.macOff).take 8) = false then .badMac
        else match apdu.drop (apdu.length - 2) with
          | [_, _] => .ok
          | _ => .badApdu := by
  unfold smRespUnwrap
  rw [parRespUnwrap_eq]
  cases hp : smRespParse apdu with
  | error e => rfl
  | ok p =>
    simp only []
    by_cases h3 : ctrParity st ≠ 0
    · simp only [if_pos h3]
    · simp only [if_neg h3]
      cases hm : mac2V C st.key1 (apdu.take p.c1) (apdu.drop (apdu.length - 2)) ((apdu.drop p.macOff).take 8) with
      | false => simp
      | true =>
        simp only [Bool.not_true, Bool.false_eq_true, if_false]
        generalize apdu.drop (apdu.length - 2) = sw
        rcases sw with _ | ⟨a, _ | ⟨b, _ | ⟨c, t⟩⟩⟩ <;> simp

/-! ### the parsers fail only with ERR_BAD_APDU (or the model's `oob`, excluded separately): along the cases of
each parser, an error leaf is ERR_BAD_APDU, `oob`, or the error of a field parser -/

theorem parse87_err {body : Bytes} {e : E} (h : parse87 body = .error e) : e = .badApdu ∨ e = .oob := by
  revert h
  fun_cases parse87 body <;> intro h <;> cases h <;> first | exact Or.inl rfl | exact Or.inr rfl

theorem parse97_err {rest : Bytes} {n : Nat} {e : E} (h : parse97 rest n = .error e) : e = .badApdu ∨ e = .oob := by
  revert h
  fun_cases parse97 rest n <;> intro h <;> cases h <;> first | exact Or.inl rfl | exact Or.inr rfl

theorem parse8E_err {rest : Bytes} {e : E} (h : parse8E rest = .error e) : e = .badApdu ∨ e = .oob := by
  revert h
  fun_cases parse8E rest <;> intro h <;> cases h <;> first | exact Or.inl rfl | exact Or.inr rfl

theorem smCmdParse_err {apdu : Bytes} {e : E} (h : smCmdParse apdu = .error e) : e = .badApdu ∨ e = .oob := by
  revert h
  fun_cases smCmdParse apdu <;> intro h <;> cases h <;> first
    | exact Or.inl rfl
    | exact parse87_err ‹_›
    | exact parse97_err ‹_›
    | exact parse8E_err ‹_›

theorem smRespParse_err {apdu : Bytes} {e : E} (h : smRespParse apdu = .error e) : e = .badApdu ∨ e = .oob := by
  revert h
  fun_cases smRespParse apdu <;> intro h <;> cases h <;> first
    | exact Or.inl rfl
    | exact parse87_err ‹_›
    | exact parse8E_err ‹_›

theorem smCmdParse_ok_len {apdu : Bytes} {p : CmdParse} (h : smCmdParse apdu = .ok p) : 15 ≤ apdu.length := by
  unfold smCmdParse at h
  dsimp only at h
  rw [cmdMin_eq] at h
  by_cases hc : apdu.length < 15 ∨ (!smBit (apdu.headD 0)) = true
  · rw [if_pos hc] at h; cases h
  · have := not_or.mp hc; omega

theorem smRespParse_ok_len {apdu : Bytes} {p : RespParse} (h : smRespParse apdu = .ok p) : 12 ≤ apdu.length := by
  unfold smRespParse at h
  dsimp only at h
  rw [respMin_eq] at h
  by_cases hc : apdu.length < 12
  · rw [if_pos hc] at h; cases h
  · omega

theorem take4_of_len {apdu : Bytes} (h : 4 ≤ apdu.length) : ∃ a b c d, apdu.take 4 = [a, b, c, d] := by
  match apdu, h with
  | a :: b :: c :: d :: t, _ => exact ⟨a, b, c, d, rfl⟩

theorem last2_of_len {apdu : Bytes} (h : 2 ≤ apdu.length) : ∃ a b, apdu.drop (apdu.length - 2) = [a, b] := by
  have hl : (apdu.drop (apdu.length - 2)).length = 2 := by simp; omega
  match hd : apdu.drop (apdu.length - 2), hl with
  | [a, b], _ => exact ⟨a, b, rfl⟩

end Bee2V.C17
