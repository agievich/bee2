import Bee2V.C18.Inv

namespace Bee2V.C18

/-! ### Reference counting and the life cycle of the generator state -/

macro "field2_cases" hloc:ident hinv:ident c:ident t:ident u:ident : tactic => `(tactic| (
  by_cases hu : $u:ident = $t:ident
  · subst hu
    simp only [Cfg.upd, setTh_same]
    generalize Cfg.th $c:ident $u:ident = T at *
    local_cases $hloc:ident T
    all_goals simp_all [midPc_iff, midPc_false, inCS_iff, inCS_false, TState.done, rOK, rERR]
  · have hnot := others_outside $hinv:ident hu
    have hu' : ¬ $t:ident = $u:ident := fun e => hu e.symm
    have hown := Inv.owner $hinv:ident $t:ident
    simp only [Cfg.upd, setTh_other _ _ _ _ hu]
    generalize Cfg.th $c:ident $t:ident = T at *
    generalize Cfg.th $c:ident $u:ident = U at *
    local_cases $hloc:ident T
    all_goals simp_all [midPc_iff, midPc_false, inCS_iff, inCS_false, TState.done, rOK, rERR]))

theorem sumRefs_other (th : Nat → TState) (t : Nat) (T : TState) (k : Nat) (h : k ≤ t) :
    sumRefs (setTh th t T) k = sumRefs th k := by
  induction k with
  | zero => rfl
  | succ k ih =>
    have hk : k ≠ t := by omega
    simp [sumRefs, ih (by omega), setTh_other _ _ _ _ hk]

theorem sumRefs_upd (th : Nat → TState) (t : Nat) (T : TState) (n : Nat) (h : t < n) :
    sumRefs (setTh th t T) n + (th t).refs = sumRefs th n + T.refs := by
  induction n with
  | zero => omega
  | succ k ih =>
    by_cases hk : t = k
    · subst hk
      simp [sumRefs, sumRefs_other th t T t (Nat.le_refl _)]; omega
    · have hk' : k ≠ t := fun e => hk e.symm
      have := ih (by omega)
      simp [sumRefs, setTh_other _ _ _ _ hk']; omega

theorem refs_le_sum (th : Nat → TState) (t n : Nat) (h : t < n) : (th t).refs ≤ sumRefs th n := by
  induction n with
  | zero => omega
  | succ k ih =>
    by_cases hk : t = k
    · subst hk; simp [sumRefs]
    · have := ih (by omega); simp [sumRefs]; omega

theorem sumRefs_zero (th : Nat → TState) (n : Nat) (h : ∀ u, (th u).refs = 0) : sumRefs th n = 0 := by
  induction n with
  | zero => rfl
  | succ k ih => simp [sumRefs, ih, h k]

/-- what the thread that is not locked out knows about `_state` and `_ctr`: outside the critical
section and at most of its program points "the state exists iff the counter is not 0"; inside
rngCreate between the test of the counter and `_ctr = 1`, and inside rngClose between `--_ctr`
and the release, the exact values -/
def life (sh : Sh) : Pc → Prop
  | .cAlloc => sh.alive = false ∧ sh.ctr = 0
  | .cBump => sh.alive = true ∧ sh.ctr ≠ 0
  | .cEntropy | .cSetCtr | .xFree => sh.alive = true ∧ sh.ctr = 0
  | _ => sh.alive = true ↔ sh.ctr ≠ 0

theorem life_outside {sh : Sh} {p : Pc} (h : inCS p = false) : life sh p ↔ (sh.alive = true ↔ sh.ctr ≠ 0) := by
  cases p <;> first | exact Iff.rfl | cases h

theorem life_congr {sh sh' : Sh} (hc : sh'.ctr = sh.ctr) (ha : sh'.alive = sh.alive) (p : Pc) :
    life sh' p ↔ life sh p := by
  cases p <;> simp only [life, hc, ha]

/-- local correctness of the life cycle, and the counter moves with the references of the thread -/
theorem local_life {sh sh' : Sh} {T T' : TState} {t ch : Nat} (h : stepLocal sh T t ch = some (sh', T'))
    (hx : T.pc = .xDec → sh.ctr ≠ 0 ∧ T.refs ≠ 0) (hl : life sh T.pc) :
    life sh' T'.pc ∧ sh'.ctr + T.refs = sh.ctr + T'.refs := by
  local_cases h T
  all_goals simp only [life, TState.done] at hx hl ⊢
  all_goals grind

structure Inv2 (c : Cfg) : Prop where
  cnt : c.sh.ctr = sumRefs c.th c.n
  view : ∀ u, c.sh.owner = none ∨ c.sh.owner = some u → life c.sh (c.th u).pc

theorem not_inCS {c : Cfg} (hinv : Inv c) {u : Nat} (h : c.sh.owner ≠ some u) : inCS (c.th u).pc = false :=
  Bool.eq_false_iff.2 fun hc => h ((hinv.owner u).1 hc)

theorem Inv2.free {c : Cfg} (h2 : Inv2 c) (hinv : Inv c) (ho : c.sh.owner = none) :
    c.sh.alive = true ↔ c.sh.ctr ≠ 0 :=
  (life_outside (not_inCS hinv (u := 0) (by simp [ho]))).1 (h2.view 0 (Or.inl ho))

/-- while some thread holds a reference the counter is not 0 -/
theorem ctr_pos {c : Cfg} (hinv : Inv c) (h2 : Inv2 c) {t : Nat} (hr : (c.th t).refs ≠ 0) : c.sh.ctr ≠ 0 := by
  have ht : t < c.n := Nat.lt_of_not_le fun hn => hr (hinv.idleOut t hn).2
  have := refs_le_sum c.th t c.n ht
  have := h2.cnt
  omega

theorem xdec_pos {c : Cfg} (hinv : Inv c) (h2 : Inv2 c) {t : Nat} (hp : (c.th t).pc = .xDec) :
    c.sh.ctr ≠ 0 ∧ (c.th t).refs ≠ 0 := by
  have hg := hinv.gate t
  rw [hp] at hg
  exact ⟨ctr_pos hinv h2 hg.2.2, hg.2.2⟩

theorem inv2_step {c c' : Cfg} {t ch : Nat} (hinv : Inv c) (h2 : Inv2 c) (hs : step c t ch = some c') : Inv2 c' := by
  obtain ⟨ht, sh', T', hloc, rfl⟩ := step_elim hs
  obtain ⟨hown, hoth, hout⟩ := local_owner hloc (hinv.owner t)
  have hsum := sumRefs_upd c.th t T' c.n ht
  have hcnt := h2.cnt
  by_cases hcs : c.sh.owner = none ∨ c.sh.owner = some t
  · -- the moving thread is not locked out: its own view moves on; any other thread regains a view
    -- only when the mutex is free again, and then both are outside the critical section
    obtain ⟨hl, hc⟩ := local_life hloc (fun hp => xdec_pos hinv h2 hp) (h2.view t hcs)
    refine ⟨by simp only [Cfg.upd]; omega, fun u ho => ?_⟩
    simp only [Cfg.upd, setTh] at ho ⊢
    split
    · exact hl
    · rename_i hu
      have hn : c.sh.owner ≠ some u := by
        rcases hcs with h | h <;> rw [h]
        · exact nofun
        · exact fun e => hu (Option.some.inj e).symm
      have ho' : sh'.owner = none := ho.resolve_right fun h => hn ((hoth u hu).1 h)
      have hT' : inCS T'.pc = false := Bool.eq_false_iff.2 fun h => by have := hown.1 h; rw [ho'] at this; cases this
      exact (life_outside (not_inCS hinv hn)).2 ((life_outside hT').1 hl)
  · -- another thread `v` holds the mutex and keeps it: the step touches neither `_ctr` nor `_state`
    obtain ⟨hc, ha, hr⟩ := hout (not_inCS hinv fun h => hcs (Or.inr h))
    refine ⟨by simp only [Cfg.upd]; omega, fun u ho => ?_⟩
    simp only [Cfg.upd, setTh] at ho ⊢
    obtain ⟨v, hv⟩ := Option.ne_none_iff_exists'.1 fun h => hcs (Or.inl h)
    have hvt : v ≠ t := fun e => hcs (Or.inr (e ▸ hv))
    rw [(hoth v hvt).2 hv] at ho
    obtain rfl : v = u := by rcases ho with h | h <;> cases h; rfl
    rw [if_neg hvt]
    exact (life_congr hc ha _).2 (h2.view v (Or.inr hv))

theorem inv2_init (n : Nat) (progs : Nat → List Op) : Inv2 (init n progs) := by
  have hth := init_idle n progs
  have hsh : (init n progs).sh = {} := rfl
  exact ⟨by rw [sumRefs_zero _ _ fun u => (hth u).2, hsh], fun u _ => by simp [hth, hsh, life]⟩

theorem inv2_reach {n : Nat} {progs : Nat → List Op} {c : Cfg} (h : Reach n progs c) : Inv2 c := by
  induction h with
  | init => exact inv2_init n progs
  | step hr hs ih => exact inv2_step (inv_reach hr) ih hs

end Bee2V.C18
