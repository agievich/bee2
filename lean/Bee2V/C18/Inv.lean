import Bee2V.C18.Model

namespace Bee2V.C18

/-! ### Reachability -/

inductive Reach (n : Nat) (progs : Nat → List Op) : Cfg → Prop
  | init : Reach n progs (init n progs)
  | step {c c' : Cfg} {t ch : Nat} : Reach n progs c → step c t ch = some c' → Reach n progs c'

@[simp] theorem setTh_same (th : Nat → TState) (t : Nat) (T : TState) : setTh th t T t = T := by simp [setTh]
@[simp] theorem setTh_other (th : Nat → TState) (t u : Nat) (T : TState) (h : u ≠ t) : setTh th t T u = th u := by
  simp [setTh, h]

/-- case split of a local step on the program counter of the moving thread; afterwards
`sh'`, `T'` are replaced by the explicit results -/
macro "local_cases" h:ident T:ident : tactic => `(tactic| (
  obtain ⟨pc, prog, refs, src, kind, blocks, tmp, results⟩ := $T:ident
  cases pc <;> simp only [stepLocal] at $h:ident
  all_goals (try split at $h:ident)
  all_goals (try split at $h:ident)
  all_goals (cases $h:ident)))

/-- closes a per-thread invariant field after a step: case split on "the thread is / is not the
moving one", then on the program counter of the moving thread -/
macro "field_cases" hloc:ident c:ident t:ident u:ident : tactic => `(tactic| (
  by_cases hu : $u:ident = $t:ident
  · subst hu
    simp only [Cfg.upd, setTh_same]
    generalize Cfg.th $c:ident $u:ident = T at *
    local_cases $hloc:ident T
    all_goals simp_all [initPc_iff, initPc_false, postOnce_iff, postOnce_false, lockPc_iff, lockPc_false, holdPc_iff, holdPc_false, inCS_iff, inCS_false, onceMax, TState.done, rOK, rERR]
  · simp only [Cfg.upd, setTh_other _ _ _ _ hu]
    generalize Cfg.th $c:ident $t:ident = T at *
    generalize Cfg.th $c:ident $u:ident = U at *
    local_cases $hloc:ident T
    all_goals simp_all [initPc_iff, initPc_false, postOnce_iff, postOnce_false, lockPc_iff, lockPc_false, holdPc_iff, holdPc_false, inCS_iff, inCS_false, onceMax, TState.done, rOK, rERR]))

/-- destructs `step c t ch = some c'` into the local step of thread `t` -/
theorem step_elim {c c' : Cfg} {t ch : Nat} (hs : step c t ch = some c') :
    t < c.n ∧ ∃ sh' T', stepLocal c.sh (c.th t) t ch = some (sh', T') ∧ c' = c.upd t sh' T' := by
  unfold step at hs
  split at hs
  · cases hs
  · rename_i hnt
    split at hs
    · cases hs
    · rename_i sh' T' hloc
      cases hs
      exact ⟨by omega, sh', T', hloc, rfl⟩

/-! ### Classes of program counters -/

/-- inside rngInit / before the publication of the trigger -/
def initPc : Pc → Bool
  | .iMtx | .iExit | .iSet | .oPub => true
  | _ => false

/-- the thread has passed the once-gate (or holds a reference obtained through it) -/
def postOnce : Pc → Bool
  | .idle | .oCas | .iMtx | .iExit | .iSet | .oPub | .vOnce => false
  | _ => true

/-- about to acquire the mutex -/
def lockPc : Pc → Bool
  | .cLock | .vLock | .xLock | .uLock => true
  | _ => false

/-! ### Frame -/

/-- What a step can change.  It leaves the mutex alone, or acquires it when free and enters the
critical section, or leaves the critical section and releases it; outside the critical section it
changes neither `_ctr` nor `_state` nor the number of references the thread holds.  The
initialiser's region is entered only while the trigger is 0, and a step outside it changes neither
the flags nor a trigger that has left 0. -/
theorem local_frame {sh sh' : Sh} {T T' : TState} {t ch : Nat} (h : stepLocal sh T t ch = some (sh', T')) :
    ((inCS T'.pc = inCS T.pc ∧ sh'.owner = sh.owner) ∨
      (inCS T.pc = false ∧ inCS T'.pc = true ∧ sh.owner = none ∧ sh'.owner = some t) ∨
      (inCS T.pc = true ∧ inCS T'.pc = false ∧ sh'.owner = none)) ∧
    (inCS T.pc = false → sh'.ctr = sh.ctr ∧ sh'.alive = sh.alive ∧ T'.refs = T.refs) ∧
    (initPc T'.pc = true → initPc T.pc = true ∨ sh.once = 0) ∧
    (initPc T.pc = false → sh'.inited = sh.inited ∧ sh'.mtxOk = sh.mtxOk ∧ (sh.once ≠ 0 → sh'.once = sh.once)) := by
  local_cases h T
  all_goals simp [inCS, initPc, TState.done, *]

theorem local_owner {sh sh' : Sh} {T T' : TState} {t ch : Nat}
    (h : stepLocal sh T t ch = some (sh', T')) (h0 : inCS T.pc = true ↔ sh.owner = some t) :
    (inCS T'.pc = true ↔ sh'.owner = some t) ∧ (∀ u, u ≠ t → (sh'.owner = some u ↔ sh.owner = some u)) ∧
    (inCS T.pc = false → sh'.ctr = sh.ctr ∧ sh'.alive = sh.alive ∧ T'.refs = T.refs) := by
  obtain ⟨h1, h2, -⟩ := local_frame h
  exact ⟨by grind, by grind, h2⟩

/-! ### The once-gate -/

/-- what a thread at a program counter, holding `refs` references, knows about the trigger and
about the effects of rngInit -/
def gate (sh : Sh) (refs : Nat) : Pc → Prop
  | .idle | .oCas | .vOnce => True
  | .iMtx => sh.once = onceMax ∧ sh.inited = false ∧ sh.mtxOk = false
  | .iExit | .iSet => sh.once = onceMax ∧ sh.inited = false ∧ sh.mtxOk = true
  | .oPub => sh.once = onceMax ∧ sh.inited = sh.mtxOk
  | .cInited | .vInited => sh.once = 1
  | .xLock | .xDec | .uLock | .uBody | .uUnlock => sh.once = 1 ∧ sh.inited = true ∧ refs ≠ 0
  | _ => sh.once = 1 ∧ sh.inited = true

theorem gate_classes {sh : Sh} {r : Nat} {p : Pc} (h : gate sh r p) :
    (initPc p = true → sh.once = onceMax) ∧ (postOnce p = true → sh.once = 1) ∧
    (lockPc p = true ∨ inCS p = true → sh.once = 1 ∧ sh.inited = true) := by
  cases p <;> simp only [gate] at h <;> simp [initPc, postOnce, lockPc, inCS, h]

/-- the assertion of a thread that does not move survives if the trigger and the flags stay as
they are whenever the trigger is 1 or the thread is the initialiser -/
theorem gate_stable {sh sh' : Sh} {r : Nat} {p : Pc} (h : gate sh r p)
    (hs : sh.once = 1 ∨ initPc p = true → sh'.once = sh.once ∧ sh'.inited = sh.inited ∧ sh'.mtxOk = sh.mtxOk) :
    gate sh' r p := by
  cases p <;> simp only [gate, initPc] at h hs ⊢ <;> grind

/-- local correctness: the step of a thread re-establishes the facts about the trigger and the
flags, its own assertion, and "references are held only after a successful initialisation" -/
theorem local_gate {sh sh' : Sh} {T T' : TState} {t ch : Nat} (h : stepLocal sh T t ch = some (sh', T'))
    (h0 : sh.once = 0 ∨ sh.once = 1 ∨ sh.once = onceMax)
    (h1 : sh.once = 0 → sh.inited = false ∧ sh.mtxOk = false ∧ sh.initRuns = 0)
    (h2 : sh.once ≠ 0 → sh.initRuns = 1) (h3 : sh.once = 1 → sh.inited = sh.mtxOk)
    (hg : gate sh T.refs T.pc) (hr : T.refs ≠ 0 → sh.once = 1 ∧ sh.inited = true) :
    (sh'.once = 0 ∨ sh'.once = 1 ∨ sh'.once = onceMax) ∧
    (sh'.once = 0 → sh'.inited = false ∧ sh'.mtxOk = false ∧ sh'.initRuns = 0) ∧
    (sh'.once ≠ 0 → sh'.initRuns = 1) ∧ (sh'.once = 1 → sh'.inited = sh'.mtxOk) ∧
    gate sh' T'.refs T'.pc ∧ (T'.refs ≠ 0 → sh'.once = 1 ∧ sh'.inited = true) := by
  local_cases h T
  all_goals simp only [gate, TState.done] at hg hr ⊢
  all_goals grind [onceMax]

/-! ### The invariant -/

def sumRefs (th : Nat → TState) : Nat → Nat
  | 0 => 0
  | k + 1 => sumRefs th k + (th k).refs

structure Inv (c : Cfg) : Prop where
  owner : ∀ u, inCS (c.th u).pc = true ↔ c.sh.owner = some u
  onceRange : c.sh.once = 0 ∨ c.sh.once = 1 ∨ c.sh.once = onceMax
  flags0 : c.sh.once = 0 → c.sh.inited = false ∧ c.sh.mtxOk = false ∧ c.sh.initRuns = 0
  runs : c.sh.once ≠ 0 → c.sh.initRuns = 1
  flags1 : c.sh.once = 1 → c.sh.inited = c.sh.mtxOk
  gate : ∀ u, gate c.sh (c.th u).refs (c.th u).pc
  refsPost : ∀ u, (c.th u).refs ≠ 0 → c.sh.once = 1 ∧ c.sh.inited = true
  initUnique : ∀ u v, initPc (c.th u).pc = true → initPc (c.th v).pc = true → u = v
  idleOut : ∀ u, c.n ≤ u → (c.th u).pc = .idle ∧ (c.th u).refs = 0

namespace Inv
variable {c : Cfg} (hinv : Inv c) (u : Nat)
include hinv

theorem initRegion : initPc (c.th u).pc = true → c.sh.once = onceMax := (gate_classes (hinv.gate u)).1
theorem post : postOnce (c.th u).pc = true → c.sh.once = 1 := (gate_classes (hinv.gate u)).2.1
theorem lockReady : lockPc (c.th u).pc = true ∨ inCS (c.th u).pc = true → c.sh.once = 1 ∧ c.sh.inited = true :=
  (gate_classes (hinv.gate u)).2.2

end Inv

/-- the thread that moves is not the initialiser if the trigger is 1 or another thread is -/
theorem mover_not_init {c : Cfg} (hinv : Inv c) {t u : Nat} (hu : u ≠ t)
    (hc : c.sh.once = 1 ∨ initPc (c.th u).pc = true) : initPc (c.th t).pc = false ∧ c.sh.once ≠ 0 := by
  have h2 : onceMax = 2 := rfl
  constructor
  · cases hi : initPc (c.th t).pc
    · rfl
    · rcases hc with hc | hc
      · have := hinv.initRegion t hi; omega
      · exact absurd (hinv.initUnique u t hc hi) hu
  · rcases hc with hc | hc
    · omega
    · have := hinv.initRegion u hc; omega

theorem inv_step {c c' : Cfg} {t ch : Nat} (hinv : Inv c) (hs : step c t ch = some c') : Inv c' := by
  obtain ⟨ht, sh', T', hloc, rfl⟩ := step_elim hs
  obtain ⟨hown, hoth, -⟩ := local_owner hloc (hinv.owner t)
  obtain ⟨h0, h1, h2, h3, hg, hr⟩ :=
    local_gate hloc hinv.onceRange hinv.flags0 hinv.runs hinv.flags1 (hinv.gate t) (hinv.refsPost t)
  obtain ⟨-, -, henter, hframe⟩ := local_frame hloc
  have stable : ∀ u, u ≠ t → c.sh.once = 1 ∨ initPc (c.th u).pc = true →
      sh'.once = c.sh.once ∧ sh'.inited = c.sh.inited ∧ sh'.mtxOk = c.sh.mtxOk := fun u hu hc => by
    obtain ⟨hT, hne⟩ := mover_not_init hinv hu hc
    obtain ⟨a, b, d⟩ := hframe hT
    exact ⟨d hne, a, b⟩
  -- the initialiser's region is entered while the trigger is 0, when no other thread is inside
  have unique : ∀ v, v ≠ t → initPc T'.pc = true → initPc (c.th v).pc = true → False := fun v hv h' hv' => by
    have := hinv.initRegion v hv'
    rcases henter h' with hi | hi
    · exact hv (hinv.initUnique v t hv' hi)
    · rw [hi] at this; cases this
  refine { onceRange := h0, flags0 := h1, runs := h2, flags1 := h3, owner := fun u => ?_, gate := fun u => ?_,
           refsPost := fun u => ?_, initUnique := fun u v => ?_, idleOut := fun u hu => ?_ } <;>
    simp only [Cfg.upd, setTh]
  · split
    · subst u; exact hown
    · rename_i hu; rw [hoth u hu]; exact hinv.owner u
  · split
    · exact hg
    · rename_i hu; exact gate_stable (hinv.gate u) (stable u hu)
  · split
    · exact hr
    · rename_i hu
      intro hr'
      obtain ⟨a, b⟩ := hinv.refsPost u hr'
      obtain ⟨a', b', -⟩ := stable u hu (Or.inl a)
      exact ⟨a' ▸ a, b' ▸ b⟩
  · split <;> split
    · rename_i hu hv; intros; rw [hu, hv]
    · rename_i hu hv; intro h' hv'; exact (unique v hv h' hv').elim
    · rename_i hu hv; intro hu' h'; exact (unique u hu h' hu').elim
    · exact hinv.initUnique u v
  · have hu' : c.n ≤ u := hu
    rw [if_neg (by omega)]
    exact hinv.idleOut u hu'

theorem init_idle (n : Nat) (progs : Nat → List Op) (u : Nat) :
    ((init n progs).th u).pc = .idle ∧ ((init n progs).th u).refs = 0 := by
  simp only [init]; split <;> exact ⟨rfl, rfl⟩

theorem inv_init (n : Nat) (progs : Nat → List Op) : Inv (init n progs) := by
  have hth := init_idle n progs
  have hsh : (init n progs).sh = {} := rfl
  constructor
  all_goals (intros; simp_all [gate, initPc, inCS])

theorem inv_reach {n : Nat} {progs : Nat → List Op} {c : Cfg} (h : Reach n progs c) : Inv c := by
  induction h with
  | init => exact inv_init n progs
  | step _ hs ih => exact inv_step ih hs

end Bee2V.C18
