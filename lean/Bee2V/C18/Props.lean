/-
C18 — property theorems: for EVERY number of threads, EVERY assignment of operation
sequences to the threads (grammar of the property: use/close only while holding a reference)
and EVERY schedule (sequentially consistent interleaving, every resolution of the
environment's choices), about the model of Bee2V/C18/Model.lean.
Helper lemmas and invariants: Inv.lean, Inv2.lean, Log.lean.
-/
import Bee2V.C18.Log
import Bee2V.Gen.C18

namespace Bee2V.C18

/-! ### Tie (a): the model's access table is the one extracted from the current C source -/

/-- The shared-access table regenerated from rng.c / mt.c (which variable, read or write,
through an atomic primitive or not, with the mutex held or not, in source order) coincides
with the table of the model.  Moving an access out of the critical section, dropping a lock,
turning the atomic publication of the trigger into a plain store, … changes the left side. -/
theorem table_matches : normTable Bee2V.Gen.C18.table = normTable table := by decide +kernel

/-! ### Mutual exclusion and lock discipline -/

theorem mutual_exclusion {n : Nat} {progs : Nat → List Op} {c : Cfg} (h : Reach n progs c) (t u : Nat)
    (ht : inCS (c.th t).pc = true) (hu : inCS (c.th u).pc = true) : t = u := by
  have hi := inv_reach h
  have a := (hi.owner t).1 ht
  have b := (hi.owner u).1 hu
  rw [a] at b
  exact Option.some.inj b

def guarded : Loc → Bool
  | .ctr | .state | .gen => true
  | _ => false

def allPcs : List Pc := [.idle, .oCas, .iMtx, .iExit, .iSet, .oPub, .cInited, .cLock, .cCtr, .cBump, .cAlloc,
  .cEntropy, .cSetCtr, .cUnlockOk, .cUnlockErr, .vOnce, .vInited, .vLock, .vBody, .vUnlock, .xLock, .xDec,
  .xFree, .xUnlock, .uLock, .uBody, .uUnlock]

theorem mem_allPcs (p : Pc) : p ∈ allPcs := by cases p <;> decide

theorem guarded_inCS_tab : (allPcs.all fun p => (accs p).all fun a => !guarded a.1 || inCS p) = true := by decide

/-- **Lock discipline.** Every access to the reference counter, to the state pointer and to
the generator state is made by the thread that owns the mutex. -/
theorem lockset {n : Nat} {progs : Nat → List Op} {c : Cfg} (h : Reach n progs c) (t : Nat)
    (a : Loc × Bool × Bool) (ha : a ∈ accs (c.th t).pc) (hg : guarded a.1 = true) : c.sh.owner = some t := by
  have h1 := List.all_eq_true.1 guarded_inCS_tab _ (mem_allPcs (c.th t).pc)
  have h2 := List.all_eq_true.1 h1 a ha
  simp [hg] at h2
  exact ((inv_reach h).owner t).1 h2

/-! ### Once-initialisation -/

/-- **Exactly once.** rngInit is entered at most once in any execution; every thread that has
passed the once-gate (mtCallOnce returned) does so after the single run has completed
(the trigger is 1, published after the initialiser's effects). -/
theorem once_exactly {n : Nat} {progs : Nat → List Op} {c : Cfg} (h : Reach n progs c) :
    c.sh.initRuns ≤ 1 ∧ ∀ t, postOnce (c.th t).pc = true → c.sh.initRuns = 1 ∧ c.sh.once = 1 := by
  have hi := inv_reach h
  constructor
  · by_cases h0 : c.sh.once = 0
    · have := (hi.flags0 h0).2.2; omega
    · have := hi.runs h0; omega
  · intro t ht
    have h1 := hi.post t ht
    exact ⟨hi.runs (by omega), h1⟩

/-- **Visibility.** Once the trigger is published, the effects of the initialiser (the flag
`_inited`, the mutex object) never change again and agree with each other. -/
theorem init_effects_stable {n : Nat} {progs : Nat → List Op} {c c' : Cfg} {t ch : Nat}
    (h : Reach n progs c) (h1 : c.sh.once = 1) (hs : step c t ch = some c') :
    c'.sh.once = 1 ∧ c'.sh.inited = c.sh.inited ∧ c'.sh.mtxOk = c.sh.mtxOk ∧ c.sh.inited = c.sh.mtxOk := by
  have hi := inv_reach h
  obtain ⟨_, sh', T', hloc, rfl⟩ := step_elim hs
  -- the moving thread is not the initialiser, whose assertion says that the trigger is `onceMax`
  have hT : initPc (c.th t).pc = false :=
    Bool.eq_false_iff.2 fun hi' => by have := hi.initRegion t hi'; rw [h1] at this; cases this
  obtain ⟨a, b, d⟩ := (local_frame hloc).2.2.2 hT
  exact ⟨(d (by omega)).trans h1, a, b, hi.flags1 h1⟩

/-- a thread that holds the mutex or is about to take it finds the mutex object created -/
theorem mutex_ready {n : Nat} {progs : Nat → List Op} {c : Cfg} (h : Reach n progs c) (t : Nat)
    (hp : lockPc (c.th t).pc = true ∨ inCS (c.th t).pc = true) : c.sh.inited = true ∧ c.sh.mtxOk = true := by
  have hi := inv_reach h
  obtain ⟨h1, h2⟩ := hi.lockReady t hp
  exact ⟨h2, hi.flags1 h1 ▸ h2⟩

/-! ### Absence of data races -/

/-- two accesses conflict: same location, at least one write, not both atomic -/
def conflict (a b : Loc × Bool × Bool) : Bool := a.1 == b.1 && (a.2.1 || b.2.1) && !(a.2.2 && b.2.2)

def conflictPc (p q : Pc) : Bool := (accs p).any fun a => (accs q).any fun b => conflict a b

/-- a data race: two different threads whose next steps perform conflicting accesses
(lock acquisition counts as a read of the mutex object even while the thread is blocked) -/
def Race (c : Cfg) : Prop :=
  ∃ t u, t ≠ u ∧ ∃ a ∈ accs (c.th t).pc, ∃ b ∈ accs (c.th u).pc, conflict a b = true

theorem conflict_class_tab : (allPcs.all fun p => allPcs.all fun q => !conflictPc p q ||
    ((inCS p && inCS q) || (initPc p && initPc q) || (initPc p && postOnce q) || (postOnce p && initPc q))) = true := by
  decide +kernel

/-- **No data race** in any reachable configuration, for any number of threads. -/
theorem no_data_race {n : Nat} {progs : Nat → List Op} {c : Cfg} (h : Reach n progs c) : ¬ Race c := by
  rintro ⟨t, u, htu, a, ha, b, hb, hab⟩
  have hi := inv_reach h
  have hc : conflictPc (c.th t).pc (c.th u).pc = true := by
    simp only [conflictPc, List.any_eq_true]
    exact ⟨a, ha, b, hb, hab⟩
  have h1 := List.all_eq_true.1 (List.all_eq_true.1 conflict_class_tab _ (mem_allPcs (c.th t).pc)) _ (mem_allPcs (c.th u).pc)
  simp only [hc, Bool.not_true, Bool.false_or, Bool.or_eq_true, Bool.and_eq_true] at h1
  rcases h1 with ((h1 | h1) | h1) | h1
  · exact htu (mutual_exclusion h t u h1.1 h1.2)
  · exact htu (hi.initUnique t u h1.1 h1.2)
  · have := hi.initRegion t h1.1; have := hi.post u h1.2; simp [onceMax] at *; omega
  · have := hi.initRegion u h1.2; have := hi.post t h1.1; simp [onceMax] at *; omega

/-! ### Reference counting -/

/-- **Balanced reference count.** `_ctr` always equals the number of references held by the
threads; when all references have been given back (and nobody is inside a critical section)
the counter is 0 and the generator state has been released. -/
theorem refcount_balanced {n : Nat} {progs : Nat → List Op} {c : Cfg} (h : Reach n progs c) :
    c.sh.ctr = sumRefs c.th c.n ∧
    ((∀ u, (c.th u).refs = 0) → c.sh.owner = none → c.sh.ctr = 0 ∧ c.sh.alive = false) := by
  have h2 := inv2_reach h
  refine ⟨h2.cnt, fun hz ho => ?_⟩
  have hc : c.sh.ctr = 0 := by rw [h2.cnt, sumRefs_zero _ _ hz]
  refine ⟨hc, ?_⟩
  have := h2.free (inv_reach h) ho
  cases ha : c.sh.alive
  · rfl
  · exact absurd (this.1 ha) (by simp [hc])

/-- the counter is never decremented at 0 -/
theorem no_underflow {n : Nat} {progs : Nat → List Op} {c : Cfg} (h : Reach n progs c) (t : Nat)
    (hp : (c.th t).pc = .xDec) : c.sh.ctr ≠ 0 :=
  (xdec_pos (inv_reach h) (inv2_reach h) hp).1

/-- **No use after release.** Whenever a thread generates (rngStepR / rngStepR2 / rngRekey
inside the critical section) or bumps the counter, the generator state exists. -/
theorem use_safe {n : Nat} {progs : Nat → List Op} {c : Cfg} (h : Reach n progs c) (t : Nat)
    (hp : (c.th t).pc = .uBody ∨ (c.th t).pc = .cBump ∨ (c.th t).pc = .xDec) : c.sh.alive = true := by
  have hi := inv_reach h
  have h2 := inv2_reach h
  have hg := hi.gate t
  have hl := h2.view t (Or.inr ((hi.owner t).1 (by rcases hp with hp | hp | hp <;> rw [hp] <;> rfl)))
  rcases hp with hp | hp | hp <;> rw [hp] at hg hl
  · exact hl.2 (ctr_pos hi h2 hg.2.2)
  · exact hl.1
  · exact hl.2 (ctr_pos hi h2 hg.2.2)

/-! ### Output blocks -/

/-- **Distinct blocks.** No two blocks ever handed out (to the same or to different threads)
are the same position of the same key's CTR stream. -/
theorem distinct_blocks {n : Nat} {progs : Nat → List Op} {c : Cfg} (h : Reach n progs c) :
    c.sh.log.Pairwise (fun a b => ¬ SamePos a b) :=
  (inv3_reach h).nodup

/-- **Requests are filled.** The generation step of a request for `k` blocks hands exactly `k`
new blocks to the requesting thread (appended to the log), whatever the other threads do. -/
theorem request_filled (sh sh' : Sh) (T T' : TState) (t ch : Nat) (hp : T.pc = .uBody) (hk : T.kind ≠ .rekey)
    (h : stepLocal sh T t ch = some (sh', T')) :
    ∃ bs, sh'.log = sh.log ++ bs ∧ bs.length = T.blocks ∧ ∀ b ∈ bs, b.tid = t := by
  obtain ⟨pc, prog, refs, src, kind, blocks, tmp, results⟩ := T
  simp only at hp hk
  subst hp
  cases kind <;> simp only [stepLocal] at h
  · cases h
    exact ⟨_, rfl, length_fresh _ _ _ _, fun b hb => ((mem_fresh _ _ _ _ _).1 hb).1⟩
  · cases h
    exact ⟨_, rfl, length_fresh _ _ _ _, fun b hb => ((mem_fresh _ _ _ _ _).1 hb).1⟩
  · exact absurd rfl hk

/-! ### Non-vacuity: concrete schedules reach the interesting states -/

def demoProgs : Nat → List Op
  | 0 => [.create false, .use .stepR2 2, .close]
  | 1 => [.create true, .use .stepR 1, .use .rekey 0, .close]
  | _ => [.isValid]

def rep (t k : Nat) : List (Nat × Nat) := List.replicate k (t, 0)

/-- thread 0 creates the generator (thread 1 races into the once-gate meanwhile), thread 1 joins
(second reference), thread 0 generates two blocks, thread 1 one block -/
def demoSched : List (Nat × Nat) := rep 0 2 ++ rep 1 2 ++ rep 0 12 ++ rep 1 6 ++ rep 0 4 ++ rep 1 4

example : (runSched (init 3 demoProgs) demoSched).sh.ctr = 2 := by decide +kernel
example : (runSched (init 3 demoProgs) demoSched).sh.log.length = 3 := by decide +kernel
example : (runSched (init 3 demoProgs) demoSched).sh.initRuns = 1 := by decide +kernel

end Bee2V.C18
