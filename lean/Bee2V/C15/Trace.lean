/-
What the monitor flags mean for the event trace alone (no monitor state in the statements):
`lost = false ∧ noLive` at the end  ⇒  every successful allocation is later closed by blobClose
with no direct free in between;  `crash = false`  ⇒  no use of a blob after its allocation
failed;  output not dirty  ⇒  every write is followed by a zeroisation.
-/
import Bee2V.C15.Sound
namespace Bee2V.C15

theorem getAt_setAt {α} (d : α) : ∀ (l : List α) (i j : Nat) (x : α),
    getAt d (setAt d l i x) j = if i = j then x else getAt d l j := by
  intro l i
  induction i generalizing l with
  | zero => intro j x; cases l <;> cases j <;> simp [setAt, getAt]
  | succ i ih => intro j x; cases l <;> cases j <;> simp [setAt, getAt, ih]

theorem st_setv (s : St) (v w : Nat) (x : VS) : (s.setv v x).st w = if v = w then x else s.st w := by
  simp [St.setv, St.st, getAt_setAt]

@[simp] theorem lost_setv (s : St) (v : Nat) (x : VS) : (s.setv v x).lost = s.lost := rfl
@[simp] theorem crash_setv (s : St) (v : Nat) (x : VS) : (s.setv v x).crash = s.crash := rfl
@[simp] theorem failed_setv (s : St) (v : Nat) (x : VS) : (s.setv v x).failed = s.failed := rfl
@[simp] theorem dirty_setv (s : St) (v : Nat) (x : VS) : (s.setv v x).dirty = s.dirty := rfl
@[simp] theorem vst_setv (s : St) (v : Nat) (x : VS) : (s.setv v x).vst = s.vst := rfl
@[simp] theorem codeV_setv (s : St) (v : Nat) (x : VS) : (s.setv v x).codeV = s.codeV := rfl
@[simp] theorem early_setv (s : St) (v : Nat) (x : VS) : (s.setv v x).early = s.early := rfl
@[simp] theorem errSeen_setv (s : St) (v : Nat) (x : VS) : (s.setv v x).errSeen = s.errSeen := rfl
@[simp] theorem reset_setv (s : St) (v : Nat) (x : VS) : (s.setv v x).reset = s.reset := rfl
@[simp] theorem late_setv (s : St) (v : Nat) (x : VS) : (s.setv v x).late = s.late := rfl

theorem getAt_of_all (p : VS → Bool) (hp : p .unk = true) (l : List VS) (h : l.all p = true) :
    ∀ v, p (getAt .unk l v) = true := by
  induction l with
  | nil => intro v; simpa [getAt] using hp
  | cons y l ih =>
    intro v
    simp only [List.all_cons, Bool.and_eq_true] at h
    cases v with
    | zero => simpa [getAt] using h.1
    | succ v => simpa [getAt] using ih h.2 v

theorem not_held_of_noLive {s : St} (h : s.noLive = true) (v : Nat) :
    s.st v ≠ .live ∧ s.st v ≠ .raw ∧ s.st v ≠ .wiped := by
  have := getAt_of_all (fun x => x != .live && x != .raw && x != .wiped) (by decide) s.vs h v
  simpa [St.st, and_assoc] using this

theorem not_live_of_noLive {s : St} (h : s.noLive = true) (v : Nat) : s.st v ≠ .live :=
  (not_held_of_noLive h v).1

/-! #### sticky flags -/

/-- no event clears one of the six flags -/
theorem sticky_step (s : St) (e : Ev) :
    (s.lost = true → (s.apply e).lost = true) ∧ (s.crash = true → (s.apply e).crash = true) ∧
    (s.failed = true → (s.apply e).failed = true) ∧ (s.errSeen = true → (s.apply e).errSeen = true) ∧
    (s.reset = true → (s.apply e).reset = true) ∧ (s.late = true → (s.apply e).late = true) := by
  cases e <;> simp only [St.apply] <;> (try split) <;> simp_all [St.setv]

/-- what every event preserves, the whole trace preserves -/
theorem fold_sticky (P : St → Prop) (hstep : ∀ s e, P s → P (s.apply e)) (tr : List Ev) :
    ∀ s : St, P s → P (tr.foldl St.apply s) := by
  induction tr with
  | nil => intro s h; exact h
  | cons e t ih => intro s h; exact ih _ (hstep s e h)

theorem foldl_split {α β} (f : β → α → β) {l : List α} {i : Nat} {e : α} (h : l[i]? = some e) :
    ∀ s : β, l.foldl f s = (l.drop (i + 1)).foldl f (f ((l.take i).foldl f s) e) := by
  induction l generalizing i with
  | nil => simp at h
  | cons a l ih =>
    cases i with
    | zero => simp only [List.getElem?_cons_zero, Option.some.injEq] at h; subst h; intro s; rfl
    | succ i => intro s; exact ih (by simpa using h) (f s a)

theorem getElem?_after {α} (l : List α) {i k : Nat} (h : i < k) :
    l[k]? = (l.drop (i + 1))[k - (i + 1)]? := by
  rw [List.getElem?_drop]; congr 1; omega

theorem lost_fold (tr : List Ev) : ∀ s : St, s.lost = true → (tr.foldl St.apply s).lost = true :=
  fold_sticky (·.lost = true) (fun s e => (sticky_step s e).1) tr
theorem crash_fold (tr : List Ev) : ∀ s : St, s.crash = true → (tr.foldl St.apply s).crash = true :=
  fold_sticky (·.crash = true) (fun s e => (sticky_step s e).2.1) tr
theorem errSeen_fold (tr : List Ev) : ∀ s : St, s.errSeen = true → (tr.foldl St.apply s).errSeen = true :=
  fold_sticky (·.errSeen = true) (fun s e => (sticky_step s e).2.2.2.1) tr
theorem reset_fold (tr : List Ev) : ∀ s : St, s.reset = true → (tr.foldl St.apply s).reset = true :=
  fold_sticky (·.reset = true) (fun s e => (sticky_step s e).2.2.2.2.1) tr
theorem late_fold (tr : List Ev) : ∀ s : St, s.late = true → (tr.foldl St.apply s).late = true :=
  fold_sticky (·.late = true) (fun s e => (sticky_step s e).2.2.2.2.2) tr

/-- a flag that no event clears and that is clear at the end was clear after every event -/
theorem flag_clear_at {flag : St → Bool}
    (hfold : ∀ (t : List Ev) (s : St), flag s = true → flag (t.foldl St.apply s) = true)
    {tr : List Ev} {i : Nat} {e : Ev} (hi : tr[i]? = some e) {s : St}
    (h : flag (tr.foldl St.apply s) = false) :
    flag (((tr.take i).foldl St.apply s).apply e) ≠ true := fun h1 => by
  rw [foldl_split St.apply hi, hfold _ _ h1] at h; cases h

/-- an event that establishes what no event undoes leaves it established at the end -/
theorem flag_of_mem {P : St → Prop} {K : Ev → Prop} (hset : ∀ (s : St) e, K e → P (s.apply e))
    (hkeep : ∀ (s : St) e, P s → P (s.apply e)) (tr : List Ev) (s : St) (h : ∃ e ∈ tr, K e) :
    P (tr.foldl St.apply s) := by
  obtain ⟨e, hm, hK⟩ := h
  obtain ⟨pre, post, rfl⟩ := List.append_of_mem hm
  rw [List.foldl_append, List.foldl_cons]
  exact fold_sticky P hkeep post _ (hset _ e hK)

section Until
variable {H F Dead : St → Prop} {stop : Ev} {bad : Ev → Prop}
  (hdead : ∀ (t : List Ev) (s : St), Dead s → ¬ F (t.foldl St.apply s))
  (hstep : ∀ s e, H s → e ≠ stop → H (s.apply e) ∨ Dead (s.apply e))
  (hbad : ∀ s e, H s → bad e → Dead (s.apply e))
  (hend : ∀ s, H s → ¬ F s)
include hdead hstep hbad hend

/-- `H`: the variable holds an open blob, the output is dirty, …; `Dead`: the path is flagged for good; `bad`: an event that
flags the path when it comes under `H` (a direct free of an open blob). -/
theorem until_of_fold : ∀ (tr : List Ev) (s : St), H s → F (tr.foldl St.apply s) →
    ∃ j, tr[j]? = some stop ∧ H ((tr.take j).foldl St.apply s) ∧
      ∀ (k : Nat) (e : Ev), k < j → tr[k]? = some e → e ≠ stop ∧ ¬ bad e := by
  intro tr
  induction tr with
  | nil => exact fun s h hF => (hend s h hF).elim
  | cons e t ih =>
    intro s h hF
    by_cases he : e = stop
    · exact ⟨0, by rw [he]; rfl, h, fun k _ hk => by omega⟩
    · have hlive : ¬ Dead (s.apply e) := fun hd => hdead t _ hd hF
      obtain ⟨j, hj, hH, hk⟩ := ih (s.apply e) ((hstep s e h he).resolve_right hlive) hF
      refine ⟨j + 1, by simpa using hj, by simpa using hH, fun k e' hkj hke => ?_⟩
      cases k with
      | zero =>
        simp only [List.getElem?_cons_zero, Option.some.injEq] at hke
        subst hke
        exact ⟨he, fun hb => hlive (hbad s e h hb)⟩
      | succ k => exact hk k e' (by omega) (by simpa using hke)

theorem until_after {tr : List Ev} {i : Nat} {e : Ev} (hi : tr[i]? = some e) (s : St)
    (hH : H (((tr.take i).foldl St.apply s).apply e)) (hF : F (tr.foldl St.apply s)) :
    ∃ j, i < j ∧ tr[j]? = some stop ∧ H ((tr.take j).foldl St.apply s) ∧
      ∀ (k : Nat) (e' : Ev), i < k → k < j → tr[k]? = some e' → e' ≠ stop ∧ ¬ bad e' := by
  rw [foldl_split St.apply hi] at hF
  obtain ⟨j, hj, hHj, hk⟩ := until_of_fold hdead hstep hbad hend _ _ hH hF
  rw [List.getElem?_drop] at hj
  refine ⟨i + 1 + j, by omega, hj, ?_, fun k e' h0 hkj hke => ?_⟩
  · rw [List.take_add, List.foldl_append, List.take_add_one, hi]
    simpa using hHj
  · rw [getElem?_after tr h0] at hke
    exact hk _ e' (by omega) hke

end Until

/-! #### C15: open blobs -/

/-- the blob variable an event is about -/
def Ev.var? : Ev → Option Nat
  | .allocOk v | .allocFail v | .resizeOk v | .resizeFail v | .close v | .free v
  | .setnull v | .setunk v | .rawOk v | .rawFail v | .wipe v => some v
  | _ => none

/-- events about other variables (or about no variable) leave the status of `v` alone -/
theorem st_apply_of_ne (s : St) (e : Ev) (v : Nat) (h : e.var? ≠ some v) :
    (s.apply e).st v = s.st v := by
  cases e <;> simp only [Ev.var?, ne_eq, Option.some.injEq] at h <;>
    simp only [St.apply]
  case close | free | wipe => split <;> simp [St.st, St.setv, getAt_setAt, h]
  all_goals simp [St.st, St.setv, getAt_setAt, h]

/-- only four events about a variable that holds a block do not flag the path at once -/
theorem lost_of_held {s : St} {v : Nat} (hil : s.isLive v = true) {e : Ev} (hv : e.var? = some v) :
    (s.apply e).lost = true ∨ e = .resizeOk v ∨ e = .close v ∨ e = .free v ∨ e = .wipe v := by
  cases e <;> simp only [Ev.var?, Option.some.injEq, reduceCtorEq] at hv <;> subst hv <;>
    simp [St.apply, hil]

/-- an open blob stays open (or the path is flagged) under any event except its own close -/
theorem live_step {s : St} {v : Nat} (hl : s.st v = .live) (e : Ev) (hne : e ≠ .close v) :
    (s.apply e).st v = .live ∨ (s.apply e).lost = true := by
  by_cases hv : e.var? = some v
  · have hil : s.isLive v = true := by simp [St.isLive, hl]
    rcases lost_of_held hil hv with h | rfl | rfl | rfl | rfl
    · exact Or.inr h
    · left; simp [St.apply, St.st, St.setv, getAt_setAt]
    · exact absurd rfl hne
    · right; simp [St.apply, hl]
    · left; simp only [St.apply, hl]
  · left; rw [st_apply_of_ne s e v hv]; exact hl

/-- a raw block stays raw (or the path is flagged) under any event except its own wipe -/
theorem raw_step {s : St} {v : Nat} (hl : s.st v = .raw) (e : Ev) (hne : e ≠ .wipe v) :
    (s.apply e).st v = .raw ∨ (s.apply e).lost = true := by
  by_cases hv : e.var? = some v
  · have hil : s.isLive v = true := by simp [St.isLive, hl]
    rcases lost_of_held hil hv with h | rfl | rfl | rfl | rfl
    · exact Or.inr h
    · right; simp [St.apply, hl]
    · right; simp [St.apply, hl]
    · right; simp [St.apply, hl]
    · exact absurd rfl hne
  · left; rw [st_apply_of_ne s e v hv]; exact hl

/-- a wiped raw block stays wiped (or the path is flagged) under any event except its own free -/
theorem wiped_step {s : St} {v : Nat} (hl : s.st v = .wiped) (e : Ev) (hne : e ≠ .free v) :
    (s.apply e).st v = .wiped ∨ (s.apply e).lost = true := by
  by_cases hv : e.var? = some v
  · have hil : s.isLive v = true := by simp [St.isLive, hl]
    rcases lost_of_held hil hv with h | rfl | rfl | rfl | rfl
    · exact Or.inr h
    · right; simp [St.apply, hl]
    · right; simp [St.apply, hl]
    · exact absurd rfl hne
    · left; simp only [St.apply, hl]
  · left; rw [st_apply_of_ne s e v hv]; exact hl

abbrev St.clean (s : St) : Prop := s.lost = false ∧ s.noLive = true

theorem not_clean_of_lost (t : List Ev) (s : St) (h : s.lost = true) : ¬ (t.foldl St.apply s).clean :=
  fun hF => by rw [St.clean, lost_fold t s h] at hF; cases hF.1

/-- **C15 path property**: every successful blobCreate/blobResize of `v` is followed, later on
the path, by `blobClose(v)`, with no `memFree(v)`/`free(v)` in between. -/
def ClosesAll (tr : List Ev) : Prop :=
  ∀ (i : Nat) (v : Nat), (tr[i]? = some (Ev.allocOk v) ∨ tr[i]? = some (Ev.resizeOk v)) →
    ∃ j : Nat, i < j ∧ tr[j]? = some (Ev.close v) ∧ ∀ k : Nat, i < k → k < j → tr[k]? ≠ some (Ev.free v)

theorem closesAll_of_fold (tr : List Ev) : ∀ s : St,
    (tr.foldl St.apply s).lost = false → (tr.foldl St.apply s).noLive = true → ClosesAll tr := by
  intro s hlost hn i v h
  obtain ⟨e, he, hl⟩ : ∃ e, tr[i]? = some e ∧ ∀ s : St, (s.apply e).st v = .live := by
    rcases h with h | h <;> exact ⟨_, h, fun s => by simp [St.apply, St.st, St.setv, getAt_setAt]⟩
  -- open until its close; a direct free of an open blob flags the path
  obtain ⟨j, hij, hj, -, hk⟩ :=
    until_after (H := (·.st v = .live)) (stop := .close v) (bad := (· = .free v)) (F := St.clean) not_clean_of_lost
      (fun _ e h he => live_step h e he) (fun s e h hb => by subst hb; simp [St.apply, h])
      (fun _ h hF => not_live_of_noLive hF.2 v h) he s (hl _) ⟨hlost, hn⟩
  exact ⟨j, hij, hj, fun k h0 hkj hke => (hk k _ h0 hkj hke).2 rfl⟩

/-! #### C15: raw blocks (memAlloc / malloc) are wiped before they are freed -/

/-- **C15 path property for raw blocks**: every successful memAlloc/malloc into `v` is followed, later
on the path, by `memFree(v)`/`free(v)`, and between the allocation and that (first) free there is a
`memWipe(v, size)` over the size the block was allocated with. -/
def WipesAll (tr : List Ev) : Prop :=
  ∀ (i : Nat) (v : Nat), tr[i]? = some (Ev.rawOk v) →
    ∃ w j : Nat, i < w ∧ w < j ∧ tr[w]? = some (Ev.wipe v) ∧ tr[j]? = some (Ev.free v) ∧
      ∀ k : Nat, i < k → k < j → tr[k]? ≠ some (Ev.free v)

theorem wipesAll_of_fold (tr : List Ev) : ∀ s : St,
    (tr.foldl St.apply s).lost = false → (tr.foldl St.apply s).noLive = true → WipesAll tr := by
  intro s hlost hn i v h
  -- raw until its wipe (a free of a raw block flags the path), then wiped until its free
  obtain ⟨w, hiw, hw, hraw, hk1⟩ :=
    until_after (H := (·.st v = .raw)) (stop := .wipe v) (bad := (· = .free v)) (F := St.clean) not_clean_of_lost
      (fun _ e h he => raw_step h e he) (fun s e h hb => by subst hb; simp [St.apply, h])
      (fun _ h hF => (not_held_of_noLive hF.2 v).2.1 h) h s
      (by simp [St.apply, St.st, St.setv, getAt_setAt]) ⟨hlost, hn⟩
  obtain ⟨j, hwj, hj, -, hk2⟩ :=
    until_after (H := (·.st v = .wiped)) (stop := .free v) (bad := fun _ => False) (F := St.clean) not_clean_of_lost
      (fun _ e h he => wiped_step h e he) (fun _ _ _ hb => hb.elim)
      (fun _ h hF => (not_held_of_noLive hF.2 v).2.2 h) hw s
      (by simp only [St.apply, hraw]; simp [St.st, St.setv, getAt_setAt]) ⟨hlost, hn⟩
  refine ⟨w, j, hiw, hwj, hw, hj, fun k h0 hkj hke => ?_⟩
  rcases Nat.lt_trichotomy k w with h1 | rfl | h1
  · exact (hk1 k _ h0 h1 hke).2 rfl
  · rw [hw] at hke; cases hke
  · exact (hk2 k _ h1 hkj hke).1 rfl

/-! #### C09: null blobs are not used -/

def IsNulling (v : Nat) (e : Ev) : Prop :=
  e = .allocFail v ∨ e = .resizeFail v ∨ e = .setnull v ∨ e = .rawFail v
def IsReassign (v : Nat) (e : Ev) : Prop :=
  e = .allocOk v ∨ e = .resizeOk v ∨ e = .setunk v ∨ e = .rawOk v

theorem null_step {s : St} {v : Nat} (hn : s.st v = .null) (e : Ev) (hne : ¬ IsReassign v e) :
    (s.apply e).st v = .null := by
  by_cases hv : e.var? = some v
  · cases e <;> simp only [Ev.var?, Option.some.injEq, reduceCtorEq] at hv <;> subst hv
    case allocOk => exact absurd (Or.inl rfl) hne
    case resizeOk => exact absurd (Or.inr (Or.inl rfl)) hne
    case setunk => exact absurd (Or.inr (Or.inr (Or.inl rfl))) hne
    case rawOk => exact absurd (Or.inr (Or.inr (Or.inr rfl))) hne
    case close | free | wipe => simp only [St.apply, hn]
    all_goals simp [St.apply, St.st, St.setv, getAt_setAt]
  · rw [st_apply_of_ne s e v hv]; exact hn

theorem null_pending (tr : List Ev) : ∀ (s : St) (v : Nat), s.st v = .null →
    (tr.foldl St.apply s).crash = false →
    ∀ j : Nat, tr[j]? = some (Ev.use v) → ∃ k : Nat, k < j ∧ ∃ e, tr[k]? = some e ∧ IsReassign v e := by
  induction tr with
  | nil => intro s v _ _ j h; simp at h
  | cons e t ih =>
    intro s v hn hc j hj
    cases j with
    | zero =>
      simp only [List.getElem?_cons_zero, Option.some.injEq] at hj
      subst hj
      exact absurd (by simp [St.apply, hn]) (flag_clear_at crash_fold (i := 0) rfl hc)
    | succ j =>
      by_cases hr : IsReassign v e
      · exact ⟨0, by omega, e, by simp, hr⟩
      · obtain ⟨k, hk, e', he', hr'⟩ := ih (s.apply e) v (null_step hn e hr) hc j (by simpa using hj)
        exact ⟨k + 1, by omega, e', by simpa using he', hr'⟩

/-- **C09 path property (no null dereference)**: between an allocation of `v` that failed (or
`v = 0`) and any later use of `v` the variable has been given a new value. -/
def NoNullUse (tr : List Ev) : Prop :=
  ∀ (i j v : Nat) (e : Ev), tr[i]? = some e → IsNulling v e → i < j → tr[j]? = some (Ev.use v) →
    ∃ k : Nat, i < k ∧ k < j ∧ ∃ e', tr[k]? = some e' ∧ IsReassign v e'

theorem noNullUse_of_fold (tr : List Ev) : ∀ s : St,
    (tr.foldl St.apply s).crash = false → NoNullUse tr := by
  intro s hc i j v e hi hnul hij hj
  have hn : ∀ s : St, (s.apply e).st v = .null := by
    intro s
    rcases hnul with rfl | rfl | rfl | rfl <;> simp [St.apply, St.st, St.setv, getAt_setAt]
  rw [foldl_split St.apply hi] at hc
  rw [getElem?_after tr hij] at hj
  obtain ⟨k, hk, e', he', hr⟩ := null_pending _ _ v (hn _) hc _ hj
  rw [List.getElem?_drop] at he'
  exact ⟨i + 1 + k, by omega, by omega, e', he', hr⟩

/-- the events by which an allocation fails -/
def IsAllocFailure (e : Ev) : Prop :=
  ∃ v, e = .allocFail v ∨ e = .resizeFail v ∨ e = .resizeKeep v ∨ e = .calleeFail v ∨ e = .rawFail v

theorem failed_of_mem (tr : List Ev) (s : St) (h : ∃ e ∈ tr, IsAllocFailure e) :
    (tr.foldl St.apply s).failed = true :=
  flag_of_mem (P := (·.failed = true))
    (fun s e he => by obtain ⟨v, rfl | rfl | rfl | rfl | rfl⟩ := he <;> simp [St.apply])
    (fun s e => (sticky_step s e).2.2.1) tr s h

/-! #### C09: outputs on error paths -/

theorem dirty_step {s : St} {d : Nat} (h1 : s.isDirty d = true) (e : Ev) (he : e ≠ .zero d) :
    (s.apply e).isDirty d = true := by
  cases e with
  | wr w => simp [St.apply, St.isDirty, getAt_setAt]; right; simpa [St.isDirty] using h1
  | zero w =>
    have hw : w ≠ d := fun h => he (by rw [h])
    simp [St.apply, St.isDirty, getAt_setAt, hw]; simpa [St.isDirty] using h1
  | close w | free w | wipe w =>
    simp only [St.apply]; split <;> simpa [St.isDirty, St.setv] using h1
  | _ => simpa [St.apply, St.isDirty, St.setv] using h1

/-- **C09 path property (no unauthenticated output)**: every write to output `d` is followed
by a zeroisation of `d` later on the path. -/
def CleanOutput (d : Nat) (tr : List Ev) : Prop :=
  ∀ i : Nat, tr[i]? = some (Ev.wr d) → ∃ j : Nat, i < j ∧ tr[j]? = some (Ev.zero d)

theorem cleanOutput_of_fold (d : Nat) (tr : List Ev) : ∀ s : St,
    (tr.foldl St.apply s).isDirty d = false → CleanOutput d tr := by
  intro s h i hi
  obtain ⟨j, hij, hj, -, -⟩ :=
    until_after (H := (·.isDirty d = true)) (F := (·.isDirty d = false)) (Dead := fun _ => False)
      (stop := .zero d) (bad := fun _ => False) (fun _ _ hd => hd.elim)
      (fun _ e h he => .inl (dirty_step h e he)) (fun _ _ _ hb => hb.elim)
      (fun s h hF => by rw [h] at hF; cases hF) hi s (by simp [St.apply, St.isDirty, getAt_setAt]) h
  exact ⟨j, hij, hj⟩

/-! #### C09: verification precedes the first write -/

theorem early_step {s : St} (d : Nat) (e : Ev) (h : s.isEarly d = true) : (s.apply e).isEarly d = true := by
  cases e <;> simp only [St.apply]
  case close | free | wipe => split <;> simpa [St.isEarly, St.setv] using h
  case wr w =>
    simp only [St.isEarly]
    split
    · simpa [St.isEarly] using h
    · simp only [getAt_setAt]; split
      · rfl
      · simpa [St.isEarly] using h
  all_goals simpa [St.isEarly, St.setv] using h

theorem early_fold (d : Nat) (tr : List Ev) : ∀ s : St, s.isEarly d = true →
    (tr.foldl St.apply s).isEarly d = true :=
  fold_sticky (·.isEarly d = true) (fun _ e => early_step d e) tr

/-- The authentication automaton read off the bare trace (no monitor state): after a verification
call the state is `pending`; it becomes `passed`/`failed` when the result of THAT call is tested — at
once (`vres`) or, if the call assigned `code`, by the next test of `code` (`test`) provided `code` was
not assigned in between (an assignment loses the result: `failed`). -/
structure VA where
  st : VSt := .none
  codeV : Bool := false

def VA.step (a : VA) : Ev → VA
  | .vcall toCode => ⟨.pending, toCode⟩
  | .vres okv => ⟨if !a.codeV && a.st == .pending then (if okv then .passed else .failed) else a.st, a.codeV⟩
  | .test c => ⟨if a.codeV && a.st == .pending then (if c = .ok then .passed else .failed) else a.st, a.codeV⟩
  | .code _ => ⟨if a.codeV && a.st == .pending then .failed else a.st, false⟩
  | _ => a

def vstate (tr : List Ev) : VSt := (tr.foldl VA.step {}).st

def St.va (s : St) : VA := ⟨s.vst, s.codeV⟩

theorem va_apply (s : St) (e : Ev) : (s.apply e).va = s.va.step e := by
  cases e <;> simp only [St.apply, St.va, VA.step]
  case close | free | wipe => split <;> rfl
  all_goals rfl

theorem va_fold (tr : List Ev) : ∀ s : St, (tr.foldl St.apply s).va = tr.foldl VA.step s.va := by
  induction tr with
  | nil => intro s; rfl
  | cons e t ih => intro s; simp only [List.foldl_cons]; rw [ih, va_apply]

/-- **C09 path property (verify before release, result tested)**: if the path calls a verification
routine at all, then at every write to output `d` the authentication automaton is in state
`passed`: a verification call precedes the write, its result has been tested, the test said
success, and no later verification call is pending or failed. -/
def VerifyFirst (d : Nat) (tr : List Ev) : Prop :=
  (∃ b, Ev.vcall b ∈ tr) → ∀ pre post, tr = pre ++ Ev.wr d :: post → vstate pre = .passed

theorem early_of_write {s : St} (d : Nat) (h : s.vst ≠ .passed) : (s.apply (.wr d)).isEarly d = true := by
  simp [St.apply, St.isEarly, h, getAt_setAt]

theorem written_passed (d : Nat) (pre post : List Ev) (s : St)
    (he : ((pre ++ Ev.wr d :: post).foldl St.apply s).isEarly d = false) :
    (pre.foldl St.apply s).vst = .passed := by
  have := flag_clear_at (flag := (·.isEarly d)) (early_fold d) (i := pre.length) (e := .wr d) (by simp) he
  rw [List.take_left' rfl] at this
  exact Classical.not_not.mp fun hp => this (early_of_write d hp)

theorem vst_ne_none_step {s : St} (e : Ev) (h : s.vst ≠ .none) : (s.apply e).vst ≠ .none := by
  cases e <;> simp only [St.apply]
  case close | free | wipe => split <;> simpa [St.setv] using h
  case code c => split <;> simp_all
  case test c =>
    split
    · split <;> simp
    · exact h
  case vcall b => simp
  case vres b =>
    split
    · split <;> simp
    · exact h
  all_goals simpa [St.setv] using h

theorem vst_of_mem (tr : List Ev) (s : St) (h : ∃ b, Ev.vcall b ∈ tr) :
    (tr.foldl St.apply s).vst ≠ .none := by
  obtain ⟨b, hb⟩ := h
  exact flag_of_mem (P := (·.vst ≠ .none)) (K := (· = .vcall b)) (fun s e he => by subst he; simp [St.apply])
    (fun _ e => vst_ne_none_step e) tr s ⟨_, hb, rfl⟩

theorem verifyFirst_of_fold (d : Nat) (tr : List Ev)
    (h : (tr.foldl St.apply St.init).vst = .none ∨ (tr.foldl St.apply St.init).isEarly d = false) :
    VerifyFirst d tr := by
  intro hv pre post htr
  rcases h with h | h
  · exact absurd h (vst_of_mem tr St.init hv)
  · subst htr
    have := written_passed d pre post St.init h
    have hva := va_fold pre St.init
    unfold vstate
    have : (pre.foldl St.apply St.init).va.st = .passed := this
    rw [hva] at this
    exact this

/-! #### C09: a recorded error is never overwritten, nothing is written after it -/

def IsErrMark (e : Ev) : Prop := e = .code .bad ∨ e = .test .bad
def IsAfterErrBad (e : Ev) : Prop :=
  e = .code .ok ∨ e = .code .unk ∨ e = .vcall true ∨ ∃ d, e = .wr d

theorem flagged_of_bad {s : St} (e : Ev) (hs : s.errSeen = true) (hb : IsAfterErrBad e) :
    (s.apply e).reset = true ∨ (s.apply e).late = true := by
  rcases hb with rfl | rfl | rfl | ⟨d, rfl⟩
  · left; simp [St.apply, hs]
  · left; simp [St.apply, hs]
  · left; simp [St.apply, hs]
  · right; simp [St.apply, hs]

/-- **C09 path property (error monotonicity)**: after `code` has been assigned an error constant or has been
tested to differ from ERR_OK, the path never assigns ERR_OK or a fresh (call) value to `code`, and never
writes an output (zeroisation / wiping excepted). -/
def ErrorSticky (tr : List Ev) : Prop :=
  ∀ (i j : Nat) (e e' : Ev), i < j → tr[i]? = some e → IsErrMark e → tr[j]? = some e' → ¬ IsAfterErrBad e'

theorem errorSticky_of_fold (tr : List Ev) : ∀ s : St,
    (tr.foldl St.apply s).reset = false → (tr.foldl St.apply s).late = false → ErrorSticky tr := by
  intro s hr hl i j e e' hij hi hm hj hb
  -- the state in which `e'` comes has seen the mark `e`
  have hs : ((tr.take j).foldl St.apply s).errSeen = true := by
    rw [foldl_split St.apply (l := tr.take j) (by rw [List.getElem?_take_of_lt hij]; exact hi)]
    exact errSeen_fold _ _ (by rcases hm with rfl | rfl <;> simp [St.apply])
  rcases flagged_of_bad e' hs hb with h | h
  · exact flag_clear_at reset_fold hj hr h
  · exact flag_clear_at late_fold hj hl h

/-! #### the events of a path are events of the skeleton -/

theorem exec_events {c : Cfg} {s s' : St} {tr : List Ev} {o : Out} (hx : Exec c s tr s' o) :
    ∀ e ∈ tr, e ∈ c.events ∨ ∃ x, e = .test x := by
  induction hx with
  | skip | brk | cont | ret => intro e he; simp at he
  | atom hm => intro e he; simp only [List.mem_singleton] at he; subst he; exact Or.inl (by simpa [Cfg.events] using hm)
  | seqN _ _ ih1 ih2 =>
    intro e he
    rcases List.mem_append.mp he with h | h
    · exact (ih1 e h).imp_left fun h => by simp [Cfg.events, h]
    · exact (ih2 e h).imp_left fun h => by simp [Cfg.events, h]
  | seqX _ _ ih | iteT _ ih | ifnullT _ _ ih | iteF _ ih | ifnullF _ _ ih =>
    intro e he
    exact (ih e he).imp_left fun h => by simp [Cfg.events, h]
  | ifcodeT _ _ ih | ifcodeF _ _ ih =>
    intro e he
    rcases List.mem_cons.mp he with rfl | h
    · exact Or.inr ⟨_, rfl⟩
    · exact (ih e h).imp_left fun h => by simp [Cfg.events, h]
  | loopStop => intro e he; simp at he
  | loopStep _ _ _ ih1 ih2 =>
    intro e he
    rcases List.mem_append.mp he with h | h
    · exact (ih1 e h).imp_left fun h => by simpa [Cfg.events] using h
    · exact ih2 e h
  | loopBrk _ ih | loopRet _ ih | blk _ ih =>
    intro e he
    exact (ih e he).imp_left fun h => by simpa [Cfg.events] using h

end Bee2V.C15
