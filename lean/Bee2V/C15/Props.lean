/-
C15 — secret state is wiped before its memory is released.

Property theorems (the per-function obligations `allPathsClose cfg_f = true` on the skeletons
regenerated from the sources are in `Bee2V/Gen/C15Obl.lean`, one `decide` each):

* `allPathsClose_sound` — the checker is sound for the path semantics: on EVERY path of the
  skeleton (any number of loop passes, any outcome of the opaque conditions) every successful
  blobCreate/blobResize is followed by blobClose of the same variable before the return, with
  no memFree/free of it in between.
* `memWipe_overwrites`, `memWipe_frame` — the model of memWipe writes every octet of the range
  (the result inside the range does not depend on what was there) and nothing else.
* `blobClose_releases_wiped`, `blobClose_covers_allocation` — the block handed to memFree by
  blobClose has been overwritten over its whole actual size, size header included.
* `blobResize_releases_unwiped` — blobResize, when the block moves, hands the OLD block to the
  allocator as it is (hazard; see docs/C15.md: no secret-bearing blob is resized in bee2).
-/
import Bee2V.C15.Trace
import Bee2V.C15.BlobLemmas
namespace Bee2V.C15
open Blob

/-- **Soundness of `allPathsClose`.** -/
theorem allPathsClose_sound (c : Cfg) (h : allPathsClose c = true) :
    ∀ (tr : List Ev) (s' : St) (r : CS), Exec c St.init tr s' (.ret r) → ClosesAll tr ∧ WipesAll tr := by
  intro tr s' r hx
  have hp := rets_all h hx
  simp only [Bool.and_eq_true, Bool.not_eq_true'] at hp
  exact ⟨closesAll_of_fold tr St.init hp.1 hp.2, wipesAll_of_fold tr St.init hp.1 hp.2⟩

/-- non-vacuity: the skeleton `state = blobCreate(); if (state == 0) return ERR; use; blobClose; return OK`
has a path with trace `[allocOk 0, use 0, close 0]`, passes the checker, and the variant that
forgets the close on the error exit of a later check does not. -/
example : Exec (Cfg.seqs [.alloc 0, .ifnull 0 (.ret (.err 110)) .skip, .atom [.use 0], .atom [.close 0], .ret .ok])
    St.init [.allocOk 0, .use 0, .close 0] ((((St.init.apply (.allocOk 0)).apply (.use 0))).apply (.close 0)) (.ret .ok) := by
  have h1 : Exec (Cfg.alloc 0) St.init [.allocOk 0] (St.init.apply (.allocOk 0)) .norm := Exec.atom (by simp)
  have h2 : Exec (.ifnull 0 (.ret (.err 110)) .skip) (St.init.apply (.allocOk 0)) [] (St.init.apply (.allocOk 0)) .norm :=
    Exec.ifnullF (by decide) Exec.skip
  have h3 : Exec (.atom [.use 0]) (St.init.apply (.allocOk 0)) [.use 0] ((St.init.apply (.allocOk 0)).apply (.use 0)) .norm :=
    Exec.atom (by simp)
  have h4 := @Exec.atom ((St.init.apply (.allocOk 0)).apply (.use 0)) [.close 0] (.close 0) (by simp)
  have h5 := @Exec.ret (((St.init.apply (.allocOk 0)).apply (.use 0)).apply (.close 0)) .ok
  exact Exec.seqN h1 (Exec.seqN h2 (Exec.seqN h3 (Exec.seqN h4 h5)))
example : allPathsClose (Cfg.seqs [.alloc 0, .ifnull 0 (.ret (.err 110)) .skip, .atom [.use 0], .atom [.close 0], .ret .ok]) = true := by decide
example : allPathsClose (Cfg.seqs [.alloc 0, .ifnull 0 (.ret (.err 110)) .skip, .ite 0 (.ret (.err 109)) .skip, .atom [.close 0], .ret .ok]) = false := by decide
example : allPathsClose (Cfg.seqs [.alloc 0, .ifnull 0 (.ret (.err 110)) .skip, .atom [.free 0], .ret .ok]) = false := by decide
/-- raw block (memAlloc): wipe then free on every exit / one exit frees without the wipe / wipe only -/
example : allPathsClose (Cfg.seqs [.atom [.rawOk 0, .rawFail 0], .ifnull 0 (.ret (.err 110)) .skip,
    .ite 0 (Cfg.seqs [.atom [.wipe 0], .atom [.free 0], .ret (.err 521)]) .skip, .atom [.wipe 0], .atom [.free 0], .ret .ok]) = true := by decide
example : allPathsClose (Cfg.seqs [.atom [.rawOk 0, .rawFail 0], .ifnull 0 (.ret (.err 110)) .skip,
    .ite 0 (Cfg.seqs [.atom [.free 0], .ret .code]) .skip, .atom [.wipe 0], .atom [.free 0], .ret .ok]) = false := by decide
example : allPathsClose (Cfg.seqs [.atom [.rawOk 0, .rawFail 0], .ifnull 0 (.ret (.err 110)) .skip, .atom [.wipe 0], .ret .ok]) = false := by decide

/-- `memWipe` overwrites: inside `[p, p+n)` the memory after the wipe does not depend on the
memory before it (for every start value of the hidden counter). -/
theorem memWipe_overwrites (m m' : Mem) (p n ctr a : Nat) (h1 : p ≤ a) (h2 : a < p + n) :
    memWipe m p n ctr a = memWipe m' p n ctr a :=
  wipeLoop_inside n p ctr m m' a h1 h2

/-- … and writes nothing outside the range. -/
theorem memWipe_frame (m : Mem) (p n ctr a : Nat) (h : a < p ∨ p + n ≤ a) :
    memWipe m p n ctr a = m a :=
  wipeLoop_outside n p ctr m a h

example : memWipe (fun _ => 0xAA) 16 4 0 17 = 18 := by decide   -- second octet: 0 + 17 + (17 % 16)

/-- What `blobClose` hands to the allocator is a function of the address, the recorded size and
the wipe counter only: two heaps that differ arbitrarily in the contents of the blob (but agree
on its size header) release identical blocks. -/
theorem blobClose_releases_wiped (P : Nat) (h h' : Heap) (blob ctr : Nat) (hb : blob ≠ 0)
    (hsz : readLE h.mem (blob - 8) 8 = readLE h'.mem (blob - 8) 8) :
    (blobClose P h blob ctr).released.head? = (blobClose P h' blob ctr).released.head? := by
  simp only [blobClose, hb, if_false, hsz, List.head?_cons, Option.some.injEq, Prod.mk.injEq, true_and]
  apply snapshot_congr
  intro a h1 h2
  exact wipeLoop_inside _ _ _ _ _ a h1 h2

/-- The released (wiped) block is the whole allocation: its length is `blobActualSize(size)`,
which covers the 8-octet header and the `size` octets of the blob. -/
theorem blobClose_covers_allocation (P : Nat) (hP : 0 < P) (h : Heap) (blob ctr : Nat) (hb : blob ≠ 0) :
    ∃ blk, (blobClose P h blob ctr).released.head? = some (blob - 8, blk) ∧
      blk.length = actualSize P (readLE h.mem (blob - 8) 8) ∧
      readLE h.mem (blob - 8) 8 + 8 ≤ blk.length := by
  refine ⟨snapshot (memWipe h.mem (blob - 8) (actualSize P (readLE h.mem (blob - 8) 8)) ctr) (blob - 8)
      (actualSize P (readLE h.mem (blob - 8) 8)),
    by simp only [blobClose, hb, if_false, List.head?_cons], snapshot_length _ _ _, ?_⟩
  rw [snapshot_length]
  simp only [actualSize]
  generalize readLE h.mem (blob - 8) 8 = sz
  have h1 := Nat.div_add_mod (sz + 8 + P - 1) P
  have h2 := Nat.mod_lt (sz + 8 + P - 1) hP
  rw [Nat.mul_comm] at h1
  omega

/-- Hazard recorded by the model: when `blobResize` has to move the block, the old block is
released with its contents intact (every octet of the snapshot is the old memory). -/
theorem blobResize_releases_unwiped (P : Nat) (h : Heap) (blob size q i : Nat)
    (hi : i < actualSize P (readLE h.mem (blob - 8) 8)) :
    ∃ blk, (blobResizeMove P h blob size q).released.head? = some (blob - 8, blk) ∧
      blk[i]? = some (h.mem (blob - 8 + i)) :=
  ⟨_, rfl, snapshot_get _ _ _ i hi⟩

end Bee2V.C15
