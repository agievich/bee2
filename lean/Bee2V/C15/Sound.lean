/-
Soundness of the reachability analysis of `Bee2V.C15.Cfg` w.r.t. the path semantics `Exec`,
and the meaning of the monitor state in terms of the event trace alone.
-/
import Bee2V.C15.Cfg
namespace Bee2V.C15

/-! ### finite sets as lists -/

theorem mem_foldr_insert {α} [∀ (y : α) (l : List α), Decidable (y ∈ l)] {a b : List α} {x : α} :
    x ∈ a.foldr (fun y acc => if y ∈ acc then acc else y :: acc) b ↔ x ∈ a ∨ x ∈ b := by
  induction a with
  | nil => simp
  | cons y a ih =>
    rw [List.foldr_cons, List.mem_cons, or_assoc, ← ih]
    split
    · exact (or_iff_right_of_imp (by rintro rfl; assumption)).symm
    · exact List.mem_cons

theorem mem_uni {a b : List St} {x : St} : x ∈ uni a b ↔ x ∈ a ∨ x ∈ b := mem_foldr_insert

theorem mem_uniR {a b : List (St × CS)} {x : St × CS} : x ∈ uniR a b ↔ x ∈ a ∨ x ∈ b :=
  mem_foldr_insert

theorem subset_sound {a b : List St} (h : subset a b = true) : ∀ x ∈ a, x ∈ b := by
  intro x hx
  have := List.all_eq_true.mp h x hx
  simpa using this

/-- outcome `o` in state `s` is covered by the analysis result -/
def Res.has (r : Res) (s : St) : Out → Prop
  | .norm => s ∈ r.norm
  | .brk => s ∈ r.brk
  | .cont => s ∈ r.cont
  | .ret c => (s, c) ∈ r.rets

theorem Res.has_join {a b : Res} {k : Bool} {s : St} {o : Out} (h : a.has s o ∨ b.has s o) :
    Res.has { norm := uni a.norm b.norm, brk := uni a.brk b.brk, cont := uni a.cont b.cont,
              rets := uniR a.rets b.rets, ok := k } s o := by
  cases o <;> simp only [Res.has, mem_uni, mem_uniR] <;> exact h

theorem iter_fix (f : List St → Res) {F : List St} (hs : subset (uni (f F).norm (f F).cont) F = true)
    (m : Nat) : iter f m F = some F := by
  cases m <;> simp [iter, hs]

theorem iter_spec (f : List St → Res) : ∀ (n : Nat) (S F : List St), iter f n S = some F →
    (∀ x ∈ S, x ∈ F) ∧ subset (uni (f F).norm (f F).cont) F = true ∧ ∀ m, iter f m F = some F := by
  intro n
  induction n with
  | zero =>
    intro S F h
    unfold iter at h
    split at h
    · rename_i hs
      cases h
      exact ⟨fun _ hx => hx, hs, iter_fix f hs⟩
    · cases h
  | succ n ih =>
    intro S F h
    unfold iter at h
    split at h
    · rename_i hs
      cases h
      exact ⟨fun _ hx => hx, hs, iter_fix f hs⟩
    · obtain ⟨h1, h2, h3⟩ := ih _ F h
      exact ⟨fun x hx => h1 x (mem_uni.mpr (Or.inr hx)), h2, h3⟩

theorem reach_loop_eq (b : Cfg) (S F : List St) (h : iter (reach b) loopFuel S = some F) :
    reach (.loop b) S = reach (.loop b) F := by
  have h3 := (iter_spec (reach b) loopFuel S F h).2.2 loopFuel
  simp only [reach, h, h3]

theorem reach_loop_ok {b : Cfg} {S : List St} (hok : (reach (.loop b) S).ok = true) :
    ∃ F, (∀ x ∈ S, x ∈ F) ∧ (∀ x ∈ uni (reach b F).norm (reach b F).cont, x ∈ F) ∧ (reach b F).ok = true ∧
      reach (.loop b) S = { norm := uni F (reach b F).brk, rets := (reach b F).rets, ok := (reach b F).ok } ∧
      reach (.loop b) F = reach (.loop b) S := by
  cases hit : iter (reach b) loopFuel S with
  | none => simp [reach, hit] at hok
  | some F =>
    have hsp := iter_spec (reach b) loopFuel S F hit
    exact ⟨F, hsp.1, subset_sound hsp.2.1, by simpa [reach, hit] using hok, by simp only [reach, hit],
      (reach_loop_eq b S F hit).symm⟩

/-- **Soundness of `reach`.**  Every execution from a state of `S` ends in an outcome that
the analysis of `S` lists (provided the analysis did not run out of fuel). -/
theorem reach_sound {c : Cfg} {s s' : St} {tr : List Ev} {o : Out} (hx : Exec c s tr s' o) :
    ∀ S, (reach c S).ok = true → s ∈ S → (reach c S).has s' o := by
  induction hx with
  | skip => intro S _ hs; simpa [reach, Res.has] using hs
  | brk => intro S _ hs; simpa [reach, Res.has] using hs
  | cont => intro S _ hs; simpa [reach, Res.has] using hs
  | @ret s r =>
    intro S _ hs
    simp only [reach, Res.has]
    exact mem_uniR.mpr (Or.inl (List.mem_map.mpr ⟨s, hs, rfl⟩))
  | @atom s es e he =>
    intro S _ hs
    simp only [reach, Res.has]
    exact mem_uni.mpr (Or.inl (List.mem_flatMap.mpr ⟨s, hs, List.mem_map.mpr ⟨e, he, rfl⟩⟩))
  | @seqN a b s t1 s1 t2 s2 o _ _ ih1 ih2 =>
    intro S hok hs
    simp only [reach, Bool.and_eq_true] at hok
    have h1 := ih1 S hok.1 hs
    have h2 := ih2 _ hok.2 h1
    cases o <;> simp only [reach, Res.has] at h2 ⊢
    · exact h2
    · exact mem_uni.mpr (Or.inr h2)
    · exact mem_uni.mpr (Or.inr h2)
    · exact mem_uniR.mpr (Or.inr h2)
  | @seqX a b s t1 s1 o _ hne ih =>
    intro S hok hs
    simp only [reach, Bool.and_eq_true] at hok
    have h1 := ih S hok.1 hs
    cases o <;> simp only [reach, Res.has] at h1 ⊢
    · exact absurd rfl hne
    · exact mem_uni.mpr (Or.inl h1)
    · exact mem_uni.mpr (Or.inl h1)
    · exact mem_uniR.mpr (Or.inl h1)
  | @iteT c t e s tr s' o _ ih =>
    intro S hok hs
    simp only [reach, Bool.and_eq_true] at hok
    exact Res.has_join (Or.inl (ih S hok.1 hs))
  | @iteF c t e s tr s' o _ ih =>
    intro S hok hs
    simp only [reach, Bool.and_eq_true] at hok
    exact Res.has_join (Or.inr (ih S hok.2 hs))
  | @ifnullT v t e s tr s' o hl _ ih =>
    intro S hok hs
    simp only [reach, Bool.and_eq_true] at hok
    have hm : s ∈ S.filter (fun s => !(s.st v).nonNull) := by
      simp [List.mem_filter, hs, hl]
    exact Res.has_join (Or.inl (ih _ hok.1 hm))
  | @ifnullF v t e s tr s' o hn _ ih =>
    intro S hok hs
    simp only [reach, Bool.and_eq_true] at hok
    have hm : s ∈ S.filter (fun s => s.st v != .null) := by
      simp [List.mem_filter, hs, hn]
    exact Res.has_join (Or.inr (ih _ hok.2 hm))
  | @ifcodeT t e s tr s' o hc _ ih =>
    intro S hok hs
    simp only [reach, Bool.and_eq_true] at hok
    have hm : s.apply (.test .bad) ∈
        uni ((S.filter fun s => s.code != .ok).map fun s => s.apply (.test .bad)) [] := by
      refine mem_uni.mpr (Or.inl (List.mem_map.mpr ⟨s, ?_, rfl⟩))
      simp [List.mem_filter, hs, hc]
    exact Res.has_join (Or.inl (ih _ hok.1 hm))
  | @ifcodeF t e s tr s' o hc _ ih =>
    intro S hok hs
    simp only [reach, Bool.and_eq_true] at hok
    have hm : s.apply (.test .ok) ∈
        uni ((S.filter fun s => s.code != .bad).map fun s => s.apply (.test .ok)) [] := by
      refine mem_uni.mpr (Or.inl (List.mem_map.mpr ⟨s, ?_, rfl⟩))
      simp [List.mem_filter, hs, hc]
    exact Res.has_join (Or.inr (ih _ hok.2 hm))
  | @loopStop b s =>
    intro S hok hs
    obtain ⟨F, hS, -, -, heq, -⟩ := reach_loop_ok hok
    rw [heq]
    exact mem_uni.mpr (Or.inl (hS s hs))
  | @loopStep b s t1 s1 o1 t2 s2 o _ ho1 _ ih1 ih2 =>
    intro S hok hs
    obtain ⟨F, hS, hF, hokF, -, heqF⟩ := reach_loop_ok hok
    have h1 := ih1 F hokF (hS s hs)
    have hs1 : s1 ∈ F := by
      apply hF
      rcases ho1 with rfl | rfl
      · exact mem_uni.mpr (Or.inl h1)
      · exact mem_uni.mpr (Or.inr h1)
    rw [← heqF]
    exact ih2 F (heqF ▸ hok) hs1
  | @loopBrk b s t1 s1 _ ih =>
    intro S hok hs
    obtain ⟨F, hS, -, hokF, heq, -⟩ := reach_loop_ok hok
    rw [heq]
    exact mem_uni.mpr (Or.inr (ih F hokF (hS s hs)))
  | @loopRet b s t1 s1 r _ ih =>
    intro S hok hs
    obtain ⟨F, hS, -, hokF, heq, -⟩ := reach_loop_ok hok
    rw [heq]
    exact ih F hokF (hS s hs)
  | @blk b s tr s' o _ ih =>
    intro S hok hs
    have hokb : (reach b S).ok = true := by simpa [reach] using hok
    have h1 := ih S hokb hs
    cases o <;> simp only [reach, Res.has] at h1 ⊢
    · exact mem_uni.mpr (Or.inl h1)
    · exact h1
    · simp only [if_true]; exact mem_uni.mpr (Or.inr h1)
    · exact h1

/-- the monitor state at the end of an execution is the fold of `apply` over its trace -/
theorem exec_fold {c : Cfg} {s s' : St} {tr : List Ev} {o : Out} (hx : Exec c s tr s' o) :
    s' = tr.foldl St.apply s := by
  induction hx with
  | skip | brk | cont | ret => rfl
  | atom _ => rfl
  | seqN _ _ ih1 ih2 => rw [List.foldl_append, ← ih1, ← ih2]
  | seqX _ _ ih => exact ih
  | iteT _ ih | iteF _ ih => exact ih
  | ifnullT _ _ ih => exact ih
  | ifnullF _ _ ih => exact ih
  | ifcodeT _ _ ih | ifcodeF _ _ ih => simpa [List.foldl_cons] using ih
  | loopStop => rfl
  | loopStep _ _ _ ih1 ih2 => rw [List.foldl_append, ← ih1, ← ih2]
  | loopBrk _ ih | loopRet _ ih => exact ih
  | blk _ ih => exact ih

/-- The checkers have the form `r.ok && r.rets.all P` with `r = reach c [St.init]`: if the reachability computation
succeeded, `P` holds of the final state of every returning path (the fold of its trace) and its result. -/
theorem rets_all {c : Cfg} {P : St × CS → Bool}
    (h : ((reach c [St.init]).ok && (reach c [St.init]).rets.all P) = true)
    {tr : List Ev} {s' : St} {r : CS} (hx : Exec c St.init tr s' (.ret r)) :
    P (tr.foldl St.apply St.init, r) = true := by
  simp only [Bool.and_eq_true, List.all_eq_true] at h
  have hm := reach_sound hx [St.init] h.1 (List.mem_singleton.2 rfl)
  rw [exec_fold hx] at hm
  exact h.2 _ hm

end Bee2V.C15
