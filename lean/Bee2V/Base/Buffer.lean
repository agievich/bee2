/-
Absorbing octets through a block buffer.  After any sequence of calls the state is a function of the concatenated
input `Z`: `f` folded over the first `nb |Z|` blocks of `B` octets (`chain`), the rest of `Z` pending.  `nb` is the
buffering rule: `n / B` when a completed block is consumed at once, `(n - 1) / B` when the last block is held back
(belt-MAC).  `absorb_append` uses two arithmetic facts about `nb` only.
-/
namespace Bee2V.Buffer
variable {σ : Type} (f : σ → List UInt8 → σ) (B : Nat)

def chain : Nat → σ → List UInt8 → σ
  | 0, s, _ => s
  | n + 1, s, X => chain n (f s (X.take B)) (X.drop B)

theorem chain_append_of_le : ∀ (n : Nat) (s : σ) (X Y : List UInt8), B * n ≤ X.length →
    chain f B n s (X ++ Y) = chain f B n s X
  | 0, _, _, _, _ => rfl
  | n + 1, s, X, Y, h => by
    rw [Nat.mul_succ] at h
    rw [chain, chain, List.take_append_of_le_length (by omega), List.drop_append_of_le_length (by omega)]
    exact chain_append_of_le n _ _ _ (by rw [List.length_drop]; omega)

theorem chain_add : ∀ (n m : Nat) (s : σ) (X : List UInt8),
    chain f B (n + m) s X = chain f B m (chain f B n s X) (X.drop (B * n))
  | 0, m, s, X => by rw [Nat.zero_add, Nat.mul_zero, List.drop_zero]; rfl
  | n + 1, m, s, X => by
    rw [Nat.add_right_comm, chain, chain_add n, chain, List.drop_drop, Nat.mul_succ, Nat.add_comm B]

def absorb (nb : Nat → Nat) (sp : σ × List UInt8) (buf : List UInt8) : σ × List UInt8 :=
  (chain f B (nb (sp.2 ++ buf).length) sp.1 (sp.2 ++ buf), (sp.2 ++ buf).drop (B * nb (sp.2 ++ buf).length))

variable {f B} {nb : Nat → Nat}

/-- `hle`: the blocks the first call consumes are consumed by the joint one; `hadd`: the second call consumes what
the joint one consumes beyond them -/
theorem absorb_append (hle : ∀ n, B * nb n ≤ n) (hadd : ∀ n m, nb (n + m) = nb n + nb (n - B * nb n + m))
    (sp : σ × List UInt8) (a b : List UInt8) :
    absorb f B nb sp (a ++ b) = absorb f B nb (absorb f B nb sp a) b := by
  have hl := hle (sp.2 ++ a).length
  have hk : nb (sp.2 ++ (a ++ b)).length =
      nb (sp.2 ++ a).length + nb ((sp.2 ++ a).drop (B * nb (sp.2 ++ a).length) ++ b).length := by
    rw [← List.append_assoc, List.length_append, hadd, List.length_append (bs := b), List.length_drop]
  simp only [absorb]
  rw [hk, chain_add, ← List.append_assoc, chain_append_of_le f B _ _ _ _ hl, List.drop_append_of_le_length hl,
    Nat.mul_add, ← List.drop_drop, List.drop_append_of_le_length hl]

theorem absorb_nil (sp : σ × List UInt8) (h : nb sp.2.length = 0) : absorb f B nb sp [] = sp := by
  simp only [absorb, List.append_nil, h, chain, Nat.mul_zero, List.drop_zero]

theorem absorb_pend_length (sp : σ × List UInt8) (buf : List UInt8) :
    (absorb f B (· / B) sp buf).2.length = (sp.2.length + buf.length) % B := by
  simp only [absorb, List.length_drop, List.length_append, Nat.mod_def]

end Bee2V.Buffer
