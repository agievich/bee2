/-
Trace and half-trace sums in a commutative ring with `x + x = 0`, built by recursion as the loops of gf2Tr / gf2QSolve build
them.  Used at GF(2)[x]/(f) on Nat codes (C05) and at an abstract field (C16).  The one module of `Base` that imports Mathlib:
nothing Mathlib-free may import it.
-/
import Mathlib.Algebra.Ring.Defs
import Mathlib.Algebra.Group.Basic
import Mathlib.Tactic.Ring
import Mathlib.Tactic.LinearCombination
namespace Bee2V.Char2
variable {S : Type} [CommRing S]

/-- `Σ_{i<k} a^(2^i)` -/
def trSum (a : S) : Nat → S
  | 0 => 0
  | k + 1 => trSum a k + a ^ 2 ^ k

/-- `Σ_{i<k} t^(4^i)` -/
def htrSum (t : S) : Nat → S
  | 0 => 0
  | k + 1 => htrSum t k + t ^ 2 ^ (2 * k)

theorem pow_two_pow_succ (x : S) (k : Nat) : x ^ 2 ^ (k + 1) = (x ^ 2 ^ k) ^ 2 := by
  rw [pow_succ, pow_mul]

section
variable (h2 : ∀ x : S, x + x = 0)
include h2

theorem add_sq (x y : S) : (x + y) ^ 2 = x ^ 2 + y ^ 2 := by
  linear_combination h2 (x * y)

theorem add_pow_two_pow (x y : S) (k : Nat) : (x + y) ^ 2 ^ k = x ^ 2 ^ k + y ^ 2 ^ k := by
  induction k with
  | zero => simp
  | succ k ih => rw [pow_two_pow_succ, ih, add_sq h2, ← pow_two_pow_succ, ← pow_two_pow_succ]

theorem trSum_sq_add (a : S) (j : Nat) : (trSum a j) ^ 2 + a = trSum a (j + 1) := by
  induction j with
  | zero => simp [trSum]
  | succ j ih =>
    have e : trSum a (j + 1 + 1) = trSum a (j + 1) + a ^ 2 ^ (j + 1) := rfl
    have e2 : trSum a (j + 1) = trSum a j + a ^ 2 ^ j := rfl
    rw [e]
    calc (trSum a (j + 1)) ^ 2 + a = (trSum a j + a ^ 2 ^ j) ^ 2 + a := by rw [e2]
      _ = ((trSum a j) ^ 2 + a) + a ^ 2 ^ (j + 1) := by rw [add_sq h2, pow_two_pow_succ]; ring
      _ = trSum a (j + 1) + a ^ 2 ^ (j + 1) := by rw [ih]

theorem trSum_add (a b : S) (k : Nat) : trSum (a + b) k = trSum a k + trSum b k := by
  induction k with
  | zero => simp [trSum]
  | succ k ih => simp only [trSum, ih, add_pow_two_pow h2]; ring

theorem trSum_sq (a : S) (k : Nat) : trSum (a ^ 2) k = (trSum a k) ^ 2 := by
  induction k with
  | zero => simp [trSum]
  | succ k ih =>
    simp only [trSum, ih, add_sq h2]
    rw [← pow_mul, ← pow_mul, Nat.mul_comm]

theorem trSum_idem {m : Nat} {a : S} (hf : a ^ 2 ^ m = a) : (trSum a m) ^ 2 = trSum a m := by
  have h1 := trSum_sq_add h2 a m
  have e : trSum a (m + 1) = trSum a m + a ^ 2 ^ m := rfl
  rw [e, hf] at h1
  linear_combination h1

theorem htrSum_pow4_add (t : S) (j : Nat) : ((htrSum t j) ^ 2) ^ 2 + t = htrSum t (j + 1) := by
  induction j with
  | zero => simp [htrSum]
  | succ j ih =>
    have e : htrSum t (j + 1 + 1) = htrSum t (j + 1) + t ^ 2 ^ (2 * (j + 1)) := rfl
    have e2 : htrSum t (j + 1) = htrSum t j + t ^ 2 ^ (2 * j) := rfl
    rw [e]
    calc ((htrSum t (j + 1)) ^ 2) ^ 2 + t = ((htrSum t j + t ^ 2 ^ (2 * j)) ^ 2) ^ 2 + t := by rw [e2]
      _ = (((htrSum t j) ^ 2) ^ 2 + t) + t ^ 2 ^ (2 * (j + 1)) := by
        rw [add_sq h2, add_sq h2, show 2 * (j + 1) = 2 * j + 1 + 1 by ring, pow_two_pow_succ,
          pow_two_pow_succ]
        ring
      _ = htrSum t (j + 1) + t ^ 2 ^ (2 * (j + 1)) := by rw [ih]

theorem htrSum_sq_add (t : S) (j : Nat) : (htrSum t j) ^ 2 + htrSum t j = trSum t (2 * j) := by
  induction j with
  | zero => simp [htrSum, trSum]
  | succ j ih =>
    have e : trSum t (2 * (j + 1)) = trSum t (2 * j) + t ^ 2 ^ (2 * j) + t ^ 2 ^ (2 * j + 1) := rfl
    have e2 : htrSum t (j + 1) = htrSum t j + t ^ 2 ^ (2 * j) := rfl
    rw [e, e2, add_sq h2, ← ih, pow_two_pow_succ]
    ring
omit h2 in
theorem trSum_zero (m : Nat) : trSum (0 : S) m = 0 := by
  induction m with
  | zero => rfl
  | succ m ih => rw [trSum, ih, zero_pow (pow_ne_zero _ (by decide)), add_zero]

theorem trSum_one {m : Nat} (hm : m % 2 = 1) : trSum (1 : S) m = 1 := by
  obtain ⟨k, rfl⟩ : ∃ k, m = 2 * k + 1 := ⟨m / 2, by omega⟩
  induction k with
  | zero => simp [trSum]
  | succ k ih =>
    have e : trSum (1 : S) (2 * (k + 1) + 1) = trSum 1 (2 * k + 1) + 1 ^ 2 ^ (2 * k + 1) + 1 ^ 2 ^ (2 * k + 2) := rfl
    rw [e, ih (by omega), one_pow, one_pow, add_assoc, h2, add_zero]

end
end Bee2V.Char2
