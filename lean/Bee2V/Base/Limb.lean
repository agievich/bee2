/-
One middle limb of a carry chain on 32-bit words, as `beltBlockAddBitSizeU32` writes it:
`if ((x += carry) < carry) x = t; else carry = (x += t) < t;` — the limb and the carry out are exact.  No imports.
-/
namespace Bee2V.Base

def limb32 (x carry t : UInt32) : UInt32 × UInt32 :=
  if x + carry < carry then (t, carry) else (x + carry + t, if x + carry + t < t then 1 else 0)

theorem limb32_spec (x carry t : UInt32) (hc : carry.toNat ≤ 1) :
    (limb32 x carry t).1.toNat + 2 ^ 32 * (limb32 x carry t).2.toNat = x.toNat + carry.toNat + t.toNat
      ∧ (limb32 x carry t).2.toNat ≤ 1 := by
  unfold limb32
  have hx := x.toNat_lt; have ht := t.toNat_lt
  simp only [UInt32.lt_iff_toNat_lt, UInt32.toNat_add]
  split
  · show t.toNat + 2 ^ 32 * carry.toNat = _ ∧ carry.toNat ≤ 1
    omega
  · split
    · simp only [UInt32.toNat_add]
      have : (1 : UInt32).toNat = 1 := rfl
      omega
    · simp only [UInt32.toNat_add]
      have : (0 : UInt32).toNat = 0 := rfl
      omega

end Bee2V.Base
