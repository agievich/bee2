/-
Octet strings as little-endian numbers: the lemmas about `Proto.leNat` / `Proto.natLE`, once.  The areas whose models
carry their own copy of the two functions (the same two equations each) identify the copy with these by
`leNat_unique` / `natLE_unique` and restate what they use in one line.  No Mathlib.
-/
import Bee2V.Base.Proto
namespace Bee2V.Proto

theorem leNat_cons (b : UInt8) (bs : List UInt8) : leNat (b :: bs) = b.toNat + 256 * leNat bs := rfl
theorem natLE_succ (n v : Nat) : natLE (n + 1) v = UInt8.ofNat (v % 256) :: natLE n (v / 256) := rfl

theorem leNat_unique (f : List UInt8 → Nat) (h0 : f [] = 0)
    (hc : ∀ b bs, f (b :: bs) = b.toNat + 256 * f bs) : f = leNat := by
  funext l
  induction l with
  | nil => exact h0
  | cons b bs ih => rw [hc, ih]; rfl

theorem natLE_unique (f : Nat → Nat → List UInt8) (h0 : ∀ v, f 0 v = [])
    (hc : ∀ n v, f (n + 1) v = UInt8.ofNat (v % 256) :: f n (v / 256)) : f = natLE := by
  funext n
  induction n with
  | zero => funext v; exact h0 v
  | succ n ih => funext v; rw [hc, ih]; rfl

theorem natLE_length (n v : Nat) : (natLE n v).length = n := by
  induction n generalizing v with
  | zero => rfl
  | succ n ih => simp [natLE_succ, ih]

theorem leNat_lt (l : List UInt8) : leNat l < 256 ^ l.length := by
  induction l with
  | nil => simp [leNat]
  | cons b bs ih =>
    have hb := b.toNat_lt
    simp only [leNat_cons, List.length_cons, Nat.pow_succ]
    generalize 256 ^ bs.length = P at *
    omega

theorem leNat_append (a b : List UInt8) : leNat (a ++ b) = leNat a + 256 ^ a.length * leNat b := by
  induction a with
  | nil => simp [leNat]
  | cons x a ih =>
    simp only [List.cons_append, leNat_cons, ih, List.length_cons, Nat.pow_succ]
    rw [Nat.mul_add, ← Nat.mul_assoc, Nat.mul_comm 256 (256 ^ a.length)]
    omega

theorem natLE_leNat (l : List UInt8) : natLE l.length (leNat l) = l := by
  induction l with
  | nil => rfl
  | cons b bs ih =>
    have hb := b.toNat_lt
    simp only [List.length_cons, natLE_succ, leNat_cons]
    have e1 : (b.toNat + 256 * leNat bs) % 256 = b.toNat := by omega
    have e2 : (b.toNat + 256 * leNat bs) / 256 = leNat bs := by omega
    rw [e1, e2, ih]
    simp

theorem leNat_natLE (n v : Nat) : leNat (natLE n v) = v % 256 ^ n := by
  induction n generalizing v with
  | zero => simp [natLE, leNat, Nat.mod_one]
  | succ n ih =>
    rw [natLE_succ, leNat_cons, ih, Nat.pow_succ, Nat.mul_comm (256 ^ n) 256, Nat.mod_mul]
    have : (UInt8.ofNat (v % 256)).toNat = v % 256 := by
      simp only [UInt8.toNat_ofNat']; omega
    rw [this]

theorem leNat_natLE_of_lt {n v : Nat} (h : v < 256 ^ n) : leNat (natLE n v) = v := by
  rw [leNat_natLE, Nat.mod_eq_of_lt h]

theorem natLE_add (n m v : Nat) : natLE (n + m) v = natLE n v ++ natLE m (v / 256 ^ n) := by
  induction n generalizing v with
  | zero => simp [natLE]
  | succ n ih =>
    rw [show n + 1 + m = (n + m) + 1 by omega, natLE_succ, natLE_succ, ih, Nat.div_div_eq_div_mul,
      Nat.pow_succ, Nat.mul_comm 256]
    rfl

theorem natLE_zero (n : Nat) : natLE n 0 = List.replicate n 0 := by
  induction n with
  | zero => rfl
  | succ n ih => simp [natLE_succ, ih, List.replicate_succ]

theorem natLE_add_mul (n x y : Nat) : natLE n (x + 256 ^ n * y) = natLE n x := by
  induction n generalizing x y with
  | zero => rfl
  | succ n ih =>
    simp only [natLE_succ, Nat.pow_succ]
    have ih' := ih (x / 256) y
    have e0 : 256 ^ n * 256 * y = 256 * (256 ^ n * y) := by
      rw [Nat.mul_comm (256 ^ n) 256, Nat.mul_assoc]
    rw [e0]
    generalize 256 ^ n * y = z at ih' ⊢
    have e1 : (x + 256 * z) % 256 = x % 256 := by omega
    have e2 : (x + 256 * z) / 256 = x / 256 + z := by omega
    rw [e1, e2, ih']

theorem natLE_mod (n v : Nat) : natLE n (v % 256 ^ n) = natLE n v := by
  have h := natLE_add_mul n (v % 256 ^ n) (v / 256 ^ n)
  rw [Nat.mod_add_div] at h
  exact h.symm

theorem take_natLE_append (n v : Nat) (r : List UInt8) : (natLE n v ++ r).take n = natLE n v := by
  rw [List.take_left' (natLE_length n v)]

theorem drop_natLE_append (n v : Nat) (r : List UInt8) : (natLE n v ++ r).drop n = r := by
  rw [List.drop_left' (natLE_length n v)]

end Bee2V.Proto
