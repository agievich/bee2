/-
C07 — lemmas about the REGENERATED size functions (hand-written proofs, re-checked whenever the generated
definitions change): closed forms of the constructors' depths, and the monotonicity facts used as hints by the
generated obligations of functions that call a constructor with a run-time normalised length (zzPowerMod,
priIsSGPrime: no' = wwOctetSize(mod) <= O_OF_W(n)).
-/
import Bee2V.Gen.C07DeepW64
import Bee2V.Gen.C07DeepW32

namespace Bee2V.Gen.C07.W64

/- Closed forms of the ring and curve constructors' depths (n = W_OF_O(no) words of 8 octets).  The obligations of
   their users rewrite with these instead of unfolding the thirty-odd operation depths under them. -/

theorem zmCreatePlain_deep_eq (no : Nat) : zmCreatePlain_deep no = (5 * ((no + 8 - 1) / 8) + 4) * 8 := by
  simp only [zmCreatePlain_deep, zmMul_deep, zmSqr_deep, zmInv_deep, zmDiv_deep, zzMul_deep, zzSqr_deep, zzRed_deep,
    zzMod_deep, zzInvMod_deep, zzDivMod_deep]
  omega

theorem zmCreateCrand_deep_eq (no : Nat) : zmCreateCrand_deep no = 5 * ((no + 8 - 1) / 8) * 8 := by
  simp only [zmCreateCrand_deep, zmMulCrand_deep, zmSqrCrand_deep, zmInv_deep, zmDiv_deep, zzMul_deep, zzSqr_deep,
    zzRedCrand_deep, zzInvMod_deep, zzDivMod_deep]
  omega

/-- at n = 0 zzRedBarrStart (5n+6 words) exceeds zmMulBarr (6n+5 words) -/
theorem zmCreateBarr_deep_eq (no : Nat) :
    zmCreateBarr_deep no = max (6 * ((no + 8 - 1) / 8) + 5) (5 * ((no + 8 - 1) / 8) + 6) * 8 := by
  simp only [zmCreateBarr_deep, zzRedBarrStart_deep, zmMulBarr_deep, zmSqrBarr_deep, zmInv_deep, zmDiv_deep, zzMul_deep,
    zzSqr_deep, zzRedBarr_deep, zzDiv_deep, zzInvMod_deep, zzDivMod_deep]
  omega

theorem zmCreateMont_deep_eq (no : Nat) : zmCreateMont_deep no = (5 * ((no + 8 - 1) / 8) + 4) * 8 := by
  simp only [zmCreateMont_deep, zmFromMont_deep, zmToMont_deep, zmMulMont_deep, zmSqrMont_deep, zmInvMont_deep,
    zmDivMont_deep, zzMul_deep, zzSqr_deep, zzRedMont_deep, zzMod_deep, zzAlmostInvMod_deep]
  omega

theorem zmCreate_deep_eq (no : Nat) :
    zmCreate_deep no = max (6 * ((no + 8 - 1) / 8) + 5) (5 * ((no + 8 - 1) / 8) + 6) * 8 := by
  simp only [zmCreate_deep, zmCreatePlain_deep_eq, zmCreateCrand_deep_eq, zmCreateBarr_deep_eq, zmCreateMont_deep_eq]
  omega

theorem zmCreate_keep_eq (no : Nat) : zmCreate_keep no = 144 + (3 * ((no + 8 - 1) / 8) + 2) * 8 := by
  simp only [zmCreate_keep, zmCreatePlain_keep, zmCreateCrand_keep, zmCreateBarr_keep, zmCreateMont_keep]
  omega

theorem ecpCreateJ_deep_eq (n f_deep : Nat) : ecpCreateJ_deep n f_deep = 10 * n * 8 + f_deep := by
  simp only [ecpCreateJ_deep, ecpToAJ_deep, ecpAddJ_deep, ecpAddAJ_deep, ecpSubJ_deep, ecpSubAJ_deep, ecpDblJ_deep,
    ecpDblJA3_deep, ecpDblAJ_deep, ecpTplJ_deep, ecpTplJA3_deep]
  omega

/-- zmCreate_keep is monotone in the octet length of the modulus -/
theorem zmCreate_keep_mono (a b : Nat) (h : a ≤ b) : zmCreate_keep a ≤ zmCreate_keep b := by
  simp only [zmCreate_keep_eq]
  omega

/-- zmCreate_deep is monotone in the octet length of the modulus -/
theorem zmCreate_deep_mono (a b : Nat) (h : a ≤ b) : zmCreate_deep a ≤ zmCreate_deep b := by
  simp only [zmCreate_deep_eq]
  omega

/-- qrPower_deep is monotone in the ring size n and in the ring's depth -/
theorem qrPower_deep_mono (n1 n2 m r1 r2 : Nat) (hn : n1 ≤ n2) (hr : r1 ≤ r2) :
    qrPower_deep n1 m r1 ≤ qrPower_deep n2 m r2 := by
  simp only [qrPower_deep]
  have := Nat.mul_le_mul_right (1 <<< (qrCalcSlideWidth m - 1)) hn
  omega

end Bee2V.Gen.C07.W64

namespace Bee2V.Gen.C07.W32

/- Closed forms of the ring and curve constructors' depths (n = W_OF_O(no) words of 4 octets).  The obligations of
   their users rewrite with these instead of unfolding the thirty-odd operation depths under them. -/

theorem zmCreatePlain_deep_eq (no : Nat) : zmCreatePlain_deep no = (5 * ((no + 4 - 1) / 4) + 4) * 4 := by
  simp only [zmCreatePlain_deep, zmMul_deep, zmSqr_deep, zmInv_deep, zmDiv_deep, zzMul_deep, zzSqr_deep, zzRed_deep,
    zzMod_deep, zzInvMod_deep, zzDivMod_deep]
  omega

theorem zmCreateCrand_deep_eq (no : Nat) : zmCreateCrand_deep no = 5 * ((no + 4 - 1) / 4) * 4 := by
  simp only [zmCreateCrand_deep, zmMulCrand_deep, zmSqrCrand_deep, zmInv_deep, zmDiv_deep, zzMul_deep, zzSqr_deep,
    zzRedCrand_deep, zzInvMod_deep, zzDivMod_deep]
  omega

/-- at n = 0 zzRedBarrStart (5n+6 words) exceeds zmMulBarr (6n+5 words) -/
theorem zmCreateBarr_deep_eq (no : Nat) :
    zmCreateBarr_deep no = max (6 * ((no + 4 - 1) / 4) + 5) (5 * ((no + 4 - 1) / 4) + 6) * 4 := by
  simp only [zmCreateBarr_deep, zzRedBarrStart_deep, zmMulBarr_deep, zmSqrBarr_deep, zmInv_deep, zmDiv_deep, zzMul_deep,
    zzSqr_deep, zzRedBarr_deep, zzDiv_deep, zzInvMod_deep, zzDivMod_deep]
  omega

theorem zmCreateMont_deep_eq (no : Nat) : zmCreateMont_deep no = (5 * ((no + 4 - 1) / 4) + 4) * 4 := by
  simp only [zmCreateMont_deep, zmFromMont_deep, zmToMont_deep, zmMulMont_deep, zmSqrMont_deep, zmInvMont_deep,
    zmDivMont_deep, zzMul_deep, zzSqr_deep, zzRedMont_deep, zzMod_deep, zzAlmostInvMod_deep]
  omega

theorem zmCreate_deep_eq (no : Nat) :
    zmCreate_deep no = max (6 * ((no + 4 - 1) / 4) + 5) (5 * ((no + 4 - 1) / 4) + 6) * 4 := by
  simp only [zmCreate_deep, zmCreatePlain_deep_eq, zmCreateCrand_deep_eq, zmCreateBarr_deep_eq, zmCreateMont_deep_eq]
  omega

theorem zmCreate_keep_eq (no : Nat) : zmCreate_keep no = 144 + (3 * ((no + 4 - 1) / 4) + 2) * 4 := by
  simp only [zmCreate_keep, zmCreatePlain_keep, zmCreateCrand_keep, zmCreateBarr_keep, zmCreateMont_keep]
  omega

theorem ecpCreateJ_deep_eq (n f_deep : Nat) : ecpCreateJ_deep n f_deep = 10 * n * 4 + f_deep := by
  simp only [ecpCreateJ_deep, ecpToAJ_deep, ecpAddJ_deep, ecpAddAJ_deep, ecpSubJ_deep, ecpSubAJ_deep, ecpDblJ_deep,
    ecpDblJA3_deep, ecpDblAJ_deep, ecpTplJ_deep, ecpTplJA3_deep]
  omega

/-- zmCreate_keep is monotone in the octet length of the modulus -/
theorem zmCreate_keep_mono (a b : Nat) (h : a ≤ b) : zmCreate_keep a ≤ zmCreate_keep b := by
  simp only [zmCreate_keep_eq]
  omega

/-- zmCreate_deep is monotone in the octet length of the modulus -/
theorem zmCreate_deep_mono (a b : Nat) (h : a ≤ b) : zmCreate_deep a ≤ zmCreate_deep b := by
  simp only [zmCreate_deep_eq]
  omega

/-- qrPower_deep is monotone in the ring size n and in the ring's depth -/
theorem qrPower_deep_mono (n1 n2 m r1 r2 : Nat) (hn : n1 ≤ n2) (hr : r1 ≤ r2) :
    qrPower_deep n1 m r1 ≤ qrPower_deep n2 m r2 := by
  simp only [qrPower_deep]
  have := Nat.mul_le_mul_right (1 <<< (qrCalcSlideWidth m - 1)) hn
  omega

end Bee2V.Gen.C07.W32

namespace Bee2V.C07

theorem and_of (a b : Prop) (ha : a) (hb : b) : a ∧ b := ⟨ha, hb⟩

/-- `x + k - 1` as the macros W_OF_O/W_OF_B spell it -> `x + (k-1)` -/
theorem n8 (x : Nat) : x + 8 - 1 = x + 7 := by omega
theorem n4 (x : Nat) : x + 4 - 1 = x + 3 := by omega

end Bee2V.C07
