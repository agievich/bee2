/-
C05 — helper lemmas for the word-level models of pp_mul.c (ModelPpMul.lean), `namespace Bee2V.C05.PpMul`.
  §1 `ppXorL` (length, `Wf`, `pval`); the values of list expressions are computed on `pval` (PWords.lean)
  §2 `Mul1OK w`: "`_MUL1` is the carry-less product of two words" (hypothesis of the structural part)
  §3 ppMulW / ppAddMulW loops
  §4 ppMul1, `MulOK`
  §5 (truncated) Karatsuba in block form: `kara2_algebra` (the polynomial identity), `ppKara2_ok`
  §6 instances ppMul2/4/8, ppMulW, ppAddMulW   §7 Kara3 (`kara3_algebra`, ppMul3, ppMul9; ppMul5/6/7)
  §8 ppMulEq (all n), the chunk loop, ppMul
  §9 ppSqr (table check by kernel evaluation, Frobenius, `ppSqr_spec`)
  §10 `ppTab_at` (table entry i = a·i mod x^w), `octet_spec` (one octet of _MUL_MUL_S4)
  §11 the (hi, lo) register of _MUL_MUL_S4 (`regStep`, `ppMulS4Loop_spec`), `clmul_Gf_Kf`,
      `Mul1OK_of_RepairOK` (reduces `Mul1OK` to `RepairOK`: the seven _MUL_REPAIR_S4 lines)
  §12 `_MUL_REPAIR_S4`: both sides of `RepairOK` are xor-additive in a (`additive_ext`); for a monomial
      a = x^(w-k) only line k fires and both sides are compared bit by bit (`repair_mono`) ⇒ `Mul1OK_mul8`
-/
import Bee2V.C05.ModelPpMul
import Bee2V.C05.LemmasPp
import Bee2V.C05.LemmasMul
import Bee2V.C05.PWords
import Mathlib.Tactic.Ring
import Mathlib.Tactic.Linarith
namespace Bee2V.C05.PpMul
open Bee2V.C05 Bee2V.C05.Spec Bee2V.C05.Pp

/-! ## §1 `val` in xor / shift form -/

theorem Wf_cons' {w x : Nat} {xs : List Nat} : Wf w (x :: xs) ↔ x < 2 ^ w ∧ Wf w xs := Wf_cons

theorem ppXorL_length (x y : List Nat) : (ppXorL x y).length = max x.length y.length := by
  induction x generalizing y with
  | nil => cases y <;> simp [ppXorL]
  | cons a as ih => cases y <;> simp [ppXorL, ih] <;> omega

theorem ppXorL_Wf {w : Nat} {x y : List Nat} (hx : Wf w x) (hy : Wf w y) : Wf w (ppXorL x y) := by
  induction x generalizing y with
  | nil => cases y <;> simpa [ppXorL] using hy
  | cons a as ih =>
    cases y with
    | nil => simpa [ppXorL] using hx
    | cons b bs =>
      obtain ⟨h1, h2⟩ := Wf_cons.mp hx
      obtain ⟨h3, h4⟩ := Wf_cons.mp hy
      exact Wf_cons.mpr ⟨Nat.xor_lt_two_pow h1 h3, ih h2 h4⟩

theorem pval_ppXorL (w : Nat) (x y : List Nat) : pval w (ppXorL x y) = pval w x ^^^ pval w y := by
  induction x generalizing y with
  | nil => cases y <;> simp [ppXorL, pval]
  | cons a as ih =>
    cases y with
    | nil => simp [ppXorL, pval]
    | cons b bs => simp only [ppXorL, pval, ih, Nat.shiftLeft_xor_distrib]; ac_rfl

/-! ## §2 the one-word product as a hypothesis -/

/-- `_MUL1` is the carry-less product of two words -/
def Mul1OK (w : Nat) : Prop :=
  ∀ a b, a < 2 ^ w → b < 2 ^ w →
    (ppMul1W w a b).1 < 2 ^ w ∧ (ppMul1W w a b).2 < 2 ^ w
    ∧ (ppMul1W w a b).1 + 2 ^ w * (ppMul1W w a b).2 = clmul a b

theorem clmul_shiftLeft (a b s : Nat) : clmul a (b <<< s) = clmul a b <<< s := by
  rw [clmul_comm, shiftLeft_clmul, clmul_comm]

/-! ## §3 ppMulW, ppAddMulW -/

theorem ppAddMulWLoop_spec (w : Nat) (h1 : Mul1OK w) (x : Nat) (hx : x < 2 ^ w) (b a : List Nat)
    (carry : Nat) (hb : Wf w b) (ha : Wf w a) (hl : b.length = a.length) (hc : carry < 2 ^ w) :
    val w (ppAddMulWLoop w x b a carry).1 + 2 ^ (w * b.length) * (ppAddMulWLoop w x b a carry).2
      = val w b ^^^ clmul (val w a) x ^^^ carry
    ∧ (ppAddMulWLoop w x b a carry).2 < 2 ^ w ∧ Wf w (ppAddMulWLoop w x b a carry).1
    ∧ (ppAddMulWLoop w x b a carry).1.length = b.length := by
  induction b generalizing a carry with
  | nil => cases a <;> simp_all [ppAddMulWLoop, val, Wf_nil, zero_clmul]
  | cons b0 bs ih =>
    cases a with
    | nil => simp at hl
    | cons a0 as =>
      obtain ⟨hb0, hbs⟩ := Wf_cons.mp hb
      obtain ⟨ha0, has⟩ := Wf_cons.mp ha
      obtain ⟨p1, p2, p3⟩ := h1 x a0 hx ha0
      obtain ⟨i1, i2, i3, i4⟩ := ih as (ppMul1W w x a0).2 hbs has (by simpa using hl) p2
      have hw0 : b0 ^^^ (carry ^^^ (ppMul1W w x a0).1) < 2 ^ w :=
        Nat.xor_lt_two_pow hb0 (Nat.xor_lt_two_pow hc p1)
      simp only [ppAddMulWLoop, val_cons, List.length_cons, Bee2V.C05.Mul.powS]
      refine ⟨?_, i2, Wf_cons.mpr ⟨hw0, i3⟩, by rw [i4]⟩
      rw [Nat.add_assoc, Nat.mul_assoc, ← Nat.mul_add, i1]
      -- everything in xor form
      rw [add_mul_eq_xor hw0, add_mul_eq_xor hb0, add_mul_eq_xor ha0, xor_clmul, shiftLeft_clmul,
        clmul_comm a0 x, ← p3, add_mul_eq_xor p1]
      simp only [Nat.shiftLeft_xor_distrib]
      generalize (ppMul1W w x a0).1 = lo
      generalize (ppMul1W w x a0).2 = hi
      generalize clmul (val w as) x = P
      ac_rfl

theorem ppMulWLoop_eq (w x : Nat) (a : List Nat) (carry : Nat) :
    ppMulWLoop w x a carry = ppAddMulWLoop w x (List.replicate a.length 0) a carry := by
  induction a generalizing carry with
  | nil => simp [ppMulWLoop, ppAddMulWLoop]
  | cons a0 as ih =>
    simp only [ppMulWLoop, List.length_cons, List.replicate_succ, ppAddMulWLoop, ih, Nat.zero_xor]

/-! ## §4 ppMul1, ppMul2, ppMul3 -/

/-- what every equal-length multiplier has to deliver -/
def MulOK (w n : Nat) (f : List Nat → List Nat → List Nat) : Prop :=
  ∀ a b, Wf w a → Wf w b → a.length = n → b.length = n →
    val w (f a b) = clmul (val w a) (val w b) ∧ Wf w (f a b) ∧ (f a b).length = n + n

theorem ppMul1_ok (w : Nat) (h1 : Mul1OK w) : MulOK w 1 (ppMul1 w) := by
  intro a b ha hb hla hlb
  match a, b, hla, hlb with
  | [a0], [b0], _, _ =>
    obtain ⟨ha0, _⟩ := Wf_cons.mp ha
    obtain ⟨hb0, _⟩ := Wf_cons.mp hb
    obtain ⟨p1, p2, p3⟩ := h1 a0 b0 ha0 hb0
    simp only [ppMul1, val_single, val2]
    exact ⟨p3, Wf_cons.mpr ⟨p1, Wf_cons.mpr ⟨p2, Wf_nil w⟩⟩, rfl⟩

/-! ## §5 Karatsuba, block form -/

/-- the word-level recombination of (truncated) Karatsuba is the polynomial identity -/
theorem kara2_algebra {S A Bv C D E F A0 A1 B0 B1 : Nat}
    (h0 : A ^^^ (Bv <<< S) = clmul A0 B0) (h1 : C ^^^ (D <<< S) = clmul A1 B1)
    (hm : E ^^^ (F <<< S) = clmul (A0 ^^^ A1) (B0 ^^^ B1)) :
    A ^^^ ((E ^^^ (A ^^^ (Bv ^^^ C))) <<< S) ^^^ ((F ^^^ (D ^^^ (Bv ^^^ C))) <<< (S + S))
        ^^^ (D <<< (S + S + S))
      = clmul (A0 ^^^ (A1 <<< S)) (B0 ^^^ (B1 <<< S)) := by
  have hXY : clmul A0 B1 ^^^ clmul A1 B0
      = (E ^^^ (F <<< S)) ^^^ (A ^^^ (Bv <<< S)) ^^^ (C ^^^ (D <<< S)) := by
    rw [hm, h0, h1, xor_clmul, clmul_xor, clmul_xor]
    generalize clmul A0 B0 = p
    generalize clmul A1 B1 = q
    generalize clmul A0 B1 = x
    generalize clmul A1 B0 = y
    -- (p ^ x ^ (y ^ q)) ^ p ^ q = x ^ y
    have e : (p ^^^ x ^^^ (y ^^^ q)) ^^^ p ^^^ q = (x ^^^ y) ^^^ (p ^^^ p) ^^^ (q ^^^ q) := by ac_rfl
    rw [e, Nat.xor_self, Nat.xor_self, Nat.xor_zero, Nat.xor_zero]
  have hR : clmul (A0 ^^^ (A1 <<< S)) (B0 ^^^ (B1 <<< S))
      = clmul A0 B0 ^^^ ((clmul A0 B1 ^^^ clmul A1 B0) <<< S) ^^^ (clmul A1 B1 <<< (S + S)) := by
    rw [xor_clmul, clmul_xor, clmul_xor, shiftLeft_clmul, shiftLeft_clmul, clmul_shiftLeft,
      clmul_shiftLeft, Nat.shiftLeft_xor_distrib, ← Nat.shiftLeft_add]
    ac_rfl
  rw [hR, hXY, ← h0, ← h1]
  simp only [Nat.shiftLeft_xor_distrib, ← Nat.shiftLeft_add]
  ac_rfl

/-- a block: `m` words -/
def Blk (w m : Nat) (x : List Nat) : Prop := Wf w x ∧ x.length = m

/-- `ppXorL` pads the shorter operand: the longer block decides -/
theorem blk_xor_le {w m j : Nat} {x y : List Nat} (hx : Blk w m x) (hy : Blk w j y) (h : j ≤ m) :
    Blk w m (ppXorL x y) :=
  ⟨ppXorL_Wf hx.1 hy.1, by rw [ppXorL_length, hx.2, hy.2, Nat.max_eq_left h]⟩

theorem blk_xor_ge {w m j : Nat} {x y : List Nat} (hx : Blk w j x) (hy : Blk w m y) (h : j ≤ m) :
    Blk w m (ppXorL x y) :=
  ⟨ppXorL_Wf hx.1 hy.1, by rw [ppXorL_length, hx.2, hy.2, Nat.max_eq_right h]⟩

theorem blk_xor {w m : Nat} {x y : List Nat} (hx : Blk w m x) (hy : Blk w m y) :
    Blk w m (ppXorL x y) := blk_xor_le hx hy (Nat.le_refl m)

theorem blk_append {w m k : Nat} {x y : List Nat} (hx : Blk w m x) (hy : Blk w k y) :
    Blk w (m + k) (x ++ y) :=
  ⟨Wf_append.mpr ⟨hx.1, hy.1⟩, by rw [List.length_append, hx.2, hy.2]⟩

theorem blk_take {w n : Nat} {a : List Nat} (h : Blk w n a) {j : Nat} (hj : j ≤ n) : Blk w j (a.take j) :=
  ⟨Wf_take h.1 j, by rw [List.length_take, h.2]; omega⟩

theorem blk_drop {w n : Nat} {a : List Nat} (h : Blk w n a) (j : Nat) : Blk w (n - j) (a.drop j) :=
  ⟨Wf_drop h.1 j, by rw [List.length_drop, h.2]⟩

theorem MulOK.split {w n : Nat} {f : List Nat → List Nat → List Nat} (h : MulOK w n f)
    {x y : List Nat} (hx : Blk w n x) (hy : Blk w n y) {j : Nat} (hj : j ≤ n + n) :
    pval w ((f x y).take j) ^^^ (pval w ((f x y).drop j) <<< (w * j)) = clmul (pval w x) (pval w y)
    ∧ Blk w j ((f x y).take j) ∧ Blk w (n + n - j) ((f x y).drop j) := by
  obtain ⟨v, hw, hl⟩ := h x y hx.1 hy.1 hx.2 hy.2
  exact ⟨by rw [pval_take_drop, pval_eq_val hw, v, pval_eq_val hx.1, pval_eq_val hy.1],
    blk_take ⟨hw, hl⟩ hj, blk_drop ⟨hw, hl⟩ j⟩

theorem MulOK.halves {w m : Nat} {f : List Nat → List Nat → List Nat} (h : MulOK w m f)
    {x y : List Nat} (hx : Blk w m x) (hy : Blk w m y) :
    pval w ((f x y).take m) ^^^ (pval w ((f x y).drop m) <<< (w * m)) = clmul (pval w x) (pval w y)
    ∧ Blk w m ((f x y).take m) ∧ Blk w m ((f x y).drop m) := by
  have := h.split hx hy (Nat.le_add_right m m)
  rwa [Nat.add_sub_cancel] at this

theorem ppKara2_ok (w m k : Nat) (mulLo mulHi : List Nat → List Nat → List Nat)
    (hLo : MulOK w m mulLo) (hHi : MulOK w k mulHi) (hkm : k ≤ m) (hmk : m ≤ k + k) :
    MulOK w (m + k) (ppKara2 mulLo mulHi m) := by
  intro a b ha hb hla hlb
  have ba0 := blk_take ⟨ha, hla⟩ (Nat.le_add_right m k)
  have ba1 := blk_drop ⟨ha, hla⟩ m
  have bb0 := blk_take ⟨hb, hlb⟩ (Nat.le_add_right m k)
  have bb1 := blk_drop ⟨hb, hlb⟩ m
  rw [Nat.add_sub_cancel_left] at ba1 bb1
  obtain ⟨h0, bp0, bq0⟩ := hLo.halves ba0 bb0
  obtain ⟨h1, bp1, bq1⟩ := hHi.split ba1 bb1 hmk
  obtain ⟨hm, bu, bv⟩ := hLo.halves (blk_xor_le ba0 ba1 hkm) (blk_xor_le bb0 bb1 hkm)
  simp only [pval_ppXorL] at hm
  have bt2 := blk_xor bq0 bp1
  have bc1 := blk_xor bu (blk_xor bp0 bt2)
  have bc2 := blk_xor_le bv (blk_xor_ge bq1 bt2 (by omega)) (Nat.le_refl m)
  have bR := blk_append (blk_append (blk_append bp0 bc1) bc2) bq1
  refine ⟨?_, bR.1, by rw [show (ppKara2 mulLo mulHi m a b).length = _ from bR.2]; omega⟩
  rw [← pval_eq_val (show Wf w (ppKara2 mulLo mulHi m a b) from bR.1), ← pval_eq_val ha,
    ← pval_eq_val hb, ← pval_take_drop w a m, ← pval_take_drop w b m]
  unfold ppKara2
  simp only [pval_append, pval_ppXorL, List.length_append, bp0.2, bc1.2, bc2.2, Nat.mul_add]
  exact kara2_algebra h0 h1 hm

/-! ## §6 instances -/

theorem ppMul2_eq (w : Nat) (a b : List Nat) (ha : a.length = 2) (hb : b.length = 2) :
    ppMul2 w a b = ppKara2 (ppMul1 w) (ppMul1 w) 1 a b := by
  match a, b, ha, hb with
  | [a0, a1], [b0, b1], _, _ =>
    simp [ppMul2, ppKara2, ppMul1, ppXorL]

theorem MulOK_congr {w n : Nat} {f g : List Nat → List Nat → List Nat}
    (h : ∀ a b, a.length = n → b.length = n → f a b = g a b) (hg : MulOK w n g) : MulOK w n f := by
  intro a b ha hb hla hlb
  rw [h a b hla hlb]; exact hg a b ha hb hla hlb

theorem ppMul2_ok (w : Nat) (h1 : Mul1OK w) : MulOK w 2 (ppMul2 w) :=
  MulOK_congr (ppMul2_eq w) (ppKara2_ok w 1 1 _ _ (ppMul1_ok w h1) (ppMul1_ok w h1) (by omega) (by omega))

theorem ppMul4_ok (w : Nat) (h1 : Mul1OK w) : MulOK w 4 (ppMul4 w) :=
  ppKara2_ok w 2 2 _ _ (ppMul2_ok w h1) (ppMul2_ok w h1) (by omega) (by omega)

theorem ppMul8_ok (w : Nat) (h1 : Mul1OK w) : MulOK w 8 (ppMul8 w) :=
  ppKara2_ok w 4 4 _ _ (ppMul4_ok w h1) (ppMul4_ok w h1) (by omega) (by omega)

theorem ppAddMulW_spec (w : Nat) (h1 : Mul1OK w) (b a : List Nat) (x : Nat) (hb : Wf w b)
    (ha : Wf w a) (hl : b.length = a.length) (hx : x < 2 ^ w) :
    val w ((ppAddMulW w b a x).1 ++ [(ppAddMulW w b a x).2]) = val w b ^^^ clmul (val w a) x
    ∧ (ppAddMulW w b a x).2 < 2 ^ w ∧ Wf w (ppAddMulW w b a x).1
    ∧ (ppAddMulW w b a x).1.length = b.length := by
  obtain ⟨i1, i2, i3, i4⟩ := ppAddMulWLoop_spec w h1 x hx b a 0 hb ha hl (Nat.two_pow_pos w)
  refine ⟨?_, i2, i3, i4⟩
  unfold ppAddMulW
  rw [val_append, val_single, i4, i1, Nat.xor_zero]

theorem ppMulW_spec (w : Nat) (h1 : Mul1OK w) (a : List Nat) (x : Nat)
    (ha : Wf w a) (hx : x < 2 ^ w) :
    val w ((ppMulW w a x).1 ++ [(ppMulW w a x).2]) = clmul (val w a) x
    ∧ (ppMulW w a x).2 < 2 ^ w ∧ Wf w (ppMulW w a x).1
    ∧ (ppMulW w a x).1.length = a.length := by
  have h := ppAddMulW_spec w h1 (List.replicate a.length 0) a x
    (Wf_replicate_zero w _) ha (by simp) hx
  unfold ppMulW
  rw [ppMulWLoop_eq]
  unfold ppAddMulW at h
  simpa [val_replicate_zero] using h

/-! ## §7 Kara3 -/

theorem xor_swap_cancel (x y z : Nat) : (z ^^^ y) ^^^ (z ^^^ x) = x ^^^ y := by
  have e : (z ^^^ y) ^^^ (z ^^^ x) = (x ^^^ y) ^^^ (z ^^^ z) := by ac_rfl
  rw [e, Nat.xor_self, Nat.xor_zero]

/-- the word-level recombination of Kara3 (as in ppMul9 / ppMul3) is the polynomial identity -/
theorem kara3_algebra {S p0 q0 p1 q1 p2 q2 u v u2 v2 u3 v3 A0 A1 A2 B0 B1 B2 : Nat}
    (h0 : p0 ^^^ (q0 <<< S) = clmul A0 B0) (h1 : p1 ^^^ (q1 <<< S) = clmul A1 B1)
    (h2 : p2 ^^^ (q2 <<< S) = clmul A2 B2)
    (h01 : u ^^^ (v <<< S) = clmul (A0 ^^^ A1) (B0 ^^^ B1))
    (h02 : u2 ^^^ (v2 <<< S) = clmul (A0 ^^^ A2) (B0 ^^^ B2))
    (h12 : u3 ^^^ (v3 <<< S) = clmul ((A0 ^^^ A2) ^^^ (A0 ^^^ A1)) ((B0 ^^^ B2) ^^^ (B0 ^^^ B1))) :
    p0 ^^^ (((q0 ^^^ (p0 ^^^ p1)) ^^^ u) <<< S)
      ^^^ (((((q0 ^^^ (p0 ^^^ p1)) ^^^ (q1 ^^^ p2)) ^^^ v) ^^^ u2) <<< (S + S))
      ^^^ ((((((q0 ^^^ (p0 ^^^ p1)) ^^^ (q1 ^^^ p2)) ^^^ (p0 ^^^ q2)) ^^^ v2) ^^^ u3) <<< (S + S + S))
      ^^^ ((((((q0 ^^^ (p0 ^^^ p1)) ^^^ (q1 ^^^ p2)) ^^^ (p0 ^^^ q2)) ^^^ (p0 ^^^ (q0 ^^^ (p0 ^^^ p1))))
          ^^^ v3) <<< (S + S + S + S))
      ^^^ (q2 <<< (S + S + S + S + S))
    = clmul (A0 ^^^ ((A1 ^^^ (A2 <<< S)) <<< S)) (B0 ^^^ ((B1 ^^^ (B2 <<< S)) <<< S)) := by
  rw [xor_swap_cancel, xor_swap_cancel] at h12
  have k3 : (((q0 ^^^ (p0 ^^^ p1)) ^^^ (q1 ^^^ p2)) ^^^ (p0 ^^^ q2))
      = q0 ^^^ p1 ^^^ q1 ^^^ p2 ^^^ q2 := by
    simp only [Nat.xor_assoc, Nat.xor_comm, Pp.xor_left_comm, xor_xor_cancel_left, Nat.xor_self,
      Nat.xor_zero, Nat.zero_xor]
  have k4 : (q0 ^^^ p1 ^^^ q1 ^^^ p2 ^^^ q2) ^^^ (p0 ^^^ (q0 ^^^ (p0 ^^^ p1)))
      = q1 ^^^ p2 ^^^ q2 := by
    simp only [Nat.xor_assoc, Nat.xor_comm, Pp.xor_left_comm, xor_xor_cancel_left, Nat.xor_self,
      Nat.xor_zero, Nat.zero_xor]
  rw [k3, k4]
  -- step 1: regroup the halves into the six products (no cancellation needed)
  have s1 : p0 ^^^ (((q0 ^^^ (p0 ^^^ p1)) ^^^ u) <<< S)
      ^^^ (((((q0 ^^^ (p0 ^^^ p1)) ^^^ (q1 ^^^ p2)) ^^^ v) ^^^ u2) <<< (S + S))
      ^^^ ((((q0 ^^^ p1 ^^^ q1 ^^^ p2 ^^^ q2) ^^^ v2) ^^^ u3) <<< (S + S + S))
      ^^^ (((q1 ^^^ p2 ^^^ q2) ^^^ v3) <<< (S + S + S + S))
      ^^^ (q2 <<< (S + S + S + S + S))
      = (p0 ^^^ (q0 <<< S))
        ^^^ (((u ^^^ (v <<< S)) ^^^ (p0 ^^^ (q0 <<< S)) ^^^ (p1 ^^^ (q1 <<< S))) <<< S)
        ^^^ (((u2 ^^^ (v2 <<< S)) ^^^ (p0 ^^^ (q0 <<< S)) ^^^ (p1 ^^^ (q1 <<< S))
              ^^^ (p2 ^^^ (q2 <<< S))) <<< (S + S))
        ^^^ (((u3 ^^^ (v3 <<< S)) ^^^ (p1 ^^^ (q1 <<< S)) ^^^ (p2 ^^^ (q2 <<< S))) <<< (S + S + S))
        ^^^ ((p2 ^^^ (q2 <<< S)) <<< (S + S + S + S)) := by
    simp only [Nat.shiftLeft_xor_distrib, ← Nat.shiftLeft_add]
    ac_rfl
  rw [s1, h0, h1, h2, h01, h02, h12]
  -- step 2: the cross terms
  have canc : ∀ d0 d1 x y : Nat, (d0 ^^^ x ^^^ (y ^^^ d1)) ^^^ d0 ^^^ d1 = x ^^^ y := by
    intro d0 d1 x y
    simp only [Nat.xor_assoc, Nat.xor_comm, Pp.xor_left_comm, xor_xor_cancel_left, Nat.xor_self,
      Nat.xor_zero, Nat.zero_xor]
  have x01 : clmul (A0 ^^^ A1) (B0 ^^^ B1) ^^^ clmul A0 B0 ^^^ clmul A1 B1
      = clmul A0 B1 ^^^ clmul A1 B0 := by
    rw [xor_clmul, clmul_xor, clmul_xor]; exact canc _ _ _ _
  have x12 : clmul (A1 ^^^ A2) (B1 ^^^ B2) ^^^ clmul A1 B1 ^^^ clmul A2 B2
      = clmul A1 B2 ^^^ clmul A2 B1 := by
    rw [xor_clmul, clmul_xor, clmul_xor]; exact canc _ _ _ _
  have x02 : clmul (A0 ^^^ A2) (B0 ^^^ B2) ^^^ clmul A0 B0 ^^^ clmul A1 B1 ^^^ clmul A2 B2
      = clmul A0 B2 ^^^ clmul A2 B0 ^^^ clmul A1 B1 := by
    rw [xor_clmul, clmul_xor, clmul_xor]
    simp only [Nat.xor_assoc, Nat.xor_comm, Pp.xor_left_comm, xor_xor_cancel_left, Nat.xor_self,
      Nat.xor_zero, Nat.zero_xor]
  rw [x01, x02, x12]
  simp only [xor_clmul, clmul_xor, shiftLeft_clmul, clmul_shiftLeft, Nat.shiftLeft_xor_distrib,
    ← Nat.shiftLeft_add]
  ac_rfl

theorem ppKara3_ok (w m : Nat) (mul : List Nat → List Nat → List Nat) (h : MulOK w m mul) :
    MulOK w (m + m + m) (ppKara3 mul m) := by
  intro a b ha hb hla hlb
  have W := @Wf_take w
  have Wd := @Wf_drop w
  have ba0 : Blk w m (a.take m) := ⟨W ha m, by rw [List.length_take]; omega⟩
  have ba1 : Blk w m ((a.drop m).take m) :=
    ⟨W (Wd ha m) m, by rw [List.length_take, List.length_drop]; omega⟩
  have ba2 : Blk w m (a.drop (2 * m)) := ⟨Wd ha _, by rw [List.length_drop]; omega⟩
  have bb0 : Blk w m (b.take m) := ⟨W hb m, by rw [List.length_take]; omega⟩
  have bb1 : Blk w m ((b.drop m).take m) :=
    ⟨W (Wd hb m) m, by rw [List.length_take, List.length_drop]; omega⟩
  have bb2 : Blk w m (b.drop (2 * m)) := ⟨Wd hb _, by rw [List.length_drop]; omega⟩
  obtain ⟨h0, bp0, bq0⟩ := h.halves ba0 bb0
  obtain ⟨h1, bp1, bq1⟩ := h.halves ba1 bb1
  obtain ⟨h2, bp2, bq2⟩ := h.halves ba2 bb2
  obtain ⟨h01, bu1, bv1⟩ := h.halves (blk_xor ba0 ba1) (blk_xor bb0 bb1)
  obtain ⟨h02, bu2, bv2⟩ := h.halves (blk_xor ba0 ba2) (blk_xor bb0 bb2)
  obtain ⟨h12, bu3, bv3⟩ := h.halves (blk_xor (blk_xor ba0 ba2) (blk_xor ba0 ba1))
    (blk_xor (blk_xor bb0 bb2) (blk_xor bb0 bb1))
  simp only [pval_ppXorL] at h01 h02 h12
  have bc1 := blk_xor bq0 (blk_xor bp0 bp1)
  have bc2 := blk_xor bc1 (blk_xor bq1 bp2)
  have bc3 := blk_xor bc2 (blk_xor bp0 bq2)
  have bc4 := blk_xor bc3 (blk_xor bp0 bc1)
  have bf1 := blk_xor bc1 bu1
  have bf2 := blk_xor (blk_xor bc2 bv1) bu2
  have bf3 := blk_xor (blk_xor bc3 bv2) bu3
  have bf4 := blk_xor bc4 bv3
  have bR := blk_append (blk_append (blk_append (blk_append (blk_append bp0 bf1) bf2) bf3) bf4) bq2
  refine ⟨?_, bR.1, by rw [show (ppKara3 mul m a b).length = _ from bR.2]; omega⟩
  rw [← pval_eq_val (show Wf w (ppKara3 mul m a b) from bR.1), ← pval_eq_val ha, ← pval_eq_val hb,
    ← pval_take_drop w a m, ← pval_take_drop w b m, ← pval_take_drop w (a.drop m) m,
    ← pval_take_drop w (b.drop m) m, List.drop_drop, List.drop_drop, ← Nat.two_mul]
  unfold ppKara3
  simp only [pval_append, pval_ppXorL, List.length_append, bp0.2, bf1.2, bf2.2, bf3.2, bf4.2,
    Nat.mul_add]
  exact kara3_algebra h0 h1 h2 h01 h02 h12

theorem ppMul3_eq (w : Nat) (a b : List Nat) (ha : a.length = 3) (hb : b.length = 3) :
    ppMul3 w a b = ppKara3 (ppMul1 w) 1 a b := by
  match a, b, ha, hb with
  | [a0, a1, a2], [b0, b1, b2], _, _ =>
    simp only [ppMul3, ppKara3, ppMul1, ppXorL, List.take, List.drop, xor_swap_cancel]
    simp [ppXorL, Nat.xor_assoc]

theorem ppMul3_ok (w : Nat) (h1 : Mul1OK w) : MulOK w 3 (ppMul3 w) :=
  MulOK_congr (ppMul3_eq w) (ppKara3_ok w 1 _ (ppMul1_ok w h1))

theorem ppMul9_ok (w : Nat) (h1 : Mul1OK w) : MulOK w 9 (ppMul9 w) :=
  ppKara3_ok w 3 _ (ppMul3_ok w h1)

theorem ppMul6_ok (w : Nat) (h1 : Mul1OK w) : MulOK w 6 (ppMul6 w) :=
  ppKara2_ok w 3 3 _ _ (ppMul3_ok w h1) (ppMul3_ok w h1) (by omega) (by omega)

theorem ppMul5_ok (w : Nat) (h1 : Mul1OK w) : MulOK w 5 (ppMul5 w) :=
  ppKara2_ok w 3 2 _ _ (ppMul3_ok w h1) (ppMul2_ok w h1) (by omega) (by omega)

theorem ppMul7_ok (w : Nat) (h1 : Mul1OK w) : MulOK w 7 (ppMul7 w) :=
  ppKara2_ok w 4 3 _ _ (ppMul4_ok w h1) (ppMul3_ok w h1) (by omega) (by omega)

/-! ## §8 ppMulEq, ppMul -/

theorem ppMulEqF_ok (w : Nat) (h1 : Mul1OK w) (f : Nat) :
    ∀ n, 1 ≤ n → n ≤ f → MulOK w n (ppMulEqF w f) := by
  induction f with
  | zero => intro n h1 h2; omega
  | succ f ih =>
    intro n hn1 hnf a b ha hb hla hlb
    unfold ppMulEqF
    simp only [hla]
    by_cases c1 : n = 1
    · rw [if_pos c1]; subst c1; exact ppMul1_ok w h1 a b ha hb hla hlb
    rw [if_neg c1]
    by_cases c2 : n = 2
    · rw [if_pos c2]; subst c2; exact ppMul2_ok w h1 a b ha hb hla hlb
    rw [if_neg c2]
    by_cases c3 : n = 3
    · rw [if_pos c3]; subst c3; exact ppMul3_ok w h1 a b ha hb hla hlb
    rw [if_neg c3]
    by_cases c4 : n = 4
    · rw [if_pos c4]; subst c4; exact ppMul4_ok w h1 a b ha hb hla hlb
    rw [if_neg c4]
    by_cases c5 : n = 5
    · rw [if_pos c5]; subst c5; exact ppMul5_ok w h1 a b ha hb hla hlb
    rw [if_neg c5]
    by_cases c6 : n = 6
    · rw [if_pos c6]; subst c6; exact ppMul6_ok w h1 a b ha hb hla hlb
    rw [if_neg c6]
    by_cases c7 : n = 7
    · rw [if_pos c7]; subst c7; exact ppMul7_ok w h1 a b ha hb hla hlb
    rw [if_neg c7]
    by_cases c8 : n = 8
    · rw [if_pos c8]; subst c8; exact ppMul8_ok w h1 a b ha hb hla hlb
    rw [if_neg c8]
    by_cases c9 : n = 9
    · rw [if_pos c9]; subst c9; exact ppMul9_ok w h1 a b ha hb hla hlb
    have hn10 : 10 ≤ n := by omega
    clear c1 c2 c3 c4 c5 c6 c7 c8
    rw [if_neg c9, if_neg (by omega : ¬ n = 0)]
    clear c9
    obtain ⟨m, k, rfl, hm, hkm, hmk, hk1, hmf⟩ :
        ∃ m k, n = m + k ∧ (n + 1) / 2 = m ∧ k ≤ m ∧ m ≤ k + k ∧ 1 ≤ k ∧ m ≤ f :=
      ⟨(n + 1) / 2, n - (n + 1) / 2, by omega, rfl, by omega, by omega, by omega, by omega⟩
    rw [hm]
    exact ppKara2_ok w m k (ppMulEqF w f) (ppMulEqF w f) (ih m (by omega) hmf)
      (ih k hk1 (by omega)) hkm hmk a b ha hb hla hlb

theorem ppMulEq_ok (w : Nat) (h1 : Mul1OK w) (n : Nat) (hn : 1 ≤ n) : MulOK w n (ppMulEq w) := by
  intro a b ha hb hla hlb
  unfold ppMulEq
  rw [hla]
  exact ppMulEqF_ok w h1 n n hn (Nat.le_refl n) a b ha hb hla hlb

/-- the chunk loop of ppMul: window = `lo ++ 0…0`, `|lo| = m` -/
theorem ppMulLoop_spec (w : Nat) (h1 : Mul1OK w) (b : List Nat) (hb : Wf w b) (a lo : List Nat)
    (ha : Wf w a) (hlo : Wf w lo) (hl : lo.length = b.length) :
    val w (ppMulLoop w b a (lo ++ List.replicate a.length 0))
      = val w lo ^^^ clmul (val w a) (val w b)
    ∧ Wf w (ppMulLoop w b a (lo ++ List.replicate a.length 0))
    ∧ (ppMulLoop w b a (lo ++ List.replicate a.length 0)).length = a.length + b.length := by
  induction a generalizing lo with
  | nil => simp [ppMulLoop, val, hlo, hl, zero_clmul]
  | cons ai as ih =>
    obtain ⟨hai, has⟩ := Wf_cons.mp ha
    have htake : (lo ++ List.replicate (as.length + 1) 0).take b.length = lo := by
      rw [← hl]; exact List.take_left' rfl
    have hhead : ((lo ++ List.replicate (as.length + 1) 0).drop b.length).headD 0 = 0 := by
      rw [← hl]; simp [List.replicate_succ]
    have hdrop : (lo ++ List.replicate (as.length + 1) 0).drop (b.length + 1)
        = List.replicate as.length 0 := by
      rw [← hl, List.replicate_succ]; simp
    obtain ⟨s1, s2, s3, s4⟩ := ppAddMulW_spec w h1 lo b ai hlo hb hl hai
    obtain ⟨c0, lo', e, hl'⟩ := Bee2V.C05.Mul.snoc_cons (ppAddMulW w lo b ai).1 (ppAddMulW w lo b ai).2
    have hW : Wf w (c0 :: lo') := by
      rw [← e]; exact Wf_append.mpr ⟨s3, Wf_single s2⟩
    obtain ⟨hc0, hlo'⟩ := Wf_cons.mp hW
    rw [e, val_cons] at s1
    have hc' : (ppAddMulW w lo b ai).1
        ++ (0 ^^^ (ppAddMulW w lo b ai).2) :: List.replicate as.length 0
        = c0 :: (lo' ++ List.replicate as.length 0) := by
      rw [Nat.zero_xor, ← List.cons_append, ← e, List.append_assoc]; rfl
    obtain ⟨i1, i2, i3⟩ := ih lo' has hlo' (by rw [hl', s4, hl])
    simp only [ppMulLoop, List.length_cons, htake, hhead, hdrop, hc']
    refine ⟨?_, Wf_cons.mpr ⟨hc0, i2⟩, by rw [i3]; omega⟩
    rw [val_cons, i1, val_cons, add_mul_eq_xor hc0, add_mul_eq_xor hai, xor_clmul, shiftLeft_clmul,
      Nat.shiftLeft_xor_distrib]
    rw [add_mul_eq_xor hc0] at s1
    rw [← Nat.xor_assoc, s1, clmul_comm ai]
    ac_rfl

theorem ppMulGt_spec (w : Nat) (h1 : Mul1OK w) (a b : List Nat) (ha : Wf w a) (hb : Wf w b)
    (hm : 1 ≤ b.length) (hnm : b.length < a.length) :
    val w (ppMulGt w a b) = clmul (val w a) (val w b) ∧ Wf w (ppMulGt w a b)
    ∧ (ppMulGt w a b).length = a.length + b.length := by
  have W := @Wf_take w
  have Wd := @Wf_drop w
  obtain ⟨v0, w0, l0⟩ := ppMulEq_ok w h1 b.length hm (a.take b.length) b (W ha _) hb
    (by rw [List.length_take]; omega) rfl
  unfold ppMulGt
  simp only
  generalize ppMulEq w (a.take b.length) b = d at *
  have htk : (d ++ List.replicate (a.length - b.length) 0).take b.length = d.take b.length := by
    rw [List.take_append_of_le_length (by omega)]
  have hdr : (d ++ List.replicate (a.length - b.length) 0).drop b.length
      = d.drop b.length ++ List.replicate (a.drop b.length).length 0 := by
    rw [List.drop_append_of_le_length (by omega), List.length_drop]
  rw [htk, hdr]
  have bd0 := blk_take ⟨w0, l0⟩ (Nat.le_add_right _ _)
  have bd1 := blk_drop ⟨w0, l0⟩ b.length
  rw [Nat.add_sub_cancel] at bd1
  obtain ⟨i1, i2, i3⟩ := ppMulLoop_spec w h1 b hb (a.drop b.length) (d.drop b.length) (Wd ha _)
    bd1.1 bd1.2
  refine ⟨?_, Wf_append.mpr ⟨bd0.1, i2⟩, by
    rw [List.length_append, bd0.2, i3, List.length_drop]; omega⟩
  rw [val_append_xor w _ _ bd0.1, bd0.2, i1, Nat.shiftLeft_xor_distrib, ← Nat.xor_assoc,
    ← val_take_drop_xor w d b.length w0, v0, ← shiftLeft_clmul, ← xor_clmul,
    ← val_take_drop_xor w a b.length ha]

theorem ppMul_spec (w : Nat) (h1 : Mul1OK w) (a b : List Nat) (ha : Wf w a) (hb : Wf w b) :
    val w (ppMul w a b) = clmul (val w a) (val w b) ∧ Wf w (ppMul w a b)
    ∧ (ppMul w a b).length = a.length + b.length := by
  unfold ppMul
  simp only
  by_cases c0 : a.length = 0 ∨ b.length = 0
  · rw [if_pos c0]
    refine ⟨?_, Wf_replicate_zero w _, by simp⟩
    rw [val_replicate_zero]
    rcases c0 with h | h
    · rw [List.length_eq_zero_iff.mp h]; simp [val, zero_clmul]
    · rw [List.length_eq_zero_iff.mp h]; simp [val, clmul_zero]
  rw [if_neg c0]
  by_cases c1 : a.length = b.length
  · rw [if_pos c1]
    obtain ⟨g1, g2, g3⟩ := ppMulEq_ok w h1 a.length (by omega) a b ha hb rfl c1.symm
    exact ⟨g1, g2, by rw [g3, c1]⟩
  rw [if_neg c1]
  by_cases c2 : a.length < b.length
  · rw [if_pos c2]
    obtain ⟨g1, g2, g3⟩ := ppMulGt_spec w h1 b a hb ha (by omega) c2
    exact ⟨by rw [g1, clmul_comm], g2, by rw [g3]; omega⟩
  · rw [if_neg c2]
    exact ppMulGt_spec w h1 a b ha hb (by omega) (by omega)

/-! ## §9 ppSqr -/

theorem ppSquares_eq : ppSquares = (List.range 256).map (fun i => clmul i i) := by decide +kernel

theorem ppSquares_spec : ∀ i < 256, ppAt ppSquares i = clmul i i := by
  intro i hi
  rw [ppSquares_eq]
  show ((List.range 256).map (fun i => clmul i i)).getD i 0 = _
  rw [List.getD_eq_getElem?_getD, List.getElem?_map, List.getElem?_range hi]
  rfl

theorem sqr_shift (x s : Nat) : clmul (x <<< s) (x <<< s) = clmul x x <<< (s + s) := by
  rw [shiftLeft_clmul, clmul_shiftLeft, ← Nat.shiftLeft_add]

theorem or_eq_xor_of_lt {acc t s : Nat} (h : acc < 2 ^ s) : acc ||| (t <<< s) = acc ^^^ (t <<< s) := by
  rw [Nat.or_comm, Nat.shiftLeft_eq, Nat.mul_comm, ← Nat.two_pow_add_eq_or_of_lt h, Nat.add_comm,
    add_mul_eq_xor h, Nat.shiftLeft_eq, Nat.mul_comm]

theorem and255 (x : Nat) : x &&& 255 = x % 2 ^ 8 := Nat.and_two_pow_sub_one_eq_mod x 8

/-- `_SQR_LO/_SQR_HI`: the table look-ups assemble the square of the low 8k bits of `x` -/
theorem sqrHalf_aux (x k : Nat) :
    (List.range k).foldl
      (fun acc j => acc ||| (ppAt ppSquares ((x >>> (8 * j)) &&& 255) <<< (16 * j))) 0
      = clmul (x % 2 ^ (8 * k)) (x % 2 ^ (8 * k)) := by
  induction k with
  | zero => simp [Nat.mod_one, clmul_zero]
  | succ k ih =>
    rw [List.range_succ, List.foldl_append, ih]
    simp only [List.foldl_cons, List.foldl_nil]
    have hlow : x % 2 ^ (8 * k) < 2 ^ (8 * k) := Nat.mod_lt _ (Nat.two_pow_pos _)
    have hoct : (x >>> (8 * k)) &&& 255 < 256 := by
      rw [and255]; exact Nat.mod_lt _ (by norm_num)
    have hacc : clmul (x % 2 ^ (8 * k)) (x % 2 ^ (8 * k)) < 2 ^ (16 * k) := by
      have := clmul_lt hlow hlow
      rwa [show 8 * k + 8 * k = 16 * k by omega] at this
    rw [ppSquares_spec _ hoct, or_eq_xor_of_lt hacc]
    have hx : x % 2 ^ (8 * (k + 1))
        = x % 2 ^ (8 * k) ^^^ (((x >>> (8 * k)) &&& 255) <<< (8 * k)) := by
      rw [show 8 * (k + 1) = 8 * k + 8 by omega, Nat.pow_add, Nat.mod_mul, add_mul_eq_xor hlow,
        and255, Nat.shiftRight_eq_div_pow]
    rw [hx, sqr_xor, sqr_shift, show 8 * k + 8 * k = 16 * k by omega]

theorem ppSqrHalf_eq (w a off : Nat) :
    ppSqrHalf w a off = clmul ((a >>> off) % 2 ^ (8 * (w / 16))) ((a >>> off) % 2 ^ (8 * (w / 16))) := by
  unfold ppSqrHalf
  rw [← sqrHalf_aux]
  simp only [Nat.shiftRight_add]

/-- one word: `(_SQR_LO(a), _SQR_HI(a))` is the square of `a` -/
theorem sqrWord (k a : Nat) (ha : a < 2 ^ (16 * k)) :
    ppSqrHalf (16 * k) a 0 < 2 ^ (16 * k) ∧ ppSqrHalf (16 * k) a (16 * k / 2) < 2 ^ (16 * k)
    ∧ ppSqrHalf (16 * k) a 0 + 2 ^ (16 * k) * ppSqrHalf (16 * k) a (16 * k / 2) = clmul a a := by
  have hk : 16 * k / 16 = k := by omega
  have hh : 16 * k / 2 = 8 * k := by omega
  rw [ppSqrHalf_eq, ppSqrHalf_eq, hk, hh, Nat.shiftRight_zero]
  have hlo : a % 2 ^ (8 * k) < 2 ^ (8 * k) := Nat.mod_lt _ (Nat.two_pow_pos _)
  have hhi : a >>> (8 * k) < 2 ^ (8 * k) := by
    rw [Nat.shiftRight_eq_div_pow]
    apply Nat.div_lt_of_lt_mul
    rwa [← Nat.pow_add, show 8 * k + 8 * k = 16 * k by omega]
  rw [Nat.mod_eq_of_lt hhi]
  have b1 := clmul_lt hlo hlo
  have b2 := clmul_lt hhi hhi
  rw [show 8 * k + 8 * k = 16 * k by omega] at b1 b2
  refine ⟨b1, b2, ?_⟩
  have ea : a = a % 2 ^ (8 * k) ^^^ ((a >>> (8 * k)) <<< (8 * k)) := by
    rw [← add_mul_eq_xor hlo, Nat.shiftRight_eq_div_pow, Nat.add_comm, Nat.div_add_mod]
  conv_rhs => rw [ea]
  rw [sqr_xor, sqr_shift, show 8 * k + 8 * k = 16 * k by omega, add_mul_eq_xor b1]

theorem ppSqr_spec (k : Nat) (a : List Nat) (ha : Wf (16 * k) a) :
    val (16 * k) (ppSqr (16 * k) a) = clmul (val (16 * k) a) (val (16 * k) a)
    ∧ Wf (16 * k) (ppSqr (16 * k) a) ∧ (ppSqr (16 * k) a).length = a.length + a.length := by
  induction a with
  | nil => simp [ppSqr, val, Wf_nil, clmul_zero]
  | cons a0 as ih =>
    obtain ⟨ha0, has⟩ := Wf_cons.mp ha
    obtain ⟨i1, i2, i3⟩ := ih has
    obtain ⟨s1, s2, s3⟩ := sqrWord k a0 ha0
    simp only [ppSqr, val_cons, List.length_cons]
    refine ⟨?_, Wf_cons.mpr ⟨s1, Wf_cons.mpr ⟨s2, i2⟩⟩, by rw [i3]; omega⟩
    rw [i1, add_mul_eq_xor ha0, sqr_xor, sqr_shift, ← s3]
    have hlt : ppSqrHalf (16 * k) a0 0 + 2 ^ (16 * k) * ppSqrHalf (16 * k) a0 (16 * k / 2)
        < 2 ^ (16 * k + 16 * k) := by
      rw [Nat.pow_add]
      have : 2 ^ (16 * k) * (ppSqrHalf (16 * k) a0 (16 * k / 2) + 1) ≤ 2 ^ (16 * k) * 2 ^ (16 * k) :=
        Nat.mul_le_mul_left _ s2
      rw [Nat.mul_add] at this; omega
    rw [← add_mul_eq_xor hlt, Nat.pow_add]
    generalize ppSqrHalf (16 * k) a0 0 = lo
    generalize ppSqrHalf (16 * k) a0 (16 * k / 2) = hi
    ring

/-! ## §10 towards `Mul1OK`: the table of `_MUL_PRE_S4` and one octet of `_MUL_MUL_S4` -/

theorem two_mul_add_one_xor (k : Nat) : 2 * k + 1 = (2 * k) ^^^ 1 := by
  have := add_mul_eq_xor (w := 1) (x := 1) (u := k) (by norm_num)
  rw [Nat.shiftLeft_eq, Nat.pow_one, Nat.mul_comm k 2] at this
  rw [Nat.add_comm, this, Nat.xor_comm]

theorem mod_mul_mod' (x c n : Nat) : (x % n * c) % n = (x * c) % n := by
  rw [Nat.mul_mod, Nat.mod_mod, ← Nat.mul_mod]

theorem tab_dbl (w a k : Nat) : clmul a (2 * k) % 2 ^ w = wshl w (clmul a k % 2 ^ w) 1 := by
  show _ = (clmul a k % 2 ^ w * 2 ^ 1) % 2 ^ w
  rw [clmul_two_mul, Nat.pow_one, mod_mul_mod', Nat.mul_comm]

theorem tab_inc (w a k : Nat) (ha : a < 2 ^ w) :
    clmul a (2 * k + 1) % 2 ^ w = (clmul a (2 * k) % 2 ^ w) ^^^ a := by
  rw [two_mul_add_one_xor, clmul_xor, clmul_one, Nat.xor_mod_two_pow, Nat.mod_eq_of_lt ha]

/-- `_MUL_PRE_S4`: entry i is `a · i mod x^w` -/
theorem ppTab_eq (w a : Nat) (ha : a < 2 ^ w) :
    ppTab w a = (List.range 16).map (fun i => clmul a i % 2 ^ w) := by
  have e0 : clmul a 0 % 2 ^ w = 0 := by rw [clmul_zero]; exact Nat.zero_mod _
  have e1 : clmul a 1 % 2 ^ w = a := by rw [clmul_one, Nat.mod_eq_of_lt ha]
  have e2 : clmul a 2 % 2 ^ w = wshl w (clmul a 1 % 2 ^ w) 1 := tab_dbl w a 1
  have e3 : clmul a 3 % 2 ^ w = (clmul a 2 % 2 ^ w) ^^^ a := tab_inc w a 1 ha
  have e4 : clmul a 4 % 2 ^ w = wshl w (clmul a 2 % 2 ^ w) 1 := tab_dbl w a 2
  have e5 : clmul a 5 % 2 ^ w = (clmul a 4 % 2 ^ w) ^^^ a := tab_inc w a 2 ha
  have e6 : clmul a 6 % 2 ^ w = wshl w (clmul a 3 % 2 ^ w) 1 := tab_dbl w a 3
  have e7 : clmul a 7 % 2 ^ w = (clmul a 6 % 2 ^ w) ^^^ a := tab_inc w a 3 ha
  have e8 : clmul a 8 % 2 ^ w = wshl w (clmul a 4 % 2 ^ w) 1 := tab_dbl w a 4
  have e9 : clmul a 9 % 2 ^ w = (clmul a 8 % 2 ^ w) ^^^ a := tab_inc w a 4 ha
  have e10 : clmul a 10 % 2 ^ w = wshl w (clmul a 5 % 2 ^ w) 1 := tab_dbl w a 5
  have e11 : clmul a 11 % 2 ^ w = (clmul a 10 % 2 ^ w) ^^^ a := tab_inc w a 5 ha
  have e12 : clmul a 12 % 2 ^ w = wshl w (clmul a 6 % 2 ^ w) 1 := tab_dbl w a 6
  have e13 : clmul a 13 % 2 ^ w = (clmul a 12 % 2 ^ w) ^^^ a := tab_inc w a 6 ha
  have e14 : clmul a 14 % 2 ^ w = wshl w (clmul a 7 % 2 ^ w) 1 := tab_dbl w a 7
  have e15 : clmul a 15 % 2 ^ w = (clmul a 14 % 2 ^ w) ^^^ a := tab_inc w a 7 ha
  simp only [List.range, List.range.loop, List.map]
  rw [e15, e14, e13, e12, e11, e10, e9, e8, e7, e6, e5, e4, e3, e2, e1, e0]
  rfl

theorem ppTab_at (w a i : Nat) (ha : a < 2 ^ w) (hi : i < 16) :
    ppAt (ppTab w a) i = clmul a i % 2 ^ w := by
  rw [ppTab_eq w a ha]
  show ((List.range 16).map (fun i => clmul a i % 2 ^ w)).getD i 0 = _
  rw [List.getD_eq_getElem?_getD, List.getElem?_map, List.getElem?_range hi]
  rfl

/-- one octet `y` of `b`: `t[y >> 4] << 4 ^ t[y & 15]` is `a · y mod x^w` -/
theorem octet_spec (w a y : Nat) (ha : a < 2 ^ w) (hy : y < 256) :
    wshl w (ppAt (ppTab w a) (y >>> 4)) 4 ^^^ ppAt (ppTab w a) (y &&& 15) = clmul a y % 2 ^ w := by
  have h15 : y &&& 15 = y % 2 ^ 4 := Nat.and_two_pow_sub_one_eq_mod y 4
  have hhi : y >>> 4 < 16 := by rw [Nat.shiftRight_eq_div_pow]; omega
  have hlo : y % 2 ^ 4 < 16 := Nat.mod_lt _ (by norm_num)
  rw [h15, ppTab_at w a _ ha hhi, ppTab_at w a _ ha hlo]
  have ey : y = y % 2 ^ 4 ^^^ ((y >>> 4) <<< 4) := by
    rw [← add_mul_eq_xor (Nat.mod_lt _ (by norm_num)), Nat.shiftRight_eq_div_pow, Nat.add_comm,
      Nat.div_add_mod]
  conv_rhs => rw [ey, clmul_xor, clmul_shiftLeft, Nat.xor_mod_two_pow]
  show (clmul a (y >>> 4) % 2 ^ w * 2 ^ 4) % 2 ^ w ^^^ _ = _
  rw [Nat.xor_comm, Nat.shiftLeft_eq, mod_mul_mod']

/-! ## §11 `_MUL_MUL_S4`: the (hi, lo) shift register -/

/-- octet i of b -/
def octet (b i : Nat) : Nat := (b >>> (8 * i)) &&& 255

/-- what the register accumulates: XOR_{i<j} (a·y_i mod x^w) << 8i -/
def Gf (w a b : Nat) : Nat → Nat
  | 0 => 0
  | j + 1 => ((clmul a (octet b j) % 2 ^ w) <<< (8 * j)) ^^^ Gf w a b j

/-- what the truncations lose: XOR_{i<j} ((a·y_i) >> w) << 8i -/
def Kf (w a b : Nat) : Nat → Nat
  | 0 => 0
  | j + 1 => ((clmul a (octet b j) >>> w) <<< (8 * j)) ^^^ Kf w a b j

theorem octet_lt (b i : Nat) : octet b i < 256 := by
  unfold octet; rw [and255]; exact Nat.mod_lt _ (by norm_num)

/-- one step of the register: exact two-word shift by 8, then xor into the low word -/
theorem regStep {w lo hi E s : Nat} (hw : 8 ≤ w) (hlo : lo < 2 ^ w) (hhi : hi < 2 ^ s)
    (hs : s + 8 ≤ w) (hE : E < 2 ^ w) :
    (wshl w lo 8 ^^^ E) + 2 ^ w * (wshl w hi 8 ^^^ (lo >>> (w - 8)))
      = ((lo + 2 ^ w * hi) <<< 8) ^^^ E
    ∧ wshl w lo 8 ^^^ E < 2 ^ w ∧ wshl w hi 8 ^^^ (lo >>> (w - 8)) < 2 ^ (s + 8) := by
  obtain ⟨u, rfl⟩ : ∃ u, w = u + 8 := ⟨w - 8, by omega⟩
  rw [Nat.add_sub_cancel]
  have hB : 2 ^ (u + 8) = 2 ^ u * 2 ^ 8 := Nat.pow_add 2 u 8
  have hdm := Nat.div_add_mod lo (2 ^ u)
  have hl0 : lo % 2 ^ u < 2 ^ u := Nat.mod_lt _ (Nat.two_pow_pos u)
  have hl1 : lo / 2 ^ u < 2 ^ 8 := Nat.div_lt_of_lt_mul (by rw [← hB]; exact hlo)
  have hsu : 2 ^ s ≤ 2 ^ u := Nat.pow_le_pow_right (by omega) (by omega)
  -- low word
  have e1 : wshl (u + 8) lo 8 = lo % 2 ^ u * 2 ^ 8 := by
    show lo * 2 ^ 8 % 2 ^ (u + 8) = _
    rw [hB, Nat.mul_mod_mul_right]
  have hX : lo % 2 ^ u * 2 ^ 8 < 2 ^ (u + 8) := by
    rw [hB]; exact Nat.mul_lt_mul_of_pos_right hl0 (by norm_num)
  -- high word
  have e2 : wshl (u + 8) hi 8 = hi * 2 ^ 8 := by
    show hi * 2 ^ 8 % 2 ^ (u + 8) = _
    apply Nat.mod_eq_of_lt
    rw [hB]; exact Nat.mul_lt_mul_of_pos_right (by omega) (by norm_num)
  have e3 : hi * 2 ^ 8 ^^^ lo >>> u = lo / 2 ^ u + 2 ^ 8 * hi := by
    rw [add_mul_eq_xor hl1, Nat.shiftRight_eq_div_pow, Nat.shiftLeft_eq, Nat.xor_comm]
  rw [e1, e2, e3]
  refine ⟨?_, Nat.xor_lt_two_pow hX hE, ?_⟩
  · have e4 : (lo + 2 ^ (u + 8) * hi) <<< 8
        = lo % 2 ^ u * 2 ^ 8 + 2 ^ (u + 8) * (lo / 2 ^ u + 2 ^ 8 * hi) := by
      rw [Nat.shiftLeft_eq, hB]
      conv_lhs => rw [← hdm]
      ring
    rw [e4]
    have := add_mul_xor (w := u + 8) (x := lo % 2 ^ u * 2 ^ 8) (y := E)
      (u := lo / 2 ^ u + 2 ^ 8 * hi) (v := 0) hX hE
    rw [Nat.mul_zero, Nat.add_zero, Nat.xor_zero] at this
    exact this.symm
  · have : 2 ^ 8 * (hi + 1) ≤ 2 ^ 8 * 2 ^ s := Nat.mul_le_mul_left _ hhi
    rw [Nat.pow_add, Nat.mul_comm (2 ^ s)]
    omega

theorem nib_hi (b j : Nat) : (b >>> (8 * j + 4)) &&& 15 = octet b j >>> 4 := by
  unfold octet
  rw [Nat.shiftRight_add, and255, show (15 : Nat) = 2 ^ 4 - 1 by norm_num,
    Nat.and_two_pow_sub_one_eq_mod, Nat.shiftRight_eq_div_pow, Nat.shiftRight_eq_div_pow,
    Nat.shiftRight_eq_div_pow]
  omega

theorem nib_lo (b j : Nat) : (b >>> (8 * j)) &&& 15 = octet b j &&& 15 := by
  unfold octet
  rw [and255, show (15 : Nat) = 2 ^ 4 - 1 by norm_num, Nat.and_two_pow_sub_one_eq_mod,
    Nat.and_two_pow_sub_one_eq_mod]
  omega

/-- the octet loop of `_MUL_MUL_S4`: `j` octets left, `hi` has room for them -/
theorem ppMulS4Loop_spec (w a b : Nat) (ha : a < 2 ^ w) (hw : 8 ≤ w) (j : Nat) :
    ∀ lo hi s, lo < 2 ^ w → hi < 2 ^ s → s + 8 * j ≤ w →
      (ppMulS4Loop w (ppTab w a) b j lo hi).1 < 2 ^ w
      ∧ (ppMulS4Loop w (ppTab w a) b j lo hi).2 < 2 ^ (s + 8 * j)
      ∧ (ppMulS4Loop w (ppTab w a) b j lo hi).1 + 2 ^ w * (ppMulS4Loop w (ppTab w a) b j lo hi).2
        = ((lo + 2 ^ w * hi) <<< (8 * j)) ^^^ Gf w a b j := by
  induction j with
  | zero =>
    intro lo hi s hlo hhi hs
    simp only [ppMulS4Loop, Gf, Nat.mul_zero, Nat.add_zero, Nat.shiftLeft_zero, Nat.xor_zero]
    exact ⟨hlo, hhi, trivial⟩
  | succ j ih =>
    intro lo hi s hlo hhi hs
    have hE : clmul a (octet b j) % 2 ^ w < 2 ^ w := Nat.mod_lt _ (Nat.two_pow_pos w)
    obtain ⟨r1, r2, r3⟩ := regStep hw hlo hhi (by omega) hE
    obtain ⟨i1, i2, i3⟩ := ih _ _ (s + 8) r2 r3 (by omega)
    have hlo' : wshl w lo 8 ^^^ wshl w (ppAt (ppTab w a) ((b >>> (8 * j + 4)) &&& 15)) 4
        ^^^ ppAt (ppTab w a) ((b >>> (8 * j)) &&& 15)
        = wshl w lo 8 ^^^ (clmul a (octet b j) % 2 ^ w) := by
      rw [nib_hi, nib_lo, Nat.xor_assoc, octet_spec w a _ ha (octet_lt b j)]
    simp only [ppMulS4Loop, hlo']
    refine ⟨i1, by rw [show s + 8 * (j + 1) = s + 8 + 8 * j by omega]; exact i2, ?_⟩
    rw [i3, r1, Gf, Nat.shiftLeft_xor_distrib, ← Nat.shiftLeft_add,
      show 8 + 8 * j = 8 * (j + 1) by omega, Nat.xor_assoc]

theorem mod_succ_octet (b j : Nat) :
    b % 2 ^ (8 * (j + 1)) = b % 2 ^ (8 * j) ^^^ (octet b j <<< (8 * j)) := by
  have hlow : b % 2 ^ (8 * j) < 2 ^ (8 * j) := Nat.mod_lt _ (Nat.two_pow_pos _)
  unfold octet
  rw [show 8 * (j + 1) = 8 * j + 8 by omega, Nat.pow_add, Nat.mod_mul, add_mul_eq_xor hlow,
    and255, Nat.shiftRight_eq_div_pow]

/-- the product of `a` with the low j octets of `b`, split into what the register holds and what
    the truncations lose -/
theorem clmul_Gf_Kf (w a b j : Nat) :
    clmul a (b % 2 ^ (8 * j)) = Gf w a b j ^^^ (Kf w a b j <<< w) := by
  induction j with
  | zero => simp [Gf, Kf, Nat.mod_one, clmul_zero]
  | succ j ih =>
    have hx : clmul a (octet b j)
        = clmul a (octet b j) % 2 ^ w ^^^ ((clmul a (octet b j) >>> w) <<< w) := by
      rw [← add_mul_eq_xor (Nat.mod_lt _ (Nat.two_pow_pos w)), Nat.shiftRight_eq_div_pow,
        Nat.add_comm, Nat.div_add_mod]
    rw [mod_succ_octet, clmul_xor, clmul_shiftLeft, ih, Gf, Kf]
    conv_lhs => rw [hx]
    simp only [Nat.shiftLeft_xor_distrib, ← Nat.shiftLeft_add, Nat.add_comm w (8 * j)]
    ac_rfl

/-- the seven `_MUL_REPAIR_S4` lines add exactly the lost part (`RepairOK_mul8`) -/
def RepairOK (w : Nat) : Prop :=
  ∀ a b hi, a < 2 ^ w → b < 2 ^ w → ppRepair w a b hi = hi ^^^ Kf w a b (w / 8)

theorem Mul1OK_of_RepairOK (nb : Nat) (hnb : 2 ≤ nb) (hr : RepairOK (8 * nb)) : Mul1OK (8 * nb) := by
  intro a b ha hb
  have hw8 : 8 * nb / 8 = nb := by omega
  obtain ⟨j, rfl⟩ : ∃ j, nb = j + 1 := ⟨nb - 1, by omega⟩
  have hB := Nat.two_pow_pos (8 * (j + 1))
  -- top octet
  have htop : b >>> (8 * (j + 1) - 8) = octet b j := by
    unfold octet
    rw [show 8 * (j + 1) - 8 = 8 * j by omega, and255, Nat.mod_eq_of_lt]
    rw [Nat.shiftRight_eq_div_pow]
    apply Nat.div_lt_of_lt_mul
    rw [← Nat.pow_add, show 8 * j + 8 = 8 * (j + 1) by omega]; exact hb
  have hlo0 : wshl (8 * (j + 1)) (ppAt (ppTab (8 * (j + 1)) a) (b >>> (8 * (j + 1) - 4))) 4
      ^^^ ppAt (ppTab (8 * (j + 1)) a) ((b >>> (8 * (j + 1) - 8)) &&& 15)
      = clmul a (octet b j) % 2 ^ (8 * (j + 1)) := by
    have h4 : b >>> (8 * (j + 1) - 4) = octet b j >>> 4 := by
      rw [← htop, ← Nat.shiftRight_add, show 8 * (j + 1) - 8 + 4 = 8 * (j + 1) - 4 by omega]
    rw [h4, htop, octet_spec _ a _ ha (octet_lt b j)]
  have hE : clmul a (octet b j) % 2 ^ (8 * (j + 1)) < 2 ^ (8 * (j + 1)) := Nat.mod_lt _ hB
  obtain ⟨l1, l2, l3⟩ := ppMulS4Loop_spec (8 * (j + 1)) a b ha (by omega) j _ 0 0 hE
    (Nat.two_pow_pos 0) (by omega)
  simp only [Nat.mul_zero, Nat.add_zero] at l3
  have hV : (ppMulS4 (8 * (j + 1)) (ppTab (8 * (j + 1)) a) b).1
      + 2 ^ (8 * (j + 1)) * (ppMulS4 (8 * (j + 1)) (ppTab (8 * (j + 1)) a) b).2
      = Gf (8 * (j + 1)) a b (j + 1) := by
    unfold ppMulS4
    simp only [hlo0, hw8, Nat.add_sub_cancel]
    rw [l3, Gf]
  have hlo : (ppMulS4 (8 * (j + 1)) (ppTab (8 * (j + 1)) a) b).1 < 2 ^ (8 * (j + 1)) := by
    unfold ppMulS4
    simp only [hlo0, hw8, Nat.add_sub_cancel]
    exact l1
  have hprod := clmul_Gf_Kf (8 * (j + 1)) a b (j + 1)
  rw [Nat.mod_eq_of_lt hb, ← hV] at hprod
  have e : Kf (8 * (j + 1)) a b (j + 1) <<< (8 * (j + 1))
      = 0 + 2 ^ (8 * (j + 1)) * Kf (8 * (j + 1)) a b (j + 1) := by
    rw [Nat.shiftLeft_eq, Nat.mul_comm, Nat.zero_add]
  rw [e, add_mul_xor hlo hB, Nat.xor_zero] at hprod
  have hrep := hr a b (ppMulS4 (8 * (j + 1)) (ppTab (8 * (j + 1)) a) b).2 ha hb
  rw [hw8] at hrep
  have hlt := clmul_lt ha hb
  rw [Nat.pow_add] at hlt
  unfold ppMul1W
  simp only [hrep]
  generalize (ppMulS4 (8 * (j + 1)) (ppTab (8 * (j + 1)) a) b).1 = lo at *
  generalize (ppMulS4 (8 * (j + 1)) (ppTab (8 * (j + 1)) a) b).2
    ^^^ Kf (8 * (j + 1)) a b (j + 1) = X at *
  refine ⟨hlo, ?_, hprod.symm⟩
  by_contra hcon
  have : 2 ^ (8 * (j + 1)) * 2 ^ (8 * (j + 1)) ≤ 2 ^ (8 * (j + 1)) * X :=
    Nat.mul_le_mul_left _ (by omega)
  omega

/-! ## §12 `_MUL_REPAIR_S4` by additivity in `a` -/

/-- xor-additive functions that agree on the monomials agree below `2^n` -/
theorem additive_ext (f g : Nat → Nat) (hf : ∀ x y, f (x ^^^ y) = f x ^^^ f y)
    (hg : ∀ x y, g (x ^^^ y) = g x ^^^ g y) (n : Nat) (h : ∀ i < n, f (2 ^ i) = g (2 ^ i)) :
    ∀ x < 2 ^ n, f x = g x := by
  have f0 : f 0 = 0 := by
    have h2 := hf 0 0
    rw [Nat.xor_self] at h2
    have : f 0 ^^^ f 0 = 0 := Nat.xor_self _
    rw [← h2] at this; exact this
  have g0 : g 0 = 0 := by
    have h2 := hg 0 0
    rw [Nat.xor_self] at h2
    have : g 0 ^^^ g 0 = 0 := Nat.xor_self _
    rw [← h2] at this; exact this
  induction n with
  | zero => intro x hx; have : x = 0 := by simpa using hx
            rw [this, f0, g0]
  | succ n ih =>
    intro x hx
    have hlow : x % 2 ^ n < 2 ^ n := Nat.mod_lt _ (Nat.two_pow_pos n)
    have hq : x / 2 ^ n < 2 := Nat.div_lt_of_lt_mul (by rw [← Nat.pow_succ]; exact hx)
    have ex : x = x % 2 ^ n ^^^ ((x / 2 ^ n) <<< n) := by
      rw [← add_mul_eq_xor hlow, Nat.add_comm, Nat.div_add_mod]
    have hq01 : x / 2 ^ n = 0 ∨ x / 2 ^ n = 1 := by
      revert hq; generalize x / 2 ^ n = q; omega
    rw [ex, hf, hg, ih (fun i hi => h i (by omega)) _ hlow]
    congr 1
    obtain h0 | h1 := hq01
    · rw [h0, Nat.zero_shiftLeft, f0, g0]
    · rw [h1, Nat.one_shiftLeft]; exact h n (by omega)

theorem Kf_add_a (w a1 a2 b j : Nat) : Kf w (a1 ^^^ a2) b j = Kf w a1 b j ^^^ Kf w a2 b j := by
  induction j with
  | zero => simp [Kf]
  | succ j ih =>
    simp only [Kf, xor_clmul, Nat.shiftRight_xor_distrib, Nat.shiftLeft_xor_distrib, ih]
    ac_rfl

theorem ppRepair_eq (w a b hi : Nat) : ppRepair w a b hi = hi ^^^ ppRepair w a b 0 := by
  simp only [ppRepair, List.foldl, ppRepairStep, Nat.zero_xor, Nat.xor_assoc]

theorem wneg_add (w u v : Nat) (hw : 0 < w) (hu : u ≤ 1) (hv : v ≤ 1) :
    wneg w (u ^^^ v) = wneg w u ^^^ wneg w v := by
  obtain rfl | rfl : u = 0 ∨ u = 1 := by omega
  all_goals obtain rfl | rfl : v = 0 ∨ v = 1 := by omega
  all_goals simp [Add.wneg01 hw]

theorem ppRepair_add_a (w a1 a2 b : Nat) (hw : 0 < w) :
    ppRepair w (a1 ^^^ a2) b 0 = ppRepair w a1 b 0 ^^^ ppRepair w a2 b 0 := by
  have key : ∀ s, wneg w (((a1 ^^^ a2) >>> s) &&& 1)
      = wneg w ((a1 >>> s) &&& 1) ^^^ wneg w ((a2 >>> s) &&& 1) := by
    intro s
    rw [Nat.shiftRight_xor_distrib, Nat.and_xor_distrib_right,
      wneg_add w _ _ hw Nat.and_le_right Nat.and_le_right]
  simp only [ppRepair, List.foldl, ppRepairStep, Nat.zero_xor, key, Nat.and_xor_distrib_left]
  ac_rfl

theorem testBit_repOctet (nb x q : Nat) (hx : x < 2 ^ 8) :
    ((List.range nb).foldl (fun acc j => acc ||| (x <<< (8 * j))) 0).testBit q
      = (decide (q < 8 * nb) && x.testBit (q % 8)) := by
  induction nb with
  | zero => simp
  | succ nb ih =>
    rw [List.range_succ, List.foldl_append, List.foldl_cons, List.foldl_nil, Nat.testBit_or, ih,
      Nat.testBit_shiftLeft]
    by_cases h1 : q < 8 * nb
    · have : ¬ q ≥ 8 * nb := by omega
      simp [h1, this, show q < 8 * (nb + 1) by omega]
    · by_cases h2 : q < 8 * (nb + 1)
      · simp [h1, h2, show q ≥ 8 * nb by omega, show q - 8 * nb = q % 8 by omega]
      · have : x.testBit (q - 8 * nb) = false :=
          Nat.testBit_lt_two_pow (Nat.lt_of_lt_of_le hx (Nat.pow_le_pow_right (by omega) (by omega)))
        simp [h1, h2, this]

theorem testBit_Kf_mono (w k b j p : Nat) (hk : k ≤ w) :
    (Kf w (2 ^ (w - k)) b j).testBit p
      = (decide (p < 8 * j) && decide (p % 8 + k < 8) && b.testBit (p + k)) := by
  induction j with
  | zero => simp [Kf]
  | succ j ih =>
    rw [Kf, Nat.testBit_xor, ih, Nat.testBit_shiftLeft, Nat.testBit_shiftRight, two_pow_clmul,
      Nat.testBit_shiftLeft, octet, and255, Nat.testBit_mod_two_pow, Nat.testBit_shiftRight]
    by_cases h1 : p < 8 * j
    · have : ¬ p ≥ 8 * j := by omega
      simp [h1, this, show p < 8 * (j + 1) by omega]
    · have e : 8 * j + (w + (p - 8 * j) - (w - k)) = p + k := by omega
      by_cases h2 : p < 8 * (j + 1)
      · have : (w + (p - 8 * j) - (w - k) < 8) ↔ (p % 8 + k < 8) := by omega
        simp [h1, h2, e, this, show p ≥ 8 * j by omega, show w + (p - 8 * j) ≥ w - k by omega]
      · have : ¬ (w + (p - 8 * j) - (w - k) < 8) := by omega
        simp [h1, h2, this]

/-- line c of `_MUL_REPAIR_S4` fires for the monomial a = x^(w-k) iff c = k -/
theorem repairSel {w k c : Nat} (hk : k ≤ w) (h8 : 8 ≤ w) (hc : c ≤ 7) :
    wneg w ((2 ^ (w - k) >>> (w - c)) &&& 1) = if k = c then 2 ^ w - 1 else 0 := by
  have hb : (2 ^ (w - k) >>> (w - c)) &&& 1 = if k = c then 1 else 0 := by
    rw [Nat.and_one_is_mod, Nat.shiftRight_eq_div_pow]
    by_cases h : k = c
    · subst h; simp [Nat.div_self (Nat.two_pow_pos _)]
    · rw [if_neg h]
      rcases Nat.lt_or_gt_of_ne h with h' | h'
      · rw [Nat.pow_div (by omega) (by omega), show w - k - (w - c) = (c - k - 1) + 1 by omega,
          Nat.pow_succ, Nat.mul_mod_left]
      · rw [Nat.div_eq_of_lt (Nat.pow_lt_pow_right (by omega) (by omega))]
  rw [hb, Add.wneg01 (by omega) (by split <;> omega)]
  split <;> simp_all

theorem testBit_repairTerm (nb b c p : Nat) (hc : c ≤ 7) :
    (((b &&& (List.range nb).foldl (fun acc j => acc ||| ((255 <<< c) &&& 255) <<< (8 * j)) 0) >>> c)
        &&& (2 ^ (8 * nb) - 1)).testBit p
      = (decide (p < 8 * nb) && decide (p % 8 + c < 8) && b.testBit (p + c)) := by
  rw [Nat.testBit_and, Nat.testBit_two_pow_sub_one, Nat.testBit_shiftRight, Nat.testBit_and,
    testBit_repOctet _ _ _ (Nat.and_lt_two_pow _ (by decide : 255 < 2 ^ 8)), Nat.testBit_and,
    Nat.testBit_shiftLeft, show (255 : Nat) = 2 ^ 8 - 1 from rfl, Nat.testBit_two_pow_sub_one,
    Nat.testBit_two_pow_sub_one, Nat.add_comm c p]
  by_cases hb : b.testBit (p + c) <;> simp [hb]
  rw [Bool.eq_iff_iff]
  simp only [Bool.and_eq_true, decide_eq_true_eq]
  omega

theorem repair_mono (nb k b : Nat) (hk1 : 1 ≤ k) (hk : k ≤ 8 * nb) :
    ppRepair (8 * nb) (2 ^ (8 * nb - k)) b 0 = Kf (8 * nb) (2 ^ (8 * nb - k)) b nb := by
  apply Nat.eq_of_testBit_eq
  intro p
  rw [testBit_Kf_mono _ _ _ _ _ hk]
  simp only [ppRepair, List.foldl, ppRepairStep, Nat.zero_xor, repairSel hk (by omega : 8 ≤ 8 * nb),
    Nat.reduceLeDiff, ppRepOctet, Nat.mul_div_cancel_left _ (by decide : 0 < 8)]
  rcases (by omega : k = 1 ∨ k = 2 ∨ k = 3 ∨ k = 4 ∨ k = 5 ∨ k = 6 ∨ k = 7 ∨ 8 ≤ k)
    with rfl | rfl | rfl | rfl | rfl | rfl | rfl | h
  case inr.inr.inr.inr.inr.inr.inr =>
    have hne : ∀ c, c ≤ 7 → ¬ k = c := fun c hc => by omega
    simp [hne]
    intro _ _; omega
  all_goals
    simp only [Nat.reduceEqDiff, if_true, if_false, Nat.and_zero, Nat.xor_zero, Nat.zero_xor]
    exact testBit_repairTerm nb b _ p (by decide)

/-- both sides of `RepairOK` are xor-additive in `a`: agreement on the monomials suffices -/
theorem RepairOK_mul8 (nb : Nat) (hnb : 1 ≤ nb) : RepairOK (8 * nb) := by
  intro a b hi ha _
  rw [ppRepair_eq, Nat.mul_div_cancel_left _ (by decide : 0 < 8)]
  congr 1
  refine additive_ext (fun a => ppRepair (8 * nb) a b 0) (fun a => Kf (8 * nb) a b nb)
    (fun x y => ppRepair_add_a _ x y b (by omega)) (fun x y => Kf_add_a _ x y b nb) _ (fun i hi => ?_) a ha
  have := repair_mono nb (8 * nb - i) b (by omega) (by omega)
  rwa [show 8 * nb - (8 * nb - i) = i by omega] at this

/-- `_MUL1` is the carry-less product for every word size 8·nb ≥ 16 -/
theorem Mul1OK_mul8 (nb : Nat) (hnb : 2 ≤ nb) : Mul1OK (8 * nb) :=
  Mul1OK_of_RepairOK nb hnb (RepairOK_mul8 nb (by omega))

theorem Mul1OK_of_width {w : Nat} (hw : w = 16 ∨ w = 32 ∨ w = 64) : Mul1OK w := by
  rcases hw with rfl | rfl | rfl
  · exact Mul1OK_mul8 2 (by decide)
  · exact Mul1OK_mul8 4 (by decide)
  · exact Mul1OK_mul8 8 (by decide)

end Bee2V.C05.PpMul
