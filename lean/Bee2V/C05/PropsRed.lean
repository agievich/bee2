/-
C05 — special reductions of zz_red.c: zzRedCrandMont (both editions) = Montgomery reduction
for a Crandall modulus; zzRedBarr: the defect of the old SAFE edition (counterexample) and the
general theorems for the repaired code.  Models: ModelRed.lean, helper lemmas: LemmasRed.lean.
-/
import Bee2V.C05.LemmasRed
import Bee2V.C05.PropsMul
namespace Bee2V.C05
open Bee2V.C05.Add Bee2V.C05.Red

/-! ## zzRedCrandMont

Header preconditions: n ≥ 2 (`ms ≠ []`), mod = m0 :: (B-1) … (B-1), `m0 * mont_param ≡ -1 (mod B)`
(which makes m0 odd and non-zero), a has 2n words, `a < mod * B^n`. -/

/-- SAFE(zzRedCrandMont): `r * B^n ≡ a (mod mod)`, `r < mod`, n words. -/
theorem zzRedCrandMont_safe_spec (w : Nat) (m0 : Nat) (ms a : List Nat) (mp : Nat)
    (hms : ∀ x ∈ ms, x = 2 ^ w - 1) (hne : ms ≠ [])
    (hm0 : 0 < m0) (hm0B : m0 < 2 ^ w) (hmp : (m0 * mp + 1) % 2 ^ w = 0)
    (ha : Wf w a) (hl : a.length = (m0 :: ms).length + (m0 :: ms).length)
    (hlt : val w a < val w (m0 :: ms) * 2 ^ (w * (m0 :: ms).length)) :
    (val w (zzRedCrandMont_safe w a (m0 :: ms) mp) * 2 ^ (w * (m0 :: ms).length)) % val w (m0 :: ms)
      = val w a % val w (m0 :: ms)
    ∧ val w (zzRedCrandMont_safe w a (m0 :: ms) mp) < val w (m0 :: ms)
    ∧ Wf w (zzRedCrandMont_safe w a (m0 :: ms) mp)
    ∧ (zzRedCrandMont_safe w a (m0 :: ms) mp).length = (m0 :: ms).length := by
  apply crandMont_finish w cmAddS cmSubS (cmAddS_ok w) (cmSubS_ok w) m0 ms a mp hms hne hm0 hm0B hmp
    ha hl hlt
  obtain ⟨n', hn⟩ : ∃ n', ms.length = n' + 1 :=
    ⟨ms.length - 1, by have := List.length_pos_iff.mpr hne; omega⟩
  have hmod : Wf w (m0 :: ms) := Wf_cons.mpr ⟨hm0B, Mul.Wf_ones w ms hms⟩
  have hw : 0 < w := by
    rcases Nat.eq_zero_or_pos w with h | h
    · subst h; have : m0 < 1 := by simpa using hm0B
      omega
    · exact h
  obtain ⟨t, _, t2, t3, t4, _⟩ := cmCore_spec w cmAddS cmSubS (cmAddS_ok w) (cmSubS_ok w) m0 ms a mp
    n' hn hms hm0 hm0B hmp ha hl hlt
  unfold zzRedCrandMont_safe
  simp only []
  generalize zzRedCrandMontCore w cmAddS cmSubS a (m0 :: ms) mp = r at *
  exact Mul.safe_select w hw _ _ _ t3 hmod t4 t2

/-- FAST(zzRedCrandMont): the same statement. -/
theorem zzRedCrandMont_fast_spec (w : Nat) (m0 : Nat) (ms a : List Nat) (mp : Nat)
    (hms : ∀ x ∈ ms, x = 2 ^ w - 1) (hne : ms ≠ [])
    (hm0 : 0 < m0) (hm0B : m0 < 2 ^ w) (hmp : (m0 * mp + 1) % 2 ^ w = 0)
    (ha : Wf w a) (hl : a.length = (m0 :: ms).length + (m0 :: ms).length)
    (hlt : val w a < val w (m0 :: ms) * 2 ^ (w * (m0 :: ms).length)) :
    (val w (zzRedCrandMont_fast w a (m0 :: ms) mp) * 2 ^ (w * (m0 :: ms).length)) % val w (m0 :: ms)
      = val w a % val w (m0 :: ms)
    ∧ val w (zzRedCrandMont_fast w a (m0 :: ms) mp) < val w (m0 :: ms)
    ∧ Wf w (zzRedCrandMont_fast w a (m0 :: ms) mp)
    ∧ (zzRedCrandMont_fast w a (m0 :: ms) mp).length = (m0 :: ms).length := by
  apply crandMont_finish w cmAddF cmSubF (cmAddF_ok w) (cmSubF_ok w) m0 ms a mp hms hne hm0 hm0B hmp
    ha hl hlt
  obtain ⟨n', hn⟩ : ∃ n', ms.length = n' + 1 :=
    ⟨ms.length - 1, by have := List.length_pos_iff.mpr hne; omega⟩
  have hmod : Wf w (m0 :: ms) := Wf_cons.mpr ⟨hm0B, Mul.Wf_ones w ms hms⟩
  obtain ⟨t, _, t2, t3, t4, _⟩ := cmCore_spec w cmAddF cmSubF (cmAddF_ok w) (cmSubF_ok w) m0 ms a mp
    n' hn hms hm0 hm0B hmp ha hl hlt
  unfold zzRedCrandMont_fast
  simp only []
  have := Mul.wwCmp2_safe_top w _ (m0 :: ms) _ t3 hmod t4 t2
  by_cases hc : wwCmp2_safe ((zzRedCrandMontCore w cmAddF cmSubF a (m0 :: ms) mp).1
      ++ [(zzRedCrandMontCore w cmAddF cmSubF a (m0 :: ms) mp).2]) (m0 :: ms) ≥ 0
  · rw [if_pos hc, if_pos (this.mp hc)]
  · rw [if_neg hc, if_neg (fun h => hc (this.mpr h))]

/-- SAFE(zzRedCrandMont) = FAST(zzRedCrandMont) under the header's preconditions. -/
theorem zzRedCrandMont_safe_eq_fast (w : Nat) (m0 : Nat) (ms a : List Nat) (mp : Nat)
    (hms : ∀ x ∈ ms, x = 2 ^ w - 1) (hne : ms ≠ [])
    (hm0 : 0 < m0) (hm0B : m0 < 2 ^ w) (hmp : (m0 * mp + 1) % 2 ^ w = 0)
    (ha : Wf w a) (hl : a.length = (m0 :: ms).length + (m0 :: ms).length)
    (hlt : val w a < val w (m0 :: ms) * 2 ^ (w * (m0 :: ms).length)) :
    zzRedCrandMont_safe w a (m0 :: ms) mp = zzRedCrandMont_fast w a (m0 :: ms) mp := by
  obtain ⟨s1, s2, s3, s4⟩ := zzRedCrandMont_safe_spec w m0 ms a mp hms hne hm0 hm0B hmp ha hl hlt
  obtain ⟨f1, f2, f3, f4⟩ := zzRedCrandMont_fast_spec w m0 ms a mp hms hne hm0 hm0B hmp ha hl hlt
  have hw : 0 < w := by
    rcases Nat.eq_zero_or_pos w with h | h
    · subst h; have : m0 < 1 := by simpa using hm0B
      omega
    · exact h
  have hodd : val w (m0 :: ms) % 2 = 1 := by
    obtain ⟨k, rfl⟩ : ∃ k, w = k + 1 := ⟨w - 1, by omega⟩
    rw [val_mod_two]
    exact odd_of_mont (by omega) hmp
  exact val_inj s3 f3 (s4.trans f4.symm) (mont_unique hodd (s1.trans f1.symm) s2 f2)

example : zzRedCrandMont_safe 64 [5, 2 ^ 64 - 1, 7, 2 ^ 64 - 3] [2 ^ 64 - 189, 2 ^ 64 - 1] 11907422100489763477
      = zzRedCrandMont_fast 64 [5, 2 ^ 64 - 1, 7, 2 ^ 64 - 3] [2 ^ 64 - 189, 2 ^ 64 - 1] 11907422100489763477
    ∧ ((2 ^ 64 - 189) * 11907422100489763477 + 1) % 2 ^ 64 = 0
    ∧ (val 64 (zzRedCrandMont_fast 64 [5, 2 ^ 64 - 1, 7, 2 ^ 64 - 3] [2 ^ 64 - 189, 2 ^ 64 - 1]
          11907422100489763477) * 2 ^ 128) % (2 ^ 128 - 189)
        = val 64 [5, 2 ^ 64 - 1, 7, 2 ^ 64 - 3] % (2 ^ 128 - 189) := by decide +kernel

/-- for a Crandall modulus the specialised reduction returns the same words as the generic
    Montgomery reduction zzRedMont (both editions). -/
theorem zzRedCrandMont_eq_zzRedMont (w : Nat) (m0 : Nat) (ms a : List Nat) (mp : Nat)
    (hms : ∀ x ∈ ms, x = 2 ^ w - 1) (hne : ms ≠ [])
    (hm0 : 0 < m0) (hm0B : m0 < 2 ^ w) (hmp : (m0 * mp + 1) % 2 ^ w = 0)
    (ha : Wf w a) (hl : a.length = (m0 :: ms).length + (m0 :: ms).length)
    (hlt : val w a < val w (m0 :: ms) * 2 ^ (w * (m0 :: ms).length)) :
    zzRedCrandMont_safe w a (m0 :: ms) mp = zzRedMont_safe w a (m0 :: ms) mp
    ∧ zzRedCrandMont_fast w a (m0 :: ms) mp = zzRedMont_fast w a (m0 :: ms) mp := by
  have hmod : Wf w (m0 :: ms) := Wf_cons.mpr ⟨hm0B, Mul.Wf_ones w ms hms⟩
  have hw : 0 < w := by
    rcases Nat.eq_zero_or_pos w with h | h
    · subst h; have : m0 < 1 := by simpa using hm0B
      omega
    · exact h
  have hodd : val w (m0 :: ms) % 2 = 1 := by
    obtain ⟨k, rfl⟩ : ∃ k, w = k + 1 := ⟨w - 1, by omega⟩
    rw [val_mod_two]
    exact odd_of_mont (by omega) hmp
  obtain ⟨s1, s2, s3, s4⟩ := zzRedCrandMont_safe_spec w m0 ms a mp hms hne hm0 hm0B hmp ha hl hlt
  obtain ⟨f1, f2, f3, f4⟩ := zzRedCrandMont_fast_spec w m0 ms a mp hms hne hm0 hm0B hmp ha hl hlt
  obtain ⟨a1, a2, a3, a4⟩ := zzRedMont_safe_spec w m0 ms a mp ha hmod hl hmp hlt
  obtain ⟨b1, b2, b3, b4⟩ := zzRedMont_fast_spec w m0 ms a mp ha hmod hl hmp hlt
  exact ⟨val_inj s3 a3 (s4.trans a4.symm) (mont_unique hodd (s1.trans a1.symm) s2 a2),
    val_inj f3 b3 (f4.trans b4.symm) (mont_unique hodd (f1.trans b1.symm) f2 b2)⟩

/-! ## zzRedBarr

`zzRedBarr_safe` models the code as repaired by docs/C05.fix-11.diff; `zzRedBarr_safe_old` is the
code before the repair.  The old SAFE edition violates the header's formula: witness below
(w = 8, n = 3; the same construction works for every word size, on the real library for
w = 64: mod = 2^192 - 2^96 + 1).

The general theorems for the repaired code (`zzRedBarrStart_spec`, `zzRedBarr_fast_spec`,
`zzRedBarr_safe_spec`, `zzRedBarr_safe_eq_fast`) follow the counterexamples.  They rest on
`Red.barrett_estimate` (q̂ M ≤ a < (q̂ + 3) M for q̂ = ⌊⌊a / B^{n-1}⌋ μ / B^{n+1}⌋,
μ = ⌊B^{2n} / M⌋), `Red.barrCommon_spec` (the (n+1)-word truncated subtraction is exactly
a - q̂ M < 3 M; needs B ≥ 4, i.e. `2 ≤ w`), `Red.barrFastLoop_spec` (the while loop with fuel)
and `Red.barrRound` (one masked round).  Header remark: zz.h states the precondition of
zzRedBarrStart as "n > 0 && mod[n] != 0"; this is a typo for mod[n - 1] (the C ASSERT and
zzRedBarr say mod[n - 1]). -/

/-- the old SAFE(zzRedBarr) returns a wrong remainder (a[n] = 2 after the first subtraction):
    the header promises `a mod mod`, FAST and the repaired SAFE deliver it. -/
theorem zzRedBarr_safe_old_counterexample :
    zzRedBarr_safe_old 8 [0xff, 0xff, 0x00, 0xff, 0xff, 0xff] [0x01, 0xf0, 0xff]
        (zzRedBarrStart 8 [0x01, 0xf0, 0xff])
      ≠ toWords 8 3 (val 8 [0xff, 0xff, 0x00, 0xff, 0xff, 0xff] % val 8 [0x01, 0xf0, 0xff])
    ∧ zzRedBarr_safe 8 [0xff, 0xff, 0x00, 0xff, 0xff, 0xff] [0x01, 0xf0, 0xff]
        (zzRedBarrStart 8 [0x01, 0xf0, 0xff])
      = toWords 8 3 (val 8 [0xff, 0xff, 0x00, 0xff, 0xff, 0xff] % val 8 [0x01, 0xf0, 0xff])
    ∧ zzRedBarr_fast 8 [0xff, 0xff, 0x00, 0xff, 0xff, 0xff] [0x01, 0xf0, 0xff]
        (zzRedBarrStart 8 [0x01, 0xf0, 0xff])
      = toWords 8 3 (val 8 [0xff, 0xff, 0x00, 0xff, 0xff, 0xff] % val 8 [0x01, 0xf0, 0xff]) := by
  decide +kernel

/-- the same witness class on 64-bit words (the input that fails on the real library). -/
theorem zzRedBarr_safe_old_counterexample64 :
    zzRedBarr_safe_old 64 [2 ^ 64 - 1, 2 ^ 64 - 1, 0, 2 ^ 64 - 1, 2 ^ 64 - 1, 2 ^ 64 - 1]
        [1, 2 ^ 64 - 2 ^ 32, 2 ^ 64 - 1] (zzRedBarrStart 64 [1, 2 ^ 64 - 2 ^ 32, 2 ^ 64 - 1])
      = [1, 0xfffffffe00000000, 1]
    ∧ zzRedBarr_safe 64 [2 ^ 64 - 1, 2 ^ 64 - 1, 0, 2 ^ 64 - 1, 2 ^ 64 - 1, 2 ^ 64 - 1]
        [1, 2 ^ 64 - 2 ^ 32, 2 ^ 64 - 1] (zzRedBarrStart 64 [1, 2 ^ 64 - 2 ^ 32, 2 ^ 64 - 1])
      = [0, 0xfffffffe00000000, 0]
    ∧ val 64 [2 ^ 64 - 1, 2 ^ 64 - 1, 0, 2 ^ 64 - 1, 2 ^ 64 - 1, 2 ^ 64 - 1]
        % val 64 [1, 2 ^ 64 - 2 ^ 32, 2 ^ 64 - 1] = val 64 [0, 0xfffffffe00000000, 0] := by
  decide +kernel

/-- zzRedBarrStart: `barr_param = B^{2n} div mod`, n + 2 words
    (precondition n > 0, mod[n-1] ≠ 0, i.e. `B^{n-1} ≤ mod`). -/
theorem zzRedBarrStart_spec (w : Nat) (mod : List Nat) (hmod : Wf w mod) (hne : mod ≠ [])
    (hlo : 2 ^ (w * (mod.length - 1)) ≤ val w mod) :
    val w (zzRedBarrStart w mod) = 2 ^ (w * (2 * mod.length)) / val w mod
    ∧ Wf w (zzRedBarrStart w mod) ∧ (zzRedBarrStart w mod).length = mod.length + 2 := by
  obtain ⟨n', hn⟩ : ∃ n', mod.length = n' + 1 :=
    ⟨mod.length - 1, by have := List.length_pos_iff.mpr hne; omega⟩
  rw [hn, Nat.add_sub_cancel] at hlo
  have h := barrStart_spec ⟨hmod, hn, rfl⟩ hlo
  rw [hn]; exact ⟨h.eq, h.wf, h.len⟩

example : zzRedBarrStart 8 [0x01, 0xf0, 0xff] = [0xff, 0x0f, 0x00, 0x01, 0x00]
    ∧ 2 ^ 48 / 0xfff001 = 0x1000fff := by decide

/-- FAST(zzRedBarr) with `barr_param = zzRedBarrStart(mod)`: `a mod mod`
    (header: n > 0, mod[n-1] ≠ 0, a has 2n words).  `2 ≤ w`: the proof uses `3 mod < B^{n+1}`. -/
theorem zzRedBarr_fast_spec (w : Nat) (hw : 2 ≤ w) (a mod : List Nat)
    (ha : Wf w a) (hmod : Wf w mod) (hne : mod ≠ []) (hl : a.length = 2 * mod.length)
    (hlo : 2 ^ (w * (mod.length - 1)) ≤ val w mod) :
    val w (zzRedBarr_fast w a mod (zzRedBarrStart w mod)) = val w a % val w mod
    ∧ val w (zzRedBarr_fast w a mod (zzRedBarrStart w mod)) < val w mod
    ∧ Wf w (zzRedBarr_fast w a mod (zzRedBarrStart w mod))
    ∧ (zzRedBarr_fast w a mod (zzRedBarrStart w mod)).length = mod.length := by
  obtain ⟨n', hn⟩ : ∃ n', mod.length = n' + 1 :=
    ⟨mod.length - 1, by have := List.length_pos_iff.mpr hne; omega⟩
  rw [hn, Nat.add_sub_cancel] at hlo
  rw [hn] at hl
  have hM : Rep w (n' + 1) mod (val w mod) := ⟨hmod, hn, rfl⟩
  obtain ⟨X, qh, hc, c3, c4⟩ := barrCommon_spec hw hM ⟨ha, hl, rfl⟩ hlo
  have hM0 : 0 < val w mod := Nat.lt_of_lt_of_le (Nat.two_pow_pos _) hlo
  have hfuel : X / val w mod < 2 ^ (2 * w) := by
    have h1 : X / val w mod < 3 := (Nat.div_lt_iff_lt_mul hM0).mpr c3
    have h2 : 2 ^ 2 ≤ 2 ^ (2 * w) := Nat.pow_le_pow_right (by omega) (by omega)
    omega
  have hr := (barrFastLoop_spec hM hM0 (2 ^ (2 * w)) _ X hc hfuel).take (n' + 1) (by omega)
  unfold zzRedBarr_fast
  rw [hn]
  have e : X % val w mod = val w a % val w mod := by rw [← c4, Nat.add_mul_mod_self_right]
  have hlt : X % val w mod < val w mod := Nat.mod_lt _ hM0
  rw [Nat.mod_eq_of_lt (Nat.lt_trans hlt hM.lt)] at hr
  exact ⟨hr.eq.trans e, hr.eq ▸ hlt, hr.wf, hr.len⟩

/-- SAFE(zzRedBarr) (with the repaired flag `w |= wordNeq01(a[n], 0)`): `a mod mod`. -/
theorem zzRedBarr_safe_spec (w : Nat) (hw : 2 ≤ w) (a mod : List Nat)
    (ha : Wf w a) (hmod : Wf w mod) (hne : mod ≠ []) (hl : a.length = 2 * mod.length)
    (hlo : 2 ^ (w * (mod.length - 1)) ≤ val w mod) :
    val w (zzRedBarr_safe w a mod (zzRedBarrStart w mod)) = val w a % val w mod
    ∧ val w (zzRedBarr_safe w a mod (zzRedBarrStart w mod)) < val w mod
    ∧ Wf w (zzRedBarr_safe w a mod (zzRedBarrStart w mod))
    ∧ (zzRedBarr_safe w a mod (zzRedBarrStart w mod)).length = mod.length := by
  obtain ⟨n', hn⟩ : ∃ n', mod.length = n' + 1 :=
    ⟨mod.length - 1, by have := List.length_pos_iff.mpr hne; omega⟩
  rw [hn, Nat.add_sub_cancel] at hlo
  rw [hn] at hl
  have hM : Rep w (n' + 1) mod (val w mod) := ⟨hmod, hn, rfl⟩
  obtain ⟨X, qh, hc, c3, c4⟩ := barrCommon_spec hw hM ⟨ha, hl, rfl⟩ hlo
  unfold zzRedBarr_safe
  simp only [hn]
  generalize zzRedBarrCommon w a mod (zzRedBarrStart w mod) = c at *
  obtain ⟨L, hL, v4, rfl⟩ := hc.split_top
  generalize c.take (n' + 1) = lo at *
  generalize c.getD (n' + 1) 0 = top at *
  generalize hs : zzSubAndW w lo mod (wneg w ((zzRedMontCmp lo mod 1).2 ||| wneq01 top 0)) = s
  obtain ⟨r1, L1, hL1, e1⟩ := barrRound (by omega) hL hM v4 hs
  rw [Mul.wsub_le v4 r1]
  generalize hs' : zzSubAndW w s.1 mod (wneg w ((zzRedMontCmp s.1 mod 1).2 ||| wneq01 (top - s.2) 0)) = s'
  obtain ⟨-, L2, hL2, e2⟩ := barrRound (by omega) hL1 hM (by omega) hs'
  obtain ⟨h1, h2⟩ := two_rounds c3 e1 e2
  -- the result is below M < B^n: nothing is left in the top word
  have hP := hM.lt
  have hT : 2 ^ (w * (n' + 1)) * (top - s.2 - s'.2) = 0 := by
    rcases Nat.eq_zero_or_pos (top - s.2 - s'.2) with h | h
    · rw [h]; rfl
    · have := Nat.le_mul_of_pos_right (2 ^ (w * (n' + 1))) h
      omega
  rw [hT, Nat.add_zero] at h1 h2
  refine ⟨?_, hL2.eq ▸ h1, hL2.wf, hL2.len⟩
  rw [hL2.eq, h2, ← c4, Nat.add_mul_mod_self_right]

/-- SAFE(zzRedBarr) = FAST(zzRedBarr) under the header's preconditions. -/
theorem zzRedBarr_safe_eq_fast (w : Nat) (hw : 2 ≤ w) (a mod : List Nat)
    (ha : Wf w a) (hmod : Wf w mod) (hne : mod ≠ []) (hl : a.length = 2 * mod.length)
    (hlo : 2 ^ (w * (mod.length - 1)) ≤ val w mod) :
    zzRedBarr_safe w a mod (zzRedBarrStart w mod) = zzRedBarr_fast w a mod (zzRedBarrStart w mod) := by
  obtain ⟨s1, _, s3, s4⟩ := zzRedBarr_safe_spec w hw a mod ha hmod hne hl hlo
  obtain ⟨f1, _, f3, f4⟩ := zzRedBarr_fast_spec w hw a mod ha hmod hne hl hlo
  exact val_inj s3 f3 (s4.trans f4.symm) (s1.trans f1.symm)

example : zzRedBarr_safe 64 [5, 2 ^ 64 - 1, 7, 2 ^ 64 - 3] [2 ^ 64 - 189, 2 ^ 63]
        (zzRedBarrStart 64 [2 ^ 64 - 189, 2 ^ 63])
      = toWords 64 2 (val 64 [5, 2 ^ 64 - 1, 7, 2 ^ 64 - 3] % val 64 [2 ^ 64 - 189, 2 ^ 63])
    ∧ zzRedBarr_fast 64 [5, 2 ^ 64 - 1, 7, 2 ^ 64 - 3] [2 ^ 64 - 189, 2 ^ 63]
        (zzRedBarrStart 64 [2 ^ 64 - 189, 2 ^ 63])
      = toWords 64 2 (val 64 [5, 2 ^ 64 - 1, 7, 2 ^ 64 - 3] % val 64 [2 ^ 64 - 189, 2 ^ 63]) := by
  decide +kernel

end Bee2V.C05
