/-
C05 — each loop of ModelAdd.lean / ModelMul.lean is the generic list loop of ModelAlias.lean (`pure2`, `pure1`,
`pure1Desc`, `pure2Post`, `pure1Post`) of its step function, and the generic loops reduce to `pure2`: a one-list
loop ignores its second word, a transformed operand is a mapped list, a post-store step on a register of its
own is a fold over the output.  No Mathlib.
-/
import Bee2V.C05.ModelAlias
namespace Bee2V.C05.Alias

variable {σ : Type}

theorem pure1_eq (step : σ → Nat → σ × Nat) (s : σ) (xs : List Nat) :
    pure1 step s xs = pure2 (fun s x _ => step s x) s xs xs := by
  induction xs generalizing s with
  | nil => rfl
  | cons x xs ih => simp only [pure1, pure2, ih]

theorem pure1Post_eq (step : σ → Nat → σ × Nat) (post : σ → Nat → Nat → σ) (s : σ)
    (xs zs : List Nat) :
    pure1Post step post s xs zs = pure2Post (fun s x _ => step s x) post s xs xs zs := by
  induction xs generalizing s zs with
  | nil => rfl
  | cons x xs ih => cases zs with
    | nil => rfl
    | cons z zs => simp only [pure1Post, pure2Post, ih]

theorem pure1Desc_snoc (step : σ → Nat → σ × Nat) (s : σ) (xs : List Nat) (x : Nat) :
    pure1Desc step s (xs ++ [x])
      = ((pure1Desc step (step s x).1 xs).1 ++ [(step s x).2], (pure1Desc step (step s x).1 xs).2) := by
  induction xs with
  | nil => simp [pure1Desc]
  | cons y ys ih => simp only [List.cons_append, pure1Desc, ih]

theorem pure2_map_right (step : σ → Nat → Nat → σ × Nat) (g : Nat → Nat) (s : σ) (xs ys : List Nat) :
    pure2 (fun s x y => step s x (g y)) s xs ys = pure2 step s xs (ys.map g) := by
  induction xs generalizing ys s with
  | nil => cases ys <;> rfl
  | cons x xs ih => cases ys with
    | nil => rfl
    | cons y ys => simp only [pure2, List.map_cons, ih]

theorem pure2Post_split {τ : Type} (step : σ → Nat → Nat → σ × Nat) (g : τ → Nat → Nat → τ)
    (s : σ) (t : τ) (xs ys zs : List Nat) (h1 : xs.length = ys.length) (h2 : xs.length = zs.length) :
    pure2Post (fun (st : σ × τ) x y => (((step st.1 x y).1, st.2), (step st.1 x y).2))
        (fun st z c => (st.1, g st.2 z c)) (s, t) xs ys zs
      = ((pure2 step s xs ys).1, (pure2 step s xs ys).2,
          (zs.zip (pure2 step s xs ys).1).foldl (fun t p => g t p.1 p.2) t) := by
  induction xs generalizing ys zs s t with
  | nil =>
    cases ys with
    | nil => cases zs <;> simp_all [pure2Post, pure2]
    | cons _ _ => simp at h1
  | cons x xs ih =>
    cases ys with
    | nil => simp at h1
    | cons y ys =>
      cases zs with
      | nil => simp at h2
      | cons z zs =>
        simp only [pure2Post, pure2, List.zip_cons_cons, List.foldl_cons]
        rw [ih _ _ ys zs (by simpa using h1) (by simpa using h2)]

theorem pure1Post_split {τ : Type} (step : σ → Nat → σ × Nat) (g : τ → Nat → Nat → τ)
    (s : σ) (t : τ) (xs zs : List Nat) (h : xs.length = zs.length) :
    pure1Post (fun (st : σ × τ) x => (((step st.1 x).1, st.2), (step st.1 x).2))
        (fun st z c => (st.1, g st.2 z c)) (s, t) xs zs
      = ((pure1 step s xs).1, (pure1 step s xs).2,
          (zs.zip (pure1 step s xs).1).foldl (fun t p => g t p.1 p.2) t) := by
  rw [pure1Post_eq, pure1_eq]
  exact pure2Post_split (fun s x _ => step s x) g s t xs xs zs rfl h

theorem pure1_final {J : σ → Prop} {step : σ → Nat → σ × Nat} (hJ : ∀ s x, J (step s x).1)
    (s : σ) (xs : List Nat) (hne : xs ≠ []) : J (pure1 step s xs).2 := by
  induction xs generalizing s with
  | nil => exact absurd rfl hne
  | cons x xs ih =>
    cases xs with
    | nil => exact hJ s x
    | cons y ys => exact ih _ (by simp)

theorem zzAddLoop_eq (w : Nat) (a b : List Nat) (carry : Nat) :
    zzAddLoop w a b carry = pure2 (addStep w) carry a b := by
  induction a generalizing b carry with
  | nil => simp [zzAddLoop, pure2]
  | cons x xs ih => cases b with
    | nil => simp [zzAddLoop, pure2]
    | cons y ys => simp only [zzAddLoop, pure2, addStep, ih]

theorem zzSubLoop_eq (w : Nat) (a b : List Nat) (borrow : Nat) :
    zzSubLoop w a b borrow = pure2 (subStep w) borrow a b := by
  induction a generalizing b borrow with
  | nil => simp [zzSubLoop, pure2]
  | cons x xs ih => cases b with
    | nil => simp [zzSubLoop, pure2]
    | cons y ys => simp only [zzSubLoop, pure2, subStep, ih]

theorem zzAdd2Loop_eq (w : Nat) (b a : List Nat) (carry : Nat) :
    zzAdd2Loop w b a carry = pure2 (add2Step w) carry b a := by
  induction b generalizing a carry with
  | nil => simp [zzAdd2Loop, pure2]
  | cons x xs ih => cases a with
    | nil => simp [zzAdd2Loop, pure2]
    | cons y ys => simp only [zzAdd2Loop, pure2, add2Step, ih]

theorem zzSub2Loop_eq (w : Nat) (b a : List Nat) (borrow : Nat) :
    zzSub2Loop w b a borrow = pure2 (sub2Step w) borrow b a := by
  induction b generalizing a borrow with
  | nil => simp [zzSub2Loop, pure2]
  | cons x xs ih => cases a with
    | nil => simp [zzSub2Loop, pure2]
    | cons y ys => simp only [zzSub2Loop, pure2, sub2Step, ih]

theorem zzAddW_eq (w : Nat) (a : List Nat) (x : Nat) :
    zzAddW w a x = pure1 (addWStep w) x a := by
  induction a generalizing x with
  | nil => simp [zzAddW, pure1]
  | cons y ys ih => simp only [zzAddW, pure1, addWStep, ih]

theorem zzSubW_eq (w : Nat) (a : List Nat) (x : Nat) :
    zzSubW w a x = pure1 (subWStep w) x a := by
  induction a generalizing x with
  | nil => simp [zzSubW, pure1]
  | cons y ys ih => simp only [zzSubW, pure1, subWStep, ih]

theorem zzDoubleLoop_eq (w : Nat) (a : List Nat) (carry : Nat) :
    zzDoubleLoop w a carry = pure1 (doubleStep w) carry a := by
  induction a generalizing carry with
  | nil => simp [zzDoubleLoop, pure1]
  | cons y ys ih => simp only [zzDoubleLoop, pure1, doubleStep, ih]

theorem zzSubAndWLoop_eq (w : Nat) (b a : List Nat) (msk borrow : Nat) :
    zzSubAndWLoop w b a msk borrow = pure2 (subAndWStep w msk) borrow b a := by
  induction b generalizing a borrow with
  | nil => simp [zzSubAndWLoop, pure2]
  | cons x xs ih => cases a with
    | nil => simp [zzSubAndWLoop, pure2]
    | cons y ys => simp only [zzSubAndWLoop, pure2, subAndWStep, ih]

/-- zzAddAndWLoop drops the final carry: it is the list component -/
theorem zzAddAndWLoop_eq (w : Nat) (b a : List Nat) (msk carry : Nat) :
    zzAddAndWLoop w b a msk carry = (pure2 (addAndWStep w msk) carry b a).1 := by
  induction b generalizing a carry with
  | nil => simp [zzAddAndWLoop, pure2]
  | cons x xs ih => cases a with
    | nil => simp [zzAddAndWLoop, pure2]
    | cons y ys => simp only [zzAddAndWLoop, pure2, addAndWStep, ih]

theorem zzMulWLoop_eq (w : Nat) (a : List Nat) (x carry : Nat) :
    zzMulWLoop w a x carry = pure1 (mulWStep w x) carry a := by
  induction a generalizing carry with
  | nil => simp [zzMulWLoop, pure1]
  | cons y ys ih => simp only [zzMulWLoop, pure1, mulWStep, ih]

theorem zzAddMulWLoop_eq (w : Nat) (b a : List Nat) (x carry : Nat) :
    zzAddMulWLoop w b a x carry = pure2 (addMulWStep w x) carry b a := by
  induction b generalizing a carry with
  | nil => simp [zzAddMulWLoop, pure2]
  | cons y ys ih => cases a with
    | nil => simp [zzAddMulWLoop, pure2]
    | cons z zs => simp only [zzAddMulWLoop, pure2, addMulWStep, ih]

theorem zzSubMulWLoop_eq (w : Nat) (b a : List Nat) (x borrow : Nat) :
    zzSubMulWLoop w b a x borrow = pure2 (subMulWStep w x) borrow b a := by
  induction b generalizing a borrow with
  | nil => simp [zzSubMulWLoop, pure2]
  | cons y ys ih => cases a with
    | nil => simp [zzSubMulWLoop, pure2]
    | cons z zs => simp only [zzSubMulWLoop, pure2, subMulWStep, ih]

theorem zzDivW_eq (w : Nat) (a : List Nat) (x : Nat) :
    zzDivW w a x = pure1Desc (divWStep w x) 0 a := by
  induction a with
  | nil => simp [zzDivW, pure1Desc]
  | cons y ys ih => simp only [zzDivW, pure1Desc, divWStep, ih]

/-- zzHalfLoop runs over the reversed list (top word first) and returns the reversed result -/
theorem zzHalfLoop_eq (w : Nat) (xs : List Nat) (carry : Nat) :
    (zzHalfLoop w xs carry).reverse = (pure1Desc (halfStep w) carry xs.reverse).1 := by
  induction xs generalizing carry with
  | nil => simp [zzHalfLoop, pure1Desc]
  | cons y ys ih =>
    simp only [zzHalfLoop, List.reverse_cons, pure1Desc_snoc, ih, halfStep]

theorem zzAddMod_safeLoop_eq (w : Nat) (a b md : List Nat) (carry mask : Nat) :
    zzAddMod_safeLoop w a b md carry mask
      = pure2Post (addModStep w) maskPost (carry, mask) a b md := by
  induction a generalizing b md carry mask with
  | nil => simp [zzAddMod_safeLoop, pure2Post]
  | cons x xs ih => cases b with
    | nil => simp [zzAddMod_safeLoop, pure2Post]
    | cons y ys => cases md with
      | nil => simp [zzAddMod_safeLoop, pure2Post]
      | cons z zs => simp only [zzAddMod_safeLoop, pure2Post, addModStep, addStep, maskPost, ih]

theorem zzAddWMod_safeLoop_eq (w : Nat) (a md : List Nat) (x mask : Nat) :
    zzAddWMod_safeLoop w a md x mask
      = pure1Post (addWModStep w) maskPost (x, mask) a md := by
  induction a generalizing md x mask with
  | nil => simp [zzAddWMod_safeLoop, pure1Post]
  | cons y ys ih => cases md with
    | nil => simp [zzAddWMod_safeLoop, pure1Post]
    | cons z zs => simp only [zzAddWMod_safeLoop, pure1Post, addWModStep, addWStep, maskPost, ih]

theorem zzDoubleMod_safeLoop_eq (w : Nat) (a md : List Nat) (carry mask : Nat) :
    zzDoubleMod_safeLoop w a md carry mask
      = pure1Post (doubleModStep w) maskPost (carry, mask) a md := by
  induction a generalizing md carry mask with
  | nil => simp [zzDoubleMod_safeLoop, pure1Post]
  | cons y ys ih => cases md with
    | nil => simp [zzDoubleMod_safeLoop, pure1Post]
    | cons z zs =>
      simp only [zzDoubleMod_safeLoop, pure1Post, doubleModStep, doubleStep, maskPost, ih]

end Bee2V.C05.Alias
