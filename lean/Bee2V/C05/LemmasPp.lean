/-
C05 — lemmas about the Nat-coded GF(2)[x] specification (`Spec.clmul`, `pdivmod`, `pgcd`) and
about the value-level models of pp_gcd.c / pp_mod.c (ModelPp.lean).

§1 bits: xor / doubling / halving
§2 `mulR`: carry-less multiplication by binary recursion on the second argument; ring laws
§3 `Spec.clmul = mulR`
§4 degree (`Nat.log2`), parity
-/
import Bee2V.C05.ModelPp
namespace Bee2V.C05.Pp
open Bee2V.C05 Bee2V.C05.Spec

/-! ## §1 bits -/

theorem xor_left_comm (x y z : Nat) : x ^^^ (y ^^^ z) = y ^^^ (x ^^^ z) := by
  rw [← Nat.xor_assoc, Nat.xor_comm x y, Nat.xor_assoc]

theorem xor_xor_cancel_left (x y : Nat) : x ^^^ (x ^^^ y) = y := by
  rw [← Nat.xor_assoc, Nat.xor_self, Nat.zero_xor]

theorem two_mul_xor (x y : Nat) : 2 * (x ^^^ y) = 2 * x ^^^ 2 * y := by
  have := @Nat.shiftLeft_xor_distrib 1 x y
  simpa [Nat.shiftLeft_eq, Nat.mul_comm] using this

theorem bit_decomp (x : Nat) : 2 * (x / 2) ^^^ x % 2 = x := by
  apply Nat.eq_of_testBit_eq
  intro i
  cases i with
  | zero =>
    simp only [Nat.testBit_zero, Nat.xor_mod_two_eq_one]
    have := Nat.mod_two_eq_zero_or_one x
    rcases this with h | h <;> simp [h, Nat.mul_mod_right]
  | succ i =>
    rw [Nat.testBit_succ, Nat.testBit_succ, Nat.xor_div_two]
    have h1 : 2 * (x / 2) / 2 = x / 2 := by omega
    have h2 : x % 2 / 2 = 0 := by omega
    rw [h1, h2, Nat.xor_zero]

theorem xor4_swap (a b c d : Nat) : (a ^^^ b) ^^^ (c ^^^ d) = (a ^^^ c) ^^^ (b ^^^ d) := by
  simp only [Nat.xor_assoc]
  congr 1
  rw [xor_left_comm]

theorem xor_cancel_left {x y z : Nat} (h : x ^^^ y = x ^^^ z) : y = z := by
  have := congrArg (fun t => x ^^^ t) h
  simpa [← Nat.xor_assoc] using this

theorem xor_eq_zero_iff {x y : Nat} : x ^^^ y = 0 ↔ x = y := by
  constructor
  · intro h
    have : x ^^^ (x ^^^ y) = x ^^^ 0 := by rw [h]
    simpa [← Nat.xor_assoc] using this.symm
  · intro h; rw [h, Nat.xor_self]

/-! ## §2 carry-less multiplication by binary recursion -/

/-- `a · b` over GF(2): `a·b = (b₀ ? a : 0) + (x a)·(b / x)` -/
def mulR (a b : Nat) : Nat :=
  if b = 0 then 0 else (if b % 2 = 1 then a else 0) ^^^ mulR (2 * a) (b / 2)
termination_by b
decreasing_by omega

theorem mulR_zero (a : Nat) : mulR a 0 = 0 := by rw [mulR]; simp

theorem mulR_step (a b : Nat) :
    mulR a b = (if b % 2 = 1 then a else 0) ^^^ mulR (2 * a) (b / 2) := by
  by_cases hb : b = 0
  · subst hb; simp [mulR_zero]
  · rw [mulR, if_neg hb]

theorem mulR_two_mul_left (a b : Nat) : mulR (2 * a) b = 2 * mulR a b := by
  induction b using Nat.strongRecOn generalizing a with
  | _ b ih =>
    by_cases hb : b = 0
    · subst hb; simp [mulR_zero]
    · rw [mulR_step (2 * a) b, mulR_step a b, ih (b / 2) (by omega) (2 * a), two_mul_xor]
      split <;> simp

theorem mulR_step' (a b : Nat) :
    mulR a b = (if b % 2 = 1 then a else 0) ^^^ 2 * mulR a (b / 2) := by
  rw [mulR_step, mulR_two_mul_left]

theorem mulR_two_mul_right (a b : Nat) : mulR a (2 * b) = 2 * mulR a b := by
  rw [mulR_step']
  have h1 : 2 * b % 2 = 0 := by omega
  have h2 : 2 * b / 2 = b := by omega
  simp [h1, h2]

theorem mulR_one (a : Nat) : mulR a 1 = a := by
  rw [mulR_step]; simp [mulR_zero]

theorem zero_mulR (b : Nat) : mulR 0 b = 0 := by
  induction b using Nat.strongRecOn with
  | _ b ih =>
    by_cases hb : b = 0
    · subst hb; exact mulR_zero 0
    · rw [mulR_step', ih (b / 2) (by omega)]; simp

theorem one_mulR (b : Nat) : mulR 1 b = b := by
  induction b using Nat.strongRecOn with
  | _ b ih =>
    by_cases hb : b = 0
    · subst hb; exact mulR_zero 1
    · rw [mulR_step', ih (b / 2) (by omega)]
      have := bit_decomp b
      rcases Nat.mod_two_eq_zero_or_one b with h | h
      · rw [h] at this; simp [h]; simpa using this
      · rw [h] at this; simp only [h, if_true]; rw [Nat.xor_comm]; exact this

theorem xor_mulR (a a' b : Nat) : mulR (a ^^^ a') b = mulR a b ^^^ mulR a' b := by
  induction b using Nat.strongRecOn with
  | _ b ih =>
    by_cases hb : b = 0
    · subst hb; simp [mulR_zero]
    · rw [mulR_step' (a ^^^ a') b, mulR_step' a b, mulR_step' a' b, ih (b / 2) (by omega),
        two_mul_xor]
      split
      · simp only [Nat.xor_assoc]
        congr 1
        rw [xor_left_comm]
      · simp

theorem ite_xor_parity (a b c : Nat) :
    (if (b ^^^ c) % 2 = 1 then a else 0)
      = (if b % 2 = 1 then a else 0) ^^^ (if c % 2 = 1 then a else 0) := by
  rcases Nat.mod_two_eq_zero_or_one b with h | h <;>
    rcases Nat.mod_two_eq_zero_or_one c with h' | h' <;>
    simp [Nat.xor_mod_two_eq_one, h, h']

theorem mulR_xor (a b c : Nat) : mulR a (b ^^^ c) = mulR a b ^^^ mulR a c := by
  induction b using Nat.strongRecOn generalizing c with
  | _ b ih =>
    by_cases hb : b = 0
    · subst hb; simp [mulR_zero]
    · rw [mulR_step' a (b ^^^ c), mulR_step' a b, mulR_step' a c, Nat.xor_div_two,
        ih (b / 2) (by omega), two_mul_xor, ite_xor_parity]
      simp only [Nat.xor_assoc]
      congr 1
      rw [xor_left_comm]

theorem mulR_comm (a b : Nat) : mulR a b = mulR b a := by
  induction b using Nat.strongRecOn generalizing a with
  | _ b ih =>
    by_cases hb : b = 0
    · subst hb; rw [mulR_zero, zero_mulR]
    · have hd := bit_decomp b
      have h2 : mulR b a = mulR (2 * (b / 2) ^^^ b % 2) a := by rw [hd]
      rw [h2, xor_mulR, mulR_two_mul_left, mulR_step' a b, ih (b / 2) (by omega), Nat.xor_comm]
      congr 1
      rcases Nat.mod_two_eq_zero_or_one b with h | h
      · simp [h, zero_mulR]
      · simp [h, one_mulR]

theorem mulR_assoc (a b c : Nat) : mulR (mulR a b) c = mulR a (mulR b c) := by
  induction c using Nat.strongRecOn with
  | _ c ih =>
    by_cases hc : c = 0
    · subst hc; simp [mulR_zero]
    · rw [mulR_step' (mulR a b) c, ih (c / 2) (by omega), mulR_step' b c, mulR_xor,
        mulR_two_mul_right]
      congr 1
      split
      · rfl
      · exact (mulR_zero a).symm

theorem mulR_two_pow (a k : Nat) : mulR a (2 ^ k) = a <<< k := by
  induction k with
  | zero => simp [mulR_one]
  | succ k ih =>
    rw [Nat.pow_succ, Nat.mul_comm, mulR_two_mul_right, ih, Nat.shiftLeft_succ]

/-! ## §3 the specification `Spec.clmul` is `mulR` -/

/-- the fold step of `Spec.clmul` -/
def cstep (a b : Nat) (r i : Nat) : Nat := if b.testBit i then r ^^^ (a <<< i) else r

theorem foldl_cstep_init (a b : Nat) (l : List Nat) (r : Nat) :
    l.foldl (cstep a b) r = r ^^^ l.foldl (cstep a b) 0 := by
  induction l generalizing r with
  | nil => simp
  | cons i l ih =>
    rw [List.foldl_cons, List.foldl_cons, ih (cstep a b r i), ih (cstep a b 0 i)]
    unfold cstep
    split
    · simp [Nat.xor_assoc]
    · simp

theorem cstep_succ (a b r i : Nat) : cstep a b r (i + 1) = cstep (2 * a) (b / 2) r i := by
  unfold cstep
  rw [Nat.testBit_succ]
  have : a <<< (i + 1) = (2 * a) <<< i := by
    simp only [Nat.shiftLeft_eq, Nat.pow_succ]
    rw [Nat.mul_comm 2 a, Nat.mul_assoc, Nat.mul_comm 2 (2 ^ i)]
  rw [this]

theorem foldl_cstep_eq (n : Nat) : ∀ (a b : Nat), b < 2 ^ n →
    (List.range n).foldl (cstep a b) 0 = mulR a b := by
  induction n with
  | zero => intro a b hb; have : b = 0 := by simpa using hb
            subst this; simp [mulR_zero]
  | succ n ih =>
    intro a b hb
    rw [List.range_succ_eq_map, List.foldl_cons, List.foldl_map]
    have hf : (fun r i => cstep a b r (Nat.succ i)) = cstep (2 * a) (b / 2) := by
      funext r i; exact cstep_succ a b r i
    rw [hf, foldl_cstep_init, ih (2 * a) (b / 2) (by rw [Nat.pow_succ] at hb; omega), mulR_step a b]
    congr 1
    unfold cstep
    simp [Nat.testBit_zero]

theorem clmul_eq_mulR (a b : Nat) : clmul a b = mulR a b := by
  unfold clmul
  by_cases hb : b = 0
  · subst hb; simp [mulR_zero]
  · rw [if_neg hb]
    exact foldl_cstep_eq (b.log2 + 1) a b Nat.lt_log2_self

/-! ### ring laws for `clmul` -/

theorem clmul_zero (a : Nat) : clmul a 0 = 0 := by rw [clmul_eq_mulR, mulR_zero]
theorem zero_clmul (b : Nat) : clmul 0 b = 0 := by rw [clmul_eq_mulR, zero_mulR]
theorem clmul_one (a : Nat) : clmul a 1 = a := by rw [clmul_eq_mulR, mulR_one]
theorem one_clmul (b : Nat) : clmul 1 b = b := by rw [clmul_eq_mulR, one_mulR]
theorem clmul_comm (a b : Nat) : clmul a b = clmul b a := by
  rw [clmul_eq_mulR, clmul_eq_mulR, mulR_comm]
theorem clmul_assoc (a b c : Nat) : clmul (clmul a b) c = clmul a (clmul b c) := by
  simp only [clmul_eq_mulR, mulR_assoc]
theorem clmul_xor (a b c : Nat) : clmul a (b ^^^ c) = clmul a b ^^^ clmul a c := by
  simp only [clmul_eq_mulR, mulR_xor]
theorem xor_clmul (a b c : Nat) : clmul (a ^^^ b) c = clmul a c ^^^ clmul b c := by
  simp only [clmul_eq_mulR, xor_mulR]
theorem clmul_two_pow (a k : Nat) : clmul a (2 ^ k) = a <<< k := by
  rw [clmul_eq_mulR, mulR_two_pow]
theorem two_pow_clmul (a k : Nat) : clmul (2 ^ k) a = a <<< k := by
  rw [clmul_comm, clmul_two_pow]
theorem clmul_two (a : Nat) : clmul a 2 = 2 * a := by
  have := clmul_two_pow a 1
  simpa [Nat.shiftLeft_eq, Nat.mul_comm] using this
theorem clmul_two_mul (a b : Nat) : clmul a (2 * b) = 2 * clmul a b := by
  simp only [clmul_eq_mulR, mulR_two_mul_right]
theorem two_mul_clmul (a b : Nat) : clmul (2 * a) b = 2 * clmul a b := by
  simp only [clmul_eq_mulR, mulR_two_mul_left]

theorem sqr_xor (x y : Nat) : clmul (x ^^^ y) (x ^^^ y) = clmul x x ^^^ clmul y y := by
  rw [xor_clmul, clmul_xor, clmul_xor, clmul_comm y x, Nat.xor_assoc, xor_xor_cancel_left]

/-- squaring spreads the bits to the even positions, one bit at a time -/
theorem clmul_self_bit (h b : Nat) (hb : b < 2) : clmul (2 * h ^^^ b) (2 * h ^^^ b) = 4 * clmul h h ^^^ b := by
  rw [sqr_xor, two_mul_clmul, clmul_two_mul, ← Nat.mul_assoc]
  obtain rfl | rfl : b = 0 ∨ b = 1 := by omega
  · rw [clmul_zero]
  · rw [clmul_one]

theorem shiftLeft_clmul (a b s : Nat) : clmul (a <<< s) b = clmul a b <<< s := by
  rw [← clmul_two_pow a s, ← clmul_two_pow (clmul a b) s, clmul_assoc, clmul_assoc,
    clmul_comm (2 ^ s) b]

/-! ## §4 parity and degree -/

theorem xor_mod_two (x y : Nat) : (x ^^^ y) % 2 = (x % 2 + y % 2) % 2 := by
  have h := @Nat.xor_mod_two_eq_one x y
  rcases Nat.mod_two_eq_zero_or_one x with hx | hx <;>
    rcases Nat.mod_two_eq_zero_or_one y with hy | hy <;>
    rcases Nat.mod_two_eq_zero_or_one (x ^^^ y) with hz | hz <;>
    simp [hx, hy, hz] at h ⊢

theorem clmul_mod_two (a b : Nat) : clmul a b % 2 = (a % 2) * (b % 2) := by
  rw [clmul_eq_mulR, mulR_step', xor_mod_two]
  rcases Nat.mod_two_eq_zero_or_one b with hb | hb
  · simp [hb]
  · simp [hb]

/-- xor with something of smaller degree keeps the degree -/
theorem log2_xor_of_lt {x y : Nat} (hy : y ≠ 0) (hx : x < 2 ^ y.log2) :
    x ^^^ y ≠ 0 ∧ (x ^^^ y).log2 = y.log2 := by
  have hbit : (x ^^^ y).testBit y.log2 = true := by
    rw [Nat.testBit_xor, Nat.testBit_lt_two_pow hx, Nat.testBit_log2 hy]; rfl
  have hge := Nat.ge_two_pow_of_testBit hbit
  have hpos : 0 < 2 ^ y.log2 := Nat.two_pow_pos _
  have hne : x ^^^ y ≠ 0 := by omega
  refine ⟨hne, (Nat.log2_eq_iff hne).2 ⟨hge, ?_⟩⟩
  apply Nat.xor_lt_two_pow
  · rw [Nat.pow_succ]; omega
  · exact Nat.lt_log2_self

theorem log2_mulR {a : Nat} (ha : a ≠ 0) (b : Nat) (hb : b ≠ 0) :
    mulR a b ≠ 0 ∧ (mulR a b).log2 = a.log2 + b.log2 := by
  induction b using Nat.strongRecOn with
  | _ b ih =>
    by_cases h1 : b = 1
    · subst h1
      have h10 : Nat.log2 1 = 0 := by simpa using @Nat.log2_two_pow 0
      rw [mulR_one, h10]; exact ⟨ha, rfl⟩
    · have hb2 : b / 2 ≠ 0 := by omega
      obtain ⟨hX, hXl⟩ := ih (b / 2) (by omega) hb2
      have hlb : b.log2 = (b / 2).log2 + 1 := by
        rw [Nat.log2_def b, if_pos (by omega)]
      have hY : 2 * mulR a (b / 2) ≠ 0 := by omega
      have hYl : (2 * mulR a (b / 2)).log2 = a.log2 + b.log2 := by
        rw [Nat.log2_two_mul hX, hXl, hlb]; omega
      rw [mulR_step']
      split
      · have hlt : a < 2 ^ (2 * mulR a (b / 2)).log2 := by
          rw [hYl]
          calc a < 2 ^ (a.log2 + 1) := Nat.lt_log2_self
            _ ≤ 2 ^ (a.log2 + b.log2) := Nat.pow_le_pow_right (by omega) (by omega)
        obtain ⟨h1, h2⟩ := log2_xor_of_lt hY hlt
        exact ⟨h1, by rw [h2, hYl]⟩
      · rw [Nat.zero_xor]; exact ⟨hY, hYl⟩

theorem clmul_ne_zero {a b : Nat} (ha : a ≠ 0) (hb : b ≠ 0) : clmul a b ≠ 0 := by
  rw [clmul_eq_mulR]; exact (log2_mulR ha b hb).1
theorem log2_clmul {a b : Nat} (ha : a ≠ 0) (hb : b ≠ 0) :
    (clmul a b).log2 = a.log2 + b.log2 := by
  rw [clmul_eq_mulR]; exact (log2_mulR ha b hb).2

/-- sharp; the cases `x = 0`, `y = 0`, `n = 0`, `m = 0` hold by truncated subtraction -/
theorem clmul_lt_two_pow {x y n m : Nat} (hx : x < 2 ^ n) (hy : y < 2 ^ m) :
    clmul x y < 2 ^ (n + m - 1) := by
  by_cases hx0 : x = 0
  · subst hx0; rw [zero_clmul]; exact Nat.two_pow_pos _
  by_cases hy0 : y = 0
  · subst hy0; rw [clmul_zero]; exact Nat.two_pow_pos _
  have h1 := (Nat.log2_lt hx0).2 hx
  have h2 := (Nat.log2_lt hy0).2 hy
  exact (Nat.log2_lt (clmul_ne_zero hx0 hy0)).1 (by rw [log2_clmul hx0 hy0]; omega)

theorem clmul_lt {x y n m : Nat} (hx : x < 2 ^ n) (hy : y < 2 ^ m) : clmul x y < 2 ^ (n + m) :=
  Nat.lt_of_lt_of_le (clmul_lt_two_pow hx hy) (Nat.pow_le_pow_right (by decide) (Nat.sub_le _ _))

theorem clmul_eq_zero {a b : Nat} (h : clmul a b = 0) : a = 0 ∨ b = 0 := by
  by_cases ha : a = 0
  · exact Or.inl ha
  · by_cases hb : b = 0
    · exact Or.inr hb
    · exact absurd h (clmul_ne_zero ha hb)

/-! ## §5 division with remainder -/

/-- the fold step of `Spec.pdivmod` -/
def dstep (b db : Nat) (qr : Nat × Nat) (i : Nat) : Nat × Nat :=
  if qr.2.testBit (i + db) then (qr.1 ^^^ (1 <<< i), qr.2 ^^^ (b <<< i)) else qr

theorem lt_two_pow_of_bit_clear {r k : Nat} (h : r < 2 ^ (k + 1)) (hb : r.testBit k = false) :
    r < 2 ^ k := by
  apply Nat.lt_pow_two_of_testBit
  intro i hi
  by_cases hik : i = k
  · subst hik; exact hb
  · exact Nat.testBit_lt_two_pow (Nat.lt_of_lt_of_le h (Nat.pow_le_pow_right (by omega) (by omega)))

theorem xor_shift_lt {b r n : Nat} (hb : b ≠ 0) (h : r < 2 ^ (n + b.log2 + 1))
    (hbit : r.testBit (n + b.log2) = true) : r ^^^ (b <<< n) < 2 ^ (n + b.log2) := by
  have hs : b <<< n < 2 ^ (n + b.log2 + 1) := by
    rw [Nat.shiftLeft_eq, show n + b.log2 + 1 = (b.log2 + 1) + n by omega, Nat.pow_add]
    exact Nat.mul_lt_mul_of_pos_right Nat.lt_log2_self (Nat.two_pow_pos n)
  apply lt_two_pow_of_bit_clear (Nat.xor_lt_two_pow h hs)
  rw [Nat.testBit_xor, hbit, Nat.testBit_shiftLeft]
  have : n + b.log2 - n = b.log2 := by omega
  simp [this, Nat.testBit_log2 hb]

theorem foldl_dstep (b : Nat) (hb : b ≠ 0) (n : Nat) : ∀ (q r : Nat), r < 2 ^ (n + b.log2) →
    clmul ((List.range n).reverse.foldl (dstep b b.log2) (q, r)).1 b
        ^^^ ((List.range n).reverse.foldl (dstep b b.log2) (q, r)).2 = clmul q b ^^^ r
    ∧ ((List.range n).reverse.foldl (dstep b b.log2) (q, r)).2 < 2 ^ b.log2 := by
  induction n with
  | zero => intro q r hr; simpa using hr
  | succ n ih =>
    intro q r hr
    rw [List.range_succ, List.reverse_append, List.reverse_singleton, List.singleton_append,
      List.foldl_cons]
    by_cases hbit : r.testBit (n + b.log2) = true
    · have hs : dstep b b.log2 (q, r) n = (q ^^^ 1 <<< n, r ^^^ b <<< n) := by simp [dstep, hbit]
      rw [hs]
      obtain ⟨h1, h2⟩ := ih (q ^^^ 1 <<< n) (r ^^^ b <<< n)
        (xor_shift_lt hb (by rw [show n + b.log2 + 1 = n + 1 + b.log2 by omega]; exact hr) hbit)
      refine ⟨?_, h2⟩
      rw [h1, xor_clmul, Nat.one_shiftLeft, two_pow_clmul, Nat.xor_assoc]
      congr 1
      rw [xor_left_comm, Nat.xor_self, Nat.xor_zero]
    · have hs : dstep b b.log2 (q, r) n = (q, r) := by simp [dstep, hbit]
      rw [hs]
      have hbit' : r.testBit (n + b.log2) = false := by simpa using hbit
      exact ih q r (lt_two_pow_of_bit_clear
        (by rw [show n + b.log2 + 1 = n + 1 + b.log2 by omega]; exact hr) hbit')

theorem pdivmod_spec (a b : Nat) (hb : b ≠ 0) :
    clmul (pdivmod a b).1 b ^^^ (pdivmod a b).2 = a ∧ (pdivmod a b).2 < 2 ^ b.log2 := by
  unfold pdivmod
  rw [if_neg hb]
  dsimp only
  split
  · rename_i h
    simp only [zero_clmul, Nat.zero_xor, true_and]
    rcases h with h | h
    · subst h; exact Nat.two_pow_pos _
    · by_cases ha : a = 0
      · subst ha; exact Nat.two_pow_pos _
      · exact (Nat.log2_lt ha).1 h
  · rename_i h
    have hlt : a < 2 ^ (a.log2 - b.log2 + 1 + b.log2) := by
      rw [show a.log2 - b.log2 + 1 + b.log2 = a.log2 + 1 by omega]; exact Nat.lt_log2_self
    have := foldl_dstep b hb (a.log2 - b.log2 + 1) 0 a hlt
    rw [zero_clmul, Nat.zero_xor] at this
    exact this

theorem divmod_unique {b q r q' r' : Nat} (hb : b ≠ 0) (hr : r < 2 ^ b.log2) (hr' : r' < 2 ^ b.log2)
    (h : clmul q b ^^^ r = clmul q' b ^^^ r') : q = q' ∧ r = r' := by
  have h2 : clmul (q ^^^ q') b = r ^^^ r' := by
    rw [xor_clmul]
    apply xor_eq_zero_iff.1
    rw [xor4_swap, h, Nat.xor_self]
  have hq : q ^^^ q' = 0 := by
    by_cases hz : q ^^^ q' = 0
    · exact hz
    · exfalso
      have hne := clmul_ne_zero hz hb
      have hl := log2_clmul hz hb
      have hge : 2 ^ b.log2 ≤ clmul (q ^^^ q') b :=
        (Nat.le_log2 hne).1 (by rw [hl]; omega)
      have hlt : r ^^^ r' < 2 ^ b.log2 := Nat.xor_lt_two_pow hr hr'
      omega
  have hqq := xor_eq_zero_iff.1 hq
  subst hqq
  exact ⟨rfl, xor_cancel_left h⟩

/-! ## §6 wwLoZeroBits -/

theorem loZerosF_dvd (f : Nat) : ∀ n, 2 ^ ppLoZerosF f n ∣ n := by
  induction f with
  | zero => intro n; simp [ppLoZerosF]
  | succ f ih =>
    intro n
    unfold ppLoZerosF
    split
    · rename_i h
      obtain ⟨k, hk⟩ := ih (n / 2)
      refine ⟨k, ?_⟩
      rw [Nat.add_comm, Nat.pow_succ, Nat.mul_comm _ 2, Nat.mul_assoc, ← hk]; omega
    · simp

theorem loZerosF_odd (f : Nat) : ∀ n, n ≠ 0 → n < 2 ^ f → (n / 2 ^ ppLoZerosF f n) % 2 = 1 := by
  induction f with
  | zero => intro n h0 h; simp at h; exact absurd h h0
  | succ f ih =>
    intro n h0 h
    unfold ppLoZerosF
    split
    · rename_i he
      have := ih (n / 2) (by omega) (by rw [Nat.pow_succ] at h; omega)
      rw [Nat.add_comm, Nat.pow_succ, Nat.mul_comm _ 2, ← Nat.div_div_eq_div_mul]
      exact this
    · simp; omega

theorem loZeros_dvd (n : Nat) : 2 ^ ppLoZeros n ∣ n := loZerosF_dvd _ n
theorem loZeros_odd {n : Nat} (h : n ≠ 0) : (n / 2 ^ ppLoZeros n) % 2 = 1 :=
  loZerosF_odd _ n h Nat.lt_log2_self

theorem shr_shl_of_le {n s : Nat} (h : s ≤ ppLoZeros n) : (n >>> s) <<< s = n := by
  rw [Nat.shiftRight_eq_div_pow, Nat.shiftLeft_eq]
  exact Nat.div_mul_cancel (Nat.dvd_trans (Nat.pow_dvd_pow 2 h) (loZeros_dvd n))

/-- after dividing by the common power of x, one of the two has a constant term -/
theorem min_loZeros_odd {a b : Nat} (ha : a ≠ 0) (hb : b ≠ 0) :
    (a >>> min (ppLoZeros a) (ppLoZeros b)) % 2 = 1 ∨ (b >>> min (ppLoZeros a) (ppLoZeros b)) % 2 = 1 := by
  rcases Nat.le_total (ppLoZeros a) (ppLoZeros b) with h | h
  · left; rw [Nat.min_eq_left h, Nat.shiftRight_eq_div_pow]; exact loZeros_odd ha
  · right; rw [Nat.min_eq_right h, Nat.shiftRight_eq_div_pow]; exact loZeros_odd hb

/-! ## §7 ppExGCD: the Bezout invariant `aa·da + bb·db = u` -/

theorem halve_even {aa bb u da db : Nat} (h : clmul aa da ^^^ clmul bb db = u)
    (hu : u % 2 = 0) (hda : da % 2 = 0) (hdb : db % 2 = 0) :
    clmul aa (da / 2) ^^^ clmul bb (db / 2) = u / 2 := by
  have e1 : 2 * (da / 2) = da := by omega
  have e2 : 2 * (db / 2) = db := by omega
  have : 2 * (clmul aa (da / 2) ^^^ clmul bb (db / 2)) = 2 * (u / 2) := by
    rw [two_mul_xor, ← clmul_two_mul, ← clmul_two_mul, e1, e2, h]; omega
  omega

theorem halve_odd_parity {aa bb u da db : Nat} (h : clmul aa da ^^^ clmul bb db = u)
    (hu : u % 2 = 0) (hodd : aa % 2 = 1 ∨ bb % 2 = 1) (hn : ¬ (da % 2 = 0 ∧ db % 2 = 0)) :
    (da ^^^ bb) % 2 = 0 ∧ (db ^^^ aa) % 2 = 0 := by
  have hp := congrArg (· % 2) h
  simp only [xor_mod_two, clmul_mod_two] at hp
  rw [hu] at hp
  rw [xor_mod_two, xor_mod_two]
  rcases Nat.mod_two_eq_zero_or_one aa with h1 | h1 <;>
    rcases Nat.mod_two_eq_zero_or_one bb with h2 | h2 <;>
    rcases Nat.mod_two_eq_zero_or_one da with h3 | h3 <;>
    rcases Nat.mod_two_eq_zero_or_one db with h4 | h4 <;>
    simp [h1, h2, h3, h4] at hp hodd hn ⊢

theorem halve_odd_inv {aa bb u da db : Nat} (h : clmul aa da ^^^ clmul bb db = u) :
    clmul aa (da ^^^ bb) ^^^ clmul bb (db ^^^ aa) = u := by
  rw [clmul_xor, clmul_xor, clmul_comm bb aa, xor4_swap, Nat.xor_self, Nat.xor_zero, h]

theorem halveEx_inv (aa bb : Nat) (hodd : aa % 2 = 1 ∨ bb % 2 = 1) (f : Nat) :
    ∀ u da db, clmul aa da ^^^ clmul bb db = u →
      clmul aa (ppHalveEx aa bb f u da db).2.1 ^^^ clmul bb (ppHalveEx aa bb f u da db).2.2
        = (ppHalveEx aa bb f u da db).1 := by
  induction f with
  | zero => intro u da db h; exact h
  | succ f ih =>
    intro u da db h
    unfold ppHalveEx
    split
    · rename_i hu
      split
      · rename_i hdd
        exact ih _ _ _ (halve_even h hu hdd.1 hdd.2)
      · rename_i hdd
        obtain ⟨p1, p2⟩ := halve_odd_parity h hu hodd hdd
        exact ih _ _ _ (halve_even (halve_odd_inv h) hu p1 p2)
    · exact h

theorem exLoop_inv (aa bb : Nat) (hodd : aa % 2 = 1 ∨ bb % 2 = 1) (f : Nat) :
    ∀ u v da0 db0 da db, clmul aa da0 ^^^ clmul bb db0 = u → clmul aa da ^^^ clmul bb db = v →
      clmul aa (ppExGCDLoop aa bb f u v da0 db0 da db).2.1
        ^^^ clmul bb (ppExGCDLoop aa bb f u v da0 db0 da db).2.2
        = (ppExGCDLoop aa bb f u v da0 db0 da db).1 := by
  induction f with
  | zero => intro u v da0 db0 da db _ h; exact h
  | succ f ih =>
    intro u v da0 db0 da db h0 h1
    have i0 := halveEx_inv aa bb hodd (u.log2 + 1) u da0 db0 h0
    have i1 := halveEx_inv aa bb hodd (v.log2 + 1) v da db h1
    unfold ppExGCDLoop
    dsimp only
    split
    · split
      · apply ih _ _ _ _ _ _ _ i1
        rw [clmul_xor, clmul_xor, xor4_swap, i0, i1]
      · exact i1
    · split
      · apply ih _ _ _ _ _ _ i0
        rw [clmul_xor, clmul_xor, xor4_swap, i0, i1]
      · rw [clmul_xor, clmul_xor, xor4_swap, i0, i1]

theorem exGCDV_bezout {a b : Nat} (ha : a ≠ 0) (hb : b ≠ 0) :
    clmul a (ppExGCDV a b).2.1 ^^^ clmul b (ppExGCDV a b).2.2 = (ppExGCDV a b).1 := by
  have hodd := min_loZeros_odd ha hb
  have ea := shr_shl_of_le (Nat.min_le_left (ppLoZeros a) (ppLoZeros b))
  have eb := shr_shl_of_le (Nat.min_le_right (ppLoZeros a) (ppLoZeros b))
  have inv := exLoop_inv _ _ hodd
    ((a >>> min (ppLoZeros a) (ppLoZeros b)).log2 + (b >>> min (ppLoZeros a) (ppLoZeros b)).log2 + 3)
    (a >>> min (ppLoZeros a) (ppLoZeros b)) (b >>> min (ppLoZeros a) (ppLoZeros b)) 1 0 0 1
    (by rw [clmul_one, clmul_zero, Nat.xor_zero]) (by rw [clmul_one, clmul_zero, Nat.zero_xor])
  unfold ppExGCDV
  dsimp only
  rw [← inv, Nat.shiftLeft_xor_distrib, ← shiftLeft_clmul, ← shiftLeft_clmul, ea, eb]

/-! ## §8 divisibility and congruences modulo `md`; ppDivMod invariants -/

/-- `d ∣ a` in GF(2)[x] -/
def PDvd (d a : Nat) : Prop := ∃ q, a = clmul q d

theorem pdvd_refl (a : Nat) : PDvd a a := ⟨1, (one_clmul a).symm⟩
theorem pdvd_zero (d : Nat) : PDvd d 0 := ⟨0, (zero_clmul d).symm⟩
theorem pdvd_xor {d a b : Nat} (ha : PDvd d a) (hb : PDvd d b) : PDvd d (a ^^^ b) := by
  obtain ⟨q, hq⟩ := ha
  obtain ⟨q', hq'⟩ := hb
  exact ⟨q ^^^ q', by rw [xor_clmul, hq, hq']⟩
theorem pdvd_mul {d a : Nat} (k : Nat) (ha : PDvd d a) : PDvd d (clmul k a) := by
  obtain ⟨q, hq⟩ := ha
  exact ⟨clmul k q, by rw [hq, clmul_assoc]⟩

theorem pdvd_trans {a b c : Nat} (h1 : PDvd a b) (h2 : PDvd b c) : PDvd a c := by
  obtain ⟨q, hq⟩ := h1
  obtain ⟨r, hr⟩ := h2
  exact ⟨clmul r q, by rw [hr, hq, clmul_assoc]⟩

/-- `x ≡ y (mod md)` in GF(2)[x]: `md ∣ x + y` -/
def Cong (md x y : Nat) : Prop := ∃ k, x ^^^ y = clmul k md

theorem cong_iff_pdvd {md x y : Nat} : Cong md x y ↔ PDvd md (x ^^^ y) := Iff.rfl

theorem cong_refl (md x : Nat) : Cong md x x := cong_iff_pdvd.2 (Nat.xor_self x ▸ pdvd_zero md)

theorem cong_xor {md x y x' y' : Nat} (h : Cong md x y) (h' : Cong md x' y') :
    Cong md (x ^^^ x') (y ^^^ y') := cong_iff_pdvd.2 (xor4_swap x y x' y' ▸ pdvd_xor h h')

theorem cong_symm {md x y : Nat} (h : Cong md x y) : Cong md y x :=
  cong_iff_pdvd.2 (Nat.xor_comm x y ▸ h)

theorem cong_trans {md x y z : Nat} (h : Cong md x y) (h' : Cong md y z) : Cong md x z := by
  have := pdvd_xor h h'
  rwa [Nat.xor_assoc, ← Nat.xor_assoc y, Nat.xor_self, Nat.zero_xor] at this

theorem cong_mul_left {md x y : Nat} (c : Nat) (h : Cong md x y) :
    Cong md (clmul c x) (clmul c y) := cong_iff_pdvd.2 (clmul_xor c x y ▸ pdvd_mul c h)

theorem cong_mul_right {md x y : Nat} (c : Nat) (h : Cong md x y) :
    Cong md (clmul x c) (clmul y c) := by
  rw [clmul_comm x c, clmul_comm y c]; exact cong_mul_left c h

theorem cong_halve {md x y : Nat} (hmd : md % 2 = 1) (h : Cong md (2 * x) (2 * y)) : Cong md x y := by
  obtain ⟨k, hk⟩ := h
  have hp := congrArg (· % 2) hk
  simp only [← two_mul_xor, clmul_mod_two, hmd, Nat.mul_one, Nat.mul_mod_right] at hp
  have ek : 2 * (k / 2) = k := by omega
  refine ⟨k / 2, ?_⟩
  have : 2 * (x ^^^ y) = 2 * clmul (k / 2) md := by
    rw [← two_mul_clmul, ek, two_mul_xor]; exact hk
  omega

theorem pmod_cong {md x y : Nat} (hmd : md ≠ 0) (h : Cong md x y) : pmod x md = pmod y md := by
  obtain ⟨k, hk⟩ := h
  obtain ⟨hx, hxr⟩ := pdivmod_spec x md hmd
  obtain ⟨hy, hyr⟩ := pdivmod_spec y md hmd
  have hy' : clmul ((pdivmod x md).1 ^^^ k) md ^^^ (pdivmod x md).2 = y := by
    rw [xor_clmul, ← hk, Nat.xor_assoc, Nat.xor_comm (x ^^^ y) (pdivmod x md).2, ← Nat.xor_assoc, hx,
      ← Nat.xor_assoc, Nat.xor_self, Nat.zero_xor]
  exact ((divmod_unique hmd hyr hxr (hy.trans hy'.symm)).2).symm

/-- invariant of ppDivMod for a pair (u, d): `d·a ≡ divident·u (mod md)` -/
def DInv (md a dv u d : Nat) : Prop := Cong md (clmul d a) (clmul dv u)

theorem dinv_halve_even {md a dv u d : Nat} (hmd : md % 2 = 1) (h : DInv md a dv u d)
    (hu : u % 2 = 0) (hd : d % 2 = 0) : DInv md a dv (u / 2) (d / 2) := by
  apply cong_halve hmd
  have e1 : 2 * (d / 2) = d := by omega
  have e2 : 2 * (u / 2) = u := by omega
  rw [← two_mul_clmul, ← clmul_two_mul, e1, e2]
  exact h

theorem dinv_add_mod {md a dv u d : Nat} (h : DInv md a dv u d) : DInv md a dv u (d ^^^ md) := by
  obtain ⟨k, hk⟩ := h
  refine ⟨k ^^^ a, ?_⟩
  rw [xor_clmul, xor_clmul, ← hk, clmul_comm a md, Nat.xor_assoc, Nat.xor_assoc]
  congr 1
  exact Nat.xor_comm _ _

theorem halveMod_inv (md a dv : Nat) (hmd : md % 2 = 1) (f : Nat) :
    ∀ u d, DInv md a dv u d →
      DInv md a dv (ppHalveMod md f u d).1 (ppHalveMod md f u d).2 := by
  induction f with
  | zero => intro u d h; exact h
  | succ f ih =>
    intro u d h
    unfold ppHalveMod
    split
    · rename_i hu
      split
      · rename_i hd
        exact ih _ _ (dinv_halve_even hmd h hu hd)
      · rename_i hd
        have hp : (d ^^^ md) % 2 = 0 := by rw [xor_mod_two]; omega
        exact ih _ _ (dinv_halve_even hmd (dinv_add_mod h) hu hp)
    · exact h

theorem halveMod_bound (md : Nat) {e : Nat} (he : md.log2 ≤ e) (f : Nat) :
    ∀ u d, d < 2 ^ e → (ppHalveMod md f u d).2 < 2 ^ e := by
  induction f with
  | zero => intro u d h; exact h
  | succ f ih =>
    intro u d h
    unfold ppHalveMod
    split
    · split
      · exact ih _ _ (by omega)
      · apply ih
        have h1 : d ^^^ md < 2 ^ (e + 1) :=
          Nat.xor_lt_two_pow (by rw [Nat.pow_succ]; omega)
            (Nat.lt_of_lt_of_le Nat.lt_log2_self (Nat.pow_le_pow_right (by decide) (by omega)))
        rw [Nat.pow_succ] at h1
        omega
    · exact h

theorem dinv_xor {md a dv u d u' d' : Nat} (h : DInv md a dv u d) (h' : DInv md a dv u' d') :
    DInv md a dv (u ^^^ u') (d ^^^ d') := by
  unfold DInv
  rw [xor_clmul, clmul_xor]
  exact cong_xor h h'

theorem divLoop_inv (md a dv : Nat) (hmd : md % 2 = 1) (f : Nat) :
    ∀ u v da0 da, DInv md a dv u da0 → DInv md a dv v da →
      DInv md a dv (ppDivModLoop md f u v da0 da).1 (ppDivModLoop md f u v da0 da).2 := by
  induction f with
  | zero => intro u v da0 da _ h; exact h
  | succ f ih =>
    intro u v da0 da h0 h1
    have i0 := halveMod_inv md a dv hmd (u.log2 + 1) u da0 h0
    have i1 := halveMod_inv md a dv hmd (v.log2 + 1) v da h1
    unfold ppDivModLoop
    split
    · exact h1
    · dsimp only
      split
      · exact ih _ _ _ _ (dinv_xor i0 i1) i1
      · exact ih _ _ _ _ i0 (dinv_xor i1 i0)

theorem pmod_lt_two_pow {f : Nat} (hf : f ≠ 0) (x : Nat) : pmod x f < 2 ^ f.log2 :=
  (pdivmod_spec x f hf).2

theorem pmod_of_lt {md x : Nat} (hmd : md ≠ 0) (h : x < 2 ^ md.log2) : pmod x md = x := by
  obtain ⟨h1, h2⟩ := pdivmod_spec x md hmd
  have : clmul (pdivmod x md).1 md ^^^ (pdivmod x md).2 = clmul 0 md ^^^ x := by
    rw [h1, zero_clmul, Nat.zero_xor]
  exact (divmod_unique hmd h2 h this).2

theorem pmod_eq (a b : Nat) (hb : b ≠ 0) : pmod a b = a ^^^ clmul (pdivmod a b).1 b := by
  have h := (pdivmod_spec a b hb).1
  unfold pmod
  conv => rhs; lhs; rw [← h]
  rw [Nat.xor_comm (clmul _ _), Nat.xor_assoc, Nat.xor_self, Nat.xor_zero]

theorem cong_pmod {f : Nat} (hf : f ≠ 0) (x : Nat) : Cong f (pmod x f) x :=
  ⟨(pdivmod x f).1, by
    rw [pmod_eq x f hf, Nat.xor_comm x, Nat.xor_assoc, Nat.xor_self, Nat.xor_zero]⟩

theorem pmod_mul_left {f : Nat} (hf : f ≠ 0) (x c : Nat) :
    pmod (clmul (pmod x f) c) f = pmod (clmul x c) f :=
  pmod_cong hf (cong_mul_right c (cong_pmod hf x))

/-! ## §9 the Euclidean `Spec.pgcd` is a greatest common divisor -/

/-- a divisor of a non-zero polynomial has at most its degree -/
theorem log2_le_of_pdvd {g c : Nat} (hc0 : c ≠ 0) (h : PDvd g c) : g.log2 ≤ c.log2 := by
  obtain ⟨q, hq⟩ := h
  have hq0 : q ≠ 0 := by rintro rfl; rw [zero_clmul] at hq; exact hc0 hq
  have hg0 : g ≠ 0 := by rintro rfl; rw [clmul_zero] at hq; exact hc0 hq
  have := log2_clmul hq0 hg0
  rw [← hq] at this
  omega

theorem pdvd_pmod {d a b : Nat} (hb : b ≠ 0) (ha : PDvd d a) (hdb : PDvd d b) : PDvd d (pmod a b) := by
  rw [pmod_eq a b hb]; exact pdvd_xor ha (pdvd_mul _ hdb)

theorem pdvd_of_pmod {d a b : Nat} (hb : b ≠ 0) (hr : PDvd d (pmod a b)) (hdb : PDvd d b) : PDvd d a := by
  have h := (pdivmod_spec a b hb).1
  rw [← h]
  exact pdvd_xor (pdvd_mul _ hdb) hr

/-- g is a greatest common divisor of a and b -/
def IsPGcd (g a b : Nat) : Prop := PDvd g a ∧ PDvd g b ∧ ∀ d, PDvd d a → PDvd d b → PDvd d g

theorem pgcdAux_spec (f : Nat) : ∀ a b, b < 2 ^ f → IsPGcd (pgcdAux f a b) a b := by
  induction f with
  | zero =>
    intro a b hb
    have : b = 0 := by simpa using hb
    subst this
    exact ⟨pdvd_refl a, pdvd_zero a, fun d h _ => h⟩
  | succ f ih =>
    intro a b hb
    unfold pgcdAux
    split
    · rename_i h0; subst h0
      exact ⟨pdvd_refl a, pdvd_zero a, fun d h _ => h⟩
    · rename_i h0
      have hr : pmod a b < 2 ^ f := by
        have h1 := (pdivmod_spec a b h0).2
        have h2 : b.log2 ≤ f := by
          have := (Nat.log2_lt h0).2 hb; omega
        exact Nat.lt_of_lt_of_le h1 (Nat.pow_le_pow_right (by omega) h2)
      obtain ⟨g1, g2, g3⟩ := ih b (pmod a b) hr
      exact ⟨pdvd_of_pmod h0 g2 g1, g1, fun d hda hdb => g3 d hdb (pdvd_pmod h0 hda hdb)⟩

theorem pgcd_spec (a b : Nat) : IsPGcd (pgcd a b) a b := by
  unfold pgcd
  apply pgcdAux_spec
  exact Nat.lt_of_lt_of_le (Nat.lt_log2_self (n := b)) (Nat.pow_le_pow_right (by omega) (by omega))

/-- a gcd is unique (the only unit of GF(2)[x] is 1) -/
theorem isPGcd_unique {g g' a b : Nat} (h : IsPGcd g a b) (h' : IsPGcd g' a b) : g = g' := by
  obtain ⟨q, hq⟩ := h'.2.2 g h.1 h.2.1      -- g' = q g ... (g ∣ g')
  obtain ⟨q', hq'⟩ := h.2.2 g' h'.1 h'.2.1  -- g = q' g'
  by_cases hg : g = 0
  · subst hg; rw [clmul_zero] at hq; exact hq.symm
  · have hg' : g' ≠ 0 := by
      intro h0; rw [h0, clmul_zero] at hq'; exact hg hq'
    have hq0 : q ≠ 0 := by intro h0; rw [h0, zero_clmul] at hq; exact hg' hq
    have hl := log2_clmul hq0 hg
    have hq'0 : q' ≠ 0 := by intro h0; rw [h0, zero_clmul] at hq'; exact hg hq'
    have hl' := log2_clmul hq'0 hg'
    rw [← hq] at hl
    rw [← hq'] at hl'
    have : q.log2 = 0 := by omega
    have hq1 : q = 1 := by
      have := (Nat.log2_lt hq0).1 (by omega : q.log2 < 1)
      omega
    rw [hq1, one_clmul] at hq
    exact hq.symm

/-! ## §10 the odd part; termination of the binary loops -/

/-- `u / x^(wwLoZeroBits u)` -/
def oddP (u : Nat) : Nat := u / 2 ^ ppLoZeros u

theorem shr_loZeros (u : Nat) : u >>> ppLoZeros u = oddP u := Nat.shiftRight_eq_div_pow _ _

theorem oddP_odd {u : Nat} (h : u ≠ 0) : oddP u % 2 = 1 := loZeros_odd h
theorem oddP_mul (u : Nat) : oddP u * 2 ^ ppLoZeros u = u := Nat.div_mul_cancel (loZeros_dvd u)
theorem oddP_ne_zero {u : Nat} (h : u ≠ 0) : oddP u ≠ 0 := by have := oddP_odd h; omega

theorem log2_mul_two_pow {x : Nat} (hx : x ≠ 0) (t : Nat) : (x * 2 ^ t).log2 = x.log2 + t := by
  induction t with
  | zero => simp
  | succ t ih =>
    have hne : x * 2 ^ t ≠ 0 := Nat.mul_ne_zero hx (Nat.pos_iff_ne_zero.1 (Nat.two_pow_pos t))
    rw [Nat.pow_succ, ← Nat.mul_assoc, Nat.mul_comm _ 2, Nat.log2_two_mul hne, ih]; omega

theorem log2_oddP {u : Nat} (h : u ≠ 0) : (oddP u).log2 + ppLoZeros u = u.log2 := by
  have := log2_mul_two_pow (oddP_ne_zero h) (ppLoZeros u)
  rw [oddP_mul] at this; omega

theorem loZeros_pos {u : Nat} (he : u % 2 = 0) : 1 ≤ ppLoZeros u := by
  unfold ppLoZeros ppLoZerosF
  rw [if_pos he]; omega

theorem loZeros_of_odd {u : Nat} (ho : u % 2 = 1) : ppLoZeros u = 0 := by
  unfold ppLoZeros ppLoZerosF
  rw [if_neg (by omega)]

theorem oddP_of_odd {u : Nat} (ho : u % 2 = 1) : oddP u = u := by
  unfold oddP; rw [loZeros_of_odd ho]; simp

theorem pdvd_shl {g x : Nat} (t : Nat) (h : PDvd g x) : PDvd g (x * 2 ^ t) := by
  have := pdvd_mul (2 ^ t) h
  rwa [two_pow_clmul, Nat.shiftLeft_eq] at this

theorem pdvd_of_oddP {g u : Nat} (h : PDvd g (oddP u)) : PDvd g u := by
  have := pdvd_shl (ppLoZeros u) h
  rwa [oddP_mul] at this

/-- the potential drops: u1 ≥ v1 odd, u2 = u1 + v1 ≠ 0 ⇒ deg(odd part of u2) < deg u1 -/
theorem pot_drop {u1 v1 : Nat} (hu : u1 % 2 = 1) (hv : v1 % 2 = 1) (hle : v1 ≤ u1)
    (hne : u1 ^^^ v1 ≠ 0) : (oddP (u1 ^^^ v1)).log2 + 1 ≤ u1.log2 := by
  have he : (u1 ^^^ v1) % 2 = 0 := by rw [xor_mod_two, hu, hv]
  have h1 := loZeros_pos he
  have h2 := log2_oddP hne
  have h3 : u1 ^^^ v1 < 2 ^ (u1.log2 + 1) :=
    Nat.xor_lt_two_pow Nat.lt_log2_self (Nat.lt_of_le_of_lt hle Nat.lt_log2_self)
  have h4 := (Nat.log2_lt hne).2 h3
  omega

theorem xor_xor_cancel (x y : Nat) : x ^^^ y ^^^ y = x := by
  rw [Nat.xor_assoc, Nat.xor_self, Nat.xor_zero]

/-- with enough fuel the do-while loop of ppGCD ends with u = 0, and the returned v divides both -/
theorem gcdLoop_dvd (f : Nat) : ∀ u v, u ≠ 0 → v ≠ 0 → (oddP u).log2 + (oddP v).log2 + 1 ≤ f →
    PDvd (ppGCDLoop f u v) u ∧ PDvd (ppGCDLoop f u v) v := by
  induction f with
  | zero => intro u v _ _ h; omega
  | succ f ih =>
    intro u v hu hv hf
    have ou := oddP_odd hu
    have ov := oddP_odd hv
    unfold ppGCDLoop
    simp only [shr_loZeros]
    split
    · rename_i hge
      split
      · rename_i hne
        have hd := pot_drop ou ov hge hne
        obtain ⟨g1, g2⟩ := ih (oddP u ^^^ oddP v) (oddP v) hne (oddP_ne_zero hv)
          (by rw [oddP_of_odd ov]; omega)
        have g3 := pdvd_xor g1 g2
        rw [xor_xor_cancel] at g3
        exact ⟨pdvd_of_oddP g3, pdvd_of_oddP g2⟩
      · rename_i hz
        have hz' : oddP u ^^^ oddP v = 0 := by simpa using hz
        have he := xor_eq_zero_iff.1 hz'
        refine ⟨pdvd_of_oddP ?_, pdvd_of_oddP (pdvd_refl _)⟩
        rw [he]; exact pdvd_refl _
    · rename_i hlt
      have hlt' : oddP u ≤ oddP v := by omega
      have hne : oddP v ^^^ oddP u ≠ 0 := by
        intro h0; have := xor_eq_zero_iff.1 h0; omega
      rw [if_pos (oddP_ne_zero hu)]
      have hd := pot_drop ov ou hlt' hne
      obtain ⟨g1, g2⟩ := ih (oddP u) (oddP v ^^^ oddP u) (oddP_ne_zero hu) hne
        (by rw [oddP_of_odd ou]; omega)
      have g3 := pdvd_xor g2 g1
      rw [xor_xor_cancel] at g3
      exact ⟨pdvd_of_oddP g1, pdvd_of_oddP g3⟩

/-- the halving loops of ppExGCD / ppDivMod compute the odd part of u -/
theorem halveEx_fst (aa bb f : Nat) : ∀ u da db,
    (ppHalveEx aa bb f u da db).1 = u / 2 ^ ppLoZerosF f u := by
  induction f with
  | zero => intro u da db; simp [ppHalveEx, ppLoZerosF]
  | succ f ih =>
    intro u da db
    unfold ppHalveEx ppLoZerosF
    split
    · have e : u / 2 ^ (1 + ppLoZerosF f (u / 2)) = u / 2 / 2 ^ ppLoZerosF f (u / 2) := by
        rw [Nat.add_comm, Nat.pow_succ, Nat.mul_comm _ 2, ← Nat.div_div_eq_div_mul]
      split <;> rw [ih, e]
    · simp

theorem halveMod_fst (md f : Nat) : ∀ u d,
    (ppHalveMod md f u d).1 = u / 2 ^ ppLoZerosF f u := by
  induction f with
  | zero => intro u d; simp [ppHalveMod, ppLoZerosF]
  | succ f ih =>
    intro u d
    unfold ppHalveMod ppLoZerosF
    split
    · have e : u / 2 ^ (1 + ppLoZerosF f (u / 2)) = u / 2 / 2 ^ ppLoZerosF f (u / 2) := by
        rw [Nat.add_comm, Nat.pow_succ, Nat.mul_comm _ 2, ← Nat.div_div_eq_div_mul]
      split <;> rw [ih, e]
    · simp

theorem halveEx_fst' (aa bb u da db : Nat) : (ppHalveEx aa bb (u.log2 + 1) u da db).1 = oddP u :=
  halveEx_fst aa bb _ u da db
theorem halveMod_fst' (md u d : Nat) : (ppHalveMod md (u.log2 + 1) u d).1 = oddP u :=
  halveMod_fst md _ u d

/-- ppExGCD's (u, v) run exactly as ppGCD's -/
theorem exLoop_fst (aa bb f : Nat) : ∀ u v da0 db0 da db,
    (ppExGCDLoop aa bb f u v da0 db0 da db).1 = ppGCDLoop f u v := by
  induction f with
  | zero => intro u v da0 db0 da db; rfl
  | succ f ih =>
    intro u v da0 db0 da db
    unfold ppExGCDLoop ppGCDLoop
    simp only [halveEx_fst', shr_loZeros]
    split
    · split
      · exact ih _ _ _ _ _ _
      · rfl
    · split
      · exact ih _ _ _ _ _ _
      · rfl

theorem exGCDV_fst (a b : Nat) : (ppExGCDV a b).1 = ppGCDV a b := by
  unfold ppExGCDV ppGCDV
  simp only [exLoop_fst]

theorem pdvd_shiftLeft {g x : Nat} (s : Nat) (h : PDvd g x) : PDvd (g <<< s) (x <<< s) := by
  obtain ⟨q, hq⟩ := h
  exact ⟨q, by rw [hq, clmul_comm q g, ← shiftLeft_clmul, clmul_comm]⟩

theorem gcdV_isPGcd {a b : Nat} (ha : a ≠ 0) (hb : b ≠ 0) : IsPGcd (ppGCDV a b) a b := by
  have ea := shr_shl_of_le (Nat.min_le_left (ppLoZeros a) (ppLoZeros b))
  have eb := shr_shl_of_le (Nat.min_le_right (ppLoZeros a) (ppLoZeros b))
  have hu : a >>> min (ppLoZeros a) (ppLoZeros b) ≠ 0 := by
    intro h0; rw [h0] at ea; simp at ea; exact ha ea.symm
  have hv : b >>> min (ppLoZeros a) (ppLoZeros b) ≠ 0 := by
    intro h0; rw [h0] at eb; simp at eb; exact hb eb.symm
  have hfuel : (oddP (a >>> min (ppLoZeros a) (ppLoZeros b))).log2
      + (oddP (b >>> min (ppLoZeros a) (ppLoZeros b))).log2 + 1
      ≤ (a >>> min (ppLoZeros a) (ppLoZeros b)).log2 + (b >>> min (ppLoZeros a) (ppLoZeros b)).log2 + 3 := by
    have := log2_oddP hu
    have := log2_oddP hv
    omega
  obtain ⟨g1, g2⟩ := gcdLoop_dvd _ _ _ hu hv hfuel
  refine ⟨?_, ?_, ?_⟩
  · have := pdvd_shiftLeft (min (ppLoZeros a) (ppLoZeros b)) g1
    rw [ea] at this; exact this
  · have := pdvd_shiftLeft (min (ppLoZeros a) (ppLoZeros b)) g2
    rw [eb] at this; exact this
  · intro d hda hdb
    obtain ⟨q1, h1⟩ := hda
    obtain ⟨q2, h2⟩ := hdb
    refine ⟨clmul q1 (ppExGCDV a b).2.1 ^^^ clmul q2 (ppExGCDV a b).2.2, ?_⟩
    rw [← exGCDV_fst, ← exGCDV_bezout ha hb, xor_clmul, clmul_assoc, clmul_assoc,
      clmul_comm (ppExGCDV a b).2.1 d, clmul_comm (ppExGCDV a b).2.2 d, ← clmul_assoc, ← clmul_assoc,
      ← h1, ← h2]

theorem gcdV_eq_pgcd {a b : Nat} (ha : a ≠ 0) (hb : b ≠ 0) : ppGCDV a b = pgcd a b :=
  isPGcd_unique (gcdV_isPGcd ha hb) (pgcd_spec a b)

/-! ## §11 ppDivMod: the loop ends with v = gcd(a, mod) -/

theorem gcdLoop_isPGcd {u v : Nat} (hu : u ≠ 0) (hv : v ≠ 0) (hodd : u % 2 = 1 ∨ v % 2 = 1) (f : Nat)
    (hf : (oddP u).log2 + (oddP v).log2 + 1 ≤ f) : IsPGcd (ppGCDLoop f u v) u v := by
  obtain ⟨g1, g2⟩ := gcdLoop_dvd f u v hu hv hf
  refine ⟨g1, g2, ?_⟩
  intro d hda hdb
  have inv := exLoop_inv u v hodd f u v 1 0 0 1
    (by rw [clmul_one, clmul_zero, Nat.xor_zero]) (by rw [clmul_one, clmul_zero, Nat.zero_xor])
  rw [exLoop_fst] at inv
  obtain ⟨q1, h1⟩ := hda
  obtain ⟨q2, h2⟩ := hdb
  refine ⟨clmul q1 (ppExGCDLoop u v f u v 1 0 0 1).2.1 ^^^ clmul q2 (ppExGCDLoop u v f u v 1 0 0 1).2.2, ?_⟩
  rw [← inv, xor_clmul, clmul_assoc, clmul_assoc,
    clmul_comm (ppExGCDLoop u v f u v 1 0 0 1).2.1 d, clmul_comm (ppExGCDLoop u v f u v 1 0 0 1).2.2 d,
    ← clmul_assoc, ← clmul_assoc, ← h1, ← h2]

/-- the `while` loop of ppDivMod runs (u, v) as the do-while of ppGCD (one more test of u) -/
theorem divLoop_fst (md f : Nat) : ∀ u v da0 da, u ≠ 0 → v ≠ 0 →
    (oddP u).log2 + (oddP v).log2 + 1 ≤ f →
    (ppDivModLoop md (f + 1) u v da0 da).1 = ppGCDLoop f u v := by
  induction f with
  | zero => intro u v _ _ _ _ h; omega
  | succ f ih =>
    intro u v da0 da hu hv hf
    have ou := oddP_odd hu
    have ov := oddP_odd hv
    rw [ppDivModLoop, if_neg hu]
    simp only [halveMod_fst']
    unfold ppGCDLoop
    simp only [shr_loZeros]
    split
    · rename_i hge
      split
      · rename_i hne
        have hd := pot_drop ou ov hge hne
        exact ih _ _ _ _ hne (oddP_ne_zero hv) (by rw [oddP_of_odd ov]; omega)
      · rename_i hz
        have hz' : oddP u ^^^ oddP v = 0 := by simpa using hz
        rw [hz', ppDivModLoop, if_pos rfl]
    · rename_i hlt
      have hlt' : oddP u ≤ oddP v := by omega
      have hne : oddP v ^^^ oddP u ≠ 0 := by
        intro h0; have := xor_eq_zero_iff.1 h0; omega
      have hd := pot_drop ov ou hlt' hne
      rw [if_pos (oddP_ne_zero hu)]
      exact ih _ _ _ _ (oddP_ne_zero hu) hne (by rw [oddP_of_odd ou]; omega)

theorem divLoop_gcd (dv a md : Nat) (hmd : md % 2 = 1) :
    (ppDivModLoop md (a.log2 + md.log2 + 4) a md dv 0).1 = pgcd a md := by
  have hmd0 : md ≠ 0 := by omega
  by_cases ha : a = 0
  · subst ha
    rw [ppDivModLoop, if_pos rfl]
    exact isPGcd_unique ⟨pdvd_zero md, pdvd_refl md, fun d _ h => h⟩ (pgcd_spec 0 md)
  · have hf : (oddP a).log2 + (oddP md).log2 + 1 ≤ a.log2 + md.log2 + 3 := by
      have := log2_oddP ha
      have := log2_oddP hmd0
      omega
    rw [divLoop_fst md (a.log2 + md.log2 + 3) a md dv 0 ha hmd0 hf]
    exact isPGcd_unique (gcdLoop_isPGcd ha hmd0 (Or.inr hmd) _ hf) (pgcd_spec a md)

/-! ## §12 ppDivMod: the result is reduced even when deg divident = deg mod -/

/-- if v is even (≠ 0) the halving loop halves at least once, which reduces d below deg mod -/
theorem halveMod_bound3 (md v d : Nat) (hd : d < 2 ^ (md.log2 + 1))
    (h : d < 2 ^ md.log2 ∨ v % 2 = 0) : (ppHalveMod md (v.log2 + 1) v d).2 < 2 ^ md.log2 := by
  rcases h with h | h
  · exact halveMod_bound md (Nat.le_refl _) _ v d h
  · unfold ppHalveMod
    rw [if_pos h]
    split
    · exact halveMod_bound md (Nat.le_refl _) _ _ _ (by rw [Nat.pow_succ] at hd; omega)
    · apply halveMod_bound md (Nat.le_refl _)
      have h1 : d ^^^ md < 2 ^ (md.log2 + 1) := Nat.xor_lt_two_pow hd Nat.lt_log2_self
      rw [Nat.pow_succ] at h1
      omega

theorem divLoop_bound2 (md : Nat) (f : Nat) :
    ∀ u v da0 da, v ≠ 0 → da0 < 2 ^ (md.log2 + 1) → da < 2 ^ (md.log2 + 1) →
      (da < 2 ^ md.log2 ∨ v % 2 = 0) →
      (ppDivModLoop md f u v da0 da).1 % 2 = 1 → (ppDivModLoop md f u v da0 da).2 < 2 ^ md.log2 := by
  induction f with
  | zero =>
    intro u v da0 da _ _ _ h hv
    simp only [ppDivModLoop] at hv ⊢
    rcases h with h | h
    · exact h
    · omega
  | succ f ih =>
    intro u v da0 da hv0 h0 h1 h hv
    have hle : 2 ^ md.log2 ≤ 2 ^ (md.log2 + 1) := Nat.pow_le_pow_right (by omega) (by omega)
    rw [ppDivModLoop] at hv ⊢
    split
    · rename_i hu
      rw [if_pos hu] at hv
      rcases h with h | h
      · exact h
      · simp only at hv; omega
    · rename_i hu
      rw [if_neg hu] at hv
      have i0 := halveMod_bound md (Nat.le_succ _) (u.log2 + 1) u da0 h0
      have i1 := halveMod_bound3 md v da h1 h
      have ou := oddP_odd hu
      have ov := oddP_odd hv0
      simp only [halveMod_fst'] at hv ⊢
      split
      · rename_i hge
        rw [if_pos hge] at hv
        exact ih _ _ _ _ (oddP_ne_zero hv0) (Nat.xor_lt_two_pow i0 (Nat.lt_of_lt_of_le i1 hle))
          (Nat.lt_of_lt_of_le i1 hle) (Or.inl i1) hv
      · rename_i hlt
        rw [if_neg hlt] at hv
        have hne : oddP v ^^^ oddP u ≠ 0 := by
          intro h0; have := xor_eq_zero_iff.1 h0; omega
        exact ih _ _ _ _ hne i0 (Nat.xor_lt_two_pow (Nat.lt_of_lt_of_le i1 hle) i0)
          (Or.inr (by rw [xor_mod_two, ou, ov])) hv

/-- ppDivMod at full strength; divident of degree ≤ deg mod (in particular divident < mod as
    integers), a arbitrary -/
theorem divModV_spec (dv a md : Nat) (hmd : md % 2 = 1) (hdv : dv < 2 ^ (md.log2 + 1)) :
    (pgcd a md = 1 → pmod (clmul (ppDivModV dv a md) a) md = pmod dv md
        ∧ ppDivModV dv a md < 2 ^ md.log2)
    ∧ (pgcd a md ≠ 1 → ppDivModV dv a md = 0) := by
  have hmd0 : md ≠ 0 := by omega
  have hg := divLoop_gcd dv a md hmd
  have inv := divLoop_inv md a dv hmd (a.log2 + md.log2 + 4) a md dv 0 (cong_refl _ _)
    ⟨dv, by rw [zero_clmul, Nat.zero_xor]⟩
  have bnd := divLoop_bound2 md (a.log2 + md.log2 + 4) a md dv 0 hmd0 hdv (Nat.two_pow_pos _)
    (Or.inl (Nat.two_pow_pos _))
  unfold ppDivModV
  dsimp only
  rw [hg] at inv bnd ⊢
  constructor
  · intro h1
    rw [if_pos h1]
    rw [h1] at inv bnd
    have := pmod_cong hmd0 inv
    rw [clmul_one] at this
    exact ⟨this, bnd rfl⟩
  · intro h1
    rw [if_neg h1]

/-- the reduced-dividend case -/
theorem divModV_partial (dv a md : Nat) (hmd : md % 2 = 1) (hdv : dv < 2 ^ md.log2) :
    (ppDivModV dv a md = 0 ∨ pmod (clmul (ppDivModV dv a md) a) md = dv)
    ∧ ppDivModV dv a md < 2 ^ md.log2 := by
  obtain ⟨h1, h0⟩ := divModV_spec dv a md hmd
    (Nat.lt_of_lt_of_le hdv (Nat.pow_le_pow_right (by decide) (Nat.le_succ _)))
  by_cases hg : pgcd a md = 1
  · exact ⟨Or.inr (by rw [(h1 hg).1, pmod_of_lt (by omega) hdv]), (h1 hg).2⟩
  · rw [h0 hg]; exact ⟨Or.inl rfl, Nat.two_pow_pos _⟩

end Bee2V.C05.Pp
