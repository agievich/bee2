/-
C05 — lemmas for ModelPpW.lean: the word-level models of pp_gcd.c / pp_mod.c refine the value-level
models of ModelPp.lean.  Same scheme as LemmasGcdW.lean, in the terms of LemmasRep.lean: one lemma per
C statement, the loops in lockstep over value variables; `xorPrefixW` is the carry-less twin of `subNormW`.
-/
import Bee2V.C05.ModelPpW
import Bee2V.C05.LemmasGcdW
import Bee2V.C05.LemmasPpRed
namespace Bee2V.C05
open Bee2V.C05.Add Bee2V.C05.GcdW Bee2V.C05.Spec

variable {w n m k j : Nat} {l u v a b : List Nat} {x y X Y A B M : Nat}

theorem PpW.ppLoZeros_eq {n : Nat} (hn : 0 < n) : ppLoZeros n = loZeros n :=
  loZeros_unique hn (Nat.mod_eq_zero_of_dvd (Pp.loZeros_dvd n)) (Pp.loZeros_odd (by omega))

theorem Rep.xor2 (ha : Rep w n a A) (hb : Rep w n b B) : Rep w n (wwXor2 a b) (A ^^^ B) := by
  obtain ⟨s1, s2, s3⟩ := wwXor2_spec (w := w) a b (by rw [ha.len, hb.len]) ha.wf hb.wf
  exact ⟨s2, by rw [s1, ha.len], by rw [s3, ha.eq, hb.eq]⟩

theorem Rep.testBit0 (hw : 0 < w) (h : Rep w n l x) (hn : 0 < n) :
    (wwTestBit w l 0 = false) ↔ x % 2 = 0 := by
  rw [wwTestBit_spec hw l 0 (Nat.mul_pos hw (by rw [h.len]; exact hn)) h.wf, h.eq]
  simp only [Nat.pow_zero, Nat.div_one, decide_eq_false_iff_not]
  omega

/-- `wwXor2(x, y, ny)` on the prefixes, ny ≤ nx: the low ny words are xored, the words above stay -/
theorem Pre.xorPrefix (hx : Pre w n u k X) (hy : Pre w m v j Y) (hjk : j ≤ k) :
    Pre w n (xorPrefixW j u v) k (X ^^^ Y) := by
  have hjn : j ≤ n := Nat.le_trans hjk hx.le
  have h := ((hx.toRep.take j hjn).xor2 hy.take).append (hx.toRep.drop j)
  have e := add_mul_xor (u := X / 2 ^ (w * j)) (v := 0) (Nat.mod_lt X (Nat.two_pow_pos (w * j))) hy.lt
  rw [Nat.mod_add_div, Nat.mul_zero, Nat.add_zero, Nat.xor_zero] at e
  rw [← e, show j + (n - j) = n by omega] at h
  exact ⟨h, hx.le, Nat.xor_lt_two_pow hx.lt (Nat.lt_of_lt_of_le hy.lt
    (Nat.pow_le_pow_right (by omega) (Nat.mul_le_mul_left _ hjk)))⟩

theorem Pre.strip' (hw : 0 < w) (hs : SizesOK w) (h : Pre w n l k x) (hx : 0 < x) :
    Pre w n (onPrefixW k (fun p => wwShLo w p (wwLoZeroBits w p)) l) k (x >>> ppLoZeros x)
    ∧ 0 < x >>> ppLoZeros x := by
  rw [Nat.shiftRight_eq_div_pow, PpW.ppLoZeros_eq hx]
  exact ⟨h.strip hw hs hx, (Gcd.strip_pos_le hx).1⟩

end Bee2V.C05

namespace Bee2V.C05.PpW
open Bee2V.C05 Bee2V.C05.Add Bee2V.C05.GcdW Bee2V.C05.Spec

variable {w n m : Nat} {M : Nat}

/-! ## ppGCD -/

/-- the `do … while` loop of ppGCD: lockstep with the value level (for every fuel) -/
theorem ppGCDLoopW_spec (hw : 0 < w) (hs : SizesOK w) :
    ∀ (f : Nat) (u : List Nat) (nu : Nat) (v : List Nat) (mv : Nat) (U V : Nat),
      Pre w n u nu U → Pre w m v mv V → 0 < U → 0 < V →
      let r := ppGCDLoopW w f u nu v mv
      Pre w m r.1 r.2 (ppGCDLoop f U V) := by
  intro f
  induction f with
  | zero => intro u nu v mv U V _ hv _ _; exact hv
  | succ f ih =>
    intro u nu v mv U V hu hv hup hvp
    unfold ppGCDLoopW ppGCDLoop
    simp only []
    obtain ⟨a1, a4⟩ := hu.strip' hw hs hup
    obtain ⟨b1, b4⟩ := hv.strip' hw hs hvp
    obtain ⟨n1, n3, _⟩ := a1.wordSize
    obtain ⟨m1, m3, _⟩ := b1.wordSize
    by_cases hge : V >>> ppLoZeros V ≤ U >>> ppLoZeros U
    · rw [if_pos ((n1.cmp2_ge m1).mpr hge), if_pos hge]
      have x1 := n1.xorPrefix m1 (n1.norm_le m3 hge)
      rw [x1.isNonzero]
      by_cases hz : U >>> ppLoZeros U ^^^ V >>> ppLoZeros V = 0
      · simp only [hz, ne_eq, not_true_eq_false, decide_false, Bool.false_eq_true, if_false]
        exact m1
      · simp only [hz, ne_eq, not_false_eq_true, decide_true, if_true]
        exact ih _ _ _ _ _ _ x1 m1 (by omega) b4
    · rw [if_neg (fun h => hge ((n1.cmp2_ge m1).mp h)), if_neg hge, n1.isNonzero]
      have x1 := m1.xorPrefix n1 (m1.norm_le n3 (by omega))
      simp only [a4.ne', ne_eq, not_false_eq_true, decide_true, if_true]
      have hne : V >>> ppLoZeros V ^^^ U >>> ppLoZeros U ≠ 0 := by
        intro h0; have := Pp.xor_eq_zero_iff.1 h0; omega
      exact ih _ _ _ _ _ _ n1 x1 a4 (by omega)

/-- a divisor of a non-zero polynomial that fits k words fits k words -/
theorem pdvd_lt {w : Nat} {g : Nat} {a : List Nat} (ha : Wf w a) (ha0 : val w a ≠ 0)
    (h : Pp.PDvd g (val w a)) : g < 2 ^ (w * a.length) := by
  have h1 := (Nat.log2_lt ha0).2 (val_lt ha)
  have hg0 : g ≠ 0 := by
    rintro rfl; obtain ⟨q, hq⟩ := h; rw [Pp.clmul_zero] at hq; exact ha0 hq
  exact (Nat.log2_lt hg0).1 (by have := Pp.log2_le_of_pdvd ha0 h; omega)

/-! ## ppDivMod -/

theorem ppHalveModW_spec (hw : 0 < w) {md : List Nat} (hm : Rep w n md M) (hn : 0 < n) (nu : Nat)
    {N : Nat} (hN : 0 < N) :
    ∀ (f : Nat) (u da : List Nat) (U D : Nat), Pre w N u nu U → Rep w n da D →
      Pre w N (ppHalveModW w md nu f u da).1 nu (ppHalveMod M f U D).1
      ∧ Rep w n (ppHalveModW w md nu f u da).2 (ppHalveMod M f U D).2 := by
  intro f
  induction f with
  | zero => intro u da U D hu hd; exact ⟨hu, hd⟩
  | succ f ih =>
    intro u da U D hu hd
    unfold ppHalveModW ppHalveMod
    simp only [hu.toRep.testBit0 hw hN, hd.testBit0 hw hn]
    split
    · split
      · exact ih _ _ _ _ (hu.shLo1 hw) (hd.shLo1 hw)
      · exact ih _ _ _ _ (hu.shLo1 hw) ((hd.xor2 hm).shLo1 hw)
    · exact ⟨hu, hd⟩

/-- the `while` loop of ppDivMod: lockstep with the value level (for every fuel) -/
theorem ppDivModLoopW_spec (hw : 0 < w) {md : List Nat} (hm : Rep w n md M) (hn : 0 < n) :
    ∀ (f : Nat) (u : List Nat) (nu : Nat) (v : List Nat) (nv : Nat) (da0 da : List Nat)
      (U V D0 D : Nat), Pre w n u nu U → Pre w n v nv V → Rep w n da0 D0 → Rep w n da D →
      let r := ppDivModLoopW w md f u nu v nv da0 da
      let e := ppDivModLoop M f U V D0 D
      Pre w n r.1 r.2.1 e.1 ∧ Rep w n r.2.2 e.2 := by
  intro f
  induction f with
  | zero => intro u nu v nv da0 da U V D0 D _ hv _ hd; exact ⟨hv, hd⟩
  | succ f ih =>
    intro u nu v nv da0 da U V D0 D hu hv hd0 hd
    unfold ppDivModLoopW ppDivModLoop
    rw [hu.isZero, hu.eq, hv.eq]
    by_cases hu0 : U = 0
    · simp only [hu0, decide_true, if_true]; exact ⟨hv, hd⟩
    · simp only [hu0, decide_false, Bool.false_eq_true, if_false]
      obtain ⟨a1, a2⟩ := ppHalveModW_spec hw hm hn nu hn (U.log2 + 1) u da0 U D0 hu hd0
      obtain ⟨b1, b2⟩ := ppHalveModW_spec hw hm hn nv hn (V.log2 + 1) v da V D hv hd
      obtain ⟨n1, n3, _⟩ := a1.wordSize
      obtain ⟨m1, m3, _⟩ := b1.wordSize
      by_cases hge : (ppHalveMod M (V.log2 + 1) V D).1 ≤ (ppHalveMod M (U.log2 + 1) U D0).1
      · rw [if_pos ((n1.cmp2_ge m1).mpr hge), if_pos hge]
        exact ih _ _ _ _ _ _ _ _ _ _ (n1.xorPrefix m1 (n1.norm_le m3 hge)) m1 (a2.xor2 b2) b2
      · rw [if_neg (fun h => hge ((n1.cmp2_ge m1).mp h)), if_neg hge]
        exact ih _ _ _ _ _ _ _ _ _ _ n1 (m1.xorPrefix n1 (m1.norm_le n3 (by omega))) a2 (b2.xor2 a2)

/-! ## ppExGCD -/

theorem ppHalveExW_spec (hw : 0 < w) {aa bb : List Nat} {A B : Nat} (haa : Rep w n aa A)
    (hbb : Rep w m bb B) (hn : 0 < n) (hm : 0 < m) (nu : Nat) {N : Nat} (hN : 0 < N) :
    ∀ (f : Nat) (u da db : List Nat) (U Da Db : Nat), Pre w N u nu U → Rep w m da Da → Rep w n db Db →
      let r := ppHalveExW w aa bb nu f u da db
      let e := ppHalveEx A B f U Da Db
      Pre w N r.1 nu e.1 ∧ Rep w m r.2.1 e.2.1 ∧ Rep w n r.2.2 e.2.2 := by
  intro f
  induction f with
  | zero => intro u da db U Da Db hu hda hdb; exact ⟨hu, hda, hdb⟩
  | succ f ih =>
    intro u da db U Da Db hu hda hdb
    unfold ppHalveExW ppHalveEx
    simp only [hu.toRep.testBit0 hw hN, hda.testBit0 hw hm, hdb.testBit0 hw hn]
    split
    · split
      · exact ih _ _ _ _ _ _ (hu.shLo1 hw) (hda.shLo1 hw) (hdb.shLo1 hw)
      · exact ih _ _ _ _ _ _ (hu.shLo1 hw) ((hda.xor2 hbb).shLo1 hw) ((hdb.xor2 haa).shLo1 hw)
    · exact ⟨hu, hda, hdb⟩

/-- the `do … while` loop of ppExGCD: lockstep with the value level (for every fuel) -/
theorem ppExGCDLoopW_spec (hw : 0 < w) {aa bb : List Nat} {A B : Nat} (haa : Rep w n aa A)
    (hbb : Rep w m bb B) (hn : 0 < n) (hm : 0 < m) {N N' : Nat} (hN : 0 < N) (hN' : 0 < N') :
    ∀ (f : Nat) (u : List Nat) (nu : Nat) (v : List Nat) (mv : Nat) (da0 db0 da db : List Nat)
      (U V Da0 Db0 Da Db : Nat),
      Pre w N u nu U → Pre w N' v mv V → Rep w m da0 Da0 → Rep w n db0 Db0 → Rep w m da Da →
      Rep w n db Db →
      let r := ppExGCDLoopW w aa bb f u nu v mv da0 db0 da db
      let e := ppExGCDLoop A B f U V Da0 Db0 Da Db
      Pre w N' r.1 r.2.1 e.1 ∧ Rep w m r.2.2.1 e.2.1 ∧ Rep w n r.2.2.2 e.2.2 := by
  intro f
  induction f with
  | zero => intro u nu v mv da0 db0 da db U V Da0 Db0 Da Db _ hv _ _ hda hdb; exact ⟨hv, hda, hdb⟩
  | succ f ih =>
    intro u nu v mv da0 db0 da db U V Da0 Db0 Da Db hu hv hda0 hdb0 hda hdb
    unfold ppExGCDLoopW ppExGCDLoop
    simp only []
    rw [hu.eq, hv.eq]
    obtain ⟨a1, a2, a3⟩ := ppHalveExW_spec hw haa hbb hn hm nu hN (U.log2 + 1) u da0 db0 U Da0 Db0
      hu hda0 hdb0
    obtain ⟨b1, b2, b3⟩ := ppHalveExW_spec hw haa hbb hn hm mv hN' (V.log2 + 1) v da db V Da Db
      hv hda hdb
    obtain ⟨n1, n3, _⟩ := a1.wordSize
    obtain ⟨m1, m3, _⟩ := b1.wordSize
    by_cases hge : (ppHalveEx A B (V.log2 + 1) V Da Db).1 ≤ (ppHalveEx A B (U.log2 + 1) U Da0 Db0).1
    · rw [if_pos ((n1.cmp2_ge m1).mpr hge), if_pos hge]
      have x1 := n1.xorPrefix m1 (n1.norm_le m3 hge)
      simp only [x1.isNonzero, decide_eq_true_eq]
      split
      · exact ih _ _ _ _ _ _ _ _ _ _ _ _ _ _ x1 m1 (a2.xor2 b2) (a3.xor2 b3) b2 b3
      · exact ⟨m1, b2, b3⟩
    · rw [if_neg (fun h => hge ((n1.cmp2_ge m1).mp h)), if_neg hge]
      simp only [n1.isNonzero, decide_eq_true_eq]
      have x1 := m1.xorPrefix n1 (m1.norm_le n3 (by omega))
      split
      · exact ih _ _ _ _ _ _ _ _ _ _ _ _ _ _ n1 x1 a2 a3 (b2.xor2 a2) (b3.xor2 a3)
      · exact ⟨x1, b2.xor2 a2, b3.xor2 a3⟩

end Bee2V.C05.PpW
