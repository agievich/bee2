/-
C05 — helper lemmas for PropsEtcW.lean: the word-level models of zzJacobi / zzSqrt refine the
value-level models of ModelEtc.lean.  Their buffers keep stale words above the running sizes, so the
relation is `Low w l k x`: the first k words of `l` hold `x`, nothing is said of the rest;
`Low.splice` is "p written over the first k words".
-/
import Bee2V.C05.ModelEtcW
import Bee2V.C05.LemmasGcdW
import Bee2V.C05.PropsDiv
import Bee2V.C05.PropsEtc
import Mathlib.Tactic.Ring
import Mathlib.Tactic.Linarith
namespace Bee2V.C05.EtcW
open Bee2V.C05 Bee2V.C05.Add Bee2V.C05.GcdW

theorem and7 (x : Nat) : x &&& 7 = x % 8 := Nat.and_two_pow_sub_one_eq_mod x 3
theorem and3 (x : Nat) : x &&& 3 = x % 4 := Nat.and_two_pow_sub_one_eq_mod x 2

/-- the low 3 bits of a number are those of its low word (w ≥ 3) -/
theorem low_word {w : Nat} (hw : 3 ≤ w) (l : List Nat) :
    l.getD 0 0 % 8 = val w l % 8 ∧ l.getD 0 0 % 4 = val w l % 4 := by
  cases l with
  | nil => simp [val]
  | cons x xs =>
    obtain ⟨k, rfl⟩ : ∃ k, w = k + 3 := ⟨w - 3, by omega⟩
    have hp : 2 ^ (k + 3) * val (k + 3) xs = 8 * (2 ^ k * val (k + 3) xs) := by
      rw [Nat.pow_add]; ring
    rw [val_cons, hp]
    simp only [List.getD_cons_zero]
    omega

theorem getD_take_zero (l : List Nat) (m : Nat) (hm : 0 < m) : (l.take m).getD 0 0 = l.getD 0 0 := by
  cases l with
  | nil => simp
  | cons x xs =>
    obtain ⟨j, rfl⟩ : ∃ j, m = j + 1 := ⟨m - 1, by omega⟩
    simp

theorem getLast_eq_getD (l : List Nat) (h : l ≠ []) : l.getLast h = l.getD (l.length - 1) 0 := by
  rw [List.getLast_eq_getElem, List.getD_eq_getElem?_getD, List.getElem?_eq_getElem]
  rfl

theorem cmpW_one {w : Nat} (hw : 0 < w) (l : List Nat) (hl : Wf w l) :
    wwCmpW_safe w l 1 > 0 ↔ 1 < val w l := by
  have h2 := two_le_two_pow hw
  rw [(wwCmpW_spec l 1 hl (by omega)).1]
  unfold Bits.cmp3
  split_ifs <;> omega

/-- wwWordSize of a word list is the value-level word size of its value -/
theorem wordSize_eq {w : Nat} (hw : 0 < w) (l : List Nat) (hl : Wf w l) :
    wwWordSize l = wordSizeV w (val w l) := by
  obtain ⟨b1, b3⟩ := (Rep.mk' hl).wordSize
  have h1 := b1.lt
  generalize wwWordSize l = k at *
  have h2 := Etc.wordSizeV_le w (val w l) k hw h1
  rcases Nat.lt_or_ge (wordSizeV w (val w l)) k with h | h
  · exfalso
    have h3 := b3 (by omega)
    have h4 := Etc.wordSizeV_lt w (val w l) hw
    have h5 : 2 ^ (w * wordSizeV w (val w l)) ≤ 2 ^ (w * (k - 1)) :=
      Nat.pow_le_pow_right (by omega) (Nat.mul_le_mul_left _ (by omega))
    omega
  · omega

theorem getD_append_left (l l' : List Nat) (i : Nat) (h : i < l.length) :
    (l ++ l').getD i 0 = l.getD i 0 := by
  rw [List.getD_eq_getElem?_getD, List.getD_eq_getElem?_getD, List.getElem?_append_left h]

end Bee2V.C05.EtcW

namespace Bee2V.C05
open Bee2V.C05.Add Bee2V.C05.GcdW Bee2V.C05.EtcW

/-- the first `k` words of the buffer `l` hold `x`; the words above are not constrained (stale) -/
structure Low (w : Nat) (l : List Nat) (k x : Nat) : Prop where
  wf : Wf w l
  rep : Rep w k (l.take k) x

variable {w k j : Nat} {l p : List Nat} {x y : Nat}

theorem Low.mk' (hl : Wf w l) (hk : k ≤ l.length) : Low w l k (val w (l.take k)) :=
  ⟨hl, Wf_take hl k, by rw [List.length_take]; exact Nat.min_eq_left hk, rfl⟩

theorem Low.full (hl : Wf w l) : Low w l l.length (val w l) :=
  ⟨hl, by rw [List.take_length]; exact Rep.mk' hl⟩

theorem Low.le (h : Low w l k x) : k ≤ l.length := by
  have := h.rep.len; rw [List.length_take] at this; omega

theorem Low.shrink (h : Low w l k x) (hj : j ≤ k) : Low w l j (x % 2 ^ (w * j)) := by
  have := h.rep.take j hj
  rw [List.take_take, Nat.min_eq_left hj] at this
  exact ⟨h.wf, this⟩

theorem Low.splice (hl : Wf w l) (hp : Rep w k p y) : Low w (p ++ l.drop k) k y := by
  refine ⟨Wf_append.mpr ⟨hp.wf, Wf_drop hl k⟩, ?_⟩
  rw [List.take_append_of_le_length (by rw [hp.len]), List.take_of_length_le (by rw [hp.len])]
  exact hp

theorem splice_length (hp : p.length = k) (hk : k ≤ l.length) : (p ++ l.drop k).length = l.length := by
  rw [List.length_append, hp, List.length_drop]; omega

theorem Low.onPrefix (h : Low w l k x) {f : List Nat → List Nat} (hf : Rep w k (f (l.take k)) y) :
    Low w (onPrefixW k f l) k y :=
  Low.splice h.wf hf

/-- `k <- wwWordSize(l, k)`: the same value on the shorter prefix, whose top word is non-zero -/
theorem Low.wordSize (h : Low w l k x) :
    Low w l (wwWordSize (l.take k)) x ∧ wwWordSize (l.take k) ≤ k
    ∧ NormV w x (wwWordSize (l.take k))
    ∧ (0 < x → ∃ hne : l.take (wwWordSize (l.take k)) ≠ [],
        (l.take (wwWordSize (l.take k))).getLast hne ≠ 0) := by
  obtain ⟨b1, b3⟩ := h.rep.wordSize
  have b2 := b1.le
  obtain ⟨_, _, s3⟩ := wwWordSize_spec (l.take k)
  generalize wwWordSize (l.take k) = k' at *
  have htt : (l.take k).take k' = l.take k' := by rw [List.take_take, Nat.min_eq_left b2]
  have hr := b1.take
  rw [htt] at hr
  refine ⟨⟨h.wf, hr⟩, b2, b3, fun hpos => ?_⟩
  have hk : 0 < k' := by
    rcases Nat.eq_zero_or_pos k' with h0 | h0
    · have := hr.lt; rw [h0, Nat.mul_zero, Nat.pow_zero] at this; omega
    · exact h0
  have hne : l.take k' ≠ [] := by
    intro h0; have := hr.len; rw [h0] at this; simp at this; omega
  refine ⟨hne, ?_⟩
  rw [getLast_eq_getD, hr.len, ← htt, List.getD_eq_getElem?_getD, List.getElem?_take_of_lt (by omega),
    ← List.getD_eq_getElem?_getD]
  exact s3 hk

/-- `l[0] & 7`, `l[0] & 3` read the low bits of the value (w ≥ 3) -/
theorem Low.low3 (hw : 3 ≤ w) (h : Low w l k x) (hk : 0 < k) :
    l.getD 0 0 &&& 7 = x % 8 ∧ l.getD 0 0 &&& 3 = x % 4 := by
  rw [and7, and3, ← getD_take_zero l k hk, ← h.rep.eq]
  exact low_word hw _

/-- `t[m] = zzAdd2(t, b, m); wwShLo(t, m + 1, 1)`: the low m words of t become `(t + b) / 2` when
    that fits m words -/
theorem Low.avg {m Q Bv : Nat} {b : List Nat} (hw : 0 < w) (hq : Low w l m Q)
    (hb : Rep w m b Bv) (hfit : (Q + Bv) / 2 < 2 ^ (w * m)) :
    Low w (onPrefixW (m + 1) (fun p => wwShLo w p 1)
      ((zzAdd2 w (l.take m) b).1 ++ [(zzAdd2 w (l.take m) b).2] ++ l.drop (m + 1))) m
      ((Q + Bv) / 2) := by
  obtain ⟨σ, hs, e, hc⟩ := hq.rep.add2 hb
  have h2w := two_le_two_pow hw
  have h2 := hs.append (m := 1)
    ⟨Wf_single (show (zzAdd2 w (l.take m) b).2 < 2 ^ w by omega), rfl, val_single w _⟩
  rw [e] at h2
  have hL := Low.splice hq.wf h2
  have hO := (hL.onPrefix (f := fun p => wwShLo w p 1) (hL.rep.shLo1 hw)).shrink (Nat.le_succ m)
  rwa [Nat.mod_eq_of_lt hfit] at hO

end Bee2V.C05

namespace Bee2V.C05.EtcW
open Bee2V.C05 Bee2V.C05.Add Bee2V.C05.GcdW

variable {w : Nat}

/-- the loop of zzJacobi: word level and value level in lockstep -/
theorem zzJacobiLoopW_spec (hw : 3 ≤ w) (hs : SizesOK w) :
    ∀ (f : Nat) (u : List Nat) (n : Nat) (v : List Nat) (m : Nat) (t : Int) (U V : Nat),
      Low w u n U → Low w v m V → n ≤ m → m ≤ u.length →
      zzJacobiLoopW w f u n v m t = zzJacobiLoop f U V t := by
  have hw0 : 0 < w := by omega
  intro f
  induction f with
  | zero => intro u n v m t U V _ _ _ _; rfl
  | succ f ih =>
    intro u n v m t U V hu hv hnm hmu
    unfold zzJacobiLoopW zzJacobiLoop
    rw [wwIsZero_safe_spec w, wwIsW_one hw0 _ hu.rep.wf, hu.rep.eq]
    by_cases hv1 : 1 < V
    · rw [if_pos ((cmpW_one hw0 _ hv.rep.wf).mpr (by rw [hv.rep.eq]; exact hv1)), if_pos hv1]
      by_cases hu0 : U = 0
      · simp only [hu0, decide_true, if_true]
      · simp only [hu0, decide_false, Bool.false_eq_true, if_false]
        by_cases hu1 : U = 1
        · simp only [hu1, decide_true, if_true]
        · simp only [hu1, decide_false, Bool.false_eq_true, if_false]
          have hup : 0 < U := by omega
          have hmpos : 0 < m := by
            rcases Nat.eq_zero_or_pos m with h | h
            · have := hv.rep.lt; rw [h, Nat.mul_zero, Nat.pow_zero] at this; omega
            · exact h
          obtain ⟨hv8, hv4⟩ := hv.low3 hw hmpos
          rw [lz_eq hs _ hu.rep.wf (by rw [hu.rep.eq]; exact hup), hu.rep.eq, ← Etc.loZerosE_eq, hv8, hv4]
          have hstrip : 0 < U / 2 ^ loZerosE U := by
            rw [Etc.loZerosE_eq]; exact (Gcd.strip_pos_le hup).1
          generalize loZerosE U = s at *
          -- u <- u >> s; n <- wwWordSize(u, n)
          have a1 := hu.onPrefix (f := fun p => wwShLo w p s) (hu.rep.shLo hw0 s)
          have a2 : (onPrefixW n (fun p => wwShLo w p s) u).length = u.length :=
            splice_length (hu.rep.shLo hw0 s).len hu.le
          obtain ⟨n1, n2, _, n3⟩ := a1.wordSize
          obtain ⟨hne, htop⟩ := n3 hstrip
          have hn' : 0 < wwWordSize ((onPrefixW n (fun p => wwShLo w p s) u).take n) := by
            rcases Nat.eq_zero_or_pos (wwWordSize ((onPrefixW n (fun p => wwShLo w p s) u).take n)) with h | h
            · rw [h] at hne; simp at hne
            · exact h
          rw [(n1.low3 hw hn').2]
          generalize onPrefixW n (fun p => wwShLo w p s) u = u1 at *
          generalize wwWordSize (u1.take n) = n' at *
          -- v <- v mod u; m <- wwWordSize(v, n)
          obtain ⟨z1, z2, z3⟩ := zzMod_spec w (v.take m) (u1.take n') hv.rep.wf n1.rep.wf hne htop
          have b1 := Low.splice hv.wf (p := zzMod w (v.take m) (u1.take n'))
            ⟨z2, by rw [z3, n1.rep.len], by rw [z1, hv.rep.eq, n1.rep.eq]⟩
          generalize zzMod w (v.take m) (u1.take n') ++ v.drop n' = v2 at *
          obtain ⟨m1, m2, _, _⟩ := b1.wordSize
          -- swap
          rw [wwSwap_spec _ _ (by rw [n1.rep.len, b1.rep.len])]
          simp only []
          have hs1 := (Low.splice a1.wf b1.rep).shrink m2
          rw [Nat.mod_eq_of_lt m1.rep.lt] at hs1
          exact ih _ _ _ _ _ _ _ hs1 (Low.splice b1.wf n1.rep) m2
            (by rw [splice_length b1.rep.len n1.le, a2]; omega)
    · rw [if_neg (fun h => hv1 (by rw [← hv.rep.eq]; exact (cmpW_one hw0 _ hv.rep.wf).mp h)), if_neg hv1]


/-- the `while (1)` loop of zzSqrt: word level and value level in lockstep.  Carried: the Newton
    invariant `a < (t + 1)^2` and `t < B^((n+1)/2)` (t decreases), which give the side conditions
    of zzDiv (divisor non-empty with non-zero top word, m ≤ n, m ≤ n - m + 1). -/
theorem zzSqrtLoopW_spec (hw : 0 < w) (a : List Nat) (ha : Wf w a) (hA : val w a ≠ 0)
    (hnV : wordSizeV w (val w a) = a.length) :
    ∀ (f : Nat) (b t : List Nat) (m T : Nat), Wf w b → Low w t m T → m ≤ b.length →
      val w (b.drop m) = 0 → val w a < (T + 1) * (T + 1) → T < 2 ^ (w * ((a.length + 1) / 2)) →
      let r := zzSqrtLoopW w a f b t m
      let e := zzSqrtLoop w (val w a) a.length f T m
      val w r.1 = e.1 ∧ r.2 = e.2 ∧ Wf w r.1 ∧ r.1.length = b.length := by
  intro f
  induction f with
  | zero =>
    intro b t m T hb ht hmb hbz _ _
    have hb' := ht.rep.append (Rep.mk' (Wf_drop hb m))
    rw [hbz, Nat.mul_zero, Nat.add_zero] at hb'
    unfold zzSqrtLoopW zzSqrtLoop
    exact ⟨hb'.eq, rfl, hb'.wf, by rw [hb'.len, List.length_drop]; omega⟩
  | succ f ih =>
    intro b t m T hb ht hmb hbz hNewton hTh
    -- b <- t[0 .. m): the buffer b holds T in its first m words, zero above
    have hb' := ht.rep.append (Rep.mk' (Wf_drop hb m))
    rw [hbz, Nat.mul_zero, Nat.add_zero, List.length_drop, show m + (b.length - m) = b.length by omega] at hb'
    have hP : Pre w b.length (t.take m ++ b.drop m) m T := ⟨hb', hmb, ht.rep.lt⟩
    -- value-level facts
    obtain ⟨hTpos, hm1, hn2, hq, hnewton⟩ := Etc.sqrt_step w (val w a) T hw hA hNewton
    have hmh := Etc.wordSizeV_le w _ _ hw hTh
    have hbu := Etc.wordSizeV_lt w T hw
    have hapos := (Etc.wordSizeV_ge w _ hw hA).1
    rw [hnV] at hn2 hq hapos
    -- m' <- wwWordSize(b, m)
    obtain ⟨n1, n2, _, n3⟩ := (Low.mk hb'.wf hP.take : Low w (t.take m ++ b.drop m) m T).wordSize
    unfold zzSqrtLoopW zzSqrtLoop
    simp only []
    rw [Nat.mod_eq_of_lt ht.rep.lt, wordSize_eq hw _ hP.take.wf, hP.take.eq]
    rw [wordSize_eq hw _ hP.take.wf, hP.take.eq] at n1 n2 n3
    generalize wordSizeV w T = m' at *
    have hb'D := (⟨hb', Nat.le_trans n2 hmb, hbu⟩ : Pre w b.length (t.take m ++ b.drop m) m' T).drop
    generalize t.take m ++ b.drop m = b' at *
    obtain ⟨hne, htop⟩ := n3 hTpos
    -- the division
    obtain ⟨_, _, d3, _, d5, _⟩ := zzDiv_spec w a (b'.take m') ha n1.rep.wf hne htop
      (by rw [n1.rep.len]; omega)
    obtain ⟨dq, dr⟩ := zzDiv_divmod w a (b'.take m') ha n1.rep.wf hne htop (by rw [n1.rep.len]; omega)
    rw [n1.rep.eq] at dq dr
    rw [n1.rep.len] at d5
    generalize zzDiv w a (b'.take m') = qr at *
    -- t <- the quotient; the code reads t[m'] and t[0 .. m')
    have hT' := Low.splice ht.wf (⟨d3, d5, dq⟩ : Rep w _ qr.1 _)
    rw [← d5] at hT'
    have hC1 : (a.length - m' = m' ∧ (qr.1 ++ t.drop qr.1.length).getD m' 0 > 0)
        ↔ (a.length - m' = m' ∧ val w a / T / 2 ^ (w * m') % 2 ^ w > 0) :=
      and_congr_right fun h1 => by
        rw [getD_append_left _ _ _ (by rw [d5]; omega), getD_digit d3, dq]
    have hq' := hT'.shrink (j := m') (by rw [d5]; omega)
    have hcmp := wwCmp_safe_spec w (b'.take m') _ n1.rep.wf hq'.rep.wf (by rw [n1.rep.len, hq'.rep.len])
    rw [n1.rep.eq, hq'.rep.eq] at hcmp
    rw [wwIsZero_safe_spec w, dr]
    generalize qr.1 ++ t.drop qr.1.length = t' at *
    by_cases c1 : a.length - m' = m' ∧ val w a / T / 2 ^ (w * m') % 2 ^ w > 0
    · rw [if_pos (hC1.mpr c1), if_pos c1]
      exact ⟨hb'.eq, rfl, hb'.wf, hb'.len⟩
    · rw [if_neg (fun h => c1 (hC1.mp h)), if_neg c1]
      rw [Nat.mod_eq_of_lt (hq c1)] at hq' hcmp ⊢
      by_cases c2 : T = val w a / T
      · have h0 : wwCmp_safe (b'.take m') (t'.take m') = 0 := by
          rw [hcmp, if_neg (by omega), if_neg (by omega)]
        rw [if_pos h0, if_pos c2]
        exact ⟨hb'.eq, rfl, hb'.wf, hb'.len⟩
      · by_cases c3 : T < val w a / T
        · have h1 : wwCmp_safe (b'.take m') (t'.take m') = -1 := by rw [hcmp, if_pos c3]
          rw [if_neg (by rw [h1]; decide), if_pos (by rw [h1]; decide), if_neg c2, if_pos c3]
          exact ⟨hb'.eq, rfl, hb'.wf, hb'.len⟩
        · have h1 : wwCmp_safe (b'.take m') (t'.take m') = 1 := by
            rw [hcmp, if_neg c3, if_pos (by omega)]
          rw [if_neg (by rw [h1]; decide), if_neg (by rw [h1]; decide), if_neg c2, if_neg c3]
          obtain ⟨hT2lt, hNew2⟩ := hnewton (by omega)
          have := ih b' _ m' _ hb'.wf (hq'.avg hw n1.rep (by omega)) (by rw [hb'.len]; omega) hb'D
            hNew2 (by omega)
          rw [hb'.len] at this
          exact this

theorem bitSize_unique {x k : Nat} (hx : x ≠ 0) (h1 : x < 2 ^ k) (h2 : 0 < k → 2 ^ (k - 1) ≤ x) :
    k = bitSizeV x := by
  have g1 := Etc.bitSizeV_lt x
  obtain ⟨g2, g3⟩ := Etc.bitSizeV_ge x hx
  rcases Nat.lt_trichotomy k (bitSizeV x) with h | h | h
  · exfalso
    have : 2 ^ k ≤ 2 ^ (bitSizeV x - 1) := Nat.pow_le_pow_right (by omega) (by omega)
    omega
  · exact h
  · exfalso
    have h3 := h2 (by omega)
    have : 2 ^ bitSizeV x ≤ 2 ^ (k - 1) := Nat.pow_le_pow_right (by omega) (by omega)
    omega

end Bee2V.C05.EtcW
