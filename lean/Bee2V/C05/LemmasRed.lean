/-
C05 — helper lemmas for PropsRed.lean (zzRedCrandMont, zzRedBarr).
-/
import Bee2V.C05.ModelRed
import Bee2V.C05.LemmasAdd
import Bee2V.C05.LemmasMul
import Bee2V.C05.LemmasGcd
import Mathlib.Tactic.Ring
import Mathlib.Tactic.Linarith
import Mathlib.Tactic.LinearCombination
namespace Bee2V.C05.Red
open Bee2V.C05 Bee2V.C05.Add
export Bee2V.C05.Gcd (mont_unique)

/-! ## word steps of zzRedCrandMont -/

/-- a correct "a[i+n] += t + carry" step -/
def CmAddOK (w : Nat) (f : Nat → Nat → Nat → Nat → Nat × Nat) : Prop :=
  ∀ x t c, x < 2 ^ w → t < 2 ^ w → c ≤ 1 →
    (f w x t c).1 + 2 ^ w * (f w x t c).2 = x + t + c ∧ (f w x t c).1 < 2 ^ w ∧ (f w x t c).2 ≤ 1

/-- a correct "a[i+1] -= t + borrow" step -/
def CmSubOK (w : Nat) (f : Nat → Nat → Nat → Nat → Nat × Nat) : Prop :=
  ∀ y t b, y < 2 ^ w → t < 2 ^ w → b ≤ 1 →
    (f w y t b).1 + t + b = y + 2 ^ w * (f w y t b).2 ∧ (f w y t b).1 < 2 ^ w ∧ (f w y t b).2 ≤ 1

theorem cmAddS_ok (w : Nat) : CmAddOK w cmAddS := fun x t c hx ht hc => by
  have h := add2Step_ok w c x t hc hx ht
  rw [Nat.one_mul, Nat.one_mul] at h
  exact h
theorem cmSubS_ok (w : Nat) : CmSubOK w cmSubS := fun y t b hy ht hb => by
  have h := sub2Step_ok w b y t hb hy ht
  rw [Nat.one_mul, Nat.one_mul] at h
  exact h

theorem cmAddF_ok (w : Nat) : CmAddOK w cmAddF := by
  intro x t c hx ht hc
  have htB : (t + c) % 2 ^ w < 2 ^ w := Nat.mod_lt _ (by omega)
  rcases add_wrap ht (by omega : c ≤ 2 ^ w) with ⟨h1, k1⟩ | ⟨h1, k1⟩
  · rcases add_wrap hx (Nat.le_of_lt htB) with ⟨h2, k2⟩ | ⟨h2, k2⟩ <;>
    simp only [cmAddF, wadd, wless01, ge_iff_le, Nat.not_lt.mp k1, k2, if_true, if_false] <;> omega
  · obtain rfl : c = 1 := by omega
    simp only [cmAddF, wadd, ge_iff_le, Nat.not_le.mpr k1, if_false]
    omega

theorem cmSubF_ok (w : Nat) : CmSubOK w cmSubF := by
  intro y t b hy ht hb
  have htB : (t + b) % 2 ^ w < 2 ^ w := Nat.mod_lt _ (by omega)
  rcases add_wrap ht (by omega : b ≤ 2 ^ w) with ⟨h1, k1⟩ | ⟨h1, k1⟩
  · rcases sub_wrap hy htB with ⟨h2, k2, -⟩ | ⟨h2, k2, -⟩ <;>
    simp only [cmSubF, wadd, wsub, wless01, ge_iff_le, Nat.not_lt.mp k1, k2, if_true, if_false] <;>
    omega
  · obtain rfl : b = 1 := by omega
    simp only [cmSubF, wadd, ge_iff_le, Nat.not_le.mpr k1, if_false]
    omega

/-- with `c = B - mod[0]` and `mod[0] m* ≡ -1`: the low word of `t1 c` is a[i] -/
theorem crand_word {B m0 mp ai : Nat} (_hm0 : 0 < m0) (hm0B : m0 < B) (hmp : (m0 * mp + 1) % B = 0)
    (hai : ai < B) : ((ai * mp) % B * (B - m0)) % B = ai := by
  obtain ⟨q, hq⟩ := Nat.dvd_of_mod_eq_zero hmp
  have hd := Nat.div_add_mod (ai * mp) B
  generalize ai * mp / B = d at *
  generalize ai * mp % B = t at *
  obtain ⟨c, rfl⟩ : ∃ c, B = m0 + c := ⟨B - m0, by omega⟩
  rw [Nat.add_sub_cancel_left]
  have key : t * c + (m0 + c) * (d * c + ai * q) = ai + (m0 + c) * (ai * mp) := by
    have e1 : t * c + (m0 + c) * (d * c + ai * q) = ((m0 + c) * d + t) * c + ai * ((m0 + c) * q) := by
      ring
    rw [e1, hd, ← hq]; ring
  have h2 : (t * c + (m0 + c) * (d * c + ai * q)) % (m0 + c) = (ai + (m0 + c) * (ai * mp)) % (m0 + c) := by
    rw [key]
  rwa [Nat.add_mul_mod_self_left, Nat.add_mul_mod_self_left, Nat.mod_eq_of_lt hai] at h2

/-! ## the main loop of zzRedCrandMont -/

theorem getD_set_ne (l : List Nat) (i j v : Nat) (h : i ≠ j) :
    (l.set i v).getD j 0 = l.getD j 0 := by
  rw [List.getD_eq_getElem?_getD, List.getD_eq_getElem?_getD, List.getElem?_set_ne h]

/-- invariant of the loop on the window `a + i` (`n + k` words, `k` iterations left), with
    `Z = val(window) + carry B^n - borrow B`:  `B^k Z' = Z + K (B^n - c)`, `K < B^k` -/
theorem cmLoop_spec (w : Nat) (addf subf : Nat → Nat → Nat → Nat → Nat × Nat)
    (hadd : CmAddOK w addf) (hsub : CmSubOK w subf) (m0 mp n' : Nat)
    (hm0 : 0 < m0) (hm0B : m0 < 2 ^ w) (hmp : (m0 * mp + 1) % 2 ^ w = 0) :
    ∀ k a carry borrow, Wf w a → a.length = (n' + 2) + k → carry ≤ 1 → borrow ≤ 1 →
      ∃ K : Nat, K < 2 ^ (w * k)
        ∧ Wf w ((zzRedCrandMontLoop w addf subf (2 ^ w - m0) mp (n' + 2) k a carry borrow).1.drop k)
        ∧ ((zzRedCrandMontLoop w addf subf (2 ^ w - m0) mp (n' + 2) k a carry borrow).1.drop k).length
            = n' + 2
        ∧ (zzRedCrandMontLoop w addf subf (2 ^ w - m0) mp (n' + 2) k a carry borrow).2.1 ≤ 1
        ∧ (zzRedCrandMontLoop w addf subf (2 ^ w - m0) mp (n' + 2) k a carry borrow).2.2 ≤ 1
        ∧ ((2 : ℤ) ^ (w * k)) *
            ((val w ((zzRedCrandMontLoop w addf subf (2 ^ w - m0) mp (n' + 2) k a carry borrow).1.drop k) : ℤ)
              + (zzRedCrandMontLoop w addf subf (2 ^ w - m0) mp (n' + 2) k a carry borrow).2.1
                  * 2 ^ (w * (n' + 2))
              - (zzRedCrandMontLoop w addf subf (2 ^ w - m0) mp (n' + 2) k a carry borrow).2.2 * 2 ^ w)
          = ((val w a : ℤ) + carry * 2 ^ (w * (n' + 2)) - borrow * 2 ^ w)
            + K * ((2 : ℤ) ^ (w * (n' + 2)) - ((2 : ℤ) ^ w - m0)) := by
  intro k
  induction k with
  | zero =>
    intro a carry borrow ha hl hc hb
    simp only [zzRedCrandMontLoop, List.drop_zero]
    exact ⟨0, by simp, ha, hl, hc, hb, by simp⟩
  | succ k ih =>
    intro a carry borrow ha hl hc hb
    -- a = ai :: y :: a''  (at least 3 words)
    obtain ⟨ai, a', rfl⟩ : ∃ ai a', a = ai :: a' := by
      cases a with
      | nil => simp at hl
      | cons x xs => exact ⟨x, xs, rfl⟩
    obtain ⟨hai, ha'⟩ := Wf_cons.mp ha
    have hl' : a'.length = (n' + 1) + (k + 1) := by simp at hl; omega
    have hB : 0 < 2 ^ w := Nat.two_pow_pos w
    -- the multiplier and the product
    have ht1 : wmul w ai mp < 2 ^ w := Nat.mod_lt _ hB
    have hcl : 2 ^ w - m0 < 2 ^ w := by omega
    have hprodlt : wmul w ai mp * (2 ^ w - m0) < 2 ^ (2 * w) := by
      rw [Nat.two_mul, Nat.pow_add]; exact Nat.mul_lt_mul'' ht1 hcl
    have hprod : dmul w (wmul w ai mp) (2 ^ w - m0) = wmul w ai mp * (2 ^ w - m0) :=
      Nat.mod_eq_of_lt hprodlt
    have hlow : (wmul w ai mp * (2 ^ w - m0)) % 2 ^ w = ai := crand_word hm0 hm0B hmp hai
    have hhi_lt : wmul w ai mp * (2 ^ w - m0) / 2 ^ w < 2 ^ w := by
      apply Nat.div_lt_of_lt_mul
      rw [Nat.two_mul, Nat.pow_add] at hprodlt; exact hprodlt
    have hhi : dhi w (dmul w (wmul w ai mp) (2 ^ w - m0)) = wmul w ai mp * (2 ^ w - m0) / 2 ^ w := by
      show _ / 2 ^ w % 2 ^ w = _
      rw [hprod, Nat.mod_eq_of_lt hhi_lt]
    have hdm := Nat.div_add_mod (wmul w ai mp * (2 ^ w - m0)) (2 ^ w)
    rw [hlow] at hdm
    -- unfold one iteration
    unfold zzRedCrandMontLoop
    simp only [List.getD_cons_succ, List.set_cons_succ, hhi]
    generalize wmul w ai mp = t1 at *
    generalize ht2 : t1 * (2 ^ w - m0) / 2 ^ w = t2 at *
    have hx := getD_lt ha' (n' + 1)
    obtain ⟨p1, p2, p3⟩ := hadd (a'.getD (n' + 1) 0) t1 carry hx ht1 hc
    generalize addf w (a'.getD (n' + 1) 0) t1 carry = r1 at *
    have hy1 : (a'.set (n' + 1) r1.1).getD 0 0 = a'.getD 0 0 := getD_set_ne _ _ _ _ (by omega)
    rw [hy1]
    have hy := getD_lt ha' 0
    obtain ⟨q1, q2, q3⟩ := hsub (a'.getD 0 0) t2 borrow hy hhi_lt hb
    generalize subf w (a'.getD 0 0) t2 borrow = r2 at *
    have v1 := val_set w a' (n' + 1) r1.1 (by omega)
    have v2 := val_set w (a'.set (n' + 1) r1.1) 0 r2.1 (by simp; omega)
    rw [hy1] at v2
    simp only [Nat.mul_zero, Nat.pow_zero, Nat.one_mul] at v2
    have hW : Wf w ((a'.set (n' + 1) r1.1).set 0 r2.1) := Wf_set (Wf_set ha' _ _ p2) _ _ q2
    have hL : ((a'.set (n' + 1) r1.1).set 0 r2.1).length = (n' + 2) + k := by simp; omega
    generalize (a'.set (n' + 1) r1.1).set 0 r2.1 = rest at *
    obtain ⟨K, k1, k2, k3, k4, k5, k6⟩ := ih rest r1.2 r2.2 hW hL p3 q3
    generalize zzRedCrandMontLoop w addf subf (2 ^ w - m0) mp (n' + 2) k rest r1.2 r2.2 = r at *
    refine ⟨t1 + 2 ^ w * K, ?_, by simpa using k2, by simpa using k3, k4, k5, ?_⟩
    · rw [Mul.powS]
      have : 2 ^ w * (K + 1) ≤ 2 ^ w * 2 ^ (w * k) := Nat.mul_le_mul_left _ k1
      rw [Nat.mul_add] at this
      omega
    · simp only [List.drop_succ_cons, val_cons]
      have hpk : (2 : ℤ) ^ (w * (k + 1)) = 2 ^ w * 2 ^ (w * k) := by
        rw [Nat.mul_succ, pow_add, mul_comm]
      have hpn : (2 : ℤ) ^ (w * (n' + 2)) = 2 ^ w * 2 ^ (w * (n' + 1)) := by
        rw [show w * (n' + 2) = w * (n' + 1) + w by ring, pow_add, mul_comm]
      have hcast : ((2 ^ w - m0 : Nat) : ℤ) = (2 : ℤ) ^ w - m0 := by
        rw [Nat.cast_sub (by omega)]; push_cast; ring
      have hdmZ : (2 : ℤ) ^ w * t2 + ai = t1 * ((2 : ℤ) ^ w - m0) := by
        rw [← hcast]; exact_mod_cast hdm
      have p1Z : (r1.1 : ℤ) + 2 ^ w * r1.2 = (a'.getD (n' + 1) 0 : ℤ) + t1 + carry := by
        exact_mod_cast p1
      have q1Z : (r2.1 : ℤ) + t2 + borrow = (a'.getD 0 0 : ℤ) + 2 ^ w * r2.2 := by
        exact_mod_cast q1
      have v1Z : (val w (a'.set (n' + 1) r1.1) : ℤ) + 2 ^ (w * (n' + 1)) * (a'.getD (n' + 1) 0 : ℤ)
          = val w a' + 2 ^ (w * (n' + 1)) * r1.1 := by exact_mod_cast v1
      have v2Z : (val w rest : ℤ) + (a'.getD 0 0 : ℤ) = val w (a'.set (n' + 1) r1.1) + r2.1 := by
        exact_mod_cast v2
      push_cast
      rw [hpk, mul_assoc, k6, hpn]
      linear_combination (2 : ℤ) ^ w * v2Z + (2 : ℤ) ^ w * v1Z
        + (2 : ℤ) ^ w * (2 : ℤ) ^ (w * (n' + 1)) * p1Z + (2 : ℤ) ^ w * q1Z - hdmZ

/-! ## zzRedCrandMont: from the loop to the Montgomery end game -/

theorem wsub01 {w c s : Nat} (hw : 2 ≤ 2 ^ w) (hc : c ≤ 1) (hs : s ≤ c) : wsub w c s = c - s := by
  show (c + (2 ^ w - s % 2 ^ w)) % 2 ^ w = c - s
  rw [Nat.mod_eq_of_lt (show s < 2 ^ w by omega)]
  obtain rfl | rfl : c = 0 ∨ c = 1 := by omega
  · have : s = 0 := by omega
    subst this; simp
  · obtain rfl | rfl : s = 0 ∨ s = 1 := by omega
    · rw [Nat.sub_zero, Nat.add_mod_right, Nat.mod_eq_of_lt (by omega)]
    · have : 1 + (2 ^ w - 1) = 2 ^ w := by omega
      rw [this, Nat.mod_self]

/-- the end of the Crandall–Montgomery core over numbers (`P = B·Q = B^n`): `k6` is what the loop leaves (over ℤ because of
    the pending borrow `b0`), `s1` its propagation through the tail; the borrow out cannot underflow the carry -/
theorem cm_finish {B Q P A K M h0 vt vs b0 c0 bo : Nat} (hP : P = B * Q) (hB : 0 < B) (hh0 : h0 < B) (hvs : vs < Q)
    (s1 : vs + b0 = vt + Q * bo)
    (k6 : (P : ℤ) * ((h0 : ℤ) + B * vt + c0 * P - b0 * B) = A + K * M) :
    bo ≤ c0 ∧ P * (h0 + B * vs) + P * P * (c0 - bo) = A + K * M := by
  have hPZ : (P : ℤ) = B * Q := by exact_mod_cast hP
  have s1Z : (vs : ℤ) + b0 = vt + Q * bo := by exact_mod_cast s1
  have hS : (P : ℤ) * ((h0 : ℤ) + B * vs + ((c0 : ℤ) - bo) * P) = A + K * M := by
    rw [← k6, hPZ]
    linear_combination ((B : ℤ) * Q) * B * s1Z
  have hlow : h0 + B * vs < P := by
    have : B * (vs + 1) ≤ B * Q := Nat.mul_le_mul_left _ hvs
    rw [Nat.mul_succ] at this
    omega
  have hPpos : (0 : ℤ) < P := by
    have : 0 < P := by omega
    exact_mod_cast this
  have hge : (bo : ℤ) ≤ c0 := by
    by_contra hcon
    have h1 : (c0 : ℤ) - bo ≤ -1 := by omega
    have h2 : ((c0 : ℤ) - bo) * P ≤ (-1) * P := mul_le_mul_of_nonneg_right h1 hPpos.le
    have hlowZ : (h0 : ℤ) + B * vs < P := by exact_mod_cast hlow
    have h3 : (h0 : ℤ) + B * vs + ((c0 : ℤ) - bo) * P < 0 := by omega
    have h4 := mul_neg_of_pos_of_neg hPpos h3
    rw [hS] at h4
    have hA : (0 : ℤ) ≤ A + K * M := by positivity
    omega
  have hle : bo ≤ c0 := by exact_mod_cast hge
  refine ⟨hle, ?_⟩
  have hfin : ((P * (h0 + B * vs) + P * P * (c0 - bo) : Nat) : ℤ) = ((A + K * M : Nat) : ℤ) := by
    push_cast [Nat.cast_sub hle]
    linear_combination hS
  exact_mod_cast hfin

theorem cmCore_spec (w : Nat) (addf subf : Nat → Nat → Nat → Nat → Nat × Nat)
    (hadd : CmAddOK w addf) (hsub : CmSubOK w subf) (m0 : Nat) (ms a : List Nat) (mp n' : Nat)
    (hn : ms.length = n' + 1) (hms : ∀ x ∈ ms, x = 2 ^ w - 1)
    (hm0 : 0 < m0) (hm0B : m0 < 2 ^ w) (hmp : (m0 * mp + 1) % 2 ^ w = 0)
    (ha : Wf w a) (hl : a.length = (m0 :: ms).length + (m0 :: ms).length)
    (_hlt : val w a < val w (m0 :: ms) * 2 ^ (w * (m0 :: ms).length)) :
    ∃ t : Nat, t < 2 ^ (w * (m0 :: ms).length)
      ∧ (zzRedCrandMontCore w addf subf a (m0 :: ms) mp).2 ≤ 1
      ∧ Wf w (zzRedCrandMontCore w addf subf a (m0 :: ms) mp).1
      ∧ (zzRedCrandMontCore w addf subf a (m0 :: ms) mp).1.length = (m0 :: ms).length
      ∧ 2 ^ (w * (m0 :: ms).length) * val w (zzRedCrandMontCore w addf subf a (m0 :: ms) mp).1
          + 2 ^ (w * ((m0 :: ms).length + (m0 :: ms).length))
            * (zzRedCrandMontCore w addf subf a (m0 :: ms) mp).2
        = val w a + t * val w (m0 :: ms) := by
  have hlen : (m0 :: ms).length = n' + 2 := by simp [hn]
  have hB2 : 2 ≤ 2 ^ w := by omega
  obtain ⟨hc, -, hvm⟩ := Mul.crand_mod hm0 hm0B hms hn
  rw [hc, ← Mul.powS] at hvm
  rw [hlen] at hl ⊢
  unfold zzRedCrandMontCore
  simp only [hlen, List.getD_cons_zero, hc]
  obtain ⟨K, k1, k2, k3, k4, k5, k6⟩ := cmLoop_spec w addf subf hadd hsub m0 mp n' hm0 hm0B hmp
    (n' + 2) a 0 0 ha hl (by omega) (by omega)
  generalize zzRedCrandMontLoop w addf subf (2 ^ w - m0) mp (n' + 2) (n' + 2) a 0 0 = r at *
  generalize hhi : r.1.drop (n' + 2) = hi at *
  -- split hi = head :: tail
  obtain ⟨h0, tl, rfl⟩ : ∃ h0 tl, hi = h0 :: tl := by
    cases hi with
    | nil => simp at k3
    | cons x xs => exact ⟨x, xs, rfl⟩
  obtain ⟨hh0, htl⟩ := Wf_cons.mp k2
  have hltl : tl.length = n' + 1 := by simpa using k3
  simp only [List.drop_succ_cons, List.drop_zero, List.take_succ_cons, List.take_zero,
    List.singleton_append, zzSubW2]
  obtain ⟨s1, s2, s3, s4, s5⟩ := zzSubW_spec w tl r.2.2 htl (by omega)
  have s3' := s3 (by intro h; rw [h] at hltl; simp at hltl)
  rw [hltl] at s1
  generalize zzSubW w tl r.2.2 = s at *
  have hvs := val_lt s4
  rw [s5, hltl] at hvs
  have hvt := val_lt htl
  rw [hltl] at hvt
  have hv : (val w (h0 :: tl) : ℤ) = h0 + 2 ^ w * val w tl := by rw [val_cons]; push_cast; ring
  have hvm2 : (2 : ℤ) ^ (w * (n' + 2)) - ((2 : ℤ) ^ w - m0) = (val w (m0 :: ms) : ℤ) := by
    have h1 : ((2 ^ w - m0 : Nat) : ℤ) = (2 : ℤ) ^ w - m0 := by
      rw [Nat.cast_sub (by omega)]; push_cast; ring
    have h2 : ((val w (m0 :: ms) + (2 ^ w - m0) : Nat) : ℤ) = ((2 ^ (w * (n' + 1 + 1)) : Nat) : ℤ) := by
      rw [hvm]
    push_cast at h2
    rw [h1] at h2
    linear_combination -h2
  rw [hvm2, hv] at k6
  simp only [Nat.cast_zero, zero_mul, add_zero, sub_zero] at k6
  obtain ⟨hle, hfin⟩ := cm_finish (c0 := r.2.1) (A := val w a) (K := K) (M := val w (m0 :: ms))
    (Mul.powS w (n' + 1)) (Nat.two_pow_pos w) hh0 hvs s1 (by push_cast; linear_combination k6)
  refine ⟨K, k1, ?_, Wf_cons.mpr ⟨hh0, s4⟩, by simp [s5, hltl], ?_⟩
  · rw [wsub01 hB2 k4 hle]; omega
  · rw [wsub01 hB2 k4 hle, val_cons, Nat.mul_add w (n' + 2), Nat.pow_add]
    exact hfin

/-! ## uniqueness of the Montgomery residue for an odd modulus -/

theorem odd_of_mont {w m0 mp : Nat} (hw : 0 < w) (hmp : (m0 * mp + 1) % 2 ^ w = 0) : m0 % 2 = 1 := by
  obtain ⟨q, hq⟩ := Nat.dvd_of_mod_eq_zero hmp
  obtain ⟨k, rfl⟩ : ∃ k, w = k + 1 := ⟨w - 1, by omega⟩
  by_contra h
  obtain ⟨j, rfl⟩ : ∃ j, m0 = 2 * j := ⟨m0 / 2, by omega⟩
  have e1 : 2 * j * mp = 2 * (j * mp) := by ring
  have e2 : 2 ^ (k + 1) * q = 2 * (2 ^ k * q) := by rw [Nat.pow_succ]; ring
  omega

/-- both editions, given that the final conditional subtraction is the Montgomery one -/
theorem crandMont_finish (w : Nat) (addf subf : Nat → Nat → Nat → Nat → Nat × Nat)
    (hadd : CmAddOK w addf) (hsub : CmSubOK w subf) (m0 : Nat) (ms a : List Nat) (mp : Nat)
    (hms : ∀ x ∈ ms, x = 2 ^ w - 1) (hne : ms ≠ [])
    (hm0 : 0 < m0) (hm0B : m0 < 2 ^ w) (hmp : (m0 * mp + 1) % 2 ^ w = 0)
    (ha : Wf w a) (hl : a.length = (m0 :: ms).length + (m0 :: ms).length)
    (hlt : val w a < val w (m0 :: ms) * 2 ^ (w * (m0 :: ms).length)) (res : List Nat)
    (hres : res = if val w (m0 :: ms) ≤ val w (zzRedCrandMontCore w addf subf a (m0 :: ms) mp).1
        + 2 ^ (w * (m0 :: ms).length) * (zzRedCrandMontCore w addf subf a (m0 :: ms) mp).2
      then (zzSub2 w (zzRedCrandMontCore w addf subf a (m0 :: ms) mp).1 (m0 :: ms)).1
      else (zzRedCrandMontCore w addf subf a (m0 :: ms) mp).1) :
    (val w res * 2 ^ (w * (m0 :: ms).length)) % val w (m0 :: ms) = val w a % val w (m0 :: ms)
    ∧ val w res < val w (m0 :: ms) ∧ Wf w res ∧ res.length = (m0 :: ms).length := by
  obtain ⟨n', hn⟩ : ∃ n', ms.length = n' + 1 :=
    ⟨ms.length - 1, by have := List.length_pos_iff.mpr hne; omega⟩
  have hmod : Wf w (m0 :: ms) := Wf_cons.mpr ⟨hm0B, Mul.Wf_ones w ms hms⟩
  obtain ⟨t, t1, t2, t3, t4, t5⟩ := cmCore_spec w addf subf hadd hsub m0 ms a mp n' hn hms hm0 hm0B
    hmp ha hl hlt
  exact Mul.mont_finish w _ (m0 :: ms) res _ t (val w a) t3 hmod t4 t2 t1 t5 hlt hres

/-! ## Barrett reduction: the quotient estimate (pure arithmetic)

`Q1 = B^{n-1}`, `P1 = B^{n+1}`, `R = B^{2n} = Q1 P1`, `μ = R / M`, `A1 = A / Q1`,
`q̂ = A1 μ / P1`: then `q̂ M ≤ A < (q̂ + 3) M`. -/

theorem barrett_estimate {A M Q1 P1 : Nat} (hQ : 0 < Q1) (hQM : Q1 ≤ M) (hA : A < Q1 * P1) :
    (A / Q1 * (Q1 * P1 / M) / P1) * M ≤ A
    ∧ A < ((A / Q1 * (Q1 * P1 / M) / P1) + 3) * M := by
  have hM : 0 < M := by omega
  have hP : 0 < P1 := by
    rcases Nat.eq_zero_or_pos P1 with h | h
    · rw [h] at hA; simp at hA
    · exact h
  -- the three divisions
  have d1 := Nat.div_add_mod (Q1 * P1) M
  have d1r := Nat.mod_lt (Q1 * P1) hM
  have d2 := Nat.div_add_mod A Q1
  have d2r := Nat.mod_lt A hQ
  generalize hmu : Q1 * P1 / M = mu at *
  generalize hA1 : A / Q1 = A1 at *
  have d3 := Nat.div_add_mod (A1 * mu) P1
  have d3r := Nat.mod_lt (A1 * mu) hP
  generalize hq : A1 * mu / P1 = qh at *
  generalize Q1 * P1 % M = r1 at *
  generalize A % Q1 = r2 at *
  generalize A1 * mu % P1 = r3 at *
  -- A1 < P1, mu ≤ P1
  have hA1lt : A1 < P1 := by
    have : Q1 * A1 < Q1 * P1 := by omega
    exact Nat.lt_of_mul_lt_mul_left this
  have hmule : mu ≤ P1 := by
    have h1 : M * mu ≤ M * P1 := by
      have : Q1 * P1 ≤ M * P1 := Nat.mul_le_mul_right _ hQM
      omega
    exact Nat.le_of_mul_le_mul_left h1 hM
  constructor
  · -- upper estimate
    have h1 : P1 * (qh * M) ≤ P1 * A := by
      calc P1 * (qh * M) = (P1 * qh) * M := by ring
        _ ≤ (A1 * mu) * M := Nat.mul_le_mul_right _ (by omega)
        _ = A1 * (M * mu) := by ring
        _ ≤ A1 * (Q1 * P1) := Nat.mul_le_mul_left _ (by omega)
        _ = (Q1 * A1) * P1 := by ring
        _ ≤ A * P1 := Nat.mul_le_mul_right _ (by omega)
        _ = P1 * A := by ring
    exact Nat.le_of_mul_le_mul_left h1 hP
  · -- lower estimate
    have h1 : P1 * A < P1 * ((qh + 3) * M) := by
      have e1 : A + 1 ≤ Q1 * (A1 + 1) := by rw [Nat.mul_add]; omega
      have e2 : Q1 * P1 + 1 ≤ M * (mu + 1) := by rw [Nat.mul_add]; omega
      have e3 : (mu + 1) * (A1 + 1) ≤ (qh + 3) * P1 := by
        have : (mu + 1) * (A1 + 1) = A1 * mu + A1 + mu + 1 := by ring
        have : (qh + 3) * P1 = P1 * qh + 3 * P1 := by ring
        omega
      calc P1 * A < P1 * (A + 1) := by
            apply Nat.mul_lt_mul_of_pos_left _ hP; omega
        _ ≤ P1 * (Q1 * (A1 + 1)) := Nat.mul_le_mul_left _ e1
        _ = (Q1 * P1) * (A1 + 1) := by ring
        _ ≤ (M * (mu + 1)) * (A1 + 1) := Nat.mul_le_mul_right _ (by omega)
        _ = M * ((mu + 1) * (A1 + 1)) := by ring
        _ ≤ M * ((qh + 3) * P1) := Nat.mul_le_mul_left _ e3
        _ = P1 * ((qh + 3) * M) := by ring
    exact Nat.lt_of_mul_lt_mul_left h1

/-! ## lists: take / drop / toWords as mod / div -/

/-- subtracting the low `n + 1` words is exact when the true difference fits them -/
theorem trunc_sub {A Y P S bw : Nat} (hY : Y ≤ A) (hd : A - Y < P) (hS : S < P)
    (h : S + Y % P = A % P + P * bw) : S + Y = A := by
  have dA := Nat.div_add_mod A P
  have dY := Nat.div_add_mod Y P
  have e : P * (Y / P + bw) = P * (Y / P) + P * bw := Nat.mul_add _ _ _
  have := (cons_inj_aux (B := P) (x := S) (y := A - Y) (u := A / P) (v := Y / P + bw) hS hd
    (by omega)).1
  omega

/-! ## zzRedBarr: the common part -/

theorem barrStart_spec {w n' M : Nat} {mod : List Nat} (hmod : Rep w (n' + 1) mod M) (hlo : 2 ^ (w * n') ≤ M) :
    Rep w (n' + 3) (zzRedBarrStart w mod) (2 ^ (w * (2 * (n' + 1))) / M) := by
  unfold zzRedBarrStart
  rw [hmod.len, hmod.eq]
  refine Rep.iff_toWords.2 ⟨rfl, ?_⟩
  have hQ : 0 < 2 ^ (w * n') := Nat.two_pow_pos _
  have e : 2 ^ (w * (2 * (n' + 1))) = 2 ^ (w * n') * 2 ^ (w * (n' + 2)) := by
    rw [← Nat.pow_add]; congr 1; ring
  have h1 : 2 ^ (w * (2 * (n' + 1))) / M ≤ 2 ^ (w * (2 * (n' + 1))) / 2 ^ (w * n') :=
    Nat.div_le_div_left hlo hQ
  rw [e, Nat.mul_div_cancel_left _ hQ] at h1
  rw [e]
  have h2 : 2 ^ (w * (n' + 2)) < 2 ^ (w * (n' + 3)) := by
    rcases Nat.eq_zero_or_pos w with h | h
    · subst h
      -- w = 0: all words are 0, so M = 0 < 1 = 2^0 contradicts hlo
      exfalso
      have := hmod.lt
      simp at this hlo
      omega
    · exact Nat.pow_lt_pow_right (by omega) (by nlinarith)
  omega

/-- the (n+1)-word subtraction `a − q̂ M` is exact because the true difference is below `3 M ≤ B^{n+1}` (needs `B ≥ 4`) -/
theorem barrCommon_spec {w n' A M : Nat} {a mod : List Nat} (hw : 2 ≤ w) (hmod : Rep w (n' + 1) mod M)
    (ha : Rep w (2 * (n' + 1)) a A) (hlo : 2 ^ (w * n') ≤ M) :
    ∃ r qh, Rep w (n' + 2) (zzRedBarrCommon w a mod (zzRedBarrStart w mod)) r ∧ r < 3 * M ∧ r + qh * M = A := by
  have hM := hmod.lt
  have hA := ha.lt
  have eR : 2 ^ (w * (2 * (n' + 1))) = 2 ^ (w * n') * 2 ^ (w * (n' + 2)) := by
    rw [← Nat.pow_add]; congr 1; ring
  have eP : 2 ^ (w * (n' + 2)) = 2 ^ w * 2 ^ (w * (n' + 1)) := by
    rw [← Nat.pow_add]; congr 1; ring
  have hB4 : 2 ^ 2 ≤ 2 ^ w := Nat.pow_le_pow_right (by omega) hw
  rw [eR] at hA
  obtain ⟨est1, est2⟩ := barrett_estimate (Nat.two_pow_pos _) hlo hA
  unfold zzRedBarrCommon
  simp only [hmod.len, Nat.add_sub_cancel, show n' + 1 + 1 = n' + 2 from rfl]
  have hq := ((ha.drop n').cast (show 2 * (n' + 1) - n' = n' + 2 by omega) rfl).mul (barrStart_spec hmod hlo)
  have hqm := ((hq.drop (n' + 2)).cast (show n' + 2 + (n' + 3) - (n' + 2) = n' + 3 by omega) rfl).mul hmod
  obtain ⟨s1, -, s3, s4⟩ := (ha.take (n' + 2) (by omega)).sub2B (hqm.take (n' + 2) (by omega))
  rw [eR] at s1
  have hs := val_lt s3
  rw [s4] at hs
  have h3M : 3 * M ≤ 2 ^ (w * (n' + 2)) := by
    rw [eP]
    have : 4 * 2 ^ (w * (n' + 1)) ≤ 2 ^ w * 2 ^ (w * (n' + 1)) := Nat.mul_le_mul_right _ hB4
    omega
  rw [Nat.add_mul] at est2
  have key := trunc_sub est1 (by omega) hs s1
  exact ⟨_, _, ⟨s3, s4, rfl⟩, by omega, key⟩

/-! ## zzRedBarr: the corrections -/

theorem drop_last (l : List Nat) (k : Nat) (h : l.length = k + 1) : l.drop k = [l.getD k 0] := by
  induction k generalizing l with
  | zero =>
    match l, h with
    | [x], _ => rfl
  | succ k ih =>
    match l, h with
    | x :: xs, h => simpa using ih xs (by simpa using h)

/-- an (n+1)-word number as low n words + top word -/
theorem val_split_top (w : Nat) (c : List Nat) (n : Nat) (hc : Wf w c) (hl : c.length = n + 1) :
    val w c = val w (c.take n) + 2 ^ (w * n) * c.getD n 0
    ∧ Wf w (c.take n) ∧ (c.take n).length = n ∧ c.getD n 0 < 2 ^ w := by
  have h := val_take_drop w c n (by omega)
  rw [drop_last c n hl] at h
  refine ⟨by simpa [val] using h, Wf_take hc n, by rw [List.length_take, hl]; omega, getD_lt hc n⟩

theorem wwCmp2_safe_ge (w : Nat) (a b : List Nat) (ha : Wf w a) (hb : Wf w b) :
    wwCmp2_safe a b ≥ 0 ↔ val w b ≤ val w a := by
  rw [wwCmp2_safe_eq_fast, wwCmp2_fast_eq w a b ha hb, cmp3_nonneg]

theorem _root_.Bee2V.C05.Rep.split_top {w n x : Nat} {c : List Nat} (h : Rep w (n + 1) c x) :
    ∃ L, Rep w n (c.take n) L ∧ c.getD n 0 < 2 ^ w ∧ x = L + 2 ^ (w * n) * c.getD n 0 := by
  obtain ⟨v1, v2, v3, v4⟩ := val_split_top w c n h.wf h.len
  exact ⟨_, ⟨v2, v3, rfl⟩, v4, h.eq ▸ v1⟩

/-- one iteration of the FAST while loop: `a[n] -= zzSub2(a, mod, n)` subtracts mod -/
theorem barrFastStep {w n X M : Nat} {c mod : List Nat} (hc : Rep w (n + 1) c X) (hmod : Rep w n mod M) (hge : M ≤ X) :
    Rep w (n + 1) ((zzSub2 w (c.take n) mod).1 ++ [wsub w (c.getD n 0) (zzSub2 w (c.take n) mod).2]) (X - M) := by
  obtain ⟨L, hL, v4, rfl⟩ := hc.split_top
  obtain ⟨s1, s2, s3, s4⟩ := hL.sub2B hmod
  have hs := val_lt s3
  rw [s4] at hs
  have hM := hmod.lt
  generalize zzSub2 w (c.take n) mod = r at *
  generalize c.getD n 0 = top at *
  have e2 := mul01 (2 ^ (w * n)) s2
  have hle : r.2 ≤ top := by
    rcases Nat.eq_zero_or_pos top with h | h
    · subst h
      simp only [Nat.mul_zero, Nat.add_zero] at hge
      split_ifs at e2 <;> omega
    · omega
  rw [Mul.wsub_le v4 hle]
  obtain ⟨d, rfl⟩ : ∃ d, top = r.2 + d := ⟨top - r.2, by omega⟩
  rw [Nat.add_sub_cancel_left]
  have hd : Rep w 1 [d] d := ⟨Wf_single (by omega), rfl, val_single w d⟩
  refine ((⟨s3, s4, rfl⟩ : Rep w n r.1 _).append hd).cast rfl ?_
  rw [Nat.mul_add] at hge ⊢
  omega

theorem barrFastLoop_spec {w n M : Nat} {mod : List Nat} (hmod : Rep w n mod M) (hM0 : 0 < M) :
    ∀ f c X, Rep w (n + 1) c X → X / M < f → Rep w (n + 1) (zzRedBarrFastLoop w mod f c) (X % M) := by
  intro f
  induction f with
  | zero => intro c X _ h; exact (Nat.not_lt_zero _ h).elim
  | succ f ih =>
    intro c X hc hf
    unfold zzRedBarrFastLoop
    have hcmp := wwCmp2_safe_ge w c mod hc.wf hmod.wf
    rw [hc.eq, hmod.eq] at hcmp
    by_cases hge : wwCmp2_safe c mod ≥ 0
    · rw [if_pos hge]
      have hge' := hcmp.mp hge
      simp only [hmod.len]
      have hd := Nat.div_eq_sub_div hM0 hge'
      rw [Nat.mod_eq_sub_mod hge']
      exact ih _ _ (barrFastStep hc hmod hge') (by omega)
    · rw [if_neg hge]
      exact hc.cast rfl (Nat.mod_eq_of_lt (by rw [hcmp] at hge; omega)).symm

/-- one round of SAFE(zzRedBarr) (repaired mask: `w |= wordNeq01(a[n], 0)`) on `X = L + B^n·top`: `X` decreases by `M`
    iff it is ≥ `M` -/
theorem barrRound {w n L M top : Nat} {lo mod : List Nat} (hw : 0 < w) (hlo : Rep w n lo L) (hmod : Rep w n mod M)
    (htop : top < 2 ^ w) {r : List Nat × Nat}
    (hr : zzSubAndW w lo mod (wneg w ((zzRedMontCmp lo mod 1).2 ||| wneq01 top 0)) = r) :
    r.2 ≤ top ∧ ∃ L', Rep w n r.1 L' ∧
      L' + 2 ^ (w * n) * (top - r.2) + (if M ≤ L + 2 ^ (w * n) * top then M else 0) = L + 2 ^ (w * n) * top := by
  have hl : lo.length = mod.length := hlo.len.trans hmod.len.symm
  have hM := hmod.lt
  have hL := hlo.lt
  rw [Mul.zzRedMontCmp_eq _ _ _ hl, maskFold_one w _ _ hmod.wf hlo.wf hl.symm, hmod.eq, hlo.eq] at hr
  have hc1 : (if M ≤ L then 1 else 0) ≤ 1 := by split <;> omega
  have hq1 : wneq01 top 0 ≤ 1 := by show (if _ then 0 else 1) ≤ 1; split <;> omega
  -- the flag is 0 iff `lo < mod` and `a[n] = 0`
  have hf0 : ((if M ≤ L then 1 else 0) ||| wneq01 top 0 = 0) ↔ (L < M ∧ top = 0) := by
    rw [Nat.or_eq_zero_iff]
    show _ ∧ (if top = 0 then 0 else 1) = 0 ↔ _
    split <;> split <;> omega
  rw [zzSubAndW_flag2 w hw lo mod _ (Mul.lor_le_one hc1 hq1) hlo.wf hmod.wf hl, if_congr hf0 rfl rfl] at hr
  by_cases hz : L < M ∧ top = 0
  · obtain ⟨hz1, rfl⟩ := hz
    rw [if_pos ⟨hz1, rfl⟩] at hr
    subst hr
    exact ⟨Nat.le_refl _, L, hlo, by rw [if_neg (by omega)]; simp⟩
  · rw [if_neg hz] at hr
    subst hr
    obtain ⟨s1, s2, s3, s4⟩ := hlo.sub2B hmod
    have hs := val_lt s3
    rw [s4] at hs
    have hge : M ≤ L + 2 ^ (w * n) * top := by
      by_cases h1 : L < M
      · have : 2 ^ (w * n) * 1 ≤ 2 ^ (w * n) * top := Nat.mul_le_mul_left _ (by omega)
        omega
      · omega
    have hle : (zzSub2 w lo mod).2 ≤ top := by
      by_contra hc
      rw [show (zzSub2 w lo mod).2 = 1 by omega, Nat.mul_one] at s1
      omega
    refine ⟨hle, _, ⟨s3, s4, rfl⟩, ?_⟩
    rw [if_pos hge]
    obtain ⟨d, rfl⟩ : ∃ d, top = (zzSub2 w lo mod).2 + d := ⟨top - (zzSub2 w lo mod).2, by omega⟩
    rw [Nat.add_sub_cancel_left, Nat.mul_add]
    omega

theorem two_rounds {X X1 X2 M : Nat} (hX : X < 3 * M) (h1 : X1 + (if M ≤ X then M else 0) = X)
    (h2 : X2 + (if M ≤ X1 then M else 0) = X1) : X2 < M ∧ X2 = X % M := by
  have hM : 0 < M := by omega
  have : X2 < M ∧ ∃ k, X = X2 + k * M := by
    split_ifs at h1 h2
    · exact ⟨by omega, 2, by omega⟩
    · exact ⟨by omega, 1, by omega⟩
    · exact ⟨by omega, 1, by omega⟩
    · exact ⟨by omega, 0, by omega⟩
  obtain ⟨h, k, e⟩ := this
  exact ⟨h, by rw [e, Nat.add_mul_mod_self_right, Nat.mod_eq_of_lt h]⟩

end Bee2V.C05.Red
