/-
C05 — ppMinPolyMod (pp_etc.c; header pp.h: "минимальный многочлен элемента a факторкольца
F_2[x]/(mod) … если mod неприводим и a ≠ 0, то результат неприводим") for an irreducible
modulus: the result IS the minimal polynomial of the class of a in the field GF(2)[x]/(md).

Built on `ppMinPolyModV_spec` (PropsPpModOps.lean: result = ppMinPolyV of the sequence of constant
terms of a, a², …, a^{2l}, with the key-equation characterisation incl. minimality) and on the
field `Gf2.R md` (LemmasFld.lean).  `MinPoly.evalAt α c` = Σ c_i α^i is the evaluation of the
Nat-coded polynomial c at α (Horner recursion; it is the ring homomorphism with x ↦ α, see
`evalAt_hom`).  Lemmas: LemmasMinPoly.lean (namespace Bee2V.C05.MinPoly).
-/
import Bee2V.C05.LemmasMinPoly
namespace Bee2V.C05
open Bee2V.C05.Spec Bee2V.C05.Gf2 Bee2V.C05.Fld Bee2V.C05.MinPoly

/-- `evalAt α` is the evaluation homomorphism GF(2)[x] → GF(2)[x]/(f), x ↦ α -/
theorem evalAt_hom (f : Nat) [Fact (f ≠ 0)] (α : R f) :
    evalAt α 0 = 0 ∧ evalAt α 1 = 1 ∧ evalAt α 2 = α
      ∧ (∀ a b, evalAt α (a ^^^ b) = evalAt α a + evalAt α b)
      ∧ (∀ a b, evalAt α (clmul a b) = evalAt α a * evalAt α b) :=
  (horner_evalAt α).hom two_eq_zero

variable {md : Nat} [Fact (NatIrred md)]

/-- (i) the result g of ppMinPolyMod vanishes at the class of a: g(ā) = 0 in GF(2)[x]/(md)
    (md irreducible, 0 ≠ a reduced) -/
theorem ppMinPolyModV_root (a : Nat) (ha0 : a ≠ 0) (ha : a < 2 ^ md.log2) :
    evalAt (mk a ha) (ppMinPolyModV a md) = 0 := by
  rw [minPolyMod_eq_minAnn a ha0 ha]; exact (minAnn_spec _).2

/-- (ii) g is THE minimal polynomial: a Nat-coded polynomial c vanishes at ā iff it is a
    multiple of g -/
theorem ppMinPolyModV_minimal (a : Nat) (ha0 : a ≠ 0) (ha : a < 2 ^ md.log2) (c : Nat) :
    evalAt (mk a ha) c = 0 ↔ ∃ q, c = clmul q (ppMinPolyModV a md) := by
  constructor
  · intro h
    rw [minPolyMod_eq_minAnn a ha0 ha]; exact minAnn_dvd _ c h
  · rintro ⟨q, rfl⟩
    rw [evalAt_clmul, ppMinPolyModV_root a ha0 ha, mul_zero]

/-- (iii) the header's claim: for irreducible mod and a ≠ 0 the result is irreducible; moreover
    deg g ≤ deg mod, g has constant term 1 and g ≠ 1 -/
theorem ppMinPolyModV_irred (a : Nat) (ha0 : a ≠ 0) (ha : a < 2 ^ md.log2) :
    NatIrred (ppMinPolyModV a md) ∧ (ppMinPolyModV a md).log2 ≤ md.log2
      ∧ ppMinPolyModV a md % 2 = 1 := by
  rw [minPolyMod_eq_minAnn a ha0 ha]
  exact ⟨minAnn_irred _, minAnn_log2 _,
    minAnn_odd _ (fun h => ha0 (congrArg Subtype.val h))⟩

/-- in Mathlib's terms: the result decodes to an irreducible polynomial over ZMod 2 -/
theorem ppMinPolyModV_irreducible (a : Nat) (ha0 : a ≠ 0) (ha : a < 2 ^ md.log2) :
    Irreducible (decode (ppMinPolyModV a md)) :=
  (natIrred_iff_irreducible' _).1 (ppMinPolyModV_irred a ha0 ha).1

/-- the degree of the minimal polynomial divides deg mod (the field GF(2)(ā) has 2^(deg g)
    elements and is a subfield of GF(2^l)) -/
theorem ppMinPolyModV_deg_dvd (a : Nat) (ha0 : a ≠ 0) (ha : a < 2 ^ md.log2) :
    (ppMinPolyModV a md).log2 ∣ md.log2 := by
  rw [minPolyMod_eq_minAnn a ha0 ha]; exact minAnn_deg_dvd _

/-- everything together: ppMinPolyMod returns THE minimal polynomial of ā over GF(2) -/
theorem ppMinPolyModV_minpoly (a : Nat) (ha0 : a ≠ 0) (ha : a < 2 ^ md.log2) :
    evalAt (mk a ha) (ppMinPolyModV a md) = 0
      ∧ (∀ c, evalAt (mk a ha) c = 0 ↔ ∃ q, c = clmul q (ppMinPolyModV a md))
      ∧ NatIrred (ppMinPolyModV a md)
      ∧ (ppMinPolyModV a md).log2 ∣ md.log2 :=
  ⟨ppMinPolyModV_root a ha0 ha, ppMinPolyModV_minimal a ha0 ha, (ppMinPolyModV_irred a ha0 ha).1,
    ppMinPolyModV_deg_dvd a ha0 ha⟩

-- GF(16) = GF(2)[x]/(x^4 + x + 1): a = x^2 + x generates the subfield GF(4), minimal polynomial
-- x^2 + x + 1; a = x generates GF(16), minimal polynomial = the modulus
example : ppMinPolyModV 0b110 0b10011 = 0b111 ∧ ppMinPolyModV 0b10 0b10011 = 0b10011
    ∧ NatIrred 0b10011 ∧ NatIrred 0b111 := by decide +kernel
example : NatIrred (ppMinPolyModV 0b110 0b10011) :=
  (@ppMinPolyModV_irred 0b10011 ⟨by decide +kernel⟩ 0b110 (by decide) (by decide)).1

end Bee2V.C05
