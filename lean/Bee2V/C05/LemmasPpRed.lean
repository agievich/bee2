/-
C05 — lemmas for the word-level models of the special reductions (ModelPpRed.lean).
  §1 `val` in xor / shift form; `xorAt`
  §2 a shifted copy of a word xored into two adjacent words (`pairXor`, `tailXor`)
  §3 the reduction step for a modulus x^M + Σ_{t ∈ ts} x^t at the level of values: `fold_step`,
     `fold_loop` (any loop body that folds the top word), `fold_tail`, `fold_result`
  §4–§6 the bodies and tails of ppRedTrinomial / ppRedPentanomial / ppRedBelt in that form
-/
import Bee2V.C05.ModelPpRed
import Bee2V.C05.LemmasPp
import Bee2V.C05.PWords
namespace Bee2V.C05.PpRed
open Bee2V.C05 Bee2V.C05.Spec Bee2V.C05.Pp

/-! ## §1 -/


theorem xorAt_cons_zero (x : Nat) (xs : List Nat) (v : Nat) : xorAt (x :: xs) 0 v = (x ^^^ v) :: xs := by
  simp [xorAt]
theorem xorAt_cons_succ (x : Nat) (xs : List Nat) (i v : Nat) :
    xorAt (x :: xs) (i + 1) v = x :: xorAt xs i v := by
  simp [xorAt]

/-- `a[i] ^= 0` changes nothing (in or out of range) -/
theorem xorAt_zero (a : List Nat) (i : Nat) : xorAt a i 0 = a := by
  unfold xorAt
  rw [Nat.xor_zero]
  apply List.ext_getElem
  · simp
  · intro j h1 h2
    by_cases hij : i = j
    · subst hij
      simp only [List.length_set] at h1
      simp [List.getD_eq_getElem?_getD, List.getElem?_eq_getElem h2]
    · simp [List.getElem_set_ne hij]

theorem pval_xorAt (w : Nat) (a : List Nat) : ∀ (i v : Nat), i < a.length →
    pval w (xorAt a i v) = pval w a ^^^ v <<< (w * i) := by
  induction a with
  | nil => intro i v hi; simp at hi
  | cons x xs ih =>
    intro i v hi
    cases i with
    | zero => rw [xorAt_cons_zero, pval, pval, Nat.mul_zero, Nat.shiftLeft_zero]; ac_rfl
    | succ i =>
      rw [xorAt_cons_succ, pval, pval, ih i v (by simpa using hi), Nat.shiftLeft_xor_distrib,
        ← Nat.shiftLeft_add, Nat.mul_succ, Nat.xor_assoc]

theorem xorAt_length (a : List Nat) (i v : Nat) : (xorAt a i v).length = a.length := by
  simp [xorAt]

theorem xorAt_Wf {w : Nat} {a : List Nat} (h : Wf w a) (i : Nat) {v : Nat} (hv : v < 2 ^ w) :
    Wf w (xorAt a i v) := by
  intro x hx
  unfold xorAt at hx
  rcases List.mem_or_eq_of_mem_set hx with h' | rfl
  · exact h x h'
  · exact Nat.xor_lt_two_pow (getD_lt h i) hv

/-- `a[i] ^= v` on a list of words -/
theorem val_xorAt {w : Nat} (a : List Nat) (i v : Nat) (h : Wf w a) (hi : i < a.length) (hv : v < 2 ^ w) :
    Wf w (xorAt a i v) ∧ (xorAt a i v).length = a.length
    ∧ val w (xorAt a i v) = val w a ^^^ v <<< (w * i) :=
  ⟨xorAt_Wf h i hv, xorAt_length a i v,
    by rw [← pval_eq_val (xorAt_Wf h i hv), pval_xorAt w a i v hi, pval_eq_val h]⟩

/-- one more word on top -/
theorem val_take_succ {w : Nat} {a : List Nat} (h : Wf w a) (n : Nat) (hn : n < a.length) :
    val w (a.take (n + 1)) = (a.getD n 0) <<< (w * n) ^^^ val w (a.take n) := by
  have h2 := val_lt (Wf_take h n)
  rw [List.length_take, Nat.min_eq_left (by omega)] at h2
  rw [List.take_succ_eq_append_getElem hn, val_append, List.length_take, Nat.min_eq_left (by omega),
    val_cons, val_nil, Nat.mul_zero, Nat.add_zero, Nat.add_comm, add_shl_eq_xor h2]
  congr 2
  simp [List.getD_eq_getElem?_getD, List.getElem?_eq_getElem hn]

/-- xoring something that lives below word n commutes with taking the low n words -/
theorem val_take_xor {w : Nat} {a a' : List Nat} (h : Wf w a) (h' : Wf w a') (hl : a'.length = a.length)
    (n : Nat) (hn : n ≤ a.length) {D : Nat} (hD : D < 2 ^ (w * n)) (hv : val w a' = val w a ^^^ D) :
    val w (a'.take n) = val w (a.take n) ^^^ D := by
  rw [val_take h' n, val_take h n, hv, Nat.xor_mod_two_pow, Nat.mod_eq_of_lt hD]

/-! ## §2 a shifted copy of a word xored into two adjacent words -/

theorem shl_lt {w v : Nat} (hv : v < 2 ^ w) (t : Nat) : v <<< t < 2 ^ (w + t) := by
  rw [Nat.shiftLeft_eq, Nat.pow_add]
  exact Nat.mul_lt_mul_of_pos_right hv (Nat.two_pow_pos t)

/-- `a[d] ^= sb ? v << (w - sb) : 0; a[d + 1] ^= v >> sb` -/
def pairXor (w : Nat) (a : List Nat) (d sb v : Nat) : List Nat :=
  xorAt (xorAt a d (if sb ≠ 0 then wshl w v (w - sb) else 0)) (d + 1) (wshr v sb)

theorem val_pairXor {w : Nat} (a : List Nat) (h : Wf w a) (d sb v : Nat) (hd : d + 1 < a.length)
    (hv : v < 2 ^ w) (hsb : sb < w) :
    Wf w (pairXor w a d sb v) ∧ (pairXor w a d sb v).length = a.length
    ∧ val w (pairXor w a d sb v) = val w a ^^^ v <<< (w * d + (w - sb)) := by
  have hlo : (if sb ≠ 0 then wshl w v (w - sb) else 0) < 2 ^ w := by
    split
    · exact Nat.mod_lt _ (Nat.two_pow_pos w)
    · exact Nat.two_pow_pos w
  have hhi : wshr v sb < 2 ^ w := Nat.lt_of_le_of_lt (Nat.div_le_self _ _) hv
  obtain ⟨f1, f2, f3⟩ := val_xorAt a d _ h (by omega) hlo
  obtain ⟨g1, g2, g3⟩ := val_xorAt _ (d + 1) _ f1 (by omega) hhi
  refine ⟨g1, by unfold pairXor; omega, ?_⟩
  unfold pairXor
  rw [g3, f3, Nat.xor_assoc]
  congr 1
  by_cases h0 : sb = 0
  · subst h0
    simp [wshr, Nat.mul_succ]
  · rw [if_pos h0]
    have hpow : 2 ^ w = 2 ^ (w - sb) * 2 ^ sb := by rw [← Nat.pow_add]; congr 1; omega
    have hdiv : v * 2 ^ (w - sb) / 2 ^ w = v / 2 ^ sb := by
      rw [hpow, ← Nat.div_div_eq_div_mul, Nat.mul_div_cancel _ (Nat.two_pow_pos _)]
    have hX : v * 2 ^ (w - sb) = (v / 2 ^ sb) <<< w ^^^ (v * 2 ^ (w - sb)) % 2 ^ w := by
      rw [← add_shl_eq_xor (Nat.mod_lt _ (Nat.two_pow_pos w)), ← hdiv, Nat.div_add_mod]
    rw [Nat.add_comm (w * d), Nat.shiftLeft_add, Nat.shiftLeft_eq v, hX, Nat.shiftLeft_xor_distrib,
      ← Nat.shiftLeft_add, Nat.mul_succ, Nat.add_comm w, Nat.xor_comm]

/-- the tail form: `if (sw < n && sb) a[n - sw - 1] ^= hi << (w - sb); a[n - sw] ^= hi >> sb` -/
def tailXor (w : Nat) (a : List Nat) (mw sw sb hi : Nat) : List Nat :=
  let a1 := if sw < mw ∧ sb ≠ 0 then xorAt a (mw - sw - 1) (wshl w hi (w - sb)) else a
  xorAt a1 (mw - sw) (wshr hi sb)

theorem wshl_exact {w hi' mb : Nat} (hmb : mb ≤ w) (hhi : hi' < 2 ^ (w - mb)) :
    wshl w hi' mb = hi' * 2 ^ mb ∧ hi' * 2 ^ mb < 2 ^ w := by
  have : hi' * 2 ^ mb < 2 ^ w := by
    have h1 := Nat.mul_lt_mul_of_pos_right hhi (Nat.two_pow_pos mb)
    rwa [← Nat.pow_add, Nat.sub_add_cancel hmb] at h1
  exact ⟨Nat.mod_eq_of_lt this, this⟩

theorem val_tailXor {w : Nat} (a : List Nat) (h : Wf w a) (mw mb sw sb hi' : Nat)
    (hmw : mw < a.length) (hmb : mb < w) (hsb : sb < w) (hsw : sw ≤ mw)
    (hs : w * sw + sb ≤ w * mw + mb) (hhi : hi' < 2 ^ (w - mb)) :
    Wf w (tailXor w a mw sw sb (wshl w hi' mb))
    ∧ (tailXor w a mw sw sb (wshl w hi' mb)).length = a.length
    ∧ val w (tailXor w a mw sw sb (wshl w hi' mb))
        = val w a ^^^ hi' <<< (w * mw + mb - (w * sw + sb)) := by
  obtain ⟨hex, hlt⟩ := wshl_exact (Nat.le_of_lt hmb) hhi
  rw [hex]
  by_cases hc : sw < mw
  · obtain ⟨d, hd⟩ : ∃ d, mw = sw + 1 + d := ⟨mw - sw - 1, by omega⟩
    have e1 : mw - sw - 1 = d := by omega
    have e2 : mw - sw = d + 1 := by omega
    have heq : tailXor w a mw sw sb (hi' * 2 ^ mb) = pairXor w a d sb (hi' * 2 ^ mb) := by
      unfold tailXor pairXor
      simp only [e2]
      by_cases h0 : sb = 0
      · subst h0; simp [xorAt_zero]
      · simp [hc, h0]
    rw [heq]
    obtain ⟨g1, g2, g3⟩ := val_pairXor a h d sb (hi' * 2 ^ mb) (by omega) hlt hsb
    refine ⟨g1, g2, ?_⟩
    rw [g3, ← Nat.shiftLeft_eq, ← Nat.shiftLeft_add]
    congr 2
    rw [hd, Nat.mul_add, Nat.mul_add, Nat.mul_one]
    omega
  · have hsm : sw = mw := by omega
    subst hsm
    have hsb' : sb ≤ mb := by omega
    have heq : tailXor w a sw sw sb (hi' * 2 ^ mb) = xorAt a 0 (hi' * 2 ^ (mb - sb)) := by
      unfold tailXor
      have hp : 2 ^ mb = 2 ^ (mb - sb) * 2 ^ sb := by rw [← Nat.pow_add]; congr 1; omega
      have hdv : wshr (hi' * 2 ^ mb) sb = hi' * 2 ^ (mb - sb) := by
        show hi' * 2 ^ mb / 2 ^ sb = _
        rw [hp, ← Nat.mul_assoc, Nat.mul_div_cancel _ (Nat.two_pow_pos _)]
      simp [hdv]
    rw [heq]
    have hv : hi' * 2 ^ (mb - sb) < 2 ^ w := by
      refine Nat.lt_of_le_of_lt ?_ hlt
      exact Nat.mul_le_mul_left _ (Nat.pow_le_pow_right (by omega) (by omega))
    obtain ⟨g1, g2, g3⟩ := val_xorAt a 0 _ h (by omega) hv
    refine ⟨g1, g2, ?_⟩
    rw [g3, Nat.mul_zero, Nat.shiftLeft_zero, ← Nat.shiftLeft_eq]
    congr 2
    omega

/-! ## congruences -/

theorem xor_cancel_mid (T D H : Nat) : (T ^^^ D) ^^^ (H ^^^ T) = H ^^^ D := by
  rw [Nat.xor_comm H T, xor4_swap, Nat.xor_self, Nat.zero_xor, Nat.xor_comm]

theorem cong_symm {md x y : Nat} (h : Cong md x y) : Cong md y x := Pp.cong_symm h

/-! ## §3 folding a word through `x^M ≡ Σ_{t ∈ ts} x^t` -/

/-- `Σ_{t ∈ ts} v·x^(s+t)` -/
def shSum (v s : Nat) : List Nat → Nat
  | [] => 0
  | t :: ts => v <<< (s + t) ^^^ shSum v s ts

/-- `Σ_{t ∈ ts} 2^t` -/
def pSum : List Nat → Nat
  | [] => 0
  | t :: ts => 2 ^ t + pSum ts

theorem shSum_lt {w v s N : Nat} (hv : v < 2 ^ w) :
    ∀ ts : List Nat, (∀ t ∈ ts, w + s + t ≤ N) → shSum v s ts < 2 ^ N
  | [], _ => Nat.two_pow_pos _
  | t :: ts, h =>
    Nat.xor_lt_two_pow
      (Nat.lt_of_lt_of_le (shl_lt hv _)
        (Nat.pow_le_pow_right (by omega) (by have := h t List.mem_cons_self; omega)))
      (shSum_lt hv ts fun t' ht' => h t' (List.mem_cons_of_mem _ ht'))

theorem shSum_shl (v s : Nat) : ∀ ts, shSum (v <<< s) 0 ts = shSum v s ts
  | [] => rfl
  | t :: ts => by rw [shSum, shSum, shSum_shl v s ts, ← Nat.shiftLeft_add, Nat.zero_add]

theorem clmul_shSum (X : Nat) : ∀ ts, clmul X (shSum 1 0 ts) = shSum X 0 ts
  | [] => clmul_zero X
  | t :: ts => by
    rw [shSum, shSum, clmul_xor, clmul_shSum X ts, Nat.one_shiftLeft, clmul_two_pow]

/-- exponents in descending order below M: xor is addition, and the sum stays below `2^M` -/
theorem shSum_one : ∀ (M : Nat) (ts : List Nat), List.Pairwise (· > ·) (M :: ts) →
    shSum 1 0 ts = pSum ts ∧ pSum ts < 2 ^ M
  | M, [], _ => ⟨rfl, Nat.two_pow_pos M⟩
  | M, t :: ts, h => by
    obtain ⟨hM, hts⟩ := List.pairwise_cons.1 h
    obtain ⟨e, hlt⟩ := shSum_one t ts hts
    have ht : t < M := hM t List.mem_cons_self
    have hp : 2 ^ (t + 1) ≤ 2 ^ M := Nat.pow_le_pow_right (by omega) ht
    have := add_shl_eq_xor (a := 1) hlt
    rw [Nat.mul_one] at this
    rw [shSum, pSum, e, Nat.zero_add, this]
    rw [Nat.pow_succ] at hp
    exact ⟨rfl, by omega⟩

/-- the modulus `x^M + Σ x^t`: degree, and multiplication by it as shifts -/
theorem foldP {M : Nat} {ts : List Nat} (h : List.Pairwise (· > ·) (M :: ts)) :
    (2 ^ M + pSum ts).log2 = M ∧ ∀ X, clmul X (2 ^ M + pSum ts) = X <<< M ^^^ shSum X 0 ts := by
  obtain ⟨e, hlt⟩ := shSum_one M ts h
  have hx := add_shl_eq_xor (a := 1) hlt
  rw [Nat.mul_one, Nat.one_shiftLeft] at hx
  refine ⟨(Nat.log2_eq_iff (by have := Nat.two_pow_pos M; omega)).2 ⟨by omega, by rw [Nat.pow_succ]; omega⟩,
    fun X => ?_⟩
  rw [hx, clmul_xor, clmul_two_pow, ← e, clmul_shSum]

/-- one iteration, at the level of values: word n of `a` has been folded into the words below -/
theorem fold_step {w n M : Nat} {ts : List Nat} (hP : List.Pairwise (· > ·) (M :: ts))
    {a a' : List Nat} (h : Wf w a) (h' : Wf w a') (hl : a'.length = a.length) (hn : n < a.length)
    (hM : M ≤ w * n) (hts : ∀ t ∈ ts, w + t ≤ M)
    (hval : val w a' = val w a ^^^ shSum (a.getD n 0) (w * n - M) ts) :
    Cong (2 ^ M + pSum ts) (val w (a'.take n)) (val w (a.take (n + 1))) := by
  have hD := shSum_lt (s := w * n - M) (N := w * n) (getD_lt h n) ts
    (fun t ht => by have := hts t ht; omega)
  rw [val_take_xor h h' hl n (by omega) hD hval, val_take_succ h n hn]
  refine ⟨(a.getD n 0) <<< (w * n - M), ?_⟩
  rw [(foldP hP).2, shSum_shl, ← Nat.shiftLeft_add, Nat.sub_add_cancel hM]
  exact xor_cancel_mid _ _ _

/-- the descending loop: every body that folds word n as `fold_step` wants keeps the congruence -/
theorem fold_loop {w M mw : Nat} {ts : List Nat} (hP : List.Pairwise (· > ·) (M :: ts))
    (body : Nat → List Nat → List Nat) (hM : M ≤ w * (mw + 1)) (hts : ∀ t ∈ ts, w + t ≤ M)
    (hbody : ∀ c a, Wf w a → mw + c + 1 < a.length →
      Wf w (body (mw + c + 1) a) ∧ (body (mw + c + 1) a).length = a.length
      ∧ val w (body (mw + c + 1) a)
          = val w a ^^^ shSum (a.getD (mw + c + 1) 0) (w * (mw + c + 1) - M) ts)
    (V0 L : Nat) : ∀ (c : Nat) (a : List Nat), Wf w a → a.length = L → mw + c + 1 ≤ L →
      Cong (2 ^ M + pSum ts) (val w (a.take (mw + c + 1))) V0 →
      Wf w (redLoop body mw c a) ∧ (redLoop body mw c a).length = L
      ∧ Cong (2 ^ M + pSum ts) (val w ((redLoop body mw c a).take (mw + 1))) V0
  | 0, a, h, hl, _, hc => ⟨h, hl, hc⟩
  | c + 1, a, h, hl, hL, hc => by
    obtain ⟨g1, g2, g3⟩ := hbody c a h (by omega)
    have hMc : M ≤ w * (mw + c + 1) :=
      Nat.le_trans hM (Nat.mul_le_mul_left w (by omega))
    rw [redLoop]
    exact fold_loop hP body hM hts hbody V0 L c _ g1 (by omega) (by omega)
      (cong_trans (fold_step hP h g1 g2 (by omega) hMc hts g3) hc)

theorem val_take_succ_add {w : Nat} {a : List Nat} (n : Nat) (hn : n < a.length) :
    val w (a.take (n + 1)) = val w (a.take n) + 2 ^ (w * n) * a.getD n 0 := by
  rw [List.take_succ_eq_append_getElem hn, val_append, List.length_take, Nat.min_eq_left (by omega),
    val_cons, val_nil, Nat.mul_zero, Nat.add_zero]
  congr 2
  simp [List.getD_eq_getElem?_getD, List.getElem?_eq_getElem hn]

/-- the word that holds `x^M` (n == mw): its bits from M on (`hi`) have been cleared and folded -/
theorem fold_tail {w M mw mb : Nat} {ts : List Nat} (hP : List.Pairwise (· > ·) (M :: ts))
    (hM : M = w * mw + mb) (hmb : mb < w) (hts : ∀ t ∈ ts, w + t ≤ M)
    {a a' : List Nat} (h : Wf w a) (h' : Wf w a') (hl : a'.length = a.length) (hmw : mw < a.length)
    (hval : val w a' = val w a
      ^^^ ((wshr (a.getD mw 0) mb) <<< M ^^^ shSum (wshr (a.getD mw 0) mb) 0 ts)) :
    Cong (2 ^ M + pSum ts) (val w (a'.take (mw + 1))) (val w (a.take (mw + 1)))
    ∧ val w (a'.take (mw + 1)) < 2 ^ M := by
  have hhi : wshr (a.getD mw 0) mb < 2 ^ (w - mb) := by
    apply Nat.div_lt_of_lt_mul
    rw [← Nat.pow_add, Nat.add_sub_cancel' (Nat.le_of_lt hmb)]; exact getD_lt h mw
  have hsmall := shSum_lt (s := 0) (N := M) hhi ts (fun t ht => by have := hts t ht; omega)
  have hwn : w * (mw + 1) = w * mw + w := Nat.mul_succ w mw
  have hD : (wshr (a.getD mw 0) mb) <<< M ^^^ shSum (wshr (a.getD mw 0) mb) 0 ts
      < 2 ^ (w * (mw + 1)) :=
    Nat.xor_lt_two_pow
      (Nat.lt_of_lt_of_le (shl_lt hhi M) (Nat.pow_le_pow_right (by omega) (by omega)))
      (Nat.lt_of_lt_of_le hsmall (Nat.pow_le_pow_right (by omega) (by omega)))
  rw [val_take_xor h h' hl (mw + 1) (by omega) hD hval]
  refine ⟨⟨wshr (a.getD mw 0) mb, ?_⟩, ?_⟩
  · rw [(foldP hP).2, Nat.xor_comm (val w _), Nat.xor_assoc, Nat.xor_self, Nat.xor_zero]
  · have hT0 : val w (a.take mw) < 2 ^ (w * mw) := by
      have := val_lt (Wf_take h mw)
      rwa [List.length_take, Nat.min_eq_left (by omega)] at this
    have hTdiv : val w (a.take (mw + 1)) / 2 ^ M = wshr (a.getD mw 0) mb := by
      rw [val_take_succ_add mw hmw, hM, Nat.pow_add, ← Nat.div_div_eq_div_mul,
        Nat.add_mul_div_left _ _ (Nat.two_pow_pos _), Nat.div_eq_of_lt hT0, Nat.zero_add]
    have hT : val w (a.take (mw + 1))
        = (wshr (a.getD mw 0) mb) <<< M ^^^ val w (a.take (mw + 1)) % 2 ^ M := by
      rw [← add_shl_eq_xor (Nat.mod_lt _ (Nat.two_pow_pos _)), ← hTdiv, Nat.div_add_mod]
    rw [hT, xor4_swap, Nat.xor_self, Nat.zero_xor]
    exact Nat.xor_lt_two_pow (Nat.mod_lt _ (Nat.two_pow_pos _)) hsmall

theorem wOfB_bounds {w : Nat} (hw : 0 < w) (m : Nat) :
    m / w ≤ wOfB w m ∧ wOfB w m ≤ m / w + 1 ∧ m ≤ w * wOfB w m := by
  have hm := Nat.div_add_mod m w
  have hlt := Nat.mod_lt m hw
  have h2 := Nat.div_add_mod (m + w - 1) w
  have h3 := Nat.mod_lt (m + w - 1) hw
  refine ⟨Nat.div_le_div_right (by omega), Nat.le_of_lt_succ ((Nat.div_lt_iff_lt_mul hw).2 ?_), ?_⟩
  · rw [Nat.succ_mul, Nat.succ_mul, Nat.mul_comm]; omega
  · unfold wOfB; omega

/-- the result proper: the first W_OF_B(m) words of an array whose first m / w + 1 words hold a
    reduced value congruent to V -/
theorem fold_result {w m : Nat} {ts : List Nat} (hw : 0 < w) (hP : List.Pairwise (· > ·) (m :: ts))
    {V : Nat} {T : List Nat} (hT : Wf w T) (hTl : m / w + 1 ≤ T.length)
    (hc : Cong (2 ^ m + pSum ts) (val w (T.take (m / w + 1))) V)
    (hlt : val w (T.take (m / w + 1)) < 2 ^ m) :
    val w (T.take (wOfB w m)) = pmod V (2 ^ m + pSum ts) ∧ val w (T.take (wOfB w m)) < 2 ^ m
    ∧ Wf w (T.take (wOfB w m)) ∧ (T.take (wOfB w m)).length = wOfB w m := by
  obtain ⟨_, n2, n3⟩ := wOfB_bounds hw m
  have hP0 : 2 ^ m + pSum ts ≠ 0 := by have := Nat.two_pow_pos m; omega
  have e : val w (T.take (wOfB w m)) = val w (T.take (m / w + 1)) := by
    rw [val_take hT _, val_take hT (m / w + 1)] at *
    rw [← Nat.mod_mod_of_dvd _ (Nat.pow_dvd_pow 2 (Nat.mul_le_mul_left w n2)), Nat.mod_eq_of_lt]
    exact Nat.lt_of_lt_of_le hlt (Nat.pow_le_pow_right (by omega) n3)
  have hpm := pmod_cong hP0 hc
  rw [pmod_of_lt hP0 (by rw [(foldP hP).1]; exact hlt)] at hpm
  rw [e]
  exact ⟨hpm, hlt, Wf_take hT _, by rw [List.length_take]; omega⟩

/-- loop, tail and result together, for m = w·(m / w) + m % w -/
theorem fold_all {w m : Nat} {ts : List Nat} (hw : 0 < w) (hP : List.Pairwise (· > ·) (m :: ts))
    (hts : ∀ t ∈ ts, w + t ≤ m) (hm0 : 0 < m) (body : Nat → List Nat → List Nat)
    (tail : List Nat → List Nat)
    (hbody : ∀ c a, Wf w a → m / w + c + 1 < a.length →
      Wf w (body (m / w + c + 1) a) ∧ (body (m / w + c + 1) a).length = a.length
      ∧ val w (body (m / w + c + 1) a)
          = val w a ^^^ shSum (a.getD (m / w + c + 1) 0) (w * (m / w + c + 1) - m) ts)
    (htail : ∀ a, Wf w a → m / w < a.length →
      Wf w (tail a) ∧ (tail a).length = a.length
      ∧ val w (tail a) = val w a ^^^ ((wshr (a.getD (m / w) 0) (m % w)) <<< m
          ^^^ shSum (wshr (a.getD (m / w) 0) (m % w)) 0 ts))
    (a : List Nat) (ha : Wf w a) (hl : a.length = 2 * wOfB w m) :
    val w ((tail (redLoop body (m / w) (2 * wOfB w m - 1 - m / w) a)).take (wOfB w m))
      = pmod (val w a) (2 ^ m + pSum ts)
    ∧ val w ((tail (redLoop body (m / w) (2 * wOfB w m - 1 - m / w) a)).take (wOfB w m)) < 2 ^ m
    ∧ Wf w ((tail (redLoop body (m / w) (2 * wOfB w m - 1 - m / w) a)).take (wOfB w m))
    ∧ ((tail (redLoop body (m / w) (2 * wOfB w m - 1 - m / w) a)).take (wOfB w m)).length
        = wOfB w m := by
  have hm := Nat.div_add_mod m w
  have hmbw := Nat.mod_lt m hw
  obtain ⟨n1, _, n3⟩ := wOfB_bounds hw m
  have hW1 : 1 ≤ wOfB w m := Nat.pos_of_ne_zero fun h0 => by rw [h0, Nat.mul_zero] at n3; omega
  have hMw : m ≤ w * (m / w + 1) := by rw [Nat.mul_succ]; omega
  obtain ⟨l1, l2, l3⟩ := fold_loop hP body hMw hts hbody (val w a) a.length
    (2 * wOfB w m - 1 - m / w) a ha rfl (by omega)
    (by rw [show m / w + (2 * wOfB w m - 1 - m / w) + 1 = a.length by omega, List.take_length]
        exact cong_refl _ _)
  obtain ⟨t1, t2, t3⟩ := htail _ l1 (by omega)
  obtain ⟨u1, u2⟩ := fold_tail hP hm.symm hmbw hts l1 t1 t2 (by omega) t3
  exact fold_result hw hP t1 (by omega) (cong_trans u1 l3) u2

/-! ## §4 ppRedTrinomial -/

theorem expo_eq {w mw mb tw tb t c : Nat} (htw : tw ≤ mw) (ht : w * tw + tb + t = w * mw + mb)
    (hmb : mb ≤ w) (htb : tb < w) :
    w * (mw - tw + c) + (w - tb) = w * (mw + c + 1) - (w * mw + mb) + t := by
  obtain ⟨e, rfl⟩ : ∃ e, mw = tw + e := ⟨mw - tw, by omega⟩
  simp only [Nat.add_sub_cancel_left, Nat.mul_add, Nat.mul_one] at *
  omega

/-- the word / bit offsets of the term x^t as the C computes them from m − t -/
theorem term_facts {w m t : Nat} (hw : 0 < w) (ht : t ≤ m) :
    (m - t) / w ≤ m / w ∧ (m - t) % w < w ∧ w * ((m - t) / w) + (m - t) % w + t = m := by
  have := Nat.div_add_mod (m - t) w
  exact ⟨Nat.div_le_div_right (Nat.sub_le m t), Nat.mod_lt _ hw, by omega⟩

theorem triBody_val {w : Nat} (a : List Nat) (mb mw kb kw k c M : Nat) (h : Wf w a)
    (hM : w * mw + mb = M) (hkw : kw ≤ mw) (hmb0 : mb ≠ 0) (hmb : mb < w) (hkb : kb < w)
    (hk : w * kw + kb + k = M) (hn : mw + c + 1 < a.length) :
    Wf w (ppRedTriBody w mb mw kb kw (mw + c + 1) a)
    ∧ (ppRedTriBody w mb mw kb kw (mw + c + 1) a).length = a.length
    ∧ val w (ppRedTriBody w mb mw kb kw (mw + c + 1) a)
        = val w a ^^^ shSum (a.getD (mw + c + 1) 0) (w * (mw + c + 1) - M) [k, 0] := by
  subst hM
  have heq : ppRedTriBody w mb mw kb kw (mw + c + 1) a
      = pairXor w (pairXor w a (mw - mw + c) mb (a.getD (mw + c + 1) 0)) (mw - kw + c) kb
          (a.getD (mw + c + 1) 0) := by
    unfold ppRedTriBody pairXor
    simp only [show mw + c + 1 - mw = mw - mw + c + 1 by omega,
      show mw + c + 1 - kw = mw - kw + c + 1 by omega, if_pos hmb0, Nat.add_sub_cancel]
  rw [heq]
  have hhi := getD_lt h (mw + c + 1)
  obtain ⟨f1, f2, f3⟩ := val_pairXor a h (mw - mw + c) mb _ (by omega) hhi hmb
  obtain ⟨g1, g2, g3⟩ := val_pairXor _ f1 (mw - kw + c) kb _ (by omega) hhi hkb
  refine ⟨g1, by omega, ?_⟩
  rw [g3, f3, expo_eq (Nat.le_refl mw) (Nat.add_zero _) (Nat.le_of_lt hmb) hmb,
    expo_eq hkw hk (Nat.le_of_lt hmb) hkb, shSum, shSum, shSum, Nat.xor_zero, Nat.xor_assoc,
    Nat.xor_comm (_ <<< (_ + 0))]

/-- the statements after the loop of ppRedTrinomial (n == mw), in terms of `tailXor` -/
def triTail (w mb mw kb kw : Nat) (a : List Nat) : List Nat :=
  xorAt (tailXor w (xorAt a 0 (wshr (a.getD mw 0) mb)) mw kw kb (wshl w (wshr (a.getD mw 0) mb) mb)) mw
    (wshl w (wshr (a.getD mw 0) mb) mb)

theorem triTail_val {w : Nat} (a : List Nat) (h : Wf w a) (mb mw kb kw k M : Nat)
    (hM : w * mw + mb = M) (hmw1 : mw < a.length) (hkw : kw ≤ mw) (hmb : mb < w) (hkb : kb < w)
    (hk : w * kw + kb + k = M) :
    Wf w (triTail w mb mw kb kw a) ∧ (triTail w mb mw kb kw a).length = a.length
    ∧ val w (triTail w mb mw kb kw a) = val w a
        ^^^ ((wshr (a.getD mw 0) mb) <<< M ^^^ shSum (wshr (a.getD mw 0) mb) 0 [k, 0]) := by
  subst hM
  have hword := getD_lt h mw
  have hhi : wshr (a.getD mw 0) mb < 2 ^ (w - mb) := by
    apply Nat.div_lt_of_lt_mul
    rw [← Nat.pow_add, Nat.add_sub_cancel' (Nat.le_of_lt hmb)]; exact hword
  obtain ⟨hex, hlt⟩ := wshl_exact (Nat.le_of_lt hmb) hhi
  obtain ⟨f1, f2, f3⟩ := val_xorAt a 0 _ h (by omega)
    (Nat.lt_of_le_of_lt (Nat.div_le_self _ _) hword)
  obtain ⟨g1, g2, g3⟩ := val_tailXor _ f1 mw mb kw kb _ (by omega) hmb hkb hkw (by omega) hhi
  obtain ⟨q1, q2, q3⟩ := val_xorAt _ mw (wshl w (wshr (a.getD mw 0) mb) mb) g1 (by omega)
    (by rw [hex]; exact hlt)
  refine ⟨q1, q2.trans (g2.trans f2), ?_⟩
  unfold triTail
  rw [q3, g3, f3, hex, Nat.mul_zero, Nat.shiftLeft_zero, ← Nat.shiftLeft_eq, ← Nat.shiftLeft_add,
    show w * mw + mb - (w * kw + kb) = k by omega, Nat.add_comm mb, shSum, shSum, shSum,
    Nat.zero_add, Nat.zero_add, Nat.shiftLeft_zero, Nat.xor_zero]
  ac_rfl

theorem ppRedTrinomial_ok {w : Nat} (a : List Nat) (m k : Nat) (hw : 0 < w) (ha : Wf w a)
    (hl : a.length = 2 * wOfB w m) (hmb0 : m % w ≠ 0) (hk0 : 0 < k) (hmk : w ≤ m - k) :
    val w (ppRedTrinomial w a m k) = pmod (val w a) (2 ^ m + 2 ^ k + 1)
    ∧ val w (ppRedTrinomial w a m k) < 2 ^ m
    ∧ Wf w (ppRedTrinomial w a m k) ∧ (ppRedTrinomial w a m k).length = wOfB w m := by
  have hm := Nat.div_add_mod m w
  obtain ⟨hkw, hkbw, hk⟩ := term_facts hw (by omega : k ≤ m)
  have := fold_all (ts := [k, 0]) hw (by simp [List.pairwise_cons]; omega) (by simp; omega) (by omega)
    (ppRedTriBody w (m % w) (m / w) ((m - k) % w) ((m - k) / w))
    (triTail w (m % w) (m / w) ((m - k) % w) ((m - k) / w))
    (fun c a h hn => triBody_val a _ _ _ _ k c m h hm hkw hmb0 (Nat.mod_lt m hw) hkbw hk hn)
    (fun a h hn => triTail_val a h _ _ _ _ k m hm hn hkw (Nat.mod_lt m hw) hkbw hk) a ha hl
  rwa [show 2 ^ m + pSum [k, 0] = 2 ^ m + 2 ^ k + 1 by simp [pSum]; omega] at this

/-! ## §5 ppRedPentanomial -/

theorem pentaBody_val {w : Nat} (a : List Nat) (mb mw l1b l1w lb lw kb kw l1 l k c M : Nat)
    (h : Wf w a) (hM : w * mw + mb = M) (hl1w : l1w ≤ mw) (hlw : lw ≤ mw) (hkw : kw ≤ mw)
    (hmb : mb < w) (hl1b : l1b < w) (hlb : lb < w) (hkb : kb < w)
    (hl1 : w * l1w + l1b + l1 = M) (hl : w * lw + lb + l = M) (hk : w * kw + kb + k = M)
    (hn : mw + c + 1 < a.length) :
    Wf w (ppRedPentaBody w mb mw l1b l1w lb lw kb kw (mw + c + 1) a)
    ∧ (ppRedPentaBody w mb mw l1b l1w lb lw kb kw (mw + c + 1) a).length = a.length
    ∧ val w (ppRedPentaBody w mb mw l1b l1w lb lw kb kw (mw + c + 1) a)
        = val w a ^^^ shSum (a.getD (mw + c + 1) 0) (w * (mw + c + 1) - M) [k, l, l1, 0] := by
  subst hM
  have heq : ppRedPentaBody w mb mw l1b l1w lb lw kb kw (mw + c + 1) a
      = pairXor w (pairXor w (pairXor w (pairXor w a (mw - mw + c) mb (a.getD (mw + c + 1) 0))
          (mw - l1w + c) l1b (a.getD (mw + c + 1) 0)) (mw - lw + c) lb (a.getD (mw + c + 1) 0))
          (mw - kw + c) kb (a.getD (mw + c + 1) 0) := by
    unfold ppRedPentaBody pairXor
    simp only [show mw + c + 1 - mw = mw - mw + c + 1 by omega,
      show mw + c + 1 - l1w = mw - l1w + c + 1 by omega,
      show mw + c + 1 - lw = mw - lw + c + 1 by omega,
      show mw + c + 1 - kw = mw - kw + c + 1 by omega, Nat.add_sub_cancel]
  rw [heq]
  have hhi := getD_lt h (mw + c + 1)
  have hmb' := Nat.le_of_lt hmb
  obtain ⟨f1, f2, f3⟩ := val_pairXor a h (mw - mw + c) mb _ (by omega) hhi hmb
  obtain ⟨g1, g2, g3⟩ := val_pairXor _ f1 (mw - l1w + c) l1b _ (by omega) hhi hl1b
  obtain ⟨p1, p2, p3⟩ := val_pairXor _ g1 (mw - lw + c) lb _ (by omega) hhi hlb
  obtain ⟨q1, q2, q3⟩ := val_pairXor _ p1 (mw - kw + c) kb _ (by omega) hhi hkb
  refine ⟨q1, by omega, ?_⟩
  rw [q3, p3, g3, f3, expo_eq (Nat.le_refl mw) (Nat.add_zero _) hmb' hmb, expo_eq hl1w hl1 hmb' hl1b,
    expo_eq hlw hl hmb' hlb, expo_eq hkw hk hmb' hkb, shSum, shSum, shSum, shSum, shSum, Nat.xor_zero]
  ac_rfl

theorem pentaTail_val {w : Nat} (a : List Nat) (h : Wf w a) (mb mw l1b l1w lb lw kb kw l1 l k M : Nat)
    (hM : w * mw + mb = M) (hmw1 : mw < a.length) (hl1w : l1w ≤ mw) (hlw : lw ≤ mw) (hkw : kw ≤ mw)
    (hmb : mb < w) (hl1b : l1b < w) (hlb : lb < w) (hkb : kb < w)
    (hl1 : w * l1w + l1b + l1 = M) (hl : w * lw + lb + l = M) (hk : w * kw + kb + k = M) :
    Wf w (ppRedPentaTail w mb mw l1b l1w lb lw kb kw a)
    ∧ (ppRedPentaTail w mb mw l1b l1w lb lw kb kw a).length = a.length
    ∧ val w (ppRedPentaTail w mb mw l1b l1w lb lw kb kw a) = val w a
        ^^^ ((wshr (a.getD mw 0) mb) <<< M ^^^ shSum (wshr (a.getD mw 0) mb) 0 [k, l, l1, 0]) := by
  subst hM
  have heq : ppRedPentaTail w mb mw l1b l1w lb lw kb kw a
      = xorAt (tailXor w (tailXor w (tailXor w (xorAt a 0 (wshr (a.getD mw 0) mb)) mw l1w l1b
          (wshl w (wshr (a.getD mw 0) mb) mb)) mw lw lb (wshl w (wshr (a.getD mw 0) mb) mb)) mw kw kb
          (wshl w (wshr (a.getD mw 0) mb) mb)) mw (wshl w (wshr (a.getD mw 0) mb) mb) := by
    unfold ppRedPentaTail tailXor
    rfl
  rw [heq]
  have hword := getD_lt h mw
  have hhi : wshr (a.getD mw 0) mb < 2 ^ (w - mb) := by
    apply Nat.div_lt_of_lt_mul
    rw [← Nat.pow_add, Nat.add_sub_cancel' (Nat.le_of_lt hmb)]; exact hword
  obtain ⟨hex, hlt⟩ := wshl_exact (Nat.le_of_lt hmb) hhi
  obtain ⟨f1, f2, f3⟩ := val_xorAt a 0 _ h (by omega)
    (Nat.lt_of_le_of_lt (Nat.div_le_self _ _) hword)
  obtain ⟨g1, g2, g3⟩ := val_tailXor _ f1 mw mb l1w l1b _ (by omega) hmb hl1b hl1w (by omega) hhi
  obtain ⟨p1, p2, p3⟩ := val_tailXor _ g1 mw mb lw lb _ (by omega) hmb hlb hlw (by omega) hhi
  obtain ⟨q1, q2, q3⟩ := val_tailXor _ p1 mw mb kw kb _ (by omega) hmb hkb hkw (by omega) hhi
  obtain ⟨r1, r2, r3⟩ := val_xorAt _ mw (wshl w (wshr (a.getD mw 0) mb) mb) q1 (by omega)
    (by rw [hex]; exact hlt)
  refine ⟨r1, r2.trans (q2.trans (p2.trans (g2.trans f2))), ?_⟩
  rw [r3, q3, p3, g3, f3, hex, Nat.mul_zero, Nat.shiftLeft_zero, ← Nat.shiftLeft_eq,
    ← Nat.shiftLeft_add, show w * mw + mb - (w * l1w + l1b) = l1 by omega,
    show w * mw + mb - (w * lw + lb) = l by omega, show w * mw + mb - (w * kw + kb) = k by omega,
    Nat.add_comm mb, shSum, shSum, shSum, shSum, shSum, Nat.zero_add, Nat.zero_add, Nat.zero_add,
    Nat.zero_add, Nat.shiftLeft_zero, Nat.xor_zero]
  ac_rfl

theorem ppRedPentanomial_ok {w : Nat} (a : List Nat) (m k l l1 : Nat) (hw : 0 < w) (ha : Wf w a)
    (hlen : a.length = 2 * wOfB w m) (h1 : 0 < l1) (h2 : l1 < l) (h3 : l < k) (hmk : w ≤ m - k) :
    val w (ppRedPentanomial w a m k l l1) = pmod (val w a) (2 ^ m + 2 ^ k + 2 ^ l + 2 ^ l1 + 1)
    ∧ val w (ppRedPentanomial w a m k l l1) < 2 ^ m
    ∧ Wf w (ppRedPentanomial w a m k l l1) ∧ (ppRedPentanomial w a m k l l1).length = wOfB w m := by
  have hm := Nat.div_add_mod m w
  have hmbw := Nat.mod_lt m hw
  obtain ⟨le1, b1, e1⟩ := term_facts hw (by omega : l1 ≤ m)
  obtain ⟨le2, b2, e2⟩ := term_facts hw (by omega : l ≤ m)
  obtain ⟨le3, b3, e3⟩ := term_facts hw (by omega : k ≤ m)
  have := fold_all (ts := [k, l, l1, 0]) hw (by simp [List.pairwise_cons]; omega) (by simp; omega)
    (by omega)
    (ppRedPentaBody w (m % w) (m / w) ((m - l1) % w) ((m - l1) / w) ((m - l) % w) ((m - l) / w)
      ((m - k) % w) ((m - k) / w))
    (ppRedPentaTail w (m % w) (m / w) ((m - l1) % w) ((m - l1) / w) ((m - l) % w) ((m - l) / w)
      ((m - k) % w) ((m - k) / w))
    (fun c a h hn =>
      pentaBody_val a _ _ _ _ _ _ _ _ l1 l k c m h hm le1 le2 le3 hmbw b1 b2 b3 e1 e2 e3 hn)
    (fun a h hn =>
      pentaTail_val a h _ _ _ _ _ _ _ _ l1 l k m hm hn le1 le2 le3 hmbw b1 b2 b3 e1 e2 e3) a ha hlen
  rwa [show 2 ^ m + pSum [k, l, l1, 0] = 2 ^ m + 2 ^ k + 2 ^ l + 2 ^ l1 + 1 by simp [pSum]; omega]
    at this

/-! ## §6 ppRedBelt -/

theorem shift_split {w v j : Nat} (d : Nat) (hj : j < w) :
    (wshl w v j) <<< (w * d) ^^^ (wshr v (w - j)) <<< (w * (d + 1)) = v <<< (w * d + j) := by
  have hpow : 2 ^ w = 2 ^ j * 2 ^ (w - j) := by rw [← Nat.pow_add]; congr 1; omega
  have hdiv : v * 2 ^ j / 2 ^ w = v / 2 ^ (w - j) := by
    rw [hpow, ← Nat.div_div_eq_div_mul, Nat.mul_div_cancel _ (Nat.two_pow_pos _)]
  have hX : v * 2 ^ j = (v / 2 ^ (w - j)) <<< w ^^^ (v * 2 ^ j) % 2 ^ w := by
    rw [← add_shl_eq_xor (Nat.mod_lt _ (Nat.two_pow_pos w)), ← hdiv, Nat.div_add_mod]
  rw [Nat.add_comm (w * d), Nat.shiftLeft_add, Nat.shiftLeft_eq v, hX, Nat.shiftLeft_xor_distrib,
    ← Nat.shiftLeft_add, Nat.mul_succ, Nat.add_comm w, Nat.xor_comm]

theorem getD_xorAt_ne (a : List Nat) (i n x : Nat) (h : i ≠ n) :
    (xorAt a i x).getD n 0 = a.getD n 0 := by
  unfold xorAt
  simp [List.getD_eq_getElem?_getD, List.getElem?_set_ne h]

theorem beltBody_val {w : Nat} (a : List Nat) (mw d : Nat) (h : Wf w a) (h7 : 7 < w) (hmw : 1 ≤ mw)
    (hn : mw + d < a.length) :
    Wf w (ppRedBeltBody w mw (mw + d) a)
    ∧ (ppRedBeltBody w mw (mw + d) a).length = a.length
    ∧ val w (ppRedBeltBody w mw (mw + d) a)
        = val w a ^^^ shSum (a.getD (mw + d) 0) (w * d) [7, 2, 1, 0] := by
  have hv := getD_lt h (mw + d)
  have hs : ∀ j, wshl w (a.getD (mw + d) 0) j < 2 ^ w := fun j => Nat.mod_lt _ (Nat.two_pow_pos w)
  have hr : ∀ j, wshr (a.getD (mw + d) 0) j < 2 ^ w :=
    fun j => Nat.lt_of_le_of_lt (Nat.div_le_self _ _) hv
  have e1 : mw + d - mw = d := by omega
  unfold ppRedBeltBody
  simp only [e1]
  rw [getD_xorAt_ne a d (mw + d) _ (by omega)]
  obtain ⟨f1, f2, f3⟩ := val_xorAt a d (a.getD (mw + d) 0 ^^^ wshl w (a.getD (mw + d) 0) 1
      ^^^ wshl w (a.getD (mw + d) 0) 2 ^^^ wshl w (a.getD (mw + d) 0) 7) h (by omega)
    (Nat.xor_lt_two_pow (Nat.xor_lt_two_pow (Nat.xor_lt_two_pow hv (hs 1)) (hs 2)) (hs 7))
  obtain ⟨g1, g2, g3⟩ := val_xorAt _ (d + 1) (wshr (a.getD (mw + d) 0) (w - 1)
      ^^^ wshr (a.getD (mw + d) 0) (w - 2) ^^^ wshr (a.getD (mw + d) 0) (w - 7)) f1 (by omega)
    (Nat.xor_lt_two_pow (Nat.xor_lt_two_pow (hr _) (hr _)) (hr _))
  refine ⟨g1, by omega, ?_⟩
  rw [g3, f3, shSum, shSum, shSum, shSum, shSum, Nat.xor_zero, Nat.add_zero,
    ← shift_split (v := a.getD (mw + d) 0) d (by omega : 1 < w),
    ← shift_split (v := a.getD (mw + d) 0) d (by omega : 2 < w),
    ← shift_split (v := a.getD (mw + d) 0) d h7]
  simp only [Nat.shiftLeft_xor_distrib]
  ac_rfl

end Bee2V.C05.PpRed
