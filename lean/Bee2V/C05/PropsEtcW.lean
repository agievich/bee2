/-
C05 — the word-level models of zzJacobi and zzSqrt (ModelEtcW.lean) refine the value-level models
of ModelEtc.lean; the value-level theorems of PropsEtc.lean transfer (end-to-end corollaries).
Helper lemmas: LemmasEtcW.lean.
-/
import Bee2V.C05.LemmasEtcW
import Bee2V.C05.PropsGcdW
namespace Bee2V.C05
open Bee2V.C05.Add Bee2V.C05.GcdW Bee2V.C05.EtcW

/-! ## zzJacobi -/

/-- refinement: the word-level zzJacobi (u of MAX2(n, m) words, v of m words, the running sizes;
    zzMod(u, a, n, v, m), wwCmpW, wwIsZero, wwIsW, wwLoZeroBits, `v[0] & 7`, wwShLo + wwWordSize,
    `u[0] & 3, v[0] & 3`, zzMod(v, v, m, u, n), wwSwap + size swap) computes the value-level model,
    for every pair of lengths (n < m, n = m, n > m).  `3 ≤ w`: `v[0] & 7` must see three bits of v.
    `SizesOK w`: correctness of wordCTZ / wordCLZ behind wwLoZeroBits (PropsBits: w = 16, 32, 64). -/
theorem zzJacobiW_refines_V (w : Nat) (hw : 3 ≤ w) (hs : SizesOK w) (a b : List Nat)
    (ha : Wf w a) (hb : Wf w b) (hbp : 0 < val w b) :
    zzJacobiW w a b = zzJacobiV (val w a) (val w b) := by
  unfold zzJacobiW zzJacobiV
  simp only []
  obtain ⟨m1, _, _, m3⟩ := (Low.full hb).wordSize
  rw [List.take_length] at m1 m3
  obtain ⟨hne, htop⟩ := m3 hbp
  generalize wwWordSize b = m at *
  obtain ⟨z1, z2, z3⟩ := zzMod_spec w a (b.take m) ha m1.rep.wf hne htop
  have hz : Rep w m (zzMod w a (b.take m)) (val w a % val w b) :=
    ⟨z2, by rw [z3, m1.rep.len], by rw [z1, m1.rep.eq]⟩
  have hp := hz.pad (max a.length b.length - m)
  have hU : Low w (zzMod w a (b.take m) ++ List.replicate (max a.length b.length - m) 0) m
      (val w a % val w b) :=
    ⟨hp.wf, by rw [List.take_append_of_le_length (by rw [hz.len]), List.take_of_length_le (by rw [hz.len])]
               exact hz⟩
  obtain ⟨n1, n2, _, _⟩ := hU.wordSize
  exact zzJacobiLoopW_spec hw hs _ _ _ _ _ _ _ _ n1 m1 n2 (by rw [hp.len]; omega)

/-- end to end, word level: for odd b, zzJacobi returns the Jacobi symbol (a / b). -/
theorem zzJacobiW_spec (w : Nat) (hw : 3 ≤ w) (hs : SizesOK w) (a b : List Nat)
    (ha : Wf w a) (hb : Wf w b) (hodd : val w b % 2 = 1) :
    zzJacobiW w a b = jacobiSym (val w a : ℤ) (val w b) := by
  rw [zzJacobiW_refines_V w hw hs a b ha hb (by omega)]
  exact zzJacobiV_spec _ _ hodd

/-- the 64-bit build. -/
theorem zzJacobiW_spec64 (a b : List Nat) (ha : Wf 64 a) (hb : Wf 64 b) (hodd : val 64 b % 2 = 1) :
    zzJacobiW 64 a b = jacobiSym (val 64 a : ℤ) (val 64 b) :=
  zzJacobiW_spec 64 (by decide) sizesOK64 a b ha hb hodd

example : zzJacobiW 16 [1001] [9907, 0, 0] = -1 ∧ zzJacobiW 16 [21, 0, 0, 0] [39, 3] = 0
    ∧ zzJacobiW 64 [2 ^ 64 - 59] [2 ^ 61 - 1, 5] = zzJacobiV (2 ^ 64 - 59) (2 ^ 61 - 1 + 5 * 2 ^ 64) := by
  decide +kernel

/-! ## zzSqrt -/

/-- zzSqrt, word level: the `a == 0` exit alone (b = 0, TRUE, (n + 1) / 2 words), without the
    `SizesOK` hypothesis; the general statement is `zzSqrtW_refines_V` / `zzSqrtW_spec` below. -/
theorem zzSqrtW_partial (w : Nat) (hw : 0 < w) (a : List Nat) (ha : Wf w a) (h0 : val w a = 0) :
    val w (zzSqrtW w a).1 = (zzSqrtV w a.length (val w a)).1
    ∧ (zzSqrtW w a).2 = (zzSqrtV w a.length (val w a)).2
    ∧ Wf w (zzSqrtW w a).1 ∧ (zzSqrtW w a).1.length = (a.length + 1) / 2 := by
  have hn : wwWordSize a = 0 := by
    rw [wordSize_eq hw a ha, h0]; exact Etc.wordSizeV_zero w
  have hv : wordSizeV w (val w a) = 0 := by rw [h0]; exact Etc.wordSizeV_zero w
  unfold zzSqrtW zzSqrtV
  simp only [hn, hv, if_true]
  exact ⟨val_replicate_zero w _, trivial, Wf_replicate_zero w _, List.length_replicate⟩

/-- refinement: the word-level zzSqrt (wwWordSize, wwSetBit + zzSubW2 for the start value, then
    wwCopy, wwWordSize, zzDiv, the `n - m == m && t[m] > 0` early FALSE, wwCmp, wwIsZero(r),
    `t[m] = zzAdd2(t, b, m); wwShLo(t, m + 1, 1)`) computes the value-level model: same b (as a
    value, (n + 1) / 2 words) and the same answer.  The Newton invariants `a < (t + 1)^2`,
    `t < B^((n+1)/2)` are carried through the loop (`EtcW.zzSqrtLoopW_spec`); they give the
    preconditions of zzDiv at every iteration (non-zero divisor with non-zero top word, m ≤ n) and
    `m ≤ n - m + 1` (wwCmp reads quotient words only).  `SizesOK w`: wwBitSize (PropsBits:
    w = 16, 32, 64). -/
theorem zzSqrtW_refines_V (w : Nat) (hw : 0 < w) (hs : SizesOK w) (a : List Nat) (ha : Wf w a) :
    val w (zzSqrtW w a).1 = (zzSqrtV w a.length (val w a)).1
    ∧ (zzSqrtW w a).2 = (zzSqrtV w a.length (val w a)).2
    ∧ Wf w (zzSqrtW w a).1 ∧ (zzSqrtW w a).1.length = (a.length + 1) / 2 := by
  have hws := wordSize_eq hw a ha
  unfold zzSqrtW zzSqrtV
  simp only []
  rw [hws]
  by_cases h0 : wordSizeV w (val w a) = 0
  · simp only [h0, if_true]
    exact ⟨val_replicate_zero w _, trivial, Wf_replicate_zero w _, List.length_replicate⟩
  · simp only [h0, if_false]
    have hA : val w a ≠ 0 := by
      intro h; rw [h] at h0; exact h0 (Etc.wordSizeV_zero w)
    -- the normalised operand
    obtain ⟨hL, n1, _, _⟩ := (Low.full ha).wordSize
    rw [List.take_length, hws] at hL n1
    have n2 := hL.rep.eq
    have han := Etc.wordSizeV_lt w (val w a) hw
    generalize hn : wordSizeV w (val w a) = n at *
    have hal : (a.take n).length = n := by rw [List.length_take]; omega
    have haW := Wf_take ha n
    -- wwBitSize
    obtain ⟨⟨z1, z2⟩, _⟩ := hs (a.take n) haW
    rw [n2] at z1 z2
    rw [bitSize_unique hA z1 z2]
    -- the start value 2^k - 1 (k ≤ w m, m = (len a + 1) / 2 words; also below B^((n+1)/2))
    obtain ⟨hk, e, s1, s2⟩ := Etc.sqrt_start w a.length (val w a) hw hA (val_lt ha)
    obtain ⟨_, _, _, s3⟩ := Etc.sqrt_start w n (val w a) hw hA han
    rw [e]
    generalize (bitSizeV (val w a) + 1) / 2 = k at *
    have hkpos := Nat.two_pow_pos k
    -- wwSetBit / zzSubW2
    have hzl : (List.replicate ((a.length + 1) / 2 + 1) 0).length = (a.length + 1) / 2 + 1 :=
      List.length_replicate
    obtain ⟨b1, b2, b3⟩ := wwSetBit_spec hw (List.replicate ((a.length + 1) / 2 + 1) 0) k true
      (by rw [hzl, Nat.mul_succ]; omega) (Wf_replicate_zero w _)
    rw [val_replicate_zero w] at b3
    simp only [Nat.zero_div, Nat.zero_mod, Nat.zero_mul, Nat.add_zero, Nat.zero_add,
      Bool.toNat_true, Nat.one_mul] at b3
    rw [hzl] at b1
    generalize wwSetBit w (List.replicate ((a.length + 1) / 2 + 1) 0) k true = t0 at *
    have h2w := two_le_two_pow hw
    obtain ⟨c1, _, c3, c4, c5⟩ := zzSubW2_spec w t0 1 b2 (by omega)
    have hne0 : t0 ≠ [] := by intro h; rw [h] at b1; simp at b1
    rw [c3 hne0, if_neg (by omega), Nat.mul_zero, Nat.add_zero] at c1
    rw [b1] at c5
    generalize (zzSubW2 w t0 1).1 = t1 at *
    have ht1V : val w t1 = 2 ^ k - 1 := by omega
    have ht1T : val w (t1.take ((a.length + 1) / 2)) = 2 ^ k - 1 := by
      rw [val_take c4 _, ht1V]
      exact Nat.mod_eq_of_lt s2
    have := zzSqrtLoopW_spec hw (a.take n) haW (by rw [n2]; exact hA) (by rw [n2, hal, hn])
      (val w t1 + 1) (List.replicate ((a.length + 1) / 2) 0) t1 ((a.length + 1) / 2) (2 ^ k - 1)
      (Wf_replicate_zero w _) ⟨c4, Wf_take c4 _, by rw [List.length_take]; omega, ht1T⟩
      (by rw [List.length_replicate])
      (by rw [List.drop_of_length_le (by rw [List.length_replicate])]; rfl)
      (by rw [n2]; exact s1) (by rw [hal]; exact s3)
    rw [n2, hal, ht1V, List.length_replicate] at this
    rw [ht1V]
    exact this

/-- end to end, word level: `b = ⌊√a⌋` ((n + 1) / 2 words) and the answer is TRUE exactly for
    perfect squares. -/
theorem zzSqrtW_spec (w : Nat) (hw : 0 < w) (hs : SizesOK w) (a : List Nat) (ha : Wf w a) :
    val w (zzSqrtW w a).1 = Nat.sqrt (val w a)
    ∧ ((zzSqrtW w a).2 = true ↔ Nat.sqrt (val w a) * Nat.sqrt (val w a) = val w a)
    ∧ Wf w (zzSqrtW w a).1 ∧ (zzSqrtW w a).1.length = (a.length + 1) / 2 := by
  obtain ⟨h1, h2, h3, h4⟩ := zzSqrtW_refines_V w hw hs a ha
  obtain ⟨g1, g2⟩ := zzSqrtV_spec w a.length (val w a) hw (val_lt ha)
  rw [h1, h2]
  exact ⟨g1, g2, h3, h4⟩

/-- the 64-bit build. -/
theorem zzSqrtW_spec64 (a : List Nat) (ha : Wf 64 a) :
    val 64 (zzSqrtW 64 a).1 = Nat.sqrt (val 64 a)
    ∧ ((zzSqrtW 64 a).2 = true ↔ Nat.sqrt (val 64 a) * Nat.sqrt (val 64 a) = val 64 a) :=
  let h := zzSqrtW_spec 64 (by decide) sizesOK64 a ha
  ⟨h.1, h.2.1⟩

example : zzSqrtW 8 [0x21, 0x4e, 0x09] = ([0x0c, 0x03], false)
    ∧ zzSqrtW 8 [0x00, 0x61, 0x09] = ([0x10, 0x03], true)
    ∧ zzSqrtW 16 [0xffff, 0xffff, 0xffff] = ([0xffff, 0xff], false)
    ∧ zzSqrtW 64 [0, 0, 0] = ([0, 0], true) := by decide +kernel

end Bee2V.C05
