/-
C05 — helper lemmas for the binary gcd family (PropsGcd.lean).  The four loops carry the same gcd
state `BinSt g u v` next to their coefficient invariants: `DSide` (zzDivMod) and `ExSide` (zzExGCD),
each used for both operands, and the Kaliski congruences (zzAlmostInvMod).
-/
import Bee2V.C05.ModelGcd
import Bee2V.C05.LemmasAdd
import Mathlib.Data.Int.GCD
import Mathlib.Data.Nat.ModEq
import Mathlib.Tactic.Ring
import Mathlib.Tactic.Linarith
import Mathlib.Tactic.LinearCombination
import Mathlib.Tactic.Zify
namespace Bee2V.C05.Gcd
open Bee2V.C05 Bee2V.C05.Add

/-! ## parity and gcd -/

theorem coprime_two_of_odd {v : Nat} (hv : v % 2 = 1) : Nat.Coprime 2 v := by
  unfold Nat.Coprime
  rw [Nat.gcd_rec, hv]
  rfl

/-- a power of two is invertible modulo an odd modulus: cancel it -/
theorem cancel_R {md k x y : Nat} (hodd : md % 2 = 1) (h : x * 2 ^ k ≡ y * 2 ^ k [MOD md]) :
    x ≡ y [MOD md] :=
  Nat.ModEq.cancel_right_of_coprime
    (Nat.Coprime.pow_right _ (Nat.coprime_comm.mp (coprime_two_of_odd hodd))) h

theorem mont_unique {md k x y : Nat} (hodd : md % 2 = 1)
    (h : x * 2 ^ k ≡ y * 2 ^ k [MOD md]) (hx : x < md) (hy : y < md) : x = y :=
  Nat.ModEq.eq_of_lt_of_lt (cancel_R hodd h) hx hy

theorem gcd_half_left {u v : Nat} (hu : u % 2 = 0) (hv : v % 2 = 1) :
    Nat.gcd (u / 2) v = Nat.gcd u v := by
  have h : u = 2 * (u / 2) := by omega
  conv_rhs => rw [h]
  exact (Nat.Coprime.gcd_mul_left_cancel (u / 2) (coprime_two_of_odd hv)).symm

def BinSt (g u v : Nat) : Prop := (u % 2 = 1 ∨ v % 2 = 1) ∧ Nat.gcd u v = g

theorem BinSt.symm {g u v : Nat} (h : BinSt g u v) : BinSt g v u :=
  ⟨h.1.symm, by rw [Nat.gcd_comm, h.2]⟩

theorem BinSt.half {g u v : Nat} (h : BinSt g u v) (hu : u % 2 = 0) : BinSt g (u / 2) v := by
  have hv : v % 2 = 1 := by have := h.1; omega
  exact ⟨Or.inr hv, by rw [gcd_half_left hu hv, h.2]⟩

theorem BinSt.sub {g u v : Nat} (h : BinSt g u v) (hv : v % 2 = 1) (hle : v ≤ u) :
    BinSt g (u - v) v :=
  ⟨Or.inr hv, by rw [Nat.gcd_sub_self_left hle, h.2]⟩

theorem BinSt.self {g u : Nat} (h : BinSt g u u) : u = g := by
  rw [← h.2, Nat.gcd_self]

/-- the difference of two odd numbers is twice its half -/
theorem sub_half_odd {x y : Nat} (hx : ¬ x % 2 = 0) (hy : ¬ y % 2 = 0) (h : y ≤ x) :
    x = y + 2 * ((x - y) / 2) := by omega

/-- an odd modulus divides `x` as soon as it divides `2 x` -/
theorem odd_cancel2 {m : Nat} (hm : m % 2 = 1) {x : ℤ} (h : (m : ℤ) ∣ 2 * x) : (m : ℤ) ∣ x := by
  obtain ⟨k, hk⟩ := h
  have hc : (m : ℤ) = 2 * ((m / 2 : Nat) : ℤ) + 1 := by
    exact_mod_cast (by omega : m = 2 * (m / 2) + 1)
  refine ⟨x - ((m / 2 : Nat) : ℤ) * k, ?_⟩
  linear_combination (-((m / 2 : Nat) : ℤ)) * hk - x * hc

/-! ## zzDivMod -/

/-- `da <- da / 2` or `(da + mod) / 2`: the new value is below mod and doubles to `da (+ mod)` -/
theorem halfStep {m da : Nat} (hm : m % 2 = 1) (hda : da < m) :
    (if da % 2 = 0 then da / 2 else (da + m) / 2) < m
    ∧ ∃ e : ℤ, 2 * ((if da % 2 = 0 then da / 2 else (da + m) / 2 : Nat) : ℤ) = da + e * m := by
  by_cases h : da % 2 = 0
  · rw [if_pos h]
    refine ⟨by omega, 0, ?_⟩
    have h2 : 2 * (da / 2) = da := by omega
    have : (2 : ℤ) * ((da / 2 : Nat) : ℤ) = da := by exact_mod_cast h2
    linear_combination this
  · rw [if_neg h]
    refine ⟨by omega, 1, ?_⟩
    have h2 : 2 * ((da + m) / 2) = da + m := by omega
    have : (2 : ℤ) * (((da + m) / 2 : Nat) : ℤ) = da + m := by exact_mod_cast h2
    linear_combination this

theorem halveMod_inv (m : Nat) (P : Nat → Nat → Prop)
    (hstep : ∀ u da, u % 2 = 0 → P u da → P (u / 2) (if da % 2 = 0 then da / 2 else (da + m) / 2)) :
    ∀ f u da, P u da → P (halveMod m f u da).1 (halveMod m f u da).2 := by
  intro f
  induction f with
  | zero => intro u da h; exact h
  | succ f ih =>
    intro u da h
    unfold halveMod
    split
    · exact ih _ _ (hstep u da ‹_› h)
    · exact h

theorem halveMod_odd (m : Nat) : ∀ f u da, 0 < u → u ≤ f →
    (halveMod m f u da).1 % 2 = 1 ∧ 0 < (halveMod m f u da).1 ∧ (halveMod m f u da).1 ≤ u := by
  intro f
  induction f with
  | zero => intro u da hu hf; omega
  | succ f ih =>
    intro u da hu hf
    unfold halveMod
    split
    · obtain ⟨h1, h2, h3⟩ := ih (u / 2) (if da % 2 = 0 then da / 2 else (da + m) / 2) (by omega) (by omega)
      exact ⟨h1, h2, by omega⟩
    · exact ⟨by omega, hu, Nat.le_refl _⟩

theorem halveMod_lt (m : Nat) (f u da : Nat) (h : da < m) : (halveMod m f u da).2 < m :=
  halveMod_inv m (fun _ da => da < m) (fun _ da _ h => by split <;> omega) f u da h

theorem addRed_spec {x y m : Nat} (hx : x < m) (hy : y < m) :
    addRed x y m < m ∧ ∃ e : ℤ, (addRed x y m : ℤ) = x + y - e * m := by
  unfold addRed
  by_cases h : x + y ≥ m
  · rw [if_pos h]
    refine ⟨by omega, 1, ?_⟩
    rw [Nat.cast_sub h]; push_cast; ring
  · rw [if_neg h]
    exact ⟨by omega, 0, by push_cast; ring⟩

theorem addRed_eq_mod {x y m : Nat} (hx : x < m) (hy : y < m) : addRed x y m = (x + y) % m := by
  unfold addRed
  rw [mod_wrap (by omega)]
  split_ifs <;> omega

/-- the halving step of zzDivMod keeps `mod ∣ da a - D u` (`D = ± divident`) -/
theorem halfStep_dvd {m da u : Nat} (hm : m % 2 = 1) (hda : da < m) (hu : u % 2 = 0) {a D : ℤ}
    (h : (m : ℤ) ∣ da * a - D * u) :
    (m : ℤ) ∣ ((if da % 2 = 0 then da / 2 else (da + m) / 2 : Nat) : ℤ) * a - D * (u / 2 : Nat) := by
  obtain ⟨_, e, s2⟩ := halfStep hm hda
  have hu2 : (2 : ℤ) * ((u / 2 : Nat) : ℤ) = u := by exact_mod_cast (by omega : 2 * (u / 2) = u)
  obtain ⟨k, hk⟩ := h
  exact odd_cancel2 hm ⟨k + e * a, by linear_combination hk + a * s2 - D * hu2⟩

/-- one side of the zzDivMod invariant: `da < mod` and `da a ≡ D u (mod mod)`
    (u side: D = divident; v side: D = −divident) -/
def DSide (m : Nat) (a D : ℤ) (u da : Nat) : Prop := da < m ∧ (m : ℤ) ∣ da * a - D * u

theorem DSide.half {m u da : Nat} {a D : ℤ} (hm : m % 2 = 1) (h : DSide m a D u da)
    (hu : u % 2 = 0) : DSide m a D (u / 2) (if da % 2 = 0 then da / 2 else (da + m) / 2) :=
  ⟨(halfStep hm h.1).1, halfStep_dvd hm h.1 hu h.2⟩

theorem DSide.sub {m u v da da1 : Nat} {a D : ℤ} (hu : DSide m a D u da) (hv : DSide m a (-D) v da1)
    (hle : v ≤ u) : DSide m a D (u - v : Nat) (addRed da da1 m) := by
  obtain ⟨a1, e, a2⟩ := addRed_spec hu.1 hv.1
  obtain ⟨k1, hk1⟩ := hu.2
  obtain ⟨k2, hk2⟩ := hv.2
  exact ⟨a1, k1 + k2 - e * a, by rw [Nat.cast_sub hle, a2]; linear_combination hk1 + hk2⟩

theorem zzDivModLoop_spec (d a m : Nat) (hm : m % 2 = 1) :
    ∀ f u v da da1, 0 < u → BinSt (Nat.gcd a m) u v → DSide m a d u da → DSide m a (-d) v da1 →
      u + v < f →
      let r := zzDivModLoop m f u v da da1
      r.1 = Nat.gcd a m ∧ DSide m a d r.1 r.2 := by
  intro f
  induction f with
  | zero => intro u v da da1 hu; omega
  | succ f ih =>
    intro u v da da1 hu hb hU hV hf
    unfold zzDivModLoop
    by_cases hv : v = 0
    · rw [if_pos hv]
      subst hv
      exact ⟨by rw [← hb.2, Nat.gcd_zero_right], hU⟩
    · rw [if_neg hv]
      dsimp only
      -- halve u
      obtain ⟨p1, p2⟩ := halveMod_inv m (fun u da => BinSt (Nat.gcd a m) u v ∧ DSide m a d u da)
        (fun u da he ⟨h1, h2⟩ => ⟨h1.half he, h2.half hm he⟩) u u da ⟨hb, hU⟩
      obtain ⟨q1, q2, q3⟩ := halveMod_odd m u u da hu (Nat.le_refl _)
      generalize (halveMod m u u da).1 = u' at *
      generalize (halveMod m u u da).2 = da' at *
      -- halve v
      obtain ⟨r1, r2⟩ := halveMod_inv m
        (fun v da1 => BinSt (Nat.gcd a m) u' v ∧ DSide m a (-d) v da1)
        (fun v da1 he ⟨h1, h2⟩ => ⟨(h1.symm.half he).symm, h2.half hm he⟩) v v da1 ⟨p1, hV⟩
      obtain ⟨t1, t2, t3⟩ := halveMod_odd m v v da1 (by omega) (Nat.le_refl _)
      generalize (halveMod m v v da1).1 = v' at *
      generalize (halveMod m v v da1).2 = da1' at *
      by_cases hgt : u' > v'
      · rw [if_pos hgt]
        exact ih _ _ _ _ (by omega) (r1.sub t1 (by omega)) (p2.sub r2 (by omega)) r2 (by omega)
      · rw [if_neg hgt]
        exact ih _ _ _ _ q2 (r1.symm.sub q1 (by omega)).symm p2
          (r2.sub (by rwa [neg_neg]) (by omega)) (by omega)

/-- the loop as zzDivMod calls it (mod odd, 0 < a, divident < mod) -/
theorem zzDivModLoop_top (d a m : Nat) (hm : m % 2 = 1) (ha : 0 < a) (hd : d < m) :
    let r := zzDivModLoop m (a + m + 1) a m d 0
    r.1 = Nat.gcd a m ∧ r.2 < m ∧ (m : ℤ) ∣ (r.2 : ℤ) * a - d * r.1 :=
  zzDivModLoop_spec d a m hm (a + m + 1) a m d 0 ha ⟨Or.inr hm, rfl⟩ ⟨hd, 0, by ring⟩
    ⟨by omega, d, by push_cast; ring⟩ (by omega)


/-! ## low zero bits, zzGCD -/

theorem loZerosF_spec : ∀ f n, 0 < n → n ≤ f →
    2 ^ loZerosF f n ∣ n ∧ (n / 2 ^ loZerosF f n) % 2 = 1 := by
  intro f
  induction f with
  | zero => intro n h1 h2; omega
  | succ f ih =>
    intro n h1 h2
    unfold loZerosF
    by_cases he : n % 2 = 0
    · rw [if_pos he]
      obtain ⟨i1, i2⟩ := ih (n / 2) (by omega) (by omega)
      have hn : n = 2 * (n / 2) := by omega
      constructor
      · rw [Nat.pow_add, Nat.pow_one]
        conv_rhs => rw [hn]
        exact Nat.mul_dvd_mul_left 2 i1
      · rw [Nat.pow_add, Nat.pow_one, ← Nat.div_div_eq_div_mul]
        exact i2
    · rw [if_neg he]
      simp only [Nat.pow_zero, Nat.div_one]
      exact ⟨Nat.one_dvd n, by omega⟩

theorem loZeros_spec {n : Nat} (hn : 0 < n) :
    2 ^ loZeros n ∣ n ∧ (n / 2 ^ loZeros n) % 2 = 1 :=
  loZerosF_spec n n hn (Nat.le_refl n)

theorem loZeros_odd {n : Nat} (hn : n % 2 = 1) : loZeros n = 0 := by
  unfold loZeros
  cases n with
  | zero => omega
  | succ k => unfold loZerosF; rw [if_neg (by omega)]

/-- stripping the low zero bits of both operands keeps the gcd when one of them is odd -/
theorem gcd_strip {u v : Nat} (hu : 0 < u) (hv : 0 < v) (h : u % 2 = 1 ∨ v % 2 = 1) :
    Nat.gcd (u / 2 ^ loZeros u) (v / 2 ^ loZeros v) = Nat.gcd u v := by
  rcases h with h | h
  · rw [loZeros_odd h, Nat.pow_zero, Nat.div_one]
    obtain ⟨d1, _⟩ := loZeros_spec hv
    conv_rhs => rw [← Nat.div_mul_cancel d1, Nat.gcd_comm, Nat.mul_comm]
    rw [Nat.Coprime.gcd_mul_left_cancel _ (Nat.Coprime.pow_left _ (coprime_two_of_odd h)),
      Nat.gcd_comm]
  · rw [loZeros_odd h, Nat.pow_zero, Nat.div_one]
    obtain ⟨d1, _⟩ := loZeros_spec hu
    conv_rhs => rw [← Nat.div_mul_cancel d1, Nat.mul_comm]
    rw [Nat.Coprime.gcd_mul_left_cancel _ (Nat.Coprime.pow_left _ (coprime_two_of_odd h))]

theorem strip_pos_le {u : Nat} (hu : 0 < u) :
    0 < u / 2 ^ loZeros u ∧ u / 2 ^ loZeros u ≤ u := by
  obtain ⟨_, d2⟩ := loZeros_spec hu
  refine ⟨?_, Nat.div_le_self _ _⟩
  generalize u / 2 ^ loZeros u = x at d2
  omega

theorem BinSt.strip {g u v : Nat} (h : BinSt g u v) (hu : 0 < u) (hv : 0 < v) :
    BinSt g (u / 2 ^ loZeros u) (v / 2 ^ loZeros v) ∧ (u / 2 ^ loZeros u) % 2 = 1
    ∧ (v / 2 ^ loZeros v) % 2 = 1 :=
  ⟨⟨Or.inl (loZeros_spec hu).2, by rw [gcd_strip hu hv h.1, h.2]⟩, (loZeros_spec hu).2,
    (loZeros_spec hv).2⟩

theorem zzGCDLoop_spec {g : Nat} : ∀ f u v, 0 < u → 0 < v → BinSt g u v → u + v ≤ f →
    zzGCDLoop f u v = g := by
  intro f
  induction f with
  | zero => intro u v hu; omega
  | succ f ih =>
    intro u v hu hv hb hf
    unfold zzGCDLoop
    simp only []
    obtain ⟨hs, ou, ov⟩ := hb.strip hu hv
    obtain ⟨pu, lu⟩ := strip_pos_le hu
    obtain ⟨pv, lv⟩ := strip_pos_le hv
    generalize u / 2 ^ loZeros u = u1 at *
    generalize v / 2 ^ loZeros v = v1 at *
    by_cases hgt : u1 > v1
    · rw [if_pos hgt, if_pos (by omega)]
      exact ih _ _ (by omega) pv (hs.sub ov (by omega)) (by omega)
    · rw [if_neg hgt]
      by_cases hz : v1 - u1 ≠ 0
      · rw [if_pos hz]
        exact ih _ _ pu (by omega) (hs.symm.sub ou (by omega)).symm (by omega)
      · rw [if_neg hz]
        obtain rfl : u1 = v1 := by omega
        exact hs.self

/-- `s = min(wwLoZeroBits a, wwLoZeroBits b)`: the common power of two -/
theorem shift_common {a b : Nat} (ha : 0 < a) (hb : 0 < b) :
    a / 2 ^ min (loZeros a) (loZeros b) * 2 ^ min (loZeros a) (loZeros b) = a
    ∧ b / 2 ^ min (loZeros a) (loZeros b) * 2 ^ min (loZeros a) (loZeros b) = b
    ∧ ((a / 2 ^ min (loZeros a) (loZeros b)) % 2 = 1 ∨ (b / 2 ^ min (loZeros a) (loZeros b)) % 2 = 1)
    ∧ 0 < a / 2 ^ min (loZeros a) (loZeros b) ∧ 0 < b / 2 ^ min (loZeros a) (loZeros b) := by
  obtain ⟨da, oa⟩ := loZeros_spec ha
  obtain ⟨db, ob⟩ := loZeros_spec hb
  have d1 : 2 ^ min (loZeros a) (loZeros b) ∣ a :=
    Nat.dvd_trans (Nat.pow_dvd_pow 2 (Nat.min_le_left _ _)) da
  have d2 : 2 ^ min (loZeros a) (loZeros b) ∣ b :=
    Nat.dvd_trans (Nat.pow_dvd_pow 2 (Nat.min_le_right _ _)) db
  have hp : 0 < 2 ^ min (loZeros a) (loZeros b) := Nat.two_pow_pos _
  refine ⟨Nat.div_mul_cancel d1, Nat.div_mul_cancel d2, ?_,
    Nat.div_pos (Nat.le_of_dvd ha d1) hp, Nat.div_pos (Nat.le_of_dvd hb d2) hp⟩
  by_cases h : loZeros a ≤ loZeros b
  · rw [Nat.min_eq_left h]; exact Or.inl oa
  · rw [Nat.min_eq_right (by omega)]; exact Or.inr ob


/-! ## zzExGCD -/

theorem halveEx_inv (aa bb : Nat) (P : Nat → Nat → Nat → Prop)
    (hstep : ∀ u da db, u % 2 = 0 → P u da db →
      P (u / 2) (if da % 2 = 0 ∧ db % 2 = 0 then da / 2 else (da + bb) / 2)
        (if da % 2 = 0 ∧ db % 2 = 0 then db / 2 else (db + aa) / 2)) :
    ∀ f u da db, P u da db →
      P (halveEx aa bb f u da db).1 (halveEx aa bb f u da db).2.1 (halveEx aa bb f u da db).2.2 := by
  intro f
  induction f with
  | zero => intro u da db h; exact h
  | succ f ih =>
    intro u da db h
    unfold halveEx
    split
    · have hs := hstep u da db ‹_› h
      split <;> rename_i hb
      · rw [if_pos hb, if_pos hb] at hs; exact ih _ _ _ hs
      · rw [if_neg hb, if_neg hb] at hs; exact ih _ _ _ hs
    · exact h

theorem halveEx_odd (aa bb : Nat) : ∀ f u da db, 0 < u → u ≤ f →
    (halveEx aa bb f u da db).1 % 2 = 1 ∧ 0 < (halveEx aa bb f u da db).1
    ∧ (halveEx aa bb f u da db).1 ≤ u := by
  intro f
  induction f with
  | zero => intro u da db hu hf; omega
  | succ f ih =>
    intro u da db hu hf
    unfold halveEx
    split
    · split
      all_goals
        obtain ⟨h1, h2, h3⟩ := ih (u / 2) _ _ (by omega : 0 < u / 2) (by omega)
        exact ⟨h1, h2, by omega⟩
    · exact ⟨by omega, hu, Nat.le_refl _⟩

theorem halveEx_le (aa bb f u da db : Nat) (h1 : da ≤ bb) (h2 : db ≤ aa) :
    (halveEx aa bb f u da db).2.1 ≤ bb ∧ (halveEx aa bb f u da db).2.2 ≤ aa :=
  halveEx_inv aa bb (fun _ da db => da ≤ bb ∧ db ≤ aa)
    (fun _ da db _ h => by split <;> omega) f u da db ⟨h1, h2⟩

theorem addCorr_le {x y lim : Nat} (h : x + y ≤ 2 * lim) : addCorr x y lim ≤ lim := by
  unfold addCorr; split_ifs <;> omega

/-- the parity argument of the comment in zz_gcd.c: if `da aa - db bb` is even, da and db are not
    both even and aa, bb are not both even, then `da + bb` and `db + aa` are even -/
theorem parity_ex {da db aa bb u : Nat} (h : da * aa = u + db * bb) (hu : u % 2 = 0)
    (hab : aa % 2 = 1 ∨ bb % 2 = 1) (hne : ¬ (da % 2 = 0 ∧ db % 2 = 0)) :
    (da + bb) % 2 = 0 ∧ (db + aa) % 2 = 0 := by
  have h2 : (da * aa) % 2 = (u + db * bb) % 2 := by rw [h]
  rw [Nat.mul_mod, Nat.add_mod, Nat.mul_mod db bb, hu] at h2
  rw [Nat.add_mod da bb, Nat.add_mod db aa]
  have hp := Nat.mod_two_eq_zero_or_one da
  have hq := Nat.mod_two_eq_zero_or_one db
  have hr := Nat.mod_two_eq_zero_or_one aa
  have ht := Nat.mod_two_eq_zero_or_one bb
  generalize da % 2 = p at *
  generalize db % 2 = q at *
  generalize aa % 2 = r at *
  generalize bb % 2 = t at *
  rcases hp with rfl | rfl <;> rcases hq with rfl | rfl <;> rcases hr with rfl | rfl <;>
    rcases ht with rfl | rfl <;> omega

/-- one side of the zzExGCD invariant: `x A = u + y B` with `x ≤ B`, `y ≤ A`, `u ≤ A`
    (u side: `da aa = u + db bb`; v side, roles exchanged: `db1 bb = v + da1 aa`) -/
def ExSide (A B u x y : Nat) : Prop := x * A = u + y * B ∧ x ≤ B ∧ y ≤ A ∧ u ≤ A

/-- one halving step; `c` is the test "both coefficients even" in the order the code writes it -/
theorem ExSide.half {A B u x y : Nat} (h : ExSide A B u x y) (hu : u % 2 = 0)
    (hab : A % 2 = 1 ∨ B % 2 = 1) {c : Prop} [Decidable c] (hc : c ↔ x % 2 = 0 ∧ y % 2 = 0) :
    ExSide A B (u / 2) (if c then x / 2 else (x + B) / 2) (if c then y / 2 else (y + A) / 2) := by
  obtain ⟨h, hx, hy, huA⟩ := h
  -- both coefficients are halved after adding the same multiple `e ∈ {0, 1}` of `(B, A)`
  have key : ∀ X Y e, 2 * X = x + e * B → 2 * Y = y + e * A → X * A = u / 2 + Y * B := by
    intro X Y e hX hY
    apply Nat.eq_of_mul_eq_mul_left (show 0 < 2 by omega)
    calc 2 * (X * A) = (x + e * B) * A := by rw [← Nat.mul_assoc, hX]
      _ = u + y * B + e * B * A := by rw [Nat.add_mul, h]
      _ = 2 * (u / 2) + (y + e * A) * B := by rw [Nat.mul_div_cancel' (Nat.dvd_of_mod_eq_zero hu)]; ring
      _ = 2 * (u / 2 + Y * B) := by rw [← hY]; ring
  by_cases hb : c
  · rw [if_pos hb, if_pos hb]
    have := hc.mp hb
    exact ⟨key _ _ 0 (by omega) (by omega), by omega, by omega, by omega⟩
  · rw [if_neg hb, if_neg hb]
    obtain ⟨p1, p2⟩ := parity_ex h hu hab (fun hn => hb (hc.mpr hn))
    exact ⟨key _ _ 1 (by omega) (by omega), by omega, by omega, by omega⟩

/-- the subtraction step with the corrections (*) and (**) of zz_gcd.c: `x + x1 > B` and
    `y + y1 > A` happen together -/
theorem ExSide.sub {A B u v x y x1 y1 : Nat} (hu : ExSide A B u x y) (hv : ExSide B A v y1 x1)
    (hv0 : 0 < v) (hlt : v < u) (hB : 0 < B) : ExSide A B (u - v) (addCorr x x1 B) (addCorr y y1 A) := by
  obtain ⟨hI, hx, hy, huA⟩ := hu
  obtain ⟨hI1, hy1, hx1, _⟩ := hv
  have h : (x + x1) * A = (u - v) + (y + y1) * B := by
    rw [Nat.add_mul, Nat.add_mul, hI, hI1]; omega
  have hw : u - v < A := by omega
  have hS : x + x1 ≤ 2 * B := by omega
  have hT : y + y1 ≤ 2 * A := by omega
  unfold addCorr
  generalize x + x1 = S at *
  generalize y + y1 = T at *
  generalize u - v = w at *
  have key : S > B ↔ T > A := by
    constructor
    · intro hs
      by_contra hT'
      have h1 : T * B ≤ A * B := Nat.mul_le_mul_right B (by omega)
      have h2 : (B + 1) * A ≤ S * A := Nat.mul_le_mul_right A (by omega)
      linarith
    · intro ht
      by_contra hS'
      have h1 : S * A ≤ B * A := Nat.mul_le_mul_right A (by omega)
      have h2 : (A + 1) * B ≤ T * B := Nat.mul_le_mul_right B (by omega)
      linarith
  by_cases hs : S > B
  · have ht := key.mp hs
    rw [if_pos hs, if_pos ht]
    refine ⟨?_, by omega, by omega, by omega⟩
    obtain ⟨s, rfl⟩ : ∃ s, S = B + s := ⟨S - B, by omega⟩
    obtain ⟨t, rfl⟩ : ∃ t, T = A + t := ⟨T - A, by omega⟩
    rw [Nat.add_sub_cancel_left, Nat.add_sub_cancel_left]
    linarith
  · have ht : ¬ T > A := fun h' => hs (key.mpr h')
    rw [if_neg hs, if_neg ht]
    exact ⟨h, by omega, by omega, by omega⟩

theorem zzExGCDLoop_spec (aa bb : Nat) (haa : 0 < aa) (hbb : 0 < bb)
    (hab : aa % 2 = 1 ∨ bb % 2 = 1) :
    ∀ f u v da db da1 db1, 0 < u → 0 < v → BinSt (Nat.gcd aa bb) u v →
      ExSide aa bb u da db → ExSide bb aa v db1 da1 → u + v ≤ f →
      let r := zzExGCDLoop aa bb f u v da db da1 db1
      r.1 = Nat.gcd aa bb ∧ ExSide aa bb r.1 r.2.1 r.2.2 := by
  intro f
  induction f with
  | zero => intro u v da db da1 db1 hu; omega
  | succ f ih =>
    intro u v da db da1 db1 hu hv hb hU hV hf
    unfold zzExGCDLoop
    dsimp only
    -- halve u
    obtain ⟨p2, p3⟩ := halveEx_inv aa bb
      (fun u da db => BinSt (Nat.gcd aa bb) u v ∧ ExSide aa bb u da db)
      (fun u da db he ⟨h2, h3⟩ => ⟨h2.half he, h3.half he hab Iff.rfl⟩) u u da db ⟨hb, hU⟩
    obtain ⟨q1, q2, q3⟩ := halveEx_odd aa bb u u da db hu (Nat.le_refl _)
    generalize (halveEx aa bb u u da db).1 = u' at *
    generalize (halveEx aa bb u u da db).2.1 = da' at *
    generalize (halveEx aa bb u u da db).2.2 = db' at *
    -- halve v
    obtain ⟨r2, r3⟩ := halveEx_inv aa bb
      (fun v da1 db1 => BinSt (Nat.gcd aa bb) u' v ∧ ExSide bb aa v db1 da1)
      (fun v da1 db1 he ⟨h2, h3⟩ => ⟨(h2.symm.half he).symm, h3.half he hab.symm and_comm⟩)
      v v da1 db1 ⟨p2, hV⟩
    obtain ⟨t1, t2, t3⟩ := halveEx_odd aa bb v v da1 db1 hv (Nat.le_refl _)
    generalize (halveEx aa bb v v da1 db1).1 = v' at *
    generalize (halveEx aa bb v v da1 db1).2.1 = da1' at *
    generalize (halveEx aa bb v v da1 db1).2.2 = db1' at *
    by_cases hgt : u' > v'
    · rw [if_pos hgt, if_pos (by omega)]
      exact ih _ _ _ _ _ _ (by omega) t2 (r2.sub t1 (by omega)) (p3.sub r3 t2 hgt hbb) r3 (by omega)
    · rw [if_neg hgt]
      by_cases hz : v' - u' ≠ 0
      · rw [if_pos hz]
        exact ih _ _ _ _ _ _ q2 (by omega) (r2.symm.sub q1 (by omega)).symm p3
          (r3.sub p3 q2 (by omega) haa) (by omega)
      · rw [if_neg hz]
        obtain rfl : u' = v' := by omega
        exact ⟨r2.self, r2.self ▸ p3⟩


/-! ## zzAlmostInvMod (Kaliski) -/

/-- the Kaliski loop.  Invariants: `mod = v da0 + u da`, `a da0 ≡ u 2^k`, `a da ≡ -v 2^k (mod mod)`,
    `gcd(u, v) = gcd(a, mod)`, one of u, v odd; for the iteration count `da0, da ≤ 2^k` and
    `2^k u v ≤ C`.  On exit `mod ≤ v 2^k` and `2^k ≤ 2 C`. -/
theorem zzAlmostInvLoop_spec (a m C : Nat) :
    ∀ f u v da0 da k, 0 < u → 0 < v → BinSt (Nat.gcd a m) u v →
      1 ≤ da0 → m = v * da0 + u * da →
      (m : ℤ) ∣ (a : ℤ) * da0 - u * 2 ^ k → (m : ℤ) ∣ (a : ℤ) * da + v * 2 ^ k →
      da0 ≤ 2 ^ k → da ≤ 2 ^ k → 2 ^ k * (u * v) ≤ C → u + v ≤ f →
      let r := zzAlmostInvLoop f u v da0 da k
      r.1 = Nat.gcd a m ∧ (m : ℤ) ∣ (a : ℤ) * r.2.1 + r.1 * 2 ^ r.2.2 ∧ r.2.1 < 2 * m ∧ 1 ≤ r.2.2
      ∧ m ≤ r.1 * 2 ^ r.2.2 ∧ 2 ^ r.2.2 ≤ 2 * C := by
  intro f
  induction f with
  | zero => intro u v da0 da k hu; omega
  | succ f ih =>
    intro u v da0 da k hu hv hb h0 hm h1 h2 b0 b1 hC hf
    have hp : 2 ^ (k + 1) = 2 * 2 ^ k := by rw [Nat.pow_succ, Nat.mul_comm]
    obtain ⟨c1, hc1⟩ := h1
    obtain ⟨c2, hc2⟩ := h2
    -- the two doubled congruences (the third shape, `sum`, is needed only when u, v are both odd)
    have dbl1 : (m : ℤ) ∣ (a : ℤ) * (da0 * 2 : Nat) - u * 2 ^ (k + 1) :=
      ⟨2 * c1, by push_cast; rw [pow_succ]; linear_combination 2 * hc1⟩
    have dbl2 : (m : ℤ) ∣ (a : ℤ) * (da * 2 : Nat) + v * 2 ^ (k + 1) :=
      ⟨2 * c2, by push_cast; rw [pow_succ]; linear_combination 2 * hc2⟩
    unfold zzAlmostInvLoop
    by_cases hve : v % 2 = 0
    · -- v even (so u odd): v <- v / 2, da0 <- 2 da0
      rw [if_pos hve, if_pos (by omega)]
      have hb' := (hb.symm.half hve).symm
      obtain ⟨w, rfl⟩ : ∃ w, v = 2 * w := ⟨v / 2, by omega⟩
      rw [show 2 * w / 2 = w by omega] at hb' ⊢
      refine ih _ _ _ _ _ hu (by omega) hb' (by omega) (by rw [hm]; ring) dbl1
        ⟨c2, by push_cast at hc2 ⊢; rw [pow_succ]; linear_combination hc2⟩ (by omega) (by omega) ?_
        (by omega)
      calc 2 ^ (k + 1) * (u * w) = 2 ^ k * (u * (2 * w)) := by rw [hp]; ring
        _ ≤ C := hC
    · rw [if_neg hve]
      have hvo : v % 2 = 1 := by omega
      by_cases hue : u % 2 = 0
      · -- u even: u <- u / 2, da <- 2 da
        rw [if_pos hue]
        have hb' := hb.half hue
        obtain ⟨w, rfl⟩ : ∃ w, u = 2 * w := ⟨u / 2, by omega⟩
        rw [show 2 * w / 2 = w by omega] at hb' ⊢
        rw [if_pos (by omega)]
        refine ih _ _ _ _ _ (by omega) hv hb' h0 (by rw [hm]; ring)
          ⟨c1, by push_cast at hc1 ⊢; rw [pow_succ]; linear_combination hc1⟩ dbl2 (by omega)
          (by omega) ?_ (by omega)
        calc 2 ^ (k + 1) * (w * v) = 2 ^ k * (2 * w * v) := by rw [hp]; ring
          _ ≤ C := hC
      · rw [if_neg hue]
        have huo : u % 2 = 1 := by omega
        have sum : (m : ℤ) ∣ (a : ℤ) * ((da + da0 : Nat) : ℤ) + (v - u) * 2 ^ k :=
          ⟨c1 + c2, by push_cast; linear_combination hc1 + hc2⟩
        by_cases hgt : v > u
        · -- v <- (v - u) / 2, da <- da + da0, da0 <- 2 da0
          rw [if_pos hgt, if_pos (by omega)]
          have hb' := ((hb.symm.sub huo (Nat.le_of_lt hgt)).half (by omega)).symm
          obtain ⟨w, rfl⟩ : ∃ w, v = u + 2 * w := ⟨_, sub_half_odd hve hue (Nat.le_of_lt hgt)⟩
          rw [Nat.add_sub_cancel_left, Nat.mul_div_cancel_left w (by decide)] at hb' ⊢
          obtain ⟨c, hc⟩ := sum
          refine ih _ _ _ _ _ hu (by omega) hb' (by omega) (by rw [hm]; ring) dbl1
            ⟨c, by push_cast at hc ⊢; rw [pow_succ]; linear_combination hc⟩ (by omega) (by omega) ?_
            (by omega)
          calc 2 ^ (k + 1) * (u * w) ≤ 2 ^ (k + 1) * (u * w) + 2 ^ k * (u * u) :=
              Nat.le_add_right _ _
            _ = 2 ^ k * (u * (u + 2 * w)) := by rw [hp]; ring
            _ ≤ C := hC
        · -- u <- (u - v) / 2, da0 <- da0 + da, da <- 2 da
          rw [if_neg hgt]
          have hb' := (hb.sub hvo (Nat.le_of_not_lt hgt)).half (by omega)
          obtain ⟨w, rfl⟩ : ∃ w, u = v + 2 * w := ⟨_, sub_half_odd hue hve (Nat.le_of_not_lt hgt)⟩
          rw [Nat.add_sub_cancel_left, Nat.mul_div_cancel_left w (by decide)] at hb' ⊢
          by_cases hw0 : w ≠ 0
          · rw [if_pos hw0]
            obtain ⟨c, hc⟩ := sum
            refine ih _ _ _ _ _ (by omega) hv hb' (by omega) (by rw [hm]; ring)
              ⟨c, by push_cast at hc ⊢; rw [pow_succ]; linear_combination hc⟩ dbl2 (by omega)
              (by omega) ?_ (by omega)
            calc 2 ^ (k + 1) * (w * v) ≤ 2 ^ (k + 1) * (w * v) + 2 ^ k * (v * v) :=
                Nat.le_add_right _ _
              _ = 2 ^ k * ((v + 2 * w) * v) := by rw [hp]; ring
              _ ≤ C := hC
          · -- u = v: the loop ends with `mod = v (da0 + da)`
            rw [if_neg hw0]
            obtain rfl : w = 0 := by omega
            simp only [Nat.mul_zero, Nat.add_zero] at *
            have hg := hb.self
            have e : m = v * (da0 + da) := by rw [hm]; ring
            have h3 : 1 * (da0 + da) ≤ v * (da0 + da) := Nat.mul_le_mul_right _ hv
            have h4 : 2 ^ k * 1 ≤ 2 ^ k * (v * v) := Nat.mul_le_mul_left _ (Nat.mul_pos hv hv)
            refine ⟨hg, dbl2, by omega, by omega, ?_, by omega⟩
            rw [e, hp]
            exact Nat.mul_le_mul_left v (by omega)

theorem le_of_inv {M v da0 u da : Nat} (h : M = v * da0 + u * da) (hu : 0 < u) (hv : 0 < v) :
    da0 ≤ M ∧ da ≤ M := by
  have h1 : da0 ≤ v * da0 := Nat.le_mul_of_pos_left _ hv
  have h2 : da ≤ u * da := Nat.le_mul_of_pos_left _ hu
  omega

/-- the loop as zzAlmostInvMod calls it (mod odd, a ≠ 0) -/
theorem zzAlmostInvLoop_top (a m : Nat) (hm : m % 2 = 1) (ha0 : 0 < a) :
    let r := zzAlmostInvLoop (a + m) a m 1 0 0
    r.1 = Nat.gcd a m ∧ (m : ℤ) ∣ (a : ℤ) * r.2.1 + r.1 * 2 ^ r.2.2 ∧ r.2.1 < 2 * m ∧ 1 ≤ r.2.2
    ∧ m ≤ r.1 * 2 ^ r.2.2 ∧ 2 ^ r.2.2 ≤ 2 * (a * m) :=
  zzAlmostInvLoop_spec a m (a * m) (a + m) a m 1 0 0 ha0 (by omega) ⟨Or.inr hm, rfl⟩ (Nat.le_refl _)
    (by ring) ⟨0, by simp⟩ ⟨1, by simp⟩ (by simp) (by simp) (by simp) (Nat.le_refl _)

end Bee2V.C05.Gcd
