/-
C05 — property theorems for the bit-level functions of ww.c (models: ModelBits.lean) and the word
helpers of u16.c / u32.c / u64.c (models: ModelWord.lean).

⟦a⟧ = `val w a` is the number represented by the word array, `Wf w a` says that every element is
a word (< 2^w), `w` = B_PER_W > 0 is arbitrary, the length n = `a.length` is arbitrary.
The preconditions are those of ww.h ("W_OF_B(pos + width) words are reserved" is
`pos + width ≤ w * a.length`); under them the models never index outside the list, so the
totalisation of `List.getD` / `List.set` plays no role.
-/
import Bee2V.C05.LemmasBits
namespace Bee2V.C05

/-! ## bit fields -/

/-- wwGetBits returns the bits pos, …, pos + width − 1 of ⟦a⟧ as a number
    (also when the field straddles a word boundary). -/
theorem wwGetBits_spec {w : Nat} (hw : 0 < w) (a : List Nat) (pos width : Nat) (hwd : width ≤ w)
    (hres : pos + width ≤ w * a.length) (h : Wf w a) :
    wwGetBits w a pos width = (val w a / 2 ^ pos) % 2 ^ width :=
  wwGetBits_val hw a pos width hwd h

example : wwGetBits 8 [0xA5, 0x3C, 0xFF] 6 7 = (val 8 [0xA5, 0x3C, 0xFF] / 2 ^ 6) % 2 ^ 7 ∧
    wwGetBits 8 [0xA5, 0x3C, 0xFF] 6 7 = 0x72 := by decide

/-- wwSetBits: same length, still words, and the number changes exactly by replacing the field
    [pos, pos + width) with the low `width` bits of `v` — all other bits are unchanged
    (frame condition), also when the field straddles a word boundary.
    Stated without truncated subtraction: ⟦r⟧ + old_field·2^pos = ⟦a⟧ + new_field·2^pos.
    `0 < width`: for width = 0 the C code shifts a word by B_PER_W bits (undefined behaviour;
    see the report), the header does not exclude width = 0. -/
theorem wwSetBits_spec {w : Nat} (hw : 0 < w) (a : List Nat) (pos width v : Nat)
    (hwd : width ≤ w) (h0 : 0 < width) (hres : pos + width ≤ w * a.length) (h : Wf w a) :
    (wwSetBits w a pos width v).length = a.length ∧ Wf w (wwSetBits w a pos width v) ∧
    val w (wwSetBits w a pos width v) + ((val w a / 2 ^ pos) % 2 ^ width) * 2 ^ pos
      = val w a + (v % 2 ^ width) * 2 ^ pos := by
  obtain ⟨h1, h2, h3⟩ := wwSetBits_bits hw a pos width v hwd h0 hres h
  exact ⟨h1, h2, field_replace _ _ _ _ _ h3⟩

/-- the same, bit by bit: bits inside the field come from `v`, bits outside are those of ⟦a⟧ -/
theorem wwSetBits_frame {w : Nat} (hw : 0 < w) (a : List Nat) (pos width v : Nat)
    (hwd : width ≤ w) (h0 : 0 < width) (hres : pos + width ≤ w * a.length) (h : Wf w a) (k : Nat) :
    (val w (wwSetBits w a pos width v)).testBit k =
      if pos ≤ k ∧ k < pos + width then v.testBit (k - pos) else (val w a).testBit k :=
  (wwSetBits_bits hw a pos width v hwd h0 hres h).2.2 k

-- the witness of the defect fixed in e22b6b9 (a field straddling a word boundary), w = 64
example : wwSetBits 64 [0, 0xFFFFFFFFFFFFFFFF] 60 8 0x5C = [0xC000000000000000, 0xFFFFFFFFFFFFFFF5] ∧
    val 64 (wwSetBits 64 [0, 0xFFFFFFFFFFFFFFFF] 60 8 0x5C)
      + ((val 64 [0, 0xFFFFFFFFFFFFFFFF] / 2 ^ 60) % 2 ^ 8) * 2 ^ 60
      = val 64 [0, 0xFFFFFFFFFFFFFFFF] + (0x5C % 2 ^ 8) * 2 ^ 60 := by decide

/-- wwTestBit returns bit `pos` of ⟦a⟧ -/
theorem wwTestBit_spec {w : Nat} (hw : 0 < w) (a : List Nat) (pos : Nat)
    (hres : pos < w * a.length) (h : Wf w a) :
    wwTestBit w a pos = decide (val w a / 2 ^ pos % 2 = 1) := by
  rw [wwTestBit_val hw a pos h, Nat.testBit_eq_decide_div_mod_eq]

example : wwTestBit 8 [0, 0x10] 12 = true ∧ wwTestBit 8 [0xFF, 0xEF] 12 = false := by decide

/-- wwSetBit sets bit `pos` to `b` and changes nothing else -/
theorem wwSetBit_spec {w : Nat} (hw : 0 < w) (a : List Nat) (pos : Nat) (b : Bool)
    (hres : pos < w * a.length) (h : Wf w a) :
    (wwSetBit w a pos b).length = a.length ∧ Wf w (wwSetBit w a pos b) ∧
    val w (wwSetBit w a pos b) + (val w a / 2 ^ pos % 2) * 2 ^ pos
      = val w a + b.toNat * 2 ^ pos := by
  obtain ⟨h1, h2, h3⟩ := wwSetBit_bits hw a pos b hres h
  exact ⟨h1, h2, bit_replace _ _ _ _ h3⟩

example : wwSetBit 8 [0xFF, 0xFF] 9 false = [0xFF, 0xFD] ∧ wwSetBit 8 [0, 0] 9 true = [0, 2] := by
  decide

/-- wwFlipBit inverts bit `pos` and changes nothing else -/
theorem wwFlipBit_spec {w : Nat} (hw : 0 < w) (a : List Nat) (pos : Nat)
    (hres : pos < w * a.length) (h : Wf w a) :
    (wwFlipBit w a pos).length = a.length ∧ Wf w (wwFlipBit w a pos) ∧
    val w (wwFlipBit w a pos) + (val w a / 2 ^ pos % 2) * 2 ^ pos
      = val w a + (1 - val w a / 2 ^ pos % 2) * 2 ^ pos := by
  obtain ⟨h1, h2, h3⟩ := wwFlipBit_bits hw a pos hres h
  exact ⟨h1, h2, bit_flip _ _ _ h3⟩

example : wwFlipBit 8 [0xFF, 0xFF] 9 = [0xFF, 0xFD] ∧ wwFlipBit 8 [0, 0] 15 = [0, 0x80] := by decide

/-! ## shifts and trimming (any n, any shift: also shift = 0, multiples of w, shift ≥ n·w) -/

/-- wwShLo: ⟦a⟧ ← ⌊⟦a⟧ / 2^shift⌋ -/
theorem wwShLo_spec {w : Nat} (hw : 0 < w) (a : List Nat) (shift : Nat) (h : Wf w a) :
    (wwShLo w a shift).length = a.length ∧ Wf w (wwShLo w a shift) ∧
    val w (wwShLo w a shift) = val w a / 2 ^ shift := by
  rw [Bits.wwShLo_eq hw a shift h]
  exact (Rep.iff_toWords.2 ⟨rfl, Nat.lt_of_le_of_lt (Nat.div_le_self _ _) (val_lt h)⟩).out

example : wwShLo 8 [0x34, 0x12, 0xAB] 12 = [0xB1, 0x0A, 0] ∧
    val 8 [0xB1, 0x0A, 0] = val 8 [0x34, 0x12, 0xAB] / 2 ^ 12 := by decide

/-- wwShHi: ⟦a⟧ ← ⟦a⟧ · 2^shift mod 2^(n·w) -/
theorem wwShHi_spec {w : Nat} (hw : 0 < w) (a : List Nat) (shift : Nat) (h : Wf w a) :
    (wwShHi w a shift).length = a.length ∧ Wf w (wwShHi w a shift) ∧
    val w (wwShHi w a shift) = (val w a * 2 ^ shift) % 2 ^ (w * a.length) := by
  rw [Bits.wwShHi_eq hw a shift h]
  exact ⟨toWords_length _ _ _, toWords_Wf _ _ _, val_toWords _ _ _⟩

example : wwShHi 8 [0x34, 0x12, 0xAB] 12 = [0, 0x40, 0x23] ∧
    val 8 [0, 0x40, 0x23] = (val 8 [0x34, 0x12, 0xAB] * 2 ^ 12) % 2 ^ (8 * 3) := by decide

/-- wwTrimLo clears the bits below `pos` (everything when pos ≥ n·w) -/
theorem wwTrimLo_spec {w : Nat} (hw : 0 < w) (a : List Nat) (pos : Nat) (h : Wf w a) :
    (wwTrimLo w a pos).length = a.length ∧ Wf w (wwTrimLo w a pos) ∧
    val w (wwTrimLo w a pos) = val w a / 2 ^ pos * 2 ^ pos := by
  by_cases hi : pos / w < a.length
  · rw [wwTrimLo_eq a pos h hi]
    exact ⟨by simp; omega, Wf_append.2 ⟨Wf_replicate_zero w _, Wf_cons.2
      ⟨Nat.lt_of_le_of_lt (Nat.div_mul_le_self _ _) (getD_lt h _), Wf_drop h _⟩⟩,
      val_zeros_cons_drop hw h pos⟩
  · rw [wwTrimLo_zero a pos hi, Nat.div_eq_of_lt (Nat.lt_of_lt_of_le (val_lt h) (pow_le_of_word_ge hi)),
      Nat.zero_mul]
    exact (Rep.zero w a.length).out

example : wwTrimLo 8 [0xFF, 0xFF, 0xFF] 11 = [0, 0xF8, 0xFF] := by decide

/-- wwTrimHi: ⟦a⟧ ← ⟦a⟧ mod 2^pos (nothing happens when pos ≥ n·w) -/
theorem wwTrimHi_spec {w : Nat} (hw : 0 < w) (a : List Nat) (pos : Nat) (h : Wf w a) :
    (wwTrimHi w a pos).length = a.length ∧ Wf w (wwTrimHi w a pos) ∧
    val w (wwTrimHi w a pos) = val w a % 2 ^ pos := by
  by_cases hi : pos / w < a.length
  · rw [wwTrimHi_eq hw a pos hi]
    exact ⟨by simp; omega, Wf_append.2 ⟨Wf_take h _, Wf_cons.2
      ⟨Nat.lt_of_le_of_lt (Nat.mod_le _ _) (getD_lt h _), Wf_replicate_zero w _⟩⟩,
      val_take_cons_zeros hw h pos hi _⟩
  · have : wwTrimHi w a pos = a := by unfold wwTrimHi; simp only [hi, if_false]
    rw [this]
    exact ⟨rfl, h, (Nat.mod_eq_of_lt (Nat.lt_of_lt_of_le (val_lt h) (pow_le_of_word_ge hi))).symm⟩

example : wwTrimHi 8 [0xFF, 0xFF, 0xFF] 11 = [0xFF, 0x07, 0] ∧
    wwTrimHi 8 [0xFF, 0xFF, 0xFF] 16 = [0xFF, 0xFF, 0] := by decide

/-! ## word helpers: general theorems (all values of the word) -/

/-- uNNNegInv(x)·x ≡ −1 (mod 2^NN) for every odd x: starting from ret = x, every step
    `ret ← ret·(x·ret + 2)` squares `ret·x + 1`, and `x·x + 1` is even -/
theorem u16NegInv_spec (x : Nat) (hodd : x % 2 = 1) : (u16NegInv x * x + 1) % 2 ^ 16 = 0 :=
  u16NegInv_gen x hodd
theorem u32NegInv_spec (x : Nat) (hodd : x % 2 = 1) : (u32NegInv x * x + 1) % 2 ^ 32 = 0 := by
  apply Nat.mod_eq_zero_of_dvd
  rw [← ZMod.natCast_eq_zero_iff]
  unfold u32NegInv u32NegInvStep
  push_cast
  simp only [show (0x100000000 : Nat) = 2 ^ 32 from rfl]
  rw [negInvStep_cast, negInvStep_cast, negInvStep_cast, negInvStep_cast, negInvStep_cast]
  simp only [← pow_mul]
  exact negInv_fin x hodd _ (by decide)

theorem u64NegInv_spec (x : Nat) (hodd : x % 2 = 1) : (u64NegInv x * x + 1) % 2 ^ 64 = 0 := by
  apply Nat.mod_eq_zero_of_dvd
  rw [← ZMod.natCast_eq_zero_iff]
  unfold u64NegInv u64NegInvStep
  push_cast
  simp only [show (0x10000000000000000 : Nat) = 2 ^ 64 from rfl]
  rw [negInvStep_cast, negInvStep_cast, negInvStep_cast, negInvStep_cast, negInvStep_cast,
    negInvStep_cast]
  simp only [← pow_mul]
  exact negInv_fin x hodd _ (by decide)

example : u16NegInv 3 = 21845 ∧ (21845 * 3 + 1) % 2 ^ 16 = 0 ∧
    (u32NegInv 0xDEADBEEF * 0xDEADBEEF + 1) % 2 ^ 32 = 0 ∧
    (u64NegInv 0xFFFFFFFFFFFFFFFF * 0xFFFFFFFFFFFFFFFF + 1) % 2 ^ 64 = 0 := by decide

/-- FAST(u32CLZ) counts the leading zeros of every 32-bit word (32 for 0) -/
theorem u32CLZ_fast_spec (x : Nat) (hx : x < 2 ^ 32) : ClzSpec 32 x (u32CLZ_fast x) :=
  u32CLZ_fast_gen x hx

example : u32CLZ_fast 0x00012345 = 15 ∧ ClzSpec 32 0x00012345 15 := by
  refine ⟨by decide, fun h => absurd h (by decide), fun _ => by decide⟩

/-! ## sizes.  `wordCLZ` / `wordCTZ` enter as a parameter `clz` / `ctz` with their word-level
specification (`ClzOK`, `CtzOK`: correct on every non-zero word); the instances for the builds follow. -/

/-- wwWordSize = index of the last non-zero word + 1 (0 if all words are zero) -/
theorem wwWordSize_spec (a : List Nat) :
    wwWordSize a ≤ a.length ∧ (∀ i, wwWordSize a ≤ i → a.getD i 0 = 0) ∧
    (0 < wwWordSize a → a.getD (wwWordSize a - 1) 0 ≠ 0) :=
  wwWordSize_spec' a

example : wwWordSize [5, 0, 7, 0, 0] = 3 ∧ wwWordSize [0, 0] = 0 := by decide

/-- wwBitSize = m with ⟦a⟧ < 2^m and (m > 0 → 2^(m−1) ≤ ⟦a⟧); wwHiZeroBits = n·w − m.
    (ww.h's remark says 2^(m−1) < a, which is wrong for a = 2^(m−1), e.g. a = 1, m = 1.) -/
theorem wwBitSize_spec {w : Nat} (hw : 0 < w) (clz : Nat → Nat) (hclz : ClzOK w clz)
    (a : List Nat) (h : Wf w a) :
    wwBitSizeWith clz w a ≤ w * a.length ∧
    val w a < 2 ^ wwBitSizeWith clz w a ∧
    (0 < wwBitSizeWith clz w a → 2 ^ (wwBitSizeWith clz w a - 1) ≤ val w a) ∧
    wwHiZeroBitsWith clz w a + wwBitSizeWith clz w a = w * a.length :=
  wwBitSize_gen clz hclz a h

/-- wwLoZeroBits = z: the bits below z are zero, bit z is set unless z = n·w (⟦a⟧ = 0) -/
theorem wwLoZeroBits_spec {w : Nat} (hw : 0 < w) (ctz : Nat → Nat) (hctz : CtzOK w ctz)
    (a : List Nat) (h : Wf w a) :
    wwLoZeroBitsWith ctz w a ≤ w * a.length ∧
    (∀ k, k < wwLoZeroBitsWith ctz w a → (val w a).testBit k = false) ∧
    (wwLoZeroBitsWith ctz w a < w * a.length →
      (val w a).testBit (wwLoZeroBitsWith ctz w a) = true) :=
  wwLoZeroBits_gen hw ctz hctz a h

/-! ## the 16-bit word helpers: all words -/

/-- u16Rev swaps the two octets -/
theorem u16Rev_spec (x : Nat) (hx : x < 65536) : u16Rev x = (x % 256) * 256 + x / 256 := by
  unfold u16Rev
  have h : x >>> 8 < 2 ^ 8 := by rw [Nat.shiftRight_eq_div_pow]; omega
  rw [← Nat.shiftLeft_add_eq_or_of_lt h, Nat.shiftLeft_eq, Nat.shiftRight_eq_div_pow]
  omega
/-- u16Bitrev: bit i goes to bit 15 − i -/
theorem u16Bitrev_spec (x : Nat) (hx : x < 65536) : u16Bitrev x = bitrevN 16 x :=
  Bits.u16Bitrev_gen x
/-- u16Weight = number of ones -/
theorem u16Weight_spec (x : Nat) (hx : x < 65536) : u16Weight x = popN 16 x :=
  Bits.u16Weight_gen x hx
/-- u16Parity = number of ones mod 2 -/
theorem u16Parity_spec (x : Nat) (hx : x < 65536) : u16Parity x = popN 16 x % 2 :=
  Bits.u16Parity_gen x
/-- SAFE(u16CTZ) and FAST(u16CTZ) both count the trailing zeros (16 for 0) -/
theorem u16CTZ_spec (x : Nat) (hx : x < 65536) :
    CtzSpec 16 x (u16CTZ_safe x) ∧ CtzSpec 16 x (u16CTZ_fast x) :=
  ⟨Bits.u16CTZ_safe_gen x hx, u16CTZ_fast_gen x hx⟩
/-- SAFE(u16CLZ) and FAST(u16CLZ) both count the leading zeros (16 for 0) -/
theorem u16CLZ_spec (x : Nat) (hx : x < 65536) :
    ClzSpec 16 x (u16CLZ_safe x) ∧ ClzSpec 16 x (u16CLZ_fast x) :=
  ⟨Bits.u16CLZ_safe_gen x hx, u16CLZ_fast_gen x hx⟩
/-- u16Shuffle: bit i of the low octet → bit 2i, bit i of the high octet → bit 2i + 1 -/
theorem u16Shuffle_spec (x : Nat) (hx : x < 65536) :
    u16Shuffle x = shufN 8 (x % 256) (x / 256) :=
  Bits.shuf_of_bits (k := 8) hx
    (fun j => by rw [Bits.u16Shuffle_stages x hx, Bits.swapStage_bits Bits.ok16.2.2, Bits.swapStage_bits Bits.ok16.2.1,
      Bits.swapStage_bits Bits.ok16.1])
    (by decide +kernel)
    (fun j hj => Bits.swapIdx_ge Bits.ok16.1 (Bits.swapIdx_ge Bits.ok16.2.1 (Bits.swapIdx_ge Bits.ok16.2.2 hj)))
/-- u16Deshuffle and u16Shuffle are mutually inverse -/
theorem u16Deshuffle_Shuffle (x : Nat) (hx : x < 65536) :
    u16Deshuffle (u16Shuffle x) = x ∧ u16Shuffle (u16Deshuffle x) = x :=
  ⟨Bits.u16Deshuffle_Shuffle_gen x hx, Bits.u16Shuffle_Deshuffle_gen x hx⟩
/-- `u16NegInv_spec` with the modulus written out -/
theorem u16NegInv_enum (x : Nat) (hx : x < 65536) (hodd : x % 2 = 1) :
    (u16NegInv x * x + 1) % 65536 = 0 :=
  u16NegInv_gen x hodd

example : u16Rev 0x1234 = 0x3412 ∧ u16Bitrev 0x0001 = 0x8000 ∧ bitrevN 16 0x0001 = 0x8000 ∧
    u16Weight 0xF0F1 = 9 ∧ u16Parity 0xF0F1 = 1 ∧ u16CTZ_safe 0x0100 = 8 ∧ u16CTZ_fast 0 = 16 ∧
    u16CLZ_safe 0x0100 = 7 ∧ u16CLZ_fast 0x8000 = 0 ∧ u16Shuffle 0xFF00 = 0xAAAA ∧
    u16Deshuffle 0xAAAA = 0xFF00 := by decide

/-! At w = 16, 32, 64 `wordCLZ_* w` / `wordCTZ_* w` reduce (an `if` on literals) to the uNN functions,
whose specifications give `ClzOK` / `CtzOK`: what the size theorems need of the word operations. -/

theorem ClzOK_safe16 : ClzOK 16 (wordCLZ_safe 16) := ClzOK_of_spec Bits.u16CLZ_safe_gen
theorem ClzOK_fast16 : ClzOK 16 (wordCLZ_fast 16) := ClzOK_of_spec u16CLZ_fast_gen
theorem CtzOK_safe16 : CtzOK 16 (wordCTZ_safe 16) := CtzOK_of_spec Bits.u16CTZ_safe_gen
theorem CtzOK_fast16 : CtzOK 16 (wordCTZ_fast 16) :=
  CtzOK_of_spec (fun x hx => by simpa [wordCTZ_fast] using u16CTZ_fast_gen x hx)
theorem ClzOK_safe32 : ClzOK 32 (wordCLZ_safe 32) := ClzOK_of_spec Bits.u32CLZ_safe_gen
theorem ClzOK_fast32 : ClzOK 32 (wordCLZ_fast 32) := ClzOK_of_spec u32CLZ_fast_gen
theorem CtzOK_safe32 : CtzOK 32 (wordCTZ_safe 32) := CtzOK_of_spec Bits.u32CTZ_safe_gen
theorem CtzOK_fast32 : CtzOK 32 (wordCTZ_fast 32) :=
  CtzOK_of_spec (fun x hx => by simpa [wordCTZ_fast] using u32CTZ_fast_gen x hx)
theorem ClzOK_safe64 : ClzOK 64 (wordCLZ_safe 64) := ClzOK_of_spec Bits.u64CLZ_safe_gen
theorem ClzOK_fast64 : ClzOK 64 (wordCLZ_fast 64) := ClzOK_of_spec u64CLZ_fast_gen
theorem CtzOK_safe64 : CtzOK 64 (wordCTZ_safe 64) := CtzOK_of_spec Bits.u64CTZ_safe_gen
theorem CtzOK_fast64 : CtzOK 64 (wordCTZ_fast 64) :=
  CtzOK_of_spec (fun x hx => by simpa [wordCTZ_fast] using u64CTZ_fast_gen x hx)

/-! instances of the size theorems: 16-bit words, both builds (default: SAFE editions of
CTZ / CLZ, SAFE_FAST: FAST editions) -/

theorem wwBitSize16_spec (a : List Nat) (h : Wf 16 a) :
    (val 16 a < 2 ^ wwBitSize 16 a ∧ (0 < wwBitSize 16 a → 2 ^ (wwBitSize 16 a - 1) ≤ val 16 a) ∧
      wwHiZeroBits 16 a + wwBitSize 16 a = 16 * a.length) ∧
    (val 16 a < 2 ^ wwBitSizeF 16 a ∧ (0 < wwBitSizeF 16 a → 2 ^ (wwBitSizeF 16 a - 1) ≤ val 16 a) ∧
      wwHiZeroBitsF 16 a + wwBitSizeF 16 a = 16 * a.length) := by
  exact ⟨(wwBitSize_gen _ ClzOK_safe16 a h).2,
    (wwBitSize_gen _ ClzOK_fast16 a h).2⟩

example : wwBitSize 16 [0xFFFF, 0x0100, 0] = 25 ∧ wwHiZeroBits 16 [0xFFFF, 0x0100, 0] = 23 ∧
    wwBitSize 16 [0, 0] = 0 ∧ wwLoZeroBits 16 [0, 0x0100, 0] = 24 := by decide

theorem wwLoZeroBits16_spec (a : List Nat) (h : Wf 16 a) :
    ((∀ k, k < wwLoZeroBits 16 a → (val 16 a).testBit k = false) ∧
      (wwLoZeroBits 16 a < 16 * a.length → (val 16 a).testBit (wwLoZeroBits 16 a) = true)) ∧
    ((∀ k, k < wwLoZeroBitsF 16 a → (val 16 a).testBit k = false) ∧
      (wwLoZeroBitsF 16 a < 16 * a.length → (val 16 a).testBit (wwLoZeroBitsF 16 a) = true)) := by
  exact ⟨(wwLoZeroBits_gen (by decide) _ CtzOK_safe16 a h).2,
    (wwLoZeroBits_gen (by decide) _ CtzOK_fast16 a h).2⟩

/-! ## FAST(uNNCLZ) / FAST(uNNCTZ) at 32 and 64 bits (all words), and the sizes in the SAFE_FAST
build at 32- and 64-bit words -/

theorem u64CLZ_fast_spec (x : Nat) (hx : x < 2 ^ 64) : ClzSpec 64 x (u64CLZ_fast x) :=
  u64CLZ_fast_gen x hx
theorem u32CTZ_fast_spec (x : Nat) (hx : x < 2 ^ 32) : CtzSpec 32 x (u32CTZ_fast x) :=
  u32CTZ_fast_gen x hx
theorem u64CTZ_fast_spec (x : Nat) (hx : x < 2 ^ 64) : CtzSpec 64 x (u64CTZ_fast x) :=
  u64CTZ_fast_gen x hx

example : u64CLZ_fast 0x0000000100000000 = 31 ∧ u32CTZ_fast 0x00A00000 = 21 ∧
    u64CTZ_fast 0x8000000000000000 = 63 ∧ u64CTZ_fast 0 = 64 := by decide

theorem wwSizesF32_spec (a : List Nat) (h : Wf 32 a) :
    (val 32 a < 2 ^ wwBitSizeF 32 a ∧ (0 < wwBitSizeF 32 a → 2 ^ (wwBitSizeF 32 a - 1) ≤ val 32 a) ∧
      wwHiZeroBitsF 32 a + wwBitSizeF 32 a = 32 * a.length) ∧
    ((∀ k, k < wwLoZeroBitsF 32 a → (val 32 a).testBit k = false) ∧
      (wwLoZeroBitsF 32 a < 32 * a.length → (val 32 a).testBit (wwLoZeroBitsF 32 a) = true)) := by
  exact ⟨(wwBitSize_gen _ ClzOK_fast32 a h).2,
    (wwLoZeroBits_gen (by decide) _ CtzOK_fast32 a h).2⟩

theorem wwSizesF64_spec (a : List Nat) (h : Wf 64 a) :
    (val 64 a < 2 ^ wwBitSizeF 64 a ∧ (0 < wwBitSizeF 64 a → 2 ^ (wwBitSizeF 64 a - 1) ≤ val 64 a) ∧
      wwHiZeroBitsF 64 a + wwBitSizeF 64 a = 64 * a.length) ∧
    ((∀ k, k < wwLoZeroBitsF 64 a → (val 64 a).testBit k = false) ∧
      (wwLoZeroBitsF 64 a < 64 * a.length → (val 64 a).testBit (wwLoZeroBitsF 64 a) = true)) := by
  exact ⟨(wwBitSize_gen _ ClzOK_fast64 a h).2,
    (wwLoZeroBits_gen (by decide) _ CtzOK_fast64 a h).2⟩

example : wwBitSizeF 64 [0, 0x10, 0] = 69 ∧ wwLoZeroBitsF 64 [0, 0x10, 0] = 68 ∧
    wwHiZeroBitsF 64 [0, 0x10, 0] = 123 := by decide

/-! ## wwIsW, wwIsRepW: the SAFE and FAST editions agree and decide what ww.h says -/

/-- wwIsW(a, n, x): `a[0] == x && a[1] == … == a[n-1] == 0` (n = 0: `x == 0`) -/
theorem wwIsW_spec (a : List Nat) (x : Nat) :
    wwIsW_fast a x = wwIsW_safe a x ∧
    (wwIsW_safe a x = true ↔ (a = [] ∧ x = 0) ∨ (∃ as, a = x :: as ∧ ∀ y ∈ as, y = 0)) := by
  cases a with
  | nil => simp [wwIsW_safe, wwIsW_fast]
  | cons a0 as =>
    simp only [wwIsW_safe, wwIsW_fast, isW_fastLoop_eq, foldl_and_all, List.all_reverse]
    refine ⟨trivial, ?_⟩
    simp only [Bool.and_eq_true, beq_iff_eq, List.all_eq_true]
    constructor
    · intro ⟨h1, h2⟩
      exact Or.inr ⟨as, by rw [h1], h2⟩
    · intro h
      rcases h with ⟨h1, _⟩ | ⟨as', h1, h2⟩
      · cases h1
      · cases h1
        exact ⟨rfl, h2⟩

/-- wwIsRepW(a, n, x): every word equals x (n = 0: `x == 0`) -/
theorem wwIsRepW_spec (a : List Nat) (x : Nat) :
    wwIsRepW_fast a x = wwIsRepW_safe a x ∧
    (wwIsRepW_safe a x = true ↔ (a = [] ∧ x = 0) ∨ (a ≠ [] ∧ ∀ y ∈ a, y = x)) := by
  cases a with
  | nil => simp [wwIsRepW_safe, wwIsRepW_fast]
  | cons a0 as =>
    simp only [wwIsRepW_safe, wwIsRepW_fast, isRepW_fastLoop_eq, foldl_and_all, List.all_reverse]
    constructor
    · simp [Bool.and_comm]
    · simp

example : wwIsW_safe [7, 0, 0] 7 = true ∧ wwIsW_fast [7, 0, 1] 7 = false ∧
    wwIsRepW_safe [7, 7, 7] 7 = true ∧ wwIsRepW_fast [7, 7, 6] 7 = false ∧
    wwIsRepW_safe [] 1 = false := by decide

/-! ## SAFE(uNNCLZ) / SAFE(uNNCTZ) at 32 and 64 bits, all words; hence the sizes in the DEFAULT build
(wordCLZ / wordCTZ = SAFE editions) at 32- and 64-bit words, unconditionally -/

theorem u32CLZ_safe_spec (x : Nat) (hx : x < 2 ^ 32) : ClzSpec 32 x (u32CLZ_safe x) :=
  Bits.u32CLZ_safe_gen x hx
theorem u64CLZ_safe_spec (x : Nat) (hx : x < 2 ^ 64) : ClzSpec 64 x (u64CLZ_safe x) :=
  Bits.u64CLZ_safe_gen x hx
theorem u32CTZ_safe_spec (x : Nat) (hx : x < 2 ^ 32) : CtzSpec 32 x (u32CTZ_safe x) :=
  Bits.u32CTZ_safe_gen x hx
theorem u64CTZ_safe_spec (x : Nat) (hx : x < 2 ^ 64) : CtzSpec 64 x (u64CTZ_safe x) :=
  Bits.u64CTZ_safe_gen x hx

example : u32CLZ_safe 0x00012345 = 15 ∧ u64CLZ_safe 1 = 63 ∧ u32CTZ_safe 0x00A00000 = 21 ∧
    u64CTZ_safe 0x8000000000000000 = 63 ∧ u64CTZ_safe 0 = 64 ∧ u32CLZ_safe 0 = 32 := by decide

theorem wwSizes32_spec (a : List Nat) (h : Wf 32 a) :
    (val 32 a < 2 ^ wwBitSize 32 a ∧ (0 < wwBitSize 32 a → 2 ^ (wwBitSize 32 a - 1) ≤ val 32 a) ∧
      wwHiZeroBits 32 a + wwBitSize 32 a = 32 * a.length) ∧
    ((∀ k, k < wwLoZeroBits 32 a → (val 32 a).testBit k = false) ∧
      (wwLoZeroBits 32 a < 32 * a.length → (val 32 a).testBit (wwLoZeroBits 32 a) = true)) := by
  exact ⟨(wwBitSize_gen _ ClzOK_safe32 a h).2,
    (wwLoZeroBits_gen (by decide) _ CtzOK_safe32 a h).2⟩

theorem wwSizes64_spec (a : List Nat) (h : Wf 64 a) :
    (val 64 a < 2 ^ wwBitSize 64 a ∧ (0 < wwBitSize 64 a → 2 ^ (wwBitSize 64 a - 1) ≤ val 64 a) ∧
      wwHiZeroBits 64 a + wwBitSize 64 a = 64 * a.length) ∧
    ((∀ k, k < wwLoZeroBits 64 a → (val 64 a).testBit k = false) ∧
      (wwLoZeroBits 64 a < 64 * a.length → (val 64 a).testBit (wwLoZeroBits 64 a) = true)) := by
  exact ⟨(wwBitSize_gen _ ClzOK_safe64 a h).2,
    (wwLoZeroBits_gen (by decide) _ CtzOK_safe64 a h).2⟩

example : wwBitSize 64 [0, 0x10, 0] = 69 ∧ wwLoZeroBits 64 [0, 0x10, 0] = 68 ∧
    wwHiZeroBits 64 [0, 0x10, 0] = 123 ∧ wwBitSize 32 [0xFFFFFFFF, 1] = 33 := by decide

/-! ## shifts with carry word (any n, any shift) -/

/-- wwShLoCarry: with V = ⟦a⟧ + carry·2^(n·w) (the carry word on top),
    ⟦a⟧ ← ⌊V / 2^shift⌋ mod 2^(n·w), and the returned word consists of the w bits of V just below
    position `shift` (⌊V·2^w / 2^shift⌋ mod 2^w). -/
theorem wwShLoCarry_spec {w : Nat} (hw : 0 < w) (a : List Nat) (shift carry : Nat) (h : Wf w a)
    (hc : carry < 2 ^ w) :
    (wwShLoCarry w a shift carry).1.length = a.length ∧ Wf w (wwShLoCarry w a shift carry).1 ∧
    val w (wwShLoCarry w a shift carry).1 =
      ((val w a + carry * 2 ^ (w * a.length)) / 2 ^ shift) % 2 ^ (w * a.length) ∧
    (wwShLoCarry w a shift carry).2 =
      ((val w a + carry * 2 ^ (w * a.length)) * 2 ^ w / 2 ^ shift) % 2 ^ w := by
  obtain ⟨e1, e2⟩ := Bits.wwShLoCarry_eq hw a shift carry h hc
  rw [e1]
  exact ⟨toWords_length _ _ _, toWords_Wf _ _ _, val_toWords _ _ _, e2⟩

example : wwShLoCarry 8 [0x34, 0x12, 0xAB] 12 0xCD = ([0xB1, 0xDA, 0x0C], 0x23) ∧
    wwShLoCarry 8 [0x34, 0x12] 1 1 = ([0x1A, 0x89], 0) ∧
    wwShLoCarry 8 [0x34, 0x12] 27 0xFF = ([0, 0], 0x1F) := by decide

/-- wwShHiCarry: with V = carry + ⟦a⟧·2^w (the carry word below),
    ⟦a⟧ ← ⌊V·2^shift / 2^w⌋ mod 2^(n·w), and the returned word consists of the w bits pushed out
    last at the top (⌊V·2^shift / 2^((n+1)·w)⌋ mod 2^w). -/
theorem wwShHiCarry_spec {w : Nat} (hw : 0 < w) (a : List Nat) (shift carry : Nat) (h : Wf w a)
    (hc : carry < 2 ^ w) :
    (wwShHiCarry w a shift carry).1.length = a.length ∧ Wf w (wwShHiCarry w a shift carry).1 ∧
    val w (wwShHiCarry w a shift carry).1 =
      ((carry + val w a * 2 ^ w) * 2 ^ shift / 2 ^ w) % 2 ^ (w * a.length) ∧
    (wwShHiCarry w a shift carry).2 =
      ((carry + val w a * 2 ^ w) * 2 ^ shift / 2 ^ (w * (a.length + 1))) % 2 ^ w := by
  obtain ⟨e1, e2⟩ := Bits.wwShHiCarry_eq hw a shift carry h hc
  rw [e1]
  exact ⟨toWords_length _ _ _, toWords_Wf _ _ _, val_toWords _ _ _, e2⟩

example : wwShHiCarry 8 [0x34, 0x12, 0xAB] 12 0xCD = ([0xD0, 0x4C, 0x23], 0xB1) ∧
    wwShHiCarry 8 [0x34, 0x12] 1 0x80 = ([0x69, 0x24], 0) ∧
    wwShHiCarry 8 [0x34, 0x12] 27 0xFF = ([0, 0], 0xF8) := by decide

/-- wwOctetSize (w = 8·O, O = O_PER_W ≥ 1): r with ⟦a⟧ < 2^(8r) and (r > 0 → 2^(8(r−1)) ≤ ⟦a⟧),
    i.e. the index of the last non-zero octet + 1 (0 for the zero number) -/
theorem wwOctetSize_spec {w : Nat} (O : Nat) (hO : 0 < O) (hw8 : w = 8 * O) (a : List Nat)
    (h : Wf w a) :
    val w a < 2 ^ (8 * wwOctetSize w a) ∧
    (0 < wwOctetSize w a → 2 ^ (8 * (wwOctetSize w a - 1)) ≤ val w a) ∧
    wwOctetSize w a ≤ O * a.length := by
  have hw : 0 < w := by omega
  obtain ⟨h1, h2, h3⟩ := wwWordSize_spec' a
  unfold wwOctetSize
  simp only
  generalize wwWordSize a = m at *
  by_cases hm : m = 0
  · subst hm
    have hv : val w a = 0 := by simpa using val_drop_zero (w := w) a 0 (fun i _ => h2 i (Nat.zero_le _))
    simp [hv]
  · have hmp : 0 < m := Nat.pos_of_ne_zero hm
    have htop := h3 hmp
    have hlt := getD_lt h (m - 1)
    have hwO : w / 8 = O := by rw [hw8]; omega
    rw [if_neg hm, hwO]
    rw [Bits.octet_mask hO hw8, show O - 1 + 1 = O by omega]
    have hx : a.getD (m - 1) 0 < 2 ^ (8 * O) := by rw [← hw8]; exact hlt
    obtain ⟨q1, q2, q3, q4⟩ := Bits.octetLoop_spec _ htop O hx
    generalize wwOctetSizeLoop (a.getD (m - 1) 0) O (0xFF * 2 ^ (8 * (O - 1))) = q at *
    have hb := Bits.val_top_bounds a h m hmp h2
    have e8 : 8 * ((m - 1) * O + q) = w * (m - 1) + 8 * q := by rw [hw8]; ring
    refine ⟨?_, fun _ => ?_, ?_⟩
    · rw [e8]; exact (hb _).1 q3
    · have e9 : 8 * ((m - 1) * O + q - 1) = w * (m - 1) + 8 * (q - 1) := by
        have : (m - 1) * O + q - 1 = (m - 1) * O + (q - 1) := by omega
        rw [this, hw8]; ring
      rw [e9]; exact (hb _).2 q4
    · have : (m - 1) * O + O ≤ O * a.length := by
        have : (m - 1 + 1) * O ≤ a.length * O := Nat.mul_le_mul_right O (by omega)
        rw [Nat.add_mul, Nat.one_mul, Nat.mul_comm a.length] at this; exact this
      omega

example : wwOctetSize 32 [0xFFFFFFFF, 0x00010000, 0] = 7 ∧ wwOctetSize 64 [0, 0] = 0 ∧
    wwOctetSize 16 [0, 0x00FF] = 3 := by decide

/-! ## u32Parity / u64Parity: all words (the folding `w ^= w >> 2^k` XORs all bits into bit 0) -/

theorem u32Parity_spec (x : Nat) : u32Parity x = popN 32 x % 2 :=
  Bits.parity_of_fold (Bits.xfold_step (Bits.xfold_step (Bits.xfold_step (Bits.xfold_step
    (Bits.xfold_step fun j => (Bits.xorBits_one x j).symm)))))

theorem u64Parity_spec (x : Nat) : u64Parity x = popN 64 x % 2 :=
  Bits.parity_of_fold (Bits.xfold_step (Bits.xfold_step (Bits.xfold_step (Bits.xfold_step
    (Bits.xfold_step (Bits.xfold_step fun j => (Bits.xorBits_one x j).symm))))))

example : u32Parity 0x80000001 = 0 ∧ u32Parity 0x00010101 = 1 ∧ popN 32 0x00010101 = 3 ∧
    u64Parity 0xFFFFFFFFFFFFFFFE = 1 := by decide

/-! ## u32/u64 Shuffle and Deshuffle: all words -/

/-- uNNDeshuffle and uNNShuffle are mutually inverse (every stage
    `t = (w ^ (w >> s)) & m, w ^= t ^ (t << s)` is an involution, Deshuffle runs the stages backwards) -/
theorem u32Deshuffle_Shuffle (x : Nat) :
    u32Deshuffle (u32Shuffle x) = x ∧ u32Shuffle (u32Deshuffle x) = x :=
  ⟨Bits.u32Deshuffle_Shuffle_gen x, Bits.u32Shuffle_Deshuffle_gen x⟩
theorem u64Deshuffle_Shuffle (x : Nat) :
    u64Deshuffle (u64Shuffle x) = x ∧ u64Shuffle (u64Deshuffle x) = x :=
  ⟨Bits.u64Deshuffle_Shuffle_gen x, Bits.u64Shuffle_Deshuffle_gen x⟩

/-- uNNShuffle: bit i of the low half → bit 2i, bit i of the high half → bit 2i + 1 -/
theorem u32Shuffle_spec (x : Nat) (hx : x < 2 ^ 32) :
    u32Shuffle x = shufN 16 (x % 2 ^ 16) (x / 2 ^ 16) :=
  Bits.shuf_of_bits (k := 16) hx
    (fun j => by rw [Bits.u32Shuffle_stages, Bits.swapStage_bits Bits.ok32.2.2.2, Bits.swapStage_bits Bits.ok32.2.2.1,
      Bits.swapStage_bits Bits.ok32.2.1, Bits.swapStage_bits Bits.ok32.1])
    (by decide +kernel)
    (fun j hj => Bits.swapIdx_ge Bits.ok32.1 (Bits.swapIdx_ge Bits.ok32.2.1 (Bits.swapIdx_ge Bits.ok32.2.2.1
      (Bits.swapIdx_ge Bits.ok32.2.2.2 hj))))
theorem u64Shuffle_spec (x : Nat) (hx : x < 2 ^ 64) :
    u64Shuffle x = shufN 32 (x % 2 ^ 32) (x / 2 ^ 32) :=
  Bits.shuf_of_bits (k := 32) hx
    (fun j => by rw [Bits.u64Shuffle_stages, Bits.swapStage_bits Bits.ok64.2.2.2.2, Bits.swapStage_bits Bits.ok64.2.2.2.1,
      Bits.swapStage_bits Bits.ok64.2.2.1, Bits.swapStage_bits Bits.ok64.2.1, Bits.swapStage_bits Bits.ok64.1])
    (by decide +kernel)
    (fun j hj => Bits.swapIdx_ge Bits.ok64.1 (Bits.swapIdx_ge Bits.ok64.2.1 (Bits.swapIdx_ge Bits.ok64.2.2.1
      (Bits.swapIdx_ge Bits.ok64.2.2.2.1 (Bits.swapIdx_ge Bits.ok64.2.2.2.2 hj)))))

example : u32Shuffle 0xFFFF0000 = 0xAAAAAAAA ∧ u32Deshuffle 0xAAAAAAAA = 0xFFFF0000 ∧
    u64Shuffle 0x00000000FFFFFFFF = 0x5555555555555555 ∧ shufN 16 0 0xFFFF = 0xAAAAAAAA := by decide

/-! ## u32/u64 Rev and Bitrev: all words -/

/-- uNNRev reverses the octets (`octRevN k`: octet i goes to octet k − 1 − i) -/
theorem u32Rev_spec (x : Nat) (hx : x < 2 ^ 32) : u32Rev x = octRevN 4 x := by
  have hlt : u32Rev x < 2 ^ 32 := by
    unfold u32Rev
    refine Nat.or_lt_two_pow (Nat.or_lt_two_pow (Nat.or_lt_two_pow (Nat.mod_lt _ (by norm_num))
      (Nat.mod_lt _ (by norm_num))) (Nat.and_lt_two_pow _ (by norm_num))) ?_
    exact Nat.lt_of_le_of_lt (Nat.shiftRight_le _ _) hx
  refine Bits.rev_of_terms Bits.rev32 hlt (fun j => ?_) Bits.rev32_src
  unfold u32Rev
  rw [Nat.testBit_or, Nat.testBit_or, Nat.testBit_or, show (0x100000000 : Nat) = 2 ^ 32 from rfl,
    Bits.tL0_bit 32 8 24 x j rfl, Bits.tL_bit, Bits.tR_bit, Bits.tR0_bit 32 8 24 x j rfl hx,
    show (2 : Nat) ^ 8 - 1 = 0xFF from rfl]
  simp [Bits.rev32, Bool.or_assoc]
theorem u64Rev_spec (x : Nat) (hx : x < 2 ^ 64) : u64Rev x = octRevN 8 x := by
  have hlt : u64Rev x < 2 ^ 64 := by
    unfold u64Rev
    refine Nat.or_lt_two_pow (Nat.or_lt_two_pow (Nat.or_lt_two_pow (Nat.or_lt_two_pow
      (Nat.or_lt_two_pow (Nat.or_lt_two_pow (Nat.or_lt_two_pow (Nat.mod_lt _ (by norm_num))
      (Nat.mod_lt _ (by norm_num))) (Nat.mod_lt _ (by norm_num))) (Nat.mod_lt _ (by norm_num)))
      (Nat.and_lt_two_pow _ (by norm_num))) (Nat.and_lt_two_pow _ (by norm_num)))
      (Nat.and_lt_two_pow _ (by norm_num))) ?_
    exact Nat.lt_of_le_of_lt (Nat.shiftRight_le _ _) hx
  refine Bits.rev_of_terms Bits.rev64 hlt (fun j => ?_) Bits.rev64_src
  unfold u64Rev
  rw [Nat.testBit_or, Nat.testBit_or, Nat.testBit_or, Nat.testBit_or, Nat.testBit_or, Nat.testBit_or,
    Nat.testBit_or, show (0x10000000000000000 : Nat) = 2 ^ 64 from rfl, Bits.tL0_bit 64 8 56 x j rfl,
    Bits.tL_bit, Bits.tL_bit, Bits.tL_bit, Bits.tR_bit, Bits.tR_bit, Bits.tR_bit,
    Bits.tR0_bit 64 8 56 x j rfl hx, show (2 : Nat) ^ 8 - 1 = 0xFF from rfl]
  simp [Bits.rev64, Bool.or_assoc]
/-- uNNBitrev reverses the bits (`bitrevN k`: bit i goes to bit k − 1 − i) -/
theorem u32Bitrev_spec (x : Nat) : u32Bitrev x = bitrevN 32 x := by
  have e : u32Bitrev x = Bits.brFin (2 ^ 32) 16 (Bits.brStage (2 ^ 32) 0x00FF00FF 8
      (Bits.brStage (2 ^ 32) 0x0F0F0F0F 4 (Bits.brStage (2 ^ 32) 0x33333333 2
        (Bits.brStage (2 ^ 32) 0x55555555 1 x)))) := rfl
  rw [e]
  exact ((((Bits.brStage_perm Bits.br32.1 x).stage Bits.br32.2.1).stage Bits.br32.2.2.1).stage Bits.br32.2.2.2).fin rfl
    |>.bitrev (by decide +kernel)
theorem u64Bitrev_spec (x : Nat) : u64Bitrev x = bitrevN 64 x := by
  have e : u64Bitrev x = Bits.brFin (2 ^ 64) 32 (Bits.brStage (2 ^ 64) 0x0000FFFF0000FFFF 16
      (Bits.brStage (2 ^ 64) 0x00FF00FF00FF00FF 8 (Bits.brStage (2 ^ 64) 0x0F0F0F0F0F0F0F0F 4
        (Bits.brStage (2 ^ 64) 0x3333333333333333 2 (Bits.brStage (2 ^ 64) 0x5555555555555555 1 x))))) := rfl
  rw [e]
  exact (((((Bits.brStage_perm Bits.br64.1 x).stage Bits.br64.2.1).stage Bits.br64.2.2.1).stage Bits.br64.2.2.2.1).stage
    Bits.br64.2.2.2.2).fin rfl |>.bitrev (by decide +kernel)

example : u32Rev 0x12345678 = 0x78563412 ∧ octRevN 4 0x12345678 = 0x78563412 ∧
    u64Rev 0x0102030405060708 = 0x0807060504030201 ∧ u32Bitrev 0x00000001 = 0x80000000 ∧
    u64Bitrev 0x8000000000000001 = 0x8000000000000001 ∧ bitrevN 32 6 = 0x60000000 := by decide

/-! ## u32Weight / u64Weight: all words.
Lines 1–3 act on the octets independently (the bits a shift carries across an octet boundary are
masked, no borrow / carry crosses it) and leave in every octet the number of its ones; the tail adds
the octet counts. -/
theorem u32Weight_spec (x : Nat) (hx : x < 2 ^ 32) : u32Weight x = popN 32 x := Bits.u32Weight_gen x hx
theorem u64Weight_spec (x : Nat) (hx : x < 2 ^ 64) : u64Weight x = popN 64 x := Bits.u64Weight_gen x hx

example : u32Weight (2 ^ 32 - 2 ^ 5) = 27 ∧ u64Weight (2 ^ 64 - 2 ^ 0) = 64 ∧
    u32Weight 0xF0F1F3F7 = 22 ∧ popN 32 0xF0F1F3F7 = 22 ∧
    u64Weight 0x8000000100000001 = 3 := by decide

/-- the weight never exceeds the word size -/
theorem uWeight_le (x : Nat) :
    (x < 2 ^ 16 → u16Weight x ≤ 16) ∧ (x < 2 ^ 32 → u32Weight x ≤ 32) ∧ (x < 2 ^ 64 → u64Weight x ≤ 64) :=
  ⟨fun h => by rw [u16Weight_spec x h]; exact Bits.popN_le 16 x,
   fun h => by rw [u32Weight_spec x h]; exact Bits.popN_le 32 x,
   fun h => by rw [u64Weight_spec x h]; exact Bits.popN_le 64 x⟩

/-- uNNParity x = uNNWeight x mod 2 -/
theorem uParity_eq_Weight_mod2 (x : Nat) :
    (x < 2 ^ 16 → u16Parity x = u16Weight x % 2) ∧ (x < 2 ^ 32 → u32Parity x = u32Weight x % 2) ∧
    (x < 2 ^ 64 → u64Parity x = u64Weight x % 2) :=
  ⟨fun h => by rw [u16Parity_spec x h, u16Weight_spec x h],
   fun h => by rw [u32Parity_spec x, u32Weight_spec x h],
   fun h => by rw [u64Parity_spec x, u64Weight_spec x h]⟩

example : u64Parity 0x8000000100000001 = 1 ∧ u64Weight 0x8000000100000001 % 2 = 1 := by decide

/-! ## wwCmpW, logical operations, copying -/

/-- wwCmpW (SAFE and FAST) = three-way comparison of ⟦a⟧ with the word x (−1 / 0 / 1);
    the empty word has value 0 -/
theorem wwCmpW_spec {w : Nat} (a : List Nat) (x : Nat) (h : Wf w a) (hx : x < 2 ^ w) :
    wwCmpW_safe w a x = Bits.cmp3 (val w a) x ∧ wwCmpW_fast w a x = Bits.cmp3 (val w a) x := by
  cases a with
  | nil =>
    unfold wwCmpW_safe wwCmpW_fast Bits.cmp3
    simp only [val]
    by_cases c : x = 0
    · simp [c]
    · have : 0 < x := Nat.pos_of_ne_zero c
      simp [c, this]
  | cons a0 as =>
    obtain ⟨h0, hs⟩ := Wf_cons.mp h
    unfold wwCmpW_safe wwCmpW_fast
    simp only [Bits.cmpW_fastLoop_zero]
    have hzr : (∀ y ∈ as.reverse, y = 0) ↔ (∀ y ∈ as, y = 0) := by
      constructor
      · intro hh y hy; exact hh y (List.mem_reverse.mpr hy)
      · intro hh y hy; exact hh y (List.mem_reverse.mp hy)
    by_cases hz : ∀ y ∈ as, y = 0
    · have hv := (val_eq_zero_iff w as).mpr hz
      have hf : as.reverse.foldl (fun d y => d ||| y) 0 = 0 :=
        (Bits.foldl_or_zero _ 0).mpr ⟨rfl, hzr.mpr hz⟩
      have hval : val w (a0 :: as) = a0 := by rw [val_cons, hv]; omega
      rw [hf, if_pos (hzr.mpr hz)]
      unfold Bits.cmp3
      simp only [hval]
      simp
    · have hv : 0 < val w as := Nat.pos_of_ne_zero (fun e => hz ((val_eq_zero_iff w as).mp e))
      have hf : ¬ as.reverse.foldl (fun d y => d ||| y) 0 = 0 := fun e =>
        hz (hzr.mp ((Bits.foldl_or_zero _ 0).mp e).2)
      have hb : (as.reverse.foldl (fun d y => d ||| y) 0 == 0) = false := by
        rw [beq_eq_false_iff_ne]; exact hf
      have hge : 2 ^ w * 1 ≤ 2 ^ w * val w as := Nat.mul_le_mul_left _ hv
      have hval : val w (a0 :: as) = a0 + 2 ^ w * val w as := rfl
      have c1 : ¬ val w (a0 :: as) < x := by omega
      have c2 : val w (a0 :: as) > x := by omega
      have hzr' : ¬ ∀ y ∈ as.reverse, y = 0 := fun hh => hz (hzr.mp hh)
      rw [hb, if_neg hzr']
      unfold Bits.cmp3
      simp [c1, c2]

example : wwCmpW_safe 8 [5, 0, 0] 5 = 0 ∧ wwCmpW_fast 8 [5, 0, 1] 9 = 1 ∧ wwCmpW_safe 8 [4] 9 = -1 ∧
    wwCmpW_fast 8 [] 3 = -1 ∧ Bits.cmp3 (val 8 [5, 0, 1]) 9 = 1 := by decide

/-- wwXor / wwXor2: ⟦c⟧ = ⟦a⟧ xor ⟦b⟧ -/
theorem wwXor_spec {w : Nat} (a b : List Nat) (hl : a.length = b.length) (ha : Wf w a) (hb : Wf w b) :
    (wwXor a b).length = a.length ∧ Wf w (wwXor a b) ∧ val w (wwXor a b) = val w a ^^^ val w b :=
  Bits.wwXor_val a b hl ha hb
theorem wwXor2_spec {w : Nat} (b a : List Nat) (hl : b.length = a.length) (hb : Wf w b) (ha : Wf w a) :
    (wwXor2 b a).length = b.length ∧ Wf w (wwXor2 b a) ∧ val w (wwXor2 b a) = val w b ^^^ val w a :=
  Bits.wwXor_val b a hl hb ha

example : wwXor [0xF0, 0x0F] [0xFF, 0x01] = [0x0F, 0x0E] := by decide

/-- wwCopy copies, wwSwap exchanges (equal lengths) -/
theorem wwCopy_spec (a : List Nat) : wwCopy a = a := by simp [wwCopy]
theorem wwSwap_spec (a b : List Nat) (hl : a.length = b.length) : wwSwap a b = (b, a) := by
  unfold wwSwap
  have h1 : (a.zip b).map (fun p => p.2) = b := List.map_snd_zip (by omega)
  have h2 : (a.zip b).map (fun p => p.1) = a := List.map_fst_zip (by omega)
  rw [h1, h2]

example : wwSwap [1, 2] [3, 4] = ([3, 4], [1, 2]) ∧ wwCopy [7, 8] = [7, 8] := by decide

/-- wwSetW: ⟦a⟧ ← x (n > 0);  wwRepW: every word ← x -/
theorem wwSetW_spec {w : Nat} (a : List Nat) (x : Nat) (hn : a ≠ []) (hx : x < 2 ^ w) :
    (wwSetW a x).length = a.length ∧ Wf w (wwSetW a x) ∧ val w (wwSetW a x) = x := by
  cases a with
  | nil => exact absurd rfl hn
  | cons a0 as =>
    simp only [wwSetW, List.length_cons, List.length_replicate, val_cons, val_replicate_zero,
      Nat.mul_zero, Nat.add_zero, true_and]
    exact ⟨Wf_cons.mpr ⟨hx, Wf_replicate_zero w _⟩, trivial⟩
theorem wwRepW_spec (a : List Nat) (x : Nat) :
    (wwRepW a x).length = a.length ∧ ∀ y ∈ wwRepW a x, y = x := by
  unfold wwRepW
  exact ⟨List.length_replicate, fun y hy => (List.mem_replicate.mp hy).2⟩

example : wwSetW [9, 9, 9] 5 = [5, 0, 0] ∧ wwRepW [9, 9, 9] 5 = [5, 5, 5] := by decide

/-! ## wwFrom / wwTo on a little-endian host (w = 8·O, O = O_PER_W ≥ 1).
`val 8 o` is the little-endian value of the octet string `o` (= `leVal o` of ModelMisc for octets < 256). -/

/-- wwFrom: W_OF_O(count) words, all of them words, and ⟦wwFrom o⟧ = the LE value of the octets -/
theorem wwFrom_spec {w : Nat} (O : Nat) (hO : 0 < O) (hw8 : w = 8 * O) (o : List Nat) (ho : Wf 8 o) :
    (wwFrom w o).length = (o.length + O - 1) / O ∧ Wf w (wwFrom w o) ∧
    val w (wwFrom w o) = val 8 o :=
  ⟨(Bits.wwFrom_val O hO hw8 o ho).1, Bits.wwFrom_Wf O hw8 o ho, (Bits.wwFrom_val O hO hw8 o ho).2⟩

/-- wwTo inverts wwFrom -/
theorem wwTo_wwFrom_spec {w : Nat} (O : Nat) (hO : 0 < O) (hw8 : w = 8 * O) (o : List Nat)
    (ho : Wf 8 o) : wwTo w o.length (wwFrom w o) = o :=
  Bits.wwTo_wwFrom O hO hw8 o ho

example : wwFrom 32 [1, 2, 3, 4, 5] = [0x04030201, 5] ∧ wwTo 32 5 [0x04030201, 5] = [1, 2, 3, 4, 5] ∧
    val 32 [0x04030201, 5] = val 8 [1, 2, 3, 4, 5] ∧ wwFrom 64 [] = [] := by decide

end Bee2V.C05
