/-
C05 — carry propagation, proved once.  A word loop `pure2 step` (ModelAlias.lean) whose step satisfies
`out + B·κ(s') = α·x + β·y + κ(s)`, for a signed reading `κ` of its register, computes
`α·⟦xs⟧ + β·⟦ys⟧ + κ(s)` as `⟦out⟧ + B^n·κ(s_final)`.  With `κ` = carry this is addition (of a number, a word,
a doubled or a multiplied operand), with `κ` = −borrow it is subtraction.
-/
import Bee2V.C05.LemmasLoops
import Mathlib.Tactic.LinearCombination
import Mathlib.Tactic.Zify
namespace Bee2V.C05
open Bee2V.C05.Alias

variable {σ : Type}

/-- `κ` reads the register as a signed carry; `I` is what the loop knows about its register -/
def StepOK (w : Nat) (I : σ → Prop) (κ : σ → ℤ) (α β : ℤ) (step : σ → Nat → Nat → σ × Nat) : Prop :=
  ∀ s x y, I s → x < 2 ^ w → y < 2 ^ w →
    ((step s x y).2 : ℤ) + 2 ^ w * κ (step s x y).1 = α * x + β * y + κ s
    ∧ (step s x y).2 < 2 ^ w ∧ I (step s x y).1

/-- A borrow is a negative carry: one induction serves addition and subtraction. -/
theorem ripple {w : Nat} {I : σ → Prop} {κ : σ → ℤ} {α β : ℤ} {step : σ → Nat → Nat → σ × Nat}
    (h : StepOK w I κ α β step) (s : σ) (xs ys : List Nat)
    (hx : Wf w xs) (hy : Wf w ys) (hl : xs.length = ys.length) (hs : I s) :
    (val w (pure2 step s xs ys).1 : ℤ) + 2 ^ (w * xs.length) * κ (pure2 step s xs ys).2
      = α * val w xs + β * val w ys + κ s
    ∧ I (pure2 step s xs ys).2 ∧ Wf w (pure2 step s xs ys).1
    ∧ (pure2 step s xs ys).1.length = xs.length := by
  induction xs generalizing ys s with
  | nil => cases ys <;> simp_all [pure2, val, Wf_nil]
  | cons x xs ih =>
    cases ys with
    | nil => simp at hl
    | cons y ys =>
      obtain ⟨hx0, hxs⟩ := Wf_cons.mp hx
      obtain ⟨hy0, hys⟩ := Wf_cons.mp hy
      obtain ⟨h1, h2, h3⟩ := h s x y hs hx0 hy0
      obtain ⟨i1, i2, i3, i4⟩ := ih (step s x y).1 ys hxs hys (by simpa using hl) h3
      simp only [pure2, val_cons, List.length_cons, Nat.mul_succ]
      refine ⟨?_, i2, Wf_cons.mpr ⟨h2, i3⟩, by rw [i4]⟩
      push_cast
      linear_combination h1 + 2 ^ w * i1

section nat
variable {w α β : Nat} {I : Nat → Prop} {step : Nat → Nat → Nat → Nat × Nat}

def CarryOK (w : Nat) (I : Nat → Prop) (α β : Nat) (step : Nat → Nat → Nat → Nat × Nat) : Prop :=
  ∀ c x y, I c → x < 2 ^ w → y < 2 ^ w →
    (step c x y).2 + 2 ^ w * (step c x y).1 = α * x + β * y + c
    ∧ (step c x y).2 < 2 ^ w ∧ I (step c x y).1

def BorrowOK (w : Nat) (I : Nat → Prop) (α β : Nat) (step : Nat → Nat → Nat → Nat × Nat) : Prop :=
  ∀ c x y, I c → x < 2 ^ w → y < 2 ^ w →
    (step c x y).2 + β * y + c = α * x + 2 ^ w * (step c x y).1
    ∧ (step c x y).2 < 2 ^ w ∧ I (step c x y).1

theorem ripple_carry (h : CarryOK w I α β step) (c : Nat) (xs ys : List Nat)
    (hx : Wf w xs) (hy : Wf w ys) (hl : xs.length = ys.length) (hc : I c) :
    val w (pure2 step c xs ys).1 + 2 ^ (w * xs.length) * (pure2 step c xs ys).2
      = α * val w xs + β * val w ys + c
    ∧ I (pure2 step c xs ys).2 ∧ Wf w (pure2 step c xs ys).1
    ∧ (pure2 step c xs ys).1.length = xs.length := by
  have hs : StepOK w I (fun c => (c : ℤ)) α β step := fun c x y hc hx hy =>
    ⟨by beta_reduce; exact_mod_cast (h c x y hc hx hy).1, (h c x y hc hx hy).2⟩
  obtain ⟨h1, h2⟩ := ripple hs c xs ys hx hy hl hc
  exact ⟨by exact_mod_cast h1, h2⟩

theorem ripple_borrow (h : BorrowOK w I α β step) (c : Nat) (xs ys : List Nat)
    (hx : Wf w xs) (hy : Wf w ys) (hl : xs.length = ys.length) (hc : I c) :
    val w (pure2 step c xs ys).1 + β * val w ys + c
      = α * val w xs + 2 ^ (w * xs.length) * (pure2 step c xs ys).2
    ∧ I (pure2 step c xs ys).2 ∧ Wf w (pure2 step c xs ys).1
    ∧ (pure2 step c xs ys).1.length = xs.length := by
  have hs : StepOK w I (fun c => -(c : ℤ)) α (-(β : ℤ)) step := fun c x y hc hx hy =>
    ⟨by have h1 := (h c x y hc hx hy).1; zify at h1; linear_combination h1, (h c x y hc hx hy).2⟩
  obtain ⟨h1, h2⟩ := ripple hs c xs ys hx hy hl hc
  refine ⟨?_, h2⟩
  zify
  linear_combination h1

end nat

end Bee2V.C05
