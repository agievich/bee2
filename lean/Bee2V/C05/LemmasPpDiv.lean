/-
C05 — lemmas for ModelPpDiv.lean (ppDiv / ppMod): shortcut branches, tables `_MUL_PRE_S4` /
`_DIV_PRE_S4`, the trial quotient `_DIV_DIV_S4` (nibble-loop invariant), the digit loop
(uses PpMul.ppAddMulW_spec), normalisation, and the final `ppDiv_ok` / `ppMod_ok`.
-/
import Bee2V.C05.ModelPpDiv
import Bee2V.C05.LemmasPpRed
import Bee2V.C05.LemmasPpMul
namespace Bee2V.C05.PpDiv
open Bee2V.C05 Bee2V.C05.Spec Bee2V.C05.Pp Bee2V.C05.PpRed

/-- `deg a < deg b` (as wwBitSize compares) ⇒ a fits below the top of b -/
theorem lt_of_bitSize_lt {x y : Nat} (h : ppBitSize x < ppBitSize y) :
    y ≠ 0 ∧ x < 2 ^ y.log2 := by
  unfold ppBitSize at h
  by_cases hy : y = 0
  · rw [if_pos hy] at h; omega
  · refine ⟨hy, ?_⟩
    rw [if_neg hy] at h
    by_cases hx : x = 0
    · subst hx; exact Nat.two_pow_pos _
    · rw [if_neg hx] at h
      exact (Nat.log2_lt hx).1 (by omega)

theorem ppDiv_small {w : Nat} (a b : List Nat) (ha : Wf w a) (hb : Wf w b) (hle : b.length ≤ a.length)
    (hlt : ppBitSize (val w a) < ppBitSize (val w b)) :
    ppDiv w a b = (List.replicate (a.length - b.length + 1) 0, a.take b.length)
    ∧ val w (a.take b.length) = val w a := by
  refine ⟨by unfold ppDiv; simp only [if_pos hlt], ?_⟩
  obtain ⟨hy, hx⟩ := lt_of_bitSize_lt hlt
  have h1 := val_lt hb
  have h2 := Nat.log2_self_le hy
  rw [val_take ha _]
  exact Nat.mod_eq_of_lt (by omega)

/-! ## normalisation: multiplying dividend and divisor by x^s -/

/-- `(a·x^s) divmod (b·x^s) = (q, r·x^s)`: the quotient is unchanged, the remainder is shifted -/
theorem pdivmod_shift (a b s : Nat) (hb : b ≠ 0) :
    pdivmod (a <<< s) (b <<< s) = ((pdivmod a b).1, (pdivmod a b).2 <<< s) := by
  obtain ⟨h1, h2⟩ := pdivmod_spec a b hb
  have hbs : b <<< s ≠ 0 := by
    rw [Nat.shiftLeft_eq]
    exact Nat.mul_ne_zero hb (Nat.pos_iff_ne_zero.1 (Nat.two_pow_pos s))
  have hlog : (b <<< s).log2 = b.log2 + s := by rw [Nat.shiftLeft_eq]; exact log2_mul_two_pow hb s
  obtain ⟨g1, g2⟩ := pdivmod_spec (a <<< s) (b <<< s) hbs
  have hr : (pdivmod a b).2 <<< s < 2 ^ (b <<< s).log2 := by
    rw [hlog, Nat.shiftLeft_eq, Nat.pow_add]
    exact Nat.mul_lt_mul_of_pos_right h2 (Nat.two_pow_pos s)
  have heq : clmul (pdivmod (a <<< s) (b <<< s)).1 (b <<< s) ^^^ (pdivmod (a <<< s) (b <<< s)).2
      = clmul (pdivmod a b).1 (b <<< s) ^^^ (pdivmod a b).2 <<< s := by
    rw [g1, PpMul.clmul_shiftLeft, ← Nat.shiftLeft_xor_distrib, h1]
  obtain ⟨e1, e2⟩ := divmod_unique hbs g2 hr heq
  exact Prod.ext e1 e2

/-- denormalisation: dividing the shifted remainder by x^s gives the remainder -/
theorem pmod_shift (a b s : Nat) (hb : b ≠ 0) : pmod (a <<< s) (b <<< s) / 2 ^ s = pmod a b := by
  unfold pmod
  rw [pdivmod_shift a b s hb, Nat.shiftLeft_eq, Nat.mul_div_cancel _ (Nat.two_pow_pos s)]

theorem pmod_one (x : Nat) : pmod x 1 = 0 := by
  have h := (pdivmod_spec x 1 (by decide)).2
  have h10 : Nat.log2 1 = 0 := by simpa using @Nat.log2_two_pow 0
  rw [h10] at h
  unfold pmod; omega

theorem ppMod_small {w : Nat} (a b : List Nat) (ha : Wf w a) (hb : Wf w b)
    (hlt : ppBitSize (val w a) < ppBitSize (val w b)) :
    val w (ppMod w a b) = val w a ∧ (ppMod w a b).length = b.length := by
  unfold ppMod
  simp only [if_pos hlt]
  by_cases hnm : a.length < b.length
  · rw [if_pos hnm, val_append, val_replicate_zero]
    refine ⟨by simp, ?_⟩
    rw [List.length_append, List.length_replicate]; omega
  · rw [if_neg hnm]
    obtain ⟨hy, hx⟩ := lt_of_bitSize_lt hlt
    have h1 := val_lt hb
    have h2 := Nat.log2_self_le hy
    refine ⟨?_, by rw [List.length_take]; omega⟩
    rw [val_take ha _]
    exact Nat.mod_eq_of_lt (by omega)

/-! ## the multiplication table `_MUL_PRE_S4` -/

/-- `_MUL_PRE_S4` of ppDiv is, line by line, the table `ppTab` of `_MUL1`: entry j is `j·a`
    truncated to a word -/
theorem mulPreS4_eq {w a : Nat} (ha : a < 2 ^ w) :
    mulPreS4 w a = (List.range 16).map (fun j => clmul j a % 2 ^ w) := by
  show ppTab w a = _
  rw [PpMul.ppTab_eq w a ha]
  simp only [clmul_comm a]

/-! ## the trial quotient `_DIV_DIV_S4` -/

/-- high word of `q·(x^w + t)`: `q ^ hi(q·t)` -/
def Gq (w t q : Nat) : Nat := q ^^^ clmul q t / 2 ^ w

theorem Gq_zero (w t : Nat) : Gq w t 0 = 0 := by simp [Gq, zero_clmul]

theorem Gq_xor (w t x y : Nat) : Gq w t (x ^^^ y) = Gq w t x ^^^ Gq w t y := by
  unfold Gq
  rw [xor_clmul, Nat.xor_div_two_pow, xor4_swap]

/-- `G(c·x^e)` for a nibble c: the part that cancels the leading nibble and the part xored into hi -/
theorem Gq_nibble {w t c e : Nat} (he : e ≤ w) :
    Gq w t (c <<< e) = (c ^^^ clmul c t / 2 ^ w) <<< e ^^^ (clmul c t % 2 ^ w) / 2 ^ (w - e) := by
  unfold Gq
  have hpow : 2 ^ w = 2 ^ (w - e) * 2 ^ e := by rw [← Nat.pow_add]; congr 1; omega
  have h1 : clmul (c <<< e) t / 2 ^ w = clmul c t / 2 ^ (w - e) := by
    rw [shiftLeft_clmul, Nat.shiftLeft_eq, hpow, Nat.mul_div_mul_right _ _ (Nat.two_pow_pos e)]
  have hL : clmul c t % 2 ^ w / 2 ^ (w - e) < 2 ^ e := by
    apply Nat.div_lt_of_lt_mul
    rw [← hpow]; exact Nat.mod_lt _ (Nat.two_pow_pos w)
  have h2 : clmul c t / 2 ^ (w - e) = (clmul c t / 2 ^ w) <<< e ^^^ clmul c t % 2 ^ w / 2 ^ (w - e) := by
    rw [← add_shl_eq_xor hL]
    conv => lhs; rw [← Nat.div_add_mod (clmul c t) (2 ^ w)]
    rw [hpow, Nat.mul_assoc, Nat.mul_add_div (Nat.two_pow_pos _), ← hpow]
  rw [h1, h2, Nat.shiftLeft_xor_distrib, Nat.xor_assoc]

/-- `_DIV_PRE_S4` as a function of the three shifted copies of the top word it reads -/
def divPre3 (g1 g2 g3 : Nat) : List Nat :=
  let t2 := [0, 1]
  let t4 := t2 ++ (List.range 2).map (fun j => 2 ^^^ t2.getD (j ^^^ g1) 0)
  let t8 := t4 ++ (List.range 4).map (fun j => 4 ^^^ t4.getD (j ^^^ g2) 0)
  t8 ++ (List.range 8).map (fun j => 8 ^^^ t8.getD (j ^^^ g3) 0)

theorem divPreS4_eq (w a : Nat) :
    divPreS4 w a = divPre3 (a / 2 ^ (w - 1)) (a / 2 ^ (w - 2)) (a / 2 ^ (w - 3)) := rfl

/-- the finite core: for every value u of the top three bits, table entry j is the nibble c with
    `c ^ hi(c·u) = j` -/
theorem divPre3_ok : ∀ u, u < 8 → ∀ j, j < 16 →
    (divPre3 (u / 4) (u / 2) u).getD j 0 < 16
    ∧ (divPre3 (u / 4) (u / 2) u).getD j 0 ^^^ clmul ((divPre3 (u / 4) (u / 2) u).getD j 0) u / 8 = j := by
  decide

/-- only the top three bits of t matter for the high part of `c·t`, c a nibble -/
theorem hi_clmul_nibble {w t c : Nat} (hw : 4 ≤ w) (hc : c < 16) :
    clmul c t / 2 ^ w = clmul c (t / 2 ^ (w - 3)) / 8 := by
  have hpow : 2 ^ w = 2 ^ (w - 3) * 8 := by
    rw [show (8 : Nat) = 2 ^ 3 by rfl, ← Nat.pow_add]; congr 1; omega
  have htl : t % 2 ^ (w - 3) < 2 ^ (w - 3) := Nat.mod_lt _ (Nat.two_pow_pos _)
  have hdec : t = (t / 2 ^ (w - 3)) <<< (w - 3) ^^^ t % 2 ^ (w - 3) := by
    rw [← add_shl_eq_xor htl, Nat.div_add_mod]
  have hlow : clmul c (t % 2 ^ (w - 3)) < 2 ^ w := by
    have := clmul_lt_two_pow (n := 4) (m := w - 3) (by simpa using hc) htl
    rwa [show 4 + (w - 3) - 1 = w by omega] at this
  conv => lhs; rw [hdec]
  rw [clmul_xor, PpMul.clmul_shiftLeft, Nat.xor_div_two_pow, Nat.div_eq_of_lt hlow, Nat.xor_zero,
    Nat.shiftLeft_eq, hpow, Nat.mul_comm (clmul c _) (2 ^ (w - 3)),
    Nat.mul_div_mul_left _ _ (Nat.two_pow_pos _)]

/-- table `_DIV_PRE_S4(w1, t)`: entry j is the quotient nibble for the leading nibble j -/
theorem divPreS4_ok {w t j : Nat} (hw : 4 ≤ w) (ht : t < 2 ^ w) (hj : j < 16) :
    (divPreS4 w t).getD j 0 < 16
    ∧ (divPreS4 w t).getD j 0 ^^^ clmul ((divPreS4 w t).getD j 0) t / 2 ^ w = j := by
  have hu : t / 2 ^ (w - 3) < 8 := by
    apply Nat.div_lt_of_lt_mul
    rw [show (8 : Nat) = 2 ^ 3 by rfl, ← Nat.pow_add, show w - 3 + 3 = w by omega]; exact ht
  have e2 : t / 2 ^ (w - 2) = t / 2 ^ (w - 3) / 2 := by
    rw [Nat.div_div_eq_div_mul, ← Nat.pow_succ]; congr 2; omega
  have e1 : t / 2 ^ (w - 1) = t / 2 ^ (w - 3) / 4 := by
    rw [Nat.div_div_eq_div_mul, show (4 : Nat) = 2 ^ 2 by rfl, ← Nat.pow_add]; congr 2; omega
  rw [divPreS4_eq, e1, e2]
  obtain ⟨h1, h2⟩ := divPre3_ok _ hu j hj
  refine ⟨h1, ?_⟩
  rw [hi_clmul_nibble hw h1]
  exact h2

theorem mulPreS4_getD {w t c : Nat} (ht : t < 2 ^ w) (hc : c < 16) :
    (mulPreS4 w t).getD c 0 = clmul c t % 2 ^ w := by
  rw [mulPreS4_eq ht, List.getD_eq_getElem?_getD, List.getElem?_map, List.getElem?_range hc]
  rfl

/-- state of the nibble loop before step s: q holds s nibbles, and x (= hi after the pending
    update) agrees below bit w − 4s with what is still to be cancelled -/
def NibInv (w t hi0 s q x : Nat) : Prop :=
  q < 2 ^ (4 * s) ∧ x % 2 ^ (w - 4 * s) = hi0 ^^^ Gq w t (q <<< (w - 4 * s))

theorem nibStep {w t hi0 s q x : Nat} (hw4 : 4 ≤ w) (ht : t < 2 ^ w) (hs : 4 * (s + 1) ≤ w)
    (h : NibInv w t hi0 s q x) :
    let c := (divPreS4 w t).getD (wshr x (w - 4 * (s + 1)) &&& 15) 0
    (wshl w q 4 ^^^ c) &&& 15 = c
    ∧ NibInv w t hi0 (s + 1) (wshl w q 4 ^^^ c) (x ^^^ wshr ((mulPreS4 w t).getD c 0) (4 * (s + 1))) := by
  intro c
  obtain ⟨hq, hx⟩ := h
  have h15 : ∀ y : Nat, y &&& 15 = y % 16 := fun y => Nat.and_two_pow_sub_one_eq_mod y 4
  have hj : wshr x (w - 4 * (s + 1)) &&& 15 < 16 := by rw [h15]; exact Nat.mod_lt _ (by decide)
  obtain ⟨hc16, hcj⟩ := divPreS4_ok hw4 ht hj
  have hw2 := mulPreS4_getD (w := w) ht hc16
  -- q << 4 is exact
  have hq16 : q * 2 ^ 4 < 2 ^ w := by
    have : q * 2 ^ 4 < 2 ^ (4 * s) * 2 ^ 4 := Nat.mul_lt_mul_of_pos_right hq (by decide)
    rw [← Nat.pow_add] at this
    exact Nat.lt_of_lt_of_le this (Nat.pow_le_pow_right (by omega) (by omega))
  have hshl : wshl w q 4 = q <<< 4 := by
    show q * 2 ^ 4 % 2 ^ w = _
    rw [Nat.mod_eq_of_lt hq16, Nat.shiftLeft_eq]
  have hc4 : c < 2 ^ 4 := hc16
  refine ⟨?_, ?_, ?_⟩
  · rw [h15, hshl, Nat.shiftLeft_eq, show (16 : Nat) = 2 ^ 4 by rfl, Nat.xor_mod_two_pow,
      Nat.mul_mod_left, Nat.zero_xor, Nat.mod_eq_of_lt hc4]
  · rw [hshl, show 4 * (s + 1) = 4 * s + 4 by omega]
    apply Nat.xor_lt_two_pow
    · rw [Nat.shiftLeft_eq]
      have := Nat.mul_lt_mul_of_pos_right hq (Nat.two_pow_pos 4)
      rwa [← Nat.pow_add] at this
    · exact Nat.lt_of_lt_of_le hc4 (Nat.pow_le_pow_right (by omega) (by omega))
  · -- the congruence
    have he : w - 4 * s = (w - 4 * (s + 1)) + 4 := by omega
    rw [he] at hx
    have hle : w - 4 * (s + 1) ≤ w := Nat.sub_le _ _
    have hsplit : (wshl w q 4 ^^^ c) <<< (w - 4 * (s + 1))
        = q <<< (w - 4 * (s + 1) + 4) ^^^ c <<< (w - 4 * (s + 1)) := by
      rw [hshl, Nat.shiftLeft_xor_distrib, ← Nat.shiftLeft_add, Nat.add_comm 4]
    rw [hsplit, Gq_xor, Gq_nibble hle, ← Nat.xor_assoc, ← hx, hcj, hw2,
      show w - (w - 4 * (s + 1)) = 4 * (s + 1) by omega]
    -- x % 2^(e+4) = j <<< e ^^^ x % 2^e
    have hY : clmul c t % 2 ^ w / 2 ^ (4 * (s + 1)) < 2 ^ (w - 4 * (s + 1)) := by
      apply Nat.div_lt_of_lt_mul
      rw [← Nat.pow_add, show 4 * (s + 1) + (w - 4 * (s + 1)) = w by omega]
      exact Nat.mod_lt _ (Nat.two_pow_pos w)
    have hxd : x % 2 ^ (w - 4 * (s + 1) + 4)
        = (wshr x (w - 4 * (s + 1)) &&& 15) <<< (w - 4 * (s + 1)) ^^^ x % 2 ^ (w - 4 * (s + 1)) := by
      rw [← add_shl_eq_xor (Nat.mod_lt _ (Nat.two_pow_pos _)), h15]
      show _ = 2 ^ (w - 4 * (s + 1)) * (x / 2 ^ (w - 4 * (s + 1)) % 16) + _
      rw [show (16 : Nat) = 2 ^ 4 by rfl, ← Nat.mod_mul_right_div_self, ← Nat.pow_add]
      have hdvd : 2 ^ (w - 4 * (s + 1)) ∣ 2 ^ (w - 4 * (s + 1) + 4) := Nat.pow_dvd_pow 2 (by omega)
      conv => rhs; rhs; rw [← Nat.mod_mod_of_dvd x hdvd]
      rw [Nat.div_add_mod]
    show (x ^^^ clmul c t % 2 ^ w / 2 ^ (4 * (s + 1))) % 2 ^ (w - 4 * (s + 1)) = _
    rw [Nat.xor_mod_two_pow, Nat.mod_eq_of_lt hY, hxd]
    generalize clmul c t % 2 ^ w / 2 ^ (4 * (s + 1)) = Y
    generalize x % 2 ^ (w - 4 * (s + 1)) = X
    generalize (wshr x (w - 4 * (s + 1)) &&& 15) <<< (w - 4 * (s + 1)) = J
    apply Nat.eq_of_testBit_eq
    intro i
    simp only [Nat.testBit_xor]
    cases Y.testBit i <;> cases X.testBit i <;> cases J.testBit i <;> rfl

theorem divDivS4Loop_ok {w t hi0 : Nat} (hw4 : 4 ≤ w) (ht : t < 2 ^ w) :
    ∀ cnt s hi q, 4 * (s + cnt) = w →
      NibInv w t hi0 s q (hi ^^^ wshr ((mulPreS4 w t).getD (q &&& 15) 0) (4 * s)) →
      divDivS4Loop w (divPreS4 w t) (mulPreS4 w t) cnt s hi q < 2 ^ w
      ∧ Gq w t (divDivS4Loop w (divPreS4 w t) (mulPreS4 w t) cnt s hi q) = hi0 := by
  intro cnt
  induction cnt with
  | zero =>
    intro s hi q hs ⟨hq, hx⟩
    have e0 : w - 4 * s = 0 := by omega
    rw [e0, Nat.pow_zero, Nat.mod_one, Nat.shiftLeft_zero] at hx
    rw [show 4 * s = w by omega] at hq
    exact ⟨hq, (xor_eq_zero_iff.1 hx.symm).symm⟩
  | succ cnt ih =>
    intro s hi q hs h
    obtain ⟨n1, n2⟩ := nibStep hw4 ht (by omega) h
    rw [divDivS4Loop]
    apply ih (s + 1) _ _ (by omega)
    rw [n1]
    exact n2

/-- `_DIV_DIV_S4`: the quotient word q of (hi, ·) by (1, t) — the high word of q·(x^w + t) is hi -/
theorem divDivS4_ok {w t hi : Nat} (hw4 : 4 ≤ w) (hdvd : 4 ∣ w) (ht : t < 2 ^ w) (hhi : hi < 2 ^ w) :
    divDivS4 w (divPreS4 w t) (mulPreS4 w t) hi < 2 ^ w
    ∧ Gq w t (divDivS4 w (divPreS4 w t) (mulPreS4 w t) hi) = hi := by
  have h0 : NibInv w t hi 0 0 hi := by
    refine ⟨by simp, ?_⟩
    rw [Nat.mul_zero, Nat.sub_zero, Nat.zero_shiftLeft, Gq_zero, Nat.xor_zero, Nat.mod_eq_of_lt hhi]
  obtain ⟨n1, n2⟩ := nibStep hw4 ht (by omega) h0
  have hz : wshl w 0 4 = 0 := by simp [wshl]
  rw [hz, Nat.zero_xor] at n1 n2
  have hlt : wshr hi (w - 4) < 16 := by
    apply Nat.div_lt_of_lt_mul
    rw [show (16 : Nat) = 2 ^ 4 by rfl, ← Nat.pow_add, show w - 4 + 4 = w by omega]; exact hhi
  have hmask : wshr hi (w - 4 * (0 + 1)) &&& 15 = wshr hi (w - 4) := by
    rw [Nat.and_two_pow_sub_one_eq_mod _ 4]; exact Nat.mod_eq_of_lt hlt
  rw [hmask] at n1 n2
  unfold divDivS4
  obtain ⟨k, hk⟩ := hdvd
  apply divDivS4Loop_ok hw4 ht (w / 4 - 1) 1 hi _ (by omega)
  rw [n1]
  exact n2

/-! ## the digit loop -/

theorem getD_eq_div {w : Nat} {d : List Nat} (hd : Wf w d) {i : Nat} (hi : i < d.length)
    (hV : val w d < 2 ^ (w * (i + 1))) : d.getD i 0 = val w d / 2 ^ (w * i) := by
  have h1 := val_take_succ_add (w := w) i hi
  have h2 := val_take hd (i + 1)
  rw [Nat.mod_eq_of_lt hV] at h2
  have h3 := val_lt (Wf_take hd i)
  rw [List.length_take, Nat.min_eq_left (by omega)] at h3
  rw [← h2, h1, Nat.add_comm, Nat.mul_add_div (Nat.two_pow_pos _), Nat.div_eq_of_lt h3, Nat.add_zero]

/-- the high word of `q · divisor` only depends on the top word of the divisor -/
theorem hi_clmul_top {w : Nat} {dv : List Nat} (hdv : Wf w dv) {m : Nat} (hm : dv.length = m) (hm1 : 1 ≤ m)
    (hw : 0 < w) {q : Nat} (hq : q < 2 ^ w) :
    clmul q (val w dv) / 2 ^ (w * m) = clmul q (dv.getD (m - 1) 0) / 2 ^ w := by
  have h1 := val_take_succ_add (w := w) (a := dv) (m - 1) (by omega)
  rw [show m - 1 + 1 = m by omega, ← hm, List.take_length, hm] at h1
  have h3 := val_lt (Wf_take hdv (m - 1))
  rw [List.length_take, Nat.min_eq_left (by omega)] at h3
  have hdec : val w dv = (dv.getD (m - 1) 0) <<< (w * (m - 1)) ^^^ val w (dv.take (m - 1)) := by
    rw [h1, Nat.add_comm, add_shl_eq_xor h3]
  have hlow : clmul q (val w (dv.take (m - 1))) < 2 ^ (w * m) := by
    refine Nat.lt_of_lt_of_le (clmul_lt_two_pow hq h3) (Nat.pow_le_pow_right (by omega) ?_)
    have : w * m = w + w * (m - 1) := by
      rw [show m = 1 + (m - 1) by omega, Nat.mul_add, Nat.mul_one]; simp
    omega
  have hpow : 2 ^ (w * m) = 2 ^ w * 2 ^ (w * (m - 1)) := by
    rw [← Nat.pow_add]; congr 1
    rw [show m = 1 + (m - 1) by omega, Nat.mul_add, Nat.mul_one]; simp
  rw [hdec, clmul_xor, PpMul.clmul_shiftLeft, Nat.xor_div_two_pow, Nat.div_eq_of_lt hlow, Nat.xor_zero,
    Nat.shiftLeft_eq, hpow, Nat.mul_div_mul_right _ _ (Nat.two_pow_pos _)]

/-- the divident after one digit step with quotient word q -/
def digitD (w : Nat) (dv : List Nat) (k q : Nat) (d : List Nat) : List Nat :=
  let m := dv.length
  let r := ppAddMulW w ((d.drop k).take m) dv q
  xorAt (xorAt (d.take k ++ r.1 ++ d.drop (k + m)) (m + k) r.2) (m + k) q

theorem ppDivLoop_succ (w : Nat) (dv w1 w2 : List Nat) (k : Nat) (d : List Nat) :
    ppDivLoop w dv w1 w2 (k + 1) d
      = ((ppDivLoop w dv w1 w2 k (digitD w dv k (divDivS4 w w1 w2 (d.getD (dv.length + k) 0)) d)).1,
         (ppDivLoop w dv w1 w2 k (digitD w dv k (divDivS4 w w1 w2 (d.getD (dv.length + k) 0)) d)).2
           ++ [divDivS4 w w1 w2 (d.getD (dv.length + k) 0)]) := rfl

theorem digitD_val {w : Nat} (h1 : PpMul.Mul1OK w) (dv d : List Nat) (k q m : Nat)
    (hd : Wf w d) (hdv : Wf w dv) (hm : dv.length = m) (hk : m + k < d.length) (hq : q < 2 ^ w) :
    Wf w (digitD w dv k q d) ∧ (digitD w dv k q d).length = d.length
    ∧ val w (digitD w dv k q d)
        = val w d ^^^ (clmul q (2 ^ (w * m) ^^^ val w dv)) <<< (w * k) := by
  have hwin : Wf w ((d.drop k).take m) := Wf_take (Wf_drop hd k) m
  have hwl : ((d.drop k).take m).length = m := by
    rw [List.length_take, List.length_drop]; omega
  obtain ⟨s1, s2, s3, s4⟩ := PpMul.ppAddMulW_spec w h1 ((d.drop k).take m) dv q hwin hdv (by rw [hwl, hm]) hq
  rw [hwl] at s4
  rw [← pval_eq_val (Wf_append.mpr ⟨s3, Wf_single s2⟩), pval_append, s4, ← pval_eq_val hwin] at s1
  simp only [digitD, hm]
  generalize ppAddMulW w ((d.drop k).take m) dv q = r at *
  have hlen : (d.take k ++ r.1 ++ d.drop (k + m)).length = d.length := by
    simp only [List.length_append, List.length_take, List.length_drop, s4]; omega
  have hW : Wf w (xorAt (xorAt (d.take k ++ r.1 ++ d.drop (k + m)) (m + k) r.2) (m + k) q) :=
    xorAt_Wf (xorAt_Wf (Wf_append.2 ⟨Wf_append.2 ⟨Wf_take hd k, s3⟩, Wf_drop hd _⟩) _ s2) _ hq
  refine ⟨hW, by rw [xorAt_length, xorAt_length, hlen], ?_⟩
  have hc : clmul (val w dv) q
      = pval w ((d.drop k).take m) ^^^ (pval w r.1 ^^^ pval w [r.2] <<< (w * m)) := by
    rw [s1, xor_xor_cancel_left]
  have hk' : (d.take k).length = k := by rw [List.length_take]; omega
  rw [← pval_eq_val hW, ← pval_eq_val hd, ← pval_take_drop w d k, ← pval_take_drop w (d.drop k) m,
    List.drop_drop, pval_xorAt _ _ _ _ (by rw [xorAt_length, hlen]; omega),
    pval_xorAt _ _ _ _ (by rw [hlen]; omega), pval_append, pval_append, List.length_append, hk', s4,
    clmul_xor, clmul_two_pow, clmul_comm q, hc]
  simp only [pval, Nat.zero_shiftLeft, Nat.xor_zero, Nat.shiftLeft_xor_distrib, ← Nat.shiftLeft_add,
    Nat.mul_add, Nat.add_comm (w * m) (w * k)]
  generalize pval w r.1 <<< (w * k) = A
  generalize r.2 <<< (w * k + w * m) = R2
  generalize pval w (d.drop (k + m)) <<< (w * k + w * m) = R
  simp only [Nat.xor_assoc, Nat.xor_comm, Pp.xor_left_comm, Nat.xor_self, Nat.xor_zero]

/-- what the digit loop needs of the word size: `_MUL1` is right and the nibble loop covers the word -/
def WordOK (w : Nat) : Prop := PpMul.Mul1OK w ∧ 4 ≤ w ∧ 4 ∣ w ∧ 0 < w

theorem WordOK_mul8 (nb : Nat) (hnb : 2 ≤ nb) : WordOK (8 * nb) :=
  ⟨PpMul.Mul1OK_mul8 nb hnb, by omega, ⟨2 * nb, by omega⟩, by omega⟩

theorem width_facts {w : Nat} (hw : WordOK w) : 4 ≤ w ∧ 4 ∣ w ∧ 0 < w := hw.2

theorem WordOK_of_width {w : Nat} (hw : w = 16 ∨ w = 32 ∨ w = 64) : WordOK w := by
  rcases hw with rfl | rfl | rfl
  · exact WordOK_mul8 2 (by decide)
  · exact WordOK_mul8 4 (by decide)
  · exact WordOK_mul8 8 (by decide)

/-- with the trial quotient of `_DIV_DIV_S4` the top word of the divident is cancelled -/
theorem digitD_lt {w : Nat} (hw : WordOK w) (dv d : List Nat) (k m : Nat)
    (hd : Wf w d) (hdv : Wf w dv) (hm : dv.length = m) (hm1 : 1 ≤ m) (hk : m + k < d.length)
    (hV : val w d < 2 ^ (w * (m + k + 1))) :
    divDivS4 w (divPreS4 w (dv.getD (m - 1) 0)) (mulPreS4 w (dv.getD (m - 1) 0)) (d.getD (m + k) 0) < 2 ^ w
    ∧ val w (digitD w dv k (divDivS4 w (divPreS4 w (dv.getD (m - 1) 0)) (mulPreS4 w (dv.getD (m - 1) 0))
        (d.getD (m + k) 0)) d) < 2 ^ (w * (m + k)) := by
  obtain ⟨hw4, hdvd, hw0⟩ := width_facts hw
  have ht := getD_lt hdv (m - 1)
  have hhi := getD_lt hd (m + k)
  obtain ⟨hq, hG⟩ := divDivS4_ok hw4 hdvd ht hhi
  refine ⟨hq, ?_⟩
  obtain ⟨_, _, g3⟩ := digitD_val hw.1 dv d k _ m hd hdv hm hk hq
  rw [g3]
  generalize divDivS4 w (divPreS4 w (dv.getD (m - 1) 0)) (mulPreS4 w (dv.getD (m - 1) 0))
    (d.getD (m + k) 0) = q at hq hG ⊢
  have hhiV := getD_eq_div hd hk hV
  -- the quotient of the new value by x^(w(m+k)) vanishes
  have hdiv : (val w d ^^^ (clmul q (2 ^ (w * m) ^^^ val w dv)) <<< (w * k)) / 2 ^ (w * (m + k)) = 0 := by
    have hpow : 2 ^ (w * (m + k)) = 2 ^ (w * m) * 2 ^ (w * k) := by rw [Nat.mul_add, Nat.pow_add]
    rw [Nat.xor_div_two_pow, ← hhiV, Nat.shiftLeft_eq, hpow,
      Nat.mul_div_mul_right _ _ (Nat.two_pow_pos _), clmul_xor, clmul_two_pow, Nat.xor_div_two_pow,
      Nat.shiftLeft_eq, Nat.mul_div_cancel _ (Nat.two_pow_pos _), hi_clmul_top hdv hm hm1 hw0 hq]
    have : q ^^^ clmul q (dv.getD (m - 1) 0) / 2 ^ w = d.getD (m + k) 0 := hG
    rw [this, Nat.xor_self]
  rcases (Nat.div_eq_zero_iff).1 hdiv with h | h
  · exact absurd h (Nat.pos_iff_ne_zero.1 (Nat.two_pow_pos _))
  · exact h

theorem ppDivLoop_ok {w : Nat} (hw : WordOK w) (dv : List Nat) (m L : Nat)
    (hdv : Wf w dv) (hm : dv.length = m) (hm1 : 1 ≤ m) :
    ∀ (K : Nat) (d : List Nat), Wf w d → d.length = L → m + K ≤ L → val w d < 2 ^ (w * (m + K)) →
      ∃ r q, ppDivLoop w dv (divPreS4 w (dv.getD (m - 1) 0)) (mulPreS4 w (dv.getD (m - 1) 0)) K d
          = (r, q)
        ∧ Wf w r ∧ r.length = L ∧ Wf w q ∧ q.length = K ∧ val w r < 2 ^ (w * m)
        ∧ val w d = clmul (val w q) (2 ^ (w * m) ^^^ val w dv) ^^^ val w r := by
  intro K
  induction K with
  | zero =>
    intro d hd hl _ hV
    exact ⟨d, [], rfl, hd, hl, Wf_nil w, rfl, by simpa using hV,
      by rw [val_nil, zero_clmul, Nat.zero_xor]⟩
  | succ k ih =>
    intro d hd hl hle hV
    have hk : m + k < d.length := by omega
    obtain ⟨hq, hlt⟩ := digitD_lt hw dv d k m hd hdv hm hm1 hk
      (by rw [show m + k + 1 = m + (k + 1) by omega]; exact hV)
    obtain ⟨g1, g2, g3⟩ := digitD_val hw.1 dv d k _ m hd hdv hm hk hq
    rw [ppDivLoop_succ, hm]
    generalize divDivS4 w (divPreS4 w (dv.getD (m - 1) 0)) (mulPreS4 w (dv.getD (m - 1) 0))
      (d.getD (m + k) 0) = Q at *
    obtain ⟨r, q, e, i1, i2, i3, i4, i5, i6⟩ := ih _ g1 (by omega) (by omega) hlt
    refine ⟨r, q ++ [Q], by rw [e], i1, i2, Wf_append.2 ⟨i3, Wf_cons.2 ⟨hq, Wf_nil w⟩⟩,
      by rw [List.length_append, i4]; rfl, i5, ?_⟩
    rw [val_append_xor w _ _ i3, i4, val_cons, val_nil, Nat.mul_zero, Nat.add_zero, xor_clmul, shiftLeft_clmul,
      show val w d = val w (digitD w dv k Q d) ^^^ clmul Q (2 ^ (w * m) ^^^ val w dv) <<< (w * k) by
        rw [g3, xor_xor_cancel], i6]
    ac_rfl

/-! ## normalisation on word lists -/

theorem log2_add_mul {x y p : Nat} (hx : x < 2 ^ p) (hy : y ≠ 0) :
    (x + 2 ^ p * y).log2 = p + y.log2 := by
  have h1 := Nat.log2_self_le hy
  have h2 := @Nat.lt_log2_self y
  have hne : x + 2 ^ p * y ≠ 0 := by
    have : 0 < 2 ^ p * y := Nat.mul_pos (Nat.two_pow_pos p) (by omega)
    omega
  apply (Nat.log2_eq_iff hne).2
  constructor
  · rw [Nat.pow_add]
    exact Nat.le_trans (Nat.mul_le_mul_left _ h1) (Nat.le_add_left _ _)
  · rw [show p + y.log2 + 1 = p + (y.log2 + 1) by omega, Nat.pow_add]
    have : 2 ^ p * (y + 1) ≤ 2 ^ p * 2 ^ (y.log2 + 1) := Nat.mul_le_mul_left _ h2
    rw [Nat.mul_add, Nat.mul_one] at this
    omega

/-- a number with a non-zero top word: value split and degree -/
theorem val_top {w : Nat} {b : List Nat} (hb : Wf w b) {m : Nat} (hm : b.length = m) (hm1 : 1 ≤ m) :
    val w b = val w (b.take (m - 1)) + 2 ^ (w * (m - 1)) * b.getD (m - 1) 0
    ∧ val w (b.take (m - 1)) < 2 ^ (w * (m - 1)) := by
  have h1 := val_take_succ_add (w := w) (a := b) (m - 1) (by omega)
  rw [show m - 1 + 1 = m by omega, ← hm, List.take_length, hm] at h1
  have h3 := val_lt (Wf_take hb (m - 1))
  rw [List.length_take, Nat.min_eq_left (by omega)] at h3
  exact ⟨h1, h3⟩

theorem log2_val_top {w : Nat} {b : List Nat} (hb : Wf w b) {m : Nat} (hm : b.length = m) (hm1 : 1 ≤ m)
    (htop : b.getD (m - 1) 0 ≠ 0) :
    (val w b).log2 = w * (m - 1) + (b.getD (m - 1) 0).log2 := by
  obtain ⟨h1, h2⟩ := val_top hb hm hm1
  rw [h1]; exact log2_add_mul h2 htop

/-- the normalisation shift of ppDiv -/
theorem shift_eq {w tb : Nat} (htb0 : tb ≠ 0) (htb : tb < 2 ^ w) :
    (ppBitSize tb - 1) % w = tb.log2 := by
  unfold ppBitSize
  rw [if_neg htb0, Nat.add_sub_cancel]
  exact Nat.mod_eq_of_lt ((Nat.log2_lt htb0).2 htb)

theorem pdivmod_eq_of {a b q r : Nat} (hb : b ≠ 0) (h : a = clmul q b ^^^ r) (hr : r < 2 ^ b.log2) :
    pdivmod a b = (q, r) := by
  obtain ⟨h1, h2⟩ := pdivmod_spec a b hb
  obtain ⟨e1, e2⟩ := divmod_unique hb h2 hr (h1.trans h)
  exact Prod.ext e1 e2

theorem Wf_zero1 (w : Nat) : Wf w [0] := Wf_cons.2 ⟨Nat.two_pow_pos w, Wf_nil w⟩

/-- the loop's divisor array is the low `m` words of `Y`; the leading 1 of `Y` (at the word boundary) is implicit -/
theorem ppDivLoop_monic {w : Nat} (hw : WordOK w) {dv d : List Nat} {m L K Y D : Nat} (hm1 : 1 ≤ m)
    (hY : Y.log2 = w * m) (hY0 : Y ≠ 0) (hdv : Rep w m dv (Y % 2 ^ (w * m))) (hd : Rep w L d D)
    (hL : m + K ≤ L) (hD : D < 2 ^ (w * (m + K))) :
    ∃ r q, ppDivLoop w dv (divPreS4 w (dv.getD (m - 1) 0)) (mulPreS4 w (dv.getD (m - 1) 0)) K d = (r, q)
      ∧ Rep w L r (pdivmod D Y).2 ∧ Rep w K q (pdivmod D Y).1 := by
  obtain ⟨r, q, e, i1, i2, i3, i4, i5, i6⟩ := ppDivLoop_ok hw dv m L hdv.wf hdv.len hm1 K d hd.wf hd.len hL
    (by rw [hd.eq]; exact hD)
  have hB : 2 ^ (w * m) ^^^ Y % 2 ^ (w * m) = Y := by
    obtain ⟨lo, hi⟩ := (Nat.log2_eq_iff hY0).1 hY
    have hdiv : Y / 2 ^ (w * m) = 1 := Nat.div_eq_of_lt_le (by omega) (by rw [Nat.pow_succ] at hi; omega)
    have h1 := add_shl_eq_xor (a := 1) (b := Y % 2 ^ (w * m)) (i := w * m) (Nat.mod_lt _ (Nat.two_pow_pos _))
    rw [Nat.one_shiftLeft, Nat.mul_one] at h1
    rw [← h1]
    conv => rhs; rw [← Nat.div_add_mod Y (2 ^ (w * m)), hdiv, Nat.mul_one]
  rw [hd.eq, hdv.eq, hB] at i6
  have := pdivmod_eq_of hY0 i6 (by rw [hY]; exact i5)
  exact ⟨r, q, e, ⟨i1, i2, by rw [this]⟩, ⟨i3, i4, by rw [this]⟩⟩

/-- the main branch of ppDiv / ppMod -/
theorem ppDivCore_ok {w : Nat} (hw : WordOK w) (a b : List Nat) (extra : Nat)
    (hex : extra ≤ 1) (ha : Wf w a) (hb : Wf w b) (hnm : b.length ≤ a.length) (hm1 : 1 ≤ b.length)
    (htop : b.getD (b.length - 1) 0 ≠ 0) (hne1 : ¬ (b.length = 1 ∧ b.getD 0 0 = 1)) :
    val w (ppDivCore w a b extra).2 = (pdivmod (val w a) (val w b)).2
    ∧ (ppDivCore w a b extra).2.length = b.length ∧ Wf w (ppDivCore w a b extra).2
    ∧ (extra = 0 → val w (ppDivCore w a b extra).1 = (pdivmod (val w a) (val w b)).1
        ∧ (ppDivCore w a b extra).1.length = a.length - b.length + 1
        ∧ Wf w (ppDivCore w a b extra).1) := by
  obtain ⟨_, _, hw0⟩ := width_facts hw
  have htb := getD_lt hb (b.length - 1)
  have hlogb := log2_val_top hb rfl hm1 htop
  have hb0 : val w b ≠ 0 := by
    have := (val_top hb rfl hm1).1
    have : 0 < 2 ^ (w * (b.length - 1)) * b.getD (b.length - 1) 0 :=
      Nat.mul_pos (Nat.two_pow_pos _) (by omega)
    omega
  have hlogtb : (b.getD (b.length - 1) 0).log2 < w := (Nat.log2_lt htop).2 htb
  have hd0 : Rep w (a.length + 1) (a ++ [0]) (val w a) := by
    have := (Rep.mk' ha).append (Rep.zero w 1)
    rwa [Nat.mul_zero, Nat.add_zero] at this
  have hva := val_lt ha
  have hrem := (pdivmod_spec (val w a) (val w b) hb0).2
  unfold ppDivCore
  dsimp only
  rw [shift_eq htop htb]
  split
  · -- shift == 0: the top word of b is the implicit leading 1
    rename_i hs
    have hlog : (val w b).log2 = w * (b.length - 1) := by rw [hlogb, hs, Nat.add_zero]
    have htb1 : b.getD (b.length - 1) 0 = 1 := by
      have := (Nat.log2_lt htop).1 (by omega : (b.getD (b.length - 1) 0).log2 < 1)
      omega
    have hm2 : 2 ≤ b.length := by
      by_contra h1
      have h1 : b.length = 1 := by omega
      exact hne1 ⟨h1, by rw [h1] at htb1; exact htb1⟩
    obtain ⟨r, q, e, hr, hq⟩ := ppDivLoop_monic hw (K := a.length - b.length + 1 + extra) (by omega) hlog hb0
      ((Rep.mk' hb).take (b.length - 1) (by omega)) hd0 (by omega)
      (Nat.lt_of_lt_of_le hva (Nat.pow_le_pow_right (by omega) (Nat.mul_le_mul_left w (by omega))))
    rw [show b.length - 1 - 1 = b.length - 2 by omega] at e
    rw [e]
    have hr' := (hr.take (b.length - 1) (by omega)).append (Rep.zero w 1)
    rw [Nat.mul_zero, Nat.add_zero, Nat.mod_eq_of_lt (by rw [← hlog]; exact hrem),
      show b.length - 1 + 1 = b.length by omega] at hr'
    refine ⟨hr'.eq, hr'.len, hr'.wf, ?_⟩
    rintro rfl
    have hq' := hq.take (a.length - b.length + 1) (Nat.le_refl _)
    rw [Nat.mod_eq_of_lt hq.lt] at hq'
    exact ⟨hq'.eq, hq'.len, hq'.wf⟩
  · -- shift != 0
    rename_i hs
    generalize hshd : w - (b.getD (b.length - 1) 0).log2 = sh
    have hsh1 : sh ≤ w := by omega
    have hXne : val w b <<< sh ≠ 0 := by
      rw [Nat.shiftLeft_eq]; exact Nat.mul_ne_zero hb0 (Nat.pos_iff_ne_zero.1 (Nat.two_pow_pos _))
    have hwm : w * b.length = w * (b.length - 1) + w := by
      conv => lhs; rw [show b.length = (b.length - 1) + 1 by omega, Nat.mul_succ]
    have hXlog : (val w b <<< sh).log2 = w * b.length := by
      rw [Nat.shiftLeft_eq, log2_mul_two_pow hb0, hlogb]; omega
    have hAlt : val w a <<< sh < 2 ^ (w * (a.length + 1)) := by
      rw [Nat.shiftLeft_eq, Nat.mul_succ, Nat.pow_add]
      exact Nat.lt_of_lt_of_le (Nat.mul_lt_mul_of_pos_right hva (Nat.two_pow_pos _))
        (Nat.mul_le_mul_left _ (Nat.pow_le_pow_right (by omega) hsh1))
    obtain ⟨r, q, e, hr, hq⟩ := ppDivLoop_monic hw (K := a.length - b.length + 1) hm1 hXlog hXne
      (dv := toWords w b.length (val w b * 2 ^ sh)) (d := toWords w (a.length + 1) (val w (a ++ [0]) * 2 ^ sh))
      (by rw [← Nat.shiftLeft_eq]; exact ⟨toWords_Wf _ _ _, toWords_length _ _ _, val_toWords _ _ _⟩)
      (Rep.iff_toWords.2 ⟨by rw [hd0.eq, Nat.shiftLeft_eq], hAlt⟩) (by omega)
      (by rw [show b.length + (a.length - b.length + 1) = a.length + 1 by omega]; exact hAlt)
    rw [pdivmod_shift _ _ _ hb0] at hr hq
    rw [e, toWords_take w _ _ _ (by omega), hr.eq, Nat.shiftLeft_eq, Nat.mul_div_cancel _ (Nat.two_pow_pos _),
      val_toWords, Nat.mod_eq_of_lt (Nat.lt_of_lt_of_le hrem (Nat.pow_le_pow_right (by omega) (by rw [hlogb]; omega)))]
    exact ⟨rfl, toWords_length w _ _, toWords_Wf w _ _, fun _ => ⟨hq.eq, hq.len, hq.wf⟩⟩

/-! ## ppDiv / ppMod -/

theorem val_one_of {w : Nat} {b : List Nat} (h1 : b.length = 1) (h2 : b.getD 0 0 = 1) : val w b = 1 := by
  match b, h1 with
  | [x], _ => simp at h2; subst h2; simp [val]

theorem pdivmod_one (x : Nat) : pdivmod x 1 = (x, 0) :=
  pdivmod_eq_of (by decide) (by rw [clmul_one, Nat.xor_zero]) (Nat.two_pow_pos _)

/-- a dividend with fewer words than the divisor takes the `deg a < deg b` shortcut -/
theorem small_of_short {w : Nat} {a b : List Nat} (ha : Wf w a) (hb : Wf w b) (hm1 : 1 ≤ b.length)
    (htop : b.getD (b.length - 1) 0 ≠ 0) (hlt : a.length < b.length) :
    ppBitSize (val w a) < ppBitSize (val w b) := by
  have hva := val_lt ha
  have hlogb := log2_val_top hb rfl hm1 htop
  obtain ⟨hvb, _⟩ := val_top hb rfl hm1
  have hb0 : val w b ≠ 0 := by
    have : 0 < 2 ^ (w * (b.length - 1)) * b.getD (b.length - 1) 0 :=
      Nat.mul_pos (Nat.two_pow_pos _) (by omega)
    omega
  have hle : w * a.length ≤ w * (b.length - 1) := Nat.mul_le_mul_left w (by omega)
  unfold ppBitSize
  rw [if_neg hb0]
  by_cases ha0 : val w a = 0
  · rw [if_pos ha0]; omega
  · rw [if_neg ha0]
    have : (val w a).log2 < w * a.length := (Nat.log2_lt ha0).2 hva
    omega

theorem ppDiv_ok {w : Nat} (hw : WordOK w) (a b : List Nat) (ha : Wf w a) (hb : Wf w b)
    (hnm : b.length ≤ a.length) (hm1 : 1 ≤ b.length) (htop : b.getD (b.length - 1) 0 ≠ 0) :
    pdivmod (val w a) (val w b) = (val w (ppDiv w a b).1, val w (ppDiv w a b).2)
    ∧ (ppDiv w a b).1.length = a.length - b.length + 1 ∧ (ppDiv w a b).2.length = b.length
    ∧ Wf w (ppDiv w a b).1 ∧ Wf w (ppDiv w a b).2 := by
  by_cases hlt : ppBitSize (val w a) < ppBitSize (val w b)
  · obtain ⟨h1, h2⟩ := ppDiv_small a b ha hb hnm hlt
    obtain ⟨hy, hx⟩ := lt_of_bitSize_lt hlt
    rw [h1]
    dsimp only
    rw [val_replicate_zero, h2, pdivmod_eq_of hy (by rw [zero_clmul, Nat.zero_xor]) hx]
    refine ⟨rfl, by simp, by rw [List.length_take]; omega, Wf_replicate_zero w _, Wf_take ha _⟩
  · by_cases hone : b.length = 1 ∧ b.getD 0 0 = 1
    · have h1 : ppDiv w a b = (a, [0]) := by
        unfold ppDiv; simp only [if_neg hlt, if_pos hone]
      rw [h1, val_one_of hone.1 hone.2, pdivmod_one]
      dsimp only
      refine ⟨by simp [val], by omega, by simp [hone.1], ha, Wf_zero1 w⟩
    · have h1 : ppDiv w a b = ppDivCore w a b 0 := by
        unfold ppDiv; simp only [if_neg hlt, if_neg hone]
      rw [h1]
      obtain ⟨c1, c2, c3, c4⟩ := ppDivCore_ok hw a b 0 (by omega) ha hb hnm hm1 htop hone
      obtain ⟨c5, c6, c7⟩ := c4 rfl
      exact ⟨Prod.ext c5.symm c1.symm, c6, c2, c7, c3⟩

theorem ppMod_ok {w : Nat} (hw : WordOK w) (a b : List Nat) (ha : Wf w a) (hb : Wf w b)
    (hm1 : 1 ≤ b.length) (htop : b.getD (b.length - 1) 0 ≠ 0) :
    val w (ppMod w a b) = pmod (val w a) (val w b)
    ∧ (ppMod w a b).length = b.length ∧ Wf w (ppMod w a b) := by
  by_cases hlt : ppBitSize (val w a) < ppBitSize (val w b)
  · obtain ⟨h1, h2⟩ := ppMod_small a b ha hb hlt
    obtain ⟨hy, hx⟩ := lt_of_bitSize_lt hlt
    refine ⟨by rw [h1, pmod_of_lt hy hx], h2, ?_⟩
    unfold ppMod
    simp only [if_pos hlt]
    split
    · exact Wf_append.2 ⟨ha, Wf_replicate_zero w _⟩
    · exact Wf_take ha _
  · have hnm : b.length ≤ a.length := by
      by_cases h : b.length ≤ a.length
      · exact h
      · exact absurd (small_of_short ha hb hm1 htop (by omega)) hlt
    by_cases hone : b.length = 1 ∧ b.getD 0 0 = 1
    · have h1 : ppMod w a b = [0] := by
        unfold ppMod; simp only [if_neg hlt, if_pos hone]
      rw [h1, val_one_of hone.1 hone.2, pmod_one]
      exact ⟨by simp [val], by simp [hone.1], Wf_zero1 w⟩
    · have h1 : ppMod w a b = (ppDivCore w a b 1).2 := by
        unfold ppMod; simp only [if_neg hlt, if_neg hone]
      rw [h1]
      obtain ⟨c1, c2, c3, _⟩ := ppDivCore_ok hw a b 1 (by omega) ha hb hnm hm1 htop hone
      exact ⟨c1, c2, c3⟩

end Bee2V.C05.PpDiv
