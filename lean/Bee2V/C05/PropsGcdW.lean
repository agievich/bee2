/-
C05 — the word-level models of zz_gcd.c (ModelGcdW.lean) refine the value-level models
(ModelGcd.lean): `val w (word-level result) = value-level result`, with Wf and the C length.
All value-level theorems of PropsGcd.lean therefore hold for the word-level code; the
transferred end-to-end statements are given as corollaries.  Helper lemmas: LemmasGcdW.lean.
-/
import Bee2V.C05.LemmasGcdW
namespace Bee2V.C05
open Bee2V.C05.Add Bee2V.C05.GcdW

/-! ## zzDivMod -/

/-- refinement: the word-level zzDivMod (n-word buffers u, v, da, da1, normalised lengths nu, nv,
    wwShLo / wwShLoCarry / zzAdd2 / zzSub2 / zzSubW2 / wwCmp / wwCmp2 / wwWordSize / wwIsW) computes
    the value-level model, n words.  (`divident < mod` is the header's precondition.) -/
theorem zzDivModW_refines_V (w : Nat) (hw : 0 < w) (d a mod : List Nat)
    (hd : Wf w d) (ha : Wf w a) (hm : Wf w mod)
    (hdl : d.length = mod.length) (hal : a.length = mod.length) (hdm : val w d < val w mod) :
    val w (zzDivModW w d a mod) = zzDivModV (val w d) (val w a) (val w mod)
    ∧ Wf w (zzDivModW w d a mod) ∧ (zzDivModW w d a mod).length = mod.length := by
  unfold zzDivModW zzDivModV
  simp only []
  rw [wwIsZero_safe_spec w]
  have hzero := Rep.zero w mod.length
  by_cases ha0 : val w a = 0
  · simp only [ha0, decide_true, if_true]
    exact hzero.spec
  · simp only [ha0, decide_false, Bool.false_eq_true, if_false]
    obtain ⟨l1, l2⟩ := zzDivModLoopW_spec hw (Rep.mk' hm) (val w a + val w mod + 1) a (wwWordSize a) mod
      mod.length d _ _ _ _ _ (Rep.wordSize ⟨ha, hal, rfl⟩).1 (Rep.mk' hm).pre ⟨hd, hdl, rfl⟩ hzero hdm
      (by omega)
    rw [l1.isOne hw]
    by_cases h1 : (zzDivModLoop (val w mod) (val w a + val w mod + 1) (val w a) (val w mod) (val w d) 0).1 = 1
    · simp only [h1, decide_true, Bool.not_true, Bool.false_eq_true, if_false, ne_eq, not_true_eq_false]
      exact l2.spec
    · simp only [h1, decide_false, Bool.not_false, if_true, ne_eq, not_false_eq_true]
      exact hzero.spec

/-- end to end, word level: for odd mod, a < mod, divident < mod:
    gcd(a, mod) = 1 → b a ≡ divident (mod mod), b < mod;  gcd(a, mod) ≠ 1 → b = 0. -/
theorem zzDivModW_spec (w : Nat) (hw : 0 < w) (d a mod : List Nat)
    (hd : Wf w d) (ha : Wf w a) (hm : Wf w mod)
    (hdl : d.length = mod.length) (hal : a.length = mod.length)
    (hodd : val w mod % 2 = 1) (ham : val w a < val w mod) (hdm : val w d < val w mod) :
    (Nat.gcd (val w a) (val w mod) = 1 →
        (val w (zzDivModW w d a mod) * val w a) % val w mod = val w d % val w mod
        ∧ val w (zzDivModW w d a mod) < val w mod)
    ∧ (Nat.gcd (val w a) (val w mod) ≠ 1 → val w (zzDivModW w d a mod) = 0)
    ∧ Wf w (zzDivModW w d a mod) ∧ (zzDivModW w d a mod).length = mod.length := by
  obtain ⟨h1, h2, h3⟩ := zzDivModW_refines_V w hw d a mod hd ha hm hdl hal hdm
  rw [h1]
  exact ⟨fun hg => zzDivModV_spec _ _ _ hodd ham hdm hg,
    fun hg => zzDivModV_not_coprime _ _ _ hodd ham hdm hg, h2, h3⟩

example : zzDivModW 8 [57, 48] [7, 200] [1, 255] = toWords 8 2 (zzDivModV (57 + 256 * 48) (7 + 256 * 200) (1 + 256 * 255))
    ∧ (val 8 (zzDivModW 8 [57, 48] [7, 200] [1, 255]) * (7 + 256 * 200)) % (1 + 256 * 255) = 57 + 256 * 48
    ∧ zzDivModW 8 [5, 0] [0, 0] [1, 255] = [0, 0] := by decide +kernel

/-! ## zzGCD

`SizesOK w` packages what zz_gcd.c uses of wwBitSize / wwLoZeroBits (their wordCLZ / wordCTZ are
table- or scan-based per word size); it holds for the three build sizes by PropsBits. -/

theorem sizesOK16 : SizesOK 16 := fun a h =>
  ⟨⟨(wwBitSize16_spec a h).1.1, (wwBitSize16_spec a h).1.2.1⟩, (wwLoZeroBits16_spec a h).1⟩
theorem sizesOK32 : SizesOK 32 := fun a h =>
  ⟨⟨(wwSizes32_spec a h).1.1, (wwSizes32_spec a h).1.2.1⟩, (wwSizes32_spec a h).2⟩
theorem sizesOK64 : SizesOK 64 := fun a h =>
  ⟨⟨(wwSizes64_spec a h).1.1, (wwSizes64_spec a h).1.2.1⟩, (wwSizes64_spec a h).2⟩

/-- refinement: the word-level zzGCD (buffers u, v with the running lengths n, m; wwLoZeroBits,
    wwShLo, wwWordSize, wwCmp2, zzSub2 + zzSubW2, and the final
    `wwShHi(d, W_OF_B(wwBitSize(d, m) + s), s)` on that window) computes the value-level model,
    min(n, m) words (header: a, b ≠ 0). -/
theorem zzGCDW_refines_V (w : Nat) (hw : 0 < w) (hs : SizesOK w) (a b : List Nat)
    (ha : Wf w a) (hb : Wf w b) (hap : 0 < val w a) (hbp : 0 < val w b) :
    val w (zzGCDW w a b) = zzGCDV (val w a) (val w b)
    ∧ Wf w (zzGCDW w a b) ∧ (zzGCDW w a b).length = min a.length b.length := by
  obtain ⟨c1, c2, c3, c4, c5⟩ := Gcd.shift_common hap hbp
  have hgcd := zzGCDV_spec (val w a) (val w b) hap hbp
  unfold zzGCDW zzGCDV at *
  simp only [] at *
  rw [lz_eq hs a ha hap, lz_eq hs b hb hbp]
  generalize min (loZeros (val w a)) (loZeros (val w b)) = s at *
  -- u <- a >> s, v <- b >> s
  have hu := ((Rep.mk' ha).shLo hw s).wordSize.1
  have hv := ((Rep.mk' hb).shLo hw s).wordSize.1
  rw [hu.eq, hv.eq]
  obtain ⟨l1, l2, l3⟩ := zzGCDLoopW_spec hw hs (val w a / 2 ^ s + val w b / 2 ^ s) _ _ _ _ _ _
    hu hv c4 c5 (Nat.le_refl _)
  generalize zzGCDLoopW w (val w a / 2 ^ s + val w b / 2 ^ s) (wwShLo w a s) (wwWordSize (wwShLo w a s))
    (wwShLo w b s) (wwWordSize (wwShLo w b s)) = r at *
  generalize zzGCDLoop (val w a / 2 ^ s + val w b / 2 ^ s) (val w a / 2 ^ s) (val w b / 2 ^ s) = G at *
  -- d <- u[0 .. n), zero padded to k words, then shifted up by s inside its window
  have hG2 : G * 2 ^ s < 2 ^ (w * min a.length b.length) := by
    rw [hgcd]; exact gcd_lt_min (Rep.mk' ha) (Rep.mk' hb) hap hbp
  obtain ⟨p1, p2⟩ := l1.take.padTake (k := min a.length b.length)
    (Nat.lt_of_le_of_lt (Nat.le_mul_of_pos_right _ (Nat.two_pow_pos s)) hG2)
  exact (p1.finalShift hw hs s r.2.2 (p2 _ l2) hG2).spec


/-- end to end, word level: zzGCD computes the greatest common divisor. -/
theorem zzGCDW_spec (w : Nat) (hw : 0 < w) (hs : SizesOK w) (a b : List Nat)
    (ha : Wf w a) (hb : Wf w b) (hap : 0 < val w a) (hbp : 0 < val w b) :
    val w (zzGCDW w a b) = Nat.gcd (val w a) (val w b)
    ∧ Wf w (zzGCDW w a b) ∧ (zzGCDW w a b).length = min a.length b.length := by
  obtain ⟨h1, h2, h3⟩ := zzGCDW_refines_V w hw hs a b ha hb hap hbp
  exact ⟨by rw [h1, zzGCDV_spec _ _ hap hbp], h2, h3⟩

/-- the 64-bit build. -/
theorem zzGCDW_spec64 (a b : List Nat) (ha : Wf 64 a) (hb : Wf 64 b)
    (hap : 0 < val 64 a) (hbp : 0 < val 64 b) :
    val 64 (zzGCDW 64 a b) = Nat.gcd (val 64 a) (val 64 b)
    ∧ Wf 64 (zzGCDW 64 a b) ∧ (zzGCDW 64 a b).length = min a.length b.length :=
  zzGCDW_spec 64 (by decide) sizesOK64 a b ha hb hap hbp

example : zzGCDW 64 [0, 96, 0] [0, 40] = [0, 8] ∧ zzGCDW 16 [0, 0, 12] [0, 18, 0, 0] = [0, 6, 0] := by
  decide +kernel

/-! ## zzAlmostInvMod -/

/-- refinement: the word-level zzAlmostInvMod (u, v with nu, nv; the (n+1)-word da0, da;
    zzIsEven, wwShLo, wwShHi, wwCmp2, zzSub2 + zzSubW2, zzAdd2 on n + 1 words, the final
    `wwCmp2(da, n + 1, mod, n) >= 0 → da[n] -= zzSub2(da, mod, n)` and zzNegMod) computes the
    value-level model: same b (as a value, n words) and the same k.  The (n+1)-word buffers never
    overflow because `mod = v da0 + u da` with u, v ≥ 1 (`GcdW.zzAlmostInvLoopW_spec`).
    Header: mod odd, mod[n-1] ≠ 0 (`2^(w (n-1)) ≤ mod`), a ≠ 0. -/
theorem zzAlmostInvModW_refines_V (w : Nat) (hw : 0 < w) (a mod : List Nat)
    (ha : Wf w a) (hm : Wf w mod) (hal : a.length = mod.length) (hodd : val w mod % 2 = 1)
    (htop : 0 < mod.length → 2 ^ (w * (mod.length - 1)) ≤ val w mod) (hap : 0 < val w a) :
    val w (zzAlmostInvModW w a mod).1 = (zzAlmostInvModV (val w a) (val w mod)).1
    ∧ (zzAlmostInvModW w a mod).2 = (zzAlmostInvModV (val w a) (val w mod)).2
    ∧ Wf w (zzAlmostInvModW w a mod).1 ∧ (zzAlmostInvModW w a mod).1.length = mod.length := by
  have h2w := two_le_two_pow hw
  have hM := (Rep.mk' hm).lt
  -- the initial buffers
  have hone : Rep w (mod.length + 1) (1 :: List.replicate mod.length 0) 1 :=
    ⟨Wf_cons.mpr ⟨by omega, Wf_replicate_zero w _⟩, by simp, by rw [val_cons, val_replicate_zero]; simp⟩
  obtain ⟨hu, hnu⟩ := (Rep.mk' ha).wordSize
  obtain ⟨l1, l2, l3⟩ := zzAlmostInvLoopW_spec hw hM (val w a + val w mod) a (wwWordSize a) mod mod.length
    _ _ 0 _ _ _ _ hu (Rep.mk' hm).pre hnu htop hone (Rep.zero w _) hap (by omega) (by ring)
  -- value level: da < 2 mod
  obtain ⟨_, _, g3, _⟩ := Gcd.zzAlmostInvLoop_top (val w a) (val w mod) hodd hap
  unfold zzAlmostInvModW zzAlmostInvModV
  simp only []
  rw [l1.isOne hw, l3]
  generalize zzAlmostInvLoopW w (val w a + val w mod) a (wwWordSize a) mod mod.length
    (1 :: List.replicate mod.length 0) (List.replicate (mod.length + 1) 0) 0 = r at *
  generalize zzAlmostInvLoop (val w a + val w mod) (val w a) (val w mod) 1 0 0 = e at *
  by_cases h1 : e.1 = 1
  · simp only [h1, decide_true, Bool.not_true, Bool.false_eq_true, if_false, ne_eq,
      not_true_eq_false]
    -- da reduced once, then negated
    have q := l2.redOnceW (Rep.mk' hm) g3
    obtain ⟨n1, _, n3, n4⟩ := zzNegMod_safe_spec w _ mod q.wf hm q.len (by rw [q.eq]; split_ifs <;> omega)
    refine ⟨?_, trivial, n3, by rw [n4, q.len]⟩
    rw [n1, q.eq]
    unfold zzNegModV
    generalize (if e.2.1 ≥ val w mod then e.2.1 - val w mod else e.2.1) = x at *
    by_cases hx : x = 0
    · rw [if_pos hx, hx, Nat.sub_zero, Nat.mod_self]
    · rw [if_neg hx, Nat.mod_eq_of_lt (by omega)]
  · simp only [h1, decide_false, Bool.not_false, if_true, ne_eq, not_false_eq_true]
    exact ⟨val_replicate_zero w _, trivial, Wf_replicate_zero w _, List.length_replicate⟩

/-- end to end, word level (mod odd, mod[n-1] ≠ 0, 0 < a < mod):
    gcd(a, mod) = 1 → b a ≡ 2^k (mod mod), b < mod, bitlen(mod) ≤ k ≤ 2 bitlen(mod);
    gcd(a, mod) ≠ 1 → b = 0. -/
theorem zzAlmostInvModW_spec (w : Nat) (hw : 0 < w) (a mod : List Nat)
    (ha : Wf w a) (hm : Wf w mod) (hal : a.length = mod.length) (hodd : val w mod % 2 = 1)
    (htop : 0 < mod.length → 2 ^ (w * (mod.length - 1)) ≤ val w mod)
    (hap : 0 < val w a) (ham : val w a < val w mod) :
    (Nat.gcd (val w a) (val w mod) = 1 →
        (val w (zzAlmostInvModW w a mod).1 * val w a) % val w mod
          = 2 ^ (zzAlmostInvModW w a mod).2 % val w mod
        ∧ val w (zzAlmostInvModW w a mod).1 < val w mod
        ∧ Nat.log2 (val w mod) + 1 ≤ (zzAlmostInvModW w a mod).2
        ∧ (zzAlmostInvModW w a mod).2 ≤ 2 * (Nat.log2 (val w mod) + 1))
    ∧ (Nat.gcd (val w a) (val w mod) ≠ 1 → val w (zzAlmostInvModW w a mod).1 = 0)
    ∧ Wf w (zzAlmostInvModW w a mod).1 ∧ (zzAlmostInvModW w a mod).1.length = mod.length := by
  obtain ⟨h1, h2, h3, h4⟩ := zzAlmostInvModW_refines_V w hw a mod ha hm hal hodd htop hap
  rw [h1, h2]
  refine ⟨fun hg => ?_, fun hg => zzAlmostInvModV_not_coprime _ _ hodd hap hg, h3, h4⟩
  obtain ⟨s1, s2, _⟩ := zzAlmostInvModV_spec _ _ hodd hap ham hg
  obtain ⟨_, _, c3, c4⟩ := zzAlmostInvModV_count _ _ hodd hap ham hg
  exact ⟨s1, s2, c3, c4⟩

example : zzAlmostInvModW 8 [7, 200] [1, 255] = (toWords 8 2 (zzAlmostInvModV (7 + 256 * 200) (1 + 256 * 255)).1,
      (zzAlmostInvModV (7 + 256 * 200) (1 + 256 * 255)).2)
    ∧ (val 8 (zzAlmostInvModW 8 [7, 200] [1, 255]).1 * (7 + 256 * 200)) % (1 + 256 * 255)
        = 2 ^ (zzAlmostInvModW 8 [7, 200] [1, 255]).2 % (1 + 256 * 255) := by decide +kernel

/-! ## zzExGCD -/

/-- refinement: the word-level zzExGCD (aa, bb with the normalised n, m; u, v with nu, mv; the
    coefficient buffers da, da1 on m words and db, db1 on n words; wwShLo / wwShLoCarry + zzAdd2 in
    the halving loops, the `>` corrections `zzAdd2 … || wwCmp … > 0 → zzSub2`, the final copy and
    `wwShHi(d, W_OF_B(wwBitSize(d, nu) + s), s)`) computes the value-level model:
    d (min(n, m) words), da (m words), db (n words).  Header: a, b ≠ 0. -/
theorem zzExGCDW_refines_V (w : Nat) (hw : 0 < w) (hs : SizesOK w) (a b : List Nat)
    (ha : Wf w a) (hb : Wf w b) (hap : 0 < val w a) (hbp : 0 < val w b) :
    val w (zzExGCDW w a b).1 = (zzExGCDV (val w a) (val w b)).1
    ∧ val w (zzExGCDW w a b).2.1 = (zzExGCDV (val w a) (val w b)).2.1
    ∧ val w (zzExGCDW w a b).2.2 = (zzExGCDV (val w a) (val w b)).2.2
    ∧ Wf w (zzExGCDW w a b).1 ∧ (zzExGCDW w a b).1.length = min a.length b.length
    ∧ Wf w (zzExGCDW w a b).2.1 ∧ (zzExGCDW w a b).2.1.length = b.length
    ∧ Wf w (zzExGCDW w a b).2.2 ∧ (zzExGCDW w a b).2.2.length = a.length := by
  obtain ⟨c1, c2, c3, c4, c5⟩ := Gcd.shift_common hap hbp
  obtain ⟨hgcd, _⟩ := zzExGCDV_spec (val w a) (val w b) hap hbp
  unfold zzExGCDW
  unfold zzExGCDV at hgcd ⊢
  simp only [] at *
  rw [lz_eq hs a ha hap, lz_eq hs b hb hbp]
  generalize min (loZeros (val w a)) (loZeros (val w b)) = s at *
  -- aa, bb
  obtain ⟨haa, hnpos, hnle⟩ := (Rep.mk' ha).shiftNorm hw s c4
  obtain ⟨hbb, hmpos, hmle⟩ := (Rep.mk' hb).shiftNorm hw s c5
  generalize wwWordSize (wwShLo w a s) = n at *
  generalize wwWordSize (wwShLo w b s) = m at *
  generalize (wwShLo w a s).take n = aa at *
  generalize (wwShLo w b s).take m = bb at *
  rw [haa.eq, hbb.eq]
  obtain ⟨l1, l2, l3⟩ := zzExGCDLoopW_spec hw haa hbb (val w a / 2 ^ s + val w b / 2 ^ s) aa n bb m
    _ _ _ _ _ _ _ _ _ _ haa.pre hbb.pre (Rep.oneTake hw b.length hmpos hmle) (Rep.zero w n)
    (Rep.zero w m) (Rep.oneTake hw a.length hnpos hnle) (by omega) (by omega) (by omega) (by omega)
  generalize zzExGCDLoopW w aa bb (val w a / 2 ^ s + val w b / 2 ^ s) aa n bb m
    ((1 :: List.replicate (b.length - 1) 0).take m) (List.replicate n 0) (List.replicate m 0)
    ((1 :: List.replicate (a.length - 1) 0).take n) = r at *
  generalize zzExGCDLoop (val w a / 2 ^ s) (val w b / 2 ^ s) (val w a / 2 ^ s + val w b / 2 ^ s)
    (val w a / 2 ^ s) (val w b / 2 ^ s) 1 0 0 1 = e at *
  -- d <- u[0 .. nu), zero padded to k words, then shifted up by s inside its window
  have hG2 : e.1 * 2 ^ s < 2 ^ (w * min a.length b.length) := by
    rw [hgcd]; exact gcd_lt_min (Rep.mk' ha) (Rep.mk' hb) hap hbp
  obtain ⟨d1, d2⟩ := l1.take.padTake (k := min a.length b.length)
    (Nat.lt_of_le_of_lt (Nat.le_mul_of_pos_right _ (Nat.two_pow_pos s)) hG2)
  obtain ⟨f1, f2, f3⟩ := (d1.finalShift hw hs s r.2.1 (d2 _ (Nat.le_refl _)) hG2).spec
  have pa := l2.pad (b.length - m)
  have pb := l3.pad (a.length - n)
  exact ⟨f1, pa.eq, pb.eq, f2, f3, pa.wf, by rw [pa.len]; omega, pb.wf, by rw [pb.len]; omega⟩

/-- end to end, word level: `d = gcd(a, b)` and the Bezout identity `da a = d + db b`
    (i.e. `da a - db b = d`), with `da ≤ b`, `db ≤ a`. -/
theorem zzExGCDW_spec (w : Nat) (hw : 0 < w) (hs : SizesOK w) (a b : List Nat)
    (ha : Wf w a) (hb : Wf w b) (hap : 0 < val w a) (hbp : 0 < val w b) :
    val w (zzExGCDW w a b).1 = Nat.gcd (val w a) (val w b)
    ∧ val w (zzExGCDW w a b).2.1 * val w a
        = val w (zzExGCDW w a b).1 + val w (zzExGCDW w a b).2.2 * val w b
    ∧ val w (zzExGCDW w a b).2.1 ≤ val w b ∧ val w (zzExGCDW w a b).2.2 ≤ val w a
    ∧ Wf w (zzExGCDW w a b).1 ∧ (zzExGCDW w a b).1.length = min a.length b.length
    ∧ Wf w (zzExGCDW w a b).2.1 ∧ (zzExGCDW w a b).2.1.length = b.length
    ∧ Wf w (zzExGCDW w a b).2.2 ∧ (zzExGCDW w a b).2.2.length = a.length := by
  obtain ⟨h1, h2, h3, h4⟩ := zzExGCDW_refines_V w hw hs a b ha hb hap hbp
  obtain ⟨g1, g2, g3, g4⟩ := zzExGCDV_spec (val w a) (val w b) hap hbp
  rw [h1, h2, h3]
  exact ⟨g1, g2, g3, g4, h4⟩

/-- the 64-bit build. -/
theorem zzExGCDW_spec64 (a b : List Nat) (ha : Wf 64 a) (hb : Wf 64 b)
    (hap : 0 < val 64 a) (hbp : 0 < val 64 b) :
    val 64 (zzExGCDW 64 a b).1 = Nat.gcd (val 64 a) (val 64 b)
    ∧ val 64 (zzExGCDW 64 a b).2.1 * val 64 a
        = val 64 (zzExGCDW 64 a b).1 + val 64 (zzExGCDW 64 a b).2.2 * val 64 b :=
  let h := zzExGCDW_spec 64 (by decide) sizesOK64 a b ha hb hap hbp
  ⟨h.1, h.2.1⟩

example : zzExGCDW 16 [0, 12] [0, 18, 0] = ([0, 6], [5, 0, 0], [3, 0])
    ∧ 5 * (12 * 65536) = 6 * 65536 + 3 * (18 * 65536) := by decide +kernel

/-! ## zzInvMod -/

/-- word-level zzInvMod (`wwSetW(divident, n, 1)` + zzDivMod) computes the value-level zzDivModV
    with divident 1; end to end for odd mod > 1, a < mod:
    gcd = 1 → b a ≡ 1 (mod mod), b < mod; gcd ≠ 1 → b = 0. -/
theorem zzInvModW_spec (w : Nat) (hw : 0 < w) (a mod : List Nat)
    (ha : Wf w a) (hm : Wf w mod) (hal : a.length = mod.length)
    (hodd : val w mod % 2 = 1) (hm1 : 1 < val w mod) (ham : val w a < val w mod) :
    val w (zzInvModW w a mod) = zzDivModV 1 (val w a) (val w mod)
    ∧ (Nat.gcd (val w a) (val w mod) = 1 →
        (val w (zzInvModW w a mod) * val w a) % val w mod = 1
        ∧ val w (zzInvModW w a mod) < val w mod)
    ∧ (Nat.gcd (val w a) (val w mod) ≠ 1 → val w (zzInvModW w a mod) = 0)
    ∧ Wf w (zzInvModW w a mod) ∧ (zzInvModW w a mod).length = mod.length := by
  have hne : mod ≠ [] := by
    intro h; rw [h] at hm1; simp [val] at hm1
  have h2w := two_le_two_pow hw
  obtain ⟨s1, s2, s3⟩ := wwSetW_spec (w := w) mod 1 hne (by omega)
  obtain ⟨h1, h2, h3⟩ := zzDivModW_refines_V w hw (wwSetW mod 1) a mod s2 ha hm s1 hal (by rw [s3]; exact hm1)
  rw [s3] at h1
  unfold zzInvModW
  rw [h1]
  refine ⟨rfl, fun hg => ?_, fun hg => zzDivModV_not_coprime 1 _ _ hodd ham hm1 hg, h2, h3⟩
  obtain ⟨e1, e2⟩ := zzDivModV_spec 1 _ _ hodd ham hm1 hg
  rw [Nat.mod_eq_of_lt hm1] at e1
  exact ⟨e1, e2⟩

example : (val 8 (zzInvModW 8 [7, 200] [1, 255]) * (7 + 256 * 200)) % (1 + 256 * 255) = 1
    ∧ zzInvModW 8 [3, 0] [9, 0] = [0, 0] := by decide +kernel

end Bee2V.C05
