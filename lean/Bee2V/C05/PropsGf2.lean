/-
C05 — gf2Tr, gf2QSolve (gf2.c), ppMinPoly, ppIsIrred (pp_etc.c) = exact arithmetic in
GF(2)[x]/(f) (value-level models of ModelGf2.lean; helper lemmas in LemmasGf2.lean, which
builds the `CommRing` structure of GF(2)[x]/(f) on Nat codes from the finished theory of
`Spec.clmul` / `pmod` in LemmasPp.lean).

What irreducibility of f (degree m) provides is taken as explicit hypotheses of the theorems (nothing is postulated):
  `FrobFix f m`   : f ≠ 0, deg f = m, and x^(2^m) = x for every reduced x (iterated qrSqr);
  `NoZeroDiv f m` : no zero divisors among reduced codes.
Both are decidable for a concrete f (see the examples).  `FrobFix` alone does NOT make the
trace 0/1 (example with f = product of the three irreducible quartics below).
-/
import Bee2V.C05.LemmasGf2
namespace Bee2V.C05
open Bee2V.C05.Spec Bee2V.C05.Pp Bee2V.C05.Gf2
open Bee2V.Char2 (trSum htrSum)

/-! ## gf2Tr -/

/-- gf2Tr, ring identity (any f ≠ 0, any reduced a, m ≥ 1 turns): the loop `t <- t^2 + a`
    ends with `t = Σ_{i<m} a^(2^i) mod f` (`gf2TrSum` = xor of the iterated squares) -/
theorem gf2TrVal_sum (f a m : Nat) (hf : f ≠ 0) (ha : a < 2 ^ f.log2) (hm : 1 ≤ m) :
    gf2TrVal f m a = gf2TrSum f a m := by
  have : Fact (f ≠ 0) := ⟨hf⟩
  rw [trVal_nat a ha m hm]
  exact (gf2TrSum_eq (mk a ha) m).symm

/-- the trace value is additive (ring identity) -/
theorem gf2TrVal_add (f a b m : Nat) (hf : f ≠ 0) (ha : a < 2 ^ f.log2) (hb : b < 2 ^ f.log2)
    (hm : 1 ≤ m) : gf2TrVal f m (a ^^^ b) = gf2TrVal f m a ^^^ gf2TrVal f m b := by
  have : Fact (f ≠ 0) := ⟨hf⟩
  have h : gf2TrVal f m (a ^^^ b) = _ := gf2TrVal_eq (mk a ha + mk b hb) m hm
  rw [Char2.trSum_add add_self] at h
  rw [trVal_nat a ha m hm, trVal_nat b hb m hm]
  exact h

/-- Tr(x^2) = Tr(x) when Frobenius^m is the identity -/
theorem gf2TrVal_sqr (f a m : Nat) (hF : FrobFix f m) (ha : a < 2 ^ m) (hm : 1 ≤ m) :
    gf2TrVal f m (gfSqr f a) = gf2TrVal f m a := by
  have : Fact (f ≠ 0) := ⟨hF.1⟩
  have ha' : a < 2 ^ f.log2 := by rw [hF.2.1]; exact ha
  have h := gf2TrVal_eq ((mk a ha') ^ 2) m hm
  rw [Char2.trSum_sq add_self, trSum_idem hF, val_sq] at h
  rw [trVal_nat a ha' m hm]
  exact h

/-- in a field GF(2^m) the loop value is 0 or 1 (header: "След совпадает либо с нулем, либо с
    единицей поля"; it is the C `ASSERT(qrIsUnity(t, f))`), so gf2Tr returns TRUE iff Tr = 1 -/
theorem gf2TrVal_bit (f a m : Nat) (hF : FrobFix f m) (hZ : NoZeroDiv f m) (ha : a < 2 ^ m)
    (hm : 1 ≤ m) : gf2TrVal f m a = 0 ∨ gf2TrVal f m a = 1 := by
  have : Fact (f ≠ 0) := ⟨hF.1⟩
  have hlog := hF.2.1
  have ha' : a < 2 ^ f.log2 := by rw [hlog]; exact ha
  rw [trVal_nat a ha' m hm]
  have hT := trSum_idem hF (mk a ha')
  generalize trSum (mk a ha') m = T at *
  have h0 : T * (T + 1) = 0 := by linear_combination hT + add_self T
  have h1 := congrArg Subtype.val h0
  rw [val_mul, val_zero] at h1
  have hone : pmod 1 f = 1 := pmod_of_lt hF.1 (by
    rw [hlog]
    calc 1 < 2 ^ 1 := by decide
      _ ≤ 2 ^ m := Nat.pow_le_pow_right (by decide) hm)
  rcases hZ _ _ (by rw [← hlog]; exact T.2) (by rw [← hlog]; exact (T + 1).2) h1 with h | h
  · exact Or.inl h
  · right
    rw [val_add, val_one, hone] at h
    exact xor_eq_zero_iff.1 h

theorem gf2TrV_iff (f a m : Nat) (hF : FrobFix f m) (hZ : NoZeroDiv f m) (ha : a < 2 ^ m)
    (hm : 1 ≤ m) : gf2TrV f m a = true ↔ gf2TrVal f m a = 1 := by
  unfold gf2TrV
  rcases gf2TrVal_bit f a m hF hZ ha hm with h | h <;> simp [h]

-- the hypotheses are satisfiable: x^5 + x^2 + 1 (and x^7 + x + 1, `gf128_frobFix` below)
example : FrobFix 0b100101 5 ∧ NoZeroDiv 0b100101 5 :=
  ⟨frobFix_of_x (by decide) (by decide) (by decide +kernel),
   noZeroDiv_of_sqr_coprime (by decide) (by decide) (by decide) (by decide +kernel)⟩
example : gf2TrVal 0b100101 5 0b10110 = gf2TrSum 0b100101 0b10110 5
    ∧ gf2TrV 0b100101 5 0b00111 = true ∧ gf2TrV 0b100101 5 0b00110 = false := by decide +kernel
-- FrobFix alone is not enough for "trace ∈ {0, 1}": f = (x^4+x+1)(x^4+x^3+1)(x^4+x^3+x^2+x+1)
-- = 4681 has x^(2^12) = x for all 4096 reduced x (checked by native evaluation only:
-- `(List.range 4096).all fun x => gf2SqrN 4681 12 x == x` is `true`; too slow for the kernel),
-- yet the loop value for a = x is neither 0 nor 1, and the ring has zero divisors:
example : gf2TrVal 4681 12 2 = 278 ∧ ¬ NoZeroDiv 4681 12 := by
  refine ⟨by decide +kernel, ?_⟩
  intro h
  have := h 0b10011 (clmul 0b11001 0b11111) (by decide) (by decide +kernel) (by decide +kernel)
  revert this
  decide +kernel

/-! ## gf2QSolve -/

/-- gf2QSolve returns TRUE (header: m odd, a, b in the field; f odd; `a^2` invertible when
    a ≠ 0 — what a field gives; then ppDivModV is the quotient by PropsPp.ppDivModV_spec):
    the stored x is reduced and satisfies `x^2 + a x + b = 0` in GF(2)[x]/(f). -/
theorem gf2QSolveV_sound (f m a b x : Nat) (hF : FrobFix f m) (hodd : m % 2 = 1)
    (hfo : f % 2 = 1) (ha : a < 2 ^ m) (hb : b < 2 ^ m) (hg : a ≠ 0 → pgcd (gfSqr f a) f = 1)
    (h : gf2QSolveV f m a b = some x) :
    x < 2 ^ m ∧ gfSqr f x ^^^ gfMul f a x ^^^ b = 0 := by
  have : Fact (f ≠ 0) := ⟨hF.1⟩
  have hlog := hF.2.1
  have ha' : a < 2 ^ f.log2 := by rw [hlog]; exact ha
  have hb' : b < 2 ^ f.log2 := by rw [hlog]; exact hb
  suffices hs : ∃ X : R f, X.1 = x ∧ X ^ 2 + mk a ha' * X + mk b hb' = 0 by
    obtain ⟨X, hX, hq⟩ := hs
    have := qeq_val X (mk a ha') (mk b hb')
    rw [hq, hX] at this
    exact ⟨by rw [← hX, ← hlog]; exact X.2, this⟩
  unfold gf2QSolveV at h
  by_cases ha0 : a = 0
  · rw [if_pos ha0] at h
    injection h with h
    refine ⟨(mk b hb') ^ 2 ^ (m - 1), by rw [← h]; exact (gf2SqrN_eq (mk b hb') (m - 1)).symm, ?_⟩
    have e : ((mk b hb') ^ 2 ^ (m - 1)) ^ 2 = mk b hb' := by
      rw [← Char2.pow_two_pow_succ, show m - 1 + 1 = m by omega, frobFix_ring hF]
    have ez : mk a ha' = 0 := R.ext ha0
    rw [e, ez]
    linear_combination add_self (mk b hb')
  · rw [if_neg ha0] at h
    by_cases hb0 : b = 0
    · rw [if_pos hb0] at h
      injection h with h
      refine ⟨0, h, ?_⟩
      have ez : mk b hb' = 0 := R.ext hb0
      rw [ez]; ring
    · rw [if_neg hb0] at h
      simp only [] at h
      obtain ⟨T, hT1, hT2⟩ := div_ring hfo (mk b hb') ((mk a ha') ^ 2)
        (by rw [val_sq]; exact hg ha0)
      rw [val_sq] at hT1
      change T.1 = ppDivModV b (gfSqr f a) f at hT1
      rw [← hT1] at h
      by_cases htr : gf2TrV f m T.1 = true
      · rw [if_pos htr] at h; cases h
      · rw [if_neg htr] at h
        injection h with h
        have hm1 : 1 ≤ m := by omega
        have h0 : trSum T m = 0 := by
          apply R.ext
          rw [← gf2TrVal_eq T m hm1, val_zero]
          unfold gf2TrV at htr
          simpa using htr
        have hH := htr_eq hF hodd T h0
        have hl := gf2HtrLoop_eq T ((m - 1) / 2) 0
        have e1 : htrSum T (0 + 1) = T := by simp [htrSum]
        rw [e1, show 0 + 1 + (m - 1) / 2 = (m - 1) / 2 + 1 by omega] at hl
        rw [hl] at h
        generalize htrSum T ((m - 1) / 2 + 1) = H at *
        refine ⟨H * mk a ha', h, ?_⟩
        linear_combination (mk a ha') ^ 2 * hH + hT2 + add_self (mk b hb')

/-- gf2QSolve returns FALSE only for a, b ≠ 0 with Tr(b / a^2) ≠ 0, and then the equation has
    no root at all. -/
theorem gf2QSolveV_none (f m a b : Nat) (hF : FrobFix f m) (hodd : m % 2 = 1)
    (hfo : f % 2 = 1) (ha : a < 2 ^ m) (hb : b < 2 ^ m) (hg : a ≠ 0 → pgcd (gfSqr f a) f = 1)
    (h : gf2QSolveV f m a b = none) :
    a ≠ 0 ∧ b ≠ 0 ∧ gf2TrVal f m (ppDivModV b (gfSqr f a) f) ≠ 0
      ∧ ∀ x, x < 2 ^ m → gfSqr f x ^^^ gfMul f a x ^^^ b ≠ 0 := by
  have : Fact (f ≠ 0) := ⟨hF.1⟩
  have hlog := hF.2.1
  have ha' : a < 2 ^ f.log2 := by rw [hlog]; exact ha
  have hb' : b < 2 ^ f.log2 := by rw [hlog]; exact hb
  have hm1 : 1 ≤ m := by omega
  unfold gf2QSolveV at h
  by_cases ha0 : a = 0
  · rw [if_pos ha0] at h; cases h
  · rw [if_neg ha0] at h
    by_cases hb0 : b = 0
    · rw [if_pos hb0] at h; cases h
    · rw [if_neg hb0] at h
      simp only [] at h
      have hgs : pgcd ((mk a ha') ^ 2).1 f = 1 := by rw [val_sq]; exact hg ha0
      obtain ⟨T, hT1, hT2⟩ := div_ring hfo (mk b hb') ((mk a ha') ^ 2) hgs
      obtain ⟨U, _, hU2⟩ := div_ring hfo (1 : R f) ((mk a ha') ^ 2) hgs
      rw [val_sq] at hT1
      change T.1 = ppDivModV b (gfSqr f a) f at hT1
      rw [← hT1] at h ⊢
      by_cases htr : gf2TrV f m T.1 = true
      · have hne : gf2TrVal f m T.1 ≠ 0 := by
          unfold gf2TrV at htr
          simpa using htr
        refine ⟨ha0, hb0, hne, ?_⟩
        intro x hx hq
        have hx' : x < 2 ^ f.log2 := by rw [hlog]; exact hx
        have hq' : (mk x hx') ^ 2 + mk a ha' * mk x hx' + mk b hb' = 0 := by
          apply R.ext
          rw [← qeq_val]
          exact hq
        generalize mk x hx' = X at hq'
        generalize mk a ha' = A at *
        generalize mk b hb' = B at *
        have hY : (X * U * A) ^ 2 + X * U * A = T := by
          linear_combination (X ^ 2 * U + T) * hU2 - U * hT2 + U * hq' - add_self (U * B)
        apply hne
        rw [gf2TrVal_eq T m hm1, ← hY, Char2.trSum_add add_self, Char2.trSum_sq add_self, trSum_idem hF, add_self]
        rfl
      · rw [if_neg htr] at h; cases h

example : gf2QSolveV 0b100101 5 0b00111 0b10001 = some 14
    ∧ gfSqr 0b100101 14 ^^^ gfMul 0b100101 0b00111 14 ^^^ 0b10001 = 0
    ∧ pgcd (gfSqr 0b100101 0b00111) 0b100101 = 1 := by decide +kernel
example : gf2QSolveV 0b100101 5 0b00111 0b10000 = none ∧ gf2QSolveV 0b100101 5 0 0b10110 = some 29
    ∧ gf2QSolveV 0b100101 5 0b110 0 = some 0 := by decide +kernel

/-! ## instantiation at a concrete field: GF(2^7) = GF(2)[x]/(x^7 + x + 1)

All hypotheses are discharged by kernel evaluation, so the theorems above apply unconditionally
to this field (m = 7 is odd, f is odd). -/

/-- one evaluation: x^(2^7) = x -/
theorem gf128_frobFix : FrobFix 0b10000011 7 :=
  frobFix_of_x (by decide) (by decide) (by decide +kernel)
example : FrobFix 0b10000011 7 := gf128_frobFix

theorem gf128_invertible : ∀ a, a < 2 ^ 7 → a ≠ 0 → pgcd (gfSqr 0b10000011 a) 0b10000011 = 1 := by
  decide +kernel

theorem gf128_noZeroDiv : NoZeroDiv 0b10000011 7 :=
  noZeroDiv_of_sqr_coprime (by decide) (by decide) (by decide) gf128_invertible

/-- in GF(2^7): the trace loop ends in 0 or 1, and gf2Tr returns TRUE exactly for trace 1 -/
theorem gf128_tr (a : Nat) (ha : a < 2 ^ 7) :
    (gf2TrVal 0b10000011 7 a = 0 ∨ gf2TrVal 0b10000011 7 a = 1)
      ∧ (gf2TrV 0b10000011 7 a = true ↔ gf2TrVal 0b10000011 7 a = 1) :=
  ⟨gf2TrVal_bit _ a 7 gf128_frobFix gf128_noZeroDiv ha (by decide),
   gf2TrV_iff _ a 7 gf128_frobFix gf128_noZeroDiv ha (by decide)⟩

/-- in GF(2^7): gf2QSolve is correct and complete — TRUE comes with a root, FALSE means that
    x^2 + a x + b has no root -/
theorem gf128_qsolve (a b : Nat) (ha : a < 2 ^ 7) (hb : b < 2 ^ 7) :
    (∀ x, gf2QSolveV 0b10000011 7 a b = some x →
        x < 2 ^ 7 ∧ gfSqr 0b10000011 x ^^^ gfMul 0b10000011 a x ^^^ b = 0)
      ∧ (gf2QSolveV 0b10000011 7 a b = none →
        ∀ x, x < 2 ^ 7 → gfSqr 0b10000011 x ^^^ gfMul 0b10000011 a x ^^^ b ≠ 0) :=
  ⟨fun x h => gf2QSolveV_sound _ 7 a b x gf128_frobFix (by decide) (by decide) ha hb
      (gf128_invertible a ha) h,
   fun h => (gf2QSolveV_none _ 7 a b gf128_frobFix (by decide) (by decide) ha hb
      (gf128_invertible a ha) h).2.2.2⟩

/-! ## ppMinPoly -/

/- Remark: "the coefficients of x^l … x^{2l-1} of da·a vanish" makes da a true annihilator
   (deg(da·a mod x^{2l}) < deg da) only when the linear complexity of the sequence is ≤ l; for
   e.g. l = 1, a = 0b01 the C code (and the model) returns 1, and no annihilator of degree ≤ 1
   exists — the header does not state this restriction.  The theorem below characterises the
   result for ALL inputs: it is the generator of the solutions of the "key equation"
   g·a = r + k·x^{2l}, deg g ≤ l, deg r < l. -/

/-- ppMinPoly (l ≥ 1; the sequence = the low 2l bits of a, as wwTrimHi does): the Euclid loop on
    (x^{2l}, a) as written returns da ≠ 0 with deg da ≤ l (so it fits the W_OF_B(l+1) words of
    b: the C ASSERT on `nq + nda`), da·a mod x^{2l} has degree < l, and da is MINIMAL: every
    g ≠ 0 with deg g ≤ l and g·a = r + k·x^{2l}, deg r < l, is a polynomial multiple of da
    (in particular deg da ≤ deg g). -/
theorem ppMinPolyV_spec (a l : Nat) (hl : 1 ≤ l) :
    ppMinPolyV a l ≠ 0 ∧ (ppMinPolyV a l).log2 ≤ l
      ∧ clmul (ppMinPolyV a l) (a % 2 ^ (2 * l)) % 2 ^ (2 * l) < 2 ^ l
      ∧ ∀ g r k, g ≠ 0 → g.log2 ≤ l → r < 2 ^ l →
          clmul g (a % 2 ^ (2 * l)) ^^^ r = clmul k (2 ^ (2 * l)) →
          (∃ h', g = clmul h' (ppMinPolyV a l)) ∧ (ppMinPolyV a l).log2 ≤ g.log2 := by
  obtain ⟨aa', bb', db', hI, haal⟩ := minPolyV_inv a l hl
  refine ⟨hI.da0, by have := hI.deg; have := hI.bbl; omega, ?_, fun g r k hg0 hgl hr hk => ?_⟩
  · rw [cong_two_pow_mod hI.c1
      (Nat.lt_of_lt_of_le haal (Nat.pow_le_pow_right (by decide) (by omega)))]
    exact haal
  · obtain ⟨h', hh'⟩ := mp_minimal hI haal hg0 hgl hr ⟨k, hk⟩
    refine ⟨⟨h', hh'⟩, ?_⟩
    have hh0 : h' ≠ 0 := by
      rintro rfl
      rw [zero_clmul] at hh'
      exact hg0 hh'
    rw [hh', log2_clmul hh0 hI.da0]
    have := hI.deg; have := hI.bbl
    omega

-- the sequence 1,0,1,1,0,1,1,0 (period 3: s_{j+2} = s_{j+1} + s_j) has minimal polynomial x^2+x+1
example : ppMinPolyV 0b10110110 4 = 0b111 ∧ ppMinPolyV 0 5 = 1 ∧ ppMinPolyV (2 ^ 10 - 1) 5 = 0b11
    ∧ clmul 0b111 0b10110110 % 2 ^ 8 = 0b10 ∧ ppMinPolyV 0b01 1 = 1 := by decide +kernel

/-! ## ppIsIrred -/

/-- ppIsIrred as written (un-reduced start h = x^2, the `h + x == 0` early FALSE, ppGCD by the
    binary algorithm of ModelPp, squaring skipped in the last turn) returns exactly what the
    Ben-Or specification `Spec.pIsIrred` returns, for every a.  (Both compute
    gcd(a, x^(2^i) + x) = 1 for i = 1 … deg a / 2; the link of Ben-Or's criterion to mathematical
    irreducibility is not part of this theorem.) -/
theorem ppIsIrredV_spec (a : Nat) : ppIsIrredV a = pIsIrred a := by
  unfold ppIsIrredV pIsIrred pdeg
  by_cases h0 : a = 0
  · subst h0; rfl
  · rw [if_neg h0]
    by_cases h1 : a = 1
    · subst h1; rfl
    · have ha : 1 < a := by omega
      rw [if_neg (by omega)]
      have hl : a.log2 ≠ 0 := by
        have := (Nat.le_log2 h0 (k := 1)).2 (by omega)
        omega
      obtain ⟨n, hn⟩ := Nat.exists_eq_succ_of_ne_zero hl
      rw [hn]
      simp only []
      have := foldl_const (specStep a (pmod 2 a)) (List.range ((n + 1) / 2)) (pmod 2 a, true)
      rw [List.length_range] at this
      change _ = ((List.range ((n + 1) / 2)).foldl (fun st _ => specStep a (pmod 2 a) st) (pmod 2 a, true)).2
      rw [this, iterate_spec]
      apply irredLoop_eq a ha
      unfold psqr
      have ha0 : a ≠ 0 := h0
      rw [pmod_mul_left ha0, pmod_mul_right ha0]
      rfl

example : ppIsIrredV (2 ^ 17 + 2 ^ 3 + 1) = true
    ∧ ppIsIrredV (2 ^ 17 + 2 ^ 2 + 1) = false ∧ ppIsIrredV 0b10011 = true
    ∧ ppIsIrredV 0b10101 = false ∧ ppIsIrredV 1 = false ∧ ppIsIrredV 0b11 = true
    ∧ ppIsIrredV 0b110 = false := by decide +kernel

end Bee2V.C05
