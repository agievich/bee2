/-
C05 — zzPowerModW, qrPower, zzSqrt, zzJacobi, zmCreate / Montgomery ring = exact arithmetic
(value-level models of ModelEtc.lean; helper lemmas in LemmasEtc.lean).

Every statement is about the top-level model function (fuel included), for ALL operands.
-/
import Bee2V.C05.LemmasEtc
import Mathlib.Algebra.Group.Defs
namespace Bee2V.C05
open Bee2V.C05.Etc

/-! ## zzPowerModW -/

/-- zzPowerModW (header: mod != 0; a, b, mod are words): the sliding-window loop returns
    `a^b mod mod`; no dword product wraps (the model reduces each one `% 2^(2w)`). -/
theorem zzPowerModW_spec (w a b mod : Nat) (hm0 : mod ≠ 0) (_ha : a < 2 ^ w) (hb : b < 2 ^ w)
    (hm : mod < 2 ^ w) : zzPowerModW w a b mod = a ^ b % mod := by
  have h := zzPowerModW_red w (a % mod) b mod hm0 (Nat.mod_lt _ (by omega)) hb hm
  rw [← Nat.pow_mod] at h
  rw [← h]
  unfold zzPowerModW
  simp only [Nat.mod_mod]

example : zzPowerModW 64 (2 ^ 64 - 1) 0xF0F0F0F00F0F0F77 (2 ^ 64 - 59) = 6976378336917727278
    ∧ (2 ^ 64 - 1) ^ 0xF0F0F0F00F0F0F77 % (2 ^ 64 - 59) = 6976378336917727278 := by
  constructor
  · decide +kernel
  · rw [← zzPowerModW_spec 64 _ _ _ (by decide) (by decide) (by decide) (by decide)]
    decide +kernel
example : zzPowerModW 16 5 0 1 = 0 ∧ zzPowerModW 16 0 0 7 = 1 ∧ zzPowerModW 16 9 1 7 = 2 := by
  decide +kernel

/-! ## qrPower -/

/-- qrPower, most general form: if `pw k` is any family of ring elements with `pw 0 = unity`,
    `mul (pw i) (pw j) = pw (i + j)`, `sqr (pw i) = pw (2 i)` then `qrPower(pw 1, b) = pw b`
    for every window width `wd ≥ 1` (the C code uses 3..7). -/
theorem qrPowerG_family {α : Type} (mul : α → α → α) (sqr : α → α) (unity : α) (pw : Nat → α)
    (h0 : pw 0 = unity) (hmul : ∀ i j, mul (pw i) (pw j) = pw (i + j))
    (hsqr : ∀ i, sqr (pw i) = pw (2 * i)) (b wd : Nat) (hwd : 1 ≤ wd) :
    qrPowerG mul sqr unity (pw 1) b wd = pw b := by
  unfold qrPowerG
  by_cases hb : b = 0
  · rw [if_pos hb, hb, h0]
  · rw [if_neg hb]
    simp only []
    rw [show bitSizeV b - 1 = Nat.log2 b by unfold bitSizeV; rw [if_neg hb]; rfl]
    exact qrPower_run mul sqr pw hmul hsqr _ b wd hwd hb
      (fun j hj => qrPowers_getD mul sqr pw hmul hsqr wd hwd unity j hj)

/-- qrPower in any monoid (mul = `*`, sqr x = x * x, unity = 1): `a^b`, every window width. -/
theorem qrPowerG_monoid {α : Type} [Monoid α] (a : α) (b wd : Nat) (hwd : 1 ≤ wd) :
    qrPowerG (· * ·) (fun x => x * x) 1 a b wd = a ^ b := by
  have := qrPowerG_family (α := α) (· * ·) (fun x => x * x) 1 (fun k => a ^ k) (pow_zero a)
    (fun i j => (pow_add a i j).symm) (fun i => by rw [← pow_add, two_mul]) b wd hwd
  simpa using this

/-- qrPower as the C code runs it (window from qrCalcSlideWidth, which is always in 3..7). -/
theorem qrPowerV_monoid {α : Type} [Monoid α] (w : Nat) (a : α) (b m : Nat) :
    qrPowerV (· * ·) (fun x => x * x) 1 w a b m = a ^ b := by
  unfold qrPowerV
  apply qrPowerG_monoid
  unfold qrCalcSlideWidth
  simp only []
  split_ifs <;> omega

/-- qrCalcSlideWidth returns 3..7, so the table has 4..64 entries -/
theorem qrCalcSlideWidth_range (w m : Nat) :
    3 ≤ qrCalcSlideWidth w m ∧ qrCalcSlideWidth w m ≤ 7 := by
  unfold qrCalcSlideWidth
  simp only []
  split_ifs <;> omega

/-- qrPower in Z/(m) with plain reduction (mul u v = u v mod m), the instance run by the
    driver: `a^b mod m` for a < m. -/
theorem qrPowerG_zm (m a b wd : Nat) (ha : a < m) (hwd : 1 ≤ wd) :
    qrPowerG (fun u v => u * v % m) (fun u => u * u % m) (1 % m) a b wd = a ^ b % m := by
  have := qrPowerG_family (fun u v => u * v % m) (fun u => u * u % m) (1 % m)
    (fun k => a ^ k % m) (by simp) (fun i j => by rw [← Nat.mul_mod, ← Nat.pow_add])
    (fun i => by rw [← Nat.mul_mod, ← Nat.pow_add, Nat.two_mul]) b wd hwd
  simp only [Nat.pow_one, Nat.mod_eq_of_lt ha] at this
  exact this

example : qrPowerG (fun u v => u * v % 1000003) (fun u => u * u % 1000003) 1 2 (2 ^ 70 + 12345) 5
    = 8841 := by decide +kernel
example : qrCalcSlideWidth 64 1 = 3 ∧ qrCalcSlideWidth 64 2 = 4 ∧ qrCalcSlideWidth 64 4 = 5
    ∧ qrCalcSlideWidth 64 11 = 6 ∧ qrCalcSlideWidth 64 28 = 7 := by decide
example : (qrPowerG (· * ·) (fun x => x * x) 1 (3 : Nat) 77 4) = 3 ^ 77 := by decide +kernel

/-! ## zzSqrt -/

/-- zzSqrt (a of n words, any word size w > 0): the Newton iteration as written — including the
    early `return FALSE` on a non-zero extra quotient word and the shrinking word count m —
    stores `b = ⌊√a⌋` and returns TRUE exactly for perfect squares. -/
theorem zzSqrtV_spec (w n a : Nat) (hw : 0 < w) (ha : a < 2 ^ (w * n)) :
    (zzSqrtV w n a).1 = Nat.sqrt a
      ∧ ((zzSqrtV w n a).2 = true ↔ Nat.sqrt a * Nat.sqrt a = a) := by
  unfold zzSqrtV
  simp only []
  by_cases h0 : wordSizeV w a = 0
  · rw [if_pos h0]
    have := wordSizeV_lt w a hw
    rw [h0] at this
    obtain rfl : a = 0 := by simpa using this
    simp
  · rw [if_neg h0]
    have ha0 : a ≠ 0 := by
      rintro rfl
      exact h0 (wordSizeV_zero w)
    obtain ⟨_, e, s1, s2⟩ := sqrt_start w n a hw ha0 ha
    rw [e]
    exact zzSqrtLoop_spec w a hw ha0 _ _ _ s1 s2 (by omega)

/-- the same without `Nat.sqrt`: `b^2 ≤ a < (b+1)^2`, and the flag says `b^2 = a` -/
theorem zzSqrtV_floor (w n a : Nat) (hw : 0 < w) (ha : a < 2 ^ (w * n)) :
    (zzSqrtV w n a).1 * (zzSqrtV w n a).1 ≤ a
      ∧ a < ((zzSqrtV w n a).1 + 1) * ((zzSqrtV w n a).1 + 1)
      ∧ ((zzSqrtV w n a).2 = true ↔ (zzSqrtV w n a).1 * (zzSqrtV w n a).1 = a) := by
  obtain ⟨h1, h2⟩ := zzSqrtV_spec w n a hw ha
  rw [h1]
  exact ⟨Nat.sqrt_le a, Nat.lt_succ_sqrt a, h2⟩

example : zzSqrtV 64 4 ((2 ^ 128 - 1) * (2 ^ 128 - 1)) = (2 ^ 128 - 1, true)
    ∧ zzSqrtV 64 4 ((2 ^ 128 - 1) * (2 ^ 128 - 1) - 1) = (2 ^ 128 - 2, false)
    ∧ zzSqrtV 64 4 (2 ^ 256 - 1) = (2 ^ 128 - 1, false)
    ∧ zzSqrtV 64 3 0 = (0, true) ∧ zzSqrtV 16 1 1 = (1, true) := by decide +kernel

/-! ## zzJacobi -/

open scoped NumberTheorySymbols in
/-- zzJacobi (header: b odd; any a, in particular a ≥ b and a shorter than b): the loop as
    written returns the Jacobi symbol `(a / b)` of Mathlib (`jacobiSym`, defined through the
    Legendre symbols of the prime factors of b — the definition quoted in zz.h). -/
theorem zzJacobiV_spec (a b : Nat) (hb : b % 2 = 1) : zzJacobiV a b = J((a : ℤ) | b) := by
  unfold zzJacobiV
  rw [zzJacobiLoop_spec (b + 1) (a % b) b 1 hb (by omega)
    (by rcases Nat.lt_or_ge 1 b with h | h
        · exact Or.inl (Nat.mod_lt _ (by omega))
        · exact Or.inr (by omega))]
  rw [one_mul, Int.natCast_mod, ← jacobiSym.mod_left]

example : zzJacobiV 1001 9907 = -1 ∧ zzJacobiV (2 ^ 127 + 12345) (2 ^ 89 - 1) = 1
    ∧ zzJacobiV 21 (3 * (2 ^ 64 + 13)) = 0 ∧ zzJacobiV 5 1 = 1 ∧ zzJacobiV 0 1 = 1
    ∧ zzJacobiV 0 9 = 0 ∧ zzJacobiV (2 ^ 200 + 1) 3 = -1 := by decide +kernel

/-! ## Montgomery ring of zmCreateMont: zzRedMont, zmFromMont / zmToMont / zmMulMont -/

/-- zzRedMont (header: mod odd, mod[n-1] != 0, a < mod * R, mont_param = wordNegInv(mod[0]) —
    used only through the C ASSERT `(word)(mod[0] * mont_param + 1) == 0`): the Dussé–Kaliski
    loop plus the masked final subtraction returns a value `< mod` with
    `result * R ≡ a (mod mod)`, R = B^n — i.e. `a * R^{-1} mod mod`. -/
theorem zzRedMontV_spec (w n md mp a : Nat) (hmp : (md % 2 ^ w * mp + 1) % 2 ^ w = 0)
    (hmd : md < 2 ^ (w * n)) (ha : a < md * 2 ^ (w * n)) :
    zzRedMontV w n md mp a < md ∧ zzRedMontV w n md mp a * 2 ^ (w * n) ≡ a [MOD md] := by
  obtain ⟨g1, g2, g3⟩ := zzRedMontLoopV_spec w md mp hmp n 0 a (by simp)
  unfold zzRedMontV
  simp only []
  generalize zzRedMontLoopV w md mp n 0 a = s at *
  simp only [Nat.zero_add, Nat.mul_zero, Nat.pow_zero, Nat.mul_one] at g1 g3
  obtain ⟨F, hF⟩ := g1
  have hR := Nat.two_pow_pos (w * n)
  have h2R : 2 ^ (w * (2 * n)) = 2 ^ (w * n) * 2 ^ (w * n) := by
    rw [show w * (2 * n) = w * n + w * n by ring, Nat.pow_add]
  rw [h2R]
  generalize 2 ^ (w * n) = R at *
  subst hF
  have hmd0 : 0 < md := by
    rcases Nat.eq_zero_or_pos md with h | h
    · subst h; simp at ha
    · exact h
  have hFlt : F < 2 * md := by
    have : R * F < R * (2 * md) := by
      calc R * F < a + md * R := by omega
        _ < md * R + md * R := by omega
        _ = R * (2 * md) := by ring
    exact Nat.lt_of_mul_lt_mul_left this
  have e1 : R * F / R = F := Nat.mul_div_cancel_left _ hR
  have e2 : R * F / (R * R) = F / R := by
    rw [← Nat.div_div_eq_div_mul, e1]
  rw [e1, e2]
  have key : (if md ≤ F % R ∨ (if F / R ≠ 0 then 1 else 0) = 1 then (F % R + R - md) % R else F % R)
      = if md ≤ F then F - md else F := by
    by_cases hFR : F < R
    · rw [Nat.div_eq_of_lt hFR, Nat.mod_eq_of_lt hFR]
      simp only [ne_eq, not_true_eq_false, if_false, Nat.zero_ne_one, or_false]
      by_cases hc : md ≤ F
      · rw [if_pos hc, if_pos hc]
        have : F + R - md = (F - md) + R := by omega
        rw [this, Nat.add_mod_right]
        exact Nat.mod_eq_of_lt (by omega)
      · rw [if_neg hc, if_neg hc]
    · have h1 : F / R ≠ 0 := by
        intro h
        rw [Nat.div_eq_zero_iff] at h
        omega
      have h2 : F % R = F - R := by
        rw [Nat.mod_eq_sub_mod (by omega)]
        exact Nat.mod_eq_of_lt (by omega)
      rw [if_pos h1, h2, if_pos (Or.inr rfl), if_pos (by omega)]
      have : F - R + R - md = F - md := by omega
      rw [this]
      exact Nat.mod_eq_of_lt (by omega)
  rw [key]
  by_cases hc : md ≤ F
  · rw [if_pos hc]
    refine ⟨by omega, Nat.ModEq.trans ?_ g2⟩
    have : R * F = (F - md) * R + md * R := by
      rw [← Nat.add_mul]; rw [Nat.sub_add_cancel hc, Nat.mul_comm]
    rw [this]
    have h0 : md * R ≡ 0 [MOD md] := by
      rw [Nat.modEq_zero_iff_dvd]; exact ⟨R, rfl⟩
    simpa using ((Nat.ModEq.refl ((F - md) * R)).add h0).symm

  · rw [if_neg hc]
    refine ⟨by omega, ?_⟩
    rw [Nat.mul_comm]; exact g2

/-- round trip of the Montgomery representation: `to (from a) = a` for a < mod, mod odd -/
theorem zmMont_roundtrip (w n md mp a : Nat) (hodd : md % 2 = 1)
    (hmp : (md % 2 ^ w * mp + 1) % 2 ^ w = 0) (hmd : md < 2 ^ (w * n)) (ha : a < md) :
    zmToMontV w n md mp (zmFromMontV w n md a) = a := by
  unfold zmToMontV zmFromMontV
  have hlt : a * 2 ^ (w * n) % md < md := Nat.mod_lt _ (by omega)
  rw [mont_decode hodd (zzRedMontV_spec w n md mp _ hmp hmd
    (Nat.lt_of_lt_of_le hlt (Nat.le_mul_of_pos_right _ (Nat.two_pow_pos _)))) (Nat.mod_modEq _ _)]
  exact Nat.mod_eq_of_lt ha

/-- multiplication in the Montgomery representation is multiplication in Z/(mod):
    `to (mulMont (from a) (from b)) = a * b mod mod` -/
theorem zmMont_mul (w n md mp a b : Nat) (hodd : md % 2 = 1)
    (hmp : (md % 2 ^ w * mp + 1) % 2 ^ w = 0) (hmd : md < 2 ^ (w * n)) (_ha : a < md)
    (_hb : b < md) :
    zmToMontV w n md mp (zmMulMontV w n md mp (zmFromMontV w n md a) (zmFromMontV w n md b))
      = a * b % md := by
  unfold zmToMontV zmMulMontV zmFromMontV
  have hm0 : 0 < md := by omega
  have hx : a * 2 ^ (w * n) % md < md := Nat.mod_lt _ hm0
  have hy : b * 2 ^ (w * n) % md < md := Nat.mod_lt _ hm0
  -- the product of the two representatives reduces to the representative of `a b`
  obtain ⟨h1, h2⟩ := zzRedMontV_spec w n md mp
    (a * 2 ^ (w * n) % md * (b * 2 ^ (w * n) % md)) hmp hmd
    (Nat.mul_lt_mul'' hx (Nat.lt_trans hy hmd))
  refine mont_decode hodd (zzRedMontV_spec w n md mp _ hmp hmd
    (Nat.lt_of_lt_of_le h1 (Nat.le_mul_of_pos_right _ (Nat.two_pow_pos _)))) (cancel_R (k := w * n) hodd ?_)
  refine h2.trans (((Nat.mod_modEq _ _).mul (Nat.mod_modEq _ _)).trans ?_)
  rw [show a * 2 ^ (w * n) * (b * 2 ^ (w * n)) = a * b * 2 ^ (w * n) * 2 ^ (w * n) by ring]

/-- the `unity` prepared by zmCreateMont represents 1 -/
theorem zmMont_unity (w n md mp : Nat) (hodd : md % 2 = 1)
    (hmp : (md % 2 ^ w * mp + 1) % 2 ^ w = 0) (hmd : md < 2 ^ (w * n)) :
    zmToMontV w n md mp (zmUnityMontV w n md) = 1 % md := by
  unfold zmToMontV zmUnityMontV
  have hm0 : 0 < md := by omega
  have hu : (2 ^ (w * n) - md) % 2 ^ (w * n) % md < md := Nat.mod_lt _ hm0
  refine mont_decode hodd (zzRedMontV_spec w n md mp _ hmp hmd
    (Nat.lt_of_lt_of_le hu (Nat.le_mul_of_pos_right _ (Nat.two_pow_pos _)))) ((Nat.mod_modEq _ _).trans ?_)
  -- `R - md ≡ R`
  rw [Nat.mod_eq_of_lt (by omega), Nat.one_mul]
  have := (Nat.ModEq.refl (2 ^ (w * n) - md)).add (Nat.modEq_zero_iff_dvd.2 (dvd_refl md))
  rw [Nat.sub_add_cancel (by omega), Nat.add_zero] at this
  exact this.symm

/-- u16/u32/u64NegInv (wordNegInv): for odd mod[0] the result satisfies the ASSERT of zzRedMont,
    `(word)(mod[0] * mont_param + 1) == 0` — the hypothesis `hmp` of the theorems above. -/
theorem wordNegInvV_spec (w m0 : Nat) (hw : w = 16 ∨ w = 32 ∨ w = 64) (hm0 : m0 < 2 ^ w)
    (hodd : m0 % 2 = 1) : (m0 % 2 ^ w * wordNegInvV w m0 + 1) % 2 ^ w = 0 := by
  rw [Nat.mod_eq_of_lt hm0]
  unfold wordNegInvV
  have h1 : 2 ^ 1 ∣ m0 * m0 + 1 := by
    apply Nat.dvd_of_mod_eq_zero
    have : m0 * m0 % 2 = 1 := by rw [Nat.mul_mod, hodd]
    omega
  have := wordNegInvLoop_spec w m0 (Nat.log2 w) m0 1 h1 (by omega)
  have hl : 1 * 2 ^ Nat.log2 w = w := by
    rcases hw with rfl | rfl | rfl <;> decide
  rw [hl, Nat.min_self] at this
  exact Nat.mod_eq_zero_of_dvd this

example : wordNegInvV 32 3 = 0x55555555
    ∧ (0xFFFFFFFFFFFFFF43 * wordNegInvV 64 0xFFFFFFFFFFFFFF43 + 1) % 2 ^ 64 = 0
    ∧ (0xFF43 * wordNegInvV 16 0xFF43 + 1) % 2 ^ 16 = 0 := by decide +kernel

example : let md := 2 ^ 127 - 1; let mp := wordNegInvV 64 (md % 2 ^ 64)
    (md % 2 ^ 64 * mp + 1) % 2 ^ 64 = 0 ∧ md % 2 = 1 ∧ md < 2 ^ (64 * 2)
    ∧ zmToMontV 64 2 md mp (zmMulMontV 64 2 md mp (zmFromMontV 64 2 md 12345678901234567890123)
        (zmFromMontV 64 2 md (md - 2))) = 12345678901234567890123 * (md - 2) % md := by
  decide +kernel

/-! ## zmCreate: every branch meets the precondition of the reduction it selects

zmCreate's own precondition `no > 0 && mod[no - 1] > 0` is literally the first precondition of
zmCreatePlain / Crand / Barr / Mont, so it passes through unchanged (nothing to prove); the
branch-specific preconditions are below.  `mod` = the octets (little-endian, `Wf 8`),
O_PER_W = w / 8. -/

/-- Montgomery branch ⇒ the modulus is odd (precondition of zmCreateMont / zzRedMont) -/
theorem zmKind_mont_odd (w : Nat) (mod : List Nat) (h : zmKind w mod = .mont) :
    val 8 mod % 2 = 1 := by
  unfold zmKind at h
  simp only [] at h
  split_ifs at h with h1 h2 h3
  cases mod with
  | nil => simp at h3
  | cons x xs =>
    simp only [List.headD_cons] at h3
    simp only [val_cons]
    omega

/-- Crandall branch ⇒ `no = n * O_PER_W` with `n ≥ 2` (in fact ≥ 3) words and
    `mod = B^n - c` with `0 < c < B` (precondition of zmCreateCrand / zzRedCrand) -/
theorem zmKind_crand_shape (w : Nat) (mod : List Nat) (hwf : Wf 8 mod)
    (h : zmKind w mod = .crand) :
    ∃ n c, mod.length = n * (w / 8) ∧ 2 ≤ n ∧ 0 < c ∧ c < 2 ^ (8 * (w / 8))
      ∧ val 8 mod + c = (2 ^ (8 * (w / 8))) ^ n := by
  unfold zmKind at h
  simp only [] at h
  generalize w / 8 = opw at *
  split_ifs at h with h1 h2
  obtain ⟨d1, d2, d3, d4⟩ := h2
  obtain ⟨n, hn⟩ := Nat.dvd_of_mod_eq_zero d1
  have hsplit : mod = mod.take opw ++ mod.drop opw := (List.take_append_drop opw mod).symm
  have hlt : (mod.take opw).length = opw := by rw [List.length_take]; omega
  have hld : (mod.drop opw).length = (n - 1) * opw := by
    rw [List.length_drop, hn, Nat.sub_mul, Nat.one_mul, Nat.mul_comm]
  have hv := val_append 8 (mod.take opw) (mod.drop opw)
  rw [← hsplit, hlt] at hv
  have hFF := oval_allFF _ d4
  rw [hld] at hFF
  have hlo : val 8 (mod.take opw) < 2 ^ (8 * opw) := by
    have := val_lt (Wf_take hwf opw)
    rwa [hlt] at this
  have hpos := oval_pos (mod.take opw) (by simpa using d3)
  have hn3 : 3 ≤ n := by
    by_contra hc
    have : n ≤ 2 := by omega
    have : opw * n ≤ opw * 2 := Nat.mul_le_mul_left _ this
    omega
  refine ⟨n, 2 ^ (8 * opw) - val 8 (mod.take opw), by rw [hn, Nat.mul_comm], by omega, by omega,
    by omega, ?_⟩
  have e : (2 ^ (8 * opw)) ^ n = 2 ^ (8 * opw) * 2 ^ (8 * ((n - 1) * opw)) := by
    rw [← Nat.pow_mul, ← Nat.pow_add]
    congr 1
    obtain ⟨k, rfl⟩ : ∃ k, n = k + 1 := ⟨n - 1, by omega⟩
    simp only [Nat.add_sub_cancel]; ring
  rw [e, hv]
  generalize 2 ^ (8 * ((n - 1) * opw)) = P at *
  generalize val 8 (List.drop opw mod) = D at *
  have : P = D + 1 := hFF.symm
  subst this
  have : 2 ^ (8 * opw) * (D + 1) = 2 ^ (8 * opw) * D + 2 ^ (8 * opw) := by ring
  omega

/-- Barrett branch ⇒ at least 4 words and an even modulus of more than 2 words -/
theorem zmKind_barr_len (w : Nat) (mod : List Nat) (h : zmKind w mod = .barr) :
    4 * (w / 8) ≤ mod.length := by
  unfold zmKind at h
  simp only [] at h
  split_ifs at h with h1 h2 h3 h4
  exact h4

example : zmKind 64 (List.replicate 8 0x43 ++ List.replicate 24 0xFF) = .crand
    ∧ zmKind 64 (0x43 :: List.replicate 31 0xFE) = .mont
    ∧ zmKind 64 (0x42 :: List.replicate 31 0xFE) = .barr
    ∧ zmKind 64 (0x42 :: List.replicate 23 0xFE) = .plain
    ∧ zmKind 64 (List.replicate 16 0xFF) = .plain
    ∧ zmKind 64 (List.replicate 8 0 ++ List.replicate 24 0xFF) = .barr := by decide

end Bee2V.C05
