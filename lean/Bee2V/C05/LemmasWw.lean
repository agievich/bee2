/-
C05 — ww.c (ModelBits) for every word size `w`.  Shifts, trims, wwGetBits and wwFrom are read off the digits of the
number (`val_window`, `val_take`, `val_drop` of Words.lean; the results are lists `toWords …`); the functions
that set or test single bits compare bit by bit (`testBit_val`: bit k of ⟦a⟧ is bit `k % w` of word `k / w`);
the sizes take `wordCLZ` / `wordCTZ` as parameters with their specification (`ClzOK`, `CtzOK`).
-/
import Bee2V.C05.ModelBits
import Bee2V.C05.LemmasWord16
import Bee2V.C05.Props
import Bee2V.C05.Words
import Bee2V.C05.PWords
import Mathlib.Tactic.Ring
import Mathlib.Tactic.NormNum
namespace Bee2V.C05

theorem tb_div (x s j : Nat) : (x / 2 ^ s).testBit j = x.testBit (s + j) := by
  rw [Nat.testBit_div_two_pow, Nat.add_comm]

theorem testBit_val {w : Nat} (hw : 0 < w) (a : List Nat) (h : Wf w a) (k : Nat) :
    (val w a).testBit k = (a.getD (k / w) 0).testBit (k % w) := by
  rw [getD_digit h, Nat.testBit_mod_two_pow, tb_div, Nat.div_add_mod, decide_eq_true (Nat.mod_lt k hw),
    Bool.true_and]

theorem testBit_high {x w i : Nat} (h : x < 2 ^ w) (hi : w ≤ i) : x.testBit i = false :=
  Nat.testBit_lt_two_pow (Nat.lt_of_lt_of_le h (Nat.pow_le_pow_right (by decide) hi))

theorem idx_lo {w : Nat} (hw : 0 < w) (n r : Nat) (hr : r < w) :
    (w * n + r) / w = n ∧ (w * n + r) % w = r := by
  constructor
  · rw [Nat.mul_add_div hw, Nat.div_eq_of_lt hr]; rfl
  · rw [Nat.mul_add_mod, Nat.mod_eq_of_lt hr]

theorem testBit_wshl (w x s j : Nat) :
    (wshl w x s).testBit j = (decide (j < w) && (decide (s ≤ j) && x.testBit (j - s))) := by
  unfold wshl
  rw [Nat.testBit_mod_two_pow, Nat.testBit_mul_two_pow]

theorem wmask_eq {w width : Nat} (h : width < w) : wsub w (wbit w width) 1 = 2 ^ width - 1 := by
  unfold wsub wbit wshl
  have h1 : 2 ^ width < 2 ^ w := Nat.pow_lt_pow_right (by decide) h
  have h2 : 1 < 2 ^ w := Nat.one_lt_two_pow (by omega)
  rw [Nat.one_mul, Nat.mod_eq_of_lt h1, Nat.mod_eq_of_lt h2]
  have h3 : 0 < 2 ^ width := Nat.two_pow_pos _
  have : 2 ^ width + (2 ^ w - 1) = (2 ^ width - 1) + 2 ^ w := by omega
  rw [this, Nat.add_mod_right, Nat.mod_eq_of_lt (by omega)]

/-- no reservation is needed: beyond the end the model reads 0, as the number does -/
theorem wwGetBits_val {w : Nat} (hw : 0 < w) (a : List Nat) (pos width : Nat) (hwd : width ≤ w)
    (h : Wf w a) : wwGetBits w a pos width = (val w a / 2 ^ pos) % 2 ^ width := by
  have hp : pos % w ≤ w := Nat.le_of_lt (Nat.mod_lt _ hw)
  have hW := val_window h (pos / w) hp
  rw [Nat.div_add_mod] at hW
  have hd : 2 ^ width ∣ 2 ^ w := Nat.pow_dvd_pow 2 hwd
  rw [← Nat.mod_mod_of_dvd _ hd, hW]
  unfold wwGetBits
  simp only []
  have hx := getD_lt h (pos / w)
  generalize a.getD (pos / w) 0 = x at hx ⊢
  generalize a.getD (pos / w + 1) 0 = y
  -- the word before masking agrees with the window modulo 2^width
  have hpre : (if pos % w + width > w then wshr x (pos % w) ||| wshl w y (w - pos % w)
      else wshr x (pos % w)) % 2 ^ width = (wshr x (pos % w) ||| wshl w y (w - pos % w)) % 2 ^ width := by
    split
    · rfl
    · rename_i c
      have : wshl w y (w - pos % w) % 2 ^ width = 0 :=
        Nat.mod_eq_zero_of_dvd ((Nat.dvd_mod_iff hd).mpr
          (Nat.dvd_trans (Nat.pow_dvd_pow 2 (by omega)) (Nat.dvd_mul_left _ _)))
      rw [Nat.or_mod_two_pow, this, Nat.or_zero]
  split
  · rename_i c
    rw [wmask_eq c, Nat.and_two_pow_sub_one_eq_mod, hpre]
  · -- width = w: nothing is cut
    obtain rfl : width = w := by omega
    rw [← hpre]
    refine (Nat.mod_eq_of_lt ?_).symm
    split
    · exact Nat.or_lt_two_pow (Nat.lt_of_le_of_lt (Nat.div_le_self _ _) hx)
        (Nat.mod_lt _ (Nat.two_pow_pos _))
    · exact Nat.lt_of_le_of_lt (Nat.div_le_self _ _) hx

theorem getD_set (a : List Nat) (i j x : Nat) :
    (a.set i x).getD j 0 = if j = i ∧ i < a.length then x else a.getD j 0 := by
  simp only [List.getD_eq_getElem?_getD, List.getElem?_set]
  by_cases h : i = j
  · subst h
    by_cases h2 : i < a.length
    · simp [h2]
    · simp [h2, List.getElem?_eq_none (Nat.le_of_not_lt h2)]
  · have : ¬ j = i := fun e => h e.symm
    simp [h, this]

theorem field_replace (X Y p wd f : Nat)
    (h : ∀ k, Y.testBit k = if p ≤ k ∧ k < p + wd then f.testBit (k - p) else X.testBit k) :
    Y + ((X / 2 ^ p) % 2 ^ wd) * 2 ^ p = X + (f % 2 ^ wd) * 2 ^ p := by
  have dec : ∀ Z : Nat, Z = Z % 2 ^ p + 2 ^ p * ((Z / 2 ^ p) % 2 ^ wd)
      + 2 ^ p * (2 ^ wd * (Z / 2 ^ (p + wd))) := by
    intro Z
    have h1 := Nat.mod_add_div Z (2 ^ p)
    have h2 := Nat.mod_add_div (Z / 2 ^ p) (2 ^ wd)
    have h3 : Z / 2 ^ p / 2 ^ wd = Z / 2 ^ (p + wd) := by
      rw [Nat.div_div_eq_div_mul, Nat.pow_add]
    rw [h3] at h2
    calc Z = Z % 2 ^ p + 2 ^ p * (Z / 2 ^ p) := h1.symm
      _ = Z % 2 ^ p + 2 ^ p * ((Z / 2 ^ p) % 2 ^ wd + 2 ^ wd * (Z / 2 ^ (p + wd))) := by rw [h2]
      _ = _ := by ring
  have e1 : Y % 2 ^ p = X % 2 ^ p := by
    apply Nat.eq_of_testBit_eq; intro k
    rw [Nat.testBit_mod_two_pow, Nat.testBit_mod_two_pow, h k]
    by_cases hk : k < p
    · have : ¬ (p ≤ k ∧ k < p + wd) := by omega
      simp [this]
    · simp [hk]
  have e2 : (Y / 2 ^ p) % 2 ^ wd = f % 2 ^ wd := by
    apply Nat.eq_of_testBit_eq; intro k
    rw [Nat.testBit_mod_two_pow, Nat.testBit_mod_two_pow, tb_div, h (p + k)]
    by_cases hk : k < wd
    · have : (p ≤ p + k ∧ p + k < p + wd) := by omega
      simp [this, hk]
    · simp [hk]
  have e3 : Y / 2 ^ (p + wd) = X / 2 ^ (p + wd) := by
    apply Nat.eq_of_testBit_eq; intro k
    rw [tb_div, tb_div, h (p + wd + k)]
    have : ¬ (p ≤ p + wd + k ∧ p + wd + k < p + wd) := by omega
    simp [this]
  have dY := dec Y
  have dX := dec X
  rw [e1, e2, e3] at dY
  generalize X % 2 ^ p = A at *
  generalize 2 ^ p * (2 ^ wd * (X / 2 ^ (p + wd))) = C at *
  generalize hF : (X / 2 ^ p) % 2 ^ wd = F at *
  generalize hG : f % 2 ^ wd = G at *
  rw [Nat.mul_comm F, Nat.mul_comm G]
  omega

theorem testBit_wnot (w y j : Nat) :
    (wnot w y).testBit j = (decide (j < w) && !y.testBit j) := by
  unfold wnot
  have h1 : y % 2 ^ w < 2 ^ w := Nat.mod_lt _ (Nat.two_pow_pos w)
  have h2 : 2 ^ w - 1 - y % 2 ^ w = 2 ^ w - (y % 2 ^ w + 1) := by omega
  rw [h2, Nat.testBit_two_pow_sub_succ h1, Nat.testBit_mod_two_pow]
  by_cases hj : j < w <;> simp [hj]

theorem wnot_lt (w y : Nat) : wnot w y < 2 ^ w := by
  unfold wnot
  have := Nat.two_pow_pos w
  omega

theorem smask_eq {w width : Nat} (hwd : width ≤ w) :
    (if width < w then wshr (wshl w (2 ^ w - 1) (w - width)) (w - width) else 2 ^ w - 1)
      = 2 ^ width - 1 := by
  split
  · rename_i hlt
    apply Nat.eq_of_testBit_eq; intro j
    rw [tb_div, testBit_wshl, Nat.testBit_two_pow_sub_one, Nat.testBit_two_pow_sub_one]
    by_cases hj : j < width
    · have h1 : w - width + j < w := by omega
      have h2 : w - width ≤ w - width + j := by omega
      have h3 : w - width + j - (w - width) < w := by omega
      have h4 : j < w := by omega
      simp [h1, h2, h4, hj]
    · have h1 : ¬ (w - width + j < w) := by omega
      simp [h1, hj]
  · have : width = w := by omega
    rw [this]

theorem and_mask (v width : Nat) : v &&& (2 ^ width - 1) = v % 2 ^ width :=
  Nat.and_two_pow_sub_one_eq_mod v width

theorem testBit_word {w : Nat} (hw : 0 < w) {a : List Nat} (h : Wf w a) (n : Nat) {j : Nat} (hj : j < w) :
    (val w a).testBit (w * n + j) = (a.getD n 0).testBit j := by
  obtain ⟨e1, e2⟩ := idx_lo hw n j hj
  rw [testBit_val hw a h, e1, e2]

theorem div_eq_of_window {w n k : Nat} (h1 : w * n ≤ k) (h2 : k < w * n + w) : k / w = n := by
  have hw : 0 < w := by omega
  obtain ⟨j, rfl⟩ : ∃ j, k = w * n + j := ⟨k - w * n, by omega⟩
  exact (idx_lo hw n j (by omega)).1

/-- `F k` is the intended bit `k` of the number after word `n` is rewritten: the new word has to provide it
    on its own positions, elsewhere it has to be the old bit -/
theorem set_word_frame {w : Nat} (hw : 0 < w) {a : List Nat} (h : Wf w a) {n : Nat}
    (hnl : n < a.length) {A : Nat} (hA : A < 2 ^ w) (F : Nat → Bool)
    (hin : ∀ j, j < w → A.testBit j = F (w * n + j))
    (hout : ∀ k, k / w ≠ n → F k = (val w a).testBit k) (k : Nat) :
    (val w (a.set n A)).testBit k = F k := by
  rw [testBit_val hw _ (Wf_set h n A hA), getD_set]
  by_cases c : k / w = n
  · rw [if_pos ⟨c, hnl⟩, hin _ (Nat.mod_lt _ hw), ← c, Nat.div_add_mod]
  · rw [if_neg (fun hh => c hh.1), ← testBit_val hw a h, hout k c]

theorem wwSetBits_bits {w : Nat} (hw : 0 < w) (a : List Nat) (pos width v : Nat)
    (hwd : width ≤ w) (h0 : 0 < width) (hres : pos + width ≤ w * a.length) (h : Wf w a) :
    (wwSetBits w a pos width v).length = a.length ∧ Wf w (wwSetBits w a pos width v) ∧
    ∀ k, (val w (wwSetBits w a pos width v)).testBit k =
      if pos ≤ k ∧ k < pos + width then v.testBit (k - pos) else (val w a).testBit k := by
  have hp : pos % w < w := Nat.mod_lt _ hw
  have hpos : pos = w * (pos / w) + pos % w := (Nat.div_add_mod pos w).symm
  generalize hn : pos / w = n at hpos
  generalize hpp : pos % w = p at hpos hp
  have hnl : n < a.length := by
    by_contra hc
    have : w * a.length ≤ w * n := Nat.mul_le_mul_left w (Nat.le_of_not_lt hc)
    omega
  unfold wwSetBits
  simp only [hn, hpp, smask_eq hwd, and_mask]
  generalize hA : ((a.getD n 0 &&& wnot w (wshl w (2 ^ width - 1) p)) ^^^ wshl w (v % 2 ^ width) p) = A
  generalize hA1 : ((a.getD (n + 1) 0 &&& wnot w (wshr (2 ^ width - 1) (w - p))) ^^^
      wshr (v % 2 ^ width) (w - p)) = A1
  have hAlt : A < 2 ^ w := by
    rw [← hA]
    exact Nat.xor_lt_two_pow (Nat.and_lt_two_pow _ (wnot_lt _ _)) (Nat.mod_lt _ (Nat.two_pow_pos w))
  have hA1lt : A1 < 2 ^ w := by
    rw [← hA1]
    refine Nat.xor_lt_two_pow (Nat.and_lt_two_pow _ (wnot_lt _ _)) ?_
    have h1 : v % 2 ^ width < 2 ^ width := Nat.mod_lt _ (Nat.two_pow_pos _)
    have h2 : 2 ^ width ≤ 2 ^ w := Nat.pow_le_pow_right (by decide) hwd
    exact Nat.lt_of_le_of_lt (Nat.div_le_self _ _) (by omega)
  -- the intended bits, and what the two new words provide of them
  obtain ⟨F, hF⟩ : ∃ F : Nat → Bool, ∀ k, F k =
      if pos ≤ k ∧ k < pos + width then v.testBit (k - pos) else (val w a).testBit k := ⟨_, fun _ => rfl⟩
  have bA : ∀ j, j < w → A.testBit j = F (w * n + j) := by
    intro j hj
    rw [hF, ← hA, Nat.testBit_xor, Nat.testBit_and, testBit_wnot, testBit_wshl, testBit_wshl,
      Nat.testBit_two_pow_sub_one, Nat.testBit_mod_two_pow, testBit_word hw h n hj]
    have e : w * n + j - pos = j - p := by omega
    by_cases c1 : p ≤ j
    · by_cases c2 : j < p + width
      · have c3 : j - p < width := by omega
        simp [hj, c1, c3, e, show pos ≤ w * n + j ∧ w * n + j < pos + width by omega]
      · have c3 : ¬ j - p < width := by omega
        simp [hj, c1, c3, show ¬ (pos ≤ w * n + j ∧ w * n + j < pos + width) by omega]
    · simp [hj, c1, show ¬ (pos ≤ w * n + j ∧ w * n + j < pos + width) by omega]
  have bA1 : ∀ j, j < w → A1.testBit j = F (w * (n + 1) + j) := by
    intro j hj
    rw [hF, ← hA1, Nat.testBit_xor, Nat.testBit_and, testBit_wnot, tb_div, tb_div,
      Nat.testBit_two_pow_sub_one, Nat.testBit_mod_two_pow, testBit_word hw h (n + 1) hj]
    have e : w * (n + 1) + j - pos = w - p + j := by rw [Nat.mul_add]; omega
    rw [Nat.mul_add, Nat.mul_one] at e ⊢
    by_cases c2 : w + j < p + width
    · have c3 : w - p + j < width := by omega
      simp [hj, c3, e, show pos ≤ w * n + w + j ∧ w * n + w + j < pos + width by omega]
    · have c3 : ¬ w - p + j < width := by omega
      simp [hj, c3, show ¬ (pos ≤ w * n + w + j ∧ w * n + w + j < pos + width) by omega]
  have hWA := Wf_set h n A hAlt
  by_cases hst : p + width > w
  · -- the field straddles the boundary between a[n] and a[n + 1]
    have hn1l : n + 1 < a.length := by
      by_contra hc
      have : w * a.length ≤ w * (n + 1) := Nat.mul_le_mul_left w (Nat.le_of_not_lt hc)
      rw [Nat.mul_add] at this
      omega
    have e : (((a.set n (a.getD n 0 &&& wnot w (wshl w (2 ^ width - 1) p))).set n A).set (n + 1)
        (a.getD (n + 1) 0 &&& wnot w (wshr (2 ^ width - 1) (w - p)))).set (n + 1) A1 =
        (a.set n A).set (n + 1) A1 := by
      rw [List.set_set, List.set_set]
    simp only [hst, if_true, getD_set, List.length_set, hnl, hn1l, and_self, and_true, if_true,
      Nat.succ_ne_self, if_false, hA, hA1, true_and, e]
    refine ⟨Wf_set hWA (n + 1) A1 hA1lt, fun k => ?_⟩
    have s1 := set_word_frame hw h hnl hAlt (fun k => if k / w = n then F k else (val w a).testBit k)
      (fun j hj => by rw [if_pos (idx_lo hw n j hj).1]; exact bA j hj) (fun k c => if_neg c)
    rw [set_word_frame hw hWA (by rw [List.length_set]; exact hn1l) hA1lt F bA1 (fun k c => ?_) k, hF]
    rw [s1 k]
    split
    · rfl
    · rename_i c1
      rw [hF]
      exact if_neg fun hh => by
        rcases Nat.lt_or_ge k (w * n + w) with c2 | c2
        · exact c1 (div_eq_of_window (by omega) c2)
        · exact c (div_eq_of_window (n := n + 1) (by rw [Nat.mul_add]; omega) (by rw [Nat.mul_add]; omega))
  · have e : (a.set n (a.getD n 0 &&& wnot w (wshl w (2 ^ width - 1) p))).set n A = a.set n A :=
      List.set_set ..
    simp only [hst, if_false, getD_set, List.length_set, hnl, and_self, and_true, if_true, hA,
      true_and, e]
    refine ⟨hWA, fun k => ?_⟩
    rw [set_word_frame hw h hnl hAlt F bA (fun k c => ?_) k, hF]
    rw [hF]
    exact if_neg fun hh => c (div_eq_of_window (by omega) (by omega))

theorem wbit_eq {w p : Nat} (hp : p < w) : wbit w p = 2 ^ p := by
  unfold wbit wshl
  rw [Nat.one_mul, Nat.mod_eq_of_lt (Nat.pow_lt_pow_right (by decide) hp)]

theorem pos_word_lt {w : Nat} {a : List Nat} {pos : Nat} (hres : pos < w * a.length) :
    pos / w < a.length := by
  by_contra hc
  have h1 : w * a.length ≤ w * (pos / w) := Nat.mul_le_mul_left w (Nat.le_of_not_lt hc)
  have h2 := Nat.mul_div_le pos w
  omega

theorem and_two_pow' (x p : Nat) : x &&& 2 ^ p = bif x.testBit p then 2 ^ p else 0 := by
  apply Nat.eq_of_testBit_eq; intro j
  rw [Nat.testBit_and, Nat.testBit_two_pow]
  by_cases c : p = j
  · subst c
    cases hx : x.testBit p <;> simp [Nat.testBit_two_pow]
  · cases hx : x.testBit p <;> simp [Nat.testBit_two_pow, c]

theorem wwTestBit_val {w : Nat} (hw : 0 < w) (a : List Nat) (pos : Nat) (h : Wf w a) :
    wwTestBit w a pos = (val w a).testBit pos := by
  unfold wwTestBit
  rw [testBit_val hw a h, wbit_eq (Nat.mod_lt _ hw), and_two_pow']
  cases (a.getD (pos / w) 0).testBit (pos % w)
  · simp
  · have := Nat.two_pow_pos (pos % w)
    simp

theorem wwSetBit_bits {w : Nat} (hw : 0 < w) (a : List Nat) (pos : Nat) (b : Bool)
    (hres : pos < w * a.length) (h : Wf w a) :
    (wwSetBit w a pos b).length = a.length ∧ Wf w (wwSetBit w a pos b) ∧
    ∀ k, (val w (wwSetBit w a pos b)).testBit k = if k = pos then b else (val w a).testBit k := by
  have hnl := pos_word_lt hres
  have hp : pos % w < w := Nat.mod_lt _ hw
  have han := getD_lt h (pos / w)
  unfold wwSetBit
  simp only [wbit_eq hp, List.length_set, true_and]
  have hf : wneg w (if b then 1 else 0) < 2 ^ w := Nat.mod_lt _ (Nat.two_pow_pos w)
  have hfb : (wneg w (if b then 1 else 0)).testBit (pos % w) = b := by
    cases b
    · simp [wneg]
    · have h1 : 1 < 2 ^ w := Nat.one_lt_two_pow (by omega)
      simp only [wneg, if_true, Nat.mod_eq_of_lt h1]
      rw [Nat.mod_eq_of_lt (by omega), Nat.testBit_two_pow_sub_one]
      simp [hp]
  have hA : a.getD (pos / w) 0 ^^^
      ((wneg w (if b then 1 else 0) ^^^ a.getD (pos / w) 0) &&& 2 ^ (pos % w)) < 2 ^ w :=
    Nat.xor_lt_two_pow han (Nat.and_lt_two_pow _ (Nat.pow_lt_pow_right (by decide) hp))
  have hd := Nat.div_add_mod pos w
  refine ⟨Wf_set h _ _ hA, set_word_frame hw h hnl hA _ (fun j hj => ?_)
    (fun k c => if_neg fun e => c (by rw [e]))⟩
  beta_reduce
  rw [Nat.testBit_xor, Nat.testBit_and, Nat.testBit_xor, Nat.testBit_two_pow, testBit_word hw h _ hj]
  by_cases c : pos % w = j
  · subst c
    rw [if_pos hd, hfb]
    cases b <;> cases (a.getD (pos / w) 0).testBit (pos % w) <;> simp
  · rw [if_neg (show ¬ w * (pos / w) + j = pos by omega)]
    simp [c]

theorem wwFlipBit_bits {w : Nat} (hw : 0 < w) (a : List Nat) (pos : Nat)
    (hres : pos < w * a.length) (h : Wf w a) :
    (wwFlipBit w a pos).length = a.length ∧ Wf w (wwFlipBit w a pos) ∧
    ∀ k, (val w (wwFlipBit w a pos)).testBit k =
      if k = pos then !(val w a).testBit k else (val w a).testBit k := by
  have hnl := pos_word_lt hres
  have hp : pos % w < w := Nat.mod_lt _ hw
  have han := getD_lt h (pos / w)
  unfold wwFlipBit
  simp only [wbit_eq hp, List.length_set, true_and]
  have hA : a.getD (pos / w) 0 ^^^ 2 ^ (pos % w) < 2 ^ w :=
    Nat.xor_lt_two_pow han (Nat.pow_lt_pow_right (by decide) hp)
  have hd := Nat.div_add_mod pos w
  refine ⟨Wf_set h _ _ hA, set_word_frame hw h hnl hA _ (fun j hj => ?_)
    (fun k c => if_neg fun e => c (by rw [e]))⟩
  beta_reduce
  rw [Nat.testBit_xor, Nat.testBit_two_pow, testBit_word hw h _ hj]
  by_cases c : pos % w = j
  · subst c
    rw [if_pos hd, ← testBit_word hw h _ hp, hd]
    simp
  · rw [if_neg (show ¬ w * (pos / w) + j = pos by omega)]
    simp [c]

/-- a single-bit description in the form needed by `field_replace` -/
theorem bit_replace (X Y pos : Nat) (b : Bool)
    (h : ∀ k, Y.testBit k = if k = pos then b else X.testBit k) :
    Y + (X / 2 ^ pos % 2) * 2 ^ pos = X + b.toNat * 2 ^ pos := by
  have := field_replace X Y pos 1 b.toNat (by
    intro k
    rw [h k]
    by_cases c : k = pos
    · subst c
      have : k ≤ k ∧ k < k + 1 := by omega
      rw [if_pos rfl, if_pos this, Nat.sub_self]
      cases b <;> simp
    · have : ¬ (pos ≤ k ∧ k < pos + 1) := by omega
      rw [if_neg c, if_neg this])
  rw [Nat.pow_one] at this
  have e : b.toNat % 2 = b.toNat := by cases b <;> rfl
  rw [e] at this
  exact this

theorem bit_flip (X Y pos : Nat)
    (h : ∀ k, Y.testBit k = if k = pos then !X.testBit k else X.testBit k) :
    Y + (X / 2 ^ pos % 2) * 2 ^ pos = X + (1 - X / 2 ^ pos % 2) * 2 ^ pos := by
  rw [bit_replace X Y pos (!X.testBit pos) (fun k => by
    rw [h k]; split <;> rename_i c <;> [rw [c]; rfl]), Nat.testBit_eq_decide_div_mod_eq]
  rcases Nat.mod_two_eq_zero_or_one (X / 2 ^ pos) with e | e <;> simp [e]

/-! ## shifts -/

theorem wshl_zero (w s : Nat) : wshl w 0 s = 0 := by simp [wshl]

theorem wshl_full (w x : Nat) : wshl w x w = 0 := by simp [wshl]

theorem getD_beyond (a : List Nat) (i : Nat) (h : a.length ≤ i) : a.getD i 0 = 0 := by
  rw [List.getD_eq_getElem?_getD, List.getElem?_eq_none h]; rfl

/-- the word `i` of the shifted number -/
def shLoWord (w : Nat) (a : List Nat) (ws sh i : Nat) : Nat :=
  wshr (a.getD (i + ws) 0) sh ||| wshl w (a.getD (i + ws + 1) 0) (w - sh)

/-- the word `i` of the number shifted towards the high bits -/
def shHiWord (w : Nat) (a : List Nat) (ws sh i : Nat) : Nat :=
  if i < ws then 0
  else wshl w (a.getD (i - ws) 0) sh ||| (if i = ws then 0 else wshr (a.getD (i - ws - 1) 0) (w - sh))

namespace Bits

theorem getD_replicate_zero (n i : Nat) : (List.replicate n 0).getD i 0 = 0 := by
  rw [List.getD_eq_getElem?_getD, List.getElem?_replicate]
  split <;> rfl

theorem div_ge_of_not_lt {w n shift : Nat} (hw : 0 < w) (hs : ¬ shift < w * n) : n ≤ shift / w := by
  by_contra hc
  have := Nat.mul_le_mul_left w (show shift / w + 1 ≤ n by omega)
  have := Nat.lt_mul_div_succ shift hw
  omega

theorem lt_mul_iff_div_lt {w : Nat} (hw : 0 < w) (k n : Nat) : k < w * n ↔ k / w < n := by
  rw [Nat.mul_comm]; exact (Nat.div_lt_iff_lt_mul hw).symm

/-! ### the loops that run upwards: wwShLo, wwShLoCarry -/

/-- in-place ascending fill: the words below `pos` hold their final values `G i`, the others are
    still those of the original array `a` -/
def FillUp (n : Nat) (G : Nat → Nat) (a : List Nat) (pos : Nat) (A : List Nat) : Prop :=
  A.length = n ∧ ∀ i, A.getD i 0 = if i < pos then G i else a.getD i 0

theorem FillUp.init {n : Nat} (G : Nat → Nat) {a : List Nat} (hn : a.length = n) :
    FillUp n G a 0 a := ⟨hn, fun i => by rw [if_neg (Nat.not_lt_zero i)]⟩

theorem FillUp.set {n pos v : Nat} {G : Nat → Nat} {a A : List Nat} (h : FillUp n G a pos A)
    (hp : pos < n) (hv : v = G pos) : FillUp n G a (pos + 1) (A.set pos v) := by
  refine ⟨by rw [List.length_set]; exact h.1, fun i => ?_⟩
  rw [getD_set, h.2 i, h.1]
  by_cases c : i = pos
  · rw [if_pos ⟨c, hp⟩, if_pos (by omega), hv, c]
  · rw [if_neg (fun hh => c hh.1)]
    by_cases c2 : i < pos
    · rw [if_pos c2, if_pos (by omega)]
    · rw [if_neg c2, if_neg (by omega)]

/-- the step `if c then a[pos++] = v`; the new position is a variable known by what happened -/
theorem FillUp.setIf {n pos v : Nat} {G : Nat → Nat} {a A : List Nat} (h : FillUp n G a pos A)
    (c : Prop) [Decidable c] (hp : c → pos < n) (hv : c → v = G pos) :
    ∃ p A', (if c then (pos + 1, A.set pos v) else (pos, A)) = (p, A') ∧ FillUp n G a p A' ∧
      (c ∧ p = pos + 1 ∨ ¬c ∧ p = pos) := by
  by_cases hc : c
  · exact ⟨_, _, if_pos hc, h.set (hp hc) (hv hc), Or.inl ⟨hc, rfl⟩⟩
  · exact ⟨_, _, if_neg hc, h, Or.inr ⟨hc, rfl⟩⟩

/-- a loop `for (; pos + c < n; pos++) a[pos] = g(a, pos)` whose body computes the final value from
    the part of the array not yet overwritten; the position where it stops is known by the exit
    condition (`n ≤ p + c`, and `p + c = n` if the loop ran), not by a closed form -/
theorem FillUp.loop {n c p0 : Nat} {G : Nat → Nat} {a : List Nat} (cond : Nat → Bool)
    (hc : ∀ p, cond p = decide (p + c < n)) (g : List Nat → Nat → Nat)
    (hg : ∀ (A : List Nat) (p : Nat), p0 ≤ p → p + c < n →
      (∀ i, p ≤ i → A.getD i 0 = a.getD i 0) → g A p = G p) :
    ∀ (fuel pos : Nat) (A : List Nat), FillUp n G a pos A → p0 ≤ pos → n ≤ pos + c + fuel →
      ∃ p A', forUp cond (fun p A => A.set p (g A p)) fuel pos A = (p, A') ∧ FillUp n G a p A' ∧
        pos ≤ p ∧ n ≤ p + c ∧ (p = pos ∨ p + c = n) := by
  intro fuel
  induction fuel with
  | zero =>
    intro pos A h _ hf
    exact ⟨pos, A, rfl, h, Nat.le_refl _, by omega, Or.inl rfl⟩
  | succ fuel ih =>
    intro pos A h hp hf
    simp only [forUp, hc]
    by_cases hcond : pos + c < n
    · simp only [hcond, decide_true, if_true]
      obtain ⟨p, A', e, f, h1, h2, _⟩ := ih (pos + 1) _ (h.set (by omega) (hg A pos hp hcond (fun i hi => by
        rw [h.2 i, if_neg (by omega)]))) (by omega) (by omega)
      exact ⟨p, A', e, f, by omega, h2, Or.inr (by omega)⟩
    · simp only [hcond, decide_false, Bool.false_eq_true, if_false]
      exact ⟨pos, A, rfl, h, Nat.le_refl _, by omega, Or.inl rfl⟩

/-- the final `for (; pos < n; a[pos++] = 0)` -/
theorem FillUp.zero {n pos : Nat} {G : Nat → Nat} {a A : List Nat} (h : FillUp n G a pos A)
    (hz : ∀ i, pos ≤ i → i < n → G i = 0) :
    (zeroUp n pos A).length = n ∧ ∀ i, (zeroUp n pos A).getD i 0 = if i < n then G i else 0 := by
  obtain ⟨p, A', e, f, _, hp, _⟩ := FillUp.loop (c := 0) (p0 := pos) (fun p => decide (p < n)) (fun p => rfl)
    (fun _ _ => 0) (fun _ p hp hn _ => (hz p hp hn).symm) n pos A h (Nat.le_refl _) (by omega)
  unfold zeroUp
  rw [e]
  refine ⟨f.1, fun i => ?_⟩
  by_cases c : i < n
  · rw [if_pos c, f.2 i, if_pos (by omega)]
  · rw [if_neg c]; exact getD_beyond _ i (by rw [f.1]; omega)

theorem shLoLoop_fill {w n ws sh : Nat} {a : List Nat} {G : Nat → Nat} (hn : a.length = n)
    (hG : ∀ p, p + ws + 1 < n →
      G p = wshr (a.getD (p + ws) 0) sh ||| wshl w (a.getD (p + ws + 1) 0) (w - sh)) :
    ∃ p A, shLoLoop w n ws sh a = (p, A) ∧ FillUp n G a p A ∧ n ≤ p + ws + 1 ∧ (p = 0 ∨ p + ws + 1 = n) := by
  obtain ⟨p, A, e, f, _, h2, h3⟩ := FillUp.loop (c := ws + 1) (p0 := 0) (fun pos => decide (pos + ws + 1 < n))
    (fun p => by simp [Nat.add_assoc])
    (fun A p => wshr (A.getD (p + ws) 0) sh ||| wshl w (A.getD (p + ws + 1) 0) (w - sh))
    (fun A p _ hp hA => by rw [hA _ (by omega), hA _ (by omega), hG p hp]) n 0 a
    (FillUp.init G hn) (Nat.le_refl _) (by omega)
  exact ⟨p, A, e, f, h2, h3⟩

theorem shLoCopy_fill {n ws : Nat} {a : List Nat} {G : Nat → Nat} (hn : a.length = n)
    (hG : ∀ p, p + ws < n → G p = a.getD (p + ws) 0) :
    ∃ p A, shLoCopy n ws a = (p, A) ∧ FillUp n G a p A ∧ n ≤ p + ws ∧ (p = 0 ∨ p + ws = n) := by
  obtain ⟨p, A, e, f, _, h2, h3⟩ := FillUp.loop (c := ws) (p0 := 0) (fun pos => decide (pos + ws < n)) (fun p => rfl)
    (fun A p => A.getD (p + ws) 0) (fun A p _ hp hA => by rw [hA _ (by omega), hG p hp]) n 0 a
    (FillUp.init G hn) (Nat.le_refl _) (by omega)
  exact ⟨p, A, e, f, h2, h3⟩

theorem shLoWord_zero (w : Nat) (b : List Nat) (ws i : Nat) :
    shLoWord w b ws 0 i = b.getD (i + ws) 0 := by
  simp only [shLoWord, Nat.sub_zero, wshl_full, Nat.or_zero, wshr, Nat.pow_zero, Nat.div_one]

theorem shLoWord_beyond (w : Nat) (b : List Nat) (ws sh i : Nat) (h : b.length ≤ i + ws) :
    shLoWord w b ws sh i = 0 := by
  unfold shLoWord
  rw [getD_beyond b _ h, getD_beyond b _ (by omega), wshl_zero]
  simp [wshr]

/-- `sh ≤ w`: `sh = w` is what the up-shifts use -/
theorem shLo_eq {w : Nat} {b : List Nat} (hb : Wf w b) (ws : Nat) {sh : Nat} (hsh : sh ≤ w) {n : Nat}
    {R : List Nat} (hl : R.length = n) (hR : ∀ i, i < n → R.getD i 0 = shLoWord w b ws sh i) :
    R = toWords w n (val w b / 2 ^ (w * ws + sh)) :=
  eq_toWords_of_digits hl fun i hi => by
    rw [hR i hi, shLoWord, ← val_window hb _ hsh, Nat.div_div_eq_div_mul, ← Nat.pow_add]
    congr 3; ring

theorem wwShLo_words {w : Nat} (hw : 0 < w) (a : List Nat) (shift : Nat) :
    (wwShLo w a shift).length = a.length ∧
    ∀ i, (wwShLo w a shift).getD i 0 =
      if i < a.length then shLoWord w a (shift / w) (shift % w) i else 0 := by
  unfold wwShLo
  by_cases hs : shift < w * a.length
  · have hwsn : shift / w < a.length := pos_word_lt hs
    simp only [hs, if_true]
    generalize hn : a.length = n at *
    generalize shift / w = ws at *
    generalize hsh : shift % w = sh
    have hshw : sh < w := by rw [← hsh]; exact Nat.mod_lt _ hw
    have hz : ∀ i, n - ws ≤ i → i < n → shLoWord w a ws sh i = 0 := fun i hi _ =>
      shLoWord_beyond w a ws sh i (by omega)
    by_cases c0 : sh = 0
    · subst c0
      simp only [ne_eq, not_true_eq_false, if_false]
      obtain ⟨p1, a1, e1, f1, h1, _⟩ := shLoCopy_fill (ws := ws) (G := shLoWord w a ws 0) hn
        (fun p _ => shLoWord_zero w a ws p)
      rw [e1]
      exact f1.zero (fun i hi => hz i (by omega))
    · simp only [ne_eq, c0, not_false_eq_true, if_true]
      obtain ⟨p1, a1, e1, f1, h1, h1'⟩ := shLoLoop_fill (w := w) (ws := ws) (sh := sh) (G := shLoWord w a ws sh) hn
        (fun p _ => rfl)
      rw [e1]
      refine (f1.set (by omega) ?_).zero (fun i hi => hz i (by omega))
      rw [f1.2, if_neg (by omega)]
      unfold shLoWord
      rw [getD_beyond a (_ + ws + 1) (by omega), wshl_zero, Nat.or_zero]
  · simp only [hs, if_false, wwSetZero, List.length_replicate, true_and]
    intro i
    have hws : a.length ≤ shift / w := by
      by_contra hc
      have := Nat.mul_le_mul_left w (show shift / w + 1 ≤ a.length by omega)
      have := Nat.lt_mul_div_succ shift hw
      omega
    rw [getD_replicate_zero]
    split
    · rw [shLoWord_beyond w a _ _ i (by omega)]
    · rfl

theorem wwShLo_eq {w : Nat} (hw : 0 < w) (a : List Nat) (shift : Nat) (h : Wf w a) :
    wwShLo w a shift = toWords w a.length (val w a / 2 ^ shift) := by
  obtain ⟨h1, h2⟩ := wwShLo_words hw a shift
  have := shLo_eq h (shift / w) (Nat.le_of_lt (Nat.mod_lt shift hw)) h1
    (fun i hi => by rw [h2, if_pos hi])
  rwa [Nat.div_add_mod] at this

theorem getD_append_one (a : List Nat) (c i : Nat) :
    (a ++ [c]).getD i 0 = if i < a.length then a.getD i 0 else if i = a.length then c else 0 := by
  simp only [List.getD_eq_getElem?_getD]
  by_cases h1 : i < a.length
  · rw [if_pos h1, List.getElem?_append_left h1]
  · rw [if_neg h1, List.getElem?_append_right (by omega)]
    by_cases h2 : i = a.length
    · rw [if_pos h2, h2]; simp
    · rw [if_neg h2]
      have : i - a.length ≠ 0 := by omega
      obtain ⟨k, hk⟩ : ∃ k, i - a.length = k + 1 := ⟨i - a.length - 1, by omega⟩
      rw [hk]; simp

theorem wwShLoCarry_words {w : Nat} (hw : 0 < w) (a : List Nat) (shift carry : Nat) :
    (wwShLoCarry w a shift carry).1.length = a.length ∧
    (∀ i, (wwShLoCarry w a shift carry).1.getD i 0 =
      if i < a.length then shLoWord w (a ++ [carry]) (shift / w) (shift % w) i else 0) ∧
    (wwShLoCarry w a shift carry).2 =
      shLoWord w (0 :: (a ++ [carry])) (shift / w) (shift % w) 0 := by
  unfold wwShLoCarry
  have hshw : shift % w < w := Nat.mod_lt _ hw
  have hss : shift = w * (shift / w) + shift % w := (Nat.div_add_mod shift w).symm
  generalize hn : a.length = n at *
  have ga : ∀ i, (a ++ [carry]).getD i 0 =
      if i < n then a.getD i 0 else if i = n then carry else 0 := by
    intro i; rw [getD_append_one, hn]
  have hbl : (a ++ [carry]).length = n + 1 := by simp [hn]
  by_cases hs : shift < w * (n + 1)
  · have hwsn : shift / w < n + 1 := (lt_mul_iff_div_lt hw _ _).1 hs
    simp only [hs, if_true]
    generalize shift / w = ws at *
    generalize shift % w = sh at *
    have hz : ∀ i, n + 1 ≤ i + ws → shLoWord w (a ++ [carry]) ws sh i = 0 := fun i hi =>
      shLoWord_beyond w _ ws sh i (by omega)
    -- every write stores `G pos`, `G` the words of `a ++ [carry]` shifted
    have hG : ∀ p, shLoWord w (a ++ [carry]) ws sh p =
        wshr (if p + ws < n then a.getD (p + ws) 0 else if p + ws = n then carry else 0) sh |||
          wshl w (if p + ws + 1 < n then a.getD (p + ws + 1) 0 else if p + ws + 1 = n then carry else 0)
            (w - sh) := by
      intro p; unfold shLoWord; rw [ga, ga]
    -- the returned word: `x` is `a[ws]` or `carry`
    have hret : ∀ x, (ws < n → x = a.getD ws 0) → (¬ ws < n → x = carry) →
        (if ws ≠ 0 then wshr (a.getD (ws - 1) 0) sh else 0) ||| wshl w x (w - sh)
          = shLoWord w (0 :: (a ++ [carry])) ws sh 0 := by
      intro x h1 h2
      unfold shLoWord
      rw [Nat.zero_add, List.getD_cons_succ, ga]
      have hx : x = if ws < n then a.getD ws 0 else if ws = n then carry else 0 := by
        by_cases c : ws < n
        · rw [if_pos c]; exact h1 c
        · rw [if_neg c, if_pos (by omega)]; exact h2 c
      rw [← hx]; congr 2
      cases ws with
      | zero => simp [wshr]
      | succ k => rw [if_pos (by omega), List.getD_cons_succ, ga, if_pos (by omega)]; rfl
    by_cases c0 : sh = 0
    · subst c0
      simp only [ne_eq, not_true_eq_false, if_false]
      obtain ⟨p1, a1, e1, f1, h1, h1'⟩ := shLoCopy_fill (ws := ws) (G := shLoWord w (a ++ [carry]) ws 0) hn
        (fun p hp => by rw [shLoWord_zero, ga, if_pos hp])
      rw [e1]
      obtain ⟨p2, a2, e2, f2, h2⟩ := f1.setIf (v := wshr carry 0) (p1 < n) id (fun hc => by
        rw [shLoWord_zero, ga, if_neg (by omega), if_pos (by omega)]; simp [wshr])
      simp only [e2]
      obtain ⟨z1, z2⟩ := f2.zero (fun i hi hin => hz i (by omega))
      refine ⟨z1, z2, ?_⟩
      have := hret (if ws < n then a.getD ws 0 else carry) (fun h => if_pos h) (fun h => if_neg h)
      rwa [Nat.sub_zero, wshl_full, Nat.or_zero] at this
    · simp only [ne_eq, c0, not_false_eq_true, if_true]
      obtain ⟨p1, a1, e1, f1, h1, h1'⟩ := shLoLoop_fill (w := w) (ws := ws) (sh := sh)
        (G := shLoWord w (a ++ [carry]) ws sh) hn (fun p hp => by rw [hG, if_pos (by omega), if_pos hp])
      rw [e1]
      obtain ⟨p2, a2, e2, f2, h2⟩ := f1.setIf (v := wshr (a1.getD (p1 + ws) 0) sh ||| wshl w carry (w - sh))
        (p1 + ws < n) (by omega) (fun hc => by
          rw [f1.2, if_neg (by omega), hG, if_pos hc, if_neg (by omega), if_pos (by omega)])
      simp only [e2]
      obtain ⟨p3, a3, e3, f3, h3⟩ := f2.setIf (v := wshr carry sh) (p2 < n) id (fun hc => by
        rw [hG, if_neg (by omega), if_pos (by omega), if_neg (by omega), if_neg (by omega), wshl_zero,
          Nat.or_zero])
      simp only [e3]
      obtain ⟨z1, z2⟩ := f3.zero (fun i hi hin => hz i (by omega))
      refine ⟨z1, z2, ?_⟩
      split
      · exact hret _ (fun _ => rfl) (fun h => absurd ‹_› h)
      · exact hret _ (fun h => absurd h ‹_›) (fun _ => rfl)
  · have hws := div_ge_of_not_lt hw hs
    simp only [hs, if_false, wwSetZero, List.length_replicate, true_and]
    rw [hn]
    generalize shift / w = ws at *
    generalize shift % w = sh at *
    refine ⟨rfl, fun i => ?_, ?_⟩
    · rw [getD_replicate_zero]
      split
      · rw [shLoWord_beyond w _ _ _ i (by omega)]
      · rfl
    · obtain ⟨k, rfl⟩ : ∃ k, ws = k + 1 := ⟨ws - 1, by omega⟩
      have hR : shLoWord w (0 :: (a ++ [carry])) (k + 1) sh 0 =
          wshr (if k = n then carry else 0) sh := by
        unfold shLoWord
        rw [Nat.zero_add, List.getD_cons_succ, List.getD_cons_succ,
          getD_beyond _ (k + 1) (by omega), wshl_zero, Nat.or_zero, ga, if_neg (by omega)]
      rw [hR]
      by_cases c : k = n
      · subst c
        rw [show shift - w * (k + 1) = sh by omega, if_pos hshw, if_pos rfl]
      · have := Nat.mul_le_mul_left w (show n + 1 + 1 ≤ k + 1 by omega)
        rw [Nat.mul_succ] at this
        rw [if_neg (by omega), if_neg c]; simp [wshr]

/-- the same statement about `a ++ [carry]`; the returned word is word 0 of that number with a zero
    word put below it -/
theorem wwShLoCarry_eq {w : Nat} (hw : 0 < w) (a : List Nat) (shift carry : Nat) (h : Wf w a)
    (hc : carry < 2 ^ w) :
    (wwShLoCarry w a shift carry).1 =
      toWords w a.length ((val w a + carry * 2 ^ (w * a.length)) / 2 ^ shift) ∧
    (wwShLoCarry w a shift carry).2 =
      ((val w a + carry * 2 ^ (w * a.length)) * 2 ^ w / 2 ^ shift) % 2 ^ w := by
  have hb : Wf w (a ++ [carry]) := Wf_append.2 ⟨h, Wf_single hc⟩
  have hsh := Nat.le_of_lt (Nat.mod_lt shift hw)
  have hV : val w (a ++ [carry]) = val w a + carry * 2 ^ (w * a.length) := by
    rw [val_snoc, Nat.mul_comm]
  obtain ⟨h1, h2, h3⟩ := wwShLoCarry_words hw a shift carry
  have e1 := shLo_eq hb (shift / w) hsh h1 (fun i hi => by rw [h2, if_pos hi])
  have e2 := shLo_eq (R := [(wwShLoCarry w a shift carry).2]) (n := 1)
    (Wf_cons.mpr ⟨Nat.two_pow_pos w, hb⟩) (shift / w) hsh rfl
    (fun i hi => by obtain rfl : i = 0 := by omega
                    exact h3)
  rw [Nat.div_add_mod, hV] at e1
  rw [Nat.div_add_mod, val_cons, Nat.zero_add, hV, Nat.mul_comm (2 ^ w)] at e2
  exact ⟨e1, (List.cons.inj e2).1⟩

/-! ### the loops that run downwards: wwShHi, wwShHiCarry -/

/-- in-place descending fill: the words from `q` up hold their final values `G i`, the others are
    still those of the original array `a` -/
def FillDown (n : Nat) (G : Nat → Nat) (a : List Nat) (q : Nat) (A : List Nat) : Prop :=
  A.length = n ∧ ∀ i, A.getD i 0 = if q ≤ i ∧ i < n then G i else a.getD i 0

theorem FillDown.init {n : Nat} (G : Nat → Nat) {a : List Nat} (hn : a.length = n) :
    FillDown n G a n a := ⟨hn, fun i => by rw [if_neg (by omega)]⟩

theorem FillDown.set {n q v : Nat} {G : Nat → Nat} {a A : List Nat} (h : FillDown n G a q A)
    (hq : 0 < q) (hqn : q ≤ n) (hv : v = G (q - 1)) : FillDown n G a (q - 1) (A.set (q - 1) v) := by
  refine ⟨by rw [List.length_set]; exact h.1, fun i => ?_⟩
  rw [getD_set, h.2 i, h.1]
  by_cases c : i = q - 1
  · rw [if_pos ⟨c, by omega⟩, if_pos (by omega), hv, c]
  · rw [if_neg (fun hh => c hh.1)]
    by_cases c2 : q ≤ i ∧ i < n
    · rw [if_pos c2, if_pos (by omega)]
    · rw [if_neg c2, if_neg (by omega)]

/-- the step `if c then a[pos--] = v` (q = pos + 1); the new position is a variable known by what happened -/
theorem FillDown.setIf {n q v : Nat} {G : Nat → Nat} {a A : List Nat} (h : FillDown n G a q A)
    (c : Prop) [Decidable c] (hq : c → 0 < q) (hqn : q ≤ n) (hv : c → v = G (q - 1)) :
    ∃ p A', (if c then (q - 1, A.set (q - 1) v) else (q, A)) = (p, A') ∧ FillDown n G a p A' ∧
      (c ∧ p + 1 = q ∨ ¬c ∧ p = q) := by
  by_cases hc : c
  · exact ⟨_, _, if_pos hc, h.set (hq hc) hqn (hv hc), Or.inl ⟨hc, Nat.sub_add_cancel (hq hc)⟩⟩
  · exact ⟨_, _, if_neg hc, h, Or.inr ⟨hc, rfl⟩⟩

/-- a loop `for (; pos + 1 > c; pos--) a[pos] = g(a, pos)` (q = pos + 1) whose body computes the
    final value from the part of the array not yet overwritten; where it stops is known by the exit
    condition (`p ≤ c`, and `p = c` if the loop ran) -/
theorem FillDown.loop {n c q0 : Nat} {G : Nat → Nat} {a : List Nat} (cond : Nat → Bool)
    (hc : ∀ q, cond q = decide (c < q)) (g : List Nat → Nat → Nat) (hq0 : q0 ≤ n)
    (hg : ∀ (A : List Nat) (p : Nat), c ≤ p → p < q0 →
      (∀ i, i ≤ p → A.getD i 0 = a.getD i 0) → g A p = G p) :
    ∀ (fuel q : Nat) (A : List Nat), FillDown n G a q A → q ≤ q0 → q ≤ c + fuel →
      ∃ p A', forDown cond (fun p A => A.set p (g A p)) fuel q A = (p, A') ∧ FillDown n G a p A' ∧
        p ≤ q ∧ p ≤ c ∧ (p = q ∨ p = c) := by
  intro fuel
  induction fuel with
  | zero =>
    intro q A h _ hf
    exact ⟨q, A, rfl, h, Nat.le_refl _, by omega, Or.inl rfl⟩
  | succ fuel ih =>
    intro q A h hq hf
    simp only [forDown, hc]
    by_cases hcond : c < q
    · simp only [hcond, decide_true, if_true]
      obtain ⟨p, A', e, f, h1, h2, _⟩ := ih (q - 1) _ (h.set (by omega) (by omega) (hg A (q - 1) (by omega)
        (by omega) (fun i hi => by rw [h.2 i, if_neg (by omega)]))) (by omega) (by omega)
      exact ⟨p, A', e, f, by omega, h2, Or.inr (by omega)⟩
    · simp only [hcond, decide_false, Bool.false_eq_true, if_false]
      exact ⟨q, A, rfl, h, Nat.le_refl _, by omega, Or.inl rfl⟩

/-- the final `for (; pos != SIZE_MAX; a[pos--] = 0)` -/
theorem FillDown.zero {n q : Nat} {G : Nat → Nat} {a A : List Nat} (h : FillDown n G a q A)
    (hq : q ≤ n) (hz : ∀ i, i < q → G i = 0) :
    (zeroDown n q A).length = n ∧ ∀ i, (zeroDown n q A).getD i 0 = if i < n then G i else 0 := by
  obtain ⟨p, A', e, f, _, hp, _⟩ := FillDown.loop (c := 0) (q0 := q) (fun q => q != 0) (fun p => by
      by_cases h : p = 0 <;> simp [h, Nat.pos_iff_ne_zero])
    (fun _ _ => 0) hq (fun _ p _ hp _ => (hz p hp).symm) n q A h (Nat.le_refl _) (by omega)
  unfold zeroDown
  rw [e]
  refine ⟨f.1, fun i => ?_⟩
  by_cases c : i < n
  · rw [if_pos c, f.2 i, if_pos (by omega)]
  · rw [if_neg c]; exact getD_beyond _ i (by rw [f.1]; omega)

theorem shHiLoop_fill {w n ws sh : Nat} {a : List Nat} {G : Nat → Nat} (hn : a.length = n)
    (hG : ∀ p, ws + 1 ≤ p → p < n →
      G p = wshl w (a.getD (p - ws) 0) sh ||| wshr (a.getD (p - ws - 1) 0) (w - sh)) :
    ∃ q A, shHiLoop w n ws sh a = (q, A) ∧ FillDown n G a q A ∧ q ≤ n ∧ q ≤ ws + 1 ∧ (q = n ∨ q = ws + 1) :=
  FillDown.loop (c := ws + 1) (q0 := n) (fun q => decide (q > ws + 1)) (fun p => rfl)
    (fun A p => wshl w (A.getD (p - ws) 0) sh ||| wshr (A.getD (p - ws - 1) 0) (w - sh))
    (Nat.le_refl _) (fun A p hp hpn hA => by rw [hA _ (by omega), hA _ (by omega), hG p hp hpn])
    n n a (FillDown.init G hn) (Nat.le_refl _) (by omega)

theorem shHiCopy_fill {n ws : Nat} {a : List Nat} {G : Nat → Nat} (hn : a.length = n)
    (hG : ∀ p, ws ≤ p → p < n → G p = a.getD (p - ws) 0) :
    ∃ q A, shHiCopy n ws a = (q, A) ∧ FillDown n G a q A ∧ q ≤ n ∧ q ≤ ws ∧ (q = n ∨ q = ws) :=
  FillDown.loop (c := ws) (q0 := n) (fun q => q != 0 && decide (q > ws))
    (fun p => by
      by_cases hp : ws < p
      · have : p ≠ 0 := by omega
        simp [hp, this]
      · simp [hp])
    (fun A p => A.getD (p - ws) 0) (Nat.le_refl _)
    (fun A p hp hpn hA => by rw [hA _ (by omega), hG p hp hpn]) n n a (FillDown.init G hn)
    (Nat.le_refl _) (by omega)

theorem shHiWord_below (w : Nat) (b : List Nat) {ws i : Nat} (sh : Nat) (h : i < ws) :
    shHiWord w b ws sh i = 0 := by
  unfold shHiWord; rw [if_pos h]

/-- with shift 0 a word is copied -/
theorem shHiWord_zero {w : Nat} {b : List Nat} (hb : Wf w b) {ws i : Nat} (h : ws ≤ i) :
    shHiWord w b ws 0 i = b.getD (i - ws) 0 := by
  unfold shHiWord
  rw [if_neg (by omega)]
  have e0 : wshl w (b.getD (i - ws) 0) 0 = b.getD (i - ws) 0 := by
    simp only [wshl, Nat.pow_zero, Nat.mul_one]; exact Nat.mod_eq_of_lt (getD_lt hb _)
  have e1 : wshr (b.getD (i - ws - 1) 0) (w - 0) = 0 := by
    simp only [wshr, Nat.sub_zero]; exact Nat.div_eq_of_lt (getD_lt hb _)
  rw [e0, e1]
  split <;> exact Nat.or_zero _

theorem getD_zeros_append (k : Nat) (a : List Nat) (i : Nat) :
    (List.replicate k 0 ++ a).getD i 0 = if i < k then 0 else a.getD (i - k) 0 := by
  simp only [List.getD_eq_getElem?_getD]
  by_cases c : i < k
  · rw [if_pos c, List.getElem?_append_left (by simpa using c), List.getElem?_replicate, if_pos c]; rfl
  · rw [if_neg c, List.getElem?_append_right (by simpa using c), List.length_replicate]

theorem Wf_zeros_append {w : Nat} (k : Nat) {b : List Nat} (hb : Wf w b) :
    Wf w (List.replicate k 0 ++ b) :=
  Wf_append.2 ⟨Wf_replicate_zero w k, hb⟩

/-- a word of the up-shift is a word of the down-shift by `w − sh` bits of the array with `ws + 1`
    zero words put below it -/
theorem shHiWord_eq {w : Nat} (a : List Nat) (ws : Nat) {sh : Nat} (hsh : sh ≤ w) (i : Nat) :
    shHiWord w a ws sh i = shLoWord w (List.replicate (ws + 1) 0 ++ a) 0 (w - sh) i := by
  unfold shHiWord shLoWord
  rw [getD_zeros_append, getD_zeros_append, Nat.add_zero, show w - (w - sh) = sh by omega, Nat.or_comm]
  by_cases c1 : i < ws
  · simp [c1, show i < ws + 1 by omega, wshr, wshl]
  · by_cases c2 : i = ws
    · subst c2; simp [wshr, wshl]
    · rw [if_neg c1, if_neg c2, if_neg (show ¬ i + 1 < ws + 1 by omega), if_neg (show ¬ i < ws + 1 by omega),
        show i + 1 - (ws + 1) = i - ws by omega, show i - (ws + 1) = i - ws - 1 by omega]

theorem val_zeros_append_div {w : Nat} (b : List Nat) (ws : Nat) {sh : Nat} (hsh : sh ≤ w) (k : Nat) :
    val w (List.replicate (ws + 1) 0 ++ b) / 2 ^ (w * k + (w - sh)) =
      val w b * 2 ^ (w * ws + sh) / 2 ^ (w * k) := by
  have e : 2 ^ (w * (ws + 1)) = 2 ^ (w - sh) * 2 ^ (w * ws + sh) := by
    rw [← Nat.pow_add]; congr 1; rw [Nat.mul_succ]; omega
  rw [val_append, val_replicate_zero, Nat.zero_add, List.length_replicate, e]
  generalize 2 ^ (w * ws + sh) = P
  rw [Nat.pow_add, Nat.mul_comm (2 ^ (w * k)), ← Nat.div_div_eq_div_mul, Nat.mul_assoc,
    Nat.mul_div_cancel_left _ (Nat.two_pow_pos _), Nat.mul_comm]

theorem wwShHi_words {w : Nat} (hw : 0 < w) (a : List Nat) (shift : Nat) (h : Wf w a) :
    (wwShHi w a shift).length = a.length ∧
    ∀ i, (wwShHi w a shift).getD i 0 =
      if i < a.length then shHiWord w a (shift / w) (shift % w) i else 0 := by
  unfold wwShHi
  by_cases hs : shift < w * a.length
  · have hwsn : shift / w < a.length := pos_word_lt hs
    simp only [hs, if_true]
    generalize hn : a.length = n at *
    generalize shift / w = ws at *
    generalize hsh : shift % w = sh
    have hshw : sh < w := by rw [← hsh]; exact Nat.mod_lt _ hw
    by_cases c0 : sh = 0
    · subst c0
      simp only [ne_eq, not_true_eq_false, if_false]
      obtain ⟨q1, a1, e1, f1, h1, h1', _⟩ := shHiCopy_fill (ws := ws) (G := shHiWord w a ws 0) hn
        (fun p hp _ => shHiWord_zero h hp)
      rw [e1]
      exact f1.zero h1 (fun i hi => shHiWord_below w a 0 (by omega))
    · simp only [ne_eq, c0, not_false_eq_true, if_true]
      obtain ⟨q1, a1, e1, f1, h1, h1', h1''⟩ := shHiLoop_fill (w := w) (ws := ws) (sh := sh) (G := shHiWord w a ws sh) hn
        (fun p hp _ => by
          unfold shHiWord
          rw [if_neg (show ¬ p < ws by omega), if_neg (show ¬ p = ws by omega)])
      rw [e1]
      obtain rfl : q1 = ws + 1 := by omega
      refine (f1.set (by omega) (by omega) ?_).zero (by omega) (fun i hi =>
        shHiWord_below w a sh (by omega))
      rw [f1.2, if_neg (by omega)]
      unfold shHiWord
      rw [Nat.add_sub_cancel, Nat.sub_self, if_neg (Nat.lt_irrefl _), if_pos rfl, Nat.or_zero]
  · simp only [hs, if_false, wwSetZero, List.length_replicate, true_and]
    intro i
    have hws := div_ge_of_not_lt hw hs
    rw [getD_replicate_zero]
    split
    · rw [shHiWord_below w a _ (by omega)]
    · rfl

theorem wwShHi_eq {w : Nat} (hw : 0 < w) (a : List Nat) (shift : Nat) (h : Wf w a) :
    wwShHi w a shift = toWords w a.length (val w a * 2 ^ shift) := by
  obtain ⟨h1, h2⟩ := wwShHi_words hw a shift h
  have hsh : shift % w ≤ w := Nat.le_of_lt (Nat.mod_lt shift hw)
  have := shLo_eq (Wf_zeros_append (shift / w + 1) h) 0 (Nat.sub_le w (shift % w)) h1
    (fun i hi => by rw [h2, if_pos hi, shHiWord_eq a _ hsh])
  rwa [val_zeros_append_div a _ hsh, Nat.div_add_mod, Nat.mul_zero, Nat.pow_zero, Nat.div_one] at this

theorem wwShHiCarry_words {w : Nat} (hw : 0 < w) (a : List Nat) (shift carry : Nat) (h : Wf w a)
    (hc : carry < 2 ^ w) :
    (wwShHiCarry w a shift carry).1.length = a.length ∧
    (∀ i, (wwShHiCarry w a shift carry).1.getD i 0 =
      if i < a.length then shHiWord w (carry :: a) (shift / w) (shift % w) (i + 1) else 0) ∧
    (wwShHiCarry w a shift carry).2 =
      shHiWord w (carry :: a) (shift / w) (shift % w) (a.length + 1) := by
  unfold wwShHiCarry
  have hb : Wf w (carry :: a) := Wf_cons.mpr ⟨hc, h⟩
  have hshw : shift % w < w := Nat.mod_lt _ hw
  have hss : shift = w * (shift / w) + shift % w := (Nat.div_add_mod shift w).symm
  have gb : ∀ i, (carry :: a).getD i 0 = if i = 0 then carry else a.getD (i - 1) 0 := by
    intro i; cases i <;> simp
  generalize hn : a.length = n at *
  by_cases hs : shift < w * (n + 1)
  · have hwsn : shift / w < n + 1 := (lt_mul_iff_div_lt hw _ _).1 hs
    simp only [hs, if_true]
    generalize shift / w = ws at *
    generalize shift % w = sh at *
    have hz : ∀ i, i + 1 < ws → shHiWord w (carry :: a) ws sh (i + 1) = 0 := fun i hi =>
      shHiWord_below w _ sh hi
    -- the words of the result from position ws - 1 (the carry word) upwards
    have hG : ∀ i, ws ≤ i + 1 → shHiWord w (carry :: a) ws sh (i + 1) =
        wshl w (if i + 1 = ws then carry else a.getD (i - ws) 0) sh |||
          (if i + 1 = ws then 0 else
            wshr (if i = ws then carry else a.getD (i - ws - 1) 0) (w - sh)) := by
      intro i hi
      unfold shHiWord
      rw [if_neg (by omega), gb, gb, show i + 1 - ws - 1 = i - ws by omega]
      by_cases c1 : i + 1 = ws
      · rw [if_pos c1, if_pos c1, if_pos (by omega), if_pos c1]
      · rw [if_neg c1, if_neg c1, if_neg (by omega), if_neg c1]
        by_cases c2 : i = ws
        · rw [if_pos c2, if_pos (by omega)]
        · rw [if_neg c2, if_neg (by omega)]
    have hret0 : (if ¬ws = 0 then wshl w (a.getD (n - ws) 0) sh else 0) =
        wshl w (if n + 1 = ws then carry else a.getD (n - ws) 0) sh := by
      by_cases c : ws = 0
      · rw [if_neg (not_not.mpr c), if_neg (by omega), c, Nat.sub_zero, getD_beyond a n (by omega),
          wshl_zero]
      · rw [if_pos c, if_neg (by omega)]
    have hret : (if ws < n then
          (if ¬ws = 0 then wshl w (a.getD (n - ws) 0) sh else 0) |||
            wshr (a.getD (n - ws - 1) 0) (w - sh)
        else (if ¬ws = 0 then wshl w (a.getD (n - ws) 0) sh else 0) ||| wshr carry (w - sh)) =
        shHiWord w (carry :: a) ws sh (n + 1) := by
      have hne : ¬ n + 1 = ws := by omega
      rw [hG n (by omega), hret0, if_neg hne, if_neg hne]
      by_cases c : ws < n
      · rw [if_pos c, if_neg (by omega)]
      · rw [if_neg c, if_pos (by omega)]
    by_cases c0 : sh = 0
    · subst c0
      have e0 : ∀ x, x < 2 ^ w → wshl w x 0 = x := fun x hx => by
        simp only [wshl, Nat.pow_zero, Nat.mul_one]; exact Nat.mod_eq_of_lt hx
      simp only [ne_eq, not_true_eq_false, if_false]
      obtain ⟨q1, a1, e1, f1, h1, h1', h1''⟩ := shHiCopy_fill (ws := ws)
        (G := fun i => shHiWord w (carry :: a) ws 0 (i + 1)) hn
        (fun p hp _ => by
          show shHiWord w (carry :: a) ws 0 (p + 1) = _
          rw [shHiWord_zero hb (by omega), gb, if_neg (by omega),
            show p + 1 - ws - 1 = p - ws by omega])
      rw [e1]
      obtain rfl : q1 = ws := by omega
      obtain ⟨q2, a2, e2, f2, h2⟩ := f1.setIf (v := wshl w carry 0) (q1 ≠ 0) (by omega) h1 (fun hc' => by
        rw [shHiWord_zero hb (by omega), show q1 - 1 + 1 - q1 = 0 by omega, List.getD_cons_zero,
          e0 _ hc])
      simp only [e2]
      obtain ⟨z1, z2⟩ := f2.zero (by omega) (fun i hi => hz i (by omega))
      refine ⟨z1, z2, ?_⟩
      rw [hret0, if_neg (by omega), shHiWord_zero hb (by omega), gb, if_neg (by omega),
        show n + 1 - q1 - 1 = n - q1 by omega, e0 _ (getD_lt h _)]
    · simp only [ne_eq, c0, not_false_eq_true, if_true]
      obtain ⟨q1, a1, e1, f1, h1, h1', h1''⟩ := shHiLoop_fill (w := w) (ws := ws) (sh := sh)
        (G := fun i => shHiWord w (carry :: a) ws sh (i + 1)) hn
        (fun p hp _ => by
          show shHiWord w (carry :: a) ws sh (p + 1) = _
          rw [hG p (by omega), if_neg (show ¬ p + 1 = ws by omega), if_neg (show ¬ p + 1 = ws by omega),
            if_neg (show ¬ p = ws by omega)])
      rw [e1, hret]
      -- the word that takes the high bits of `carry`: position `ws`
      obtain ⟨q2, a2, e2, f2, h2⟩ := f1.setIf
        (v := wshl w (a1.getD (q1 - 1 - ws) 0) sh ||| wshr carry (w - sh))
        (q1 ≠ 0 ∧ q1 > ws) (by omega) h1 (fun hc' => by
          obtain rfl : q1 = ws + 1 := by omega
          rw [f1.2, if_neg (by omega), hG _ (by omega), if_neg (by omega), if_neg (by omega),
            if_pos (by omega)])
      simp only [e2]
      -- the word that takes its low bits: position `ws - 1`
      obtain ⟨q3, a3, e3, f3, h3⟩ := f2.setIf (v := wshl w carry sh) (q2 ≠ 0) Nat.pos_of_ne_zero (by omega)
        (fun hc' => by
          rw [hG _ (by omega), if_pos (by omega), if_pos (by omega), Nat.or_zero])
      simp only [e3]
      obtain ⟨z1, z2⟩ := f3.zero (by omega) (fun i hi => hz i (by omega))
      exact ⟨z1, z2, trivial⟩
  · have hws := div_ge_of_not_lt hw hs
    simp only [hs, if_false, wwSetZero, List.length_replicate]
    rw [hn]
    generalize shift / w = ws at *
    generalize shift % w = sh at *
    refine ⟨rfl, fun i => ?_, ?_⟩
    · rw [getD_replicate_zero]
      split
      · rw [shHiWord_below w _ _ (by omega)]
      · rfl
    · by_cases c : ws = n + 1
      · subst c
        unfold shHiWord
        rw [show shift - w * (n + 1) = sh by omega, if_pos hshw, if_neg (Nat.lt_irrefl _), if_pos rfl,
          Nat.sub_self, List.getD_cons_zero, Nat.or_zero]
      · have := Nat.mul_le_mul_left w (show n + 1 + 1 ≤ ws by omega)
        rw [Nat.mul_succ] at this
        rw [if_neg (by omega), shHiWord_below w _ _ (by omega)]

/-- the same statement about `carry :: a`; the returned word is word `n + 1` of that number -/
theorem wwShHiCarry_eq {w : Nat} (hw : 0 < w) (a : List Nat) (shift carry : Nat) (h : Wf w a)
    (hc : carry < 2 ^ w) :
    (wwShHiCarry w a shift carry).1 =
      toWords w a.length ((carry + val w a * 2 ^ w) * 2 ^ shift / 2 ^ w) ∧
    (wwShHiCarry w a shift carry).2 =
      ((carry + val w a * 2 ^ w) * 2 ^ shift / 2 ^ (w * (a.length + 1))) % 2 ^ w := by
  have hsh := Nat.le_of_lt (Nat.mod_lt shift hw)
  have hb := Wf_zeros_append (shift / w + 1) (Wf_cons.mpr ⟨hc, h⟩)
  have hV : val w (carry :: a) = carry + val w a * 2 ^ w := by rw [val_cons, Nat.mul_comm]
  obtain ⟨h1, h2, h3⟩ := wwShHiCarry_words hw a shift carry h hc
  have e1 := shLo_eq hb 1 (Nat.sub_le w (shift % w)) h1
    (fun i hi => by rw [h2, if_pos hi, shHiWord_eq _ _ hsh]; rfl)
  have e2 := shLo_eq (R := [(wwShHiCarry w a shift carry).2]) (n := 1) hb (a.length + 1)
    (Nat.sub_le w (shift % w)) rfl
    (fun i hi => by obtain rfl : i = 0 := by omega
                    rw [List.getD_cons_zero, h3, shHiWord_eq _ _ hsh]; unfold shLoWord; simp)
  rw [val_zeros_append_div _ _ hsh, Nat.div_add_mod, hV, Nat.mul_one] at e1
  rw [val_zeros_append_div _ _ hsh, Nat.div_add_mod, hV] at e2
  exact ⟨e1, (List.cons.inj e2).1⟩

end Bits

theorem Rep.shLo {w n x : Nat} {l : List Nat} (hw : 0 < w) (h : Rep w n l x) (s : Nat) :
    Rep w n (wwShLo w l s) (x / 2 ^ s) :=
  Rep.iff_toWords.2 ⟨by rw [Bits.wwShLo_eq hw l s h.wf, h.len, h.eq],
    Nat.lt_of_le_of_lt (Nat.div_le_self _ _) h.lt⟩

theorem Rep.shHi {w n x : Nat} {l : List Nat} (hw : 0 < w) (h : Rep w n l x) (s : Nat) :
    Rep w n (wwShHi w l s) (x * 2 ^ s % 2 ^ (w * n)) := by
  rw [Bits.wwShHi_eq hw l s h.wf, h.len, h.eq]
  exact ⟨toWords_Wf _ _ _, toWords_length _ _ _, val_toWords _ _ _⟩

theorem Rep.shLoCarry {w n x c : Nat} {l : List Nat} (hw : 0 < w) (h : Rep w n l x) (s : Nat)
    (hc : c < 2 ^ w) :
    Rep w n (wwShLoCarry w l s c).1 ((x + c * 2 ^ (w * n)) / 2 ^ s % 2 ^ (w * n)) := by
  rw [(Bits.wwShLoCarry_eq hw l s c h.wf hc).1, h.len, h.eq]
  exact ⟨toWords_Wf _ _ _, toWords_length _ _ _, val_toWords _ _ _⟩

theorem take_succ_set (a : List Nat) {i : Nat} (x : Nat) (hi : i < a.length) :
    (a.set i x).take (i + 1) = a.take i ++ [x] := by
  rw [List.take_succ_eq_append_getElem (by simpa using hi), List.take_set_of_le (Nat.le_refl i),
    List.getElem_set_self]

theorem drop_set_self (a : List Nat) {i : Nat} (x : Nat) (hi : i < a.length) :
    (a.set i x).drop i = x :: a.drop (i + 1) := by
  rw [List.drop_eq_getElem_cons (by simpa using hi), List.getElem_set_self,
    List.drop_set_of_lt (Nat.lt_succ_self i)]

theorem forUp_zero (n : Nat) : ∀ (fuel pos : Nat) (A : List Nat), A.length = n → n ≤ pos + fuel →
    (forUp (fun p => p < n) (fun p A => A.set p 0) fuel pos A).2 =
      A.take pos ++ List.replicate (n - pos) 0 := by
  intro fuel
  induction fuel with
  | zero =>
    intro pos A hl hf
    rw [forUp, List.take_of_length_le (by omega), show n - pos = 0 by omega]; simp
  | succ fuel ih =>
    intro pos A hl hf
    rw [forUp]
    by_cases c : pos < n
    · rw [if_pos (by simpa using c), ih _ _ (by simpa using hl) (by omega),
        take_succ_set A 0 (by omega), List.append_assoc, List.singleton_append,
        ← List.replicate_succ]
      congr 2; omega
    · rw [if_neg (by simpa using c), List.take_of_length_le (by omega), show n - pos = 0 by omega]
      simp

theorem zeroUp_eq {n : Nat} (pos : Nat) {A : List Nat} (hl : A.length = n) :
    zeroUp n pos A = A.take pos ++ List.replicate (n - pos) 0 :=
  forUp_zero n n pos A hl (by omega)

/-! ## trimming -/

theorem trimLoLoop_eq : ∀ (i : Nat) (a : List Nat),
    trimLoLoop i a = List.replicate (min i a.length) 0 ++ a.drop i := by
  intro i
  induction i with
  | zero => intro a; simp [trimLoLoop]
  | succ i ih =>
    intro a
    rw [trimLoLoop, ih, List.length_set]
    by_cases c : i < a.length
    · rw [drop_set_self a 0 c, Nat.min_eq_left (Nat.le_of_lt c), Nat.min_eq_left c, List.replicate_succ',
        List.append_assoc, List.singleton_append]
    · rw [List.set_eq_of_length_le (by omega), List.drop_of_length_le (by omega),
        List.drop_of_length_le (by omega), Nat.min_eq_right (by omega), Nat.min_eq_right (by omega)]

theorem wshr_wshl {w p : Nat} (x : Nat) (hp : p ≤ w) : wshr (wshl w x (w - p)) (w - p) = x % 2 ^ p := by
  obtain ⟨t, rfl⟩ : ∃ t, w = p + t := ⟨w - p, by omega⟩
  simp only [wshr, wshl, Nat.add_sub_cancel_left]
  rw [Nat.pow_add, Nat.mul_mod_mul_right, Nat.mul_div_cancel _ (Nat.two_pow_pos _)]

theorem wshl_wshr {w x : Nat} (p : Nat) (hx : x < 2 ^ w) : wshl w (wshr x p) p = x / 2 ^ p * 2 ^ p :=
  Nat.mod_eq_of_lt (Nat.lt_of_le_of_lt (Nat.div_mul_le_self _ _) hx)

theorem wwTrimHi_eq {w : Nat} (hw : 0 < w) (a : List Nat) (pos : Nat) (hi : pos / w < a.length) :
    wwTrimHi w a pos = a.take (pos / w) ++ (a.getD (pos / w) 0 % 2 ^ (pos % w)) ::
      List.replicate (a.length - (pos / w + 1)) 0 := by
  have hp := Nat.mod_lt pos hw
  unfold wwTrimHi
  simp only [hi, if_true]
  have e : (if w - pos % w = w then a.set (pos / w) 0
      else a.set (pos / w) (wshr (wshl w (a.getD (pos / w) 0) (w - pos % w)) (w - pos % w))) =
      a.set (pos / w) (a.getD (pos / w) 0 % 2 ^ (pos % w)) := by
    split
    · rw [show pos % w = 0 by omega, Nat.pow_zero, Nat.mod_one]
    · rw [wshr_wshl _ (Nat.le_of_lt hp)]
  rw [e, zeroUp_eq _ (by simp), take_succ_set _ _ hi, List.append_assoc, List.singleton_append]

theorem wwTrimLo_eq {w : Nat} (a : List Nat) (pos : Nat) (h : Wf w a) (hi : pos / w < a.length) :
    wwTrimLo w a pos = List.replicate (pos / w) 0 ++
      (a.getD (pos / w) 0 / 2 ^ (pos % w) * 2 ^ (pos % w)) :: a.drop (pos / w + 1) := by
  unfold wwTrimLo
  simp only [hi, if_true]
  have e1 : (if pos % w ≠ 0 then a.set (pos / w) (wshl w (wshr (a.getD (pos / w) 0) (pos % w)) (pos % w))
      else a) = a.set (pos / w) (a.getD (pos / w) 0 / 2 ^ (pos % w) * 2 ^ (pos % w)) := by
    split
    · rw [wshl_wshr _ (getD_lt h _)]
    · rename_i c
      rw [show pos % w = 0 by omega, Nat.pow_zero, Nat.div_one, Nat.mul_one]
      simp [List.getD_eq_getElem?_getD, List.getElem?_eq_getElem hi]
  rw [e1, trimLoLoop_eq, List.length_set, Nat.min_eq_left (Nat.le_of_lt hi), drop_set_self _ _ hi]

theorem wwTrimLo_zero {w : Nat} (a : List Nat) (pos : Nat) (hi : ¬ pos / w < a.length) :
    wwTrimLo w a pos = List.replicate a.length 0 := by
  unfold wwTrimLo
  simp only [hi, if_false]
  split <;> rw [trimLoLoop_eq, List.drop_of_length_le (by omega), List.append_nil] <;> congr 1 <;> omega

theorem pow_le_of_word_ge {w n pos : Nat} (hi : ¬ pos / w < n) : 2 ^ (w * n) ≤ 2 ^ pos := by
  apply Nat.pow_le_pow_right (by decide)
  have := Nat.mul_le_mul_left w (Nat.le_of_not_lt hi)
  have := Nat.mul_div_le pos w
  omega

/-- ⟦a⟧ mod B^i + B^i · (word i mod 2^p) = ⟦a⟧ mod 2^(w·i + p) -/
theorem val_take_cons_zeros {w : Nat} (hw : 0 < w) {a : List Nat} (h : Wf w a) (pos : Nat)
    (hi : pos / w < a.length) (k : Nat) :
    val w (a.take (pos / w) ++ (a.getD (pos / w) 0 % 2 ^ (pos % w)) :: List.replicate k 0) =
      val w a % 2 ^ pos := by
  rw [val_append, val_cons, val_replicate_zero, Nat.mul_zero, Nat.add_zero, val_take h,
    List.length_take, Nat.min_eq_left (Nat.le_of_lt hi), getD_digit h,
    Nat.mod_mod_of_dvd _ (Nat.pow_dvd_pow 2 (Nat.le_of_lt (Nat.mod_lt pos hw)))]
  conv => rhs; rw [← Nat.div_add_mod pos w, Nat.pow_add, Nat.mod_mul]

/-- B^i · (⌊x / 2^p⌋·2^p + B·⟦rest⟧) = ⌊⟦a⟧ / 2^(w·i + p)⌋ · 2^(w·i + p), with B = 2^p · 2^t -/
theorem val_zeros_cons_drop {w : Nat} (hw : 0 < w) {a : List Nat} (h : Wf w a) (pos : Nat) :
    val w (List.replicate (pos / w) 0 ++
      (a.getD (pos / w) 0 / 2 ^ (pos % w) * 2 ^ (pos % w)) :: a.drop (pos / w + 1)) =
      val w a / 2 ^ pos * 2 ^ pos := by
  obtain ⟨t, ht⟩ : ∃ t, w = pos % w + t := ⟨w - pos % w, by have := Nat.mod_lt pos hw; omega⟩
  have hsplit : 2 ^ w = 2 ^ (pos % w) * 2 ^ t := by rw [← Nat.pow_add, ← ht]
  rw [val_append, val_replicate_zero, Nat.zero_add, List.length_replicate, val_cons]
  conv => rhs; rw [← Nat.div_add_mod pos w, Nat.pow_add, ← Nat.div_div_eq_div_mul, ← val_drop h,
    val_drop_succ, hsplit, Nat.mul_assoc, Nat.add_mul_div_left _ _ (Nat.two_pow_pos _)]
  rw [hsplit]
  generalize 2 ^ (w * (pos / w)) = P
  generalize 2 ^ (pos % w) = Q
  generalize 2 ^ t = T
  ring

/-! ## sizes -/

theorem getD_reverse (a : List Nat) (i : Nat) (hi : i < a.length) :
    a.reverse.getD i 0 = a.getD (a.length - 1 - i) 0 := by
  rw [List.getD_eq_getElem?_getD, List.getD_eq_getElem?_getD, List.getElem?_reverse hi]

theorem loZeroLoop_spec : ∀ (a : List Nat),
    wwLoZeroLoop a ≤ a.length ∧ (∀ k, k < wwLoZeroLoop a → a.getD k 0 = 0) ∧
    (wwLoZeroLoop a < a.length → a.getD (wwLoZeroLoop a) 0 ≠ 0) := by
  intro a
  induction a with
  | nil => simp [wwLoZeroLoop]
  | cons x xs ih =>
    simp only [wwLoZeroLoop]
    by_cases hx : x = 0
    · subst hx
      obtain ⟨h1, h2, h3⟩ := ih
      simp only [beq_self_eq_true, if_true, List.length_cons]
      refine ⟨by omega, fun k hk => ?_, fun hm => ?_⟩
      · cases k with
        | zero => rfl
        | succ k => simpa using h2 k (by omega)
      · simpa using h3 (by omega)
    · have hb : (x == 0) = false := by simp [hx]
      simp only [hb, Bool.false_eq_true, if_false, List.length_cons]
      exact ⟨Nat.zero_le _, fun k hk => by omega, fun _ => by simpa using hx⟩

/-- the scan from the top counts what the scan from the bottom leaves -/
theorem wordSizeLoop_eq : ∀ l : List Nat, wwWordSizeLoop l = l.length - wwLoZeroLoop l
  | [] => rfl
  | x :: xs => by
    rw [wwWordSizeLoop, wwLoZeroLoop, wordSizeLoop_eq xs, List.length_cons]
    split <;> omega

theorem wwWordSize_spec' (a : List Nat) :
    wwWordSize a ≤ a.length ∧
    (∀ i, wwWordSize a ≤ i → a.getD i 0 = 0) ∧
    (0 < wwWordSize a → a.getD (wwWordSize a - 1) 0 ≠ 0) := by
  obtain ⟨h1, h2, h3⟩ := loZeroLoop_spec a.reverse
  rw [wwWordSize, wordSizeLoop_eq]
  rw [List.length_reverse] at h1 h3 ⊢
  generalize wwLoZeroLoop a.reverse = z at *
  refine ⟨Nat.sub_le _ _, fun i hi => ?_, fun hm => ?_⟩
  · by_cases c : i < a.length
    · have := h2 (a.length - 1 - i) (by omega)
      rwa [getD_reverse a _ (by omega), show a.length - 1 - (a.length - 1 - i) = i by omega] at this
    · exact getD_beyond a i (by omega)
  · have := h3 (by omega)
    rwa [getD_reverse a _ (by omega), show a.length - 1 - z = a.length - z - 1 by omega] at this

/-- the top non-zero word is the number divided by 2^(w(m-1)) -/
theorem Bits.val_top {w : Nat} (a : List Nat) (h : Wf w a) (m : Nat) (hm : 0 < m)
    (hz : ∀ i, m ≤ i → a.getD i 0 = 0) : val w a / 2 ^ (w * (m - 1)) = a.getD (m - 1) 0 := by
  rw [← val_drop h, val_drop_succ, show m - 1 + 1 = m by omega, val_drop_zero a m hz, Nat.mul_zero,
    Nat.add_zero]

/-- the size of the number is read off its top word (wwBitSize: `t = w − clz`, wwOctetSize: `t = 8·q`) -/
theorem Bits.val_top_bounds {w : Nat} (a : List Nat) (h : Wf w a) (m : Nat) (hm : 0 < m)
    (hz : ∀ i, m ≤ i → a.getD i 0 = 0) (t : Nat) :
    (a.getD (m - 1) 0 < 2 ^ t → val w a < 2 ^ (w * (m - 1) + t)) ∧
    (2 ^ t ≤ a.getD (m - 1) 0 → 2 ^ (w * (m - 1) + t) ≤ val w a) := by
  rw [← Bits.val_top a h m hm hz, Nat.pow_add, Nat.mul_comm (2 ^ (w * (m - 1)))]
  exact ⟨(Nat.div_lt_iff_lt_mul (Nat.two_pow_pos _)).mp, (Nat.le_div_iff_mul_le (Nat.two_pow_pos _)).mp⟩

/-- `c` = number of leading zeros of the non-zero word `x` -/
def ClzOK (w : Nat) (clz : Nat → Nat) : Prop :=
  ∀ x, 0 < x → x < 2 ^ w → clz x < w ∧ x / 2 ^ (w - 1 - clz x) = 1

theorem wwBitSize_gen {w : Nat} (clz : Nat → Nat) (hclz : ClzOK w clz)
    (a : List Nat) (h : Wf w a) :
    wwBitSizeWith clz w a ≤ w * a.length ∧
    val w a < 2 ^ wwBitSizeWith clz w a ∧
    (0 < wwBitSizeWith clz w a → 2 ^ (wwBitSizeWith clz w a - 1) ≤ val w a) ∧
    wwHiZeroBitsWith clz w a + wwBitSizeWith clz w a = w * a.length := by
  obtain ⟨h1, h2, h3⟩ := wwWordSize_spec' a
  unfold wwBitSizeWith wwHiZeroBitsWith
  unfold wwWordSize at h1 h2 h3
  simp only
  generalize wwWordSizeLoop a.reverse = m at *
  by_cases hm : m = 0
  · subst hm
    have hv : val w a = 0 := by simpa using val_drop_zero (w := w) a 0 (fun i _ => h2 i (Nat.zero_le _))
    simp only [if_true, Nat.sub_self, Nat.pow_zero]
    rw [hv, Nat.mul_comm]
    exact ⟨Nat.zero_le _, Nat.one_pos, fun hh => absurd hh (Nat.lt_irrefl 0), by omega⟩
  · have hmp : 0 < m := Nat.pos_of_ne_zero hm
    obtain ⟨c1, c2⟩ := hclz _ (Nat.pos_of_ne_zero (h3 hmp)) (getD_lt h (m - 1))
    generalize clz (a.getD (m - 1) 0) = c at *
    -- the top word has exactly e + 1 = w − c bits
    obtain ⟨e, he⟩ : ∃ e, w - 1 - c = e := ⟨_, rfl⟩
    rw [he] at c2
    have htop : 2 ^ e ≤ a.getD (m - 1) 0 ∧ a.getD (m - 1) 0 < 2 ^ (e + 1) := by
      have := Nat.div_add_mod (a.getD (m - 1) 0) (2 ^ e)
      have := Nat.mod_lt (a.getD (m - 1) 0) (Nat.two_pow_pos e)
      rw [c2] at *
      rw [Nat.pow_succ]; omega
    have hb := Bits.val_top_bounds a h m hmp h2
    simp only [hm, if_false]
    have k1 : (a.length - m) * w + ((m - 1) * w + w) = a.length * w := by
      rw [← Nat.succ_mul, ← Nat.add_mul]; congr 1; omega
    have k2 := Nat.mul_comm w (m - 1)
    have k3 := Nat.mul_comm w a.length
    have hB : a.length * w - ((a.length - m) * w + c) = w * (m - 1) + (e + 1) := by omega
    rw [hB]
    exact ⟨by omega, (hb (e + 1)).1 htop.2, fun _ => (hb e).2 htop.1, by omega⟩

/-- `ctz x` = number of trailing zeros of the non-zero word `x` -/
def CtzOK (w : Nat) (ctz : Nat → Nat) : Prop :=
  ∀ x, 0 < x → x < 2 ^ w → ctz x < w ∧ x % 2 ^ ctz x = 0 ∧ x / 2 ^ ctz x % 2 = 1

theorem wwLoZeroBits_gen {w : Nat} (hw : 0 < w) (ctz : Nat → Nat) (hctz : CtzOK w ctz)
    (a : List Nat) (h : Wf w a) :
    wwLoZeroBitsWith ctz w a ≤ w * a.length ∧
    (∀ k, k < wwLoZeroBitsWith ctz w a → (val w a).testBit k = false) ∧
    (wwLoZeroBitsWith ctz w a < w * a.length →
      (val w a).testBit (wwLoZeroBitsWith ctz w a) = true) := by
  obtain ⟨h1, h2, h3⟩ := loZeroLoop_spec a
  unfold wwLoZeroBitsWith
  simp only
  generalize wwLoZeroLoop a = i at *
  by_cases hi : i = a.length
  · rw [if_pos hi, Nat.mul_comm]
    refine ⟨Nat.le_refl _, fun k hk => ?_, fun hh => absurd hh (Nat.lt_irrefl _)⟩
    rw [testBit_val hw a h]
    by_cases c : k / w < i
    · rw [h2 _ c, Nat.zero_testBit]
    · rw [getD_beyond a _ (by omega), Nat.zero_testBit]
  · rw [if_neg hi]
    have hil : i < a.length := by omega
    have hne := h3 hil
    obtain ⟨c1, c2, c3⟩ := hctz _ (Nat.pos_of_ne_zero hne) (getD_lt h i)
    generalize ctz (a.getD i 0) = c at *
    have hmw : w * i + w ≤ w * a.length := by
      have : w * (i + 1) ≤ w * a.length := Nat.mul_le_mul_left w hil
      rw [Nat.mul_add] at this; omega
    rw [Nat.mul_comm i w]
    refine ⟨by omega, fun k hk => ?_, fun _ => ?_⟩
    · rw [testBit_val hw a h]
      have hj : k % w < w := Nat.mod_lt _ hw
      have hkk : k = w * (k / w) + k % w := (Nat.div_add_mod k w).symm
      generalize k / w = i' at *
      generalize k % w = j at *
      by_cases ci : i' < i
      · rw [h2 i' ci, Nat.zero_testBit]
      · have : i' = i := by
          by_contra hne'
          have : w * (i + 1) ≤ w * i' := Nat.mul_le_mul_left w (by omega)
          rw [Nat.mul_add] at this; omega
        subst this
        have hjc : j < c := by omega
        have : (a.getD i' 0 % 2 ^ c).testBit j = false := by rw [c2]; exact Nat.zero_testBit _
        rw [Nat.testBit_mod_two_pow] at this
        simpa [hjc] using this
    · rw [testBit_val hw a h]
      obtain ⟨e1, e2⟩ := idx_lo hw i c c1
      rw [e1, e2, Nat.testBit_eq_decide_div_mod_eq, c3]; rfl

theorem ClzOK_of_spec {w : Nat} {clz : Nat → Nat} (h : ∀ x, x < 2 ^ w → ClzSpec w x (clz x)) :
    ClzOK w clz := fun x hx hlt => (h x hlt).2 (by omega)
theorem CtzOK_of_spec {w : Nat} {ctz : Nat → Nat} (h : ∀ x, x < 2 ^ w → CtzSpec w x (ctz x)) :
    CtzOK w ctz := fun x hx hlt => (h x hlt).2 (by omega)

/-! ## wwIsW, wwIsRepW -/

theorem foldl_and_all (p : Nat → Bool) : ∀ (l : List Nat) (b : Bool),
    l.foldl (fun r y => r && p y) b = (b && l.all p) := by
  intro l
  induction l with
  | nil => intro b; simp
  | cons y ys ih => intro b; simp [List.foldl_cons, ih, Bool.and_assoc]

theorem isW_fastLoop_eq : ∀ (l : List Nat) (b : Bool),
    wwIsW_fastLoop b l = (b && l.all (· == 0)) := by
  intro l
  induction l with
  | nil => intro b; simp [wwIsW_fastLoop]
  | cons y ys ih =>
    intro b
    cases b
    · simp [wwIsW_fastLoop]
    · simp [wwIsW_fastLoop, ih]

theorem isRepW_fastLoop_eq (x : Nat) : ∀ (l : List Nat),
    wwIsRepW_fastLoop x l = l.all (· == x) := by
  intro l
  induction l with
  | nil => simp [wwIsRepW_fastLoop]
  | cons y ys ih =>
    by_cases h : y = x
    · simp [wwIsRepW_fastLoop, h, ih]
    · simp [wwIsRepW_fastLoop, h]

/-! ## wwOctetSize -/

namespace Bits

theorem mask_octet_bits (p j : Nat) :
    (0xFF * 2 ^ (8 * p)).testBit j = (decide (8 * p ≤ j) && decide (j - 8 * p < 8)) := by
  have : (0xFF : Nat) = 2 ^ 8 - 1 := by norm_num
  rw [this, Nat.testBit_mul_two_pow, Nat.testBit_two_pow_sub_one]

theorem and_octet_zero_iff {x p : Nat} (hx : x < 2 ^ (8 * (p + 1))) :
    x &&& (0xFF * 2 ^ (8 * p)) = 0 ↔ x < 2 ^ (8 * p) := by
  constructor
  · intro h
    apply Nat.lt_pow_two_of_testBit
    intro i hi
    by_cases c : i < 8 * (p + 1)
    · have := congrArg (fun y => y.testBit i) h
      simp only [Nat.testBit_and, mask_octet_bits, Nat.zero_testBit] at this
      have c1 : 8 * p ≤ i := hi
      have c2 : i - 8 * p < 8 := by omega
      simpa [c1, c2] using this
    · exact Nat.testBit_lt_two_pow (Nat.lt_of_lt_of_le hx (Nat.pow_le_pow_right (by decide) (by omega)))
  · intro h
    apply Nat.eq_of_testBit_eq
    intro j
    rw [Nat.testBit_and, mask_octet_bits, Nat.zero_testBit]
    by_cases c : 8 * p ≤ j
    · rw [Nat.testBit_lt_two_pow (Nat.lt_of_lt_of_le h (Nat.pow_le_pow_right (by decide) c))]
      rfl
    · simp [c]

theorem octet_mask {w O : Nat} (hO : 0 < O) (hw8 : w = 8 * O) :
    wshl w 0xFF (8 * (O - 1)) = 0xFF * 2 ^ (8 * (O - 1)) := by
  apply Nat.mod_eq_of_lt
  rw [show w = 8 * (O - 1) + 8 by omega, Nat.pow_add, Nat.mul_comm (2 ^ (8 * (O - 1)))]
  exact Nat.mul_lt_mul_of_pos_right (by norm_num : (0xFF : Nat) < 2 ^ 8) (Nat.two_pow_pos _)

/-- the octet scan of the top word: q = index of the highest non-zero octet + 1 -/
theorem octetLoop_spec (x : Nat) (hx0 : x ≠ 0) : ∀ p, x < 2 ^ (8 * p) →
    1 ≤ wwOctetSizeLoop x p (0xFF * 2 ^ (8 * (p - 1))) ∧
    wwOctetSizeLoop x p (0xFF * 2 ^ (8 * (p - 1))) ≤ p ∧
    x < 2 ^ (8 * wwOctetSizeLoop x p (0xFF * 2 ^ (8 * (p - 1)))) ∧
    2 ^ (8 * (wwOctetSizeLoop x p (0xFF * 2 ^ (8 * (p - 1))) - 1)) ≤ x := by
  intro p
  induction p with
  | zero => intro hx; simp at hx; omega
  | succ p ih =>
    intro hx
    simp only [wwOctetSizeLoop, Nat.add_sub_cancel]
    by_cases c : x &&& (0xFF * 2 ^ (8 * p)) = 0
    · have hlt := (and_octet_zero_iff hx).mp c
      have hp : p ≠ 0 := by
        intro e; subst e; simp at hlt; exact hx0 hlt
      have hmask : (0xFF * 2 ^ (8 * p)) >>> 8 = 0xFF * 2 ^ (8 * (p - 1)) := by
        have e : 8 * p = 8 * (p - 1) + 8 := by omega
        rw [Nat.shiftRight_eq_div_pow, e, Nat.pow_add, ← Nat.mul_assoc,
          Nat.mul_div_cancel _ (Nat.two_pow_pos 8)]
      have hb : (x &&& 0xFF * 2 ^ (8 * p) == 0) = true := by simp [c]
      rw [hb, if_pos rfl, hmask]
      obtain ⟨h1, h2, h3, h4⟩ := ih hlt
      exact ⟨h1, by omega, h3, h4⟩
    · have hb : (x &&& 0xFF * 2 ^ (8 * p) == 0) = false := by simp [c]
      rw [hb]
      simp only [Bool.false_eq_true, if_false, Nat.add_sub_cancel]
      refine ⟨by omega, Nat.le_refl _, hx, ?_⟩
      by_contra hlt
      exact c ((and_octet_zero_iff hx).mpr (by omega))

end Bits

/-! ## wwCmpW, wwXor -/

namespace Bits

theorem foldl_or_zero : ∀ (l : List Nat) (d : Nat),
    l.foldl (fun d y => d ||| y) d = 0 ↔ d = 0 ∧ ∀ y ∈ l, y = 0 := by
  intro l
  induction l with
  | nil => intro d; simp
  | cons y ys ih =>
    intro d
    rw [List.foldl_cons, ih]
    constructor
    · intro ⟨h1, h2⟩
      have := Nat.or_eq_zero_iff.mp h1
      exact ⟨this.1, fun z hz => by
        rcases List.mem_cons.mp hz with e | e
        · rw [e]; exact this.2
        · exact h2 z e⟩
    · intro ⟨h1, h2⟩
      exact ⟨by rw [h1, h2 y (List.mem_cons_self)]; rfl, fun z hz => h2 z (List.mem_cons_of_mem _ hz)⟩

theorem cmpW_fastLoop_zero : ∀ (l : List Nat),
    wwCmpW_fastLoop 0 l = if ∀ y ∈ l, y = 0 then 0 else 1 := by
  have h1 : ∀ l : List Nat, wwCmpW_fastLoop 1 l = 1 := by
    intro l; cases l <;> simp [wwCmpW_fastLoop]
  intro l
  induction l with
  | nil => simp [wwCmpW_fastLoop]
  | cons y ys ih =>
    simp only [wwCmpW_fastLoop, beq_self_eq_true, if_true]
    by_cases hy : y = 0
    · subst hy
      simp only [beq_self_eq_true, if_true, ih]
      simp
    · have hb : (y == 0) = false := by simp [hy]
      simp only [hb, Bool.false_eq_true, if_false, h1]
      have : ¬ ∀ z ∈ (y :: ys), z = 0 := fun h => hy (h y (by simp))
      rw [if_neg this]

/-- the three-way comparison of numbers as an `Int` -/
def cmp3 (u v : Nat) : Int := if u < v then -1 else if u > v then 1 else 0

theorem wwXor_val {w : Nat} : ∀ (a b : List Nat), a.length = b.length → Wf w a → Wf w b →
    (wwXor a b).length = a.length ∧ Wf w (wwXor a b) ∧ val w (wwXor a b) = val w a ^^^ val w b := by
  intro a
  induction a with
  | nil => intro b hl _ _; cases b <;> simp_all [wwXor, val, Wf_nil]
  | cons x xs ih =>
    intro b hl ha hb
    cases b with
    | nil => simp at hl
    | cons y ys =>
      obtain ⟨hx, hxs⟩ := Wf_cons.mp ha
      obtain ⟨hy, hys⟩ := Wf_cons.mp hb
      obtain ⟨i1, i2, i3⟩ := ih ys (by simpa using hl) hxs hys
      unfold wwXor at i1 i2 i3 ⊢
      simp only [List.zipWith_cons_cons, List.length_cons, val_cons]
      refine ⟨by rw [i1], Wf_cons.mpr ⟨Nat.xor_lt_two_pow hx hy, i2⟩, ?_⟩
      rw [i3, add_mul_xor hx hy]

end Bits

/-! ## wwFrom / wwTo (little-endian host) -/

namespace Bits

/-- the words are the digits of the same number in the base 2^(8·O) -/
theorem octetsToWords_eq (O : Nat) : ∀ (n : Nat) {buf : List Nat}, Wf 8 buf →
    octetsToWords O n buf = toWords (8 * O) n (val 8 buf)
  | 0, _, _ => rfl
  | n + 1, _, h => by
    rw [octetsToWords, toWords, val_take h, octetsToWords_eq O n (Wf_drop h O), val_drop h]

theorem wordsToOctets_octetsToWords (O : Nat) : ∀ (n : Nat) (buf : List Nat), buf.length = n * O →
    Wf 8 buf → wordsToOctets O (octetsToWords O n buf) = buf := by
  intro n
  induction n with
  | zero =>
    intro buf hl _
    have : buf = [] := List.eq_nil_of_length_eq_zero (by simpa using hl)
    subst this; rfl
  | succ n ih =>
    intro buf hl hw
    have hlt : (buf.take O).length = O := by
      rw [List.length_take, hl, Nat.succ_mul]; omega
    have hld : (buf.drop O).length = n * O := by
      rw [List.length_drop, hl, Nat.succ_mul]; omega
    simp only [octetsToWords, wordsToOctets]
    rw [ih (buf.drop O) hld (Wf_drop hw O)]
    have := toWords_val (Wf_take hw O)
    rw [hlt] at this
    rw [this, List.take_append_drop]

theorem ft_pad_len (O len : Nat) (hO : 0 < O) : len ≤ (len + O - 1) / O * O := by
  have h := Nat.lt_mul_div_succ (len + O - 1) hO
  rw [Nat.mul_add, Nat.mul_one, Nat.mul_comm] at h
  omega

theorem wwFrom_eq {w : Nat} (O : Nat) (hw8 : w = 8 * O) (o : List Nat) (ho : Wf 8 o) :
    wwFrom w o = toWords w ((o.length + O - 1) / O) (val 8 o) := by
  unfold wwFrom
  simp only [show w / 8 = O by omega]
  rw [octetsToWords_eq O _ (Wf_append.2 ⟨ho, Wf_replicate_zero 8 _⟩), val_append, val_replicate_zero,
    Nat.mul_zero, Nat.add_zero, hw8]

theorem wwFrom_val {w : Nat} (O : Nat) (hO : 0 < O) (hw8 : w = 8 * O) (o : List Nat) (ho : Wf 8 o) :
    (wwFrom w o).length = (o.length + O - 1) / O ∧ val w (wwFrom w o) = val 8 o := by
  rw [wwFrom_eq O hw8 o ho, toWords_length, val_toWords]
  refine ⟨rfl, Nat.mod_eq_of_lt (Nat.lt_of_lt_of_le (val_lt ho) (Nat.pow_le_pow_right (by decide) ?_))⟩
  rw [hw8, Nat.mul_assoc, Nat.mul_comm O]
  exact Nat.mul_le_mul_left 8 (ft_pad_len O o.length hO)

theorem wwFrom_Wf {w : Nat} (O : Nat) (hw8 : w = 8 * O) (o : List Nat) (ho : Wf 8 o) :
    Wf w (wwFrom w o) := by
  rw [wwFrom_eq O hw8 o ho]; exact toWords_Wf _ _ _

theorem wwTo_wwFrom {w : Nat} (O : Nat) (hO : 0 < O) (hw8 : w = 8 * O) (o : List Nat) (ho : Wf 8 o) :
    wwTo w o.length (wwFrom w o) = o := by
  have hwO : w / 8 = O := by omega
  unfold wwTo wwFrom
  simp only [hwO]
  have hpad := ft_pad_len O o.length hO
  have hl : (o ++ List.replicate ((o.length + O - 1) / O * O - o.length) 0).length
      = (o.length + O - 1) / O * O := by
    rw [List.length_append, List.length_replicate]; omega
  rw [wordsToOctets_octetsToWords O _ _ hl (Wf_append.2 ⟨ho, Wf_replicate_zero 8 _⟩)]
  simp

end Bits

end Bee2V.C05
