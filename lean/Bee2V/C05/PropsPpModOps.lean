/-
C05 — ppMulMod / ppSqrMod / ppRed (pp_mod.c, pp_red.c), ppMinPolyMod (pp_etc.c) and the gf2.c
operations gf2From / gf2To / gf2Add3 / gf2Neg2 / gf2Inv / gf2Div as gf2Create installs them
(models: ModelPpModOps.lean; lemmas: LemmasPpModOps.lean).  Word size B_PER_W ∈ {16, 32, 64}
where the word-level multiplication / division is involved.

ppMinPolyMod: `ppMinPolyModV_spec` (full: the sequence is `ppSeqBits`, bit j = constant term of
a^{2l − j} mod mod — `ppMinPolyModV_seq_pow` —, result = ppMinPolyV of it with the complete
characterisation incl. minimality).  `ppMinPolyModV_partial` is the earlier intermediate result
(kept: audited name).
-/
import Bee2V.C05.LemmasPpModOps
import Bee2V.C05.PropsGf2
namespace Bee2V.C05
open Bee2V.C05.Spec Bee2V.C05.PpModOps

/-- ppMulMod(c, a, b, mod, n): `c = a·b mod mod`, n words (mod: n > 0 words, mod[n − 1] ≠ 0). -/
theorem ppMulMod_spec (w : Nat) (hw : w = 16 ∨ w = 32 ∨ w = 64) (a b md : List Nat) (ha : Wf w a)
    (hb : Wf w b) (hmd : Wf w md) (hm : 0 < md.length) (htop : md.getD (md.length - 1) 0 ≠ 0) :
    val w (ppMulMod w a b md) = pmod (clmul (val w a) (val w b)) (val w md)
    ∧ (ppMulMod w a b md).length = md.length ∧ Wf w (ppMulMod w a b md) :=
  ppMulMod_ok (PpDiv.WordOK_of_width hw) a b md ha hb hmd hm htop

example := ppMulMod_spec 16 (Or.inl rfl) [65535, 1] [7, 9] [3, 0x8000] (by decide) (by decide)
  (by decide) (by decide) (by decide)

/-- ppSqrMod(b, a, mod, n): `b = a² mod mod`. -/
theorem ppSqrMod_spec (w : Nat) (hw : w = 16 ∨ w = 32 ∨ w = 64) (a md : List Nat) (ha : Wf w a)
    (hmd : Wf w md) (hm : 0 < md.length) (htop : md.getD (md.length - 1) 0 ≠ 0) :
    val w (ppSqrMod w a md) = pmod (clmul (val w a) (val w a)) (val w md)
    ∧ (ppSqrMod w a md).length = md.length ∧ Wf w (ppSqrMod w a md) := by
  obtain ⟨k, rfl⟩ := width_16 hw
  exact ppSqrMod_ok k (PpDiv.WordOK_of_width hw) a md ha hmd hm htop

/-- ppRed(a, mod, n) = ppMod on the 2n-word array: `a mod mod`, n words (any length of a). -/
theorem ppRed_spec (w : Nat) (hw : w = 16 ∨ w = 32 ∨ w = 64) (a md : List Nat) (ha : Wf w a)
    (hmd : Wf w md) (hm : 0 < md.length) (htop : md.getD (md.length - 1) 0 ≠ 0) :
    val w (ppRed w a md) = pmod (val w a) (val w md)
    ∧ (ppRed w a md).length = md.length ∧ Wf w (ppRed w a md) :=
  PpDiv.ppMod_ok (PpDiv.WordOK_of_width hw) a md ha hmd hm htop

example := ppRed_spec 16 (Or.inl rfl) [1, 2, 3, 4] [3, 0x8000] (by decide) (by decide) (by decide)
  (by decide)

/-- gf2From: the words carry the value of the octet string; the verdict is `m % B_PER_W == 0` (every
    n-word value is accepted) or `deg < m`. -/
theorem gf2From_spec (w O m : Nat) (hO : 0 < O) (hw8 : w = 8 * O) (o : List Nat) (ho : Wf 8 o) :
    val w (gf2From w m o).1 = val 8 o ∧ Wf w (gf2From w m o).1
    ∧ (gf2From w m o).1.length = (o.length + O - 1) / O
    ∧ ((gf2From w m o).2 = true ↔ (m % w = 0 ∨ val 8 o < 2 ^ m)) := by
  obtain ⟨h1, h2⟩ := Bits.wwFrom_val O hO hw8 o ho
  have h3 := Bits.wwFrom_Wf O hw8 o ho
  refine ⟨h2, h3, h1, ?_⟩
  unfold gf2From gf2IsIn
  simp only [Bool.or_eq_true, beq_iff_eq, decide_eq_true_eq, bitSize_le_iff, h2]

example : (gf2From 16 17 [0xff, 0xff, 0x01]).2 = true ∧ (gf2From 16 17 [0xff, 0xff, 0x03]).2 = false := by
  decide

/-- gf2To ∘ gf2From = id on strings of O_OF_B(m) octets. -/
theorem gf2To_gf2From (w O m : Nat) (hO : 0 < O) (hw8 : w = 8 * O) (o : List Nat) (ho : Wf 8 o)
    (hl : o.length = oOfB m) : gf2To w m (gf2From w m o).1 = o := by
  unfold gf2To gf2From
  rw [← hl]
  exact Bits.wwTo_wwFrom O hO hw8 o ho

/-- gf2Add3 (= f->sub): the xor of the values. -/
theorem gf2Add3_spec (w : Nat) (a b : List Nat) (ha : Wf w a) (hb : Wf w b) (hl : a.length = b.length) :
    val w (gf2Add3 a b) = val w a ^^^ val w b ∧ Wf w (gf2Add3 a b) ∧ (gf2Add3 a b).length = a.length :=
  have h := Bits.wwXor_val a b hl ha hb
  ⟨h.2.2, h.2.1, h.1⟩

/-- gf2Neg2: −a = a. -/
theorem gf2Neg2_spec (a : List Nat) : gf2Neg2 a = a := rfl

/-- gf2Div(b, divident, a, f) incl. the m % B_PER_W == 0 branch: the value is ppDivModV's, i.e. the
    field quotient when gcd(a, mod) = 1 and 0 otherwise; n = W_OF_B(m) words. -/
theorem gf2Div_spec (w m : Nat) (hw0 : 0 < w) (md dv a : List Nat)
    (hmd1 : val w md % 2 = 1) (hdeg : (val w md).log2 = m) (hdv : val w dv < 2 ^ m) :
    val w (gf2Div w m md dv a) = ppDivModV (val w dv) (val w a) (val w md)
    ∧ (gf2Div w m md dv a).length = wOfB w m ∧ Wf w (gf2Div w m md dv a)
    ∧ (pgcd (val w a) (val w md) = 1 →
        pmod (clmul (val w (gf2Div w m md dv a)) (val w a)) (val w md) = val w dv)
    ∧ (pgcd (val w a) (val w md) ≠ 1 → val w (gf2Div w m md dv a) = 0) :=
  gf2Div_ok hw0 m md dv a hmd1 hdeg hdv

/-- gf2Inv(b, a, f). -/
theorem gf2Inv_spec (w m : Nat) (hw0 : 0 < w) (md a : List Nat)
    (hmd1 : val w md % 2 = 1) (hdeg : (val w md).log2 = m) (hm : 0 < m) :
    val w (gf2Inv w m md a) = ppInvModV (val w a) (val w md)
    ∧ (gf2Inv w m md a).length = wOfB w m ∧ Wf w (gf2Inv w m md a)
    ∧ (pgcd (val w a) (val w md) = 1 →
        pmod (clmul (val w (gf2Inv w m md a)) (val w a)) (val w md) = 1)
    ∧ (pgcd (val w a) (val w md) ≠ 1 → val w (gf2Inv w m md a) = 0) := by
  have h1 : (1 : Nat) < 2 ^ m := Nat.one_lt_two_pow (by omega)
  have hone : val w [1] = 1 := by simp [val]
  have := gf2Div_ok hw0 m md [1] a hmd1 hdeg (by rw [hone]; exact h1)
  rw [hone] at this
  have heq : gf2Inv w m md a = gf2Div w m md [1] a := by
    unfold gf2Inv gf2Div ppInvModV
    simp only [val_snoc_zero, hone]
  rw [heq]
  exact this

example : val 16 (gf2Inv 16 16 [0x2b, 1] [0x1234]) = ppInvModV 0x1234 (val 16 [0x2b, 1]) := by decide

/-- ppMinPolyMod: the result is `ppMinPolyV` of the computed sequence and inherits its
    characterisation (non-zero, degree ≤ l, key equation, minimality). -/
theorem ppMinPolyModV_partial (a md : Nat) (hl : 1 ≤ md.log2) :
    ∃ s, ppMinPolyModV a md = ppMinPolyV s md.log2
      ∧ ppMinPolyModV a md ≠ 0 ∧ (ppMinPolyModV a md).log2 ≤ md.log2
      ∧ clmul (ppMinPolyModV a md) (s % 2 ^ (2 * md.log2)) % 2 ^ (2 * md.log2) < 2 ^ md.log2 := by
  refine ⟨_, rfl, ?_⟩
  obtain ⟨h1, h2, h3, _⟩ := ppMinPolyV_spec
    (ppMinPolySeq a md (2 * md.log2 - 1) a ((a % 2) <<< (2 * md.log2 - 1)) % 2 ^ (2 * md.log2)) md.log2 hl
  exact ⟨h1, h2, h3⟩

example : ppMinPolyModV 0b110 0b10011 = 0b111 := by decide +kernel


/-- ppMinPolyMod at full strength (deg mod = l ≥ 1).  The sequence handed to ppMinPoly is
    `ppSeqBits a md l (2l)`: it has 2l bits and bit j is the constant term of the (2l − 1 − j)-fold
    iterate of t ↦ t·a mod md started at a (for a reduced: of a^{2l−j} mod md, see
    `ppMinPolyModV_seq_pow`).  The result is ModelGf2's `ppMinPolyV` of that sequence, with its
    complete characterisation: non-zero, degree ≤ l, key equation, and minimality. -/
theorem ppMinPolyModV_spec (a md : Nat) (hl : 1 ≤ md.log2) :
    ppMinPolyModV a md = ppMinPolyV (ppSeqBits a md md.log2 (2 * md.log2)) md.log2
    ∧ ppSeqBits a md md.log2 (2 * md.log2) < 2 ^ (2 * md.log2)
    ∧ (∀ j, j < 2 * md.log2 → (ppSeqBits a md md.log2 (2 * md.log2)).testBit j
          = decide (ppIter a md (2 * md.log2 - 1 - j) a % 2 = 1))
    ∧ ppMinPolyModV a md ≠ 0 ∧ (ppMinPolyModV a md).log2 ≤ md.log2
    ∧ clmul (ppMinPolyModV a md) (ppSeqBits a md md.log2 (2 * md.log2)) % 2 ^ (2 * md.log2) < 2 ^ md.log2
    ∧ ∀ g r k, g ≠ 0 → g.log2 ≤ md.log2 → r < 2 ^ md.log2 →
        clmul g (ppSeqBits a md md.log2 (2 * md.log2)) ^^^ r = clmul k (2 ^ (2 * md.log2)) →
        (∃ h', g = clmul h' (ppMinPolyModV a md)) ∧ (ppMinPolyModV a md).log2 ≤ g.log2 := by
  have hlt := ppSeqBits_lt a md md.log2 (2 * md.log2)
  have hmod : ppSeqBits a md md.log2 (2 * md.log2) % 2 ^ (2 * md.log2)
      = ppSeqBits a md md.log2 (2 * md.log2) := Nat.mod_eq_of_lt hlt
  have heq : ppMinPolyModV a md = ppMinPolyV (ppSeqBits a md md.log2 (2 * md.log2)) md.log2 := by
    unfold ppMinPolyModV
    dsimp only
    rw [ppMinPolySeq_eq a md md.log2 hl, hmod]
  obtain ⟨h1, h2, h3, h4⟩ := ppMinPolyV_spec (ppSeqBits a md md.log2 (2 * md.log2)) md.log2 hl
  rw [hmod] at h3 h4
  rw [← heq] at h1 h2 h3 h4
  refine ⟨heq, hlt, ?_, h1, h2, h3, h4⟩
  intro j hj
  rw [ppSeqBits_testBit]
  simp [hj]

/-- for a reduced a (deg a < deg mod, the precondition `a < mod`), bit j of the sequence is the
    constant term of a^{2l−j} mod mod (`cpow a k` = a^k in GF(2)[x]). -/
theorem ppMinPolyModV_seq_pow (a md : Nat) (hl : 1 ≤ md.log2) (ha : a < 2 ^ md.log2) :
    ∀ j, j < 2 * md.log2 → (ppSeqBits a md md.log2 (2 * md.log2)).testBit j
      = decide (pmod (cpow a (2 * md.log2 - j)) md % 2 = 1) := by
  intro j hj
  have hmd : md ≠ 0 := by
    intro h0; rw [h0] at hl; simp [Nat.log2_zero] at hl
  rw [(ppMinPolyModV_spec a md hl).2.2.1 j hj, ppIter_pow hmd ha,
    show 2 * md.log2 - 1 - j + 1 = 2 * md.log2 - j by omega]

example : ppMinPolyModV 0b10 0b1011 = ppMinPolyV (ppSeqBits 0b10 0b1011 3 6) 3
    ∧ ppMinPolyModV 0b10 0b1011 = 0b1011 := by decide +kernel

end Bee2V.C05
