/-
C05 — additive part of the arithmetic layer = exact arithmetic.

Property theorems (and non-vacuity examples) for the models of ModelAdd.lean:
for ALL list lengths and all word sizes `w` the code-shaped loops compute the
mathematical value.  `val w a` is the little-endian value of `a` in base `2^w`,
`Wf w a` says that all elements are words.  Helper lemmas: LemmasAdd.lean.
-/
import Bee2V.C05.LemmasAdd
namespace Bee2V.C05
open Bee2V.C05.Add

/-! ## 1. zz_add.c : addition and subtraction with carry / borrow -/

/-- zzAdd (regular body): `c + B^n carry = a + b`, carry ∈ {0,1}, c is an n-word number. -/
theorem zzAdd_spec (w : Nat) (a b : List Nat)
    (ha : Wf w a) (hb : Wf w b) (hl : a.length = b.length) :
    val w (zzAdd w a b).1 + 2 ^ (w * a.length) * (zzAdd w a b).2 = val w a + val w b
    ∧ (zzAdd w a b).2 ≤ 1 ∧ Wf w (zzAdd w a b).1 ∧ (zzAdd w a b).1.length = a.length :=
  zzAdd_repC w a b ha hb hl

example : zzAdd 64 [2 ^ 64 - 1, 2 ^ 64 - 1, 5] [1, 0, 2 ^ 64 - 6] = ([0, 0, 0], 1) := by decide

/-- zzAdd: the result is the sum modulo `B^n`, the returned carry is the quotient. -/
theorem zzAdd_mod_div (w : Nat) (a b : List Nat)
    (ha : Wf w a) (hb : Wf w b) (hl : a.length = b.length) :
    val w (zzAdd w a b).1 = (val w a + val w b) % 2 ^ (w * a.length)
    ∧ (zzAdd w a b).2 = (val w a + val w b) / 2 ^ (w * a.length) :=
  (zzAdd_repC w a b ha hb hl).divmod

example : val 64 (zzAdd 64 [2 ^ 64 - 1, 7] [3, 2 ^ 64 - 8]).1 = 2 ∧ (zzAdd 64 [2 ^ 64 - 1, 7] [3, 2 ^ 64 - 8]).2 = 1 := by
  decide

/-- zzAdd, `#ifdef SAFE_FAST` body: same specification. -/
theorem zzAddF_spec (w : Nat) (a b : List Nat)
    (ha : Wf w a) (hb : Wf w b) (hl : a.length = b.length) :
    val w (zzAddF w a b).1 + 2 ^ (w * a.length) * (zzAddF w a b).2 = val w a + val w b
    ∧ (zzAddF w a b).2 ≤ 1 ∧ Wf w (zzAddF w a b).1 ∧ (zzAddF w a b).1.length = a.length := by
  unfold zzAddF
  rw [zzAddFLoop_eq]
  simpa using ripple_carry (addFStep_ok w) 0 a b ha hb hl (Nat.zero_le 1)

example : zzAddF 64 [2 ^ 64 - 1, 2 ^ 64 - 1, 5] [1, 0, 2 ^ 64 - 6] = ([0, 0, 0], 1) := by decide

/-- regular body = SAFE_FAST body of zzAdd (result words and carry). -/
theorem zzAddF_eq_zzAdd (w : Nat) (a b : List Nat)
    (ha : Wf w a) (hb : Wf w b) (hl : a.length = b.length) : zzAddF w a b = zzAdd w a b :=
  RepC.unique (zzAddF_spec w a b ha hb hl) (zzAdd_spec w a b ha hb hl)

/-- zzAdd2(b, a) (`b += a`, regular body). -/
theorem zzAdd2_spec (w : Nat) (b a : List Nat)
    (hb : Wf w b) (ha : Wf w a) (hl : b.length = a.length) :
    val w (zzAdd2 w b a).1 + 2 ^ (w * b.length) * (zzAdd2 w b a).2 = val w b + val w a
    ∧ (zzAdd2 w b a).2 ≤ 1 ∧ Wf w (zzAdd2 w b a).1 ∧ (zzAdd2 w b a).1.length = b.length :=
  zzAdd2_repC w b a hb ha hl

example : zzAdd2 64 [2 ^ 64 - 1, 2 ^ 64 - 1, 5] [1, 0, 2 ^ 64 - 7] = ([0, 0, 2 ^ 64 - 1], 0) := by decide

/-- zzAdd2, `#ifdef SAFE_FAST` body. -/
theorem zzAdd2F_spec (w : Nat) (b a : List Nat)
    (hb : Wf w b) (ha : Wf w a) (hl : b.length = a.length) :
    val w (zzAdd2F w b a).1 + 2 ^ (w * b.length) * (zzAdd2F w b a).2 = val w b + val w a
    ∧ (zzAdd2F w b a).2 ≤ 1 ∧ Wf w (zzAdd2F w b a).1 ∧ (zzAdd2F w b a).1.length = b.length := by
  unfold zzAdd2F
  rw [zzAdd2FLoop_eq]
  simpa using ripple_carry (add2FStep_ok w) 0 b a hb ha hl (Nat.zero_le 1)

example : zzAdd2F 64 [2 ^ 64 - 1, 2 ^ 64 - 1, 5] [1, 0, 2 ^ 64 - 6] = ([0, 0, 0], 1) := by decide

theorem zzAdd2F_eq_zzAdd2 (w : Nat) (b a : List Nat)
    (hb : Wf w b) (ha : Wf w a) (hl : b.length = a.length) : zzAdd2F w b a = zzAdd2 w b a :=
  RepC.unique (zzAdd2F_spec w b a hb ha hl) (zzAdd2_spec w b a hb ha hl)

/-- zzAddW (regular; also the regular body of zzAddW2): `b + B^n carry = a + x` for a word `x`.
    The returned carry is a word, and is 0/1 as soon as n > 0 (for n = 0 the C code returns `x`). -/
theorem zzAddW_spec' (w : Nat) (a : List Nat) (x : Nat) (ha : Wf w a) (hx : x < 2 ^ w) :
    val w (zzAddW w a x).1 + 2 ^ (w * a.length) * (zzAddW w a x).2 = val w a + x
    ∧ (zzAddW w a x).2 < 2 ^ w ∧ (a ≠ [] → (zzAddW w a x).2 ≤ 1)
    ∧ Wf w (zzAddW w a x).1 ∧ (zzAddW w a x).1.length = a.length :=
  zzAddW_spec w a x ha hx

example : zzAddW 64 [2 ^ 64 - 5, 2 ^ 64 - 1, 8] 77 = ([72, 0, 9], 0) := by decide
example : zzAddW 64 [2 ^ 64 - 5, 2 ^ 64 - 1] 77 = ([72, 0], 1) := by decide

/-- zzAddW2 regular body (the model shares the loop with zzAddW). -/
theorem zzAddW2_spec (w : Nat) (a : List Nat) (x : Nat) (ha : Wf w a) (hx : x < 2 ^ w) :
    val w (zzAddW2 w a x).1 + 2 ^ (w * a.length) * (zzAddW2 w a x).2 = val w a + x
    ∧ (zzAddW2 w a x).2 < 2 ^ w ∧ (a ≠ [] → (zzAddW2 w a x).2 ≤ 1)
    ∧ Wf w (zzAddW2 w a x).1 ∧ (zzAddW2 w a x).1.length = a.length :=
  zzAddW_spec w a x ha hx

/-- zzAddW2, `#ifdef SAFE_FAST` body (loop stops when the carry dies out). -/
theorem zzAddW2F_spec (w : Nat) (a : List Nat) (x : Nat) (ha : Wf w a) (hx : x < 2 ^ w) :
    val w (zzAddW2F w a x).1 + 2 ^ (w * a.length) * (zzAddW2F w a x).2 = val w a + x
    ∧ (zzAddW2F w a x).2 < 2 ^ w ∧ (a ≠ [] → (zzAddW2F w a x).2 ≤ 1)
    ∧ Wf w (zzAddW2F w a x).1 ∧ (zzAddW2F w a x).1.length = a.length := by
  rw [zzAddW2F_eq w a x ha]
  exact zzAddW_spec w a x ha hx

theorem zzAddW2F_eq_zzAddW2 (w : Nat) (a : List Nat) (x : Nat) (ha : Wf w a) :
    zzAddW2F w a x = zzAddW2 w a x := zzAddW2F_eq w a x ha

example : zzAddW2F 64 [2 ^ 64 - 5, 2 ^ 64 - 1, 8, 3] 77 = ([72, 0, 9, 3], 0) := by decide

/-- zzSub (regular body): `c + b = a + B^n borrow`, i.e. `c = a - b + borrow B^n`,
    and the borrow is the comparison `a < b`. -/
theorem zzSub_spec (w : Nat) (a b : List Nat)
    (ha : Wf w a) (hb : Wf w b) (hl : a.length = b.length) :
    val w (zzSub w a b).1 + val w b = val w a + 2 ^ (w * a.length) * (zzSub w a b).2
    ∧ (zzSub w a b).2 = (if val w a < val w b then 1 else 0)
    ∧ Wf w (zzSub w a b).1 ∧ (zzSub w a b).1.length = a.length :=
  have h := zzSub_repB w a b ha hb hl
  ⟨h.1, h.borrow (val_lt ha), h.2.2⟩

example : zzSub 64 [0, 0, 5] [1, 0, 5] = ([2 ^ 64 - 1, 2 ^ 64 - 1, 2 ^ 64 - 1], 1) := by decide
example : zzSub 64 [0, 0, 5] [1, 0, 4] = ([2 ^ 64 - 1, 2 ^ 64 - 1, 0], 0) := by decide

/-- zzSub, `#ifdef SAFE_FAST` body (`0 < w` is needed: the body compares with `~borrow`). -/
theorem zzSubF_spec (w : Nat) (hw : 0 < w) (a b : List Nat)
    (ha : Wf w a) (hb : Wf w b) (hl : a.length = b.length) :
    val w (zzSubF w a b).1 + val w b = val w a + 2 ^ (w * a.length) * (zzSubF w a b).2
    ∧ (zzSubF w a b).2 = (if val w a < val w b then 1 else 0)
    ∧ Wf w (zzSubF w a b).1 ∧ (zzSubF w a b).1.length = a.length := by
  have h : RepB w a.length (zzSubF w a b) (val w a) (val w b) := by
    unfold zzSubF
    rw [zzSubFLoop_eq]
    simpa [RepB] using ripple_borrow (subFStep_ok hw) 0 a b ha hb hl (Nat.zero_le 1)
  exact ⟨h.1, h.borrow (val_lt ha), h.2.2⟩

example : zzSubF 64 [0, 0, 5] [1, 0, 5] = ([2 ^ 64 - 1, 2 ^ 64 - 1, 2 ^ 64 - 1], 1) := by decide

theorem zzSubF_eq_zzSub (w : Nat) (hw : 0 < w) (a b : List Nat)
    (ha : Wf w a) (hb : Wf w b) (hl : a.length = b.length) : zzSubF w a b = zzSub w a b := by
  obtain ⟨h1, h2, h3, h4⟩ := zzSub_spec w a b ha hb hl
  obtain ⟨g1, g2, g3, g4⟩ := zzSubF_spec w hw a b ha hb hl
  have e : val w (zzSubF w a b).1 = val w (zzSub w a b).1 := by
    rw [g2] at g1; rw [h2] at h1; omega
  exact Prod.ext (val_inj g3 h3 (g4.trans h4.symm) e) (g2.trans h2.symm)

/-- zzSub2(b, a) (`b -= a`, regular body). -/
theorem zzSub2_spec (w : Nat) (b a : List Nat)
    (hb : Wf w b) (ha : Wf w a) (hl : b.length = a.length) :
    val w (zzSub2 w b a).1 + val w a = val w b + 2 ^ (w * b.length) * (zzSub2 w b a).2
    ∧ (zzSub2 w b a).2 = (if val w b < val w a then 1 else 0)
    ∧ Wf w (zzSub2 w b a).1 ∧ (zzSub2 w b a).1.length = b.length :=
  have h := zzSub2_repB w b a hb ha hl
  ⟨h.1, h.borrow (val_lt hb), h.2.2⟩

example : zzSub2 64 [0, 0, 5] [1, 0, 5] = ([2 ^ 64 - 1, 2 ^ 64 - 1, 2 ^ 64 - 1], 1) := by decide

/-- zzSub2, `#ifdef SAFE_FAST` body. -/
theorem zzSub2F_spec (w : Nat) (hw : 0 < w) (b a : List Nat)
    (hb : Wf w b) (ha : Wf w a) (hl : b.length = a.length) :
    val w (zzSub2F w b a).1 + val w a = val w b + 2 ^ (w * b.length) * (zzSub2F w b a).2
    ∧ (zzSub2F w b a).2 = (if val w b < val w a then 1 else 0)
    ∧ Wf w (zzSub2F w b a).1 ∧ (zzSub2F w b a).1.length = b.length := by
  have h : RepB w b.length (zzSub2F w b a) (val w b) (val w a) := by
    unfold zzSub2F
    rw [zzSub2FLoop_eq]
    simpa [RepB] using ripple_borrow (subFStep_ok hw) 0 b a hb ha hl (Nat.zero_le 1)
  exact ⟨h.1, h.borrow (val_lt hb), h.2.2⟩

example : zzSub2F 64 [0, 7, 5] [1, 7, 4] = ([2 ^ 64 - 1, 2 ^ 64 - 1, 0], 0) := by decide

theorem zzSub2F_eq_zzSub2 (w : Nat) (hw : 0 < w) (b a : List Nat)
    (hb : Wf w b) (ha : Wf w a) (hl : b.length = a.length) : zzSub2F w b a = zzSub2 w b a := by
  obtain ⟨h1, h2, h3, h4⟩ := zzSub2_spec w b a hb ha hl
  obtain ⟨g1, g2, g3, g4⟩ := zzSub2F_spec w hw b a hb ha hl
  have e : val w (zzSub2F w b a).1 = val w (zzSub2 w b a).1 := by
    rw [g2] at g1; rw [h2] at h1; omega
  exact Prod.ext (val_inj g3 h3 (g4.trans h4.symm) e) (g2.trans h2.symm)

/-- zzSubW (regular; also the regular body of zzSubW2): `b + x = a + B^n borrow`;
    for n > 0 the borrow is the comparison `a < x` (for n = 0 the C code returns `x`). -/
theorem zzSubW_spec' (w : Nat) (a : List Nat) (x : Nat) (ha : Wf w a) (hx : x < 2 ^ w) :
    val w (zzSubW w a x).1 + x = val w a + 2 ^ (w * a.length) * (zzSubW w a x).2
    ∧ (zzSubW w a x).2 < 2 ^ w
    ∧ (a ≠ [] → (zzSubW w a x).2 = (if val w a < x then 1 else 0))
    ∧ Wf w (zzSubW w a x).1 ∧ (zzSubW w a x).1.length = a.length := by
  obtain ⟨h1, h2, h3, h4, h5⟩ := zzSubW_spec w a x ha hx
  have h6 := val_lt h4
  rw [h5] at h6
  exact ⟨h1, h2, fun hne => borrow_eq_lt h6 (h3 hne) (val_lt ha) h1, h4, h5⟩

example : zzSubW 64 [3, 0, 8] 5 = ([2 ^ 64 - 2, 2 ^ 64 - 1, 7], 0) := by decide
example : zzSubW 64 [3, 0] 5 = ([2 ^ 64 - 2, 2 ^ 64 - 1], 1) := by decide

theorem zzSubW2_spec (w : Nat) (a : List Nat) (x : Nat) (ha : Wf w a) (hx : x < 2 ^ w) :
    val w (zzSubW2 w a x).1 + x = val w a + 2 ^ (w * a.length) * (zzSubW2 w a x).2
    ∧ (zzSubW2 w a x).2 < 2 ^ w
    ∧ (a ≠ [] → (zzSubW2 w a x).2 = (if val w a < x then 1 else 0))
    ∧ Wf w (zzSubW2 w a x).1 ∧ (zzSubW2 w a x).1.length = a.length :=
  zzSubW_spec' w a x ha hx

/-- zzSubW2, `#ifdef SAFE_FAST` body. -/
theorem zzSubW2F_spec (w : Nat) (a : List Nat) (x : Nat) (ha : Wf w a) (hx : x < 2 ^ w) :
    val w (zzSubW2F w a x).1 + x = val w a + 2 ^ (w * a.length) * (zzSubW2F w a x).2
    ∧ (zzSubW2F w a x).2 < 2 ^ w
    ∧ (a ≠ [] → (zzSubW2F w a x).2 = (if val w a < x then 1 else 0))
    ∧ Wf w (zzSubW2F w a x).1 ∧ (zzSubW2F w a x).1.length = a.length := by
  rw [zzSubW2F_eq w a x ha]
  exact zzSubW_spec' w a x ha hx

theorem zzSubW2F_eq_zzSubW2 (w : Nat) (a : List Nat) (x : Nat) (ha : Wf w a) :
    zzSubW2F w a x = zzSubW2 w a x := zzSubW2F_eq w a x ha

example : zzSubW2F 64 [3, 0, 8, 9] 5 = ([2 ^ 64 - 2, 2 ^ 64 - 1, 7, 9], 0) := by decide

/-- zzNeg: `b = (B^n - a) mod B^n` (`0 < w`: the constant 1 must be a word). -/
theorem zzNeg_spec (w : Nat) (hw : 0 < w) (a : List Nat) (ha : Wf w a) :
    val w (zzNeg w a) = (2 ^ (w * a.length) - val w a) % 2 ^ (w * a.length)
    ∧ Wf w (zzNeg w a) ∧ (zzNeg w a).length = a.length := by
  have h1lt : 1 < 2 ^ w := two_le_two_pow hw
  obtain ⟨h1, _, _, h4, h5⟩ := zzAddW_spec w (a.map (wnot w)) 1 (Wf_map_wnot w a) h1lt
  have h6 := val_lt h4
  have h7 := val_map_wnot w a ha
  have h8 := val_lt ha
  simp only [List.length_map] at h1 h5 h6
  rw [h5] at h6
  unfold zzNeg zzAddW2
  refine ⟨?_, h4, h5⟩
  have h9 : val w (zzAddW w (a.map (wnot w)) 1).1 + 2 ^ (w * a.length) * (zzAddW w (a.map (wnot w)) 1).2
      = 2 ^ (w * a.length) - val w a := by omega
  exact (divmod_of_eq h6 h9).1.symm

example : zzNeg 64 [0, 0, 5] = [0, 0, 2 ^ 64 - 5] := by decide
example : zzNeg 64 [0, 0, 0] = [0, 0, 0] := by decide

/-! ## 2. ww.c : comparisons (SAFE and FAST editions) -/

/-- SAFE(wwEq) decides equality of the values. -/
theorem wwEq_safe_spec (w : Nat) (a b : List Nat) (ha : Wf w a) (hb : Wf w b)
    (hl : a.length = b.length) : wwEq_safe a b = decide (val w a = val w b) := by
  rw [Bool.eq_iff_iff, wwEq_safe_iff, zip_all_eq hl, decide_eq_true_iff]
  exact ⟨fun h => by rw [h], val_inj ha hb hl⟩

/-- FAST(wwEq) decides equality of the values. -/
theorem wwEq_fast_spec (w : Nat) (a b : List Nat) (ha : Wf w a) (hb : Wf w b)
    (hl : a.length = b.length) : wwEq_fast a b = decide (val w a = val w b) := by
  rw [Bool.eq_iff_iff, wwEq_fast_iff, zip_all_eq hl, decide_eq_true_iff]
  exact ⟨fun h => by rw [h], val_inj ha hb hl⟩

/-- the two editions of wwEq agree on all inputs (no precondition). -/
theorem wwEq_safe_eq_fast (a b : List Nat) : wwEq_safe a b = wwEq_fast a b := by
  rw [Bool.eq_iff_iff, wwEq_safe_iff, wwEq_fast_iff]

example : wwEq_safe [1, 2 ^ 64 - 1, 3] [1, 2 ^ 64 - 1, 3] = true ∧ wwEq_fast [1, 2, 3] [1, 6, 3] = false := by
  decide

/-- FAST(wwCmp) is the three-way comparison of the values. -/
theorem wwCmp_fast_spec (w : Nat) (a b : List Nat) (ha : Wf w a) (hb : Wf w b)
    (hl : a.length = b.length) :
    wwCmp_fast a b = (if val w a < val w b then -1 else if val w b < val w a then 1 else 0) :=
  wwCmp_fast_eq w a b ha hb hl

/-- SAFE(wwCmp) is the three-way comparison of the values. -/
theorem wwCmp_safe_spec (w : Nat) (a b : List Nat) (ha : Wf w a) (hb : Wf w b)
    (hl : a.length = b.length) :
    wwCmp_safe a b = (if val w a < val w b then -1 else if val w b < val w a then 1 else 0) := by
  rw [wwCmp_safe_eq_fast]
  exact wwCmp_fast_eq w a b ha hb hl

/-- the two editions of wwCmp agree on all inputs (no precondition). -/
theorem wwCmp_safe_eq_wwCmp_fast (a b : List Nat) : wwCmp_safe a b = wwCmp_fast a b :=
  wwCmp_safe_eq_fast a b

example : wwCmp_safe [5, 2 ^ 64 - 1, 3] [9, 0, 3] = 1 ∧ wwCmp_fast [9, 7, 3] [5, 8, 3] = -1 := by decide

/-- SAFE(wwIsZero) / FAST(wwIsZero) decide `a = 0`. -/
theorem wwIsZero_safe_spec (w : Nat) (a : List Nat) : wwIsZero_safe a = decide (val w a = 0) := by
  rw [Bool.eq_iff_iff, wwIsZero_safe_iff, decide_eq_true_iff, val_eq_zero_iff]

theorem wwIsZero_fast_spec (w : Nat) (a : List Nat) : wwIsZero_fast a = decide (val w a = 0) := by
  rw [Bool.eq_iff_iff, wwIsZero_fast_iff, decide_eq_true_iff, val_eq_zero_iff]

theorem wwIsZero_safe_eq_fast (a : List Nat) : wwIsZero_safe a = wwIsZero_fast a := by
  rw [Bool.eq_iff_iff, wwIsZero_safe_iff, wwIsZero_fast_iff]

example : wwIsZero_safe [0, 0, 2 ^ 63] = false ∧ wwIsZero_fast [0, 0, 0] = true := by decide

/-- SAFE(wwCmp2): comparison of numbers of different lengths. -/
theorem wwCmp2_safe_spec (w : Nat) (a b : List Nat) (ha : Wf w a) (hb : Wf w b) :
    wwCmp2_safe a b = (if val w a < val w b then -1 else if val w b < val w a then 1 else 0) := by
  have key := wwCmp2_fast_eq w a b ha hb
  rw [wwCmp2_safe_eq_fast]
  exact key

/-- FAST(wwCmp2). -/
theorem wwCmp2_fast_spec (w : Nat) (a b : List Nat) (ha : Wf w a) (hb : Wf w b) :
    wwCmp2_fast a b = (if val w a < val w b then -1 else if val w b < val w a then 1 else 0) :=
  wwCmp2_fast_eq w a b ha hb

theorem wwCmp2_safe_eq_wwCmp2_fast (a b : List Nat) : wwCmp2_safe a b = wwCmp2_fast a b :=
  wwCmp2_safe_eq_fast a b

example : wwCmp2_safe [5, 7, 0, 0] [9, 7] = -1 ∧ wwCmp2_fast [5, 7] [9, 6, 0] = 1
    ∧ wwCmp2_safe [5, 7] [0, 0, 1] = -1 := by decide

/-! ## 3. zzIsSumEq / zzIsSumWEq -/

/-- SAFE(zzIsSumEq)(c, a, b) decides `a + b = c` (exact sum, no wrap). -/
theorem zzIsSumEq_safe_spec (w : Nat) (c a b : List Nat)
    (hc : Wf w c) (ha : Wf w a) (hb : Wf w b)
    (hl1 : c.length = a.length) (hl2 : a.length = b.length) :
    zzIsSumEq_safe w c a b = decide (val w a + val w b = val w c) := by
  rw [Bool.eq_iff_iff, decide_eq_true_iff]
  unfold zzIsSumEq_safe
  simp only [beq_iff_eq]
  rw [zzIsSumEq_safeLoop_iff w c a b 0 0 hl1 hl2]
  exact (and_iff_right rfl).trans ((zzAdd_repC w a b ha hb hl2).eq_iff hc hl1)

/-- FAST(zzIsSumEq)(c, a, b) decides `a + b = c`. -/
theorem zzIsSumEq_fast_spec (w : Nat) (c a b : List Nat)
    (hc : Wf w c) (ha : Wf w a) (hb : Wf w b)
    (hl1 : c.length = a.length) (hl2 : a.length = b.length) :
    zzIsSumEq_fast w c a b = decide (val w a + val w b = val w c) := by
  rw [Bool.eq_iff_iff, decide_eq_true_iff]
  unfold zzIsSumEq_fast
  rw [zzIsSumEq_fastLoop_iff w c a b 0 ha hb (Nat.zero_le 1) hl1 hl2]
  exact (zzAdd_repC w a b ha hb hl2).eq_iff hc hl1

theorem zzIsSumEq_safe_eq_fast (w : Nat) (c a b : List Nat)
    (hc : Wf w c) (ha : Wf w a) (hb : Wf w b)
    (hl1 : c.length = a.length) (hl2 : a.length = b.length) :
    zzIsSumEq_safe w c a b = zzIsSumEq_fast w c a b := by
  rw [zzIsSumEq_safe_spec w c a b hc ha hb hl1 hl2, zzIsSumEq_fast_spec w c a b hc ha hb hl1 hl2]

example : zzIsSumEq_safe 64 [0, 0, 9] [2 ^ 64 - 1, 2 ^ 64 - 1, 5] [1, 0, 3] = true
    ∧ zzIsSumEq_fast 64 [0, 0, 9] [2 ^ 64 - 1, 2 ^ 64 - 1, 5] [1, 0, 3] = true
    ∧ zzIsSumEq_safe 64 [0, 0] [2 ^ 64 - 1, 2 ^ 64 - 1] [1, 0] = false
    ∧ zzIsSumEq_fast 64 [0, 0] [2 ^ 64 - 1, 2 ^ 64 - 1] [1, 0] = false := by decide

/-- SAFE(zzIsSumWEq)(b, a, x) decides `a + x = b` for a word `x`. -/
theorem zzIsSumWEq_safe_spec (w : Nat) (b a : List Nat) (x : Nat)
    (hb : Wf w b) (ha : Wf w a) (hx : x < 2 ^ w) (hl : b.length = a.length) :
    zzIsSumWEq_safe w b a x = decide (val w a + x = val w b) := by
  obtain ⟨h1, _, _, h4, h5⟩ := zzAddW_spec w a x ha hx
  rw [Bool.eq_iff_iff, decide_eq_true_iff]
  unfold zzIsSumWEq_safe
  simp only [beq_iff_eq]
  rw [zzIsSumWEq_safeLoop_iff w b a 0 x ha hx hl]
  constructor
  · rintro ⟨_, h⟩
    rw [h] at h1
    simpa using h1.symm
  · intro h
    refine ⟨rfl, ?_⟩
    exact result_unique (r2 := (b, 0)) h1 (by simpa using h.symm) h4 hb h5 hl

/-- FAST(zzIsSumWEq)(b, a, x) decides `a + x = b`. -/
theorem zzIsSumWEq_fast_spec (w : Nat) (b a : List Nat) (x : Nat)
    (hb : Wf w b) (ha : Wf w a) (hx : x < 2 ^ w) (hl : b.length = a.length) :
    zzIsSumWEq_fast w b a x = decide (val w a + x = val w b) := by
  obtain ⟨h1, _, _, h4, h5⟩ := zzAddW_spec w a x ha hx
  rw [Bool.eq_iff_iff, decide_eq_true_iff, zzIsSumWEq_fast_iff w b a x ha hx hl]
  constructor
  · intro h
    rw [h] at h1
    simpa using h1.symm
  · intro h
    exact result_unique (r2 := (b, 0)) h1 (by simpa using h.symm) h4 hb h5 hl

theorem zzIsSumWEq_safe_eq_fast (w : Nat) (b a : List Nat) (x : Nat)
    (hb : Wf w b) (ha : Wf w a) (hx : x < 2 ^ w) (hl : b.length = a.length) :
    zzIsSumWEq_safe w b a x = zzIsSumWEq_fast w b a x := by
  rw [zzIsSumWEq_safe_spec w b a x hb ha hx hl, zzIsSumWEq_fast_spec w b a x hb ha hx hl]

example : zzIsSumWEq_safe 64 [4, 0, 6] [2 ^ 64 - 1, 2 ^ 64 - 1, 5] 5 = true
    ∧ zzIsSumWEq_fast 64 [4, 0, 6] [2 ^ 64 - 1, 2 ^ 64 - 1, 5] 5 = true
    ∧ zzIsSumWEq_safe 64 [4, 0] [2 ^ 64 - 1, 2 ^ 64 - 1] 5 = false
    ∧ zzIsSumWEq_fast 64 [4, 1] [2 ^ 64 - 1, 2 ^ 64 - 1] 5 = false := by decide

/-! ## 4. zz_etc.c : masked addition / subtraction (regularisation primitives) -/

/-- zzAddAndW(b, a, n, m): `b <- (b + (a & m)) mod B^n` for any mask word `m`
    (`a & m` word by word; the carry is dropped by the C code). -/
theorem zzAddAndW_spec (w : Nat) (b a : List Nat) (m : Nat)
    (hb : Wf w b) (ha : Wf w a) (hl : b.length = a.length) :
    val w (zzAddAndW w b a m) = (val w b + val w (a.map (m &&& ·))) % 2 ^ (w * b.length)
    ∧ Wf w (zzAddAndW w b a m) ∧ (zzAddAndW w b a m).length = b.length := by
  unfold zzAddAndW
  rw [zzAddAndWLoop_eq]
  have h : RepC w b.length (Alias.pure2 (Alias.add2Step w) 0 b (a.map (m &&& ·)))
      (val w b + val w (a.map (m &&& ·))) := by
    simpa [RepC] using ripple_carry (add2Step_ok w) 0 b (a.map (m &&& ·)) hb (Wf_map_and ha m)
      (by simpa using hl) (Nat.zero_le 1)
  exact ⟨h.divmod.1, h.2.2⟩

/-- zzAddAndW with the masks the library uses: 0 keeps `b`, `WORD_MAX` adds `a`. -/
theorem zzAddAndW_mask (w : Nat) (b a : List Nat) (m : Nat) (hm : m = 0 ∨ m = 2 ^ w - 1)
    (hb : Wf w b) (ha : Wf w a) (hl : b.length = a.length) :
    val w (zzAddAndW w b a m) = (val w b + (if m = 0 then 0 else val w a)) % 2 ^ (w * b.length)
    ∧ Wf w (zzAddAndW w b a m) ∧ (zzAddAndW w b a m).length = b.length := by
  rw [← val_map_and w a ha m hm]
  exact zzAddAndW_spec w b a m hb ha hl

example : zzAddAndW 64 [2 ^ 64 - 1, 2 ^ 64 - 1, 7] [1, 0, 2] (2 ^ 64 - 1) = [0, 0, 10]
    ∧ zzAddAndW 64 [2 ^ 64 - 1, 2 ^ 64 - 1, 7] [1, 0, 2] 0 = [2 ^ 64 - 1, 2 ^ 64 - 1, 7] := by decide

/-- zzSubAndW(b, a, n, m): `b <- b - (a & m) + borrow B^n`, borrow = [b < a & m]. -/
theorem zzSubAndW_spec (w : Nat) (b a : List Nat) (m : Nat)
    (hb : Wf w b) (ha : Wf w a) (hl : b.length = a.length) :
    val w (zzSubAndW w b a m).1 + val w (a.map (m &&& ·))
      = val w b + 2 ^ (w * b.length) * (zzSubAndW w b a m).2
    ∧ (zzSubAndW w b a m).2 = (if val w b < val w (a.map (m &&& ·)) then 1 else 0)
    ∧ Wf w (zzSubAndW w b a m).1 ∧ (zzSubAndW w b a m).1.length = b.length := by
  unfold zzSubAndW
  rw [zzSubAndWLoop_eq]
  have h : RepB w b.length (Alias.pure2 (Alias.sub2Step w) 0 b (a.map (m &&& ·))) (val w b)
      (val w (a.map (m &&& ·))) := by
    simpa [RepB] using ripple_borrow (sub2Step_ok w) 0 b (a.map (m &&& ·)) hb (Wf_map_and ha m)
      (by simpa using hl) (Nat.zero_le 1)
  exact ⟨h.1, h.borrow (val_lt hb), h.2.2⟩

/-- zzSubAndW with the masks the library uses: 0 keeps `b`, `WORD_MAX` subtracts `a`. -/
theorem zzSubAndW_mask (w : Nat) (b a : List Nat) (m : Nat) (hm : m = 0 ∨ m = 2 ^ w - 1)
    (hb : Wf w b) (ha : Wf w a) (hl : b.length = a.length) :
    val w (zzSubAndW w b a m).1 + (if m = 0 then 0 else val w a)
      = val w b + 2 ^ (w * b.length) * (zzSubAndW w b a m).2
    ∧ (zzSubAndW w b a m).2 = (if val w b < (if m = 0 then 0 else val w a) then 1 else 0)
    ∧ Wf w (zzSubAndW w b a m).1 ∧ (zzSubAndW w b a m).1.length = b.length := by
  rw [← val_map_and w a ha m hm]
  exact zzSubAndW_spec w b a m hb ha hl

example : zzSubAndW 64 [0, 0, 7] [1, 0, 2] (2 ^ 64 - 1) = ([2 ^ 64 - 1, 2 ^ 64 - 1, 4], 0)
    ∧ zzSubAndW 64 [0, 0, 1] [1, 0, 2] (2 ^ 64 - 1) = ([2 ^ 64 - 1, 2 ^ 64 - 1, 2 ^ 64 - 2], 1)
    ∧ zzSubAndW 64 [0, 0, 7] [1, 0, 2] 0 = ([0, 0, 7], 0) := by decide

/-! ## 5. zz_mod.c : additive modular operations, SAFE and FAST editions

Preconditions are exactly those of zz.h: operands reduced (`a < mod`, …), equal lengths.
`0 < w` and `n > 0` are not assumed: they follow from `val a < val mod`.
`mod[n-1] ≠ 0` (stated in zz.h for zzSubMod and zzNegMod) is NOT needed by any theorem of
this section; zzHalfMod's need `mod` odd. -/

/-- FAST(zzAddMod): `c = (a + b) mod mod`. -/
theorem zzAddMod_fast_spec (w : Nat) (a b mod : List Nat)
    (ha : Wf w a) (hb : Wf w b) (hm : Wf w mod)
    (hl1 : a.length = b.length) (hl2 : a.length = mod.length)
    (hA : val w a < val w mod) (hB : val w b < val w mod) :
    val w (zzAddMod_fast w a b mod) = (val w a + val w b) % val w mod
    ∧ val w (zzAddMod_fast w a b mod) < val w mod
    ∧ Wf w (zzAddMod_fast w a b mod) ∧ (zzAddMod_fast w a b mod).length = a.length :=
  (zzAdd_repC w a b ha hb hl1).redFast hm hl2 (by omega)

/-- SAFE(zzAddMod): `c = (a + b) mod mod`. -/
theorem zzAddMod_safe_spec (w : Nat) (a b mod : List Nat)
    (ha : Wf w a) (hb : Wf w b) (hm : Wf w mod)
    (hl1 : a.length = b.length) (hl2 : a.length = mod.length)
    (hA : val w a < val w mod) (hB : val w b < val w mod) :
    val w (zzAddMod_safe w a b mod) = (val w a + val w b) % val w mod
    ∧ val w (zzAddMod_safe w a b mod) < val w mod
    ∧ Wf w (zzAddMod_safe w a b mod) ∧ (zzAddMod_safe w a b mod).length = a.length := by
  rw [zzAddMod_safe_eq_fast_wf w (pos_w_of_val_pos hm (by omega)) a b mod ha hb hm hl1 hl2]
  exact (zzAdd_repC w a b ha hb hl1).redFast hm hl2 (by omega)

/-- the two editions of zzAddMod return the same words. -/
theorem zzAddMod_safe_eq_fast (w : Nat) (a b mod : List Nat)
    (ha : Wf w a) (hb : Wf w b) (hm : Wf w mod)
    (hl1 : a.length = b.length) (hl2 : a.length = mod.length)
    (hA : val w a < val w mod) (hB : val w b < val w mod) :
    zzAddMod_safe w a b mod = zzAddMod_fast w a b mod :=
  zzAddMod_safe_eq_fast_wf w (pos_w_of_val_pos hm (by omega)) a b mod ha hb hm hl1 hl2

example : zzAddMod_safe 64 [2 ^ 64 - 3, 5] [7, 4] [2 ^ 64 - 1, 6] = [5, 3]
    ∧ zzAddMod_fast 64 [2 ^ 64 - 3, 5] [7, 4] [2 ^ 64 - 1, 6] = [5, 3]
    ∧ zzAddMod_safe 64 [2 ^ 64 - 3, 2 ^ 64 - 1] [2 ^ 64 - 2, 2 ^ 64 - 1] [2 ^ 64 - 1, 2 ^ 64 - 1]
        = [2 ^ 64 - 4, 2 ^ 64 - 1] := by decide

/-- FAST(zzAddWMod): `b = (a + x) mod mod` for a word `x < mod`. -/
theorem zzAddWMod_fast_spec (w : Nat) (a : List Nat) (x : Nat) (mod : List Nat)
    (ha : Wf w a) (hx : x < 2 ^ w) (hm : Wf w mod) (hl : a.length = mod.length)
    (hA : val w a < val w mod) (hX : x < val w mod) :
    val w (zzAddWMod_fast w a x mod) = (val w a + x) % val w mod
    ∧ val w (zzAddWMod_fast w a x mod) < val w mod
    ∧ Wf w (zzAddWMod_fast w a x mod) ∧ (zzAddWMod_fast w a x mod).length = a.length := by
  simp only [zzAddWMod_fast, wwCmp_safe_eq_fast]
  exact (zzAddW_repC w a x ha hx (ne_nil_of_lt hl hA)).redFast hm hl (by omega)

/-- SAFE(zzAddWMod). -/
theorem zzAddWMod_safe_spec (w : Nat) (a : List Nat) (x : Nat) (mod : List Nat)
    (ha : Wf w a) (hx : x < 2 ^ w) (hm : Wf w mod) (hl : a.length = mod.length)
    (hA : val w a < val w mod) (hX : x < val w mod) :
    val w (zzAddWMod_safe w a x mod) = (val w a + x) % val w mod
    ∧ val w (zzAddWMod_safe w a x mod) < val w mod
    ∧ Wf w (zzAddWMod_safe w a x mod) ∧ (zzAddWMod_safe w a x mod).length = a.length := by
  rw [zzAddWMod_safe_eq_fast_wf w (pos_w_of_val_pos hm (by omega)) a x mod ha hx hm hl
    (ne_nil_of_lt hl hA)]
  exact zzAddWMod_fast_spec w a x mod ha hx hm hl hA hX

theorem zzAddWMod_safe_eq_fast (w : Nat) (a : List Nat) (x : Nat) (mod : List Nat)
    (ha : Wf w a) (hx : x < 2 ^ w) (hm : Wf w mod) (hl : a.length = mod.length)
    (hA : val w a < val w mod) (hX : x < val w mod) :
    zzAddWMod_safe w a x mod = zzAddWMod_fast w a x mod :=
  zzAddWMod_safe_eq_fast_wf w (pos_w_of_val_pos hm (by omega)) a x mod ha hx hm hl (ne_nil_of_lt hl hA)

example : zzAddWMod_safe 64 [2 ^ 64 - 3, 5] 9 [2 ^ 64 - 1, 5] = [7, 0]
    ∧ zzAddWMod_fast 64 [2 ^ 64 - 3, 5] 9 [2 ^ 64 - 1, 5] = [7, 0]
    ∧ zzAddWMod_safe 64 [2 ^ 64 - 3, 2 ^ 64 - 1] 9 [2 ^ 64 - 1, 2 ^ 64 - 1] = [7, 0] := by decide

/-- FAST(zzSubMod): `c = (a - b) mod mod`. -/
theorem zzSubMod_fast_spec (w : Nat) (a b mod : List Nat)
    (ha : Wf w a) (hb : Wf w b) (hm : Wf w mod)
    (hl1 : a.length = b.length) (hl2 : a.length = mod.length)
    (hA : val w a < val w mod) (hB : val w b < val w mod) :
    val w (zzSubMod_fast w a b mod) = (val w a + val w mod - val w b) % val w mod
    ∧ val w (zzSubMod_fast w a b mod) < val w mod
    ∧ Wf w (zzSubMod_fast w a b mod) ∧ (zzSubMod_fast w a b mod).length = a.length :=
  (zzSub_repB w a b ha hb hl1).incFast hm hl2 hA hB

/-- SAFE(zzSubMod). -/
theorem zzSubMod_safe_spec (w : Nat) (a b mod : List Nat)
    (ha : Wf w a) (hb : Wf w b) (hm : Wf w mod)
    (hl1 : a.length = b.length) (hl2 : a.length = mod.length)
    (hA : val w a < val w mod) (hB : val w b < val w mod) :
    val w (zzSubMod_safe w a b mod) = (val w a + val w mod - val w b) % val w mod
    ∧ val w (zzSubMod_safe w a b mod) < val w mod
    ∧ Wf w (zzSubMod_safe w a b mod) ∧ (zzSubMod_safe w a b mod).length = a.length := by
  rw [zzSubMod_safe_eq_fast_wf w (pos_w_of_val_pos hm (by omega)) a b mod ha hb hm hl1 hl2]
  exact (zzSub_repB w a b ha hb hl1).incFast hm hl2 hA hB

theorem zzSubMod_safe_eq_fast (w : Nat) (a b mod : List Nat)
    (ha : Wf w a) (hb : Wf w b) (hm : Wf w mod)
    (hl1 : a.length = b.length) (hl2 : a.length = mod.length)
    (hA : val w a < val w mod) (hB : val w b < val w mod) :
    zzSubMod_safe w a b mod = zzSubMod_fast w a b mod :=
  zzSubMod_safe_eq_fast_wf w (pos_w_of_val_pos hm (by omega)) a b mod ha hb hm hl1 hl2

example : zzSubMod_safe 64 [3, 4] [7, 4] [2 ^ 64 - 1, 6] = [2 ^ 64 - 5, 6]
    ∧ zzSubMod_fast 64 [3, 4] [7, 4] [2 ^ 64 - 1, 6] = [2 ^ 64 - 5, 6]
    ∧ zzSubMod_safe 64 [3, 0, 1] [7, 0, 0] [5, 0, 1] = [2 ^ 64 - 4, 2 ^ 64 - 1, 0] := by decide

/-- FAST(zzSubWMod): `b = (a - x) mod mod` for a word `x < mod`. -/
theorem zzSubWMod_fast_spec (w : Nat) (a : List Nat) (x : Nat) (mod : List Nat)
    (ha : Wf w a) (hx : x < 2 ^ w) (hm : Wf w mod) (hl : a.length = mod.length)
    (hA : val w a < val w mod) (hX : x < val w mod) :
    val w (zzSubWMod_fast w a x mod) = (val w a + val w mod - x) % val w mod
    ∧ val w (zzSubWMod_fast w a x mod) < val w mod
    ∧ Wf w (zzSubWMod_fast w a x mod) ∧ (zzSubWMod_fast w a x mod).length = a.length :=
  (zzSubW_repB w a x ha hx (ne_nil_of_lt hl hA)).incFast hm hl hA hX

/-- SAFE(zzSubWMod). -/
theorem zzSubWMod_safe_spec (w : Nat) (a : List Nat) (x : Nat) (mod : List Nat)
    (ha : Wf w a) (hx : x < 2 ^ w) (hm : Wf w mod) (hl : a.length = mod.length)
    (hA : val w a < val w mod) (hX : x < val w mod) :
    val w (zzSubWMod_safe w a x mod) = (val w a + val w mod - x) % val w mod
    ∧ val w (zzSubWMod_safe w a x mod) < val w mod
    ∧ Wf w (zzSubWMod_safe w a x mod) ∧ (zzSubWMod_safe w a x mod).length = a.length := by
  rw [zzSubWMod_safe_eq_fast_wf w (pos_w_of_val_pos hm (by omega)) a x mod ha hx hm hl
    (ne_nil_of_lt hl hA)]
  exact (zzSubW_repB w a x ha hx (ne_nil_of_lt hl hA)).incFast hm hl hA hX

theorem zzSubWMod_safe_eq_fast (w : Nat) (a : List Nat) (x : Nat) (mod : List Nat)
    (ha : Wf w a) (hx : x < 2 ^ w) (hm : Wf w mod) (hl : a.length = mod.length)
    (hA : val w a < val w mod) (hX : x < val w mod) :
    zzSubWMod_safe w a x mod = zzSubWMod_fast w a x mod :=
  zzSubWMod_safe_eq_fast_wf w (pos_w_of_val_pos hm (by omega)) a x mod ha hx hm hl (ne_nil_of_lt hl hA)

example : zzSubWMod_safe 64 [3, 0] 9 [2 ^ 64 - 1, 5] = [2 ^ 64 - 7, 5]
    ∧ zzSubWMod_fast 64 [3, 0] 9 [2 ^ 64 - 1, 5] = [2 ^ 64 - 7, 5]
    ∧ zzSubWMod_safe 64 [3, 1] 9 [2 ^ 64 - 1, 5] = [2 ^ 64 - 6, 0] := by decide

/-- FAST(zzNegMod): `b = (-a) mod mod`, i.e. `mod - a` for `a ≠ 0` and 0 for `a = 0`. -/
theorem zzNegMod_fast_spec (w : Nat) (a mod : List Nat)
    (ha : Wf w a) (hm : Wf w mod) (hl : a.length = mod.length) (hA : val w a < val w mod) :
    val w (zzNegMod_fast w a mod) = (val w mod - val w a) % val w mod
    ∧ val w (zzNegMod_fast w a mod) < val w mod
    ∧ Wf w (zzNegMod_fast w a mod) ∧ (zzNegMod_fast w a mod).length = a.length := by
  obtain ⟨h1, h2, h3, h4⟩ := zzSub_spec w mod a hm ha hl.symm
  rw [if_neg (by omega)] at h2
  rw [h2] at h1
  unfold zzNegMod_fast
  rw [wwIsZero_safe_spec w a]
  by_cases hz : val w a = 0
  · simp only [hz, decide_true, Bool.not_true, Bool.false_eq_true, if_false, Nat.sub_zero,
      Nat.mod_self, val_map_zero, List.length_map, and_true, true_and]
    refine ⟨by omega, ?_⟩
    intro x hx
    obtain ⟨_, _, rfl⟩ := List.mem_map.mp hx
    exact Nat.two_pow_pos w
  · simp only [hz, decide_false, Bool.not_false, if_true]
    rw [Nat.mod_eq_of_lt (by omega)]
    exact ⟨by omega, by omega, h3, h4.trans hl.symm⟩

/-- SAFE(zzNegMod). -/
theorem zzNegMod_safe_spec (w : Nat) (a mod : List Nat)
    (ha : Wf w a) (hm : Wf w mod) (hl : a.length = mod.length) (hA : val w a < val w mod) :
    val w (zzNegMod_safe w a mod) = (val w mod - val w a) % val w mod
    ∧ val w (zzNegMod_safe w a mod) < val w mod
    ∧ Wf w (zzNegMod_safe w a mod) ∧ (zzNegMod_safe w a mod).length = a.length := by
  have hw : 0 < w := pos_w_of_val_pos hm (by omega)
  obtain ⟨h1, h2, h3, h4⟩ := zzSub_spec w mod a hm ha hl.symm
  rw [if_neg (by omega)] at h2
  rw [h2, Nat.mul_zero, Nat.add_zero] at h1
  unfold zzNegMod_safe
  simp only []
  rw [zzSubAndW_flag w hw _ mod _ (by split <;> omega) h3 hm h4, wwEq_safe_spec w _ mod h3 hm h4]
  by_cases hz : val w a = 0
  · -- `mod - 0 = mod`: the flag is set and `mod` is subtracted once more
    obtain ⟨s1, s2, s3, s4⟩ := zzSub2_repB w _ mod h3 hm h4
    have hs := val_lt s3
    rw [s4] at hs
    have hb : val w (zzSub w mod a).1 = val w mod := by omega
    have h0 : (zzSub2 w (zzSub w mod a).1 mod).2 = 0 := by
      by_contra h
      rw [show (zzSub2 w (zzSub w mod a).1 mod).2 = 1 by omega] at s1
      omega
    rw [h0] at s1
    simp only [hb, decide_true, if_true, Nat.one_ne_zero, if_false, hz, Nat.sub_zero, Nat.mod_self]
    exact ⟨by omega, by omega, s3, by rw [s4, h4, hl]⟩
  · have hb : val w (zzSub w mod a).1 ≠ val w mod := by omega
    simp only [hb, decide_false, Bool.false_eq_true, if_false, if_true]
    rw [Nat.mod_eq_of_lt (by omega)]
    exact ⟨by omega, by omega, h3, by rw [h4, hl]⟩

theorem zzNegMod_safe_eq_fast (w : Nat) (a mod : List Nat)
    (ha : Wf w a) (hm : Wf w mod) (hl : a.length = mod.length) (hA : val w a < val w mod) :
    zzNegMod_safe w a mod = zzNegMod_fast w a mod :=
  Residue.unique (zzNegMod_safe_spec w a mod ha hm hl hA) (zzNegMod_fast_spec w a mod ha hm hl hA)

example : zzNegMod_safe 64 [3, 0, 1] [1, 0, 2] = [2 ^ 64 - 2, 2 ^ 64 - 1, 0]
    ∧ zzNegMod_fast 64 [3, 0, 1] [1, 0, 2] = [2 ^ 64 - 2, 2 ^ 64 - 1, 0]
    ∧ zzNegMod_safe 64 [0, 0, 0] [1, 0, 2] = [0, 0, 0]
    ∧ zzNegMod_fast 64 [0, 0, 0] [1, 0, 2] = [0, 0, 0] := by decide

/-- FAST(zzDoubleMod): `b = 2a mod mod`. -/
theorem zzDoubleMod_fast_spec (w : Nat) (a mod : List Nat)
    (ha : Wf w a) (hm : Wf w mod) (hl : a.length = mod.length) (hA : val w a < val w mod) :
    val w (zzDoubleMod_fast w a mod) = (2 * val w a) % val w mod
    ∧ val w (zzDoubleMod_fast w a mod) < val w mod
    ∧ Wf w (zzDoubleMod_fast w a mod) ∧ (zzDoubleMod_fast w a mod).length = a.length := by
  have h : RepC w a.length (zzDoubleLoop w a 0) (2 * val w a) :=
    zzDoubleLoop_spec w (pos_w_of_val_pos hm (by omega)) a 0 ha (Nat.zero_le 1)
  simp only [zzDoubleMod_fast, wwCmp_safe_eq_fast]
  exact h.redFast hm hl (by omega)

/-- SAFE(zzDoubleMod). -/
theorem zzDoubleMod_safe_spec (w : Nat) (a mod : List Nat)
    (ha : Wf w a) (hm : Wf w mod) (hl : a.length = mod.length) (hA : val w a < val w mod) :
    val w (zzDoubleMod_safe w a mod) = (2 * val w a) % val w mod
    ∧ val w (zzDoubleMod_safe w a mod) < val w mod
    ∧ Wf w (zzDoubleMod_safe w a mod) ∧ (zzDoubleMod_safe w a mod).length = a.length := by
  rw [zzDoubleMod_safe_eq_fast_wf w (pos_w_of_val_pos hm (by omega)) a mod ha hm hl]
  exact zzDoubleMod_fast_spec w a mod ha hm hl hA

theorem zzDoubleMod_safe_eq_fast (w : Nat) (a mod : List Nat)
    (ha : Wf w a) (hm : Wf w mod) (hl : a.length = mod.length) (hA : val w a < val w mod) :
    zzDoubleMod_safe w a mod = zzDoubleMod_fast w a mod :=
  zzDoubleMod_safe_eq_fast_wf w (pos_w_of_val_pos hm (by omega)) a mod ha hm hl

example : zzDoubleMod_safe 64 [2 ^ 63 + 1, 2 ^ 63] [5, 2 ^ 64 - 1] = [2 ^ 64 - 3, 1]
    ∧ zzDoubleMod_fast 64 [2 ^ 63 + 1, 2 ^ 63] [5, 2 ^ 64 - 1] = [2 ^ 64 - 3, 1]
    ∧ zzDoubleMod_safe 64 [2 ^ 63 + 1, 3] [5, 2 ^ 64 - 1] = [2, 7] := by decide

/-- FAST(zzHalfMod): `b = a / 2 mod mod` for odd `mod`:
    `2 b = a` (a even) or `2 b = a + mod` (a odd), hence `2 b ≡ a (mod mod)` and `b < mod`.
    Not needed: `mod[n-1] ≠ 0`; `n > 0` follows from `a < mod`. -/
theorem zzHalfMod_fast_spec (w : Nat) (a mod : List Nat)
    (ha : Wf w a) (hm : Wf w mod) (hl : a.length = mod.length)
    (hodd : val w mod % 2 = 1) (hA : val w a < val w mod) :
    2 * val w (zzHalfMod_fast w a mod) = (if val w a % 2 = 1 then val w a + val w mod else val w a)
    ∧ (2 * val w (zzHalfMod_fast w a mod)) % val w mod = val w a
    ∧ val w (zzHalfMod_fast w a mod) < val w mod
    ∧ Wf w (zzHalfMod_fast w a mod) ∧ (zzHalfMod_fast w a mod).length = a.length := by
  have hw : 0 < w := pos_w_of_val_pos hm (by omega)
  obtain ⟨k, rfl⟩ : ∃ k, w = k + 1 := ⟨w - 1, by omega⟩
  have hne := ne_nil_of_lt hl hA
  have hn : 0 < a.length := List.length_pos_iff.mpr hne
  unfold zzHalfMod_fast
  by_cases hoa : val (k + 1) a % 2 = 1
  · rw [if_pos ((zzIsOdd_iff k a).mpr hoa), if_pos hoa]
    obtain ⟨h1, h2, h3, h4⟩ := zzAdd_spec (k + 1) a mod ha hm hl
    have hne' : (zzAdd (k + 1) a mod).1 ≠ [] := by
      intro h; rw [h] at h4; simp at h4; omega
    obtain ⟨g1, g2, g3⟩ := halfShift_spec k (zzAdd (k + 1) a mod).1 (zzAdd (k + 1) a mod).2 h3 h2 hne'
    rw [h4] at g1 g3
    obtain ⟨q, hq⟩ := pow_even k a.length hn (zzAdd (k + 1) a mod).2
    simp only []
    have e : 2 * val (k + 1) (zzHalfLoop (k + 1) (zzAdd (k + 1) a mod).1.reverse (zzAdd (k + 1) a mod).2).reverse
        = val (k + 1) a + val (k + 1) mod := by omega
    refine ⟨e, ?_, by omega, g2, g3⟩
    rw [e, Nat.add_mod_right, Nat.mod_eq_of_lt hA]
  · have hz : zzIsOdd a = false := by
      rw [← Bool.not_eq_true, zzIsOdd_iff k a]; exact hoa
    rw [hz, if_neg hoa]
    obtain ⟨g1, g2, g3⟩ := halfShift_spec k a 0 ha (by omega) hne
    simp only [Bool.false_eq_true, if_false]
    have e : 2 * val (k + 1) (zzHalfLoop (k + 1) a.reverse 0).reverse = val (k + 1) a := by omega
    refine ⟨e, ?_, by omega, g2, g3⟩
    rw [e, Nat.mod_eq_of_lt hA]

/-- SAFE(zzHalfMod) -/
theorem zzHalfMod_safe_spec (w : Nat) (a mod : List Nat)
    (ha : Wf w a) (hm : Wf w mod) (hl : a.length = mod.length)
    (hodd : val w mod % 2 = 1) (hA : val w a < val w mod) :
    2 * val w (zzHalfMod_safe w a mod) = (if val w a % 2 = 1 then val w a + val w mod else val w a)
    ∧ (2 * val w (zzHalfMod_safe w a mod)) % val w mod = val w a
    ∧ val w (zzHalfMod_safe w a mod) < val w mod
    ∧ Wf w (zzHalfMod_safe w a mod) ∧ (zzHalfMod_safe w a mod).length = a.length := by
  have hw : 0 < w := pos_w_of_val_pos hm (by omega)
  obtain ⟨k, rfl⟩ : ∃ k, w = k + 1 := ⟨w - 1, by omega⟩
  cases a with
  | nil =>
    exfalso
    exact ne_nil_of_val_pos (w := k + 1) (m := mod) (by omega) (List.length_eq_zero_iff.mp hl.symm)
  | cons a0 as =>
    cases mod with
    | nil => simp at hl
    | cons m0 ms =>
      have hl' : as.length = ms.length := by simpa using hl
      -- the adder: `L` holds `a`, or `a + mod` for odd `a`
      have hE := zzHalfMod_safe_eq (k + 1) a0 as m0 ms (Wf_cons.mp ha).1 hl' _ rfl
      have hmask := wneg01 (w := k + 1) (by omega) (by omega : a0 % 2 ≤ 1)
      have h2w := two_le_two_pow (w := k + 1) (by omega)
      generalize wneg (k + 1) (a0 % 2) = mask at *
      have hL : RepC (k + 1) (as.length + 1)
          (Alias.pure2 (add3Step (k + 1)) 0 (a0 :: as) ((m0 :: ms).map (mask &&& ·)))
          (val (k + 1) (a0 :: as) + if mask = 0 then 0 else val (k + 1) (m0 :: ms)) := by
        have h := ripple_carry (add3Step_ok (k + 1)) 0 (a0 :: as) ((m0 :: ms).map (mask &&& ·)) ha
          (Wf_map_and hm _) (by simpa using hl) (Nat.zero_le 1)
        rw [val_map_and (k + 1) (m0 :: ms) hm _ (by rw [hmask]; split_ifs <;> simp)] at h
        simpa [RepC] using h
      have hmz : mask = 0 ↔ a0 % 2 = 0 := by rw [hmask]; split_ifs <;> omega
      have hR := shrLE_half hL
      rw [← hE] at hR
      obtain ⟨g2, g3, g1⟩ := hR
      have e := half_sum (hmz.trans (by rw [val_mod_two k a0 as])) hodd
      rw [← g1] at e
      exact ⟨e, (half_arith hodd hA e).1, (half_arith hodd hA e).2, g2, g3⟩

/-- the two editions of zzHalfMod return the same words. -/
theorem zzHalfMod_safe_eq_fast (w : Nat) (a mod : List Nat)
    (ha : Wf w a) (hm : Wf w mod) (hl : a.length = mod.length)
    (hodd : val w mod % 2 = 1) (hA : val w a < val w mod) :
    zzHalfMod_safe w a mod = zzHalfMod_fast w a mod := by
  obtain ⟨s1, _, _, s3, s4⟩ := zzHalfMod_safe_spec w a mod ha hm hl hodd hA
  obtain ⟨f1, _, _, f3, f4⟩ := zzHalfMod_fast_spec w a mod ha hm hl hodd hA
  exact val_inj s3 f3 (s4.trans f4.symm) (by omega)

example : zzHalfMod_safe 64 [3, 2 ^ 64 - 1, 5] [2 ^ 64 - 1, 2, 2 ^ 64 - 1] = [1, 2 ^ 63 + 1, 2 ^ 63 + 2]
    ∧ zzHalfMod_fast 64 [3, 2 ^ 64 - 1, 5] [2 ^ 64 - 1, 2, 2 ^ 64 - 1] = [1, 2 ^ 63 + 1, 2 ^ 63 + 2]
    ∧ zzHalfMod_safe 64 [4, 3, 5] [2 ^ 64 - 1, 2, 2 ^ 64 - 1] = [2 ^ 63 + 2, 2 ^ 63 + 1, 2]
    ∧ zzHalfMod_fast 64 [4, 3, 5] [2 ^ 64 - 1, 2, 2 ^ 64 - 1] = [2 ^ 63 + 2, 2 ^ 63 + 1, 2] := by decide

/-! ## 6. the comparison mask of the SAFE loops (loop invariant)

`maskStep` is folded over the (mod, result) words from low to high; after any number of
steps `mask' = if m < c then 1 else if m = c then mask else 0` for the processed prefixes
(`maskFold_spec` in LemmasAdd.lean, by induction).  Started with `mask = 1` this is the
comparison `mod ≤ c`; the word results and the carry of the first pass are those of the
plain adders. -/

/-- first pass of SAFE(zzAddMod): words and carry of zzAdd, mask = [mod ≤ words]. -/
theorem zzAddMod_safeLoop_spec (w : Nat) (a b mod : List Nat)
    (ha : Wf w a) (hb : Wf w b) (hm : Wf w mod)
    (hl1 : a.length = b.length) (hl2 : a.length = mod.length) :
    (zzAddMod_safeLoop w a b mod 0 1).1 = (zzAdd w a b).1
    ∧ (zzAddMod_safeLoop w a b mod 0 1).2.1 = (zzAdd w a b).2
    ∧ (zzAddMod_safeLoop w a b mod 0 1).2.2
        = (if val w mod ≤ val w (zzAdd w a b).1 then 1 else 0) := by
  obtain ⟨_, _, h3, h4⟩ := zzAdd_spec w a b ha hb hl1
  rw [zzAddMod_safeLoop_eq w a b mod 0 1 hl1 hl2]
  exact ⟨rfl, rfl, maskFold_one w mod _ hm h3 (hl2.symm.trans h4.symm)⟩

/-- first pass of SAFE(zzAddWMod). -/
theorem zzAddWMod_safeLoop_spec (w : Nat) (a mod : List Nat) (x : Nat)
    (ha : Wf w a) (hx : x < 2 ^ w) (hm : Wf w mod) (hl : a.length = mod.length) :
    (zzAddWMod_safeLoop w a mod x 1).1 = (zzAddW w a x).1
    ∧ (zzAddWMod_safeLoop w a mod x 1).2.1 = (zzAddW w a x).2
    ∧ (zzAddWMod_safeLoop w a mod x 1).2.2
        = (if val w mod ≤ val w (zzAddW w a x).1 then 1 else 0) := by
  obtain ⟨_, _, _, h3, h4⟩ := zzAddW_spec w a x ha hx
  rw [zzAddWMod_safeLoop_eq w a mod x 1 hl]
  exact ⟨rfl, rfl, maskFold_one w mod _ hm h3 (hl.symm.trans h4.symm)⟩

/-- first pass of SAFE(zzDoubleMod): `b + B^n carry = 2a`, mask = [mod ≤ b]. -/
theorem zzDoubleMod_safeLoop_spec (w : Nat) (hw : 0 < w) (a mod : List Nat)
    (ha : Wf w a) (hm : Wf w mod) (hl : a.length = mod.length) :
    val w (zzDoubleMod_safeLoop w a mod 0 1).1
        + 2 ^ (w * a.length) * (zzDoubleMod_safeLoop w a mod 0 1).2.1 = 2 * val w a
    ∧ (zzDoubleMod_safeLoop w a mod 0 1).2.1 ≤ 1
    ∧ (zzDoubleMod_safeLoop w a mod 0 1).2.2
        = (if val w mod ≤ val w (zzDoubleMod_safeLoop w a mod 0 1).1 then 1 else 0) := by
  obtain ⟨h1, h2, h3, h4⟩ := zzDoubleLoop_spec w hw a 0 ha (by omega)
  rw [zzDoubleMod_safeLoop_eq w a mod 0 1 hl]
  exact ⟨by simpa using h1, h2, maskFold_one w mod _ hm h3 (hl.symm.trans h4.symm)⟩

example : zzAddMod_safeLoop 64 [2 ^ 64 - 3, 5] [7, 4] [2 ^ 64 - 1, 6] 0 1 = ([4, 10], 0, 1)
    ∧ zzAddMod_safeLoop 64 [2 ^ 64 - 3, 5] [1, 1] [2 ^ 64 - 1, 6] 0 1 = ([2 ^ 64 - 2, 6], 0, 0)
    ∧ zzDoubleMod_safeLoop 64 [2 ^ 63 + 1, 3] [5, 2 ^ 64 - 1] 0 1 = ([2, 7], 0, 0) := by decide

/-- the loop invariant in its inductive form (any entry state `carry`, `mask` ∈ {0,1}):
    on exit `mask' = 1` iff `mod < c`, or `mod = c` and the entry mask was 1
    (little-endian comparison of the processed words). -/
theorem zzAddMod_safeLoop_invariant (w : Nat) (a b mod : List Nat) (carry mask : Nat)
    (ha : Wf w a) (hb : Wf w b) (hm : Wf w mod)
    (hl1 : a.length = b.length) (hl2 : a.length = mod.length)
    (hc : carry ≤ 1) (hk : mask ≤ 1) :
    (zzAddMod_safeLoop w a b mod carry mask).2.2
      = (if val w mod < val w (zzAddMod_safeLoop w a b mod carry mask).1 then 1
         else if val w mod = val w (zzAddMod_safeLoop w a b mod carry mask).1 then mask else 0) := by
  rw [zzAddMod_safeLoop_eq w a b mod carry mask hl1 hl2]
  obtain ⟨_, _, h3, h4⟩ := ripple_carry (addStep_ok w) carry a b ha hb hl1 hc
  rw [← Alias.zzAddLoop_eq] at h3 h4
  exact maskFold_spec w mod _ mask hk hm h3 (hl2.symm.trans h4.symm)

example : (zzAddMod_safeLoop 64 [5, 1] [1, 1] [6, 2] 0 0).2.2 = 0
    ∧ (zzAddMod_safeLoop 64 [5, 1] [1, 1] [6, 2] 0 1).2.2 = 1
    ∧ (zzAddMod_safeLoop 64 [5, 1] [2, 1] [6, 2] 0 0).2.2 = 1 := by decide

end Bee2V.C05
