/-
C05 — GF(2)[x]/(f) for an irreducible f (`NatIrred f`, ModelFld.lean) is a field: the Nat-coded
ring `Gf2.R f` of LemmasGf2.lean gets `Field`, `Fintype` (2^deg f elements), `CharP _ 2`
instances (LemmasFld.lean), the inverse being the C algorithm `ppInvModV` (pp_mod.c).
Consequently the hypotheses `FrobFix` / `NoZeroDiv` of PropsGf2.lean hold for every irreducible
f, and the theorems about gf2Tr / gf2QSolve become unconditional.
-/
import Bee2V.C05.LemmasFld
import Bee2V.C05.PropsGf2
namespace Bee2V.C05
open Bee2V.C05.Spec Bee2V.C05.Gf2 Bee2V.C05.Fld

/-! ## the field -/

/-- number of elements: 2^(deg f) -/
theorem gf2_card (f : Nat) [Fact (NatIrred f)] : Fintype.card (R f) = 2 ^ f.log2 := card_R

/-- the field inverse IS ppInvMod (odd f, i.e. f ≠ x), including 0 ↦ 0 -/
theorem gf2_inv_eq_ppInvMod (f : Nat) [Fact (NatIrred f)] (ho : f % 2 = 1) (a : R f) :
    (a⁻¹).1 = ppInvModV a.1 f ∧ (a ≠ 0 → a * a⁻¹ = 1) ∧ (0 : R f)⁻¹ = 0 :=
  ⟨val_inv_odd ho a, fun h => mul_inv_cancel₀ h, inv_zero⟩

/-- multiplication, addition of the field are gfMul (qrMul of gf2) and xor -/
theorem gf2_ops (f : Nat) [Fact (NatIrred f)] (a b : R f) :
    (a * b).1 = gfMul f a.1 b.1 ∧ (a + b).1 = a.1 ^^^ b.1 ∧ (a ^ 2).1 = gfSqr f a.1
      ∧ (1 : R f).1 = 1 ∧ (0 : R f).1 = 0 ∧ a + a = 0 :=
  ⟨rfl, rfl, val_sq a, val_one_eq, rfl, add_self a⟩

/-- characteristic 2 -/
theorem gf2_charP (f : Nat) [Fact (NatIrred f)] : CharP (R f) 2 := inferInstance

-- non-vacuity: x^3 + x + 1 and x^5 + x^2 + 1 are irreducible (`DecidablePred NatIrred` runs Ben-Or)
example : NatIrred 0b1011 := by decide +kernel
example : NatIrred 0b100101 := by decide +kernel
example : ¬ NatIrred 0b101 := fun h => by
  have := h.2 0b11 0b11 (by decide)
  revert this; decide

/-! ## Ben-Or decides irreducibility -/

/-- `Spec.pIsIrred` (Ben-Or: gcd(f, x^(2^i) + x) = 1 for i = 1 … deg f / 2) returns TRUE exactly
    for the irreducible polynomials of GF(2)[x].
    ⇐: in the field GF(2)[x]/(f) of 2^n elements Frobenius^i, i < n, cannot fix the class of x
    (it would fix every element, but the multiplicative group is cyclic of order 2^n − 1);
    ⇒: a reducible f has an irreducible factor g of degree d ≤ n/2, and x^(2^d) = x in the field
    GF(2)[x]/(g) (`FiniteField.pow_card`), so g divides gcd(f, x^(2^d) + x mod f). -/
theorem ppIsIrred_iff (a : Nat) : pIsIrred a = true ↔ NatIrred a := pIsIrred_iff' a

/-- the C function ppIsIrred (value-level model `ppIsIrredV`, proved equal to `Spec.pIsIrred` in
    PropsGf2.ppIsIrredV_spec) returns TRUE iff its argument is irreducible -/
theorem ppIsIrredV_iff (a : Nat) : ppIsIrredV a = true ↔ NatIrred a := by
  rw [ppIsIrredV_spec]; exact pIsIrred_iff' a

-- irreducibility of concrete polynomials is now a computation (DecidablePred NatIrred):
example : NatIrred 0b10000011 ∧ NatIrred (2 ^ 17 + 2 ^ 3 + 1) ∧ ¬ NatIrred (2 ^ 17 + 2 ^ 2 + 1)
    ∧ NatIrred 0b10 ∧ NatIrred 0b11 ∧ ¬ NatIrred 1 ∧ ¬ NatIrred 0 ∧ ¬ NatIrred 4681 := by
  decide +kernel

/-! ## bridge to Mathlib's polynomials -/

open Polynomial in
/-- `Fld.decode : Nat → (ZMod 2)[X]` (bit i ↦ coefficient of X^i) is a bijection that turns xor
    into `+` and `Spec.clmul` into `*` -/
theorem decode_ring_iso :
    Function.Bijective decode ∧ decode 0 = 0 ∧ decode 1 = 1 ∧ decode 2 = X
      ∧ (∀ a b, decode (a ^^^ b) = decode a + decode b)
      ∧ (∀ a b, decode (clmul a b) = decode a * decode b) :=
  ⟨⟨decode_injective, decode_surjective⟩, horner_decode.hom two_eq_zero_poly⟩

/-- `NatIrred f` is irreducibility of the polynomial over ZMod 2 in Mathlib's sense; together
    with `ppIsIrredV_iff`: the C function ppIsIrred decides `Irreducible (decode a)` -/
theorem natIrred_iff_irreducible (f : Nat) : NatIrred f ↔ Irreducible (decode f) :=
  natIrred_iff_irreducible' f

theorem ppIsIrredV_iff_irreducible (a : Nat) : ppIsIrredV a = true ↔ Irreducible (decode a) := by
  rw [ppIsIrredV_iff, natIrred_iff_irreducible]

example : Irreducible (decode 0b10000011) := (natIrred_iff_irreducible _).1 (by decide +kernel)

/-! ## FrobFix and NoZeroDiv are consequences of irreducibility -/

/-- x^(2^m) = x for all reduced x (Frobenius^m = id; `FiniteField.pow_card`) -/
theorem frobFix_irred (f m : Nat) (h : NatIrred f) (hm : f.log2 = m) : FrobFix f m :=
  frobFix_of_irred h hm

theorem noZeroDiv_irred (f m : Nat) (h : NatIrred f) (hm : f.log2 = m) : NoZeroDiv f m :=
  noZeroDiv_of_irred h hm

/-! ## gf2Tr, gf2QSolve for irreducible f, without further hypotheses -/

/-- gf2Tr in GF(2^m): the loop ends in 0 or 1 (the C ASSERT), TRUE iff the trace is 1, the value
    is Σ_{i<m} a^(2^i), it is additive and invariant under squaring -/
theorem gf2TrV_irred (f m a : Nat) (h : NatIrred f) (hm : f.log2 = m) (ha : a < 2 ^ m) :
    (gf2TrVal f m a = 0 ∨ gf2TrVal f m a = 1)
      ∧ (gf2TrV f m a = true ↔ gf2TrVal f m a = 1)
      ∧ gf2TrVal f m a = gf2TrSum f a m
      ∧ gf2TrVal f m (gfSqr f a) = gf2TrVal f m a
      ∧ ∀ b, b < 2 ^ m → gf2TrVal f m (a ^^^ b) = gf2TrVal f m a ^^^ gf2TrVal f m b := by
  have hF := frobFix_of_irred h hm
  have hZ := noZeroDiv_of_irred h hm
  have hm1 : 1 ≤ m := by rw [← hm]; exact h.1
  have hf0 := natIrred_ne_zero h
  have ha' : a < 2 ^ f.log2 := by rw [hm]; exact ha
  exact ⟨gf2TrVal_bit f a m hF hZ ha hm1, gf2TrV_iff f a m hF hZ ha hm1,
    gf2TrVal_sum f a m hf0 ha' hm1, gf2TrVal_sqr f a m hF ha hm1,
    fun b hb => gf2TrVal_add f a b m hf0 ha' (by rw [hm]; exact hb) hm1⟩

/-- gf2QSolve in GF(2^m), m odd, f ≠ x: sound (TRUE comes with a reduced root) and complete
    (FALSE only when x^2 + a x + b has no root) -/
theorem gf2QSolveV_irred (f m a b : Nat) (h : NatIrred f) (hm : f.log2 = m) (hodd : m % 2 = 1)
    (hf2 : f ≠ 2) (ha : a < 2 ^ m) (hb : b < 2 ^ m) :
    (∀ x, gf2QSolveV f m a b = some x → x < 2 ^ m ∧ gfSqr f x ^^^ gfMul f a x ^^^ b = 0)
      ∧ (gf2QSolveV f m a b = none →
          ∀ x, x < 2 ^ m → gfSqr f x ^^^ gfMul f a x ^^^ b ≠ 0) := by
  have hF := frobFix_of_irred h hm
  have hfo := odd_of_irred h hf2
  have hg : a ≠ 0 → pgcd (gfSqr f a) f = 1 := fun ha0 => sqr_coprime_of_irred h hm ha ha0
  exact ⟨fun x hx => gf2QSolveV_sound f m a b x hF hodd hfo ha hb hg hx,
    fun hn => (gf2QSolveV_none f m a b hF hodd hfo ha hb hg hn).2.2.2⟩

example : (gf2TrVal 0b100101 5 0b00111 = 1) ∧ gf2QSolveV 0b100101 5 0b00111 0b10001 = some 14 := by
  decide +kernel

end Bee2V.C05
