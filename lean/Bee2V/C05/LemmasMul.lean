/-
C05 — helper lemmas for the multiplicative part of the arithmetic layer (PropsMul.lean),
on top of the additive part (LemmasAdd.lean).

  §1 arithmetic of one double word
  §2 `val`, `Wf` facts
  §3 zzMulW / zzAddMulW / zzSubMulW loops
  §4 zzMul
  §5 zzSqr
  §6 zzDivW / zzModW
-/
import Bee2V.C05.ModelMul
import Bee2V.C05.LemmasAdd
import Mathlib.Tactic.LinearCombination
namespace Bee2V.C05.Mul
open Bee2V.C05 Bee2V.C05.Alias
open Bee2V.C05.Add (mod_wrap lor01
  wneg01)

/-! ## §1 one double word -/

theorem pow2w (w : Nat) : 2 ^ (2 * w) = 2 ^ w * 2 ^ w := by rw [Nat.two_mul, Nat.pow_add]

theorem powS (w n : Nat) : 2 ^ (w * (n + 1)) = 2 ^ w * 2 ^ (w * n) := by
  rw [Nat.mul_succ, Nat.pow_add, Nat.mul_comm]

/-- `(B-1)^2 + 2(B-1) = B^2 - 1`: product of two words plus two words fits a double word -/
theorem mul_add_lt {B x a c b : Nat} (hx : x < B) (ha : a < B) (hc : c < B) (hb : b < B) :
    x * a + c + b < B * B := by
  obtain ⟨k, rfl⟩ : ∃ k, B = k + 1 := ⟨B - 1, by omega⟩
  have h1 : x * a ≤ k * k := Nat.mul_le_mul (by omega) (by omega)
  have h2 : (k + 1) * (k + 1) = k * k + 2 * k + 1 := by ring
  omega

/-- splitting a double word `p < B^2` into `(word)p` and `(word)(p >> w)` -/
theorem split_dword {B p : Nat} (hB : 0 < B) (hp : p < B * B) :
    p % B + B * (p / B % B) = p ∧ p % B < B ∧ p / B % B < B ∧ p / B % B = p / B := by
  have h1 : p / B < B := Nat.div_lt_of_lt_mul hp
  rw [Nat.mod_eq_of_lt h1]
  exact ⟨Nat.mod_add_div p B, Nat.mod_lt _ hB, h1, rfl⟩

/-- one iteration of zzAddMulW (and of zzMulW with `b = 0`): the double word does not wrap -/
theorem addMulStep (w : Nat) {x a c b : Nat} (hx : x < 2 ^ w) (ha : a < 2 ^ w) (hc : c < 2 ^ w)
    (hb : b < 2 ^ w) :
    dlo w (dadd w (dadd w (dmul w x a) c) b) + 2 ^ w * dhi w (dadd w (dadd w (dmul w x a) c) b)
      = x * a + c + b
    ∧ dlo w (dadd w (dadd w (dmul w x a) c) b) < 2 ^ w
    ∧ dhi w (dadd w (dadd w (dmul w x a) c) b) < 2 ^ w := by
  have h0 := mul_add_lt hx ha hc hb
  obtain ⟨h1, h2, h3, _⟩ := split_dword (Nat.two_pow_pos w) h0
  simp only [dlo, dhi, dadd, dmul, pow2w]
  rw [Nat.mod_eq_of_lt (a := x * a) (by omega), Nat.mod_eq_of_lt (a := x * a + c) (by omega),
    Nat.mod_eq_of_lt h0]
  exact ⟨h1, h2, h3⟩

/-- the double word of one zzSubMulW iteration: `0 - x a + b - c` modulo `M = B^2` -/
theorem subMulProd {M q b c : Nat} (hq : q + c < M) (hb : b < M) :
    (((0 + (M - q % M)) % M + b) % M + (M - c % M)) % M
      = if q + c ≤ b then b - (q + c) else M + b - (q + c) := by
  rw [Nat.zero_add, Nat.mod_add_mod, Nat.add_assoc, Nat.mod_add_mod, ← Nat.add_assoc,
    Nat.mod_eq_of_lt (by omega : q < M), Nat.mod_eq_of_lt (by omega : c < M)]
  split
  · rw [show M - q + b + (M - c) = b - (q + c) + M + M by omega, Nat.add_mod_right,
      Nat.add_mod_right, Nat.mod_eq_of_lt (by omega)]
  · rw [show M - q + b + (M - c) = M + b - (q + c) + M by omega, Nat.add_mod_right,
      Nat.mod_eq_of_lt (by omega)]

/-- low/high word of the double word of one zzSubMulW iteration, `D = x a + borrow` -/
theorem subMulFin {B p D b : Nat} (hB : 0 < B) (hb : b < B) (hD : D + B ≤ B * B)
    (hp : p = if D ≤ b then b - D else B * B + b - D) :
    p % B + D = b + B * ((B - p / B % B % B) % B) ∧ p % B < B ∧ (B - p / B % B % B) % B < B := by
  have hlo : p % B < B := Nat.mod_lt _ hB
  refine ⟨?_, hlo, Nat.mod_lt _ hB⟩
  have hdm := Nat.mod_add_div p B
  by_cases h : D ≤ b
  · rw [if_pos h] at hp
    have hpB : p < B := by omega
    have h0 : p / B = 0 := Nat.div_eq_of_lt hpB
    rw [h0] at hdm ⊢
    simp only [Nat.zero_mod, Nat.sub_zero, Nat.mod_self, Nat.mul_zero] at hdm ⊢
    omega
  · rw [if_neg h] at hp
    have hpM : p < B * B := by omega
    have hhi : p / B < B := Nat.div_lt_of_lt_mul hpM
    have hpB : B ≤ p := by omega
    have h1 : 1 ≤ p / B := (Nat.le_div_iff_mul_le hB).mpr (by omega)
    rw [Nat.mod_eq_of_lt hhi, Nat.mod_eq_of_lt hhi, Nat.mod_eq_of_lt (by omega : B - p / B < B),
      Nat.mul_sub]
    generalize p / B = hi at *
    generalize p % B = lo at *
    have : B * hi ≤ B * B := Nat.mul_le_mul_left _ (by omega)
    omega

/-- one iteration of zzSubMulW -/
theorem subMulStep (w : Nat) {x a b c : Nat} (hx : x < 2 ^ w) (ha : a < 2 ^ w) (hb : b < 2 ^ w)
    (hc : c < 2 ^ w) :
    dlo w (dsub w (dadd w (dsub w 0 (dmul w x a)) b) c) + x * a + c
      = b + 2 ^ w * wneg w (dhi w (dsub w (dadd w (dsub w 0 (dmul w x a)) b) c))
    ∧ dlo w (dsub w (dadd w (dsub w 0 (dmul w x a)) b) c) < 2 ^ w
    ∧ wneg w (dhi w (dsub w (dadd w (dsub w 0 (dmul w x a)) b) c)) < 2 ^ w := by
  have hB := Nat.two_pow_pos w
  have h0 := mul_add_lt hx ha hc (by omega : 2 ^ w - 1 < 2 ^ w)
  have hbM : b < 2 ^ w * 2 ^ w := by
    have : 2 ^ w * 1 ≤ 2 ^ w * 2 ^ w := Nat.mul_le_mul_left _ hB
    omega
  simp only [dlo, dhi, dadd, dmul, dsub, wneg, pow2w]
  rw [Nat.mod_eq_of_lt (a := x * a) (by omega)]
  have := subMulFin (D := x * a + c) hB hb (by omega) (subMulProd (by omega) hbM)
  omega

/-! ## §2 `val`, `Wf` -/

/-- a word subtraction that does not borrow -/
theorem wsub_le {w x y : Nat} (hx : x < 2 ^ w) (hy : y ≤ x) : wsub w x y = x - y := by
  show (x + (2 ^ w - y % 2 ^ w)) % 2 ^ w = x - y
  rw [Nat.mod_eq_of_lt (show y < 2 ^ w by omega), show x + (2 ^ w - y) = (x - y) + 2 ^ w by omega,
    Nat.add_mod_right, Nat.mod_eq_of_lt (by omega)]

/-! ## §3 multiplication by a word -/

theorem addMulWStep_ok (w : Nat) {x : Nat} (hx : x < 2 ^ w) :
    CarryOK w (· < 2 ^ w) 1 x (addMulWStep w x) := by
  intro c b a hc hb ha
  obtain ⟨h1, h2, h3⟩ := addMulStep w hx ha hc hb
  exact ⟨by simp only [addMulWStep]; omega, h2, h3⟩

theorem subMulWStep_ok (w : Nat) {x : Nat} (hx : x < 2 ^ w) :
    BorrowOK w (· < 2 ^ w) 1 x (subMulWStep w x) := by
  intro c b a hc hb ha
  obtain ⟨h1, h2, h3⟩ := subMulStep w hx ha hb hc
  exact ⟨by simp only [subMulWStep]; omega, h2, h3⟩

theorem zzAddMulWLoop_spec (w : Nat) (b a : List Nat) (x carry : Nat)
    (hb : Wf w b) (ha : Wf w a) (hl : b.length = a.length) (hx : x < 2 ^ w)
    (hc : carry < 2 ^ w) :
    val w (zzAddMulWLoop w b a x carry).1 + 2 ^ (w * b.length) * (zzAddMulWLoop w b a x carry).2
      = val w b + val w a * x + carry
    ∧ (zzAddMulWLoop w b a x carry).2 < 2 ^ w ∧ Wf w (zzAddMulWLoop w b a x carry).1
    ∧ (zzAddMulWLoop w b a x carry).1.length = b.length := by
  rw [zzAddMulWLoop_eq]
  simpa [Nat.mul_comm x] using ripple_carry (addMulWStep_ok w hx) carry b a hb ha hl hc

theorem zzMulWLoop_eq (w : Nat) (a : List Nat) (x carry : Nat) :
    zzMulWLoop w a x carry = zzAddMulWLoop w (List.replicate a.length 0) a x carry := by
  induction a generalizing carry with
  | nil => simp [zzMulWLoop, zzAddMulWLoop]
  | cons a0 as ih =>
    simp only [zzMulWLoop, List.length_cons, List.replicate_succ, zzAddMulWLoop, ih, dadd,
      Nat.add_zero, Nat.mod_mod]

theorem zzMulWLoop_spec (w : Nat) (a : List Nat) (x carry : Nat)
    (ha : Wf w a) (hx : x < 2 ^ w) (hc : carry < 2 ^ w) :
    val w (zzMulWLoop w a x carry).1 + 2 ^ (w * a.length) * (zzMulWLoop w a x carry).2
      = val w a * x + carry
    ∧ (zzMulWLoop w a x carry).2 < 2 ^ w ∧ Wf w (zzMulWLoop w a x carry).1
    ∧ (zzMulWLoop w a x carry).1.length = a.length := by
  rw [zzMulWLoop_eq]
  have h := zzAddMulWLoop_spec w (List.replicate a.length 0) a x carry (Wf_replicate_zero w _) ha
    (by simp) hx hc
  simpa [val_replicate_zero] using h

theorem zzSubMulWLoop_spec (w : Nat) (b a : List Nat) (x borrow : Nat)
    (hb : Wf w b) (ha : Wf w a) (hl : b.length = a.length) (hx : x < 2 ^ w)
    (hc : borrow < 2 ^ w) :
    val w (zzSubMulWLoop w b a x borrow).1 + val w a * x + borrow
      = val w b + 2 ^ (w * b.length) * (zzSubMulWLoop w b a x borrow).2
    ∧ (zzSubMulWLoop w b a x borrow).2 < 2 ^ w ∧ Wf w (zzSubMulWLoop w b a x borrow).1
    ∧ (zzSubMulWLoop w b a x borrow).1.length = b.length := by
  rw [zzSubMulWLoop_eq]
  simpa [Nat.mul_comm x] using ripple_borrow (subMulWStep_ok w hx) borrow b a hb ha hl hc

theorem _root_.Bee2V.C05.Rep.addMulW {w n z y x c : Nat} {b a : List Nat} (hb : Rep w n b z)
    (ha : Rep w n a y) (hx : x < 2 ^ w) (hc : c < 2 ^ w) :
    ∃ s, Rep w n (zzAddMulWLoop w b a x c).1 s
      ∧ s + 2 ^ (w * n) * (zzAddMulWLoop w b a x c).2 = z + y * x + c
      ∧ (zzAddMulWLoop w b a x c).2 < 2 ^ w := by
  obtain ⟨s1, s2, s3, s4⟩ :=
    zzAddMulWLoop_spec w b a x c hb.wf ha.wf (hb.len.trans ha.len.symm) hx hc
  rw [hb.len, hb.eq, ha.eq] at s1
  exact ⟨_, ⟨s3, s4.trans hb.len, rfl⟩, s1, s2⟩

/-! ## §4 zzMul -/

theorem snoc_cons (r1 : List Nat) (c : Nat) :
    ∃ c0 lo', r1 ++ [c] = c0 :: lo' ∧ lo'.length = r1.length := by
  cases r1 with
  | nil => exact ⟨c, [], rfl, rfl⟩
  | cons r0 rt => exact ⟨r0, rt ++ [c], rfl, by simp⟩

/-- invariant of the outer loop of zzMul: window = `lo ++ 0…0` with `|lo| = m` -/
theorem zzMulLoop_spec (w : Nat) (b : List Nat) (hb : Wf w b) (a lo : List Nat)
    (ha : Wf w a) (hlo : Wf w lo) (hl : lo.length = b.length) :
    val w (zzMulLoop w b a (lo ++ List.replicate a.length 0)) = val w lo + val w a * val w b
    ∧ Wf w (zzMulLoop w b a (lo ++ List.replicate a.length 0))
    ∧ (zzMulLoop w b a (lo ++ List.replicate a.length 0)).length = a.length + b.length := by
  induction a generalizing lo with
  | nil => simp [zzMulLoop, val, hlo, hl]
  | cons ai as ih =>
    obtain ⟨hai, has⟩ := Wf_cons.mp ha
    have htake : (lo ++ List.replicate (as.length + 1) 0).take b.length = lo := by
      rw [← hl]; exact List.take_left' rfl
    have hdrop : (lo ++ List.replicate (as.length + 1) 0).drop (b.length + 1)
        = List.replicate as.length 0 := by
      rw [← hl, List.replicate_succ]; simp
    obtain ⟨s1, s2, s3, s4⟩ :=
      zzAddMulWLoop_spec w lo b ai 0 hlo hb hl hai (Nat.two_pow_pos w)
    obtain ⟨c0, lo', e, hl'⟩ := snoc_cons (zzAddMulWLoop w lo b ai 0).1 (zzAddMulWLoop w lo b ai 0).2
    have hW : Wf w (c0 :: lo') := by
      rw [← e]; exact Wf_append.mpr ⟨s3, Wf_single s2⟩
    obtain ⟨hc0, hlo'⟩ := Wf_cons.mp hW
    have hv : val w ((zzAddMulWLoop w lo b ai 0).1 ++ [(zzAddMulWLoop w lo b ai 0).2])
        = c0 + 2 ^ w * val w lo' := by rw [e, val_cons]
    rw [val_append, val_single, s4] at hv
    have hc' : (zzAddMulWLoop w lo b ai 0).1
        ++ (zzAddMulWLoop w lo b ai 0).2 :: List.replicate as.length 0
        = c0 :: (lo' ++ List.replicate as.length 0) := by
      rw [← List.cons_append, ← e, List.append_assoc]; rfl
    obtain ⟨i1, i2, i3⟩ := ih lo' has hlo' (by rw [hl', s4, hl])
    simp only [zzMulLoop, List.length_cons, htake, hdrop, hc']
    refine ⟨?_, Wf_cons.mpr ⟨hc0, i2⟩, by rw [i3]; omega⟩
    rw [val_cons, i1, val_cons]
    linear_combination hv.symm + s1

theorem zzMul_spec (w : Nat) (a b : List Nat) (ha : Wf w a) (hb : Wf w b) :
    val w (zzMul w a b) = val w a * val w b ∧ Wf w (zzMul w a b)
    ∧ (zzMul w a b).length = a.length + b.length := by
  have e : List.replicate (a.length + b.length) (0 : Nat)
      = List.replicate b.length 0 ++ List.replicate a.length 0 := by
    rw [List.replicate_append_replicate, Nat.add_comm]
  have h := zzMulLoop_spec w b hb a (List.replicate b.length 0) ha (Wf_replicate_zero w _)
    (by simp)
  unfold zzMul
  rw [e]
  simpa [val_replicate_zero] using h

theorem _root_.Bee2V.C05.Rep.mul {w n m x y : Nat} {a b : List Nat} (ha : Rep w n a x) (hb : Rep w m b y) :
    Rep w (n + m) (zzMul w a b) (x * y) := by
  obtain ⟨h1, h2, h3⟩ := zzMul_spec w a b ha.wf hb.wf
  exact ⟨h2, by rw [h3, ha.len, hb.len], by rw [h1, ha.eq, hb.eq]⟩

/-! ## §5 zzSqr -/

/-- `Σ_{i<j} a_i a_j B^{i+j}` -/
def sqS (w : Nat) : List Nat → Nat
  | [] => 0
  | a0 :: as => a0 * 2 ^ w * val w as + 2 ^ w * 2 ^ w * sqS w as

/-- `Σ_i a_i^2 B^{2i}` -/
def sqD (w : Nat) : List Nat → Nat
  | [] => 0
  | a0 :: as => a0 * a0 + 2 ^ w * 2 ^ w * sqD w as

theorem sq_split (w : Nat) (a : List Nat) : 2 * sqS w a + sqD w a = val w a * val w a := by
  induction a with
  | nil => rfl
  | cons a0 as ih =>
    simp only [sqS, sqD, val_cons]
    linear_combination 2 ^ w * 2 ^ w * ih

/-- pass 1 of zzSqr: window = `lo ++ 0…0`, `|lo| = |a|` -/
theorem zzSqrLoop1_spec (w : Nat) (a lo : List Nat) (ha : Wf w a) (hlo : Wf w lo)
    (hl : lo.length = a.length) :
    val w (zzSqrLoop1 w a (lo ++ List.replicate a.length 0)) = val w lo + sqS w a
    ∧ Wf w (zzSqrLoop1 w a (lo ++ List.replicate a.length 0))
    ∧ (zzSqrLoop1 w a (lo ++ List.replicate a.length 0)).length = a.length + a.length := by
  induction a generalizing lo with
  | nil =>
    cases lo with
    | nil => simp [zzSqrLoop1, val, sqS, Wf_nil]
    | cons _ _ => simp at hl
  | cons ai as ih =>
    cases lo with
    | nil => simp at hl
    | cons l0 lt =>
      have hlt : lt.length = as.length := by simpa using hl
      obtain ⟨hai, has⟩ := Wf_cons.mp ha
      obtain ⟨hl0, hWlt⟩ := Wf_cons.mp hlo
      have htake1 : ((l0 :: lt) ++ List.replicate (as.length + 1) 0).take 1 = [l0] := rfl
      have hmid : (((l0 :: lt) ++ List.replicate (as.length + 1) 0).drop 1).take as.length = lt := by
        rw [← hlt]; simp
      have hdrop : ((l0 :: lt) ++ List.replicate (as.length + 1) 0).drop (as.length + 2)
          = List.replicate as.length 0 := by
        rw [← hlt, List.replicate_succ]; simp
      obtain ⟨s1, s2, s3, s4⟩ :=
        zzAddMulWLoop_spec w lt as ai 0 hWlt has hlt hai (Nat.two_pow_pos w)
      obtain ⟨y, lo', e, hl'⟩ :=
        snoc_cons (zzAddMulWLoop w lt as ai 0).1 (zzAddMulWLoop w lt as ai 0).2
      have hW : Wf w (y :: lo') := by
        rw [← e]; exact Wf_append.mpr ⟨s3, Wf_single s2⟩
      obtain ⟨hy, hlo'⟩ := Wf_cons.mp hW
      have hv : val w ((zzAddMulWLoop w lt as ai 0).1 ++ [(zzAddMulWLoop w lt as ai 0).2])
          = y + 2 ^ w * val w lo' := by rw [e, val_cons]
      rw [val_append, val_single, s4] at hv
      have hc' : [l0] ++ (zzAddMulWLoop w lt as ai 0).1
          ++ (zzAddMulWLoop w lt as ai 0).2 :: List.replicate as.length 0
          = l0 :: y :: (lo' ++ List.replicate as.length 0) := by
        rw [List.append_assoc, List.singleton_append, ← List.cons_append (a := y), ← e,
          List.append_assoc]; rfl
      obtain ⟨i1, i2, i3⟩ := ih lo' has hlo' (by rw [hl', s4, hlt])
      simp only [zzSqrLoop1, List.length_cons, htake1, hmid, hdrop, hc']
      refine ⟨?_, Wf_cons.mpr ⟨hl0, Wf_cons.mpr ⟨hy, i2⟩⟩, by rw [i3]; omega⟩
      rw [val_cons, val_cons, i1, val_cons, sqS]
      linear_combination 2 ^ w * hv.symm + 2 ^ w * s1

/-- pass 2 is the doubling loop of zzDoubleMod -/
theorem zzSqrLoop2_eq (w : Nat) (b : List Nat) (carry : Nat) :
    zzSqrLoop2 w b carry = zzDoubleLoop w b carry := by
  induction b generalizing carry with
  | nil => rfl
  | cons b0 bs ih => simp only [zzSqrLoop2, zzDoubleLoop, ih]

/-- one iteration of pass 3 -/
theorem sqr3StepB {B a c b0 b1 : Nat} (hB : 0 < B) (ha : a < B) (hc : c < B) (hb0 : b0 < B)
    (hb1 : b1 < B) :
    let p := ((a * a % (B * B) + c) % (B * B) + b0) % (B * B)
    let p2 := (p / B + b1) % (B * B)
    p % B + B * (p2 % B) + B * B * (p2 / B % B) = a * a + c + b0 + B * b1
    ∧ p % B < B ∧ p2 % B < B ∧ p2 / B % B < B := by
  intro p p2
  have h0 := mul_add_lt ha ha hc hb0
  have e : p = a * a + c + b0 := by
    show ((a * a % (B * B) + c) % (B * B) + b0) % (B * B) = _
    rw [Nat.mod_eq_of_lt (a := a * a) (by omega), Nat.mod_eq_of_lt (a := a * a + c) (by omega),
      Nat.mod_eq_of_lt h0]
  have hpB : p / B < B := Nat.div_lt_of_lt_mul (by rw [e]; exact h0)
  have h2 : p / B + b1 < B * B := by
    obtain ⟨k, rfl⟩ : ∃ k, B = k + 1 := ⟨B - 1, by omega⟩
    have : (k + 1) * (k + 1) = k * k + 2 * k + 1 := by ring
    omega
  have e2 : p2 = p / B + b1 := Nat.mod_eq_of_lt h2
  obtain ⟨s1, s2, s3, _⟩ := split_dword hB h2
  rw [← e2] at s1 s2 s3
  refine ⟨?_, Nat.mod_lt _ hB, s2, s3⟩
  rw [← e]
  linear_combination Nat.mod_add_div p B + B * s1 + B * e2

theorem zzSqrLoop3_spec (w : Nat) (a b : List Nat) (carry : Nat) (ha : Wf w a) (hb : Wf w b)
    (hl : b.length = a.length + a.length) (hc : carry < 2 ^ w) :
    val w (zzSqrLoop3 w a b carry).1 + 2 ^ (w * b.length) * (zzSqrLoop3 w a b carry).2
      = val w b + sqD w a + carry
    ∧ (zzSqrLoop3 w a b carry).2 < 2 ^ w ∧ Wf w (zzSqrLoop3 w a b carry).1
    ∧ (zzSqrLoop3 w a b carry).1.length = b.length := by
  induction a generalizing b carry with
  | nil =>
    cases b with
    | nil => simp [zzSqrLoop3, val, sqD, Wf_nil, hc]
    | cons _ _ => simp at hl
  | cons a0 as ih =>
    match b, hb, hl with
    | [], _, hl => simp at hl
    | [_], _, hl => simp at hl; omega
    | b0 :: b1 :: bs, hb, hl =>
      obtain ⟨ha0, has⟩ := Wf_cons.mp ha
      obtain ⟨hb0, hb'⟩ := Wf_cons.mp hb
      obtain ⟨hb1, hbs⟩ := Wf_cons.mp hb'
      have hB : 0 < 2 ^ w := Nat.two_pow_pos w
      obtain ⟨s1, s2, s3, s4⟩ := sqr3StepB hB ha0 hc hb0 hb1
      have hl' : bs.length = as.length + as.length := by simp at hl; omega
      simp only [zzSqrLoop3, dmul, dadd, dlo, dhi, dshr, pow2w, val_cons, List.length_cons, powS,
        sqD]
      obtain ⟨i1, i2, i3, i4⟩ := ih bs _ has hbs hl' s4
      refine ⟨?_, i2, Wf_cons.mpr ⟨s2, Wf_cons.mpr ⟨s3, i3⟩⟩, by rw [i4]⟩
      linear_combination s1 + 2 ^ w * 2 ^ w * i1

theorem zzSqr_spec (w : Nat) (hw : 0 < w) (a : List Nat) (ha : Wf w a) :
    val w (zzSqr w a) = val w a * val w a ∧ Wf w (zzSqr w a)
    ∧ (zzSqr w a).length = a.length + a.length := by
  have e : List.replicate (a.length + a.length) (0 : Nat)
      = List.replicate a.length 0 ++ List.replicate a.length 0 := by
    rw [List.replicate_append_replicate]
  obtain ⟨p1, p2, p3⟩ := zzSqrLoop1_spec w a (List.replicate a.length 0) ha
    (Wf_replicate_zero w _) (by simp)
  rw [← e, val_replicate_zero, Nat.zero_add] at p1
  rw [← e] at p2 p3
  unfold zzSqr
  simp only [zzSqrLoop2_eq]
  generalize zzSqrLoop1 w a (List.replicate (a.length + a.length) 0) = b1 at *
  obtain ⟨q1, q2, q3, q4⟩ := Add.zzDoubleLoop_spec w hw b1 0 p2 (by omega)
  rw [p1, p3] at q1
  rw [p3] at q4
  generalize zzDoubleLoop w b1 0 = r2 at *
  have hsq := sq_split w a
  have hva := val_lt ha
  have hP : 2 ^ (w * (a.length + a.length)) = 2 ^ (w * a.length) * 2 ^ (w * a.length) := by
    rw [Nat.mul_add, Nat.pow_add]
  have hlt : val w a * val w a < 2 ^ (w * (a.length + a.length)) := by
    rw [hP]; exact Nat.mul_lt_mul'' hva hva
  have hc0 : r2.2 = 0 := by
    generalize r2.2 = c at *
    obtain rfl | rfl : c = 0 ∨ c = 1 := by omega
    · rfl
    · omega
  obtain ⟨r1, _, r3, r4⟩ := zzSqrLoop3_spec w a r2.1 r2.2 ha q3 q4
    (by rw [hc0]; exact Nat.two_pow_pos w)
  rw [q4] at r1 r4
  have hr := val_lt r3
  rw [r4] at hr
  refine ⟨?_, r3, r4⟩
  generalize zzSqrLoop3 w a r2.1 r2.2 = r at *
  rw [hc0] at q1 r1
  clear hP hva
  generalize 2 ^ (w * (a.length + a.length)) = P at *
  have : r.2 = 0 := by
    rcases Nat.eq_zero_or_pos r.2 with h | h
    · exact h
    · have : P * 1 ≤ P * r.2 := Nat.mul_le_mul_left _ h
      omega
  rw [this] at r1
  omega

/-! ## §6 division by a word -/

/-- `divisor = r; divisor <<= w; divisor |= a0` is `r B + a0` (no wrap as `r < B`) -/
theorem divisor_eq (w : Nat) {r a0 : Nat} (hr : r < 2 ^ w) (ha0 : a0 < 2 ^ w) :
    dshl w r ||| a0 = 2 ^ w * r + a0 := by
  have h : r * 2 ^ w < 2 ^ w * 2 ^ w := Nat.mul_lt_mul_of_pos_right hr (Nat.two_pow_pos w)
  simp only [dshl, pow2w, Nat.mod_eq_of_lt h]
  rw [Nat.mul_comm r, ← Nat.two_pow_add_eq_or_of_lt ha0]

/-- one step of the division loop: new quotient word and remainder -/
theorem divStep {B x r a0 : Nat} (hx0 : 0 < x) (hx : x < B) (hr : r < x) (ha0 : a0 < B) :
    (B * r + a0) / x % B = (B * r + a0) / x ∧ (B * r + a0) % x % B = (B * r + a0) % x
    ∧ (B * r + a0) / x < B ∧ (B * r + a0) % x < x := by
  have hd : B * r + a0 < x * B := by
    have : B * (r + 1) ≤ B * x := Nat.mul_le_mul_left _ hr
    rw [Nat.mul_add, Nat.mul_one, Nat.mul_comm B x] at this
    omega
  have hq : (B * r + a0) / x < B := Nat.div_lt_of_lt_mul hd
  have hm : (B * r + a0) % x < x := Nat.mod_lt _ hx0
  exact ⟨Nat.mod_eq_of_lt hq, Nat.mod_eq_of_lt (by omega), hq, hm⟩

theorem zzDivW_spec (w : Nat) (a : List Nat) (x : Nat) (ha : Wf w a) (hx0 : 0 < x)
    (hx : x < 2 ^ w) :
    val w a = val w (zzDivW w a x).1 * x + (zzDivW w a x).2 ∧ (zzDivW w a x).2 < x
    ∧ Wf w (zzDivW w a x).1 ∧ (zzDivW w a x).1.length = a.length := by
  induction a with
  | nil => simp [zzDivW, val, Wf_nil, hx0]
  | cons a0 as ih =>
    obtain ⟨ha0, has⟩ := Wf_cons.mp ha
    obtain ⟨i1, i2, i3, i4⟩ := ih has
    obtain ⟨d1, d2, d3, d4⟩ := divStep hx0 hx i2 ha0
    have hdm := Nat.div_add_mod (2 ^ w * (zzDivW w as x).2 + a0) x
    simp only [zzDivW, dlo, divisor_eq w (by omega : (zzDivW w as x).2 < 2 ^ w) ha0, d1, d2,
      val_cons, List.length_cons]
    refine ⟨?_, d4, Wf_cons.mpr ⟨d3, i3⟩, by rw [i4]⟩
    rw [i1]
    linear_combination hdm.symm

theorem zzModW_eq (w : Nat) (a : List Nat) (x : Nat) : zzModW w a x = (zzDivW w a x).2 := by
  induction a with
  | nil => rfl
  | cons a0 as ih => simp only [zzModW, zzDivW, ih]

theorem mod_of_divmod {v q x r : Nat} (h : v = q * x + r) (hr : r < x) : v % x = r ∧ v / x = q := by
  subst h
  have hx : 0 < x := by omega
  rw [Nat.mul_comm, Nat.mul_add_mod, Nat.mod_eq_of_lt hr, Nat.mul_add_div hx, Nat.div_eq_of_lt hr]
  exact ⟨rfl, rfl⟩

/-! ## §7 Montgomery reduction: callee facts and the Dusse–Kaliski loop -/

theorem lor_le_one {a b : Nat} (ha : a ≤ 1) (hb : b ≤ 1) : a ||| b ≤ 1 := by
  obtain rfl | rfl : a = 0 ∨ a = 1 := by omega
  all_goals obtain rfl | rfl : b = 0 ∨ b = 1 := by omega
  all_goals decide

theorem lor_eq_add {a b : Nat} (h : a + b ≤ 1) : a ||| b = a + b := by
  obtain rfl | rfl : a = 0 ∨ a = 1 := by omega
  · simp
  · obtain rfl : b = 0 := by omega
    rfl

/-- the Montgomery multiplier kills the low word -/
theorem mont_word {B m0 mp a0 : Nat} (hmp : (m0 * mp + 1) % B = 0) :
    (a0 + m0 * (a0 * mp % B)) % B = 0 := by
  obtain ⟨q, hq⟩ := Nat.dvd_of_mod_eq_zero hmp
  have hd := Nat.div_add_mod (a0 * mp) B
  generalize a0 * mp / B = d at *
  generalize hm : a0 * mp % B = m at *
  have e1 : a0 * (m0 * mp + 1) = a0 * (B * q) := by rw [hq]
  have e2 : m0 * (B * d + m) = m0 * (a0 * mp) := by rw [hd]
  have e : a0 + m0 * m + B * (m0 * d) = B * (a0 * q) := by linarith [e1, e2]
  have : (a0 + m0 * m + B * (m0 * d)) % B = 0 := by rw [e]; exact Nat.mul_mod_right _ _
  rwa [Nat.add_mul_mod_self_left] at this

theorem head_zero {B z X Y : Nat} (hz : z < B) (h : z + B * X = B * Y) : z = 0 := by
  have : (z + B * X) % B = 0 := by rw [h]; exact Nat.mul_mod_right _ _
  rwa [Nat.add_mul_mod_self_left, Nat.mod_eq_of_lt hz] at this

/-- invariant of the Dusse–Kaliski loop on the window `a + i` (`n + k` words, `k` iterations
    left): afterwards the `k` low words are zero, the value is `a + t·mod` with `t < B^k`
    up to the carries `cs` out of the top, which the register `carry` accumulates. -/
theorem zzRedMontLoop_spec (w : Nat) (m0 : Nat) (ms : List Nat) (mp : Nat)
    (hmod : Wf w (m0 :: ms)) (hmp : (m0 * mp + 1) % 2 ^ w = 0) (k : Nat) (a : List Nat)
    (carry : Nat) (ha : Wf w a) (hl : a.length = (ms.length + 1) + k) (hc : carry ≤ 1) :
    ∃ t cs, t < 2 ^ (w * k)
      ∧ 2 ^ (w * k) * val w ((zzRedMontLoop w (m0 :: ms) mp k a carry).1.drop k)
          + 2 ^ (w * (ms.length + 1 + k)) * cs = val w a + t * val w (m0 :: ms)
      ∧ val w ((zzRedMontLoop w (m0 :: ms) mp k a carry).1.take k) = 0
      ∧ Wf w (zzRedMontLoop w (m0 :: ms) mp k a carry).1
      ∧ (zzRedMontLoop w (m0 :: ms) mp k a carry).1.length = ms.length + 1 + k
      ∧ (zzRedMontLoop w (m0 :: ms) mp k a carry).2 ≤ 1
      ∧ (carry + cs ≤ 1 → (zzRedMontLoop w (m0 :: ms) mp k a carry).2 = carry + cs) := by
  induction k generalizing a carry with
  | zero =>
    refine ⟨0, 0, by simp, by simp [zzRedMontLoop], by simp [zzRedMontLoop, val], ?_, ?_, ?_, ?_⟩
    all_goals simp [zzRedMontLoop, ha, hl, hc]
  | succ k ih =>
    cases a with
    | nil => simp at hl
    | cons ai at' =>
      have hB : 0 < 2 ^ w := Nat.two_pow_pos w
      obtain ⟨hai, _⟩ := Wf_cons.mp ha
      obtain ⟨hm0, _⟩ := Wf_cons.mp hmod
      have hn : (m0 :: ms).length = ms.length + 1 := rfl
      have hm : wmul w ai mp < 2 ^ w := Nat.mod_lt _ hB
      -- callee 1: zzAddMulW on the low n words
      have htl : ((ai :: at').take (ms.length + 1)).length = (m0 :: ms).length := by
        rw [List.length_take, hl, hn]; omega
      obtain ⟨s1, s2, s3, s4⟩ := zzAddMulWLoop_spec w ((ai :: at').take (ms.length + 1)) (m0 :: ms)
        (wmul w ai mp) 0 (Wf_take ha _) hmod htl hm hB
      -- callee 2: zzAddW2 on the remaining k+1 words
      have hdl : ((ai :: at').drop (ms.length + 1)).length = k + 1 := by
        rw [List.length_drop, hl]; omega
      obtain ⟨u1, _, u3, u4, u5⟩ := Add.zzAddW_spec w ((ai :: at').drop (ms.length + 1))
        (zzAddMulWLoop w ((ai :: at').take (ms.length + 1)) (m0 :: ms) (wmul w ai mp) 0).2
        (Wf_drop ha _) s2
      have u3' := u3 (by intro h; rw [h] at hdl; simp at hdl)
      rw [hdl] at u1 u5
      rw [htl, hn] at s1 s4
      have hsplit := val_take_drop w (ai :: at') (ms.length + 1) (by rw [hl]; omega)
      -- the new window
      generalize hr1 : zzAddMulWLoop w ((ai :: at').take (ms.length + 1)) (m0 :: ms)
        (wmul w ai mp) 0 = r1 at *
      generalize hr2 : zzAddW w ((ai :: at').drop (ms.length + 1)) r1.2 = r2 at *
      obtain ⟨z, r1t, hz⟩ : ∃ z r1t, r1.1 = z :: r1t := by
        cases h : r1.1 with
        | nil => rw [h] at s4; simp at s4
        | cons z t => exact ⟨z, t, rfl⟩
      have hW : r1.1 ++ r2.1 = z :: (r1t ++ r2.1) := by rw [hz]; rfl
      have hWf : Wf w (z :: (r1t ++ r2.1)) := by rw [← hW]; exact Wf_append.mpr ⟨s3, u4⟩
      obtain ⟨hzB, hrest⟩ := Wf_cons.mp hWf
      have hlen : (r1t ++ r2.1).length = ms.length + 1 + k := by
        have : (r1.1 ++ r2.1).length = ms.length + 1 + (k + 1) := by
          rw [List.length_append, s4, u5]
        rw [hW, List.length_cons] at this; omega
      have hval : val w (r1.1 ++ r2.1) = z + 2 ^ w * val w (r1t ++ r2.1) := by rw [hW, val_cons]
      rw [val_append, s4] at hval
      -- total value of the step
      have hPk : 2 ^ (w * (ms.length + 1 + (k + 1)))
          = 2 ^ (w * (ms.length + 1)) * 2 ^ (w * (k + 1)) := by rw [Nat.mul_add, Nat.pow_add]
      have hPk' : 2 ^ (w * (ms.length + 1 + (k + 1))) = 2 ^ w * 2 ^ (w * (ms.length + 1 + k)) := by
        rw [← powS]; rfl
      have hstep : z + 2 ^ w * val w (r1t ++ r2.1) + 2 ^ (w * (ms.length + 1 + (k + 1))) * r2.2
          = val w (ai :: at') + val w (m0 :: ms) * wmul w ai mp := by
        rw [hPk]
        linear_combination hval.symm + 2 ^ (w * (ms.length + 1)) * u1 + s1 + hsplit.symm
      -- the low word of the new window is zero
      have hmw : (ai + m0 * wmul w ai mp) % 2 ^ w = 0 := mont_word hmp
      obtain ⟨e, he⟩ := Nat.dvd_of_mod_eq_zero hmw
      have hz0 : z = 0 := by
        refine head_zero (X := val w (r1t ++ r2.1) + 2 ^ (w * (ms.length + 1 + k)) * r2.2)
          (Y := e + val w at' + val w ms * wmul w ai mp) hzB ?_
        rw [hPk'] at hstep
        simp only [val_cons] at hstep
        linear_combination hstep + he
      -- induction hypothesis on the rest
      obtain ⟨t', cs', j1, j2, j3, j4, j5, j6, j7⟩ :=
        ih (r1t ++ r2.1) (carry ||| r2.2) hrest hlen (lor_le_one hc u3')
      have hunf : zzRedMontLoop w (m0 :: ms) mp (k + 1) (ai :: at') carry
          = (z :: (zzRedMontLoop w (m0 :: ms) mp k (r1t ++ r2.1) (carry ||| r2.2)).1,
             (zzRedMontLoop w (m0 :: ms) mp k (r1t ++ r2.1) (carry ||| r2.2)).2) := by
        simp only [zzRedMontLoop, zzAddMulW, zzAddW2, hn, hr1, hr2, hW]
      rw [hunf]
      generalize zzRedMontLoop w (m0 :: ms) mp k (r1t ++ r2.1) (carry ||| r2.2) = r' at *
      refine ⟨wmul w ai mp + 2 ^ w * t', r2.2 + cs', ?_, ?_, ?_, ?_, ?_, j6, ?_⟩
      · rw [powS]
        have : 2 ^ w * (t' + 1) ≤ 2 ^ w * 2 ^ (w * k) := Nat.mul_le_mul_left _ j1
        rw [Nat.mul_add] at this
        omega
      · simp only [List.drop_succ_cons]
        rw [powS, hPk']
        rw [hPk', hz0] at hstep
        linear_combination hstep + 2 ^ w * j2
      · simp only [List.take_succ_cons, val_cons, j3, hz0, Nat.mul_zero, Nat.add_zero]
      · exact Wf_cons.mpr ⟨hzB, j4⟩
      · simp only [List.length_cons, j5]; omega
      · intro h
        have h1 : carry ||| r2.2 = carry + r2.2 := lor_eq_add (by omega)
        rw [h1] at j7
        have := j7 (by omega)
        simp only [this]; omega

/-! ## §8 conditional subtraction: zzSubAndW, the compare-mask loop -/

/-- the copy-and-compare loop of SAFE(zzRedMont) copies `hi` and runs the mask of the SAFE
    modular routines -/
theorem zzRedMontCmp_eq (hi mod : List Nat) (mask : Nat) (hl : hi.length = mod.length) :
    zzRedMontCmp hi mod mask = (hi, Add.maskFold mod hi mask) := by
  induction hi generalizing mod mask with
  | nil => cases mod <;> simp_all [zzRedMontCmp, Add.maskFold]
  | cons h hs ih =>
    cases mod with
    | nil => simp at hl
    | cons m ms => simp only [zzRedMontCmp, Add.maskFold_cons, ih ms _ (by simpa using hl)]

/-- final mask = `[mod < hi]`, or the initial mask when equal -/
theorem zzRedMontCmp_spec (w : Nat) (hi mod : List Nat) (mask : Nat) (hhi : Wf w hi)
    (hmod : Wf w mod) (hl : hi.length = mod.length) (hm : mask ≤ 1) :
    (zzRedMontCmp hi mod mask).1 = hi
    ∧ (zzRedMontCmp hi mod mask).2
      = if val w mod < val w hi then 1 else if val w mod = val w hi then mask else 0 := by
  rw [zzRedMontCmp_eq hi mod mask hl]
  exact ⟨rfl, Add.maskFold_spec w mod hi mask hm hmod hhi hl.symm⟩

theorem cond_iff (w : Nat) (hi mod : List Nat) (cy : Nat) (hhi : Wf w hi) (hmod : Wf w mod)
    (hl : hi.length = mod.length) (hcy : cy ≤ 1) :
    (cy ≠ 0 ∨ wwCmp_fast hi mod ≥ 0) ↔ val w mod ≤ val w hi + 2 ^ (w * mod.length) * cy := by
  have hvm := val_lt hmod
  rw [Add.wwCmp_fast_eq w hi mod hhi hmod hl, Add.cmp3_nonneg]
  obtain rfl | rfl : cy = 0 ∨ cy = 1 := by omega
  all_goals omega

/-- the SAFE end of the Montgomery reductions: copy-and-compare, `mask |= carry`, masked subtraction -/
theorem safe_select (w : Nat) (hw : 0 < w) (hi mod : List Nat) (cy : Nat) (hhi : Wf w hi)
    (hmod : Wf w mod) (hl : hi.length = mod.length) (hcy : cy ≤ 1) :
    (zzSubAndW w (zzRedMontCmp hi mod 1).1 mod (wneg w ((zzRedMontCmp hi mod 1).2 ||| cy))).1
      = if val w mod ≤ val w hi + 2 ^ (w * mod.length) * cy then (zzSub2 w hi mod).1 else hi := by
  rw [zzRedMontCmp_eq _ _ _ hl, Add.red_safe_eq_fast w hw hi mod cy hhi hmod hl hcy,
    if_congr (cond_iff w hi mod cy hhi hmod hl hcy) rfl rfl]

/-! ## §9 wwCmp / wwCmp2 (SAFE editions = default build) -/

theorem wwCmp_safe_ge (w : Nat) (a b : List Nat) (ha : Wf w a) (hb : Wf w b)
    (hl : a.length = b.length) : wwCmp_safe a b ≥ 0 ↔ val w b ≤ val w a := by
  rw [Add.wwCmp_safe_eq_fast, Add.wwCmp_fast_eq w a b ha hb hl, Add.cmp3_nonneg]

theorem wwCmp2_safe_top (w : Nat) (hi mod : List Nat) (c : Nat) (hhi : Wf w hi) (hmod : Wf w mod)
    (hl : hi.length = mod.length) (hc : c ≤ 1) :
    wwCmp2_safe (hi ++ [c]) mod ≥ 0 ↔ val w mod ≤ val w hi + 2 ^ (w * mod.length) * c := by
  have hlt := val_lt hmod
  have h1 : (hi ++ [c]).length > mod.length := by simp; omega
  have hd : (hi ++ [c]).drop mod.length = [c] := by rw [← hl]; simp
  have ht : (hi ++ [c]).take mod.length = hi := by rw [← hl]; simp
  unfold wwCmp2_safe
  simp only [h1, if_true, hd, ht]
  obtain rfl | rfl : c = 0 ∨ c = 1 := by omega
  · simp [wwIsZero_safe, wwCmp_safe_ge w hi mod hhi hmod hl]
  · simp [wwIsZero_safe]; omega

/-! ## §10 zzRedMont: the final conditional subtraction -/

/-- value-level end game: from `B^n V = a + t m`, `t < B^n`, `a < m B^n` to `V < 2m`, and the
    conditionally reduced `V` is `a B^{-n} mod m` -/
theorem mont_finish (w : Nat) (hi mod res : List Nat) (cs t va : Nat) (hhi : Wf w hi)
    (hmod : Wf w mod) (hlen : hi.length = mod.length) (hcs : cs ≤ 1)
    (ht : t < 2 ^ (w * mod.length))
    (heq : 2 ^ (w * mod.length) * val w hi + 2 ^ (w * (mod.length + mod.length)) * cs
      = va + t * val w mod)
    (hlt : va < val w mod * 2 ^ (w * mod.length))
    (hres : res = if val w mod ≤ val w hi + 2 ^ (w * mod.length) * cs
      then (zzSub2 w hi mod).1 else hi) :
    (val w res * 2 ^ (w * mod.length)) % val w mod = va % val w mod ∧ val w res < val w mod
    ∧ Wf w res ∧ res.length = mod.length := by
  have hvm := val_lt hmod
  rw [Nat.mul_add, Nat.pow_add] at heq
  have hVP : (val w hi + 2 ^ (w * mod.length) * cs) * 2 ^ (w * mod.length) = va + t * val w mod := by
    linear_combination heq
  -- V < 2 m
  have hV : val w hi + 2 ^ (w * mod.length) * cs < 2 * val w mod := by
    have h1 : t * val w mod ≤ val w mod * 2 ^ (w * mod.length) :=
      Nat.mul_comm _ (val w mod) ▸ Nat.mul_le_mul_right _ (Nat.le_of_lt ht)
    refine Nat.lt_of_mul_lt_mul_right (a := 2 ^ (w * mod.length)) ?_
    rw [hVP, Nat.mul_assoc]
    omega
  obtain ⟨e1, e2, e3, e4⟩ := Add.RepC.redFast (r := (hi, cs)) ⟨hlen ▸ rfl, hcs, hhi, rfl⟩ hmod hlen hV
  rw [if_congr (cond_iff w hi mod cs hhi hmod hlen hcs) rfl rfl, ← hres] at e1 e2 e3 e4
  refine ⟨?_, e2, e3, e4.trans hlen⟩
  rw [e1, Nat.mod_mul_mod, hVP, Nat.add_mul_mod_self_right]

/-- what both editions compute: the high half after the loop, minus `mod` iff
    `mod ≤ high half + B^n carry` -/
def montRes (w : Nat) (m0 : Nat) (ms a : List Nat) (mp : Nat) : List Nat :=
  let r := zzRedMontLoop w (m0 :: ms) mp (ms.length + 1) a 0
  let hi := r.1.drop (ms.length + 1)
  if val w (m0 :: ms) ≤ val w hi + 2 ^ (w * (ms.length + 1)) * r.2
  then (zzSub2 w hi (m0 :: ms)).1 else hi

theorem zzRedMont_common (w : Nat) (m0 : Nat) (ms a : List Nat) (mp : Nat)
    (ha : Wf w a) (hmod : Wf w (m0 :: ms)) (hl : a.length = (ms.length + 1) + (ms.length + 1))
    (hmp : (m0 * mp + 1) % 2 ^ w = 0)
    (hlt : val w a < val w (m0 :: ms) * 2 ^ (w * (ms.length + 1))) (res : List Nat)
    (hres : res = montRes w m0 ms a mp) :
    (val w res * 2 ^ (w * (ms.length + 1))) % val w (m0 :: ms) = val w a % val w (m0 :: ms)
    ∧ val w res < val w (m0 :: ms) ∧ Wf w res ∧ res.length = ms.length + 1 := by
  simp only [montRes] at hres
  obtain ⟨t, cs, j1, j2, _, j4, j5, j6, j7⟩ :=
    zzRedMontLoop_spec w m0 ms mp hmod hmp (ms.length + 1) a 0 ha hl (by omega)
  generalize zzRedMontLoop w (m0 :: ms) mp (ms.length + 1) a 0 = r at *
  have hhl : (r.1.drop (ms.length + 1)).length = (m0 :: ms).length := by
    rw [List.length_drop, j5]; simp
  have hcs : cs ≤ 1 := by
    have hvm := val_lt hmod
    have hvh := val_lt (Wf_drop j4 (ms.length + 1))
    rw [hhl] at hvh
    simp only [List.length_cons] at hvm hvh
    have hP2 : 2 ^ (w * (ms.length + 1 + (ms.length + 1)))
        = 2 ^ (w * (ms.length + 1)) * 2 ^ (w * (ms.length + 1)) := by
      rw [Nat.mul_add, Nat.pow_add]
    rw [hP2] at j2
    clear hP2
    generalize 2 ^ (w * (ms.length + 1)) = Pn at *
    generalize val w (m0 :: ms) = vm at *
    by_contra hcon
    have h2 : 2 ≤ cs := by omega
    have h1 : t * vm < Pn * Pn := Nat.mul_lt_mul'' j1 hvm
    have h3 : Pn * Pn * 2 ≤ Pn * Pn * cs := Nat.mul_le_mul_left _ h2
    have h4 : vm * Pn < Pn * Pn := Nat.mul_lt_mul_of_pos_right hvm (by omega)
    omega
  have hr2 : r.2 = cs := by simpa using j7 (by omega)
  rw [hr2] at hres
  exact mont_finish w (r.1.drop (ms.length + 1)) (m0 :: ms) res cs t (val w a)
    (Wf_drop j4 _) hmod hhl hcs j1 j2 hlt hres

theorem zzRedMont_safe_eq (w : Nat) (m0 : Nat) (ms a : List Nat) (mp : Nat)
    (ha : Wf w a) (hmod : Wf w (m0 :: ms)) (hl : a.length = (ms.length + 1) + (ms.length + 1))
    (hmp : (m0 * mp + 1) % 2 ^ w = 0)
    (hlt : val w a < val w (m0 :: ms) * 2 ^ (w * (ms.length + 1))) :
    zzRedMont_safe w a (m0 :: ms) mp = montRes w m0 ms a mp := by
  have hw : 0 < w := by
    rcases Nat.eq_zero_or_pos w with h | h
    · subst h
      have := val_lt hmod
      simp at this
      rw [this] at hlt; simp at hlt
    · exact h
  obtain ⟨t, cs, _, _, _, j4, j5, j6, _⟩ :=
    zzRedMontLoop_spec w m0 ms mp hmod hmp (ms.length + 1) a 0 ha hl (by omega)
  unfold zzRedMont_safe montRes
  simp only [List.length_cons]
  generalize zzRedMontLoop w (m0 :: ms) mp (ms.length + 1) a 0 = r at *
  have hhl : (r.1.drop (ms.length + 1)).length = (m0 :: ms).length := by
    rw [List.length_drop, j5]; simp
  exact safe_select w hw _ _ _ (Wf_drop j4 _) hmod hhl j6

theorem zzRedMont_fast_eq (w : Nat) (m0 : Nat) (ms a : List Nat) (mp : Nat)
    (ha : Wf w a) (hmod : Wf w (m0 :: ms)) (hl : a.length = (ms.length + 1) + (ms.length + 1))
    (hmp : (m0 * mp + 1) % 2 ^ w = 0) :
    zzRedMont_fast w a (m0 :: ms) mp = montRes w m0 ms a mp := by
  obtain ⟨t, cs, _, _, _, j4, j5, j6, _⟩ :=
    zzRedMontLoop_spec w m0 ms mp hmod hmp (ms.length + 1) a 0 ha hl (by omega)
  unfold zzRedMont_fast montRes
  simp only [List.length_cons]
  generalize zzRedMontLoop w (m0 :: ms) mp (ms.length + 1) a 0 = r at *
  have hhl : (r.1.drop (ms.length + 1)).length = (m0 :: ms).length := by
    rw [List.length_drop, j5]; simp
  have htk : (r.1.drop (ms.length + 1)).take (ms.length + 1) = r.1.drop (ms.length + 1) := by
    apply List.take_of_length_le; rw [hhl]; simp
  rw [htk]
  have := wwCmp2_safe_top w (r.1.drop (ms.length + 1)) (m0 :: ms) r.2 (Wf_drop j4 _) hmod hhl j6
  simp only [List.length_cons] at this
  by_cases hc : wwCmp2_safe (r.1.drop (ms.length + 1) ++ [r.2]) (m0 :: ms) ≥ 0
  · rw [if_pos hc, if_pos (this.mp hc)]
  · rw [if_neg hc, if_neg (fun h => hc (this.mpr h))]

/-! ## §11 Crandall reduction -/

theorem val_ones (w : Nat) (ms : List Nat) (h : ∀ x ∈ ms, x = 2 ^ w - 1) :
    val w ms + 1 = 2 ^ (w * ms.length) := by
  induction ms with
  | nil => simp [val]
  | cons x xs ih =>
    have hx : x = 2 ^ w - 1 := h x List.mem_cons_self
    have ih' := ih (fun y hy => h y (List.mem_cons_of_mem _ hy))
    have hB : 0 < 2 ^ w := Nat.two_pow_pos w
    have : 2 ^ w * (val w xs + 1) = 2 ^ w * 2 ^ (w * xs.length) := by rw [ih']
    rw [Nat.mul_add] at this
    rw [val_cons, List.length_cons, powS, hx]
    omega

theorem Wf_ones (w : Nat) (ms : List Nat) (h : ∀ x ∈ ms, x = 2 ^ w - 1) : Wf w ms := by
  intro x hx
  rw [h x hx]
  have := Nat.two_pow_pos w
  omega

/-- the "add and cmp" loop of SAFE(zzRedCrand) = zzAddW2 followed by the compare-mask loop -/
theorem zzRedCrandLoop_eq (w : Nat) (a ms : List Nat) (carry mask : Nat)
    (hl : a.length = ms.length) :
    zzRedCrandLoop w a ms carry mask
      = ((zzAddW w a carry).1, (zzAddW w a carry).2,
          (zzRedMontCmp (zzAddW w a carry).1 ms mask).2) := by
  induction a generalizing ms carry mask with
  | nil => cases ms <;> simp_all [zzRedCrandLoop, zzAddW, zzRedMontCmp]
  | cons a0 as ih =>
    cases ms with
    | nil => simp at hl
    | cons m0 ms =>
      simp only [zzRedCrandLoop, zzAddW, zzRedMontCmp, ih ms _ _ (by simpa using hl)]

/-- value-level end game of the Crandall reduction (`M + c = B^n`) -/
theorem crand_finish {Pn M c va cy vr k : Nat} (hM : M + c = Pn) (hva : va < Pn)
    (hcy : cy ≤ 1) (hV : va + Pn * cy < 2 * M) (hk : k ≤ 1) (hvr : vr < Pn)
    (h : if cy ≠ 0 ∨ M ≤ va then vr + Pn * k = va + c else vr = va) :
    vr < M ∧ ∃ d, va + Pn * cy = vr + M * d := by
  obtain rfl | rfl : cy = 0 ∨ cy = 1 := by omega
  all_goals obtain rfl | rfl : k = 0 ∨ k = 1 := by omega
  all_goals
    split_ifs at h with h1
    · refine ⟨by omega, 1, by omega⟩
    · refine ⟨by omega, 0, by omega⟩

/-- the two folds of the Crandall reduction over naturals (`M + c = B·P`, `P = B^(n-1)`): the low half plus `c` times the high
    half (`s1`, carry word `r12`), then `c` times that word into the lowest word (`d1`) and its high part through the rest
    (`u1`, carry flag `r22`), leave the value unchanged modulo `M` and below `2 M` -/
theorem crand_folds {B P M c vlo vhi r12 a0 vat lo hi v2 r22 : Nat} (hBP : B ≤ P) (hM : M + c = B * P) (hcB : c < B)
    (hr12 : r12 < B) (ha0 : a0 < B) (hvat : vat < P)
    (s1 : a0 + B * vat + B * P * r12 = vlo + vhi * c) (d1 : lo + B * hi = r12 * c + a0)
    (u1 : v2 + P * r22 = vat + hi) :
    vlo + B * P * vhi = lo + B * v2 + B * P * r22 + M * (vhi + r12) ∧ lo + B * v2 + B * P * r22 < 2 * M := by
  constructor
  · linear_combination vhi * hM.symm + s1.symm + r12 * hM.symm + d1.symm + B * u1.symm
  · have e1 : B * v2 + B * P * r22 = B * vat + B * hi := by linear_combination B * u1
    have hrc : r12 * c ≤ (B - 1) * (B - 1) := Nat.mul_le_mul (by omega) (by omega)
    have hBB : B * B ≤ B * P := Nat.mul_le_mul_left _ hBP
    have hsq : (B - 1) * (B - 1) + 2 * B = B * B + 1 := by
      obtain ⟨k, rfl⟩ : ∃ k, B = k + 1 := ⟨B - 1, by omega⟩
      simp only [Nat.add_sub_cancel]; ring
    have hbv : B * vat + B ≤ B * P := Nat.mul_le_mul_left _ hvat
    omega

/-- the Crandall modulus `(m0, B−1, …, B−1)` is `B^n − c` with `c = −m0 mod B` -/
theorem crand_mod {w m0 n' : Nat} {ms : List Nat} (hm0 : 0 < m0) (hm0B : m0 < 2 ^ w) (hms : ∀ x ∈ ms, x = 2 ^ w - 1)
    (hn : ms.length = n') :
    wneg w m0 = 2 ^ w - m0 ∧ Rep w (n' + 1) (m0 :: ms) (val w (m0 :: ms)) ∧
      val w (m0 :: ms) + wneg w m0 = 2 ^ w * 2 ^ (w * n') := by
  have hc : wneg w m0 = 2 ^ w - m0 := by
    show (2 ^ w - m0 % 2 ^ w) % 2 ^ w = _
    rw [Nat.mod_eq_of_lt hm0B, Nat.mod_eq_of_lt (by omega)]
  refine ⟨hc, ⟨Wf_cons.mpr ⟨hm0B, Wf_ones w ms hms⟩, by rw [List.length_cons, hn], rfl⟩, ?_⟩
  have h1 := val_ones w ms hms
  have : 2 ^ w * (val w ms + 1) = 2 ^ w * 2 ^ (w * ms.length) := by rw [h1]
  rw [Nat.mul_add, hn] at this
  rw [val_cons, hc]; omega

/-- the common part of both editions of zzRedCrand over values: after iter1 (`r1`), iter2 (`lo`, `hi`) and the carry
    propagation (`r2`) the n words `lo :: r2.1` with the flag `r2.2` hold a value `≡ A (mod M)` below `2 M` -/
theorem crand_pre {w n' A m0 : Nat} {ms a : List Nat} (ha : Rep w (n' + 1 + (n' + 1)) a A) (hm0 : 0 < m0)
    (hm0B : m0 < 2 ^ w) (hms : ∀ x ∈ ms, x = 2 ^ w - 1) (hn : ms.length = n') (hms1 : 0 < n') :
    ∃ a0 at1 r12, zzAddMulWLoop w (a.take (n' + 1)) (a.drop (n' + 1)) (wneg w m0) 0 = (a0 :: at1, r12) ∧
      at1.length = n' ∧
      ∀ {lo hi : Nat} {r2 : List Nat × Nat}, dlo w (dadd w (dmul w r12 (wneg w m0)) a0) = lo →
        dlo w (dshr w (dadd w (dmul w r12 (wneg w m0)) a0)) = hi → zzAddW w at1 hi = r2 →
        ∃ V, Rep w (n' + 1) (lo :: r2.1) V ∧ r2.2 ≤ 1 ∧
          (∃ q, A = V + 2 ^ (w * (n' + 1)) * r2.2 + val w (m0 :: ms) * q) ∧
          V + 2 ^ (w * (n' + 1)) * r2.2 < 2 * val w (m0 :: ms) := by
  have hB : 0 < 2 ^ w := Nat.two_pow_pos w
  obtain ⟨hc, -, hM⟩ := crand_mod hm0 hm0B hms hn
  have hcB : wneg w m0 < 2 ^ w := by omega
  -- iter1
  obtain ⟨s, hs, s1, s2⟩ := (ha.take (n' + 1) (by omega)).addMulW
    ((ha.drop (n' + 1)).cast (by omega) rfl) hcB hB
  generalize zzAddMulWLoop w (a.take (n' + 1)) (a.drop (n' + 1)) (wneg w m0) 0 = r1 at *
  obtain ⟨r11, r12⟩ := r1
  cases r11 with
  | nil => exact absurd hs.len (by simp)
  | cons a0 at1 =>
  simp only at s1 s2
  obtain ⟨k, vat, hk, rfl, ha0, hat1⟩ := hs.of_cons
  have hk' : n' = k := by omega
  subst hk'
  refine ⟨a0, at1, r12, rfl, hat1.len, ?_⟩
  intro lo hi r2 hlo hhi hr2
  -- iter2
  have hp := mul_add_lt s2 hcB ha0 hB
  have hprod : dadd w (dmul w r12 (wneg w m0)) a0 = r12 * wneg w m0 + a0 := by
    simp only [dadd, dmul, pow2w]
    rw [Nat.mod_eq_of_lt (a := r12 * wneg w m0) (by omega), Nat.mod_eq_of_lt (by omega)]
  obtain ⟨d1, d2, d3, -⟩ := split_dword hB (p := r12 * wneg w m0 + a0) (by omega)
  rw [hprod] at hlo hhi
  subst hlo hhi hr2
  obtain ⟨u1, u2, u3, u4⟩ := hat1.addWC d3 hms1
  have hBP : 2 ^ w ≤ 2 ^ (w * n') := Nat.pow_le_pow_right (by omega) (Nat.le_mul_of_pos_right w hms1)
  have hA := Nat.mod_add_div A (2 ^ (w * (n' + 1)))
  rw [powS] at s1 hA ⊢
  obtain ⟨f1, f2⟩ := crand_folds hBP hM hcB s2 ha0 hat1.lt (by simpa using s1) d1 u1
  have hr2 : Rep w n' _ (val w _) := ⟨u3, u4, rfl⟩
  refine ⟨_, hr2.cons d2, u2, ⟨A / (2 ^ w * 2 ^ (w * n')) + r12, ?_⟩, ?_⟩
  · exact hA.symm.trans f1
  · exact f2

/-- what both editions of zzRedCrand compute -/
def crandRes (w : Nat) (m0 : Nat) (ms a : List Nat) : List Nat :=
  let r1 := zzAddMulWLoop w (a.take (ms.length + 1)) (a.drop (ms.length + 1)) (wneg w m0) 0
  match r1.1 with
  | [] => []
  | a0 :: at1 =>
    let p := dadd w (dmul w r1.2 (wneg w m0)) a0
    let r2 := zzAddW w at1 (dlo w (dshr w p))
    if r2.2 ≠ 0 ∨ val w (m0 :: ms) ≤ val w (dlo w p :: r2.1)
    then (zzAddW w (dlo w p :: r2.1) (wneg w m0)).1
    else dlo w p :: r2.1

theorem crandRes_spec (w : Nat) (m0 : Nat) (ms a : List Nat) (ha : Wf w a)
    (hm0 : 0 < m0) (hm0B : m0 < 2 ^ w) (hms : ∀ x ∈ ms, x = 2 ^ w - 1) (hms1 : 0 < ms.length)
    (hl : a.length = (ms.length + 1) + (ms.length + 1)) :
    val w (crandRes w m0 ms a) = val w a % val w (m0 :: ms)
    ∧ val w (crandRes w m0 ms a) < val w (m0 :: ms)
    ∧ Wf w (crandRes w m0 ms a) ∧ (crandRes w m0 ms a).length = ms.length + 1 := by
  obtain ⟨a0, at1, r12, hr1, -, hpre⟩ := crand_pre ⟨ha, hl, rfl⟩ hm0 hm0B hms rfl hms1
  obtain ⟨hc, -, hM⟩ := crand_mod hm0 hm0B hms rfl
  rw [← powS] at hM
  have hcB : wneg w m0 < 2 ^ w := by omega
  unfold crandRes
  rw [hr1]
  simp only
  generalize hlo : dlo w (dadd w (dmul w r12 (wneg w m0)) a0) = lo
  generalize hhi : dlo w (dshr w (dadd w (dmul w r12 (wneg w m0)) a0)) = hi
  generalize hr2 : zzAddW w at1 hi = r2
  obtain ⟨V, hV, u3, ⟨q, hq⟩, hlt⟩ := hpre hlo hhi hr2
  obtain ⟨v1, v3, v4, v5⟩ := hV.addWC hcB (Nat.succ_pos _)
  have hvr := val_lt v4
  rw [v5] at hvr
  rw [hV.eq]
  by_cases hcnd : r2.2 ≠ 0 ∨ val w (m0 :: ms) ≤ V
  · rw [if_pos hcnd]
    obtain ⟨f1, d, f2⟩ := crand_finish (k := (zzAddW w (lo :: r2.1) (wneg w m0)).2) hM hV.lt u3 hlt v3 hvr
      (by rw [if_pos hcnd]; exact v1)
    refine ⟨?_, f1, v4, v5⟩
    rw [hq, f2, Nat.add_assoc, ← Nat.mul_add, Nat.add_mul_mod_self_left, Nat.mod_eq_of_lt f1]
  · rw [if_neg hcnd]
    obtain ⟨f1, d, f2⟩ := crand_finish (k := 0) (vr := V) hM hV.lt u3 hlt (by omega) hV.lt (by rw [if_neg hcnd])
    refine ⟨?_, hV.eq ▸ f1, hV.wf, hV.len⟩
    rw [hV.eq, hq, f2, Nat.add_assoc, ← Nat.mul_add, Nat.add_mul_mod_self_left, Nat.mod_eq_of_lt f1]

theorem zzRedCrand_fast_eq (w : Nat) (m0 : Nat) (ms a : List Nat) (ha : Wf w a)
    (hm0 : 0 < m0) (hm0B : m0 < 2 ^ w) (hms : ∀ x ∈ ms, x = 2 ^ w - 1) (hms1 : 0 < ms.length)
    (hl : a.length = (ms.length + 1) + (ms.length + 1)) :
    zzRedCrand_fast w a (m0 :: ms) = crandRes w m0 ms a := by
  obtain ⟨a0, at1, r12, hr1, -, hpre⟩ := crand_pre ⟨ha, hl, rfl⟩ hm0 hm0B hms rfl hms1
  obtain ⟨-, hmod, -⟩ := crand_mod hm0 hm0B hms rfl
  obtain ⟨V, hV, -⟩ := hpre rfl rfl rfl
  unfold zzRedCrand_fast crandRes
  simp only [List.length_cons, List.headD_cons, zzAddMulW, zzAddW2]
  simp only [hr1]
  simp only [wwCmp_safe_ge w _ (m0 :: ms) hV.wf hmod.wf (hV.len.trans hmod.len.symm)]

theorem zzRedCrand_safe_eq (w : Nat) (m0 : Nat) (ms a : List Nat) (ha : Wf w a)
    (hm0 : 0 < m0) (hm0B : m0 < 2 ^ w) (hms : ∀ x ∈ ms, x = 2 ^ w - 1) (hms1 : 0 < ms.length)
    (hl : a.length = (ms.length + 1) + (ms.length + 1)) :
    zzRedCrand_safe w a (m0 :: ms) = crandRes w m0 ms a := by
  obtain ⟨a0, at1, r12, hr1, hlat, hpre⟩ := crand_pre ⟨ha, hl, rfl⟩ hm0 hm0B hms rfl hms1
  obtain ⟨-, hmod, -⟩ := crand_mod hm0 hm0B hms rfl
  have hw : 0 < w := by
    rcases Nat.eq_zero_or_pos w with h | h
    · subst h; simp at hm0B; omega
    · exact h
  have hcB : wneg w m0 < 2 ^ w := Nat.mod_lt _ (Nat.two_pow_pos w)
  unfold zzRedCrand_safe crandRes
  simp only [List.length_cons, List.headD_cons, List.tail_cons, zzAddMulW, zzAddW2]
  simp only [hr1]
  rw [zzRedCrandLoop_eq w at1 ms _ _ hlat]
  simp only
  generalize hhi : dlo w (dshr w (dadd w (dmul w r12 (wneg w m0)) a0)) = hi
  generalize hlo : dlo w (dadd w (dmul w r12 (wneg w m0)) a0) = lo
  generalize hr2 : zzAddW w at1 hi = r2
  obtain ⟨va', hV, u3, -⟩ := hpre hlo hhi hr2
  -- the mask is the full comparison of a' with mod
  have hmask0 : wleq01 m0 lo = maskStep 1 m0 lo := by
    rw [Add.maskStep_eq (by omega)]
    show (if m0 ≤ lo then 1 else 0) = _
    split_ifs <;> first | rfl | (exfalso; omega)
  have hmask : (zzRedMontCmp r2.1 ms (wleq01 m0 lo)).2
      = (zzRedMontCmp (lo :: r2.1) (m0 :: ms) 1).2 := by
    rw [hmask0]; rfl
  obtain ⟨_, c2⟩ := zzRedMontCmp_spec w (lo :: r2.1) (m0 :: ms) 1 hV.wf hmod.wf
    (hV.len.trans hmod.len.symm) (by omega)
  rw [hmask, c2, hV.eq]
  have hf : (if val w (m0 :: ms) < va' then 1
      else if val w (m0 :: ms) = va' then 1 else 0) ||| r2.2 ≤ 1 :=
    lor_le_one (by split_ifs <;> omega) u3
  rw [wneg01 hw hf]
  generalize val w (m0 :: ms) = M at *
  by_cases hcnd : r2.2 ≠ 0 ∨ M ≤ va'
  · rw [if_pos hcnd]
    have hne : ¬ ((if M < va' then 1 else if M = va' then 1 else 0) ||| r2.2 = 0) := by
      intro h
      rw [Nat.or_eq_zero_iff] at h
      obtain ⟨h1, h2⟩ := h
      split_ifs at h1 <;> omega
    rw [if_neg hne, Nat.and_comm, Nat.and_two_pow_sub_one_eq_mod, Nat.mod_eq_of_lt hcB]
  · rw [if_neg hcnd]
    have he : (if M < va' then 1 else if M = va' then 1 else 0) ||| r2.2 = 0 := by
      rw [Nat.or_eq_zero_iff]
      refine ⟨?_, by omega⟩
      split_ifs <;> omega
    rw [if_pos he, Nat.zero_and, Add.zzAddW_zero w _ hV.wf]

/-! ## §12 zzModW2 -/

/-- `b = (WORD_MAX - w + 1) % w` is `B mod w` -/
theorem zzModW2B_eq (w x : Nat) (hx0 : 0 < x) (hx : x < 2 ^ w) : zzModW2B w x = 2 ^ w % x := by
  show ((2 ^ w - 1 + (2 ^ w - x % 2 ^ w)) % 2 ^ w + 1) % 2 ^ w % x = _
  rw [Nat.mod_eq_of_lt hx]
  have h1 : (2 ^ w - 1 + (2 ^ w - x)) % 2 ^ w = 2 ^ w - 1 - x := by
    rw [mod_wrap (by omega)]; split_ifs <;> omega
  have h2 : (2 ^ w - 1 - x + 1) % 2 ^ w = 2 ^ w - x := by
    rw [Nat.mod_eq_of_lt (by omega)]; omega
  rw [h1, h2]
  exact (Nat.mod_eq_sub_mod (by omega)).symm

theorem mod_cong1 {x B b r1 r0 : Nat} (hb : b = B % x) :
    (r1 * b + r0 % x) % x = (r1 * B + r0) % x := by
  subst hb
  rw [Nat.add_mod, Nat.mul_mod, Nat.mod_mod, Nat.mod_mod, ← Nat.mul_mod, ← Nat.add_mod]

theorem mod_cong2 {x B b r1 r0 a0 v : Nat} (hb : b = B % x) (h : (r1 * B + r0) % x = v % x) :
    ((r1 * b + r0) * b + a0) % x = (a0 + B * v) % x := by
  have e : (r1 * b + r0) % x = v % x := by
    rw [← h, hb, Nat.add_mod, Nat.mul_mod, Nat.mod_mod, ← Nat.mul_mod, ← Nat.add_mod]
  calc ((r1 * b + r0) * b + a0) % x
      = (((r1 * b + r0) % x) * (b % x) % x + a0 % x) % x := by rw [Nat.add_mod, Nat.mul_mod]
    _ = ((v % x) * (B % x) % x + a0 % x) % x := by rw [e, hb, Nat.mod_mod]
    _ = (a0 + B * v) % x := by
      rw [Nat.add_mod a0, Nat.mul_mod B, Nat.add_comm, Nat.mul_comm]

/-- one iteration of the first loop of zzModW2: no double-word overflow, the bound
    `r1 ≤ b + b^2` is kept (comment block above zzDivW) -/
theorem modw2StepB {B b r1 r0 a0 : Nat} (hB : 0 < B) (hK : b + b * b + 1 ≤ B)
    (hr1 : r1 ≤ b + b * b) (hr0 : r0 < B) (ha0 : a0 < B) :
    let T := ((r1 * b % (B * B) + r0) % (B * B) * b % (B * B) + a0) % (B * B)
    T = (r1 * b + r0) * b + a0 ∧ T / B ≤ b + b * b ∧ T % B < B := by
  intro T
  obtain ⟨u, rfl⟩ : ∃ u, B = u + 1 := ⟨B - 1, by omega⟩
  generalize hKd : b + b * b = K at *
  have h1 : r1 * b ≤ K * b := Nat.mul_le_mul_right _ hr1
  have h2 : (r1 * b + r0) * b ≤ (K * b + u) * b := Nat.mul_le_mul_right _ (by omega)
  have h3 : K * b * b ≤ u * (b * b) := by
    rw [Nat.mul_assoc]; exact Nat.mul_le_mul_right _ (by omega)
  have h4 : (r1 * b + r0) * b + a0 ≤ u * (K + 1) := by
    have : (K * b + u) * b = K * b * b + u * b := by ring
    have : u * (K + 1) = u * (b * b) + u * b + u := by rw [← hKd]; ring
    omega
  have h5 : u * (K + 1) < (u + 1) * (K + 1) :=
    Nat.mul_lt_mul_of_pos_right (Nat.lt_succ_self u) (Nat.succ_pos K)
  have h6 : (u + 1) * (K + 1) ≤ (u + 1) * (u + 1) := Nat.mul_le_mul_left _ (by omega)
  have hb1 : r1 * b ≤ (r1 * b + r0) * b + a0 ∨ b = 0 := by
    rcases Nat.eq_zero_or_pos b with h | h
    · right; exact h
    · left
      have : (r1 * b + r0) * 1 ≤ (r1 * b + r0) * b := Nat.mul_le_mul_left _ h
      omega
  have e1 : r1 * b % ((u + 1) * (u + 1)) = r1 * b := Nat.mod_eq_of_lt (by
    rcases hb1 with h | h
    · omega
    · subst h; simp)
  have hS : r1 * b + r0 < (u + 1) * (u + 1) := by
    have := mul_add_lt (B := u + 1) (x := r1) (a := b) (c := r0) (b := 0) (by omega) (by omega)
      hr0 (by omega)
    omega
  have e : T = (r1 * b + r0) * b + a0 := by
    show ((r1 * b % ((u + 1) * (u + 1)) + r0) % ((u + 1) * (u + 1)) * b % ((u + 1) * (u + 1)) + a0)
      % ((u + 1) * (u + 1)) = _
    rw [e1, Nat.mod_eq_of_lt hS, Nat.mod_eq_of_lt (a := (r1 * b + r0) * b) (by omega),
      Nat.mod_eq_of_lt (by omega)]
  refine ⟨e, ?_, Nat.mod_lt _ hB⟩
  rw [e]
  have : ((r1 * b + r0) * b + a0) / (u + 1) < K + 1 := Nat.div_lt_of_lt_mul (by omega)
  omega

theorem zzModW2Loop_spec (w : Nat) (x : Nat) (a : List Nat) (ha : Wf w a)
    (hK : 2 ^ w % x + 2 ^ w % x * (2 ^ w % x) + 1 ≤ 2 ^ w) :
    (zzModW2Loop w (2 ^ w % x) a).1 ≤ 2 ^ w % x + 2 ^ w % x * (2 ^ w % x)
    ∧ (zzModW2Loop w (2 ^ w % x) a).2 < 2 ^ w
    ∧ ((zzModW2Loop w (2 ^ w % x) a).1 * 2 ^ w + (zzModW2Loop w (2 ^ w % x) a).2) % x
      = val w a % x := by
  have hB : 0 < 2 ^ w := Nat.two_pow_pos w
  induction a with
  | nil => simp [zzModW2Loop, val, hB]
  | cons a0 as ih =>
    obtain ⟨ha0, has⟩ := Wf_cons.mp ha
    obtain ⟨i1, i2, i3⟩ := ih has
    obtain ⟨s1, s2, s3⟩ := modw2StepB hB hK i1 i2 ha0
    simp only [zzModW2Loop, dmul, dadd, dshr, dlo, pow2w, val_cons]
    refine ⟨s2, s3, ?_⟩
    rw [Nat.mul_comm, Nat.div_add_mod, s1]
    exact mod_cong2 rfl i3

/-- one normalisation step `r <- r1 b + (r0 % mod)` -/
theorem modw2NormB {B x b r1 r0 bound : Nat} (hx0 : 0 < x) (hxB : x ≤ B) (hb : b = B % x)
    (hr1 : r1 ≤ bound) (hbound : bound < B) :
    let T := (r1 * b % (B * B) + r0 % x) % (B * B)
    T = r1 * b + r0 % x ∧ T ≤ (bound + 1) * (x - 1) ∧ T % x = (r1 * B + r0) % x := by
  intro T
  have hbx : b < x := by rw [hb]; exact Nat.mod_lt _ hx0
  have hm : r0 % x < x := Nat.mod_lt _ hx0
  have h1 : r1 * b ≤ bound * (x - 1) := Nat.mul_le_mul hr1 (by omega)
  have h2 : (bound + 1) * (x - 1) = bound * (x - 1) + (x - 1) := by rw [Nat.add_mul, Nat.one_mul]
  have h3 : (bound + 1) * (x - 1) ≤ B * (x - 1) := Nat.mul_le_mul_right _ (by omega)
  have h4 : B * (x - 1) < B * B := Nat.mul_lt_mul_of_pos_left (by omega) (by omega)
  have e : T = r1 * b + r0 % x := by
    show (r1 * b % (B * B) + r0 % x) % (B * B) = _
    rw [Nat.mod_eq_of_lt (a := r1 * b) (by omega), Nat.mod_eq_of_lt (by omega)]
  refine ⟨e, by omega, ?_⟩
  rw [e]; exact mod_cong1 hb

theorem zzModW2_pre {w x : Nat} (hx2 : 2 ≤ x) (hxx : x * x ≤ 2 ^ w) :
    x < 2 ^ w ∧ 2 ^ w % x + 2 ^ w % x * (2 ^ w % x) + 1 ≤ 2 ^ w := by
  have h1 : x * 2 ≤ x * x := Nat.mul_le_mul_left _ hx2
  have hb : 2 ^ w % x < x := Nat.mod_lt _ (by omega)
  generalize 2 ^ w % x = b at *
  obtain ⟨y, rfl⟩ : ∃ y, x = y + 1 := ⟨x - 1, by omega⟩
  have h2 : b * (b + 1) ≤ y * (y + 1) := Nat.mul_le_mul (by omega) (by omega)
  have h3 : (y + 1) * (y + 1) = y * (y + 1) + (y + 1) := by ring
  have h4 : b * (b + 1) = b * b + b := by ring
  exact ⟨by omega, by omega⟩

theorem zzModW2_spec (w : Nat) (a : List Nat) (x : Nat) (ha : Wf w a) (hx0 : 0 < x)
    (hxx : x * x ≤ 2 ^ w) : zzModW2 w a x = val w a % x := by
  rcases Nat.lt_or_ge x 2 with h1 | hx2
  · obtain rfl : x = 1 := by omega
    simp [zzModW2, Nat.mod_one]
  obtain ⟨hxB, hK⟩ := zzModW2_pre hx2 hxx
  have hB : 0 < 2 ^ w := Nat.two_pow_pos w
  obtain ⟨l1, l2, l3⟩ := zzModW2Loop_spec w x a ha hK
  unfold zzModW2
  simp only [zzModW2B_eq w x hx0 hxB, dmul, dadd, dshr, dlo, pow2w]
  generalize zzModW2Loop w (2 ^ w % x) a = st at *
  obtain ⟨a1, a2, a3⟩ := modw2NormB (B := 2 ^ w) (b := 2 ^ w % x) (r0 := st.2) hx0 (by omega) rfl
    (show st.1 ≤ 2 ^ w - 1 by omega) (by omega)
  have a3' := a3.trans l3
  generalize (st.1 * (2 ^ w % x) % (2 ^ w * 2 ^ w) + st.2 % x) % (2 ^ w * 2 ^ w) = T1 at *
  have hT1 : T1 / 2 ^ w ≤ x - 1 := by
    apply Nat.div_le_of_le_mul
    rw [Nat.sub_add_cancel (by omega)] at a2
    exact a2
  obtain ⟨b1, b2, b3⟩ := modw2NormB (B := 2 ^ w) (b := 2 ^ w % x) (r0 := T1 % 2 ^ w) hx0 (by omega) rfl hT1 (by omega)
  rw [Nat.mul_comm (T1 / 2 ^ w) (2 ^ w), Nat.div_add_mod] at b3
  generalize (T1 / 2 ^ w * (2 ^ w % x) % (2 ^ w * 2 ^ w) + T1 % 2 ^ w % x) % (2 ^ w * 2 ^ w)
    = T2 at *
  have hT2 : T2 < 2 ^ w := by
    rw [Nat.sub_add_cancel (by omega)] at b2
    have : x * (x - 1) < x * x := Nat.mul_lt_mul_of_pos_left (by omega) (by omega)
    omega
  rw [Nat.mod_eq_of_lt hT2, b3, a3']

theorem zzModW2FLoop_zero (w b x fuel r0 : Nat) : zzModW2FLoop w b x fuel 0 r0 = (0, r0) := by
  cases fuel <;> simp [zzModW2FLoop]

theorem zzModW2FLoop_spec (w x fuel r1 r0 : Nat) (hx2 : 2 ≤ x) (hxx : x * x ≤ 2 ^ w)
    (hfuel : 2 ≤ fuel) (hr1 : r1 < 2 ^ w) :
    (zzModW2FLoop w (2 ^ w % x) x fuel r1 r0).2 % x = (r1 * 2 ^ w + r0) % x := by
  obtain ⟨hxB, _⟩ := zzModW2_pre hx2 hxx
  obtain ⟨f, rfl⟩ : ∃ f, fuel = f + 2 := ⟨fuel - 2, by omega⟩
  have hB : 0 < 2 ^ w := Nat.two_pow_pos w
  by_cases h0 : r1 = 0
  · subst h0; simp [zzModW2FLoop_zero]
  obtain ⟨a1, a2, a3⟩ := modw2NormB (B := 2 ^ w) (b := 2 ^ w % x) (r0 := r0) (show 0 < x by omega) (by omega) rfl
    (show r1 ≤ 2 ^ w - 1 by omega) (by omega)
  rw [zzModW2FLoop]
  simp only [h0, if_false, dmul, dadd, dshr, dlo, pow2w]
  rw [← a3]
  generalize (r1 * (2 ^ w % x) % (2 ^ w * 2 ^ w) + r0 % x) % (2 ^ w * 2 ^ w) = T1 at *
  have hT1 : T1 / 2 ^ w ≤ x - 1 := by
    apply Nat.div_le_of_le_mul
    rw [Nat.sub_add_cancel (by omega)] at a2
    exact a2
  by_cases h1 : T1 / 2 ^ w = 0
  · rw [h1, zzModW2FLoop_zero]
    have := Nat.div_add_mod T1 (2 ^ w)
    rw [h1] at this
    simp only [Nat.mul_zero, Nat.zero_add] at this
    rw [this]
  obtain ⟨b1, b2, b3⟩ := modw2NormB (B := 2 ^ w) (b := 2 ^ w % x) (r0 := T1 % 2 ^ w) (show 0 < x by omega) (by omega) rfl hT1
    (by omega)
  rw [Nat.mul_comm (T1 / 2 ^ w) (2 ^ w), Nat.div_add_mod] at b3
  rw [zzModW2FLoop]
  simp only [h1, if_false, dmul, dadd, dshr, dlo, pow2w]
  generalize (T1 / 2 ^ w * (2 ^ w % x) % (2 ^ w * 2 ^ w) + T1 % 2 ^ w % x) % (2 ^ w * 2 ^ w)
    = T2 at *
  have hT2 : T2 < 2 ^ w := by
    rw [Nat.sub_add_cancel (by omega)] at b2
    have : x * (x - 1) < x * x := Nat.mul_lt_mul_of_pos_left (by omega) (by omega)
    omega
  rw [Nat.div_eq_of_lt hT2, zzModW2FLoop_zero, Nat.mod_eq_of_lt hT2, b3]

theorem zzModW2F_spec (w : Nat) (a : List Nat) (x : Nat) (ha : Wf w a) (hx0 : 0 < x)
    (hxx : x * x ≤ 2 ^ w) : zzModW2F w a x = val w a % x := by
  rcases Nat.lt_or_ge x 2 with h1 | hx2
  · obtain rfl : x = 1 := by omega
    simp [zzModW2F, Nat.mod_one]
  obtain ⟨hxB, hK⟩ := zzModW2_pre hx2 hxx
  obtain ⟨l1, l2, l3⟩ := zzModW2Loop_spec w x a ha hK
  unfold zzModW2F
  simp only [zzModW2B_eq w x hx0 hxB]
  have hfuel : 2 ≤ 2 ^ (2 * w) := by
    rw [pow2w]
    have : 2 * 2 ≤ 2 ^ w * 2 ^ w := Nat.mul_le_mul (by omega) (by omega)
    omega
  rw [zzModW2FLoop_spec w x _ _ _ hx2 hxx hfuel (by omega), l3]

end Bee2V.C05.Mul
