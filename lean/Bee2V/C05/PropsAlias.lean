/-
C05 — aliasing: "for every aliasing of operands the documentation allows".

The list models (ModelAdd.lean, ModelMul.lean) are functions of the original contents of their
inputs.  Here the same loops run on a memory with addresses (ModelAlias.lean: `loop2`, `loop1`,
`loopIO`, `loop1Desc`, `loop2Post`, `loop1Post`, reading memory at the time of each iteration, in
the C order), and the theorems say: whenever the output region `c` is *the same as or disjoint
from* each input region (`SameOrDisj`, the `wwIsSameOrDisjoint` of the C ASSERTs — the header's
"Буфер c либо не пересекается, либо совпадает с каждым из буферов a, b"), the final contents of
`c` and the returned register equal the list model applied to the ORIGINAL contents of the input
regions, and no address outside `[c, c + n)` changes.  Nothing is assumed about how the input
regions overlap each other (`a == b`, partial overlap of `a` and `b`: they are only read).

`m : Mem = Nat → Nat` is arbitrary, `n` arbitrary, the word size `w` arbitrary.
Negative examples show that the hypothesis matters (partial overlap breaks the equality).
-/
import Bee2V.C05.LemmasAlias
namespace Bee2V.C05
open Bee2V.C05.Alias

/-! ## the generic theorems -/

/-- Binary ascending loop `for i: (s, v) = step(s, a[i], b[i]); c[i] = v` on memory, with `c`
    same-or-disjoint w.r.t. `a` and w.r.t. `b`: final `c` and state = the list computation on the
    original contents of `a`, `b`; everything outside `c` is unchanged. -/
theorem loop2_alias {σ : Type} (step : σ → Nat → Nat → σ × Nat) (a b c n : Nat) (s : σ) (m : Mem)
    (ha : SameOrDisj c a n) (hb : SameOrDisj c b n) :
    readN (loop2 step a b c n s m).1 c n = (pure2 step s (readN m a n) (readN m b n)).1
    ∧ (loop2 step a b c n s m).2 = (pure2 step s (readN m a n) (readN m b n)).2
    ∧ ∀ j, (j < c ∨ c + n ≤ j) → (loop2 step a b c n s m).1 j = m j := by
  simpa [loop2] using loop2I_spec step a b c n 0 s m (by simpa [SameOrDisj] using ha)
    (by simpa [SameOrDisj] using hb)

-- the five documented patterns satisfy the hypotheses (for every n, m):
example {σ : Type} (step : σ → Nat → Nat → σ × Nat) (a n : Nat) (s : σ) (m : Mem) :=
  loop2_alias step a a a n s m (Or.inl rfl) (Or.inl rfl)                       -- c == a == b
example {σ : Type} (step : σ → Nat → Nat → σ × Nat) (a n : Nat) (s : σ) (m : Mem) :=
  loop2_alias step a (a + n) a n s m (Or.inl rfl) (Or.inr (Or.inl (Nat.le_refl _)))  -- c == a, b disjoint
example {σ : Type} (step : σ → Nat → Nat → σ × Nat) (a n : Nat) (s : σ) (m : Mem) :=
  loop2_alias step (a + n) a a n s m (Or.inr (Or.inl (Nat.le_refl _))) (Or.inl rfl)  -- c == b, a disjoint
example {σ : Type} (step : σ → Nat → Nat → σ × Nat) (a n : Nat) (s : σ) (m : Mem) :=
  loop2_alias step a a (a + n) n s m (Or.inr (Or.inr (Nat.le_refl _)))
    (Or.inr (Or.inr (Nat.le_refl _)))                                          -- a == b, c disjoint

/-- The hypothesis matters: with a partially overlapping output (`c = a + 1`) the memory loop
    (here zzAdd(a + 1, a, a, 3)) does NOT compute the list function of the original contents —
    iteration 1 reads the word iteration 0 has just stored. -/
example :
    let m := ofList [1, 2, 3, 4] 0
    readN (zzAddMem 8 1 0 0 3 m).1 1 3 = [2, 4, 8]
    ∧ (zzAdd 8 (readN m 0 3) (readN m 0 3)).1 = [2, 4, 6]
    ∧ ¬ SameOrDisj 1 0 3 := by decide

/-- Unary ascending loop `for i: (s, v) = step(s, a[i]); c[i] = v`. -/
theorem loop1_alias {σ : Type} (step : σ → Nat → σ × Nat) (a c n : Nat) (s : σ) (m : Mem)
    (ha : SameOrDisj c a n) :
    readN (loop1 step a c n s m).1 c n = (pure1 step s (readN m a n)).1
    ∧ (loop1 step a c n s m).2 = (pure1 step s (readN m a n)).2
    ∧ ∀ j, (j < c ∨ c + n ≤ j) → (loop1 step a c n s m).1 j = m j := by
  simpa [loop1] using loop1I_spec step a c n 0 s m (by simpa [SameOrDisj] using ha)

/-- In/out loop `for i: (s, v) = step(s, b[i], a[i]); b[i] = v` (`b[i] op= …`), `b` same-or-disjoint
    w.r.t. `a`. -/
theorem loopIO_alias {σ : Type} (step : σ → Nat → Nat → σ × Nat) (b a n : Nat) (s : σ) (m : Mem)
    (ha : SameOrDisj b a n) :
    readN (loopIO step b a n s m).1 b n = (pure2 step s (readN m b n) (readN m a n)).1
    ∧ (loopIO step b a n s m).2 = (pure2 step s (readN m b n) (readN m a n)).2
    ∧ ∀ j, (j < b ∨ b + n ≤ j) → (loopIO step b a n s m).1 j = m j := by
  rw [loopIO_eq]
  exact loop2_alias step b a b n s m (Or.inl rfl) ha

/-- Descending loop `while (n--) { (s, v) = step(s, a[n]); c[n] = v; }`: the list computation
    threads the state from the top word down. -/
theorem loop1Desc_alias {σ : Type} (step : σ → Nat → σ × Nat) (a c n : Nat) (s : σ) (m : Mem)
    (ha : SameOrDisj c a n) :
    readN (loop1Desc step a c n s m).1 c n = (pure1Desc step s (readN m a n)).1
    ∧ (loop1Desc step a c n s m).2 = (pure1Desc step s (readN m a n)).2
    ∧ ∀ j, (j < c ∨ c + n ≤ j) → (loop1Desc step a c n s m).1 j = m j :=
  loop1Desc_spec step a c n s m ha

/-- The hypothesis matters for the descending loop too — in the other direction: `a = q + 1`
    (zzDivW(q, q + 1, 3, 3)) differs from the list function, while the same shift is harmless for
    an ascending loop and vice versa. -/
example :
    let m := ofList [9, 7, 5, 4] 0
    readN (zzDivWMem 8 0 1 3 3 m).1 0 3 ≠ (zzDivW 8 (readN m 1 3) 3).1
    ∧ ¬ SameOrDisj 0 1 3 := by decide

/-- Binary loop whose iteration reads `d[i]` and re-reads `c[i]` AFTER the store to `c[i]`
    (SAFE modular routines: `d` = `mod`): `c` same-or-disjoint w.r.t. `a`, `b` and DISJOINT from `d`. -/
theorem loop2Post_alias {σ : Type} (step : σ → Nat → Nat → σ × Nat) (post : σ → Nat → Nat → σ)
    (a b d c n : Nat) (s : σ) (m : Mem)
    (ha : SameOrDisj c a n) (hb : SameOrDisj c b n) (hd : Disj c d n) :
    readN (loop2Post step post a b d c n s m).1 c n
      = (pure2Post step post s (readN m a n) (readN m b n) (readN m d n)).1
    ∧ (loop2Post step post a b d c n s m).2
      = (pure2Post step post s (readN m a n) (readN m b n) (readN m d n)).2
    ∧ ∀ j, (j < c ∨ c + n ≤ j) → (loop2Post step post a b d c n s m).1 j = m j := by
  simpa [loop2Post] using loop2PostI_spec step post a b d c n 0 s m
    (by simpa [SameOrDisj] using ha) (by simpa [SameOrDisj] using hb) (by simpa using hd)

/-- Unary loop with the post-store reads. -/
theorem loop1Post_alias {σ : Type} (step : σ → Nat → σ × Nat) (post : σ → Nat → Nat → σ)
    (a d c n : Nat) (s : σ) (m : Mem) (ha : SameOrDisj c a n) (hd : Disj c d n) :
    readN (loop1Post step post a d c n s m).1 c n
      = (pure1Post step post s (readN m a n) (readN m d n)).1
    ∧ (loop1Post step post a d c n s m).2
      = (pure1Post step post s (readN m a n) (readN m d n)).2
    ∧ ∀ j, (j < c ∨ c + n ≤ j) → (loop1Post step post a d c n s m).1 j = m j := by
  simpa [loop1Post] using loop1PostI_spec step post a d c n 0 s m
    (by simpa [SameOrDisj] using ha) (by simpa using hd)

/-- `mod == c` is NOT allowed for the SAFE modular routines (the mask would compare c with itself):
    SAFE(zzAddMod)(c, a, b, c, 2) differs from the list function. -/
example :
    let m := ofList [3, 0, 200, 0, 100, 0] 0
    readN (zzAddModMem_safe 8 0 2 4 0 2 m) 0 2
      ≠ zzAddMod_safe 8 (readN m 2 2) (readN m 4 2) (readN m 0 2) := by decide

/-! ## zz_add.c -/

/-- zzAdd(c, a, b, n) with c == a, c == b, a == b, all equal, or c disjoint from a and b. -/
theorem zzAdd_alias (w c a b n : Nat) (m : Mem) (ha : SameOrDisj c a n) (hb : SameOrDisj c b n) :
    readN (zzAddMem w c a b n m).1 c n = (zzAdd w (readN m a n) (readN m b n)).1
    ∧ (zzAddMem w c a b n m).2 = (zzAdd w (readN m a n) (readN m b n)).2
    ∧ ∀ j, (j < c ∨ c + n ≤ j) → (zzAddMem w c a b n m).1 j = m j := by
  unfold zzAddMem zzAdd
  rw [zzAddLoop_eq]
  exact loop2_alias _ a b c n 0 m ha hb

example (w a n : Nat) (m : Mem) := zzAdd_alias w a a a n m (Or.inl rfl) (Or.inl rfl)
example : readN (zzAddMem 8 0 0 0 3 (ofList [255, 255, 1] 0)).1 0 3 = [254, 255, 3] := by decide

/-- zzSub(c, a, b, n), same patterns. -/
theorem zzSub_alias (w c a b n : Nat) (m : Mem) (ha : SameOrDisj c a n) (hb : SameOrDisj c b n) :
    readN (zzSubMem w c a b n m).1 c n = (zzSub w (readN m a n) (readN m b n)).1
    ∧ (zzSubMem w c a b n m).2 = (zzSub w (readN m a n) (readN m b n)).2
    ∧ ∀ j, (j < c ∨ c + n ≤ j) → (zzSubMem w c a b n m).1 j = m j := by
  unfold zzSubMem zzSub
  rw [zzSubLoop_eq]
  exact loop2_alias _ a b c n 0 m ha hb

example (w a b n : Nat) (m : Mem) (h : Disj b a n) := zzSub_alias w b a b n m (Or.inr h) (Or.inl rfl)
example : (zzSubMem 8 2 0 2 2 (ofList [1, 0, 2, 0] 0)).2 = 1 := by decide

/-- zzAdd2(b, a, n) with b == a or disjoint. -/
theorem zzAdd2_alias (w b a n : Nat) (m : Mem) (h : SameOrDisj b a n) :
    readN (zzAdd2Mem w b a n m).1 b n = (zzAdd2 w (readN m b n) (readN m a n)).1
    ∧ (zzAdd2Mem w b a n m).2 = (zzAdd2 w (readN m b n) (readN m a n)).2
    ∧ ∀ j, (j < b ∨ b + n ≤ j) → (zzAdd2Mem w b a n m).1 j = m j := by
  unfold zzAdd2Mem zzAdd2
  rw [zzAdd2Loop_eq]
  exact loopIO_alias _ b a n 0 m h

example (w a n : Nat) (m : Mem) := zzAdd2_alias w a a n m (Or.inl rfl)
example : readN (zzAdd2Mem 8 0 0 2 (ofList [200, 1] 0)).1 0 2 = [144, 3] := by decide

/-- zzSub2(b, a, n) with b == a or disjoint. -/
theorem zzSub2_alias (w b a n : Nat) (m : Mem) (h : SameOrDisj b a n) :
    readN (zzSub2Mem w b a n m).1 b n = (zzSub2 w (readN m b n) (readN m a n)).1
    ∧ (zzSub2Mem w b a n m).2 = (zzSub2 w (readN m b n) (readN m a n)).2
    ∧ ∀ j, (j < b ∨ b + n ≤ j) → (zzSub2Mem w b a n m).1 j = m j := by
  unfold zzSub2Mem zzSub2
  rw [zzSub2Loop_eq]
  exact loopIO_alias _ b a n 0 m h

example (w a n : Nat) (m : Mem) := zzSub2_alias w a a n m (Or.inl rfl)

/-- zzAddW(b, a, n, x) with b == a (this is also zzAddW2) or disjoint. -/
theorem zzAddW_alias (w b a n x : Nat) (m : Mem) (h : SameOrDisj b a n) :
    readN (zzAddWMem w b a n x m).1 b n = (zzAddW w (readN m a n) x).1
    ∧ (zzAddWMem w b a n x m).2 = (zzAddW w (readN m a n) x).2
    ∧ ∀ j, (j < b ∨ b + n ≤ j) → (zzAddWMem w b a n x m).1 j = m j := by
  unfold zzAddWMem
  rw [zzAddW_eq]
  exact loop1_alias _ a b n x m h

example (w a n x : Nat) (m : Mem) := zzAddW_alias w a a n x m (Or.inl rfl)
example : readN (zzAddWMem 8 0 0 2 1 (ofList [255, 7] 0)).1 0 2 = [0, 8] := by decide

/-- zzSubW(b, a, n, x) with b == a (zzSubW2) or disjoint. -/
theorem zzSubW_alias (w b a n x : Nat) (m : Mem) (h : SameOrDisj b a n) :
    readN (zzSubWMem w b a n x m).1 b n = (zzSubW w (readN m a n) x).1
    ∧ (zzSubWMem w b a n x m).2 = (zzSubW w (readN m a n) x).2
    ∧ ∀ j, (j < b ∨ b + n ≤ j) → (zzSubWMem w b a n x m).1 j = m j := by
  unfold zzSubWMem
  rw [zzSubW_eq]
  exact loop1_alias _ a b n x m h

example (w a n x : Nat) (m : Mem) := zzSubW_alias w a a n x m (Or.inl rfl)

/-! ## zz_etc.c -/

/-- zzAddAndW(b, a, n, msk) with b == a or disjoint. -/
theorem zzAddAndW_alias (w b a n msk : Nat) (m : Mem) (h : SameOrDisj b a n) :
    readN (zzAddAndWMem w b a n msk m).1 b n = zzAddAndW w (readN m b n) (readN m a n) msk
    ∧ ∀ j, (j < b ∨ b + n ≤ j) → (zzAddAndWMem w b a n msk m).1 j = m j := by
  unfold zzAddAndWMem zzAddAndW
  rw [zzAddAndWLoop_eq]
  obtain ⟨h1, _, h3⟩ := loopIO_alias (addAndWStep w msk) b a n 0 m h
  exact ⟨h1, h3⟩

example (w a n msk : Nat) (m : Mem) := zzAddAndW_alias w a a n msk m (Or.inl rfl)

/-- zzSubAndW(b, a, n, msk) with b == a or disjoint. -/
theorem zzSubAndW_alias (w b a n msk : Nat) (m : Mem) (h : SameOrDisj b a n) :
    readN (zzSubAndWMem w b a n msk m).1 b n = (zzSubAndW w (readN m b n) (readN m a n) msk).1
    ∧ (zzSubAndWMem w b a n msk m).2 = (zzSubAndW w (readN m b n) (readN m a n) msk).2
    ∧ ∀ j, (j < b ∨ b + n ≤ j) → (zzSubAndWMem w b a n msk m).1 j = m j := by
  unfold zzSubAndWMem zzSubAndW
  rw [zzSubAndWLoop_eq]
  exact loopIO_alias _ b a n 0 m h

example (w a n msk : Nat) (m : Mem) := zzSubAndW_alias w a a n msk m (Or.inl rfl)
example : readN (zzSubAndWMem 8 0 0 2 255 (ofList [5, 9] 0)).1 0 2 = [0, 0] := by decide

/-! ## zz_mul.c -/

/-- zzMulW(b, a, n, x) with b == a or disjoint. -/
theorem zzMulW_alias (w b a n x : Nat) (m : Mem) (h : SameOrDisj b a n) :
    readN (zzMulWMem w b a n x m).1 b n = (zzMulW w (readN m a n) x).1
    ∧ (zzMulWMem w b a n x m).2 = (zzMulW w (readN m a n) x).2
    ∧ ∀ j, (j < b ∨ b + n ≤ j) → (zzMulWMem w b a n x m).1 j = m j := by
  unfold zzMulWMem zzMulW
  rw [zzMulWLoop_eq]
  exact loop1_alias _ a b n 0 m h

example (w a n x : Nat) (m : Mem) := zzMulW_alias w a a n x m (Or.inl rfl)
example : (zzMulWMem 8 0 0 3 255 (ofList [255, 255, 255] 0)).2 = 254 := by decide

/-- zzAddMulW(b, a, n, x) with b == a or disjoint. -/
theorem zzAddMulW_alias (w b a n x : Nat) (m : Mem) (h : SameOrDisj b a n) :
    readN (zzAddMulWMem w b a n x m).1 b n = (zzAddMulW w (readN m b n) (readN m a n) x).1
    ∧ (zzAddMulWMem w b a n x m).2 = (zzAddMulW w (readN m b n) (readN m a n) x).2
    ∧ ∀ j, (j < b ∨ b + n ≤ j) → (zzAddMulWMem w b a n x m).1 j = m j := by
  unfold zzAddMulWMem zzAddMulW
  rw [zzAddMulWLoop_eq]
  exact loopIO_alias _ b a n 0 m h

example (w a n x : Nat) (m : Mem) := zzAddMulW_alias w a a n x m (Or.inl rfl)
example : readN (zzAddMulWMem 8 0 0 2 255 (ofList [255, 255] 0)).1 0 2 = [0, 255] := by decide

/-- zzSubMulW(b, a, n, x) with b == a or disjoint. -/
theorem zzSubMulW_alias (w b a n x : Nat) (m : Mem) (h : SameOrDisj b a n) :
    readN (zzSubMulWMem w b a n x m).1 b n = (zzSubMulW w (readN m b n) (readN m a n) x).1
    ∧ (zzSubMulWMem w b a n x m).2 = (zzSubMulW w (readN m b n) (readN m a n) x).2
    ∧ ∀ j, (j < b ∨ b + n ≤ j) → (zzSubMulWMem w b a n x m).1 j = m j := by
  unfold zzSubMulWMem zzSubMulW
  rw [zzSubMulWLoop_eq]
  exact loopIO_alias _ b a n 0 m h

example (w a n x : Nat) (m : Mem) := zzSubMulW_alias w a a n x m (Or.inl rfl)

/-- zzDivW(q, a, n, x) with q == a or disjoint; the loop runs from the top word down. -/
theorem zzDivW_alias (w q a n x : Nat) (m : Mem) (h : SameOrDisj q a n) :
    readN (zzDivWMem w q a n x m).1 q n = (zzDivW w (readN m a n) x).1
    ∧ (zzDivWMem w q a n x m).2 = (zzDivW w (readN m a n) x).2
    ∧ ∀ j, (j < q ∨ q + n ≤ j) → (zzDivWMem w q a n x m).1 j = m j := by
  unfold zzDivWMem
  rw [zzDivW_eq]
  exact loop1Desc_alias _ a q n 0 m h

example (w a n x : Nat) (m : Mem) := zzDivW_alias w a a n x m (Or.inl rfl)
example : (zzDivWMem 8 0 0 3 7 (ofList [1, 2, 3] 0)).2 = (1 + 2 * 256 + 3 * 65536) % 7 := by decide

/-! ## zz_mod.c -/

/-- the `b <- 2a` loop of FAST(zzDoubleMod)(b, a, …) with b == a or disjoint. -/
theorem zzDouble_alias (w b a n : Nat) (m : Mem) (h : SameOrDisj b a n) :
    readN (zzDoubleMem w b a n m).1 b n = (zzDoubleLoop w (readN m a n) 0).1
    ∧ (zzDoubleMem w b a n m).2 = (zzDoubleLoop w (readN m a n) 0).2
    ∧ ∀ j, (j < b ∨ b + n ≤ j) → (zzDoubleMem w b a n m).1 j = m j := by
  unfold zzDoubleMem
  rw [zzDoubleLoop_eq]
  exact loop1_alias _ a b n 0 m h

example (w a n : Nat) (m : Mem) := zzDouble_alias w a a n m (Or.inl rfl)

/-- the in-place shift loop of FAST(zzHalfMod) (`while (n--)` on b itself): ModelAdd's `zzHalfLoop`
    on the reversed contents, reversed back. -/
theorem zzHalfShift_alias (w b n carry : Nat) (m : Mem) :
    readN (zzHalfShiftMem w b n carry m).1 b n = (zzHalfLoop w (readN m b n).reverse carry).reverse
    ∧ ∀ j, (j < b ∨ b + n ≤ j) → (zzHalfShiftMem w b n carry m).1 j = m j := by
  unfold zzHalfShiftMem
  rw [zzHalfLoop_eq, List.reverse_reverse]
  obtain ⟨h1, _, h3⟩ := loop1Desc_alias (halfStep w) b b n carry m (Or.inl rfl)
  exact ⟨h1, h3⟩

example : readN (zzHalfShiftMem 8 0 2 1 (ofList [3, 1] 0)).1 0 2 = [129, 128] := by decide

/-- SAFE(zzAddMod)(c, a, b, mod, n) = add-and-compare loop, then zzSubAndW(c, mod, n, mask) on the
    memory the first loop left: c same-or-disjoint w.r.t. a and b, c disjoint from mod. -/
theorem zzAddMod_safe_alias (w c a b md n : Nat) (m : Mem)
    (ha : SameOrDisj c a n) (hb : SameOrDisj c b n) (hm : Disj c md n) :
    readN (zzAddModMem_safe w c a b md n m) c n
      = zzAddMod_safe w (readN m a n) (readN m b n) (readN m md n)
    ∧ ∀ j, (j < c ∨ c + n ≤ j) → zzAddModMem_safe w c a b md n m j = m j := by
  obtain ⟨h1, h2, h3⟩ := loop2Post_alias (addModStep w) maskPost a b md c n (0, 1) m ha hb hm
  -- for every mask word; the one the routine computes is read off the goal at the end
  have g := fun msk => Upd.then (f := fun x y => zzSubAndW w x y msk) ⟨h1, h3⟩ hm
    (zzSubAndW_alias w c md n msk _ (Or.inr hm))
  simp only [zzAddModMem_safe, zzAddMod_safe, zzAddMod_safeLoop_eq, h2]
  exact g _

example (w a n : Nat) (m : Mem) :=
  zzAddMod_safe_alias w a a a (a + n) n m (Or.inl rfl) (Or.inl rfl) (Or.inl (Nat.le_refl _))
example : readN (zzAddModMem_safe 8 0 0 0 2 2 (ofList [200, 0, 1, 1] 0)) 0 2 = [143, 0] := by decide

/-- SAFE(zzSubMod)(c, a, b, mod, n) = zzSub(c, a, b, n), then zzAddAndW(c, mod, n, mask). -/
theorem zzSubMod_safe_alias (w c a b md n : Nat) (m : Mem)
    (ha : SameOrDisj c a n) (hb : SameOrDisj c b n) (hm : Disj c md n) :
    readN (zzSubModMem_safe w c a b md n m) c n
      = zzSubMod_safe w (readN m a n) (readN m b n) (readN m md n)
    ∧ ∀ j, (j < c ∨ c + n ≤ j) → zzSubModMem_safe w c a b md n m j = m j := by
  obtain ⟨h1, h2, h3⟩ := zzSub_alias w c a b n m ha hb
  have hmod : readN (zzSubMem w c a b n m).1 md n = readN m md n :=
    readN_congr _ _ _ _ (fun j h1 h2 => h3 j (by simp only [Disj] at hm; omega))
  simp only [zzSubModMem_safe, zzSubMod_safe]
  obtain ⟨g1, g3⟩ := zzAddAndW_alias w c md n (wneg w (zzSubMem w c a b n m).2)
    (zzSubMem w c a b n m).1 (Or.inr hm)
  refine ⟨?_, fun j hj => by rw [g3 j hj, h3 j hj]⟩
  rw [g1, hmod, h1, h2]

example (w a n : Nat) (m : Mem) :=
  zzSubMod_safe_alias w a a a (a + n) n m (Or.inl rfl) (Or.inl rfl) (Or.inl (Nat.le_refl _))
example : readN (zzSubModMem_safe 8 0 0 2 4 2 (ofList [1, 0, 2, 0, 7, 1] 0)) 0 2 = [6, 1] := by decide

/-- SAFE(zzAddWMod)(b, a, x, mod, n): b == a or disjoint, b disjoint from mod. -/
theorem zzAddWMod_safe_alias (w b a x md n : Nat) (m : Mem)
    (ha : SameOrDisj b a n) (hm : Disj b md n) :
    readN (zzAddWModMem_safe w b a x md n m) b n
      = zzAddWMod_safe w (readN m a n) x (readN m md n)
    ∧ ∀ j, (j < b ∨ b + n ≤ j) → zzAddWModMem_safe w b a x md n m j = m j := by
  obtain ⟨h1, h2, h3⟩ := loop1Post_alias (addWModStep w) maskPost a md b n (x, 1) m ha hm
  have g := fun msk => Upd.then (f := fun x y => zzSubAndW w x y msk) ⟨h1, h3⟩ hm
    (zzSubAndW_alias w b md n msk _ (Or.inr hm))
  simp only [zzAddWModMem_safe, zzAddWMod_safe, zzAddWMod_safeLoop_eq, h2]
  exact g _

example (w a x n : Nat) (m : Mem) :=
  zzAddWMod_safe_alias w a a x (a + n) n m (Or.inl rfl) (Or.inl (Nat.le_refl _))
example : readN (zzAddWModMem_safe 8 0 0 9 2 2 (ofList [250, 0, 1, 1] 0)) 0 2 = [2, 0] := by decide

/-- SAFE(zzDoubleMod)(b, a, mod, n). -/
theorem zzDoubleMod_safe_alias (w b a md n : Nat) (m : Mem)
    (ha : SameOrDisj b a n) (hm : Disj b md n) :
    readN (zzDoubleModMem_safe w b a md n m) b n
      = zzDoubleMod_safe w (readN m a n) (readN m md n)
    ∧ ∀ j, (j < b ∨ b + n ≤ j) → zzDoubleModMem_safe w b a md n m j = m j := by
  obtain ⟨h1, h2, h3⟩ := loop1Post_alias (doubleModStep w) maskPost a md b n (0, 1) m ha hm
  have g := fun msk => Upd.then (f := fun x y => zzSubAndW w x y msk) ⟨h1, h3⟩ hm
    (zzSubAndW_alias w b md n msk _ (Or.inr hm))
  simp only [zzDoubleModMem_safe, zzDoubleMod_safe, zzDoubleMod_safeLoop_eq, h2]
  exact g _

example (w a n : Nat) (m : Mem) :=
  zzDoubleMod_safe_alias w a a (a + n) n m (Or.inl rfl) (Or.inl (Nat.le_refl _))
example : readN (zzDoubleModMem_safe 8 0 0 2 2 (ofList [200, 0, 1, 1] 0)) 0 2 = [143, 0] := by decide

/-- SAFE(zzSubWMod)(b, a, x, mod, n). -/
theorem zzSubWMod_safe_alias (w b a x md n : Nat) (m : Mem)
    (ha : SameOrDisj b a n) (hm : Disj b md n) :
    readN (zzSubWModMem_safe w b a x md n m) b n
      = zzSubWMod_safe w (readN m a n) x (readN m md n)
    ∧ ∀ j, (j < b ∨ b + n ≤ j) → zzSubWModMem_safe w b a x md n m j = m j := by
  obtain ⟨h1, h2, h3⟩ := zzSubW_alias w b a n x m ha
  have hmod : readN (zzSubWMem w b a n x m).1 md n = readN m md n :=
    readN_congr _ _ _ _ (fun j h1 h2 => h3 j (by simp only [Disj] at hm; omega))
  simp only [zzSubWModMem_safe, zzSubWMod_safe]
  obtain ⟨g1, g3⟩ := zzAddAndW_alias w b md n (wneg w (zzSubWMem w b a n x m).2)
    (zzSubWMem w b a n x m).1 (Or.inr hm)
  refine ⟨?_, fun j hj => by rw [g3 j hj, h3 j hj]⟩
  rw [g1, hmod, h1, h2]

example (w a x n : Nat) (m : Mem) :=
  zzSubWMod_safe_alias w a a x (a + n) n m (Or.inl rfl) (Or.inl (Nat.le_refl _))

/-- FAST(zzAddMod)(c, a, b, mod, n): zzAdd, a comparison that only reads, conditionally zzSub2(c, mod, n). -/
theorem zzAddMod_fast_alias (w c a b md n : Nat) (m : Mem)
    (ha : SameOrDisj c a n) (hb : SameOrDisj c b n) (hm : Disj c md n) :
    readN (zzAddModMem_fast w c a b md n m) c n
      = zzAddMod_fast w (readN m a n) (readN m b n) (readN m md n)
    ∧ ∀ j, (j < c ∨ c + n ≤ j) → zzAddModMem_fast w c a b md n m j = m j := by
  obtain ⟨h1, h2, h3⟩ := zzAdd_alias w c a b n m ha hb
  have g := Upd.then ⟨h1, h3⟩ hm (zzSub2_alias w c md n _ (Or.inr hm))
  simp only [zzAddModMem_fast, zzAddMod_fast, h2, h1, Upd.read ⟨h1, h3⟩ hm]
  split
  · exact g
  · exact ⟨h1, h3⟩

example (w a n : Nat) (m : Mem) :=
  zzAddMod_fast_alias w a a a (a + n) n m (Or.inl rfl) (Or.inl rfl) (Or.inl (Nat.le_refl _))
example : readN (zzAddModMem_fast 8 0 0 0 2 2 (ofList [200, 0, 1, 1] 0)) 0 2 = [143, 0] := by decide

/-- FAST(zzSubMod)(c, a, b, mod, n): zzSub, conditionally zzAdd2(c, mod, n). -/
theorem zzSubMod_fast_alias (w c a b md n : Nat) (m : Mem)
    (ha : SameOrDisj c a n) (hb : SameOrDisj c b n) (hm : Disj c md n) :
    readN (zzSubModMem_fast w c a b md n m) c n
      = zzSubMod_fast w (readN m a n) (readN m b n) (readN m md n)
    ∧ ∀ j, (j < c ∨ c + n ≤ j) → zzSubModMem_fast w c a b md n m j = m j := by
  obtain ⟨h1, h2, h3⟩ := zzSub_alias w c a b n m ha hb
  have g := Upd.then ⟨h1, h3⟩ hm (zzAdd2_alias w c md n _ (Or.inr hm))
  simp only [zzSubModMem_fast, zzSubMod_fast, h2]
  split
  · exact g
  · exact ⟨h1, h3⟩

example (w a n : Nat) (m : Mem) :=
  zzSubMod_fast_alias w a a a (a + n) n m (Or.inl rfl) (Or.inl rfl) (Or.inl (Nat.le_refl _))

/-- FAST(zzAddWMod)(b, a, x, mod, n). -/
theorem zzAddWMod_fast_alias (w b a x md n : Nat) (m : Mem)
    (ha : SameOrDisj b a n) (hm : Disj b md n) :
    readN (zzAddWModMem_fast w b a x md n m) b n
      = zzAddWMod_fast w (readN m a n) x (readN m md n)
    ∧ ∀ j, (j < b ∨ b + n ≤ j) → zzAddWModMem_fast w b a x md n m j = m j := by
  obtain ⟨h1, h2, h3⟩ := zzAddW_alias w b a n x m ha
  have g := Upd.then ⟨h1, h3⟩ hm (zzSub2_alias w b md n _ (Or.inr hm))
  simp only [zzAddWModMem_fast, zzAddWMod_fast, h2, h1, Upd.read ⟨h1, h3⟩ hm]
  split
  · exact g
  · exact ⟨h1, h3⟩

example (w a x n : Nat) (m : Mem) :=
  zzAddWMod_fast_alias w a a x (a + n) n m (Or.inl rfl) (Or.inl (Nat.le_refl _))

/-- FAST(zzSubWMod)(b, a, x, mod, n). -/
theorem zzSubWMod_fast_alias (w b a x md n : Nat) (m : Mem)
    (ha : SameOrDisj b a n) (hm : Disj b md n) :
    readN (zzSubWModMem_fast w b a x md n m) b n
      = zzSubWMod_fast w (readN m a n) x (readN m md n)
    ∧ ∀ j, (j < b ∨ b + n ≤ j) → zzSubWModMem_fast w b a x md n m j = m j := by
  obtain ⟨h1, h2, h3⟩ := zzSubW_alias w b a n x m ha
  have g := Upd.then ⟨h1, h3⟩ hm (zzAdd2_alias w b md n _ (Or.inr hm))
  simp only [zzSubWModMem_fast, zzSubWMod_fast, h2]
  split
  · exact g
  · exact ⟨h1, h3⟩

example (w a x n : Nat) (m : Mem) :=
  zzSubWMod_fast_alias w a a x (a + n) n m (Or.inl rfl) (Or.inl (Nat.le_refl _))

/-- FAST(zzDoubleMod)(b, a, mod, n). -/
theorem zzDoubleMod_fast_alias (w b a md n : Nat) (m : Mem)
    (ha : SameOrDisj b a n) (hm : Disj b md n) :
    readN (zzDoubleModMem_fast w b a md n m) b n
      = zzDoubleMod_fast w (readN m a n) (readN m md n)
    ∧ ∀ j, (j < b ∨ b + n ≤ j) → zzDoubleModMem_fast w b a md n m j = m j := by
  obtain ⟨h1, h2, h3⟩ := zzDouble_alias w b a n m ha
  have g := Upd.then ⟨h1, h3⟩ hm (zzSub2_alias w b md n _ (Or.inr hm))
  simp only [zzDoubleModMem_fast, zzDoubleMod_fast, h2, h1, Upd.read ⟨h1, h3⟩ hm]
  split
  · exact g
  · exact ⟨h1, h3⟩

example (w a n : Nat) (m : Mem) :=
  zzDoubleMod_fast_alias w a a (a + n) n m (Or.inl rfl) (Or.inl (Nat.le_refl _))

/-- zzNeg(b, a, n): complement loop (b == a or disjoint), then zzAddW2(b, n, 1) in place. -/
theorem zzNeg_alias (w b a n : Nat) (m : Mem) (h : SameOrDisj b a n) :
    readN (zzNegMem w b a n m) b n = zzNeg w (readN m a n)
    ∧ ∀ j, (j < b ∨ b + n ≤ j) → zzNegMem w b a n m j = m j := by
  obtain ⟨h1, _, h3⟩ := loop1_alias (notStep w) a b n () m h
  obtain ⟨g1, _, g3⟩ := zzAddW_alias w b b n 1 (loop1 (notStep w) a b n () m).1 (Or.inl rfl)
  simp only [zzNegMem, zzNeg, zzAddW2]
  refine ⟨?_, fun j hj => by rw [g3 j hj, h3 j hj]⟩
  rw [g1, h1, pure1_notStep]

example (w a n : Nat) (m : Mem) := zzNeg_alias w a a n m (Or.inl rfl)
example : readN (zzNegMem 8 0 0 2 (ofList [0, 1] 0)) 0 2 = [0, 255] := by decide

/-- SAFE(zzNegMod)(b, a, mod, n): zzSub(b, mod, a, n) (b == a allowed: a is the SECOND input of the
    subtraction), wwEq reads only, zzSubAndW(b, mod, n, mask). -/
theorem zzNegMod_safe_alias (w b a md n : Nat) (m : Mem)
    (ha : SameOrDisj b a n) (hm : Disj b md n) :
    readN (zzNegModMem_safe w b a md n m) b n = zzNegMod_safe w (readN m a n) (readN m md n)
    ∧ ∀ j, (j < b ∨ b + n ≤ j) → zzNegModMem_safe w b a md n m j = m j := by
  obtain ⟨h1, _, h3⟩ := zzSub_alias w b md a n m (Or.inr hm) ha
  have g := fun msk => Upd.then (f := fun x y => zzSubAndW w x y msk) ⟨h1, h3⟩ hm
    (zzSubAndW_alias w b md n msk _ (Or.inr hm))
  simp only [zzNegModMem_safe, zzNegMod_safe, h1, Upd.read ⟨h1, h3⟩ hm]
  exact g _

example (w a n : Nat) (m : Mem) :=
  zzNegMod_safe_alias w a a (a + n) n m (Or.inl rfl) (Or.inl (Nat.le_refl _))
example : readN (zzNegModMem_safe 8 0 0 2 2 (ofList [0, 0, 1, 1] 0)) 0 2 = [0, 0] := by decide

/-- FAST(zzNegMod)(b, a, mod, n). -/
theorem zzNegMod_fast_alias (w b a md n : Nat) (m : Mem)
    (ha : SameOrDisj b a n) (hm : Disj b md n) :
    readN (zzNegModMem_fast w b a md n m) b n = zzNegMod_fast w (readN m a n) (readN m md n)
    ∧ ∀ j, (j < b ∨ b + n ≤ j) → zzNegModMem_fast w b a md n m j = m j := by
  simp only [zzNegModMem_fast, zzNegMod_fast]
  by_cases hc : (!wwIsZero_safe (readN m a n)) = true
  · simp only [if_pos hc]
    obtain ⟨h1, _, h3⟩ := zzSub_alias w b md a n m (Or.inr hm) ha
    exact ⟨h1, h3⟩
  · simp only [if_neg hc]
    obtain ⟨h1, _, h3⟩ := loop1_alias zeroStep b b n () m (Or.inl rfl)
    refine ⟨?_, h3⟩
    unfold wwSetZeroMem
    rw [h1, pure1_zeroStep]
    -- `a.map (fun _ => 0)` and `b.map (fun _ => 0)` for two lists of length n
    apply List.ext_getElem
    · simp
    · intro i _ _; simp

example (w a n : Nat) (m : Mem) :=
  zzNegMod_fast_alias w a a (a + n) n m (Or.inl rfl) (Or.inl (Nat.le_refl _))

/-- FAST(zzHalfMod)(b, a, mod, n): odd a — zzAdd(b, a, mod, n) then the in-place shift from the top;
    even a — the shift loop from a to b from the top. -/
theorem zzHalfMod_fast_alias (w b a md n : Nat) (m : Mem)
    (ha : SameOrDisj b a n) (hm : Disj b md n) :
    readN (zzHalfModMem_fast w b a md n m) b n = zzHalfMod_fast w (readN m a n) (readN m md n)
    ∧ ∀ j, (j < b ∨ b + n ≤ j) → zzHalfModMem_fast w b a md n m j = m j := by
  simp only [zzHalfModMem_fast, zzHalfMod_fast]
  by_cases hc : zzIsOdd (readN m a n) = true
  · simp only [if_pos hc]
    obtain ⟨h1, h2, h3⟩ := zzAdd_alias w b a md n m ha (Or.inr hm)
    obtain ⟨g1, g3⟩ := zzHalfShift_alias w b n (zzAddMem w b a md n m).2 (zzAddMem w b a md n m).1
    refine ⟨?_, fun j hj => by rw [g3 j hj, h3 j hj]⟩
    rw [g1, h1, h2]
  · simp only [if_neg hc]
    obtain ⟨h1, _, h3⟩ := loop1Desc_alias (halfStep w) a b n 0 m ha
    refine ⟨?_, h3⟩
    rw [h1, zzHalfLoop_eq, List.reverse_reverse]

example (w a n : Nat) (m : Mem) :=
  zzHalfMod_fast_alias w a a (a + n) n m (Or.inl rfl) (Or.inl (Nat.le_refl _))
example : readN (zzHalfModMem_fast 8 0 0 2 2 (ofList [3, 0, 1, 1] 0)) 0 2 = [130, 0] := by decide

/-- SAFE(zzHalfMod)(b, a, mod, n) — NOT an index-local loop: iteration i reads a[i], mod[i] and
    updates both b[i] and b[i-1] (several stores each); modelled statement by statement on memory
    (`zzHalfModMem_safe`).  With b == a or disjoint, and b disjoint from mod, the result is the list
    model on the original contents, and nothing outside b changes. -/
theorem zzHalfMod_safe_alias (w b a md n : Nat) (m : Mem)
    (ha : SameOrDisj b a n) (hm : Disj b md n) :
    readN (zzHalfModMem_safe w b a md n m) b n = zzHalfMod_safe w (readN m a n) (readN m md n)
    ∧ ∀ j, (j < b ∨ b + n ≤ j) → zzHalfModMem_safe w b a md n m j = m j := by
  cases n with
  | zero => exact ⟨rfl, fun j _ => rfl⟩
  | succ k =>
    simp only [SameOrDisj, Disj] at ha hm
    obtain ⟨h1, h3⟩ := halfSafeLoopMem_spec w a md b (wneg w (m a % 2)) k 0
      (wless01 (wadd w (m a) (wneg w (m a % 2) &&& m md)) (wneg w (m a % 2) &&& m md))
      (write (write m b (wadd w (m a) (wneg w (m a % 2) &&& m md))) b
        (wshr (wadd w (m a) (wneg w (m a % 2) &&& m md)) 1))
      (by simp only [Disj]; omega) (by simp only [Disj]; omega)
    simp only [Nat.add_zero, write_same] at h1 h3
    have hA : ∀ v v', readN (write (write m b v) b v') (a + 1) k = readN m (a + 1) k := fun v v' => by
      rw [readN_write _ _ _ _ _ (by omega), readN_write _ _ _ _ _ (by omega)]
    have hD : ∀ v v', readN (write (write m b v) b v') (md + 1) k = readN m (md + 1) k := fun v v' => by
      rw [readN_write _ _ _ _ _ (by omega), readN_write _ _ _ _ _ (by omega)]
    rw [hA, hD] at h1
    simp only [zzHalfModMem_safe, write_same, readN, zzHalfMod_safe]
    refine ⟨h1, fun j hj => ?_⟩
    have := h3 j (by omega)
    simp only [halfFinish] at this
    rw [this, write_other _ _ _ _ (by omega), write_other _ _ _ _ (by omega)]

example (w a n : Nat) (m : Mem) :=
  zzHalfMod_safe_alias w a a (a + n) n m (Or.inl rfl) (Or.inl (Nat.le_refl _))
example : readN (zzHalfModMem_safe 8 0 0 2 2 (ofList [3, 0, 1, 1] 0)) 0 2 = [130, 0] := by decide
example : zzHalfMod_safe 8 [3, 0] [1, 1] = zzHalfMod_fast 8 [3, 0] [1, 1] := by decide

/-! ## re-reading the word just stored -/

/-- A body that re-reads `c[i]` from memory after `c[i] = v` (e.g. `carry |= wordLess01(c[i], w)`)
    is the body that uses `v`: whatever the aliasing, the re-read returns the word just stored. -/
theorem loop2_reread {σ τ : Type} (pre : σ → Nat → Nat → τ × Nat) (fin : τ → Nat → σ)
    (a b c n : Nat) (s : σ) (m : Mem) :
    loop2RRI pre fin a b c 0 n s m
      = loop2 (fun s x y => (fin (pre s x y).1 (pre s x y).2, (pre s x y).2)) a b c n s m :=
  loop2RRI_eq pre fin a b c n 0 s m

theorem loop1_reread {σ τ : Type} (pre : σ → Nat → τ × Nat) (fin : τ → Nat → σ)
    (a c n : Nat) (s : σ) (m : Mem) :
    loop1RRI pre fin a c 0 n s m
      = loop1 (fun s x => (fin (pre s x).1 (pre s x).2, (pre s x).2)) a c n s m :=
  loop1RRI_eq pre fin a c n 0 s m

/-- zzAdd with `c[i]` re-read from memory is `zzAddMem` (so `zzAdd_alias` applies to it). -/
theorem zzAddMemRR_eq (w c a b n : Nat) (m : Mem) : zzAddMemRR w c a b n m = zzAddMem w c a b n m :=
  loop2_reread (addPre w) addFin a b c n 0 m

/-- zzAddW with `b[i]` re-read from memory is `zzAddWMem`. -/
theorem zzAddWMemRR_eq (w b a n x : Nat) (m : Mem) : zzAddWMemRR w b a n x m = zzAddWMem w b a n x m :=
  loop1_reread (addWPre w) addWFin a b n x m

example : readN (zzAddMemRR 8 0 0 0 3 (ofList [255, 255, 1] 0)).1 0 3 = [254, 255, 3] := by decide

end Bee2V.C05
