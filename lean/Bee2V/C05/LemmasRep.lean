/-
C05 — `Pre w n l k x`: the n-word buffer `l` holds `x` in its first `k` words (the C pair (u, nu)), over
`Rep w n l x` of Words.lean.  That the words above k are zero is stated as a bound on the value, which
every operation that does not increase the value keeps for free.  One lemma per word operation: related
arguments give related results; the lockstep lemmas of the loops are then stated over value variables
and their induction hypotheses apply as they stand.
-/
import Bee2V.C05.ModelGcdW
import Bee2V.C05.PropsAdd
import Bee2V.C05.PropsBits
namespace Bee2V.C05
open Bee2V.C05.Add

theorem head_parity {w : Nat} (hw : 0 < w) (u : List Nat) :
    u.getD 0 0 % 2 = val w u % 2 := by
  cases u with
  | nil => simp [val]
  | cons x xs =>
    obtain ⟨k, rfl⟩ : ∃ k, w = k + 1 := ⟨w - 1, by omega⟩
    rw [val_mod_two]; simp

theorem val_ge_digit {w : Nat} (l : List Nat) (i : Nat) :
    2 ^ (w * i) * l.getD i 0 ≤ val w l := by
  induction l generalizing i with
  | nil => simp [val]
  | cons x xs ih =>
    cases i with
    | zero => simp [val_cons]
    | succ j =>
      have := ih j
      rw [List.getD_cons_succ, val_cons, Nat.mul_succ, Nat.pow_add, Nat.mul_comm (2 ^ (w * j)),
        Nat.mul_assoc]
      have h2 : 2 ^ w * (2 ^ (w * j) * xs.getD j 0) ≤ 2 ^ w * val w xs := Nat.mul_le_mul_left _ this
      omega

structure Pre (w n : Nat) (l : List Nat) (k x : Nat) : Prop extends Rep w n l x where
  le : k ≤ n
  lt : x < 2 ^ (w * k)

/-- the prefix length `k` is normalised for the value `x` -/
def NormV (w x k : Nat) : Prop := 0 < k → 2 ^ (w * (k - 1)) ≤ x

variable {w n m k j : Nat} {l u v a b : List Nat} {x y X Y A B M : Nat}

/-- the triple in the order of the refinement theorems -/
theorem Rep.spec (h : Rep w n l x) : val w l = x ∧ Wf w l ∧ l.length = n := ⟨h.eq, h.wf, h.len⟩

theorem Rep.pre (h : Rep w n l x) : Pre w n l n x := ⟨h, Nat.le_refl _, h.lt⟩

theorem Pre.take (h : Pre w n l k x) : Rep w k (l.take k) x := by
  have := h.toRep.take k h.le
  rwa [Nat.mod_eq_of_lt h.lt] at this

theorem Pre.drop (h : Pre w n l k x) : val w (l.drop k) = 0 := by
  rw [(h.toRep.drop k).eq, Nat.div_eq_of_lt h.lt]

theorem Pre.onPrefix (h : Pre w n l k x) {f : List Nat → List Nat} (hf : Rep w k (f (l.take k)) y) :
    Pre w n (onPrefixW k f l) k y := by
  refine ⟨⟨Wf_append.mpr ⟨hf.wf, Wf_drop h.wf k⟩, ?_, ?_⟩, h.le, hf.lt⟩
  · rw [onPrefixW, List.length_append, hf.len, List.length_drop, h.len]; have := h.le; omega
  · rw [onPrefixW, val_append, h.drop, hf.eq, Nat.mul_zero, Nat.add_zero]

/-- `nu = wwWordSize(u, nu)` -/
theorem Pre.wordSize (h : Pre w n l k x) :
    Pre w n l (wwWordSize (l.take k)) x ∧ NormV w x (wwWordSize (l.take k))
    ∧ wwWordSize (l.take k) ≤ k := by
  obtain ⟨s1, s2, s3⟩ := wwWordSize_spec (l.take k)
  rw [h.take.len] at s1
  generalize wwWordSize (l.take k) = k' at *
  have hd := (h.take.drop k').eq
  rw [val_drop_zero _ k' s2] at hd
  have hlt : x < 2 ^ (w * k') := Nat.lt_of_div_eq_zero (Nat.two_pow_pos _) hd.symm
  refine ⟨⟨h.toRep, Nat.le_trans s1 h.le, hlt⟩, fun hk => ?_, s1⟩
  have hge := val_ge_digit (w := w) (l.take k) (k' - 1)
  rw [h.take.eq] at hge
  exact Nat.le_trans (Nat.le_mul_of_pos_right _ (Nat.pos_of_ne_zero (s3 hk))) hge

/-- `n <- wwWordSize(a, n)` on a whole array -/
theorem Rep.wordSize (h : Rep w n l x) : Pre w n l (wwWordSize l) x ∧ NormV w x (wwWordSize l) := by
  obtain ⟨a1, a2, _⟩ := h.pre.wordSize
  rw [← h.len, List.take_length] at a1 a2
  exact ⟨h.len ▸ a1, a2⟩

theorem Pre.norm_le (hx : Pre w n u k X) (hn : NormV w Y j) (hle : Y ≤ X) : j ≤ k := by
  by_contra hc
  have h1 := hn (by omega)
  have h2 := hx.lt
  have h3 : 2 ^ (w * k) ≤ 2 ^ (w * (j - 1)) :=
    Nat.pow_le_pow_right (by omega) (Nat.mul_le_mul_left _ (by omega))
  omega

theorem Pre.cmp2 (hu : Pre w n u k x) (hv : Pre w m v j y) :
    wwCmp2_safe (u.take k) (v.take j) > 0 ↔ y < x := by
  rw [wwCmp2_safe_spec w _ _ hu.take.wf hv.take.wf, hu.take.eq, hv.take.eq]
  split_ifs <;> omega

theorem Pre.cmp2_ge (hu : Pre w n u k x) (hv : Pre w m v j y) :
    wwCmp2_safe (u.take k) (v.take j) ≥ 0 ↔ y ≤ x := by
  rw [wwCmp2_safe_spec w _ _ hu.take.wf hv.take.wf, hu.take.eq, hv.take.eq]
  split_ifs <;> omega

theorem Pre.isZero (h : Pre w n l k x) : wwIsZero_safe (l.take k) = decide (x = 0) := by
  rw [wwIsZero_safe_spec w, h.take.eq]

theorem Pre.isNonzero (h : Pre w n l k x) : (!wwIsZero_safe (l.take k)) = decide (x ≠ 0) := by
  rw [h.isZero]; by_cases h0 : x = 0 <;> simp [h0]

theorem Rep.parity (hw : 0 < w) (h : Rep w n l x) : l.getD 0 0 % 2 = x % 2 := by
  rw [head_parity hw l, h.eq]

theorem Pre.isEven (hw : 0 < w) (h : Pre w n l k x) : zzIsEven (l.take k) = decide (x % 2 = 0) := by
  rw [← h.take.parity hw]
  cases l.take k with
  | nil => simp [zzIsEven]
  | cons z zs =>
    simp only [zzIsEven, List.getD_cons_zero]
    rw [Bool.eq_iff_iff, beq_iff_eq, decide_eq_true_iff]

theorem Rep.shLo1 (hw : 0 < w) (h : Rep w n l x) : Rep w n (wwShLo w l 1) (x / 2) := by
  have := h.shLo hw 1; rwa [Nat.pow_one] at this

/-- `wwShLo(u, nu, 1)` -/
theorem Pre.shLo1 (hw : 0 < w) (h : Pre w n l k x) :
    Pre w n (onPrefixW k (fun p => wwShLo w p 1) l) k (x / 2) :=
  h.onPrefix (h.take.shLo1 hw)

theorem Rep.add2 (ha : Rep w n a A) (hb : Rep w n b B) :
    ∃ s, Rep w n (zzAdd2 w a b).1 s ∧ s + 2 ^ (w * n) * (zzAdd2 w a b).2 = A + B
      ∧ (zzAdd2 w a b).2 ≤ 1 := by
  obtain ⟨a1, a2, a3, a4⟩ := zzAdd2_spec w a b ha.wf hb.wf (by rw [ha.len, hb.len])
  rw [ha.len, ha.eq, hb.eq] at a1
  exact ⟨_, ⟨a3, by rw [a4, ha.len], rfl⟩, a1, a2⟩

theorem Rep.sub2 (ha : Rep w n a A) (hb : Rep w n b B) :
    ∃ s, Rep w n (zzSub2 w a b).1 s ∧ s + B = A + 2 ^ (w * n) * (zzSub2 w a b).2
      ∧ (zzSub2 w a b).2 = if A < B then 1 else 0 := by
  obtain ⟨a1, a2, a3, a4⟩ := zzSub2_spec w a b ha.wf hb.wf (by rw [ha.len, hb.len])
  rw [ha.len, ha.eq, hb.eq] at a1
  rw [ha.eq, hb.eq] at a2
  exact ⟨_, ⟨a3, by rw [a4, ha.len], rfl⟩, a1, a2⟩

theorem Rep.subW2 (ha : Rep w n a A) (hx : x < 2 ^ w) :
    ∃ s, Rep w n (zzSubW2 w a x).1 s ∧ s + x = A + 2 ^ (w * n) * (zzSubW2 w a x).2 := by
  obtain ⟨a1, _, _, a4, a5⟩ := zzSubW2_spec w a x ha.wf hx
  rw [ha.len, ha.eq] at a1
  exact ⟨_, ⟨a4, by rw [a5, ha.len], rfl⟩, a1⟩

end Bee2V.C05
