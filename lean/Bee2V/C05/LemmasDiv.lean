/-
C05 — helper lemmas for zzDiv / zzMod (Knuth D, PropsDiv.lean).  `namespace Bee2V.C05.Div`.
  value level : the arithmetic of one quotient digit (trial quotient, 3-by-2 test, add-back)
  list level  : refinement loop `zzDivRefine_spec`, one digit on its window `zzDivStep_eq` + `stepW_spec`,
                one digit on the whole array `zzDivStep_rep`, digit loop `zzDivLoop_rep`, normalisation
                (`clz_spec`, `shHi_rep`, `shLo_rep`), main path `zzDiv_main`, and the complete `zzDiv_spec'` / `zzMod_spec'` incl. both shortcuts.
Callee facts about ModelAdd (zzSub2, zzAdd2, wwCmp2) are taken from PropsAdd.

Notation: `u` = value of the current window `divident[i-m .. i]` (m + 1 words), `v` = value of the
(normalised) divisor, `q = u / v` the true digit.  Truncations: `u = Ut * P + ul`, `v = Vt * P + vl`
with `ul, vl < P` (`P = B^(m-1)`: top two words of u / top word of v; `P = B^(m-2)`: top three / top
two words).
-/
import Bee2V.C05.LemmasMul
import Bee2V.C05.ModelDiv
import Bee2V.C05.PropsAdd
namespace Bee2V.C05.Div
open Bee2V.C05 Bee2V.C05.Mul
open Bee2V.C05.Add (mod_wrap lor01 wneg01)

/-- the true digit passes every truncated test: `q * Vt ≤ Ut` -/
theorem digit_trunc_le {P u v Ut Vt ul vl : Nat} (hu : u = Ut * P + ul) (hul : ul < P)
    (hv : v = Vt * P + vl) : u / v * Vt ≤ Ut := by
  have h1 : u / v * v ≤ u := Nat.div_mul_le_self u v
  have h2 : u / v * (Vt * P) ≤ u / v * v := Nat.mul_le_mul_left _ (by omega)
  have h3 : u / v * Vt * P < (Ut + 1) * P := by
    rw [Nat.mul_assoc, Nat.add_mul, Nat.one_mul]; omega
  have := Nat.lt_of_mul_lt_mul_right h3
  omega

/-- a candidate that passes the 3-by-2 test is at most one too big (needs only `v1 ≥ 1`) -/
theorem digit_upper {B P u v U3 V2 ul vl qh : Nat} (hu : u = U3 * P + ul)
    (hv : v = V2 * P + vl) (hvl : vl < P) (hV2 : B ≤ V2) (hqB : qh < B)
    (hstop : qh * V2 ≤ U3) : qh ≤ u / v + 1 := by
  have hP : 0 < P := by omega
  have hv0 : 0 < v := by
    have : 1 * P ≤ V2 * P := Nat.mul_le_mul_right _ (by omega)
    omega
  have h1 : qh * v = qh * V2 * P + qh * vl := by rw [hv, Nat.mul_add, Nat.mul_assoc]
  have h2 : qh * V2 * P ≤ U3 * P := Nat.mul_le_mul_right _ hstop
  have h3 : qh * vl ≤ qh * P := Nat.mul_le_mul_left _ (by omega)
  have h4 : qh * P < B * P := Nat.mul_lt_mul_of_pos_right hqB hP
  have h5 : B * P ≤ V2 * P := Nat.mul_le_mul_right _ hV2
  have h6 : qh * v < u + v := by omega
  have h7 : u < v * (u / v + 1) := Nat.lt_mul_div_succ u hv0
  have h8 : v * qh < v * (u / v + 2) := by
    rw [Nat.mul_comm v qh, Nat.mul_add v (u / v) 2]
    rw [Nat.mul_add] at h7
    omega
  have := Nat.lt_of_mul_lt_mul_left h8
  omega

/-- the trial quotient `min(U2 / v1, B - 1)` never underestimates the digit -/
theorem trial_ge {B P u v U2 v1 ul vl : Nat} (hu : u = U2 * P + ul) (hul : ul < P)
    (hv : v = v1 * P + vl) (hv1 : 0 < v1) (huv : u < v * B) :
    u / v ≤ min (U2 / v1) (B - 1) := by
  have h1 := digit_trunc_le hu hul hv
  have h2 : u / v ≤ U2 / v1 := (Nat.le_div_iff_mul_le hv1).mpr h1
  have h3 : u / v < B := Nat.div_lt_of_lt_mul huv
  exact Nat.le_min.mpr ⟨h2, by omega⟩

/-- multiply-subtract and conditional add-back, modulo `W = B^(m+1)`: for `q ≤ qh ≤ q + 1` the
    digit becomes exact and the window becomes `u mod v` -/
theorem addback_exact {W u v qh : Nat} (hv0 : 0 < v) (hvW : v ≤ W) (huW : u < W)
    (hlo : u / v ≤ qh) (hhi : qh ≤ u / v + 1) :
    let under := u < qh * v
    let d := (u + (qh * v / W + 1) * W - qh * v) % W
    let digit := if under then qh - 1 else qh
    let rem := if under then (d + v) % W else d
    digit = u / v ∧ rem = u % v ∧ rem < v := by
  intro under d digit rem
  have hm : u % v < v := Nat.mod_lt _ hv0
  have hdm := Nat.div_add_mod u v
  have hq : u / v * v = v * (u / v) := Nat.mul_comm _ _
  obtain h | h : qh = u / v ∨ qh = u / v + 1 := by omega
  · have hnu : ¬ under := by show ¬ (u < qh * v); rw [h]; omega
    have hd : d = u % v := by
      show (u + (qh * v / W + 1) * W - qh * v) % W = _
      have : qh * v / W = 0 := Nat.div_eq_of_lt (by rw [h]; omega)
      rw [this, h]
      have : u + (0 + 1) * W - u / v * v = u % v + W := by omega
      rw [this, Nat.add_mod_right, Nat.mod_eq_of_lt (by omega)]
    simp only [digit, rem, if_neg hnu, hd]
    exact ⟨h, trivial, hm⟩
  · have hqv : qh * v = v * (u / v) + v := by rw [h, Nat.add_mul, Nat.one_mul, hq]
    have hu : under := by show u < qh * v; omega
    have hd : d = u + W - qh * v := by
      show (u + (qh * v / W + 1) * W - qh * v) % W = _
      rcases Nat.lt_or_ge (qh * v) W with hc | hc
      · have : qh * v / W = 0 := Nat.div_eq_of_lt hc
        rw [this, Nat.zero_add, Nat.one_mul, Nat.mod_eq_of_lt (by omega)]
      · have h1 : qh * v / W = 1 := by
          apply Nat.div_eq_of_lt_le <;> omega
        rw [h1]
        have : u + (1 + 1) * W - qh * v = (u + W - qh * v) + W := by omega
        rw [this, Nat.add_mod_right, Nat.mod_eq_of_lt (by omega)]
    simp only [digit, rem, if_pos hu, hd]
    refine ⟨by rw [h, Nat.add_sub_cancel], ?_, ?_⟩
    · have : u + W - qh * v + v = u % v + W := by omega
      rw [this, Nat.add_mod_right, Nat.mod_eq_of_lt (by omega)]
    · have : u + W - qh * v + v = u % v + W := by omega
      rw [this, Nat.add_mod_right, Nat.mod_eq_of_lt (by omega)]; exact hm

/-- multiply-subtract left a borrow above the window (`d2 < bo`): the candidate was one too big,
    and adding `v` back gives the remainder with a carry that cancels the borrow -/
theorem addback_case {Pm u v S d2 qh R bo R2 c2 : Nat} (b1 : R + v * qh = S + Pm * bo)
    (eu : u = S + Pm * d2) (a1 : R2 + Pm * c2 = R + v) (hR : R < Pm) (hR2 : R2 < Pm)
    (hv : v < Pm) (hv0 : 0 < v) (hlow : u / v ≤ qh) (hup : qh ≤ u / v + 1) (hc : d2 < bo) :
    qh = u / v + 1 ∧ R2 = u % v ∧ c2 = bo - d2 := by
  have hdm := Nat.div_add_mod u v
  have hmod := Nat.mod_lt u hv0
  have e : Pm * (bo - d2) + Pm * d2 = Pm * bo := by
    rw [← Nat.mul_add, Nat.sub_add_cancel (Nat.le_of_lt hc)]
  have hPe : Pm * 1 ≤ Pm * (bo - d2) := Nat.mul_le_mul_left _ (by omega)
  obtain rfl | rfl : qh = u / v ∨ qh = u / v + 1 := by omega
  · omega
  · rw [Nat.mul_add, Nat.mul_one] at b1
    obtain ⟨h1, h2⟩ := Add.cons_inj_aux (B := Pm) (x := u % v) (y := R2) (u := bo - d2) (v := c2)
      (by omega) hR2 (by omega)
    exact ⟨rfl, h1.symm, h2.symm⟩

/-- no borrow above the window: the candidate is the digit and the window holds the remainder -/
theorem noborrow_case {Pm u v S d2 qh R bo : Nat} (b1 : R + v * qh = S + Pm * bo)
    (eu : u = S + Pm * d2) (hv0 : 0 < v) (hlow : u / v ≤ qh) (hc : ¬ d2 < bo) :
    qh = u / v ∧ R + Pm * (d2 - bo) = u % v := by
  have hdm := Nat.div_add_mod u v
  have e : Pm * (d2 - bo) + Pm * bo = Pm * d2 := by
    rw [← Nat.mul_add, Nat.sub_add_cancel (by omega)]
  have hle : qh * v ≤ u := by rw [Nat.mul_comm]; omega
  obtain rfl : qh = u / v := Nat.le_antisymm ((Nat.le_div_iff_mul_le hv0).mpr hle) hlow
  exact ⟨rfl, by omega⟩

/-! ## list level: the refinement loop -/

theorem val3 (w a b c : Nat) : val w [a, b, c] = a + 2 ^ w * (b + 2 ^ w * c) := by
  simp [val]

theorem refine_arith {BB M2 V2 m2 q r1 bo : Nat} (hq1 : 1 ≤ q) (hval : M2 + BB * m2 = q * V2)
    (s1 : r1 + V2 = M2 + BB * bo) (hbo : bo = if M2 < V2 then 1 else 0) :
    bo ≤ m2 ∧ r1 + BB * (m2 - bo) = (q - 1) * V2 := by
  obtain ⟨k, rfl⟩ : ∃ k, q = k + 1 := ⟨q - 1, by omega⟩
  rw [Nat.add_mul, Nat.one_mul] at hval
  rw [Nat.add_sub_cancel]
  split_ifs at hbo with h
  · subst hbo
    rcases Nat.eq_zero_or_pos m2 with h0 | h0
    · subst h0; exfalso; simp only [Nat.mul_zero, Nat.add_zero] at hval; omega
    · obtain ⟨j, rfl⟩ : ∃ j, m2 = j + 1 := ⟨m2 - 1, by omega⟩
      rw [Nat.mul_add] at hval
      rw [Nat.add_sub_cancel]
      omega
  · subst hbo
    simp only [Nat.mul_zero, Nat.add_zero, Nat.sub_zero] at *
    omega

theorem val3' (w a b c : Nat) : val w [a, b, c] = val w [a, b] + 2 ^ w * 2 ^ w * c := by
  simp [val]; ring

/-- invariant of `while (wwCmp2(mul, 3, top3, 3) > 0) { q--; mul -= V2 }`: with `val mul = q·V2`
    the loop returns the largest `q' ≤ q` with `q'·V2 ≤ U3` -/
theorem zzDivRefine_spec (w v0 v1 : Nat) (top3 : List Nat) (hv0 : v0 < 2 ^ w) (hv1 : v1 < 2 ^ w)
    (htop : Wf w top3) (fuel q : Nat) (mul : List Nat)
    (hmul : Wf w mul) (hlm : mul.length = 3) (hval : val w mul = q * val w [v0, v1])
    (hq : q < 2 ^ w) (hfuel : q < fuel) :
    (zzDivRefine w [v0, v1] top3 fuel q mul).1 ≤ q
    ∧ (zzDivRefine w [v0, v1] top3 fuel q mul).1 * val w [v0, v1] ≤ val w top3
    ∧ ∀ c, c ≤ q → c * val w [v0, v1] ≤ val w top3 → c ≤ (zzDivRefine w [v0, v1] top3 fuel q mul).1 := by
  induction fuel generalizing q mul with
  | zero => omega
  | succ fuel ih =>
    have hcmp := wwCmp2_safe_spec w mul top3 hmul htop
    by_cases hc : val w top3 < val w mul
    · have hpos : wwCmp2_safe mul top3 > 0 := by
        rw [hcmp]; split_ifs <;> first | omega | (exfalso; omega)
      match mul, hlm with
      | [m0, m1, m2], _ =>
        obtain ⟨hm0, h'⟩ := Wf_cons.mp hmul
        obtain ⟨hm1, h''⟩ := Wf_cons.mp h'
        obtain ⟨hm2, _⟩ := Wf_cons.mp h''
        have hV : Wf w [v0, v1] := Wf_cons.mpr ⟨hv0, Wf_cons.mpr ⟨hv1, Wf_nil w⟩⟩
        have hM : Wf w [m0, m1] := Wf_cons.mpr ⟨hm0, Wf_cons.mpr ⟨hm1, Wf_nil w⟩⟩
        obtain ⟨s1, s2, s3, s4⟩ := zzSub2_spec w [m0, m1] [v0, v1] hM hV rfl
        have hq1 : 1 ≤ q := by
          rcases Nat.eq_zero_or_pos q with h | h
          · rw [h, Nat.zero_mul] at hval; omega
          · exact h
        have hP : 2 ^ (w * [m0, m1].length) = 2 ^ w * 2 ^ w := by
          rw [show w * [m0, m1].length = w + w by simp; omega, Nat.pow_add]
        rw [hP] at s1
        rw [val3'] at hval
        obtain ⟨a1, a2⟩ := refine_arith hq1 hval s1 s2
        have hnew : Wf w ((zzSub2 w [m0, m1] [v0, v1]).1
            ++ [wsub w m2 (zzSub2 w [m0, m1] [v0, v1]).2]) :=
          Wf_append.mpr ⟨s3, Wf_single (Nat.mod_lt _ (Nat.two_pow_pos w))⟩
        have hvn : val w ((zzSub2 w [m0, m1] [v0, v1]).1
            ++ [wsub w m2 (zzSub2 w [m0, m1] [v0, v1]).2]) = (q - 1) * val w [v0, v1] := by
          rw [val_append, val_single, s4, hP, wsub_le hm2 a1]; exact a2
        obtain ⟨i1, i2, i3⟩ := ih (q - 1) _ hnew (by simp [s4]) hvn (by omega) (by omega)
        have hq' : wsub w q 1 = q - 1 := wsub_le hq hq1
        simp only [zzDivRefine, hpos, if_true, List.take, List.drop, List.headD, hq']
        refine ⟨by omega, i2, fun c hc1 hc2 => i3 c ?_ hc2⟩
        rcases Nat.lt_or_ge c q with h | h
        · omega
        · have : c = q := by omega
          subst this; rw [← val3'] at hval; omega
    · have hnpos : ¬ wwCmp2_safe mul top3 > 0 := by
        rw [hcmp]; split_ifs <;> omega
      simp only [zzDivRefine, hnpos, if_false]
      exact ⟨Nat.le_refl _, by omega, fun c hc1 _ => hc1⟩

/-- the body of `zzDivStep` on the window: `slice` = divident[i-m .. i), `[d0,d1,d2]` = its top
    three words incl. divident[i], `[v0,v1]` the top two words of the divisor `V` -/
def stepW (w : Nat) (V : List Nat) (v0 v1 : Nat) (slice : List Nat) (d0 d1 d2 : Nat) :
    Nat × List Nat :=
  let hi := dshl w d2 ||| d1
  let hi := hi / v1
  let q := if hi > 2 ^ w - 1 then 2 ^ w - 1 else dlo w hi
  let r := zzMulW w [v0, v1] q
  let q := (zzDivRefine w [v0, v1] [d0, d1, d2] (2 ^ w) q (r.1 ++ [r.2])).1
  let r := zzSubMulW w slice V q
  let borrow := r.2
  let di := wsub w d2 borrow
  if di > wnot w borrow then
    let r2 := zzAdd2 w r.1 V
    (wsub w q 1, r2.1 ++ [wadd w di r2.2])
  else (q, r.1 ++ [di])

theorem ite_pair {c : Prop} [Decidable c] (a b : Nat) (l1 l2 pre post : List Nat) (x y : Nat) :
    (if c then (a, pre ++ l1 ++ x :: post) else (b, pre ++ l2 ++ y :: post))
      = ((if c then (a, l1 ++ [x]) else (b, l2 ++ [y])).1,
         pre ++ ((if c then (a, l1 ++ [x]) else (b, l2 ++ [y])).2 ++ post)) := by
  split <;> simp

theorem zzDivStep_eq (w : Nat) (vl : List Nat) (v0 v1 : Nat) (pre wl : List Nat)
    (d0 d1 d2 : Nat) (post : List Nat) (hlen : wl.length = vl.length) :
    zzDivStep w (vl ++ [v0, v1]) pre.length (pre ++ (wl ++ d0 :: d1 :: d2 :: post))
      = ((stepW w (vl ++ [v0, v1]) v0 v1 (wl ++ [d0, d1]) d0 d1 d2).1,
         pre ++ ((stepW w (vl ++ [v0, v1]) v0 v1 (wl ++ [d0, d1]) d0 d1 d2).2 ++ post)) := by
  have hm : (vl ++ [v0, v1]).length = vl.length + 2 := by simp
  have hA : ((pre ++ (wl ++ d0 :: d1 :: d2 :: post)).drop (pre.length + (vl.length + 2) - 2)).take 3
      = [d0, d1, d2] := by
    rw [show pre.length + (vl.length + 2) - 2 = pre.length + wl.length by omega]; simp
  have hB : (vl ++ [v0, v1]).drop (vl.length + 2 - 2) = [v0, v1] := by
    rw [show vl.length + 2 - 2 = vl.length by omega]; simp
  have hC : ((pre ++ (wl ++ d0 :: d1 :: d2 :: post)).drop pre.length).take (vl.length + 2)
      = wl ++ [d0, d1] := by
    rw [← hlen]; simp [List.take_append, List.take_of_length_le]
  have hD : (pre ++ (wl ++ d0 :: d1 :: d2 :: post)).take pre.length = pre := List.take_left' rfl
  have hE : (pre ++ (wl ++ d0 :: d1 :: d2 :: post)).drop (pre.length + (vl.length + 2) + 1)
      = post := by
    rw [show pre.length + (vl.length + 2) + 1 = pre.length + (wl.length + 3) by omega]; simp
  unfold zzDivStep stepW
  simp only [hm, hA, hB, hC, hD, hE]
  exact ite_pair _ _ _ _ _ _ _ _

theorem borrow_test {w d2 bo : Nat} (hd : d2 < 2 ^ w) (hb : bo < 2 ^ w) :
    (wsub w d2 bo > wnot w bo ↔ d2 < bo)
    ∧ wsub w d2 bo = if d2 < bo then d2 + 2 ^ w - bo else d2 - bo := by
  have e : wsub w d2 bo = if d2 < bo then d2 + 2 ^ w - bo else d2 - bo := by
    show (d2 + (2 ^ w - bo % 2 ^ w)) % 2 ^ w = _
    rw [Nat.mod_eq_of_lt hb, mod_wrap (by omega)]
    split_ifs <;> omega
  refine ⟨?_, e⟩
  rw [e]
  show (2 ^ w - 1 - bo % 2 ^ w < _) ↔ _
  rw [Nat.mod_eq_of_lt hb]
  split_ifs <;> constructor <;> intro <;> omega

theorem wrap_back {B d b : Nat} (h : d < b) (hb : b ≤ B) : d + B - b + (b - d) = B := by omega

theorem stepW_spec (w : Nat) (vl : List Nat) (v0 v1 : Nat) (wl : List Nat) (d0 d1 d2 : Nat)
    (hV : Wf w (vl ++ [v0, v1])) (hv1 : 0 < v1) (hW : Wf w (wl ++ [d0, d1, d2]))
    (hlen : wl.length = vl.length)
    (hu : val w (wl ++ [d0, d1, d2]) < val w (vl ++ [v0, v1]) * 2 ^ w) :
    (stepW w (vl ++ [v0, v1]) v0 v1 (wl ++ [d0, d1]) d0 d1 d2).1
      = val w (wl ++ [d0, d1, d2]) / val w (vl ++ [v0, v1])
    ∧ val w (stepW w (vl ++ [v0, v1]) v0 v1 (wl ++ [d0, d1]) d0 d1 d2).2
      = val w (wl ++ [d0, d1, d2]) % val w (vl ++ [v0, v1])
    ∧ Wf w (stepW w (vl ++ [v0, v1]) v0 v1 (wl ++ [d0, d1]) d0 d1 d2).2
    ∧ (stepW w (vl ++ [v0, v1]) v0 v1 (wl ++ [d0, d1]) d0 d1 d2).2.length = wl.length + 3 := by
  have hB : 0 < 2 ^ w := Nat.two_pow_pos w
  obtain ⟨hWvl, hV2⟩ := Wf_append.mp hV
  obtain ⟨hv0B, hV2'⟩ := Wf_cons.mp hV2
  obtain ⟨hv1B, _⟩ := Wf_cons.mp hV2'
  obtain ⟨hWwl, hD3⟩ := Wf_append.mp hW
  obtain ⟨hd0, hD3'⟩ := Wf_cons.mp hD3
  obtain ⟨hd1, hD3''⟩ := Wf_cons.mp hD3'
  obtain ⟨hd2, _⟩ := Wf_cons.mp hD3''
  have hslice : Wf w (wl ++ [d0, d1]) :=
    Wf_append.mpr ⟨hWwl, Wf_cons.mpr ⟨hd0, Wf_cons.mpr ⟨hd1, Wf_nil w⟩⟩⟩
  -- values
  have ev : val w (vl ++ [v0, v1]) = val w vl + 2 ^ (w * vl.length) * val w [v0, v1] :=
    val_append w _ _
  have eu : val w (wl ++ [d0, d1, d2]) = val w wl + 2 ^ (w * vl.length) * val w [d0, d1, d2] := by
    rw [val_append, hlen]
  have hvl := val_lt hWvl
  have hwl := val_lt hWwl
  rw [hlen] at hwl
  have hv0pos : 0 < val w (vl ++ [v0, v1]) := by
    rw [ev, val2]
    have : 2 ^ (w * vl.length) * 1 ≤ 2 ^ (w * vl.length) * (v0 + 2 ^ w * v1) :=
      Nat.mul_le_mul_left _ (by
        have : 2 ^ w * 1 ≤ 2 ^ w * v1 := Nat.mul_le_mul_left _ hv1
        omega)
    have := Nat.two_pow_pos (w * vl.length)
    omega
  have hvlt := val_lt hV
  -- (1) trial quotient
  have hhi : dshl w d2 ||| d1 = 2 ^ w * d2 + d1 := divisor_eq w hd2 hd1
  have hq0 : (if (2 ^ w * d2 + d1) / v1 > 2 ^ w - 1 then 2 ^ w - 1 else dlo w ((2 ^ w * d2 + d1) / v1))
      = min ((2 ^ w * d2 + d1) / v1) (2 ^ w - 1) := by
    split_ifs with h
    · rw [Nat.min_eq_right (by omega)]
    · rw [Nat.min_eq_left (by omega)]; exact Nat.mod_eq_of_lt (by omega)
  -- the true digit is below the trial quotient
  have hq_le_q0 : val w (wl ++ [d0, d1, d2]) / val w (vl ++ [v0, v1])
      ≤ min ((2 ^ w * d2 + d1) / v1) (2 ^ w - 1) := by
    refine trial_ge (P := 2 ^ (w * vl.length) * 2 ^ w) (ul := val w wl + 2 ^ (w * vl.length) * d0)
      (vl := val w vl + 2 ^ (w * vl.length) * v0) ?_ ?_ ?_ hv1 hu
    · rw [eu, val3]; ring
    · have : 2 ^ (w * vl.length) * (d0 + 1) ≤ 2 ^ (w * vl.length) * 2 ^ w :=
        Nat.mul_le_mul_left _ hd0
      rw [Nat.mul_add] at this; omega
    · rw [ev, val2]; ring
  generalize hq0d : min ((2 ^ w * d2 + d1) / v1) (2 ^ w - 1) = q0 at *
  have hq0B : q0 < 2 ^ w := by rw [← hq0d]; exact Nat.lt_of_le_of_lt (Nat.min_le_right _ _) (by omega)
  -- (2) mul = q0 * V2
  obtain ⟨m1, m2, m3, m4⟩ := zzMulWLoop_spec w [v0, v1] q0 0 hV2 hq0B hB
  have hmulW : Wf w ((zzMulW w [v0, v1] q0).1 ++ [(zzMulW w [v0, v1] q0).2]) :=
    Wf_append.mpr ⟨m3, Wf_single m2⟩
  have hmulV : val w ((zzMulW w [v0, v1] q0).1 ++ [(zzMulW w [v0, v1] q0).2])
      = q0 * val w [v0, v1] := by
    rw [val_append, val_single]
    show val w (zzMulWLoop w [v0, v1] q0 0).1 + 2 ^ (w * (zzMulWLoop w [v0, v1] q0 0).1.length)
      * (zzMulWLoop w [v0, v1] q0 0).2 = _
    rw [m4, m1, Nat.add_zero, Nat.mul_comm]
  -- (3) refinement
  obtain ⟨r1, r2, r3⟩ := zzDivRefine_spec w v0 v1 [d0, d1, d2] hv0B hv1B hD3 (2 ^ w) q0 _
    hmulW (by simp [zzMulW, m4]) hmulV hq0B hq0B
  have hqV2 : val w (wl ++ [d0, d1, d2]) / val w (vl ++ [v0, v1]) * val w [v0, v1]
      ≤ val w [d0, d1, d2] :=
    digit_trunc_le (P := 2 ^ (w * vl.length)) (ul := val w wl) (vl := val w vl)
      (by rw [eu]; ring) hwl (by rw [ev]; ring)
  have hlow := r3 _ hq_le_q0 hqV2
  generalize hqh : (zzDivRefine w [v0, v1] [d0, d1, d2] (2 ^ w) q0
    ((zzMulW w [v0, v1] q0).1 ++ [(zzMulW w [v0, v1] q0).2])).1 = qh at *
  have hqhB : qh < 2 ^ w := by omega
  have hup : qh ≤ val w (wl ++ [d0, d1, d2]) / val w (vl ++ [v0, v1]) + 1 :=
    digit_upper (B := 2 ^ w) (P := 2 ^ (w * vl.length)) (ul := val w wl) (vl := val w vl)
      (by rw [eu]; ring) (by rw [ev]; ring) hvl (by
        rw [val2]
        have : 2 ^ w * 1 ≤ 2 ^ w * v1 := Nat.mul_le_mul_left _ hv1
        omega) hqhB r2
  -- (4) multiply and subtract
  have hsl : (wl ++ [d0, d1]).length = (vl ++ [v0, v1]).length := by simp [hlen]
  obtain ⟨b1, b2, b3, b4⟩ := zzSubMulWLoop_spec w (wl ++ [d0, d1]) (vl ++ [v0, v1]) qh 0 hslice hV
    hsl hqhB hB
  have euS : val w (wl ++ [d0, d1, d2])
      = val w (wl ++ [d0, d1]) + 2 ^ (w * (wl ++ [d0, d1]).length) * d2 := by
    have : wl ++ [d0, d1, d2] = (wl ++ [d0, d1]) ++ [d2] := by simp
    rw [this, val_append, val_single]
  have hR1 := val_lt b3
  rw [b4] at hR1
  rw [hsl.symm] at hvlt
  rw [Nat.add_zero, Nat.mul_comm (val w (vl ++ [v0, v1]))] at b1
  -- unfold the step
  unfold stepW
  simp only [hhi, hq0, hqh, zzSubMulW]
  obtain ⟨t1, t2⟩ := borrow_test hd2 b2
  generalize zzSubMulWLoop w (wl ++ [d0, d1]) (vl ++ [v0, v1]) qh 0 = rs at *
  by_cases hc : d2 < rs.2
  · -- underflow: add back
    obtain ⟨a1, a2, a3, a4⟩ := zzAdd2_spec w rs.1 (vl ++ [v0, v1]) b3 hV (by rw [b4, hsl])
    have hR2 := val_lt a3
    rw [a4, b4] at hR2
    rw [b4] at a1
    obtain ⟨c1, c2, c3⟩ := addback_case (Nat.mul_comm _ qh ▸ b1) euS a1 hR1 hR2 hvlt hv0pos hlow hup hc
    rw [if_pos (t1.mpr hc)]
    rw [if_pos hc] at t2
    simp only
    have htop : wadd w (wsub w d2 rs.2) (zzAdd2 w rs.1 (vl ++ [v0, v1])).2 = 0 := by
      show (wsub w d2 rs.2 + _) % 2 ^ w = 0
      rw [t2, c3, wrap_back hc (Nat.le_of_lt b2), Nat.mod_self]
    rw [htop]
    refine ⟨?_, ?_, Wf_append.mpr ⟨a3, Wf_single hB⟩, by simp [a4, b4, hlen]⟩
    · rw [wsub_le hqhB (c1 ▸ Nat.succ_le_succ (Nat.zero_le _)), c1, Nat.add_sub_cancel]
    · rw [val_append, val_single, Nat.mul_zero, Nat.add_zero, c2]
  · obtain ⟨c1, c2⟩ := noborrow_case (Nat.mul_comm _ qh ▸ b1) euS hv0pos hlow hc
    rw [if_neg (fun h => hc (t1.mp h))]
    rw [if_neg hc] at t2
    simp only
    rw [t2]
    refine ⟨c1, ?_, Wf_append.mpr ⟨b3, Wf_single (by omega)⟩, by simp [b4, hlen]⟩
    rw [val_append, val_single, b4, c2]

theorem split_window (D : List Nat) (j k : Nat) (h : j + k + 3 ≤ D.length) :
    ∃ pre wl d0 d1 d2 post, D = pre ++ (wl ++ d0 :: d1 :: d2 :: post) ∧ pre.length = j
      ∧ wl.length = k := by
  have h1 : D = D.take j ++ ((D.drop j).take k ++ (D.drop j).drop k) := by
    rw [List.take_append_drop, List.take_append_drop]
  have hl : ((D.drop j).drop k).length ≥ 3 := by simp; omega
  match hr : (D.drop j).drop k, hl with
  | d0 :: d1 :: d2 :: post, _ =>
    refine ⟨D.take j, (D.drop j).take k, d0, d1, d2, post, ?_, ?_, ?_⟩
    · rw [← hr]; exact h1
    · rw [List.length_take]; omega
    · rw [List.length_take, List.length_drop]; omega

theorem split_last2 (l : List Nat) (k : Nat) (h : l.length = k + 2) :
    ∃ vl v0 v1, l = vl ++ [v0, v1] ∧ vl.length = k := by
  have h1 : l = l.take k ++ l.drop k := (List.take_append_drop k l).symm
  have hl : (l.drop k).length = 2 := by simp; omega
  match hr : l.drop k, hl with
  | [v0, v1], _ => exact ⟨l.take k, v0, v1, by rw [← hr]; exact h1, by simp; omega⟩

/-- `stepW_spec` lifted from the window to the whole array, in value form -/
theorem zzDivStep_rep {w k N j v d v0 v1 : Nat} {vl D : List Nat}
    (hV : Rep w (k + 2) (vl ++ [v0, v1]) v) (hv1 : 0 < v1) (hD : Rep w N D d)
    (hlen : j + (k + 2) + 1 ≤ N) (hlt : d < v * 2 ^ (w * (j + 1))) :
    (zzDivStep w (vl ++ [v0, v1]) j D).1 = d / (v * 2 ^ (w * j))
    ∧ (zzDivStep w (vl ++ [v0, v1]) j D).1 < 2 ^ w
    ∧ Rep w N (zzDivStep w (vl ++ [v0, v1]) j D).2 (d % (v * 2 ^ (w * j))) := by
  have hB : 0 < 2 ^ w := Nat.two_pow_pos w
  have hvl : vl.length = k := by have := hV.len; simp at this; omega
  obtain ⟨pre, wl, d0, d1, d2, post, rfl, hpre, hwl⟩ := split_window D j k (by rw [hD.len]; omega)
  have hDW : pre ++ (wl ++ d0 :: d1 :: d2 :: post) = pre ++ ((wl ++ [d0, d1, d2]) ++ post) := by
    simp
  obtain ⟨hWpre, hW'⟩ := Wf_append.mp (hDW ▸ hD.wf)
  obtain ⟨hWW, hWpost⟩ := Wf_append.mp hW'
  have hvD : d = val w pre + 2 ^ (w * j) * (val w (wl ++ [d0, d1, d2])
      + 2 ^ (w * (k + 3)) * val w post) := by
    rw [← hD.eq, hDW, val_append, val_append, hpre]; simp [hwl]
  have hprelt := val_lt hWpre
  rw [hpre] at hprelt
  have hvlt := hV.lt
  rw [powS] at hlt
  -- window < v B, so the words above it are zero
  have hX : val w (wl ++ [d0, d1, d2]) + 2 ^ (w * (k + 3)) * val w post < v * 2 ^ w := by
    have : 2 ^ (w * j) * (val w (wl ++ [d0, d1, d2]) + 2 ^ (w * (k + 3)) * val w post)
        < 2 ^ (w * j) * (v * 2 ^ w) := by
      have e : 2 ^ (w * j) * (v * 2 ^ w) = v * (2 ^ w * 2 ^ (w * j)) := by ring
      omega
    exact Nat.lt_of_mul_lt_mul_left this
  have hvB : v * 2 ^ w < 2 ^ (w * (k + 3)) := by
    rw [show k + 3 = (k + 2) + 1 by omega, powS, Nat.mul_comm]
    exact Nat.mul_lt_mul_of_pos_left hvlt hB
  have hpost0 : val w post = 0 := by
    rcases Nat.eq_zero_or_pos (val w post) with h | h
    · exact h
    · have : 2 ^ (w * (k + 3)) * 1 ≤ 2 ^ (w * (k + 3)) * val w post := Nat.mul_le_mul_left _ h
      omega
  rw [hpost0, Nat.mul_zero, Nat.add_zero] at hX hvD
  obtain ⟨s1, s2, s3, s4⟩ := stepW_spec w vl v0 v1 wl d0 d1 d2 hV.wf hv1 hWW (hwl.trans hvl.symm)
    (hV.eq.symm ▸ hX)
  have hstep := zzDivStep_eq w vl v0 v1 pre wl d0 d1 d2 post (hwl.trans hvl.symm)
  rw [hpre] at hstep
  rw [hV.eq] at s1 s2
  rw [hstep]
  generalize stepW w (vl ++ [v0, v1]) v0 v1 (wl ++ [d0, d1]) d0 d1 d2 = st at *
  generalize val w (wl ++ [d0, d1, d2]) = u at *
  have hv0 : 0 < v := by
    rcases Nat.eq_zero_or_pos v with rfl | h
    · simp at hX
    · exact h
  have hP : 0 < 2 ^ (w * j) := Nat.two_pow_pos _
  have hq : d / (v * 2 ^ (w * j)) = u / v := by
    rw [Nat.mul_comm v, ← Nat.div_div_eq_div_mul, hvD, Nat.add_mul_div_left _ _ hP,
      Nat.div_eq_of_lt hprelt, Nat.zero_add]
  have hr : d % (v * 2 ^ (w * j)) = val w pre + 2 ^ (w * j) * (u % v) := by
    rw [Nat.mul_comm v, Nat.mod_mul, hvD, Nat.add_mul_mod_self_left, Nat.mod_eq_of_lt hprelt,
      Nat.add_mul_div_left _ _ hP, Nat.div_eq_of_lt hprelt, Nat.zero_add]
  refine ⟨s1.trans hq.symm, by rw [s1]; exact Nat.div_lt_of_lt_mul hX,
    Wf_append.mpr ⟨hWpre, Wf_append.mpr ⟨s3, hWpost⟩⟩, ?_, ?_⟩
  · rw [← hD.len]; simp only [List.length_append, List.length_cons, s4]; omega
  · rw [hr, val_append, val_append, hpre, hpost0, s2]; simp

theorem zzDivLoop_rep {w k N cnt v d : Nat} {V D : List Nat} (hV : Rep w (k + 2) V v)
    (hn : 2 ^ (w * (k + 1)) ≤ v) (hD : Rep w N D d) (hlen : cnt + (k + 2) ≤ N)
    (hlt : d < v * 2 ^ (w * cnt)) :
    Rep w cnt (zzDivLoop w V cnt D).1 (d / v) ∧ Rep w N (zzDivLoop w V cnt D).2 (d % v) := by
  obtain ⟨vl, v0, v1, rfl, hvl⟩ := split_last2 V k hV.len
  have hv1 : 0 < v1 := by
    -- a zero top word would leave `v` below `B^(k+1)`
    rcases Nat.eq_zero_or_pos v1 with rfl | h
    · have e : vl ++ [v0, 0] = (vl ++ [v0]) ++ [0] := by simp
      have h1 := hV.eq
      rw [e, val_append, val_single, Nat.mul_zero, Nat.add_zero] at h1
      have := val_lt (Wf_append.mp (e ▸ hV.wf)).1
      rw [show (vl ++ [v0]).length = k + 1 by simp [hvl], h1] at this
      omega
    · exact h
  have hv0 : 0 < v := Nat.lt_of_lt_of_le (Nat.two_pow_pos _) hn
  induction cnt generalizing D d with
  | zero =>
    rw [Nat.mul_zero, Nat.pow_zero, Nat.mul_one] at hlt
    rw [Nat.div_eq_of_lt hlt, Nat.mod_eq_of_lt hlt]
    exact ⟨⟨Wf_nil w, rfl, rfl⟩, hD⟩
  | succ j ih =>
    obtain ⟨s1, s2, s3⟩ := zzDivStep_rep hV hv1 hD (by omega) hlt
    have hvP : 0 < v * 2 ^ (w * j) := Nat.mul_pos hv0 (Nat.two_pow_pos _)
    obtain ⟨i1, i2⟩ := ih s3 (by omega) (Nat.mod_lt _ hvP)
    simp only [zzDivLoop]
    -- d = q (v B^j) + d',  d / v = q B^j + d' / v,  d % v = d' % v
    rw [Nat.mod_mul_right_mod] at i2
    refine ⟨?_, i2⟩
    have hq : d / v = d % (v * 2 ^ (w * j)) / v + 2 ^ (w * j) * (d / (v * 2 ^ (w * j))) := by
      conv_lhs => rw [← Nat.div_add_mod d (v * 2 ^ (w * j))]
      rw [Nat.mul_assoc, Nat.mul_add_div hv0, Nat.add_comm, Nat.mul_comm (2 ^ (w * j))]
    rw [hq, ← s1]
    exact i1.append ⟨Wf_single s2, rfl, val_single w _⟩

/-! ## normalisation -/

/-- wordCLZ: shifting by `clz` keeps the word inside `B` -/
theorem clz_spec {w x : Nat} (hx0 : x ≠ 0) (hx : x < 2 ^ w) : (x + 1) * 2 ^ clz w x ≤ 2 ^ w := by
  unfold clz
  rw [if_neg hx0]
  have h1 : x < 2 ^ (x.log2 + 1) := Nat.lt_log2_self
  have h2 : x.log2 < w := (Nat.log2_lt hx0).mpr hx
  have h3 : 2 ^ (x.log2 + 1) * 2 ^ (w - (x.log2 + 1)) = 2 ^ w := by
    rw [← Nat.pow_add]; congr 1; omega
  rw [← h3]
  exact Nat.mul_le_mul_right _ h1

theorem shHi_rep {w n k x s : Nat} {a : List Nat} (h : Rep w n a x) (hlt : x * 2 ^ s < 2 ^ (w * k)) :
    Rep w k (shHi w k a s) (x * 2 ^ s) :=
  Rep.iff_toWords.mpr ⟨by rw [shHi, h.eq], hlt⟩

theorem shLo_rep {w n k x s : Nat} {a : List Nat} (h : Rep w n a x) (hlt : x / 2 ^ s < 2 ^ (w * k)) :
    Rep w k (shLo w k a s) (x / 2 ^ s) :=
  Rep.iff_toWords.mpr ⟨by rw [shLo, h.eq], hlt⟩

/-- the main path of zzDiv / zzMod (no shortcut taken): normalise, digit loop, denormalise -/
theorem zzDiv_main {w n k x y bt : Nat} {a bl : List Nat} (ha : Rep w n a x)
    (hb : Rep w (k + 1) (bl ++ [bt]) y) (hbt : bt ≠ 0) (hk : 1 ≤ k) (hnm : k + 1 ≤ n) :
    Rep w (n - k) (zzDivLoop w (shHi w (k + 1) (bl ++ [bt]) (clz w bt)) (n - k)
      (shHi w (n + 1) (a ++ [0]) (clz w bt))).1 (x / y)
    ∧ Rep w (k + 1) ((shLo w (n + 1) (zzDivLoop w (shHi w (k + 1) (bl ++ [bt]) (clz w bt)) (n - k)
      (shHi w (n + 1) (a ++ [0]) (clz w bt))).2 (clz w bt)).take (k + 1)) (x % y) := by
  have hB : 0 < 2 ^ w := Nat.two_pow_pos w
  obtain ⟨hbl, hbt'⟩ := Wf_append.mp hb.wf
  have hclz := clz_spec hbt (Wf_cons.mp hbt').1
  generalize clz w bt = s at *
  have ht : 0 < 2 ^ s := Nat.two_pow_pos s
  have h2s : 2 ^ s ≤ 2 ^ w := by
    have : 1 * 2 ^ s ≤ (bt + 1) * 2 ^ s := Nat.mul_le_mul_right _ (by omega)
    omega
  -- the top word bounds `y`: `B^k ≤ y`, `y·2^s < B^(k+1)`
  have hkl : bl.length = k := by have := hb.len; simp at this; exact this
  have evb : y = val w bl + 2 ^ (w * k) * bt := by rw [← hb.eq, val_append, val_single, hkl]
  have hvbl := val_lt hbl
  rw [hkl] at hvbl
  have hbP : 2 ^ (w * k) ≤ y := by
    have : 2 ^ (w * k) * 1 ≤ 2 ^ (w * k) * bt := Nat.mul_le_mul_left _ (by omega)
    omega
  have hb2 : y * 2 ^ s < 2 ^ (w * (k + 1)) := by
    have h1 : y < 2 ^ (w * k) * (bt + 1) := by rw [Nat.mul_add]; omega
    have h3 : 2 ^ (w * k) * ((bt + 1) * 2 ^ s) ≤ 2 ^ (w * k) * 2 ^ w := Nat.mul_le_mul_left _ hclz
    rw [powS, Nat.mul_comm (2 ^ w)]
    calc y * 2 ^ s < 2 ^ (w * k) * (bt + 1) * 2 ^ s := Nat.mul_lt_mul_of_pos_right h1 ht
      _ ≤ _ := by rw [Nat.mul_assoc]; exact h3
  obtain ⟨j, rfl⟩ : ∃ j, k = j + 1 := ⟨k - 1, by omega⟩
  have hV := shHi_rep (s := s) hb hb2
  have hD : Rep w (n + 1) (shHi w (n + 1) (a ++ [0]) s) (x * 2 ^ s) := by
    have h0 : Rep w (n + 1) (a ++ [0]) x := by
      have := ha.append (Rep.zero w 1)
      rwa [Nat.mul_zero, Nat.add_zero] at this
    refine shHi_rep h0 ?_
    rw [powS, Nat.mul_comm (2 ^ w)]
    exact Nat.mul_lt_mul_of_lt_of_le ha.lt h2s hB
  have hy0 : 0 < y := Nat.lt_of_lt_of_le (Nat.two_pow_pos _) hbP
  -- the loop: `x·2^s = (x / y)·(y·2^s) + (x % y)·2^s`
  obtain ⟨hq, hr⟩ := zzDivLoop_rep hV (Nat.le_trans hbP (Nat.le_mul_of_pos_right _ ht)) hD
    (cnt := n - (j + 1)) (by omega) (by
      have h1 : x < y * 2 ^ (w * (n - (j + 1))) := by
        have hPn : 2 ^ (w * n) = 2 ^ (w * (j + 1)) * 2 ^ (w * (n - (j + 1))) := by
          rw [← Nat.pow_add, ← Nat.mul_add]; congr 2; omega
        have := ha.lt
        rw [hPn] at this
        exact Nat.lt_of_lt_of_le this (Nat.mul_le_mul_right _ hbP)
      have := Nat.mul_lt_mul_of_pos_right h1 ht
      rwa [Nat.mul_right_comm] at this)
  rw [Nat.mul_div_mul_right _ _ ht] at hq
  rw [Nat.mul_mod_mul_right] at hr
  -- denormalise
  have hm := Nat.mod_lt x hy0
  have hsl := shLo_rep (k := n + 1) (s := s) hr (Nat.lt_of_le_of_lt (Nat.div_le_self _ _) hr.lt)
  rw [Nat.mul_div_cancel _ ht] at hsl
  have := hsl.take (j + 1 + 1) (by omega)
  rw [Nat.mod_eq_of_lt (Nat.lt_trans hm (Nat.lt_of_le_of_lt (Nat.le_mul_of_pos_right _ ht) hb2))]
    at this
  exact ⟨hq, this⟩

theorem cmp2_lt_iff (w : Nat) (a b : List Nat) (ha : Wf w a) (hb : Wf w b) :
    wwCmp2_safe a b < 0 ↔ val w a < val w b := by
  rw [wwCmp2_safe_spec w a b ha hb]
  split_ifs <;> simp <;> omega

theorem zzDiv_spec' (w : Nat) (a bl : List Nat) (bt : Nat) (ha : Wf w a)
    (hb : Wf w (bl ++ [bt])) (hbt : bt ≠ 0) (hnm : bl.length + 1 ≤ a.length) :
    val w a = val w (zzDiv w a (bl ++ [bt])).1 * val w (bl ++ [bt])
      + val w (zzDiv w a (bl ++ [bt])).2
    ∧ val w (zzDiv w a (bl ++ [bt])).2 < val w (bl ++ [bt])
    ∧ Wf w (zzDiv w a (bl ++ [bt])).1 ∧ Wf w (zzDiv w a (bl ++ [bt])).2
    ∧ (zzDiv w a (bl ++ [bt])).1.length = a.length - (bl.length + 1) + 1
    ∧ (zzDiv w a (bl ++ [bt])).2.length = bl.length + 1 := by
  have hblen : (bl ++ [bt]).length = bl.length + 1 := by simp
  have hbtB : bt < 2 ^ w := (Wf_cons.mp (Wf_append.mp hb).2).1
  have hvb := val_lt hb
  rw [hblen] at hvb
  unfold zzDiv
  simp only [hblen]
  by_cases h1 : wwCmp2_safe a (bl ++ [bt]) < 0
  · rw [if_pos h1]
    have hlt := (cmp2_lt_iff w a _ ha hb).mp h1
    have hv := (val_take_of_lt hnm (Nat.lt_trans hlt hvb)).2
    simp only [val_replicate_zero, Nat.zero_mul, Nat.zero_add, hv]
    refine ⟨trivial, hlt, Wf_replicate_zero w _, Wf_take ha _, by simp, by simp; omega⟩
  · rw [if_neg h1]
    by_cases h2 : bl.length + 1 = 1
    · rw [if_pos h2]
      have hbl : bl = [] := by
        cases bl with
        | nil => rfl
        | cons _ _ => simp at h2
      subst hbl
      simp only [List.nil_append, List.headD_cons, val_single]
      obtain ⟨d1, d2, d3, d4⟩ := Mul.zzDivW_spec w a bt ha (by omega) hbtB
      refine ⟨d1, d2, d3, Wf_single (by omega), by rw [d4]; simp at hnm ⊢; omega, rfl⟩
    · rw [if_neg h2]
      have hd : ((bl ++ [bt]).drop (bl.length + 1 - 1)).headD 0 = bt := by simp
      have hc : a.length - (bl.length + 1) + 1 = a.length - bl.length := by omega
      simp only [hd, hc]
      obtain ⟨hq, hr⟩ := zzDiv_main (Rep.mk' ha) ⟨hb, hblen, rfl⟩ hbt (by omega) hnm
      have hy : 0 < val w (bl ++ [bt]) := by
        rw [val_append, val_single]
        exact Nat.add_pos_right _ (Nat.mul_pos (Nat.two_pow_pos _) (by omega))
      exact ⟨by rw [hq.eq, hr.eq, Nat.mul_comm]; exact (Nat.div_add_mod _ _).symm,
        by rw [hr.eq]; exact Nat.mod_lt _ hy, hq.wf, hr.wf, hq.len, hr.len⟩

theorem zzMod_spec' (w : Nat) (a bl : List Nat) (bt : Nat) (ha : Wf w a)
    (hb : Wf w (bl ++ [bt])) (hbt : bt ≠ 0) :
    val w (zzMod w a (bl ++ [bt])) = val w a % val w (bl ++ [bt])
    ∧ Wf w (zzMod w a (bl ++ [bt])) ∧ (zzMod w a (bl ++ [bt])).length = bl.length + 1 := by
  have hblen : (bl ++ [bt]).length = bl.length + 1 := by simp
  have hbtB : bt < 2 ^ w := (Wf_cons.mp (Wf_append.mp hb).2).1
  have hvb := val_lt hb
  rw [hblen] at hvb
  have hbP : 2 ^ (w * bl.length) ≤ val w (bl ++ [bt]) := by
    rw [val_append, val_single]
    have : 2 ^ (w * bl.length) * 1 ≤ 2 ^ (w * bl.length) * bt := Nat.mul_le_mul_left _ (by omega)
    omega
  unfold zzMod
  simp only [hblen]
  by_cases h1 : wwCmp2_safe a (bl ++ [bt]) < 0
  · rw [if_pos h1]
    have hlt := (cmp2_lt_iff w a _ ha hb).mp h1
    rw [Nat.mod_eq_of_lt hlt]
    by_cases h3 : a.length < bl.length + 1
    · rw [if_pos h3]
      refine ⟨by rw [val_append, val_replicate_zero, Nat.mul_zero, Nat.add_zero],
        Wf_append.mpr ⟨ha, Wf_replicate_zero w _⟩, by simp; omega⟩
    · rw [if_neg h3]
      exact ⟨(val_take_of_lt (by omega) (Nat.lt_trans hlt hvb)).2, Wf_take ha _,
        by simp; omega⟩
  · rw [if_neg h1]
    have hge : ¬ val w a < val w (bl ++ [bt]) := fun h => h1 ((cmp2_lt_iff w a _ ha hb).mpr h)
    have hnm : bl.length + 1 ≤ a.length := by
      by_contra hcon
      have hva := val_lt ha
      have : 2 ^ (w * a.length) ≤ 2 ^ (w * bl.length) :=
        Nat.pow_le_pow_right (by omega) (Nat.mul_le_mul_left _ (by omega))
      omega
    by_cases h2 : bl.length + 1 = 1
    · rw [if_pos h2]
      have hbl : bl = [] := by
        cases bl with
        | nil => rfl
        | cons _ _ => simp at h2
      subst hbl
      simp only [List.nil_append, List.headD_cons, val_single]
      obtain ⟨d1, d2, _, _⟩ := Mul.zzDivW_spec w a bt ha (by omega) hbtB
      rw [zzModW_eq]
      exact ⟨(mod_of_divmod d1 d2).1.symm, Wf_single (by omega), rfl⟩
    · rw [if_neg h2]
      have hd : ((bl ++ [bt]).drop (bl.length + 1 - 1)).headD 0 = bt := by simp
      have hc : a.length - (bl.length + 1) + 1 = a.length - bl.length := by omega
      simp only [hd, hc]
      obtain ⟨-, hr⟩ := zzDiv_main (Rep.mk' ha) ⟨hb, hblen, rfl⟩ hbt (by omega) hnm
      exact ⟨hr.eq, hr.wf, hr.len⟩

theorem last_decomp {b : List Nat} (hne : b ≠ []) :
    ∃ bl, b = bl ++ [b.getLast hne] := ⟨b.dropLast, (List.dropLast_concat_getLast hne).symm⟩

end Bee2V.C05.Div
