/-
C05 — helper lemmas for PropsGf2.lean: the ring GF(2)[x]/(f) on Nat codes as a `CommRing`
(so that `ring` / `linear_combination` do the algebra), trace / half-trace sums, and the
loops of ModelGf2.lean (`namespace Bee2V.C05.Gf2`).  At the end: the projection
GF(2)[x] → GF(2)[x]/(f) (`Fld.proj`, a ring homomorphism), which gives `frobFix_of_x`.
-/
import Bee2V.C05.ModelGf2
import Bee2V.C05.LemmasPp
import Bee2V.Base.Char2
import Mathlib.Algebra.Ring.Defs
import Mathlib.Algebra.Group.Basic
import Mathlib.Tactic.Ring
import Mathlib.Tactic.LinearCombination
set_option linter.unusedSectionVars false
namespace Bee2V.C05.Gf2
open Bee2V.C05 Bee2V.C05.Spec Bee2V.C05.Pp

theorem pmod_lt {f : Nat} (hf : f ≠ 0) (x : Nat) : pmod x f < 2 ^ f.log2 := pmod_lt_two_pow hf x

/-! ## `pmod` as a ring homomorphism -/

theorem pmod_xor {f : Nat} (hf : f ≠ 0) (x y : Nat) : pmod (x ^^^ y) f = pmod x f ^^^ pmod y f := by
  rw [pmod_cong hf (cong_xor (cong_symm (cong_pmod hf x)) (cong_symm (cong_pmod hf y)))]
  exact pmod_of_lt hf (Nat.xor_lt_two_pow (pmod_lt hf x) (pmod_lt hf y))

theorem pmod_mul_right {f : Nat} (hf : f ≠ 0) (c x : Nat) :
    pmod (clmul c (pmod x f)) f = pmod (clmul c x) f := by
  rw [clmul_comm, pmod_mul_left hf, clmul_comm]

theorem pmod_zero {f : Nat} (hf : f ≠ 0) : pmod 0 f = 0 := pmod_of_lt hf (Nat.two_pow_pos _)

/-! ## the ring -/

/-- reduced codes modulo f -/
def R (f : Nat) : Type := {x : Nat // x < 2 ^ f.log2}

variable {f : Nat} [hf : Fact (f ≠ 0)]

omit hf in
theorem R.ext {a b : R f} (h : a.1 = b.1) : a = b := Subtype.ext h

instance : Zero (R f) := ⟨⟨0, Nat.two_pow_pos _⟩⟩
instance : Add (R f) := ⟨fun a b => ⟨a.1 ^^^ b.1, Nat.xor_lt_two_pow a.2 b.2⟩⟩
instance : Neg (R f) := ⟨fun a => a⟩
instance : Mul (R f) := ⟨fun a b => ⟨gfMul f a.1 b.1, pmod_lt hf.out _⟩⟩
instance : One (R f) := ⟨⟨pmod 1 f, pmod_lt hf.out _⟩⟩

/-- an element from a reduced code -/
abbrev mk (x : Nat) (h : x < 2 ^ f.log2) : R f := ⟨x, h⟩

instance : CommRing (R f) where
  add := (· + ·)
  zero := 0
  neg := Neg.neg
  mul := (· * ·)
  one := 1
  add_assoc a b c := R.ext (Nat.xor_assoc _ _ _)
  zero_add a := R.ext (Nat.zero_xor _)
  add_zero a := R.ext (Nat.xor_zero _)
  add_comm a b := R.ext (Nat.xor_comm _ _)
  neg_add_cancel a := R.ext (Nat.xor_self _)
  nsmul := nsmulRec
  zsmul := zsmulRec
  mul_assoc a b c := R.ext (by
    show gfMul f (gfMul f a.1 b.1) c.1 = gfMul f a.1 (gfMul f b.1 c.1)
    unfold gfMul
    rw [pmod_mul_left hf.out, pmod_mul_right hf.out, clmul_assoc])
  one_mul a := R.ext (by
    show gfMul f (pmod 1 f) a.1 = a.1
    unfold gfMul
    rw [pmod_mul_left hf.out, one_clmul, pmod_of_lt hf.out a.2])
  mul_one a := R.ext (by
    show gfMul f a.1 (pmod 1 f) = a.1
    unfold gfMul
    rw [pmod_mul_right hf.out, clmul_one, pmod_of_lt hf.out a.2])
  left_distrib a b c := R.ext (by
    show gfMul f a.1 (b.1 ^^^ c.1) = gfMul f a.1 b.1 ^^^ gfMul f a.1 c.1
    unfold gfMul
    rw [clmul_xor, pmod_xor hf.out])
  right_distrib a b c := R.ext (by
    show gfMul f (a.1 ^^^ b.1) c.1 = gfMul f a.1 c.1 ^^^ gfMul f b.1 c.1
    unfold gfMul
    rw [xor_clmul, pmod_xor hf.out])
  zero_mul a := R.ext (by
    show gfMul f 0 a.1 = 0
    unfold gfMul
    rw [zero_clmul, pmod_zero hf.out])
  mul_zero a := R.ext (by
    show gfMul f a.1 0 = 0
    unfold gfMul
    rw [clmul_zero, pmod_zero hf.out])
  mul_comm a b := R.ext (by
    show gfMul f a.1 b.1 = gfMul f b.1 a.1
    unfold gfMul
    rw [clmul_comm])

theorem val_add (a b : R f) : (a + b).1 = a.1 ^^^ b.1 := rfl
theorem val_mul (a b : R f) : (a * b).1 = gfMul f a.1 b.1 := rfl
theorem val_zero : (0 : R f).1 = 0 := rfl
theorem val_one : (1 : R f).1 = pmod 1 f := rfl
theorem val_sq (a : R f) : (a ^ 2).1 = gfSqr f a.1 := by rw [sq]; rfl

/-- characteristic 2 -/
theorem add_self (a : R f) : a + a = 0 := R.ext (Nat.xor_self _)

/-! ## trace and half-trace sums -/

open Bee2V.Char2

/-! ## the loops of the model in ring terms -/

theorem gf2SqrN_eq (x : R f) (k : Nat) : gf2SqrN f k x.1 = (x ^ 2 ^ k).1 := by
  induction k generalizing x with
  | zero => simp [gf2SqrN]
  | succ k ih =>
    unfold gf2SqrN
    rw [← val_sq, ih, ← pow_mul, pow_succ, Nat.mul_comm]

theorem gf2TrLoop_eq (a : R f) (k j : Nat) :
    gf2TrLoop f a.1 k (trSum a (j + 1)).1 = (trSum a (j + 1 + k)).1 := by
  induction k generalizing j with
  | zero => rfl
  | succ k ih =>
    unfold gf2TrLoop
    rw [← val_sq, ← val_add, trSum_sq_add add_self, ih]
    congr 2; omega

theorem gf2TrVal_eq (a : R f) (m : Nat) (hm : 1 ≤ m) : gf2TrVal f m a.1 = (trSum a m).1 := by
  unfold gf2TrVal
  have h := gf2TrLoop_eq a (m - 1) 0
  have e : trSum a (0 + 1) = a := by simp [trSum]
  rw [e] at h
  rw [h]
  congr 2; omega

theorem gf2HtrLoop_eq (t : R f) (k j : Nat) :
    gf2HtrLoop f t.1 k (htrSum t (j + 1)).1 = (htrSum t (j + 1 + k)).1 := by
  induction k generalizing j with
  | zero => rfl
  | succ k ih =>
    unfold gf2HtrLoop
    rw [← val_sq, ← val_sq, ← val_add, htrSum_pow4_add add_self, ih]
    congr 2; omega

/-! ## hypotheses about f that irreducibility of degree m provides -/

/-- Frobenius^m fixes every element: `x^(2^m) = x` in GF(2)[x]/(f), m = deg f -/
def FrobFix (f m : Nat) : Prop := f ≠ 0 ∧ f.log2 = m ∧ ∀ x, x < 2 ^ m → gf2SqrN f m x = x

/-- GF(2)[x]/(f) has no zero divisors -/
def NoZeroDiv (f m : Nat) : Prop := ∀ x y, x < 2 ^ m → y < 2 ^ m → gfMul f x y = 0 → x = 0 ∨ y = 0

/-- the Nat-level sum `Σ_{i<k} a^(2^i) mod f` -/
def gf2TrSum (f a : Nat) : Nat → Nat
  | 0 => 0
  | k + 1 => gf2TrSum f a k ^^^ gf2SqrN f k a

theorem gf2TrSum_eq (a : R f) (k : Nat) : gf2TrSum f a.1 k = (trSum a k).1 := by
  induction k with
  | zero => rfl
  | succ k ih => unfold gf2TrSum trSum; rw [ih, gf2SqrN_eq, val_add]

theorem frobFix_ring {m : Nat} (h : FrobFix f m) (x : R f) : x ^ 2 ^ m = x := by
  obtain ⟨_, h2, h3⟩ := h
  apply R.ext
  rw [← gf2SqrN_eq]
  exact h3 x.1 (by rw [← h2]; exact x.2)

/-- `Tr(a)^2 = Tr(a)` -/
theorem trSum_idem {m : Nat} (h : FrobFix f m) (a : R f) : (trSum a m) ^ 2 = trSum a m :=
  Char2.trSum_idem add_self (frobFix_ring h a)

/-! ## Nat-level statements about gf2Tr -/

theorem trVal_nat (a : Nat) (ha : a < 2 ^ f.log2) (m : Nat) (hm : 1 ≤ m) :
    gf2TrVal f m a = (trSum (mk a ha) m).1 := gf2TrVal_eq (mk a ha) m hm

/-! ## gf2QSolve -/

/-- the Nat-level left-hand side `x^2 + a x + b` is the ring expression -/
theorem qeq_val (X A B : R f) :
    gfSqr f X.1 ^^^ gfMul f A.1 X.1 ^^^ B.1 = (X ^ 2 + A * X + B).1 := by
  rw [val_add, val_add, val_sq, val_mul]

/-- the quotient computed by ppDivModV, in ring terms -/
theorem div_ring (hfo : f % 2 = 1) (dv s : R f) (hg : pgcd s.1 f = 1) :
    ∃ T : R f, T.1 = ppDivModV dv.1 s.1 f ∧ T * s = dv := by
  have h := (divModV_spec dv.1 s.1 f hfo
    (Nat.lt_of_lt_of_le dv.2 (Nat.pow_le_pow_right (by decide) (Nat.le_succ _)))).1 hg
  rw [pmod_of_lt hf.out dv.2] at h
  exact ⟨⟨ppDivModV dv.1 s.1 f, h.2⟩, rfl, R.ext h.1⟩

omit hf in
/-- a ring in which every non-zero square is invertible has no zero divisors -/
theorem noZeroDiv_of_sqr_coprime {f m : Nat} (hf0 : f ≠ 0) (hm : f.log2 = m) (hfo : f % 2 = 1)
    (hg : ∀ a, a < 2 ^ m → a ≠ 0 → pgcd (gfSqr f a) f = 1) : NoZeroDiv f m := by
  have : Fact (f ≠ 0) := ⟨hf0⟩
  intro x y hx hy hxy
  by_cases hx0 : x = 0
  · exact Or.inl hx0
  subst hm
  obtain ⟨U, _, hU⟩ := div_ring hfo 1 ((mk x hx) ^ 2) (by rw [val_sq]; exact hg x hx hx0)
  have hXY : mk x hx * mk y hy = 0 := R.ext hxy
  have hY : mk y hy = 0 := by linear_combination (-(mk y hy)) * hU + U * mk x hx * hXY
  exact Or.inr (congrArg Subtype.val hY)

theorem htr_eq {m : Nat} (hF : FrobFix f m) (hodd : m % 2 = 1) (T : R f) (h0 : trSum T m = 0) :
    (htrSum T ((m - 1) / 2 + 1)) ^ 2 + htrSum T ((m - 1) / 2 + 1) = T := by
  rw [htrSum_sq_add add_self]
  have e : 2 * ((m - 1) / 2 + 1) = m + 1 := by omega
  rw [e]
  have : trSum T (m + 1) = trSum T m + T ^ 2 ^ m := rfl
  rw [this, h0, frobFix_ring hF, zero_add]

/-! ## ppMinPoly -/

/-- invariant of the Euclid loop of ppMinPoly (a' = the trimmed sequence word, X = x^(2l)) -/
structure MPInv (l a' aa bb da db : Nat) : Prop where
  c1 : Cong (2 ^ (2 * l)) (clmul da a') aa
  c2 : Cong (2 ^ (2 * l)) (clmul db a') bb
  da0 : da ≠ 0
  bb0 : bb ≠ 0
  deg : da.log2 + bb.log2 = 2 * l
  dbl : db < 2 ^ da.log2
  aal : aa < 2 ^ bb.log2
  bbl : l ≤ bb.log2
  det : clmul da bb ^^^ clmul db aa = 2 ^ (2 * l)

omit hf in
theorem mpInv_step {l a' aa bb da db : Nat} (h : MPInv l a' aa bb da db) (haa : aa ≠ 0)
    (hdeg : aa.log2 + 1 > l) :
    MPInv l a' (pdivmod bb aa).2 aa (db ^^^ clmul (pdivmod bb aa).1 da) da := by
  obtain ⟨c1, c2, da0, bb0, deg, dbl, aal, bbl, det⟩ := h
  obtain ⟨hq, hr⟩ := pdivmod_spec bb aa haa
  generalize (pdivmod bb aa).1 = q at *
  generalize (pdivmod bb aa).2 = r at *
  -- q ≠ 0 and deg q = deg bb - deg aa
  have hq0 : q ≠ 0 := by
    rintro rfl
    rw [zero_clmul, Nat.zero_xor] at hq
    subst hq
    have : 2 ^ aa.log2 ≤ 2 ^ r.log2 :=
      Nat.pow_le_pow_right (by decide) (Nat.le_of_lt ((Nat.log2_lt haa).2 aal))
    have := Nat.log2_self_le bb0
    omega
  have hqa0 := clmul_ne_zero hq0 haa
  have hlq := log2_clmul hq0 haa
  have hrl : r < 2 ^ (clmul q aa).log2 := by
    rw [hlq]
    exact Nat.lt_of_lt_of_le hr (Nat.pow_le_pow_right (by decide) (Nat.le_add_left _ _))
  have hbbl : bb.log2 = q.log2 + aa.log2 := by
    have := (log2_xor_of_lt hqa0 hrl).2
    rw [Nat.xor_comm, hq, hlq] at this
    exact this
  have hqd0 := clmul_ne_zero hq0 da0
  have hlqd := log2_clmul hq0 da0
  have hq1 : 1 ≤ q.log2 := by
    have := (Nat.log2_lt haa).2 aal
    omega
  have hdbl' : db < 2 ^ (clmul q da).log2 := by
    rw [hlqd]
    exact Nat.lt_of_lt_of_le dbl (Nat.pow_le_pow_right (by decide) (Nat.le_add_left _ _))
  obtain ⟨hn0, hnl⟩ := log2_xor_of_lt hqd0 hdbl'
  refine ⟨?_, c1, hn0, haa, ?_, ?_, hr, by omega, ?_⟩
  · -- (db + q da) a' ≡ bb + q aa = r
    rw [xor_clmul]
    have h1 : Cong (2 ^ (2 * l)) (clmul (clmul q da) a') (clmul q aa) := by
      rw [clmul_assoc]; exact cong_mul_left q c1
    have h2 := cong_xor c2 h1
    have e : bb ^^^ clmul q aa = r := by
      rw [← hq, Nat.xor_comm (clmul q aa) r, Nat.xor_assoc, Nat.xor_self, Nat.xor_zero]
    rw [e] at h2
    exact h2
  · rw [hnl, hlqd]; omega
  · rw [hnl, hlqd]
    calc da < 2 ^ (da.log2 + 1) := Nat.lt_log2_self
      _ ≤ 2 ^ (q.log2 + da.log2) := Nat.pow_le_pow_right (by decide) (by omega)
  · -- determinant
    have e : clmul q (clmul da aa) = clmul da (clmul q aa) := by
      rw [← clmul_assoc, clmul_comm q da, clmul_assoc]
    rw [xor_clmul, ← det, ← hq, clmul_xor, clmul_assoc, e]
    apply Nat.eq_of_testBit_eq; intro i; simp only [Nat.testBit_xor]
    cases (clmul db aa).testBit i <;> cases (clmul da (clmul q aa)).testBit i <;>
      cases (clmul da r).testBit i <;> rfl

omit hf in
theorem mpLoop_spec (l a' : Nat) : ∀ (fu aa bb da db : Nat), MPInv l a' aa bb da db → aa < 2 ^ fu →
    ∃ aa' bb' db', MPInv l a' aa' bb' (ppMinPolyLoop l fu aa bb da db) db' ∧ aa' < 2 ^ l := by
  intro fu
  induction fu with
  | zero =>
    intro aa bb da db h hfu
    exact ⟨aa, bb, db, h, Nat.lt_of_lt_of_le hfu (Nat.pow_le_pow_right (by decide) (Nat.zero_le l))⟩
  | succ fu ih =>
    intro aa bb da db h hfu
    unfold ppMinPolyLoop
    by_cases hc : aa ≠ 0 ∧ aa.log2 + 1 > l
    · rw [if_pos hc]
      simp only []
      apply ih _ _ _ _ (mpInv_step h hc.1 hc.2)
      have := (Nat.log2_lt hc.1).2 hfu
      exact Nat.lt_of_lt_of_le (pdivmod_spec bb aa hc.1).2 (Nat.pow_le_pow_right (by decide) (by omega))
    · rw [if_neg hc]
      refine ⟨aa, bb, db, h, ?_⟩
      by_cases h0 : aa = 0
      · rw [h0]; exact Nat.two_pow_pos _
      · exact (Nat.log2_lt h0).1 (by have : ¬ aa.log2 + 1 > l := fun h' => hc ⟨h0, h'⟩; omega)

omit hf in
theorem cong_two_pow_mod {k u r : Nat} (h : Cong (2 ^ k) u r) (hr : r < 2 ^ k) : u % 2 ^ k = r := by
  obtain ⟨j, hj⟩ := h
  rw [clmul_two_pow, Nat.shiftLeft_eq] at hj
  have hu : u = r ^^^ j * 2 ^ k := by
    rw [← hj, Nat.xor_comm u r, ← Nat.xor_assoc, Nat.xor_self, Nat.zero_xor]
  rw [hu, Nat.xor_mod_two_pow, Nat.mul_mod_left, Nat.xor_zero, Nat.mod_eq_of_lt hr]

omit hf in
/-- the Euclid loop of ppMinPoly ends with an invariant row whose remainder has degree < l -/
theorem minPolyV_inv (a l : Nat) (hl : 1 ≤ l) :
    ∃ aa' bb' db', MPInv l (a % 2 ^ (2 * l)) aa' bb' (ppMinPolyV a l) db' ∧ aa' < 2 ^ l := by
  have hX0 : (2 : Nat) ^ (2 * l) ≠ 0 := Nat.pos_iff_ne_zero.1 (Nat.two_pow_pos _)
  have hinit : MPInv l (a % 2 ^ (2 * l)) (a % 2 ^ (2 * l)) (2 ^ (2 * l)) 1 0 :=
    ⟨by rw [one_clmul]; exact cong_refl _ _,
     ⟨1, by rw [zero_clmul, one_clmul, Nat.zero_xor]⟩,
     by decide, hX0, by rw [Nat.log2_two_pow, show Nat.log2 1 = 0 by decide]; simp,
     by rw [show Nat.log2 1 = 0 by decide]; decide,
     by rw [Nat.log2_two_pow]; exact Nat.mod_lt _ (Nat.two_pow_pos _),
     by rw [Nat.log2_two_pow]; omega,
     by rw [one_clmul, zero_clmul, Nat.xor_zero]⟩
  exact mpLoop_spec l _ (2 * l + 1) _ _ _ _ hinit
    (Nat.lt_of_lt_of_le (Nat.mod_lt a (Nat.two_pow_pos (2 * l)))
      (Nat.pow_le_pow_right (by decide) (Nat.le_succ _)))

/-! ## ppIsIrred = Spec.pIsIrred -/

/-- one Ben-Or test of the specification: from y to y' = y^2 mod a, gcd(a, y' + x) = 1 -/
def specStep (a x : Nat) (st : Nat × Bool) : Nat × Bool :=
  if !st.2 then st else
  let y := pmod (psqr st.1) a
  (y, pgcd a (y ^^^ x) == 1)

/-- the specification loop as a recursion: k tests starting after y -/
def specLoop (a x : Nat) : Nat → Nat → Bool
  | 0, _ => true
  | k + 1, y =>
    let y' := pmod (psqr y) a
    if pgcd a (y' ^^^ x) = 1 then specLoop a x k y' else false

omit hf in
theorem foldl_const {σ : Type} (g : σ → σ) (l : List Nat) (s : σ) :
    l.foldl (fun st _ => g st) s = Nat.iterate g l.length s := by
  induction l generalizing s with
  | nil => rfl
  | cons x xs ih => simp only [List.foldl_cons, List.length_cons, Function.iterate_succ, Function.comp]; exact ih _

omit hf in
theorem iterate_false (a x : Nat) (k y : Nat) : (Nat.iterate (specStep a x) k (y, false)).2 = false := by
  induction k with
  | zero => rfl
  | succ k ih => rw [Function.iterate_succ, Function.comp]; exact ih

omit hf in
theorem iterate_spec (a x : Nat) (k y : Nat) :
    (Nat.iterate (specStep a x) k (y, true)).2 = specLoop a x k y := by
  induction k generalizing y with
  | zero => rfl
  | succ k ih =>
    rw [Function.iterate_succ, Function.comp]
    unfold specLoop
    have e : specStep a x (y, true) = (pmod (psqr y) a, pgcd a (pmod (psqr y) a ^^^ x) == 1) := rfl
    rw [e]
    by_cases hc : pgcd a (pmod (psqr y) a ^^^ x) = 1
    · simp only [hc, beq_self_eq_true, if_true]; exact ih _
    · have hb : (pgcd a (pmod (psqr y) a ^^^ x) == 1) = false := by simpa using hc
      simp only [hb, hc, if_false]; exact iterate_false a x k _

omit hf in
theorem isPGcd_cong {g a u v : Nat} (h : Cong a u v) (hg : IsPGcd g u a) : IsPGcd g a v := by
  obtain ⟨k, hk⟩ := h
  have hv : v = u ^^^ clmul k a := by
    rw [← hk, ← Nat.xor_assoc, Nat.xor_self, Nat.zero_xor]
  have hu : u = v ^^^ clmul k a := by
    rw [← hk, Nat.xor_comm u v, ← Nat.xor_assoc, Nat.xor_self, Nat.zero_xor]
  obtain ⟨g1, g2, g3⟩ := hg
  refine ⟨g2, by rw [hv]; exact pdvd_xor g1 (pdvd_mul k g2), fun d da dv => g3 d ?_ da⟩
  rw [hu]; exact pdvd_xor dv (pdvd_mul k da)

omit hf in
/-- the test of one turn of the C loop equals the test of the specification -/
theorem irred_test (a h : Nat) (ha : 1 < a) :
    (¬ (h ^^^ 2 = 0) ∧ ¬ (ppGCDV (h ^^^ 2) a ≠ 1)) ↔ pgcd a (pmod h a ^^^ pmod 2 a) = 1 := by
  have ha0 : a ≠ 0 := by omega
  have hc : Cong a (h ^^^ 2) (pmod h a ^^^ pmod 2 a) :=
    cong_xor (cong_symm (cong_pmod ha0 h)) (cong_symm (cong_pmod ha0 2))
  by_cases h0 : h ^^^ 2 = 0
  · have hI : IsPGcd a a (pmod h a ^^^ pmod 2 a) := by
      have : IsPGcd a (h ^^^ 2) a := by
        rw [h0]; exact ⟨pdvd_zero a, pdvd_refl a, fun d _ h2 => h2⟩
      exact isPGcd_cong hc this
    have := isPGcd_unique (pgcd_spec a (pmod h a ^^^ pmod 2 a)) hI
    constructor
    · intro hh; exact absurd h0 hh.1
    · intro hh; omega
  · have h1 := gcdV_eq_pgcd h0 ha0
    have hI := isPGcd_cong hc (pgcd_spec (h ^^^ 2) a)
    have := isPGcd_unique (pgcd_spec a (pmod h a ^^^ pmod 2 a)) hI
    rw [h1, ← this]
    constructor
    · intro hh; exact not_not.1 hh.2
    · intro hh; exact ⟨h0, not_not.2 hh⟩

omit hf in
theorem irredLoop_eq (a : Nat) (ha : 1 < a) : ∀ (k h y : Nat), pmod h a = pmod (psqr y) a →
    ppIsIrredLoop a k h = specLoop a (pmod 2 a) k y := by
  have ha0 : a ≠ 0 := by omega
  intro k
  induction k with
  | zero => intro h y _; rfl
  | succ k ih =>
    intro h y hy
    unfold ppIsIrredLoop specLoop
    simp only []
    have ht := irred_test a h ha
    rw [hy] at ht
    by_cases hc : pgcd a (pmod (psqr y) a ^^^ pmod 2 a) = 1
    · obtain ⟨t1, t2⟩ := ht.2 hc
      rw [if_neg t1, if_neg t2, if_pos hc]
      have hh : h ^^^ 2 ^^^ 2 = h := by rw [Nat.xor_assoc, Nat.xor_self, Nat.xor_zero]
      rw [hh]
      cases k with
      | zero => rfl
      | succ k' =>
        apply ih
        rw [if_pos (by omega), pmod_of_lt ha0 (pmod_lt ha0 _), ← hy]
        unfold psqr
        rw [pmod_mul_left ha0, pmod_mul_right ha0]
    · rw [if_neg hc]
      by_cases t1 : h ^^^ 2 = 0
      · rw [if_pos t1]
      · rw [if_neg t1]
        have t2 : ppGCDV (h ^^^ 2) a ≠ 1 := by
          intro h'
          exact hc (ht.1 ⟨t1, not_not.2 h'⟩)
        rw [if_pos t2]

/-! ### minimality of the result of ppMinPoly -/

omit hf in
/-- a multiple of x^k below x^k is 0 -/
theorem eq_of_cong_lt {k u v : Nat} (h : Cong (2 ^ k) u v) (hu : u < 2 ^ k) (hv : v < 2 ^ k) : u = v := by
  obtain ⟨j, hj⟩ := h
  rw [clmul_two_pow, Nat.shiftLeft_eq] at hj
  have hlt : u ^^^ v < 2 ^ k := Nat.xor_lt_two_pow hu hv
  have hj0 : j = 0 := by
    rcases Nat.eq_zero_or_pos j with h0 | h0
    · exact h0
    · have : 2 ^ k ≤ j * 2 ^ k := Nat.le_mul_of_pos_left _ h0
      omega
  subst hj0
  rw [Nat.zero_mul] at hj
  exact xor_eq_zero_iff.1 hj

omit hf in
theorem clmul_right_cancel {u v c : Nat} (hc : c ≠ 0) (h : clmul u c = clmul v c) : u = v := by
  have : clmul (u ^^^ v) c = 0 := by rw [xor_clmul, h, Nat.xor_self]
  rcases clmul_eq_zero this with h1 | h1
  · exact xor_eq_zero_iff.1 h1
  · exact absurd h1 hc

omit hf in
/-- uniqueness for the final row of the Euclid scheme: every g with deg g ≤ l and
    g·a' = r + k·x^{2l}, deg r < l, is a polynomial multiple of da -/
theorem mp_minimal {l a' aa bb da db g r : Nat} (hI : MPInv l a' aa bb da db) (haa : aa < 2 ^ l)
    (hg0 : g ≠ 0) (hgl : g.log2 ≤ l) (hr : r < 2 ^ l) (hc : Cong (2 ^ (2 * l)) (clmul g a') r) :
    ∃ h', g = clmul h' da := by
  obtain ⟨c1, c2, da0, bb0, deg, dbl, aal, bbl, det⟩ := hI
  have hdal : da.log2 ≤ l := by omega
  have hX0 : (2 : Nat) ^ (2 * l) ≠ 0 := Nat.pos_iff_ne_zero.1 (Nat.two_pow_pos _)
  have hlt : ∀ {x : Nat}, x ≠ 0 → x.log2 ≤ l → x < 2 ^ (l + 1) := fun h0 h => (Nat.log2_lt h0).1 (by omega)
  -- A: g·aa = da·r
  have hA : clmul g aa = clmul da r := by
    apply eq_of_cong_lt (k := 2 * l)
    · have h1 : Cong (2 ^ (2 * l)) (clmul g aa) (clmul g (clmul da a')) :=
        cong_mul_left g (cong_symm c1)
      have h2 : Cong (2 ^ (2 * l)) (clmul da (clmul g a')) (clmul da r) := cong_mul_left da hc
      have e : clmul g (clmul da a') = clmul da (clmul g a') := by
        rw [← clmul_assoc, clmul_comm g da, clmul_assoc]
      rw [e] at h1
      exact cong_trans h1 h2
    · have := clmul_lt_two_pow (hlt hg0 hgl) haa
      rwa [show l + 1 + l - 1 = 2 * l by omega] at this
    · have := clmul_lt_two_pow (hlt da0 hdal) hr
      rwa [show l + 1 + l - 1 = 2 * l by omega] at this
  -- C: h = g·bb + db·r is a multiple of x^{2l}
  have hC : Cong (2 ^ (2 * l)) (clmul g bb ^^^ clmul db r) 0 := by
    have h1 : Cong (2 ^ (2 * l)) (clmul g bb) (clmul g (clmul db a')) :=
      cong_mul_left g (cong_symm c2)
    have h2 : Cong (2 ^ (2 * l)) (clmul db r) (clmul db (clmul g a')) :=
      cong_mul_left db (cong_symm hc)
    have e : clmul g (clmul db a') = clmul db (clmul g a') := by
      rw [← clmul_assoc, clmul_comm g db, clmul_assoc]
    rw [e] at h1
    have := cong_xor h1 h2
    rwa [Nat.xor_self] at this
  obtain ⟨h', hh'⟩ := hC
  rw [Nat.xor_zero] at hh'
  -- D: da·h = g·X
  have hD : clmul da (clmul g bb ^^^ clmul db r) = clmul g (2 ^ (2 * l)) := by
    rw [← det, clmul_xor, clmul_xor]
    have e1 : clmul da (clmul g bb) = clmul g (clmul da bb) := by
      rw [← clmul_assoc, clmul_comm da g, clmul_assoc]
    have e2 : clmul da (clmul db r) = clmul g (clmul db aa) := by
      rw [← clmul_assoc, clmul_comm da db, clmul_assoc, ← hA, ← clmul_assoc, clmul_comm db g,
        clmul_assoc]
    rw [e1, e2]
  rw [hh', ← clmul_assoc] at hD
  have := clmul_right_cancel hX0 hD
  exact ⟨h', by rw [← this, clmul_comm]⟩

end Bee2V.C05.Gf2

namespace Bee2V.C05.Fld
open Bee2V.C05 Bee2V.C05.Spec Bee2V.C05.Pp Bee2V.C05.Gf2
variable {f : Nat} [hf : Fact (f ≠ 0)]

/-! ## the projection GF(2)[x] → GF(2)[x]/(f) -/

/-- the class of the polynomial c -/
def proj (f : Nat) [Fact (f ≠ 0)] (c : Nat) : R f := ⟨pmod c f, pmod_lt Fact.out c⟩

theorem proj_xor (a b : Nat) : proj f (a ^^^ b) = proj f a + proj f b :=
  R.ext (pmod_xor hf.out a b)

theorem proj_clmul (a b : Nat) : proj f (clmul a b) = proj f a * proj f b := by
  apply R.ext
  show pmod (clmul a b) f = gfMul f (pmod a f) (pmod b f)
  unfold gfMul
  rw [pmod_mul_left hf.out, pmod_mul_right hf.out]

theorem proj_val (a : R f) : proj f a.1 = a := R.ext (pmod_of_lt hf.out a.2)

theorem proj_zero : proj f 0 = 0 := R.ext (pmod_zero hf.out)

theorem proj_one : proj f 1 = 1 := rfl

/-- if Frobenius^i fixes the class of x it fixes every class -/
theorem frob_fix_all (i : Nat) (hx : (proj f 2) ^ 2 ^ i = proj f 2) :
    ∀ c : Nat, (proj f c) ^ 2 ^ i = proj f c := by
  intro c
  induction c using Nat.strong_induction_on with
  | _ c ih =>
    by_cases h0 : c = 0
    · subst h0
      rw [proj_zero]
      exact zero_pow (Nat.pos_iff_ne_zero.1 (Nat.two_pow_pos i))
    · have hd : c = clmul 2 (c / 2) ^^^ c % 2 := by
        rw [clmul_comm, clmul_two]; exact (bit_decomp c).symm
      have hlt : c / 2 < c := by omega
      have hb : (proj f (c % 2)) ^ 2 ^ i = proj f (c % 2) := by
        rcases Nat.mod_two_eq_zero_or_one c with h | h <;> rw [h]
        · rw [proj_zero]; exact zero_pow (Nat.pos_iff_ne_zero.1 (Nat.two_pow_pos i))
        · rw [proj_one, one_pow]
      conv_lhs => rw [hd]
      conv_rhs => rw [hd]
      rw [proj_xor, proj_clmul, Char2.add_pow_two_pow Gf2.add_self, mul_pow, hx, ih _ hlt, hb]

end Bee2V.C05.Fld

namespace Bee2V.C05.Gf2
open Bee2V.C05 Bee2V.C05.Spec Bee2V.C05.Pp Bee2V.C05.Fld

/-- Frobenius^m is a ring endomorphism, so it is the identity once it fixes the class of x -/
theorem frobFix_of_x {f m : Nat} (hf0 : f ≠ 0) (hm : f.log2 = m)
    (hx : gf2SqrN f m (pmod 2 f) = pmod 2 f) : FrobFix f m := by
  have : Fact (f ≠ 0) := ⟨hf0⟩
  refine ⟨hf0, hm, fun x hx' => ?_⟩
  have hx'' : x < 2 ^ f.log2 := hm ▸ hx'
  have h := frob_fix_all (f := f) m (R.ext (by rw [← gf2SqrN_eq]; exact hx)) x
  rw [show proj f x = mk x hx'' from R.ext (pmod_of_lt hf0 hx'')] at h
  exact (gf2SqrN_eq (mk x hx'') m).trans (congrArg Subtype.val h)

end Bee2V.C05.Gf2
