/-
C05 — helper lemmas for PropsZm.lean (operation tables of zm.c).  namespace Bee2V.C05.Zm
-/
import Bee2V.C05.ModelZm
import Bee2V.C05.PropsEtc
import Bee2V.C05.PropsGcd
namespace Bee2V.C05.Zm
open Bee2V.C05 Bee2V.C05.Etc

theorem addMod_val {x y m : Nat} (hx : x < m) (hy : y < m) : zmAddModV x y m = (x + y) % m := by
  unfold zmAddModV
  split_ifs with h
  · rw [Nat.mod_eq_sub_mod h, Nat.mod_eq_of_lt (by omega)]
  · rw [Nat.mod_eq_of_lt (by omega)]

theorem subMod_val {x y m : Nat} (hx : x < m) (hy : y < m) :
    zmSubModV x y m = (x + (m - y)) % m := by
  unfold zmSubModV
  split_ifs with h
  · have : x + (m - y) = (x - y) + m := by omega
    rw [this, Nat.add_mod_right, Nat.mod_eq_of_lt (by omega)]
  · rw [Nat.mod_eq_of_lt (by omega)]; omega

theorem negMod_val {x m : Nat} (hx : x < m) : zzNegModV x m = (m - x) % m := by
  unfold zzNegModV
  split_ifs with h
  · subst h; simp
  · rw [Nat.mod_eq_of_lt (by omega)]

theorem doubleMod_val {x m : Nat} (hx : x < m) : zmDoubleModV x m = (2 * x) % m := by
  unfold zmDoubleModV
  split_ifs with h
  · rw [Nat.mod_eq_sub_mod h, Nat.mod_eq_of_lt (by omega)]
  · rw [Nat.mod_eq_of_lt (by omega)]

theorem doubleN_val (m : Nat) (hm : 0 < m) : ∀ (c b : Nat), b < m →
    zmDoubleN m c b = (2 ^ c * b) % m := by
  intro c
  induction c with
  | zero => intro b hb; simp [zmDoubleN, Nat.mod_eq_of_lt hb]
  | succ c ih =>
    intro b hb
    unfold zmDoubleN
    rw [doubleMod_val hb, ih _ (Nat.mod_lt _ hm), Nat.mul_mod, Nat.mod_mod, ← Nat.mul_mod,
      Nat.pow_succ]
    congr 1; ring

/-- the hypotheses under which the Montgomery table is used (zmCreateMont): machine word size,
    odd modulus of n words -/
structure MontOK (W n m : Nat) : Prop where
  hW : W = 16 ∨ W = 32 ∨ W = 64
  hodd : m % 2 = 1
  hmd : m < 2 ^ (W * n)

theorem montParam_ok {W n m : Nat} (H : MontOK W n m) :
    (m % 2 ^ W * zmMontParam W m + 1) % 2 ^ W = 0 := by
  unfold zmMontParam
  have hpos := Nat.two_pow_pos W
  have h2 : 2 ∣ 2 ^ W := by
    rcases H.hW with h | h | h <;> subst h <;> decide
  have hodd : m % 2 ^ W % 2 = 1 := by
    rw [Nat.mod_mod_of_dvd _ h2]; exact H.hodd
  have := wordNegInvV_spec W (m % 2 ^ W) H.hW (Nat.mod_lt _ hpos) hodd
  rwa [Nat.mod_mod] at this

/-- decoding: a reduced x with `x ≡ c R` is the Montgomery form of `c mod m` -/
theorem mont_decode {W n m : Nat} (H : MontOK W n m) (x c : Nat) (hx : x < m)
    (h : x ≡ c * 2 ^ (W * n) [MOD m]) :
    zmToMontV W n m (zmMontParam W m) x = c % m := by
  unfold zmToMontV
  exact Etc.mont_decode H.hodd (zzRedMontV_spec W n m _ x (montParam_ok H) H.hmd
    (Nat.lt_of_lt_of_le hx (Nat.le_mul_of_pos_right _ (Nat.two_pow_pos _)))) h

theorem from_mont_modEq (W n m a : Nat) :
    zmFromMontV W n m a ≡ a * 2 ^ (W * n) [MOD m] := by
  unfold zmFromMontV; exact Nat.mod_modEq _ _

theorem from_some {k : ZmKind} {W n m a x : Nat} (h : zmFromV k W n m a = some x) :
    a < m ∧ x < m ∧ (k = .mont → x = zmFromMontV W n m a) ∧ (k ≠ .mont → x = a) := by
  unfold zmFromV at h
  split_ifs at h with ha
  injection h with h
  subst h
  cases k <;> simp [zmFromMontV, ha, Nat.mod_lt _ (show 0 < m by omega)]

/-- hypotheses of a ring description of kind k -/
def ZmOK (k : ZmKind) (W n m : Nat) : Prop := k = .mont → MontOK W n m

theorem to_nonmont {k : ZmKind} (hk : k ≠ .mont) (W n m x : Nat) : zmToV k W n m x = x := by
  cases k <;> simp [zmToV] at hk ⊢

/-- the common shape: a reduced internal value z that represents c decodes to `c mod m` -/
theorem decode {k : ZmKind} {W n m : Nat} (H : ZmOK k W n m) (z c : Nat) (hz : z < m)
    (hm : k = .mont → z ≡ c * 2 ^ (W * n) [MOD m]) (hp : k ≠ .mont → z = c % m) :
    zmToV k W n m z = c % m := by
  by_cases hk : k = .mont
  · subst hk
    exact mont_decode (H rfl) z c hz (hm rfl)
  · rw [to_nonmont hk, hp hk]

/-- zmInvMont on the Montgomery form x of a: the result b' is reduced and `b' x ≡ R^2` -/
theorem invMont_val {W n m a x : Nat} (H : MontOK W n m) (hm1 : 1 < m) (hg : Nat.gcd a m = 1)
    (hxm : x < m) (hxR : x ≡ a * 2 ^ (W * n) [MOD m]) :
    zmInvMontV W n m x < m
      ∧ zmInvMontV W n m x * x ≡ 2 ^ (W * n) * 2 ^ (W * n) [MOD m] := by
  have hcop2 : Nat.Coprime (2 ^ (W * n)) m := by
    apply Nat.Coprime.pow_left
    unfold Nat.Coprime
    rw [Nat.gcd_rec, H.hodd]; rfl
  have hgx : Nat.gcd x m = 1 := by
    have : Nat.gcd x m = Nat.gcd (a * 2 ^ (W * n)) m := hxR.gcd_eq
    rw [this]
    exact Nat.Coprime.mul_left hg hcop2
  have hx0 : 0 < x := by
    rcases Nat.eq_zero_or_pos x with h | h
    · subst h; rw [Nat.gcd_zero_left] at hgx; omega
    · exact h
  obtain ⟨s1, s2, _⟩ := zzAlmostInvModV_spec x m H.hodd hx0 hxm hgx
  obtain ⟨_, _, _, c4⟩ := zzAlmostInvModV_count x m H.hodd hx0 hxm hgx
  have hlog : Nat.log2 m + 1 ≤ W * n := by
    have := (Nat.log2_lt (by omega : m ≠ 0)).2 H.hmd
    omega
  unfold zmInvMontV
  simp only []
  generalize (zzAlmostInvModV x m).1 = b at *
  generalize (zzAlmostInvModV x m).2 = k at *
  rw [doubleN_val m (by omega) _ b s2]
  have hk : 2 * n * W - k + k = W * n + W * n := by
    have : 2 * n * W = W * n + W * n := by ring
    omega
  generalize 2 * n * W - k = c at *
  refine ⟨Nat.mod_lt _ (by omega), ?_⟩
  have e3 : 2 ^ c * b % m * x ≡ 2 ^ c * b * x [MOD m] := (Nat.mod_modEq _ _).mul_right x
  have e4 : 2 ^ c * b * x ≡ 2 ^ c * 2 ^ k [MOD m] := by
    rw [Nat.mul_assoc]
    exact (Nat.ModEq.refl (2 ^ c)).mul s1
  refine (e3.trans e4).trans ?_
  rw [← Nat.pow_add, hk, Nat.pow_add]

end Bee2V.C05.Zm
