/-
C05 — special reductions of binary polynomials (pp_red.c, gf2.c; models in ModelPpRed.lean,
lemmas in LemmasPpRed.lean).

PROVED, for ALL arrays `a` of 2·W_OF_B(m) words (any contents: no bound on deg a), every word size
w > 0: ppRedTrinomial and the two gf2 trinomial reductions compute `Spec.pmod (val a) (x^m + x^k + 1)`
in W_OF_B(m) words, result < 2^m.  What is really needed is `m % w ≠ 0` (it excludes the undefined
shift `hi << B_PER_W`); the header's `m % 8 ≠ 0` implies it because B_PER_W is a multiple of 8
(`ppRedTrinomial_spec_header`).  No failing admitted input exists.

Also proved: the three static reductions of gf2.c, run with the fields gf2Create precomputes, are
the same word-level computations as the pp_red.c ones (`…_eq_pp`).

The same is PROVED for ppRedPentanomial / gf2RedPentanomial (incl. m % w = 0).

And for ppRedBelt (x^128 + x^7 + x^2 + x + 1) for every word size with 7 < w, w·W_OF_B(128) = 128,
W_OF_B(128) ≥ 2 (w = 8, 16, 32, 64).  Nothing is left open in this file.
-/
import Bee2V.C05.LemmasPpRed
namespace Bee2V.C05
open Bee2V.C05.PpRed

/-- gf2RedPentanomial with the fields of gf2Create is ppRedPentanomial, statement by statement. -/
theorem gf2RedPentanomial_eq_pp (w : Nat) (a : List Nat) (m k l l1 : Nat) :
    gf2RedPentanomialArr w a (wOfB w m) (Gf2Pentanom.create w m k l l1)
      = ppRedPentanomialArr w a m k l l1
    ∧ gf2RedPentanomial w a (wOfB w m) (Gf2Pentanom.create w m k l l1)
      = ppRedPentanomial w a m k l l1 := ⟨rfl, rfl⟩

example : gf2RedPentanomial 8 [255, 255, 255, 255, 255, 255] 3 (Gf2Pentanom.create 8 19 5 2 1)
    = ppRedPentanomial 8 [255, 255, 255, 255, 255, 255] 19 5 2 1 := by decide

/-- gf2RedTrinomial1 (used when (m − k) % w ≠ 0) is ppRedTrinomial. -/
theorem gf2RedTrinomial1_eq_pp (w : Nat) (a : List Nat) (m k : Nat) (hbk : (m - k) % w ≠ 0) :
    gf2RedTrinomial1Arr w a (wOfB w m) (Gf2Trinom.create w m k) = ppRedTrinomialArr w a m k := by
  unfold gf2RedTrinomial1Arr ppRedTrinomialArr Gf2Trinom.create
  have hb : (fun (n : Nat) (a : List Nat) =>
      let hi := a.getD n 0
      let a := xorAt a (n - m / w - 1) (wshl w hi (w - m % w))
      let a := xorAt a (n - m / w) (wshr hi (m % w))
      let a := xorAt a (n - (m - k) / w - 1) (wshl w hi (w - (m - k) % w))
      xorAt a (n - (m - k) / w) (wshr hi ((m - k) % w)))
      = ppRedTriBody w (m % w) (m / w) ((m - k) % w) ((m - k) / w) := by
    funext n a
    simp only [ppRedTriBody, if_pos hbk]
  simp only [hb, hbk, ne_eq, not_false_eq_true, and_true]

/-- gf2RedTrinomial0 (used when (m − k) % w = 0) is ppRedTrinomial. -/
theorem gf2RedTrinomial0_eq_pp (w : Nat) (a : List Nat) (m k : Nat) (hbk : (m - k) % w = 0) :
    gf2RedTrinomial0Arr w a (wOfB w m) (Gf2Trinom.create w m k) = ppRedTrinomialArr w a m k := by
  unfold gf2RedTrinomial0Arr ppRedTrinomialArr Gf2Trinom.create
  have hb : (fun (n : Nat) (a : List Nat) =>
      let hi := a.getD n 0
      let a := xorAt a (n - m / w - 1) (wshl w hi (w - m % w))
      let a := xorAt a (n - m / w) (wshr hi (m % w))
      xorAt a (n - (m - k) / w) hi)
      = ppRedTriBody w (m % w) (m / w) ((m - k) % w) ((m - k) / w) := by
    funext n a
    simp only [ppRedTriBody, hbk, ne_eq, not_true_eq_false, if_false, PpRed.xorAt_zero, wshr, Nat.pow_zero,
      Nat.div_one]
  simp only [hb, hbk, ne_eq, not_true_eq_false, and_false, if_false, wshr, Nat.pow_zero, Nat.div_one]

example : gf2RedTrinomial0 8 [255, 255, 255, 255, 255, 255] 3 (Gf2Trinom.create 8 19 3)
    = ppRedTrinomial 8 [255, 255, 255, 255, 255, 255] 19 3 := by decide
example : gf2RedTrinomial1 8 [255, 1, 2, 3, 4, 255] 3 (Gf2Trinom.create 8 19 5)
    = ppRedTrinomial 8 [255, 1, 2, 3, 4, 255] 19 5 := by decide

/-! ## correctness of the trinomial reductions -/

/-- ppRedTrinomial(a, {m, k}) for every array of 2·W_OF_B(m) words: the first W_OF_B(m) words are
    `a mod (x^m + x^k + 1)`, reduced.  Preconditions: k > 0, m − k ≥ B_PER_W, m % B_PER_W ≠ 0. -/
theorem ppRedTrinomial_spec (w : Nat) (a : List Nat) (m k : Nat) (hw : 0 < w) (ha : Wf w a)
    (hl : a.length = 2 * wOfB w m) (hmw : m % w ≠ 0) (hk : 0 < k) (hmk : w ≤ m - k) :
    val w (ppRedTrinomial w a m k) = Spec.pmod (val w a) (2 ^ m + 2 ^ k + 1)
    ∧ val w (ppRedTrinomial w a m k) < 2 ^ m
    ∧ Wf w (ppRedTrinomial w a m k) ∧ (ppRedTrinomial w a m k).length = wOfB w m :=
  ppRedTrinomial_ok a m k hw ha hl hmw hk hmk

-- the hypotheses are satisfiable (all-ones array: degree 31 > 2m − 2), and the theorem applies:
example := ppRedTrinomial_spec 8 [255, 255, 255, 255] 11 2 (by decide) (by decide) (by decide)
  (by decide) (by decide) (by decide)
example : (ppRedTrinomial 8 [255, 255, 255, 255] 11 2).length = 2
    ∧ val 8 (ppRedTrinomial 8 [255, 255, 255, 255] 11 2) < 2 ^ 11 := by decide

/-- the same under the header's preconditions literally (`m % 8 != 0`; B_PER_W is a multiple of 8) -/
theorem ppRedTrinomial_spec_header (w : Nat) (a : List Nat) (m k : Nat) (hw : 0 < w) (h8 : 8 ∣ w)
    (ha : Wf w a) (hl : a.length = 2 * wOfB w m) (hm8 : m % 8 ≠ 0) (hk : 0 < k) (hmk : w ≤ m - k) :
    val w (ppRedTrinomial w a m k) = Spec.pmod (val w a) (2 ^ m + 2 ^ k + 1)
    ∧ val w (ppRedTrinomial w a m k) < 2 ^ m
    ∧ Wf w (ppRedTrinomial w a m k) ∧ (ppRedTrinomial w a m k).length = wOfB w m := by
  apply ppRedTrinomial_ok a m k hw ha hl _ hk hmk
  intro h0
  exact hm8 (Nat.mod_eq_zero_of_dvd (Nat.dvd_trans h8 (Nat.dvd_of_mod_eq_zero h0)))

/-- gf2RedTrinomial1 (gf2Create selects it when (m − k) % w ≠ 0) -/
theorem gf2RedTrinomial1_spec (w : Nat) (a : List Nat) (m k : Nat) (hw : 0 < w) (ha : Wf w a)
    (hl : a.length = 2 * wOfB w m) (hmw : m % w ≠ 0) (hk : 0 < k) (hmk : w ≤ m - k)
    (hbk : (m - k) % w ≠ 0) :
    val w (gf2RedTrinomial1 w a (wOfB w m) (Gf2Trinom.create w m k))
      = Spec.pmod (val w a) (2 ^ m + 2 ^ k + 1)
    ∧ val w (gf2RedTrinomial1 w a (wOfB w m) (Gf2Trinom.create w m k)) < 2 ^ m
    ∧ Wf w (gf2RedTrinomial1 w a (wOfB w m) (Gf2Trinom.create w m k))
    ∧ (gf2RedTrinomial1 w a (wOfB w m) (Gf2Trinom.create w m k)).length = wOfB w m := by
  have e : gf2RedTrinomial1 w a (wOfB w m) (Gf2Trinom.create w m k) = ppRedTrinomial w a m k := by
    unfold gf2RedTrinomial1 ppRedTrinomial
    rw [gf2RedTrinomial1_eq_pp w a m k hbk]
  rw [e]
  exact ppRedTrinomial_ok a m k hw ha hl hmw hk hmk

/-- gf2RedTrinomial0 (gf2Create selects it when (m − k) % w = 0) -/
theorem gf2RedTrinomial0_spec (w : Nat) (a : List Nat) (m k : Nat) (hw : 0 < w) (ha : Wf w a)
    (hl : a.length = 2 * wOfB w m) (hmw : m % w ≠ 0) (hk : 0 < k) (hmk : w ≤ m - k)
    (hbk : (m - k) % w = 0) :
    val w (gf2RedTrinomial0 w a (wOfB w m) (Gf2Trinom.create w m k))
      = Spec.pmod (val w a) (2 ^ m + 2 ^ k + 1)
    ∧ val w (gf2RedTrinomial0 w a (wOfB w m) (Gf2Trinom.create w m k)) < 2 ^ m
    ∧ Wf w (gf2RedTrinomial0 w a (wOfB w m) (Gf2Trinom.create w m k))
    ∧ (gf2RedTrinomial0 w a (wOfB w m) (Gf2Trinom.create w m k)).length = wOfB w m := by
  have e : gf2RedTrinomial0 w a (wOfB w m) (Gf2Trinom.create w m k) = ppRedTrinomial w a m k := by
    unfold gf2RedTrinomial0 ppRedTrinomial
    rw [gf2RedTrinomial0_eq_pp w a m k hbk]
  rw [e]
  exact ppRedTrinomial_ok a m k hw ha hl hmw hk hmk

/-! ## correctness of the pentanomial reductions -/

/-- ppRedPentanomial(a, {m, k, l, l1}) for every array of 2·W_OF_B(m) words (any contents), every
    w > 0, including m % w = 0: the first W_OF_B(m) words are `a mod (x^m + x^k + x^l + x^l1 + 1)`,
    reduced.  Preconditions of the header: k > l > l1 > 0, k < B_PER_W, m − k ≥ B_PER_W. -/
theorem ppRedPentanomial_spec (w : Nat) (a : List Nat) (m k l l1 : Nat) (hw : 0 < w) (ha : Wf w a)
    (hlen : a.length = 2 * wOfB w m) (h1 : 0 < l1) (h2 : l1 < l) (h3 : l < k) (hk : k < w)
    (hmk : w ≤ m - k) :
    val w (ppRedPentanomial w a m k l l1)
      = Spec.pmod (val w a) (2 ^ m + 2 ^ k + 2 ^ l + 2 ^ l1 + 1)
    ∧ val w (ppRedPentanomial w a m k l l1) < 2 ^ m
    ∧ Wf w (ppRedPentanomial w a m k l l1) ∧ (ppRedPentanomial w a m k l l1).length = wOfB w m :=
  ppRedPentanomial_ok a m k l l1 hw ha hlen h1 h2 h3 hmk

-- hypotheses satisfiable, also with m % w = 0 (m = 16, w = 8) and an all-ones array (degree 31):
example := ppRedPentanomial_spec 8 [255, 255, 255, 255] 16 5 2 1 (by decide) (by decide) (by decide)
  (by decide) (by decide) (by decide) (by decide) (by decide)
example : (ppRedPentanomial 8 [255, 255, 255, 255] 16 5 2 1).length = 2
    ∧ val 8 (ppRedPentanomial 8 [255, 255, 255, 255] 16 5 2 1) < 2 ^ 16 := by decide

/-- gf2RedPentanomial with the fields of gf2Create -/
theorem gf2RedPentanomial_spec (w : Nat) (a : List Nat) (m k l l1 : Nat) (hw : 0 < w) (ha : Wf w a)
    (hlen : a.length = 2 * wOfB w m) (h1 : 0 < l1) (h2 : l1 < l) (h3 : l < k) (hk : k < w)
    (hmk : w ≤ m - k) :
    val w (gf2RedPentanomial w a (wOfB w m) (Gf2Pentanom.create w m k l l1))
      = Spec.pmod (val w a) (2 ^ m + 2 ^ k + 2 ^ l + 2 ^ l1 + 1)
    ∧ val w (gf2RedPentanomial w a (wOfB w m) (Gf2Pentanom.create w m k l l1)) < 2 ^ m
    ∧ Wf w (gf2RedPentanomial w a (wOfB w m) (Gf2Pentanom.create w m k l l1))
    ∧ (gf2RedPentanomial w a (wOfB w m) (Gf2Pentanom.create w m k l l1)).length = wOfB w m := by
  rw [(gf2RedPentanomial_eq_pp w a m k l l1).2]
  exact ppRedPentanomial_ok a m k l l1 hw ha hlen h1 h2 h3 hmk

/-! ## ppRedBelt -/

/-- ppRedBelt(a) for every array of 2·W_OF_B(128) words (any contents): the first W_OF_B(128) words
    are `a mod (x^128 + x^7 + x^2 + x + 1)`.  Word sizes: `mw * B_PER_W == 128` (the C ASSERT),
    B_PER_W > 7 (the shifts by B_PER_W − 7), at least two words (w = 8, 16, 32, 64). -/
theorem ppRedBelt_spec (w : Nat) (a : List Nat) (h7 : 7 < w) (h2 : 2 ≤ wOfB w 128)
    (hw : w * wOfB w 128 = 128) (ha : Wf w a) (hlen : a.length = 2 * wOfB w 128) :
    val w (ppRedBelt w a) = Spec.pmod (val w a) (2 ^ 128 + 2 ^ 7 + 2 ^ 2 + 2 ^ 1 + 1)
    ∧ val w (ppRedBelt w a) < 2 ^ 128
    ∧ Wf w (ppRedBelt w a) ∧ (ppRedBelt w a).length = wOfB w 128 := by
  have hP : List.Pairwise (· > ·) [128, 7, 2, 1, 0] := by decide
  have hw64 : w * 2 ≤ 128 := hw ▸ Nat.mul_le_mul_left w h2
  obtain ⟨l1, l2, l3⟩ := fold_loop (w := w) (mw := wOfB w 128 - 1) hP (ppRedBeltBody w (wOfB w 128))
    (Nat.le_of_eq (by rw [Nat.sub_add_cancel (by omega), hw])) (by simp; omega)
    (fun c a h hn => by
      rw [show wOfB w 128 - 1 + c + 1 = wOfB w 128 + c by omega] at hn ⊢
      rw [show w * (wOfB w 128 + c) - 128 = w * c by rw [Nat.mul_add, hw]; omega]
      exact beltBody_val a _ c h h7 (by omega) hn)
    (val w a) a.length (wOfB w 128) a ha rfl (by omega)
    (by rw [show wOfB w 128 - 1 + wOfB w 128 + 1 = a.length by omega, List.take_length]
        exact Pp.cong_refl _ _)
  rw [Nat.sub_add_cancel (by omega)] at l3
  have hlt : val w ((ppRedBeltArr w a).take (wOfB w 128)) < 2 ^ 128 := by
    have := val_lt (Wf_take l1 (wOfB w 128))
    rwa [List.length_take, Nat.min_eq_left (by omega), hw] at this
  have hP0 : 2 ^ 128 + pSum [7, 2, 1, 0] ≠ 0 := by decide
  have hpm := Pp.pmod_cong hP0 l3
  rw [Pp.pmod_of_lt hP0 (by rw [(foldP hP).1]; exact hlt)] at hpm
  exact ⟨hpm, hlt, Wf_take l1 _, by
    show (List.take _ (redLoop _ _ _ a)).length = _
    rw [List.length_take, l2]; omega⟩

-- the hypotheses hold for B_PER_W = 64 and an all-ones array (degree 255):
example := ppRedBelt_spec 64 (List.replicate 4 (2 ^ 64 - 1)) (by decide) (by decide) (by decide)
  (by decide) (by decide)
example : (ppRedBelt 64 (List.replicate 4 (2 ^ 64 - 1))).length = 2 := by decide

end Bee2V.C05
