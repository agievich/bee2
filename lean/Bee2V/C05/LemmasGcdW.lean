/-
C05 — helper lemmas for PropsGcdW.lean: the word-level models of zz_gcd.c refine the value-level
models.  Every C statement gets a lemma in the terms of LemmasRep.lean (arrays related to values go
to arrays related to the values the value-level model computes); the loops then run in lockstep.
-/
import Bee2V.C05.LemmasRep
import Bee2V.C05.PropsGcd
import Mathlib.Tactic.Ring
import Mathlib.Tactic.Linarith
namespace Bee2V.C05.GcdW
open Bee2V.C05 Bee2V.C05.Add

/-- `wwIsW(a, n, 1)` decides `a = 1` -/
theorem wwIsW_one {w : Nat} (hw : 0 < w) (l : List Nat) (hl : Wf w l) :
    wwIsW_safe l 1 = decide (val w l = 1) := by
  have h2 := two_le_two_pow hw
  rw [Bool.eq_iff_iff, (wwIsW_spec l 1).2, decide_eq_true_iff]
  constructor
  · rintro (⟨_, h⟩ | ⟨as, rfl, hz⟩)
    · omega
    · rw [val_cons, (val_eq_zero_iff w as).mpr hz]; simp
  · intro h
    cases l with
    | nil => simp [val] at h
    | cons x xs =>
      right
      rw [val_cons] at h
      have hx := (Wf_cons.mp hl).1
      rcases Nat.eq_zero_or_pos (val w xs) with h0 | h0
      · rw [h0] at h
        have hx1 : x = 1 := by omega
        exact ⟨xs, by rw [hx1], (val_eq_zero_iff w xs).mp h0⟩
      · exfalso
        have : 2 ^ w * 1 ≤ 2 ^ w * val w xs := Nat.mul_le_mul_left _ h0
        omega

/-! ## wwBitSize, wwLoZeroBits

`wordCLZ` / `wordCTZ` are table- or scan-based per word size; their correctness is packaged as
`SizesOK w` (proved for the three build sizes in PropsBits: wwBitSize16_spec / wwLoZeroBits16_spec,
wwSizes32_spec, wwSizes64_spec). -/

/-- what zz_gcd.c needs from wwBitSize / wwLoZeroBits (default editions) at word size w -/
def SizesOK (w : Nat) : Prop :=
  ∀ a : List Nat, Wf w a →
    (val w a < 2 ^ wwBitSize w a ∧ (0 < wwBitSize w a → 2 ^ (wwBitSize w a - 1) ≤ val w a))
    ∧ ((∀ k, k < wwLoZeroBits w a → (val w a).testBit k = false)
      ∧ (wwLoZeroBits w a < w * a.length → (val w a).testBit (wwLoZeroBits w a) = true))

theorem low_bits_zero {n z : Nat} (h : ∀ k, k < z → n.testBit k = false) : n % 2 ^ z = 0 := by
  apply Nat.eq_of_testBit_eq
  intro k
  rw [Nat.testBit_mod_two_pow, Nat.zero_testBit]
  by_cases hk : k < z
  · simp [hk, h k hk]
  · simp [hk]

/-- the number of low zero bits is determined by "2^z ∣ n, n / 2^z odd" -/
theorem loZeros_unique {n z : Nat} (hn : 0 < n) (h1 : n % 2 ^ z = 0) (h2 : n / 2 ^ z % 2 = 1) :
    z = loZeros n := by
  obtain ⟨g1, g2⟩ := Gcd.loZeros_spec hn
  generalize loZeros n = z' at *
  have key : ∀ x y : Nat, n % 2 ^ x = 0 → n / 2 ^ y % 2 = 1 → ¬ y < x := by
    intro x y hx hy hlt
    obtain ⟨e, rfl⟩ : ∃ e, x = y + (e + 1) := ⟨x - y - 1, by omega⟩
    obtain ⟨q, hq⟩ := Nat.dvd_of_mod_eq_zero hx
    have : n / 2 ^ y = 2 * (2 ^ e * q) := by
      rw [hq, Nat.pow_add, Nat.mul_assoc, Nat.mul_div_cancel_left _ (Nat.two_pow_pos y),
        Nat.pow_succ]
      ring
    omega
  have a1 := key z z' h1 g2
  have a2 := key z' z (Nat.mod_eq_zero_of_dvd g1) h2
  omega

theorem lz_eq {w : Nat} (hs : SizesOK w) (l : List Nat) (hl : Wf w l) (hne : 0 < val w l) :
    wwLoZeroBits w l = loZeros (val w l) := by
  obtain ⟨_, z1, z2⟩ := hs l hl
  have hlow := low_bits_zero z1
  have hlt : wwLoZeroBits w l < w * l.length := by
    rcases Nat.lt_or_ge (wwLoZeroBits w l) (w * l.length) with h | h
    · exact h
    · exfalso
      have h1 := val_lt hl
      have h2 : 2 ^ (w * l.length) ≤ 2 ^ wwLoZeroBits w l := Nat.pow_le_pow_right (by omega) h
      rw [Nat.mod_eq_of_lt (by omega)] at hlow
      omega
  have hbit := z2 hlt
  rw [Nat.testBit_eq_decide_div_mod_eq, decide_eq_true_iff] at hbit
  exact loZeros_unique hne hlow hbit

end Bee2V.C05.GcdW

namespace Bee2V.C05
open Bee2V.C05.Add Bee2V.C05.GcdW

variable {w n m k j : Nat} {l u v a b : List Nat} {x y X Y A B M : Nat}

/-- `wwShLoCarry(x, n, 1, zzAdd2(x, lim, n))`: x <- (x + lim) / 2 -/
theorem Rep.halfPlusW (hw : 0 < w) (hx : Rep w n l x) (hm : Rep w n u M) :
    Rep w n (wwShLoCarry w (zzAdd2 w l u).1 1 (zzAdd2 w l u).2).1 ((x + M) / 2) := by
  obtain ⟨s, hs, e, hc⟩ := hx.add2 hm
  have h2w := two_le_two_pow hw
  have h := hs.shLoCarry hw 1 (c := (zzAdd2 w l u).2) (by omega)
  have := hx.lt
  have := hm.lt
  rwa [Nat.mul_comm (zzAdd2 w l u).2, e, Nat.pow_one, Nat.mod_eq_of_lt (by omega)] at h

/-- the `da` step of the halving loop of zzDivMod -/
theorem Rep.daHalf (hw : 0 < w) (hx : Rep w n l x) (hm : Rep w n u M) :
    Rep w n (if l.getD 0 0 % 2 = 0 then wwShLo w l 1
      else (wwShLoCarry w (zzAdd2 w l u).1 1 (zzAdd2 w l u).2).1)
      (if x % 2 = 0 then x / 2 else (x + M) / 2) := by
  rw [hx.parity hw]
  split
  · exact hx.shLo1 hw
  · exact hx.halfPlusW hw hm

/-- x ← x − y on the prefixes, for y normalised and y ≤ x: `zzSub2` on the low `j` words, the borrow
    run through the words `j .. k` by `zzSubW2`, and no borrow is left -/
theorem Pre.subNorm (hw : 0 < w) (hx : Pre w n u k X) (hy : Pre w m v j Y) (hn : NormV w Y j)
    (hle : Y ≤ X) : j ≤ k ∧ Pre w n (subNormW w u k v j) k (X - Y) := by
  have hjk := hx.norm_le hn hle
  refine ⟨hjk, hx.onPrefix (f := fun _ => _) ?_⟩
  have hlo := hx.take.take j hjk
  have hhi := hx.take.drop j
  rw [List.take_take, Nat.min_eq_left hjk] at hlo
  rw [List.drop_take] at hhi
  have e3 := Nat.mod_add_div X (2 ^ (w * j))
  generalize X % 2 ^ (w * j) = Xlo at hlo e3
  generalize X / 2 ^ (w * j) = Xhi at hhi e3
  obtain ⟨t, ht, e1, hb⟩ := hlo.sub2 hy.take
  have h2w := two_le_two_pow hw
  obtain ⟨t2, ht2, e2⟩ := hhi.subW2 (x := (zzSub2 w (u.take j) (v.take j)).2)
    (by rw [hb]; split <;> omega)
  have hr := ht.append ht2
  have hlt := hr.lt
  generalize (zzSub2 w (u.take j) (v.take j)).2 = bw at *
  generalize (zzSubW2 w ((u.drop j).take (k - j)) bw).2 = bw2 at *
  rw [show j + (k - j) = k by omega] at hr hlt
  have hP : 2 ^ (w * k) = 2 ^ (w * j) * 2 ^ (w * (k - j)) := by
    rw [← Nat.pow_add, ← Nat.mul_add]; congr 2; omega
  have k1 : 2 ^ (w * j) * (t2 + bw) = 2 ^ (w * j) * (Xhi + 2 ^ (w * (k - j)) * bw2) := by rw [e2]
  rw [Nat.mul_add, Nat.mul_add, ← Nat.mul_assoc, ← hP] at k1
  have hz : bw2 = 0 := by
    rcases Nat.eq_zero_or_pos bw2 with h | h
    · exact h
    · have : 2 ^ (w * k) * 1 ≤ 2 ^ (w * k) * bw2 := Nat.mul_le_mul_left _ h
      omega
  rw [hz, Nat.mul_zero, Nat.add_zero] at k1
  rw [show X - Y = t + 2 ^ (w * j) * t2 by omega]
  exact hr

/-- `zzSubW2(x + ny, nx - ny, zzSub2(x, y, ny)); wwShLo(x, nx, 1)` -/
theorem Pre.subHalf (hw : 0 < w) (hx : Pre w n u k X) (hy : Pre w m v j Y) (hn : NormV w Y j)
    (hle : Y ≤ X) : Pre w n (subHalfW w u k v j) k ((X - Y) / 2) :=
  ((hx.subNorm hw hy hn hle).2).shLo1 hw

/-- `if (zzAdd2(x, y, n) || wwCmp(x, mod, n) >= 0) zzSub2(x, mod, n)` -/
theorem Rep.addRedW {mod : List Nat} (ha : Rep w n a A) (hb : Rep w n b B)
    (hm : Rep w n mod M) (hA : A < M) (hB : B < M) :
    Rep w n (Bee2V.C05.addRedW w a b mod) (addRed A B M) ∧ addRed A B M < M := by
  have h : RepC w n (zzAdd2 w a b) (A + B) := by
    have := zzAdd2_spec w a b ha.wf hb.wf (by rw [ha.len, hb.len])
    rwa [ha.len, ha.eq, hb.eq] at this
  obtain ⟨r1, r2, r3, r4⟩ := h.redFast hm.wf hm.len.symm (by rw [hm.eq]; omega)
  simp only [Bee2V.C05.addRedW, wwCmp_safe_eq_fast]
  rw [hm.eq, ← Gcd.addRed_eq_mod hA hB] at r1
  rw [hm.eq, r1] at r2
  exact ⟨⟨r3, r4, r1⟩, r2⟩

/-- `if (zzAdd2(x, y, n) || wwCmp(x, lim, n) > 0) zzSub2(x, lim, n)`, as long as x + y ≤ 2 lim -/
theorem Rep.addCorrW {lim : List Nat} {L : Nat} (ha : Rep w n a A) (hb : Rep w n b B)
    (hl : Rep w n lim L) (hs : A + B ≤ 2 * L) :
    Rep w n (Bee2V.C05.addCorrW w a b lim) (addCorr A B L) ∧ addCorr A B L ≤ L := by
  refine ⟨?_, by unfold addCorr; split <;> omega⟩
  obtain ⟨s, hr, e, hc⟩ := ha.add2 hb
  obtain ⟨t, ht, e2, hbw⟩ := hr.sub2 hl
  have hcmp : wwCmp_safe (zzAdd2 w a b).1 lim > 0 ↔ L < s := by
    rw [wwCmp_safe_spec w _ lim hr.wf hl.wf (by rw [hr.len, hl.len]), hr.eq, hl.eq]
    split_ifs <;> omega
  have h3 := hl.lt
  unfold Bee2V.C05.addCorrW addCorr
  simp only []
  rcases Nat.eq_zero_or_pos (zzAdd2 w a b).2 with h0 | h0
  · -- no carry: s = A + B, compare with lim
    rw [h0, Nat.mul_zero, Nat.add_zero] at e
    subst e
    by_cases hgt : L < A + B
    · rw [if_pos (Or.inr (hcmp.mpr hgt)), if_pos hgt]
      rw [hbw, if_neg (by omega), Nat.mul_zero, Nat.add_zero] at e2
      rw [show A + B - L = t by omega]
      exact ht
    · rw [if_neg (fun h => h.elim (fun h => h h0) (fun h => hgt (hcmp.mp h))), if_neg hgt]
      exact hr
  · -- carry: A + B = s + 2^(w n) > lim, and s < lim, so the subtraction borrows it back
    rw [show (zzAdd2 w a b).2 = 1 by omega, Nat.mul_one] at e
    rw [if_pos (Or.inl (by omega)), if_pos (by omega)]
    rw [hbw, if_pos (by omega), Nat.mul_one] at e2
    rw [show A + B - L = t by omega]
    exact ht

/-- `wwShHi(da, n + 1, 1)` doubles when there is room -/
theorem Rep.shHi1 (hw : 0 < w) (h : Rep w (n + 1) l x) (hM : M < 2 ^ (w * n)) (hb : x ≤ M) :
    Rep w (n + 1) (wwShHi w l 1) (x * 2) := by
  have h2 := two_le_two_pow hw
  have : 2 * 2 ^ (w * n) ≤ 2 ^ w * 2 ^ (w * n) := Nat.mul_le_mul_right _ h2
  have hp : 2 ^ (w * (n + 1)) = 2 ^ w * 2 ^ (w * n) := by
    rw [Nat.mul_succ, Nat.pow_add, Nat.mul_comm]
  have hs := h.shHi hw 1
  rwa [Nat.pow_one, hp, Nat.mod_eq_of_lt (by omega)] at hs

/-- `zzAdd2(x, y, n + 1)` without carry when there is room -/
theorem Rep.add2_room (hw : 0 < w) (ha : Rep w (n + 1) a A) (hb : Rep w (n + 1) b B)
    (hM : M < 2 ^ (w * n)) (hs : A + B ≤ 2 * M) : Rep w (n + 1) (zzAdd2 w a b).1 (A + B) := by
  obtain ⟨s, hr, e, hc⟩ := ha.add2 hb
  have h2 := two_le_two_pow hw
  have : 2 * 2 ^ (w * n) ≤ 2 ^ w * 2 ^ (w * n) := Nat.mul_le_mul_right _ h2
  rw [mul01 _ hc, Nat.mul_succ, Nat.pow_add, Nat.mul_comm (2 ^ (w * n))] at e
  rw [show A + B = s by split_ifs at e <;> omega]
  exact hr

/-- `wwShLo(u, n, wwLoZeroBits(u, n))` strips the low zero bits -/
theorem Pre.strip (hw : 0 < w) (hs : SizesOK w) (h : Pre w n l k x) (hx : 0 < x) :
    Pre w n (onPrefixW k (fun p => wwShLo w p (wwLoZeroBits w p)) l) k (x / 2 ^ loZeros x) := by
  refine h.onPrefix ?_
  rw [show loZeros x = wwLoZeroBits w (l.take k) by
    rw [lz_eq hs _ h.take.wf (by rw [h.take.eq]; exact hx), h.take.eq]]
  exact h.take.shLo hw _

theorem Pre.isOne (hw : 0 < w) (h : Pre w n l k x) : wwIsW_safe (l.take k) 1 = decide (x = 1) := by
  rw [wwIsW_one hw _ h.take.wf, h.take.eq]

/-- `if (wwCmp2(da, n + 1, mod, n) >= 0) da[n] -= zzSub2(da, mod, n)` for `da < 2 mod`: the low n
    words are da reduced once -/
theorem Rep.redOnceW {da mod : List Nat} {D : Nat} (hda : Rep w (n + 1) da D) (hm : Rep w n mod M)
    (hlt : D < 2 * M) :
    Rep w n (if wwCmp2_safe da mod ≥ 0 then (zzSub2 w (da.take n) mod).1 else da.take n)
      (if D ≥ M then D - M else D) := by
  have hM := hm.lt
  have hcmp : wwCmp2_safe da mod ≥ 0 ↔ M ≤ D := by
    rw [wwCmp2_safe_spec w _ _ hda.wf hm.wf, hda.eq, hm.eq]; split_ifs <;> omega
  have hlo := hda.take n (Nat.le_succ n)
  by_cases hge : M ≤ D
  · rw [if_pos (hcmp.mpr hge), if_pos hge]
    obtain ⟨t, ht, e, hb⟩ := hlo.sub2 hm
    have hs := ht.lt
    have hd := Nat.mod_add_div D (2 ^ (w * n))
    have hq : D / 2 ^ (w * n) ≤ 1 := by
      rw [Nat.div_le_iff_le_mul_add_pred (Nat.two_pow_pos _)]; omega
    have key : t + 2 ^ (w * n) * (D / 2 ^ (w * n)) = (D - M) + 2 ^ (w * n) * (zzSub2 w (da.take n) mod).2 := by
      omega
    rw [← (cons_inj_aux hs (by omega) key).1]
    exact ht
  · rw [if_neg (fun h => hge (hcmp.mp h)), if_neg hge]
    rwa [Nat.mod_eq_of_lt (by omega)] at hlo

/-- `aa <- a >> s; n <- wwWordSize(aa)`: the n-word operand the loop of zzExGCD works with -/
theorem Rep.shiftNorm (hw : 0 < w) (ha : Rep w n a A) (s : Nat) (hpos : 0 < A / 2 ^ s) :
    Rep w (wwWordSize (wwShLo w a s)) ((wwShLo w a s).take (wwWordSize (wwShLo w a s))) (A / 2 ^ s)
    ∧ 0 < wwWordSize (wwShLo w a s) ∧ wwWordSize (wwShLo w a s) ≤ n := by
  have h := (ha.shLo hw s).wordSize.1
  refine ⟨h.take, ?_, h.le⟩
  rcases Nat.eq_zero_or_pos (wwWordSize (wwShLo w a s)) with h0 | h0
  · have := h.lt; rw [h0, Nat.mul_zero, Nat.pow_zero] at this; omega
  · exact h0

theorem Rep.pad (h : Rep w n l x) (j : Nat) : Rep w (n + j) (l ++ List.replicate j 0) x := by
  have := h.append (Rep.zero w j)
  rwa [Nat.mul_zero, Nat.add_zero] at this

/-- `wwCopy(d, u, nu)` into the zeroed k-word buffer, for a value that fits k words -/
theorem Rep.padTake (h : Rep w j l x) (hx : x < 2 ^ (w * k)) :
    Rep w k ((l ++ List.replicate (k - j) 0).take k) x
    ∧ ∀ t, j ≤ t → val w (((l ++ List.replicate (k - j) 0).take k).take t) = x := by
  have hp := h.pad (k - j)
  have ht := hp.take k (by omega)
  rw [Nat.mod_eq_of_lt hx] at ht
  refine ⟨ht, fun t hjt => ?_⟩
  rw [List.take_take, (hp.take (min t k) (by omega)).eq]
  apply Nat.mod_eq_of_lt
  rcases Nat.le_total j k with hjk | hjk
  · exact Nat.lt_of_lt_of_le h.lt (Nat.pow_le_pow_right (by omega) (Nat.mul_le_mul_left _ (by omega)))
  · rw [Nat.min_eq_right (by omega)]; exact hx

/-- the gcd fits min(n, m) words -/
theorem gcd_lt_min (ha : Rep w n a A) (hb : Rep w m b B) (hap : 0 < A) (hbp : 0 < B) :
    Nat.gcd A B < 2 ^ (w * min n m) := by
  have g1 := Nat.gcd_le_left B hap
  have g2 := Nat.gcd_le_right A hbp
  have a1 := ha.lt
  have b1 := hb.lt
  rcases Nat.le_total n m with h | h
  · rw [Nat.min_eq_left h]; omega
  · rw [Nat.min_eq_right h]; omega

theorem Rep.shHi_of_lt (hw : 0 < w) (h : Rep w n l x) (s : Nat) (hx : x * 2 ^ s < 2 ^ (w * n)) :
    Rep w n (wwShHi w l s) (x * 2 ^ s) := by
  have hs := h.shHi hw s
  rwa [Nat.mod_eq_of_lt hx] at hs

/-- the final `wwShHi(d, W_OF_B(wwBitSize(d, j) + s), s)` on the window -/
theorem Rep.finalShift (hw : 0 < w) (hs : SizesOK w) {d : List Nat} {G : Nat} (s j : Nat)
    (hd : Rep w k d G) (hdm : val w (d.take j) = G) (hG2 : G * 2 ^ s < 2 ^ (w * k)) :
    Rep w k (onPrefixW ((wwBitSize w (d.take j) + s + w - 1) / w) (fun p => wwShHi w p s) d)
      (G * 2 ^ s) := by
  obtain ⟨⟨z1, _⟩, _⟩ := hs (d.take j) (Wf_take hd.wf _)
  rw [hdm] at z1
  generalize wwBitSize w (d.take j) = bits at *
  generalize hwin : (bits + s + w - 1) / w = win at *
  have hwin2 : bits + s ≤ w * win := by
    rw [← hwin]
    have := Nat.div_add_mod (bits + s + w - 1) w
    have := Nat.mod_lt (bits + s + w - 1) hw
    omega
  have hG1 : G * 2 ^ s < 2 ^ (w * win) := by
    calc G * 2 ^ s < 2 ^ bits * 2 ^ s := Nat.mul_lt_mul_of_pos_right z1 (Nat.two_pow_pos s)
      _ = 2 ^ (bits + s) := (Nat.pow_add 2 bits s).symm
      _ ≤ 2 ^ (w * win) := Nat.pow_le_pow_right (by omega) hwin2
  have hGle : G ≤ G * 2 ^ s := Nat.le_mul_of_pos_right _ (Nat.two_pow_pos s)
  by_cases hwk : win ≤ k
  · have hp : Pre w k d win G := ⟨hd, hwk, by omega⟩
    exact (hp.onPrefix (hp.take.shHi_of_lt hw s hG1)).toRep
  · have htk : d.take win = d := List.take_of_length_le (by rw [hd.len]; omega)
    have hdd : d.drop win = [] := List.drop_of_length_le (by rw [hd.len]; omega)
    rw [onPrefixW, htk, hdd, List.append_nil]
    exact hd.shHi_of_lt hw s hG2

/-- the first j ≥ 1 words of `wwSetW(·, 1)` -/
theorem Rep.oneTake (hw : 0 < w) (t : Nat) (hj : 0 < j) (hjt : j ≤ t) :
    Rep w j ((1 :: List.replicate (t - 1) 0).take j) 1 := by
  obtain ⟨i, rfl⟩ : ∃ i, j = i + 1 := ⟨j - 1, by omega⟩
  have h2 := two_le_two_pow hw
  have hz := (Rep.zero w (t - 1)).take i (by omega)
  rw [List.take_succ_cons]
  exact ⟨Wf_cons.mpr ⟨by omega, hz.wf⟩, by rw [List.length_cons, hz.len],
    by rw [val_cons, hz.eq, Nat.zero_mod, Nat.mul_zero]⟩

end Bee2V.C05

namespace Bee2V.C05.GcdW
open Bee2V.C05 Bee2V.C05.Add

variable {w n m : Nat} {M : Nat}

theorem dmHalveW_spec (hw : 0 < w) {mod : List Nat} (hm : Rep w n mod M) (nu : Nat) :
    ∀ (f : Nat) (u da : List Nat) (U D : Nat), Pre w m u nu U → Rep w n da D →
      Pre w m (dmHalveW w mod nu f u da).1 nu (halveMod M f U D).1
      ∧ Rep w n (dmHalveW w mod nu f u da).2 (halveMod M f U D).2 := by
  intro f
  induction f with
  | zero => intro u da U D hu hd; exact ⟨hu, hd⟩
  | succ f ih =>
    intro u da U D hu hd
    unfold dmHalveW halveMod
    rw [hu.parity hw]
    split
    · exact ih _ _ _ _ (hu.shLo1 hw) (hd.daHalf hw hm)
    · exact ⟨hu, hd⟩

theorem zzDivModLoopW_spec (hw : 0 < w) {mod : List Nat} (hm : Rep w n mod M) :
    ∀ (f : Nat) (u : List Nat) (nu : Nat) (v : List Nat) (nv : Nat) (da da1 : List Nat) (U V D D1 : Nat),
      Pre w n u nu U → Pre w n v nv V → Rep w n da D → Rep w n da1 D1 → D < M → D1 < M →
      let r := zzDivModLoopW w mod f u nu v nv da da1
      let e := zzDivModLoop M f U V D D1
      Pre w n r.1 r.2.1 e.1 ∧ Rep w n r.2.2 e.2 := by
  intro f
  induction f with
  | zero => intro u nu v nv da da1 U V D D1 hu _ hd _ _ _; exact ⟨hu, hd⟩
  | succ f ih =>
    intro u nu v nv da da1 U V D D1 hu hv hd hd1 hD hD1
    unfold zzDivModLoopW zzDivModLoop
    rw [hv.isZero, hu.eq, hv.eq]
    by_cases hv0 : V = 0
    · simp only [hv0, decide_true, if_true]; exact ⟨hu, hd⟩
    · simp only [hv0, decide_false, Bool.false_eq_true, if_false]
      obtain ⟨p1, p2⟩ := dmHalveW_spec hw hm nu U u da U D hu hd
      obtain ⟨q1, q2⟩ := dmHalveW_spec hw hm nv V v da1 V D1 hv hd1
      have p3 := Gcd.halveMod_lt M U U D hD
      have q3 := Gcd.halveMod_lt M V V D1 hD1
      obtain ⟨n1, n2, _⟩ := p1.wordSize
      obtain ⟨m1, m2, _⟩ := q1.wordSize
      by_cases hgt : (halveMod M V V D1).1 < (halveMod M U U D).1
      · rw [if_pos ((n1.cmp2 m1).mpr hgt), if_pos hgt]
        obtain ⟨a1, a2⟩ := p2.addRedW q2 hm p3 q3
        exact ih _ _ _ _ _ _ _ _ _ _ (n1.subNorm hw m1 m2 (Nat.le_of_lt hgt)).2 m1 a1 q2 a2 q3
      · rw [if_neg (fun h => hgt ((n1.cmp2 m1).mp h)), if_neg hgt]
        obtain ⟨a1, a2⟩ := q2.addRedW p2 hm q3 p3
        exact ih _ _ _ _ _ _ _ _ _ _ n1 (m1.subNorm hw n1 n2 (Nat.le_of_not_lt hgt)).2 p2 a1 p3 a2

theorem zzGCDLoopW_spec (hw : 0 < w) (hs : SizesOK w) :
    ∀ (f : Nat) (u : List Nat) (nu : Nat) (v : List Nat) (mv : Nat) (U V : Nat),
      Pre w n u nu U → Pre w m v mv V → 0 < U → 0 < V → U + V ≤ f →
      let r := zzGCDLoopW w f u nu v mv
      Pre w n r.1 r.2.1 (zzGCDLoop f U V) ∧ r.2.1 ≤ r.2.2 ∧ r.2.2 ≤ mv := by
  intro f
  induction f with
  | zero => intro u nu v mv U V _ _ h1 h2 h3; omega
  | succ f ih =>
    intro u nu v mv U V hu hv hup hvp hf
    unfold zzGCDLoopW zzGCDLoop
    simp only []
    obtain ⟨pu, lu⟩ := Gcd.strip_pos_le hup
    obtain ⟨pv, lv⟩ := Gcd.strip_pos_le hvp
    obtain ⟨n1, n2, n3⟩ := (hu.strip hw hs hup).wordSize
    obtain ⟨m1, m2, m3⟩ := (hv.strip hw hs hvp).wordSize
    by_cases hgt : V / 2 ^ loZeros V < U / 2 ^ loZeros U
    · rw [if_pos ((n1.cmp2 m1).mpr hgt), if_pos hgt, m1.isNonzero]
      simp only [pv.ne', ne_eq, not_false_eq_true, decide_true, if_true]
      obtain ⟨i1, i2, i3⟩ := ih _ _ _ _ _ _ (n1.subNorm hw m1 m2 (Nat.le_of_lt hgt)).2 m1 (by omega) pv
        (by omega)
      exact ⟨i1, i2, by omega⟩
    · rw [if_neg (fun h => hgt ((n1.cmp2 m1).mp h)), if_neg hgt]
      obtain ⟨hnn, s2⟩ := m1.subNorm hw n1 n2 (Nat.le_of_not_lt hgt)
      rw [s2.isNonzero]
      by_cases hz : V / 2 ^ loZeros V - U / 2 ^ loZeros U = 0
      · simp only [hz, ne_eq, not_true_eq_false, decide_false, Bool.false_eq_true, if_false]
        exact ⟨n1, hnn, m3⟩
      · simp only [hz, ne_eq, not_false_eq_true, decide_true, if_true]
        obtain ⟨i1, i2, i3⟩ := ih _ _ _ _ _ _ n1 s2 pu (by omega) (by omega)
        exact ⟨i1, i2, by omega⟩

theorem half_mul {a b : Nat} (h : a % 2 = 0) : a / 2 * (b * 2) = a * b := by
  obtain ⟨t, rfl⟩ : ∃ t, a = 2 * t := ⟨a / 2, by omega⟩
  rw [Nat.mul_div_cancel_left _ (by omega : 0 < 2), Nat.mul_comm b 2, ← Nat.mul_assoc, Nat.mul_comm t 2]

/-- the Kaliski loop: da0, da never overflow their N + 1 words because `M = v da0 + u da` with
    u, v ≥ 1 bounds both by M < B^N -/
theorem zzAlmostInvLoopW_spec (hw : 0 < w) {N : Nat} (hM : M < 2 ^ (w * N)) :
    ∀ (f : Nat) (u : List Nat) (nu : Nat) (v : List Nat) (nv : Nat) (da0 da : List Nat) (c : Nat)
      (U V D0 D : Nat),
      Pre w n u nu U → Pre w m v nv V → NormV w U nu → NormV w V nv →
      Rep w (N + 1) da0 D0 → Rep w (N + 1) da D → 0 < U → 0 < V → M = V * D0 + U * D →
      let r := zzAlmostInvLoopW w f u nu v nv da0 da c
      let e := zzAlmostInvLoop f U V D0 D c
      Pre w m r.1 r.2.1 e.1 ∧ Rep w (N + 1) r.2.2.1 e.2.1 ∧ r.2.2.2 = e.2.2 := by
  intro f
  induction f with
  | zero => intro u nu v nv da0 da c U V D0 D _ hv _ _ _ hda _ _ _; exact ⟨hv, hda, rfl⟩
  | succ f ih =>
    intro u nu v nv da0 da c U V D0 D hu hv hnu hnv hd0 hda hup hvp hinv
    obtain ⟨hb0, hb1⟩ := Gcd.le_of_inv hinv hup hvp
    unfold zzAlmostInvLoopW zzAlmostInvLoop
    rw [hv.isEven hw, hu.isEven hw]
    by_cases hve : V % 2 = 0
    · simp only [hve, decide_true, if_true]
      obtain ⟨m1, m3, _⟩ := (hv.shLo1 hw).wordSize
      rw [hu.isNonzero]
      simp only [hup.ne', ne_eq, not_false_eq_true, decide_true, if_true]
      exact ih _ _ _ _ _ _ _ _ _ _ _ hu m1 hnu m3 (hd0.shHi1 hw hM hb0) hda hup (by omega)
        (by rw [half_mul hve]; exact hinv)
    · simp only [hve, decide_false, Bool.false_eq_true, if_false]
      by_cases hue : U % 2 = 0
      · simp only [hue, decide_true, if_true]
        obtain ⟨m1, m3, _⟩ := (hu.shLo1 hw).wordSize
        have s := hda.shHi1 hw hM hb1
        rw [m1.isNonzero]
        by_cases hz : U / 2 = 0
        · simp only [hz, ne_eq, not_true_eq_false, decide_false, Bool.false_eq_true, if_false]
          exact ⟨hv, s, trivial⟩
        · simp only [hz, ne_eq, not_false_eq_true, decide_true, if_true]
          exact ih _ _ _ _ _ _ _ _ _ _ _ m1 hv m3 hnv hd0 s (by omega) hvp
            (by rw [half_mul hue]; exact hinv)
      · simp only [hue, decide_false, Bool.false_eq_true, if_false]
        by_cases hgt : U < V
        · rw [if_pos ((hv.cmp2 hu).mpr hgt), if_pos hgt]
          obtain ⟨m1, m3, _⟩ := (hv.subHalf hw hu hnu (Nat.le_of_lt hgt)).wordSize
          rw [hu.isNonzero]
          simp only [hup.ne', ne_eq, not_false_eq_true, decide_true, if_true]
          have ht := Gcd.sub_half_odd hve hue (Nat.le_of_lt hgt)
          generalize (V - U) / 2 = t at ht m1 m3 ⊢
          exact ih _ _ _ _ _ _ _ _ _ _ _ hu m1 hnu m3 (hd0.shHi1 hw hM hb0)
            (hda.add2_room hw hd0 hM (by omega)) hup (by omega) (by rw [hinv, ht]; ring)
        · rw [if_neg (fun h => hgt ((hv.cmp2 hu).mp h)), if_neg hgt]
          obtain ⟨m1, m3, _⟩ := (hu.subHalf hw hv hnv (Nat.le_of_not_lt hgt)).wordSize
          have s := hda.shHi1 hw hM hb1
          rw [m1.isNonzero]
          have ht := Gcd.sub_half_odd hue hve (Nat.le_of_not_lt hgt)
          generalize (U - V) / 2 = t at ht m1 m3 ⊢
          by_cases hz : t = 0
          · simp only [hz, ne_eq, not_true_eq_false, decide_false, Bool.false_eq_true, if_false]
            exact ⟨hv, s, trivial⟩
          · simp only [hz, ne_eq, not_false_eq_true, decide_true, if_true]
            exact ih _ _ _ _ _ _ _ _ _ _ _ m1 hv m3 hnv (hd0.add2_room hw hda hM (by omega)) s
              (by omega) hvp (by rw [hinv, ht]; ring)

theorem exHalveW_spec (hw : 0 < w) {aa bb : List Nat} {A B : Nat} (haa : Rep w n aa A)
    (hbb : Rep w m bb B) (nu : Nat) {N : Nat} :
    ∀ (f : Nat) (u da db : List Nat) (U Da Db : Nat), Pre w N u nu U → Rep w m da Da → Rep w n db Db →
      let r := exHalveW w aa bb nu f u da db
      let e := halveEx A B f U Da Db
      Pre w N r.1 nu e.1 ∧ Rep w m r.2.1 e.2.1 ∧ Rep w n r.2.2 e.2.2 := by
  intro f
  induction f with
  | zero => intro u da db U Da Db hu hda hdb; exact ⟨hu, hda, hdb⟩
  | succ f ih =>
    intro u da db U Da Db hu hda hdb
    unfold exHalveW halveEx
    rw [hu.parity hw, hda.parity hw, hdb.parity hw]
    split
    · split
      · exact ih _ _ _ _ _ _ (hu.shLo1 hw) (hda.shLo1 hw) (hdb.shLo1 hw)
      · exact ih _ _ _ _ _ _ (hu.shLo1 hw) (hda.halfPlusW hw hbb) (hdb.halfPlusW hw haa)
    · exact ⟨hu, hda, hdb⟩

theorem zzExGCDLoopW_spec (hw : 0 < w) {aa bb : List Nat} {A B : Nat} (haa : Rep w n aa A)
    (hbb : Rep w m bb B) {N N' : Nat} :
    ∀ (f : Nat) (u : List Nat) (nu : Nat) (v : List Nat) (mv : Nat) (da db da1 db1 : List Nat)
      (U V Da Db Da1 Db1 : Nat),
      Pre w N u nu U → Pre w N' v mv V → Rep w m da Da → Rep w n db Db → Rep w m da1 Da1 →
      Rep w n db1 Db1 → Da ≤ B → Db ≤ A → Da1 ≤ B → Db1 ≤ A →
      let r := zzExGCDLoopW w aa bb f u nu v mv da db da1 db1
      let e := zzExGCDLoop A B f U V Da Db Da1 Db1
      Pre w N r.1 r.2.1 e.1 ∧ Rep w m r.2.2.1 e.2.1 ∧ Rep w n r.2.2.2 e.2.2 := by
  intro f
  induction f with
  | zero => intro u nu v mv da db da1 db1 U V Da Db Da1 Db1 hu _ hda hdb _ _ _ _ _ _; exact ⟨hu, hda, hdb⟩
  | succ f ih =>
    intro u nu v mv da db da1 db1 U V Da Db Da1 Db1 hu hv hda hdb hda1 hdb1 b1 b2 b3 b4
    unfold zzExGCDLoopW zzExGCDLoop
    simp only []
    rw [hu.eq, hv.eq]
    obtain ⟨p1, p2, p3⟩ := exHalveW_spec hw haa hbb nu U u da db U Da Db hu hda hdb
    obtain ⟨q1, q2, q3⟩ := exHalveW_spec hw haa hbb mv V v da1 db1 V Da1 Db1 hv hda1 hdb1
    obtain ⟨pb1, pb2⟩ := Gcd.halveEx_le A B U U Da Db b1 b2
    obtain ⟨qb1, qb2⟩ := Gcd.halveEx_le A B V V Da1 Db1 b3 b4
    obtain ⟨n1, n2, _⟩ := p1.wordSize
    obtain ⟨m1, m2, _⟩ := q1.wordSize
    by_cases hgt : (halveEx A B V V Da1 Db1).1 < (halveEx A B U U Da Db).1
    · rw [if_pos ((n1.cmp2 m1).mpr hgt), if_pos hgt, m1.isNonzero]
      obtain ⟨_, s⟩ := n1.subNorm hw m1 m2 (Nat.le_of_lt hgt)
      obtain ⟨a1, a2⟩ := p2.addCorrW q2 hbb (by omega)
      obtain ⟨c1, c2⟩ := p3.addCorrW q3 haa (by omega)
      by_cases hv0 : (halveEx A B V V Da1 Db1).1 = 0
      · simp only [hv0, ne_eq, not_true_eq_false, decide_false, Bool.false_eq_true, if_false]
        rw [hv0] at s
        exact ⟨s, a1, c1⟩
      · simp only [hv0, ne_eq, not_false_eq_true, decide_true, if_true]
        exact ih _ _ _ _ _ _ _ _ _ _ _ _ _ _ s m1 a1 c1 q2 q3 a2 c2 qb1 qb2
    · rw [if_neg (fun h => hgt ((n1.cmp2 m1).mp h)), if_neg hgt]
      obtain ⟨_, s⟩ := m1.subNorm hw n1 n2 (Nat.le_of_not_lt hgt)
      obtain ⟨a1, a2⟩ := q2.addCorrW p2 hbb (by omega)
      obtain ⟨c1, c2⟩ := q3.addCorrW p3 haa (by omega)
      rw [s.isNonzero]
      by_cases hv0 : (halveEx A B V V Da1 Db1).1 - (halveEx A B U U Da Db).1 = 0
      · simp only [hv0, ne_eq, not_true_eq_false, decide_false, Bool.false_eq_true, if_false]
        exact ⟨n1, p2, p3⟩
      · simp only [hv0, ne_eq, not_false_eq_true, decide_true, if_true]
        exact ih _ _ _ _ _ _ _ _ _ _ _ _ _ _ n1 s p2 p3 a1 c1 pb1 pb2 a2 c2


end Bee2V.C05.GcdW
