/-
C05 — the word-level models of pp_gcd.c / pp_mod.c (ModelPpW.lean) refine the value-level models
(ModelPp.lean): `val w (word-level result) = value-level result`, with Wf and the C lengths; the
end-to-end theorems of PropsPp.lean are transferred.  Helper lemmas: LemmasPpW.lean.
`SizesOK w` (what the code uses of wwBitSize / wwLoZeroBits) holds for w = 16, 32, 64
(PropsGcdW.sizesOK16/32/64).

Proved: ppGCDW, ppExGCDW (all three outputs), ppDivModW, ppInvModW — refinement + the transferred
end-to-end theorems.  Nothing is left open in this file.
-/
import Bee2V.C05.LemmasPpW
import Bee2V.C05.PropsGcdW
import Bee2V.C05.PropsPp
namespace Bee2V.C05
open Bee2V.C05.Add Bee2V.C05.GcdW Bee2V.C05.PpW Bee2V.C05.Spec

/-! ## ppGCD -/

/-- refinement: the word-level ppGCD (buffers u, v with the running lengths n, m; wwLoZeroBits,
    wwShLo, wwWordSize, wwCmp2, wwXor2 on the shorter prefix, wwIsZero, and the final
    `wwCopy(d, v, m); wwShHi(d, W_OF_B(wwBitSize(d, m) + s), s)`) computes the value-level model,
    min(n, m) words (header: a, b ≠ 0). -/
theorem ppGCDW_refines_V (w : Nat) (hw : 0 < w) (hs : SizesOK w) (a b : List Nat)
    (ha : Wf w a) (hb : Wf w b) (hap : 0 < val w a) (hbp : 0 < val w b) :
    val w (ppGCDW w a b) = ppGCDV (val w a) (val w b)
    ∧ Wf w (ppGCDW w a b) ∧ (ppGCDW w a b).length = min a.length b.length := by
  obtain ⟨c1, c2, c3, c4, c5⟩ := Gcd.shift_common hap hbp
  have hgcd := Pp.gcdV_isPGcd (a := val w a) (b := val w b) (by omega) (by omega)
  have hlt1 := pdvd_lt ha (by omega) hgcd.1
  have hlt2 := pdvd_lt hb (by omega) hgcd.2.1
  unfold ppGCDW ppGCDV at *
  simp only [] at *
  rw [lz_eq hs a ha hap, lz_eq hs b hb hbp]
  rw [ppLoZeros_eq hap, ppLoZeros_eq hbp] at hlt1 hlt2 ⊢
  generalize min (loZeros (val w a)) (loZeros (val w b)) = s at *
  have hu := ((Rep.mk' ha).shLo hw s).wordSize.1
  have hv := ((Rep.mk' hb).shLo hw s).wordSize.1
  simp only [Nat.shiftRight_eq_div_pow, Nat.shiftLeft_eq] at hlt1 hlt2 ⊢
  rw [hu.eq, hv.eq]
  have l1 := ppGCDLoopW_spec hw hs ((val w a / 2 ^ s).log2 + (val w b / 2 ^ s).log2 + 3) _ _ _ _ _ _
    hu hv c4 c5
  generalize ppGCDLoopW w ((val w a / 2 ^ s).log2 + (val w b / 2 ^ s).log2 + 3) (wwShLo w a s)
    (wwWordSize (wwShLo w a s)) (wwShLo w b s) (wwWordSize (wwShLo w b s)) = r at *
  generalize ppGCDLoop ((val w a / 2 ^ s).log2 + (val w b / 2 ^ s).log2 + 3) (val w a / 2 ^ s)
    (val w b / 2 ^ s) = G at *
  have hG2 : G * 2 ^ s < 2 ^ (w * min a.length b.length) := by
    rcases Nat.le_total a.length b.length with h | h
    · rw [Nat.min_eq_left h]; exact hlt1
    · rw [Nat.min_eq_right h]; exact hlt2
  obtain ⟨p1, p2⟩ := l1.take.padTake (k := min a.length b.length)
    (Nat.lt_of_le_of_lt (Nat.le_mul_of_pos_right _ (Nat.two_pow_pos s)) hG2)
  exact (p1.finalShift hw hs s r.2 (p2 _ (Nat.le_refl _)) hG2).spec

/-- end to end, word level: ppGCD computes the gcd of the specification. -/
theorem ppGCDW_spec (w : Nat) (hw : 0 < w) (hs : SizesOK w) (a b : List Nat)
    (ha : Wf w a) (hb : Wf w b) (hap : 0 < val w a) (hbp : 0 < val w b) :
    val w (ppGCDW w a b) = pgcd (val w a) (val w b)
    ∧ Wf w (ppGCDW w a b) ∧ (ppGCDW w a b).length = min a.length b.length := by
  obtain ⟨h1, h2, h3⟩ := ppGCDW_refines_V w hw hs a b ha hb hap hbp
  exact ⟨by rw [h1, ppGCDV_spec _ _ (by omega) (by omega)], h2, h3⟩

theorem ppGCDW_spec64 (a b : List Nat) (ha : Wf 64 a) (hb : Wf 64 b) (hap : 0 < val 64 a)
    (hbp : 0 < val 64 b) :
    val 64 (ppGCDW 64 a b) = pgcd (val 64 a) (val 64 b)
    ∧ Wf 64 (ppGCDW 64 a b) ∧ (ppGCDW 64 a b).length = min a.length b.length :=
  ppGCDW_spec 64 (by decide) sizesOK64 a b ha hb hap hbp

example : ppGCDW 8 [0x0c, 0] [0x0a] = [6] := by decide +kernel


/-! ## ppDivMod, ppInvMod -/

/-- refinement: the word-level ppDivMod (n-word buffers u, v, da0, da, normalised lengths nu, nv;
    wwTestBit, wwShLo, wwXor2, wwWordSize, wwCmp2, wwIsZero, wwIsW) computes the value-level model,
    n words.  No assumption on the contents. -/
theorem ppDivModW_refines_V (w : Nat) (hw : 0 < w) (d a md : List Nat) (hd : Wf w d) (ha : Wf w a)
    (hm : Wf w md) (hml : 0 < md.length) (hdl : d.length = md.length) (hal : a.length = md.length) :
    val w (ppDivModW w d a md) = ppDivModV (val w d) (val w a) (val w md)
    ∧ Wf w (ppDivModW w d a md) ∧ (ppDivModW w d a md).length = md.length := by
  have hM := Rep.mk' hm
  obtain ⟨l1, l2⟩ := ppDivModLoopW_spec hw hM hml ((val w a).log2 + (val w md).log2 + 4) a
    (wwWordSize a) md md.length d _ _ _ _ _ (Rep.wordSize ⟨ha, hal, rfl⟩).1 hM.pre ⟨hd, hdl, rfl⟩
    (Rep.zero w _)
  unfold ppDivModW ppDivModV
  simp only []
  rw [l1.isOne hw]
  by_cases h1 : (ppDivModLoop (val w md) ((val w a).log2 + (val w md).log2 + 4) (val w a) (val w md)
      (val w d) 0).1 = 1
  · simp only [h1, decide_true, if_true]
    exact l2.spec
  · simp only [h1, decide_false, Bool.false_eq_true, if_false]
    exact (Rep.zero w _).spec

/-- end to end, word level, under the header's preconditions (mod with constant term 1,
    a, divident < mod as integers): gcd(a, mod) = 1 → b·a ≡ divident (mod mod), b reduced;
    gcd ≠ 1 → b = 0. -/
theorem ppDivModW_spec (w : Nat) (hw : 0 < w) (d a md : List Nat) (hd : Wf w d) (ha : Wf w a)
    (hm : Wf w md) (hml : 0 < md.length) (hdl : d.length = md.length) (hal : a.length = md.length)
    (hodd : val w md % 2 = 1) (ham : val w a < val w md) (hdm : val w d < val w md) :
    (pgcd (val w a) (val w md) = 1 →
        pmod (clmul (val w (ppDivModW w d a md)) (val w a)) (val w md) = pmod (val w d) (val w md)
        ∧ val w (ppDivModW w d a md) < 2 ^ (val w md).log2)
    ∧ (pgcd (val w a) (val w md) ≠ 1 → val w (ppDivModW w d a md) = 0)
    ∧ Wf w (ppDivModW w d a md) ∧ (ppDivModW w d a md).length = md.length := by
  obtain ⟨h1, h2, h3⟩ := ppDivModW_refines_V w hw d a md hd ha hm hml hdl hal
  obtain ⟨s1, s2⟩ := ppDivModV_spec_header (val w d) (val w a) (val w md) hodd ham hdm
  rw [h1]
  exact ⟨s1, s2, h2, h3⟩

/-- ppInvMod = wwSetW(divident, n, 1) + ppDivMod -/
theorem ppInvModW_refines_V (w : Nat) (hw : 0 < w) (a md : List Nat) (ha : Wf w a)
    (hm : Wf w md) (hml : 0 < md.length) (hal : a.length = md.length) :
    val w (ppInvModW w a md) = ppInvModV (val w a) (val w md)
    ∧ Wf w (ppInvModW w a md) ∧ (ppInvModW w a md).length = md.length := by
  have hne : md ≠ [] := by intro h; rw [h] at hml; simp at hml
  obtain ⟨s1, s2, s3⟩ := wwSetW_spec (w := w) md 1 hne (Nat.one_lt_two_pow (by omega))
  have := ppDivModW_refines_V w hw (wwSetW md 1) a md s2 ha hm hml s1 hal
  rw [s3] at this
  exact this

/-- end to end: the inverse of a modulo mod (mod odd, ≠ 1), reduced, if gcd = 1; else 0. -/
theorem ppInvModW_spec (w : Nat) (hw : 0 < w) (a md : List Nat) (ha : Wf w a)
    (hm : Wf w md) (hml : 0 < md.length) (hal : a.length = md.length)
    (hodd : val w md % 2 = 1) (h1 : val w md ≠ 1) :
    (pgcd (val w a) (val w md) = 1 →
        pmod (clmul (val w (ppInvModW w a md)) (val w a)) (val w md) = 1
        ∧ val w (ppInvModW w a md) < 2 ^ (val w md).log2)
    ∧ (pgcd (val w a) (val w md) ≠ 1 → val w (ppInvModW w a md) = 0)
    ∧ Wf w (ppInvModW w a md) ∧ (ppInvModW w a md).length = md.length := by
  obtain ⟨r1, r2, r3⟩ := ppInvModW_refines_V w hw a md ha hm hml hal
  obtain ⟨s1, s2⟩ := ppInvModV_spec (val w a) (val w md) hodd h1
  rw [r1]
  exact ⟨s1, s2, r2, r3⟩

example : val 8 (ppDivModW 8 [5, 0] [6, 0] [0x13, 0x01]) = ppDivModV 5 6 0x113 := by decide +kernel


/-! ## ppExGCD -/

/-- refinement: the word-level ppExGCD (aa, bb normalised; u, v with the running lengths nu, mv; the
    coefficient buffers da0, da on m words and db0, db on n words; wwTestBit, wwShLo, wwXor2,
    wwWordSize, wwCmp2, wwIsZero; `wwCopy(d, v, mv)` and the final wwShHi) computes all three
    outputs of the value-level model; d: min(n, m) words, da: m words, db: n words. -/
theorem ppExGCDW_refines_V (w : Nat) (hw : 0 < w) (hs : SizesOK w) (a b : List Nat)
    (ha : Wf w a) (hb : Wf w b) (hap : 0 < val w a) (hbp : 0 < val w b) :
    val w (ppExGCDW w a b).1 = (ppExGCDV (val w a) (val w b)).1
    ∧ val w (ppExGCDW w a b).2.1 = (ppExGCDV (val w a) (val w b)).2.1
    ∧ val w (ppExGCDW w a b).2.2 = (ppExGCDV (val w a) (val w b)).2.2
    ∧ Wf w (ppExGCDW w a b).1 ∧ (ppExGCDW w a b).1.length = min a.length b.length
    ∧ Wf w (ppExGCDW w a b).2.1 ∧ (ppExGCDW w a b).2.1.length = b.length
    ∧ Wf w (ppExGCDW w a b).2.2 ∧ (ppExGCDW w a b).2.2.length = a.length := by
  obtain ⟨c1, c2, c3, c4, c5⟩ := Gcd.shift_common hap hbp
  have hgcd := Pp.gcdV_isPGcd (a := val w a) (b := val w b) (by omega) (by omega)
  rw [← Pp.exGCDV_fst] at hgcd
  have hlt1 := pdvd_lt ha (by omega) hgcd.1
  have hlt2 := pdvd_lt hb (by omega) hgcd.2.1
  unfold ppExGCDW
  unfold ppExGCDV at hlt1 hlt2 ⊢
  simp only [] at *
  rw [lz_eq hs a ha hap, lz_eq hs b hb hbp]
  rw [ppLoZeros_eq hap, ppLoZeros_eq hbp] at hlt1 hlt2 ⊢
  generalize min (loZeros (val w a)) (loZeros (val w b)) = s at *
  simp only [Nat.shiftRight_eq_div_pow, Nat.shiftLeft_eq] at hlt1 hlt2 ⊢
  obtain ⟨haa, hnpos, hnle⟩ := (Rep.mk' ha).shiftNorm hw s c4
  obtain ⟨hbb, hmpos, hmle⟩ := (Rep.mk' hb).shiftNorm hw s c5
  generalize wwWordSize (wwShLo w a s) = n at *
  generalize wwWordSize (wwShLo w b s) = m at *
  generalize (wwShLo w a s).take n = aa at *
  generalize (wwShLo w b s).take m = bb at *
  rw [haa.eq, hbb.eq]
  obtain ⟨l1, l2, l3⟩ := ppExGCDLoopW_spec hw haa hbb hnpos hmpos hnpos hmpos
    ((val w a / 2 ^ s).log2 + (val w b / 2 ^ s).log2 + 3) aa n bb m _ _ _ _ _ _ _ _ _ _ haa.pre hbb.pre
    (Rep.oneTake hw b.length hmpos hmle) (Rep.zero w n) (Rep.zero w m)
    (Rep.oneTake hw a.length hnpos hnle)
  generalize ppExGCDLoopW w aa bb ((val w a / 2 ^ s).log2 + (val w b / 2 ^ s).log2 + 3) aa n bb m
    ((1 :: List.replicate (b.length - 1) 0).take m) (List.replicate n 0) (List.replicate m 0)
    ((1 :: List.replicate (a.length - 1) 0).take n) = r at *
  generalize ppExGCDLoop (val w a / 2 ^ s) (val w b / 2 ^ s)
    ((val w a / 2 ^ s).log2 + (val w b / 2 ^ s).log2 + 3)
    (val w a / 2 ^ s) (val w b / 2 ^ s) 1 0 0 1 = e at *
  have hG2 : e.1 * 2 ^ s < 2 ^ (w * min a.length b.length) := by
    rcases Nat.le_total a.length b.length with h | h
    · rw [Nat.min_eq_left h]; exact hlt1
    · rw [Nat.min_eq_right h]; exact hlt2
  obtain ⟨d1, d2⟩ := l1.take.padTake (k := min a.length b.length)
    (Nat.lt_of_le_of_lt (Nat.le_mul_of_pos_right _ (Nat.two_pow_pos s)) hG2)
  obtain ⟨f1, f2, f3⟩ := (d1.finalShift hw hs s r.2.1 (d2 _ (Nat.le_refl _)) hG2).spec
  have pa := l2.pad (b.length - m)
  have pb := l3.pad (a.length - n)
  exact ⟨f1, pa.eq, pb.eq, f2, f3, pa.wf, by rw [pa.len]; omega, pb.wf, by rw [pb.len]; omega⟩

/-- end to end, word level: d = gcd(a, b) and a·da + b·db = d. -/
theorem ppExGCDW_spec (w : Nat) (hw : 0 < w) (hs : SizesOK w) (a b : List Nat)
    (ha : Wf w a) (hb : Wf w b) (hap : 0 < val w a) (hbp : 0 < val w b) :
    val w (ppExGCDW w a b).1 = pgcd (val w a) (val w b)
    ∧ clmul (val w a) (val w (ppExGCDW w a b).2.1) ^^^ clmul (val w b) (val w (ppExGCDW w a b).2.2)
        = val w (ppExGCDW w a b).1
    ∧ Wf w (ppExGCDW w a b).1 ∧ (ppExGCDW w a b).1.length = min a.length b.length
    ∧ Wf w (ppExGCDW w a b).2.1 ∧ (ppExGCDW w a b).2.1.length = b.length
    ∧ Wf w (ppExGCDW w a b).2.2 ∧ (ppExGCDW w a b).2.2.length = a.length := by
  obtain ⟨h1, h2, h3, h4, h5, h6, h7, h8, h9⟩ := ppExGCDW_refines_V w hw hs a b ha hb hap hbp
  obtain ⟨s1, s2⟩ := ppExGCDV_spec (val w a) (val w b) (by omega) (by omega)
  rw [h1, h2, h3]
  exact ⟨s1, s2, h4, h5, h6, h7, h8, h9⟩

theorem ppExGCDW_spec64 (a b : List Nat) (ha : Wf 64 a) (hb : Wf 64 b) (hap : 0 < val 64 a)
    (hbp : 0 < val 64 b) :
    val 64 (ppExGCDW 64 a b).1 = pgcd (val 64 a) (val 64 b)
    ∧ clmul (val 64 a) (val 64 (ppExGCDW 64 a b).2.1) ^^^ clmul (val 64 b) (val 64 (ppExGCDW 64 a b).2.2)
        = val 64 (ppExGCDW 64 a b).1 :=
  let h := ppExGCDW_spec 64 (by decide) sizesOK64 a b ha hb hap hbp
  ⟨h.1, h.2.1⟩

example : ppExGCDW 8 [12, 0] [10] = ([6], [1], [1, 0]) := by decide +kernel

end Bee2V.C05
