/-
C05 — arithmetic layer = exact integer / modular / GF(2)[x] arithmetic.
Property theorems, part 0: the representation tie used by the correspondence run, and the
index of the other parts.

  Props.lean      (this file)  little-endian word lists <-> numbers (what the driver's
                               decoding/encoding of operands does)
  PropsAdd.lean   zz_add.c, zz_etc.c (AndW), zz_mod.c additive family, ww.c comparisons:
                  value + carry/borrow/flag, SAFE and FAST editions, SAFE = FAST
  PropsMul.lean   zz_mul.c word multiplication, zzMul, zzSqr, zzDivW, zzModW; zz_red.c zzRedMont (both editions)
  PropsBits.lean  ww.c bit fields, shifts, trims, sizes; u16/u32/u64 helpers

Every theorem is about a code-shaped model (Model*.lean) for ALL lengths and every word size w;
the models are the definitions the driver `drv_c05` runs against the real library.
-/
import Bee2V.C05.Words

namespace Bee2V.C05

/-- Decoding an operand: the n-word list the driver builds from the number `v` has value
    `v mod B^n` — so for operands below `B^n` (all the harness can express) nothing is lost. -/
theorem repr_val_toWords (w n v : Nat) : val w (toWords w n v) = v % 2 ^ (w * n) :=
  val_toWords w n v

/-- a well-formed n-word list is a number below `B^n` -/
theorem repr_val_lt (w : Nat) (a : List Nat) (h : Wf w a) : val w a < 2 ^ (w * a.length) :=
  val_lt h

/-- Encoding a result: re-reading the words of a well-formed list gives the same list
    (`toWords` ∘ `val` = id), i.e. the hex the driver prints determines the word list. -/
theorem repr_toWords_val (w : Nat) (a : List Nat) (h : Wf w a) : toWords w a.length (val w a) = a :=
  toWords_val h

-- non-vacuity: a two-word number with a carry-prone low word, w = 64
example : val 64 (toWords 64 2 (2 ^ 64 - 1 + 2 ^ 64 * 5)) = 2 ^ 64 - 1 + 2 ^ 64 * 5 := by decide
example : Wf 64 [2 ^ 64 - 1, 5] ∧ toWords 64 2 (val 64 [2 ^ 64 - 1, 5]) = [2 ^ 64 - 1, 5] := by decide

end Bee2V.C05
