/-
C05 — multiplication and squaring in GF(2)[x]/(P) at word level, end to end (src/math/gf2.c:
gf2MulTrinomial0/1, gf2MulPentanomial, gf2SqrTrinomial0/1, gf2SqrPentanomial and the selection made by
gf2Create; models in ModelGf2Ops.lean).  Composition of `ppMul_spec` / `ppSqr_spec` (PropsPpMul) with
the static reductions `gf2RedTrinomial0/1_spec`, `gf2RedPentanomial_spec` (PropsPpRed).

For w ∈ {16, 32, 64}, the conditions under which gf2Create accepts (m, k) resp. (m, k, l, l1), and
a, b of n = W_OF_B(m) words: the n result words are `(a · b) mod P` (`Spec.pmod (Spec.clmul …) P`),
reduced (< 2^m).  No bound on the degrees of a, b is needed (gf2IsIn is not used).
-/
import Bee2V.C05.ModelGf2Ops
import Bee2V.C05.PropsPpMul
import Bee2V.C05.PropsPpRed
namespace Bee2V.C05
open Bee2V.C05.Spec

namespace Gf2Ops

theorem width_pos {w : Nat} (hw : w = 16 ∨ w = 32 ∨ w = 64) : 0 < w := by
  rcases hw with rfl | rfl | rfl <;> omega

theorem width_16 {w : Nat} (hw : w = 16 ∨ w = 32 ∨ w = 64) : 16 ∣ w := by
  rcases hw with rfl | rfl | rfl <;> decide

theorem mod_w_ne {w m : Nat} (hw : w = 16 ∨ w = 32 ∨ w = 64) (hm8 : m % 8 ≠ 0) : m % w ≠ 0 := by
  rcases hw with rfl | rfl | rfl <;> omega

/-- the product array handed to the reductions -/
theorem prod_mul (w : Nat) (hw : w = 16 ∨ w = 32 ∨ w = 64) (m : Nat) (a b : List Nat)
    (ha : Wf w a) (hb : Wf w b) (hla : a.length = wOfB w m) (hlb : b.length = wOfB w m) :
    val w (ppMul w a b) = clmul (val w a) (val w b) ∧ Wf w (ppMul w a b)
    ∧ (ppMul w a b).length = 2 * wOfB w m := by
  obtain ⟨h1, h2, h3⟩ := ppMul_spec w hw a b ha hb
  exact ⟨h1, h2, by rw [h3, hla, hlb]; omega⟩

theorem prod_sqr (w : Nat) (hw : w = 16 ∨ w = 32 ∨ w = 64) (m : Nat) (a : List Nat)
    (ha : Wf w a) (hla : a.length = wOfB w m) :
    val w (ppSqr w a) = clmul (val w a) (val w a) ∧ Wf w (ppSqr w a)
    ∧ (ppSqr w a).length = 2 * wOfB w m := by
  obtain ⟨h1, h2, h3⟩ := ppSqr_spec w (width_16 hw) a ha
  exact ⟨h1, h2, by rw [h3, hla]; omega⟩

/-- the reduction gf2Create selects for a trinomial (by `bk`), on any array `p` of 2n words -/
theorem red_trinomial (w : Nat) (hw0 : 0 < w) (m k : Nat) (p : List Nat) (hp : Wf w p)
    (hl : p.length = 2 * wOfB w m) (hmw : m % w ≠ 0) (hk : 0 < k) (hmk : w ≤ m - k) :
    let t := Gf2Trinom.create w m k
    let r := if t.bk = 0 then gf2RedTrinomial0 w p (wOfB w m) t else gf2RedTrinomial1 w p (wOfB w m) t
    val w r = pmod (val w p) (2 ^ m + 2 ^ k + 1) ∧ val w r < 2 ^ m ∧ Wf w r
      ∧ r.length = wOfB w m := by
  intro t r
  by_cases hbk : (m - k) % w = 0
  · rw [show r = gf2RedTrinomial0 w p (wOfB w m) t from if_pos hbk]
    exact gf2RedTrinomial0_spec w p m k hw0 hp hl hmw hk hmk hbk
  · rw [show r = gf2RedTrinomial1 w p (wOfB w m) t from if_neg hbk]
    exact gf2RedTrinomial1_spec w p m k hw0 hp hl hmw hk hmk hbk

end Gf2Ops
open Gf2Ops

/-- `f->mul` for a trinomial field x^m + x^k + 1 (gf2Create: m % 8 ≠ 0, 0 < k < m, m − k ≥ B_PER_W;
    gf2MulTrinomial0 if (m − k) % B_PER_W = 0, else gf2MulTrinomial1). -/
theorem gf2Mul_trinomial_spec (w : Nat) (hw : w = 16 ∨ w = 32 ∨ w = 64) (m k : Nat) (a b : List Nat)
    (hm8 : m % 8 ≠ 0) (hk : 0 < k) (hmk : w ≤ m - k)
    (ha : Wf w a) (hb : Wf w b) (hla : a.length = wOfB w m) (hlb : b.length = wOfB w m) :
    val w (gf2Mul w m k 0 0 a b) = pmod (clmul (val w a) (val w b)) (2 ^ m + 2 ^ k + 1)
    ∧ val w (gf2Mul w m k 0 0 a b) < 2 ^ m ∧ Wf w (gf2Mul w m k 0 0 a b)
    ∧ (gf2Mul w m k 0 0 a b).length = wOfB w m := by
  obtain ⟨p1, p2, p3⟩ := prod_mul w hw m a b ha hb hla hlb
  have := red_trinomial w (width_pos hw) m k _ p2 p3 (mod_w_ne hw hm8) hk hmk
  rw [p1] at this
  unfold gf2Mul
  simp only [if_true]
  exact this

/-- `f->sqr` for a trinomial field. -/
theorem gf2Sqr_trinomial_spec (w : Nat) (hw : w = 16 ∨ w = 32 ∨ w = 64) (m k : Nat) (a : List Nat)
    (hm8 : m % 8 ≠ 0) (hk : 0 < k) (hmk : w ≤ m - k)
    (ha : Wf w a) (hla : a.length = wOfB w m) :
    val w (gf2Sqr w m k 0 0 a) = pmod (clmul (val w a) (val w a)) (2 ^ m + 2 ^ k + 1)
    ∧ val w (gf2Sqr w m k 0 0 a) < 2 ^ m ∧ Wf w (gf2Sqr w m k 0 0 a)
    ∧ (gf2Sqr w m k 0 0 a).length = wOfB w m := by
  obtain ⟨p1, p2, p3⟩ := prod_sqr w hw m a ha hla
  have := red_trinomial w (width_pos hw) m k _ p2 p3 (mod_w_ne hw hm8) hk hmk
  rw [p1] at this
  unfold gf2Sqr
  simp only [if_true]
  exact this

/-- `f->mul` for a pentanomial field x^m + x^k + x^l + x^l1 + 1 (gf2Create: m > k > l > l1 > 0,
    k < B_PER_W, m − k ≥ B_PER_W). -/
theorem gf2Mul_pentanomial_spec (w : Nat) (hw : w = 16 ∨ w = 32 ∨ w = 64) (m k l l1 : Nat)
    (a b : List Nat) (h1 : 0 < l1) (h2 : l1 < l) (h3 : l < k) (hk : k < w) (hmk : w ≤ m - k)
    (ha : Wf w a) (hb : Wf w b) (hla : a.length = wOfB w m) (hlb : b.length = wOfB w m) :
    val w (gf2Mul w m k l l1 a b)
      = pmod (clmul (val w a) (val w b)) (2 ^ m + 2 ^ k + 2 ^ l + 2 ^ l1 + 1)
    ∧ val w (gf2Mul w m k l l1 a b) < 2 ^ m ∧ Wf w (gf2Mul w m k l l1 a b)
    ∧ (gf2Mul w m k l l1 a b).length = wOfB w m := by
  obtain ⟨p1, p2, p3⟩ := prod_mul w hw m a b ha hb hla hlb
  unfold gf2Mul
  rw [if_neg (by omega : ¬ l = 0)]
  have := gf2RedPentanomial_spec w (ppMul w a b) m k l l1 (width_pos hw) p2 p3 h1 h2 h3 hk hmk
  rw [p1] at this
  exact this

/-- `f->sqr` for a pentanomial field. -/
theorem gf2Sqr_pentanomial_spec (w : Nat) (hw : w = 16 ∨ w = 32 ∨ w = 64) (m k l l1 : Nat)
    (a : List Nat) (h1 : 0 < l1) (h2 : l1 < l) (h3 : l < k) (hk : k < w) (hmk : w ≤ m - k)
    (ha : Wf w a) (hla : a.length = wOfB w m) :
    val w (gf2Sqr w m k l l1 a)
      = pmod (clmul (val w a) (val w a)) (2 ^ m + 2 ^ k + 2 ^ l + 2 ^ l1 + 1)
    ∧ val w (gf2Sqr w m k l l1 a) < 2 ^ m ∧ Wf w (gf2Sqr w m k l l1 a)
    ∧ (gf2Sqr w m k l l1 a).length = wOfB w m := by
  obtain ⟨p1, p2, p3⟩ := prod_sqr w hw m a ha hla
  unfold gf2Sqr
  rw [if_neg (by omega : ¬ l = 0)]
  have := gf2RedPentanomial_spec w (ppSqr w a) m k l l1 (width_pos hw) p2 p3 h1 h2 h3 hk hmk
  rw [p1] at this
  exact this

-- non-vacuity: x^23 + x^5 + 1 (w = 16, n = 2, bk = 2: Trinomial1), x^37 + x^5 + 1 (bk = 0: Trinomial0),
-- x^40 + x^5 + x^4 + x^3 + 1 (m % w ≠ 0 not required for pentanomials)
example := gf2Mul_trinomial_spec 16 (Or.inl rfl) 23 5 [65535, 127] [3, 1] (by decide) (by decide)
  (by decide) (by decide) (by decide) (by decide) (by decide)
example : (gf2Mul 16 23 5 0 0 [65535, 127] [3, 1]).length = 2
    ∧ val 16 (gf2Mul 16 23 5 0 0 [65535, 127] [3, 1]) < 2 ^ 23
    ∧ (Gf2Trinom.create 16 23 5).bk ≠ 0 ∧ (Gf2Trinom.create 16 37 5).bk = 0 := by decide
example : (gf2Sqr 16 37 5 0 0 [65535, 65535, 31]).length = 3
    ∧ val 16 (gf2Sqr 16 37 5 0 0 [65535, 65535, 31]) < 2 ^ 37 := by decide
example := gf2Mul_pentanomial_spec 16 (Or.inl rfl) 40 5 4 3 [65535, 65535, 255] [1, 2, 3] (by decide)
  (by decide) (by decide) (by decide) (by decide) (by decide) (by decide) (by decide) (by decide)
example : (gf2Mul 16 40 5 4 3 [65535, 65535, 255] [1, 2, 3]).length = 3
    ∧ val 16 (gf2Mul 16 40 5 4 3 [65535, 65535, 255] [1, 2, 3]) < 2 ^ 40 := by decide

end Bee2V.C05
