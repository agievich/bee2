/-
C05 — ppDiv / ppMod (pp_mul.c), word-level model ModelPpDiv.lean.

`ppDiv_spec`, `ppMod_spec` (end of this file) for w ∈ {16, 32, 64}, all branches:
      pdivmod (val a) (val b) = (val q, val r), q of n − m + 1 words, r of m words  (n ≥ m > 0, b[m − 1] ≠ 0), and
      val (ppMod a b) = Spec.pmod (val a) (val b), m words (n < m allowed).
The lemmas (`PpDiv.ppDiv_ok`, `ppMod_ok`) hold for every word size with `PpDiv.WordOK w`, in particular every w = 8·nb ≥ 16.
The `_partial` theorems are the shortcuts and the table, stated on their own.  Model-level evidence besides: #eval against
Spec.pdivmod for w = 8, 16, 64, divisor top words {1, 2, 3, 5, 2^(w−1), 2^(w−1)+1, 2^(w−2), 2^w−1},
n = m … n ≫ m, all-ones / zero / sparse dividends — no mismatch; and the driver comparison with
the library.
-/
import Bee2V.C05.LemmasPpDiv
namespace Bee2V.C05
open Bee2V.C05.Spec Bee2V.C05.Pp Bee2V.C05.PpDiv

/-- the `deg a < deg b` shortcut of ppDiv: q = 0 (n − m + 1 words), r = the low m words of a = a -/
theorem ppDiv_small_partial (w : Nat) (a b : List Nat) (ha : Wf w a) (hb : Wf w b)
    (hle : b.length ≤ a.length) (hlt : ppBitSize (val w a) < ppBitSize (val w b)) :
    val w a = clmul (val w (ppDiv w a b).1) (val w b) ^^^ val w (ppDiv w a b).2
    ∧ (val w (ppDiv w a b).2 = 0 ∨ (val w (ppDiv w a b).2).log2 < (val w b).log2)
    ∧ (ppDiv w a b).1.length = a.length - b.length + 1 ∧ (ppDiv w a b).2.length = b.length := by
  obtain ⟨h1, h2⟩ := ppDiv_small a b ha hb hle hlt
  obtain ⟨hy, hx⟩ := lt_of_bitSize_lt hlt
  rw [h1]
  simp only [val_replicate_zero, zero_clmul, Nat.zero_xor, h2, List.length_replicate, List.length_take,
    true_and]
  refine ⟨?_, Nat.min_eq_left hle⟩
  by_cases h0 : val w a = 0
  · exact Or.inl h0
  · exact Or.inr ((Nat.log2_lt h0).2 hx)

example : ppDiv 8 [5, 0] [3, 1] = ([0], [5, 0]) := by decide

/-- the `b == 1` shortcut added to ppDiv: q = a, r = 0 -/
theorem ppDiv_one_partial (w : Nat) (a : List Nat)
    (hge : ¬ ppBitSize (val w a) < ppBitSize (val w [1])) :
    ppDiv w a [1] = (a, [0])
    ∧ val w a = clmul (val w (ppDiv w a [1]).1) (val w [1]) ^^^ val w (ppDiv w a [1]).2 := by
  have h1 : ppDiv w a [1] = (a, [0]) := by
    unfold ppDiv
    simp only [if_neg hge]
    simp
  refine ⟨h1, ?_⟩
  rw [h1]
  simp [val, clmul_one]

example : ppDiv 8 [7, 9] [1] = ([7, 9], [0]) := by decide
example : ppDiv 8 [255, 255, 255] [3, 1] = (Spec.pdivmod (val 8 [255, 255, 255]) (val 8 [3, 1])
    |> fun p => (toWords 8 2 p.1, toWords 8 2 p.2)) := by decide

/-- normalisation / denormalisation of ppDiv, at the level of the specification: multiplying the
    dividend and the divisor by x^s leaves the quotient unchanged and multiplies the remainder by
    x^s (step (iii) of the open main-branch proof). -/
theorem pp_pdivmod_shift (a b s : Nat) (hb : b ≠ 0) :
    pdivmod (a <<< s) (b <<< s) = ((pdivmod a b).1, (pdivmod a b).2 <<< s)
    ∧ pmod (a <<< s) (b <<< s) / 2 ^ s = pmod a b :=
  ⟨pdivmod_shift a b s hb, pmod_shift a b s hb⟩

example : pdivmod (0b111011 <<< 5) (0b110 <<< 5) = (0b1011, 1 <<< 5) := by decide

/-- the `deg a < deg b` shortcut of ppDiv agrees with the specification -/
theorem ppDiv_small_eq_spec_partial (w : Nat) (a b : List Nat) (ha : Wf w a) (hb : Wf w b)
    (hle : b.length ≤ a.length) (hlt : ppBitSize (val w a) < ppBitSize (val w b)) :
    pdivmod (val w a) (val w b) = (val w (ppDiv w a b).1, val w (ppDiv w a b).2) := by
  obtain ⟨h1, h2, _, _⟩ := ppDiv_small_partial w a b ha hb hle hlt
  have hy := (lt_of_bitSize_lt hlt).1
  obtain ⟨s1, s2⟩ := pdivmod_spec (val w a) (val w b) hy
  have hr : val w (ppDiv w a b).2 < 2 ^ (val w b).log2 := by
    rcases h2 with h0 | h0
    · rw [h0]; exact Nat.two_pow_pos _
    · by_cases hz : val w (ppDiv w a b).2 = 0
      · rw [hz]; exact Nat.two_pow_pos _
      · exact (Nat.log2_lt hz).1 h0
  obtain ⟨e1, e2⟩ := divmod_unique hy s2 hr (s1.trans h1)
  exact Prod.ext e1 e2

/-- the `deg a < deg b` shortcut of ppMod (n < m allowed: r is a padded with zero words) -/
theorem ppMod_small_partial (w : Nat) (a b : List Nat) (ha : Wf w a) (hb : Wf w b)
    (hlt : ppBitSize (val w a) < ppBitSize (val w b)) :
    val w (ppMod w a b) = pmod (val w a) (val w b) ∧ (ppMod w a b).length = b.length := by
  obtain ⟨h1, h2⟩ := ppMod_small a b ha hb hlt
  obtain ⟨hy, hx⟩ := lt_of_bitSize_lt hlt
  exact ⟨by rw [h1, pmod_of_lt hy hx], h2⟩

example : ppMod 8 [5] [1, 2, 3] = [5, 0, 0] := by decide

/-- the `b == 1` shortcut of ppMod: r = 0 = a mod 1 -/
theorem ppMod_one_partial (w : Nat) (a : List Nat)
    (hge : ¬ ppBitSize (val w a) < ppBitSize (val w [1])) :
    ppMod w a [1] = [0] ∧ val w (ppMod w a [1]) = pmod (val w a) (val w [1]) := by
  have h1 : ppMod w a [1] = [0] := by
    unfold ppMod
    simp only [if_neg hge]
    simp
  refine ⟨h1, ?_⟩
  rw [h1]
  simp [val, pmod_one]

/-- the table `_MUL_PRE_S4(w2, top)` of ppDiv / ppMod: entry j is `j·top` truncated to a word -/
theorem ppDiv_mulTable_partial (w a : Nat) (ha : a < 2 ^ w) :
    mulPreS4 w a = (List.range 16).map (fun j => clmul j a % 2 ^ w) := mulPreS4_eq ha

example : mulPreS4 8 0b10000011 = (List.range 16).map (fun j => clmul j 0b10000011 % 2 ^ 8) := by
  decide

/-! ## full correctness of ppDiv / ppMod (all branches) -/

/-- ppDiv(q, r, a, n, b, m) for B_PER_W ∈ {16, 32, 64}, n ≥ m > 0, b[m − 1] ≠ 0, any contents:
    `(q, r) = Spec.pdivmod a b` (so a = q·b + r, deg r < deg b), q has n − m + 1 words, r has m. -/
theorem ppDiv_spec (w : Nat) (hw : w = 16 ∨ w = 32 ∨ w = 64) (a b : List Nat) (ha : Wf w a) (hb : Wf w b)
    (hnm : b.length ≤ a.length) (hm : 0 < b.length) (htop : b.getD (b.length - 1) 0 ≠ 0) :
    pdivmod (val w a) (val w b) = (val w (ppDiv w a b).1, val w (ppDiv w a b).2)
    ∧ (ppDiv w a b).1.length = a.length - b.length + 1 ∧ (ppDiv w a b).2.length = b.length
    ∧ Wf w (ppDiv w a b).1 ∧ Wf w (ppDiv w a b).2 :=
  ppDiv_ok (WordOK_of_width hw) a b ha hb hnm hm htop

example := ppDiv_spec 16 (Or.inl rfl) [65535, 65535, 65535] [3, 1] (by decide) (by decide) (by decide)
  (by decide) (by decide)
/-- ppMod(r, a, n, b, m) for B_PER_W ∈ {16, 32, 64}, m > 0, b[m − 1] ≠ 0, n arbitrary (n < m
    allowed): `r = a mod b`, m words. -/
theorem ppMod_spec (w : Nat) (hw : w = 16 ∨ w = 32 ∨ w = 64) (a b : List Nat) (ha : Wf w a) (hb : Wf w b)
    (hm : 0 < b.length) (htop : b.getD (b.length - 1) 0 ≠ 0) :
    val w (ppMod w a b) = pmod (val w a) (val w b)
    ∧ (ppMod w a b).length = b.length ∧ Wf w (ppMod w a b) :=
  ppMod_ok (WordOK_of_width hw) a b ha hb hm htop

example := ppMod_spec 16 (Or.inl rfl) [5] [1, 2, 3] (by decide) (by decide) (by decide) (by decide)

end Bee2V.C05
