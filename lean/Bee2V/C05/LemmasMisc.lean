/-
C05 — helper lemmas for PropsMisc.lean (wwNAF, zzRandMod, zzAdd3 and the compositions).
-/
import Bee2V.C05.ModelMisc
import Bee2V.C05.LemmasAdd
import Bee2V.C05.LemmasGcd
import Mathlib.Tactic.Ring
import Mathlib.Tactic.Linarith
import Mathlib.Tactic.LinearCombination
namespace Bee2V.C05.Misc
open Bee2V.C05 Bee2V.C05.Add

/-! ## zzAdd3 -/

/-- the tail of zzAdd3: `r` holds the sum of the low k words of the longer operand `a` with the other operand (value S);
    its carry is propagated through the words of `a` above k -/
theorem add3_tail {w k n A S : Nat} {r : List Nat × Nat} {a : List Nat} (hw : 0 < w)
    (hr : RepC w k r (A % 2 ^ (w * k) + S)) (ha : Rep w n a A) (hk : k < n) :
    RepC w n (r.1 ++ (zzAddW2 w (a.drop k) r.2).1, (zzAddW2 w (a.drop k) r.2).2) (A + S) := by
  obtain ⟨h1, h2, h3, h4⟩ := hr
  have hB := two_le_two_pow hw
  obtain ⟨b1, b2, b3, b4⟩ := (ha.drop k).addWC (c := r.2) (by omega) (by omega)
  unfold zzAddW2
  generalize zzAddW w (a.drop k) r.2 = r2 at *
  refine ⟨?_, b2, Wf_append.mpr ⟨h3, b3⟩, by rw [List.length_append, h4, b4]; omega⟩
  have hP : 2 ^ (w * n) = 2 ^ (w * k) * 2 ^ (w * (n - k)) := by
    rw [← Nat.pow_add, ← Nat.mul_add]; congr 2; omega
  have h5 : 2 ^ (w * k) * (val w r2.1 + 2 ^ (w * (n - k)) * r2.2) = 2 ^ (w * k) * (A / 2 ^ (w * k) + r.2) := by rw [b1]
  have hA := Nat.mod_add_div A (2 ^ (w * k))
  simp only [Nat.mul_add, ← Nat.mul_assoc, ← hP] at h5
  show val w (r.1 ++ r2.1) + 2 ^ (w * n) * r2.2 = A + S
  rw [val_append, h4]
  omega


/-! ## zzRandMod -/

/-- the j-th candidate read off the tape: c octets, little-endian, trimmed to l bits -/
def randCand (l c : Nat) (tape : List Nat) (j : Nat) : Nat :=
  leVal ((tape.drop (j * c)).take c) % 2 ^ l

/-- rejected by the loop condition of zzRandMod (nz = false) / zzRandNZMod (nz = true) -/
def randBad (m : Nat) (nz : Bool) (v : Nat) : Bool := (nz && v == 0) || decide (v ≥ m)

theorem randCand_drop (l c : Nat) (tape : List Nat) (k : Nat) :
    randCand l c (tape.drop c) k = randCand l c tape (k + 1) := by
  unfold randCand
  rw [List.drop_drop]
  congr 4
  ring

theorem randCand_zero (l c : Nat) (tape : List Nat) :
    randCand l c tape 0 = leVal (tape.take c) % 2 ^ l := by
  simp [randCand]

theorem zzRandModLoop_zero (m l c : Nat) (nz : Bool) (tape : List Nat) (used : Nat) :
    zzRandModLoop m l c nz 0 tape used
      = if randBad m nz (randCand l c tape 0) then (none, used + c)
        else (some (randCand l c tape 0), used + c) := by
  rw [randCand_zero]; rfl

theorem zzRandModLoop_succ (m l c : Nat) (nz : Bool) (i : Nat) (tape : List Nat) (used : Nat) :
    zzRandModLoop m l c nz (i + 1) tape used
      = if randBad m nz (randCand l c tape 0) then zzRandModLoop m l c nz i (tape.drop c) (used + c)
        else (some (randCand l c tape 0), used + c) := by
  rw [randCand_zero]; rfl

/-- an acceptable first chunk is returned -/
theorem zzRandModLoop_hit (m l c : Nat) (nz : Bool) (i : Nat) (tape : List Nat) (used : Nat)
    (h : randBad m nz (randCand l c tape 0) = false) :
    zzRandModLoop m l c nz i tape used = (some (randCand l c tape 0), used + c) := by
  cases i
  · rw [zzRandModLoop_zero, h]; rfl
  · rw [zzRandModLoop_succ, h]; rfl

/-- j rejected chunks cost j turns and j c octets -/
theorem zzRandModLoop_skip (m l c : Nat) (nz : Bool) (i : Nat) :
    ∀ j tape used, (∀ k < j, randBad m nz (randCand l c tape k) = true) →
      zzRandModLoop m l c nz (i + j) tape used
        = zzRandModLoop m l c nz i (tape.drop (j * c)) (used + j * c) := by
  intro j
  induction j with
  | zero => intro tape used _; simp
  | succ j ih =>
    intro tape used hbad
    rw [← Nat.add_assoc, zzRandModLoop_succ, hbad 0 (by omega), if_pos rfl,
      ih _ _ (fun k hk => by rw [randCand_drop]; exact hbad (k + 1) (by omega)), List.drop_drop]
    congr 1
    · congr 1; ring
    · ring

theorem zzRandModLoop_found (m l c : Nat) (nz : Bool) (i : Nat) (tape : List Nat) (used j : Nat)
    (hj : j ≤ i) (hbad : ∀ k < j, randBad m nz (randCand l c tape k) = true)
    (hgood : randBad m nz (randCand l c tape j) = false) :
    zzRandModLoop m l c nz i tape used = (some (randCand l c tape j), used + (j + 1) * c) := by
  have e : randCand l c (tape.drop (j * c)) 0 = randCand l c tape j := by simp [randCand]
  obtain ⟨i', rfl⟩ : ∃ i', i = i' + j := ⟨i - j, by omega⟩
  rw [zzRandModLoop_skip m l c nz i' j tape used hbad, zzRandModLoop_hit m l c nz _ _ _ (by rw [e]; exact hgood),
    e, Nat.add_assoc, Nat.succ_mul]

theorem zzRandModLoop_none (m l c : Nat) (nz : Bool) (i : Nat) (tape : List Nat) (used : Nat)
    (hbad : ∀ k ≤ i, randBad m nz (randCand l c tape k) = true) :
    zzRandModLoop m l c nz i tape used = (none, used + (i + 1) * c) := by
  have e : randCand l c (tape.drop (i * c)) 0 = randCand l c tape i := by simp [randCand]
  have := zzRandModLoop_skip m l c nz 0 i tape used (fun k hk => hbad k (by omega))
  rw [Nat.zero_add] at this
  rw [this, zzRandModLoop_zero, e, hbad i (Nat.le_refl i), if_pos rfl, Nat.add_assoc, Nat.succ_mul]

theorem zzRandModLoop_some (m l c : Nat) (nz : Bool) :
    ∀ i tape used v, (zzRandModLoop m l c nz i tape used).1 = some v → randBad m nz v = false := by
  intro i
  induction i with
  | zero =>
    intro tape used v h
    rw [zzRandModLoop_zero] at h
    split at h
    · simp at h
    · simp only [Option.some.injEq] at h
      exact h ▸ Bool.eq_false_iff.mpr ‹_›
  | succ i ih =>
    intro tape used v h
    rw [zzRandModLoop_succ] at h
    split at h
    · exact ih _ _ v h
    · simp only [Option.some.injEq] at h
      exact h ▸ Bool.eq_false_iff.mpr ‹_›


/-! ## wwNAF -/

theorem and_pow_of_lt {r k : Nat} (h : r < 2 ^ k) : r &&& 2 ^ k = 0 := by
  apply Nat.eq_of_testBit_eq
  intro j
  rw [Nat.testBit_and, Nat.testBit_two_pow, Nat.zero_testBit]
  by_cases hj : k = j
  · subst hj; rw [Nat.testBit_lt_two_pow h]; rfl
  · simp [hj]

theorem and_hi_ne_zero {H x : Nat} {k : Nat} (hH : H = 2 ^ k) (hx : x < 2 * H) :
    (x &&& H ≠ 0) ↔ H ≤ x := by
  subst hH
  have hp : 0 < 2 ^ k := Nat.two_pow_pos k
  by_cases h : 2 ^ k ≤ x
  · obtain ⟨r, rfl⟩ : ∃ r, x = 2 ^ k * 1 + r := ⟨x - 2 ^ k, by omega⟩
    have hr : r < 2 ^ k := by omega
    rw [Nat.two_pow_add_eq_or_of_lt hr, Nat.and_or_distrib_right, Nat.mul_one, Nat.and_self,
      and_pow_of_lt hr, Nat.or_zero]
    constructor
    · intro _; exact Nat.left_le_or
    · intro _; omega
  · rw [and_pow_of_lt (by omega)]
    constructor
    · intro h0; exact absurd rfl h0
    · intro h1; exact absurd h1 h

theorem xor_hi {j mag : Nat} (hm : mag < 2 ^ j) : mag ^^^ 2 ^ j = mag + 2 ^ j := by
  have h := Nat.two_pow_add_eq_or_of_lt hm 1
  rw [Nat.mul_one] at h
  rw [Nat.add_comm, h]
  apply Nat.eq_of_testBit_eq
  intro i
  rw [Nat.testBit_xor, Nat.testBit_or, Nat.testBit_two_pow]
  by_cases hj : j = i
  · subst hj; simp [Nat.testBit_lt_two_pow hm]
  · simp [hj]

/-- the iteration body in arithmetic terms (w = k + 2, H = 2^(w-1)): an even window gives digit 0;
    an odd window below H gives itself; an odd window above H gives `window - 2^w < 0` and leaves
    the carry 2^w, except in the suffix (`i ≥ a_len`) where it gives `window - H > 0` and leaves H.
    Second component: the code of the digit (sign ‖ magnitude). -/
theorem wwNAFDigit_eq (W k alen i window : Nat) (hW : k + 2 < W) (hwin : window ≤ 2 ^ (k + 2)) :
    wwNAFDigit W (k + 2) alen i window =
      if window % 2 = 1 then
        if 2 ^ (k + 1) ≤ window then
          if i ≥ alen then (((window - 2 ^ (k + 1) : Nat) : Int), window - 2 ^ (k + 1), 2 ^ (k + 1))
          else (-((2 ^ (k + 2) - window : Nat) : Int), 2 ^ (k + 2) - window + 2 ^ (k + 1),
            2 ^ (k + 2))
        else ((window : Int), window, 0)
      else (0, 0, window) := by
  have hpow : 2 ^ (k + 2) = 2 * 2 ^ (k + 1) := by rw [Nat.pow_succ, Nat.mul_comm]
  have hpow1 : 2 ^ (k + 1) = 2 * 2 ^ k := by rw [Nat.pow_succ, Nat.mul_comm]
  have hhalf : 2 ^ (k + 2) / 2 = 2 ^ (k + 1) := by omega
  have hH : 0 < 2 ^ k := Nat.two_pow_pos k
  unfold wwNAFDigit
  simp only [hhalf]
  by_cases hodd : window % 2 = 1
  · rw [if_pos hodd, if_pos hodd]
    have hlt : window < 2 * 2 ^ (k + 1) := by omega
    simp only [and_hi_ne_zero rfl hlt, Nat.and_two_pow_sub_one_eq_mod]
    by_cases hhi : 2 ^ (k + 1) ≤ window
    · rw [if_pos hhi, if_pos hhi]
      by_cases hsuf : i ≥ alen
      · rw [if_pos hsuf, if_pos hsuf, Nat.mod_eq_sub_mod hhi, Nat.mod_eq_of_lt (by omega)]
      · rw [if_neg hsuf, if_neg hsuf]
        -- (0 - window) & mask = 2^w - window
        have hmag : wneg W window % 2 ^ (k + 1) = 2 ^ (k + 2) - window := by
          show (2 ^ W - window % 2 ^ W) % 2 ^ W % 2 ^ (k + 1) = _
          obtain ⟨e, rfl⟩ : ∃ e, W = (k + 2) + (e + 1) := ⟨W - (k + 2) - 1, by omega⟩
          have hE : 2 ^ (k + 2 + (e + 1)) = 2 ^ (k + 1) * (2 * 2 ^ (e + 1)) := by
            rw [Nat.pow_add, hpow]; ring
          have h2 : 2 ^ (k + 1) * 2 ≤ 2 ^ (k + 1) * (2 * 2 ^ (e + 1)) :=
            Nat.mul_le_mul_left _ (by have := Nat.two_pow_pos (e + 1); omega)
          have hbig : window < 2 ^ (k + 2 + (e + 1)) := by rw [hE]; omega
          rw [Nat.mod_eq_of_lt hbig, Nat.mod_eq_of_lt
              (show 2 ^ (k + 2 + (e + 1)) - window < 2 ^ (k + 2 + (e + 1)) by omega),
            show 2 ^ (k + 2 + (e + 1)) - window
              = (2 ^ (k + 2) - window) + 2 ^ (k + 1) * (2 * 2 ^ (e + 1) - 2) by
                rw [hE, Nat.mul_sub]; omega,
            Nat.add_mul_mod_self_left, Nat.mod_eq_of_lt (by omega)]
        rw [hmag, xor_hi (by omega)]
    · rw [if_neg hhi, if_neg hhi]
  · rw [if_neg hodd, if_neg hodd]

/-- what one iteration does with the window (k = w - 2, H = 2^(w-1)):
    `window = digit + window'`, window' even and ≤ 2^w, digit zero or odd with |digit| < H;
    in the suffix (`i ≥ a_len`) the digit is ≥ 0 and window' ≤ window -/
theorem nafDigit_spec (W k alen i window : Nat) (hW : k + 2 < W) (hwin : window ≤ 2 ^ (k + 2)) :
    let r := wwNAFDigit W (k + 2) alen i window
    (window : ℤ) = r.1 + r.2.2 ∧ r.2.2 % 2 = 0 ∧ r.2.2 ≤ 2 ^ (k + 2)
    ∧ (r.1 = 0 ∨ (r.1 % 2 = 1 ∧ -(2 ^ (k + 1) : ℤ) < r.1 ∧ r.1 < 2 ^ (k + 1)))
    ∧ (window % 2 = 0 → r.1 = 0) ∧ (i ≥ alen → 0 ≤ r.1 ∧ r.2.2 ≤ window) := by
  have hpow : 2 ^ (k + 2) = 2 * 2 ^ (k + 1) := by rw [Nat.pow_succ, Nat.mul_comm]
  have hpow1 : 2 ^ (k + 1) = 2 * 2 ^ k := by rw [Nat.pow_succ, Nat.mul_comm]
  have hz : ((2 ^ (k + 1) : Nat) : ℤ) = 2 ^ (k + 1) := by push_cast; rfl
  rw [wwNAFDigit_eq W k alen i window hW hwin]
  split_ifs with hodd hhi hsuf <;> dsimp only <;>
    exact ⟨by omega, by omega, by omega, by omega, by omega, by omega⟩


/-- value of a digit string a_0, a_1, … : Σ a_i 2^i -/
def nafSum : List Int → Int
  | [] => 0
  | d :: ds => d + 2 * nafSum ds

theorem nafSum_append (ds : List Int) (d : Int) :
    nafSum (ds ++ [d]) = nafSum ds + 2 ^ ds.length * d := by
  induction ds with
  | nil => simp [nafSum]
  | cons x xs ih => simp only [List.cons_append, nafSum, ih, List.length_cons, pow_succ]; ring

/-- admissible digit for window w = k + 2: zero, or odd with |d| < 2^(w-1) -/
def NafDigitOK (k : Nat) (d : Int) : Prop :=
  d = 0 ∨ (d % 2 = 1 ∧ -(2 ^ (k + 1) : ℤ) < d ∧ d < 2 ^ (k + 1))

/-- the window after `window >>= 1; if (i < a_len) window += hi_bit * wwTestBit(a, i)` is
    `r / 2 + H a_i`, and `a_i = 0` from the length of a on -/
theorem nafNext {a alen : Nat} (halen : a < 2 ^ alen) (k i : Nat) :
    (if i < alen then 2 ^ (k + 2) / 2 * (a / 2 ^ i % 2) else 0) = 2 ^ (k + 1) * (a / 2 ^ i % 2)
    ∧ 2 ^ (k + 1) * (a / 2 ^ i % 2) ≤ 2 ^ (k + 1) ∧ (¬ i < alen → a / 2 ^ i = 0) := by
  have hq0 : ¬ i < alen → a / 2 ^ i = 0 := fun h =>
    Nat.div_eq_of_lt (Nat.lt_of_lt_of_le halen (Nat.pow_le_pow_right (by omega) (by omega)))
  have hhalf : 2 ^ (k + 2) / 2 = 2 ^ (k + 1) := by rw [Nat.pow_succ]; omega
  refine ⟨?_, ?_, hq0⟩
  · by_cases h : i < alen
    · rw [if_pos h, hhalf]
    · rw [if_neg h, hq0 h]; simp
  · have := Nat.mul_le_mul_left (2 ^ (k + 1)) (show a / 2 ^ i % 2 ≤ 1 by omega)
    rwa [Nat.mul_one] at this

/-! ### wwNAF: the code word -/

/-- decoding of one non-zero symbol (w bits, sign ‖ magnitude) -/
def nafSym (w sym : Nat) : Int :=
  if sym / 2 ^ (w - 1) = 1 then -((sym % 2 ^ (w - 1) : Nat) : Int) else (sym : Int)

/-- the code of a non-zero digit: w bits, odd, decodes to the digit -/
theorem nafDigit_code (W k alen i window : Nat) (hW : k + 2 < W) (hwin : window ≤ 2 ^ (k + 2))
    (hodd : window % 2 = 1) :
    let r := wwNAFDigit W (k + 2) alen i window
    r.2.1 < 2 ^ (k + 2) ∧ r.2.1 % 2 = 1 ∧ nafSym (k + 2) r.2.1 = r.1 ∧ r.1 % 2 = 1 := by
  have hpow : 2 ^ (k + 2) = 2 * 2 ^ (k + 1) := by rw [Nat.pow_succ, Nat.mul_comm]
  have hpow1 : 2 ^ (k + 1) = 2 * 2 ^ k := by rw [Nat.pow_succ, Nat.mul_comm]
  have hH : 0 < 2 ^ k := Nat.two_pow_pos k
  unfold nafSym
  rw [wwNAFDigit_eq W k alen i window hW hwin, if_pos hodd, show k + 2 - 1 = k + 1 by omega]
  by_cases hhi : 2 ^ (k + 1) ≤ window
  · rw [if_pos hhi]
    by_cases hsuf : i ≥ alen
    · rw [if_pos hsuf]
      dsimp only
      rw [Nat.div_eq_of_lt (show window - 2 ^ (k + 1) < 2 ^ (k + 1) by omega), if_neg (by omega)]
      exact ⟨by omega, by omega, rfl, by omega⟩
    · rw [if_neg hsuf]
      dsimp only
      have hmlt : 2 ^ (k + 2) - window < 2 ^ (k + 1) := by omega
      rw [Nat.add_div_right _ (by omega), Nat.div_eq_of_lt hmlt, if_pos rfl, Nat.add_mod_right,
        Nat.mod_eq_of_lt hmlt]
      exact ⟨by omega, by omega, rfl, by omega⟩
  · rw [if_neg hhi]
    dsimp only
    rw [Nat.div_eq_of_lt (by omega), if_neg (by omega)]
    exact ⟨by omega, hodd, rfl, by omega⟩

theorem nafDecode_zero (w s naf : Nat) : nafDecode w (s + 1) (naf <<< 1) = 0 :: nafDecode w s naf := by
  rw [Nat.shiftLeft_eq, Nat.pow_one]
  conv_lhs => unfold nafDecode
  rw [if_pos (by omega), Nat.mul_div_cancel _ (by omega)]

theorem nafDecode_sym (w s naf code : Nat) (hw : 0 < w) (hc : code < 2 ^ w) (hodd : code % 2 = 1) :
    nafDecode w (s + 1) ((naf <<< w) ||| code) = nafSym w code :: nafDecode w s naf := by
  rw [← Nat.shiftLeft_add_eq_or_of_lt hc, Nat.shiftLeft_eq]
  obtain ⟨j, rfl⟩ : ∃ j, w = j + 1 := ⟨w - 1, by omega⟩
  have hp : 2 ^ (j + 1) = 2 * 2 ^ j := by rw [Nat.pow_succ, Nat.mul_comm]
  have hodd2 : (naf * 2 ^ (j + 1) + code) % 2 = 1 := by
    have : naf * 2 ^ (j + 1) = 2 * (naf * 2 ^ j) := by rw [hp]; ring
    omega
  conv_lhs => unfold nafDecode
  rw [if_neg (by omega)]
  have hm : (naf * 2 ^ (j + 1) + code) % 2 ^ (j + 1) = code := by
    rw [Nat.mul_comm, Nat.mul_add_mod, Nat.mod_eq_of_lt hc]
  have hd : (naf * 2 ^ (j + 1) + code) / 2 ^ (j + 1) = naf := by
    rw [Nat.mul_comm, Nat.mul_add_div (by omega), Nat.div_eq_of_lt hc, Nat.add_zero]
  simp only [hm, hd]
  rfl

/-- the measure of the loop of wwNAF decreases: `a_len - i + 2^w + 1` while bits of a remain, then
    the window, which is halved (r = window after the digit was taken out, B = the entering bit) -/
theorem nafMeasure {alen i window r B E f : Nat} (hrun : ¬ i < alen → 0 < window) (hr : r ≤ E)
    (hB : 2 * B ≤ E) (hB0 : ¬ i < alen → B = 0) (hsuf : i ≥ alen → r ≤ window)
    (hf : (if i < alen then alen - i + E + 1 else window) < f + 1) :
    (if i + 1 < alen then alen - (i + 1) + E + 1 else r / 2 + B) < f := by
  by_cases h : i < alen
  · rw [if_pos h] at hf
    split_ifs <;> omega
  · rw [if_neg h] at hf
    have := hrun h
    have := hB0 h
    have := hsuf (by omega)
    rw [if_neg (by omega)]
    omega

/-- the loop of wwNAF.  Invariants: `Σ digits + window 2^l + (a >> i) 2^i = a` (l digits so far,
    `i = l + w`), admissible digits, `size = l`, the code word decodes to the digits (last first);
    for the length bound `window 2^(i - a_len) ≤ 2^w` once `i ≥ a_len`; the last digit is non-zero
    when the loop stops.  Measure: `a_len - i + 2^w + 1`
    while bits of a remain, then the window itself (it is halved, the suffix digits being ≥ 0). -/
theorem nafLoop_spec (W k a alen : Nat) (hW : k + 2 < W) (halen : a < 2 ^ alen)
    (htop : a / 2 ^ (alen - 1) % 2 = 1) :
    ∀ (f i window : Nat) (digs : List Int) (naf size : Nat), window ≤ 2 ^ (k + 2) →
      digs.length + (k + 2) = i → size = digs.length →
      nafSum digs + (window : ℤ) * 2 ^ digs.length + ((a / 2 ^ i : Nat) : ℤ) * 2 ^ i = a →
      (∀ d ∈ digs, NafDigitOK k d) → nafDecode (k + 2) size naf = digs.reverse →
      (alen ≤ i → window * 2 ^ (i - alen) ≤ 2 ^ (k + 2)) → i ≤ alen + (k + 2) + 1 →
      ((window = 0 ∧ ¬ i < alen) → ∃ d, digs.getLast? = some d ∧ d ≠ 0) →
      (if i < alen then (alen - i) + 2 ^ (k + 2) + 1 else window) < f →
      let r := wwNAFLoop W (k + 2) a alen f i window digs naf size
      nafSum r.1 = a ∧ (∀ d ∈ r.1, NafDigitOK k d) ∧ r.2.2 = r.1.length
      ∧ nafDecode (k + 2) r.2.2 r.2.1 = r.1.reverse
      ∧ r.2.2 ≤ alen + 1 ∧ ∃ d, r.1.getLast? = some d ∧ d ≠ 0 := by
  intro f
  induction f with
  | zero => intro i window digs naf size _ _ _ _ _ _ _ _ _ h; exact (Nat.not_lt_zero _ h).elim
  | succ f ih =>
    intro i window digs naf size hwin hlen hsize hinv hok hdec hJ hK hP hf
    obtain ⟨hbit, hble, hq0⟩ := nafNext halen k i
    have hpow : 2 ^ (k + 2) = 2 * 2 ^ (k + 1) := by rw [Nat.pow_succ, Nat.mul_comm]
    unfold wwNAFLoop
    by_cases hexit : window = 0 ∧ ¬ i < alen
    · rw [if_pos hexit]
      have hq := hq0 hexit.2
      rw [hexit.1, hq] at hinv
      exact ⟨by simpa using hinv, hok, hsize, hdec, by dsimp only; omega, hP hexit⟩
    · rw [if_neg hexit]
      obtain ⟨s1, s2, s3, s4, s5, s6⟩ := nafDigit_spec W k alen i window hW hwin
      have hcode := nafDigit_code W k alen i window hW hwin
      generalize wwNAFDigit W (k + 2) alen i window = r at *
      simp only []
      rw [hbit]
      have hwpos : ¬ i < alen → 0 < window := fun h => Nat.pos_of_ne_zero fun h0 => hexit ⟨h0, h⟩
      -- `window 2^(i - a_len) ≤ 2^w` with `window ≥ 1`: i ≤ a_len + w in a running iteration
      have hile : i ≤ alen + (k + 2) := by
        by_cases h : i < alen
        · omega
        · have hj := hJ (by omega)
          have h2 : 1 * 2 ^ (i - alen) ≤ window * 2 ^ (i - alen) := Nat.mul_le_mul_right _ (hwpos h)
          have := (Nat.pow_le_pow_iff_right (by omega : 1 < 2)).mp (show 2 ^ (i - alen) ≤ 2 ^ (k + 2) by omega)
          omega
      refine ih _ _ _ _ _ (by omega) (by rw [List.length_append, List.length_singleton]; omega)
        (by rw [List.length_append, List.length_singleton, hsize]) ?_ ?_ ?_ ?_ (by omega) ?_ ?_
      · -- the sum
        rw [nafSum_append, List.length_append, List.length_singleton]
        have hq2 : a / 2 ^ (i + 1) = a / 2 ^ i / 2 := by
          rw [Nat.pow_succ, Nat.div_div_eq_div_mul]
        have hdm := Nat.div_add_mod (a / 2 ^ i) 2
        rw [← hq2] at hdm
        obtain ⟨wh, hwh⟩ : ∃ wh, r.2.2 = 2 * wh := ⟨r.2.2 / 2, by omega⟩
        rw [show r.2.2 / 2 = wh by omega]
        have hi2 : (2 : ℤ) ^ i = 2 ^ (k + 1) * 2 * 2 ^ digs.length := by
          rw [← hlen, pow_add, show k + 2 = (k + 1) + 1 from rfl, pow_succ]; ring
        have hdmZ : (2 : ℤ) * ((a / 2 ^ (i + 1) : Nat) : ℤ) + ((a / 2 ^ i % 2 : Nat) : ℤ)
            = ((a / 2 ^ i : Nat) : ℤ) := by exact_mod_cast hdm
        rw [hwh] at s1
        generalize a / 2 ^ (i + 1) = q' at *
        generalize a / 2 ^ i % 2 = bit at *
        generalize a / 2 ^ i = q at *
        push_cast at s1 ⊢
        rw [hi2] at hinv
        rw [pow_succ 2 i, hi2]
        linear_combination hinv - (2 : ℤ) ^ digs.length * s1
          + (2 ^ (k + 1) * 2 * 2 ^ digs.length : ℤ) * hdmZ
      · intro d hd
        rcases List.mem_append.mp hd with h | h
        · exact hok d h
        · rw [List.mem_singleton.mp h]; exact s4
      · -- the code word: w bits for a non-zero digit, one 0 bit for a zero digit
        rw [List.reverse_append, List.reverse_singleton, List.singleton_append]
        by_cases hodd : window % 2 = 1
        · obtain ⟨c1, c2, c3, _⟩ := hcode hodd
          rw [if_pos hodd, nafDecode_sym _ _ _ _ (by omega) c1 c2, c3, hdec]
        · rw [if_neg hodd, nafDecode_zero, s5 (by omega), hdec]
      · -- the length bound
        intro hge
        by_cases h : i < alen
        · rw [show i + 1 - alen = 0 by omega, Nat.pow_zero, Nat.mul_one]
          omega
        · rw [hq0 h, show i + 1 - alen = (i - alen) + 1 by omega, Nat.zero_mod, Nat.mul_zero,
            Nat.add_zero]
          calc r.2.2 / 2 * 2 ^ (i - alen + 1) = (r.2.2 / 2 * 2) * 2 ^ (i - alen) := by
                rw [Nat.pow_succ]; ring
            _ ≤ window * 2 ^ (i - alen) := Nat.mul_le_mul_right _
                (Nat.le_trans (Nat.div_mul_le_self _ _) (s6 (by omega)).2)
            _ ≤ 2 ^ (k + 2) := hJ (by omega)
      · -- the loop stops after a non-zero digit
        rintro ⟨hw0, hi1⟩
        refine ⟨r.1, by simp, fun hd0 => ?_⟩
        have hev : window % 2 = 0 := by
          by_contra hodd
          have := (hcode (by omega)).2.2.2
          rw [hd0] at this
          omega
        have hwz : window = 0 := by rw [hd0] at s1; omega
        have hlt : i < alen := by
          by_contra h; exact hexit ⟨hwz, h⟩
        rw [show i = alen - 1 by omega, htop] at hw0
        have := Nat.two_pow_pos (k + 1)
        omega
      · exact nafMeasure hwpos s3 (by omega) (fun h => by rw [hq0 h, Nat.zero_mod, Nat.mul_zero])
          (fun h => (s6 h).2) hf


/-! ### wwNAF: non-adjacency -/

/-- scanning state: number of positions since the last non-zero digit (none: no non-zero digit yet) -/
def gapState : Option Nat → List Int → Option Nat
  | g, [] => g
  | g, d :: ds => if d = 0 then gapState (g.map (· + 1)) ds else gapState (some 1) ds

/-- every non-zero digit is at least w positions after the previous non-zero digit -/
def nafGapStrict (w : Nat) : Option Nat → List Int → Prop
  | _, [] => True
  | g, d :: ds =>
    if d = 0 then nafGapStrict w (g.map (· + 1)) ds
    else (match g with | none => True | some t => w ≤ t) ∧ nafGapStrict w (some 1) ds

/-- what wwNAF guarantees: consecutive non-zero digits are at least w positions apart, except
    that the LAST digit may be only w - 1 positions after the previous non-zero digit -/
def nafGapOK (w : Nat) : Option Nat → List Int → Prop
  | _, [] => True
  | g, d :: ds =>
    if d = 0 then nafGapOK w (g.map (· + 1)) ds
    else (match g with | none => True | some t => w ≤ t ∨ (t + 1 = w ∧ ds = [])) ∧ nafGapOK w (some 1) ds

theorem gapState_snoc (g : Option Nat) (ds : List Int) (d : Int) :
    gapState g (ds ++ [d]) = if d = 0 then (gapState g ds).map (· + 1) else some 1 := by
  induction ds generalizing g with
  | nil => simp [gapState]
  | cons x xs ih => simp only [List.cons_append, gapState]; split <;> exact ih _

theorem nafGapStrict_snoc (w : Nat) (g : Option Nat) (ds : List Int) (d : Int) :
    nafGapStrict w g (ds ++ [d]) ↔ nafGapStrict w g ds
      ∧ (d = 0 ∨ match gapState g ds with | none => True | some t => w ≤ t) := by
  induction ds generalizing g with
  | nil =>
    simp only [List.nil_append, nafGapStrict, gapState]
    by_cases h : d = 0 <;> simp [h]
  | cons x xs ih =>
    simp only [List.cons_append, nafGapStrict, gapState]
    split
    · exact ih _
    · rw [ih]; tauto

theorem nafGapOK_snoc (w : Nat) (g : Option Nat) (ds : List Int) (d : Int)
    (hs : nafGapStrict w g ds)
    (hd : d = 0 ∨ match gapState g ds with | none => True | some t => w ≤ t ∨ t + 1 = w) :
    nafGapOK w g (ds ++ [d]) := by
  induction ds generalizing g with
  | nil =>
    simp only [List.nil_append, nafGapOK, gapState] at *
    by_cases h : d = 0
    · simp [h]
    · simp only [h, false_or, if_false, and_true] at *
      cases g with
      | none => trivial
      | some t => simpa using hd
  | cons x xs ih =>
    simp only [List.cons_append, nafGapOK, nafGapStrict, gapState] at *
    split
    · rename_i hx; rw [if_pos hx] at hs hd; exact ih _ hs hd
    · rename_i hx
      rw [if_neg hx] at hs hd
      refine ⟨?_, ih _ hs.2 hd⟩
      cases g with
      | none => trivial
      | some t => exact Or.inl hs.1

theorem nafGapOK_of_strict (w : Nat) (g : Option Nat) (ds : List Int) (hs : nafGapStrict w g ds) :
    nafGapOK w g ds := by
  induction ds generalizing g with
  | nil => trivial
  | cons x xs ih =>
    simp only [nafGapOK, nafGapStrict] at *
    split
    · rename_i hx; rw [if_pos hx] at hs; exact ih _ hs
    · rename_i hx
      rw [if_neg hx] at hs
      refine ⟨?_, ih _ hs.2⟩
      cases g with
      | none => trivial
      | some t => exact Or.inl hs.1


theorem odd_pow_dvd {j s x : Nat} (hx : x % 2 = 1) (h : 2 ^ j ∣ x * 2 ^ s) : j ≤ s := by
  have hc : Nat.Coprime (2 ^ j) x := Nat.Coprime.pow_left j (Gcd.coprime_two_of_odd hx)
  have := Nat.Coprime.dvd_of_dvd_mul_left hc h
  exact (Nat.pow_dvd_pow_iff_le_right (by omega)).mp this

/-- the window left by a non-zero digit -/
theorem nafDigit_win (W k alen i window : Nat) (hW : k + 2 < W) (hwin : window ≤ 2 ^ (k + 2))
    (hodd : window % 2 = 1) :
    let r := wwNAFDigit W (k + 2) alen i window
    (r.2.2 = 0 ∨ r.2.2 = 2 ^ (k + 2) ∨ (r.2.2 = 2 ^ (k + 1) ∧ alen ≤ i))
    ∧ (window < 2 ^ (k + 1) → r.2.2 = 0) := by
  rw [wwNAFDigit_eq W k alen i window hW hwin, if_pos hodd]
  split_ifs with hhi hsuf
  · exact ⟨Or.inr (Or.inr ⟨rfl, hsuf⟩), fun h => by omega⟩
  · exact ⟨Or.inr (Or.inl rfl), fun h => by omega⟩
  · exact ⟨Or.inl rfl, fun _ => rfl⟩

theorem nafLoop_exit (W w a alen f i : Nat) (digs : List Int) (naf size : Nat) (hi : ¬ i < alen) :
    wwNAFLoop W w a alen f i 0 digs naf size = (digs, naf, size) := by
  cases f with
  | zero => rfl
  | succ f => unfold wwNAFLoop; rw [if_pos ⟨rfl, hi⟩]

theorem nafLoop_gap (W k a alen : Nat) (hW : k + 2 < W) (halen : a < 2 ^ alen) :
    ∀ (f i window : Nat) (digs : List Int) (naf size : Nat), window ≤ 2 ^ (k + 2) →
      nafGapStrict (k + 2) none digs →
      (match gapState none digs with
        | none => True
        | some t => 1 ≤ t ∧ ((2 ^ (k + 1) ∣ window * 2 ^ (t - 1))
            ∨ (alen ≤ i ∧ 2 ^ k ∣ window * 2 ^ (t - 1) ∧ window ≤ 2 ^ k))) →
      nafGapOK (k + 2) none (wwNAFLoop W (k + 2) a alen f i window digs naf size).1 := by
  intro f
  induction f with
  | zero => intro i window digs naf size _ hs _; exact nafGapOK_of_strict _ _ _ hs
  | succ f ih =>
    intro i window digs naf size hwin hs hmode
    unfold wwNAFLoop
    by_cases hexit : window = 0 ∧ ¬ i < alen
    · rw [if_pos hexit]; exact nafGapOK_of_strict _ _ _ hs
    · rw [if_neg hexit]
      obtain ⟨s1, s2, s3, _, s5, _⟩ := nafDigit_spec W k alen i window hW hwin
      have hcode := nafDigit_code W k alen i window hW hwin
      have hwinr := nafDigit_win W k alen i window hW hwin
      generalize wwNAFDigit W (k + 2) alen i window = r at *
      have hpow : 2 ^ (k + 2) = 2 * 2 ^ (k + 1) := by rw [Nat.pow_succ, Nat.mul_comm]
      have hpow1 : 2 ^ (k + 1) = 2 * 2 ^ k := by rw [Nat.pow_succ, Nat.mul_comm]
      -- the entering bit X is 0 once i ≥ alen
      obtain ⟨hX, hXle, hq0⟩ := nafNext halen k i
      have hX0 : alen ≤ i → a / 2 ^ i % 2 = 0 := fun h => by rw [hq0 (by omega)]
      simp only []
      rw [hX]
      generalize a / 2 ^ i % 2 = X at *
      by_cases hodd : window % 2 = 1
      · -- non-zero digit
        obtain ⟨_, _, _, hdodd⟩ := hcode hodd
        obtain ⟨hw3, hwsmall⟩ := hwinr hodd
        have hdne : r.1 ≠ 0 := by intro h; rw [h] at hdodd; omega
        -- the gap before this digit
        have hgap : match gapState none digs with
            | none => True
            | some t => (k + 2 ≤ t) ∨ (t + 1 = k + 2 ∧ alen ≤ i ∧ window ≤ 2 ^ k) := by
          cases hg : gapState none digs with
          | none => trivial
          | some t =>
            rw [hg] at hmode
            obtain ⟨ht1, hm | ⟨hm1, hm2, hm3⟩⟩ := hmode
            · have := odd_pow_dvd hodd hm; left; omega
            · have := odd_pow_dvd hodd hm2
              by_cases h : k + 2 ≤ t
              · left; exact h
              · right; exact ⟨by omega, hm1, hm3⟩
        -- suffix end: the loop stops right after this digit
        by_cases hfin : ∃ t, gapState none digs = some t ∧ ¬ (k + 2 ≤ t)
        · obtain ⟨t, hg, hnt⟩ := hfin
          rw [hg] at hgap
          obtain h | ⟨h1, h2, h3⟩ := hgap
          · exact absurd h hnt
          · have hw0 : r.2.2 = 0 := hwsmall (by omega)
            rw [hw0, hX0 h2]
            simp only [Nat.zero_div, Nat.mul_zero, Nat.add_zero]
            rw [nafLoop_exit _ _ _ _ _ _ _ _ _ (by omega)]
            apply nafGapOK_snoc _ _ _ _ hs
            right; rw [hg]; right; exact h1
        · -- normal: strict gap, continue
          have hstrict : nafGapStrict (k + 2) none (digs ++ [r.1]) := by
            rw [nafGapStrict_snoc]
            refine ⟨hs, Or.inr ?_⟩
            cases hg : gapState none digs with
            | none => trivial
            | some t =>
              by_contra hnt
              exact hfin ⟨t, hg, hnt⟩
          apply ih _ _ _ _ _ (by omega) hstrict
          rw [gapState_snoc, if_neg hdne]
          refine ⟨le_refl _, ?_⟩
          simp only [Nat.sub_self, Nat.pow_zero, Nat.mul_one]
          rcases hw3 with h | h | ⟨h, hsuf⟩
          · left; rw [h]; simp
          · left; rw [h, show 2 ^ (k + 2) / 2 = 2 ^ (k + 1) by omega]
            exact ⟨1 + X, by ring⟩
          · right
            rw [h, hX0 hsuf]
            have : 2 ^ (k + 1) / 2 = 2 ^ k := by omega
            simp only [Nat.mul_zero, Nat.add_zero, this]
            exact ⟨by omega, dvd_refl _, le_refl _⟩
      · -- zero digit
        have hd0 := s5 (by omega)
        have hwr : r.2.2 = window := by rw [hd0] at s1; omega
        have hstrict : nafGapStrict (k + 2) none (digs ++ [r.1]) := by
          rw [nafGapStrict_snoc]; exact ⟨hs, Or.inl hd0⟩
        apply ih _ _ _ _ _ (by rw [hwr]; omega) hstrict
        rw [gapState_snoc, if_pos hd0, hwr]
        cases hg : gapState none digs with
        | none => trivial
        | some t =>
          rw [hg] at hmode
          obtain ⟨ht1, hm⟩ := hmode
          simp only [Option.map_some, Nat.add_sub_cancel]
          obtain ⟨wh, rfl⟩ : ∃ wh, window = 2 * wh := ⟨window / 2, by omega⟩
          have hwh : 2 * wh / 2 = wh := by omega
          obtain ⟨t', rfl⟩ : ∃ t', t = t' + 1 := ⟨t - 1, by omega⟩
          simp only [Nat.add_sub_cancel] at hm
          rw [hwh]
          have e1 : (wh + 2 ^ (k + 1) * X) * 2 ^ (t' + 1)
              = 2 * wh * 2 ^ t' + 2 ^ (k + 1) * (X * 2 ^ (t' + 1)) := by
            rw [Nat.pow_succ]; ring
          refine ⟨by omega, ?_⟩
          rcases hm with hm | ⟨hm1, hm2, hm3⟩
          · left
            rw [e1]
            exact Nat.dvd_add hm (Nat.dvd_mul_right _ _)
          · right
            rw [hX0 hm1]
            simp only [Nat.mul_zero, Nat.add_zero]
            refine ⟨by omega, ?_, by omega⟩
            have : wh * 2 ^ (t' + 1) = 2 * wh * 2 ^ t' := by rw [Nat.pow_succ]; ring
            rw [this]; exact hm2

/-- the loop as wwNAF calls it (a ≠ 0, window w = k + 2 < W) -/
theorem nafLoop_top (W k a : Nat) (hW : k + 2 < W) (ha : a ≠ 0) :
    let r := wwNAFLoop W (k + 2) a (bitLenV a) (bitLenV a + 2 ^ (k + 2) + 2) (k + 2)
      (a % 2 ^ (k + 2)) [] 0 0
    nafSum r.1 = a ∧ (∀ d ∈ r.1, NafDigitOK k d) ∧ r.2.2 = r.1.length
    ∧ nafDecode (k + 2) r.2.2 r.2.1 = r.1.reverse ∧ r.2.2 ≤ bitLenV a + 1
    ∧ (∃ d, r.1.getLast? = some d ∧ d ≠ 0) ∧ nafGapOK (k + 2) none r.1 := by
  have hm := Nat.mod_lt a (Nat.two_pow_pos (k + 2))
  have hlen : bitLenV a = Nat.log2 a + 1 := by unfold bitLenV; rw [if_neg ha]
  have halen : a < 2 ^ bitLenV a := by rw [hlen]; exact Nat.lt_log2_self
  have hlo : 2 ^ Nat.log2 a ≤ a := Nat.log2_self_le ha
  have htop : a / 2 ^ (bitLenV a - 1) % 2 = 1 := by
    rw [hlen, Nat.add_sub_cancel, show a / 2 ^ Nat.log2 a = 1 from
      Nat.div_eq_of_lt_le (by omega) (by rw [hlen, Nat.pow_succ] at halen; omega)]
  -- a short number lies inside the first window
  have hshort : bitLenV a ≤ k + 2 → a % 2 ^ (k + 2) = a := fun hle =>
    Nat.mod_eq_of_lt (Nat.lt_of_lt_of_le halen (Nat.pow_le_pow_right (by omega) hle))
  obtain ⟨h1, h2, h3, h4, h5, h6⟩ := nafLoop_spec W k a (bitLenV a) hW halen htop
    (bitLenV a + 2 ^ (k + 2) + 2) (k + 2) (a % 2 ^ (k + 2)) [] 0 0 (by omega) (by simp) rfl
    (by
      have h0 := Nat.mod_add_div a (2 ^ (k + 2))
      rw [Nat.mul_comm] at h0
      simp only [nafSum, List.length_nil, pow_zero, mul_one, zero_add]
      exact_mod_cast h0)
    (by intro d hd; cases hd) (by simp [nafDecode])
    (by
      intro hle
      have h2 : 2 ^ bitLenV a * 2 ^ (k + 2 - bitLenV a) = 2 ^ (k + 2) := by
        rw [← Nat.pow_add]; congr 1; omega
      rw [hshort hle, ← h2]
      exact Nat.mul_le_mul_right _ (by omega))
    (by omega) (fun ⟨h0, hge⟩ => absurd ((hshort (by omega)).symm.trans h0) ha)
    (by split_ifs <;> omega)
  exact ⟨h1, h2, h3, h4, h5, h6, nafLoop_gap W k a (bitLenV a) hW halen _ (k + 2) _ [] 0 0
    (by omega) trivial trivial⟩

end Bee2V.C05.Misc
