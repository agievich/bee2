/-
C05 → C06 bridge: the operation record `C06.gf2Fld md m` (xor, gfMul, ppInvModV, gf2pow — what the
C06 driver runs for binary curves) simulates the abstract field `fieldFld (Gf2.R md)` for every
irreducible modulus polynomial md ≠ x, through the canonical embedding of reduced codes.
Hence the `_partial` theorem of C06 about ecMulA on binary curves becomes unconditional in the
arithmetic (`ecMulA_gf2_irred`).
-/
import Bee2V.C06.PropsTop2
import Bee2V.C05.LemmasFld
namespace Bee2V.C05
open Bee2V.C05.Spec Bee2V.C05.Gf2 Bee2V.C05.Fld Bee2V.C06

variable {md : Nat} [hI : Fact (NatIrred md)]

/-- the square-and-multiply loop of C06.gf2pow computes `acc * a^e` in the field -/
theorem gf2pow_eq (fuel : Nat) : ∀ (e : Nat) (a acc : R md), e < 2 ^ fuel →
    gf2pow md a.1 fuel e acc.1 = (acc * a ^ e).1 := by
  induction fuel with
  | zero =>
    intro e a acc he
    have : e = 0 := by simpa using he
    subst this
    simp [gf2pow]
  | succ fuel ih =>
    intro e a acc he
    unfold gf2pow
    by_cases h0 : e = 0
    · subst h0; simp
    · rw [if_neg h0]
      have he2 : e / 2 < 2 ^ fuel := by rw [Nat.pow_succ] at he; omega
      have hdm : e = 2 * (e / 2) + e % 2 := by omega
      by_cases hodd : e % 2 = 1
      · rw [if_pos hodd]
        have key : acc * a * (a * a) ^ (e / 2) = acc * a ^ e := by
          conv_rhs => rw [hdm, hodd]
          ring
        have := ih (e / 2) (a * a) (acc * a) he2
        rw [val_mul, val_mul] at this
        rw [this]
        exact congrArg Subtype.val key
      · rw [if_neg hodd]
        have key : acc * (a * a) ^ (e / 2) = acc * a ^ e := by
          conv_rhs => rw [hdm, show e % 2 = 0 by omega]
          ring
        have := ih (e / 2) (a * a) acc he2
        rw [val_mul] at this
        rw [this]
        exact congrArg Subtype.val key

theorem plen_bound (e : Nat) : e < 2 ^ (plen e + 1) := by
  unfold plen
  split_ifs with h
  · subst h; decide
  · exact Nat.lt_of_lt_of_le Nat.lt_log2_self (Nat.pow_le_pow_right (by decide) (by omega))

/-- `gf2Fld md m` (the record the C06 driver runs) simulates the field GF(2)[x]/(md) for every
    irreducible md ≠ x: all eleven operations commute with the embedding of reduced codes and
    keep them reduced; in particular qrInv = ppInvModV is the field inverse (0 ↦ 0) and
    qrPower = gf2pow is the field power. -/
theorem gf2Fld_sim (m : Nat) (hm : md.log2 = m) (ho : md % 2 = 1) :
    Sim.FldSim (gf2Fld md m) (fieldFld (R md)) (toR md) (fun a => a < 2 ^ m) := by
  subst hm
  have hone := one_lt_pow hI.out
  have hmd0 := natIrred_ne_zero hI.out
  refine
    { zero := ⟨Nat.two_pow_pos _, R.ext (toR_val (Nat.two_pow_pos _))⟩
      one := ⟨hone, R.ext (by show (toR md 1).1 = (1 : R md).1; rw [toR_val hone, val_one_eq])⟩
      add := fun a b ha hb => ⟨Nat.xor_lt_two_pow ha hb, R.ext ?_⟩
      sub := fun a b ha hb => ⟨Nat.xor_lt_two_pow ha hb, R.ext ?_⟩
      mul := fun a b ha hb => ⟨pmod_lt hmd0 _, R.ext ?_⟩
      neg := fun a ha => ⟨ha, rfl⟩
      dbl := fun a ha => ⟨Nat.two_pow_pos _, ?_⟩
      half := fun a ha => ⟨Nat.two_pow_pos _, ?_⟩
      inv := fun a ha => ⟨?_, R.ext ?_⟩
      pow := fun a e ha => ⟨?_, R.ext ?_⟩
      eqb := fun a b ha hb => ?_ }
  · show (toR md (a ^^^ b)).1 = (toR md a + toR md b).1
    rw [toR_val (Nat.xor_lt_two_pow ha hb), val_add, toR_val ha, toR_val hb]
  · show (toR md (a ^^^ b)).1 = (toR md a - toR md b).1
    rw [toR_val (Nat.xor_lt_two_pow ha hb), sub_eq_add_neg]
    show _ = (toR md a + toR md b).1
    rw [val_add, toR_val ha, toR_val hb]
  · show (toR md (gfMul md a b)).1 = (toR md a * toR md b).1
    rw [toR_val (show gfMul md a b < _ from pmod_lt hmd0 _), val_mul, toR_val ha, toR_val hb]
  · show toR md 0 = toR md a + toR md a
    rw [add_self]; exact R.ext (toR_val (Nat.two_pow_pos _))
  · show toR md 0 = toR md a / 2
    have h2 : (2 : R md) = 0 := by rw [← one_add_one_eq_two]; exact add_self 1
    rw [h2, div_zero]; exact R.ext (toR_val (Nat.two_pow_pos _))
  · show ppInvModV a md < 2 ^ md.log2
    have := invNat_lt (mk a ha)
    unfold invNat at this
    rwa [if_pos ho] at this
  · show (toR md (ppInvModV a md)).1 = ((toR md a)⁻¹).1
    have hlt : ppInvModV a md < 2 ^ md.log2 := by
      have := invNat_lt (mk a ha)
      unfold invNat at this
      rwa [if_pos ho] at this
    rw [toR_val hlt, val_inv_odd ho, toR_val ha]
  · show gf2pow md a (plen e + 1) e 1 < 2 ^ md.log2
    have := gf2pow_eq (plen e + 1) e (mk a ha) 1 (plen_bound e)
    rw [val_one_eq] at this
    change gf2pow md a (plen e + 1) e 1 = _ at this
    rw [this]; exact (1 * mk a ha ^ e).2
  · show (toR md (gf2pow md a (plen e + 1) e 1)).1 = ((toR md a) ^ e).1
    have := gf2pow_eq (plen e + 1) e (mk a ha) 1 (plen_bound e)
    rw [val_one_eq] at this
    change gf2pow md a (plen e + 1) e 1 = _ at this
    rw [this, toR_mk, one_mul]
    congr 2
    exact (R.ext (toR_val ha)).symm
  · show (a == b) = decide (toR md a = toR md b)
    by_cases hab : a = b
    · subst hab; simp
    · have : toR md a ≠ toR md b := fun h => hab (by
        have := congrArg Subtype.val h
        rwa [toR_val ha, toR_val hb] at this)
      simp [hab, this]

/-- C06's theorem about `ecMulA` on what the driver runs for a binary curve over
    GF(2)[x]/(md), with the arithmetic assumption discharged: for every irreducible md ≠ x, the
    scalar multiplication returns `none` exactly when d·P = 0, and otherwise a reduced affine
    representative of d·P on the curve `Wb` over the field `R md`. -/
theorem ecMulA_gf2_irred (m : Nat) (hm : md.log2 = m) (ho : md % 2 = 1) {A B : Nat}
    (hA : A < 2 ^ m) (hB : B < 2 ^ m) {a : P2 Nat} {P : (Wb (toR md A) (toR md B)).Point}
    (hr : Sim.R2 (fun a => a < 2 ^ m) a)
    (ha : RepB2 (toR md A) (toR md B) (Sim.map2 (toR md) a) P) (W mm d : Nat) :
    (ecMulA (ecOps2 (mkCurve2 (gf2Fld md m) A B)) W a d mm = none ↔ d • P = 0) ∧
    ∀ b, ecMulA (ecOps2 (mkCurve2 (gf2Fld md m) A B)) W a d mm = some b →
      Sim.R2 (fun a => a < 2 ^ m) b ∧ RepB2 (toR md A) (toR md B) (Sim.map2 (toR md) b) (d • P) :=
  ecMulA_gf2_partial (gf2Fld_sim m hm ho) hA hB hr ha W mm d

-- non-vacuity: GF(2^4) = GF(2)[x]/(x^4 + x + 1), the field of the C06 driver examples
theorem natIrred_19 : NatIrred 0b10011 := by decide +kernel

example : Sim.FldSim (gf2Fld 0b10011 4) (@fieldFld (R 0b10011) (@instField _ ⟨natIrred_19⟩) _)
    (@toR 0b10011 ⟨by decide⟩) (fun a => a < 2 ^ 4) :=
  @gf2Fld_sim 0b10011 ⟨natIrred_19⟩ 4 (by decide) (by decide)

end Bee2V.C05
