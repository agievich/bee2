/-
C05 — a well-formed word list is the base-2^w expansion of its value (`val_take` = mod, `val_drop` = div,
`getD_digit`: word i = value / B^i mod B; `val_window`: what every shift and bit-field read of ww.c computes),
and the relation `Rep w n l x`.  Core tactics only.
-/
import Bee2V.C05.Basic
namespace Bee2V.C05

theorem val_lt {w : Nat} {a : List Nat} (ha : Wf w a) : val w a < 2 ^ (w * a.length) := by
  induction a with
  | nil => simp [val]
  | cons x xs ih =>
    obtain ⟨hx, hxs⟩ := Wf_cons.1 ha
    have := ih hxs
    rw [val_cons, List.length_cons, Nat.mul_succ, Nat.pow_add]
    have h1 : 2 ^ w * val w xs + 2 ^ w ≤ 2 ^ w * 2 ^ (w * xs.length) := by
      rw [← Nat.mul_succ]; exact Nat.mul_le_mul_left _ this
    rw [Nat.mul_comm (2 ^ (w * xs.length))]
    omega

theorem val_append (w : Nat) (a b : List Nat) :
    val w (a ++ b) = val w a + 2 ^ (w * a.length) * val w b := by
  induction a with
  | nil => simp [val]
  | cons x xs ih =>
    rw [List.cons_append, val_cons, val_cons, ih, List.length_cons, Nat.mul_succ, Nat.pow_add,
      Nat.mul_add, Nat.add_assoc, ← Nat.mul_assoc, Nat.mul_comm (2 ^ w),
      Nat.mul_comm (2 ^ (w * xs.length)) (2 ^ w)]

theorem val_single (w c : Nat) : val w [c] = c := by simp [val]

theorem val2 (w a b : Nat) : val w [a, b] = a + 2 ^ w * b := by simp [val]

theorem val_snoc (w : Nat) (l : List Nat) (y : Nat) :
    val w (l ++ [y]) = val w l + 2 ^ (w * l.length) * y := by
  rw [val_append, val_single]

theorem Wf_single {w c : Nat} (h : c < 2 ^ w) : Wf w [c] := Wf_cons.mpr ⟨h, Wf_nil w⟩

theorem Wf_append {w : Nat} {a b : List Nat} : Wf w (a ++ b) ↔ Wf w a ∧ Wf w b := by
  unfold Wf
  constructor
  · intro h
    exact ⟨fun x hx => h x (List.mem_append_left _ hx), fun x hx => h x (List.mem_append_right _ hx)⟩
  · intro ⟨h1, h2⟩ x hx
    rcases List.mem_append.1 hx with h | h
    · exact h1 x h
    · exact h2 x h

theorem Wf_take {w : Nat} {a : List Nat} (ha : Wf w a) (m : Nat) : Wf w (a.take m) :=
  fun x hx => ha x (List.mem_of_mem_take hx)

theorem Wf_drop {w : Nat} {a : List Nat} (ha : Wf w a) (m : Nat) : Wf w (a.drop m) :=
  fun x hx => ha x (List.mem_of_mem_drop hx)

theorem Wf_set {w : Nat} {a : List Nat} (h : Wf w a) (i x : Nat) (hx : x < 2 ^ w) :
    Wf w (a.set i x) := by
  intro y hy
  rcases List.mem_or_eq_of_mem_set hy with h1 | h1
  · exact h y h1
  · rw [h1]; exact hx

theorem getD_lt {w : Nat} {a : List Nat} (h : Wf w a) (i : Nat) : a.getD i 0 < 2 ^ w := by
  rw [List.getD_eq_getElem?_getD]
  by_cases hi : i < a.length
  · rw [List.getElem?_eq_getElem hi]; exact h _ (List.getElem_mem hi)
  · rw [List.getElem?_eq_none (by omega)]; exact Nat.two_pow_pos w

theorem val_take_drop (w : Nat) (a : List Nat) (m : Nat) (hm : m ≤ a.length) :
    val w a = val w (a.take m) + 2 ^ (w * m) * val w (a.drop m) := by
  conv => lhs; rw [← List.take_append_drop m a]
  rw [val_append, List.length_take, Nat.min_eq_left hm]

theorem val_take {w : Nat} {a : List Nat} (h : Wf w a) (n : Nat) :
    val w (a.take n) = val w a % 2 ^ (w * n) := by
  by_cases hn : n ≤ a.length
  · have h2 := val_lt (Wf_take h n)
    rw [List.length_take, Nat.min_eq_left hn] at h2
    rw [val_take_drop w a n hn, Nat.add_mul_mod_self_left, Nat.mod_eq_of_lt h2]
  · rw [List.take_of_length_le (by omega), Nat.mod_eq_of_lt]
    exact Nat.lt_of_lt_of_le (val_lt h)
      (Nat.pow_le_pow_right (by decide) (Nat.mul_le_mul_left _ (by omega)))

theorem val_drop {w : Nat} {a : List Nat} (h : Wf w a) (n : Nat) :
    val w (a.drop n) = val w a / 2 ^ (w * n) := by
  by_cases hn : n ≤ a.length
  · have h2 := val_lt (Wf_take h n)
    rw [List.length_take, Nat.min_eq_left hn] at h2
    rw [val_take_drop w a n hn, Nat.add_mul_div_left _ _ (Nat.two_pow_pos _), Nat.div_eq_of_lt h2,
      Nat.zero_add]
  · rw [List.drop_of_length_le (by omega), Nat.div_eq_of_lt]
    · rfl
    · exact Nat.lt_of_lt_of_le (val_lt h)
        (Nat.pow_le_pow_right (by decide) (Nat.mul_le_mul_left _ (by omega)))

theorem val_take_of_lt {w : Nat} {l : List Nat} {k : Nat} (hk : k ≤ l.length)
    (h : val w l < 2 ^ (w * k)) : val w (l.drop k) = 0 ∧ val w (l.take k) = val w l := by
  have hs := val_take_drop w l k hk
  rcases Nat.eq_zero_or_pos (val w (l.drop k)) with h0 | h0
  · rw [h0] at hs; exact ⟨h0, by omega⟩
  · have : 2 ^ (w * k) * 1 ≤ 2 ^ (w * k) * val w (l.drop k) := Nat.mul_le_mul_left _ h0
    omega

theorem val_drop_succ (w : Nat) (a : List Nat) (j : Nat) :
    val w (a.drop j) = a.getD j 0 + 2 ^ w * val w (a.drop (j + 1)) := by
  by_cases hj : j < a.length
  · rw [List.drop_eq_getElem_cons hj, val_cons, List.getD_eq_getElem?_getD,
      List.getElem?_eq_getElem hj]; rfl
  · rw [List.drop_of_length_le (by omega), List.drop_of_length_le (by omega),
      List.getD_eq_getElem?_getD, List.getElem?_eq_none (by omega)]; rfl

theorem getD_digit {w : Nat} {a : List Nat} (h : Wf w a) (i : Nat) :
    a.getD i 0 = val w a / 2 ^ (w * i) % 2 ^ w := by
  rw [← val_drop h i, val_drop_succ, Nat.add_mul_mod_self_left, Nat.mod_eq_of_lt (getD_lt h i)]

theorem val_set (w : Nat) (l : List Nat) (i v : Nat) (hi : i < l.length) :
    val w (l.set i v) + 2 ^ (w * i) * l.getD i 0 = val w l + 2 ^ (w * i) * v := by
  have e : l.getD i 0 = l[i] := by simp [List.getD_eq_getElem?_getD, List.getElem?_eq_getElem hi]
  have ha : l = l.take i ++ l[i] :: l.drop (i + 1) := by simp
  have hs : l.set i v = l.take i ++ v :: l.drop (i + 1) := by
    rw [List.set_eq_take_append_cons_drop, if_pos hi]
  have hl : (l.take i).length = i := by rw [List.length_take]; omega
  rw [hs, e]
  conv => rhs; rw [ha]
  rw [val_append, val_append, val_cons, val_cons, hl]
  simp only [Nat.mul_add]
  omega

theorem val_inj {w : Nat} {a b : List Nat} (ha : Wf w a) (hb : Wf w b)
    (hl : a.length = b.length) (h : val w a = val w b) : a = b := by
  induction a generalizing b with
  | nil => cases b with
    | nil => rfl
    | cons _ _ => simp at hl
  | cons x xs ih =>
    cases b with
    | nil => simp at hl
    | cons y ys =>
      obtain ⟨hx, hxs⟩ := Wf_cons.1 ha
      obtain ⟨hy, hys⟩ := Wf_cons.1 hb
      rw [val_cons, val_cons] at h
      have h1 : x = y := by
        have := congrArg (· % 2 ^ w) h
        simpa [Nat.add_mul_mod_self_left, Nat.mod_eq_of_lt hx, Nat.mod_eq_of_lt hy] using this
      have h2 : val w xs = val w ys := by
        subst h1
        exact Nat.eq_of_mul_eq_mul_left (Nat.two_pow_pos w) (Nat.add_left_cancel h)
      rw [h1, ih hxs hys (by simpa using hl) h2]

theorem val_eq_zero_iff (w : Nat) (a : List Nat) : val w a = 0 ↔ ∀ x ∈ a, x = 0 := by
  induction a with
  | nil => simp [val]
  | cons y ys ih =>
    have := Nat.two_pow_pos w
    simp only [val_cons, Nat.add_eq_zero_iff, Nat.mul_eq_zero, ih, List.mem_cons, forall_eq_or_imp]
    constructor
    · rintro ⟨h1, h2 | h2⟩
      · omega
      · exact ⟨h1, h2⟩
    · rintro ⟨h1, h2⟩
      exact ⟨h1, Or.inr h2⟩

theorem val_drop_zero {w : Nat} (l : List Nat) (k : Nat) (h : ∀ i, k ≤ i → l.getD i 0 = 0) :
    val w (l.drop k) = 0 := by
  rw [val_eq_zero_iff]
  intro x hx
  obtain ⟨i, hi, rfl⟩ := List.getElem_of_mem hx
  have := h (k + i) (Nat.le_add_right _ _)
  rw [List.length_drop] at hi
  rwa [List.getD_eq_getElem?_getD, List.getElem?_eq_getElem (by omega), Option.getD_some,
    ← List.getElem_drop] at this

theorem val_toWords (w n v : Nat) : val w (toWords w n v) = v % 2 ^ (w * n) := by
  induction n generalizing v with
  | zero => simp [toWords, val, Nat.mod_one]
  | succ n ih =>
    simp only [toWords, val_cons, ih]
    rw [Nat.mul_succ, Nat.pow_add, Nat.mul_comm (2 ^ (w * n)) (2 ^ w), Nat.mod_mul]

theorem toWords_take (w n m v : Nat) (h : m ≤ n) : (toWords w n v).take m = toWords w m v := by
  induction m generalizing n v with
  | zero => simp [toWords]
  | succ m ih =>
    obtain ⟨k, rfl⟩ : ∃ k, n = k + 1 := ⟨n - 1, by omega⟩
    simp only [toWords, List.take_succ_cons, ih k _ (by omega)]

theorem eq_toWords {w n X : Nat} {R : List Nat} (hl : R.length = n) (hR : Wf w R)
    (hv : val w R = X % 2 ^ (w * n)) : R = toWords w n X :=
  val_inj hR (toWords_Wf w n X) (by rw [hl, toWords_length]) (by rw [hv, val_toWords])

theorem toWords_val {w : Nat} {a : List Nat} (h : Wf w a) : toWords w a.length (val w a) = a :=
  (eq_toWords rfl h (Nat.mod_eq_of_lt (val_lt h)).symm).symm

theorem toWords_getD (w : Nat) : ∀ (n X i : Nat),
    (toWords w n X).getD i 0 = if i < n then X / 2 ^ (w * i) % 2 ^ w else 0
  | 0, _, _ => rfl
  | n + 1, X, 0 => by simp [toWords]
  | n + 1, X, i + 1 => by
    rw [toWords, List.getD_cons_succ, toWords_getD w n, Nat.div_div_eq_div_mul, ← Nat.pow_add,
      Nat.mul_succ, Nat.add_comm (w * i)]
    simp only [Nat.add_lt_add_iff_right]

theorem eq_toWords_of_digits {w n X : Nat} {R : List Nat} (hl : R.length = n)
    (h : ∀ i, i < n → R.getD i 0 = X / 2 ^ (w * i) % 2 ^ w) : R = toWords w n X := by
  apply List.ext_getElem (by rw [hl, toWords_length])
  intro i h1 h2
  have := h i (hl ▸ h1)
  rw [← (toWords_getD w n X i).trans (if_pos (hl ▸ h1))] at this
  simpa [List.getD_eq_getElem?_getD, List.getElem?_eq_getElem h1, List.getElem?_eq_getElem h2] using this

theorem win2 {w x sh : Nat} (y : Nat) (hx : x < 2 ^ w) (hs : sh ≤ w) :
    (x + 2 ^ w * y) / 2 ^ sh % 2 ^ w = wshr x sh ||| wshl w (y % 2 ^ w) (w - sh) := by
  obtain ⟨t, rfl⟩ : ∃ t, w = sh + t := ⟨w - sh, by omega⟩
  have hq : x / 2 ^ sh < 2 ^ t := by
    rw [Nat.div_lt_iff_lt_mul (Nat.two_pow_pos _), ← Nat.pow_add, Nat.add_comm]; exact hx
  have e1 : (x + 2 ^ (sh + t) * y) / 2 ^ sh = x / 2 ^ sh + 2 ^ t * y := by
    rw [Nat.pow_add, Nat.mul_assoc, Nat.add_mul_div_left _ _ (Nat.two_pow_pos _)]
  have e2 : wshl (sh + t) (y % 2 ^ (sh + t)) (sh + t - sh) = 2 ^ t * (y % 2 ^ sh) := by
    simp only [wshl, Nat.add_sub_cancel_left]
    rw [Nat.mod_mul_mod, Nat.pow_add, Nat.mul_mod_mul_right, Nat.mul_comm]
  rw [e1, e2, wshr, Nat.or_comm, ← Nat.two_pow_add_eq_or_of_lt hq, Nat.add_comm sh t, Nat.pow_add,
    Nat.mod_mul, Nat.add_mul_mod_self_left, Nat.mod_eq_of_lt hq,
    Nat.add_mul_div_left _ _ (Nat.two_pow_pos _), Nat.div_eq_of_lt hq, Nat.zero_add, Nat.add_comm]

/-- `sh ≤ w`, not `<`: `sh = w` reads the next word, which is what lets the up-shifts use the same statement -/
theorem val_window {w : Nat} {b : List Nat} (h : Wf w b) (j : Nat) {sh : Nat} (hs : sh ≤ w) :
    val w b / 2 ^ (w * j + sh) % 2 ^ w =
      wshr (b.getD j 0) sh ||| wshl w (b.getD (j + 1) 0) (w - sh) := by
  have e : b.getD (j + 1) 0 = val w (b.drop (j + 1)) % 2 ^ w := by
    rw [val_drop_succ, Nat.add_mul_mod_self_left, Nat.mod_eq_of_lt (getD_lt h _)]
  rw [Nat.pow_add, ← Nat.div_div_eq_div_mul, ← val_drop h, val_drop_succ, e]
  exact win2 _ (getD_lt h j) hs

/-- the n-word array `l` holds `x` -/
structure Rep (w n : Nat) (l : List Nat) (x : Nat) : Prop where
  wf : Wf w l
  len : l.length = n
  eq : val w l = x

namespace Rep
variable {w n m : Nat} {l l' : List Nat} {x y : Nat}

theorem mk' (h : Wf w l) : Rep w l.length l (val w l) := ⟨h, rfl, rfl⟩

theorem out (h : Rep w n l x) : l.length = n ∧ Wf w l ∧ val w l = x := ⟨h.len, h.wf, h.eq⟩

theorem lt (h : Rep w n l x) : x < 2 ^ (w * n) := by
  have := val_lt h.wf; rwa [h.len, h.eq] at this

theorem zero (w n : Nat) : Rep w n (List.replicate n 0) 0 :=
  ⟨Wf_replicate_zero w n, List.length_replicate, val_replicate_zero w n⟩

theorem append (h : Rep w n l x) (h' : Rep w m l' y) : Rep w (n + m) (l ++ l') (x + 2 ^ (w * n) * y) :=
  ⟨Wf_append.2 ⟨h.wf, h'.wf⟩, by rw [List.length_append, h.len, h'.len],
    by rw [val_append, h.len, h.eq, h'.eq]⟩

theorem take (h : Rep w n l x) (k : Nat) (hk : k ≤ n) : Rep w k (l.take k) (x % 2 ^ (w * k)) :=
  ⟨Wf_take h.wf k, by rw [List.length_take, h.len]; exact Nat.min_eq_left hk,
    by rw [val_take h.wf, h.eq]⟩

theorem drop (h : Rep w n l x) (k : Nat) : Rep w (n - k) (l.drop k) (x / 2 ^ (w * k)) :=
  ⟨Wf_drop h.wf k, by rw [List.length_drop, h.len], by rw [val_drop h.wf, h.eq]⟩

theorem iff_toWords : Rep w n l x ↔ l = toWords w n x ∧ x < 2 ^ (w * n) :=
  ⟨fun h => ⟨eq_toWords h.len h.wf (by rw [h.eq, Nat.mod_eq_of_lt h.lt]), h.lt⟩,
    fun ⟨e, hx⟩ => e ▸ ⟨toWords_Wf w n x, toWords_length w n x, by
      rw [val_toWords, Nat.mod_eq_of_lt hx]⟩⟩

theorem cast (h : Rep w n l x) (hn : n = m) (hx : x = y) : Rep w m l y := hn ▸ hx ▸ h

theorem cons {c0 : Nat} (hc : c0 < 2 ^ w) (h : Rep w n l x) : Rep w (n + 1) (c0 :: l) (c0 + 2 ^ w * x) :=
  ⟨Wf_cons.mpr ⟨hc, h.wf⟩, by rw [List.length_cons, h.len], by rw [val_cons, h.eq]⟩

theorem of_cons {c0 : Nat} (h : Rep w n (c0 :: l) x) :
    ∃ n' x', n = n' + 1 ∧ x = c0 + 2 ^ w * x' ∧ c0 < 2 ^ w ∧ Rep w n' l x' :=
  ⟨l.length, val w l, h.len.symm, by rw [← h.eq, val_cons], (Wf_cons.mp h.wf).1, mk' (Wf_cons.mp h.wf).2⟩

end Rep

end Bee2V.C05
