/-
C05 — a little-endian word list read without carries: `pval w a` is a[0] ^^^ a[1]·x^w ^^^ a[2]·x^(2w) ^^^ ….  On lists of
words it is `val` (the bits of `x + 2^w u` are disjoint).  Its rules for `++`, `take`/`drop` and word-wise xor carry no
`Wf` and no length hypotheses, so the value of a list expression of the pp routines is obtained by rewriting alone.  No Mathlib.
-/
import Bee2V.C05.Words
namespace Bee2V.C05

theorem add_mul_xor {w x y u v : Nat} (hx : x < 2 ^ w) (hy : y < 2 ^ w) :
    (x + 2 ^ w * u) ^^^ (y + 2 ^ w * v) = (x ^^^ y) + 2 ^ w * (u ^^^ v) := by
  apply Nat.eq_of_testBit_eq
  intro j
  rw [Nat.testBit_xor, Nat.add_comm x, Nat.add_comm y, Nat.add_comm (x ^^^ y),
    Nat.testBit_two_pow_mul_add _ hx, Nat.testBit_two_pow_mul_add _ hy,
    Nat.testBit_two_pow_mul_add _ (Nat.xor_lt_two_pow hx hy)]
  split <;> simp [Nat.testBit_xor]

/-- no carries: below `2^w` and from `2^w` on, `+` is `^^^` -/
theorem add_mul_eq_xor {w x u : Nat} (hx : x < 2 ^ w) : x + 2 ^ w * u = x ^^^ (u <<< w) := by
  have := add_mul_xor (w := w) (x := x) (y := 0) (u := 0) (v := u) hx (Nat.two_pow_pos w)
  simp only [Nat.mul_zero, Nat.add_zero, Nat.zero_add, Nat.xor_zero, Nat.zero_xor] at this
  rw [← this, Nat.shiftLeft_eq, Nat.mul_comm]

theorem add_shl_eq_xor {a b i : Nat} (hb : b < 2 ^ i) : 2 ^ i * a + b = (a <<< i) ^^^ b := by
  rw [Nat.add_comm, add_mul_eq_xor hb, Nat.xor_comm]

def pval (w : Nat) : List Nat → Nat
  | [] => 0
  | x :: xs => x ^^^ (pval w xs <<< w)

theorem pval_eq_val {w : Nat} {a : List Nat} (h : Wf w a) : pval w a = val w a := by
  induction a with
  | nil => rfl
  | cons x xs ih =>
    obtain ⟨hx, hxs⟩ := Wf_cons.mp h
    rw [pval, ih hxs, val_cons, add_mul_eq_xor hx]

theorem pval_append (w : Nat) (a b : List Nat) :
    pval w (a ++ b) = pval w a ^^^ (pval w b <<< (w * a.length)) := by
  induction a with
  | nil => simp [pval]
  | cons x xs ih =>
    rw [List.cons_append, pval, pval, ih, List.length_cons, Nat.shiftLeft_xor_distrib,
      ← Nat.shiftLeft_add, Nat.xor_assoc, Nat.mul_succ]

/-- any split point, also beyond the end -/
theorem pval_take_drop (w : Nat) (a : List Nat) (m : Nat) :
    pval w (a.take m) ^^^ (pval w (a.drop m) <<< (w * m)) = pval w a := by
  rcases Nat.le_total m a.length with h | h
  · conv => rhs; rw [← List.take_append_drop m a, pval_append, List.length_take, Nat.min_eq_left h]
  · rw [List.take_of_length_le h, List.drop_eq_nil_of_le h]; simp [pval]

theorem pval_zipWith_xor (w : Nat) : ∀ a b : List Nat, a.length = b.length →
    pval w (List.zipWith (· ^^^ ·) a b) = pval w a ^^^ pval w b
  | [], [], _ => by simp [pval]
  | x :: xs, y :: ys, h => by
    have ih := pval_zipWith_xor w xs ys (by simpa using h)
    simp only [List.zipWith_cons_cons, pval, ih, Nat.shiftLeft_xor_distrib]; ac_rfl
  | [], _ :: _, h => by simp at h
  | _ :: _, [], h => by simp at h

/-- only `a` has to consist of words -/
theorem val_append_xor (w : Nat) (a b : List Nat) (ha : Wf w a) :
    val w (a ++ b) = val w a ^^^ (val w b <<< (w * a.length)) := by
  rw [val_append, add_mul_eq_xor (val_lt ha)]

theorem val_take_drop_xor (w : Nat) (d : List Nat) (m : Nat) (hd : Wf w d) :
    val w d = val w (d.take m) ^^^ (val w (d.drop m) <<< (w * m)) := by
  rw [← pval_eq_val hd, ← pval_take_drop w d m, pval_eq_val (Wf_take hd m), pval_eq_val (Wf_drop hd m)]

end Bee2V.C05
