/-
C05 — helper lemmas for the additive part of the arithmetic layer (PropsAdd.lean).

The step functions of zz_add.c (ModelAlias.lean; the `#ifdef SAFE_FAST` bodies here) are carry / borrow steps
in the sense of LemmasCarry.lean (§4, §5); a modular routine is a first pass whose result holds the value with
a carry / borrow flag (`RepC`, `RepB`) followed by one conditional correction, and the SAFE correction is the
FAST one on every well-formed input (§9).
-/
import Bee2V.C05.LemmasCarry
import Bee2V.C05.Props
import Mathlib.Tactic.Ring
import Mathlib.Tactic.Linarith
import Mathlib.Tactic.LinearCombination
namespace Bee2V.C05.Add
open Bee2V.C05 Bee2V.C05.Alias

/-! ## §1 words -/

theorem lor01 {a b : Nat} (ha : a ≤ 1) (hb : b ≤ 1) : a ||| b = if a = 0 then b else 1 := by
  obtain rfl | rfl : a = 0 ∨ a = 1 := by omega
  · simp
  · obtain rfl | rfl : b = 0 ∨ b = 1 := by omega
    all_goals rfl

theorem mul01 (B : Nat) {c : Nat} (hc : c ≤ 1) : B * c = if c = 0 then 0 else B := by
  obtain rfl | rfl : c = 0 ∨ c = 1 := by omega
  all_goals simp

theorem wless01_le (x y : Nat) : wless01 x y ≤ 1 := by
  show (if x < y then 1 else 0) ≤ 1
  split <;> omega

theorem mod_wrap {a B : Nat} (h : a < 2 * B) : a % B = if a < B then a else a - B := by
  split
  · exact Nat.mod_eq_of_lt ‹_›
  · rw [Nat.mod_eq_sub_mod (by omega)]; exact Nat.mod_eq_of_lt (by omega)

theorem two_le_two_pow {w : Nat} (hw : 0 < w) : 2 ≤ 2 ^ w := by
  calc 2 = 2 ^ 1 := rfl
    _ ≤ 2 ^ w := Nat.pow_le_pow_right (by omega) hw

/-- a word addition wraps at most once; the sum is below an operand exactly when it did -/
theorem add_wrap {B a b : Nat} (ha : a < B) (hb : b ≤ B) :
    (a + b) % B = a + b ∧ ¬ (a + b) % B < b ∨ (a + b) % B + B = a + b ∧ (a + b) % B < b := by
  rw [mod_wrap (by omega)]
  split <;> omega

/-- a word subtraction borrows at most once; `x < t`, and equally `~t < x - t`, says whether it did -/
theorem sub_wrap {B x t : Nat} (hx : x < B) (ht : t < B) :
    (x + (B - t % B)) % B + t = x ∧ ¬ x < t ∧ ¬ B - 1 - t % B < (x + (B - t % B)) % B ∨
    (x + (B - t % B)) % B + t = x + B ∧ x < t ∧ B - 1 - t % B < (x + (B - t % B)) % B := by
  rw [Nat.mod_eq_of_lt ht]
  by_cases h : x < t
  · rw [Nat.mod_eq_of_lt (by omega)]; omega
  · rw [show x + (B - t) = x - t + B by omega, Nat.add_mod_right, Nat.mod_eq_of_lt (by omega)]; omega

/-! ## §2 two-part sums -/

/-- a value together with the next digit determines the low word and the rest -/
theorem cons_inj_aux {B x y u v : Nat} (hx : x < B) (hy : y < B) (h : x + B * u = y + B * v) :
    x = y ∧ u = v := by
  have h1 : (x + B * u) % B = (y + B * v) % B := by rw [h]
  rw [Nat.add_mul_mod_self_left, Nat.add_mul_mod_self_left, Nat.mod_eq_of_lt hx,
    Nat.mod_eq_of_lt hy] at h1
  subst h1
  have h2 : B * u = B * v := by omega
  exact ⟨rfl, Nat.eq_of_mul_eq_mul_left (by omega) h2⟩

/-- quotient and remainder read off a `low + P * high` decomposition -/
theorem divmod_of_eq {r P c V : Nat} (hr : r < P) (h : r + P * c = V) : V % P = r ∧ V / P = c := by
  subst h
  have hP : 0 < P := by omega
  rw [Nat.add_mul_mod_self_left, Nat.mod_eq_of_lt hr, Nat.add_mul_div_left _ _ hP,
    Nat.div_eq_of_lt hr, Nat.zero_add]
  exact ⟨rfl, rfl⟩

/-! ## §3 borrow -/

/-- the borrow of a full-length subtraction is the comparison of the operands -/
theorem borrow_eq_lt {r b a P c : Nat} (hr : r < P) (hc : c ≤ 1) (_ha : a < P)
    (h : r + b = a + P * c) : c = if a < b then 1 else 0 := by
  have := mul01 P hc
  split <;> split_ifs at this <;> omega

/-! ## §4 the steps of zz_add.c -/

/-- zzAdd, `#ifdef SAFE_FAST` body -/
def addFStep (w : Nat) (c x y : Nat) : Nat × Nat :=
  if wadd w x c < c then (c, y)
  else (wless01 (wadd w (wadd w x c) y) y, wadd w (wadd w x c) y)
/-- zzAdd2, `#ifdef SAFE_FAST` body: x = b[i], y = a[i] -/
def add2FStep (w : Nat) (c x y : Nat) : Nat × Nat :=
  if wadd w y c ≥ c then (wless01 (wadd w (wadd w y c) x) x, wadd w (wadd w y c) x)
  else (c, x)
/-- zzSub / zzSub2, `#ifdef SAFE_FAST` body -/
def subFStep (w : Nat) (c x y : Nat) : Nat × Nat :=
  if wsub w x c > wnot w c then (c, wnot w y)
  else (wgreater01 (wsub w (wsub w x c) y) (wnot w y), wsub w (wsub w x c) y)

theorem zzAddFLoop_eq (w : Nat) (a b : List Nat) (c : Nat) :
    zzAddFLoop w a b c = pure2 (addFStep w) c a b := by
  induction a generalizing b c with
  | nil => simp [zzAddFLoop, pure2]
  | cons x xs ih =>
    cases b with
    | nil => simp [zzAddFLoop, pure2]
    | cons y ys =>
      simp only [zzAddFLoop, pure2, addFStep, ih]
      split <;> rfl

theorem zzAdd2FLoop_eq (w : Nat) (b a : List Nat) (c : Nat) :
    zzAdd2FLoop w b a c = pure2 (add2FStep w) c b a := by
  induction b generalizing a c with
  | nil => simp [zzAdd2FLoop, pure2]
  | cons x xs ih =>
    cases a with
    | nil => simp [zzAdd2FLoop, pure2]
    | cons y ys =>
      simp only [zzAdd2FLoop, pure2, add2FStep, ih]
      split <;> rfl

theorem zzSubFLoop_eq (w : Nat) (a b : List Nat) (c : Nat) :
    zzSubFLoop w a b c = pure2 (subFStep w) c a b := by
  induction a generalizing b c with
  | nil => simp [zzSubFLoop, pure2]
  | cons x xs ih =>
    cases b with
    | nil => simp [zzSubFLoop, pure2]
    | cons y ys =>
      simp only [zzSubFLoop, pure2, subFStep, ih]
      split <;> rfl

theorem zzSub2FLoop_eq (w : Nat) (b a : List Nat) (c : Nat) :
    zzSub2FLoop w b a c = pure2 (subFStep w) c b a := by
  induction b generalizing a c with
  | nil => simp [zzSub2FLoop, pure2]
  | cons x xs ih =>
    cases a with
    | nil => simp [zzSub2FLoop, pure2]
    | cons y ys =>
      simp only [zzSub2FLoop, pure2, subFStep, ih]
      split <;> rfl

/- Each step is two word operations; `add_wrap` / `sub_wrap` split each into "did not wrap" and
   "wrapped", with the comparison the code uses to detect it decided in either case. -/

theorem addStep_ok (w : Nat) : CarryOK w (· ≤ 1) 1 1 (addStep w) := by
  intro c x y hc hx hy
  have ht : (x + c) % 2 ^ w < 2 ^ w := Nat.mod_lt _ (by omega)
  have h2 := add_wrap hy (Nat.le_of_lt ht)
  rw [Nat.add_comm y] at h2
  rcases add_wrap hx (by omega : c ≤ 2 ^ w) with ⟨h1, k1⟩ | ⟨h1, k1⟩ <;>
  rcases h2 with ⟨h2, k2⟩ | ⟨h2, k2⟩ <;>
  simp only [addStep, wadd, wless01, k1, k2, if_true, if_false, Nat.or_zero, Nat.zero_or,
    Nat.or_self] <;> omega

theorem addFStep_ok (w : Nat) : CarryOK w (· ≤ 1) 1 1 (addFStep w) := by
  intro c x y hc hx hy
  have ht : (x + c) % 2 ^ w < 2 ^ w := Nat.mod_lt _ (by omega)
  rcases add_wrap hx (by omega : c ≤ 2 ^ w) with ⟨h1, k1⟩ | ⟨h1, k1⟩
  · rcases add_wrap ht (Nat.le_of_lt hy) with ⟨h2, k2⟩ | ⟨h2, k2⟩ <;>
    simp only [addFStep, wadd, wless01, k1, k2, if_true, if_false] <;> omega
  · -- `a[i] + carry` wrapped: carry = 1 and the sum word is 0, so `c[i] = b[i]` with the carry kept
    obtain rfl : c = 1 := by omega
    simp only [addFStep, wadd, k1, if_true]
    omega

theorem add2Step_ok (w : Nat) : CarryOK w (· ≤ 1) 1 1 (add2Step w) := by
  intro c x y hc hx hy
  have := addStep_ok w c y x hc hy hx
  simp only [add2Step, addStep, wadd, Nat.add_comm x] at *
  omega

theorem add2FStep_ok (w : Nat) : CarryOK w (· ≤ 1) 1 1 (add2FStep w) := by
  intro c x y hc hx hy
  have := addFStep_ok w c y x hc hy hx
  simp only [addFStep, add2FStep, ge_iff_le] at this ⊢
  split_ifs at this ⊢ <;> omega

theorem subStep_ok (w : Nat) : BorrowOK w (· ≤ 1) 1 1 (subStep w) := by
  intro c x y hc hx hy
  have ht : (y + c) % 2 ^ w < 2 ^ w := Nat.mod_lt _ (by omega)
  rcases add_wrap hy (by omega : c ≤ 2 ^ w) with ⟨h1, k1⟩ | ⟨h1, k1⟩ <;>
  rcases sub_wrap hx ht with ⟨h2, k2, -⟩ | ⟨h2, k2, -⟩ <;>
  simp only [subStep, wadd, wsub, wless01, k1, k2, if_true, if_false, Nat.or_zero, Nat.zero_or,
    Nat.or_self] <;> omega

theorem sub2Step_ok (w : Nat) : BorrowOK w (· ≤ 1) 1 1 (sub2Step w) := subStep_ok w

/-- needs `1 < B`: the body compares with `~borrow` -/
theorem subFStep_ok {w : Nat} (hw : 0 < w) : BorrowOK w (· ≤ 1) 1 1 (subFStep w) := by
  intro c x y hc hx hy
  have h2 := two_le_two_pow hw
  have ht : (x + (2 ^ w - c % 2 ^ w)) % 2 ^ w < 2 ^ w := Nat.mod_lt _ (by omega)
  rcases sub_wrap hx (by omega : c < 2 ^ w) with ⟨h1, -, k1⟩ | ⟨h1, -, k1⟩
  · rcases sub_wrap ht hy with ⟨h2, -, k2⟩ | ⟨h2, -, k2⟩ <;>
    simp only [subFStep, wsub, wnot, wgreater01, gt_iff_lt, k1, k2, if_true, if_false] <;> omega
  · obtain rfl : c = 1 := by omega
    have := Nat.mod_eq_of_lt hy
    have := Nat.mod_eq_of_lt (by omega : 1 < 2 ^ w)
    simp only [subFStep, wsub, wnot, gt_iff_lt, k1, if_true]
    omega

/-! ## §5 one-list loops -/

theorem addWStep_ok (w : Nat) : CarryOK w (· < 2 ^ w) 1 0 (fun c x _ => addWStep w c x) := by
  intro c x _ hc hx _
  have hB := Nat.mod_lt (x + c) (by omega : 0 < 2 ^ w)
  rcases add_wrap hx (Nat.le_of_lt hc) with ⟨h, k⟩ | ⟨h, k⟩ <;>
  simp only [addWStep, wadd, wless01, k, if_true, if_false] <;> omega

theorem subWStep_ok (w : Nat) : BorrowOK w (· < 2 ^ w) 1 0 (fun c x _ => subWStep w c x) := by
  intro c x _ hc hx _
  have hB := Nat.mod_lt (x + (2 ^ w - c % 2 ^ w)) (by omega : 0 < 2 ^ w)
  rcases sub_wrap hx hc with ⟨h, -, k⟩ | ⟨h, -, k⟩ <;>
  simp only [subWStep, wsub, wnot, wless01, k, if_true, if_false] <;> omega

theorem zzAddW_spec (w : Nat) (a : List Nat) (x : Nat) (ha : Wf w a) (hx : x < 2 ^ w) :
    val w (zzAddW w a x).1 + 2 ^ (w * a.length) * (zzAddW w a x).2 = val w a + x
    ∧ (zzAddW w a x).2 < 2 ^ w ∧ (a ≠ [] → (zzAddW w a x).2 ≤ 1)
    ∧ Wf w (zzAddW w a x).1 ∧ (zzAddW w a x).1.length = a.length := by
  rw [zzAddW_eq]
  obtain ⟨h1, h2, h3⟩ := ripple_carry (addWStep_ok w) x a a ha ha rfl hx
  rw [← pure1_eq] at h1 h2 h3
  exact ⟨by omega, h2, pure1_final (J := (· ≤ 1)) (fun _ _ => wless01_le _ _) x a, h3⟩

theorem zzSubW_spec (w : Nat) (a : List Nat) (x : Nat) (ha : Wf w a) (hx : x < 2 ^ w) :
    val w (zzSubW w a x).1 + x = val w a + 2 ^ (w * a.length) * (zzSubW w a x).2
    ∧ (zzSubW w a x).2 < 2 ^ w ∧ (a ≠ [] → (zzSubW w a x).2 ≤ 1)
    ∧ Wf w (zzSubW w a x).1 ∧ (zzSubW w a x).1.length = a.length := by
  rw [zzSubW_eq]
  obtain ⟨h1, h2, h3⟩ := ripple_borrow (subWStep_ok w) x a a ha ha rfl hx
  rw [← pure1_eq] at h1 h2 h3
  exact ⟨by omega, h2, pure1_final (J := (· ≤ 1)) (fun _ _ => wless01_le _ _) x a, h3⟩

theorem zzAddW_zero (w : Nat) (a : List Nat) (ha : Wf w a) : zzAddW w a 0 = (a, 0) := by
  induction a with
  | nil => rfl
  | cons y ys ih =>
    obtain ⟨hy, hys⟩ := Wf_cons.mp ha
    simp [zzAddW, wadd, wless01, Nat.mod_eq_of_lt hy, ih hys]

theorem zzSubW_zero (w : Nat) (a : List Nat) (ha : Wf w a) : zzSubW w a 0 = (a, 0) := by
  induction a with
  | nil => rfl
  | cons y ys ih =>
    obtain ⟨hy, hys⟩ := Wf_cons.mp ha
    have h0 : (y + 2 ^ w) % 2 ^ w = y := by
      rw [Nat.add_mod_right]; exact Nat.mod_eq_of_lt hy
    have h1 : ¬ (2 ^ w - 1 < y) := by omega
    simp [zzSubW, wsub, wnot, wless01, Nat.zero_mod, h0, h1, ih hys]

/-- the early exit of the SAFE_FAST body of zzAddW2 does not change the result -/
theorem zzAddW2F_eq (w : Nat) (a : List Nat) (x : Nat) (ha : Wf w a) :
    zzAddW2F w a x = zzAddW w a x := by
  induction a generalizing x with
  | nil => rfl
  | cons y ys ih =>
    obtain ⟨hy, hys⟩ := Wf_cons.mp ha
    by_cases h : x = 0
    · subst h
      rw [zzAddW_zero w _ ha]; simp [zzAddW2F]
    · simp only [zzAddW2F, zzAddW, if_neg h, ih _ hys]

theorem zzSubW2F_eq (w : Nat) (a : List Nat) (x : Nat) (ha : Wf w a) :
    zzSubW2F w a x = zzSubW w a x := by
  induction a generalizing x with
  | nil => rfl
  | cons y ys ih =>
    obtain ⟨hy, hys⟩ := Wf_cons.mp ha
    by_cases h : x = 0
    · subst h
      rw [zzSubW_zero w _ ha]; simp [zzSubW2F]
    · simp only [zzSubW2F, zzSubW, if_neg h, ih _ hys]

theorem val_map_wnot (w : Nat) (a : List Nat) (ha : Wf w a) :
    val w (a.map (wnot w)) + val w a + 1 = 2 ^ (w * a.length) := by
  induction a with
  | nil => simp [val]
  | cons y ys ih =>
    obtain ⟨hy, hys⟩ := Wf_cons.mp ha
    have h := ih hys
    have h3 : 2 ^ w * (val w (ys.map (wnot w)) + val w ys + 1) = 2 ^ w * 2 ^ (w * ys.length) := by
      rw [h]
    simp only [List.map_cons, val_cons, List.length_cons, Nat.mul_succ, Nat.pow_add, wnot,
      Nat.mod_eq_of_lt hy, Nat.mul_add] at *
    rw [Nat.mul_comm (2 ^ (w * ys.length)) (2 ^ w)]
    omega

theorem Wf_map_wnot (w : Nat) (a : List Nat) : Wf w (a.map (wnot w)) := by
  intro x hx
  obtain ⟨y, _, rfl⟩ := List.mem_map.mp hx
  have := Nat.two_pow_pos w
  show 2 ^ w - 1 - y % 2 ^ w < 2 ^ w
  omega

/-- two (result, carry) pairs with the same `value + P * carry` coincide -/
theorem result_unique {w n V : Nat} {r1 r2 : List Nat × Nat}
    (h1 : val w r1.1 + 2 ^ (w * n) * r1.2 = V) (h2 : val w r2.1 + 2 ^ (w * n) * r2.2 = V)
    (w1 : Wf w r1.1) (w2 : Wf w r2.1) (l1 : r1.1.length = n) (l2 : r2.1.length = n) : r1 = r2 := by
  have b1 := val_lt w1
  have b2 := val_lt w2
  rw [l1] at b1
  rw [l2] at b2
  obtain ⟨e1, e2⟩ := cons_inj_aux b1 b2 (h1.trans h2.symm)
  have e3 := val_inj w1 w2 (l1.trans l2.symm) e1
  exact Prod.ext e3 e2

/-! ## §6 ww.c : comparisons -/

theorem nat_xor_eq_zero {x y : Nat} : x ^^^ y = 0 ↔ x = y := by
  constructor
  · intro h
    apply Nat.eq_of_testBit_eq
    intro i
    have h2 := congrArg (fun z => Nat.testBit z i) h
    simpa [Nat.testBit_xor] using h2
  · rintro rfl
    exact Nat.xor_self _

theorem foldl_or_eq_zero {α : Type} (g : α → Nat) (l : List α) (d0 : Nat) :
    l.foldl (fun d p => d ||| g p) d0 = 0 ↔ d0 = 0 ∧ ∀ p ∈ l, g p = 0 := by
  induction l generalizing d0 with
  | nil => simp
  | cons q qs ih =>
    simp only [List.foldl_cons, ih, Nat.or_eq_zero_iff, List.mem_cons, forall_eq_or_imp]
    tauto

theorem zip_all_eq {a b : List Nat} (hl : a.length = b.length) :
    (∀ p ∈ a.zip b, p.1 = p.2) ↔ a = b := by
  induction a generalizing b with
  | nil => cases b with
    | nil => simp
    | cons y ys => simp at hl
  | cons x xs ih =>
    cases b with
    | nil => simp at hl
    | cons y ys =>
      have := ih (b := ys) (by simpa using hl)
      simp only [List.zip_cons_cons, List.mem_cons, forall_eq_or_imp, this, List.cons.injEq]

theorem wwEq_fastLoop_iff (l : List (Nat × Nat)) :
    wwEq_fastLoop l = true ↔ ∀ p ∈ l, p.1 = p.2 := by
  induction l with
  | nil => simp [wwEq_fastLoop]
  | cons q qs ih =>
    simp only [wwEq_fastLoop, List.mem_cons, forall_eq_or_imp]
    by_cases h : q.1 = q.2 <;> simp [h, ih]

theorem wwEq_safe_iff (a b : List Nat) :
    wwEq_safe a b = true ↔ ∀ p ∈ a.zip b, p.1 = p.2 := by
  unfold wwEq_safe
  rw [beq_iff_eq, foldl_or_eq_zero (fun p : Nat × Nat => p.1 ^^^ p.2)]
  simp [nat_xor_eq_zero]

theorem wwEq_fast_iff (a b : List Nat) :
    wwEq_fast a b = true ↔ ∀ p ∈ a.zip b, p.1 = p.2 := by
  unfold wwEq_fast
  rw [wwEq_fastLoop_iff]
  simp

theorem wwIsZero_safe_iff (a : List Nat) : wwIsZero_safe a = true ↔ ∀ x ∈ a, x = 0 := by
  unfold wwIsZero_safe
  rw [beq_iff_eq, foldl_or_eq_zero (fun x : Nat => x)]
  simp

theorem wwIsZero_fast_iff (a : List Nat) : wwIsZero_fast a = true ↔ ∀ x ∈ a, x = 0 := by
  unfold wwIsZero_fast
  simp

/-- three-way comparison of naturals with the C convention -1 / 0 / 1 -/
def cmp3 (x y : Nat) : Int := if x < y then -1 else if y < x then 1 else 0

theorem wwCmp_fastLoop_append (l : List (Nat × Nat)) (p : Nat × Nat) :
    wwCmp_fastLoop (l ++ [p]) = if wwCmp_fastLoop l = 0 then cmp3 p.1 p.2 else wwCmp_fastLoop l := by
  induction l with
  | nil =>
    simp only [List.nil_append, wwCmp_fastLoop, cmp3]
    split_ifs <;> first | rfl | omega
  | cons q qs ih =>
    simp only [List.cons_append, wwCmp_fastLoop, ih]
    by_cases h1 : q.1 > q.2
    · simp [h1]
    · by_cases h2 : q.1 < q.2
      · simp [h1, h2]
      · simp [h1, h2]

theorem wwCmp_fastLoop_range (l : List (Nat × Nat)) :
    wwCmp_fastLoop l = -1 ∨ wwCmp_fastLoop l = 0 ∨ wwCmp_fastLoop l = 1 := by
  induction l with
  | nil => simp [wwCmp_fastLoop]
  | cons q qs ih =>
    simp only [wwCmp_fastLoop]
    split_ifs <;> simp [ih]

theorem hi_lt {B x y u v : Nat} (hx : x < B) (h : u < v) : x + B * u < y + B * v := by
  have h2 : B * (u + 1) ≤ B * v := Nat.mul_le_mul_left B h
  rw [Nat.mul_add] at h2
  omega

theorem cmp3_lt {x y : Nat} (h : x < y) : cmp3 x y = -1 := if_pos h
theorem cmp3_gt {x y : Nat} (h : y < x) : cmp3 x y = 1 := by
  rw [cmp3, if_neg (Nat.lt_asymm h), if_pos h]
theorem cmp3_self (x : Nat) : cmp3 x x = 0 := by
  rw [cmp3, if_neg (Nat.lt_irrefl x), if_neg (Nat.lt_irrefl x)]

theorem cmp3_cons {B x y u v : Nat} (hx : x < B) (hy : y < B) :
    cmp3 (x + B * u) (y + B * v) = if cmp3 u v = 0 then cmp3 x y else cmp3 u v := by
  rcases Nat.lt_trichotomy u v with h | rfl | h
  · rw [cmp3_lt h, cmp3_lt (hi_lt hx h), if_neg (by decide)]
  · rw [cmp3_self, if_pos rfl]
    simp only [cmp3, Nat.add_lt_add_iff_right]
  · rw [cmp3_gt h, cmp3_gt (hi_lt hy h), if_neg (by decide)]

theorem wwCmp_fast_eq (w : Nat) (a b : List Nat) (ha : Wf w a) (hb : Wf w b)
    (hl : a.length = b.length) : wwCmp_fast a b = cmp3 (val w a) (val w b) := by
  unfold wwCmp_fast
  induction a generalizing b with
  | nil => cases b with
    | nil => simp [wwCmp_fastLoop, cmp3, val]
    | cons y ys => simp at hl
  | cons x xs ih =>
    cases b with
    | nil => simp at hl
    | cons y ys =>
      obtain ⟨hx, hxs⟩ := Wf_cons.mp ha
      obtain ⟨hy, hys⟩ := Wf_cons.mp hb
      rw [List.zip_cons_cons, List.reverse_cons, wwCmp_fastLoop_append,
        ih ys hxs hys (by simpa using hl), val_cons, val_cons, cmp3_cons hx hy]

/-- encoding of a comparison result in the (less, greater) registers of SAFE(wwCmp) -/
def encCmp (r : Int) : Nat × Nat := if r = -1 then (1, 0) else if r = 1 then (0, 1) else (0, 0)

theorem wwCmpStep_less (p : Nat × Nat) : wwCmpStep (1, 0) p = (1, 0) := by
  simp only [wwCmpStep, wless01, wgreater01]
  by_cases h1 : p.1 < p.2 <;> by_cases h2 : p.2 < p.1 <;> simp [*]

theorem wwCmpStep_greater (p : Nat × Nat) : wwCmpStep (0, 1) p = (0, 1) := by
  simp only [wwCmpStep, wless01, wgreater01]
  by_cases h1 : p.1 < p.2 <;> by_cases h2 : p.2 < p.1 <;> simp [*]

theorem wwCmpStep_eq (p : Nat × Nat) : wwCmpStep (0, 0) p = encCmp (cmp3 p.1 p.2) := by
  simp only [wwCmpStep, wless01, wgreater01, encCmp, cmp3]
  by_cases h1 : p.1 < p.2
  · have h2 : ¬ p.2 < p.1 := by omega
    simp [*]
  · by_cases h2 : p.2 < p.1 <;> simp [*]

theorem wwCmp_safe_state (l : List (Nat × Nat)) :
    l.reverse.foldl wwCmpStep (0, 0) = encCmp (wwCmp_fastLoop l.reverse) := by
  induction l with
  | nil => rfl
  | cons q qs ih =>
    rw [List.reverse_cons, List.foldl_append, List.foldl_cons, List.foldl_nil, ih,
      wwCmp_fastLoop_append]
    rcases wwCmp_fastLoop_range qs.reverse with h | h | h <;> rw [h]
    · exact wwCmpStep_less q
    · exact wwCmpStep_eq q
    · exact wwCmpStep_greater q

theorem wwCmp_safe_eq_fast (a b : List Nat) : wwCmp_safe a b = wwCmp_fast a b := by
  unfold wwCmp_safe wwCmp_fast
  simp only [wwCmp_safe_state]
  rcases wwCmp_fastLoop_range (a.zip b).reverse with h | h | h <;> rw [h] <;> rfl

theorem cmp3_eq_iff (x y : Nat) : (cmp3 x y = -1 ↔ x < y) ∧ (cmp3 x y = 0 ↔ x = y) ∧ (cmp3 x y = 1 ↔ y < x) := by
  simp only [cmp3]
  by_cases h1 : x < y
  · simp [h1]; omega
  · by_cases h2 : y < x
    · simp [h1, h2]; omega
    · simp [h1, h2]; omega

theorem wwCmp2_safe_eq_fast (a b : List Nat) : wwCmp2_safe a b = wwCmp2_fast a b := by
  unfold wwCmp2_safe wwCmp2_fast
  have hz : ∀ l, wwIsZero_safe l = wwIsZero_fast l := fun l => by
    rw [Bool.eq_iff_iff, wwIsZero_safe_iff, wwIsZero_fast_iff]
  simp only [hz, wwCmp_safe_eq_fast]

theorem wwCmp2_fast_eq (w : Nat) (a b : List Nat) (ha : Wf w a) (hb : Wf w b) :
    wwCmp2_fast a b = cmp3 (val w a) (val w b) := by
  unfold wwCmp2_fast
  simp only []
  split_ifs with h1 hz h2 hz
  · -- longer a, zero excess
    have hv := val_take_drop w a b.length (by omega)
    rw [wwIsZero_fast_iff, ← val_eq_zero_iff w] at hz
    rw [hz, Nat.mul_zero, Nat.add_zero] at hv
    rw [hv]
    exact wwCmp_fast_eq w _ b (Wf_take ha _) hb (by rw [List.length_take]; omega)
  · -- longer a, nonzero excess
    have hv := val_take_drop w a b.length (by omega)
    rw [wwIsZero_fast_iff, ← val_eq_zero_iff w] at hz
    have hb' := val_lt hb
    have : 2 ^ (w * b.length) * 1 ≤ 2 ^ (w * b.length) * val w (a.drop b.length) :=
      Nat.mul_le_mul_left _ (by omega)
    have hlt : val w b < val w a := by omega
    simp only [cmp3]
    rw [if_neg (by omega), if_pos hlt]
  · have hv := val_take_drop w b a.length (by omega)
    rw [wwIsZero_fast_iff, ← val_eq_zero_iff w] at hz
    rw [hz, Nat.mul_zero, Nat.add_zero] at hv
    rw [hv]
    exact wwCmp_fast_eq w a _ ha (Wf_take hb _) (by rw [List.length_take]; omega)
  · have hv := val_take_drop w b a.length (by omega)
    rw [wwIsZero_fast_iff, ← val_eq_zero_iff w] at hz
    have ha' := val_lt ha
    have : 2 ^ (w * a.length) * 1 ≤ 2 ^ (w * a.length) * val w (b.drop a.length) :=
      Nat.mul_le_mul_left _ (by omega)
    have hlt : val w a < val w b := by omega
    simp only [cmp3]
    rw [if_pos hlt]
  · exact wwCmp_fast_eq w a b ha hb (by omega)

/-! ## §7 zzIsSumEq / zzIsSumWEq: the adder with its output compared on the fly -/

theorem pair_cons_eq {α β : Type} (o c : α) (r : List α × β) (cs : List α) (t : β) :
    (o :: r.1, r.2) = (c :: cs, t) ↔ o = c ∧ r = (cs, t) := by
  simp only [Prod.mk.injEq, List.cons.injEq, Prod.ext_iff, and_assoc]

theorem exit_iff {a b : Nat} {X : Bool} :
    (if a != b then false else X) = true ↔ b = a ∧ X = true := by
  by_cases h : a = b
  · subst h; simp
  · simp [h, Ne.symm h]

theorem zzIsSumEq_safeLoop_iff (w : Nat) (c a b : List Nat) (diff carry : Nat)
    (hl1 : c.length = a.length) (hl2 : a.length = b.length) :
    ((zzIsSumEq_safeLoop w c a b diff carry).1 ||| (zzIsSumEq_safeLoop w c a b diff carry).2 = 0)
      ↔ diff = 0 ∧ zzAddLoop w a b carry = (c, 0) := by
  induction c generalizing a b diff carry with
  | nil =>
    cases a with
    | cons _ _ => simp at hl1
    | nil =>
      cases b with
      | cons _ _ => simp at hl2
      | nil => simp [zzIsSumEq_safeLoop, zzAddLoop, Nat.or_eq_zero_iff]
  | cons ci cs ih =>
    cases a with
    | nil => simp at hl1
    | cons x xs =>
      cases b with
      | nil => simp at hl2
      | cons y ys =>
        -- a differing word sets `diff` for good; an agreeing one gives the adder's carry
        simp only [zzIsSumEq_safeLoop, zzAddLoop]
        rw [ih xs ys _ _ (by simpa using hl1) (by simpa using hl2), pair_cons_eq,
          Nat.or_eq_zero_iff, nat_xor_eq_zero]
        constructor
        · rintro ⟨⟨h1, rfl⟩, h3⟩; exact ⟨h1, rfl, h3⟩
        · rintro ⟨h1, rfl, h3⟩; exact ⟨⟨h1, rfl⟩, h3⟩

theorem zzIsSumEq_fastLoop_iff (w : Nat) (c a b : List Nat) (carry : Nat)
    (ha : Wf w a) (hb : Wf w b) (hc : carry ≤ 1)
    (hl1 : c.length = a.length) (hl2 : a.length = b.length) :
    zzIsSumEq_fastLoop w c a b carry = true ↔ zzAddLoop w a b carry = (c, 0) := by
  induction c generalizing a b carry with
  | nil =>
    cases a with
    | cons _ _ => simp at hl1
    | nil =>
      cases b with
      | cons _ _ => simp at hl2
      | nil => simp [zzIsSumEq_fastLoop, zzAddLoop]
  | cons ci cs ih =>
    cases a with
    | nil => simp at hl1
    | cons x xs =>
      cases b with
      | nil => simp at hl2
      | cons y ys =>
        obtain ⟨hx, hxs⟩ := Wf_cons.mp ha
        obtain ⟨hy, hys⟩ := Wf_cons.mp hb
        have ih' := fun k hk => ih xs ys k hxs hys hk (by simpa using hl1) (by simpa using hl2)
        simp only [zzIsSumEq_fastLoop, zzAddLoop, pair_cons_eq]
        split
        next ht =>
          -- `a[i] + carry` wrapped: carry = 1, the sum word is `b[i]` and the carry stays
          have ht0 : wadd w x carry = 0 := by omega
          obtain rfl : carry = 1 := by omega
          have hs : wadd w 0 y = y := by
            show (0 + y) % 2 ^ w = y; rw [Nat.zero_add, Nat.mod_eq_of_lt hy]
          rw [exit_iff, ih' 1 hc, ht0, hs]
          simp [wless01]
        next ht =>
          rw [exit_iff, Nat.zero_or]
          constructor
          · rintro ⟨rfl, h⟩; exact ⟨rfl, (ih' _ (wless01_le _ _)).mp h⟩
          · rintro ⟨rfl, h⟩; exact ⟨rfl, (ih' _ (wless01_le _ _)).mpr h⟩

theorem wless_wrap {B a x : Nat} (ha : a < B) (hx : x < B) :
    wless01 ((a + x) % B) a = wless01 ((a + x) % B) x := by
  have hs : (a + x) % B = if a + x < B then a + x else a + x - B := mod_wrap (by omega)
  rw [hs]
  show (if _ < a then 1 else 0) = (if _ < x then 1 else 0)
  split_ifs <;> omega

/-- zzIsSumWEq takes the carry from `b[i] < a[i]`; for an agreeing word that is zzAddW's `b[i] < w` -/
theorem zzIsSumWEq_safeLoop_iff (w : Nat) (b a : List Nat) (diff x : Nat)
    (ha : Wf w a) (hx : x < 2 ^ w) (hl : b.length = a.length) :
    ((zzIsSumWEq_safeLoop w b a diff x).1 ||| (zzIsSumWEq_safeLoop w b a diff x).2 = 0)
      ↔ diff = 0 ∧ zzAddW w a x = (b, 0) := by
  induction b generalizing a diff x with
  | nil =>
    cases a with
    | cons _ _ => simp at hl
    | nil => simp [zzIsSumWEq_safeLoop, zzAddW, Nat.or_eq_zero_iff]
  | cons bi bs ih =>
    cases a with
    | nil => simp at hl
    | cons y ys =>
      obtain ⟨hy, hys⟩ := Wf_cons.mp ha
      have hwl : wless01 bi y < 2 ^ w := by
        have := wless01_le bi y
        by_cases h2 : 2 ≤ 2 ^ w
        · omega
        · obtain rfl : y = 0 := by omega
          simp [wless01]
      simp only [zzIsSumWEq_safeLoop, zzAddW, pair_cons_eq]
      rw [ih ys _ _ hys hwl (by simpa using hl), Nat.or_eq_zero_iff, nat_xor_eq_zero]
      constructor
      · rintro ⟨⟨h1, rfl⟩, h3⟩; rw [wless_wrap hy hx] at h3; exact ⟨h1, rfl, h3⟩
      · rintro ⟨h1, rfl, h3⟩; rw [← wless_wrap hy hx] at h3; exact ⟨⟨h1, rfl⟩, h3⟩

theorem zzIsSumWEq_fast_iff (w : Nat) (b a : List Nat) (x : Nat)
    (ha : Wf w a) (hx : x < 2 ^ w) (hl : b.length = a.length) :
    zzIsSumWEq_fast w b a x = true ↔ zzAddW w a x = (b, 0) := by
  induction b generalizing a x with
  | nil =>
    cases a with
    | cons _ _ => simp at hl
    | nil => simp [zzIsSumWEq_fast, zzAddW]
  | cons bi bs ih =>
    cases a with
    | nil => simp at hl
    | cons y ys =>
      obtain ⟨hy, hys⟩ := Wf_cons.mp ha
      have s4 : wless01 (wadd w y x) x < 2 ^ w := (addWStep_ok w x y y hx hy hy).2.2
      simp only [zzIsSumWEq_fast, zzAddW, pair_cons_eq]
      rw [exit_iff]
      constructor
      · rintro ⟨rfl, h⟩
        rw [wless_wrap hy hx] at h
        exact ⟨rfl, (ih ys _ hys s4 (by simpa using hl)).mp h⟩
      · rintro ⟨rfl, h⟩
        rw [wless_wrap hy hx]
        exact ⟨rfl, (ih ys _ hys s4 (by simpa using hl)).mpr h⟩

/-! ## §8 zz_etc.c : masked addition / subtraction -/

theorem zzAddAndWLoop_eq (w : Nat) (b a : List Nat) (m c : Nat) :
    zzAddAndWLoop w b a m c = (pure2 (add2Step w) c b (a.map (m &&& ·))).1 := by
  rw [Alias.zzAddAndWLoop_eq, ← pure2_map_right]; rfl

theorem zzSubAndWLoop_eq (w : Nat) (b a : List Nat) (m c : Nat) :
    zzSubAndWLoop w b a m c = pure2 (sub2Step w) c b (a.map (m &&& ·)) := by
  rw [Alias.zzSubAndWLoop_eq, ← pure2_map_right]; rfl

theorem Wf_map_and {w : Nat} {a : List Nat} (ha : Wf w a) (m : Nat) : Wf w (a.map (m &&& ·)) := by
  intro x hx
  obtain ⟨y, hy, rfl⟩ := List.mem_map.mp hx
  exact Nat.lt_of_le_of_lt Nat.and_le_right (ha y hy)

theorem map_and_zero (a : List Nat) : a.map (0 &&& ·) = a.map (fun _ => 0) := by
  apply List.map_congr_left
  intro x _
  exact Nat.zero_and x

theorem val_map_zero (w : Nat) (a : List Nat) : val w (a.map (fun _ => 0)) = 0 := by
  rw [val_eq_zero_iff]
  intro x hx
  obtain ⟨_, _, rfl⟩ := List.mem_map.mp hx
  rfl

theorem map_and_ones {w : Nat} {a : List Nat} (ha : Wf w a) : a.map ((2 ^ w - 1) &&& ·) = a := by
  conv_rhs => rw [← List.map_id a]
  apply List.map_congr_left
  intro x hx
  show (2 ^ w - 1) &&& x = x
  rw [Nat.and_comm, Nat.and_two_pow_sub_one_eq_mod, Nat.mod_eq_of_lt (ha x hx)]

/-- value of the masked operand for the two masks used by the library -/
theorem val_map_and (w : Nat) (a : List Nat) (ha : Wf w a) (m : Nat) (hm : m = 0 ∨ m = 2 ^ w - 1) :
    val w (a.map (m &&& ·)) = if m = 0 then 0 else val w a := by
  rcases hm with rfl | rfl
  · rw [map_and_zero, val_map_zero]; rfl
  · by_cases h : 2 ^ w - 1 = 0
    · rw [if_pos h, h, map_and_zero, val_map_zero]
    · rw [if_neg h, map_and_ones ha]

/-! ## §9 zz_mod.c : the comparison mask, doubling, first pass and correction -/

/-- the running comparison of the SAFE modular routines, as a fold over (mod, c) -/
def maskFold (ms cs : List Nat) (mask : Nat) : Nat :=
  (ms.zip cs).foldl (fun t p => maskStep t p.1 p.2) mask

theorem maskFold_cons (m c mask : Nat) (ms cs : List Nat) :
    maskFold (m :: ms) (c :: cs) mask = maskFold ms cs (maskStep mask m c) := rfl

theorem maskStep_eq {mask : Nat} (hm : mask ≤ 1) (m c : Nat) :
    maskStep mask m c = if m < c then 1 else if m = c then mask else 0 := by
  obtain rfl | rfl : mask = 0 ∨ mask = 1 := by omega
  · simp only [maskStep, weq01, wless01, Nat.zero_and, Nat.zero_or]
    split_ifs <;> rfl
  · simp only [maskStep, weq01, wless01]
    by_cases h1 : m < c
    · have h2 : ¬ m = c := by omega
      simp [h1, h2]
    · by_cases h2 : m = c <;> simp [h1, h2]

/-- loop invariant of the SAFE routines: after processing prefixes low to high the mask is the
    comparison `mod ≤ c` of the prefixes (started with mask0 on empty prefixes) -/
theorem maskFold_spec (w : Nat) (ms cs : List Nat) (mask0 : Nat) (h0 : mask0 ≤ 1)
    (hms : Wf w ms) (hcs : Wf w cs) (hl : ms.length = cs.length) :
    maskFold ms cs mask0
      = if val w ms < val w cs then 1 else if val w ms = val w cs then mask0 else 0 := by
  induction ms generalizing cs mask0 with
  | nil =>
    cases cs with
    | nil => simp [maskFold, val]
    | cons _ _ => simp at hl
  | cons m ms ih =>
    cases cs with
    | nil => simp at hl
    | cons c cs =>
      obtain ⟨hm, hms'⟩ := Wf_cons.mp hms
      obtain ⟨hc, hcs'⟩ := Wf_cons.mp hcs
      have hstep := maskStep_eq h0 m c
      have hle : maskStep mask0 m c ≤ 1 := by rw [hstep]; split_ifs <;> omega
      rw [maskFold_cons, ih cs _ hle hms' hcs' (by simpa using hl), val_cons, val_cons, hstep]
      rcases Nat.lt_trichotomy (val w ms) (val w cs) with h | h | h
      · rw [if_pos h, if_pos (hi_lt hm h)]
      · rw [h]
        simp only [Nat.lt_irrefl, if_false, if_true, Nat.add_lt_add_iff_right,
          Nat.add_right_cancel_iff]
      · have := hi_lt (y := m) hc h
        rw [if_neg (by omega), if_neg (by omega), if_neg (by omega), if_neg (by omega)]

/-- `mask = 1 ↔ mod ≤ c` for the full-length run started with mask = 1 -/
theorem maskFold_one (w : Nat) (ms cs : List Nat)
    (hms : Wf w ms) (hcs : Wf w cs) (hl : ms.length = cs.length) :
    maskFold ms cs 1 = if val w ms ≤ val w cs then 1 else 0 := by
  rw [maskFold_spec w ms cs 1 (by omega) hms hcs hl]
  split_ifs <;> omega

theorem zzAddMod_safeLoop_eq (w : Nat) (a b mod : List Nat) (carry mask : Nat)
    (hl1 : a.length = b.length) (hl2 : a.length = mod.length) :
    zzAddMod_safeLoop w a b mod carry mask
      = ((zzAddLoop w a b carry).1, (zzAddLoop w a b carry).2,
          maskFold mod (zzAddLoop w a b carry).1 mask) := by
  rw [Alias.zzAddMod_safeLoop_eq, Alias.zzAddLoop_eq]
  exact pure2Post_split (addStep w) maskStep carry mask a b mod hl1 hl2

theorem zzAddWMod_safeLoop_eq (w : Nat) (a mod : List Nat) (x mask : Nat)
    (hl : a.length = mod.length) :
    zzAddWMod_safeLoop w a mod x mask
      = ((zzAddW w a x).1, (zzAddW w a x).2, maskFold mod (zzAddW w a x).1 mask) := by
  rw [Alias.zzAddWMod_safeLoop_eq, zzAddW_eq]
  exact pure1Post_split (addWStep w) maskStep x mask a mod hl

theorem zzDoubleMod_safeLoop_eq (w : Nat) (a mod : List Nat) (carry mask : Nat)
    (hl : a.length = mod.length) :
    zzDoubleMod_safeLoop w a mod carry mask
      = ((zzDoubleLoop w a carry).1, (zzDoubleLoop w a carry).2,
          maskFold mod (zzDoubleLoop w a carry).1 mask) := by
  rw [Alias.zzDoubleMod_safeLoop_eq, Alias.zzDoubleLoop_eq]
  exact pure1Post_split (Alias.doubleStep w) maskStep carry mask a mod hl

theorem wneg01 {w : Nat} (hw : 0 < w) {k : Nat} (hk : k ≤ 1) :
    wneg w k = if k = 0 then 0 else 2 ^ w - 1 := by
  have h2 := two_le_two_pow hw
  obtain rfl | rfl : k = 0 ∨ k = 1 := by omega
  · simp [wneg]
  · have h1 : 1 % 2 ^ w = 1 := Nat.mod_eq_of_lt (by omega)
    simp only [wneg, h1]
    rw [Nat.mod_eq_of_lt (by omega)]
    simp

/-- a strict inequality between values is only possible with a real word size -/
theorem pos_w_of_val_pos {w : Nat} {m : List Nat} (hm : Wf w m) (h : 0 < val w m) : 0 < w := by
  rcases Nat.eq_zero_or_pos w with rfl | hw
  · exfalso
    have : val 0 m = 0 := by
      rw [val_eq_zero_iff]
      intro x hx
      have := hm x hx
      simpa using this
    omega
  · exact hw

theorem ne_nil_of_val_pos {w : Nat} {m : List Nat} (h : 0 < val w m) : m ≠ [] := by
  rintro rfl
  simp [val] at h

/-- `a < mod` with equal lengths: there is at least one word -/
theorem ne_nil_of_lt {w : Nat} {a mod : List Nat} (hl : a.length = mod.length)
    (h : val w a < val w mod) : a ≠ [] := by
  rintro rfl
  exact ne_nil_of_val_pos (Nat.zero_lt_of_lt h) (List.length_eq_zero_iff.mp hl.symm)

/-- final conditional subtraction of the modular routines, as plain arithmetic:
    `r + P cy = V < 2M`, then `s = r - (sub ? M : 0) (mod P)` with `sub ↔ cy ≠ 0 ∨ M ≤ r` -/
theorem modred_arith {V M P r cy s bw t : Nat} (sub : Prop)
    (hV : V < 2 * M) (hMP : M < P) (_hr : r < P) (hs : s < P) (hcy : cy ≤ 1) (hbw : bw ≤ 1)
    (h1 : r + P * cy = V) (h2 : s + t = r + P * bw)
    (ht1 : sub → t = M) (ht0 : ¬ sub → t = 0) (hsub : sub ↔ (cy ≠ 0 ∨ M ≤ r)) :
    s = V % M ∧ s < M := by
  obtain rfl | rfl : cy = 0 ∨ cy = 1 := by omega
  all_goals obtain rfl | rfl : bw = 0 ∨ bw = 1 := by omega
  all_goals rw [mod_wrap hV]; by_cases hsb : sub
  all_goals first | have := ht1 hsb; have := hsub.mp hsb | have := ht0 hsb; have := mt hsub.mpr hsb
  all_goals split <;> omega

/-- final conditional addition of zzSubMod / zzSubWMod: `r + Bv = A + P bw`, then `s = r + (bw ? M : 0) mod P` -/
theorem modsub_arith {A Bv M P r bw s cy t : Nat}
    (hA : A < M) (hB : Bv < M) (hMP : M < P) (_hr : r < P) (hs : s < P) (hcy : cy ≤ 1) (hbw : bw ≤ 1)
    (h1 : r + Bv = A + P * bw) (h2 : s + P * cy = r + t)
    (ht : t = if bw = 0 then 0 else M) :
    s = (A + M - Bv) % M ∧ s < M := by
  rw [mod_wrap (by omega)]
  obtain rfl | rfl : cy = 0 ∨ cy = 1 := by omega
  all_goals obtain rfl | rfl : bw = 0 ∨ bw = 1 := by omega
  all_goals simp only [if_true, one_ne_zero, if_false] at ht; split <;> omega

/-! ### doubling loop -/

theorem or_bit {e c : Nat} (he : e % 2 = 0) (hc : c ≤ 1) : e ||| c = e + c := by
  have h : e = (e / 2) <<< 1 := by rw [Nat.shiftLeft_eq]; omega
  rw [h, ← Nat.shiftLeft_add_eq_or_of_lt (by omega : c < 2 ^ 1)]

theorem doubleStep_ok {w : Nat} (hw : 0 < w) :
    CarryOK w (· ≤ 1) 2 0 (fun c x _ => doubleStep w c x) := by
  intro c a y hc ha _
  show (wshl w a 1 ||| c) + 2 ^ w * wshr a (w - 1) = 2 * a + 0 * y + c ∧ (wshl w a 1 ||| c) < 2 ^ w
      ∧ wshr a (w - 1) ≤ 1
  rw [Nat.zero_mul, Nat.add_zero]
  obtain ⟨k, rfl⟩ : ∃ k, w = k + 1 := ⟨w - 1, by omega⟩
  simp only [wshl, wshr, Nat.add_sub_cancel, Nat.pow_one]
  have hH : 0 < 2 ^ k := Nat.two_pow_pos k
  have hpow : 2 ^ (k + 1) = 2 * 2 ^ k := by rw [Nat.pow_succ, Nat.mul_comm]
  have e1 : (a * 2) % 2 ^ (k + 1) = 2 * (a % 2 ^ k) := by
    rw [hpow, Nat.mul_comm a 2, Nat.mul_mod_mul_left]
  have e2 : (a * 2) % 2 ^ (k + 1) % 2 = 0 := by rw [e1]; omega
  rw [or_bit e2 hc, e1, hpow]
  have hdm := Nat.mod_add_div a (2 ^ k)
  have hlt := Nat.mod_lt a hH
  have hq : a / 2 ^ k ≤ 1 := by
    have : a / 2 ^ k < 2 := Nat.div_lt_of_lt_mul (by omega)
    omega
  have e3 := mul01 (2 ^ k) hq
  refine ⟨?_, ?_, hq⟩
  · rw [Nat.mul_assoc]; split_ifs at e3 <;> omega
  · omega

theorem zzDoubleLoop_spec (w : Nat) (hw : 0 < w) (a : List Nat) (c : Nat) (ha : Wf w a) (hc : c ≤ 1) :
    val w (zzDoubleLoop w a c).1 + 2 ^ (w * a.length) * (zzDoubleLoop w a c).2 = 2 * val w a + c
    ∧ (zzDoubleLoop w a c).2 ≤ 1 ∧ Wf w (zzDoubleLoop w a c).1
    ∧ (zzDoubleLoop w a c).1.length = a.length := by
  rw [Alias.zzDoubleLoop_eq, pure1_eq]
  simpa using ripple_carry (doubleStep_ok hw) c a a ha ha rfl hc

/-- `n` words and a 0/1 carry flag hold `V` -/
def RepC (w n : Nat) (r : List Nat × Nat) (V : Nat) : Prop :=
  val w r.1 + 2 ^ (w * n) * r.2 = V ∧ r.2 ≤ 1 ∧ Wf w r.1 ∧ r.1.length = n

/-- `n` words and a 0/1 borrow flag hold `A - Bv` -/
def RepB (w n : Nat) (r : List Nat × Nat) (A Bv : Nat) : Prop :=
  val w r.1 + Bv = A + 2 ^ (w * n) * r.2 ∧ r.2 ≤ 1 ∧ Wf w r.1 ∧ r.1.length = n

def Residue (w n : Nat) (mod res : List Nat) (v : Nat) : Prop :=
  val w res = v ∧ val w res < val w mod ∧ Wf w res ∧ res.length = n

theorem RepC.unique {w n V : Nat} {r r' : List Nat × Nat} (h : RepC w n r V) (h' : RepC w n r' V) :
    r = r' := result_unique h.1 h'.1 h.2.2.1 h'.2.2.1 h.2.2.2 h'.2.2.2

theorem RepC.divmod {w n V : Nat} {r : List Nat × Nat} (h : RepC w n r V) :
    val w r.1 = V % 2 ^ (w * n) ∧ r.2 = V / 2 ^ (w * n) := by
  obtain ⟨h1, _, h3, rfl⟩ := h
  obtain ⟨e1, e2⟩ := divmod_of_eq (val_lt h3) h1
  exact ⟨e1.symm, e2.symm⟩

theorem RepC.eq_iff {w n V : Nat} {r : List Nat × Nat} (h : RepC w n r V) {c : List Nat}
    (hc : Wf w c) (hl : c.length = n) : r = (c, 0) ↔ V = val w c :=
  ⟨fun e => by have := h.1; rw [e] at this; simpa using this.symm,
    fun e => h.unique ⟨by simpa using e.symm, Nat.zero_le 1, hc, hl⟩⟩

theorem RepB.borrow {w n A Bv : Nat} {r : List Nat × Nat} (h : RepB w n r A Bv) (hA : A < 2 ^ (w * n)) :
    r.2 = if A < Bv then 1 else 0 := by
  obtain ⟨h1, h2, h3, rfl⟩ := h
  exact borrow_eq_lt (val_lt h3) h2 hA h1

theorem Residue.unique {w n v : Nat} {mod r r' : List Nat} (h : Residue w n mod r v)
    (h' : Residue w n mod r' v) : r = r' :=
  val_inj h.2.2.1 h'.2.2.1 (h.2.2.2.trans h'.2.2.2.symm) (h.1.trans h'.1.symm)

theorem zzAdd_repC (w : Nat) (a b : List Nat) (ha : Wf w a) (hb : Wf w b) (hl : a.length = b.length) :
    RepC w a.length (zzAdd w a b) (val w a + val w b) := by
  unfold zzAdd
  rw [Alias.zzAddLoop_eq]
  simpa [RepC] using ripple_carry (addStep_ok w) 0 a b ha hb hl (Nat.zero_le 1)

theorem zzSub_repB (w : Nat) (a b : List Nat) (ha : Wf w a) (hb : Wf w b) (hl : a.length = b.length) :
    RepB w a.length (zzSub w a b) (val w a) (val w b) := by
  unfold zzSub
  rw [Alias.zzSubLoop_eq]
  simpa [RepB] using ripple_borrow (subStep_ok w) 0 a b ha hb hl (Nat.zero_le 1)

theorem zzAdd2_repC (w : Nat) (b a : List Nat) (hb : Wf w b) (ha : Wf w a) (hl : b.length = a.length) :
    RepC w b.length (zzAdd2 w b a) (val w b + val w a) := by
  unfold zzAdd2
  rw [Alias.zzAdd2Loop_eq]
  simpa [RepC] using ripple_carry (add2Step_ok w) 0 b a hb ha hl (Nat.zero_le 1)

theorem zzSub2_repB (w : Nat) (b a : List Nat) (hb : Wf w b) (ha : Wf w a) (hl : b.length = a.length) :
    RepB w b.length (zzSub2 w b a) (val w b) (val w a) := by
  unfold zzSub2
  rw [Alias.zzSub2Loop_eq]
  simpa [RepB] using ripple_borrow (sub2Step_ok w) 0 b a hb ha hl (Nat.zero_le 1)

theorem zzAddW_repC (w : Nat) (a : List Nat) (x : Nat) (ha : Wf w a) (hx : x < 2 ^ w) (hne : a ≠ []) :
    RepC w a.length (zzAddW w a x) (val w a + x) :=
  have h := zzAddW_spec w a x ha hx
  ⟨h.1, h.2.2.1 hne, h.2.2.2⟩

theorem zzSubW_repB (w : Nat) (a : List Nat) (x : Nat) (ha : Wf w a) (hx : x < 2 ^ w) (hne : a ≠ []) :
    RepB w a.length (zzSubW w a x) (val w a) x :=
  have h := zzSubW_spec w a x ha hx
  ⟨h.1, h.2.2.1 hne, h.2.2.2⟩

section
variable {w n x y c : Nat} {a b : List Nat}

theorem _root_.Bee2V.C05.Rep.sub2B (hb : Rep w n b x) (ha : Rep w n a y) :
    RepB w n (zzSub2 w b a) x y := by
  have h := zzSub2_repB w b a hb.wf ha.wf (hb.len.trans ha.len.symm)
  rwa [hb.len, hb.eq, ha.eq] at h

theorem _root_.Bee2V.C05.Rep.addWC (ha : Rep w n a x) (hc : c < 2 ^ w) (hn : 0 < n) :
    RepC w n (zzAddW w a c) (x + c) := by
  have h := zzAddW_repC w a c ha.wf hc (by rintro rfl; exact absurd ha.len (by simp; omega))
  rwa [ha.len, ha.eq] at h

end

/-- a masked operation with the zero mask leaves `b` unchanged -/
theorem pure2_zero {w : Nat} {step : Nat → Nat → Nat → Nat × Nat}
    (hf : ∀ x, x < 2 ^ w → step 0 x 0 = (0, x)) (b a : List Nat) (hb : Wf w b) :
    pure2 step 0 b (a.map fun _ => 0) = (b.take a.length, 0) := by
  induction b generalizing a with
  | nil => cases a <;> rfl
  | cons b0 bs ih =>
    cases a with
    | nil => rfl
    | cons a0 as =>
      obtain ⟨hb0, hbs⟩ := Wf_cons.mp hb
      simp only [List.map_cons, pure2, hf b0 hb0, ih as hbs, List.length_cons, List.take_succ_cons]

theorem sub2Step_zero (w x : Nat) (hx : x < 2 ^ w) : sub2Step w 0 x 0 = (0, x) := by
  simp [sub2Step, wadd, wsub, wless01, Nat.mod_eq_of_lt hx]

theorem add2Step_zero (w x : Nat) (hx : x < 2 ^ w) : add2Step w 0 x 0 = (0, x) := by
  simp [add2Step, wadd, wless01, Nat.mod_eq_of_lt hx]

theorem zzSubAndW_flag2 (w : Nat) (hw : 0 < w) (b a : List Nat) (f : Nat) (hf : f ≤ 1)
    (hb : Wf w b) (ha : Wf w a) (hl : b.length = a.length) :
    zzSubAndW w b a (wneg w f) = if f = 0 then (b, 0) else zzSub2 w b a := by
  rw [wneg01 hw hf]
  unfold zzSubAndW zzSub2
  rw [zzSubAndWLoop_eq, Alias.zzSub2Loop_eq]
  split
  · rw [map_and_zero, pure2_zero (sub2Step_zero w) b a hb, ← hl, List.take_length]
  · rw [map_and_ones ha]

theorem zzSubAndW_flag (w : Nat) (hw : 0 < w) (b a : List Nat) (f : Nat) (hf : f ≤ 1)
    (hb : Wf w b) (ha : Wf w a) (hl : b.length = a.length) :
    (zzSubAndW w b a (wneg w f)).1 = if f = 0 then b else (zzSub2 w b a).1 := by
  rw [zzSubAndW_flag2 w hw b a f hf hb ha hl]
  split <;> rfl

theorem zzAddAndW_flag (w : Nat) (hw : 0 < w) (b a : List Nat) (f : Nat) (hf : f ≤ 1)
    (hb : Wf w b) (ha : Wf w a) (hl : b.length = a.length) :
    zzAddAndW w b a (wneg w f) = if f = 0 then b else (zzAdd2 w b a).1 := by
  rw [wneg01 hw hf]
  unfold zzAddAndW zzAdd2
  rw [zzAddAndWLoop_eq, Alias.zzAdd2Loop_eq]
  split
  · rw [map_and_zero, pure2_zero (add2Step_zero w) b a hb, ← hl, List.take_length]
  · rw [map_and_ones ha]

theorem cmp3_nonneg (x y : Nat) : cmp3 x y ≥ 0 ↔ y ≤ x := by
  simp only [cmp3]
  split_ifs <;> omega

/-- FAST: `if (carry || cmp(c, mod) >= 0) zzSub2(c, mod)` -/
theorem RepC.redFast {w n V : Nat} {r : List Nat × Nat} {mod : List Nat} (h : RepC w n r V)
    (hm : Wf w mod) (hl : n = mod.length) (hV : V < 2 * val w mod) :
    Residue w n mod (if r.2 ≠ 0 ∨ wwCmp_fast r.1 mod ≥ 0 then (zzSub2 w r.1 mod).1 else r.1)
      (V % val w mod) := by
  obtain ⟨h1, hcy, hc, rfl⟩ := h
  obtain ⟨s1, s2, s3, s4⟩ := zzSub2_repB w r.1 mod hc hm hl
  have hMP := val_lt hm
  rw [← hl] at hMP
  have hr := val_lt hc
  have hs := val_lt s3
  rw [s4] at hs
  have hsub : (r.2 ≠ 0 ∨ wwCmp_fast r.1 mod ≥ 0) ↔ (r.2 ≠ 0 ∨ val w mod ≤ val w r.1) := by
    rw [wwCmp_fast_eq w r.1 mod hc hm hl, cmp3_nonneg]
  split
  next hb =>
    obtain ⟨e1, e2⟩ := modred_arith _ hV hMP hr hs hcy s2 h1 s1 (fun _ => rfl)
      (fun h => absurd hb h) hsub
    exact ⟨e1, e2, s3, s4⟩
  next hb =>
    obtain ⟨e1, e2⟩ := modred_arith (t := 0) (bw := 0) _ hV hMP hr hr hcy (by omega) h1 (by simp)
      (fun h => absurd h hb) (fun _ => rfl) hsub
    exact ⟨e1, e2, hc, rfl⟩

/-- The masked subtraction of the SAFE routines takes the branch of the FAST `if` on every input:
    `mask | carry`, with the mask of the first pass, is the condition `carry || cmp(c, mod) >= 0`. -/
theorem red_safe_eq_fast (w : Nat) (hw : 0 < w) (c mod : List Nat) (cy : Nat)
    (hc : Wf w c) (hm : Wf w mod) (hl : c.length = mod.length) (hcy : cy ≤ 1) :
    (zzSubAndW w c mod (wneg w (maskFold mod c 1 ||| cy))).1
      = if cy ≠ 0 ∨ wwCmp_fast c mod ≥ 0 then (zzSub2 w c mod).1 else c := by
  have hmk := maskFold_one w mod c hm hc hl.symm
  have hk : maskFold mod c 1 ||| cy ≤ 1 := by
    rw [lor01 (by rw [hmk]; split <;> omega) hcy]; split <;> omega
  have hk0 : (maskFold mod c 1 ||| cy = 0) ↔ ¬ (cy ≠ 0 ∨ wwCmp_fast c mod ≥ 0) := by
    rw [wwCmp_fast_eq w c mod hc hm hl, Nat.or_eq_zero_iff, hmk, cmp3_nonneg]
    split <;> omega
  rw [zzSubAndW_flag w hw c mod _ hk hc hm hl, if_congr hk0 rfl rfl, ite_not]

/-- FAST tail of the subtractive routines: `if (borrow) zzAdd2(c, mod)` -/
theorem RepB.incFast {w n A Bv : Nat} {r : List Nat × Nat} {mod : List Nat} (h : RepB w n r A Bv)
    (hm : Wf w mod) (hl : n = mod.length) (hA : A < val w mod) (hB : Bv < val w mod) :
    Residue w n mod (if r.2 ≠ 0 then (zzAdd2 w r.1 mod).1 else r.1)
      ((A + val w mod - Bv) % val w mod) := by
  obtain ⟨h1, hbw, hc, rfl⟩ := h
  obtain ⟨s1, s2, s3, s4⟩ := zzAdd2_repC w r.1 mod hc hm hl
  have hMP := val_lt hm
  rw [← hl] at hMP
  have hr := val_lt hc
  have hs := val_lt s3
  rw [s4] at hs
  split
  next hb =>
    obtain ⟨e1, e2⟩ := modsub_arith hA hB hMP hr hs s2 hbw h1 s1 (by rw [if_neg hb])
    exact ⟨e1, e2, s3, s4⟩
  next hb =>
    obtain ⟨e1, e2⟩ := modsub_arith (cy := 0) (t := 0) hA hB hMP hr hr (by omega) hbw h1 (by simp)
      (by rw [if_pos (by omega)])
    exact ⟨e1, e2, hc, rfl⟩

/-- SAFE: `mask = 0 - borrow; zzAddAndW(c, mod, n, mask)` is the FAST `if (borrow) zzAdd2(c, mod)` -/
theorem inc_safe_eq_fast (w : Nat) (hw : 0 < w) (c mod : List Nat) (bw : Nat)
    (hc : Wf w c) (hm : Wf w mod) (hl : c.length = mod.length) (hbw : bw ≤ 1) :
    zzAddAndW w c mod (wneg w bw) = if bw ≠ 0 then (zzAdd2 w c mod).1 else c := by
  rw [zzAddAndW_flag w hw c mod bw hbw hc hm hl, ← ite_not]

theorem zzAddMod_safe_eq_fast_wf (w : Nat) (hw : 0 < w) (a b mod : List Nat)
    (ha : Wf w a) (hb : Wf w b) (hm : Wf w mod)
    (hl1 : a.length = b.length) (hl2 : a.length = mod.length) :
    zzAddMod_safe w a b mod = zzAddMod_fast w a b mod := by
  obtain ⟨_, h2, h3, h4⟩ := zzAdd_repC w a b ha hb hl1
  unfold zzAddMod_safe zzAddMod_fast
  rw [zzAddMod_safeLoop_eq w a b mod 0 1 hl1 hl2]
  exact red_safe_eq_fast w hw _ mod _ h3 hm (h4.trans hl2) h2

theorem zzAddWMod_safe_eq_fast_wf (w : Nat) (hw : 0 < w) (a : List Nat) (x : Nat) (mod : List Nat)
    (ha : Wf w a) (hx : x < 2 ^ w) (hm : Wf w mod) (hl : a.length = mod.length) (hne : a ≠ []) :
    zzAddWMod_safe w a x mod = zzAddWMod_fast w a x mod := by
  obtain ⟨_, h2, h3, h4⟩ := zzAddW_repC w a x ha hx hne
  simp only [zzAddWMod_safe, zzAddWMod_fast, zzAddWMod_safeLoop_eq w a mod x 1 hl, wwCmp_safe_eq_fast]
  exact red_safe_eq_fast w hw _ mod _ h3 hm (h4.trans hl) h2

theorem zzDoubleMod_safe_eq_fast_wf (w : Nat) (hw : 0 < w) (a mod : List Nat)
    (ha : Wf w a) (hm : Wf w mod) (hl : a.length = mod.length) :
    zzDoubleMod_safe w a mod = zzDoubleMod_fast w a mod := by
  obtain ⟨_, h2, h3, h4⟩ := zzDoubleLoop_spec w hw a 0 ha (Nat.zero_le 1)
  simp only [zzDoubleMod_safe, zzDoubleMod_fast, zzDoubleMod_safeLoop_eq w a mod 0 1 hl,
    wwCmp_safe_eq_fast]
  exact red_safe_eq_fast w hw _ mod _ h3 hm (h4.trans hl) h2

theorem zzSubMod_safe_eq_fast_wf (w : Nat) (hw : 0 < w) (a b mod : List Nat)
    (ha : Wf w a) (hb : Wf w b) (hm : Wf w mod)
    (hl1 : a.length = b.length) (hl2 : a.length = mod.length) :
    zzSubMod_safe w a b mod = zzSubMod_fast w a b mod := by
  obtain ⟨_, h2, h3, h4⟩ := zzSub_repB w a b ha hb hl1
  exact inc_safe_eq_fast w hw _ mod _ h3 hm (h4.trans hl2) h2

theorem zzSubWMod_safe_eq_fast_wf (w : Nat) (hw : 0 < w) (a : List Nat) (x : Nat) (mod : List Nat)
    (ha : Wf w a) (hx : x < 2 ^ w) (hm : Wf w mod) (hl : a.length = mod.length) (hne : a ≠ []) :
    zzSubWMod_safe w a x mod = zzSubWMod_fast w a x mod := by
  obtain ⟨_, h2, h3, h4⟩ := zzSubW_repB w a x ha hx hne
  exact inc_safe_eq_fast w hw _ mod _ h3 hm (h4.trans hl) h2

/-! ## §10 zzHalfMod -/

theorem or_hi {k p bit : Nat} (hp : p < 2 ^ k) : p ||| (2 ^ k * bit) = p + 2 ^ k * bit := by
  rw [Nat.or_comm, ← Nat.two_pow_add_eq_or_of_lt hp, Nat.add_comm]

theorem wshl_bit {k bit : Nat} (hb : bit ≤ 1) : wshl (k + 1) bit k = 2 ^ k * bit := by
  have hH : 0 < 2 ^ k := Nat.two_pow_pos k
  have hpow : 2 ^ (k + 1) = 2 * 2 ^ k := by rw [Nat.pow_succ, Nat.mul_comm]
  show (bit * 2 ^ k) % 2 ^ (k + 1) = 2 ^ k * bit
  rw [Nat.mul_comm bit]
  apply Nat.mod_eq_of_lt
  obtain rfl | rfl : bit = 0 ∨ bit = 1 := by omega
  all_goals omega

/-- one word of the right shift: `out = x/2 + c 2^(w-1)`, `2 out + x%2 = x + B c` -/
theorem shrStep {k x c : Nat} (hx : x < 2 ^ (k + 1)) (hc : c ≤ 1) :
    2 * (wshr x 1 ||| wshl (k + 1) c k) + x % 2 = x + 2 ^ (k + 1) * c
    ∧ (wshr x 1 ||| wshl (k + 1) c k) < 2 ^ (k + 1) := by
  have hpow : 2 ^ (k + 1) = 2 * 2 ^ k := by rw [Nat.pow_succ, Nat.mul_comm]
  have hx2 : x / 2 < 2 ^ k := by omega
  rw [wshl_bit hc]
  show 2 * (x / 2 ^ 1 ||| 2 ^ k * c) + x % 2 = _ ∧ (x / 2 ^ 1 ||| 2 ^ k * c) < _
  rw [Nat.pow_one, or_hi hx2, hpow]
  have e := mul01 (2 ^ k) hc
  have e2 : 2 * 2 ^ k * c = 2 * (2 ^ k * c) := by rw [Nat.mul_assoc]
  constructor
  · omega
  · split_ifs at e <;> omega

/-- the carry leaving the top-down shift loop: the parity of the last (lowest) word -/
def halfOut : List Nat → Nat → Nat
  | [], c => c
  | x :: xs, _ => halfOut xs (x % 2)

theorem halfOut_append (xs : List Nat) (x c : Nat) : halfOut (xs ++ [x]) c = x % 2 := by
  induction xs generalizing c with
  | nil => rfl
  | cons y ys ih => simp only [List.cons_append, halfOut, ih]

theorem Wf_reverse {w : Nat} {l : List Nat} (h : Wf w l) : Wf w l.reverse :=
  fun x hx => h x (List.mem_reverse.mp hx)

theorem zzHalfLoop_length (w : Nat) (t : List Nat) (c : Nat) : (zzHalfLoop w t c).length = t.length := by
  induction t generalizing c with
  | nil => rfl
  | cons x xs ih => simp [zzHalfLoop, ih]

/-- the shift loop of FAST(zzHalfMod) (top word first) halves `value + B^n carry` -/
theorem zzHalfLoop_spec (k : Nat) (t : List Nat) (c : Nat) (ht : Wf (k + 1) t) (hc : c ≤ 1) :
    2 * val (k + 1) (zzHalfLoop (k + 1) t c).reverse + halfOut t c
      = val (k + 1) t.reverse + 2 ^ ((k + 1) * t.length) * c
    ∧ Wf (k + 1) (zzHalfLoop (k + 1) t c) := by
  induction t generalizing c with
  | nil => simp [zzHalfLoop, halfOut, val, Wf_nil]
  | cons x xs ih =>
    obtain ⟨hx, hxs⟩ := Wf_cons.mp ht
    obtain ⟨i1, i2⟩ := ih (x % 2) hxs (by omega)
    obtain ⟨s1, s2⟩ := shrStep hx hc
    have hP : 2 ^ ((k + 1) * (xs.length + 1)) = 2 ^ ((k + 1) * xs.length) * 2 ^ (k + 1) := by
      rw [Nat.mul_succ, Nat.pow_add]
    simp only [zzHalfLoop, Nat.add_sub_cancel, List.reverse_cons, val_snoc, List.length_reverse,
      zzHalfLoop_length, halfOut, List.length_cons, hP]
    refine ⟨?_, Wf_cons.mpr ⟨s2, i2⟩⟩
    generalize (wshr x 1 ||| wshl (k + 1) c k) = y at *
    generalize 2 ^ ((k + 1) * xs.length) = Q at *
    have h3 : Q * (2 * y + x % 2) = Q * (x + 2 ^ (k + 1) * c) := by rw [s1]
    simp only [Nat.mul_add] at h3
    have h4 : Q * (2 * y) = 2 * (Q * y) := by ring
    have h5 : Q * (2 ^ (k + 1) * c) = Q * 2 ^ (k + 1) * c := by ring
    omega

theorem val_mod_two (k x : Nat) (xs : List Nat) : val (k + 1) (x :: xs) % 2 = x % 2 := by
  have hpow : 2 ^ (k + 1) * val (k + 1) xs = 2 * (2 ^ k * val (k + 1) xs) := by
    rw [Nat.pow_succ]; ring
  rw [val_cons, hpow]
  omega

theorem halfOut_reverse (k : Nat) (l : List Nat) (hne : l ≠ []) (c : Nat) :
    halfOut l.reverse c = val (k + 1) l % 2 := by
  cases l with
  | nil => exact absurd rfl hne
  | cons x xs => rw [List.reverse_cons, halfOut_append, val_mod_two]

theorem zzIsOdd_iff (k : Nat) (a : List Nat) : zzIsOdd a = true ↔ val (k + 1) a % 2 = 1 := by
  cases a with
  | nil => simp [zzIsOdd, val]
  | cons x xs => rw [val_mod_two]; simp [zzIsOdd]

/-- the whole top-down shift, in little-endian terms -/
theorem halfShift_spec (k : Nat) (l : List Nat) (c : Nat) (hl : Wf (k + 1) l) (hc : c ≤ 1)
    (hne : l ≠ []) :
    2 * val (k + 1) (zzHalfLoop (k + 1) l.reverse c).reverse + val (k + 1) l % 2
      = val (k + 1) l + 2 ^ ((k + 1) * l.length) * c
    ∧ Wf (k + 1) (zzHalfLoop (k + 1) l.reverse c).reverse
    ∧ (zzHalfLoop (k + 1) l.reverse c).reverse.length = l.length := by
  obtain ⟨h1, h2⟩ := zzHalfLoop_spec k l.reverse c (Wf_reverse hl) hc
  rw [List.reverse_reverse, List.length_reverse, halfOut_reverse k l hne] at h1
  exact ⟨h1, Wf_reverse h2, by rw [List.length_reverse, zzHalfLoop_length, List.length_reverse]⟩

/-- `B^n` is even for a non-empty number -/
theorem pow_even (k n : Nat) (hn : 0 < n) (c : Nat) : ∃ q, 2 ^ ((k + 1) * n) * c = 2 * q := by
  obtain ⟨m, hm⟩ : ∃ m, (k + 1) * n = m + 1 := ⟨(k + 1) * n - 1, by
    have : 1 ≤ (k + 1) * n := Nat.mul_pos (by omega) hn
    omega⟩
  exact ⟨2 ^ m * c, by rw [hm, Nat.pow_succ]; ring⟩

/-! ### SAFE(zzHalfMod) -/

/-- the adder step of SAFE(zzHalfMod): `b = a + carry; carry = b < carry; b += t; carry |= b < t` -/
def add3Step (w : Nat) (c x y : Nat) : Nat × Nat :=
  (wless01 (wadd w x c) c ||| wless01 (wadd w (wadd w x c) y) y, wadd w (wadd w x c) y)

theorem add3Step_ok (w : Nat) : CarryOK w (· ≤ 1) 1 1 (add3Step w) := by
  intro c x y hc hx hy
  have ht : (x + c) % 2 ^ w < 2 ^ w := Nat.mod_lt _ (by omega)
  rcases add_wrap hx (by omega : c ≤ 2 ^ w) with ⟨h1, k1⟩ | ⟨h1, k1⟩ <;>
  rcases add_wrap ht (Nat.le_of_lt hy) with ⟨h2, k2⟩ | ⟨h2, k2⟩ <;>
  simp only [add3Step, wadd, wless01, k1, k2, if_true, if_false, Nat.or_zero, Nat.zero_or,
    Nat.or_self] <;> omega

/-- low-to-high right shift of the sum words `ss` with top carry `cout`; `prev` is the already
    shifted previous word waiting for its top bit -/
def shrLE (w : Nat) : Nat → List Nat → Nat → List Nat
  | prev, [], cout => [prev ||| wshl w cout (w - 1)]
  | prev, s :: ss, cout => (prev ||| wshl w (s % 2) (w - 1)) :: shrLE w (wshr s 1) ss cout

theorem zzHalfMod_safeLoop_eq (w : Nat) (as ms : List Nat) (mask carry prev : Nat)
    (hl : as.length = ms.length) :
    zzHalfMod_safeLoop w as ms mask carry prev
      = shrLE w prev (pure2 (add3Step w) carry as (ms.map (mask &&& ·))).1
          (pure2 (add3Step w) carry as (ms.map (mask &&& ·))).2 := by
  induction as generalizing ms carry prev with
  | nil =>
    cases ms with
    | nil => simp [zzHalfMod_safeLoop, pure2, shrLE]
    | cons _ _ => simp at hl
  | cons x xs ih =>
    cases ms with
    | nil => simp at hl
    | cons m ms =>
      simp only [zzHalfMod_safeLoop, List.map_cons, pure2, shrLE, add3Step]
      rw [ih ms _ _ (by simpa using hl)]

theorem shrLE_spec (k : Nat) (prev : Nat) (ss : List Nat) (cout : Nat)
    (hp : prev < 2 ^ k) (hss : Wf (k + 1) ss) (hc : cout ≤ 1) :
    val (k + 1) (shrLE (k + 1) prev ss cout)
      = prev + 2 ^ k * (val (k + 1) ss + 2 ^ ((k + 1) * ss.length) * cout)
    ∧ Wf (k + 1) (shrLE (k + 1) prev ss cout)
    ∧ (shrLE (k + 1) prev ss cout).length = ss.length + 1 := by
  have hpow : 2 ^ (k + 1) = 2 * 2 ^ k := by rw [Nat.pow_succ, Nat.mul_comm]
  induction ss generalizing prev with
  | nil =>
    have e := mul01 (2 ^ k) hc
    have h0 : shrLE (k + 1) prev [] cout = [prev + 2 ^ k * cout] := by
      simp only [shrLE, Nat.add_sub_cancel, wshl_bit hc, or_hi hp]
    rw [h0]
    refine ⟨by simp [val], Wf_cons.mpr ⟨?_, Wf_nil _⟩, rfl⟩
    split_ifs at e <;> omega
  | cons s ss ih =>
    obtain ⟨hs, hss'⟩ := Wf_cons.mp hss
    have hw2 : wshr s 1 = s / 2 := by show s / 2 ^ 1 = s / 2; rw [Nat.pow_one]
    have hs2 : s / 2 < 2 ^ k := by omega
    obtain ⟨i1, i2, i3⟩ := ih (s / 2) hs2 hss'
    have hb : s % 2 ≤ 1 := by omega
    have e := mul01 (2 ^ k) hb
    have h0 : shrLE (k + 1) prev (s :: ss) cout
        = (prev + 2 ^ k * (s % 2)) :: shrLE (k + 1) (s / 2) ss cout := by
      simp only [shrLE, Nat.add_sub_cancel, wshl_bit hb, or_hi hp, hw2]
    have hP : 2 ^ ((k + 1) * (ss.length + 1)) = 2 ^ ((k + 1) * ss.length) * 2 ^ (k + 1) := by
      rw [Nat.mul_succ, Nat.pow_add]
    rw [h0, val_cons, val_cons, i1, List.length_cons, List.length_cons, i3, hP]
    refine ⟨?_, Wf_cons.mpr ⟨by split_ifs at e <;> omega, i2⟩, rfl⟩
    generalize val (k + 1) ss = V
    generalize 2 ^ ((k + 1) * ss.length) = Q
    have h1 : 2 ^ (k + 1) * (s / 2 + 2 ^ k * (V + Q * cout))
        = 2 ^ k * (2 * (s / 2)) + 2 ^ k * (2 ^ (k + 1) * V + Q * 2 ^ (k + 1) * cout) := by
      rw [hpow]; ring
    have h2 : 2 ^ k * (2 * (s / 2)) + 2 ^ k * (s % 2) = 2 ^ k * s := by
      rw [← Nat.mul_add]; congr 1; omega
    have h3 : 2 ^ k * (s + 2 ^ (k + 1) * V + Q * 2 ^ (k + 1) * cout)
        = 2 ^ k * s + 2 ^ k * (2 ^ (k + 1) * V + Q * 2 ^ (k + 1) * cout) := by ring
    rw [h1, h3, ← h2]
    omega

/-- the first iteration of SAFE(zzHalfMod) runs without a carry -/
theorem add3Step_zero {w x : Nat} (hx : x < 2 ^ w) (y : Nat) :
    add3Step w 0 x y = (wless01 (wadd w x y) y, wadd w x y) := by
  simp only [add3Step, wadd, wless01, Nat.add_zero, Nat.mod_eq_of_lt hx, if_false,
    Nat.not_lt_zero, Nat.zero_or]

/-- SAFE(zzHalfMod) is the low-to-high shift of what its adder `a + (mod & mask)` produces -/
theorem zzHalfMod_safe_eq (w : Nat) (a0 : Nat) (as : List Nat) (m0 : Nat) (ms : List Nat)
    (ha0 : a0 < 2 ^ w) (hl : as.length = ms.length) (L : List Nat × Nat)
    (hL : L = pure2 (add3Step w) 0 (a0 :: as) ((m0 :: ms).map (wneg w (a0 % 2) &&& ·))) :
    zzHalfMod_safe w (a0 :: as) (m0 :: ms) = shrLE w (wshr (L.1.headD 0) 1) L.1.tail L.2 := by
  subst hL
  simp only [zzHalfMod_safe, List.map_cons, pure2, add3Step_zero ha0, List.headD_cons,
    List.tail_cons]
  exact zzHalfMod_safeLoop_eq _ _ _ _ _ _ hl

theorem shrLE_half {k n V : Nat} {r : List Nat × Nat} (h : RepC (k + 1) (n + 1) r V) :
    Rep (k + 1) (n + 1) (shrLE (k + 1) (wshr (r.1.headD 0) 1) r.1.tail r.2) (V / 2) := by
  obtain ⟨h1, h2, h3, h4⟩ := h
  obtain ⟨s0, ss, hr⟩ : ∃ s0 ss, r.1 = s0 :: ss := by
    cases h : r.1 with
    | nil => rw [h] at h4; simp at h4
    | cons s0 ss => exact ⟨s0, ss, rfl⟩
  rw [hr] at h1 h3 h4 ⊢
  obtain ⟨hs0, hss⟩ := Wf_cons.mp h3
  have hn : ss.length = n := by simpa using h4
  have hpow : 2 ^ (k + 1) = 2 * 2 ^ k := by rw [Nat.pow_succ, Nat.mul_comm]
  have hw2 : wshr s0 1 = s0 / 2 := by show s0 / 2 ^ 1 = s0 / 2; rw [Nat.pow_one]
  obtain ⟨v1, v2, v3⟩ := shrLE_spec k (s0 / 2) ss r.2 (by omega) hss h2
  simp only [List.headD_cons, List.tail_cons, hw2]
  refine ⟨v2, by rw [v3, hn], ?_⟩
  have hP : 2 ^ ((k + 1) * (n + 1)) = 2 ^ ((k + 1) * n) * (2 * 2 ^ k) := by
    rw [Nat.mul_succ, Nat.pow_add, hpow]
  rw [v1, ← h1, val_cons, hn, hP, hpow]
  generalize val (k + 1) ss = X
  generalize 2 ^ ((k + 1) * n) = Q
  have e : s0 + 2 * 2 ^ k * X + Q * (2 * 2 ^ k) * r.2 = s0 + 2 * (2 ^ k * (X + Q * r.2)) := by ring
  rw [e]
  omega

theorem half_arith {A M H : Nat} (hodd : M % 2 = 1) (hA : A < M)
    (h : 2 * H = if A % 2 = 1 then A + M else A) : (2 * H) % M = A ∧ H < M := by
  split_ifs at h
  · rw [h, Nat.add_mod_right, Nat.mod_eq_of_lt hA]; omega
  · rw [h, Nat.mod_eq_of_lt hA]; omega

theorem half_sum {A M : Nat} {c : Prop} [Decidable c] (hc : c ↔ A % 2 = 0) (hodd : M % 2 = 1) :
    2 * ((A + if c then 0 else M) / 2) = if A % 2 = 1 then A + M else A := by
  by_cases hz : A % 2 = 0
  · rw [if_pos (hc.mpr hz), if_neg (by omega)]; omega
  · rw [if_neg (fun h => hz (hc.mp h)), if_pos (by omega)]; omega

end Bee2V.C05.Add
