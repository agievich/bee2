/-
C05 — remaining functions of the arithmetic layer (models: ModelMisc.lean, helper lemmas:
LemmasMisc.lean): zzAdd3, zzMulMod / zzSqrMod / zzMulWMod / zzRed, zzInvMod, zzLCM, zzIsCoprime,
zzRandMod / zzRandNZMod, wwNAF.
-/
import Bee2V.C05.LemmasMisc
import Bee2V.C05.PropsAdd
import Bee2V.C05.PropsMul
import Bee2V.C05.PropsDiv
import Bee2V.C05.PropsGcd
namespace Bee2V.C05
open Bee2V.C05.Add Bee2V.C05.Misc

/-! ## zzAdd3 -/

/-- zzAdd3: `c + B^max(n,m) carry = a + b` for operands of any two lengths. -/
theorem zzAdd3_spec (w : Nat) (hw : 0 < w) (a b : List Nat) (ha : Wf w a) (hb : Wf w b) :
    val w (zzAdd3 w a b).1 + 2 ^ (w * max a.length b.length) * (zzAdd3 w a b).2 = val w a + val w b
    ∧ (zzAdd3 w a b).2 ≤ 1 ∧ Wf w (zzAdd3 w a b).1
    ∧ (zzAdd3 w a b).1.length = max a.length b.length := by
  unfold zzAdd3
  simp only []
  by_cases h1 : a.length > b.length
  · rw [if_pos h1, Nat.max_eq_left (by omega)]
    have htl : (a.take b.length).length = b.length := by rw [List.length_take]; omega
    have h := zzAdd_repC w (a.take b.length) b (Wf_take ha _) hb htl
    rw [htl, val_take ha] at h
    exact add3_tail hw h (Rep.mk' ha) h1
  · rw [if_neg h1]
    by_cases h2 : a.length < b.length
    · rw [if_pos h2, Nat.max_eq_right (by omega), Nat.add_comm (val w a)]
      have htl : a.length = (b.take a.length).length := by rw [List.length_take]; omega
      have h := zzAdd_repC w a (b.take a.length) ha (Wf_take hb _) htl
      rw [val_take hb, Nat.add_comm] at h
      exact add3_tail hw h (Rep.mk' hb) h2
    · rw [if_neg h2, Nat.max_eq_left (by omega)]
      exact zzAdd_spec w a b ha hb (by omega)

example : zzAdd3 64 [2 ^ 64 - 1, 2 ^ 64 - 1, 2 ^ 64 - 1] [1] = ([0, 0, 0], 1)
    ∧ zzAdd3 64 [5] [2 ^ 64 - 1, 2 ^ 64 - 1, 7] = ([4, 0, 8], 0) := by decide

/-! ## modular multiplication, general reduction (word level) -/

/-- zzMulMod: `c = a b mod mod` (header: n > 0, mod[n-1] ≠ 0; `a, b < mod` is not needed). -/
theorem zzMulMod_spec (w : Nat) (a b mod : List Nat) (ha : Wf w a) (hb : Wf w b) (hm : Wf w mod)
    (hne : mod ≠ []) (htop : mod.getLast hne ≠ 0) :
    val w (zzMulMod w a b mod) = (val w a * val w b) % val w mod
    ∧ Wf w (zzMulMod w a b mod) ∧ (zzMulMod w a b mod).length = mod.length := by
  obtain ⟨p1, p2, _⟩ := zzMul_spec w a b ha hb
  obtain ⟨q1, q2, q3⟩ := zzMod_spec w (zzMul w a b) mod p2 hm hne htop
  exact ⟨by unfold zzMulMod; rw [q1, p1], q2, q3⟩

/-- zzSqrMod: `b = a^2 mod mod`. -/
theorem zzSqrMod_spec (w : Nat) (hw : 0 < w) (a mod : List Nat) (ha : Wf w a) (hm : Wf w mod)
    (hne : mod ≠ []) (htop : mod.getLast hne ≠ 0) :
    val w (zzSqrMod w a mod) = (val w a ^ 2) % val w mod
    ∧ Wf w (zzSqrMod w a mod) ∧ (zzSqrMod w a mod).length = mod.length := by
  obtain ⟨p1, p2, _⟩ := zzSqr_spec w hw a ha
  obtain ⟨q1, q2, q3⟩ := zzMod_spec w (zzSqr w a) mod p2 hm hne htop
  exact ⟨by unfold zzSqrMod; rw [q1, p1], q2, q3⟩

/-- zzMulWMod: `b = a x mod mod` for a word x. -/
theorem zzMulWMod_spec (w : Nat) (a : List Nat) (x : Nat) (mod : List Nat) (ha : Wf w a)
    (hx : x < 2 ^ w) (hm : Wf w mod) (hne : mod ≠ []) (htop : mod.getLast hne ≠ 0) :
    val w (zzMulWMod w a x mod) = (val w a * x) % val w mod
    ∧ Wf w (zzMulWMod w a x mod) ∧ (zzMulWMod w a x mod).length = mod.length := by
  obtain ⟨p1, p2, p3, p4⟩ := zzMulW_spec w a x ha hx
  have hW : Wf w ((zzMulW w a x).1 ++ [(zzMulW w a x).2]) :=
    Wf_append.mpr ⟨p3, Wf_cons.mpr ⟨p2, Wf_nil w⟩⟩
  have hv : val w ((zzMulW w a x).1 ++ [(zzMulW w a x).2]) = val w a * x := by
    rw [val_append, p4, ← p1]; simp [val]
  obtain ⟨q1, q2, q3⟩ := zzMod_spec w _ mod hW hm hne htop
  exact ⟨by unfold zzMulWMod; rw [q1, hv], q2, q3⟩

/-- zzRed: `a mod mod`, n words. -/
theorem zzRed_spec (w : Nat) (a mod : List Nat) (ha : Wf w a) (hm : Wf w mod)
    (hne : mod ≠ []) (htop : mod.getLast hne ≠ 0) :
    val w (zzRed w a mod) = val w a % val w mod
    ∧ Wf w (zzRed w a mod) ∧ (zzRed w a mod).length = mod.length :=
  zzMod_spec w a mod ha hm hne htop

example : zzMulMod 8 [200, 100] [250, 99] [7, 255] = toWords 8 2 ((200 + 256 * 100) * (250 + 256 * 99) % (7 + 256 * 255))
    ∧ zzSqrMod 8 [200, 100] [7, 255] = toWords 8 2 ((200 + 256 * 100) ^ 2 % (7 + 256 * 255))
    ∧ zzMulWMod 8 [200, 100] 251 [7, 255] = toWords 8 2 ((200 + 256 * 100) * 251 % (7 + 256 * 255))
    ∧ zzRed 8 [1, 2, 3, 4] [7, 255] = toWords 8 2 ((1 + 256 * (2 + 256 * (3 + 256 * 4))) % (7 + 256 * 255)) := by
  decide +kernel

/-! ## value level: zzInvMod, zzLCM, zzIsCoprime -/

/-- zzInvMod: `b a ≡ 1 (mod mod)` for odd mod > 1, a < mod coprime to mod; 0 otherwise. -/
theorem zzInvModV_spec (a m : Nat) (hm : m % 2 = 1) (hm1 : 1 < m) (ha : a < m) :
    (Nat.gcd a m = 1 → (zzInvModV a m * a) % m = 1 ∧ zzInvModV a m < m)
    ∧ (Nat.gcd a m ≠ 1 → zzInvModV a m = 0) := by
  unfold zzInvModV
  constructor
  · intro hg
    obtain ⟨h1, h2⟩ := zzDivModV_spec 1 a m hm ha hm1 hg
    rw [Nat.mod_eq_of_lt hm1] at h1
    exact ⟨h1, h2⟩
  · intro hg
    exact zzDivModV_not_coprime 1 a m hm ha hm1 hg

example : zzInvModV (10 ^ 19 + 7) (2 ^ 65 + 1) * (10 ^ 19 + 7) % (2 ^ 65 + 1) = 1
    ∧ zzInvModV 21 (3 * (2 ^ 64 + 1)) = 0 := by decide +kernel

/-- zzLCM computes the least common multiple (a, b ≠ 0). -/
theorem zzLCMV_spec (a b : Nat) (ha : 0 < a) (hb : 0 < b) : zzLCMV a b = Nat.lcm a b := by
  unfold zzLCMV Nat.lcm
  rw [zzGCDV_spec a b ha hb]

example : zzLCMV (6 * (2 ^ 64 + 1)) (10 * (2 ^ 64 + 1)) = 30 * (2 ^ 64 + 1) := by decide +kernel

/-- zzIsCoprime decides `gcd(a, b) = 1` for all a, b (including the zero shortcuts). -/
theorem zzIsCoprimeV_spec (a b : Nat) : zzIsCoprimeV a b = decide (Nat.gcd a b = 1) := by
  rw [Bool.eq_iff_iff, decide_eq_true_iff]
  unfold zzIsCoprimeV
  by_cases ha : a = 0
  · subst ha; rw [if_pos rfl, Nat.gcd_zero_left, beq_iff_eq]
  · rw [if_neg ha]
    by_cases hb : b = 0
    · subst hb; rw [if_pos rfl, Nat.gcd_zero_right, beq_iff_eq]
    · rw [if_neg hb, zzGCDV_spec a b (by omega) (by omega), beq_iff_eq]

example : zzIsCoprimeV (3 * 2 ^ 70) (5 ^ 30) = true ∧ zzIsCoprimeV 0 1 = true
    ∧ zzIsCoprimeV 0 7 = false ∧ zzIsCoprimeV 21 (3 * (2 ^ 64 + 1)) = false := by decide +kernel

/-! ## zzRandMod / zzRandNZMod as functions of the generator tape

`randCand l c tape j` is the j-th chunk of c = O_OF_B(l) octets (little-endian) trimmed to
l = wwBitSize(mod) bits; `randBad mod nz v` is the loop condition (v ≥ mod, or v = 0 for NZ).
The loop makes 65 attempts (129 for zzRandNZMod with l ≤ 16). -/

/-- zzRandMod / zzRandNZMod return the first acceptable chunk among the first `tries`
    (consuming (j+1) c octets), fail exactly when all of them are rejected (consuming tries c
    octets), and a returned value is `< mod` (and `≠ 0` for NZ). -/
theorem zzRandModV_spec (m : Nat) (tape : List Nat) (nz : Bool) :
    let l := bitLenV m
    let c := (l + 7) / 8
    let tries := (if nz ∧ l ≤ 16 then 2 * 64 else 64) + 1
    (∀ j < tries, (∀ k < j, randBad m nz (randCand l c tape k) = true) →
        randBad m nz (randCand l c tape j) = false →
        zzRandModV m tape nz = (some (randCand l c tape j), (j + 1) * c))
    ∧ ((∀ j < tries, randBad m nz (randCand l c tape j) = true) →
        zzRandModV m tape nz = (none, tries * c))
    ∧ (∀ v, (zzRandModV m tape nz).1 = some v → v < m ∧ (nz = true → v ≠ 0)) := by
  intro l c tries
  refine ⟨?_, ?_, ?_⟩
  · intro j hj hbad hgood
    have := zzRandModLoop_found m l c nz (if nz ∧ l ≤ 16 then 2 * 64 else 64) tape 0 j
      (by omega) hbad hgood
    simpa [zzRandModV] using this
  · intro hbad
    have := zzRandModLoop_none m l c nz (if nz ∧ l ≤ 16 then 2 * 64 else 64) tape 0
      (fun k hk => hbad k (by omega))
    simpa [zzRandModV] using this
  · intro v hv
    have := zzRandModLoop_some m l c nz (if nz ∧ l ≤ 16 then 2 * 64 else 64) tape 0 v hv
    unfold randBad at this
    simp only [Bool.or_eq_false_iff, Bool.and_eq_false_imp, decide_eq_false_iff_not] at this
    refine ⟨by omega, fun h => ?_⟩
    have := this.1 h
    simpa using this

example : zzRandModV 1000 [0xff, 0xff, 0xe8, 0x03, 0x05, 0x01] false = (some 0x105, 6)
    ∧ zzRandModV 1000 [0, 0, 7, 0] true = (some 7, 4)
    ∧ (zzRandModV 5 (List.replicate 70 0xff) false) = (none, 65)
    ∧ (zzRandModV 5 (List.replicate 130 0) true) = (none, 129) := by decide +kernel

/-! ## wwNAF

`nafSum ds = Σ ds[i] 2^i`.  Window w, 2 ≤ w < B_PER_W = W (the header's precondition). -/

/-- wwNAF, part 1: the digits sum to `a`; every digit is 0 or odd with `|d| < 2^(w-1)`;
    the returned size is the number of digits.  (The loop's fuel is proved sufficient here.) -/
theorem wwNAF_value (W a w : Nat) (hw : 2 ≤ w) (hwW : w < W) :
    nafSum (wwNAFDigits W a w) = a
    ∧ (∀ d ∈ wwNAFDigits W a w,
        d = 0 ∨ (d % 2 = 1 ∧ -(2 ^ (w - 1) : ℤ) < d ∧ d < 2 ^ (w - 1)))
    ∧ (wwNAFV W a w).1 = (wwNAFDigits W a w).length := by
  obtain ⟨k, rfl⟩ : ∃ k, w = k + 2 := ⟨w - 2, by omega⟩
  unfold wwNAFDigits wwNAFV wwNAFAll
  by_cases ha : a = 0
  · subst ha; simp [nafSum]
  · simp only [if_neg ha]
    obtain ⟨h1, h2, h3, _⟩ := nafLoop_top W k a hwW ha
    exact ⟨h1, h2, h3⟩

/-- wwNAF, part 2: the code word decodes (a_{l-1} first: a 0 bit = zero symbol, otherwise w bits
    sign ‖ magnitude) to the digits; for a ≠ 0 the top digit a_{l-1} is non-zero; the length is at
    most `wwBitSize(a) + 1`; non-adjacency as the code guarantees it (`Misc.nafGapOK`):
    any non-zero digit is at least w positions after the previous non-zero digit, except that the
    LAST digit may be only w - 1 positions after it.

    Header inconsistency (ww.h): the fourth property "among any w consecutive symbols only one is
    non-zero" cannot hold together with the last remark of the same header: when the computation
    would end with the suffix (α, 0, …, 0, 1), α < 0, w - 1 zeros, the code replaces it by
    (β, 0, …, 0, 1), β = 2^(w-1) + α > 0, with w - 2 zeros — two non-zero symbols among the last
    w.  The code implements the remark (it is what makes the length bound hold); the property
    should read "…, except possibly for the last w symbols". -/
theorem wwNAF_spec (W a w : Nat) (hw : 2 ≤ w) (hwW : w < W) :
    nafDecode w (wwNAFV W a w).1 (wwNAFV W a w).2 = (wwNAFDigits W a w).reverse
    ∧ (a ≠ 0 → ∃ d, (wwNAFDigits W a w).getLast? = some d ∧ d ≠ 0)
    ∧ (wwNAFV W a w).1 ≤ bitLenV a + 1
    ∧ nafGapOK w none (wwNAFDigits W a w) := by
  obtain ⟨k, rfl⟩ : ∃ k, w = k + 2 := ⟨w - 2, by omega⟩
  unfold wwNAFDigits wwNAFV wwNAFAll
  by_cases ha : a = 0
  · subst ha; simp [nafDecode, nafGapOK]
  · simp only [if_neg ha]
    obtain ⟨_, _, _, h4, h5, h6, h7⟩ := nafLoop_top W k a hwW ha
    exact ⟨h4, fun _ => h6, h5, h7⟩

example : wwNAFDigits 64 (2 ^ 70 - 5) 4 = [-5, 0, 0, 0, 0, 0, 0, 0, 0, 0, 0, 0, 0, 0, 0, 0, 0, 0,
      0, 0, 0, 0, 0, 0, 0, 0, 0, 0, 0, 0, 0, 0, 0, 0, 0, 0, 0, 0, 0, 0, 0, 0, 0, 0, 0, 0, 0, 0, 0, 0,
      0, 0, 0, 0, 0, 0, 0, 0, 0, 0, 0, 0, 0, 0, 0, 0, 0, 0, 0, 0, 1]
    ∧ wwNAFV 64 0xE7 3 = (9, 21377)
    ∧ wwNAFDigits 64 0xE7 3 = [-1, 0, 0, -3, 0, 0, 0, 0, 1]
    ∧ nafDecode 3 9 21377 = (wwNAFDigits 64 0xE7 3).reverse := by decide +kernel

/-- the suffix exception in action (w = 3): the last two non-zero digits are w - 1 = 2 apart. -/
example : wwNAFDigits 64 7 3 = [3, 0, 1] ∧ wwNAFDigits 64 39 3 = [-1, 0, 0, 1, 0, 1]
    ∧ wwNAFDigits 64 0xE7 3 = [-1, 0, 0, -3, 0, 0, 0, 0, 1] := by decide +kernel

end Bee2V.C05
