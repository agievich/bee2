/-
C05 — lemmas: the memory loops of ModelAlias.lean equal the pure list computations under the
documented same-or-disjoint hypotheses (that ModelAdd/ModelMul's loops are those pure computations is
in LemmasLoops.lean); `Upd`: what a run leaves in memory, and how a second phase on the same output
region composes with it.
-/
import Bee2V.C05.LemmasLoops
namespace Bee2V.C05.Alias

variable {σ : Type}

/-! ## memory -/

@[simp] theorem write_same (m : Mem) (k v : Nat) : write m k v k = v := by simp [write]
theorem write_other (m : Mem) (k v j : Nat) (h : j ≠ k) : write m k v j = m j := by
  simp [write, h]

@[simp] theorem readN_length (m : Mem) (a n : Nat) : (readN m a n).length = n := by
  induction n generalizing a with
  | zero => rfl
  | succ n ih => simp [readN, ih]

theorem readN_congr (m m' : Mem) (a n : Nat) (h : ∀ j, a ≤ j → j < a + n → m' j = m j) :
    readN m' a n = readN m a n := by
  induction n generalizing a with
  | zero => rfl
  | succ n ih =>
    simp only [readN]
    rw [h a (Nat.le_refl _) (by omega), ih (a + 1) (fun j h1 h2 => h j (by omega) (by omega))]

theorem readN_write (m : Mem) (k v a n : Nat) (h : k < a ∨ a + n ≤ k) :
    readN (write m k v) a n = readN m a n :=
  readN_congr _ _ _ _ (fun j h1 h2 => write_other _ _ _ _ (by omega))

theorem readN_snoc (m : Mem) (a n : Nat) : readN m a (n + 1) = readN m a n ++ [m (a + n)] := by
  induction n generalizing a with
  | zero => simp [readN]
  | succ n ih =>
    rw [readN, ih (a + 1), readN]
    simp [show a + 1 + n = a + (n + 1) by omega]

/-! ## binary ascending loop -/

theorem loop2I_spec (step : σ → Nat → Nat → σ × Nat) (a b c k : Nat) :
    ∀ (i : Nat) (s : σ) (m : Mem),
    (c = a ∨ Disj (c + i) (a + i) k) → (c = b ∨ Disj (c + i) (b + i) k) →
    readN (loop2I step a b c i k s m).1 (c + i) k
        = (pure2 step s (readN m (a + i) k) (readN m (b + i) k)).1
    ∧ (loop2I step a b c i k s m).2 = (pure2 step s (readN m (a + i) k) (readN m (b + i) k)).2
    ∧ ∀ j, (j < c + i ∨ c + i + k ≤ j) → (loop2I step a b c i k s m).1 j = m j := by
  induction k with
  | zero => intro i s m _ _; simp [loop2I, readN, pure2]
  | succ k ih =>
    intro i s m ha hb
    simp only [Disj] at ha hb
    simp only [loop2I, readN, pure2]
    obtain ⟨h1, h2, h3⟩ := ih (i + 1) (step s (m (a + i)) (m (b + i))).1
      (write m (c + i) (step s (m (a + i)) (m (b + i))).2)
      (by simp only [Disj]; omega) (by simp only [Disj]; omega)
    simp only [← Nat.add_assoc] at h1 h2 h3
    rw [readN_write m (c + i) _ (a + i + 1) k (by omega),
      readN_write m (c + i) _ (b + i + 1) k (by omega)] at h1 h2
    refine ⟨?_, h2, ?_⟩
    · rw [h1, h3 (c + i) (by omega), write_same]
    · intro j hj
      rw [h3 j (by omega), write_other _ _ _ _ (by omega)]

/-! ## in/out loop = binary loop whose output region is its first input region -/

theorem loopIOI_eq (step : σ → Nat → Nat → σ × Nat) (b a k : Nat) :
    ∀ (i : Nat) (s : σ) (m : Mem), loopIOI step b a i k s m = loop2I step b a b i k s m := by
  induction k with
  | zero => intro i s m; rfl
  | succ k ih => intro i s m; simp only [loopIOI, loop2I, ih]

theorem loopIO_eq (step : σ → Nat → Nat → σ × Nat) (b a n : Nat) (s : σ) (m : Mem) :
    loopIO step b a n s m = loop2 step b a b n s m := loopIOI_eq step b a n 0 s m

/-! ## unary ascending loop = binary loop that reads `a[i]` twice and ignores the second word -/

theorem loop1I_eq (step : σ → Nat → σ × Nat) (a c k : Nat) :
    ∀ (i : Nat) (s : σ) (m : Mem),
    loop1I step a c i k s m = loop2I (fun s x _ => step s x) a a c i k s m := by
  induction k with
  | zero => intro i s m; rfl
  | succ k ih => intro i s m; simp only [loop1I, loop2I, ih]

theorem loop1I_spec (step : σ → Nat → σ × Nat) (a c k : Nat) :
    ∀ (i : Nat) (s : σ) (m : Mem),
    (c = a ∨ Disj (c + i) (a + i) k) →
    readN (loop1I step a c i k s m).1 (c + i) k = (pure1 step s (readN m (a + i) k)).1
    ∧ (loop1I step a c i k s m).2 = (pure1 step s (readN m (a + i) k)).2
    ∧ ∀ j, (j < c + i ∨ c + i + k ≤ j) → (loop1I step a c i k s m).1 j = m j := by
  intro i s m ha
  rw [loop1I_eq, pure1_eq]
  exact loop2I_spec _ a a c k i s m ha ha

/-! ## descending loop -/

theorem loop1Desc_spec (step : σ → Nat → σ × Nat) (a c n : Nat) :
    ∀ (s : σ) (m : Mem), (c = a ∨ Disj c a n) →
    readN (loop1Desc step a c n s m).1 c n = (pure1Desc step s (readN m a n)).1
    ∧ (loop1Desc step a c n s m).2 = (pure1Desc step s (readN m a n)).2
    ∧ ∀ j, (j < c ∨ c + n ≤ j) → (loop1Desc step a c n s m).1 j = m j := by
  induction n with
  | zero => intro s m _; simp [loop1Desc, readN, pure1Desc]
  | succ n ih =>
    intro s m ha
    simp only [Disj] at ha
    obtain ⟨h1, h2, h3⟩ := ih (step s (m (a + n))).1 (write m (c + n) (step s (m (a + n))).2)
      (by simp only [Disj]; omega)
    rw [readN_write m (c + n) _ a n (by omega)] at h1 h2
    simp only [loop1Desc]
    rw [readN_snoc, readN_snoc, pure1Desc_snoc]
    refine ⟨?_, h2, ?_⟩
    · simp only []
      rw [h1, h3 (c + n) (by omega), write_same]
    · intro j hj
      rw [h3 j (by omega), write_other _ _ _ _ (by omega)]

/-! ## loops that read `d[i]` and re-read `c[i]` after the store -/

theorem loop2PostI_spec (step : σ → Nat → Nat → σ × Nat) (post : σ → Nat → Nat → σ)
    (a b d c k : Nat) :
    ∀ (i : Nat) (s : σ) (m : Mem),
    (c = a ∨ Disj (c + i) (a + i) k) → (c = b ∨ Disj (c + i) (b + i) k) →
    Disj (c + i) (d + i) k →
    readN (loop2PostI step post a b d c i k s m).1 (c + i) k
        = (pure2Post step post s (readN m (a + i) k) (readN m (b + i) k) (readN m (d + i) k)).1
    ∧ (loop2PostI step post a b d c i k s m).2
        = (pure2Post step post s (readN m (a + i) k) (readN m (b + i) k) (readN m (d + i) k)).2
    ∧ ∀ j, (j < c + i ∨ c + i + k ≤ j) → (loop2PostI step post a b d c i k s m).1 j = m j := by
  induction k with
  | zero => intro i s m _ _ _; simp [loop2PostI, readN, pure2Post]
  | succ k ih =>
    intro i s m ha hb hd
    simp only [Disj] at ha hb hd
    simp only [loop2PostI, readN, pure2Post]
    rw [write_other m (c + i) _ (d + i) (by omega), write_same]
    obtain ⟨h1, h2, h3⟩ := ih (i + 1)
      (post (step s (m (a + i)) (m (b + i))).1 (m (d + i)) (step s (m (a + i)) (m (b + i))).2)
      (write m (c + i) (step s (m (a + i)) (m (b + i))).2)
      (by simp only [Disj]; omega) (by simp only [Disj]; omega) (by simp only [Disj]; omega)
    simp only [← Nat.add_assoc] at h1 h2 h3
    rw [readN_write m (c + i) _ (a + i + 1) k (by omega),
      readN_write m (c + i) _ (b + i + 1) k (by omega),
      readN_write m (c + i) _ (d + i + 1) k (by omega)] at h1 h2
    refine ⟨?_, h2, ?_⟩
    · rw [h1, h3 (c + i) (by omega), write_same]
    · intro j hj
      rw [h3 j (by omega), write_other _ _ _ _ (by omega)]

theorem loop1PostI_eq (step : σ → Nat → σ × Nat) (post : σ → Nat → Nat → σ) (a d c k : Nat) :
    ∀ (i : Nat) (s : σ) (m : Mem),
    loop1PostI step post a d c i k s m
      = loop2PostI (fun s x _ => step s x) post a a d c i k s m := by
  induction k with
  | zero => intro i s m; rfl
  | succ k ih => intro i s m; simp only [loop1PostI, loop2PostI, ih]

theorem loop1PostI_spec (step : σ → Nat → σ × Nat) (post : σ → Nat → Nat → σ)
    (a d c k : Nat) :
    ∀ (i : Nat) (s : σ) (m : Mem),
    (c = a ∨ Disj (c + i) (a + i) k) → Disj (c + i) (d + i) k →
    readN (loop1PostI step post a d c i k s m).1 (c + i) k
        = (pure1Post step post s (readN m (a + i) k) (readN m (d + i) k)).1
    ∧ (loop1PostI step post a d c i k s m).2
        = (pure1Post step post s (readN m (a + i) k) (readN m (d + i) k)).2
    ∧ ∀ j, (j < c + i ∨ c + i + k ≤ j) → (loop1PostI step post a d c i k s m).1 j = m j := by
  intro i s m ha hd
  rw [loop1PostI_eq, pure1Post_eq]
  exact loop2PostI_spec _ post a a d c k i s m ha ha hd

/-! ## lengths of the pure results (for composing two phases) -/

theorem pure2_length (step : σ → Nat → Nat → σ × Nat) (s : σ) (xs ys : List Nat)
    (h : xs.length = ys.length) : (pure2 step s xs ys).1.length = xs.length := by
  induction xs generalizing ys s with
  | nil => simp [pure2]
  | cons x xs ih => cases ys with
    | nil => simp at h
    | cons y ys => simp only [pure2, List.length_cons]; rw [ih _ _ (by simpa using h)]

theorem pure1_notStep (w : Nat) (l : List Nat) :
    (pure1 (notStep w) () l).1 = l.map (wnot w) := by
  induction l with
  | nil => simp [pure1]
  | cons x xs ih => simp only [pure1, notStep, List.map_cons, ih]

theorem pure1_zeroStep (l : List Nat) :
    (pure1 zeroStep () l).1 = l.map (fun _ => 0) := by
  induction l with
  | nil => simp [pure1]
  | cons x xs ih => simp only [pure1, zeroStep, List.map_cons, ih]

/-! ## SAFE(zzHalfMod) -/

theorem halfSafeIter_mem (w a md b mask j carry : Nat) (m : Mem) (hd : md + j + 1 ≠ b + j + 1)
    (x : Nat) :
    (halfSafeIter w a md b mask j carry m).1 x
      = if x = b + j + 1 then
          wshr (wadd w (wadd w (m (a + j + 1)) carry) (mask &&& m (md + j + 1))) 1
        else if x = b + j then
          m (b + j) ||| wshl w (wadd w (wadd w (m (a + j + 1)) carry) (mask &&& m (md + j + 1)) % 2) (w - 1)
        else m x := by
  have h1 : b + j ≠ b + j + 1 := by omega
  have h2 : b + j + 1 ≠ b + j := by omega
  simp only [halfSafeIter, write, if_pos, if_neg hd, if_neg h1, if_neg h2]
  by_cases hx1 : x = b + j + 1
  · simp only [if_pos hx1]
  · simp only [if_neg hx1]

theorem halfSafeIter_carry (w a md b mask j carry : Nat) (m : Mem) (hd : md + j + 1 ≠ b + j + 1) :
    (halfSafeIter w a md b mask j carry m).2
      = (wless01 (wadd w (m (a + j + 1)) carry) carry
        ||| wless01 (wadd w (wadd w (m (a + j + 1)) carry) (mask &&& m (md + j + 1)))
              (mask &&& m (md + j + 1))) := by
  simp only [halfSafeIter, write, if_pos, if_neg hd]

/-- `b[top] |= carry << (B_PER_W - 1)` -/
def halfFinish (w top : Nat) (r : Mem × Nat) : Mem :=
  write r.1 top (r.1 top ||| wshl w r.2 (w - 1))

theorem halfSafeLoopMem_spec (w a md b mask k : Nat) :
    ∀ (j carry : Nat) (m : Mem),
    (b = a ∨ Disj (b + j) (a + j) (k + 1)) → Disj (b + j) (md + j) (k + 1) →
    readN (halfFinish w (b + j + k) (halfSafeLoopMem w a md b mask j k carry m)) (b + j) (k + 1)
      = zzHalfMod_safeLoop w (readN m (a + j + 1) k) (readN m (md + j + 1) k) mask carry (m (b + j))
    ∧ ∀ x, (x < b + j ∨ b + j + k + 1 ≤ x) →
        halfFinish w (b + j + k) (halfSafeLoopMem w a md b mask j k carry m) x = m x := by
  induction k with
  | zero =>
    intro j carry m _ _
    refine ⟨by simp [halfSafeLoopMem, halfFinish, readN, zzHalfMod_safeLoop], ?_⟩
    intro x hx
    simp only [halfSafeLoopMem, halfFinish]
    exact write_other _ _ _ _ (by omega)
  | succ k ih =>
    intro j carry m ha hd
    simp only [Disj] at ha hd
    have hne : md + j + 1 ≠ b + j + 1 := by omega
    have hmem := halfSafeIter_mem w a md b mask j carry m hne
    have hcar := halfSafeIter_carry w a md b mask j carry m hne
    have hfar (p : Nat) (hp : b + j + 1 < p ∨ p + k ≤ b + j) :
        readN (halfSafeIter w a md b mask j carry m).1 p k = readN m p k :=
      readN_congr _ _ _ _ (fun x h1 h2 => by
        rw [hmem x, if_neg (by omega), if_neg (by omega)])
    obtain ⟨h1, h3⟩ := ih (j + 1) (halfSafeIter w a md b mask j carry m).2
      (halfSafeIter w a md b mask j carry m).1
      (by simp only [Disj]; omega) (by simp only [Disj]; omega)
    simp only [← Nat.add_assoc] at h1 h3
    rw [hfar _ (by omega), hfar _ (by omega), hmem (b + j + 1), if_pos rfl] at h1
    simp only [halfSafeLoopMem]
    rw [show b + j + (k + 1) = b + j + 1 + k by omega]
    refine ⟨?_, ?_⟩
    · rw [readN, h1, h3 (b + j) (by omega), hmem (b + j), if_neg (by omega), if_pos rfl]
      simp only [readN, zzHalfMod_safeLoop, hcar]
    · intro x hx
      rw [h3 x (by omega), hmem x, if_neg (by omega), if_neg (by omega)]

/-! ## re-reading the stored word -/

theorem loop2RRI_eq {τ : Type} (pre : σ → Nat → Nat → τ × Nat) (fin : τ → Nat → σ) (a b c k : Nat) :
    ∀ (i : Nat) (s : σ) (m : Mem),
    loop2RRI pre fin a b c i k s m
      = loop2I (fun s x y => (fin (pre s x y).1 (pre s x y).2, (pre s x y).2)) a b c i k s m := by
  induction k with
  | zero => intro i s m; rfl
  | succ k ih => intro i s m; simp only [loop2RRI, loop2I, write_same, ih]

theorem loop1RRI_eq {τ : Type} (pre : σ → Nat → τ × Nat) (fin : τ → Nat → σ) (a c k : Nat) :
    ∀ (i : Nat) (s : σ) (m : Mem),
    loop1RRI pre fin a c i k s m
      = loop1I (fun s x => (fin (pre s x).1 (pre s x).2, (pre s x).2)) a c i k s m := by
  induction k with
  | zero => intro i s m; rfl
  | succ k ih => intro i s m; simp only [loop1RRI, loop1I, write_same, ih]

/-- `m'` is `m` with `[c, c + n)` holding `out`; nothing else changed -/
def Upd (m m' : Mem) (c n : Nat) (out : List Nat) : Prop :=
  readN m' c n = out ∧ ∀ j, (j < c ∨ c + n ≤ j) → m' j = m j

theorem Upd.read {m m' : Mem} {c n : Nat} {out : List Nat} (h : Upd m m' c n out) {d : Nat}
    (hd : Disj c d n) : readN m' d n = readN m d n :=
  readN_congr _ _ _ _ (fun j h1 h2 => h.2 j (by simp only [Disj] at hd; omega))

/-- A second phase `c[i] op= d[i]` on the memory a first phase left reads the first phase's output and the
    ORIGINAL contents of `d`; `hp` is the second phase's own aliasing theorem at the intermediate memory. -/
theorem Upd.then {σ : Type} {m m1 : Mem} {c n : Nat} {out : List Nat} (h : Upd m m1 c n out) {d : Nat}
    (hd : Disj c d n) {p : Mem → Mem × σ} {f : List Nat → List Nat → List Nat × σ}
    (hp : readN (p m1).1 c n = (f (readN m1 c n) (readN m1 d n)).1
      ∧ (p m1).2 = (f (readN m1 c n) (readN m1 d n)).2
      ∧ ∀ j, (j < c ∨ c + n ≤ j) → (p m1).1 j = m1 j) :
    Upd m (p m1).1 c n (f out (readN m d n)).1 := by
  obtain ⟨g1, -, g3⟩ := hp
  rw [h.read hd, h.1] at g1
  exact ⟨g1, fun j hj => by rw [g3 j hj, h.2 j hj]⟩

end Bee2V.C05.Alias
