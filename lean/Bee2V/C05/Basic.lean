/-
C05 — common definitions of the code-shaped models of the bee2 arithmetic layer.

Words are `Nat`s below `B = 2^w` (the word size `w` is a parameter: the same model is
instantiated with w = 16, 32, 64; B_PER_W of the build).  A multi-word number is a
little-endian `List Nat`; `val w a` (written ⟦a⟧ in DESIGN.md) is its value, `Wf w a`
says every element is a word.  The word operations below are what the C operators do on
the unsigned type `word` (arithmetic modulo 2^w, comparisons giving 0/1).

No Mathlib here: this file is imported by the native driver `drv_c05`.
-/
namespace Bee2V.C05

/-- base of the number system, `B = 2^{B_PER_W}` -/
@[reducible] def B (w : Nat) : Nat := 2 ^ w

/-- value of a little-endian word list: `a[0] + a[1] B + a[2] B^2 + …` -/
def val (w : Nat) : List Nat → Nat
  | [] => 0
  | x :: xs => x + 2 ^ w * val w xs

/-- every element is a machine word -/
def Wf (w : Nat) (a : List Nat) : Prop := ∀ x ∈ a, x < 2 ^ w

instance (w : Nat) (a : List Nat) : Decidable (Wf w a) := by unfold Wf; exact inferInstance

/-- `n` little-endian words of `v` (truncating): inverse of `val` -/
def toWords (w : Nat) : Nat → Nat → List Nat
  | 0, _ => []
  | n + 1, v => v % 2 ^ w :: toWords w n (v / 2 ^ w)

/-! ### C operators on `word` -/

/-- `(word)(x + y)` -/
@[reducible] def wadd (w x y : Nat) : Nat := (x + y) % 2 ^ w
/-- `(word)(x - y)` -/
@[reducible] def wsub (w x y : Nat) : Nat := (x + (2 ^ w - y % 2 ^ w)) % 2 ^ w
/-- `(word)(x * y)` -/
@[reducible] def wmul (w x y : Nat) : Nat := (x * y) % 2 ^ w
/-- `(word)~x` -/
@[reducible] def wnot (w x : Nat) : Nat := 2 ^ w - 1 - x % 2 ^ w
/-- `WORD_0 - x` -/
@[reducible] def wneg (w x : Nat) : Nat := (2 ^ w - x % 2 ^ w) % 2 ^ w
/-- `(word)(x << s)`, `s < w` -/
@[reducible] def wshl (w x s : Nat) : Nat := (x * 2 ^ s) % 2 ^ w
/-- `x >> s` -/
@[reducible] def wshr (x s : Nat) : Nat := x / 2 ^ s
/-- `wordLess01(x, y)` -/
@[reducible] def wless01 (x y : Nat) : Nat := if x < y then 1 else 0
/-- `wordLeq01(x, y)` -/
@[reducible] def wleq01 (x y : Nat) : Nat := if x ≤ y then 1 else 0
/-- `wordEq01(x, y)` -/
@[reducible] def weq01 (x y : Nat) : Nat := if x = y then 1 else 0
/-- `wordNeq01(x, y)` -/
@[reducible] def wneq01 (x y : Nat) : Nat := if x = y then 0 else 1
/-- `wordGreater01(x, y)` -/
@[reducible] def wgreater01 (x y : Nat) : Nat := if y < x then 1 else 0

/-! ### elementary facts (core tactics only) -/

theorem val_nil (w : Nat) : val w [] = 0 := rfl
theorem val_cons (w x : Nat) (xs : List Nat) : val w (x :: xs) = x + 2 ^ w * val w xs := rfl

theorem Wf_nil (w : Nat) : Wf w [] := by intro x h; cases h
theorem Wf_cons {w x : Nat} {xs : List Nat} : Wf w (x :: xs) ↔ x < 2 ^ w ∧ Wf w xs := by
  constructor
  · intro h
    exact ⟨h x (List.mem_cons_self), fun y hy => h y (List.mem_cons_of_mem _ hy)⟩
  · intro ⟨h1, h2⟩ y hy
    cases hy with
    | head => exact h1
    | tail _ h => exact h2 y h

theorem toWords_length (w n v : Nat) : (toWords w n v).length = n := by
  induction n generalizing v with
  | zero => rfl
  | succ n ih => simp [toWords, ih]

theorem toWords_Wf (w n v : Nat) : Wf w (toWords w n v) := by
  induction n generalizing v with
  | zero => exact Wf_nil w
  | succ n ih =>
    simp only [toWords]
    exact Wf_cons.mpr ⟨Nat.mod_lt _ (Nat.two_pow_pos w), ih _⟩

theorem val_replicate_zero (w n : Nat) : val w (List.replicate n 0) = 0 := by
  induction n with
  | zero => rfl
  | succ n ih => simp [List.replicate_succ, val, ih]

theorem Wf_replicate_zero (w n : Nat) : Wf w (List.replicate n 0) := by
  intro x hx
  rw [(List.mem_replicate.mp hx).2]
  exact Nat.two_pow_pos w

end Bee2V.C05
