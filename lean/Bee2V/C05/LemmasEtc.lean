/-
C05 — helper lemmas for PropsEtc.lean (value-level models of ModelEtc.lean).
Everything lives in `namespace Bee2V.C05.Etc`.
-/
import Bee2V.C05.ModelEtc
import Bee2V.C05.LemmasAdd
import Bee2V.C05.LemmasGcd
import Mathlib.Tactic.Ring
import Mathlib.Tactic.Linarith
import Mathlib.Tactic.NormNum
import Mathlib.Data.Nat.ModEq
import Mathlib.Data.Nat.Sqrt
import Mathlib.NumberTheory.LegendreSymbol.JacobiSymbol
namespace Bee2V.C05.Etc
open Bee2V.C05
export Bee2V.C05.Gcd (cancel_R mont_unique)

/-! ## sliding window: the bit bookkeeping -/

/-- the slide `(s, k)` taken below position `p` of `b`: `k` bits, value `s`, non-zero -/
def SlideInv (b p k s : Nat) : Prop :=
  k ≤ p ∧ 0 < s ∧ s < 2 ^ k ∧ b / 2 ^ (p - k) = (b / 2 ^ p) * 2 ^ k + s

theorem div_pow_sub (b p k j : Nat) (hj : j ≤ k) (hk : k ≤ p) :
    b / 2 ^ (p - k) / 2 ^ j = b / 2 ^ (p - (k - j)) := by
  rw [Nat.div_div_eq_div_mul, ← Nat.pow_add]
  congr 2; omega

theorem slideInv_init (b p wd : Nat) (hp : 1 ≤ p) (hb : b / 2 ^ (p - 1) % 2 = 1) (hwd : 1 ≤ wd) :
    SlideInv b p (min p wd) (b / 2 ^ (p - min p wd) % 2 ^ (min p wd)) := by
  unfold SlideInv
  generalize hk : min p wd = k
  have hk1 : 1 ≤ k := by omega
  have hkp : k ≤ p := by omega
  have hX : b / 2 ^ (p - k) / 2 ^ k = b / 2 ^ p := by
    rw [div_pow_sub b p k k (Nat.le_refl k) hkp, Nat.sub_self, Nat.sub_zero]
  have h2 : b / 2 ^ (p - k) / 2 ^ (k - 1) = b / 2 ^ (p - 1) := by
    rw [div_pow_sub b p k (k - 1) (by omega) hkp]; congr 3; omega
  generalize b / 2 ^ (p - k) = X at *
  have hdm := Nat.div_add_mod X (2 ^ k)
  have hlt : X % 2 ^ k < 2 ^ k := Nat.mod_lt _ (Nat.two_pow_pos k)
  refine ⟨hkp, ?_, hlt, ?_⟩
  · rcases Nat.eq_zero_or_pos (X % 2 ^ k) with h0 | h0
    · exfalso
      have h3 : X = 2 ^ (k - 1) * (2 * (X / 2 ^ k)) := by
        have e : 2 ^ k = 2 ^ (k - 1) * 2 := by rw [← Nat.pow_succ]; congr 1; omega
        generalize X / 2 ^ k = q at *
        rw [h0, e] at hdm
        rw [← hdm]; ring
      rw [← h2, h3, Nat.mul_div_cancel_left _ (Nat.two_pow_pos _)] at hb
      omega
    · exact h0
  · rw [← hX, Nat.mul_comm]; exact hdm.symm

theorem slideInv_step (b p k s : Nat) (h : SlideInv b p k s) (hs : s % 2 = 0) :
    SlideInv b p (k - 1) (s / 2) := by
  obtain ⟨h1, h2, h3, h4⟩ := h
  have hk : k ≠ 0 := by
    rintro rfl
    simp at h3; omega
  obtain ⟨k', rfl⟩ := Nat.exists_eq_succ_of_ne_zero hk
  change SlideInv b p k' (s / 2)
  have e1 : 2 ^ (k' + 1) = 2 ^ k' * 2 := by rw [pow_succ]
  have e2 : b / 2 ^ (p - k') = b / 2 ^ (p - (k' + 1)) / 2 := by
    rw [← Nat.pow_one 2, div_pow_sub b p (k' + 1) 1 (by omega) h1, Nat.add_sub_cancel]
  refine ⟨by omega, by omega, by omega, ?_⟩
  rw [e2, h4, e1, ← Nat.mul_assoc]
  omega

theorem slideStrip_spec (b p : Nat) : ∀ (f k s : Nat), SlideInv b p k s → k ≤ f →
    SlideInv b p (slideStrip f s k).2 (slideStrip f s k).1 ∧ (slideStrip f s k).1 % 2 = 1
      ∧ (slideStrip f s k).2 ≤ k := by
  intro f
  induction f with
  | zero =>
    intro k s h hk
    obtain ⟨_, h2, h3, _⟩ := h
    have : k = 0 := by omega
    subst this
    simp at h3; omega
  | succ f ih =>
    intro k s h hk
    unfold slideStrip
    by_cases hs : s % 2 = 0
    · rw [if_pos hs]
      have hk0 : k ≠ 0 := by
        rintro rfl
        obtain ⟨_, h2, h3, _⟩ := h
        simp at h3; omega
      obtain ⟨g1, g2, g3⟩ := ih (k - 1) (s / 2) (slideInv_step b p k s h hs) (by omega)
      exact ⟨g1, g2, by omega⟩
    · rw [if_neg hs]
      exact ⟨h, by omega, Nat.le_refl _⟩

/-- a slide has at least one bit and indexes inside the table of `2^(wd-1)` odd powers -/
theorem slideInv_bounds {b p k s wd : Nat} (h : SlideInv b p k s) (hk : k ≤ wd) (hwd : 1 ≤ wd) :
    1 ≤ k ∧ s / 2 < 2 ^ (wd - 1) := by
  obtain ⟨_, h2, h3, _⟩ := h
  have hk0 : k ≠ 0 := by
    rintro rfl
    simp at h3; omega
  have : 2 ^ k ≤ 2 ^ wd := Nat.pow_le_pow_right (by omega) hk
  have e : 2 ^ wd = 2 ^ (wd - 1) * 2 := by rw [← Nat.pow_succ]; congr 1; omega
  omega

/-- the window below a set bit `p - 1` of `b`: an odd slide `r.1` of `r.2` bits inside the table of odd powers -/
theorem window (b p wd : Nat) (hp : 1 ≤ p) (hb : b / 2 ^ (p - 1) % 2 = 1) (hwd : 1 ≤ wd) :
    let r := slideStrip (min p wd) (b / 2 ^ (p - min p wd) % 2 ^ min p wd) (min p wd)
    1 ≤ r.2 ∧ r.2 ≤ p ∧ r.1 / 2 < 2 ^ (wd - 1) ∧ 2 * (r.1 / 2) + 1 = r.1
      ∧ b / 2 ^ (p - r.2) = b / 2 ^ p * 2 ^ r.2 + r.1 := by
  obtain ⟨g1, g2, g3⟩ := slideStrip_spec b p _ _ _ (slideInv_init b p wd hp hb hwd) (Nat.le_refl _)
  obtain ⟨b1, b2⟩ := slideInv_bounds g1 (Nat.le_trans g3 (Nat.min_le_right _ _)) hwd
  exact ⟨b1, g1.1, b2, by omega, g1.2.2.2⟩

theorem top_bit (b : Nat) (hb : b ≠ 0) :
    b / 2 ^ (Nat.log2 b + 1) = 0 ∧ b / 2 ^ (Nat.log2 b + 1 - 1) % 2 = 1 := by
  have h1 := Nat.lt_log2_self (n := b)
  have h2 := Nat.log2_self_le hb
  refine ⟨Nat.div_eq_of_lt h1, ?_⟩
  simp only [Nat.add_sub_cancel]
  have : b / 2 ^ Nat.log2 b = 1 := by
    apply Nat.div_eq_of_lt_le
    · simpa using h2
    · rw [Nat.pow_succ] at h1; omega
  rw [this]

/-! ## qrPower: generic correctness

`pw k` is "the k-th power of a" in the ring: any family with `pw 1 = a`,
`mul (pw i) (pw j) = pw (i + j)`, `sqr (pw i) = pw (2 i)`. -/

section Generic
variable {α : Type} (mul : α → α → α) (sqr : α → α) (pw : Nat → α)
  (hmul : ∀ i j, mul (pw i) (pw j) = pw (i + j)) (hsqr : ∀ i, sqr (pw i) = pw (2 * i))
include hsqr in
theorem qrSqrN_pw (k i : Nat) : qrSqrN sqr k (pw i) = pw (i * 2 ^ k) := by
  induction k generalizing i with
  | zero => simp [qrSqrN]
  | succ k ih =>
    unfold qrSqrN
    rw [hsqr, ih]
    congr 1; rw [Nat.pow_succ]; ring

include hmul in
theorem qrPowersLoop_spec (k t : Nat) :
    qrPowersLoop mul (pw 2) k (((List.range (t + 1)).reverse.map fun j => pw (2 * j + 3)) ++ [pw 2])
      = ((List.range (t + 1 + k)).reverse.map fun j => pw (2 * j + 3)) ++ [pw 2] := by
  induction k generalizing t with
  | zero => simp [qrPowersLoop]
  | succ k ih =>
    have e : ((List.range (t + 1)).reverse.map fun j => pw (2 * j + 3)) ++ [pw 2]
        = pw (2 * t + 3) :: (((List.range t).reverse.map fun j => pw (2 * j + 3)) ++ [pw 2]) := by
      rw [List.range_succ]; simp
    rw [e]
    unfold qrPowersLoop
    simp only []
    rw [hmul, ← e]
    have e' : pw (2 * t + 3 + 2) :: (((List.range (t + 1)).reverse.map fun j => pw (2 * j + 3)) ++ [pw 2])
        = ((List.range (t + 1 + 1)).reverse.map fun j => pw (2 * j + 3)) ++ [pw 2] := by
      rw [List.range_succ (n := t + 1)]; simp
      congr 1
    rw [e', ih]
    congr 4; omega

include hmul hsqr in
theorem qrPowers_spec (wd : Nat) (hwd : 1 ≤ wd) :
    qrPowers mul sqr (pw 1) wd = (List.range (2 ^ (wd - 1))).map fun j => pw (2 * j + 1) := by
  unfold qrPowers
  by_cases h1 : wd = 1
  · subst h1; simp
  · rw [if_neg h1]
    obtain ⟨v, rfl⟩ : ∃ v, wd = v + 2 := ⟨wd - 2, by omega⟩
    simp only [show v + 2 - 1 = v + 1 from rfl]
    obtain ⟨c, hc⟩ : ∃ c, 2 ^ (v + 1) = c + 2 := by
      have : 2 ≤ 2 ^ (v + 1) := by
        calc 2 = 2 ^ 1 := rfl
          _ ≤ 2 ^ (v + 1) := Nat.pow_le_pow_right (by omega) (by omega)
      exact ⟨2 ^ (v + 1) - 2, by omega⟩
    rw [hc, Nat.add_sub_cancel]
    have e0 : [mul (pw 1) (sqr (pw 1)), sqr (pw 1)]
        = ((List.range (0 + 1)).reverse.map fun j => pw (2 * j + 3)) ++ [pw 2] := by
      simp [hsqr, hmul]
    rw [e0, hsqr, show 2 * 1 = 2 from rfl, qrPowersLoop_spec mul pw hmul]
    rw [List.reverse_append, List.reverse_singleton, List.singleton_append, List.drop_one,
      List.tail_cons, ← List.map_reverse, List.reverse_reverse]
    rw [show 0 + 1 + c = c + 1 by omega, List.range_succ_eq_map (n := c + 1)]
    simp [List.map_map, Function.comp_def]
    intro j _
    congr 1

include hmul hsqr in
theorem qrPowers_getD (wd : Nat) (hwd : 1 ≤ wd) (d : α) (j : Nat) (hj : j < 2 ^ (wd - 1)) :
    (qrPowers mul sqr (pw 1) wd).getD j d = pw (2 * j + 1) := by
  rw [qrPowers_spec mul sqr pw hmul hsqr wd hwd]
  simp [List.getD_eq_getElem?_getD, hj]

include hmul hsqr in
/-- the main loop: from `pw (b >> p)` to `pw b` -/
theorem qrPowerLoop_spec (tbl : Nat → α) (b wd : Nat) (hwd : 1 ≤ wd)
    (htbl : ∀ j, j < 2 ^ (wd - 1) → tbl j = pw (2 * j + 1)) :
    ∀ (f p : Nat), p ≤ f → qrPowerLoop mul sqr tbl b wd f p (pw (b / 2 ^ p)) = pw b := by
  intro f
  induction f with
  | zero =>
    intro p hp
    have : p = 0 := by omega
    subst this
    simp [qrPowerLoop]
  | succ f ih =>
    intro p hp
    unfold qrPowerLoop
    by_cases hp0 : p = 0
    · subst hp0; simp
    · rw [if_neg hp0]
      simp only []
      have e2 : b / 2 ^ (p - 1) = 2 * (b / 2 ^ p) + b / 2 ^ (p - 1) % 2 := by
        have := div_pow_sub b p 1 1 (Nat.le_refl 1) (by omega)
        rw [Nat.pow_one, Nat.sub_self, Nat.sub_zero] at this
        omega
      by_cases hbit : b / 2 ^ (p - 1) % 2 = 0
      · rw [if_pos hbit, hsqr]
        have := ih (p - 1) (by omega)
        rw [e2, hbit, Nat.add_zero] at this
        exact this
      · rw [if_neg hbit]
        have hp1 : p - 1 + 1 = p := by omega
        rw [hp1]
        obtain ⟨b1, b0, b2, hodd, e⟩ := window b p wd (by omega) (by omega) hwd
        generalize slideStrip (min p wd) (b / 2 ^ (p - min p wd) % 2 ^ min p wd) (min p wd) = r at *
        rw [qrSqrN_pw sqr pw hsqr, htbl _ b2, hmul, hodd, ← e]
        exact ih (p - r.2) (by omega)

include hmul hsqr in
/-- the first window, taken at the top bit of `b ≠ 0`, and the main loop: `pw b` -/
theorem qrPower_run (tbl : Nat → α) (b wd : Nat) (hwd : 1 ≤ wd) (hb : b ≠ 0)
    (htbl : ∀ j, j < 2 ^ (wd - 1) → tbl j = pw (2 * j + 1)) :
    let p := Nat.log2 b + 1
    let r := slideStrip (min p wd) (b / 2 ^ (p - min p wd) % 2 ^ min p wd) (min p wd)
    qrPowerLoop mul sqr tbl b wd p (p - r.2) (tbl (r.1 / 2)) = pw b := by
  dsimp only
  obtain ⟨t1, t2⟩ := top_bit b hb
  generalize Nat.log2 b + 1 = p at *
  have hp : 1 ≤ p := by
    rcases Nat.eq_zero_or_pos p with h | h
    · subst h; simp at t1; omega
    · exact h
  obtain ⟨b1, b0, b2, hodd, e⟩ := window b p wd hp t2 hwd
  generalize slideStrip (min p wd) (b / 2 ^ (p - min p wd) % 2 ^ min p wd) (min p wd) = r at *
  rw [t1, Nat.zero_mul, Nat.zero_add] at e
  rw [htbl _ b2, hodd, ← e]
  exact qrPowerLoop_spec mul sqr pw hmul hsqr tbl b wd hwd htbl p (p - r.2) (by omega)

end Generic

/-! ## zzPowerModW -/

/-- `prod = x; prod *= y; prod %= mod; (word)prod` -/
def mulW (w mod x y : Nat) : Nat := (x * y % 2 ^ (2 * w)) % mod % 2 ^ w

theorem mulD_eq {w mod x y : Nat} (hm : mod < 2 ^ w) (hx : x < mod) (hy : y < mod) :
    (x * y % 2 ^ (2 * w)) % mod = x * y % mod := by
  have h1 : x * y < 2 ^ (2 * w) := by
    rw [Nat.two_mul, Nat.pow_add]
    exact Nat.mul_lt_mul'' (by omega) (by omega)
  rw [Nat.mod_eq_of_lt h1]

theorem mulW_eq {w mod x y : Nat} (hm : mod < 2 ^ w) (hx : x < mod) (hy : y < mod) :
    mulW w mod x y = x * y % mod := by
  unfold mulW
  rw [mulD_eq hm hx hy]
  exact Nat.mod_eq_of_lt (Nat.lt_trans (Nat.mod_lt _ (by omega)) hm)

theorem mulW_pw {w mod a : Nat} (hm : mod < 2 ^ w) (hm0 : mod ≠ 0) (i j : Nat) :
    mulW w mod (a ^ i % mod) (a ^ j % mod) = a ^ (i + j) % mod := by
  rw [mulW_eq hm (Nat.mod_lt _ (by omega)) (Nat.mod_lt _ (by omega)), ← Nat.mul_mod, ← Nat.pow_add]

theorem powSqrN_eq (w mod : Nat) (k a : Nat) :
    powSqrN w mod k a = qrSqrN (fun x => mulW w mod x x) k a := by
  induction k generalizing a with
  | zero => rfl
  | succ k ih => unfold powSqrN qrSqrN; rw [ih]; rfl

theorem zzPowerModWLoop_eq (w b mod : Nat) (pwf : Nat → Nat) (hb : b < 2 ^ w) (f p a : Nat) :
    zzPowerModWLoop w b mod pwf f p a
      = qrPowerLoop (mulW w mod) (fun x => mulW w mod x x) pwf b 3 f p a := by
  induction f generalizing p a with
  | zero => rfl
  | succ f ih =>
    unfold zzPowerModWLoop qrPowerLoop
    have hlt : ∀ k, b / 2 ^ k % 2 ^ w = b / 2 ^ k := fun k =>
      Nat.mod_eq_of_lt (Nat.lt_of_le_of_lt (Nat.div_le_self _ _) hb)
    simp only [hlt, powSqrN_eq, ih]
    rfl

/-- zzPowerModW with the base already reduced -/
theorem zzPowerModW_red (w a b mod : Nat) (hm0 : mod ≠ 0) (ha : a < mod) (hb : b < 2 ^ w)
    (hm : mod < 2 ^ w) : zzPowerModW w a b mod = a ^ b % mod := by
  unfold zzPowerModW
  by_cases hb0 : b = 0
  · rw [if_pos hb0, hb0, Nat.pow_zero]
  · rw [if_neg hb0]
    have hmm : ∀ x, x % mod < mod := fun x => Nat.mod_lt _ (by omega)
    have hw : ∀ x, x % mod % 2 ^ w = x % mod := fun x =>
      Nat.mod_eq_of_lt (Nat.lt_trans (hmm x) hm)
    have ham : a % mod = a := Nat.mod_eq_of_lt ha
    have q0 : (a * a % 2 ^ (2 * w)) % mod = a ^ 2 % mod := by
      rw [mulD_eq hm ha ha]; congr 1; ring
    have q1 : (a ^ 2 % mod * a % 2 ^ (2 * w)) % mod = a ^ 3 % mod := by
      rw [mulD_eq hm (hmm _) ha, Nat.mod_mul_mod]; congr 1
    have q2 : (a ^ 3 % mod * (a ^ 2 % mod) % 2 ^ (2 * w)) % mod = a ^ 5 % mod := by
      rw [mulD_eq hm (hmm _) (hmm _), ← Nat.mul_mod]; congr 1; ring
    have q3 : (a ^ 5 % mod * (a ^ 2 % mod) % 2 ^ (2 * w)) % mod = a ^ 7 % mod := by
      rw [mulD_eq hm (hmm _) (hmm _), ← Nat.mul_mod]; congr 1; ring
    simp only [ham, q0, hw, q1, q2, q3]
    have hlt : ∀ k, b / 2 ^ k % 2 ^ w = b / 2 ^ k := fun k =>
      Nat.mod_eq_of_lt (Nat.lt_of_le_of_lt (Nat.div_le_self _ _) hb)
    simp only [hlt]
    generalize htbl : powTbl4 a (a ^ 3 % mod) (a ^ 5 % mod) (a ^ 7 % mod) = tbl
    have htb : ∀ j, j < 2 ^ (3 - 1) → tbl j = (fun k => a ^ k % mod) (2 * j + 1) := by
      intro j hj
      subst htbl
      have : j = 0 ∨ j = 1 ∨ j = 2 ∨ j = 3 := by
        have : j < 4 := hj
        omega
      rcases this with rfl | rfl | rfl | rfl <;> simp [powTbl4, ham]
    rw [zzPowerModWLoop_eq w b mod tbl hb]
    have hmul : ∀ i j, mulW w mod ((fun k => a ^ k % mod) i) ((fun k => a ^ k % mod) j)
        = (fun k => a ^ k % mod) (i + j) := fun i j => mulW_pw hm hm0 i j
    have hsqr : ∀ i, (fun x => mulW w mod x x) ((fun k => a ^ k % mod) i)
        = (fun k => a ^ k % mod) (2 * i) := fun i => by
      have := mulW_pw (a := a) hm hm0 i i
      simp only [] at this ⊢
      rw [this, Nat.two_mul]
    exact qrPower_run (mulW w mod) (fun x => mulW w mod x x) (fun k => a ^ k % mod) hmul hsqr
      tbl b 3 (by omega) hb0 htb

/-! ## zzSqrt -/

theorem bitSizeV_lt (x : Nat) : x < 2 ^ bitSizeV x := by
  unfold bitSizeV
  split_ifs with h
  · subst h; simp
  · exact Nat.lt_log2_self

theorem bitSizeV_ge (x : Nat) (hx : x ≠ 0) : 1 ≤ bitSizeV x ∧ 2 ^ (bitSizeV x - 1) ≤ x := by
  unfold bitSizeV
  rw [if_neg hx]
  exact ⟨by omega, by simpa using Nat.log2_self_le hx⟩

theorem wordSizeV_zero (w : Nat) : wordSizeV w 0 = 0 := by
  unfold wordSizeV bitSizeV
  rcases Nat.eq_zero_or_pos w with h | h
  · subst h; simp
  · simp only [if_true, Nat.zero_add]
    exact Nat.div_eq_of_lt (by omega)

theorem wordSizeV_lt (w x : Nat) (hw : 0 < w) : x < 2 ^ (w * wordSizeV w x) := by
  have h1 := bitSizeV_lt x
  have h2 := Nat.lt_mul_div_succ (bitSizeV x + w - 1) hw
  rw [Nat.mul_succ] at h2
  have : bitSizeV x ≤ w * wordSizeV w x := by unfold wordSizeV; omega
  exact Nat.lt_of_lt_of_le h1 (Nat.pow_le_pow_right (by omega) this)

theorem wordSizeV_ge (w x : Nat) (hw : 0 < w) (hx : x ≠ 0) :
    1 ≤ wordSizeV w x ∧ 2 ^ (w * (wordSizeV w x - 1)) ≤ x := by
  obtain ⟨h1, h2⟩ := bitSizeV_ge x hx
  have h3 := Nat.mul_div_le (bitSizeV x + w - 1) w
  have h4 : 1 ≤ wordSizeV w x := by
    unfold wordSizeV
    exact (Nat.le_div_iff_mul_le hw).2 (by omega)
  refine ⟨h4, Nat.le_trans (Nat.pow_le_pow_right (by omega) ?_) h2⟩
  have : w * (wordSizeV w x - 1) = w * wordSizeV w x - w := by
    rw [Nat.mul_sub, Nat.mul_one]
  rw [this]
  unfold wordSizeV
  omega

theorem wordSizeV_le (w x k : Nat) (hw : 0 < w) (h : x < 2 ^ (w * k)) : wordSizeV w x ≤ k := by
  rcases Nat.eq_zero_or_pos x with hx | hx
  · subst hx; rw [wordSizeV_zero]; omega
  · obtain ⟨h1, h2⟩ := wordSizeV_ge w x hw (by omega)
    by_contra hc
    have : w * k ≤ w * (wordSizeV w x - 1) := Nat.mul_le_mul_left _ (by omega)
    have := Nat.pow_le_pow_right (show 0 < 2 by omega) this
    omega

/-- one Newton step from above stays above the root -/
theorem newton_ge (a b s : Nat) (hb : 0 < b) (hs : s * s ≤ a) : s ≤ (b + a / b) / 2 := by
  by_contra hc
  have h1 : b + a / b + 1 ≤ 2 * s := by omega
  have h2 : a < b * (a / b + 1) := Nat.lt_mul_div_succ a hb
  have h3 := Nat.mul_le_mul_left b h1
  zify at *
  nlinarith [sq_nonneg ((s : ℤ) - b)]

/-- `b ≥ √a` and `a / b ≥ b + 1`, or `a/b = b`: then b is the root -/
theorem root_of_quot_ge (a b : Nat) (_hb : 0 < b) (hab : a < (b + 1) * (b + 1)) (hq : b ≤ a / b) :
    b = Nat.sqrt a := by
  rw [Nat.eq_sqrt]
  refine ⟨?_, hab⟩
  calc b * b ≤ b * (a / b) := Nat.mul_le_mul_left _ hq
    _ ≤ a := Nat.mul_div_le a b

theorem not_square_of_quot_gt (a b : Nat) (hb : 0 < b) (hq : b < a / b) : b * b ≠ a := by
  have : b * (b + 1) ≤ a := calc
    b * (b + 1) ≤ b * (a / b) := Nat.mul_le_mul_left _ hq
    _ ≤ a := Nat.mul_div_le a b
  have : b * b < b * (b + 1) := Nat.mul_lt_mul_of_pos_left (by omega) hb
  omega

/-- the quotient fits `m + 1` words, and `m` words unless `n = 2 m` -/
theorem quot_bound (w a b m n : Nat) (_hm : 1 ≤ m) (hbl : 2 ^ (w * (m - 1)) ≤ b)
    (ha : a < 2 ^ (w * n)) (k : Nat) (hn : n ≤ m - 1 + k) : a / b < 2 ^ (w * k) := by
  have hb : 0 < b := Nat.lt_of_lt_of_le (Nat.two_pow_pos _) hbl
  rw [Nat.div_lt_iff_lt_mul hb]
  calc a < 2 ^ (w * n) := ha
    _ ≤ 2 ^ (w * (m - 1 + k)) := Nat.pow_le_pow_right (by omega) (Nat.mul_le_mul_left _ hn)
    _ = 2 ^ (w * k) * 2 ^ (w * (m - 1)) := by rw [← Nat.pow_add]; congr 1; ring
    _ ≤ 2 ^ (w * k) * b := Nat.mul_le_mul_left _ hbl

/-- one turn of the loop of zzSqrt with `b = t ≥ √a` on `m = wordSizeV t` words: `n ≤ 2 m`
    (n = wordSizeV a); the quotient `a / t` fits m words unless `n = 2 m` and its extra word
    `t[m]` is non-zero; for `a / t < t` the Newton step `(a / t + t) / 2` is below t and still
    not below the root -/
theorem sqrt_step (w a t : Nat) (hw : 0 < w) (ha : a ≠ 0) (hta : a < (t + 1) * (t + 1)) :
    0 < t ∧ 1 ≤ wordSizeV w t ∧ wordSizeV w a ≤ 2 * wordSizeV w t
    ∧ (¬ (wordSizeV w a - wordSizeV w t = wordSizeV w t
          ∧ a / t / 2 ^ (w * wordSizeV w t) % 2 ^ w > 0) → a / t < 2 ^ (w * wordSizeV w t))
    ∧ (a / t < t → (a / t + t) / 2 < t ∧ a < ((a / t + t) / 2 + 1) * ((a / t + t) / 2 + 1)) := by
  have ht0 : t ≠ 0 := by
    rintro rfl
    simp at hta; omega
  obtain ⟨hm1, hbl⟩ := wordSizeV_ge w t hw ht0
  have hbu := wordSizeV_lt w t hw
  have han := wordSizeV_lt w a hw
  generalize wordSizeV w t = m at *
  have hn2 : wordSizeV w a ≤ 2 * m := by
    apply wordSizeV_le w a _ hw
    calc a < (t + 1) * (t + 1) := hta
      _ ≤ 2 ^ (w * m) * 2 ^ (w * m) := Nat.mul_le_mul hbu hbu
      _ = 2 ^ (w * (2 * m)) := by rw [← Nat.pow_add]; congr 1; ring
  generalize wordSizeV w a = n at *
  refine ⟨by omega, hm1, hn2, fun hc1 => ?_, fun hlt => ?_⟩
  · by_cases hnm : n - m = m
    · -- the quotient has m + 1 words and the top one is zero
      have h2 : a / t / 2 ^ (w * m) < 2 ^ w := by
        rw [Nat.div_lt_iff_lt_mul (Nat.two_pow_pos _), ← Nat.pow_add,
          show w + w * m = w * (m + 1) by ring]
        exact quot_bound w a t m n hm1 hbl han (m + 1) (by omega)
      have h0 : a / t / 2 ^ (w * m) = 0 := by
        by_contra h
        exact hc1 ⟨hnm, by rw [Nat.mod_eq_of_lt h2]; exact Nat.pos_of_ne_zero h⟩
      exact (Nat.div_eq_zero_iff.mp h0).resolve_left (Nat.two_pow_pos _).ne'
    · exact quot_bound w a t m n hm1 hbl han m (by omega)
  · have hng := newton_ge a t (Nat.sqrt a) (by omega) (Nat.sqrt_le a)
    have h1 : Nat.sqrt a + 1 ≤ (a / t + t) / 2 + 1 := by omega
    exact ⟨by omega, Nat.lt_of_lt_of_le (Nat.lt_succ_sqrt a) (Nat.mul_le_mul h1 h1)⟩

theorem zzSqrtLoop_spec (w a : Nat) (hw : 0 < w) (ha : a ≠ 0) :
    ∀ (f t m : Nat), a < (t + 1) * (t + 1) → t < 2 ^ (w * m) → t < f →
      (zzSqrtLoop w a (wordSizeV w a) f t m).1 = Nat.sqrt a
      ∧ ((zzSqrtLoop w a (wordSizeV w a) f t m).2 = true ↔ Nat.sqrt a * Nat.sqrt a = a) := by
  intro f
  induction f with
  | zero => intro t m _ _ h; omega
  | succ f ih =>
    intro t m hta htm htf
    unfold zzSqrtLoop
    simp only []
    rw [Nat.mod_eq_of_lt htm]
    obtain ⟨htpos, _, _, hq, hnewton⟩ := sqrt_step w a t hw ha hta
    have hbu := wordSizeV_lt w t hw
    -- the three ways out have `t ≤ a / t`, so t is the root
    have exit : ∀ flag : Bool, t ≤ a / t → (flag = true ↔ t * t = a) →
        t = Nat.sqrt a ∧ (flag = true ↔ Nat.sqrt a * Nat.sqrt a = a) := fun flag hle hf =>
      have hr := root_of_quot_ge a t htpos hta hle
      ⟨hr, hr ▸ hf⟩
    have notsq : t < a / t → (false = true ↔ t * t = a) := fun hlt =>
      ⟨fun h => absurd h (by decide), fun h => absurd h (not_square_of_quot_gt a t htpos hlt)⟩
    by_cases hc1 : wordSizeV w a - wordSizeV w t = wordSizeV w t
        ∧ a / t / 2 ^ (w * wordSizeV w t) % 2 ^ w > 0
    · rw [if_pos hc1]
      have hge : 2 ^ (w * wordSizeV w t) ≤ a / t := by
        by_contra h
        rw [Nat.div_eq_of_lt (by omega)] at hc1
        simp at hc1
      exact exit _ (by omega) (notsq (by omega))
    · rw [if_neg hc1, Nat.mod_eq_of_lt (hq hc1)]
      by_cases hc2 : t = a / t
      · rw [if_pos hc2]
        refine exit _ (by omega) ?_
        have hdm := Nat.div_add_mod a t
        rw [← hc2] at hdm
        simp only [decide_eq_true_eq]
        constructor <;> intro h <;> omega
      · rw [if_neg hc2]
        by_cases hc3 : t < a / t
        · rw [if_pos hc3]
          exact exit _ (by omega) (notsq hc3)
        · rw [if_neg hc3]
          obtain ⟨h1, h2⟩ := hnewton (by omega)
          exact ih _ _ h2 (by omega) (by omega)

/-- the start value `2^((len(a) + 1) / 2) - 1` of zzSqrt (written as the model computes it in
    `(n + 1) / 2 + 1` words) fits `(n + 1) / 2` words and is not below the root -/
theorem sqrt_start (w n a : Nat) (hw : 0 < w) (ha0 : a ≠ 0) (ha : a < 2 ^ (w * n)) :
    (bitSizeV a + 1) / 2 ≤ w * ((n + 1) / 2)
    ∧ (2 ^ ((bitSizeV a + 1) / 2) % 2 ^ (w * ((n + 1) / 2 + 1)) + 2 ^ (w * ((n + 1) / 2 + 1)) - 1)
        % 2 ^ (w * ((n + 1) / 2 + 1)) = 2 ^ ((bitSizeV a + 1) / 2) - 1
    ∧ a < (2 ^ ((bitSizeV a + 1) / 2) - 1 + 1) * (2 ^ ((bitSizeV a + 1) / 2) - 1 + 1)
    ∧ 2 ^ ((bitSizeV a + 1) / 2) - 1 < 2 ^ (w * ((n + 1) / 2)) := by
  have hL : bitSizeV a ≤ w * n := by
    by_contra h
    obtain ⟨_, h2⟩ := bitSizeV_ge a ha0
    have := Nat.pow_le_pow_right (show 0 < 2 by omega) (show w * n ≤ bitSizeV a - 1 by omega)
    omega
  have hmm : w * n ≤ 2 * (w * ((n + 1) / 2)) := by
    rw [← Nat.mul_assoc, Nat.mul_comm 2 w, Nat.mul_assoc]
    exact Nat.mul_le_mul_left _ (by omega)
  have hk : (bitSizeV a + 1) / 2 ≤ w * ((n + 1) / 2) := by omega
  have hk2 : bitSizeV a ≤ 2 * ((bitSizeV a + 1) / 2) := by omega
  have h1 := bitSizeV_lt a
  generalize (bitSizeV a + 1) / 2 = k at *
  have hp1 : 2 ^ k ≤ 2 ^ (w * ((n + 1) / 2)) := Nat.pow_le_pow_right (by omega) hk
  have hp2 : 2 ^ (w * ((n + 1) / 2)) < 2 ^ (w * ((n + 1) / 2 + 1)) :=
    Nat.pow_lt_pow_right (by omega) (by rw [Nat.mul_succ]; omega)
  have hkpos := Nat.two_pow_pos k
  have h2 : 2 ^ bitSizeV a ≤ 2 ^ (2 * k) := Nat.pow_le_pow_right (by omega) hk2
  have h3 : 2 ^ (2 * k) = 2 ^ k * 2 ^ k := by rw [← Nat.pow_add]; congr 1; ring
  have h4 : 2 ^ k - 1 + 1 = 2 ^ k := by omega
  refine ⟨hk, ?_, by rw [h4]; omega, by omega⟩
  rw [Nat.mod_eq_of_lt (show 2 ^ k < 2 ^ (w * ((n + 1) / 2 + 1)) by omega),
    show 2 ^ k + 2 ^ (w * ((n + 1) / 2 + 1)) - 1 = (2 ^ k - 1) + 2 ^ (w * ((n + 1) / 2 + 1)) by omega,
    Nat.add_mod_right]
  exact Nat.mod_eq_of_lt (by omega)

/-! ## zzJacobi -/

open scoped NumberTheorySymbols

/-- the sign picked up by removing `2^s` from the numerator -/
def twoSign (s v : Nat) : Int := if s % 2 = 1 ∧ (v % 8 = 3 ∨ v % 8 = 5) then -1 else 1

theorem loZerosEF_eq : ∀ f n, loZerosEF f n = loZerosF f n := by
  intro f
  induction f with
  | zero => intro n; rfl
  | succ f ih => intro n; simp only [loZerosEF, loZerosF, ih]

theorem loZerosE_eq (n : Nat) : loZerosE n = loZeros n := loZerosEF_eq n n

theorem jacobi_two_pow (v : Nat) (hv : v % 2 = 1) : ∀ (s n : Nat), 2 ^ s ∣ n →
    J((n : ℤ) | v) = twoSign s v * J(((n / 2 ^ s : ℕ) : ℤ) | v) := by
  intro s
  induction s with
  | zero => intro n _; simp [twoSign]
  | succ s ih =>
    intro n h
    obtain ⟨q, rfl⟩ : ∃ q, n = 2 * q := by
      obtain ⟨c, hc⟩ := h
      exact ⟨2 ^ s * c, by rw [hc, Nat.pow_succ]; ring⟩
    have hq : 2 ^ s ∣ q := by
      rw [Nat.pow_succ, Nat.mul_comm] at h
      exact Nat.dvd_of_mul_dvd_mul_left (by omega) h
    have hz : ((2 * q : ℕ) : ℤ) % 2 = 0 := by push_cast; omega
    have h8 := jacobiSym.even_odd hz hv
    have e2 : ((2 * q : ℕ) : ℤ) / 2 = (q : ℤ) := by push_cast; omega
    have e : 2 * q / 2 ^ (s + 1) = q / 2 ^ s := by
      rw [Nat.pow_succ, Nat.mul_comm (2 ^ s), Nat.mul_div_mul_left _ _ (by omega : 0 < 2)]
    rw [e2, ih q hq] at h8
    rw [e, ← h8]
    generalize J(((q / 2 ^ s : ℕ) : ℤ) | v) = X
    unfold twoSign
    have hs : (s + 1) % 2 = 1 ↔ ¬ s % 2 = 1 := by omega
    by_cases c1 : v % 8 = 3 ∨ v % 8 = 5 <;> by_cases c2 : s % 2 = 1 <;> simp [c1, c2, hs]

theorem loZerosEF_spec (v : Nat) (hv : v % 2 = 1) : ∀ (f n : Nat), 0 < n → n ≤ f →
    (n / 2 ^ loZerosEF f n) % 2 = 1 ∧ 0 < n / 2 ^ loZerosEF f n ∧ n / 2 ^ loZerosEF f n ≤ n
      ∧ J((n : ℤ) | v) = twoSign (loZerosEF f n) v * J(((n / 2 ^ loZerosEF f n : ℕ) : ℤ) | v) := by
  intro f n hn hf
  rw [loZerosEF_eq]
  obtain ⟨d, ho⟩ := Gcd.loZerosF_spec f n hn hf
  exact ⟨ho, Nat.div_pos (Nat.le_of_dvd hn d) (Nat.two_pow_pos _), Nat.div_le_self _ _,
    jacobi_two_pow v hv _ n d⟩

theorem zzJacobiLoop_spec : ∀ (f u v : Nat) (t : Int), v % 2 = 1 → v ≤ f → (u < v ∨ v = 1) →
    zzJacobiLoop f u v t = t * J((u : ℤ) | v) := by
  intro f
  induction f with
  | zero => intro u v t h1 h2; omega
  | succ f ih =>
    intro u v t hv hf huv
    unfold zzJacobiLoop
    by_cases h1 : v > 1
    · rw [if_pos h1]
      by_cases hu0 : u = 0
      · rw [if_pos hu0, hu0]
        simp [jacobiSym.zero_left h1]
      · rw [if_neg hu0]
        by_cases hu1 : u = 1
        · rw [if_pos hu1, hu1]
          simp [jacobiSym.one_left]
        · rw [if_neg hu1]
          simp only []
          obtain ⟨g1, g2, g3, g4⟩ := loZerosEF_spec v hv u u (by omega) (Nat.le_refl _)
          change (u / 2 ^ loZerosE u) % 2 = 1 at g1
          change 0 < u / 2 ^ loZerosE u at g2
          change u / 2 ^ loZerosE u ≤ u at g3
          change J((u : ℤ) | v) = twoSign (loZerosE u) v * J(((u / 2 ^ loZerosE u : ℕ) : ℤ) | v) at g4
          generalize loZerosE u = s at *
          generalize u / 2 ^ s = u' at *
          rw [ih (v % u') u' _ g1 (by omega) (Or.inl (Nat.mod_lt _ g2))]
          rw [g4]
          have hqr := jacobiSym.quadratic_reciprocity_if g1 hv
          have hml := jacobiSym.mod_left (v : ℤ) u'
          rw [← Int.natCast_mod] at hml
          rw [← hqr, hml]
          unfold twoSign
          generalize J(((v % u' : ℕ) : ℤ) | u') = X
          by_cases c1 : s % 2 = 1 ∧ (v % 8 = 3 ∨ v % 8 = 5) <;>
            by_cases c2 : u' % 4 = 3 ∧ v % 4 = 3 <;> simp [c1, c2]
    · rw [if_neg h1]
      have : v = 1 := by omega
      subst this
      simp [jacobiSym.one_right]

/-! ## Montgomery reduction -/

theorem pow_w_succ (w i : Nat) : 2 ^ (w * (i + 1)) = 2 ^ (w * i) * 2 ^ w := by
  rw [Nat.mul_succ, Nat.pow_add]

/-- the multiplier `wi` kills the lowest remaining word -/
theorem mont_word (B q md mp : Nat) (hmp : (md % B * mp + 1) % B = 0) :
    (q + (q % B * mp % B) * md) % B = 0 := by
  have h0 : md * mp + 1 ≡ 0 [MOD B] := by
    have : md * mp + 1 ≡ md % B * mp + 1 [MOD B] :=
      (((Nat.mod_modEq md B).symm).mul_right mp).add_right 1
    exact this.trans hmp
  have e1 : q % B * mp % B ≡ q * mp [MOD B] :=
    (Nat.mod_modEq _ _).trans ((Nat.mod_modEq q B).mul_right mp)
  have e2 : q + (q % B * mp % B) * md ≡ q + q * mp * md [MOD B] :=
    (Nat.ModEq.refl q).add (e1.mul_right md)
  have e3 : q + q * mp * md = q * (md * mp + 1) := by ring
  rw [e3] at e2
  have e4 : q * (md * mp + 1) ≡ q * 0 [MOD B] := h0.mul_left q
  exact (e2.trans e4).trans (by rw [Nat.mul_zero])

theorem zzRedMontLoopV_spec (w md mp : Nat) (hmp : (md % 2 ^ w * mp + 1) % 2 ^ w = 0) :
    ∀ (k i a : Nat), 2 ^ (w * i) ∣ a →
      2 ^ (w * (i + k)) ∣ zzRedMontLoopV w md mp k i a
      ∧ zzRedMontLoopV w md mp k i a ≡ a [MOD md]
      ∧ zzRedMontLoopV w md mp k i a + md * 2 ^ (w * i) ≤ a + md * 2 ^ (w * (i + k)) := by
  intro k
  induction k with
  | zero => intro i a h; exact ⟨h, Nat.ModEq.refl _, Nat.le_refl _⟩
  | succ k ih =>
    intro i a hdiv
    unfold zzRedMontLoopV
    simp only []
    generalize hwi : a / 2 ^ (w * i) % 2 ^ w * mp % 2 ^ w = wi
    have hwlt : wi < 2 ^ w := by rw [← hwi]; exact Nat.mod_lt _ (Nat.two_pow_pos w)
    have hdiv' : 2 ^ (w * (i + 1)) ∣ a + wi * md * 2 ^ (w * i) := by
      obtain ⟨q, hq⟩ := hdiv
      have hq' : a / 2 ^ (w * i) = q := by
        rw [hq, Nat.mul_div_cancel_left _ (Nat.two_pow_pos _)]
      have := mont_word (2 ^ w) q md mp hmp
      rw [hq'] at hwi
      rw [hwi] at this
      obtain ⟨c, hc⟩ := Nat.dvd_of_mod_eq_zero this
      refine ⟨c, ?_⟩
      rw [pow_w_succ, hq]
      calc 2 ^ (w * i) * q + wi * md * 2 ^ (w * i) = 2 ^ (w * i) * (q + wi * md) := by ring
        _ = 2 ^ (w * i) * 2 ^ w * c := by rw [hc]; ring
    obtain ⟨g1, g2, g3⟩ := ih (i + 1) _ hdiv'
    have e : i + 1 + k = i + (k + 1) := by omega
    rw [e] at g1 g3
    refine ⟨g1, g2.trans ?_, ?_⟩
    · have : wi * md * 2 ^ (w * i) ≡ 0 [MOD md] := by
        rw [Nat.modEq_zero_iff_dvd]
        exact ⟨wi * 2 ^ (w * i), by ring⟩
      simpa using (Nat.ModEq.refl a).add this
    · have hw1 : wi * md * 2 ^ (w * i) + md * 2 ^ (w * i) ≤ md * 2 ^ (w * (i + 1)) := by
        rw [pow_w_succ]
        have : (wi + 1) * (md * 2 ^ (w * i)) ≤ 2 ^ w * (md * 2 ^ (w * i)) :=
          Nat.mul_le_mul_right _ (by omega)
        calc wi * md * 2 ^ (w * i) + md * 2 ^ (w * i) = (wi + 1) * (md * 2 ^ (w * i)) := by ring
          _ ≤ 2 ^ w * (md * 2 ^ (w * i)) := this
          _ = md * (2 ^ (w * i) * 2 ^ w) := by ring
      omega

theorem mont_decode {md k z x c : Nat} (hodd : md % 2 = 1)
    (hz : z < md ∧ z * 2 ^ k ≡ x [MOD md]) (h : x ≡ c * 2 ^ k [MOD md]) : z = c % md :=
  mont_unique hodd ((hz.2.trans h).trans ((Nat.mod_modEq c md).mul_right _).symm) hz.1
    (Nat.mod_lt _ (by omega))

/-! ## zmCreate: octet strings -/

theorem oval_allFF (l : List Nat) (h : memIsRepV l 0xFF = true) :
    val 8 l + 1 = 2 ^ (8 * l.length) := by
  induction l with
  | nil => simp [val]
  | cons x xs ih =>
    simp only [memIsRepV, List.all_cons, Bool.and_eq_true, beq_iff_eq] at h
    have := ih (by simpa [memIsRepV] using h.2)
    rw [val_cons, List.length_cons, Nat.mul_succ, Nat.pow_add]
    have e : 2 ^ (8 * xs.length) * 2 ^ 8 = 2 ^ 8 * 2 ^ (8 * xs.length) := Nat.mul_comm _ _
    have h8 : (2 : Nat) ^ 8 = 256 := rfl
    rw [e, h8]
    omega

theorem oval_pos (l : List Nat) (h : memIsZeroV l = false) : 0 < val 8 l := by
  induction l with
  | nil => simp [memIsZeroV] at h
  | cons x xs ih =>
    simp only [val_cons]
    by_cases hx : x = 0
    · subst hx
      have : memIsZeroV xs = false := by simpa [memIsZeroV] using h
      have := ih this
      omega
    · omega

/-! ## wordNegInv -/

theorem wordNegInv_step (w m0 ret e : Nat) (h : 2 ^ e ∣ m0 * ret + 1) :
    2 ^ (min (2 * e) w) ∣ m0 * (ret * ((m0 * ret % 2 ^ w + 2) % 2 ^ w) % 2 ^ w) + 1 := by
  have e1 : ret * ((m0 * ret % 2 ^ w + 2) % 2 ^ w) % 2 ^ w ≡ ret * (m0 * ret + 2) [MOD 2 ^ w] :=
    (Nat.mod_modEq _ _).trans
      ((Nat.ModEq.refl ret).mul ((Nat.mod_modEq _ _).trans ((Nat.mod_modEq _ _).add_right 2)))
  have e2 : m0 * (ret * ((m0 * ret % 2 ^ w + 2) % 2 ^ w) % 2 ^ w) + 1
      ≡ m0 * (ret * (m0 * ret + 2)) + 1 [MOD 2 ^ w] := (e1.mul_left m0).add_right 1
  have e3 : m0 * (ret * (m0 * ret + 2)) + 1 = (m0 * ret + 1) * (m0 * ret + 1) := by ring
  rw [e3] at e2
  have d1 : 2 ^ (min (2 * e) w) ∣ 2 ^ w := Nat.pow_dvd_pow 2 (Nat.min_le_right _ _)
  have d2 : 2 ^ (min (2 * e) w) ∣ (m0 * ret + 1) * (m0 * ret + 1) := by
    have : 2 ^ (2 * e) ∣ (m0 * ret + 1) * (m0 * ret + 1) := by
      rw [Nat.two_mul, Nat.pow_add]; exact Nat.mul_dvd_mul h h
    exact Nat.dvd_trans (Nat.pow_dvd_pow 2 (Nat.min_le_left _ _)) this
  exact ((e2.of_dvd d1).dvd_iff (dvd_refl _)).2 d2

theorem wordNegInvLoop_spec (w m0 : Nat) : ∀ (k ret e : Nat), 2 ^ e ∣ m0 * ret + 1 → e ≤ w →
    2 ^ (min (e * 2 ^ k) w) ∣ m0 * wordNegInvLoop w m0 k ret + 1 := by
  intro k
  induction k with
  | zero =>
    intro ret e h he
    simpa [wordNegInvLoop, Nat.min_eq_left he] using h
  | succ k ih =>
    intro ret e h he
    unfold wordNegInvLoop
    have := ih _ _ (wordNegInv_step w m0 ret e h) (Nat.min_le_right _ _)
    have e4 : min (min (2 * e) w * 2 ^ k) w = min (e * 2 ^ (k + 1)) w := by
      rw [Nat.pow_succ]
      by_cases hc : 2 * e ≤ w
      · rw [Nat.min_eq_left hc]; congr 1; ring
      · have h1 : min (2 * e) w = w := Nat.min_eq_right (by omega)
        rw [h1]
        have hp := Nat.two_pow_pos k
        have h2 : w ≤ w * 2 ^ k := Nat.le_mul_of_pos_right _ hp
        have h3 : w ≤ e * (2 ^ k * 2) := by
          calc w ≤ 2 * e := by omega
            _ = e * (1 * 2) := by ring
            _ ≤ e * (2 ^ k * 2) := Nat.mul_le_mul_left _ (Nat.mul_le_mul_right _ hp)
        rw [Nat.min_eq_right h2, Nat.min_eq_right h3]
    rw [e4] at this
    exact this

end Bee2V.C05.Etc
