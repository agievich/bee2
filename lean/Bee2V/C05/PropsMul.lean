/-
C05 — property theorems of the multiplicative part of the arithmetic layer
(src/math/zz/zz_mul.c, zz_red.c; models in ModelMul.lean, helper lemmas in LemmasMul.lean).

Every theorem is for all word sizes `w` and all lengths, under the preconditions of
include/bee2/math/zz.h, and states value + carry/borrow + `Wf` + length of the result.
`val w a` is the value of the little-endian word list `a` in base `2^w`.
-/
import Bee2V.C05.LemmasMul
namespace Bee2V.C05
open Bee2V.C05.Mul
open Bee2V.C05.Add (mod_wrap lor01 wneg01)

/-! ## multiplication by a word -/

/-- zzMulW: `b + B^n carry = a * w`; the double word never wraps. -/
theorem zzMulW_spec (w : Nat) (a : List Nat) (x : Nat) (ha : Wf w a) (hx : x < 2 ^ w) :
    val w (zzMulW w a x).1 + 2 ^ (w * a.length) * (zzMulW w a x).2 = val w a * x
    ∧ (zzMulW w a x).2 < 2 ^ w ∧ Wf w (zzMulW w a x).1 ∧ (zzMulW w a x).1.length = a.length := by
  simpa [zzMulW] using zzMulWLoop_spec w a x 0 ha hx (Nat.two_pow_pos w)

example : zzMulW 8 [255, 255, 255] 255 = ([1, 255, 255], 254) := by decide

/-- zzMulW as the header states it: `b = a w mod B^n`, `carry = a w div B^n`. -/
theorem zzMulW_divmod (w : Nat) (a : List Nat) (x : Nat) (ha : Wf w a) (hx : x < 2 ^ w) :
    val w (zzMulW w a x).1 = (val w a * x) % 2 ^ (w * a.length)
    ∧ (zzMulW w a x).2 = (val w a * x) / 2 ^ (w * a.length) := by
  obtain ⟨h1, _, h3, h4⟩ := zzMulW_spec w a x ha hx
  have hlt := val_lt h3
  rw [h4] at hlt
  rw [← h1]
  have hP : 0 < 2 ^ (w * a.length) := Nat.two_pow_pos _
  rw [Nat.add_mul_mod_self_left, Nat.mod_eq_of_lt hlt, Nat.add_mul_div_left _ _ hP,
    Nat.div_eq_of_lt hlt, Nat.zero_add]
  exact ⟨rfl, rfl⟩

/-- zzAddMulW: `b' + B^n carry = b + a * w`. -/
theorem zzAddMulW_spec (w : Nat) (b a : List Nat) (x : Nat) (hb : Wf w b) (ha : Wf w a)
    (hl : b.length = a.length) (hx : x < 2 ^ w) :
    val w (zzAddMulW w b a x).1 + 2 ^ (w * b.length) * (zzAddMulW w b a x).2
      = val w b + val w a * x
    ∧ (zzAddMulW w b a x).2 < 2 ^ w ∧ Wf w (zzAddMulW w b a x).1
    ∧ (zzAddMulW w b a x).1.length = b.length := by
  simpa [zzAddMulW] using zzAddMulWLoop_spec w b a x 0 hb ha hl hx (Nat.two_pow_pos w)

example : zzAddMulW 8 [255, 255] [255, 255] 255 = ([0, 255], 255) := by decide

/-- zzSubMulW: `b' + a * w = b + B^n borrow`, the borrow is a word. -/
theorem zzSubMulW_spec (w : Nat) (b a : List Nat) (x : Nat) (hb : Wf w b) (ha : Wf w a)
    (hl : b.length = a.length) (hx : x < 2 ^ w) :
    val w (zzSubMulW w b a x).1 + val w a * x
      = val w b + 2 ^ (w * b.length) * (zzSubMulW w b a x).2
    ∧ (zzSubMulW w b a x).2 < 2 ^ w ∧ Wf w (zzSubMulW w b a x).1
    ∧ (zzSubMulW w b a x).1.length = b.length := by
  simpa [zzSubMulW] using zzSubMulWLoop_spec w b a x 0 hb ha hl hx (Nat.two_pow_pos w)

example : zzSubMulW 8 [0, 0] [255, 255] 255 = ([255, 0], 255) := by decide

/-! ## zzMul, zzSqr -/

/-- zzMul: `c = a * b` exactly, `n + m` words. -/
theorem zzMul_spec (w : Nat) (a b : List Nat) (ha : Wf w a) (hb : Wf w b) :
    val w (zzMul w a b) = val w a * val w b ∧ Wf w (zzMul w a b)
    ∧ (zzMul w a b).length = a.length + b.length :=
  Mul.zzMul_spec w a b ha hb

example : zzMul 8 [255, 255] [255, 255, 255] = [1, 0, 255, 254, 255] := by decide

/-- zzSqr (three passes; pass 3 starts from the carry left by pass 2, which is 0 because
    `2 Σ_{i<j} a_i a_j B^{i+j} < B^{2n}`): `b = a^2` exactly, `2n` words. -/
theorem zzSqr_spec (w : Nat) (hw : 0 < w) (a : List Nat) (ha : Wf w a) :
    val w (zzSqr w a) = val w a ^ 2 ∧ Wf w (zzSqr w a)
    ∧ (zzSqr w a).length = a.length + a.length := by
  rw [Nat.pow_two]
  exact Mul.zzSqr_spec w hw a ha

example : zzSqr 8 [255, 255, 255] = [1, 0, 0, 254, 255, 255] := by decide

/-! ## division by a word -/

/-- zzDivW: `a = q * w + r`, `r < w` (header: `\pre w != 0`), `n` quotient words. -/
theorem zzDivW_spec (w : Nat) (a : List Nat) (x : Nat) (ha : Wf w a) (hx0 : 0 < x)
    (hx : x < 2 ^ w) :
    val w a = val w (zzDivW w a x).1 * x + (zzDivW w a x).2 ∧ (zzDivW w a x).2 < x
    ∧ Wf w (zzDivW w a x).1 ∧ (zzDivW w a x).1.length = a.length :=
  Mul.zzDivW_spec w a x ha hx0 hx

/-- zzDivW in `/`, `%` form. -/
theorem zzDivW_divmod (w : Nat) (a : List Nat) (x : Nat) (ha : Wf w a) (hx0 : 0 < x)
    (hx : x < 2 ^ w) :
    val w (zzDivW w a x).1 = val w a / x ∧ (zzDivW w a x).2 = val w a % x := by
  obtain ⟨h1, h2, _, _⟩ := Mul.zzDivW_spec w a x ha hx0 hx
  obtain ⟨h3, h4⟩ := mod_of_divmod h1 h2
  exact ⟨h4.symm, h3.symm⟩

example : zzDivW 8 [255, 255, 255] 10 = ([153, 153, 25], 5) := by decide

/-- zzModW: the remainder `a mod w`. -/
theorem zzModW_spec (w : Nat) (a : List Nat) (x : Nat) (ha : Wf w a) (hx0 : 0 < x)
    (hx : x < 2 ^ w) : zzModW w a x = val w a % x := by
  rw [zzModW_eq]
  exact (zzDivW_divmod w a x ha hx0 hx).2

example : zzModW 8 [255, 255, 255] 10 = 5 := by decide

/-- zzModW2 (regular body): for `w != 0 && w^2 <= B` the result is `a mod w`; the two
    normalisation steps suffice and no double word wraps (the bounds of the comment block). -/
theorem zzModW2_spec (w : Nat) (a : List Nat) (x : Nat) (ha : Wf w a) (hx0 : 0 < x)
    (hxx : x * x ≤ 2 ^ w) : zzModW2 w a x = val w a % x :=
  Mul.zzModW2_spec w a x ha hx0 hxx

/-- zzModW2 (`SAFE_FAST` body): the `while` loop ends after at most two iterations (the fuel of the
    model is not exhausted) and the result is `a mod w`. -/
theorem zzModW2F_spec (w : Nat) (a : List Nat) (x : Nat) (ha : Wf w a) (hx0 : 0 < x)
    (hxx : x * x ≤ 2 ^ w) : zzModW2F w a x = val w a % x :=
  Mul.zzModW2F_spec w a x ha hx0 hxx

/-- both bodies of zzModW2 agree (and agree with zzModW) under the header's precondition. -/
theorem zzModW2F_eq (w : Nat) (a : List Nat) (x : Nat) (ha : Wf w a) (hx0 : 0 < x)
    (hxx : x * x ≤ 2 ^ w) : zzModW2F w a x = zzModW2 w a x := by
  rw [Mul.zzModW2F_spec w a x ha hx0 hxx, Mul.zzModW2_spec w a x ha hx0 hxx]

example : zzModW2 8 [255, 255, 255] 15 = 0 ∧ zzModW2F 8 [255, 255, 255] 13 = 0
    ∧ zzModW2 8 [255, 255, 255] 16 = 15 ∧ 16 * 16 ≤ 2 ^ 8 := by decide

/-! ## Montgomery reduction -/

/-- SAFE(zzRedMont): for `mod = m0 :: ms` (`n = |mod| ≥ 1` words), `|a| = 2n`,
    `mod[0] * mont_param ≡ -1 (mod B)` and `a < mod * B^n`:
    the result `r` has `n` words, `r < mod` and `r * B^n ≡ a (mod mod)`, i.e. `r = a R^{-1} mod mod`.
    Of the header's preconditions, "mod is odd" is implied by the `mont_param` condition and
    `mod[n-1] != 0` is not needed. -/
theorem zzRedMont_safe_spec (w : Nat) (m0 : Nat) (ms a : List Nat) (mp : Nat)
    (ha : Wf w a) (hmod : Wf w (m0 :: ms))
    (hl : a.length = (m0 :: ms).length + (m0 :: ms).length)
    (hmp : (m0 * mp + 1) % 2 ^ w = 0)
    (hlt : val w a < val w (m0 :: ms) * 2 ^ (w * (m0 :: ms).length)) :
    (val w (zzRedMont_safe w a (m0 :: ms) mp) * 2 ^ (w * (m0 :: ms).length)) % val w (m0 :: ms)
      = val w a % val w (m0 :: ms)
    ∧ val w (zzRedMont_safe w a (m0 :: ms) mp) < val w (m0 :: ms)
    ∧ Wf w (zzRedMont_safe w a (m0 :: ms) mp)
    ∧ (zzRedMont_safe w a (m0 :: ms) mp).length = (m0 :: ms).length :=
  zzRedMont_common w m0 ms a mp ha hmod hl hmp hlt _
    (zzRedMont_safe_eq w m0 ms a mp ha hmod hl hmp hlt)

/-- FAST(zzRedMont): the same statement. -/
theorem zzRedMont_fast_spec (w : Nat) (m0 : Nat) (ms a : List Nat) (mp : Nat)
    (ha : Wf w a) (hmod : Wf w (m0 :: ms))
    (hl : a.length = (m0 :: ms).length + (m0 :: ms).length)
    (hmp : (m0 * mp + 1) % 2 ^ w = 0)
    (hlt : val w a < val w (m0 :: ms) * 2 ^ (w * (m0 :: ms).length)) :
    (val w (zzRedMont_fast w a (m0 :: ms) mp) * 2 ^ (w * (m0 :: ms).length)) % val w (m0 :: ms)
      = val w a % val w (m0 :: ms)
    ∧ val w (zzRedMont_fast w a (m0 :: ms) mp) < val w (m0 :: ms)
    ∧ Wf w (zzRedMont_fast w a (m0 :: ms) mp)
    ∧ (zzRedMont_fast w a (m0 :: ms) mp).length = (m0 :: ms).length :=
  zzRedMont_common w m0 ms a mp ha hmod hl hmp hlt _
    (zzRedMont_fast_eq w m0 ms a mp ha hmod hl hmp)

/-- SAFE(zzRedMont) = FAST(zzRedMont) under the header's preconditions. -/
theorem zzRedMont_safe_eq_fast (w : Nat) (m0 : Nat) (ms a : List Nat) (mp : Nat)
    (ha : Wf w a) (hmod : Wf w (m0 :: ms))
    (hl : a.length = (m0 :: ms).length + (m0 :: ms).length)
    (hmp : (m0 * mp + 1) % 2 ^ w = 0)
    (hlt : val w a < val w (m0 :: ms) * 2 ^ (w * (m0 :: ms).length)) :
    zzRedMont_safe w a (m0 :: ms) mp = zzRedMont_fast w a (m0 :: ms) mp :=
  (zzRedMont_safe_eq w m0 ms a mp ha hmod hl hmp hlt).trans
    (zzRedMont_fast_eq w m0 ms a mp ha hmod hl hmp).symm

/-- the Dusse–Kaliski loop leaves the low `n` words zero (`ASSERT(wwIsZero(a, n))` in the C). -/
theorem zzRedMont_low_zero (w : Nat) (m0 : Nat) (ms a : List Nat) (mp : Nat)
    (ha : Wf w a) (hmod : Wf w (m0 :: ms))
    (hl : a.length = (m0 :: ms).length + (m0 :: ms).length)
    (hmp : (m0 * mp + 1) % 2 ^ w = 0) :
    val w ((zzRedMontLoop w (m0 :: ms) mp (m0 :: ms).length a 0).1.take (m0 :: ms).length) = 0 := by
  obtain ⟨_, _, _, _, h, _⟩ :=
    zzRedMontLoop_spec w m0 ms mp hmod hmp (ms.length + 1) a 0 ha hl (by omega)
  exact h

-- non-vacuity: mod = 0x03FB, a = mod * B^2 - 1 (the largest admissible input), w = 8
example : Wf 8 [255, 255, 250, 3] ∧ Wf 8 [251, 3] ∧ (251 * 205 + 1) % 2 ^ 8 = 0
    ∧ val 8 [255, 255, 250, 3] < val 8 [251, 3] * 2 ^ (8 * 2) := by decide
example : zzRedMont_safe 8 [255, 255, 250, 3] [251, 3] 205 = [58, 2] := by decide
example : zzRedMont_fast 8 [255, 255, 250, 3] [251, 3] 205 = [58, 2] := by decide

/-! ## Crandall reduction -/

/-- SAFE(zzRedCrand): for `mod = m0 :: ms` with `0 < m0` and every higher word `B - 1`
    (i.e. `mod = B^n - c`, `0 < c < B`), `n = |mod| ≥ 2`, `|a| = 2n`:
    the result is `a mod mod` exactly, `n` words. -/
theorem zzRedCrand_safe_spec (w : Nat) (m0 : Nat) (ms a : List Nat) (ha : Wf w a)
    (hm0 : 0 < m0) (hm0B : m0 < 2 ^ w) (hms : ∀ x ∈ ms, x = 2 ^ w - 1) (hn : 2 ≤ (m0 :: ms).length)
    (hl : a.length = (m0 :: ms).length + (m0 :: ms).length) :
    val w (zzRedCrand_safe w a (m0 :: ms)) = val w a % val w (m0 :: ms)
    ∧ val w (zzRedCrand_safe w a (m0 :: ms)) < val w (m0 :: ms)
    ∧ Wf w (zzRedCrand_safe w a (m0 :: ms))
    ∧ (zzRedCrand_safe w a (m0 :: ms)).length = (m0 :: ms).length := by
  have hms1 : 0 < ms.length := by simp at hn; omega
  rw [zzRedCrand_safe_eq w m0 ms a ha hm0 hm0B hms hms1 hl]
  exact crandRes_spec w m0 ms a ha hm0 hm0B hms hms1 hl

/-- FAST(zzRedCrand): the same statement. -/
theorem zzRedCrand_fast_spec (w : Nat) (m0 : Nat) (ms a : List Nat) (ha : Wf w a)
    (hm0 : 0 < m0) (hm0B : m0 < 2 ^ w) (hms : ∀ x ∈ ms, x = 2 ^ w - 1) (hn : 2 ≤ (m0 :: ms).length)
    (hl : a.length = (m0 :: ms).length + (m0 :: ms).length) :
    val w (zzRedCrand_fast w a (m0 :: ms)) = val w a % val w (m0 :: ms)
    ∧ val w (zzRedCrand_fast w a (m0 :: ms)) < val w (m0 :: ms)
    ∧ Wf w (zzRedCrand_fast w a (m0 :: ms))
    ∧ (zzRedCrand_fast w a (m0 :: ms)).length = (m0 :: ms).length := by
  have hms1 : 0 < ms.length := by simp at hn; omega
  rw [zzRedCrand_fast_eq w m0 ms a ha hm0 hm0B hms hms1 hl]
  exact crandRes_spec w m0 ms a ha hm0 hm0B hms hms1 hl

/-- SAFE(zzRedCrand) = FAST(zzRedCrand) under the header's preconditions. -/
theorem zzRedCrand_safe_eq_fast (w : Nat) (m0 : Nat) (ms a : List Nat) (ha : Wf w a)
    (hm0 : 0 < m0) (hm0B : m0 < 2 ^ w) (hms : ∀ x ∈ ms, x = 2 ^ w - 1) (hn : 2 ≤ (m0 :: ms).length)
    (hl : a.length = (m0 :: ms).length + (m0 :: ms).length) :
    zzRedCrand_safe w a (m0 :: ms) = zzRedCrand_fast w a (m0 :: ms) := by
  have hms1 : 0 < ms.length := by simp at hn; omega
  rw [zzRedCrand_safe_eq w m0 ms a ha hm0 hm0B hms hms1 hl,
    zzRedCrand_fast_eq w m0 ms a ha hm0 hm0B hms hms1 hl]

-- non-vacuity: mod = B^3 - 17, a = B^6 - 1, w = 8
example : Wf 8 [255, 255, 255, 255, 255, 255] ∧ (0 < 239 ∧ 239 < 2 ^ 8) ∧ (∀ x ∈ [255, 255], x = 2 ^ 8 - 1) := by decide
example : zzRedCrand_safe 8 [255, 255, 255, 255, 255, 255] [239, 255, 255] = [32, 1, 0] := by decide
example : zzRedCrand_fast 8 [255, 255, 255, 255, 255, 255] [239, 255, 255] = [32, 1, 0] := by decide

end Bee2V.C05
