/-
C05 — the binary gcd family of zz_gcd.c = exact arithmetic (value-level models of
ModelGcd.lean; helper lemmas in LemmasGcd.lean).

Every theorem is about the top-level model function (fuel included), for ALL operand sizes.
-/
import Bee2V.C05.LemmasGcd
namespace Bee2V.C05
open Bee2V.C05.Add Bee2V.C05.Gcd

/-! ## zzDivMod -/

/-- zzDivMod, coprime case: `b * a ≡ divident (mod mod)` and `b < mod`
    (header: mod odd, a < mod, divident < mod). -/
theorem zzDivModV_spec (d a m : Nat) (hm : m % 2 = 1) (ha : a < m) (hd : d < m)
    (hg : Nat.gcd a m = 1) :
    (zzDivModV d a m * a) % m = d % m ∧ zzDivModV d a m < m := by
  unfold zzDivModV
  by_cases ha0 : a = 0
  · subst ha0
    rw [Nat.gcd_zero_left] at hg
    subst hg
    simp [Nat.mod_one]
  · rw [if_neg ha0]
    obtain ⟨h1, h2, h3⟩ := zzDivModLoop_top d a m hm (by omega) hd
    simp only []
    rw [h1, hg] at h3
    rw [h1, hg, if_neg (by simp)]
    refine ⟨?_, h2⟩
    have : d ≡ (zzDivModLoop m (a + m + 1) a m d 0).2 * a [MOD m] := by
      rw [Nat.modEq_iff_dvd]
      push_cast
      simpa using h3
    exact this.symm

/-- zzDivMod returns 0 when `a` is not invertible (this includes a = 0 for mod ≠ 1). -/
theorem zzDivModV_not_coprime (d a m : Nat) (hm : m % 2 = 1) (_ha : a < m) (hd : d < m)
    (hg : Nat.gcd a m ≠ 1) : zzDivModV d a m = 0 := by
  unfold zzDivModV
  by_cases ha0 : a = 0
  · rw [if_pos ha0]
  · rw [if_neg ha0]
    obtain ⟨h1, _, _⟩ := zzDivModLoop_top d a m hm (by omega) hd
    simp only []
    rw [h1, if_pos hg]

example : zzDivModV 12345 (10 ^ 19 + 7) (2 ^ 65 + 1) = 27931233920515280163
    ∧ (27931233920515280163 * (10 ^ 19 + 7)) % (2 ^ 65 + 1) = 12345 := by decide +kernel
example : zzDivModV 5 21 (3 * (2 ^ 64 + 1)) = 0 ∧ zzDivModV 5 0 7 = 0 := by decide +kernel

/-! ## zzGCD -/

/-- zzGCD computes the greatest common divisor (header: a, b ≠ 0). -/
theorem zzGCDV_spec (a b : Nat) (ha : 0 < a) (hb : 0 < b) : zzGCDV a b = Nat.gcd a b := by
  obtain ⟨h1, h2, h3, h4, h5⟩ := shift_common ha hb
  unfold zzGCDV
  simp only []
  rw [zzGCDLoop_spec _ _ _ h4 h5 ⟨h3, rfl⟩ (Nat.le_refl _), ← Nat.gcd_mul_right, h1, h2]

example : zzGCDV (6 * (2 ^ 64 + 1) * 16) (10 * (2 ^ 64 + 1) * 4) = 8 * (2 ^ 64 + 1) := by
  decide +kernel

/-! ## zzExGCD -/

/-- zzExGCD (header: a, b ≠ 0): `d = gcd(a, b)` and the Bezout identity `da * a - db * b = d`,
    stated without subtraction.  Also the size bounds that make da fit [m] and db fit [n] words:
    `da ≤ b / 2^s`, `db ≤ a / 2^s` (s = common power of two), in particular `da ≤ b`, `db ≤ a`. -/
theorem zzExGCDV_spec (a b : Nat) (ha : 0 < a) (hb : 0 < b) :
    (zzExGCDV a b).1 = Nat.gcd a b
    ∧ (zzExGCDV a b).2.1 * a = (zzExGCDV a b).1 + (zzExGCDV a b).2.2 * b
    ∧ (zzExGCDV a b).2.1 ≤ b ∧ (zzExGCDV a b).2.2 ≤ a := by
  obtain ⟨h1, h2, h3, h4, h5⟩ := shift_common ha hb
  unfold zzExGCDV
  simp only []
  generalize min (loZeros a) (loZeros b) = s at *
  generalize hA : a / 2 ^ s = aa at *
  generalize hB : b / 2 ^ s = bb at *
  obtain ⟨g1, g2, g3, g4, _⟩ := zzExGCDLoop_spec aa bb h4 h5 h3 (aa + bb) aa bb 1 0 0 1 h4 h5 ⟨h3, rfl⟩
    ⟨by simp, h5, Nat.zero_le _, Nat.le_refl _⟩ ⟨by simp, h4, Nat.zero_le _, Nat.le_refl _⟩
    (Nat.le_refl _)
  have hp : 0 < 2 ^ s := Nat.two_pow_pos s
  have la : aa ≤ a := by rw [← h1]; exact Nat.le_mul_of_pos_right _ hp
  have lb : bb ≤ b := by rw [← h2]; exact Nat.le_mul_of_pos_right _ hp
  refine ⟨?_, ?_, by omega, by omega⟩
  · rw [g1, ← Nat.gcd_mul_right, h1, h2]
  · conv_lhs => rw [← h1, ← Nat.mul_assoc, g2]
    conv_rhs => rw [← h2, ← Nat.mul_assoc]
    ring

example : zzExGCDV (6 * (10 ^ 19 + 7) * 16) (10 * (10 ^ 19 + 7) * 4)
      = (80000000000000000056, 46875000000000000033, 112500000000000000079)
    ∧ 46875000000000000033 * (6 * (10 ^ 19 + 7) * 16)
      = 80000000000000000056 + 112500000000000000079 * (10 * (10 ^ 19 + 7) * 4) := by
  decide +kernel

/-! ## zzAlmostInvMod -/

/-- zzAlmostInvMod (header: mod odd, 0 < a < mod), coprime case:
    `b * a ≡ 2^k (mod mod)`, `b < mod`, `k ≥ 1`. -/
theorem zzAlmostInvModV_spec (a m : Nat) (hm : m % 2 = 1) (ha0 : 0 < a) (_ha : a < m)
    (hg : Nat.gcd a m = 1) :
    ((zzAlmostInvModV a m).1 * a) % m = 2 ^ (zzAlmostInvModV a m).2 % m
    ∧ (zzAlmostInvModV a m).1 < m ∧ 1 ≤ (zzAlmostInvModV a m).2 := by
  obtain ⟨h1, h2, h3, h4, _⟩ := zzAlmostInvLoop_top a m hm ha0
  unfold zzAlmostInvModV
  simp only []
  rw [h1, hg] at h2
  rw [h1, hg, if_neg (by simp)]
  simp only []
  generalize (zzAlmostInvLoop (a + m) a m 1 0 0).2.1 = da at *
  generalize (zzAlmostInvLoop (a + m) a m 1 0 0).2.2 = k at *
  -- da' = da reduced once, b = mod - da' (0 for da' = 0): da + b is a multiple of mod
  have hb : (if da ≥ m then da - m else da) < m := by split_ifs <;> omega
  have hsum : ∃ e : ℤ, ((zzNegModV (if da ≥ m then da - m else da) m : Nat) : ℤ) + da = e * m := by
    unfold zzNegModV
    by_cases h5 : da ≥ m
    · rw [if_pos h5]
      by_cases h6 : da - m = 0
      · rw [if_pos h6]
        exact ⟨1, by have : da = m := by omega
                     rw [this]; simp⟩
      · rw [if_neg h6]
        refine ⟨2, ?_⟩
        have : m - (da - m) + da = 2 * m := by omega
        exact_mod_cast this
    · rw [if_neg h5]
      by_cases h6 : da = 0
      · rw [if_pos h6, h6]; exact ⟨0, by simp⟩
      · rw [if_neg h6]
        refine ⟨1, ?_⟩
        have : m - da + da = 1 * m := by omega
        exact_mod_cast this
  refine ⟨?_, ?_, h4⟩
  · have : (zzNegModV (if da ≥ m then da - m else da) m) * a ≡ 2 ^ k [MOD m] := by
      rw [Nat.modEq_iff_dvd]
      obtain ⟨c, hc⟩ := h2
      obtain ⟨e, he⟩ := hsum
      refine ⟨c - e * a, ?_⟩
      push_cast at hc ⊢
      linear_combination hc - (a : ℤ) * he
    exact this
  · unfold zzNegModV
    split_ifs <;> omega

/-- zzAlmostInvMod returns b = 0 when gcd(a, mod) ≠ 1. -/
theorem zzAlmostInvModV_not_coprime (a m : Nat) (hm : m % 2 = 1) (ha0 : 0 < a)
    (hg : Nat.gcd a m ≠ 1) : (zzAlmostInvModV a m).1 = 0 := by
  obtain ⟨h1, _⟩ := zzAlmostInvLoop_top a m hm ha0
  unfold zzAlmostInvModV
  simp only []
  rw [h1, if_pos hg]

example : zzAlmostInvModV (10 ^ 19 + 7) (2 ^ 65 + 1) = (21224237943502246504, 93)
    ∧ (21224237943502246504 * (10 ^ 19 + 7)) % (2 ^ 65 + 1) = 2 ^ 93 % (2 ^ 65 + 1) := by
  decide +kernel
example : (zzAlmostInvModV 21 (3 * (2 ^ 64 + 1))).1 = 0 := by decide +kernel

/-- the iteration count of zzAlmostInvMod (Kaliski's bounds), coprime case:
    `mod ≤ 2^k ≤ 2 a mod`, hence `bitlen mod ≤ k ≤ 2 bitlen mod` with
    `bitlen mod = Nat.log2 mod + 1` (wwBitSize). -/
theorem zzAlmostInvModV_count (a m : Nat) (hm : m % 2 = 1) (ha0 : 0 < a) (ha : a < m)
    (hg : Nat.gcd a m = 1) :
    m ≤ 2 ^ (zzAlmostInvModV a m).2 ∧ 2 ^ (zzAlmostInvModV a m).2 ≤ 2 * (a * m)
    ∧ Nat.log2 m + 1 ≤ (zzAlmostInvModV a m).2
    ∧ (zzAlmostInvModV a m).2 ≤ 2 * (Nat.log2 m + 1) := by
  obtain ⟨h1, _, _, h4, c1, c2⟩ := zzAlmostInvLoop_top a m hm ha0
  have hk : (zzAlmostInvModV a m).2 = (zzAlmostInvLoop (a + m) a m 1 0 0).2.2 := by
    unfold zzAlmostInvModV
    simp only []
    split_ifs <;> rfl
  rw [hk]
  rw [h1, hg, Nat.one_mul] at c1
  generalize (zzAlmostInvLoop (a + m) a m 1 0 0).2.2 = k at *
  have l1 : m < 2 ^ (Nat.log2 m + 1) := Nat.lt_log2_self
  have l2 : 2 ^ Nat.log2 m ≤ m := Nat.log2_self_le (by omega)
  refine ⟨c1, c2, ?_, ?_⟩
  · by_contra hlt
    have h5 : 2 ^ k ≤ 2 ^ Nat.log2 m := Nat.pow_le_pow_right (by omega) (by omega)
    have h6 : m = 2 ^ k := by omega
    obtain ⟨j, rfl⟩ : ∃ j, k = j + 1 := ⟨k - 1, by omega⟩
    rw [Nat.pow_succ] at h6
    omega
  · by_contra hgt
    have h5 : 2 ^ (2 * (Nat.log2 m + 1) + 1) ≤ 2 ^ k := Nat.pow_le_pow_right (by omega) (by omega)
    have h6 : 2 ^ (2 * (Nat.log2 m + 1) + 1) = 2 * (2 ^ (Nat.log2 m + 1) * 2 ^ (Nat.log2 m + 1)) := by
      rw [Nat.pow_succ, Nat.two_mul, Nat.pow_add]; ring
    have h7 : a * m < m * m := Nat.mul_lt_mul_of_pos_right ha (by omega)
    have h8 : m * m < 2 ^ (Nat.log2 m + 1) * 2 ^ (Nat.log2 m + 1) :=
      Nat.mul_lt_mul'' l1 l1
    omega

example : (zzAlmostInvModV (10 ^ 19 + 7) (2 ^ 65 + 1)).2 = 93 ∧ Nat.log2 (2 ^ 65 + 1) + 1 = 66 := by
  decide +kernel

end Bee2V.C05
