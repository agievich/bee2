/-
C04 — BPACE, the honest run: with the same password on both sides every step succeeds and both parties
derive the same key, for every combination of the confirmation flags (`honest_agree_bpace`): with the points
u·W, the shared secret and the decryptions of Ra, Rb known, every `match` and `if` of the run by hand is decided.
-/
import Bee2V.C04.Lemmas
namespace Bee2V.C04
open Bee2V.C02 (Bytes leNat natLE zeros Ctx tapeRead randNZMod loadPub encXY hashL subMod)
open Bee2V.Gen.C04Err
variable {G : Type} [AddCommGroup G] {E : Env G}

/-! ### octets -/

theorem bpace_natLE_leNat (n v : Nat) : natLE n (leNat (natLE n v)) = natLE n v := by
  have h := Bee2V.C02.natLE_leNat (natLE n v)
  rw [Bee2V.C02.natLE_length] at h
  exact h

/-- `s->R` of B after Step2: the second half is Rb -/
theorem bpace_zeros_drop (L : Laws E) (Rb : Bytes) : ((zeros E.no).take (E.no / 2) ++ Rb).drop (E.no / 2) = Rb := by
  apply List.drop_left'
  have := L.ctx.no_even
  have e : E.no = E.toCtx.no := rfl
  unfold zeros
  simp only [List.length_take, List.length_replicate]
  omega

/-! ### the honest run -/

/-- BPACE, honest run: same password on both sides, every flag combination, any hellos, any generator tapes
(A's tape: Ra then the one-time key, B's tape: Rb then the one-time key) that yield one-time keys: every step
succeeds and both parties hold the same key -/
theorem honest_agree_bpace (L : Laws E) (set : Settings) (pwd ta tb ra rb : Bytes) (ua ub : Nat)
    (hta : randNZMod E.C (tapeRead (E.no / 2) ta).2 = (some ua, ra))
    (htb : randNZMod E.C (tapeRead (E.no / 2) tb).2 = (some ub, rb)) :
    ∃ k m, bpaceHand E set pwd pwd ta tb = .ok ⟨k, k, m⟩ := by
  have hRa : (tapeRead (E.no / 2) ta).1.length = E.no / 2 := tapeRead_len _ _
  have hRb : (tapeRead (E.no / 2) tb).1.length = E.no / 2 := tapeRead_len _ _
  rcases hA : tapeRead (E.no / 2) ta with ⟨Ra, ta'⟩
  rcases hB : tapeRead (E.no / 2) tb with ⟨Rb, tb'⟩
  rw [hA] at hta hRa
  rw [hB] at htb hRb
  simp only at hta htb hRa hRb
  obtain ⟨ua0, uaq⟩ := rand_range hta
  obtain ⟨ub0, ubq⟩ := rand_range htb
  -- the points
  have hW : E.swu (Ra ++ Rb) ≠ 0 := L.swu_ne _
  have hVa0 : ua • E.swu (Ra ++ Rb) ≠ 0 := L.ctx.nsmul_ne hW ua0 uaq
  have hVb0 : ub • E.swu (Ra ++ Rb) ≠ 0 := L.ctx.nsmul_ne hW ub0 ubq
  have hK0 : ub • (ua • E.swu (Ra ++ Rb)) ≠ 0 := L.ctx.nsmul_ne hVa0 ub0 ubq
  obtain ⟨xa, ya, hVa⟩ := L.ctx.xy_some hVa0
  obtain ⟨xb, yb, hVb⟩ := L.ctx.xy_some hVb0
  obtain ⟨xk, yk, hK⟩ := L.ctx.xy_some hK0
  have hK' : E.xy (ua • (ub • E.swu (Ra ++ Rb))) = some (xk, yk) := by
    rw [← mul_nsmul', Nat.mul_comm, mul_nsmul']
    exact hK
  have hlen : (E.ecbE (E.hash pwd) Ra).length = E.no / 2 := (L.ecb_len _ _ hRa).trans hRa
  have hm : ∀ k x : Bytes, (E.mac k x).take 8 = E.mac k x := fun k x =>
    List.take_of_length_le (by rw [L.mac_len])
  unfold bpaceHand bpaceStart bpaceStep2 bpaceStep3 bpaceStep4 bpaceStep5 bpaceStep6
  by_cases hka : set.kca ≠ 0 <;> by_cases hkb : set.kcb ≠ 0 <;>
    simp only [hA, hB, L.ecb_inv _ _ hRb, L.ecb_inv _ _ hRa, ephem, hta, htb, L.smul_eq, hVa, hVb, hK, hK', encXY_take1,
      List.drop_left' hlen, List.take_left' hlen, bpace_zeros_drop L Rb, encXY_take_all, encXY_take2, encXY_take, encXY_drop2,
      L.ctx.loadPub_encXY hVa, L.ctx.loadPub_encXY hVb, bpace_natLE_leNat, bpaceKeys, hka, hkb, hm, bpaceStepG, ne_eq,
      not_true_eq_false, not_false_eq_true, and_self, and_false, false_and, if_true, if_false, true_or, or_true, or_self,
      List.take_nil, Except.ok.injEq, Outcome.mk.injEq, exists_and_left, exists_eq', and_true]

end Bee2V.C04
