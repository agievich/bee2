/-
C04 — the drivers over failing channels: every callback failure is returned at once and without a key (`Propagates`, for
all six drivers, and its meaning over an arbitrary script of callback answers: `callback_error_returned`).
-/
import Bee2V.C04.PropsDrv
namespace Bee2V.C04
open Bee2V.C02 (Bytes leNat natLE zeros Ctx tapeRead randNZMod loadPub encXY hashL subMod)
open Bee2V.Gen.C04Err
variable {G : Type}

/-- every callback failure is returned at once and without a key: at a `write` node any code ≠ ERR_OK, at a `read` node any
code other than ERR_OK / ERR_MAX, makes the program end with exactly that code (ERR_MAX at a fixed-size read is itself
returned by `onOk`); and the property holds again after every admissible answer -/
inductive Propagates : Prog → Prop
  | ret (c : Err) (k : Option Bytes) : Propagates (.ret c k)
  | write (buf : Bytes) (k : Err → Prog) : (∀ c, c ≠ ERR_OK → k c = .ret c none) → Propagates (k ERR_OK) →
      Propagates (.write buf k)
  | read (n : Nat) (k : Err → Bytes → Prog) : (∀ c d, c ≠ ERR_OK → c ≠ ERR_MAX → k c d = .ret c none) →
      (∀ d, Propagates (k ERR_OK d)) → (∀ d, Propagates (k ERR_MAX d)) → Propagates (.read n k)

theorem drv2_prop_onOk (c : Err) {p : Prog} (h : Propagates p) : Propagates (Prog.onOk c p) := by
  unfold Prog.onOk
  split
  · exact .ret _ _
  · exact h

theorem drv2_prop_ofExcept {α : Type} (r : Except Err α) {k : α → Prog} (h : ∀ a, Propagates (k a)) :
    Propagates (Prog.ofExcept r k) := by
  unfold Prog.ofExcept
  split
  · exact .ret _ _
  · exact h _

/-- `write(buf); ERR_CALL_HANDLE(code, …)` -/
theorem drv2_prop_write (buf : Bytes) {p : Prog} (h : Propagates p) : Propagates (.write buf fun c => Prog.onOk c p) := by
  refine .write _ _ ?_ ?_
  · intro c hc
    simp only [Prog.onOk, if_pos hc]
  · rw [drv_onOk]
    exact h

/-- `read(&len, buf, count); ERR_CALL_HANDLE(code, …)` -/
theorem drv2_prop_read (n : Nat) {p : Bytes → Prog} (h : ∀ m, Propagates (p m)) :
    Propagates (.read n fun c m => Prog.onOk c (p m)) := by
  refine .read _ _ ?_ ?_ ?_
  · intro c d hc _
    simp only [Prog.onOk, if_pos hc]
  · intro d
    simp only [drv_onOk]
    exact h d
  · intro d
    have : ERR_MAX ≠ ERR_OK := by decide
    simp only [Prog.onOk, if_pos this]
    exact .ret _ _

/-- the block loop of BSTS -/
theorem drv2_prop_readBlocks {k : Bytes → Prog} (h : ∀ m, Propagates (k m)) :
    ∀ (fuel : Nat) (acc : Bytes), Propagates (readBlocks fuel acc k) := by
  intro fuel
  induction fuel with
  | zero => intro acc; exact .ret _ _
  | succ fuel ih =>
    intro acc
    rw [drv_readBlocks_succ]
    refine .read _ _ ?_ ?_ ?_
    · intro c d hc hm
      simp only [if_neg hc, if_pos hm]
    · intro d
      simp only [if_pos]
      exact ih _
    · intro d
      have : ¬ (ERR_MAX = ERR_OK) := by decide
      simp only [if_neg this, ne_eq, not_true_eq_false, if_false]
      exact h _

theorem propagates_bmqvRunB (E : Env G) (set : Settings) (priv certb certa tape : Bytes) :
    Propagates (bmqvRunB E set priv certb certa tape) := by
  unfold bmqvRunB
  refine drv2_prop_ofExcept _ fun s => drv2_prop_ofExcept _ fun ⟨s, m1⟩ => drv2_prop_write _ (drv2_prop_read _ fun m2 =>
    drv2_prop_ofExcept _ fun ⟨s, m3⟩ => ?_)
  show Propagates (if set.kcb ≠ 0 then _ else _)
  split
  · exact drv2_prop_write _ (.ret _ _)
  · exact .ret _ _

theorem propagates_bmqvRunA (E : Env G) (set : Settings) (priv certa certb tape : Bytes) :
    Propagates (bmqvRunA E set priv certa certb tape) := by
  unfold bmqvRunA
  refine drv2_prop_ofExcept _ fun s => drv2_prop_read _ fun m1 => drv2_prop_ofExcept _ fun ⟨s, m2⟩ =>
    drv2_prop_write _ ?_
  show Propagates (if set.kcb ≠ 0 then _ else _)
  split
  · exact drv2_prop_read _ fun m3 => drv2_prop_ofExcept _ fun s => .ret _ _
  · exact .ret _ _

theorem propagates_bstsRunB (E : Env G) (set : Settings) (priv certb tape : Bytes) :
    Propagates (bstsRunB E set priv certb tape) := by
  unfold bstsRunB
  exact drv2_prop_ofExcept _ fun s => drv2_prop_ofExcept _ fun ⟨s, m1⟩ => drv2_prop_write _
    (drv2_prop_readBlocks (fun m2 => drv2_prop_ofExcept _ fun ⟨s, m3⟩ => drv2_prop_write _ (.ret _ _)) _ _)

theorem propagates_bstsRunA (E : Env G) (set : Settings) (priv certa tape : Bytes) :
    Propagates (bstsRunA E set priv certa tape) := by
  unfold bstsRunA
  exact drv2_prop_ofExcept _ fun s => drv2_prop_read _ fun m1 => drv2_prop_ofExcept _ fun ⟨s, m2⟩ => drv2_prop_write _
    (drv2_prop_readBlocks (fun m3 => drv2_prop_ofExcept _ fun s => .ret _ _) _ _)

theorem propagates_bpaceRunB (E : Env G) (set : Settings) (pwd tape : Bytes) :
    Propagates (bpaceRunB E set pwd tape) := by
  unfold bpaceRunB
  refine drv2_prop_write _ (drv2_prop_read _ fun m2 => drv2_prop_ofExcept _ fun ⟨s, m3⟩ => drv2_prop_write _ ?_)
  show Propagates (if set.kca ≠ 0 then _ else _)
  split
  · exact drv2_prop_read _ fun m4 => drv2_prop_ofExcept _ fun s => .ret _ _
  · exact .ret _ _

theorem propagates_bpaceRunA (E : Env G) (set : Settings) (pwd tape : Bytes) :
    Propagates (bpaceRunA E set pwd tape) := by
  unfold bpaceRunA
  refine drv2_prop_read _ fun m1 => drv2_prop_ofExcept _ fun ⟨s, m2⟩ => drv2_prop_write _ (drv2_prop_read _ fun m3 =>
    drv2_prop_ofExcept _ fun ⟨s, m4⟩ => ?_)
  show Propagates (if set.kca ≠ 0 then _ else _)
  split
  · exact drv2_prop_write _ (.ret _ _)
  · exact .ret _ _

/-- run a program against a script of callback answers `(code, data)`: every callback consumes the next answer
(`write` ignores the data); a callback with no answer left ends the run with ERR_FILE_NOT_FOUND -/
def Prog.exec : Prog → List (Err × Bytes) → Err × Option Bytes
  | .ret c k, _ => (c, k)
  | .write _ _, [] => (ERR_FILE_NOT_FOUND, none)
  | .read _ _, [] => (ERR_FILE_NOT_FOUND, none)
  | .write _ k, (c, _) :: s => (k c).exec s
  | .read _ k, (c, d) :: s => (k c d).exec s

/-- the code of the first consumed answer that is a failure: not ERR_OK at a `write`, neither ERR_OK nor ERR_MAX at a `read` -/
def Prog.firstBad : Prog → List (Err × Bytes) → Option Err
  | .ret _ _, _ => none
  | .write _ _, [] => none
  | .read _ _, [] => none
  | .write _ k, (c, _) :: s => if c ≠ ERR_OK then some c else (k ERR_OK).firstBad s
  | .read _ k, (c, d) :: s => if c ≠ ERR_OK ∧ c ≠ ERR_MAX then some c else (k c d).firstBad s

/-- whatever the callbacks answer: the first failure code is what the driver returns, and no key -/
theorem callback_error_returned {p : Prog} (h : Propagates p) :
    ∀ (script : List (Err × Bytes)) (c : Err), p.firstBad script = some c → p.exec script = (c, none) := by
  induction h with
  | ret c k => intro script c' hb; cases script <;> simp [Prog.firstBad] at hb
  | write buf k hbad _ ih =>
    intro script c' hb
    cases script with
    | nil => simp [Prog.firstBad] at hb
    | cons a s =>
      obtain ⟨c, d⟩ := a
      simp only [Prog.firstBad] at hb
      simp only [Prog.exec]
      split at hb
      · rename_i hc
        cases hb
        rw [hbad _ hc]
        cases s <;> rfl
      · rename_i hc
        have : c = ERR_OK := not_not.1 hc
        subst this
        exact ih s c' hb
  | read n k hbad _ _ ih1 ih2 =>
    intro script c' hb
    cases script with
    | nil => simp [Prog.firstBad] at hb
    | cons a s =>
      obtain ⟨c, d⟩ := a
      simp only [Prog.firstBad] at hb
      simp only [Prog.exec]
      split at hb
      · rename_i hc
        cases hb
        rw [hbad _ d hc.1 hc.2]
        cases s <;> rfl
      · rename_i hc
        by_cases h1 : c = ERR_OK
        · subst h1
          exact ih1 d s c' hb
        · have h2 : c = ERR_MAX := not_not.1 fun h2 => hc ⟨h1, h2⟩
          subst h2
          exact ih2 d s c' hb

/-- a driver that delivers a key has seen no callback failure -/
theorem callback_key_no_error {p : Prog} (h : Propagates p) (script : List (Err × Bytes))
    (hk : (p.exec script).2.isSome) : p.firstBad script = none := by
  cases hb : p.firstBad script with
  | none => rfl
  | some c =>
    rw [callback_error_returned h script c hb] at hk
    cases hk

end Bee2V.C04
