/-
C04 — the hypotheses of the property theorems: `Laws E` = the bign laws of C02 for the underlying
context (commutative group of prime order q generated by the base point, injective point encoding,
ranges of l, p, q) + what the protocols need from the further belt primitives (lengths, round trips)
and from the SWU map.  Nothing here is an axiom: `Laws E` is a hypothesis.  It is satisfiable
(`Bee2V.C04.toyLaws` over ZMod 65521) and its belt part holds for the executable instance
(`Bee2V.C04.belt_laws`, from the C01 theorems).  belt-hash, KRP, MAC stay uninterpreted: the theorems
never assume anything about their values except the lengths.
-/
import Bee2V.C02.Laws
import Bee2V.C02.Lemmas
import Bee2V.C04.Hand
namespace Bee2V.C04
open Bee2V.C02 (Bytes leNat natLE zeros)
variable {G : Type}

structure Laws [AddCommGroup G] (E : Env G) : Prop where
  ctx : Bee2V.C02.Laws E.toCtx
  /-- 8-octet tags, 32-octet derived keys -/
  mac_len : ∀ k d, (E.mac k d).length = 8
  krp_len : ∀ k i, (E.krp k i).length = 32
  /-- CFB is length preserving and decryption undoes encryption (same key, same synchro) -/
  cfb_len : ∀ k iv x, (E.cfbE k iv x).length = x.length
  cfb_inv : ∀ k iv x, E.cfbD k iv (E.cfbE k iv x) = x
  /-- ECB on the l-bit random strings of BPACE -/
  ecb_len : ∀ k x, x.length = E.no / 2 → (E.ecbE k x).length = x.length
  ecb_inv : ∀ k x, x.length = E.no / 2 → E.ecbD k (E.ecbE k x) = x
  /-- key wrap of the l-bit secret of BAUTH under a 32-octet key with the zero header -/
  kwp_len : ∀ k x, x.length = E.no / 2 → (E.kwpW k x).length = x.length + 16
  kwp_inv : ∀ k x, x.length = E.no / 2 → E.kwpU k (E.kwpW k x) = some x
  /-- an accepted token is 16 octets (the header block) longer than the key it carries -/
  kwpU_len : ∀ k t x, E.kwpU k t = some x → x.length + 16 = t.length
  /-- the SWU map yields an affine point (never O) -/
  swu_ne : ∀ X, E.swu X ≠ 0

/-- an explicit collision of a function: two different arguments with the same value -/
def Collision {α β : Type} (f : α → β) : Prop := ∃ a b, a ≠ b ∧ f a = f b

theorem eq_or_collision {α β : Type} (f : α → β) {a b : α} (h : f a = f b) : a = b ∨ Collision f := by
  by_cases hab : a = b
  · exact .inl hab
  · exact .inr ⟨a, b, hab, h⟩

/-- every protocol derives `K0 = KRP(belt-hash(X), 0)` from the octets X a party has hashed: equal keys exhibit a
collision or the parties hashed the same octets -/
theorem key_binding {E : Env G} {X X' : Bytes} {R : Prop} (hk : E.krp (E.hash X) 0 = E.krp (E.hash X') 0)
    (h : X = X' → R) : Collision (fun Y => E.krp Y 0) ∨ Collision E.hash ∨ R := by
  rcases eq_or_collision (fun Y => E.krp Y 0) hk with hY | hc
  · rcases eq_or_collision E.hash hY with hX | hc
    · exact .inr (.inr (h hX))
    · exact .inr (.inl hc)
  · exact .inl hc

end Bee2V.C04
