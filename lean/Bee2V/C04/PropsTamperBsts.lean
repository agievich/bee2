/-
C04 — BSTS under an active adversary: what the acceptance of Step4 / Step5 means (the MAC on the encrypted
part verified, the decrypted scalar is reduced, the decrypted certificate validated and
s·G + (2^l + t)·Q recomputes BOTH coordinates of the received one-time public key), and the tamper
theorem: all messages replaced by arbitrary octets, all steps succeed, equal keys ⇒ an explicit collision
of KRP or belt-hash, or the two Diffie–Hellman secrets have the same x-coordinate.
-/
import Bee2V.C04.Lemmas
namespace Bee2V.C04
open Bee2V.C02 (Bytes leNat natLE zeros Ctx tapeRead randNZMod loadPub encXY hashL subMod)
open Bee2V.Gen.C04Err
variable {G : Type} [AddCommGroup G] {E : Env G}

/-! ### what a successful step tells -/

omit [AddCommGroup G] in
theorem tbsts_start_inv {set : Settings} {priv cert tape : Bytes} {s : BstsSt G}
    (h : bstsStart E set priv cert tape = .ok s) :
    (set.kca = 1 ∧ set.kcb = 1) ∧ s.set = set ∧ s.d = leNat priv ∧ s.cert = cert := by
  unfold bstsStart at h
  (repeat' split at h) <;> cases h
  exact ⟨by omega, rfl, rfl, rfl⟩

omit [AddCommGroup G] in
theorem tbsts_step2_inv {s s' : BstsSt G} {m : Bytes} (h : bstsStep2 E s = .ok (s', m)) :
    s'.set = s.set ∧ s'.d = s.d ∧ s'.cert = s.cert ∧ m = encXY E.C s'.vb ∧ E.xy (E.smul s'.u E.base) = some s'.vb := by
  unfold bstsStep2 at h
  split at h <;> cases h
  rename_i hE
  exact ⟨rfl, rfl, rfl, rfl, (ephem_inv hE).2⟩

omit [AddCommGroup G] in
/-- Step3 (A) succeeded on inp: inp is a point Vb', the Diffie–Hellman point u·Vb' is affine, the keys come from
its x-coordinate and the hellos, and A keeps t (with the top bit) and the received coordinates for Step5 -/
theorem tbsts_step3_inv {s s' : BstsSt G} {inp out : Bytes} (h : bstsStep3 E s inp = .ok (s', out)) :
    ∃ Vb K, loadPub E.C inp = some Vb ∧ E.xy (E.smul s'.u Vb) = some K ∧
      s'.k0 = (bstsKeys E s.set K.1).1 ∧ s'.k1 = (bstsKeys E s.set K.1).2.1 ∧ s'.k2 = (bstsKeys E s.set K.1).2.2 ∧
      s'.t = hashT E (out.take E.no) (inp.take E.no) + 2 ^ E.l ∧
      s'.vb = (leNat (inp.take E.no), leNat (inp.drop E.no)) ∧ s'.vbP = Vb ∧ s'.set = s.set ∧ s'.d = s.d := by
  unfold bstsStep3 at h
  (repeat' split at h) <;> cases h
  rename_i _ Vb hVb _ _ _ Va _ _ K hK
  exact ⟨Vb, K, hVb, hK, rfl, rfl, rfl, by rw [List.append_assoc, encXY_take, encXY_take1], rfl, rfl, rfl, rfl⟩

/-- BSTS: what acceptance means: Step4 succeeded ⇒ the received Va' (BOTH coordinates) satisfies sa'·G + (2^l + t)·Qa' = Va' for the
sa' < q and the certificate decrypted from M2' (which validated), and the MAC on the encrypted part verified under B's K1 -/
theorem bstsStep4_accept (_L : Laws E) (s s' : BstsSt G) (inp out : Bytes) (h : bstsStep4 E s inp = .ok (s', out)) :
    3 * E.no + 8 < inp.length ∧
    ∃ Va K Qa, loadPub E.C (inp.take (2 * E.no)) = some Va ∧ E.xy (E.smul s.u Va) = some K ∧
      let ks := bstsKeys E s.set K.1
      let ya := (inp.drop (2 * E.no)).take (inp.length - 2 * E.no - 8)
      let pa := E.cfbD ks.2.2 (zeros 16) ya
      E.mac ks.2.1 (ya ++ zeros 16) = inp.drop (inp.length - 8) ∧ leNat (pa.take E.no) < E.q ∧ certPub E (pa.drop E.no) = .ok Qa ∧
      addMul E (leNat (pa.take E.no)) Qa (hashT E (inp.take E.no) (natLE E.no s.vb.1) + 2 ^ E.l)
        = some (leNat (inp.take E.no), leNat ((inp.drop E.no).take E.no)) ∧
      s'.k0 = ks.1 := by
  unfold bstsStep4 at h
  simp only at h
  -- down the guards of the step: every failing branch returns an error
  (repeat' split at h) <;> cases h
  rename_i hlen _ Va hVa _ K hK hmac hsq _ Qa hQa _ R hR hRe
  refine ⟨by omega, Va, K, Qa, hVa, hK, ?_⟩
  simp only
  refine ⟨not_not.mp hmac, by omega, hQa, ?_, trivial⟩
  rw [hR, not_not.mp hRe]

/-- same for Step5 (A): the state is unchanged, the MAC on the encrypted part verified under A's K1, sb' < q, the decrypted
certificate validated, sb'·G + s.t·Qb' = the Vb' that A received in Step3 (both coordinates: `s.vb`, `s.t` as
`tbsts_step3_inv` describes them) -/
theorem bstsStep5_accept (_L : Laws E) (s s' : BstsSt G) (inp : Bytes) (h : bstsStep5 E s inp = .ok s') :
    E.no + 8 < inp.length ∧ s' = s ∧
    ∃ Qb,
      let yb := inp.take (inp.length - 8)
      let pb := E.cfbD s.k2 (ones 16) yb
      E.mac s.k1 (yb ++ ones 16) = inp.drop (inp.length - 8) ∧ leNat (pb.take E.no) < E.q ∧
      certPub E (pb.drop E.no) = .ok Qb ∧ addMul E (leNat (pb.take E.no)) Qb s.t = some s.vb := by
  unfold bstsStep5 at h
  simp only at h
  (repeat' split at h) <;> cases h
  rename_i hlen hmac hsq _ Qb hQb _ R hR hRe
  refine ⟨by omega, rfl, Qb, ?_⟩
  simp only
  refine ⟨not_not.mp hmac, by omega, hQb, ?_⟩
  rw [hR, not_not.mp hRe]

/-! ### the tamper theorems -/

/-- BSTS: acceptance + equal keys ⇒ collision, or the two Diffie–Hellman secrets ua·Vb' and ub·Va' have the same x-coordinate -/
theorem tamper_bsts (L : Laws E) (set : Settings) (ka kb ca cb ta tb m1' m2' m3' : Bytes)
    {sa0 sb0 sb1 sa1 sb2 sa2 : BstsSt G} {m1 m2 m3 : Bytes}
    (ha0 : bstsStart E set ka ca ta = .ok sa0) (hb0 : bstsStart E set kb cb tb = .ok sb0)
    (h2 : bstsStep2 E sb0 = .ok (sb1, m1)) (h3 : bstsStep3 E sa0 m1' = .ok (sa1, m2))
    (h4 : bstsStep4 E sb1 m2' = .ok (sb2, m3)) (h5 : bstsStep5 E sa1 m3' = .ok sa2)
    (hk : bstsStepG sa2 = bstsStepG sb2) :
    Collision (fun Y => E.krp Y 0) ∨ Collision E.hash ∨
      ∃ Vb' Va' Ka Kb, loadPub E.C m1' = some Vb' ∧ loadPub E.C (m2'.take (2 * E.no)) = some Va' ∧
        E.xy (E.smul sa1.u Vb') = some Ka ∧ E.xy (E.smul sb1.u Va') = some Kb ∧ Ka.1 = Kb.1 := by
  obtain ⟨_, hsa, _, _⟩ := tbsts_start_inv ha0
  obtain ⟨_, hsb, _, _⟩ := tbsts_start_inv hb0
  obtain ⟨e1, _, _, _, _⟩ := tbsts_step2_inv h2
  obtain ⟨Vb', Ka, hVb, hKa, hk0A, _⟩ := tbsts_step3_inv h3
  obtain ⟨_, Va', Kb, Qa, hVa, hKb, hrest⟩ := bstsStep4_accept L _ _ _ _ h4
  have hk0B : sb2.k0 = (bstsKeys E sb1.set Kb.1).1 := hrest.2.2.2.2
  obtain ⟨_, e5, _⟩ := bstsStep5_accept L _ _ _ h5
  rw [e1, hsb] at hk0B
  rw [hsa] at hk0A
  unfold bstsStepG at hk
  rw [e5, hk0A, hk0B] at hk
  unfold bstsKeys at hk
  simp only at hk
  refine key_binding hk fun hI => ⟨Vb', Va', Ka, Kb, hVb, hVa, hKa, hKb, ?_⟩
  exact L.x_inj hKa hKb (List.append_cancel_right hI)

/-! ### a tag altered alone -/

omit [AddCommGroup G] in
/-- M2 = <Va>_4l ‖ Ya ‖ Ta with the tag replaced by 8 other octets while the point and the encrypted part are
kept: B, whose MAC key K1 is the one A used (`hk1`), answers ERR_AUTH (the MAC is deterministic) -/
theorem bsts_tag_alone_rejected (s : BstsSt G) (va ya ta' k1A : Bytes) {Va : G} {K : Nat × Nat}
    (hva : va.length = 2 * E.no) (hya : E.no < ya.length) (hta : ta'.length = 8)
    (hVa : loadPub E.C va = some Va) (hK : E.xy (E.smul s.u Va) = some K)
    (hk1 : (bstsKeys E s.set K.1).2.1 = k1A) (hne : ta' ≠ E.mac k1A (ya ++ zeros 16)) :
    bstsStep4 E s (va ++ ya ++ ta') = .error ERR_AUTH := by
  have h1 : ¬ (va ++ ya ++ ta').length ≤ 3 * E.no + 8 := by
    simp only [List.length_append, hva, hta]; omega
  have h2 : (va ++ ya ++ ta').take (2 * E.no) = va := by
    rw [List.append_assoc, List.take_left' hva]
  have h5 := parse_mid (y := ya) hva hta
  have h6 := parse_last (w := va ++ ya) hta
  have hne' : ¬ E.mac k1A (ya ++ zeros 16) = ta' := fun e => hne e.symm
  unfold bstsStep4
  simp only [h1, h2, h5, h6, hVa, hK, hk1, ne_eq, hne', not_false_eq_true, ↓reduceIte]

end Bee2V.C04
