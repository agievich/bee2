/-
C04 — BSTS: the honest run.  Every step succeeds (the parsers of Step4 / Step5 recover the parts of the
variable-length messages, the decrypted MQV scalars pass the signature-like check
s·G + (2^l + t)·Q = V) and both parties hold the same key.
-/
import Bee2V.C04.Lemmas
namespace Bee2V.C04
open Bee2V.C02 (Bytes leNat natLE zeros Ctx tapeRead randNZMod loadPub encXY hashL subMod)
open Bee2V.Gen.C04Err
variable {G : Type} [AddCommGroup G] {E : Env G}

/-! ### the check -/

/-- the check of Step4/Step5 on honest values recomputes the coordinates of V = u·G -/
theorem bsts_addMul (L : Laws E) {u : Nat} {V : Nat × Nat} (hu : u < E.q) (hV : E.xy (u • E.base) = some V)
    (d t : Nat) : addMul E (mqvS E u d t) (d • E.base) (t + 2 ^ E.l) = some V := by
  unfold addMul
  rw [L.smul_eq, L.smul_eq, L.add_eq, honest_check L hu]
  exact hV

/-! ### the honest run -/

/-- BSTS, honest run (both confirmations are mandatory), any hellos, any non-empty certificates that validate
to the parties' public keys, any tapes that yield one-time keys: every step succeeds, both hold the same key -/
theorem honest_agree_bsts (L : Laws E) (set : Settings) (hk : set.kca = 1 ∧ set.kcb = 1) (ka kb ca cb ta tb ra rb : Bytes) (ua ub : Nat)
    (hca : certPub E ca = .ok (leNat ka • E.base)) (hcb : certPub E cb = .ok (leNat kb • E.base))
    (hla : ca ≠ []) (hlb : cb ≠ [])
    (hta : randNZMod E.C ta = (some ua, ra)) (htb : randNZMod E.C tb = (some ub, rb)) :
    ∃ k m, bstsHand E set ka kb ca cb ta tb = .ok ⟨k, k, m⟩ := by
  obtain ⟨hua0, huaq⟩ := rand_range hta
  obtain ⟨hub0, hubq⟩ := rand_range htb
  obtain ⟨xa, ya, hVa⟩ := L.ctx.xy_some (L.ctx.base_mul_ne hua0 huaq)
  obtain ⟨xb, yb, hVb⟩ := L.ctx.xy_some (L.ctx.base_mul_ne hub0 hubq)
  obtain ⟨xk, yk, hKa⟩ := L.ctx.xy_some (L.ctx.mul_mul_ne hua0 huaq hub0 hubq)
  have hKb : E.xy (ub • (ua • E.base)) = some (xk, yk) := by
    rw [← mul_nsmul', Nat.mul_comm, mul_nsmul']
    exact hKa
  obtain ⟨hxa, hya⟩ := L.ctx.xy_lt _ _ _ hVa
  obtain ⟨hxb, hyb⟩ := L.ctx.xy_lt _ _ _ hVb
  have hp := L.ctx.p_hi
  have hq := L.ctx.q_hi
  have hc : ¬ (set.kca ≠ 1 ∨ set.kcb ≠ 1) := by rw [hk.1, hk.2]; simp
  obtain ⟨t, ht⟩ : ∃ t, hashT E (natLE E.no xa) (natLE E.no xb) = t := ⟨_, rfl⟩
  obtain ⟨ks, hks⟩ : ∃ ks, bstsKeys E set xk = ks := ⟨_, rfl⟩
  unfold bstsHand bstsStart bstsStep2 bstsStep3 bstsStep4 bstsStep5
  simp only [hc, hca, hcb, ephem_ok L htb hVb, ephem_ok L hta hVa, L.ctx.loadPub_encXY hVb, encXY_take1, encXY_drop1,
    L.smul_eq, hKa, L.leNat_natLE (show xb < _ by omega), L.leNat_natLE (show yb < _ by omega), if_false, ht, hks]
  -- Step4 (B) parses M2 = <Va>_4l ‖ Ya ‖ Ta, Ya = CFB(sa ‖ certa)
  have hsa := (mqvS_spec L huaq (leNat ka) t).1
  have hya := L.cfb_inv ks.2.2 (zeros 16) (natLE E.no (mqvS E ua (leNat ka) t) ++ ca)
  have hyl : (E.cfbE ks.2.2 (zeros 16) (natLE E.no (mqvS E ua (leNat ka) t) ++ ca)).length = E.no + ca.length := by
    rw [L.cfb_len, List.length_append, Bee2V.C02.natLE_length]
  generalize E.cfbE ks.2.2 (zeros 16) (natLE E.no (mqvS E ua (leNat ka) t) ++ ca) = y at hya hyl ⊢
  have hml := L.mac_len ks.2.1 (y ++ zeros 16)
  have hcapos : 0 < ca.length := List.length_pos_iff.mpr hla
  have h1 : ¬ (encXY E.C (xa, ya) ++ y ++ E.mac ks.2.1 (y ++ zeros 16)).length ≤ 3 * E.no + 8 := by
    simp only [List.length_append, encXY_len, hyl, hml]; omega
  have h2 : (encXY E.C (xa, ya) ++ y ++ E.mac ks.2.1 (y ++ zeros 16)).take (2 * E.no) = encXY E.C (xa, ya) := by
    rw [List.append_assoc]; exact encXY_take2 _ _
  have h3 : (encXY E.C (xa, ya) ++ y ++ E.mac ks.2.1 (y ++ zeros 16)).take E.no = natLE E.no xa := by
    rw [List.append_assoc]; exact encXY_take _ _
  have h4 : ((encXY E.C (xa, ya) ++ y ++ E.mac ks.2.1 (y ++ zeros 16)).drop E.no).take E.no = natLE E.no ya := by
    rw [List.append_assoc]; exact encXY_mid _ _
  simp only [h1, h2, h3, h4, parse_mid (y := y) (encXY_len (xa, ya)) hml, parse_last (w := encXY E.C (xa, ya) ++ y) hml,
    L.ctx.loadPub_encXY hVa, hKb, hks, ht, hya, hca, Bee2V.C02.take_natLE_append, Bee2V.C02.drop_natLE_append,
    L.leNat_natLE (show mqvS E ua (leNat ka) t < _ by omega), L.leNat_natLE (show xa < _ by omega),
    L.leNat_natLE (show ya < _ by omega), bsts_addMul L huaq hVa, ge_iff_le, Nat.not_le.2 hsa, ne_eq, not_true_eq_false, if_false]
  -- Step5 (A) parses M3 = Yb ‖ Tb, Yb = CFB(sb ‖ certb)
  have hsb := (mqvS_spec L hubq (leNat kb) t).1
  have hyb := L.cfb_inv ks.2.2 (ones 16) (natLE E.no (mqvS E ub (leNat kb) t) ++ cb)
  have hyl' : (E.cfbE ks.2.2 (ones 16) (natLE E.no (mqvS E ub (leNat kb) t) ++ cb)).length = E.no + cb.length := by
    rw [L.cfb_len, List.length_append, Bee2V.C02.natLE_length]
  generalize E.cfbE ks.2.2 (ones 16) (natLE E.no (mqvS E ub (leNat kb) t) ++ cb) = y' at hyb hyl' ⊢
  have hml' := L.mac_len ks.2.1 (y' ++ ones 16)
  have hcbpos : 0 < cb.length := List.length_pos_iff.mpr hlb
  have h5 : ¬ (y' ++ E.mac ks.2.1 (y' ++ ones 16)).length ≤ E.no + 8 := by
    simp only [List.length_append, hyl', hml']; omega
  simp only [h5, parse_init (w := y') hml', parse_last (w := y') hml', hyb, hcb, Bee2V.C02.take_natLE_append,
    Bee2V.C02.drop_natLE_append, L.leNat_natLE (show mqvS E ub (leNat kb) t < _ by omega), bsts_addMul L hubq hVb,
    Nat.not_le.2 hsb, not_true_eq_false, if_false, bstsStepG]
  exact ⟨_, _, rfl⟩

end Bee2V.C04
