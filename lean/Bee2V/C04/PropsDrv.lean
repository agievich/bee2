/-
C04 — "stepwise = driver": RunA ∥ RunB over the ideal channel do what the run by hand does (`bmqvHand`, `bpaceHand`,
`bstsHand`): when it succeeds they return its keys and write its messages, when it stops with a code the failing
party's driver returns that code.  Both are read off one statement per protocol (`drv_bmqv`, `drv_bpace`, `drv_bsts`:
`Agrees`), proved for the scheduler `scheduleN act` with any number `act` of actions per party and round; the model's
`schedule` is the instance `act = 1024`.  The proofs rewrite the scheduler's configuration action by action: `drv_run_*`
evaluate the party that is running, `drv_round`, `drv_afterB`, `drv_afterA` pass from one party to the next.
-/
import Bee2V.C04.PropsTamperBmqv
import Bee2V.C04.PropsTamperBpace
import Bee2V.C04.PropsTamperBsts
namespace Bee2V.C04
open Bee2V.C02 (Bytes leNat natLE zeros Ctx tapeRead randNZMod loadPub encXY hashL subMod)
open Bee2V.Gen.C04Err
variable {G : Type}

/-! ### the actions per round as a fuel -/

/-- `schedule` with `act` actions per party and round in place of the literal 1024 -/
def scheduleN (act : Nat) (tamAB tamBA : Nat → Bytes → Bytes) : Nat → Prog → Prog → (ab ba : Chan) → Prog × Prog × Chan × Chan
  | 0, a, b, ab, ba => (a, b, ab, ba)
  | fuel + 1, a, b, ab, ba =>
    let apply (t : Nat → Bytes → Bytes) (c : Chan) : Chan := { c with msgs := c.msgs.zipIdx.map fun (m, i) => t i m }
    let rb := runUntilBlocked act b (apply tamAB ab) { ba with msgs := [] }
    let ba' : Chan := { ba with msgs := ba.msgs ++ rb.2.2.msgs }
    let ab' : Chan := { ab with i := rb.2.1.i, off := rb.2.1.off }
    let ra := runUntilBlocked act a (apply tamBA ba') { ab' with msgs := [] }
    let ab'' : Chan := { ab' with msgs := ab'.msgs ++ ra.2.2.msgs }
    let ba'' : Chan := { ba' with i := ra.2.1.i, off := ra.2.1.off }
    let progress := rb.2.2.msgs.length + ra.2.2.msgs.length ≠ 0
    if progress then scheduleN act tamAB tamBA fuel ra.1 rb.1 ab'' ba'' else (ra.1, rb.1, ab'', ba'')

/-- `runPair` over `scheduleN` -/
def runPairN (act : Nat) (tamAB tamBA : Nat → Bytes → Bytes) (a b : Prog) :
    (Err × Option Bytes) × (Err × Option Bytes) × List Bytes × List Bytes :=
  let r := scheduleN act tamAB tamBA 8 a b ⟨[], 0, 0⟩ ⟨[], 0, 0⟩
  (r.1.outcome, r.2.1.outcome, r.2.2.1.msgs, r.2.2.2.msgs)

theorem scheduleN_1024 (tamAB tamBA : Nat → Bytes → Bytes) : ∀ (fuel : Nat) (a b : Prog) (ab ba : Chan),
    scheduleN 1024 tamAB tamBA fuel a b ab ba = schedule tamAB tamBA fuel a b ab ba := by
  intro fuel
  induction fuel with
  | zero => intros; rfl
  | succ fuel ih =>
    intro a b ab ba
    rw [scheduleN, schedule]
    simp only [ih]

/-- the model's scheduler is the instance with 1024 actions -/
theorem runPairN_1024 (tamAB tamBA : Nat → Bytes → Bytes) (a b : Prog) :
    runPairN 1024 tamAB tamBA a b = runPair tamAB tamBA a b := by
  unfold runPairN runPair
  rw [scheduleN_1024]

/-- more actions change nothing once a party has returned or waits for a message that is not there -/
theorem drv2_run_mono : ∀ (n : Nat) (p : Prog) (inc out : Chan) (r : Prog × Chan × Chan),
    runUntilBlocked n p inc out = r →
    ((∃ c k, r.1 = .ret c k) ∨ (∃ cnt k, r.1 = .read cnt k ∧ r.2.1.read cnt = none)) →
    ∀ m, n ≤ m → runUntilBlocked m p inc out = r := by
  intro n
  induction n with
  | zero =>
    intro p inc out r h hf m _
    cases h
    cases m with
    | zero => rfl
    | succ m =>
      rcases hf with ⟨c, k, hc⟩ | ⟨cnt, k, hc, hn⟩
      · have hc' : p = .ret c k := hc
        subst hc'
        rfl
      · have hc' : p = .read cnt k := hc
        have hn' : inc.read cnt = none := hn
        subst hc'
        simp only [runUntilBlocked, hn']
  | succ n ih =>
    intro p inc out r h hf m hm
    obtain ⟨m, rfl⟩ : ∃ m', m = m' + 1 := ⟨m - 1, by omega⟩
    have hm' : n ≤ m := by omega
    cases p with
    | ret c k => exact h
    | write buf k =>
      simp only [runUntilBlocked] at h ⊢
      exact ih _ _ _ _ h hf m hm'
    | read cnt k =>
      simp only [runUntilBlocked] at h ⊢
      cases hr : inc.read cnt with
      | none =>
        rw [hr] at h
        exact h
      | some x =>
        rw [hr] at h
        simp only at h ⊢
        exact ih _ _ _ _ h hf m hm'

/-! ### a party, one action at a time -/

section run
variable {n count : Nat} {c : Err} {key : Option Bytes} {k : Err → Bytes → Prog} {inc out : Chan} {msgs : List Bytes}
  {i off : Nat} {buf m : Bytes}

theorem drv_run_ret : runUntilBlocked n (.ret c key) inc out = (.ret c key, inc, out) := by
  cases n <;> rfl

/-- the message is not there yet: the party waits -/
theorem drv_run_wait (hm : msgs[i]? = none) :
    runUntilBlocked n (.read count k) ⟨msgs, i, off⟩ out = (.read count k, ⟨msgs, i, off⟩, out) := by
  cases n with
  | zero => rfl
  | succ n => simp only [runUntilBlocked, Chan.read, hm]

/-- after its last write a party with a switched-off confirmation returns, with a switched-on one it waits -/
theorem drv_run_ite_wait {p : Prop} [Decidable p] (hm : msgs[i]? = none) :
    runUntilBlocked n (if p then .read count k else .ret c key) ⟨msgs, i, off⟩ out
      = (if p then .read count k else .ret c key, ⟨msgs, i, off⟩, out) := by
  split
  · exact drv_run_wait hm
  · exact drv_run_ret

/-- a last step that only decides between an error and the key -/
theorem drv_run_ofExcept_ret {α : Type} {r : Except Err α} {f : α → Option Bytes} :
    runUntilBlocked n (Prog.ofExcept r fun a => .ret c (f a)) inc out = (Prog.ofExcept r fun a => .ret c (f a), inc, out) := by
  cases r <;> exact drv_run_ret

theorem drv_onOk (p : Prog) : Prog.onOk ERR_OK p = p := by
  unfold Prog.onOk
  rw [if_neg (not_not.2 rfl)]

/-- `write(buf); ERR_CALL_HANDLE(code, …)` over the ideal channel -/
theorem drv_run_write {p : Prog} {om : List Bytes} {oi oo : Nat} :
    runUntilBlocked (n + 1) (.write buf fun c => .onOk c p) inc ⟨om, oi, oo⟩
      = runUntilBlocked n p inc ⟨om ++ [buf], oi, oo⟩ := by
  rw [runUntilBlocked, drv_onOk]

/-- the last action of a party: its confirmation, if switched on -/
theorem drv_run_ite_write {p : Prop} [Decidable p] {om : List Bytes} {oi oo : Nat} :
    runUntilBlocked (n + 1) (if p then .write buf fun e => .onOk e (.ret c key) else .ret c key) inc ⟨om, oi, oo⟩
      = (.ret c key, inc, ⟨om ++ if p then [buf] else [], oi, oo⟩) := by
  split
  · rw [drv_run_write, drv_run_ret]
  · rw [drv_run_ret, List.append_nil]

/-- `read(&len, buf, count); ERR_CALL_HANDLE(code, …)`: the message is there and has exactly the requested length -/
theorem drv_run_read {p : Bytes → Prog} (hm : msgs[i]? = some m) (hc : m.length = count) :
    runUntilBlocked (n + 1) (.read count fun c m => .onOk c (p m)) ⟨msgs, i, 0⟩ out
      = runUntilBlocked n (p m) ⟨msgs, i + 1, 0⟩ out := by
  subst hc
  simp only [runUntilBlocked, Chan.read, hm, Nat.zero_add, gt_iff_lt, Nat.lt_irrefl, if_false, if_true, List.drop_zero,
    List.take_length, drv_onOk]

end run

/-! ### messages read in blocks (BSTS) -/

theorem drv_runFuel : runFuel = 16777215 + 1 := by decide

theorem drv_readBlocks_succ (rf : Nat) (acc : Bytes) (k : Bytes → Prog) :
    readBlocks (rf + 1) acc k = .read 512 (fun code data =>
      if code = ERR_OK then readBlocks rf (acc ++ data) k
      else if code ≠ ERR_MAX then .ret code none
      else k (acc ++ data)) := rfl

theorem drv_run_read_some (n count : Nat) (k : Err → Bytes → Prog) (inc out inc' : Chan) (code : Err) (data : Bytes)
    (h : inc.read count = some (code, data, inc')) :
    runUntilBlocked (n + 1) (.read count k) inc out = runUntilBlocked n (k code data) inc' out := by
  simp only [runUntilBlocked, h]

/-- the block loop of bakeBSTSRunA/RunB delivers the rest of a message whose remaining length is not a multiple of the
block: j full blocks with ERR_OK, then the tail with ERR_MAX -/
theorem drv_run_readBlocks (k : Bytes → Prog) (msgs : List Bytes) (i : Nat) (m : Bytes) (out : Chan) (hm : msgs[i]? = some m) :
    ∀ (j off n rf : Nat) (acc : Bytes), off + j * 512 < m.length → m.length < off + j * 512 + 512 → j < rf →
      runUntilBlocked (n + j + 1) (readBlocks rf acc k) ⟨msgs, i, off⟩ out =
        runUntilBlocked n (k (acc ++ m.drop off)) ⟨msgs, i + 1, 0⟩ out := by
  intro j
  induction j with
  | zero =>
    intro off n rf acc h1 h2 h3
    obtain ⟨rf, rfl⟩ : ∃ r, rf = r + 1 := ⟨rf - 1, by omega⟩
    have hr : Chan.read ⟨msgs, i, off⟩ 512 = some (ERR_MAX, m.drop off, ⟨msgs, i + 1, 0⟩) := by
      simp only [Chan.read, hm, if_pos (show off + 512 > m.length by omega)]
    rw [drv_readBlocks_succ, Nat.add_zero, drv_run_read_some _ _ _ _ _ _ _ _ hr, if_neg (by decide), if_neg (not_not.2 rfl)]
  | succ j ih =>
    intro off n rf acc h1 h2 h3
    obtain ⟨rf, rfl⟩ : ∃ r, rf = r + 1 := ⟨rf - 1, by omega⟩
    have hr : Chan.read ⟨msgs, i, off⟩ 512 = some (ERR_OK, (m.drop off).take 512, ⟨msgs, i, off + 512⟩) := by
      simp only [Chan.read, hm, if_neg (show ¬ off + 512 > m.length by omega), if_neg (show ¬ off + 512 = m.length by omega)]
    rw [drv_readBlocks_succ, show n + (j + 1) + 1 = (n + j + 1) + 1 by omega, drv_run_read_some _ _ _ _ _ _ _ _ hr,
      if_pos rfl, ih (off + 512) n rf _ (by omega) (by omega) (by omega), List.append_assoc, ← List.drop_drop,
      List.take_append_drop]

/-- M2, M3 of BSTS are read in 512-octet blocks: the read_i contract cannot delimit a message whose length is a multiple
of the block; a party with `act` actions per round needs one per block read and three more; the block loop of the model
has its own fuel (`runFuel` = 2^24 blocks, where the C loop would end with ERR_OUTOFMEMORY) -/
def BlockRead (act : Nat) (m : Bytes) : Prop := m.length % 512 ≠ 0 ∧ m.length / 512 + 3 ≤ act ∧ m.length / 512 < runFuel

/-- a whole message -/
theorem drv_run_readBlocks_whole {k : Bytes → Prog} {msgs : List Bytes} {i : Nat} {m : Bytes} {out : Chan} {n act : Nat}
    (hm : msgs[i]? = some m) (hb : BlockRead act m) :
    runUntilBlocked (n + m.length / 512 + 1) (readBlocks runFuel [] k) ⟨msgs, i, 0⟩ out =
      runUntilBlocked n (k m) ⟨msgs, i + 1, 0⟩ out := by
  have := drv_run_readBlocks k msgs i m out hm (m.length / 512) 0 n runFuel [] (by have := hb.1; omega) (by omega) hb.2.2
  rw [this, List.nil_append, List.drop_zero]

/-- the message is not there yet -/
theorem drv_run_readBlocks_wait {n : Nat} {k : Bytes → Prog} {msgs : List Bytes} {i off : Nat} {out : Chan}
    (hm : msgs[i]? = none) :
    runUntilBlocked n (readBlocks runFuel [] k) ⟨msgs, i, off⟩ out = (readBlocks runFuel [] k, ⟨msgs, i, off⟩, out) := by
  rw [drv_runFuel, drv_readBlocks_succ, drv_run_wait hm]

/-! ### the scheduler, one party at a time -/

theorem drv_map_zipIdx (f : Bytes × Nat → Bytes) (hf : ∀ x, f x = x.1) (l : List Bytes) (k : Nat) :
    (l.zipIdx k).map f = l := by
  induction l generalizing k with
  | nil => rfl
  | cons a l ih => simp only [List.zipIdx_cons, List.map_cons, ih, hf]

/-- the end of a round over the ideal channel: B wrote `w` messages, A has run with the result `ra` -/
def afterA (act fuel : Nat) (b : Prog) (ab ba : Chan) (w : Nat) (ra : Prog × Chan × Chan) : Prog × Prog × Chan × Chan :=
  if w + ra.2.2.msgs.length ≠ 0 then
    scheduleN act idChan idChan fuel ra.1 b ⟨ab.msgs ++ ra.2.2.msgs, ab.i, ab.off⟩ ⟨ba.msgs, ra.2.1.i, ra.2.1.off⟩
  else (ra.1, b, ⟨ab.msgs ++ ra.2.2.msgs, ab.i, ab.off⟩, ⟨ba.msgs, ra.2.1.i, ra.2.1.off⟩)

/-- the second half of a round: B has run with the result `rb`, now A runs -/
def afterB (act fuel : Nat) (a : Prog) (ab ba : Chan) (rb : Prog × Chan × Chan) : Prog × Prog × Chan × Chan :=
  afterA act fuel rb.1 ⟨ab.msgs, rb.2.1.i, rb.2.1.off⟩ ⟨ba.msgs ++ rb.2.2.msgs, ba.i, ba.off⟩ rb.2.2.msgs.length
    (runUntilBlocked act a ⟨ba.msgs ++ rb.2.2.msgs, ba.i, ba.off⟩ ⟨[], rb.2.1.i, rb.2.1.off⟩)

section round
variable {act fuel : Nat} {a b a' b' : Prog} {ab ba inc out : Chan} {abm bam im om : List Bytes} {abi abo bai bao ii io oi oo w : Nat}
  {c : Err} {k : Option Bytes}

/-- a round: B runs until blocked, then A -/
theorem drv_round : scheduleN act idChan idChan (fuel + 1) a b ⟨abm, abi, abo⟩ ⟨bam, bai, bao⟩
    = afterB act fuel a ⟨abm, abi, abo⟩ ⟨bam, bai, bao⟩ (runUntilBlocked act b ⟨abm, abi, abo⟩ ⟨[], bai, bao⟩) := by
  have hid : ∀ l : List Bytes, List.map (fun x : Bytes × Nat => match x with | (m, i) => idChan i m) l.zipIdx = l :=
    fun l => drv_map_zipIdx _ (fun ⟨_, _⟩ => rfl) l 0
  rw [scheduleN, afterB, afterA]
  simp only [hid]

theorem drv_afterB : afterB act fuel a ⟨abm, abi, abo⟩ ⟨bam, bai, bao⟩ (b', ⟨im, ii, io⟩, ⟨om, oi, oo⟩)
    = afterA act fuel b' ⟨abm, ii, io⟩ ⟨bam ++ om, bai, bao⟩ om.length
        (runUntilBlocked act a ⟨bam ++ om, bai, bao⟩ ⟨[], ii, io⟩) := rfl

/-- a message was written in this round: on to the next -/
theorem drv_afterA (hp : w + om.length ≠ 0) : afterA act fuel b ⟨abm, abi, abo⟩ ⟨bam, bai, bao⟩ w (a', ⟨im, ii, io⟩, ⟨om, oi, oo⟩)
    = scheduleN act idChan idChan fuel a' b ⟨abm ++ om, abi, abo⟩ ⟨bam, ii, io⟩ :=
  if_pos hp

/-- nothing was written in this round: the last one -/
theorem drv_afterA_end {P : Prog × Prog × Chan × Chan → Prop} (hw : w = 0)
    (h : P (a', b, ⟨abm ++ [], abi, abo⟩, ⟨bam, ii, io⟩)) :
    P (afterA act fuel b ⟨abm, abi, abo⟩ ⟨bam, bai, bao⟩ w (a', ⟨im, ii, io⟩, ⟨[], oi, oo⟩)) := by
  rw [afterA, if_neg (by simp [hw])]
  exact h

/-- a party that has returned stays as it is -/
theorem drv_stable_b : ∀ (fuel : Nat) (a : Prog) (abm bam : List Bytes) (abi abo bai bao : Nat),
    (scheduleN act idChan idChan fuel a (.ret c k) ⟨abm, abi, abo⟩ ⟨bam, bai, bao⟩).2.1 = .ret c k := by
  intro fuel
  induction fuel with
  | zero => intros; rfl
  | succ fuel ih =>
    intros
    rw [drv_round, drv_run_ret, afterB, afterA]
    split
    · exact ih ..
    · rfl

theorem drv_stable_a : ∀ (fuel : Nat) (b : Prog) (abm bam : List Bytes) (abi abo bai bao : Nat),
    (scheduleN act idChan idChan fuel (.ret c k) b ⟨abm, abi, abo⟩ ⟨bam, bai, bao⟩).1 = .ret c k := by
  intro fuel
  induction fuel with
  | zero => intros; rfl
  | succ fuel ih =>
    intros
    rw [drv_round, afterB, drv_run_ret, afterA]
    split
    · exact ih ..
    · rfl

/-- B has returned in this round -/
theorem drv_afterB_ret : (afterB act fuel a ab ba (.ret c k, inc, out)).2.1 = .ret c k := by
  rw [afterB, afterA]
  split
  · exact drv_stable_b ..
  · rfl

/-- A has returned in this round -/
theorem drv_afterA_ret : (afterA act fuel b ab ba w (.ret c k, inc, out)).1 = .ret c k := by
  rw [afterA]
  split
  · exact drv_stable_a ..
  · rfl

end round

/-! ### drivers against the run by hand -/

/-- the final configuration of the scheduler against the result of the run by hand: with its keys and messages when
it succeeds, with its code at the failing party when it stops -/
abbrev Agrees (h : Except Err Outcome) (S : Prog × Prog × Chan × Chan) : Prop :=
  match h with
  | .ok o => S.1 = .ret ERR_OK (some o.keyA) ∧ S.2.1 = .ret ERR_OK (some o.keyB) ∧
      S.2.2.1.msgs = fromA o.msgs ∧ S.2.2.2.msgs = fromB o.msgs
  | .error e => S.1 = .ret e none ∨ S.2.1 = .ret e none

theorem Agrees.ok {act : Nat} {a b : Prog} {o : Outcome}
    (h : Agrees (.ok o) (scheduleN act idChan idChan 8 a b ⟨[], 0, 0⟩ ⟨[], 0, 0⟩)) :
    runPairN act idChan idChan a b = ((ERR_OK, some o.keyA), (ERR_OK, some o.keyB), fromA o.msgs, fromB o.msgs) := by
  obtain ⟨h1, h2, h3, h4⟩ := h
  unfold runPairN
  simp only [h1, h2, h3, h4, Prog.outcome]

theorem Agrees.error {act : Nat} {a b : Prog} {e : Err}
    (h : Agrees (.error e) (scheduleN act idChan idChan 8 a b ⟨[], 0, 0⟩ ⟨[], 0, 0⟩)) :
    (runPairN act idChan idChan a b).1.1 = e ∨ (runPairN act idChan idChan a b).2.1.1 = e := by
  unfold runPairN
  rcases h with h | h
  · left; simp only [h, Prog.outcome]
  · right; simp only [h, Prog.outcome]

/-! ### BMQV -/

theorem drv_bmqv (E : Env G) (hmac : ∀ k d, (E.mac k d).length = 8) (set : Settings) (ka kb ca cb ta tb : Bytes)
    (act : Nat) (hact : 2 ≤ act) :
    Agrees (bmqvHand E set ka kb ca cb ta tb) (scheduleN act idChan idChan 8
      (bmqvRunA E set ka ca cb ta) (bmqvRunB E set kb cb ca tb) ⟨[], 0, 0⟩ ⟨[], 0, 0⟩) := by
  obtain ⟨n, rfl⟩ := Nat.exists_eq_add_of_le' hact
  unfold bmqvHand bmqvRunA bmqvRunB
  cases hs1 : bmqvStart E set kb cb tb with
  | error e => exact Or.inr (drv_stable_b ..)
  | ok sb0 =>
  cases hs2 : bmqvStart E set ka ca ta with
  | error e => exact Or.inl (drv_stable_a ..)
  | ok sa0 =>
  dsimp only [Prog.ofExcept]
  cases h2 : bmqvStep2 E sb0 with
  | error e => exact Or.inr (drv_stable_b ..)
  | ok r2 =>
  obtain ⟨sb1, m1⟩ := r2
  obtain ⟨eb1, -, -, -, -, hl1⟩ := tbmqv_step2_inv h2
  have ea0 : sa0.set = set := by rw [tbmqv_start_inv hs2]
  have eb0 : sb0.set = set := by rw [tbmqv_start_inv hs1]
  dsimp only
  -- round 1: B writes M1 and waits; A reads M1, writes M2 and waits
  rw [drv_round, drv_run_write, drv_run_wait rfl, drv_afterB, drv_run_read rfl hl1]
  cases h3 : bmqvStep3 E sa0 m1 cb with
  | error e => rw [drv_run_ret]; exact Or.inl drv_afterA_ret
  | ok r3 =>
  obtain ⟨sa1, m2⟩ := r3
  have hl2 : m2.length = 2 * E.no + if set.kca ≠ 0 then 8 else 0 := by
    obtain ⟨_, _, _, _, _, _, _, _, _, _, rfl⟩ := tbmqv_step3_inv h3
    rw [List.length_append, encXY_len, ea0]
    split <;> simp [hmac]
  dsimp only
  rw [drv_run_write, drv_run_ite_wait rfl, drv_afterA (by simp)]
  -- round 2: B reads M2, answers M3 if its confirmation is on, and returns; A reads M3, if any, and returns
  rw [drv_round, drv_run_read rfl hl2]
  cases h4 : bmqvStep4 E sb1 m2 ca with
  | error e => rw [drv_run_ret]; exact Or.inr drv_afterB_ret
  | ok r4 =>
  obtain ⟨sb2, m3⟩ := r4
  have hl3 : set.kcb ≠ 0 → m3.length = 8 := by
    obtain ⟨_, _, _, _, _, _, _, _, _, rfl⟩ := tbmqv_step4_inv h4
    intro hk
    rw [eb1, eb0, if_pos hk, hmac]
  dsimp only
  rw [drv_run_ite_write, drv_afterB]
  by_cases hkcb : set.kcb ≠ 0
  · simp only [if_pos hkcb]
    rw [drv_run_read rfl (hl3 hkcb)]
    cases h5 : bmqvStep5 E sa1 m3 with
    | error e => rw [drv_run_ret]; exact Or.inl drv_afterA_ret
    | ok sa2 =>
      dsimp only
      rw [drv_run_ret, drv_afterA (by simp), drv_round, drv_run_ret, drv_afterB, drv_run_ret]
      exact drv_afterA_end rfl ⟨rfl, rfl, rfl, rfl⟩
  · simp only [if_neg hkcb]
    rw [drv_run_ret]
    exact drv_afterA_end rfl ⟨rfl, rfl, rfl, rfl⟩

theorem driver_eq_steps_bmqv (E : Env G) (hmac : ∀ k d, (E.mac k d).length = 8) (set : Settings)
    (ka kb ca cb ta tb : Bytes) (o : Outcome) (h : bmqvHand E set ka kb ca cb ta tb = .ok o) :
    runPair idChan idChan (bmqvRunA E set ka ca cb ta) (bmqvRunB E set kb cb ca tb)
      = ((ERR_OK, some o.keyA), (ERR_OK, some o.keyB), fromA o.msgs, fromB o.msgs) := by
  rw [← runPairN_1024]
  exact Agrees.ok (h ▸ drv_bmqv E hmac set ka kb ca cb ta tb 1024 (by decide))

/-- the failing case: when the run by hand stops with code e, that code is what the failing party's driver returns -/
theorem driver_error_bmqv (E : Env G) (hmac : ∀ k d, (E.mac k d).length = 8) (set : Settings)
    (ka kb ca cb ta tb : Bytes) (e : Err) (h : bmqvHand E set ka kb ca cb ta tb = .error e) :
    (runPair idChan idChan (bmqvRunA E set ka ca cb ta) (bmqvRunB E set kb cb ca tb)).1.1 = e ∨
    (runPair idChan idChan (bmqvRunA E set ka ca cb ta) (bmqvRunB E set kb cb ca tb)).2.1.1 = e := by
  rw [← runPairN_1024]
  exact Agrees.error (h ▸ drv_bmqv E hmac set ka kb ca cb ta tb 1024 (by decide))

/-! ### BPACE -/

theorem drv_bpace (E : Env G) (hmac : ∀ k d, (E.mac k d).length = 8) (hecb : ∀ k x, (E.ecbE k x).length = x.length)
    (set : Settings) (pwda pwdb ta tb : Bytes) (act : Nat) (hact : 2 ≤ act) :
    Agrees (bpaceHand E set pwda pwdb ta tb) (scheduleN act idChan idChan 8
      (bpaceRunA E set pwda ta) (bpaceRunB E set pwdb tb) ⟨[], 0, 0⟩ ⟨[], 0, 0⟩) := by
  obtain ⟨n, rfl⟩ := Nat.exists_eq_add_of_le' hact
  unfold bpaceHand bpaceRunA bpaceRunB
  dsimp only [Prog.ofExcept]
  rcases h2 : bpaceStep2 E (bpaceStart E set pwdb tb) with ⟨sb1, m1⟩
  obtain ⟨eb1, -, hm1⟩ := tbpace_step2_inv h2
  have hl1 : m1.length = E.no / 2 := by rw [hm1, hecb, tapeRead_len]
  dsimp only
  -- round 1: B writes M1 and waits; A reads M1, writes M2 and waits
  rw [drv_round, drv_run_write, drv_run_wait rfl, drv_afterB, drv_run_read rfl hl1]
  cases h3 : bpaceStep3 E (bpaceStart E set pwda ta) m1 with
  | error e => rw [drv_run_ret]; exact Or.inl drv_afterA_ret
  | ok r3 =>
  obtain ⟨sa1, m2⟩ := r3
  obtain ⟨ea1, -, V, hm2, -⟩ := tbpace_step3_inv h3
  have hl2 : m2.length = 5 * E.no / 2 := by
    rw [hm2, List.length_append, hecb, tapeRead_len, encXY_len]
    omega
  dsimp only
  rw [drv_run_write, drv_run_wait rfl, drv_afterA (by simp)]
  -- round 2: B reads M2, writes M3 and waits for A's confirmation, if any; A reads M3, confirms if it has to, and returns
  rw [drv_round, drv_run_read rfl hl2]
  cases h4 : bpaceStep4 E sb1 m2 with
  | error e => rw [drv_run_ret]; exact Or.inr drv_afterB_ret
  | ok r4 =>
  obtain ⟨sb2, m3⟩ := r4
  have hl3 : m3.length = 2 * E.no + if set.kcb ≠ 0 then 8 else 0 := by
    obtain ⟨_, _, _, _, _, _, _, rfl⟩ := tbpace_step4_inv h4
    rw [List.length_append, encXY_len, eb1]
    split <;> simp [hmac]
  dsimp only
  rw [drv_run_write, drv_run_ite_wait rfl, drv_afterB, drv_run_read rfl hl3]
  cases h5 : bpaceStep5 E sa1 m3 with
  | error e => rw [drv_run_ret]; exact Or.inl drv_afterA_ret
  | ok r5 =>
  obtain ⟨sa2, m4⟩ := r5
  have hl4 : set.kca ≠ 0 → m4.length = 8 := by
    obtain ⟨_, _, _, _, _, _, _, rfl⟩ := tbpace_step5_inv h5
    intro hk
    rw [ea1, show (bpaceStart E set pwda ta).set = set from rfl, if_pos hk, hmac]
  dsimp only
  rw [drv_run_ite_write, drv_afterA (by simp)]
  -- round 3: B reads the confirmation, if any, and returns
  by_cases hkca : set.kca ≠ 0
  · simp only [if_pos hkca]
    rw [drv_round, drv_run_read rfl (hl4 hkca)]
    cases h6 : bpaceStep6 E sb2 m4 with
    | error e => rw [drv_run_ret]; exact Or.inr drv_afterB_ret
    | ok sb3 =>
      dsimp only
      rw [drv_run_ret, drv_afterB, drv_run_ret]
      exact drv_afterA_end rfl ⟨rfl, rfl, rfl, rfl⟩
  · simp only [if_neg hkca]
    rw [drv_round, drv_run_ret, drv_afterB, drv_run_ret]
    exact drv_afterA_end rfl ⟨rfl, rfl, rfl, rfl⟩

theorem driver_eq_steps_bpace (E : Env G) (hmac : ∀ k d, (E.mac k d).length = 8) (hecb : ∀ k x, (E.ecbE k x).length = x.length)
    (set : Settings) (pwda pwdb ta tb : Bytes) (o : Outcome) (h : bpaceHand E set pwda pwdb ta tb = .ok o) :
    runPair idChan idChan (bpaceRunA E set pwda ta) (bpaceRunB E set pwdb tb)
      = ((ERR_OK, some o.keyA), (ERR_OK, some o.keyB), fromA o.msgs, fromB o.msgs) := by
  rw [← runPairN_1024]
  exact Agrees.ok (h ▸ drv_bpace E hmac hecb set pwda pwdb ta tb 1024 (by decide))

/-- BPACE: when the run by hand stops with code e, that code is what the failing party's driver returns -/
theorem driver_error_bpace (E : Env G) (hmac : ∀ k d, (E.mac k d).length = 8) (hecb : ∀ k x, (E.ecbE k x).length = x.length)
    (set : Settings) (pwda pwdb ta tb : Bytes) (e : Err) (h : bpaceHand E set pwda pwdb ta tb = .error e) :
    (runPair idChan idChan (bpaceRunA E set pwda ta) (bpaceRunB E set pwdb tb)).1.1 = e ∨
    (runPair idChan idChan (bpaceRunA E set pwda ta) (bpaceRunB E set pwdb tb)).2.1.1 = e := by
  rw [← runPairN_1024]
  exact Agrees.error (h ▸ drv_bpace E hmac hecb set pwda pwdb ta tb 1024 (by decide))

/-! ### BSTS: messages read in blocks -/

theorem drv_bsts (E : Env G) (set : Settings) (ka kb ca cb ta tb : Bytes) (act : Nat) (hact : 2 ≤ act)
    (hM2 : ∀ sb0 sa0 sb1 m1 sa1 m2, bstsStart E set kb cb tb = .ok sb0 → bstsStart E set ka ca ta = .ok sa0 →
      bstsStep2 E sb0 = .ok (sb1, m1) → bstsStep3 E sa0 m1 = .ok (sa1, m2) → BlockRead act m2)
    (hM3 : ∀ sb0 sa0 sb1 m1 sa1 m2 sb2 m3, bstsStart E set kb cb tb = .ok sb0 → bstsStart E set ka ca ta = .ok sa0 →
      bstsStep2 E sb0 = .ok (sb1, m1) → bstsStep3 E sa0 m1 = .ok (sa1, m2) → bstsStep4 E sb1 m2 = .ok (sb2, m3) →
      BlockRead act m3) :
    Agrees (bstsHand E set ka kb ca cb ta tb) (scheduleN act idChan idChan 8
      (bstsRunA E set ka ca ta) (bstsRunB E set kb cb tb) ⟨[], 0, 0⟩ ⟨[], 0, 0⟩) := by
  obtain ⟨n, hn⟩ := Nat.exists_eq_add_of_le' hact
  unfold bstsHand bstsRunA bstsRunB
  cases hs1 : bstsStart E set kb cb tb with
  | error e => exact Or.inr (drv_stable_b ..)
  | ok sb0 =>
  cases hs2 : bstsStart E set ka ca ta with
  | error e => exact Or.inl (drv_stable_a ..)
  | ok sa0 =>
  dsimp only [Prog.ofExcept]
  cases h2 : bstsStep2 E sb0 with
  | error e => exact Or.inr (drv_stable_b ..)
  | ok r2 =>
  obtain ⟨sb1, m1⟩ := r2
  have hl1 : m1.length = 2 * E.no := by rw [(tbsts_step2_inv h2).2.2.2.1, encXY_len]
  dsimp only
  -- round 1: B writes M1 and waits; A reads M1, writes M2 and waits
  rw [drv_round, hn, drv_run_write, drv_run_readBlocks_wait rfl, drv_afterB, drv_run_read rfl hl1]
  cases h3 : bstsStep3 E sa0 m1 with
  | error e => rw [drv_run_ret]; exact Or.inl drv_afterA_ret
  | ok r3 =>
  obtain ⟨sa1, m2⟩ := r3
  have hM2 := hM2 _ _ _ _ _ _ hs1 hs2 h2 h3
  dsimp only
  rw [drv_run_write, drv_run_readBlocks_wait rfl, drv_afterA (by simp), ← hn]
  -- round 2: B reads M2 block by block, writes M3 and returns; A reads M3 block by block and returns
  obtain ⟨n2, hn2⟩ : ∃ k, act = k + 1 + m2.length / 512 + 1 := ⟨act - 2 - m2.length / 512, by have := hM2.2.1; omega⟩
  rw [drv_round, hn2, drv_run_readBlocks_whole rfl hM2]
  cases h4 : bstsStep4 E sb1 m2 with
  | error e => rw [drv_run_ret]; exact Or.inr drv_afterB_ret
  | ok r4 =>
  obtain ⟨sb2, m3⟩ := r4
  have hM3 := hM3 _ _ _ _ _ _ _ _ hs1 hs2 h2 h3 h4
  obtain ⟨n3, hn3⟩ : ∃ k, act = k + m3.length / 512 + 1 := ⟨act - 1 - m3.length / 512, by have := hM3.2.1; omega⟩
  dsimp only
  rw [drv_run_write, drv_run_ret, drv_afterB, ← hn2, hn3, drv_run_readBlocks_whole rfl hM3]
  cases h5 : bstsStep5 E sa1 m3 with
  | error e => rw [drv_run_ret]; exact Or.inl drv_afterA_ret
  | ok sa2 =>
    dsimp only
    rw [drv_run_ret, drv_afterA (by simp), drv_round, drv_run_ret, drv_afterB, drv_run_ret]
    exact drv_afterA_end rfl ⟨rfl, rfl, rfl, rfl⟩

/-- a successful run by hand: its steps and messages -/
theorem drv_bstsHand_ok {E : Env G} {set : Settings} {ka kb ca cb ta tb : Bytes} {o : Outcome}
    (h : bstsHand E set ka kb ca cb ta tb = .ok o) :
    ∃ sb0 sa0 sb1 m1 sa1 m2 sb2 m3, bstsStart E set kb cb tb = .ok sb0 ∧ bstsStart E set ka ca ta = .ok sa0 ∧
      bstsStep2 E sb0 = .ok (sb1, m1) ∧ bstsStep3 E sa0 m1 = .ok (sa1, m2) ∧ bstsStep4 E sb1 m2 = .ok (sb2, m3) ∧
      o.msgs = [m1, m2, m3] := by
  unfold bstsHand at h
  split at h
  · cases h
  split at h
  · cases h
  split at h
  · cases h
  split at h
  · cases h
  split at h
  · cases h
  split at h
  · cases h
  cases h
  exact ⟨_, _, _, _, _, _, _, _, ‹_›, ‹_›, ‹_›, ‹_›, ‹_›, rfl⟩

/-- BSTS with `act` actions per party and round: no absolute bound on the sizes of M2, M3 — a party needs one action per
block read and three more; `hr2`, `hr3`: the block loop of the model has its own fuel (`runFuel` = 2^24 blocks, where the
C loop would end with ERR_OUTOFMEMORY) -/
theorem driver_eq_steps_bsts_fuel (E : Env G) (set : Settings) (ka kb ca cb ta tb : Bytes) (o : Outcome) (act : Nat)
    (h : bstsHand E set ka kb ca cb ta tb = .ok o)
    (hm2 : ∀ m2, o.msgs[1]? = some m2 → m2.length % 512 ≠ 0) (hm3 : ∀ m3, o.msgs[2]? = some m3 → m3.length % 512 ≠ 0)
    (hb2 : ∀ m2, o.msgs[1]? = some m2 → m2.length / 512 + 3 ≤ act) (hb3 : ∀ m3, o.msgs[2]? = some m3 → m3.length / 512 + 3 ≤ act)
    (hr2 : ∀ m2, o.msgs[1]? = some m2 → m2.length / 512 < runFuel) (hr3 : ∀ m3, o.msgs[2]? = some m3 → m3.length / 512 < runFuel) :
    runPairN act idChan idChan (bstsRunA E set ka ca ta) (bstsRunB E set kb cb tb)
      = ((ERR_OK, some o.keyA), (ERR_OK, some o.keyB), fromA o.msgs, fromB o.msgs) := by
  obtain ⟨sb0, sa0, sb1, m1, sa1, m2, sb2, m3, hs1, hs2, h2, h3, h4, ho⟩ := drv_bstsHand_ok h
  have e2 : o.msgs[1]? = some m2 := by rw [ho]; rfl
  have e3 : o.msgs[2]? = some m3 := by rw [ho]; rfl
  refine Agrees.ok (h ▸ drv_bsts E set ka kb ca cb ta tb act (by have := hb2 m2 e2; omega) ?_ ?_)
  · intro _ _ _ _ _ _ hs1' hs2' h2' h3'
    cases hs1.symm.trans hs1'; cases hs2.symm.trans hs2'; cases h2.symm.trans h2'; cases h3.symm.trans h3'
    exact ⟨hm2 _ e2, hb2 _ e2, hr2 _ e2⟩
  · intro _ _ _ _ _ _ _ _ hs1' hs2' h2' h3' h4'
    cases hs1.symm.trans hs1'; cases hs2.symm.trans hs2'; cases h2.symm.trans h2'; cases h3.symm.trans h3'
    cases h4.symm.trans h4'
    exact ⟨hm3 _ e3, hb3 _ e3, hr3 _ e3⟩

/-- BSTS: M2, M3 are read in 512-octet blocks; the read_i contract cannot delimit a message whose length is a multiple of
the block (`hm2`, `hm3`); the scheduler of the model gives a party 1024 actions per round, hence the size bounds
(`hb2`, `hb3`: fewer than 1000 blocks) -/
theorem driver_eq_steps_bsts (E : Env G) (set : Settings) (ka kb ca cb ta tb : Bytes) (o : Outcome)
    (h : bstsHand E set ka kb ca cb ta tb = .ok o)
    (hm2 : ∀ m2, o.msgs[1]? = some m2 → m2.length % 512 ≠ 0) (hm3 : ∀ m3, o.msgs[2]? = some m3 → m3.length % 512 ≠ 0)
    (hb2 : ∀ m2, o.msgs[1]? = some m2 → m2.length < 512 * 1000) (hb3 : ∀ m3, o.msgs[2]? = some m3 → m3.length < 512 * 1000) :
    runPair idChan idChan (bstsRunA E set ka ca ta) (bstsRunB E set kb cb tb)
      = ((ERR_OK, some o.keyA), (ERR_OK, some o.keyB), fromA o.msgs, fromB o.msgs) := by
  rw [← runPairN_1024]
  refine driver_eq_steps_bsts_fuel E set ka kb ca cb ta tb o 1024 h hm2 hm3 ?_ ?_ ?_ ?_ <;> intro m hm
  · have := hb2 m hm; omega
  · have := hb3 m hm; omega
  · have := hb2 m hm; rw [drv_runFuel]; omega
  · have := hb3 m hm; rw [drv_runFuel]; omega

/-- BSTS: when the run by hand stops with code e, that code is what the failing party's driver returns.  `hM2`, `hM3`:
the messages M2, M3 that are transmitted before the failure are delimited by the block reads (length not a multiple of 512)
and fit the 1024 actions of a round -/
theorem driver_error_bsts (E : Env G) (set : Settings) (ka kb ca cb ta tb : Bytes) (e : Err)
    (h : bstsHand E set ka kb ca cb ta tb = .error e)
    (hM2 : ∀ sb0 sa0 sb1 m1 sa1 m2, bstsStart E set kb cb tb = .ok sb0 → bstsStart E set ka ca ta = .ok sa0 →
      bstsStep2 E sb0 = .ok (sb1, m1) → bstsStep3 E sa0 m1 = .ok (sa1, m2) → m2.length % 512 ≠ 0 ∧ m2.length < 512 * 1000)
    (hM3 : ∀ sb0 sa0 sb1 m1 sa1 m2 sb2 m3, bstsStart E set kb cb tb = .ok sb0 → bstsStart E set ka ca ta = .ok sa0 →
      bstsStep2 E sb0 = .ok (sb1, m1) → bstsStep3 E sa0 m1 = .ok (sa1, m2) → bstsStep4 E sb1 m2 = .ok (sb2, m3) →
      m3.length % 512 ≠ 0 ∧ m3.length < 512 * 1000) :
    (runPair idChan idChan (bstsRunA E set ka ca ta) (bstsRunB E set kb cb tb)).1.1 = e ∨
    (runPair idChan idChan (bstsRunA E set ka ca ta) (bstsRunB E set kb cb tb)).2.1.1 = e := by
  have hblk : ∀ m : Bytes, m.length % 512 ≠ 0 ∧ m.length < 512 * 1000 → BlockRead 1024 m := fun m hm =>
    ⟨hm.1, by omega, by rw [drv_runFuel]; omega⟩
  rw [← runPairN_1024]
  exact Agrees.error (h ▸ drv_bsts E set ka kb ca cb ta tb 1024 (by decide)
    (fun _ _ _ _ _ _ hs1 hs2 h2 h3 => hblk _ (hM2 _ _ _ _ _ _ hs1 hs2 h2 h3))
    (fun _ _ _ _ _ _ _ _ hs1 hs2 h2 h3 h4 => hblk _ (hM3 _ _ _ _ _ _ _ _ hs1 hs2 h2 h3 h4)))

end Bee2V.C04
