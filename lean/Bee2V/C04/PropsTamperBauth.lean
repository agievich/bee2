/-
C04 — BAUTH under an active adversary who replaces every message by arbitrary octets: if all steps succeed
and the two keys are equal then a collision of KRP or of belt-hash is exhibited, or the hashed parts of the
transcript (Rct, Rt, the tag Tt) arrived as they were sent (`tamper_bauth`).
The lemmas `tbauth_*_inv` read off what a successful step implies.
-/
import Bee2V.C04.Lemmas
namespace Bee2V.C04
open Bee2V.C02 (Bytes leNat natLE zeros Ctx tapeRead randNZMod loadPub encXY hashL subMod)
open Bee2V.Gen.C04Err
variable {G : Type} [AddCommGroup G] {E : Env G}

/-! ### what a successful step implies -/

omit [AddCommGroup G] in
theorem tbauth_ctStart_inv {set : Settings} {priv cert tape : Bytes} {s : BauthCtSt}
    (h : bauthCtStart E set priv cert tape = .ok s) : s.set = set := by
  unfold bauthCtStart at h
  (repeat' split at h) <;> cases h
  rfl

omit [AddCommGroup G] in
theorem tbauth_tStart_inv {set : Settings} {priv cert tape : Bytes} {s : BauthTSt G}
    (h : bauthTStart E set priv cert tape = .ok s) : s.set = set := by
  unfold bauthTStart at h
  (repeat' split at h) <;> cases h
  rfl

/-- the token keeps its settings, Rct has l bits, M1 = `<Vct>_4l ‖ token` has `2·no + no/2 + 16` octets -/
theorem tbauth_ctStep2_inv (L : Laws E) {s s' : BauthCtSt} {certt m : Bytes}
    (h : bauthCtStep2 E s certt = .ok (s', m)) :
    s'.set = s.set ∧ s'.r.length = E.no / 2 ∧ m.length = 2 * E.no + (E.no / 2 + 16) := by
  unfold bauthCtStep2 at h
  simp only at h
  split at h
  · cases h
  · split at h
    · cases h
    · split at h
      · cases h
      · simp only [Except.ok.injEq, Prod.mk.injEq] at h
        obtain ⟨rfl, rfl⟩ := h
        have hr := tapeRead_len (E.no / 2) s.tape
        refine ⟨rfl, hr, ?_⟩
        rw [List.length_append, L.kwp_len _ _ hr, hr]
        exact congrArg (· + (E.no / 2 + 16)) (Bee2V.C02.encXY_length E.C _)

omit [AddCommGroup G] in
theorem tbauth_tStep3_inv {s s' : BauthTSt G} {inp m : Bytes} (h : bauthTStep3 E s inp = .ok (s', m)) :
    ∃ (K : Nat × Nat) (V : G) (rct : Bytes), loadPub E.C (inp.take (2 * E.no)) = some V ∧ E.xy (E.smul s.d V) = some K ∧
      E.kwpU (kwKey E K.1) (inp.drop (2 * E.no)) = some rct ∧
      s'.k0 = E.krp (bauthY E s.set rct s'.r) 0 ∧
      m = E.mac (E.krp (bauthY E s.set rct s'.r) 1) (zeros 16) ++ (if s.set.kcb ≠ 0 then s'.r else []) := by
  unfold bauthTStep3 at h
  simp only at h
  split at h
  · cases h
  · rename_i V hV
    split at h
    · cases h
    · rename_i K hK
      split at h
      · cases h
      · rename_i rct hU
        simp only [Except.ok.injEq, Prod.mk.injEq] at h
        obtain ⟨rfl, rfl⟩ := h
        exact ⟨K, V, rct, hV, hK, hU, rfl, rfl⟩

omit [AddCommGroup G] in
theorem tbauth_ctStep4_inv {s s' : BauthCtSt} {inp m : Bytes} (h : bauthCtStep4 E s inp = .ok (s', m)) :
    E.mac (E.krp (bauthY E s.set s.r ((inp.drop 8).take 16)) 1) (zeros 16) = inp.take 8 ∧
      s'.k0 = E.krp (bauthY E s.set s.r ((inp.drop 8).take 16)) 0 := by
  unfold bauthCtStep4 at h
  simp only at h
  (repeat' split at h) <;> cases h <;> exact ⟨not_not.1 ‹_›, rfl⟩

/-! ### the adversary -/

/-- BAUTH: acceptance + equal keys ⇒ collision, or the terminal unwrapped exactly the secret Rct the token wrapped, the
token received the terminal's Rt (when kcb) and the tag Tt unchanged.  (No length condition on M2' is needed: the token
reads `M2'[0..8)` and `M2'[8..24)` whatever arrives.) -/
theorem tamper_bauth (L : Laws E) (set : Settings) (kt kct certt certt' certct tt tct m1' m2' : Bytes)
    {sb0 sb1 sb2 : BauthCtSt} {sa0 sa1 : BauthTSt G} {m1 m2 m3 : Bytes}
    (hb0 : bauthCtStart E set kct certct tct = .ok sb0) (ha0 : bauthTStart E set kt certt tt = .ok sa0)
    (h2 : bauthCtStep2 E sb0 certt' = .ok (sb1, m1))
    (hl1 : m1'.length = m1.length)
    (h3 : bauthTStep3 E sa0 m1' = .ok (sa1, m2))
    (h4 : bauthCtStep4 E sb1 m2' = .ok (sb2, m3))
    (hk : bauthTStepG sa1 = bauthCtStepG sb2) :
    Collision (fun Y => E.krp Y 0) ∨ Collision E.hash ∨
      (∃ K : Nat × Nat, ∃ V, loadPub E.C (m1'.take (2 * E.no)) = some V ∧ E.xy (E.smul sa0.d V) = some K ∧
          E.kwpU (kwKey E K.1) (m1'.drop (2 * E.no)) = some sb1.r) ∧
      (set.kcb ≠ 0 → (m2'.drop 8).take 16 = sa1.r) ∧ m2'.take 8 = m2.take 8 := by
  have eb0 := tbauth_ctStart_inv hb0
  have ea0 := tbauth_tStart_inv ha0
  obtain ⟨eb1, hrl, hm1⟩ := tbauth_ctStep2_inv L h2
  obtain ⟨K, V, rct, hV, hK, hU, hka, hm2⟩ := tbauth_tStep3_inv h3
  obtain ⟨hmac, hkb⟩ := tbauth_ctStep4_inv h4
  rw [eb1, eb0] at hmac hkb
  rw [ea0] at hka hm2
  unfold bauthTStepG bauthCtStepG at hk
  rw [hka, hkb] at hk
  unfold bauthY at hk
  refine key_binding hk fun hin => ?_
  have hY : bauthY E set rct sa1.r = bauthY E set sb1.r ((m2'.drop 8).take 16) := congrArg E.hash hin
  -- the hashed octets: Rct ‖ [Rt] ‖ hello, |Rct| = no/2 on both sides
  have hlen : rct.length = sb1.r.length := by
    have := L.kwpU_len _ _ _ hU
    rw [List.length_drop, hl1, hm1] at this
    omega
  have h1 := (List.append_left_inj _).1 hin
  obtain ⟨hr, hrt⟩ := List.append_inj h1 hlen
  subst hr
  refine ⟨⟨K, V, hV, hK, hU⟩, ?_, ?_⟩
  · intro hkcb
    rw [if_pos hkcb, if_pos hkcb] at hrt
    exact hrt.symm
  · rw [← hmac, ← hY, hm2]
    exact (List.take_left' (L.mac_len _ _)).symm

end Bee2V.C04
