/-
C04 — lemmas shared by the property files: the generator, the MQV scalar s = (u − (2^l + t)d) mod q,
the signature-like check s·G + (2^l + t)·Q = V, encodings of points and the parsing of the protocol messages.
-/
import Mathlib.Tactic.Ring
import Mathlib.Data.ZMod.Basic
import Bee2V.C02.LemmasKeyt
import Bee2V.C04.Laws
namespace Bee2V.C04
open Bee2V.C02 (Bytes leNat natLE zeros Ctx tapeRead randNZMod loadPub encXY hashL subMod)
open Bee2V.Gen.C04Err
variable {G : Type} [AddCommGroup G] {E : Env G}

theorem rand_range {tape rest : Bytes} {u : Nat} (h : randNZMod E.C tape = (some u, rest)) : 0 < u ∧ u < E.q :=
  Bee2V.C02.randNZMod_range h

theorem Laws.smul_eq (L : Laws E) (n : Nat) (P : G) : E.smul n P = n • P := L.ctx.smul_eq n P
theorem Laws.add_eq (L : Laws E) (P Q : G) : E.add P Q = P + Q := L.ctx.add_eq P Q
theorem Laws.neg_eq (L : Laws E) (P : G) : E.neg P = -P := L.ctx.neg_eq P

/-- the MQV scalar is reduced and satisfies `s + (t + 2^l)·d ≡ u (mod q)` -/
theorem mqvS_spec (L : Laws E) {u : Nat} (hu : u < E.q) (d t : Nat) :
    mqvS E u d t < E.q ∧ (mqvS E u d t + (t + 2 ^ E.l) * d) % E.q = u % E.q := by
  have hq := L.ctx.q_pos
  have hx : (t * d + 2 ^ E.l * d) % E.q < E.q := Nat.mod_lt _ hq
  unfold mqvS
  rw [show E.W = E.toCtx.W from rfl, Bee2V.C02.subMod_eq hu hx L.ctx.q_lt_W]
  refine ⟨Nat.mod_lt _ hq, ?_⟩
  rw [show (t + 2 ^ E.l) * d = t * d + 2 ^ E.l * d by ring]
  exact Bee2V.C02.sub_add_mod hq u _

/-- multiples of the base point only depend on the scalar modulo q -/
theorem Laws.base_congr (L : Laws E) {a b : Nat} (h : a % E.q = b % E.q) : a • E.base = b • E.base :=
  L.ctx.nsmul_congr h

/-- the check of BSTS Step4/Step5 and BAUTH Step5 on honest values: `s·G + (2^l + t)·(d·G) = u·G` -/
theorem honest_check (L : Laws E) {u : Nat} (hu : u < E.q) (d t : Nat) :
    mqvS E u d t • E.base + (t + 2 ^ E.l) • (d • E.base) = u • E.base := by
  rw [← mul_nsmul', ← add_nsmul]
  exact L.base_congr (mqvS_spec L hu d t).2

/-- a certificate that validates carries a point different from O -/
theorem certPub_ne (L : Laws E) {cert : Bytes} {Q : G} (h : certPub E cert = .ok Q) : Q ≠ 0 := by
  unfold certPub at h
  simp only at h
  split at h
  · cases h
  · split at h
    · rename_i Q' hQ
      cases h
      exact L.ctx.ne_of_xy (L.ctx.loadPub_xy hQ)
    · cases h

/-- `ERR_BAD_POINT` criterion: `loadPub` fails iff a coordinate is out of the field or the pair is off the curve -/
theorem loadPub_none_iff (m : Bytes) :
    loadPub E.C m = none ↔ (leNat (m.take E.no) ≥ E.p ∨ leNat (m.drop E.no) ≥ E.p) ∨
      E.ofXY (leNat (m.take E.no)) (leNat (m.drop E.no)) = none := by
  unfold loadPub
  by_cases h : leNat (m.take E.C.no) ≥ E.C.p ∨ leNat (m.drop E.C.no) ≥ E.C.p
  · simp only [if_pos h]; exact ⟨fun _ => .inl h, fun _ => trivial⟩
  · simp only [if_neg h]
    exact ⟨fun hh => .inr hh, fun hh => hh.resolve_left h⟩

/-! ### octets -/

omit [AddCommGroup G] in
/-- one request to the generator returns exactly the requested number of octets -/
theorem tapeRead_len (n : Nat) (t : Bytes) : (tapeRead n t).1.length = n := by
  unfold tapeRead zeros
  simp only [List.length_append, List.length_take, List.length_replicate]
  omega

omit [AddCommGroup G] in
theorem encXY_len (v : Nat × Nat) : (encXY E.C v).length = 2 * E.no := Bee2V.C02.encXY_length E.C v

omit [AddCommGroup G] in
theorem encXY_take (v : Nat × Nat) (r : Bytes) : (encXY E.C v ++ r).take E.no = natLE E.no v.1 := by
  unfold encXY
  rw [List.append_assoc]
  exact Bee2V.C02.take_natLE_append _ _ _

omit [AddCommGroup G] in
theorem encXY_take1 (v : Nat × Nat) : (encXY E.C v).take E.no = natLE E.no v.1 :=
  Bee2V.C02.take_natLE_append _ _ _

omit [AddCommGroup G] in
/-- the y-coordinate octets of `<V>_4l ‖ r` -/
theorem encXY_mid (v : Nat × Nat) (r : Bytes) : ((encXY E.C v ++ r).drop E.no).take E.no = natLE E.no v.2 := by
  unfold encXY
  rw [List.append_assoc, show E.no = E.toCtx.no from rfl, Bee2V.C02.drop_natLE_append, Bee2V.C02.take_natLE_append]

omit [AddCommGroup G] in
theorem encXY_drop1 (v : Nat × Nat) : (encXY E.C v).drop E.no = natLE E.no v.2 :=
  Bee2V.C02.drop_natLE_append _ _ _

omit [AddCommGroup G] in
theorem encXY_take2 (v : Nat × Nat) (r : Bytes) : (encXY E.C v ++ r).take (2 * E.no) = encXY E.C v :=
  List.take_left' (encXY_len v)

omit [AddCommGroup G] in
theorem encXY_take_all (v : Nat × Nat) : (encXY E.C v).take (2 * E.no) = encXY E.C v :=
  List.take_of_length_le (Nat.le_of_eq (encXY_len v))

omit [AddCommGroup G] in
theorem encXY_drop2 (v : Nat × Nat) (r : Bytes) : (encXY E.C v ++ r).drop (2 * E.no) = r :=
  List.drop_left' (encXY_len v)

/-- numbers below p, q survive the conversion to `no` octets and back -/
theorem Laws.leNat_natLE (L : Laws E) {v : Nat} (h : v < 2 ^ (2 * E.l)) : leNat (natLE E.no v) = v :=
  Bee2V.C02.leNat_natLE_of_lt (by rw [show E.no = E.toCtx.no from rfl, L.ctx.pow256]; exact h)

/-- the `no` octets of an x-coordinate determine it -/
theorem Laws.x_inj (L : Laws E) {P P' : G} {K K' : Nat × Nat} (hK : E.xy P = some K) (hK' : E.xy P' = some K')
    (h : natLE E.no K.1 = natLE E.no K'.1) : K.1 = K'.1 := by
  have hp := L.ctx.p_hi
  have h1 := (L.ctx.xy_lt _ K.1 K.2 hK).1
  have h2 := (L.ctx.xy_lt _ K'.1 K'.2 hK').1
  rw [← L.leNat_natLE (show K.1 < _ by omega), h, L.leNat_natLE (show K'.1 < _ by omega)]

omit [AddCommGroup G] in
/-- the middle part of `v ‖ y ‖ m` as the BSTS steps cut it out -/
theorem parse_mid {v y m : Bytes} {n : Nat} (hv : v.length = 2 * n) (hm : m.length = 8) :
    ((v ++ y ++ m).drop (2 * n)).take ((v ++ y ++ m).length - 2 * n - 8) = y := by
  have hl : (v ++ y ++ m).length - 2 * n - 8 = y.length := by
    simp only [List.length_append, hv, hm]; omega
  rw [hl, List.append_assoc, List.drop_left' hv, List.take_left' rfl]

omit [AddCommGroup G] in
/-- the last 8 octets -/
theorem parse_last {w m : Bytes} (hm : m.length = 8) : (w ++ m).drop ((w ++ m).length - 8) = m := by
  have hl : (w ++ m).length - 8 = w.length := by
    simp only [List.length_append, hm]; omega
  rw [hl, List.drop_left' rfl]

omit [AddCommGroup G] in
/-- everything but the last 8 octets -/
theorem parse_init {w m : Bytes} (hm : m.length = 8) : (w ++ m).take ((w ++ m).length - 8) = w := by
  have hl : (w ++ m).length - 8 = w.length := by
    simp only [List.length_append, hm]; omega
  rw [hl, List.take_left' rfl]

/-- the one-time key pair from the generator -/
theorem ephem_ok (L : Laws E) {P : G} {tape rest : Bytes} {u : Nat} {V : Nat × Nat}
    (h : randNZMod E.C tape = (some u, rest)) (hV : E.xy (u • P) = some V) :
    ephem E P tape = .ok (rest, u, V) := by
  unfold ephem
  simp only [h, L.smul_eq, hV]

omit [AddCommGroup G] in
theorem ephem_inv {P : G} {tape rest : Bytes} {u : Nat} {V : Nat × Nat} (h : ephem E P tape = .ok (rest, u, V)) :
    randNZMod E.C tape = (some u, rest) ∧ E.xy (E.smul u P) = some V := by
  unfold ephem at h
  (repeat' split at h) <;> cases h
  exact ⟨‹_›, ‹_›⟩

end Bee2V.C04
