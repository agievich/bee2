/-
C04 — BAUTH, the honest run: with certificates that validate to the parties' public keys every step succeeds
and terminal and token derive the same key, with and without the token's authentication (`honest_agree_bauth`).
-/
import Bee2V.C04.Lemmas
namespace Bee2V.C04
open Bee2V.C02 (Bytes leNat natLE zeros Ctx tapeRead randNZMod loadPub encXY hashL subMod)
open Bee2V.Gen.C04Err
variable {G : Type} [AddCommGroup G] {E : Env G}

/-! ### the honest run -/

/-- BAUTH, honest run (kca must be TRUE), kcb arbitrary, any hellos, certificates that validate to the parties'
public keys (a non-empty token certificate when kcb is on is NOT needed), any tapes: the token's tape yields Rct and then
a one-time key: every step succeeds, both hold the same key.  (A = terminal T, B = token CT.) -/
theorem honest_agree_bauth (L : Laws E) (set : Settings) (hk : set.kca = 1) (kt kct certt certct tt tct r : Bytes) (u : Nat)
    (hct : certPub E certt = .ok (leNat kt • E.base)) (hcct : certPub E certct = .ok (leNat kct • E.base))
    (htct : randNZMod E.C (tapeRead (E.no / 2) tct).2 = (some u, r)) :
    ∃ k m, bauthHand E set kt kct certt certct tt tct = .ok ⟨k, k, m⟩ := by
  have hRl : (tapeRead (E.no / 2) tct).1.length = E.no / 2 := tapeRead_len _ _
  rcases hB : tapeRead (E.no / 2) tct with ⟨Rct, tct'⟩
  rw [hB] at htct hRl
  simp only at htct hRl
  obtain ⟨u0, uq⟩ := rand_range htct
  -- the points
  have hQt : leNat kt • E.base ≠ 0 := certPub_ne L hct
  have hV0 : u • E.base ≠ 0 := L.ctx.base_mul_ne u0 uq
  have hK0 : u • (leNat kt • E.base) ≠ 0 := L.ctx.nsmul_ne hQt u0 uq
  obtain ⟨xv, yv, hV⟩ := L.ctx.xy_some hV0
  obtain ⟨xk, yk, hK⟩ := L.ctx.xy_some hK0
  have hK' : E.xy (leNat kt • (u • E.base)) = some (xk, yk) := by
    rw [← mul_nsmul', Nat.mul_comm, mul_nsmul']
    exact hK
  obtain ⟨hxv, hyv⟩ := L.ctx.xy_lt _ _ _ hV
  have hp := L.ctx.p_hi
  have hq := L.ctx.q_hi
  have hc1 : ¬ set.kca ≠ 1 := not_not.2 hk
  have hmd : ∀ (k x r : Bytes), (E.mac k x ++ r).drop 8 = r := fun k x r => List.drop_left' (L.mac_len k x)
  have hmt : ∀ (k x r : Bytes), (E.mac k x ++ r).take 8 = E.mac k x := fun k x r => List.take_left' (L.mac_len k x)
  -- every scrutinee of the run by hand is known: it evaluates, with and without the token's authentication
  unfold bauthHand bauthCtStart bauthTStart bauthCtStep2 bauthTStep3 bauthCtStep4 bauthTStep5
  simp only [hc1, hct, hcct, hB, ephem, htct, L.smul_eq, hV, hK, hK', encXY_take1, encXY_take2, encXY_take, encXY_mid,
    encXY_drop2, L.ctx.loadPub_encXY hV, L.kwp_inv _ _ hRl, L.leNat_natLE (show xv < _ by omega),
    L.leNat_natLE (show yv < _ by omega), bauthY, if_false]
  by_cases hkb : set.kcb ≠ 0
  · rcases hT : tapeRead 16 tt with ⟨Rt, tt'⟩
    have hRt : Rt.length = 16 := by have := tapeRead_len 16 tt; rwa [hT] at this
    simp only [hkb, hmd, hmt, List.take_of_length_le (Nat.le_of_eq hRt), ne_eq, not_true_eq_false, not_false_eq_true,
      if_true, if_false]
    -- Step5 (T) parses M3 = Zct ‖ Tct, Zct = CFB(sct ‖ cert_ct)
    generalize E.hash (Rct ++ Rt ++ set.hello) = Y
    generalize hashT E (natLE E.no xv) Rt = t
    have hsq := (mqvS_spec L uq (leNat kct) t).1
    have hd := L.cfb_inv (E.krp Y 2) (zeros 16) (natLE E.no (mqvS E u (leNat kct) t) ++ certct)
    have hzl : (E.cfbE (E.krp Y 2) (zeros 16) (natLE E.no (mqvS E u (leNat kct) t) ++ certct)).length
        = E.no + certct.length := by rw [L.cfb_len, List.length_append, Bee2V.C02.natLE_length]
    generalize E.cfbE (E.krp Y 2) (zeros 16) (natLE E.no (mqvS E u (leNat kct) t) ++ certct) = z at hd hzl ⊢
    have hml := L.mac_len (E.krp Y 1) z
    have h1 : ¬ (z ++ E.mac (E.krp Y 1) z).length < 8 + E.no := by
      simp only [List.length_append, hzl, hml]; omega
    simp only [h1, parse_init (w := z) hml, parse_last (w := z) hml, hd, hcct, Bee2V.C02.take_natLE_append,
      Bee2V.C02.drop_natLE_append, L.leNat_natLE (show mqvS E u (leNat kct) t < _ by omega), addMul, L.smul_eq,
      L.add_eq, honest_check L uq, hV, ge_iff_le, Nat.not_le.2 hsq, not_true_eq_false, if_false, bauthTStepG, bauthCtStepG]
    exact ⟨_, _, rfl⟩
  · simp only [hkb, hmt, bauthTStepG, bauthCtStepG, ne_eq, not_true_eq_false, if_false]
    exact ⟨_, _, rfl⟩

end Bee2V.C04
