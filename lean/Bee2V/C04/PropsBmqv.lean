/-
C04 — BMQV: the honest run.  Every step succeeds and both parties hold the same key, for every flag
combination; when an MQV scalar s = (u − (2^l + t)d) mod q is zero both parties take K <- G
(the behaviour repaired by docs/C04.fix-1.diff).
-/
import Bee2V.C04.Lemmas
namespace Bee2V.C04
open Bee2V.C02 (Bytes leNat natLE zeros Ctx tapeRead randNZMod loadPub encXY hashL subMod)
open Bee2V.Gen.C04Err
variable {G : Type} [AddCommGroup G] {E : Env G}

/-! ### sizes -/

/-- `t = <belt-hash(..)>_l` is an l-bit number -/
theorem bmqv_hashT_lt (L : Laws E) (a b : Bytes) : hashT E a b < 2 ^ E.l := by
  unfold hashT
  have h := Bee2V.C02.leNat_lt (hashL E.C (a ++ b))
  rw [L.ctx.hashL_len, L.ctx.pow256h] at h
  exact h

/-- `0 < t + 2^l < q` for an l-bit t -/
theorem bmqv_t_range (L : Laws E) {t : Nat} (ht : t < 2 ^ E.l) : 0 < t + 2 ^ E.l ∧ t + 2 ^ E.l < E.q := by
  have hl : 8 ≤ E.l := by
    have h1 := L.ctx.l_mod
    have h2 := L.ctx.l_pos
    omega
  have h2 : 2 ^ (E.l + 1) ≤ 2 ^ (2 * E.l - 1) := Nat.pow_le_pow_right (by decide) (by omega)
  have h3 := L.ctx.q_lo
  have h4 : 2 ^ (E.l + 1) = 2 ^ E.l * 2 := Nat.pow_succ 2 E.l
  have h5 : 0 < 2 ^ E.l := Nat.pow_pos (by decide)
  omega

/-! ### the MQV point -/

/-- `V − (2^l + t)·Q = s·G` for V = u·G, Q = d·G, s the MQV scalar of (u, d, t) -/
theorem bmqv_mqvK_D (L : Laws E) {u : Nat} (hu : u < E.q) (d t : Nat) :
    u • E.base + -((t + 2 ^ E.l) • (d • E.base)) = mqvS E u d t • E.base := by
  have h := honest_check L hu d t
  rw [← h, add_neg_cancel_right]

/-- mqvK on honest inputs never fails: the result is the x-coordinate of s'·(s·G) when that point is affine
and the x-coordinate of the base point otherwise (s = 0: the difference is O; s' = 0: the multiple is O) -/
theorem bmqv_mqvK_eq (L : Laws E) {u d t : Nat} (s' : Nat) (hu : u < E.q) (hd : d • E.base ≠ 0)
    (ht : t < 2 ^ E.l) :
    mqvK E (u • E.base) (d • E.base) t s'
      = .ok ((E.xy (s' • (mqvS E u d t • E.base))).elim (natLE E.no (baseX E)) (fun K => natLE E.no K.1)) := by
  obtain ⟨h0, hq⟩ := bmqv_t_range L ht
  obtain ⟨x1, y1, h1⟩ := L.ctx.xy_some (L.ctx.nsmul_ne hd h0 hq)
  have hsq := (mqvS_spec L hu d t).1
  have h3 : E.xy (0 : G) = none := (L.ctx.xy_none 0).2 rfl
  unfold mqvK
  simp only [L.smul_eq, L.add_eq, L.neg_eq, bmqv_mqvK_D L hu d t, h1]
  by_cases hs : mqvS E u d t = 0
  · simp only [hs, zero_nsmul, nsmul_zero, h3, Option.elim]
  · obtain ⟨x2, y2, h2⟩ := L.ctx.xy_some (L.ctx.base_mul_ne (Nat.pos_of_ne_zero hs) hsq)
    simp only [h2]
    cases hK : E.xy (s' • (mqvS E u d t • E.base)) with
    | none => simp only [Option.elim]
    | some K => simp only [Option.elim]

/-! ### the honest run -/

/-- BMQV, honest run, every flag combination, any hellos, any certificates that validate to the parties'
public keys, any generator tapes that yield one-time keys: every step succeeds and both hold the same key
(also in the runs in which an MQV scalar s = (u − (2^l+t)d) mod q is zero: both then take K <- G). -/
theorem honest_agree_bmqv (L : Laws E) (set : Settings) (ka kb ca cb ta tb ra rb : Bytes) (ua ub : Nat)
    (hca : certPub E ca = .ok (leNat ka • E.base)) (hcb : certPub E cb = .ok (leNat kb • E.base))
    (hta : randNZMod E.C ta = (some ua, ra)) (htb : randNZMod E.C tb = (some ub, rb)) :
    ∃ k m, bmqvHand E set ka kb ca cb ta tb = .ok ⟨k, k, m⟩ := by
  obtain ⟨hua0, huaq⟩ := rand_range hta
  obtain ⟨hub0, hubq⟩ := rand_range htb
  obtain ⟨xa, ya, hVa⟩ := L.ctx.xy_some (L.ctx.base_mul_ne hua0 huaq)
  obtain ⟨xb, yb, hVb⟩ := L.ctx.xy_some (L.ctx.base_mul_ne hub0 hubq)
  have hmqA := bmqv_mqvK_eq L (mqvS E ua (leNat ka) (hashT E (natLE E.no xa) (natLE E.no xb)))
    hubq (certPub_ne L hcb) (bmqv_hashT_lt L (natLE E.no xa) (natLE E.no xb))
  have hmqB := bmqv_mqvK_eq L (mqvS E ub (leNat kb) (hashT E (natLE E.no xa) (natLE E.no xb)))
    huaq (certPub_ne L hca) (bmqv_hashT_lt L (natLE E.no xa) (natLE E.no xb))
  have hcomm : mqvS E ub (leNat kb) (hashT E (natLE E.no xa) (natLE E.no xb)) •
      (mqvS E ua (leNat ka) (hashT E (natLE E.no xa) (natLE E.no xb)) • E.base)
      = mqvS E ua (leNat ka) (hashT E (natLE E.no xa) (natLE E.no xb)) •
      (mqvS E ub (leNat kb) (hashT E (natLE E.no xa) (natLE E.no xb)) • E.base) := by
    rw [← mul_nsmul', ← mul_nsmul', Nat.mul_comm]
  rw [hcomm] at hmqB
  generalize (E.xy (mqvS E ua (leNat ka) (hashT E (natLE E.no xa) (natLE E.no xb)) •
      (mqvS E ub (leNat kb) (hashT E (natLE E.no xa) (natLE E.no xb)) • E.base))).elim
      (natLE E.no (baseX E)) (fun K => natLE E.no K.1) = K at hmqA hmqB
  have hm : ∀ k x : Bytes, (E.mac k x).take 8 = E.mac k x := fun k x =>
    List.take_of_length_le (by rw [L.mac_len])
  -- every scrutinee of the run by hand is known: it evaluates, for each combination of the flags
  unfold bmqvHand bmqvStart bmqvStep2 bmqvStep3 bmqvStep4 bmqvStep5
  by_cases hka : set.kca ≠ 0 <;> by_cases hkb : set.kcb ≠ 0 <;>
    simp only [hca, hcb, ephem_ok L htb hVb, ephem_ok L hta hVa, encXY_take1, encXY_take, encXY_take2, encXY_drop2,
      L.ctx.loadPub_encXY hVb, L.ctx.loadPub_encXY hVa, hmqA, hmqB, bmqvKeys, hka, hkb, hm, ne_eq,
      not_true_eq_false, not_false_eq_true, and_self, and_false, false_and, if_true, if_false, true_or, or_true, or_self,
      bmqvStepG, Except.ok.injEq, Outcome.mk.injEq, exists_and_left, exists_eq', and_true]

end Bee2V.C04
