/-
C04 — `reject_exact`: a step that receives a point fails with ERR_BAD_POINT exactly when the received
coordinates are out of the field (≥ p) or the pair is not a point of the curve (the value `(0,0)`,
`(x,0)`, a point of the twist or of another curve are instances).  So every such substitution is rejected
unconditionally — before any secret-dependent computation, whatever the flags, hellos and tapes.
`loadPub` is `qrFrom ∧ qrFrom ∧ ecpIsOnA` (C02 model); `E.ofXY x y = none` ⇔ (x, y) is not the
coordinate pair of a group element (`notPoint_iff`).
-/
import Bee2V.C04.Lemmas
namespace Bee2V.C04
open Bee2V.C02 (Bytes leNat natLE zeros Ctx tapeRead randNZMod loadPub encXY hashL subMod)
open Bee2V.Gen.C04Err
variable {G : Type} [AddCommGroup G] {E : Env G}

/-- the received octets are not the encoding of a point: a coordinate ≥ p, or off the curve -/
def BadPoint (E : Env G) (m : Bytes) : Prop :=
  (leNat (m.take E.no) ≥ E.p ∨ leNat (m.drop E.no) ≥ E.p) ∨ E.ofXY (leNat (m.take E.no)) (leNat (m.drop E.no)) = none

theorem badPoint_iff (m : Bytes) : loadPub E.C m = none ↔ BadPoint E m := loadPub_none_iff m

/-- under the laws, `ofXY x y = none` says that no group element has the coordinates (x, y) -/
theorem notPoint_iff (L : Laws E) (x y : Nat) : E.ofXY x y = none ↔ ¬ ∃ P, E.xy P = some (x, y) := by
  constructor
  · intro h ⟨P, hP⟩
    rw [L.ctx.ofXY_xy P x y hP] at h
    cases h
  · intro h
    cases ho : E.ofXY x y with
    | none => rfl
    | some P => exact absurd ⟨P, L.ctx.xy_ofXY x y P ho⟩ h

omit [AddCommGroup G] in
theorem ephem_error {P : G} {tape : Bytes} {e : Err} (h : ephem E P tape = .error e) :
    e = ERR_BAD_RNG ∨ e = ERR_BAD_PARAMS := by
  unfold ephem at h
  split at h
  · cases h; exact .inl rfl
  · split at h
    · cases h; exact .inr rfl
    · cases h

omit [AddCommGroup G] in
theorem mqvK_error {V Q : G} {t s : Nat} {e : Err} (h : mqvK E V Q t s = .error e) : e = ERR_BAD_PARAMS := by
  unfold mqvK at h
  split at h
  · cases h; rfl
  · simp only at h
    split at h
    · cases h
    · split at h <;> cases h

/-- bakeBMQVStep3 (certificate of B accepted by the callback): ERR_BAD_POINT ⇔ the received Vb is no point -/
theorem reject_exact_bmqvStep3 (s : BmqvSt) (inp certb : Bytes) {Qb : G} (hc : certPub E certb = .ok Qb) :
    bmqvStep3 E s inp certb = .error ERR_BAD_POINT ↔ BadPoint E inp := by
  rw [← badPoint_iff]
  unfold bmqvStep3
  simp only [hc]
  cases hl : loadPub E.C inp with
  | none => simp
  | some Vb =>
    simp only []
    constructor
    · intro h
      exfalso
      cases he : ephem E E.base s.tape with
      | error e =>
        rw [he] at h
        simp only [Except.error.injEq] at h
        rcases ephem_error he with h1 | h1 <;> rw [h1] at h <;> cases h
      | ok r =>
        obtain ⟨rest, u, Va⟩ := r
        rw [he] at h
        simp only at h
        split at h
        · rename_i e hk
          simp only [Except.error.injEq] at h
          rw [mqvK_error hk] at h
          cases h
        · cases h
    · intro h; cases h

/-- bakeBMQVStep4 -/
theorem reject_exact_bmqvStep4 (s : BmqvSt) (inp certa : Bytes) {Qa : G} (hc : certPub E certa = .ok Qa) :
    bmqvStep4 E s inp certa = .error ERR_BAD_POINT ↔ BadPoint E (inp.take (2 * E.no)) := by
  rw [← badPoint_iff]
  unfold bmqvStep4
  simp only [hc]
  cases hl : loadPub E.C (inp.take (2 * E.no)) with
  | none => simp
  | some Va =>
    simp only []
    constructor
    · intro h
      exfalso
      split at h
      · rename_i e hk
        simp only [Except.error.injEq] at h
        rw [mqvK_error hk] at h
        cases h
      · split at h <;> cases h
    · intro h; cases h

/-- bakeBSTSStep3: the first thing the step does -/
theorem reject_exact_bstsStep3 (s : BstsSt G) (inp : Bytes) :
    bstsStep3 E s inp = .error ERR_BAD_POINT ↔ BadPoint E inp := by
  rw [← badPoint_iff]
  unfold bstsStep3
  cases hl : loadPub E.C inp with
  | none => simp
  | some Vb =>
    simp only []
    constructor
    · intro h
      exfalso
      cases he : ephem E E.base s.tape with
      | error e =>
        rw [he] at h
        simp only [Except.error.injEq] at h
        rcases ephem_error he with h1 | h1 <;> rw [h1] at h <;> cases h
      | ok r =>
        obtain ⟨rest, u, Va⟩ := r
        rw [he] at h
        simp only at h
        split at h <;> cases h
    · intro h; cases h

/-- bakeBPACEStep4 -/
theorem reject_exact_bpaceStep4 (s : BpaceSt G) (inp : Bytes) :
    bpaceStep4 E s inp = .error ERR_BAD_POINT ↔ BadPoint E ((inp.drop (E.no / 2)).take (2 * E.no)) := by
  rw [← badPoint_iff]
  unfold bpaceStep4
  simp only []
  cases hl : loadPub E.C ((inp.drop (E.no / 2)).take (2 * E.no)) with
  | none => simp
  | some Va =>
    simp only []
    refine ⟨fun h => ?_, nofun⟩
    (repeat' split at h) <;> cases h

/-- bakeBPACEStep5 -/
theorem reject_exact_bpaceStep5 (s : BpaceSt G) (inp : Bytes) :
    bpaceStep5 E s inp = .error ERR_BAD_POINT ↔ BadPoint E (inp.take (2 * E.no)) := by
  rw [← badPoint_iff]
  unfold bpaceStep5
  simp only []
  cases hl : loadPub E.C (inp.take (2 * E.no)) with
  | none => simp
  | some Vb =>
    simp only []
    refine ⟨fun h => ?_, nofun⟩
    (repeat' split at h) <;> cases h

/-- btokBAuthTStep3 -/
theorem reject_exact_bauthTStep3 (s : BauthTSt G) (inp : Bytes) :
    bauthTStep3 E s inp = .error ERR_BAD_POINT ↔ BadPoint E (inp.take (2 * E.no)) := by
  rw [← badPoint_iff]
  unfold bauthTStep3
  simp only []
  cases hl : loadPub E.C (inp.take (2 * E.no)) with
  | none => simp
  | some V =>
    simp only []
    refine ⟨fun h => ?_, nofun⟩
    (repeat' split at h) <;> cases h

/-- non-vacuity: the all-zero octets are a bad point as soon as (0,0) is not on the curve -/
example (h : E.ofXY 0 0 = none) : BadPoint E (zeros (2 * E.no)) := by
  right
  have z : ∀ n, leNat (zeros n) = 0 := by
    intro n; induction n with
    | zero => rfl
    | succ n ih => show leNat ((0 : UInt8) :: zeros n) = 0; simp [leNat, ih]
  have h1 : (zeros (2 * E.no)).take E.no = zeros (min E.no (2 * E.no)) := by simp [zeros]
  have h2 : (zeros (2 * E.no)).drop E.no = zeros (2 * E.no - E.no) := by simp [zeros]
  rw [h1, h2, z, z]; exact h

end Bee2V.C04
