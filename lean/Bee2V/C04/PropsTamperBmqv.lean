/-
C04 — BMQV under an active adversary: every message is replaced by arbitrary octets.  If all steps
nevertheless succeed and the two keys are equal, then an explicit collision of KRP or of belt-hash is
exhibited, or both parties derived the key from the same MQV secret octets and the same certificate
strings.  An altered confirmation tag that B accepts forces different keys (or a KRP collision).
-/
import Bee2V.C04.Lemmas
namespace Bee2V.C04
open Bee2V.C02 (Bytes leNat natLE zeros Ctx tapeRead randNZMod loadPub encXY hashL subMod)
open Bee2V.Gen.C04Err
variable {G : Type} [AddCommGroup G] {E : Env G}

/-! ### what a successful step tells -/

omit [AddCommGroup G] in
/-- the MQV secret is always `no` octets long -/
theorem tbmqv_mqvK_len {V Q : G} {t s : Nat} {K : Bytes} (h : mqvK E V Q t s = .ok K) : K.length = E.no := by
  unfold mqvK at h
  simp only at h
  (repeat' split at h) <;> cases h <;> exact Bee2V.C02.natLE_length _ _

omit [AddCommGroup G] in
theorem tbmqv_start_inv {set : Settings} {priv cert tape : Bytes} {s : BmqvSt}
    (h : bmqvStart E set priv cert tape = .ok s) : s = ⟨set, leNat priv, 0, [], cert, [], [], tape⟩ := by
  unfold bmqvStart at h
  split at h <;> cases h
  rfl

omit [AddCommGroup G] in
theorem tbmqv_step2_inv {s s' : BmqvSt} {m : Bytes} (h : bmqvStep2 E s = .ok (s', m)) :
    s'.set = s.set ∧ s'.d = s.d ∧ s'.cert = s.cert ∧ s'.k1 = s.k1 ∧ s'.vb = m.take E.no ∧ m.length = 2 * E.no := by
  unfold bmqvStep2 at h
  split at h <;> cases h
  exact ⟨rfl, rfl, rfl, rfl, rfl, encXY_len _⟩

omit [AddCommGroup G] in
/-- Step3 (A) succeeded on (inp, certb): certb validated, inp is a point, the MQV computation gave K, the keys
are derived from `K ‖ own certificate ‖ certb ‖ hellos`, and the message is `<Va>_4l` followed (kca) by the tag under K1 -/
theorem tbmqv_step3_inv {s s' : BmqvSt} {inp certb out : Bytes} (h : bmqvStep3 E s inp certb = .ok (s', out)) :
    ∃ Qb Vb K, certPub E certb = .ok Qb ∧ loadPub E.C inp = some Vb ∧
      mqvK E Vb Qb (hashT E (out.take E.no) (inp.take E.no))
        (mqvS E s'.u s.d (hashT E (out.take E.no) (inp.take E.no))) = .ok K ∧
      s'.k0 = E.krp (E.hash (K ++ s.cert ++ certb ++ s.set.hello)) 0 ∧
      s'.k1 = (if s.set.kca ≠ 0 ∨ s.set.kcb ≠ 0 then E.krp (E.hash (K ++ s.cert ++ certb ++ s.set.hello)) 1 else s.k1) ∧
      s'.set = s.set ∧ ∃ Va, out = encXY E.C Va ++ if s.set.kca ≠ 0 then E.mac s'.k1 (zeros 16) else [] := by
  unfold bmqvStep3 at h
  split at h
  · cases h
  · rename_i Qb hQb
    split at h
    · cases h
    · rename_i Vb hVb
      split at h
      · cases h
      · rename_i rest u Va hE
        simp only at h
        split at h
        · cases h
        · rename_i K hK
          simp only [Except.ok.injEq, Prod.mk.injEq] at h
          obtain ⟨rfl, rfl⟩ := h
          refine ⟨Qb, Vb, K, hQb, hVb, ?_, rfl, rfl, rfl, Va, rfl⟩
          rw [encXY_take, ← encXY_take1]
          exact hK

omit [AddCommGroup G] in
/-- Step4 (B) succeeded on (inp, certa) -/
theorem tbmqv_step4_inv {s s' : BmqvSt} {inp certa out : Bytes} (h : bmqvStep4 E s inp certa = .ok (s', out)) :
    ∃ Qa Va K, certPub E certa = .ok Qa ∧ loadPub E.C (inp.take (2 * E.no)) = some Va ∧
      mqvK E Va Qa (hashT E (inp.take E.no) s.vb) (mqvS E s.u s.d (hashT E (inp.take E.no) s.vb)) = .ok K ∧
      s'.k0 = E.krp (E.hash (K ++ certa ++ s.cert ++ s.set.hello)) 0 ∧
      s'.k1 = (if s.set.kca ≠ 0 ∨ s.set.kcb ≠ 0 then E.krp (E.hash (K ++ certa ++ s.cert ++ s.set.hello)) 1 else s.k1) ∧
      (s.set.kca ≠ 0 → E.mac s'.k1 (zeros 16) = (inp.drop (2 * E.no)).take 8) ∧
      out = if s.set.kcb ≠ 0 then E.mac s'.k1 (ones 16) else [] := by
  unfold bmqvStep4 at h
  split at h
  · cases h
  · rename_i Qa hQa
    split at h
    · cases h
    · rename_i Va hVa
      simp only at h
      split at h
      · cases h
      · rename_i K hK
        split at h
        · cases h
        · rename_i hc
          simp only [Except.ok.injEq, Prod.mk.injEq] at h
          obtain ⟨rfl, rfl⟩ := h
          refine ⟨Qa, Va, K, hQa, hVa, hK, rfl, rfl, fun hk => ?_, rfl⟩
          by_contra hne
          exact hc ⟨hk, hne⟩

/-! ### the tamper theorems -/

/-- BMQV: acceptance + equal keys ⇒ KRP/hash collision, or both parties derived the key from the same MQV secret octets and the
same certificate strings (ca' / cb' = what the peer holds as the other's certificate) -/
theorem tamper_bmqv (_L : Laws E) (set : Settings) (ka kb ca cb ca' cb' ta tb m1' m2' : Bytes)
    {sa0 sb0 sb1 sa1 sb2 : BmqvSt} {m1 m2 m3 : Bytes}
    (ha0 : bmqvStart E set ka ca ta = .ok sa0) (hb0 : bmqvStart E set kb cb tb = .ok sb0)
    (h2 : bmqvStep2 E sb0 = .ok (sb1, m1))
    (h3 : bmqvStep3 E sa0 m1' cb' = .ok (sa1, m2))
    (h4 : bmqvStep4 E sb1 m2' ca' = .ok (sb2, m3))
    (hk : bmqvStepG sa1 = bmqvStepG sb2) :
    Collision (fun Y => E.krp Y 0) ∨ Collision E.hash ∨
      ∃ Vb' Qb' Va' Qa' KA KB,
        loadPub E.C m1' = some Vb' ∧ certPub E cb' = .ok Qb' ∧ loadPub E.C (m2'.take (2 * E.no)) = some Va' ∧ certPub E ca' = .ok Qa' ∧
        mqvK E Vb' Qb' (hashT E (m2.take E.no) (m1'.take E.no)) (mqvS E sa1.u sa0.d (hashT E (m2.take E.no) (m1'.take E.no))) = .ok KA ∧
        mqvK E Va' Qa' (hashT E (m2'.take E.no) (m1.take E.no)) (mqvS E sb1.u sb0.d (hashT E (m2'.take E.no) (m1.take E.no))) = .ok KB ∧
        KA = KB ∧ ca ++ cb' = ca' ++ cb := by
  have ea := tbmqv_start_inv ha0
  have eb := tbmqv_start_inv hb0
  obtain ⟨e1, e2, e3, _, e5, _⟩ := tbmqv_step2_inv h2
  obtain ⟨Qb', Vb', KA, hQb, hVb, hKA, hk0A, _⟩ := tbmqv_step3_inv h3
  obtain ⟨Qa', Va', KB, hQa, hVa, hKB, hk0B, _⟩ := tbmqv_step4_inv h4
  have hsa : sa0.cert = ca ∧ sa0.set = set := by rw [ea]; exact ⟨rfl, rfl⟩
  have hsb : sb0.cert = cb ∧ sb0.set = set := by rw [eb]; exact ⟨rfl, rfl⟩
  rw [e1, e3, hsb.1, hsb.2] at hk0B
  rw [hsa.1, hsa.2] at hk0A
  rw [e2, e5] at hKB
  unfold bmqvStepG at hk
  rw [hk0A, hk0B] at hk
  refine key_binding hk fun hI => ⟨Vb', Qb', Va', Qa', KA, KB, hVb, hQb, hVa, hQa, hKA, hKB, ?_⟩
  have h1 := List.append_cancel_right hI
  rw [List.append_assoc, List.append_assoc] at h1
  exact List.append_inj h1 (by rw [tbmqv_mqvK_len hKA, tbmqv_mqvK_len hKB])

/-- an altered tag Ta (kca ≠ 0) accepted by B forces different keys (or a KRP collision): B accepted ⇒ mac k1_B 0^128 = tag',
A sent tag = mac k1_A 0^128 ≠ tag' ⇒ k1_A ≠ k1_B ⇒ Y_A ≠ Y_B ⇒ k0_A ≠ k0_B ∨ Collision (krp · 0) -/
theorem tamper_tag_bmqv (L : Laws E) (set : Settings) (ka kb ca cb ca' cb' ta tb m1' m2' : Bytes)
    {sa0 sb0 sb1 sa1 sb2 : BmqvSt} {m1 m2 m3 : Bytes}
    (ha0 : bmqvStart E set ka ca ta = .ok sa0) (hb0 : bmqvStart E set kb cb tb = .ok sb0)
    (h2 : bmqvStep2 E sb0 = .ok (sb1, m1))
    (h3 : bmqvStep3 E sa0 m1' cb' = .ok (sa1, m2))
    (h4 : bmqvStep4 E sb1 m2' ca' = .ok (sb2, m3))
    (hkca : set.kca ≠ 0)
    (htag : (m2'.drop (2 * E.no)).take 8 ≠ (m2.drop (2 * E.no)).take 8) :
    bmqvStepG sa1 ≠ bmqvStepG sb2 ∨ Collision (fun Y => E.krp Y 0) := by
  have ea := tbmqv_start_inv ha0
  have eb := tbmqv_start_inv hb0
  obtain ⟨e1, _⟩ := tbmqv_step2_inv h2
  obtain ⟨Qb', Vb', KA, _, _, _, hk0A, hk1A, _, Va, hm2⟩ := tbmqv_step3_inv h3
  obtain ⟨Qa', Va', KB, _, _, _, hk0B, hk1B, htB, _⟩ := tbmqv_step4_inv h4
  have hsa : sa0.set = set := by rw [ea]
  have hsb : sb0.set = set := by rw [eb]
  rw [e1, hsb] at hk0B hk1B htB
  rw [hsa] at hk0A hk1A hm2
  rw [if_pos (Or.inl hkca)] at hk1A hk1B
  by_cases hk : bmqvStepG sa1 = bmqvStepG sb2
  · unfold bmqvStepG at hk
    rw [hk0A, hk0B] at hk
    rcases eq_or_collision (fun Y => E.krp Y 0) hk with hY | hc
    · exfalso
      apply htag
      have hk1 : sa1.k1 = sb2.k1 := by rw [hk1A, hk1B, hY]
      rw [← htB hkca, hm2, encXY_drop2, if_pos hkca, hk1, List.take_of_length_le (by rw [L.mac_len])]
    · exact .inr hc
  · exact .inl hk

end Bee2V.C04
