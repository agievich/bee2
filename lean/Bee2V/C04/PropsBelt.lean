/-
C04 — the belt hypotheses of `Laws` hold for the executable instance (`Inst.lean`, C01's belt model) on
every argument the model passes: CFB with a 16-octet synchro, ECB on ≥ 16 octets (the l/8-octet strings
of BPACE, l ≥ 128), key wrap of ≥ 16 octets under a 32-octet key.  From the C01 theorems.
`belt_mac_len`, `belt_krp_len`: tags have 8 octets for every key and data, a key derived from a 32-octet key
(every KRP key of the protocols is a belt-hash value) has 32 octets.
-/
import Bee2V.C01.PropsModes
import Bee2V.C01.PropsStream
import Bee2V.C01.PropsWbl
import Bee2V.C01.PropsLen
import Bee2V.C02.Lemmas
import Bee2V.C04.Inst
namespace Bee2V.C04
open Bee2V.C02 (Bytes zeros)

/-- `Laws.cfb_len`, `Laws.cfb_inv` for belt-CFB -/
theorem belt_cfb_laws (K iv x : Bytes) (hiv : iv.length = 16) :
    (beltCfbE K iv x).length = x.length ∧ beltCfbD K iv (beltCfbE K iv x) = x := by
  have h := Bee2V.C01.cfbStepD_cfbStepE bc Bee2V.C01.length_blockEncr (Bee2V.C01.cfbStart K iv)
    (by show 0 ≤ 16; omega) (by show iv.length = 16; exact hiv) x
  exact ⟨h.2, h.1⟩

/-- `Laws.ecb_len`, `Laws.ecb_inv` for belt-ECB (ciphertext stealing included) -/
theorem belt_ecb_laws (K x : Bytes) (h16 : 16 ≤ x.length) :
    (beltEcbE K x).length = x.length ∧ beltEcbD K (beltEcbE K x) = x :=
  ⟨Bee2V.C01.belt_length_ecbStepE _ x h16, Bee2V.C01.belt_ecbStepD_ecbStepE _ x h16⟩

/-- `Laws.kwp_len`, `Laws.kwp_inv` for belt-KWP with the zero header under a 32-octet key -/
theorem belt_kwp_laws (K x : Bytes) (hK : K.length = 32) (h16 : 16 ≤ x.length) :
    (beltKwpW K x).length = x.length + 16 ∧ beltKwpU K (beltKwpW K x) = some x := by
  obtain ⟨tok, hw, hl, hu⟩ := Bee2V.C01.belt_kwpUnwrap_kwpWrap x (some (zeros 16)) K h16
    (by simp [Bee2V.C01.validKeyLen, hK]) (by intro h hh; cases hh; simp [zeros])
  have e1 : beltKwpW K x = tok := by unfold beltKwpW; rw [hw]
  rw [e1]
  refine ⟨hl, ?_⟩
  unfold beltKwpU
  rw [hu]

/-- `Laws.kwpU_len` for belt-KWP -/
theorem belt_kwpU_len (K t x : Bytes) (h : beltKwpU K t = some x) : x.length + 16 = t.length := by
  unfold beltKwpU at h
  have hs := Bee2V.C01.belt_kwpUnwrap_spec t (some (zeros 16)) K
  cases hr : Bee2V.C01.kwpUnwrap bc t (some (zeros 16)) K with
  | mk e o =>
    rw [hr] at h hs
    cases e <;> cases o <;> simp at h
    subst h
    by_cases hb : t.length < 32 ∨ Bee2V.C01.validKeyLen K.length = false
    · rw [if_pos hb] at hs; cases hs
    · rw [if_neg hb] at hs
      have h32 : ¬ t.length < 32 := fun hh => hb (Or.inl hh)
      by_cases hd : (Bee2V.C01.wblStepDBase Bee2V.C01.beltCipher (Bee2V.C01.fmtKey K) t).1.drop (t.length - 16) = (some (zeros 16)).getD (Bee2V.C01.zeros 16)
      · rw [if_pos hd] at hs
        have hx := (Prod.mk.inj hs).2
        simp only [Option.some.injEq] at hx
        rw [hx, List.length_take]
        have hl : (Bee2V.C01.wblStepDBase Bee2V.C01.beltCipher (Bee2V.C01.fmtKey K) t).1.length = t.length :=
          (Bee2V.C01.wblStepDBase_length Bee2V.C01.beltCipher Bee2V.C01.length_blockEncr _ t (by omega)).1
        omega
      · rw [if_neg hd] at hs; cases hs

/-- `Laws.mac_len` for belt-MAC: the tag has 8 octets for every key and every data -/
theorem belt_mac_len (K data : Bytes) : (beltMac K data).length = 8 :=
  Bee2V.C01.macStepG_length bc Bee2V.C01.length_blockEncr K [data] 8

/-- `Laws.krp_len` for belt-KRP: from a 32-octet key (every KRP key of the protocols is a belt-hash value) a 32-octet
key is derived, for every number -/
theorem belt_krp_len (K : Bytes) (i : Nat) (hK : K.length = 32) : (beltKrp K i).length = 32 := by
  have hsz : Bee2V.Gen.C01.H.toList.length = 256 := by decide +kernel
  unfold beltKrp Bee2V.C01.krpStepG Bee2V.C01.krpStart
  rw [List.length_take, Bee2V.C01.LenL.length_compr bc Bee2V.C01.length_blockEncr _ _
    (Bee2V.C01.SpecHashL.length_fmtKey K (.inr (.inr hK)))]
  · rfl
  · simp only [List.length_append, List.length_take, List.length_drop, hsz, hK, ones, List.length_replicate,
      Bee2V.C02.natLE_length]
    omega

end Bee2V.C04
