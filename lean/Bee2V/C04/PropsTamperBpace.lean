/-
C04 — BPACE under an active adversary who replaces every message by arbitrary octets: if all steps succeed
and the two keys are equal then a collision of KRP or of belt-hash is exhibited, or the hashed parts of the
transcript (the x-coordinates of Va, Vb) arrived as they were sent and the two Diffie–Hellman secrets have
the same x-coordinate (`tamper_bpace`); an altered confirmation tag is not accepted together with equal keys
(`tamper_tag_bpace`); −Va in place of Va is invisible to B (`bpace_neg_undetected`).
The lemmas `tbpace_*_inv` read off what a successful step implies.
-/
import Bee2V.C04.Lemmas
namespace Bee2V.C04
open Bee2V.C02 (Bytes leNat natLE zeros Ctx tapeRead randNZMod loadPub encXY hashL subMod)
open Bee2V.Gen.C04Err
variable {G : Type} [AddCommGroup G] {E : Env G}

/-! ### what a successful step implies -/

omit [AddCommGroup G] in
theorem tbpace_step2_inv {set : Settings} {pwd tb m : Bytes} {s : BpaceSt G}
    (h : bpaceStep2 E (bpaceStart E set pwd tb) = (s, m)) :
    s.set = set ∧ s.k1 = [] ∧ m = E.ecbE (E.hash pwd) (tapeRead (E.no / 2) tb).1 := by
  unfold bpaceStep2 bpaceStart at h
  simp only [Prod.mk.injEq] at h
  obtain ⟨rfl, rfl⟩ := h
  exact ⟨rfl, rfl, rfl⟩

omit [AddCommGroup G] in
/-- A keeps settings and K1, M2 = `Ya ‖ <Va>_4l` with Ya the encrypted l bits of the generator, `s->R` = the x-octets
of Va -/
theorem tbpace_step3_inv {s s' : BpaceSt G} {inp m : Bytes} (h : bpaceStep3 E s inp = .ok (s', m)) :
    s'.set = s.set ∧ s'.k1 = s.k1 ∧
      ∃ V : Nat × Nat, m = E.ecbE s.k2 (tapeRead (E.no / 2) s.tape).1 ++ encXY E.C V ∧ s'.r = natLE E.no V.1 := by
  unfold bpaceStep3 at h
  simp only at h
  split at h
  · cases h
  · simp only [Except.ok.injEq, Prod.mk.injEq] at h
    obtain ⟨rfl, rfl⟩ := h
    exact ⟨rfl, rfl, _, rfl, encXY_take1 _⟩

omit [AddCommGroup G] in
theorem tbpace_step4_inv {s s' : BpaceSt G} {inp m : Bytes} (h : bpaceStep4 E s inp = .ok (s', m)) :
    ∃ (Va : G) (K Vb : Nat × Nat), loadPub E.C ((inp.drop (E.no / 2)).take (2 * E.no)) = some Va ∧
      E.xy (E.smul s'.u Va) = some K ∧
      s'.k0 = (bpaceKeys E s.set s.k1 K.1 ((inp.drop (E.no / 2)).take E.no) (natLE E.no Vb.1)).1 ∧
      s'.k1 = (bpaceKeys E s.set s.k1 K.1 ((inp.drop (E.no / 2)).take E.no) (natLE E.no Vb.1)).2 ∧
      m = encXY E.C Vb ++ (if s.set.kcb ≠ 0 then E.mac s'.k1 (ones 16) else []) := by
  unfold bpaceStep4 at h
  simp only at h
  split at h
  · cases h
  · rename_i Va hVa
    split at h
    · cases h
    · split at h
      · cases h
      · rename_i K hK
        split at h
        · cases h
        · rename_i Vb hVb
          simp only [Except.ok.injEq, Prod.mk.injEq] at h
          obtain ⟨rfl, rfl⟩ := h
          refine ⟨Va, K, Vb, hVa, hK, ?_, ?_, rfl⟩
          · simp only [encXY_take1]
          · simp only [encXY_take1]

omit [AddCommGroup G] in
theorem tbpace_step5_inv {s s' : BpaceSt G} {inp m : Bytes} (h : bpaceStep5 E s inp = .ok (s', m)) :
    ∃ (Vb : G) (K : Nat × Nat), loadPub E.C (inp.take (2 * E.no)) = some Vb ∧ E.xy (E.smul s.u Vb) = some K ∧
      s'.k0 = (bpaceKeys E s.set s.k1 K.1 s.r (natLE E.no (leNat (inp.take E.no)))).1 ∧
      s'.k1 = (bpaceKeys E s.set s.k1 K.1 s.r (natLE E.no (leNat (inp.take E.no)))).2 ∧
      (s.set.kcb ≠ 0 → E.mac s'.k1 (ones 16) = (inp.drop (2 * E.no)).take 8) ∧
      m = if s.set.kca ≠ 0 then E.mac s'.k1 (zeros 16) else [] := by
  unfold bpaceStep5 at h
  simp only at h
  split at h
  · cases h
  · rename_i Vb hVb
    split at h
    · cases h
    · rename_i K hK
      split at h
      · cases h
      · rename_i hc
        simp only [Except.ok.injEq, Prod.mk.injEq] at h
        obtain ⟨rfl, rfl⟩ := h
        exact ⟨Vb, K, hVb, hK, rfl, rfl, fun hk => not_not.1 (fun hne => hc ⟨hk, hne⟩), rfl⟩

/-! ### the adversary -/

/-- BPACE: acceptance + equal keys ⇒ KRP/hash collision, or the x-coordinates of Va (as B received it) and of Vb (as A
received it) are the ones that were sent AND the two Diffie–Hellman secrets have the same x-coordinate.  (The y-coordinates and
M1 = Yb enter only through that last relation: −Va for Va is NOT detected by the equations — see `bpace_neg_undetected`.) -/
theorem tamper_bpace (L : Laws E) (set : Settings) (pwda pwdb ta tb m1' m2' m3' : Bytes)
    {sb1 sa1 sb2 sa2 : BpaceSt G} {m1 m2 m3 m4 : Bytes}
    (h2 : bpaceStep2 E (bpaceStart E set pwdb tb) = (sb1, m1))
    (h3 : bpaceStep3 E (bpaceStart E set pwda ta) m1' = .ok (sa1, m2))
    (hl2 : m2'.length = m2.length)
    (h4 : bpaceStep4 E sb1 m2' = .ok (sb2, m3))
    (hl3 : m3'.length = m3.length)
    (h5 : bpaceStep5 E sa1 m3' = .ok (sa2, m4))
    (hk : bpaceStepG sa2 = bpaceStepG sb2) :
    Collision (fun Y => E.krp Y 0) ∨ Collision E.hash ∨
      ((m2'.drop (E.no / 2)).take E.no = (m2.drop (E.no / 2)).take E.no ∧ m3'.take E.no = m3.take E.no ∧
       ∃ Va' Vb' ka kb, loadPub E.C ((m2'.drop (E.no / 2)).take (2 * E.no)) = some Va' ∧ loadPub E.C (m3'.take (2 * E.no)) = some Vb' ∧
         E.xy (E.smul sa1.u Vb') = some ka ∧ E.xy (E.smul sb2.u Va') = some kb ∧ ka.1 = kb.1) := by
  obtain ⟨eb1, eb1k, -⟩ := tbpace_step2_inv h2
  obtain ⟨ea1, ea1k, Va, hm2, har⟩ := tbpace_step3_inv h3
  have hyl := (L.ecb_len (bpaceStart E set pwda ta).k2 _ (tapeRead_len _ _)).trans (tapeRead_len _ (bpaceStart E set pwda ta).tape)
  have ea1' : sa1.set = set := ea1
  have ea1k' : sa1.k1 = [] := ea1k
  obtain ⟨Va', K, Vb, hVa', hK, hkb0, -, hm3⟩ := tbpace_step4_inv h4
  obtain ⟨Vb', K', hVb', hK', hka0, -⟩ := tbpace_step5_inv h5
  unfold bpaceStepG at hk
  rw [hka0, hkb0, ea1', ea1k', eb1, eb1k, har] at hk
  simp only [bpaceKeys] at hk
  refine key_binding hk fun hin => ?_
  -- the hashed octets: three blocks of no octets, then the hellos
  have hl2' : m2'.length = E.no / 2 + 2 * E.no := by
    rw [hl2, hm2, List.length_append, hyl, encXY_len]
  have hl3' : 2 * E.no ≤ m3'.length := by
    rw [hl3, hm3, List.length_append, encXY_len]
    omega
  have hlb : ((m2'.drop (E.no / 2)).take E.no).length = E.no := by
    rw [List.length_take, List.length_drop, hl2']
    omega
  have h1 := (List.append_left_inj _).1 hin
  obtain ⟨h12, hc⟩ := List.append_inj h1 (by
    rw [List.length_append, List.length_append, hlb]
    simp only [Bee2V.C02.natLE_length])
  obtain ⟨ha, hb⟩ := List.append_inj h12 (by simp only [Bee2V.C02.natLE_length])
  refine ⟨?_, ?_, Va', Vb', K', K, hVa', hVb', hK', hK, ?_⟩
  · rw [← hb, hm2, List.drop_left' hyl, encXY_take1]
  · rw [hm3, encXY_take, ← hc]
    have hl : (m3'.take E.no).length = E.no := by
      rw [List.length_take]
      omega
    have := Bee2V.C02.natLE_leNat (m3'.take E.no)
    rw [hl] at this
    exact this.symm
  · exact L.x_inj hK' hK ha

/-- a confirmation tag Tb that was altered on the way to A is never accepted together with equal keys (unless a KRP
collision is exhibited): A's acceptance means `MAC(K1_A, 1^128) = Tb'`, B sent `Tb = MAC(K1_B, 1^128)`, and equal keys
K0 = KRP(Y, 0) give equal Y, hence equal K1 = KRP(Y, 1) -/
theorem tamper_tag_bpace (L : Laws E) {sa1 sa2 sb1 sb2 : BpaceSt G} {m2' m3 m3' m4 : Bytes}
    (hset : sa1.set = sb1.set) (hkcb : sb1.set.kcb ≠ 0)
    (h4 : bpaceStep4 E sb1 m2' = .ok (sb2, m3))
    (h5 : bpaceStep5 E sa1 m3' = .ok (sa2, m4))
    (hne : (m3'.drop (2 * E.no)).take 8 ≠ (m3.drop (2 * E.no)).take 8) :
    bpaceStepG sa2 ≠ bpaceStepG sb2 ∨ Collision (fun Y => E.krp Y 0) := by
  obtain ⟨Va', K, Vb, -, -, hkb0, hkb1, hm3⟩ := tbpace_step4_inv h4
  obtain ⟨Vb', K', -, -, hka0, hka1, htag, -⟩ := tbpace_step5_inv h5
  rw [hset] at hka0 hka1 htag
  have hor : sb1.set.kca ≠ 0 ∨ sb1.set.kcb ≠ 0 := .inr hkcb
  simp only [bpaceKeys, if_pos hor] at hka0 hka1 hkb0 hkb1
  by_cases hk : bpaceStepG sa2 = bpaceStepG sb2
  swap
  · exact .inl hk
  unfold bpaceStepG at hk
  rw [hka0, hkb0] at hk
  rcases eq_or_collision (fun Y => E.krp Y 0) hk with hY | hc
  swap
  · exact .inr hc
  exfalso
  apply hne
  rw [← htag hkcb, hm3, if_pos hkcb, encXY_drop2, List.take_of_length_le (Nat.le_of_eq (L.mac_len _ _)), hka1, hkb1, hY]

/-- −Va in place of Va is invisible to B: if `m` encodes P, `m'` encodes −P (same x-octets), then bakeBPACEStep4
returns the same result (state, key material, M3 — or the same error) on `Ya ‖ m'` and on `Ya ‖ m`: B uses the received
point only through the x-coordinate of u·Va and the x-octets -/
theorem bpace_neg_undetected (L : Laws E) (s : BpaceSt G) (ya m m' : Bytes) (P : G)
    (hy : ya.length = E.no / 2) (hl : m.length = 2 * E.no) (hl' : m'.length = 2 * E.no)
    (hm : loadPub E.C m = some P) (hm' : loadPub E.C m' = some (-P))
    (hx : m'.take E.no = m.take E.no) :
    bpaceStep4 E s (ya ++ m') = bpaceStep4 E s (ya ++ m) := by
  unfold bpaceStep4
  simp only [List.drop_left' hy, List.take_left' hy, List.take_of_length_le (Nat.le_of_eq hl),
    List.take_of_length_le (Nat.le_of_eq hl'), hm, hm', hx, L.smul_eq]
  cases hr : randNZMod E.C s.tape with
  | mk o rest =>
    cases o with
    | none => rfl
    | some u =>
      simp only [neg_nsmul]
      cases hq : E.xy (u • P) with
      | none =>
        have h0 : u • P = 0 := (L.ctx.xy_none _).1 hq
        have hq' : E.xy (-(u • P)) = none := (L.ctx.xy_none _).2 (by rw [h0, neg_zero])
        simp only [hq']
      | some K =>
        obtain ⟨y', hq'⟩ := L.ctx.xy_neg _ K.1 K.2 hq
        simp only [hq']

end Bee2V.C04
