import Bee2V.C03.BashF32
import Bee2V.C03.LemmasF
/-!
# f32 = f64: the BASH_32 code (`bash_f32.c`, model `F32.bashF32`) computes the same function as
the 64-bit code (`bash_f64.c`, model `Bee2V.C03.bashF`), for every 192-octet block

Abstraction function `J : u32[2] → u64` = the code's own de-interleaving (`pack ∘ u32x2Deinter`).
1. `u32Shuffle` / `u32Deshuffle` are delta-swap networks, i.e. bit permutations (`u32Shuffle_getLsbD`).
2. hence `J_getLsbD`: bit `k` of `J p` is bit `k/2` of half `k mod 2` (the SPEC of interleaving), and
   `J_inter_split`: de-interleaving undoes interleaving.
3. `J` commutes with `^ | & ~`, and turns `u32x2RotHi(·, m)` (three cases) into a 64-bit rotation by `m`.
4. so one `bashS` line of bash_f32.c on interleaved halves is the `bashS` line of bash_f64.c on the words
   (`bashS_sim`); the generated navigation / rotation amounts / constants of the two files agree
   (`rounds_conv`, kernel evaluation); fold over 8 lines and 24 rounds.
-/
set_option linter.unusedSimpArgs false
namespace Bee2V.C03.F32
open Bee2V.Gen.C03F32

/-! ## 1. delta swaps are bit permutations -/

/-- one delta-swap step `t = (w ^ (w >> k)) & M, w ^= t ^ (t << k)` -/
def dswap (k : Nat) (M w : BitVec 32) : BitVec 32 :=
  let t := (w ^^^ (w >>> k)) &&& M
  w ^^^ (t ^^^ (t <<< k))

/-- where bit `i` of the result of a delta swap comes from -/
def dsIdx (k : Nat) (M : BitVec 32) (i : Nat) : Nat :=
  if M.getLsbD i then k + i else if k ≤ i ∧ M.getLsbD (i - k) then i - k else i

/-- the mask and its shift are disjoint and nothing is moved out of the word -/
def DsOk (k : Nat) (M : BitVec 32) : Prop :=
  ∀ i, i < 32 → dsIdx k M i < 32 ∧ ¬ (M.getLsbD i ∧ k ≤ i ∧ M.getLsbD (i - k))

instance (k : Nat) (M : BitVec 32) : Decidable (DsOk k M) := by unfold DsOk; infer_instance

theorem dswap_getLsbD (k : Nat) (M w : BitVec 32) (i : Nat) (hi : i < 32)
    (hok : ¬ (M.getLsbD i ∧ k ≤ i ∧ M.getLsbD (i - k))) :
    (dswap k M w).getLsbD i = w.getLsbD (dsIdx k M i) := by
  simp only [dswap, dsIdx, BitVec.getLsbD_xor, BitVec.getLsbD_and, BitVec.getLsbD_ushiftRight,
    BitVec.getLsbD_shiftLeft, hi, decide_true, Bool.true_and]
  by_cases h2 : k ≤ i
  · have h2' : ¬ i < k := by omega
    have e : k + (i - k) = i := by omega
    cases h1 : M.getLsbD i <;> cases h3 : M.getLsbD (i - k) <;>
      simp only [e, h1, h3, h2, h2', and_self, and_true, and_false, decide_false, decide_true, Bool.not_false, Bool.not_true,
        Bool.and_true, Bool.and_false, Bool.true_and, Bool.false_and, Bool.xor_false, Bool.false_xor, if_true, if_false,
        Bool.false_eq_true, reduceCtorEq] at hok ⊢
    · generalize w.getLsbD i = a; generalize w.getLsbD (i - k) = c
      cases a <;> cases c <;> rfl
    · generalize w.getLsbD i = a; generalize w.getLsbD (k + i) = c
      cases a <;> cases c <;> rfl
    · exact absurd trivial hok
  · have h2' : i < k := by omega
    cases h1 : M.getLsbD i <;>
      simp only [h1, h2, h2', false_and, and_false, decide_false, decide_true, Bool.not_false, Bool.not_true,
        Bool.and_true, Bool.and_false, Bool.true_and, Bool.false_and, Bool.xor_false, Bool.false_xor, if_true, if_false,
        Bool.false_eq_true, reduceCtorEq]
    generalize w.getLsbD i = a; generalize w.getLsbD (k + i) = c
    cases a <;> cases c <;> rfl

/-- `f` permutes bits: bit `i` of `f x` is bit `σ i` of `x` -/
def IsPerm (f : BitVec 32 → BitVec 32) (σ : Nat → Nat) : Prop :=
  ∀ x i, i < 32 → (f x).getLsbD i = x.getLsbD (σ i)

theorem IsPerm.id : IsPerm (fun x => x) (fun i => i) := fun _ _ _ => rfl

theorem IsPerm.dswap {f σ} (hf : IsPerm f σ) (k : Nat) (M : BitVec 32) (hok : DsOk k M) :
    IsPerm (fun x => dswap k M (f x)) (fun i => σ (dsIdx k M i)) := by
  intro x i hi
  rw [dswap_getLsbD k M _ i hi (hok i hi).2, hf x _ (hok i hi).1]

theorem u32Shuffle_dswaps (w : UInt32) : (u32Shuffle w).toBitVec =
    dswap 1 0x22222222#32 (dswap 2 0x0C0C0C0C#32 (dswap 4 0x00F000F0#32 (dswap 8 0x0000FF00#32 w.toBitVec))) := rfl

theorem u32Deshuffle_dswaps (w : UInt32) : (u32Deshuffle w).toBitVec =
    dswap 8 0x0000FF00#32 (dswap 4 0x00F000F0#32 (dswap 2 0x0C0C0C0C#32 (dswap 1 0x22222222#32 w.toBitVec))) := rfl

theorem ok1 : DsOk 1 0x22222222#32 := by decide
theorem ok2 : DsOk 2 0x0C0C0C0C#32 := by decide
theorem ok4 : DsOk 4 0x00F000F0#32 := by decide
theorem ok8 : DsOk 8 0x0000FF00#32 := by decide

theorem shufIdx : ∀ i, i < 32 →
    dsIdx 8 0x0000FF00#32 (dsIdx 4 0x00F000F0#32 (dsIdx 2 0x0C0C0C0C#32 (dsIdx 1 0x22222222#32 i)))
      = i / 2 + 16 * (i % 2) := by decide
theorem deshufIdx : ∀ i, i < 32 →
    dsIdx 1 0x22222222#32 (dsIdx 2 0x0C0C0C0C#32 (dsIdx 4 0x00F000F0#32 (dsIdx 8 0x0000FF00#32 i)))
      = if i < 16 then 2 * i else 2 * (i - 16) + 1 := by decide

/-- `u32Shuffle`: bit `i` of the result is bit `i/2` (i even) resp. `16 + i/2` (i odd) of the argument -/
theorem u32Shuffle_getLsbD (w : UInt32) (i : Nat) (hi : i < 32) :
    (u32Shuffle w).toBitVec.getLsbD i = w.toBitVec.getLsbD (i / 2 + 16 * (i % 2)) := by
  rw [u32Shuffle_dswaps, ← shufIdx i hi]
  exact ((((IsPerm.id.dswap 8 _ ok8).dswap 4 _ ok4).dswap 2 _ ok2).dswap 1 _ ok1) w.toBitVec i hi

/-- `u32Deshuffle`: even bits go to the low half, odd bits to the high half -/
theorem u32Deshuffle_getLsbD (w : UInt32) (i : Nat) (hi : i < 32) :
    (u32Deshuffle w).toBitVec.getLsbD i = w.toBitVec.getLsbD (if i < 16 then 2 * i else 2 * (i - 16) + 1) := by
  rw [u32Deshuffle_dswaps, ← deshufIdx i hi]
  exact ((((IsPerm.id.dswap 1 _ ok1).dswap 2 _ ok2).dswap 4 _ ok4).dswap 8 _ ok8) w.toBitVec i hi

/-! ## 2. interleaving: bit-level meaning of `u32x2Inter` / `u32x2Deinter` -/

theorem maskLo_getLsbD (j : Nat) : (0x0000FFFF#32).getLsbD j = decide (j < 16) := by
  by_cases h : j < 32
  · revert j; decide
  · rw [BitVec.getLsbD_of_ge _ _ (by omega)]; simp; omega

theorem maskHi_getLsbD (j : Nat) : (0xFFFF0000#32).getLsbD j = (decide (16 ≤ j) && decide (j < 32)) := by
  by_cases h : j < 32
  · revert j; decide
  · rw [BitVec.getLsbD_of_ge _ _ (by omega)]; simp; omega

theorem deinter_fst_bv (p : W2) : (deinter p).1.toBitVec =
    (u32Shuffle ⟨(p.1.toBitVec &&& 0x0000FFFF#32) ||| (p.2.toBitVec <<< 16)⟩).toBitVec := rfl
theorem deinter_snd_bv (p : W2) : (deinter p).2.toBitVec =
    (u32Shuffle ⟨(p.1.toBitVec >>> 16) ||| (p.2.toBitVec &&& 0xFFFF0000#32)⟩).toBitVec := rfl
theorem inter_fst_bv (p : W2) : (inter p).1.toBitVec =
    ((u32Deshuffle p.1).toBitVec &&& 0x0000FFFF#32) ||| ((u32Deshuffle p.2).toBitVec <<< 16) := rfl
theorem inter_snd_bv (p : W2) : (inter p).2.toBitVec =
    ((u32Deshuffle p.1).toBitVec >>> 16) ||| ((u32Deshuffle p.2).toBitVec &&& 0xFFFF0000#32) := rfl
theorem pack_bv (p : W2) : (pack p).toBitVec =
    (p.1.toBitVec.setWidth 64) ||| ((p.2.toBitVec.setWidth 64) <<< 32) := rfl
theorem split_fst_bv (w : UInt64) : (split w).1.toBitVec = w.toBitVec.setWidth 32 := rfl
theorem split_snd_bv (w : UInt64) : (split w).2.toBitVec = (w.toBitVec >>> 32).setWidth 32 := rfl


theorem deinter_fst_getLsbD (p : W2) (i : Nat) (hi : i < 32) : (deinter p).1.toBitVec.getLsbD i =
    if i % 2 = 0 then p.1.toBitVec.getLsbD (i / 2) else p.2.toBitVec.getLsbD (i / 2) := by
  rw [deinter_fst_bv, u32Shuffle_getLsbD _ i hi]
  simp only [BitVec.getLsbD_or, BitVec.getLsbD_and, BitVec.getLsbD_shiftLeft, maskLo_getLsbD]
  by_cases h : i % 2 = 0
  · have e : i / 2 + 16 * (i % 2) = i / 2 := by omega
    have h1 : i / 2 < 16 := by omega
    simp [h, e, h1]
  · have e : i / 2 + 16 * (i % 2) = i / 2 + 16 := by omega
    have h1 : ¬ i / 2 + 16 < 16 := by omega
    have h2 : i / 2 + 16 < 32 := by omega
    simp [h, e, h1, h2]

theorem deinter_snd_getLsbD (p : W2) (i : Nat) (hi : i < 32) : (deinter p).2.toBitVec.getLsbD i =
    if i % 2 = 0 then p.1.toBitVec.getLsbD (i / 2 + 16) else p.2.toBitVec.getLsbD (i / 2 + 16) := by
  rw [deinter_snd_bv, u32Shuffle_getLsbD _ i hi]
  simp only [BitVec.getLsbD_or, BitVec.getLsbD_and, BitVec.getLsbD_ushiftRight, maskHi_getLsbD]
  by_cases h : i % 2 = 0
  · have e : i / 2 + 16 * (i % 2) = i / 2 := by omega
    have h1 : ¬ 16 ≤ i / 2 := by omega
    simp [h, e, h1, Nat.add_comm]
  · have e : i / 2 + 16 * (i % 2) = i / 2 + 16 := by omega
    have h2 : i / 2 + 16 < 32 := by omega
    have h3 : p.1.toBitVec.getLsbD (16 + (i / 2 + 16)) = false := BitVec.getLsbD_of_ge _ _ (by omega)
    simp [h, e, h2, h3]

theorem inter_fst_getLsbD (p : W2) (i : Nat) (hi : i < 32) : (inter p).1.toBitVec.getLsbD i =
    if i < 16 then p.1.toBitVec.getLsbD (2 * i) else p.2.toBitVec.getLsbD (2 * (i - 16)) := by
  rw [inter_fst_bv]
  simp only [BitVec.getLsbD_or, BitVec.getLsbD_and, BitVec.getLsbD_shiftLeft, maskLo_getLsbD]
  by_cases h : i < 16
  · rw [u32Deshuffle_getLsbD _ i hi]; simp [h, hi]
  · rw [u32Deshuffle_getLsbD _ (i - 16) (by omega)]
    have h1 : i - 16 < 16 := by omega
    simp [h, hi, h1]

theorem inter_snd_getLsbD (p : W2) (i : Nat) (hi : i < 32) : (inter p).2.toBitVec.getLsbD i =
    if i < 16 then p.1.toBitVec.getLsbD (2 * i + 1) else p.2.toBitVec.getLsbD (2 * (i - 16) + 1) := by
  rw [inter_snd_bv]
  simp only [BitVec.getLsbD_or, BitVec.getLsbD_and, BitVec.getLsbD_ushiftRight, maskHi_getLsbD]
  by_cases h : i < 16
  · rw [u32Deshuffle_getLsbD _ (16 + i) (by omega)]
    have h1 : ¬ 16 + i < 16 := by omega
    have h2 : ¬ 16 ≤ i := by omega
    have e : 16 + i - 16 = i := by omega
    simp [h, h1, h2, e]
  · rw [u32Deshuffle_getLsbD _ i hi]
    have h2 : 16 ≤ i := by omega
    have h3 : (u32Deshuffle p.1).toBitVec.getLsbD (16 + i) = false := BitVec.getLsbD_of_ge _ _ (by omega)
    simp [h, hi, h2, h3]

theorem pack_getLsbD (p : W2) (k : Nat) : (pack p).toBitVec.getLsbD k =
    if k < 32 then p.1.toBitVec.getLsbD k else p.2.toBitVec.getLsbD (k - 32) := by
  rw [pack_bv]
  simp only [BitVec.getLsbD_or, BitVec.getLsbD_shiftLeft, BitVec.getLsbD_setWidth]
  by_cases h : k < 32
  · have : k < 64 := by omega
    simp [h, this]
  · by_cases h2 : k < 64
    · have h1 : p.1.toBitVec.getLsbD k = false := BitVec.getLsbD_of_ge _ _ (by omega)
      have h3 : k - 32 < 64 := by omega
      simp [h, h2, h1, h3]
    · have h1 : p.2.toBitVec.getLsbD (k - 32) = false := BitVec.getLsbD_of_ge _ _ (by omega)
      simp [h, h2, h1]

/-- the abstraction: the u64 word that an interleaved pair stands for (the code's own `u32x2Deinter`) -/
def J (p : W2) : UInt64 := pack (deinter p)

/-- SPEC of the interleaved form: bit `k` of the word is bit `k/2` of half `k mod 2` -/
theorem J_getLsbD (p : W2) (k : Nat) : (J p).toBitVec.getLsbD k =
    if k % 2 = 0 then p.1.toBitVec.getLsbD (k / 2) else p.2.toBitVec.getLsbD (k / 2) := by
  unfold J
  rw [pack_getLsbD]
  by_cases h : k < 32
  · rw [if_pos h, deinter_fst_getLsbD _ k h]
  · rw [if_neg h]
    by_cases h2 : k < 64
    · rw [deinter_snd_getLsbD _ (k - 32) (by omega)]
      have e1 : (k - 32) % 2 = k % 2 := by omega
      have e2 : (k - 32) / 2 + 16 = k / 2 := by omega
      rw [e1, e2]
    · rw [BitVec.getLsbD_of_ge _ _ (by omega), BitVec.getLsbD_of_ge _ (k / 2) (by omega),
        BitVec.getLsbD_of_ge _ (k / 2) (by omega)]
      simp

theorem J_inter (p : W2) : J (inter p) = pack p := by
  apply UInt64.eq_of_toBitVec_eq
  apply BitVec.eq_of_getLsbD_eq
  intro k hk
  rw [J_getLsbD, pack_getLsbD]
  have hi : k / 2 < 32 := by omega
  rw [inter_fst_getLsbD _ _ hi, inter_snd_getLsbD _ _ hi]
  by_cases h : k % 2 = 0 <;> by_cases h2 : k < 32
  · have : k / 2 < 16 := by omega
    have e : 2 * (k / 2) = k := by omega
    simp [h, h2, this, e]
  · have : ¬ k / 2 < 16 := by omega
    have e : 2 * (k / 2 - 16) = k - 32 := by omega
    simp [h, h2, this, e]
  · have : k / 2 < 16 := by omega
    have e : 2 * (k / 2) + 1 = k := by omega
    simp [h, h2, this, e]
  · have : ¬ k / 2 < 16 := by omega
    have e : 2 * (k / 2 - 16) + 1 = k - 32 := by omega
    simp [h, h2, this, e]

theorem pack_split (w : UInt64) : pack (split w) = w := by
  apply UInt64.eq_of_toBitVec_eq
  apply BitVec.eq_of_getLsbD_eq
  intro k hk
  rw [pack_getLsbD, split_fst_bv, split_snd_bv]
  simp only [BitVec.getLsbD_setWidth, BitVec.getLsbD_ushiftRight]
  by_cases h : k < 32
  · simp [h]
  · have e : 32 + (k - 32) = k := by omega
    have : k - 32 < 32 := by omega
    simp [h, e, this]

/-- de-interleaving undoes interleaving (on the code: Shuffle-network after Deshuffle-network) -/
theorem J_inter_split (w : UInt64) : J (inter (split w)) = w := by rw [J_inter, pack_split]

/-! ## 3. rotation of an interleaved word -/

/-- `x` is the word whose even bits are `a` and whose odd bits are `b` -/
def IsJoin (x : BitVec 64) (a b : BitVec 32) : Prop :=
  ∀ k, x.getLsbD k = if k % 2 = 0 then a.getLsbD (k / 2) else b.getLsbD (k / 2)

/-- bit `k` of a rotation, in one formula -/
theorem getLsbD_rotl {w : Nat} (x : BitVec w) (r k : Nat) (hr : r < w) :
    (x.rotateLeft r).getLsbD k = (decide (k < w) && x.getLsbD ((k + w - r) % w)) := by
  rw [BitVec.getLsbD_rotateLeft, Nat.mod_eq_of_lt hr]
  by_cases h : k < r
  · have e : (k + w - r) % w = w - r + k := by
      rw [Nat.mod_eq_of_lt (by omega)]; omega
    simp [h, e, show k < w by omega]
  · by_cases h2 : k < w
    · have e : (k + w - r) % w = k - r := by
        rw [show k + w - r = k - r + w by omega, Nat.add_mod_right, Nat.mod_eq_of_lt (by omega)]
      simp [h, e]
    · simp [h, h2]

theorem IsJoin.rot_even {x a b} (hx : IsJoin x a b) (h : Nat) (h1 : h < 32) :
    IsJoin (x.rotateLeft (2 * h)) (a.rotateLeft h) (b.rotateLeft h) := by
  intro k
  have e1 : (k + 64 - 2 * h) % 64 % 2 = k % 2 := by omega
  have e2 : (k + 64 - 2 * h) % 64 / 2 = (k / 2 + 32 - h) % 32 := by omega
  have e3 : decide (k < 64) = decide (k / 2 < 32) := by simp only [decide_eq_decide]; omega
  rw [getLsbD_rotl x _ _ (by omega), hx, e1, e2, e3, getLsbD_rotl a _ _ h1, getLsbD_rotl b _ _ h1]
  split <;> rfl

theorem IsJoin.rot_odd {x a b} (hx : IsJoin x a b) (m : Nat) (hm : m % 2 = 1) (h1 : m < 63) :
    IsJoin (x.rotateLeft m) (b.rotateLeft (m / 2 + 1)) (a.rotateLeft (m / 2)) := by
  intro k
  have e3 : decide (k < 64) = decide (k / 2 < 32) := by simp only [decide_eq_decide]; omega
  rw [getLsbD_rotl x _ _ (by omega), hx, e3, getLsbD_rotl b _ _ (by omega), getLsbD_rotl a _ _ (by omega)]
  by_cases c : k % 2 = 0
  · have e1 : ¬ (k + 64 - m) % 64 % 2 = 0 := by omega
    have e2 : (k + 64 - m) % 64 / 2 = (k / 2 + 32 - (m / 2 + 1)) % 32 := by omega
    rw [if_pos c, if_neg e1, e2]
  · have e1 : (k + 64 - m) % 64 % 2 = 0 := by omega
    have e2 : (k + 64 - m) % 64 / 2 = (k / 2 + 32 - m / 2) % 32 := by omega
    rw [if_neg c, if_pos e1, e2]
theorem IsJoin.rot_even' {x a b} (hx : IsJoin x a b) (m : Nat) (hm : m % 2 = 0) (h1 : m < 64) :
    IsJoin (x.rotateLeft m) (a.rotateLeft (m / 2)) (b.rotateLeft (m / 2)) := by
  have := hx.rot_even (m / 2) (by omega)
  rwa [show 2 * (m / 2) = m by omega] at this

theorem rotateLeft_zero32 (x : BitVec 32) : x.rotateLeft 0 = x := by
  apply BitVec.eq_of_getLsbD_eq
  intro i hi
  simp [BitVec.getLsbD_rotateLeft, hi]

/-- `u32RotHi(w, d)` as expanded in `u32x2RotHi` -/
theorem rot32_bv (w : UInt32) (d : Nat) (h0 : 0 < d) (h : d < 32) :
    ((w <<< UInt32.ofNat d) ||| (w >>> UInt32.ofNat (32 - d))).toBitVec = w.toBitVec.rotateLeft d := by
  have e1 : ((UInt32.ofNat d).toBitVec % 32).toNat = d := by
    simp [BitVec.toNat_umod]; omega
  have e2 : ((UInt32.ofNat (32 - d)).toBitVec % 32).toNat = 32 - d := by
    simp [BitVec.toNat_umod]; omega
  simp only [UInt32.toBitVec_or, UInt32.toBitVec_shiftLeft, UInt32.toBitVec_shiftRight, BitVec.rotateLeft_def,
    BitVec.shiftLeft_eq', BitVec.ushiftRight_eq', e1, e2, Nat.mod_eq_of_lt h]

/-- the three cases of `u32x2RotHi` rotate the interleaved word by `m` -/
theorem rotHi_join (a a' : UInt32) (x : BitVec 64) (hx : IsJoin x a.toBitVec a'.toBitVec)
    (m : Nat) (h0 : 0 < m) (h63 : m < 63) :
    IsJoin (x.rotateLeft m) (u32x2RotHi a a' m).1.toBitVec (u32x2RotHi a a' m).2.toBitVec := by
  by_cases hm : m % 2 = 0
  · simp only [u32x2RotHi, hm, if_true]
    rw [rot32_bv _ _ (by omega) (by omega), rot32_bv _ _ (by omega) (by omega)]
    exact hx.rot_even' m hm (by omega)
  · by_cases h1 : m > 1
    · simp only [u32x2RotHi, hm, h1, if_true, if_false]
      rw [rot32_bv _ _ (by omega) (by omega), rot32_bv _ _ (by omega) (by omega), Nat.add_comm 1 (m / 2)]
      exact hx.rot_odd m (by omega) h63
    · have e : m = 1 := by omega
      subst e
      have := hx.rot_odd 1 (by decide) (by decide)
      simp only [u32x2RotHi, hm, h1, if_true, if_false]
      have r := rot32_bv a' 1 (by decide) (by decide)
      rw [show (1 / 2 + 1) = 1 from rfl, show (1 / 2) = 0 from rfl, rotateLeft_zero32] at this
      rw [← r] at this
      exact this


theorem J_isJoin (a a' : UInt32) : IsJoin (J (a, a')).toBitVec a.toBitVec a'.toBitVec := J_getLsbD (a, a')

theorem ofNat64_toNat (m : Nat) (h : m < 64) : (UInt64.ofNat m).toNat = m := by
  simp [UInt64.toNat_ofNat']; omega

/-- rotation amounts for which neither the C (shift by 32) nor the model leaves the defined range -/
def RotOk32 (m : Nat) : Prop := 0 < m ∧ m < 63

theorem J_rot (a a' : UInt32) (m : Nat) (hm : RotOk32 m) :
    J ((u32x2RotHi a a' m).1, (u32x2RotHi a a' m).2) = Bee2V.Gen.C03.rotHi (J (a, a')) (UInt64.ofNat m) := by
  apply UInt64.eq_of_toBitVec_eq
  have e := ofNat64_toNat m (by have := hm.2; omega)
  rw [rotHi_toBitVec _ _ (by rw [e]; exact hm.1) (by rw [e]; have := hm.2; omega), e]
  apply BitVec.eq_of_getLsbD_eq
  intro k _
  rw [J_getLsbD]
  exact (rotHi_join a a' _ (J_isJoin a a') m hm.1 hm.2 k).symm

theorem J_xor (a a' b b' : UInt32) : J (a ^^^ b, a' ^^^ b') = J (a, a') ^^^ J (b, b') := by
  apply UInt64.eq_of_toBitVec_eq
  apply BitVec.eq_of_getLsbD_eq
  intro k _
  simp only [UInt64.toBitVec_xor, BitVec.getLsbD_xor, J_getLsbD, UInt32.toBitVec_xor]
  split <;> rfl

theorem J_or (a a' b b' : UInt32) : J (a ||| b, a' ||| b') = J (a, a') ||| J (b, b') := by
  apply UInt64.eq_of_toBitVec_eq
  apply BitVec.eq_of_getLsbD_eq
  intro k _
  simp only [UInt64.toBitVec_or, BitVec.getLsbD_or, J_getLsbD, UInt32.toBitVec_or]
  split <;> rfl

theorem J_and (a a' b b' : UInt32) : J (a &&& b, a' &&& b') = J (a, a') &&& J (b, b') := by
  apply UInt64.eq_of_toBitVec_eq
  apply BitVec.eq_of_getLsbD_eq
  intro k _
  simp only [UInt64.toBitVec_and, BitVec.getLsbD_and, J_getLsbD, UInt32.toBitVec_and]
  split <;> rfl

theorem J_not (a a' : UInt32) : J (~~~ a, ~~~ a') = ~~~ J (a, a') := by
  apply UInt64.eq_of_toBitVec_eq
  apply BitVec.eq_of_getLsbD_eq
  intro k hk
  have h2 : k / 2 < 32 := by omega
  simp only [UInt64.toBitVec_not, BitVec.getLsbD_not, J_getLsbD, UInt32.toBitVec_not, hk, h2, decide_true,
    Bool.true_and]
  split <;> rfl


/-- one `bashS` of bash_f32.c on interleaved halves = `bashS` of bash_f64.c on the words they stand for -/
theorem bashS_sim (m1 n1 m2 n2 : Nat) (h1 : RotOk32 m1) (h2 : RotOk32 n1) (h3 : RotOk32 m2) (h4 : RotOk32 n2)
    (a a' b b' c c' : UInt32) :
    (J (bashS m1 n1 m2 n2 a a' b b' c c').1, J (bashS m1 n1 m2 n2 a a' b b' c c').2.1,
      J (bashS m1 n1 m2 n2 a a' b b' c c').2.2)
      = Bee2V.Gen.C03.bashS (.ofNat m1) (.ofNat n1) (.ofNat m2) (.ofNat n2) (J (a, a')) (J (b, b')) (J (c, c')) := by
  simp only [bashS, Bee2V.Gen.C03.bashS, J_xor, J_or, J_and, J_not, J_rot _ _ m1 h1, J_rot _ _ n1 h2,
    J_rot _ _ m2 h3, J_rot _ _ n2 h4]
  generalize Bee2V.Gen.C03.rotHi (J (a, a') ^^^ (J (b, b') ^^^ J (c, c'))) (UInt64.ofNat n1) = R
  rw [UInt64.xor_comm R (J (b, b'))]

/-! ## 4. state level: 8 lines, 24 rounds -/

/-- the 64-bit state an interleaved state stands for -/
def JAll (s : State32) : Bee2V.C03.State := s.map J

def convL (l : SLine) : Bee2V.Gen.C03.SLine :=
  ⟨l.i0, l.i1, l.i2, .ofNat l.m1, .ofNat l.n1, .ofNat l.m2, .ofNat l.n2⟩
def convR (r : Round) : Bee2V.Gen.C03.Round := ⟨r.lines.map convL, r.xc, J (r.c0, r.c1)⟩

def LineOk (l : SLine) : Prop := RotOk32 l.m1 ∧ RotOk32 l.n1 ∧ RotOk32 l.m2 ∧ RotOk32 l.n2
instance (l : SLine) : Decidable (LineOk l) := by unfold LineOk RotOk32; infer_instance

/-- TIE of the two generated files: bash_f32.c and bash_f64.c use the same cells, the same rotation
amounts, and the constants of bash_f32.c are the interleaved constants of bash_f64.c -/
theorem rounds_conv : rounds.map convR = Bee2V.Gen.C03.rounds := by decide +kernel

/-- no rotation amount of bash_f32.c reaches a shift by 0 or 32 -/
theorem rounds_ok : ∀ r ∈ rounds, ∀ l ∈ r.lines, LineOk l := by decide +kernel

theorem applyS_sim (l : SLine) (hl : LineOk l) (s : State32) :
    JAll (applyS l s) = Bee2V.C03.applyS (convL l) (JAll s) := by
  have h := bashS_sim l.m1 l.n1 l.m2 l.n2 hl.1 hl.2.1 hl.2.2.1 hl.2.2.2
    s[l.i0].1 s[l.i0].2 s[l.i1].1 s[l.i1].2 s[l.i2].1 s[l.i2].2
  simp only [Prod.ext_iff, Prod.eta, Fin.getElem_fin] at h
  simp only [JAll, applyS, Bee2V.C03.applyS, convL, Vector.map_set, Fin.getElem_fin, Vector.getElem_map,
    h.1, h.2.1, h.2.2]

/-- a step-by-step simulation through `J` carries over to the folds (`ok`: the elements for which the step lemma holds) -/
theorem foldl_sim {α β γ δ : Type} (J : α → β) (c : γ → δ) (f : α → γ → α) (g : β → δ → β) (ok : γ → Prop)
    (h : ∀ x, ok x → ∀ s, J (f s x) = g (J s) (c x)) :
    ∀ (l : List γ), (∀ x ∈ l, ok x) → ∀ s, J (l.foldl f s) = (l.map c).foldl g (J s)
  | [], _, _ => rfl
  | x :: l, hl, s => by
    rw [List.foldl_cons, List.map_cons, List.foldl_cons, foldl_sim J c f g ok h l (fun y hy => hl y (List.mem_cons_of_mem _ hy)),
      h x (hl x List.mem_cons_self)]

theorem applyR_sim (r : Round) (hr : ∀ l ∈ r.lines, LineOk l) (s : State32) :
    JAll (applyR r s) = Bee2V.C03.applyR (convR r) (JAll s) := by
  have h := foldl_sim JAll convL (fun s l => applyS l s) (fun s l => Bee2V.C03.applyS l s) LineOk applyS_sim r.lines hr s
  simp only [applyR, Bee2V.C03.applyR, convR, ← h]
  simp only [JAll, Vector.map_set, Fin.getElem_fin, Vector.getElem_map, J_xor]

/-- `bashF0` of bash_f32.c on interleaved halves simulates `bashF0` of bash_f64.c -/
theorem bashF0_sim (s : State32) : JAll (bashF0_32 s) = Bee2V.C03.bashF0 (JAll s) := by
  unfold bashF0_32 Bee2V.C03.bashF0
  rw [foldl_sim JAll convR (fun s r => applyR r s) (fun s r => Bee2V.C03.applyR r s) (fun r => ∀ l ∈ r.lines, LineOk l)
    applyR_sim rounds rounds_ok s, rounds_conv]

theorem deinterAll_eq (s : State32) : deinterAll s = JAll s := rfl

theorem JAll_interAll (s : Vector UInt64 24) : JAll (interAll s) = s := by
  simp only [JAll, interAll, Vector.map_map]
  exact Vector.map_id'' (fun w => J_inter_split w) s

/-- **f32 = f64 on words**: interleave, run the BASH_32 rounds, de-interleave = the 64-bit rounds. -/
theorem bashF0_32_eq (s : Vector UInt64 24) :
    deinterAll (bashF0_32 (interAll s)) = Bee2V.C03.bashF0 s := by
  rw [deinterAll_eq, bashF0_sim, JAll_interAll]

/-! ## 5. octet level: u32 loads/stores of a little-endian host vs the u64 loads/stores of bash_f64.c -/

theorem load8_lo (x0 x1 x2 x3 y0 y1 y2 y3 : UInt8) :
    (loadU64 [x0, x1, x2, x3, y0, y1, y2, y3]).toUInt32 = loadU32 [x0, x1, x2, x3] := by
  apply UInt32.eq_of_toBitVec_eq
  apply BitVec.eq_of_getLsbD_eq
  intro i hi
  have h : i - 8 - 8 - 8 < 8 := by omega
  simp [loadU64, loadU32, BitVec.getLsbD_or, BitVec.getLsbD_shiftLeft, BitVec.getLsbD_setWidth, h]

theorem load8_hi (x0 x1 x2 x3 y0 y1 y2 y3 : UInt8) :
    ((loadU64 [x0, x1, x2, x3, y0, y1, y2, y3]) >>> 32).toUInt32 = loadU32 [y0, y1, y2, y3] := by
  apply UInt32.eq_of_toBitVec_eq
  apply BitVec.eq_of_getLsbD_eq
  intro i hi
  have e : 32 + i - 8 - 8 - 8 - 8 = i := by omega
  have f0 : x0.toBitVec.getLsbD (32 + i) = false := BitVec.getLsbD_of_ge _ _ (by omega)
  have f1 : x1.toBitVec.getLsbD (32 + i - 8) = false := BitVec.getLsbD_of_ge _ _ (by omega)
  have f2 : x2.toBitVec.getLsbD (32 + i - 8 - 8) = false := BitVec.getLsbD_of_ge _ _ (by omega)
  have f3 : x3.toBitVec.getLsbD (32 + i - 8 - 8 - 8) = false := BitVec.getLsbD_of_ge _ _ (by omega)
  have h1 : ¬ 32 + i < 8 := by omega
  have h2 : ¬ 32 + i - 8 < 8 := by omega
  have h3 : ¬ 32 + i - 8 - 8 < 8 := by omega
  have h4 : ¬ 32 + i - 8 - 8 - 8 < 8 := by omega
  have g0 : 32 + i < 64 := by omega
  have g1 : 32 + i - 8 < 64 := by omega
  have g2 : 32 + i - 8 - 8 < 64 := by omega
  have g3 : 32 + i - 8 - 8 - 8 < 64 := by omega
  have g4 : i < 64 := by omega
  have g5 : i - 8 < 64 := by omega
  have g6 : i - 8 - 8 < 64 := by omega
  have g7 : i - 8 - 8 - 8 < 64 := by omega
  have k5 : i - 8 < 32 := by omega
  have k6 : i - 8 - 8 < 32 := by omega
  have k7 : i - 8 - 8 - 8 < 32 := by omega
  simp [loadU64, loadU32, BitVec.getLsbD_or, BitVec.getLsbD_shiftLeft, BitVec.getLsbD_setWidth,
    BitVec.getLsbD_ushiftRight, e, f0, f1, f2, f3, h1, h2, h3, h4, g0, g1, g2, g3, g4, g5, g6, g7, hi, k5, k6, k7]

theorem storeU64_list (w : UInt64) : storeU64 w =
    [(w >>> 0).toUInt8, (w >>> 8).toUInt8, (w >>> 16).toUInt8, (w >>> 24).toUInt8,
     (w >>> 32).toUInt8, (w >>> 40).toUInt8, (w >>> 48).toUInt8, (w >>> 56).toUInt8] := rfl
theorem storeU32_list (w : UInt32) : storeU32 w =
    [(w >>> 0).toUInt8, (w >>> 8).toUInt8, (w >>> 16).toUInt8, (w >>> 24).toUInt8] := rfl

theorem shr64_byte (w : UInt64) (n : UInt64) (i : Nat) (hi : i < 8) (hn : n.toNat < 64):
   (w >>> n).toUInt8.toBitVec.getLsbD i = w.toBitVec.getLsbD (n.toNat + i) := by
  have e : (n.toBitVec % 64).toNat = n.toNat := by
    rw [BitVec.toNat_umod]; exact Nat.mod_eq_of_lt hn
  simp [UInt64.toBitVec_shiftRight, BitVec.getLsbD_setWidth, hi, BitVec.ushiftRight_eq', e, Nat.mod_eq_of_lt hn]
  
theorem shr32_byte (w : UInt32) (n : UInt32) (i : Nat) (hi : i < 8) (hn : n.toNat < 32):
   (w >>> n).toUInt8.toBitVec.getLsbD i = w.toBitVec.getLsbD (n.toNat + i) := by
  have e : (n.toBitVec % 32).toNat = n.toNat := by
    rw [BitVec.toNat_umod]; exact Nat.mod_eq_of_lt hn
  simp [UInt32.toBitVec_shiftRight, BitVec.getLsbD_setWidth, hi, BitVec.ushiftRight_eq', e, Nat.mod_eq_of_lt hn]

theorem byte_lo (p : W2) (n : UInt64) (n' : UInt32) (h : n.toNat + 8 ≤ 32) (e : n'.toNat = n.toNat) :
    ((pack p) >>> n).toUInt8 = (p.1 >>> n').toUInt8 := by
  apply UInt8.eq_of_toBitVec_eq
  apply BitVec.eq_of_getLsbD_eq
  intro i hi
  rw [shr64_byte _ _ _ hi (by omega), shr32_byte _ _ _ hi (by omega), pack_getLsbD, if_pos (by omega), e]

theorem byte_hi (p : W2) (n : UInt64) (n' : UInt32) (h0 : 32 ≤ n.toNat) (h : n.toNat + 8 ≤ 64) (e : n'.toNat + 32 = n.toNat) :
    ((pack p) >>> n).toUInt8 = (p.2 >>> n').toUInt8 := by
  apply UInt8.eq_of_toBitVec_eq
  apply BitVec.eq_of_getLsbD_eq
  intro i hi
  rw [shr64_byte _ _ _ hi (by omega), shr32_byte _ _ _ hi (by omega), pack_getLsbD, if_neg (by omega)]
  congr 1; omega

theorem store_pack (p : W2) : storeU64 (pack p) = storeU32 p.1 ++ storeU32 p.2 := by
  rw [storeU64_list, storeU32_list, storeU32_list]
  rw [byte_lo p 0 0 (by decide) rfl, byte_lo p 8 8 (by decide) rfl, byte_lo p 16 16 (by decide) rfl,
    byte_lo p 24 24 (by decide) rfl, byte_hi p 32 0 (by decide) (by decide) rfl,
    byte_hi p 40 8 (by decide) (by decide) rfl, byte_hi p 48 16 (by decide) (by decide) rfl,
    byte_hi p 56 24 (by decide) (by decide) rfl]
  rfl

theorem eight_of_le (l : List UInt8) (h : 8 ≤ l.length) :
    ∃ x0 x1 x2 x3 y0 y1 y2 y3 t, l = x0 :: x1 :: x2 :: x3 :: y0 :: y1 :: y2 :: y3 :: t := by
  rcases l with _ | ⟨x0, _ | ⟨x1, _ | ⟨x2, _ | ⟨x3, _ | ⟨y0, _ | ⟨y1, _ | ⟨y2, _ | ⟨y3, t⟩⟩⟩⟩⟩⟩⟩⟩ <;>
    simp at h
  exact ⟨x0, x1, x2, x3, y0, y1, y2, y3, t, rfl⟩

theorem toPairs_eq (b : List UInt8) (hb : b.length = 192) : toPairs b = (Bee2V.C03.toWords b).map split := by
  apply Vector.ext
  intro k hk
  simp only [toPairs, Bee2V.C03.toWords, Vector.getElem_map, Vector.getElem_ofFn]
  obtain ⟨x0, x1, x2, x3, y0, y1, y2, y3, t, e⟩ := eight_of_le (b.drop (8 * k)) (by rw [List.length_drop]; omega)
  have e2 : b.drop (8 * k + 4) = (b.drop (8 * k)).drop 4 := by rw [List.drop_drop]
  rw [e2, e]
  show (loadU32 [x0, x1, x2, x3], loadU32 [y0, y1, y2, y3]) = split (Bee2V.C03.loadU64 [x0, x1, x2, x3, y0, y1, y2, y3])
  rw [split, load8_lo, load8_hi]

theorem ofPairs_eq (q : State32) : ofPairs q = Bee2V.C03.ofWords (q.map pack) := by
  simp only [ofPairs, Bee2V.C03.ofWords, Vector.toList_map, List.flatMap_map, store_pack]

/-- **f32 = f64 on octets**: `bashF` of bash_f32.c (BASH_32 build, little-endian host) returns exactly what
`bashF` of bash_f64.c returns, for every 192-octet block; with `bashF0_spec` both are bash-f of STB 34.101.77. -/
theorem bashF32_eq_bashF (b : List UInt8) (hb : b.length = 192) : bashF32 b = Bee2V.C03.bashF b := by
  unfold bashF32 Bee2V.C03.bashF
  rw [ofPairs_eq, toPairs_eq b hb, Vector.map_map, Vector.map_map]
  exact congrArg Bee2V.C03.ofWords (bashF0_32_eq (Bee2V.C03.toWords b))

/-- on the zero block the BASH_32 model returns the known first octets of bash-f(0) (kernel evaluation of the
f32 model) -/
theorem bashF32_zero : (bashF32 (List.replicate 192 0)).take 4 = [0xfc, 0xc7, 0x71, 0x8c] := by decide +kernel

/-- non-vacuity of `bashF32_eq_bashF`: 192-octet blocks exist -/
example : ∃ b : List UInt8, b.length = 192 ∧ (bashF32 b).take 4 = [0xfc, 0xc7, 0x71, 0x8c] :=
  ⟨List.replicate 192 0, rfl, bashF32_zero⟩

/-- with `bashF0_spec`: the BASH_32 code computes bash-f of STB 34.101.77 on every 1536-bit state -/
theorem bashF0_32_spec (s : Vector UInt64 24) (x : Fin 24) :
    (deinterAll (bashF0_32 (interAll s)))[x].toBitVec
      = Bee2V.C03.Spec.bashF (fun y => s[y].toBitVec) x := by
  rw [bashF0_32_eq]; exact Bee2V.C03.bashF0_spec s x

/-- non-vacuity of `bashF0_32_eq`: the rounds are not the identity on the interleaved zero state -/
example : bashF0_32 (interAll (Vector.replicate 24 0)) ≠ interAll (Vector.replicate 24 0) := by
  -- otherwise `bashF32` of the zero block would be the zero block, against `bashF32_zero`
  intro h
  have e : (toPairs (List.replicate 192 0)).map inter = interAll (Vector.replicate 24 0) := by decide +kernel
  have z := bashF32_zero
  rw [bashF32, e, h] at z
  revert z; decide +kernel

end Bee2V.C03.F32
