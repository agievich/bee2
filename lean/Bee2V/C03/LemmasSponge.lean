import Bee2V.C03.Sponge
/-!
# The buffering skeleton = octet-at-a-time sponge

`stepGen F op data st` (the code: early return / fill + F / full-block loop / tail) equals folding
`stepByte` over the data, provided `pos < bufLen`.  Consequences: any chunking of the data gives the same
state and the same output; decryption inverts encryption and leaves both parties in the same state.
-/
namespace Bee2V.C03

theorem zeros_length (n : Nat) : (zeros n).length = n := List.length_replicate

theorem zeros_add (a b : Nat) : zeros (a + b) = zeros a ++ zeros b := by
  simp [zeros, List.replicate_append_replicate]

variable (F : Bytes → Bytes) (op : OpB)

/-- one octet through the sponge: act on `s[pos]`, advance, apply `F` when the buffer is full -/
def stepByte (st : Sp) (d : UInt8) : Sp × UInt8 :=
  let r := op (st.s.getD st.pos 0) d
  let s := st.s.set st.pos r.1
  if st.pos + 1 = st.bufLen then ({ st with s := F s, pos := 0 }, r.2)
  else ({ st with s := s, pos := st.pos + 1 }, r.2)

def foldBytes : Bytes → Sp → Sp × Bytes
  | [], st => (st, [])
  | d :: ds, st =>
    let a := stepByte F op st d
    let b := foldBytes ds a.1
    (b.1, a.2 :: b.2)

theorem foldBytes_append (a b : Bytes) (st : Sp) :
    foldBytes F op (a ++ b) st =
      ((foldBytes F op b (foldBytes F op a st).1).1,
        (foldBytes F op a st).2 ++ (foldBytes F op b (foldBytes F op a st).1).2) := by
  induction a generalizing st with
  | nil => simp [foldBytes]
  | cons d ds ih => simp [foldBytes, ih]

theorem foldBytes_bufLen (data : Bytes) (st : Sp) : (foldBytes F op data st).1.bufLen = st.bufLen := by
  induction data generalizing st with
  | nil => rfl
  | cons d ds ih =>
    simp only [foldBytes, ih, stepByte]
    split <;> rfl

theorem foldBytes_pos_lt (data : Bytes) (st : Sp) (h : st.pos < st.bufLen) :
    (foldBytes F op data st).1.pos < (foldBytes F op data st).1.bufLen := by
  induction data generalizing st with
  | nil => exact h
  | cons d ds ih =>
    simp only [foldBytes]
    apply ih
    simp only [stepByte]
    split
    · simp; omega
    · simp; omega

/-- a segment that does not reach the end of the buffer -/
theorem fold_partial (data : Bytes) (st : Sp) (h : st.pos + data.length < st.bufLen) :
    foldBytes F op data st =
      ({ st with s := (opAt op st.s st.pos data).1, pos := st.pos + data.length }, (opAt op st.s st.pos data).2) := by
  induction data generalizing st with
  | nil => simp [foldBytes, opAt]
  | cons d ds ih =>
    simp only [List.length_cons] at h
    have hne : ¬ (st.pos + 1 = st.bufLen) := by omega
    simp only [foldBytes, stepByte, hne, if_false, opAt]
    rw [ih]
    · simp only [List.length_cons, Prod.mk.injEq, Sp.mk.injEq, and_true, true_and]
      omega
    · simp only; omega

/-- a segment that ends exactly at the end of the buffer -/
theorem fold_complete (data : Bytes) (st : Sp) (h : st.pos + data.length = st.bufLen) (hd : data ≠ []) :
    foldBytes F op data st =
      ({ st with s := F (opAt op st.s st.pos data).1, pos := 0 }, (opAt op st.s st.pos data).2) := by
  induction data generalizing st with
  | nil => exact absurd rfl hd
  | cons d ds ih =>
    simp only [List.length_cons] at h
    by_cases hds : ds = []
    · subst hds
      simp only [List.length_nil, Nat.zero_add] at h
      simp [foldBytes, stepByte, h, opAt]
    · have hl : 0 < ds.length := List.length_pos_iff.mpr hds
      have hne : ¬ (st.pos + 1 = st.bufLen) := by omega
      simp only [foldBytes, stepByte, hne, if_false, opAt]
      rw [ih _ _ hds]
      simp only; omega

/-- a segment that reaches the end of the buffer -/
theorem fold_fill (data : Bytes) (st : Sp) (h : st.pos < st.bufLen) (hd : st.bufLen - st.pos ≤ data.length) :
    foldBytes F op data st =
      ((foldBytes F op (data.drop (st.bufLen - st.pos))
          ⟨F (opAt op st.s st.pos (data.take (st.bufLen - st.pos))).1, st.bufLen, 0⟩).1,
        (opAt op st.s st.pos (data.take (st.bufLen - st.pos))).2 ++
          (foldBytes F op (data.drop (st.bufLen - st.pos))
            ⟨F (opAt op st.s st.pos (data.take (st.bufLen - st.pos))).1, st.bufLen, 0⟩).2) := by
  have hlen : (data.take (st.bufLen - st.pos)).length = st.bufLen - st.pos := by rw [List.length_take]; omega
  have hne : data.take (st.bufLen - st.pos) ≠ [] := by
    intro hh; rw [hh] at hlen; simp at hlen; omega
  conv => lhs; rw [← List.take_append_drop (st.bufLen - st.pos) data]
  rw [foldBytes_append, fold_complete F op _ _ (by rw [hlen]; omega) hne]

theorem fold_fullLoop (bufLen : Nat) (s : Bytes) (data : Bytes) (hb : 0 < bufLen) :
    foldBytes F op data ⟨s, bufLen, 0⟩ =
      (let r := fullLoop F op bufLen s data
       let t := foldBytes F op r.2.1 ⟨r.1, bufLen, 0⟩
       (t.1, r.2.2 ++ t.2)) ∧ (fullLoop F op bufLen s data).2.1.length < bufLen := by
  fun_induction fullLoop F op bufLen s data with
  | case1 s data h q r ih =>
    constructor
    · rw [fold_fill F op data ⟨s, bufLen, 0⟩ hb (by simp only; omega)]
      simp only [Nat.sub_zero]
      rw [ih.1]
      simp [q, r, List.append_assoc]
    · exact ih.2
  | case2 s data h =>
    simp only [List.nil_append, true_and]
    omega

/-- **the code's buffering skeleton is the octet-at-a-time sponge** -/
theorem stepGen_eq_fold (data : Bytes) (st : Sp) (h : st.pos < st.bufLen) :
    stepGen F op data st = foldBytes F op data st := by
  unfold stepGen
  split
  · rename_i hlt
    rw [fold_partial]; omega
  · rename_i hge
    rw [fold_fill F op data st h (by omega)]
    have hb : 0 < st.bufLen := by omega
    obtain ⟨h1, h2⟩ := fold_fullLoop F op st.bufLen
      (F (opAt op st.s st.pos (List.take (st.bufLen - st.pos) data)).1) (data.drop (st.bufLen - st.pos)) hb
    rw [h1]
    simp only
    rw [fold_partial F op _ _ (by simpa using h2)]
    by_cases hr : (fullLoop F op st.bufLen (F (opAt op st.s st.pos (List.take (st.bufLen - st.pos) data)).1)
        (List.drop (st.bufLen - st.pos) data)).2.1.length = 0
    · have hnil := List.length_eq_zero_iff.mp hr
      simp [hr, hnil, opAt]
    · simp [hr, List.append_assoc]

end Bee2V.C03

namespace Bee2V.C03
variable (F : Bytes → Bytes) (op : OpB)

theorem stepGen_bufLen (data : Bytes) (st : Sp) (h : st.pos < st.bufLen) :
    (stepGen F op data st).1.bufLen = st.bufLen := by
  rw [stepGen_eq_fold F op data st h, foldBytes_bufLen]

theorem stepGen_pos_lt (data : Bytes) (st : Sp) (h : st.pos < st.bufLen) :
    (stepGen F op data st).1.pos < (stepGen F op data st).1.bufLen := by
  rw [stepGen_eq_fold F op data st h]; exact foldBytes_pos_lt F op data st h

/-- two Step calls = one Step call on the concatenation (state and output) -/
theorem stepGen_append (a b : Bytes) (st : Sp) (h : st.pos < st.bufLen) :
    stepGen F op (a ++ b) st =
      ((stepGen F op b (stepGen F op a st).1).1, (stepGen F op a st).2 ++ (stepGen F op b (stepGen F op a st).1).2) := by
  have h1 := stepGen_pos_lt F op a st h
  rw [stepGen_eq_fold F op _ _ h1, stepGen_eq_fold F op a st h, stepGen_eq_fold F op (a ++ b) st h,
    foldBytes_append]

/-- any number of Step calls: the state after feeding the chunks one by one -/
def stepChunks : List Bytes → Sp → Sp × Bytes
  | [], st => (st, [])
  | c :: cs, st =>
    let a := stepGen F op c st
    let b := stepChunks cs a.1
    (b.1, a.2 ++ b.2)

theorem stepChunks_eq (chunks : List Bytes) (st : Sp) (h : st.pos < st.bufLen) :
    stepChunks F op chunks st = stepGen F op chunks.flatten st := by
  induction chunks generalizing st with
  | nil =>
    simp only [stepChunks, List.flatten_nil]
    rw [stepGen_eq_fold F op [] st h]; rfl
  | cons c cs ih =>
    simp only [stepChunks, List.flatten_cons]
    rw [ih _ (stepGen_pos_lt F op c st h), stepGen_append F op c _ st h]

/-- `op'` undoes `op`: on the same state octet it gives the data octet back and writes the same new state octet -/
def Undoes (op' op : OpB) : Prop := ∀ b d, op' b (op b d).2 = ((op b d).1, d)

theorem fold_undo {op' op : OpB} (h : Undoes op' op) (x : Bytes) (st : Sp) :
    foldBytes F op' (foldBytes F op x st).2 st = ((foldBytes F op x st).1, x) := by
  induction x generalizing st with
  | nil => rfl
  | cons d ds ih =>
    have e : stepByte F op' st (stepByte F op st d).2 = ((stepByte F op st d).1, d) := by
      have hb := h (st.s.getD st.pos 0) d
      unfold stepByte
      split <;> simp only [hb]
    simp only [foldBytes, e, ih]

theorem dec_undoes_enc : Undoes decOp encOp := fun b d => by
  show (b ^^^ (b ^^^ d ^^^ b), b ^^^ d ^^^ b) = (b ^^^ d, d)
  rw [UInt8.xor_comm b d, UInt8.xor_assoc, UInt8.xor_self, UInt8.xor_zero, UInt8.xor_comm]

theorem enc_undoes_dec : Undoes encOp decOp := fun b d => by
  show (b ^^^ (d ^^^ b), b ^^^ (d ^^^ b)) = (b ^^^ (d ^^^ b), d)
  rw [UInt8.xor_comm d b, ← UInt8.xor_assoc, UInt8.xor_self, UInt8.zero_xor]

theorem stepGen_dec_enc (x : Bytes) (st : Sp) (h : st.pos < st.bufLen) :
    stepGen F decOp (stepGen F encOp x st).2 st = ((stepGen F encOp x st).1, x) := by
  rw [stepGen_eq_fold F encOp x st h, stepGen_eq_fold F decOp _ st h, fold_undo F dec_undoes_enc]

theorem foldBytes_out_length (x : Bytes) (st : Sp) : (foldBytes F op x st).2.length = x.length := by
  induction x generalizing st with
  | nil => rfl
  | cons d ds ih => simp [foldBytes, ih]

end Bee2V.C03
