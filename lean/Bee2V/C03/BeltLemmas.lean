/-
Lemmas about the belt-hash / belt-HMAC model of `Bee2V.C03.Belt` (core tactics only, no Mathlib).

Main results (for every state with `filled < 32`, every input, EVERY length — no bound):
  hashStepH_append : hashStepH b (hashStepH a st) = hashStepH (a ++ b) st
  hashStepH_nil    : hashStepH [] st = st
  hashStepG_length : (hashStepG st).length = 32
  hashStart_WF, hashStepH_WF
  hmacStepA_append, hmacStepA_nil, hmacStepG_length, hmacStart_WF, hmacStepA_WF
Route: (1) `beltBlockAddBitSizeU32` is the exact addition of `8 * count` modulo 2^128
(`addBitSizeU32_toNat`), hence additive in `count`; (2) the body of StepH/StepA
(`stepCore`: filled-branch with early return, full-block loop, tail) equals the counter update
followed by `Buffer.absorb` on `((s, h), pending octets)` (`stepCore_eq`); (3) `Buffer.absorb_append`.
-/
import Bee2V.C03.Belt
import Bee2V.Base.Buffer
import Bee2V.Base.Limb
namespace Bee2V.C03.Belt

/-! ### the bit-length counter -/
/-- `limb32` in the text of the model, so that `addBitSizeU32_eq` closes syntactically: a `rfl` against the flattened
    definition has to unfold inside the `Decidable` instances of the nested `ite`s and is dear -/
theorem limb32_let (x carry t : UInt32) :
    Base.limb32 x carry t =
      (let b1 := x + carry
       if b1 < carry then (t, carry)
       else
         let b1 := b1 + t
         (b1, if b1 < t then 1 else 0)) := rfl

theorem addBitSizeU32_eq (blk : W4) (count : Nat) :
    addBitSizeU32 blk count =
      let carry : UInt32 := UInt32.ofNat count <<< 3
      let t := count >>> 29
      let b0 := blk.a + carry
      let c0 : UInt32 := if b0 < carry then 1 else 0
      let l1 := Base.limb32 blk.b c0 (UInt32.ofNat t)
      let t := t >>> 16 >>> 16
      let l2 := Base.limb32 blk.c l1.2 (UInt32.ofNat t)
      let t := t >>> 16 >>> 16
      ⟨b0, l1.1, l2.1, blk.d + l2.2 + UInt32.ofNat t⟩ := by
  simp only [addBitSizeU32, limb32_let]

def W4.toNat (w : W4) : Nat := w.a.toNat + 2^32 * w.b.toNat + 2^64 * w.c.toNat + 2^96 * w.d.toNat

theorem W4.toNat_inj {x y : W4} (h : x.toNat = y.toNat) : x = y := by
  cases x with | mk xa xb xc xd => cases y with | mk ya yb yc yd =>
  simp only [W4.toNat] at h
  have := xa.toNat_lt; have := xb.toNat_lt; have := xc.toNat_lt; have := xd.toNat_lt
  have := ya.toNat_lt; have := yb.toNat_lt; have := yc.toNat_lt; have := yd.toNat_lt
  have h1 : xa.toNat = ya.toNat := by omega
  have h2 : xb.toNat = yb.toNat := by omega
  have h3 : xc.toNat = yc.toNat := by omega
  have h4 : xd.toNat = yd.toNat := by omega
  rw [UInt32.toNat_inj.1 h1, UInt32.toNat_inj.1 h2, UInt32.toNat_inj.1 h3, UInt32.toNat_inj.1 h4]

theorem addBitSizeU32_toNat (w : W4) (n : Nat) :
    (addBitSizeU32 w n).toNat = (w.toNat + 8 * n) % 2^128 := by
  rw [addBitSizeU32_eq]
  simp only [W4.toNat]
  generalize hcarry : (UInt32.ofNat n <<< 3) = carry
  have hcv : carry.toNat = (8 * n) % 2^32 := by
    rw [← hcarry, UInt32.toNat_shiftLeft, UInt32.toNat_ofNat', Nat.shiftLeft_eq]
    have : (3 : UInt32).toNat % 32 = 3 := rfl
    rw [this]; omega
  generalize hc0 : (if w.a + carry < carry then (1 : UInt32) else 0) = c0
  have hb0 : (w.a + carry).toNat + 2^32 * c0.toNat = w.a.toNat + carry.toNat ∧ c0.toNat ≤ 1 := by
    have := w.a.toNat_lt; have := carry.toNat_lt
    rw [← hc0]; simp only [UInt32.lt_iff_toNat_lt, UInt32.toNat_add]
    split
    · have : (1 : UInt32).toNat = 1 := rfl
      omega
    · have : (0 : UInt32).toNat = 0 := rfl
      omega
  have e1 : n >>> 29 >>> 16 >>> 16 = n / 2^29 / 2^32 := by
    simp only [Nat.shiftRight_eq_div_pow, Nat.div_div_eq_div_mul]
  have e2 : n >>> 29 >>> 16 >>> 16 >>> 16 >>> 16 = n / 2^29 / 2^32 / 2^32 := by
    simp only [Nat.shiftRight_eq_div_pow, Nat.div_div_eq_div_mul]
  have e0 : n >>> 29 = n / 2^29 := by simp only [Nat.shiftRight_eq_div_pow]
  rw [e2, e1, e0]; clear e0 e1 e2
  have h1 := Base.limb32_spec w.b c0 (UInt32.ofNat (n / 2^29)) hb0.2
  generalize Base.limb32 w.b c0 (UInt32.ofNat (n / 2^29)) = l1 at h1 ⊢
  have h2 := Base.limb32_spec w.c l1.2 (UInt32.ofNat (n / 2^29 / 2^32)) h1.2
  generalize Base.limb32 w.c l1.2 (UInt32.ofNat (n / 2^29 / 2^32)) = l2 at h2 ⊢
  simp only [UInt32.toNat_add, UInt32.toNat_ofNat'] at h1 h2 ⊢
  have := w.d.toNat_lt; have := l1.1.toNat_lt; have := l2.1.toNat_lt
  have := w.a.toNat_lt; have := w.b.toNat_lt; have := w.c.toNat_lt
  have ht0 : 8 * n = 2^32 * (n / 2^29) + carry.toNat := by omega
  generalize n / 2^29 = t0 at *
  have ht1 : t0 = 2^32 * (t0 / 2^32) + t0 % 2^32 := by omega
  have hr0 : t0 % 2^32 < 2^32 := Nat.mod_lt _ (by decide)
  generalize t0 / 2^32 = t1 at *
  generalize t0 % 2^32 = r0 at *
  have ht2 : t1 = 2^32 * (t1 / 2^32) + t1 % 2^32 := by omega
  have hr1 : t1 % 2^32 < 2^32 := Nat.mod_lt _ (by decide)
  generalize t1 / 2^32 = t2 at *
  generalize t1 % 2^32 = r1 at *
  obtain ⟨hb0e, hc0⟩ := hb0
  obtain ⟨h1e, h1c⟩ := h1
  obtain ⟨h2e, h2c⟩ := h2
  rw [UInt32.toNat_add] at hb0e
  have hb0lt : (w.a.toNat + carry.toNat) % 2^32 < 2^32 := Nat.mod_lt _ (by decide)
  generalize (w.a.toNat + carry.toNat) % 2^32 = b0 at *
  generalize l1.1.toNat = x1 at *
  generalize l2.1.toNat = x2 at *
  generalize l1.2.toNat = c1 at *
  generalize l2.2.toNat = c2 at *
  generalize c0.toNat = c0 at *
  generalize carry.toNat = cr at *
  generalize w.a.toNat = wa at *
  generalize w.b.toNat = wb at *
  generalize w.c.toNat = wc at *
  generalize w.d.toNat = wd at *
  have key : b0 + 2^32 * x1 + 2^64 * x2 + 2^96 * (wd + c2 + t2) = wa + 2^32 * wb + 2^64 * wc + 2^96 * wd + 8 * n := by
    omega
  rw [← key]
  have hP : b0 + 2^32 * x1 + 2^64 * x2 < 2^96 := by omega
  clear key h1e h2e hb0e ht0 ht1 ht2 hcv
  generalize b0 + 2^32 * x1 + 2^64 * x2 = P at *
  omega

theorem W4.toNat_lt (w : W4) : w.toNat < 2^128 := by
  have := w.a.toNat_lt; have := w.b.toNat_lt; have := w.c.toNat_lt; have := w.d.toNat_lt
  simp only [W4.toNat]; omega

/-- the counter update is additive (exactly: both sides are `w + 8(a+b) mod 2^128`) -/
theorem addBitSizeU32_add (w : W4) (a b : Nat) :
    addBitSizeU32 (addBitSizeU32 w a) b = addBitSizeU32 w (a + b) := by
  apply W4.toNat_inj
  simp only [addBitSizeU32_toNat]
  omega

theorem addBitSizeU32_zero (w : W4) : addBitSizeU32 w 0 = w := by
  apply W4.toNat_inj
  have := w.toNat_lt
  rw [addBitSizeU32_toNat]; omega

/-! ### the absorbing loop as a block buffer (`Bee2V.Buffer`) -/

def comprBlock (sh : W4 × W8) (b : List UInt8) : W4 × W8 := compr2 sh.1 sh.2 (w8OfBytes b)

theorem blocksLoop_eq (buf : List UInt8) (s : W4) (h : W8) :
    blocksLoop buf s h =
      ((Buffer.chain comprBlock 32 (buf.length / 32) (s, h) buf).1,
       (Buffer.chain comprBlock 32 (buf.length / 32) (s, h) buf).2, buf.drop (32 * (buf.length / 32))) := by
  fun_induction blocksLoop buf s h with
  | case1 buf s h hge r ih =>
    have hlen := (lenGE_iff buf 32).1 hge
    have hn : buf.length / 32 = (buf.drop 32).length / 32 + 1 := by rw [List.length_drop]; omega
    rw [ih, hn, Buffer.chain, List.drop_drop, Nat.mul_succ, Nat.add_comm]
    rfl
  | case2 buf s h hge =>
    have hlen : ¬ 32 ≤ buf.length := fun hc => hge ((lenGE_iff buf 32).2 hc)
    rw [Nat.div_eq_of_lt (by omega)]
    rfl

theorem stepCore_eq (buf : List UInt8) (ls h : W8) (block : List UInt8) (hb : block.length < 32) :
    stepCore buf ls h block =
      (⟨addBitSizeU32 ls.lo buf.length, (Buffer.absorb comprBlock 32 (· / 32) ((ls.hi, h), block) buf).1.1⟩,
       (Buffer.absorb comprBlock 32 (· / 32) ((ls.hi, h), block) buf).1.2,
       (Buffer.absorb comprBlock 32 (· / 32) ((ls.hi, h), block) buf).2) := by
  have hrest : ∀ (q : W4 × W8 × List UInt8) (lo : W4) (d : List UInt8), (q.2.2.length = 0 → d = []) →
      (if q.2.2.length ≠ 0 then ((⟨lo, q.1⟩ : W8), q.2.1, q.2.2) else (⟨lo, q.1⟩, q.2.1, d)) =
        (⟨lo, q.1⟩, q.2.1, q.2.2) := by
    intro q lo d hd
    split
    · rfl
    · next hz =>
      have hz := Decidable.not_not.mp hz
      rw [hd hz, List.eq_nil_of_length_eq_zero hz]
  unfold stepCore Buffer.absorb
  dsimp only
  split
  · next hf =>
    split
    · next hc =>
      rw [List.length_append, Nat.div_eq_of_lt (by omega)]
      rfl
    · next hc =>
      -- the pending block is completed by the first `32 - filled` octets of `buf`
      have e : 32 = block.length + (32 - block.length) := by omega
      have ht : (block ++ buf).take 32 = block ++ buf.take (32 - block.length) := by
        conv => lhs; rw [e, List.take_length_add_append]
      have hd : (block ++ buf).drop 32 = buf.drop (32 - block.length) := by
        conv => lhs; rw [e, List.drop_length_add_append]
      have hn : (block ++ buf).length / 32 = (buf.drop (32 - block.length)).length / 32 + 1 := by
        rw [List.length_append, List.length_drop]; omega
      rw [hrest _ _ _ (fun _ => rfl), blocksLoop_eq, hn, Buffer.chain, ht, hd, Nat.mul_succ, Nat.add_comm _ 32,
        ← List.drop_drop, hd]
      rfl
  · next hf =>
    have hnil : block = [] := List.eq_nil_of_length_eq_zero (Decidable.not_not.mp hf)
    subst hnil
    rw [hrest _ _ _ (fun _ => rfl), blocksLoop_eq]
    rfl

theorem stepCore_length (buf : List UInt8) (ls h : W8) (block : List UInt8) (hb : block.length < 32) :
    (stepCore buf ls h block).2.2.length < 32 := by
  rw [stepCore_eq buf ls h block hb, Buffer.absorb_pend_length]
  exact Nat.mod_lt _ (by decide)

theorem stepCore_nil (ls h : W8) (block : List UInt8) (hb : block.length < 32) :
    stepCore [] ls h block = (ls, h, block) := by
  rw [stepCore_eq [] ls h block hb, Buffer.absorb_nil (nb := (· / 32)) _ (Nat.div_eq_of_lt hb), List.length_nil, addBitSizeU32_zero]

theorem stepCore_append (a b : List UInt8) (ls h : W8) (block : List UInt8) (hb : block.length < 32) :
    stepCore b (stepCore a ls h block).1 (stepCore a ls h block).2.1 (stepCore a ls h block).2.2
      = stepCore (a ++ b) ls h block := by
  rw [stepCore_eq b _ _ _ (stepCore_length a ls h block hb), stepCore_eq a ls h block hb,
    stepCore_eq (a ++ b) ls h block hb,
    Buffer.absorb_append (by intro n; omega) (by intro n m; omega) _ a b, List.length_append, addBitSizeU32_add]

/-! ### the required statements -/

/-- well-formed hash state: `filled < 32` (the word vectors have fixed shape by construction) -/
def HashSt.WF (st : HashSt) : Prop := st.block.length < 32

/-- well-formed HMAC state: `filled < 32` -/
def HmacSt.WF (st : HmacSt) : Prop := st.block.length < 32

theorem hashStart_WF : hashStart.WF := by
  simp [HashSt.WF, hashStart]

theorem hashStepH_WF (buf : List UInt8) (st : HashSt) (h : st.WF) : (hashStepH buf st).WF :=
  stepCore_length buf st.ls st.h st.block h

theorem hashStepH_nil (st : HashSt) (h : st.WF) : hashStepH [] st = st := by
  simp only [hashStepH, stepCore_nil st.ls st.h st.block h]

/-- incremental hashing: feeding `a` then `b` is feeding `a ++ b` — for ALL lengths (the 128-bit
bit counter is exact modulo 2^128, so no length hypothesis is needed) -/
theorem hashStepH_append (st : HashSt) (h : st.WF) (a b : List UInt8) :
    hashStepH b (hashStepH a st) = hashStepH (a ++ b) st := by
  simp only [hashStepH, stepCore_append a b st.ls st.h st.block h]

theorem w8ToBytes_length (x : W8) : (w8ToBytes x).length = 32 := by
  simp [w8ToBytes, w4ToBytes, u32ToBytes]

theorem hashStepG_length (st : HashSt) : (hashStepG st).length = 32 :=
  w8ToBytes_length _

theorem hmacStart_WF (key : List UInt8) : (hmacStart key).WF := by
  simp [HmacSt.WF, hmacStart]

theorem hmacStepA_WF (buf : List UInt8) (st : HmacSt) (h : st.WF) : (hmacStepA buf st).WF :=
  stepCore_length buf st.ls_in st.h_in st.block h

theorem hmacStepA_nil (st : HmacSt) (h : st.WF) : hmacStepA [] st = st := by
  simp only [hmacStepA, stepCore_nil st.ls_in st.h_in st.block h]

theorem hmacStepA_append (st : HmacSt) (h : st.WF) (a b : List UInt8) :
    hmacStepA b (hmacStepA a st) = hmacStepA (a ++ b) st := by
  simp only [hmacStepA, stepCore_append a b st.ls_in st.h_in st.block h]

theorem hmacStepG_length (st : HmacSt) : (hmacStepG st).length = 32 :=
  w8ToBytes_length _

/-! ### non-vacuity of the hypotheses, and small corollaries -/

-- the counter really carries across all four words
example : addBitSizeU32 ⟨0xFFFFFFF8, 0xFFFFFFFF, 0xFFFFFFFF, 7⟩ 1 = ⟨0, 0, 0, 8⟩ := by decide
example : addBitSizeU32 W4.zero (2^61) = ⟨0, 0, 1, 0⟩ := by decide

example : (hashStepH [1, 2, 3] hashStart).WF := hashStepH_WF _ _ hashStart_WF
example : (hashStepH [1, 2, 3] hashStart).block = [1, 2, 3] := by
  simp [hashStepH, hashStart, stepCore_eq, Buffer.absorb]
example : hashStepH [4] (hashStepH [1, 2, 3] hashStart) = hashStepH [1, 2, 3, 4] hashStart :=
  hashStepH_append _ hashStart_WF _ _
example : (hmacStepA [1, 2, 3] (hmacStart [9, 9])).WF := hmacStepA_WF _ _ (hmacStart_WF _)
example : hmacStepA [4] (hmacStepA [1, 2, 3] (hmacStart [7])) = hmacStepA [1, 2, 3, 4] (hmacStart [7]) :=
  hmacStepA_append _ (hmacStart_WF _) _ _

/-- `beltHMACStepA` does not touch the outer-hash half of the state -/
@[simp] theorem hmacStepA_ls_out (buf : List UInt8) (st : HmacSt) : (hmacStepA buf st).ls_out = st.ls_out := rfl
@[simp] theorem hmacStepA_h_out (buf : List UInt8) (st : HmacSt) : (hmacStepA buf st).h_out = st.h_out := rfl

theorem hash_length (x : List UInt8) : (hash x).length = 32 := hashStepG_length _
theorem hmac_length (key x : List UInt8) : (hmac key x).length = 32 := hmacStepG_length _

/-- one-shot hash of a concatenation = incremental hashing of the parts -/
theorem hash_append (a b : List UInt8) :
    hash (a ++ b) = hashStepG (hashStepH b (hashStepH a hashStart)) := by
  rw [hash, hashStepH_append _ hashStart_WF]

theorem hmac_append (key a b : List UInt8) :
    hmac key (a ++ b) = hmacStepG (hmacStepA b (hmacStepA a (hmacStart key))) := by
  rw [hmac, hmacStepA_append _ (hmacStart_WF key)]

end Bee2V.C03.Belt
