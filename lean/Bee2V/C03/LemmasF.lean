import Bee2V.C03.BashF
/-!
# `Model.bashF0 = Spec.bashF` for every 1536-bit state

The C code never moves words: round `t` works on cells `p_t(x)` where `p_t = perm^t`
(macros P0..P5, `p_{t+1}(x) = p_t(P1(x))`).  `view p s` reads the array through `p`.
Per-round lemma: `view (p ∘ perm) (applyR (specRound p t) s) = Spec.round t (view p s)` for every
injective `p`; the generated rounds are `specRound (perm^t) t` (checked by kernel evaluation).
-/
namespace Bee2V.C03
open Bee2V.Gen.C03

theorem rotHi_toBitVec (w d : UInt64) (h0 : 0 < d.toNat) (h : d.toNat < 64) :
    (rotHi w d).toBitVec = w.toBitVec.rotateLeft d.toNat := by
  unfold rotHi
  have h2 : (64 - d).toNat = 64 - d.toNat := by
    rw [UInt64.toNat_sub_of_le]; rfl
    rw [UInt64.le_iff_toNat_le]; simp; omega
  have e1 : (d.toBitVec % 64).toNat = d.toNat := by
    simp [BitVec.toNat_umod]; exact h
  have e2 : ((64 - d).toBitVec % 64).toNat = 64 - d.toNat := by
    rw [BitVec.toNat_umod]; show (64-d).toNat % 64 = _ ; rw [h2]; simp; omega
  simp only [UInt64.toBitVec_or, UInt64.toBitVec_shiftLeft, UInt64.toBitVec_shiftRight, BitVec.rotateLeft_def,
    BitVec.shiftLeft_eq', BitVec.ushiftRight_eq', e1, e2, Nat.mod_eq_of_lt h]

/-- a rotation amount the code may use -/
def RotOk (d : UInt64) : Prop := 0 < d.toNat ∧ d.toNat < 64

/-- the generated `bashS` template computes the standard's bash-s -/
theorem bashS_spec (m1 n1 m2 n2 : UInt64) (h1 : RotOk m1) (h2 : RotOk n1) (h3 : RotOk m2) (h4 : RotOk n2)
    (a b c : UInt64) :
    ((bashS m1 n1 m2 n2 a b c).1.toBitVec, (bashS m1 n1 m2 n2 a b c).2.1.toBitVec,
      (bashS m1 n1 m2 n2 a b c).2.2.toBitVec)
      = Spec.bashS m1.toNat n1.toNat m2.toNat n2.toNat a.toBitVec b.toBitVec c.toBitVec := by
  simp only [bashS, Spec.bashS, UInt64.toBitVec_xor, UInt64.toBitVec_or, UInt64.toBitVec_and,
    UInt64.toBitVec_not, rotHi_toBitVec _ _ h1.1 h1.2, rotHi_toBitVec _ _ h2.1 h2.2,
    rotHi_toBitVec _ _ h3.1 h3.2, rotHi_toBitVec _ _ h4.1 h4.2, Prod.mk.injEq]
  generalize a.toBitVec = A
  generalize b.toBitVec = B
  generalize c.toBitVec = C
  have e0 : A ^^^ (B ^^^ C) = A ^^^ B ^^^ C := by ac_rfl
  rw [e0]
  generalize A ^^^ B ^^^ C = W0
  generalize (B ^^^ W0.rotateLeft n1.toNat) = T1
  have e1 : T1 ^^^ A.rotateLeft m1.toNat = A.rotateLeft m1.toNat ^^^ T1 := by ac_rfl
  have e2 : C ^^^ (C.rotateLeft m2.toNat ^^^ T1.rotateLeft n2.toNat)
      = C ^^^ C.rotateLeft m2.toNat ^^^ T1.rotateLeft n2.toNat := by ac_rfl
  rw [e1, e2]
  exact ⟨rfl, rfl, rfl⟩

/-- `perm^t`: the cell that holds logical word `x` before round `t` (macros P0..P5 of the code) -/
def ppow : Nat → Fin 24 → Fin 24
  | 0, x => x
  | t + 1, x => ppow t (Spec.perm x)

/-- the `bashS` line of column `j` when logical word `x` lives in cell `p x` -/
def specLine (p : Fin 24 → Fin 24) (j : Fin 8) : SLine :=
  ⟨p ⟨j.val, by omega⟩, p ⟨j.val + 8, by omega⟩, p ⟨j.val + 16, by omega⟩,
    .ofNat (Spec.rot j.val).1, .ofNat (Spec.rot j.val).2.1, .ofNat (Spec.rot j.val).2.2.1,
    .ofNat (Spec.rot j.val).2.2.2⟩

/-- the `bashR` the standard prescribes for round `t` when logical word `x` lives in cell `p x` -/
def specRound (p : Fin 24 → Fin 24) (t : Nat) : Round :=
  ⟨(List.finRange 8).map (specLine p), p (Spec.perm 23), ⟨Spec.C t⟩⟩

/-- TIE to the source: the rounds regenerated from bash_f64.c are exactly these
(cell indices = perm^t, rotation amounts = the ×7 rule, constants = the LFSR). -/
theorem rounds_eq_spec : rounds = (List.range 24).map fun t => specRound (ppow t) t := by
  decide +kernel

@[simp] theorem specLine_i0 (p : Fin 24 → Fin 24) (j : Fin 8) : (specLine p j).i0 = p ⟨j.val, by omega⟩ := rfl
@[simp] theorem specLine_i1 (p : Fin 24 → Fin 24) (j : Fin 8) : (specLine p j).i1 = p ⟨j.val + 8, by omega⟩ := rfl
@[simp] theorem specLine_i2 (p : Fin 24 → Fin 24) (j : Fin 8) : (specLine p j).i2 = p ⟨j.val + 16, by omega⟩ := rfl
theorem ppow_zero (x : Fin 24) : ppow 0 x = x := rfl
theorem ppow_succ (t : Nat) : ppow (t + 1) = fun x => ppow t (Spec.perm x) := rfl

def view (p : Fin 24 → Fin 24) (s : State) : Spec.St := fun x => s[p x].toBitVec

/-- output of the S-line of `y`'s column, at `y`'s row, read from the array `s` -/
def colOut (p : Fin 24 → Fin 24) (s : State) (y : Fin 24) : UInt64 :=
  let l := specLine p ⟨y.val % 8, Nat.mod_lt _ (by decide)⟩
  let r := bashS l.m1 l.n1 l.m2 l.n2 s[l.i0] s[l.i1] s[l.i2]
  if y.val < 8 then r.1 else if y.val < 16 then r.2.1 else r.2.2

theorem applyS_at (p : Fin 24 → Fin 24) (hp : Function.Injective p) (j : Fin 8) (s : State) (z : Fin 24) :
    (applyS (specLine p j) s)[p z] = if z.val % 8 = j.val then colOut p s z else s[p z] := by
  have inj : ∀ a b : Fin 24, ((p a).val = (p b).val) ↔ a.val = b.val := by
    intro a b; rw [Fin.val_inj, hp.eq_iff, Fin.ext_iff]
  unfold applyS
  simp only [Fin.getElem_fin, Vector.getElem_set, specLine, inj]
  by_cases h : z.val % 8 = j.val
  · simp only [h, if_true, colOut, specLine, Fin.getElem_fin]
    by_cases h8 : z.val < 8
    · have : ¬ (j.val + 16 = z.val) := by omega
      have : ¬ (j.val + 8 = z.val) := by omega
      have : j.val = z.val := by omega
      simp [*]
    · by_cases h16 : z.val < 16
      · have : ¬ (j.val + 16 = z.val) := by omega
        have : (j.val + 8 = z.val) := by omega
        simp [*]
      · have : (j.val + 16 = z.val) := by omega
        simp [*]
  · have : ¬ (j.val + 16 = z.val) := by omega
    have : ¬ (j.val + 8 = z.val) := by omega
    have : ¬ (j.val = z.val) := by omega
    simp [*]


/-- the S-line of column `j` does not disturb what another column reads -/
theorem colOut_applyS (p : Fin 24 → Fin 24) (hp : Function.Injective p) (j : Fin 8) (s : State) (y : Fin 24)
    (h : y.val % 8 ≠ j.val) : colOut p (applyS (specLine p j) s) y = colOut p s y := by
  have a0 := applyS_at p hp j s ⟨y.val % 8, by omega⟩
  have a1 := applyS_at p hp j s ⟨y.val % 8 + 8, by omega⟩
  have a2 := applyS_at p hp j s ⟨y.val % 8 + 16, by omega⟩
  have e0 : (y.val % 8) % 8 ≠ j.val := by omega
  have e1 : (y.val % 8 + 8) % 8 ≠ j.val := by omega
  have e2 : (y.val % 8 + 16) % 8 ≠ j.val := by omega
  simp only [e0, e1, e2, if_false] at a0 a1 a2
  simp only [colOut, specLine_i0, specLine_i1, specLine_i2, a0, a1, a2]

theorem foldS_at (p : Fin 24 → Fin 24) (hp : Function.Injective p) :
    ∀ (js : List (Fin 8)) (_ : js.Nodup) (s : State) (y : Fin 24),
      (js.foldl (fun s j => applyS (specLine p j) s) s)[p y]
        = if (⟨y.val % 8, Nat.mod_lt _ (by decide)⟩ : Fin 8) ∈ js then colOut p s y else s[p y] := by
  intro js
  induction js with
  | nil => intro _ s y; simp
  | cons j js ih =>
    intro hnd s y
    rw [List.nodup_cons] at hnd
    rw [List.foldl_cons, ih hnd.2]
    by_cases hy : y.val % 8 = j.val
    · have hj : (⟨y.val % 8, Nat.mod_lt _ (by decide)⟩ : Fin 8) = j := Fin.ext hy
      have : j ∉ js := hnd.1
      simp only [hj, this, if_false, List.mem_cons, true_or, if_true]
      rw [applyS_at p hp, if_pos hy]
    · have hj : (⟨y.val % 8, Nat.mod_lt _ (by decide)⟩ : Fin 8) ≠ j := fun e => hy (congrArg Fin.val e)
      simp only [List.mem_cons, hj, false_or]
      rw [colOut_applyS p hp j s y hy, applyS_at p hp, if_neg hy]

theorem rot_ok : ∀ j : Fin 8,
    RotOk (.ofNat (Spec.rot j.val).1) ∧ RotOk (.ofNat (Spec.rot j.val).2.1) ∧
    RotOk (.ofNat (Spec.rot j.val).2.2.1) ∧ RotOk (.ofNat (Spec.rot j.val).2.2.2) ∧
    (UInt64.ofNat (Spec.rot j.val).1).toNat = (Spec.rot j.val).1 ∧
    (UInt64.ofNat (Spec.rot j.val).2.1).toNat = (Spec.rot j.val).2.1 ∧
    (UInt64.ofNat (Spec.rot j.val).2.2.1).toNat = (Spec.rot j.val).2.2.1 ∧
    (UInt64.ofNat (Spec.rot j.val).2.2.2).toNat = (Spec.rot j.val).2.2.2 := by
  unfold RotOk; decide +kernel

/-- the S-lines of the code compute the S-box layer of the standard -/
theorem colOut_spec (p : Fin 24 → Fin 24) (s : State) (y : Fin 24) :
    (colOut p s y).toBitVec = Spec.sLayer (view p s) y := by
  obtain ⟨r1, r2, r3, r4, e1, e2, e3, e4⟩ := rot_ok ⟨y.val % 8, Nat.mod_lt _ (by decide)⟩
  have h := bashS_spec _ _ _ _ r1 r2 r3 r4
    s[(p ⟨y.val % 8, by omega⟩)] s[(p ⟨y.val % 8 + 8, by omega⟩)] s[(p ⟨y.val % 8 + 16, by omega⟩)]
  rw [e1, e2, e3, e4] at h
  simp only [Prod.ext_iff] at h
  simp only [colOut, specLine, Spec.sLayer, view]
  split
  · exact h.1
  · split
    · exact h.2.1
    · exact h.2.2

theorem ppow_add (a b : Nat) (x : Fin 24) : ppow (a + b) x = ppow a (ppow b x) := by
  induction b generalizing x with
  | zero => rfl
  | succ b ih => exact ih (Spec.perm x)

/-- the word permutation has order 6 (`P5 → P0` closes the cycle of index macros) -/
theorem ppow6 : ∀ x, ppow 6 x = x := by decide +kernel

theorem perm_inj : Function.Injective Spec.perm :=
  Function.LeftInverse.injective (g := ppow 5) ppow6

/-- one round of the code, seen through the cell map, is one round of the standard -/
theorem applyR_spec (p : Fin 24 → Fin 24) (hp : Function.Injective p) (t : Nat) (s : State) :
    view (fun x => p (Spec.perm x)) (applyR (specRound p t) s) = Spec.round t (view p s) := by
  funext x
  have hall : ∀ y : Fin 24, (⟨y.val % 8, Nat.mod_lt _ (by decide)⟩ : Fin 8) ∈ List.finRange 8 :=
    fun y => List.mem_finRange _
  have hf := fun y => foldS_at p hp (List.finRange 8) (List.nodup_finRange 8) s y
  simp only [hall, if_true] at hf
  simp only [view, applyR, specRound, List.foldl_map, Fin.getElem_fin, Vector.getElem_set, Spec.round]
  have inj : ((p (Spec.perm 23)).val = (p (Spec.perm x)).val) ↔ x = 23 := by
    rw [Fin.val_inj, hp.eq_iff, perm_inj.eq_iff]; exact eq_comm
  simp only [inj]
  have h1 := hf (Spec.perm x)
  have h2 := hf (Spec.perm 23)
  simp only [Fin.getElem_fin] at h1 h2
  by_cases hx : x = 23
  · subst hx
    simp only [if_true, UInt64.toBitVec_xor, h2, colOut_spec]
  · simp only [hx, if_false, h1, colOut_spec]

theorem ppow_inj : ∀ t, Function.Injective (ppow t)
  | 0 => fun _ _ h => h
  | t + 1 => fun _ _ h => perm_inj (ppow_inj t h)

theorem foldR_spec : ∀ (n t : Nat) (s : State),
    view (ppow (t + n)) ((List.range' t n).foldl (fun s t => applyR (specRound (ppow t) t) s) s)
      = Spec.roundsFrom t n (view (ppow t) s) := by
  intro n
  induction n with
  | zero => intro t s; rfl
  | succ n ih =>
    intro t s
    rw [List.range'_succ, List.foldl_cons, Spec.roundsFrom]
    have := ih (t + 1) (applyR (specRound (ppow t) t) s)
    rw [show t + 1 + n = t + (n + 1) by omega] at this
    rw [this, ppow_succ, applyR_spec (ppow t) (ppow_inj t) t s]

theorem ppow24 (x : Fin 24) : ppow 24 x = x := by
  show ppow (6 + (6 + (6 + 6))) x = x
  rw [ppow_add, ppow_add, ppow_add, ppow6, ppow6, ppow6, ppow6]

/-- **bash-f of the code is bash-f of the standard, for every 1536-bit state.** -/
theorem bashF0_spec (s : State) (x : Fin 24) :
    (bashF0 s)[x].toBitVec = Spec.bashF (fun y => s[y].toBitVec) x := by
  have h := foldR_spec 24 0 s
  rw [show 0 + 24 = 24 from rfl] at h
  have e : bashF0 s = (List.range' 0 24).foldl (fun s t => applyR (specRound (ppow t) t) s) s := by
    unfold bashF0
    rw [rounds_eq_spec, List.foldl_map, List.range_eq_range']
  rw [e]
  have := congrFun h x
  simp only [view, ppow24] at this
  unfold Spec.bashF
  exact this


namespace Spec
/-- tabulated evaluation of the rounds (the function form recomputes exponentially when evaluated) -/
def roundsFromV : Nat → Nat → Vector W 24 → Vector W 24
  | _, 0, v => v
  | t, n + 1, v => roundsFromV (t + 1) n (Vector.ofFn (round t (fun y => v[y])))

theorem roundsFromV_eq : ∀ (n t : Nat) (v : Vector W 24) (x : Fin 24),
    (roundsFromV t n v)[x] = roundsFrom t n (fun y => v[y]) x := by
  intro n
  induction n with
  | zero => intro t v x; rfl
  | succ n ih =>
    intro t v x
    have e : (fun y : Fin 24 => (Vector.ofFn (round t (fun y => v[y])))[y]) = round t (fun y => v[y]) :=
      funext fun y => by rw [Fin.getElem_fin, Vector.getElem_ofFn]
    rw [roundsFromV, ih, e, roundsFrom]
end Spec

end Bee2V.C03
