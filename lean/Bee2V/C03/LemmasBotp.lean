import Bee2V.C03.BeltLemmas
import Bee2V.C03.Botp
import Bee2V.C03.SpecBotp
import Bee2V.Base.Bytes
/-!
# botp.c = HOTP / TOTP / OCRA of the standard (arithmetic form)
-/
namespace Bee2V.C03
open Bee2V.Proto Bee2V.Gen.C03

/-! ## the password as a decimal string; the counter -/

theorem powersOf10_eq : ∀ d, d < 10 → Bee2V.Gen.C03.powersOf10.getD d 1 = 10 ^ d := by decide

/-- the numeric password is below `10^digit` -/
theorem botpDTnum_lt (digit : Nat) (hd : digit < 10) (mac : Bytes) : botpDTnum digit mac < 10 ^ digit := by
  unfold botpDTnum
  rw [powersOf10_eq digit hd]
  exact Nat.mod_lt _ (Nat.pow_pos (by decide))

theorem decFromU32_length (n num : Nat) : (decFromU32 n num).length = n := by
  induction n generalizing num with
  | zero => rfl
  | succ n ih => simp [decFromU32, ih]

/-- every character of the password is a decimal digit -/
theorem decFromU32_digits (n num : Nat) : ∀ c ∈ decFromU32 n num, 48 ≤ c.toNat ∧ c.toNat ≤ 57 := by
  induction n generalizing num with
  | zero => intro c h; simp [decFromU32] at h
  | succ n ih =>
    intro c h
    simp only [decFromU32, List.mem_append, List.mem_singleton] at h
    rcases h with h | h
    · exact ih _ c h
    · subst h
      have : num % 10 + 48 < 256 := by omega
      simp only [UInt8.toNat_ofNat']
      omega

/-- value of a decimal string -/
def decVal (l : List UInt8) : Nat := l.foldl (fun acc c => 10 * acc + (c.toNat - 48)) 0

theorem decVal_append_single (l : List UInt8) (c : UInt8) : decVal (l ++ [c]) = 10 * decVal l + (c.toNat - 48) := by
  simp [decVal, List.foldl_append]

/-- `decFromU32` writes `num mod 10^n` in decimal -/
theorem decVal_decFromU32 (n num : Nat) : decVal (decFromU32 n num) = num % 10 ^ n := by
  induction n generalizing num with
  | zero => simp [decFromU32, decVal, Nat.mod_one]
  | succ n ih =>
    rw [decFromU32, decVal_append_single, ih]
    have : (UInt8.ofNat (num % 10 + 48)).toNat = num % 10 + 48 := by
      simp only [UInt8.toNat_ofNat']; omega
    rw [this, Nat.pow_succ, Nat.mul_comm (10 ^ n) 10, Nat.mod_mul]
    omega


/-- the carry chain of `botpCtrNext` over the octets from the last to the first -/
theorem ctrFold_spec (r : Bytes) : ∀ (acc : Bytes) (c : UInt8), c.toNat ≤ 1 →
    r.foldl (fun (acc : Bytes × UInt8) (b : UInt8) => ((ctrLine (b, acc.2)).1 :: acc.1, (ctrLine (b, acc.2)).2)) (acc, c)
      = ((natLE r.length (leNat r + c.toNat)).reverse ++ acc,
          UInt8.ofNat ((leNat r + c.toNat) / 256 ^ r.length)) := by
  induction r with
  | nil =>
    intro acc c hc
    simp only [List.foldl_nil, List.length_nil, natLE, List.reverse_nil, List.nil_append, Nat.pow_zero,
      Nat.div_one, leNat, List.foldr_nil, Nat.zero_add, UInt8.ofNat_toNat]
  | cons b bs ih =>
    intro acc c hc
    have hb := b.toNat_lt
    have hx : (b + c).toNat = (b.toNat + c.toNat) % 256 := UInt8.toNat_add b c
    have hcarry : ((if b + c < c then 1 else 0 : UInt8)).toNat = (b.toNat + c.toNat) / 256 := by
      by_cases h : b + c < c
      · have h' := UInt8.lt_iff_toNat_lt.mp h
        rw [hx] at h'
        rw [if_pos h]; show 1 = _; omega
      · have h' : ¬ ((b + c).toNat < c.toNat) := fun hh => h (UInt8.lt_iff_toNat_lt.mpr hh)
        rw [hx] at h'
        rw [if_neg h]; show 0 = _; omega
    have hc' : ((if b + c < c then 1 else 0 : UInt8)).toNat ≤ 1 := by rw [hcarry]; omega
    rw [List.foldl_cons]
    show List.foldl _ ((b + c) :: acc, (if b + c < c then 1 else 0 : UInt8)) bs = _
    rw [ih _ _ hc', hcarry]
    simp only [List.length_cons, natLE_succ, leNat_cons, List.reverse_cons, List.append_assoc, List.singleton_append]
    have e1 : (b.toNat + 256 * leNat bs + c.toNat) % 256 = (b.toNat + c.toNat) % 256 := by omega
    have e2 : (b.toNat + 256 * leNat bs + c.toNat) / 256 = leNat bs + (b.toNat + c.toNat) / 256 := by omega
    rw [e1, e2, Nat.pow_succ, Nat.mul_comm (256 ^ bs.length) 256, ← Nat.div_div_eq_div_mul, e2]
    have ex : b + c = UInt8.ofNat ((b.toNat + c.toNat) % 256) := by
      apply UInt8.toNat_inj.mp
      rw [hx, UInt8.toNat_ofNat']
      omega
    rw [ex]

/-- **`botpCtrNext` is `+1 mod 2^64` on the big-endian counter** (any length `n`: `+1 mod 256^n`) -/
theorem botpCtrNext_spec (ctr : Bytes) :
    botpCtrNext ctr = (natLE ctr.length (leNat ctr.reverse + 1)).reverse := by
  have h := ctrFold_spec ctr.reverse [] 1 (by decide)
  simp only [botpCtrNext]
  rw [show (1 : UInt8).toNat = 1 from rfl] at h
  rw [h]
  simp

theorem xor_eq_or_of_and_eq_zero (x y : Nat) (h : x &&& y = 0) : x ^^^ y = x ||| y := by
  apply Nat.eq_of_testBit_eq
  intro i
  have := congrArg (fun n => n.testBit i) h
  simp only [Nat.testBit_and, Nat.zero_testBit] at this
  simp only [Nat.testBit_xor, Nat.testBit_or]
  cases hx : x.testBit i <;> cases hy : y.testBit i <;> simp_all

theorem shl8_and (a b : Nat) (hb : b < 256) : (a <<< 8) &&& b = 0 := by
  apply Nat.eq_of_testBit_eq
  intro i
  simp only [Nat.testBit_and, Nat.testBit_shiftLeft, Nat.zero_testBit]
  by_cases hi : i ≥ 8
  · have : b.testBit i = false := by
      apply Nat.testBit_lt_two_pow
      calc b < 256 := hb
        _ = 2 ^ 8 := rfl
        _ ≤ 2 ^ i := Nat.pow_le_pow_right (by decide) hi
    simp [this]
  · simp [hi]

/-- `pwd <<= 8, pwd ^= mac[k]` on a value below 2^24 -/
theorem shl8_xor (a : UInt32) (b : UInt8) (ha : a.toNat < 2 ^ 24) :
    ((a <<< 8) ^^^ b.toUInt32).toNat = a.toNat * 256 + b.toNat := by
  have hb := b.toNat_lt
  rw [UInt32.toNat_xor, UInt32.toNat_shiftLeft, UInt8.toNat_toUInt32]
  have h8 : (8 : UInt32).toNat % 32 = 8 := rfl
  rw [h8]
  have hlt : a.toNat <<< 8 < 2 ^ 32 := by rw [Nat.shiftLeft_eq]; omega
  rw [Nat.mod_eq_of_lt hlt, xor_eq_or_of_and_eq_zero _ _ (shl8_and _ _ (by omega)),
    ← Nat.shiftLeft_add_eq_or_of_lt (by omega : b.toNat < 2 ^ 8), Nat.shiftLeft_eq]

theorem getD_toNat_lt (l : Bytes) (i : Nat) : (l.getD i 0).toNat < 256 := (l.getD i 0).toNat_lt

/-- **dynamic truncation of the code = the standard's**: offset `mac[last] mod 16`, big-endian 32-bit word,
top bit cleared, `mod 10^digit` -/
theorem botpDTnum_spec (digit : Nat) (hd : digit < 10) (mac : Bytes) :
    botpDTnum digit mac = Spec.dtNum mac % 10 ^ digit := by
  unfold botpDTnum Spec.dtNum
  rw [powersOf10_eq digit hd]
  have hoff : (mac.getD (mac.length - 1) 0 &&& 15).toNat = (mac.getD (mac.length - 1) 0).toNat % 16 := by
    rw [UInt8.toNat_and]
    exact Nat.and_two_pow_sub_one_eq_mod _ 4
  simp only [hoff]
  generalize (mac.getD (mac.length - 1) 0).toNat % 16 = off
  have h0 := getD_toNat_lt mac off
  have h1 := getD_toNat_lt mac (off + 1)
  have h2 := getD_toNat_lt mac (off + 2)
  have h3 := getD_toNat_lt mac (off + 3)
  have e0 : (mac.getD off 0).toUInt32.toNat = (mac.getD off 0).toNat := UInt8.toNat_toUInt32 _
  have e1 := shl8_xor (mac.getD off 0).toUInt32 (mac.getD (off + 1) 0) (by rw [e0]; omega)
  have e2 := shl8_xor _ (mac.getD (off + 2) 0) (by rw [e1, e0]; omega)
  have e3 := shl8_xor _ (mac.getD (off + 3) 0) (by rw [e2, e1, e0]; omega)
  have emask : ∀ x : UInt32, (x &&& 0x7FFFFFFF).toNat = x.toNat % 2 ^ 31 := by
    intro x
    rw [UInt32.toNat_and]
    exact Nat.and_two_pow_sub_one_eq_mod _ 31
  rw [emask, e3, e2, e1, e0, Nat.add_zero]
  generalize (mac.getD off 0).toNat = a0
  generalize (mac.getD (off + 1) 0).toNat = a1
  generalize (mac.getD (off + 2) 0).toNat = a2
  generalize (mac.getD (off + 3) 0).toNat = a3
  have e : ((a0 * 256 + a1) * 256 + a2) * 256 + a3 = a0 * 2 ^ 24 + a1 * 2 ^ 16 + a2 * 2 ^ 8 + a3 := by omega
  rw [e]

theorem decFromU32_eq (d n : Nat) : decFromU32 d n = Spec.decStr d n := by
  induction d generalizing n with
  | zero => rfl
  | succ d ih => simp only [decFromU32, Spec.decStr, ih, Nat.add_comm]

theorem botpDT_eq (digit : Nat) (hd : digit < 10) (mac : Bytes) : botpDT digit mac = Spec.otp digit mac := by
  rw [botpDT, Spec.otp, botpDTnum_spec digit hd, decFromU32_eq]

/-- the counter of the code, as a number -/
theorem botpCtrNext_be8 (C : Nat) : botpCtrNext (Spec.be8 C) = Spec.be8 (C + 1) := by
  rw [botpCtrNext_spec]
  simp only [Spec.be8, List.reverse_reverse, List.length_reverse, natLE_length, leNat_natLE]
  congr 1
  rw [← natLE_mod 8 (C % 256 ^ 8 + 1), ← natLE_mod 8 (C + 1)]
  congr 1
  omega

theorem ofNat_mod256 (v : Nat) : UInt8.ofNat (v % 256) = UInt8.ofNat v := by
  apply UInt8.toNat_inj.mp
  simp only [UInt8.toNat_ofNat']; omega

/-- `botpTimeToCtr` = `⟨t⟩_64` big-endian -/
theorem botpTimeToCtr_be8 (t : Nat) : botpTimeToCtr t = Spec.be8 t := by
  have hr : List.range 8 = [0, 1, 2, 3, 4, 5, 6, 7] := by decide
  simp only [botpTimeToCtr, Spec.be8, natLE, ofNat_mod256, Nat.div_div_eq_div_mul, hr]
  simp


/-! ## HOTP / TOTP -/

/-- `botpHOTPStepR`: the password is `HOTP(K, C)`, the counter becomes `C + 1 (mod 2^64)` -/
theorem hotpStepR_spec (key : Bytes) (C : Nat) (st : HotpSt) (hd : st.digit < 10)
    (hk : st.keySt = Belt.hmacStart key) (hc : st.ctr = Spec.be8 C) :
    hotpStepR st = ({ st with ctr := Spec.be8 (C + 1) }, Spec.hotp key st.digit C) := by
  simp only [hotpStepR, hk, hc, botpCtrNext_be8, botpDT_eq _ hd, Spec.hotp]
  rfl

/-- `botpHOTPStepV`: success iff the password is `HOTP(K, C)`; the counter advances on success only -/
theorem hotpStepV_spec (key : Bytes) (C : Nat) (otp : Bytes) (st : HotpSt) (hd : st.digit < 10)
    (hk : st.keySt = Belt.hmacStart key) (hc : st.ctr = Spec.be8 C) :
    hotpStepV otp st =
      if otp = Spec.hotp key st.digit C then ({ st with ctr := Spec.be8 (C + 1) }, true) else (st, false) := by
  simp only [hotpStepV, hotpStepR_spec key C st hd hk hc, eq_comm]

theorem hotpStart_keySt (digit : Nat) (key ctr : Bytes) :
    (hotpStepS ctr (hotpStart digit key)).keySt = Belt.hmacStart key ∧
    (hotpStepS ctr (hotpStart digit key)).digit = digit ∧ (hotpStepS ctr (hotpStart digit key)).ctr = ctr :=
  ⟨rfl, rfl, rfl⟩

/-- `botpTOTPStepR` = `TOTP(K, T)` for the rounded time `T` -/
theorem totpStepR_spec (key : Bytes) (digit T : Nat) (hd : digit < 10) :
    totpStepR digit (Belt.hmacStart key) T = Spec.totp key digit T := by
  simp only [totpStepR, botpTimeToCtr_be8, botpDT_eq _ hd, Spec.totp]
  rfl

theorem totpStepV_spec (key otp : Bytes) (digit T : Nat) (hd : digit < 10) :
    totpStepV otp digit (Belt.hmacStart key) T = decide (Spec.totp key digit T = otp) := by
  simp only [totpStepV, totpStepR_spec key digit T hd]

/-! ## OCRA -/

/-- the state `botpOCRAStart` + `botpOCRAStepS` set up for suite parameters `p` -/
structure OcraSt.Of (key suite : Bytes) (p : Spec.OcraParams) (C : Nat) (P S : Bytes) (st : OcraSt) : Prop where
  digit : st.digit = p.digit
  ctrLen : (st.ctrLen ≠ 0) = (p.ctr = true)
  pLen : st.pLen = p.pLen
  sLen : st.sLen = p.sLen
  ts : st.ts = p.ts
  ctr : st.ctr = Spec.be8 C
  p : st.p = P
  s : st.s = S
  key : st.keySt = Belt.hmacStepA (suite ++ [0]) (Belt.hmacStart key)

theorem hmac_opt (c : Prop) [Decidable c] (X : Bytes) (h : Belt.HmacSt) (hw : h.WF) :
    (if c then Belt.hmacStepA X h else h) = Belt.hmacStepA (if c then X else []) h := by
  split
  · rfl
  · rw [Belt.hmacStepA_nil h hw]

/-- **`botpOCRAStepR` = OCRA of the standard**: `DT(hmac(K, suite‖00‖[C]‖Q‖0…‖[P]‖[S]‖[T]))`; the counter (if the
suite has one) becomes `C + 1` -/
theorem ocraStepR_spec (key suite : Bytes) (p : Spec.OcraParams) (C : Nat) (P S Q : Bytes) (T : Nat)
    (st : OcraSt) (h : st.Of key suite p C P S) (hd : p.digit < 10) :
    ocraStepR Q T st =
      ({ st with ctr := if p.ctr then Spec.be8 (C + 1) else st.ctr }, Spec.ocra key suite p C Q P S T) := by
  have w0 := Belt.hmacStart_WF key
  have w1 := Belt.hmacStepA_WF (suite ++ [0]) _ w0
  have hctr : (if st.ctrLen ≠ 0 then (Belt.hmacStepA st.ctr st.keySt, botpCtrNext st.ctr) else (st.keySt, st.ctr))
      = (Belt.hmacStepA (if p.ctr then Spec.be8 C else []) st.keySt,
          if p.ctr then Spec.be8 (C + 1) else st.ctr) := by
    have := h.ctrLen
    by_cases hc : p.ctr = true
    · have : st.ctrLen ≠ 0 := by rw [this]; exact hc
      simp only [this, ne_eq, not_false_eq_true, if_true, hc, h.ctr, botpCtrNext_be8]
    · have hn : ¬ (st.ctrLen ≠ 0) := by rw [this]; exact hc
      simp only [hn, if_false, hc, Bool.false_eq_true]
      rw [h.key, Belt.hmacStepA_nil _ w1]
  simp only [ocraStepR, hctr]
  have w2 := Belt.hmacStepA_WF (if p.ctr then Spec.be8 C else []) _ (h.key ▸ w1)
  have w3 := Belt.hmacStepA_WF (Q ++ zeros (128 - Q.length)) _ w2
  rw [hmac_opt (st.pLen ≠ 0) st.p _ w3]
  have w4 := Belt.hmacStepA_WF (if st.pLen ≠ 0 then st.p else []) _ w3
  rw [hmac_opt (st.sLen ≠ 0) st.s _ w4]
  have w5 := Belt.hmacStepA_WF (if st.sLen ≠ 0 then st.s else []) _ w4
  rw [hmac_opt (st.ts ≠ 0) (botpTimeToCtr T) _ w5]
  rw [h.key, Belt.hmacStepA_append _ w0, Belt.hmacStepA_append _ w0, Belt.hmacStepA_append _ w0,
    Belt.hmacStepA_append _ w0, Belt.hmacStepA_append _ w0]
  simp only [h.digit, h.pLen, h.sLen, h.ts, h.p, h.s, botpTimeToCtr_be8, botpDT_eq _ hd, Spec.ocra,
    Spec.ocraInput, Belt.hmac]

/-- `botpOCRAStepV`: success iff the password is the OCRA value; the counter advances on success only -/
theorem ocraStepV_spec (key suite : Bytes) (p : Spec.OcraParams) (C : Nat) (P S Q otp : Bytes) (T : Nat)
    (st : OcraSt) (h : st.Of key suite p C P S) (hd : p.digit < 10) :
    ocraStepV otp Q T st =
      if otp = Spec.ocra key suite p C Q P S T
      then ({ st with ctr := if p.ctr then Spec.be8 (C + 1) else st.ctr }, true) else (st, false) := by
  simp only [ocraStepV, ocraStepR_spec key suite p C P S Q T st h hd, eq_comm]

/-- HOTP histories: `none` = StepR, `some otp` = StepV(otp) -/
def hotpRun : List (Option Bytes) → HotpSt → HotpSt × List (Bytes ⊕ Bool)
  | [], st => (st, [])
  | none :: cs, st => let r := hotpStepR st; let q := hotpRun cs r.1; (q.1, .inl r.2 :: q.2)
  | some o :: cs, st => let r := hotpStepV o st; let q := hotpRun cs r.1; (q.1, .inr r.2 :: q.2)

/-- the standard's rule: a generated or accepted password moves the counter by one, a rejected one does not -/
def Spec.hotpRun (key : Bytes) (digit : Nat) : Nat → List (Option Bytes) → Nat × List (Bytes ⊕ Bool)
  | C, [] => (C, [])
  | C, none :: cs => let q := Spec.hotpRun key digit (C + 1) cs; (q.1, .inl (Spec.hotp key digit C) :: q.2)
  | C, some o :: cs =>
    if o = Spec.hotp key digit C then
      let q := Spec.hotpRun key digit (C + 1) cs; (q.1, .inr true :: q.2)
    else let q := Spec.hotpRun key digit C cs; (q.1, .inr false :: q.2)

theorem hotpRun_spec (key : Bytes) : ∀ (cs : List (Option Bytes)) (C : Nat) (st : HotpSt), st.digit < 10 →
    st.keySt = Belt.hmacStart key → st.ctr = Spec.be8 C →
    (hotpRun cs st).2 = (Spec.hotpRun key st.digit C cs).2 ∧
      (hotpRun cs st).1.ctr = Spec.be8 (Spec.hotpRun key st.digit C cs).1 := by
  intro cs
  induction cs with
  | nil => intro C st _ _ hc; exact ⟨rfl, hc⟩
  | cons c cs ih =>
    intro C st hd hk hc
    cases c with
    | none =>
      have hr := hotpStepR_spec key C st hd hk hc
      obtain ⟨i1, i2⟩ := ih (C + 1) { st with ctr := Spec.be8 (C + 1) } hd hk rfl
      simp only [hotpRun, Spec.hotpRun, hr]
      exact ⟨by rw [i1], i2⟩
    | some o =>
      have hv := hotpStepV_spec key C o st hd hk hc
      simp only [hotpRun, Spec.hotpRun, hv]
      by_cases ho : o = Spec.hotp key st.digit C
      · obtain ⟨i1, i2⟩ := ih (C + 1) { st with ctr := Spec.be8 (C + 1) } hd hk rfl
        simp only [ho, if_true]
        exact ⟨by rw [i1], i2⟩
      · obtain ⟨i1, i2⟩ := ih C st hd hk hc
        simp only [ho, if_false]
        exact ⟨by rw [i1], i2⟩

end Bee2V.C03
