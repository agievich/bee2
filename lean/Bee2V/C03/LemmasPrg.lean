import Bee2V.C03.LemmasSponge
/-!
# Command histories of the programmable automaton: invariant, decr ∘ encr = id, chunking
-/
namespace Bee2V.C03
open Bee2V.Gen.C03

variable (F : Bytes → Bytes)

/-- the commands of bash_prg.c after Start; `…More` = a further `…Step` call of the running command -/
inductive Cmd
  | restart (ann key : Bytes)
  | absorb (x : Bytes) | absorbMore (x : Bytes)
  | squeeze (n : Nat) | squeezeMore (n : Nat)
  | encr (x : Bytes) | encrMore (x : Bytes)
  | decr (x : Bytes) | decrMore (x : Bytes)
  | ratchet

/-- precondition of the header that matters for the state invariant -/
def Cmd.ok : Cmd → Prop
  | .restart ann key => ann.length ≤ 60 ∧ key.length ≤ 60
  | _ => True

def Cmd.run : Cmd → PrgSt → PrgSt
  | .restart a k, st => prgRestart F a k st
  | .absorb x, st => prgAbsorb F x st
  | .absorbMore x, st => prgAbsorbStep F x st
  | .squeeze n, st => (prgSqueeze F (zeros n) st).1
  | .squeezeMore n, st => (prgSqueezeStep F (zeros n) st).1
  | .encr x, st => (prgEncr F x st).1
  | .encrMore x, st => (prgEncrStep F x st).1
  | .decr x, st => (prgDecr F x st).1
  | .decrMore x, st => (prgDecrStep F x st).1
  | .ratchet, st => prgRatchet F st

def runAll (h : List Cmd) (st : PrgSt) : PrgSt := h.foldl (fun st c => c.run F st) st

/-- state invariant: parameters of the standard, `pos < buf_len`, `buf_len` is the keyed or the keyless rate -/
def PrgSt.WF (st : PrgSt) : Prop :=
  (st.l = 128 ∨ st.l = 192 ∨ st.l = 256) ∧ (st.d = 1 ∨ st.d = 2) ∧ st.sp.pos < st.sp.bufLen ∧
    (st.sp.bufLen = 192 - st.l * (2 + st.d) / 16 ∨ st.sp.bufLen = 192 - st.d * st.l / 4)

/-- the table of buffer lengths: the keyed one holds a full header (1 + 60 + 60 octets), the keyless one a header
without key -/
theorem rate_bounds {l d : Nat} (hl : l = 128 ∨ l = 192 ∨ l = 256) (hd : d = 1 ∨ d = 2) :
    128 ≤ 192 - l * (2 + d) / 16 ∧ 64 ≤ 192 - d * l / 4 := by
  rcases hl with h | h | h <;> rcases hd with h' | h' <;> subst h <;> subst h' <;> decide

theorem prgStart_WF (l d : Nat) (ann key : Bytes) (hl : l = 128 ∨ l = 192 ∨ l = 256) (hd : d = 1 ∨ d = 2)
    (ha : ann.length ≤ 60) (hk : key.length ≤ 60) : (prgStart l d ann key).WF := by
  obtain ⟨b1, b2⟩ := rate_bounds hl hd
  refine ⟨hl, hd, ?_, ?_⟩ <;> simp only [prgStart] <;> split
  · omega
  · omega
  · exact Or.inl rfl
  · exact Or.inr rfl

theorem prgCommit_WF (code : UInt8) (st : PrgSt) (h : st.WF) : (prgCommit F code st).WF := by
  obtain ⟨hl, hd, hp, hb⟩ := h
  exact ⟨hl, hd, by simp only [prgCommit]; omega, hb⟩

theorem step_WF (op : OpB) (x : Bytes) (st : PrgSt) (h : st.WF) :
    ({ st with sp := (stepGen F op x st.sp).1 } : PrgSt).WF := by
  obtain ⟨hl, hd, hp, hb⟩ := h
  refine ⟨hl, hd, stepGen_pos_lt F op x st.sp hp, ?_⟩
  simp only [stepGen_bufLen F op x st.sp hp]; exact hb

theorem Cmd.run_WF (c : Cmd) (hc : c.ok) (st : PrgSt) (h : st.WF) : (c.run F st).WF := by
  cases c with
  | restart a k =>
    obtain ⟨hl, hd, hp, hb⟩ := h
    obtain ⟨b1, b2⟩ := rate_bounds hl hd
    simp only [Cmd.ok] at hc
    simp only [Cmd.run, prgRestart]
    split
    · exact ⟨hl, hd, by simp only [prgCommit]; omega, Or.inl rfl⟩
    · exact ⟨hl, hd, by simp only [prgCommit]; omega, hb⟩
  | absorb x => exact step_WF F xorOp x _ (prgCommit_WF F _ st h)
  | absorbMore x => exact step_WF F xorOp x _ h
  | squeeze n => exact step_WF F sqzOp _ _ (prgCommit_WF F _ st h)
  | squeezeMore n => exact step_WF F sqzOp _ _ h
  | encr x => exact step_WF F encOp x _ (prgCommit_WF F _ st h)
  | encrMore x => exact step_WF F encOp x _ h
  | decr x => exact step_WF F decOp x _ (prgCommit_WF F _ st h)
  | decrMore x => exact step_WF F decOp x _ h
  | ratchet =>
    obtain ⟨hl, hd, hp, hb⟩ := h
    exact ⟨hl, hd, by show 0 < st.sp.bufLen; omega, hb⟩

theorem runAll_WF (h : List Cmd) (hok : ∀ c ∈ h, c.ok) (st : PrgSt) (hw : st.WF) : (runAll F h st).WF := by
  induction h generalizing st with
  | nil => exact hw
  | cons c cs ih =>
    simp only [runAll, List.foldl_cons]
    exact ih (fun c' hc' => hok c' (List.mem_cons_of_mem _ hc')) _
      (Cmd.run_WF F c (hok c List.mem_cons_self) st hw)

/-- decryption inverts encryption (and both parties reach the same state) from every well-formed state -/
theorem prgDecr_prgEncr (x : Bytes) (st : PrgSt) (h : st.WF) :
    prgDecr F (prgEncr F x st).2 st = ((prgEncr F x st).1, x) := by
  have hw : (prgEncrStart F st).WF := prgCommit_WF F codeText st h
  have e : prgDecrStart F st = prgEncrStart F st := rfl   -- both commit BASH_PRG_TEXT (generated codes)
  simp only [prgDecr, prgEncr, prgDecrStep, prgEncrStep, e]
  rw [stepGen_dec_enc F x _ hw.2.2.1]

/-- and encryption inverts decryption -/
theorem fold_enc_dec (x : Bytes) (st : Sp) :
    foldBytes F encOp (foldBytes F decOp x st).2 st = ((foldBytes F decOp x st).1, x) :=
  fold_undo F enc_undoes_dec x st

end Bee2V.C03
