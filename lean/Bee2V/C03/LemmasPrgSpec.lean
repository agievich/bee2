import Bee2V.C03.LemmasPrg
import Bee2V.C03.LemmasHashSpec
import Bee2V.C03.SpecPrg
/-!
# bash_prg.c = the block-form text of STB 34.101.77 §8
-/
namespace Bee2V.C03

theorem zipWith_take_left {α β γ : Type} (f : α → β → γ) : ∀ (a : List α) (b : List β),
    List.zipWith f (a.take b.length) b = List.zipWith f a b := by
  intro a b
  induction b generalizing a with
  | nil => simp
  | cons y ys ih =>
    cases a with
    | nil => simp
    | cons x xs => simp [ih]

/-- the block action induced by a per-octet action -/
def actOf (op : OpB) : Spec.Act :=
  ⟨fun s x => List.zipWith (fun b d => (op b d).1) s x, fun s x => List.zipWith (fun b d => (op b d).2) s x⟩

/-- the per-octet loops over a prefix of the state, in the form of the standard's block actions -/
theorem opAt_prefix (op : OpB) (x s : Bytes) (h : x.length ≤ s.length) :
    opAt op s 0 x =
      ((actOf op).seg (s.take x.length) x ++ s.drop x.length, (actOf op).out (s.take x.length) x) := by
  rw [opAt_zip op x s 0 (by omega)]
  simp only [actOf, List.take_zero, List.nil_append, List.drop_zero, Nat.zero_add, zipWith_take_left]

variable (F : Bytes → Bytes)

/-- the octet sponge over `X` from `pos = 0` = the block loop of the standard, for every block action `a` that
agrees with the per-octet action on equally long arguments (the outputs agree if the output parts do) -/
theorem fold_prg_blocks (op : OpB) (a : Spec.Act) (N : Nat) (hF : ∀ s : Bytes, s.length = N → (F s).length = N)
    (r : Nat) (hr : 0 < r) (hrN : r ≤ N)
    (hseg : ∀ s x : Bytes, s.length = x.length → (actOf op).seg s x = a.seg s x) :
    ∀ (n : Nat) (S X : Bytes), S.length = N → X.length / r = n →
      (foldBytes F op X ⟨S, r, 0⟩).1 = ⟨(Spec.blocks F a r n S X).1, r, X.length % r⟩ ∧
      (Spec.blocks F a r n S X).1.length = N ∧
      ((∀ s x : Bytes, s.length = x.length → (actOf op).out s x = a.out s x) →
        (foldBytes F op X ⟨S, r, 0⟩).2 = (Spec.blocks F a r n S X).2) := by
  intro n
  induction n with
  | zero =>
    intro S X hS hn
    have hlt : X.length < r := by
      rcases Nat.lt_or_ge X.length r with h | h
      · exact h
      · have := Nat.div_pos h hr; omega
    have hl : (S.take X.length).length = X.length := by rw [List.length_take]; omega
    rw [fold_partial F op X _ (by simp only; omega), opAt_prefix op X S (by omega)]
    simp only [Spec.blocks, Nat.zero_add, Nat.mod_eq_of_lt hlt, ← hseg _ _ hl, true_and]
    refine ⟨?_, fun hout => hout _ _ hl⟩
    simp only [actOf, List.length_append, List.length_zipWith, List.length_take, List.length_drop]
    omega
  | succ n ih =>
    intro S X hS hn
    have hXr : r ≤ X.length := by
      rcases Nat.lt_or_ge X.length r with h | h
      · rw [Nat.div_eq_of_lt h] at hn; omega
      · exact h
    have hlen : (X.take r).length = r := by rw [List.length_take]; omega
    have hl : (S.take r).length = (X.take r).length := by rw [hlen, List.length_take]; omega
    have es := hseg _ _ hl
    have hS1 : (F (a.seg (S.take r) (X.take r) ++ S.drop r)).length = N := by
      apply hF
      rw [← es]
      simp only [actOf, List.length_append, List.length_zipWith, List.length_take, List.length_drop]; omega
    have hn' : (X.drop r).length / r = n := by
      rw [List.length_drop]
      have := Nat.sub_mul_div X.length r 1
      simp only [Nat.mul_one] at this
      rw [this, hn]; rfl
    have hmod : (X.drop r).length % r = X.length % r := by
      rw [List.length_drop]
      exact (Nat.mod_eq_sub_mod hXr).symm
    obtain ⟨i1, i2, i3⟩ := ih _ (X.drop r) hS1 hn'
    rw [fold_fill F op X ⟨S, r, 0⟩ hr (by simp only; omega)]
    simp only [Nat.sub_zero]
    rw [opAt_prefix op _ S (by rw [hlen]; omega)]
    simp only [hlen, es, i1, hmod, Spec.blocks, true_and]
    refine ⟨i2, fun hout => ?_⟩
    rw [hout _ _ hl, i3 hout]

theorem zipWith_comm_xor (a b : Bytes) : List.zipWith (fun x y => y ^^^ x) a b = List.zipWith (· ^^^ ·) b a :=
  List.zipWith_comm.symm

theorem zipWith_xor_comm (a b : Bytes) : List.zipWith (fun x y => x ^^^ y) a b = List.zipWith (· ^^^ ·) b a := by
  rw [← zipWith_comm_xor]
  congr 1
  funext x y
  exact UInt8.xor_comm y x

theorem act_absorb (s x : Bytes) : (actOf xorOp).seg s x = Spec.absorbAct.seg s x := rfl
theorem act_squeeze (s x : Bytes) :
    (actOf sqzOp).seg s x = Spec.squeezeAct.seg s x ∧ (actOf sqzOp).out s x = Spec.squeezeAct.out s x :=
  ⟨zipWith_fst s x, zipWith_fst s x⟩
theorem act_encr (s x : Bytes) :
    (actOf encOp).seg s x = Spec.encrAct.seg s x ∧ (actOf encOp).out s x = Spec.encrAct.out s x := by
  have e : List.zipWith (fun b d => b ^^^ d) s x = List.zipWith (· ^^^ ·) x s := zipWith_xor_comm s x
  exact ⟨e, e⟩
theorem act_decr (s y : Bytes) :
    (actOf decOp).seg s y = Spec.decrAct.seg s y ∧ (actOf decOp).out s y = Spec.decrAct.out s y := by
  constructor
  · show List.zipWith (fun b d => b ^^^ (d ^^^ b)) s y = y.take s.length
    have : (fun (b d : UInt8) => b ^^^ (d ^^^ b)) = fun _ d => d := by
      funext b d; rw [UInt8.xor_comm d b, ← UInt8.xor_assoc, UInt8.xor_self, UInt8.zero_xor]
    rw [this, zipWith_snd]
  · show List.zipWith (fun b d => d ^^^ b) s y = List.zipWith (· ^^^ ·) y s
    exact zipWith_comm_xor s y


open Bee2V.Gen.C03

/-- the standard's view of the code's state -/
def toSpec (st : PrgSt) : Spec.PSt := ⟨st.l, st.d, st.sp.s, st.sp.bufLen, st.sp.pos⟩

/-- invariant incl. the length of `s` -/
def PrgSt.WF2 (st : PrgSt) : Prop := st.WF ∧ st.sp.s.length = 192

theorem foldBytes_len (op : OpB) (N : Nat) (hF : ∀ s : Bytes, s.length = N → (F s).length = N) :
    ∀ (data : Bytes) (st : Sp), st.s.length = N → (foldBytes F op data st).1.s.length = N := by
  intro data
  induction data with
  | nil => intro st h; exact h
  | cons d ds ih =>
    intro st h
    simp only [foldBytes]
    apply ih
    simp only [stepByte]
    split
    · exact hF _ (by simp only [List.length_set]; exact h)
    · simp only [List.length_set]; exact h

theorem WF_bufLen {st : PrgSt} (h : st.WF) : 0 < st.sp.bufLen ∧ st.sp.bufLen ≤ 192 := by
  obtain ⟨hl, hd, hp, hb⟩ := h
  obtain ⟨b1, b2⟩ := rate_bounds hl hd
  omega

/-- the command codes of the source are `⟨t ‖ 01⟩` of the standard's command types -/
theorem codes_eq : codeNull = Spec.CmdType.null.octet ∧ codeKey = Spec.CmdType.key.octet ∧
    codeData = Spec.CmdType.data.octet ∧ codeText = Spec.CmdType.text.octet ∧
    codeTextDecr = Spec.CmdType.text.octet ∧ codeOut = Spec.CmdType.out.octet ∧
    codeRatchet = Spec.CmdType.null.octet := by decide

theorem commit_spec (t : Spec.CmdType) (st : PrgSt) :
    toSpec (prgCommit F t.octet st) = Spec.commit F t (toSpec st) := rfl

theorem prgCommit_WF2 (hF : ∀ s : Bytes, s.length = 192 → (F s).length = 192) (code : UInt8) (st : PrgSt)
    (h : st.WF2) : (prgCommit F code st).WF2 :=
  ⟨prgCommit_WF F code st h.1, hF _ (by simp only [List.length_set]; exact h.2)⟩

/-- a data command of the code (commit + one Step call on all the data) = the block loop of the standard -/
theorem dataCmd_spec (hF : ∀ s : Bytes, s.length = 192 → (F s).length = 192) (op : OpB) (a : Spec.Act)
    (t : Spec.CmdType) (X : Bytes) (st : PrgSt) (h : st.WF2)
    (hseg : ∀ s x : Bytes, s.length = x.length → (actOf op).seg s x = a.seg s x) :
    let r := stepGen F op X (prgCommit F t.octet st).sp
    toSpec { prgCommit F t.octet st with sp := r.1 } = (Spec.dataCmd F t a X (toSpec st)).1 ∧
      ({ prgCommit F t.octet st with sp := r.1 } : PrgSt).WF2 ∧
      ((∀ s x : Bytes, s.length = x.length → (actOf op).out s x = a.out s x) →
        r.2 = (Spec.dataCmd F t a X (toSpec st)).2) := by
  intro r
  have hc := prgCommit_WF2 F hF t.octet st h
  obtain ⟨hb0, hb1⟩ := WF_bufLen hc.1
  have hpos : (prgCommit F t.octet st).sp.pos = 0 := rfl
  have hlt : (prgCommit F t.octet st).sp.pos < (prgCommit F t.octet st).sp.bufLen := by rw [hpos]; exact hb0
  have hfold : r = foldBytes F op X (prgCommit F t.octet st).sp := stepGen_eq_fold F op X _ hlt
  have hsp : (prgCommit F t.octet st).sp =
      ⟨(prgCommit F t.octet st).sp.s, (prgCommit F t.octet st).sp.bufLen, 0⟩ := rfl
  obtain ⟨b1, b2, b3⟩ := fold_prg_blocks F op a 192 hF (prgCommit F t.octet st).sp.bufLen hb0 hb1 hseg
    (X.length / (prgCommit F t.octet st).sp.bufLen) (prgCommit F t.octet st).sp.s X hc.2 rfl
  rw [hsp] at hfold
  refine ⟨?_, ⟨step_WF F op X _ hc.1, ?_⟩, fun hout => ?_⟩
  · rw [hfold, b1]; rfl
  · show r.1.s.length = 192
    rw [hfold, b1]; exact b2
  · rw [hfold, b3 hout]; rfl


theorem rate_eq (l d : Nat) (hl : l = 128 ∨ l = 192 ∨ l = 256) (hd : d = 1 ∨ d = 2) :
    Spec.rate l d true = 192 - l * (2 + d) / 16 ∧ Spec.rate l d false = 192 - d * l / 4 := by
  rcases hl with h | h | h <;> rcases hd with h' | h' <;> subst h <;> subst h' <;> decide

/-- `bashPrgStart` = `start[l,d](A, K)` of the standard -/
theorem prgStart_spec (l d : Nat) (A K : Bytes) (hl : l = 128 ∨ l = 192 ∨ l = 256) (hd : d = 1 ∨ d = 2)
    (ha : A.length ≤ 60) (hk : K.length ≤ 60) : toSpec (prgStart l d A K) = Spec.start l d A K := by
  obtain ⟨r1, r2⟩ := rate_eq l d hl hd
  have hS : (UInt8.ofNat (A.length * 4 + K.length / 4) :: (A ++ K ++ zeros (192 - (1 + A.length + K.length)))).set
      (192 - 8) (UInt8.ofNat (l / 4 + d))
      = Spec.header A K ++ zeros (184 - (1 + A.length + K.length)) ++ (UInt8.ofNat (l / 4 + d) :: zeros 7) := by
    have e1 : 192 - (1 + A.length + K.length) = (184 - (1 + A.length + K.length)) + 8 := by omega
    have e2 : (Spec.header A K ++ zeros (184 - (1 + A.length + K.length))).length = 184 := by
      simp only [Spec.header, List.length_append, List.length_cons, zeros_length]; omega
    rw [e1, zeros_add, Nat.mul_comm A.length 4]
    have e3 : UInt8.ofNat (4 * A.length + K.length / 4) ::
        (A ++ K ++ (zeros (184 - (1 + A.length + K.length)) ++ zeros 8))
        = (Spec.header A K ++ zeros (184 - (1 + A.length + K.length))) ++ zeros 8 := by
      simp [Spec.header, List.append_assoc]
    rw [e3, List.set_append_right _ _ (by rw [e2]; decide), e2]
    rfl
  simp only [toSpec, prgStart, Spec.start, hS]
  by_cases hk0 : K.length = 0
  · simp [hk0, r2]
  · simp [hk0, r1]

theorem opAt_append (op : OpB) (a : Bytes) : ∀ (b s : Bytes) (pos : Nat),
    (opAt op s pos (a ++ b)).1 = (opAt op (opAt op s pos a).1 (pos + a.length) b).1 := by
  induction a with
  | nil => intro b s pos; simp [opAt]
  | cons d ds ih =>
    intro b s pos
    simp only [List.cons_append, opAt, ih, List.length_cons]
    rw [show pos + 1 + ds.length = pos + (ds.length + 1) by omega]

/-- `bashPrgRestart` = `restart(A, K)` of the standard -/
theorem prgRestart_spec (hF : ∀ s : Bytes, s.length = 192 → (F s).length = 192) (A K : Bytes) (st : PrgSt)
    (h : st.WF2) (ha : A.length ≤ 60) (hk : K.length ≤ 60) :
    toSpec (prgRestart F A K st) = Spec.restart F A K (toSpec st) := by
  obtain ⟨⟨hl, hd, _, _⟩, hlen⟩ := h
  obtain ⟨r1, _⟩ := rate_eq st.l st.d hl hd
  -- the three xor statements = one xor of the header
  have key : ∀ S1 : Bytes, S1.length = 192 →
      (opAt xorOp (opAt xorOp (S1.set 0 (S1.getD 0 0 ^^^ UInt8.ofNat (A.length * 4 + K.length / 4))) 1 A).1
        (1 + A.length) K).1
      = Spec.xorList (S1.take (1 + A.length + K.length)) (Spec.header A K) ++ S1.drop (1 + A.length + K.length) := by
    intro S1 h1
    have e : (opAt xorOp S1 0 (Spec.header A K)).1 =
        (opAt xorOp (opAt xorOp (S1.set 0 (S1.getD 0 0 ^^^ UInt8.ofNat (A.length * 4 + K.length / 4))) 1 A).1
          (1 + A.length) K).1 := by
      simp only [Spec.header, opAt, xorOp, Nat.zero_add, Nat.mul_comm 4 A.length]
      rw [opAt_append]
    have hl2 : (Spec.header A K).length = 1 + A.length + K.length := by
      simp only [Spec.header, List.length_cons, List.length_append]; omega
    rw [← e, opAt_prefix xorOp _ S1 (by rw [hl2]; omega), hl2]
    rfl
  have hcode := codes_eq
  by_cases hk0 : K.length = 0
  · have hlenc : (prgCommit F codeNull st).sp.s.length = 192 :=
      hF _ (by simp only [List.length_set]; exact hlen)
    have hK : K = [] := List.length_eq_zero_iff.mp hk0
    subst hK
    have k2 := key _ hlenc
    simp only [prgRestart, Spec.restart, List.length_nil, ne_eq, not_true_eq_false, if_false, toSpec] at k2 ⊢
    rw [k2]
    simp only [hcode.1]
    rfl
  · have hlenc : (prgCommit F codeKey st).sp.s.length = 192 :=
      hF _ (by simp only [List.length_set]; exact hlen)
    simp only [prgRestart, Spec.restart, hk0, ne_eq, not_false_eq_true, if_true, toSpec]
    rw [key _ hlenc]
    simp only [hcode.2.1, r1]
    rfl

/-- `bashPrgRatchet` = `ratchet` of the standard -/
theorem prgRatchet_spec (hF : ∀ s : Bytes, s.length = 192 → (F s).length = 192) (st : PrgSt) (h : st.WF2) :
    toSpec (prgRatchet F st) = Spec.ratchet F (toSpec st) := by
  have hlenc : (prgCommit F codeRatchet { st with t := st.sp.s }).sp.s.length = 192 :=
    hF _ (by simp only [List.length_set]; exact h.2)
  simp only [prgRatchet, Spec.ratchet, toSpec]
  rw [opAt_zip xorOp _ _ 0 (by rw [hlenc, h.2]; decide)]
  simp only [List.take_zero, List.nil_append, List.drop_zero, Nat.zero_add, xorOp]
  rw [List.drop_eq_nil_of_le (by rw [hlenc, h.2]; decide), List.append_nil]
  rfl


section cmds
variable (hF : ∀ s : Bytes, s.length = 192 → (F s).length = 192)
include hF

theorem prgAbsorb_spec (X : Bytes) (st : PrgSt) (h : st.WF2) :
    toSpec (prgAbsorb F X st) = Spec.absorb F X (toSpec st) ∧ (prgAbsorb F X st).WF2 := by
  obtain ⟨a, b, _⟩ := dataCmd_spec F hF xorOp Spec.absorbAct .data X st h (fun s x _ => act_absorb s x)
  exact ⟨a, b⟩

theorem prgSqueeze_spec (n : Nat) (st : PrgSt) (h : st.WF2) :
    (toSpec (prgSqueeze F (zeros n) st).1, (prgSqueeze F (zeros n) st).2) = Spec.squeeze F n (toSpec st) ∧
      (prgSqueeze F (zeros n) st).1.WF2 := by
  obtain ⟨a, b, c⟩ := dataCmd_spec F hF sqzOp Spec.squeezeAct .out (zeros n) st h (fun s x _ => (act_squeeze s x).1)
  have c' := c (fun s x _ => (act_squeeze s x).2)
  exact ⟨Prod.ext a c', b⟩

theorem prgEncr_spec (X : Bytes) (st : PrgSt) (h : st.WF2) :
    (toSpec (prgEncr F X st).1, (prgEncr F X st).2) = Spec.encrypt F X (toSpec st) ∧ (prgEncr F X st).1.WF2 := by
  obtain ⟨a, b, c⟩ := dataCmd_spec F hF encOp Spec.encrAct .text X st h (fun s x _ => (act_encr s x).1)
  have c' := c (fun s x _ => (act_encr s x).2)
  exact ⟨Prod.ext a c', b⟩

theorem prgDecr_spec (Y : Bytes) (st : PrgSt) (h : st.WF2) :
    (toSpec (prgDecr F Y st).1, (prgDecr F Y st).2) = Spec.decrypt F Y (toSpec st) ∧ (prgDecr F Y st).1.WF2 := by
  obtain ⟨a, b, c⟩ := dataCmd_spec F hF decOp Spec.decrAct .text Y st h (fun s x _ => (act_decr s x).1)
  have c' := c (fun s x _ => (act_decr s x).2)
  exact ⟨Prod.ext a c', b⟩

theorem prgRestart_WF2 (A K : Bytes) (st : PrgSt) (h : st.WF2) (ha : A.length ≤ 60) (hk : K.length ≤ 60) :
    (prgRestart F A K st).WF2 := by
  refine ⟨Cmd.run_WF F (.restart A K) ⟨ha, hk⟩ st h.1, ?_⟩
  have hn : (prgCommit F codeNull st).sp.s.length = 192 := hF _ (by simp only [List.length_set]; exact h.2)
  have hk' : (prgCommit F codeKey st).sp.s.length = 192 := hF _ (by simp only [List.length_set]; exact h.2)
  simp only [prgRestart]
  split <;> simp only [opAt_length, List.length_set] <;> assumption

theorem prgRatchet_WF2 (st : PrgSt) (h : st.WF2) : (prgRatchet F st).WF2 := by
  refine ⟨Cmd.run_WF F .ratchet trivial st h.1, ?_⟩
  simp only [prgRatchet, opAt_length]
  exact hF _ (by simp only [List.length_set]; exact h.2)

theorem prgStart_WF2 (l d : Nat) (A K : Bytes) (hl : l = 128 ∨ l = 192 ∨ l = 256) (hd : d = 1 ∨ d = 2)
    (ha : A.length ≤ 60) (hk : K.length ≤ 60) : (prgStart l d A K).WF2 := by
  refine ⟨prgStart_WF l d A K hl hd ha hk, ?_⟩
  simp only [prgStart, List.length_set, List.length_cons, List.length_append, zeros_length]
  omega

end cmds

/-- the one-shot commands (a single `…Step` call per command) -/
def Cmd.oneShot : Cmd → Prop
  | .absorbMore _ | .squeezeMore _ | .encrMore _ | .decrMore _ => False
  | _ => True

/-- the standard's command for a one-shot command of the code -/
def specRun : Cmd → Spec.PSt → Spec.PSt
  | .restart a k, s => Spec.restart F a k s
  | .absorb x, s => Spec.absorb F x s
  | .squeeze n, s => (Spec.squeeze F n s).1
  | .encr x, s => (Spec.encrypt F x s).1
  | .decr x, s => (Spec.decrypt F x s).1
  | .ratchet, s => Spec.ratchet F s
  | _, s => s

theorem Cmd.run_spec (hF : ∀ s : Bytes, s.length = 192 → (F s).length = 192) (c : Cmd) (hc : c.ok)
    (h1 : c.oneShot) (st : PrgSt) (h : st.WF2) :
    toSpec (c.run F st) = specRun F c (toSpec st) ∧ (c.run F st).WF2 := by
  cases c with
  | restart a k =>
    exact ⟨prgRestart_spec F hF a k st h hc.1 hc.2, prgRestart_WF2 F hF a k st h hc.1 hc.2⟩
  | absorb x => exact prgAbsorb_spec F hF x st h
  | squeeze n =>
    obtain ⟨a, b⟩ := prgSqueeze_spec F hF n st h
    exact ⟨(congrArg Prod.fst a), b⟩
  | encr x =>
    obtain ⟨a, b⟩ := prgEncr_spec F hF x st h
    exact ⟨(congrArg Prod.fst a), b⟩
  | decr x =>
    obtain ⟨a, b⟩ := prgDecr_spec F hF x st h
    exact ⟨(congrArg Prod.fst a), b⟩
  | ratchet => exact ⟨prgRatchet_spec F hF st h, prgRatchet_WF2 F hF st h⟩
  | absorbMore x => exact absurd h1 id
  | squeezeMore n => exact absurd h1 id
  | encrMore x => exact absurd h1 id
  | decrMore x => exact absurd h1 id

theorem runAll_spec (hF : ∀ s : Bytes, s.length = 192 → (F s).length = 192) :
    ∀ (h : List Cmd), (∀ c ∈ h, c.ok ∧ c.oneShot) → ∀ (st : PrgSt), st.WF2 →
      toSpec (runAll F h st) = h.foldl (fun s c => specRun F c s) (toSpec st) ∧ (runAll F h st).WF2 := by
  intro h
  induction h with
  | nil => intro _ st hw; exact ⟨rfl, hw⟩
  | cons c cs ih =>
    intro hok st hw
    obtain ⟨a, b⟩ := Cmd.run_spec F hF c (hok c List.mem_cons_self).1 (hok c List.mem_cons_self).2 st hw
    obtain ⟨i1, i2⟩ := ih (fun c' hc' => hok c' (List.mem_cons_of_mem _ hc')) _ b
    simp only [runAll, List.foldl_cons] at i1 i2 ⊢
    rw [i1, a]
    exact ⟨rfl, i2⟩

end Bee2V.C03
