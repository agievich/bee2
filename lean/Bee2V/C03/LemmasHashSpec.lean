import Bee2V.C03.LemmasSponge
import Bee2V.Base.Buffer
/-!
# bash hash of the code = the block-form algorithm of STB 34.101.77 (§7)
-/
namespace Bee2V.C03

namespace Spec
/-- absorb `n` whole `r`-octet blocks: `S ← F(X_i ‖ S[r..))` -/
def absorbBlocks (F : Bytes → Bytes) (r : Nat) : Nat → Bytes → Bytes → Bytes
  | 0, S, _ => S
  | n + 1, S, X => absorbBlocks F r n (F (X.take r ++ S.drop r)) (X.drop r)

/-- padding: `X ‖ 0x40 ‖ 0…0` up to the next multiple of `r` (at least one octet is added) -/
def pad (r : Nat) (X : Bytes) : Bytes := X ++ 0x40 :: zeros (r - 1 - X.length % r)

/-- bash-hash of level `l` (hash length `l/4` octets, rate `192 − l/2` octets) with sponge function `F` -/
def bashHash (F : Bytes → Bytes) (l : Nat) (X : Bytes) : Bytes :=
  let r := 192 - l / 2
  let S0 := (zeros 192).set 184 (UInt8.ofNat (l / 4))
  let P := pad r X
  (absorbBlocks F r (P.length / r) S0 P).take (l / 4)
end Spec

/-- the per-octet `memCopy/memXor2` loops over a segment = `zipWith` over the segment -/
theorem opAt_zip (op : OpB) (data : Bytes) : ∀ (s : Bytes) (pos : Nat), pos + data.length ≤ s.length →
    opAt op s pos data =
      (s.take pos ++ List.zipWith (fun b d => (op b d).1) (s.drop pos) data ++ s.drop (pos + data.length),
        List.zipWith (fun b d => (op b d).2) (s.drop pos) data) := by
  induction data with
  | nil => intro s pos _; simp [opAt]
  | cons d ds ih =>
    intro s pos h
    simp only [List.length_cons] at h
    have hp : pos < s.length := by omega
    have hd : s.drop pos = s[pos] :: s.drop (pos + 1) := List.drop_eq_getElem_cons hp
    have hg : s.getD pos 0 = s[pos] := by simp [List.getD_eq_getElem?_getD, hp]
    simp only [opAt]
    rw [ih _ _ (by simp only [List.length_set]; omega), hd, hg, List.take_set, List.drop_set, List.drop_set]
    rw [if_pos (by omega), if_pos (by omega)]
    have e2 : (List.take (pos + 1) s).set pos (op s[pos] d).1 = s.take pos ++ [(op s[pos] d).1] := by
      rw [List.take_succ_eq_append_getElem hp, List.set_append_right _ _ (by simp; omega)]
      simp [List.length_take, Nat.min_eq_left (Nat.le_of_lt hp)]
    rw [e2, List.length_cons, show pos + 1 + ds.length = pos + (ds.length + 1) by omega]
    simp only [List.zipWith_cons_cons, List.append_assoc, List.cons_append, List.nil_append]

theorem zipWith_fst (a b : Bytes) : List.zipWith (fun x _ => x) a b = a.take b.length := by
  induction a generalizing b with
  | nil => simp
  | cons x xs ih => cases b with
    | nil => simp
    | cons y ys => simp [ih]

theorem zipWith_snd (a b : Bytes) : List.zipWith (fun _ y => y) a b = b.take a.length :=
  List.zipWith_comm.trans (zipWith_fst b a)

theorem opAt_length (op : OpB) (data : Bytes) : ∀ (s : Bytes) (pos : Nat), (opAt op s pos data).1.length = s.length := by
  induction data with
  | nil => intro s pos; rfl
  | cons d ds ih => intro s pos; simp only [opAt, ih, List.length_set]

/-- `memCopy(s + pos, data, n)` at octet granularity is the splice -/
theorem opAt_copy (data : Bytes) (s : Bytes) (pos : Nat) (h : pos + data.length ≤ s.length) :
    (opAt copyOp s pos data).1 = s.take pos ++ data ++ s.drop (pos + data.length) := by
  rw [opAt_zip copyOp data s pos h]
  show _ ++ List.zipWith (fun _ d => d) (s.drop pos) data ++ _ = _
  rw [zipWith_snd, List.take_of_length_le (l := data) (by rw [List.length_drop]; omega)]

theorem opAt_copy_length (data s : Bytes) (pos : Nat) (h : pos + data.length ≤ s.length) :
    (opAt copyOp s pos data).1.length = s.length :=
  opAt_length copyOp data s pos


variable (F : Bytes → Bytes)

/-- the octet sponge over `n` whole blocks = `n` block steps of the standard -/
theorem fold_blocks (N : Nat) (hF : ∀ s : Bytes, s.length = N → (F s).length = N) (r : Nat) (hr : 0 < r) (hrN : r ≤ N) :
    ∀ (n : Nat) (S X : Bytes), S.length = N → r * n ≤ X.length →
      (foldBytes F copyOp (X.take (r * n)) ⟨S, r, 0⟩).1 = ⟨Spec.absorbBlocks F r n S X, r, 0⟩ ∧
      (Spec.absorbBlocks F r n S X).length = N := by
  intro n
  induction n with
  | zero => intro S X hS _; simp [foldBytes, Spec.absorbBlocks, hS]
  | succ n ih =>
    intro S X hS hX
    have hXr : r ≤ X.length := by rw [Nat.mul_succ] at hX; omega
    have hlen : (X.take r).length = r := by rw [List.length_take]; omega
    have hne : X.take r ≠ [] := by intro h; rw [h] at hlen; simp at hlen; omega
    have hsplit : X.take (r * (n + 1)) = X.take r ++ (X.drop r).take (r * n) := by
      rw [Nat.mul_succ, Nat.add_comm, List.take_add]
    have hcopy : (opAt copyOp S 0 (X.take r)).1 = X.take r ++ S.drop r := by
      rw [opAt_copy _ _ _ (by rw [hlen]; omega), hlen]; simp
    have hS' : (F (X.take r ++ S.drop r)).length = N := by
      apply hF; rw [List.length_append, hlen, List.length_drop]; omega
    have hX' : r * n ≤ (X.drop r).length := by
      rw [List.length_drop, Nat.mul_succ] at *; omega
    rw [hsplit, foldBytes_append, fold_complete F copyOp _ _ (by simp only [hlen]; omega) hne]
    simp only [hcopy, Spec.absorbBlocks]
    exact ih (F (X.take r ++ S.drop r)) (X.drop r) hS' hX'

theorem absorbBlocks_eq_chain (r : Nat) : ∀ (n : Nat) (S X : Bytes),
    Spec.absorbBlocks F r n S X = Buffer.chain (fun S b => F (b ++ S.drop r)) r n S X
  | 0, _, _ => rfl
  | n + 1, S, X => by rw [Spec.absorbBlocks, Buffer.chain, absorbBlocks_eq_chain r n]

/-- the block steps only read the first `r·n` octets -/
theorem absorbBlocks_append (r n : Nat) (S A B : Bytes) (h : r * n ≤ A.length) :
    Spec.absorbBlocks F r n S (A ++ B) = Spec.absorbBlocks F r n S A := by
  simp only [absorbBlocks_eq_chain, Buffer.chain_append_of_le _ _ _ _ _ _ h]

/-- unfolding the last block -/
theorem absorbBlocks_succ (r n : Nat) (S X : Bytes) :
    Spec.absorbBlocks F r (n + 1) S X
      = F ((X.drop (r * n)).take r ++ (Spec.absorbBlocks F r n S X).drop r) := by
  simp only [absorbBlocks_eq_chain, Buffer.chain_add]; rfl

/-- the last (padded) block as `bashHashStepG_internal` builds it in `s1` -/
theorem stepG_block (T Sn : Bytes) (r : Nat) (hT : T.length < r) (hS : r ≤ Sn.length) :
    ((opAt copyOp (T ++ Sn.drop T.length) T.length (zeros (r - T.length))).1).set T.length 0x40
      = T ++ 0x40 :: zeros (r - 1 - T.length) ++ Sn.drop r := by
  have hs : (T ++ Sn.drop T.length).length = Sn.length := by
    rw [List.length_append, List.length_drop]; omega
  rw [opAt_copy _ _ _ (by rw [zeros_length, hs]; omega), zeros_length, List.take_left' rfl,
    show T.length + (r - T.length) = r by omega]
  have hd : (T ++ Sn.drop T.length).drop r = Sn.drop r := by
    rw [show r = T.length + (r - T.length) by omega, ← List.drop_drop, List.drop_left' rfl, List.drop_drop,
      show T.length + (r - T.length) = r by omega]
  rw [hd, List.append_assoc, List.set_append_right _ _ (Nat.le_refl _), Nat.sub_self,
    show r - T.length = (r - 1 - T.length) + 1 by omega]
  simp [zeros, List.replicate_succ]

/-- **bash hash of the code = bash hash of the standard, every level, every data length** -/
theorem bashHash_spec (hF : ∀ s : Bytes, s.length = 192 → (F s).length = 192) (l : Nat) (hl : l ≤ 256) (X : Bytes) :
    hashStepG F (l / 4) (hashStepH F X (hashStart l)) = Spec.bashHash F l X := by
  have hr : 0 < 192 - l / 2 := by omega
  generalize hrdef : 192 - l / 2 = r at hr
  have hr192 : r ≤ 192 := by omega
  generalize hS0 : (zeros 192).set 184 (UInt8.ofNat (l / 4)) = S0
  have hS0len : S0.length = 192 := by rw [← hS0, List.length_set, zeros_length]
  have hst : hashStart l = ⟨S0, r, 0⟩ := by simp only [hashStart, hrdef, hS0]
  have hn : r * (X.length / r) ≤ X.length := Nat.mul_div_le _ _
  have hdm : r * (X.length / r) + X.length % r = X.length := Nat.div_add_mod _ _
  obtain ⟨hb1, hb2⟩ := fold_blocks F 192 hF r hr hr192 (X.length / r) S0 X hS0len hn
  generalize hSn : Spec.absorbBlocks F r (X.length / r) S0 X = Sn at hb1 hb2
  have hTlen : (X.drop (r * (X.length / r))).length = X.length % r := by rw [List.length_drop]; omega
  have hTlt : X.length % r < r := Nat.mod_lt _ hr
  generalize hT : X.drop (r * (X.length / r)) = T at hTlen
  -- the state after StepH
  have hstate : hashStepH F X (hashStart l) = ⟨T ++ Sn.drop T.length, r, T.length⟩ := by
    rw [hst, hashStepH, stepGen_eq_fold F copyOp X _ hr]
    conv => lhs; rw [← List.take_append_drop (r * (X.length / r)) X]
    rw [foldBytes_append, hb1, hT, fold_partial F copyOp T _ (by simp only; omega)]
    simp only [Nat.zero_add]
    rw [opAt_copy _ _ _ (by omega)]
    simp
  -- the standard's side
  have hPlen : (Spec.pad r X).length = r * (X.length / r + 1) := by
    simp only [Spec.pad, List.length_append, List.length_cons, zeros_length]
    rw [Nat.mul_succ]; omega
  have hspec : Spec.bashHash F l X
      = (F (T ++ 0x40 :: zeros (r - 1 - T.length) ++ Sn.drop r)).take (l / 4) := by
    simp only [Spec.bashHash, hrdef, hS0]
    rw [hPlen, Nat.mul_div_cancel_left _ hr, absorbBlocks_succ]
    have e1 : Spec.absorbBlocks F r (X.length / r) S0 (Spec.pad r X) = Sn := by
      rw [Spec.pad, absorbBlocks_append F r _ _ _ _ hn, hSn]
    have e2 : (Spec.pad r X).drop (r * (X.length / r)) = T ++ 0x40 :: zeros (r - 1 - T.length) := by
      rw [Spec.pad, List.drop_append_of_le_length hn, hT, hTlen]
    have e3 : (T ++ 0x40 :: zeros (r - 1 - T.length)).length = r := by
      simp only [List.length_append, List.length_cons, zeros_length]; omega
    have e4 : (T ++ 0x40 :: zeros (r - 1 - T.length)).take r = T ++ 0x40 :: zeros (r - 1 - T.length) :=
      List.take_of_length_le (by rw [e3]; exact Nat.le_refl _)
    rw [e1, e2, e4]
  rw [hspec, hstate]
  simp only [hashStepG]
  by_cases h0 : T.length = 0
  · have hnil : T = [] := List.length_eq_zero_iff.mp h0
    have := stepG_block [] Sn r (by simpa using hr) (by omega)
    simp only [List.length_nil, List.drop_zero, List.nil_append, Nat.sub_zero] at this
    subst hnil
    simp only [List.length_nil, ne_eq, not_true_eq_false, if_false, List.nil_append, List.drop_zero,
      Nat.sub_zero, this]
  · simp only [ne_eq, h0, not_false_eq_true, if_true]
    rw [stepG_block T Sn r (by omega) (by omega)]


theorem sum_const8 {α : Type} (l : List α) : (l.map (fun _ => 8)).sum = 8 * l.length := by
  induction l with
  | nil => rfl
  | cons a l ih => simp only [List.map_cons, List.sum_cons, ih, List.length_cons]; omega

theorem bashF_length (b : Bytes) : (bashF b).length = 192 := by
  simp only [bashF, ofWords, storeU64, List.length_flatMap, List.length_map, List.length_range]
  rw [sum_const8, Vector.length_toList]

end Bee2V.C03
