import Bee2V.C03.LemmasCtr
import Bee2V.C03.LemmasReader
import Bee2V.C03.SpecBrng
/-!
# The request loops of brng.c (`reserved` bookkeeping) = the standard's generators + the header's buffering rule

brng-ctr (the request's octets are additional input of the blocks): the three cases of `brngCTRStepR` against
`Spec.ctrServe` directly.  brng-hmac (no input): `brngHMACStepR` is the skeleton `gStep` of LemmasReader.lean, which
refines the serve rule, and the serve rule over the standard's step is `Spec.hmacServe`.
-/
namespace Bee2V.C03
open Bee2V.Proto

/-- invariant of `brng_ctr_st` -/
structure CtrSt.Inv (key : Bytes) (st : CtrSt) : Prop where
  mem : st.mem.length = 64
  block : st.block.length = 32
  res : st.reserved < 32
  key : st.keySt = Belt.hashStepH key Belt.hashStart

/-- abstraction: the variables of the standard and the unread tail of the last block -/
def CtrSt.g (st : CtrSt) : Spec.G := ⟨st.s, st.r⟩
def CtrSt.tail (st : CtrSt) : Bytes := st.block.drop (32 - st.reserved)

theorem CtrSt.s_len {st : CtrSt} (h : st.mem.length = 64) : st.s.length = 32 := by
  simp [CtrSt.s, h]
theorem CtrSt.r_len {st : CtrSt} (h : st.mem.length = 64) : st.r.length = 32 := by
  simp [CtrSt.r, h]
theorem CtrSt.mem_eq {st : CtrSt} (h : st.mem.length = 64) : st.mem = st.s ++ st.r := by
  simp only [CtrSt.s, CtrSt.r]
  have e : (st.mem.drop 32).take 32 = st.mem.drop 32 :=
    List.take_of_length_le (by rw [List.length_drop, h]; decide)
  rw [e, List.take_append_drop]

theorem xorBytes_length (a b : Bytes) : (xorBytes a b).length = min a.length b.length := by
  simp [xorBytes]

/-- one block of the code = one step of the standard (state level) -/
theorem ctrNext_step (wb : Nat) (hwb : wb = 8 ∨ wb = 4) (key : Bytes) (st : CtrSt) (hi : st.Inv key)
    (xs : List Bytes) (X : Bytes) (hX : xs.flatten = X) :
    let q := Spec.ctrStep key st.g X
    ctrNext wb st xs = ({ st with mem := q.1.s ++ q.1.r }, q.2) ∧
      ({ st with mem := q.1.s ++ q.1.r } : CtrSt).Inv key ∧
      ({ st with mem := q.1.s ++ q.1.r } : CtrSt).g = q.1 ∧ q.2.length = 32 := by
  subst hX
  intro q
  have hs := CtrSt.s_len hi.mem
  have hr := CtrSt.r_len hi.mem
  have h8 : (0 < wb) ∧ wb ∣ 32 := by rcases hwb with h | h <;> subst h <;> exact ⟨by decide, by decide⟩
  have h := ctrNext_spec wb h8.1 h8.2 key st.s st.r hs hr xs st (CtrSt.mem_eq hi.mem) hi.key
  have hY : q.2.length = 32 := Belt.hash_length _
  have hqs : q.1.s.length = 32 := natLE_length _ _
  have hqr : q.1.r.length = 32 := by
    show (List.zipWith _ st.r (Belt.hash _)).length = 32
    simp [hr, Belt.hash_length]
  refine ⟨h, ⟨by simp [hqs, hqr], hi.block, hi.res, hi.key⟩, ?_, hY⟩
  simp only [CtrSt.g, CtrSt.s, CtrSt.r]
  rw [List.take_left' hqs, List.drop_left' hqs, List.take_of_length_le (by omega)]

theorem pad32_full (x : Bytes) (h : x.length = 32) : Spec.pad32 x = x := by
  simp [Spec.pad32, h, zeros]

theorem ctrGen_ge (wb : Nat) (st : CtrSt) (buf : Bytes) (h : 32 ≤ buf.length) :
    ctrGen wb st buf =
      ((ctrGen wb (ctrNext wb st [buf.take 32]).1 (buf.drop 32)).1,
        (ctrNext wb st [buf.take 32]).2 ++ (ctrGen wb (ctrNext wb st [buf.take 32]).1 (buf.drop 32)).2) := by
  unfold ctrGen
  rw [ctrFull, dif_pos h]
  dsimp only
  split
  · rw [List.append_assoc]
  · rfl

theorem ctrGen_lt (wb : Nat) (st : CtrSt) (buf : Bytes) (h : buf.length < 32) :
    ctrGen wb st buf =
      if buf.length ≠ 0 then
        ({ (ctrNext wb st [buf, zeros (32 - buf.length)]).1 with
            block := (ctrNext wb st [buf, zeros (32 - buf.length)]).2, reserved := 32 - buf.length },
          (ctrNext wb st [buf, zeros (32 - buf.length)]).2.take buf.length)
      else (st, []) := by
  unfold ctrGen
  rw [ctrFull, dif_neg (by omega)]
  rfl

theorem CtrSt.tail_len {key : Bytes} {st : CtrSt} (hi : st.Inv key) : st.tail.length = st.reserved := by
  have := hi.res
  simp only [CtrSt.tail, List.length_drop, hi.block]; omega

theorem ctrGenN_one (key : Bytes) (g : Spec.G) (x : Bytes) :
    Spec.ctrGenN key 1 g x = Spec.ctrStep key g (Spec.pad32 (x.take 32)) := by
  simp only [Spec.ctrGenN, List.append_nil]

/-- `brngCTRStepR` once the reserve is used up: ⌈|buf|/32⌉ steps of the standard, the last block is kept
(induction along the code's loop: a full block, then the rest of the buffer) -/
theorem ctrGen_spec (wb : Nat) (hwb : wb = 8 ∨ wb = 4) (key : Bytes) :
    ∀ (n : Nat) (st : CtrSt) (buf : Bytes), buf.length / 32 = n → st.Inv key → st.reserved = 0 →
    (ctrGen wb st buf).2 = (Spec.ctrGenN key ((buf.length + 31) / 32) st.g buf).2.take buf.length ∧
      (ctrGen wb st buf).1.Inv key ∧
      (ctrGen wb st buf).1.g = (Spec.ctrGenN key ((buf.length + 31) / 32) st.g buf).1 ∧
      (ctrGen wb st buf).1.tail = (Spec.ctrGenN key ((buf.length + 31) / 32) st.g buf).2.drop buf.length := by
  intro n
  induction n with
  | zero =>
    intro st buf hn hi h0
    rw [ctrGen_lt wb st buf (by omega)]
    by_cases hb : buf.length = 0
    · rw [if_neg (by omega), hb]
      exact ⟨rfl, hi, rfl, List.length_eq_zero_iff.mp (by rw [CtrSt.tail_len hi, h0])⟩
    · obtain ⟨n1, n2, n3, n4⟩ :=
        ctrNext_step wb hwb key st hi [buf, zeros (32 - buf.length)] (Spec.pad32 buf) (by simp [Spec.pad32])
      have hN : (buf.length + 31) / 32 = 1 := by omega
      have htake : buf.take 32 = buf := List.take_of_length_le (by omega)
      rw [if_pos hb, hN, ctrGenN_one, htake, n1]
      refine ⟨rfl, ⟨n2.mem, n4, by simp only; omega, n2.key⟩, n3, ?_⟩
      simp only [CtrSt.tail]
      congr 1; omega
  | succ n ih =>
    intro st buf hn hi h0
    obtain ⟨n1, n2, n3, n4⟩ := ctrNext_step wb hwb key st hi [buf.take 32] (buf.take 32) (by simp)
    obtain ⟨i1, i2, i3, i4⟩ := ih _ (buf.drop 32) (by rw [List.length_drop]; omega) n2 h0
    have ht : (buf.take 32).length = 32 := by rw [List.length_take]; omega
    have hN : (buf.length + 31) / 32 = ((buf.drop 32).length + 31) / 32 + 1 := by rw [List.length_drop]; omega
    have hl : buf.length = (Spec.ctrStep key st.g (buf.take 32)).2.length + (buf.drop 32).length := by
      rw [n4, List.length_drop]; omega
    rw [ctrGen_ge wb st buf (by omega), hN, Spec.ctrGenN, pad32_full _ ht, n1, i1, i3, i4, n3, hl]
    exact ⟨(List.take_length_add_append _).symm, i2, rfl, (List.drop_length_add_append _).symm⟩

theorem ctrServe_le (key : Bytes) (g : Spec.G) (tail buf : Bytes) (h : buf.length ≤ tail.length) :
    Spec.ctrServe key g tail buf = (g, tail.drop buf.length, tail.take buf.length, []) := by
  unfold Spec.ctrServe; rw [if_pos h]

/-- the generating branch; with an empty tail it also covers the empty request (zero steps) -/
theorem ctrServe_gt (key : Bytes) (g : Spec.G) (tail buf : Bytes) (h : tail.length < buf.length ∨ tail = []) :
    Spec.ctrServe key g tail buf =
      ((Spec.ctrGenN key (((buf.drop tail.length).length + 31) / 32) g (buf.drop tail.length)).1,
        (Spec.ctrGenN key (((buf.drop tail.length).length + 31) / 32) g (buf.drop tail.length)).2.drop
          (buf.drop tail.length).length,
        tail ++ (Spec.ctrGenN key (((buf.drop tail.length).length + 31) / 32) g (buf.drop tail.length)).2.take
          (buf.drop tail.length).length,
        (Spec.ctrGenN key (((buf.drop tail.length).length + 31) / 32) g (buf.drop tail.length)).2) := by
  unfold Spec.ctrServe
  split
  · next hle =>
    obtain rfl : tail = [] := h.resolve_left (by omega)
    obtain rfl : buf = [] := List.length_eq_zero_iff.mp (Nat.le_zero.mp hle)
    rfl
  · rfl

/-- **`brngCTRStepR` = the buffering rule of the header on top of the standard's steps**, any request, any state -/
theorem ctrStepR_spec (wb : Nat) (hwb : wb = 8 ∨ wb = 4) (key : Bytes) (st : CtrSt) (buf : Bytes)
    (hi : st.Inv key) :
    (ctrStepR wb buf st).2 = (Spec.ctrServe key st.g st.tail buf).2.2.1 ∧ (ctrStepR wb buf st).1.Inv key ∧
      (ctrStepR wb buf st).1.g = (Spec.ctrServe key st.g st.tail buf).1 ∧
      (ctrStepR wb buf st).1.tail = (Spec.ctrServe key st.g st.tail buf).2.1 := by
  have htl := CtrSt.tail_len hi
  have hres := hi.res
  by_cases hr0 : st.reserved = 0
  · -- nothing in reserve
    have ht : st.tail = [] := List.length_eq_zero_iff.mp (by rw [htl, hr0])
    have hm : ctrStepR wb buf st = ctrGen wb st buf := by
      simp only [ctrStepR, hr0, ne_eq, not_true_eq_false, if_false]
    obtain ⟨g1, g2, g3, g4⟩ := ctrGen_spec wb hwb key _ st buf rfl hi hr0
    rw [hm, ht, ctrServe_gt key st.g [] buf (Or.inr rfl)]
    simp only [List.length_nil, List.drop_zero, List.nil_append]
    exact ⟨g1, g2, g3, g4⟩
  · by_cases hge : st.reserved ≥ buf.length
    · -- served from the reserve
      have hm : ctrStepR wb buf st =
          ({ st with reserved := st.reserved - buf.length }, (st.block.drop (32 - st.reserved)).take buf.length) := by
        simp only [ctrStepR, ne_eq, hr0, not_false_eq_true, if_true, hge]
      have hle : buf.length ≤ st.tail.length := by omega
      rw [hm, ctrServe_le key st.g st.tail buf hle]
      refine ⟨rfl, ⟨hi.mem, hi.block, by simp only; omega, hi.key⟩, rfl, ?_⟩
      simp only [CtrSt.tail, List.drop_drop]
      congr 1; omega
    · -- reserve, then new blocks
      have hm : ctrStepR wb buf st =
          ((ctrGen wb { st with reserved := 0 } (buf.drop st.reserved)).1,
            (st.block.drop (32 - st.reserved)).take st.reserved ++
              (ctrGen wb { st with reserved := 0 } (buf.drop st.reserved)).2) := by
        simp only [ctrStepR, ne_eq, hr0, not_false_eq_true, if_true, hge, if_false]
      have hi0 : ({ st with reserved := 0 } : CtrSt).Inv key := ⟨hi.mem, hi.block, Nat.zero_lt_succ _, hi.key⟩
      obtain ⟨g1, g2, g3, g4⟩ := ctrGen_spec wb hwb key _ _ (buf.drop st.reserved) rfl hi0 rfl
      have hfull : (st.block.drop (32 - st.reserved)).take st.reserved = st.tail :=
        List.take_of_length_le (Nat.le_of_eq htl)
      rw [hm, hfull, ctrServe_gt key st.g st.tail buf (Or.inl (by omega)), htl]
      exact ⟨by rw [g1]; rfl, g2, g3, g4⟩

/-- the code run over a list of requests -/
def ctrRun (wb : Nat) : List Bytes → CtrSt → CtrSt × List Bytes
  | [], st => (st, [])
  | b :: bs, st =>
    let a := ctrStepR wb b st
    let c := ctrRun wb bs a.1
    (c.1, a.2 :: c.2)

theorem ctrRun_spec (wb : Nat) (hwb : wb = 8 ∨ wb = 4) (key : Bytes) :
    ∀ (bufs : List Bytes) (st : CtrSt), st.Inv key →
      (ctrRun wb bufs st).2 = (Spec.ctrServeAll key st.g st.tail bufs).2.2.1 ∧
      (ctrRun wb bufs st).1.g = (Spec.ctrServeAll key st.g st.tail bufs).1 := by
  intro bufs
  induction bufs with
  | nil => intro st _; exact ⟨rfl, rfl⟩
  | cons b bs ih =>
    intro st hi
    obtain ⟨s1, s2, s3, s4⟩ := ctrStepR_spec wb hwb key st b hi
    obtain ⟨i1, i2⟩ := ih _ s2
    simp only [ctrRun, Spec.ctrServeAll]
    rw [i1, i2, s1, s3, s4]
    exact ⟨rfl, rfl⟩

theorem ctrStart_inv (key iv : Bytes) (hiv : iv.length = 32) :
    (ctrStart key iv).Inv key ∧ (ctrStart key iv).g = Spec.ctrInit iv ∧ (ctrStart key iv).tail = [] := by
  refine ⟨⟨by simp [ctrStart, hiv], by simp [ctrStart, zeros], by simp [ctrStart], rfl⟩, ?_, ?_⟩
  · simp only [CtrSt.g, CtrSt.s, CtrSt.r, ctrStart, Spec.ctrInit]
    rw [List.take_left' hiv, List.drop_left' hiv, List.take_of_length_le (by simp [hiv])]
  · simp [CtrSt.tail, ctrStart, zeros]

/-- spec-level sanity: what has been returned so far plus the unread tail is exactly what was generated -/
theorem ctrServeAll_prefix (key : Bytes) : ∀ (bufs : List Bytes) (g : Spec.G) (tail : Bytes),
    (Spec.ctrServeAll key g tail bufs).2.2.1.flatten ++ (Spec.ctrServeAll key g tail bufs).2.1
      = tail ++ (Spec.ctrServeAll key g tail bufs).2.2.2 := by
  intro bufs
  induction bufs with
  | nil => intro g tail; simp [Spec.ctrServeAll]
  | cons b bs ih =>
    intro g tail
    simp only [Spec.ctrServeAll, List.flatten_cons, List.append_assoc]
    rw [ih]
    simp only [Spec.ctrServe]
    split
    · simp only [← List.append_assoc, List.take_append_drop, List.append_nil]
    · simp only [← List.append_assoc]
      simp only [List.append_assoc, List.take_append_drop]


/-! ## brng HMAC -/

end Bee2V.C03
namespace Bee2V.C10.Brng
open Bee2V

/-- the part of `brng_hmac_st` that drives generation: `iv`, `r`, the keyed HMAC state -/
abbrev HCore := Bytes × Bytes × C03.Belt.HmacSt

/-- `r ← hmac(key, r)`, `Y ← hmac(key, r_old ‖ iv)` -/
def nxH (c : HCore) : HCore × Bytes :=
  ((c.1, C03.Belt.hmacStepG (C03.Belt.hmacStepA c.2.1 c.2.2), c.2.2),
   C03.Belt.hmacStepG (C03.Belt.hmacStepA c.1 (C03.Belt.hmacStepA c.2.1 c.2.2)))

theorem nxH_len (c : HCore) : (nxH c).2.length = 32 := C03.Belt.hmacStepG_length _

def toGh (st : C03.HmacGenSt) : G HCore := ⟨(st.iv, st.r, st.keySt), st.block, st.reserved⟩
def ofGh (g : G HCore) : C03.HmacGenSt := ⟨g.core.1, g.core.2.1, g.block, g.reserved, g.core.2.2⟩

theorem ofGh_toGh (st : C03.HmacGenSt) : ofGh (toGh st) = st := by cases st; rfl
theorem toGh_ofGh (g : G HCore) : toGh (ofGh g) = g := by
  rcases g with ⟨⟨a, b, c⟩, d, e⟩; rfl

theorem hmacGenNext_eq (g : G HCore) :
    C03.hmacGenNext (ofGh g) = (ofGh ⟨(nxH g.core).1, g.block, g.reserved⟩, (nxH g.core).2) := rfl

theorem hmacGenFull_eq (n : Nat) : ∀ g : G HCore,
    C03.hmacGenFull (ofGh g) n = (ofGh ⟨(gFull nxH g.core n).1, g.block, g.reserved⟩, (gFull nxH g.core n).2) := by
  induction n with
  | zero => intro g; rfl
  | succ n ih =>
    intro g
    simp only [C03.hmacGenFull, hmacGenNext_eq, ih, gFull]

theorem hmacGenGen_eq (g : G HCore) (c : Nat) :
    C03.hmacGenGen (ofGh g) c = (ofGh (gGen nxH g c).1, (gGen nxH g c).2) := by
  simp only [C03.hmacGenGen, hmacGenFull_eq, hmacGenNext_eq, gGen]
  by_cases h : c % 32 = 0
  · simp only [h, ne_eq, not_true_eq_false, if_false]
  · simp only [h, ne_eq, not_false_eq_true, if_true]
    rfl

theorem hmacGenStepR_eq (c : Nat) (g : G HCore) :
    C03.hmacGenStepR c (ofGh g) = (ofGh (gStep nxH c g).1, (gStep nxH c g).2) := by
  have e0 : ({ ofGh g with reserved := 0 } : C03.HmacGenSt) = ofGh ⟨g.core, g.block, 0⟩ := rfl
  unfold C03.hmacGenStepR gStep
  rw [e0, hmacGenGen_eq, hmacGenGen_eq]
  by_cases h0 : g.reserved = 0
  · have : (ofGh g).reserved = 0 := h0
    simp only [this, h0, ne_eq, not_true_eq_false, if_false]
  · have hr : (ofGh g).reserved = g.reserved := rfl
    simp only [hr, h0, ne_eq, not_false_eq_true, if_true]
    by_cases h : g.reserved ≥ c
    · simp only [h, if_true]; rfl
    · simp only [h, if_false]; rfl

end Bee2V.C10.Brng
namespace Bee2V.C03
open Bee2V.Proto Bee2V.C10.Brng

structure HmacGenSt.Inv (key : Bytes) (st : HmacGenSt) : Prop where
  block : st.block.length = 32
  res : st.reserved < 32
  key : st.keySt = Belt.hmacStart key

def HmacGenSt.tail (st : HmacGenSt) : Bytes := st.block.drop (32 - st.reserved)

/-- one block: the code reuses the incremental HMAC state (`StepA(r); StepG → r'; StepA(iv); StepG → Y`),
which is `r' = hmac(K, r)`, `Y = hmac(K, r ‖ iv)` -/
theorem nxH_spec (key iv r : Bytes) :
    nxH (iv, r, Belt.hmacStart key) =
      ((iv, (Spec.hmacStep key iv r).1, Belt.hmacStart key), (Spec.hmacStep key iv r).2) := by
  simp only [nxH, Spec.hmacStep, Belt.hmac]
  rw [Belt.hmacStepA_append _ (Belt.hmacStart_WF key)]

theorem gFull_nxH (key iv : Bytes) : ∀ (n : Nat) (r : Bytes),
    gFull nxH (iv, r, Belt.hmacStart key) n =
      ((iv, (Spec.hmacGenN key iv n r).1, Belt.hmacStart key), (Spec.hmacGenN key iv n r).2)
  | 0, _ => rfl
  | n + 1, r => by simp only [gFull, nxH_spec, gFull_nxH key iv n, Spec.hmacGenN]

theorem serve_nxH (key iv r tail : Bytes) (n : Nat) :
    serve nxH ((iv, r, Belt.hmacStart key), tail) n =
      (((iv, (Spec.hmacServe key iv r tail n).1, Belt.hmacStart key), (Spec.hmacServe key iv r tail n).2.1),
        (Spec.hmacServe key iv r tail n).2.2.1) := by
  simp only [serve, gFull_nxH, Spec.hmacServe]
  split
  · next h =>
    simp only [show (n - tail.length + 31) / 32 = 0 by omega, Spec.hmacGenN, List.append_nil]
  · next h =>
    have e : n = tail.length + (n - tail.length) := by omega
    rw [take_app _ _ n _ e, drop_app _ _ n _ e]

/-- **`brngHMACStepR` = the buffering rule on top of the standard's brng-hmac steps** -/
theorem hmacGenStepR_spec (key : Bytes) (st : HmacGenSt) (count : Nat) (hi : st.Inv key) :
    (hmacGenStepR count st).2 = (Spec.hmacServe key st.iv st.r st.tail count).2.2.1 ∧
      (hmacGenStepR count st).1.Inv key ∧ (hmacGenStepR count st).1.iv = st.iv ∧
      (hmacGenStepR count st).1.r = (Spec.hmacServe key st.iv st.r st.tail count).1 ∧
      (hmacGenStepR count st).1.tail = (Spec.hmacServe key st.iv st.r st.tail count).2.1 := by
  have hg : GInv (toGh st) := ⟨Nat.le_of_lt hi.res, hi.block⟩
  have hg' := gStep_inv nxH nxH_len count (toGh st) hg
  have e := gStep_abs nxH nxH_len (toGh st) hg count
  have hs : hmacGenStepR count st = (ofGh (gStep nxH count (toGh st)).1, (gStep nxH count (toGh st)).2) := by
    rw [← hmacGenStepR_eq, ofGh_toGh]
  have ha : (toGh st).abs = ((st.iv, st.r, Belt.hmacStart key), st.tail) := by
    simp only [G.abs, toGh, HmacGenSt.tail, hi.key]
  rw [ha, serve_nxH, Prod.ext_iff, Prod.ext_iff] at e
  obtain ⟨⟨e1, e2⟩, e3⟩ := e
  have hl : (gStep nxH count (toGh st)).1.reserved < 32 := by
    have h1 : (gStep nxH count (toGh st)).1.abs.2.length = (serve nxH (toGh st).abs count).1.2.length :=
      congrArg (fun x => x.1.2.length) (gStep_abs nxH nxH_len (toGh st) hg count)
    rw [abs_length _ hg'] at h1
    rw [h1]
    exact serve_tail_lt nxH nxH_len _ (by rw [abs_length _ hg]; exact hi.res) count
  rw [hs]
  refine ⟨e3, ⟨hg'.2, hl, ?_⟩, ?_, ?_, e2⟩
  · exact congrArg (·.2.2) e1
  · exact congrArg (·.1) e1
  · exact congrArg (·.2.1) e1

def hmacGenRun : List Nat → HmacGenSt → HmacGenSt × List Bytes
  | [], st => (st, [])
  | n :: ns, st =>
    let a := hmacGenStepR n st
    let c := hmacGenRun ns a.1
    (c.1, a.2 :: c.2)

theorem hmacGenRun_spec (key : Bytes) : ∀ (ns : List Nat) (st : HmacGenSt), st.Inv key →
    (hmacGenRun ns st).2 = (Spec.hmacServeAll key st.iv st.r st.tail ns).2.2.1 := by
  intro ns
  induction ns with
  | nil => intro st _; rfl
  | cons n ns ih =>
    intro st hi
    obtain ⟨s1, s2, s3, s4, s5⟩ := hmacGenStepR_spec key st n hi
    simp only [hmacGenRun, Spec.hmacServeAll]
    rw [ih _ s2, s1, s3, s4, s5]

theorem hmacGenStart_inv (key iv : Bytes) :
    (hmacGenStart key iv).Inv key ∧ (hmacGenStart key iv).iv = iv ∧
      (hmacGenStart key iv).r = Spec.hmacInit key iv ∧ (hmacGenStart key iv).tail = [] := by
  refine ⟨⟨by simp [hmacGenStart, zeros], by simp [hmacGenStart], rfl⟩, rfl, rfl, ?_⟩
  simp [HmacGenSt.tail, hmacGenStart, zeros]

end Bee2V.C03
