/-
The buffering of the brng generators (`brngCTRStepR`, `brngHMACStepR`) over a block function `nx`.  `gStep` has the
shape of the code; all a caller can see of its state is `G.abs` = (`core`, unread tail of `block`), and on that pair
a request is the serve rule of brng.h, `serve`: no case distinction, chunk law `serve_add`.  `gStep_abs`: the code
refines it.  Names in `Bee2V.C10.Brng`: C10 states its session theorems over them.  No Mathlib.
-/
import Bee2V.C10.Defs
namespace Bee2V.C10.Brng

/-- generator state: `core` drives generation; `block[32 - reserved ..]` is generated but not yet returned -/
structure G (κ : Type) where
  core : κ
  block : Bytes
  reserved : Nat

section skeleton
variable {κ : Type} (nx : κ → κ × Bytes)

/-- `n` blocks straight to the caller -/
def gFull : κ → Nat → κ × Bytes
  | c, 0 => (c, [])
  | c, n + 1 => ((gFull (nx c).1 n).1, (nx c).2 ++ (gFull (nx c).1 n).2)

/-- the part of StepR after the reserve has been used up -/
def gGen (s : G κ) (count : Nat) : G κ × Bytes :=
  if count % 32 ≠ 0 then
    (⟨(nx (gFull nx s.core (count / 32)).1).1, (nx (gFull nx s.core (count / 32)).1).2, 32 - count % 32⟩,
     (gFull nx s.core (count / 32)).2 ++ (nx (gFull nx s.core (count / 32)).1).2.take (count % 32))
  else (⟨(gFull nx s.core (count / 32)).1, s.block, s.reserved⟩, (gFull nx s.core (count / 32)).2)

/-- StepR(count) -/
def gStep (count : Nat) (s : G κ) : G κ × Bytes :=
  if s.reserved ≠ 0 then
    if s.reserved ≥ count then
      (⟨s.core, s.block, s.reserved - count⟩, (s.block.drop (32 - s.reserved)).take count)
    else
      ((gGen nx ⟨s.core, s.block, 0⟩ (count - s.reserved)).1,
       (s.block.drop (32 - s.reserved)).take s.reserved ++ (gGen nx ⟨s.core, s.block, 0⟩ (count - s.reserved)).2)
  else gGen nx s count

/-- a session of requests: final state and the list of returned buffers -/
def gRun : G κ → List Nat → G κ × List Bytes
  | s, [] => (s, [])
  | s, n :: ns => ((gRun (gStep nx n s).1 ns).1, (gStep nx n s).2 :: (gRun (gStep nx n s).1 ns).2)

/-- invariant of the state -/
def GInv (s : G κ) : Prop := s.reserved ≤ 32 ∧ s.block.length = 32

/-- equal up to the already returned (scratch) part of `block` -/
def GEqv (s t : G κ) : Prop :=
  s.core = t.core ∧ s.reserved = t.reserved ∧ s.block.drop (32 - s.reserved) = t.block.drop (32 - t.reserved)

def G.abs (s : G κ) : κ × Bytes := (s.core, s.block.drop (32 - s.reserved))

/-- the block count is 0 while the tail suffices, so no `if` is needed -/
def serve (s : κ × Bytes) (n : Nat) : (κ × Bytes) × Bytes :=
  let q := gFull nx s.1 ((n - s.2.length + 31) / 32)
  ((q.1, (s.2 ++ q.2).drop n), (s.2 ++ q.2).take n)

theorem gFull_add (c : κ) (a b : Nat) :
    gFull nx c (a + b) = ((gFull nx (gFull nx c a).1 b).1, (gFull nx c a).2 ++ (gFull nx (gFull nx c a).1 b).2) := by
  induction a generalizing c with
  | zero => simp only [Nat.zero_add, gFull, List.nil_append]
  | succ a ih =>
    rw [Nat.succ_add]
    simp only [gFull, ih, List.append_assoc]

theorem gFull_succ (c : κ) (n : Nat) :
    gFull nx c (n + 1) = ((nx (gFull nx c n).1).1, (gFull nx c n).2 ++ (nx (gFull nx c n).1).2) := by
  rw [gFull_add]; simp only [gFull, List.append_nil]

theorem serve_zero (s : κ × Bytes) : serve nx s 0 = (s, []) := by
  simp [serve, gFull]

theorem abs_of_gEqv {s t : G κ} (h : GEqv s t) : s.abs = t.abs := Prod.ext h.1 h.2.2

theorem gEqv_of_abs {s t : G κ} (hs : GInv s) (ht : GInv t) (h : s.abs = t.abs) : GEqv s t := by
  have h2 : s.block.drop (32 - s.reserved) = t.block.drop (32 - t.reserved) := congrArg Prod.snd h
  have l := congrArg List.length h2
  simp only [List.length_drop, hs.2, ht.2] at l
  exact ⟨congrArg Prod.fst h, by have := hs.1; have := ht.1; omega, h2⟩

theorem take_app (x y : Bytes) (c r : Nat) (h : c = x.length + r) : (x ++ y).take c = x ++ y.take r := by
  subst h; exact List.take_length_add_append ..
theorem drop_app (x y : Bytes) (c r : Nat) (h : c = x.length + r) : (x ++ y).drop c = y.drop r := by
  subst h; exact List.drop_length_add_append ..

end skeleton

section skeleton2
variable {κ : Type} (nx : κ → κ × Bytes) (hlen : ∀ c, (nx c).2.length = 32)
include hlen

theorem gFull_length (n : Nat) : ∀ c, (gFull nx c n).2.length = 32 * n := by
  induction n with
  | zero => intro c; rfl
  | succ n ih => intro c; simp only [gFull, List.length_append, hlen, ih]; omega

omit hlen in
theorem abs_length (s : G κ) (hi : GInv s) : s.abs.2.length = s.reserved := by
  simp only [G.abs, List.length_drop, hi.2]; have := hi.1; omega

theorem serve_tail_lt (s : κ × Bytes) (h : s.2.length < 32) (n : Nat) : (serve nx s n).1.2.length < 32 := by
  have l := gFull_length nx hlen ((n - s.2.length + 31) / 32) s.1
  simp only [serve, List.length_drop, List.length_append, l]; omega

theorem gGen_inv (s : G κ) (hi : GInv s) (c : Nat) : GInv (gGen nx s c).1 := by
  unfold gGen
  split
  · exact ⟨Nat.sub_le _ _, hlen _⟩
  · exact hi

theorem gStep_inv (c : Nat) (s : G κ) (hi : GInv s) : GInv (gStep nx c s).1 := by
  unfold gStep
  split
  · split
    · exact ⟨Nat.le_trans (Nat.sub_le _ _) hi.1, hi.2⟩
    · exact gGen_inv nx hlen ⟨s.core, s.block, 0⟩ ⟨Nat.zero_le _, hi.2⟩ _
  · exact gGen_inv nx hlen s hi _

/-- `hk`: the blocks the second request adds are those the whole request needs beyond the first one's -/
theorem serve_add (s : κ × Bytes) (m n : Nat) :
    serve nx s (m + n) = ((serve nx (serve nx s m).1 n).1, (serve nx s m).2 ++ (serve nx (serve nx s m).1 n).2) := by
  have l1 := gFull_length nx hlen ((m - s.2.length + 31) / 32) s.1
  have hm : m ≤ (s.2 ++ (gFull nx s.1 ((m - s.2.length + 31) / 32)).2).length := by
    rw [List.length_append, l1]; omega
  have hk : (m + n - s.2.length + 31) / 32 = (m - s.2.length + 31) / 32 +
      (n - ((s.2 ++ (gFull nx s.1 ((m - s.2.length + 31) / 32)).2).drop m).length + 31) / 32 := by
    rw [List.length_drop, List.length_append, l1]; omega
  simp only [serve]
  rw [hk, gFull_add, ← List.append_assoc, List.take_add, List.take_append_of_le_length hm, ← List.drop_drop,
    List.drop_append_of_le_length hm]

theorem gGen_abs (s : G κ) (hb : s.block.length = 32) (h0 : s.reserved = 0) (c : Nat) :
    ((gGen nx s c).1.abs, (gGen nx s c).2) = serve nx (s.core, []) c := by
  have l := gFull_length nx hlen (c / 32) s.core
  simp only [serve, List.length_nil, Nat.sub_zero, List.nil_append]
  unfold gGen
  by_cases h : c % 32 = 0
  · -- whole blocks only: `block` is not touched, nothing of it is unread
    have e : (c + 31) / 32 = c / 32 := by omega
    have hc : (gFull nx s.core (c / 32)).2.length = c := by omega
    rw [if_neg (by omega), e, List.take_of_length_le (Nat.le_of_eq hc), List.drop_eq_nil_of_le (Nat.le_of_eq hc)]
    simp only [G.abs, h0, Nat.sub_zero, List.drop_eq_nil_of_le (Nat.le_of_eq hb)]
  · have e : (c + 31) / 32 = c / 32 + 1 := by omega
    have hc : c = (gFull nx s.core (c / 32)).2.length + c % 32 := by omega
    rw [if_pos h, e, gFull_succ, take_app _ _ c _ hc, drop_app _ _ c _ hc]
    simp only [G.abs, show 32 - (32 - c % 32) = c % 32 by omega]

theorem gStep_abs (s : G κ) (hi : GInv s) (c : Nat) :
    ((gStep nx c s).1.abs, (gStep nx c s).2) = serve nx s.abs c := by
  obtain ⟨hr, hb⟩ := hi
  have ht : (s.block.drop (32 - s.reserved)).length = s.reserved := by rw [List.length_drop, hb]; omega
  unfold gStep
  by_cases h0 : s.reserved = 0
  · rw [if_neg (by omega), gGen_abs nx hlen s hb h0]
    simp only [G.abs, h0, Nat.sub_zero, List.drop_eq_nil_of_le (Nat.le_of_eq hb)]
  · rw [if_pos h0]
    by_cases hc : s.reserved ≥ c
    · rw [if_pos hc]
      simp only [serve, G.abs, ht, show (c - s.reserved + 31) / 32 = 0 by omega, gFull, List.append_nil,
        List.drop_drop, show 32 - (s.reserved - c) = 32 - s.reserved + c by omega]
    · have g := gGen_abs nx hlen ⟨s.core, s.block, 0⟩ hb rfl (c - s.reserved)
      have hsp : c = (s.block.drop (32 - s.reserved)).length + (c - s.reserved) := by omega
      rw [if_neg hc, List.take_of_length_le (Nat.le_of_eq ht)]
      simp only [serve, List.length_nil, Nat.sub_zero, List.nil_append, Prod.ext_iff] at g
      simp only [serve, G.abs, ht, take_app _ _ c _ hsp, drop_app _ _ c _ hsp]
      rw [← g.1.1, ← g.1.2, ← g.2]
      rfl

/-- equivalent states answer alike and stay equivalent: the answer is a function of `abs` -/
theorem gStep_congr (s t : G κ) (hs : GInv s) (ht : GInv t) (he : GEqv s t) (c : Nat) :
    (gStep nx c s).2 = (gStep nx c t).2 ∧ GEqv (gStep nx c s).1 (gStep nx c t).1 := by
  have a := gStep_abs nx hlen s hs c
  rw [abs_of_gEqv he, ← gStep_abs nx hlen t ht c] at a
  exact ⟨(Prod.ext_iff.mp a).2, gEqv_of_abs (gStep_inv nx hlen c s hs) (gStep_inv nx hlen c t ht) (Prod.ext_iff.mp a).1⟩

/-- equivalent states: all later answers agree -/
theorem gRun_congr : ∀ (ns : List Nat) (s t : G κ), GInv s → GInv t → GEqv s t →
    (gRun nx s ns).2 = (gRun nx t ns).2 := by
  intro ns
  induction ns with
  | nil => intros; rfl
  | cons n ns ih =>
    intro s t hs ht he
    obtain ⟨c1, c2⟩ := gStep_congr nx hlen s t hs ht he n
    simp only [gRun, c1, ih _ _ (gStep_inv nx hlen n s hs) (gStep_inv nx hlen n t ht) c2]

end skeleton2
end Bee2V.C10.Brng
