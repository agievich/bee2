import Bee2V.C03.Brng
import Bee2V.Base.Bytes
/-!
# brngBlockInc: `s ← s + 1 mod 2^256`, nothing outside the 32-octet block is touched — for every word size
-/
namespace Bee2V.C03
open Bee2V.Proto

theorem natLE_zero (n : Nat) : natLE n 0 = zeros n := Proto.natLE_zero n

theorem loadW_mid (wb i : Nat) (A B1 R : Bytes) (hA : A.length = wb * i) (hB : B1.length = wb) :
    loadW wb (A ++ B1 ++ R) i = leNat B1 := by
  unfold loadW
  rw [List.append_assoc, List.drop_left' hA, List.take_left' hB]

theorem storeW_mid (wb i v : Nat) (A B1 R : Bytes) (hA : A.length = wb * i) (hB : B1.length = wb) :
    storeW wb (A ++ B1 ++ R) i v = A ++ natLE wb v ++ R := by
  unfold storeW
  have h2 : (A ++ B1).length = wb * i + wb := by simp [hA, hB]
  rw [List.drop_left' h2, List.append_assoc A B1 R, List.take_left' hA, List.append_assoc]

/-- the word loop started at word `i` increments the number held in the remaining `m` words modulo
`256^(wb·m)` and touches nothing else -/
theorem incFrom_spec (wb : Nat) (hwb : 0 < wb) :
    ∀ (m i : Nat) (A B C : Bytes), i + m = 32 / wb → 0 < m → A.length = wb * i → B.length = wb * m →
      blockIncFrom wb (A ++ B ++ C) i = A ++ natLE (wb * m) ((leNat B + 1) % 256 ^ (wb * m)) ++ C := by
  intro m
  induction m with
  | zero => intro i A B C _ h; omega
  | succ m ih =>
    intro i A B C him _ hA hB
    have hB1 : (B.take wb).length = wb := by
      rw [List.length_take, hB, Nat.mul_succ]; omega
    have hB2 : (B.drop wb).length = wb * m := by
      rw [List.length_drop, hB, Nat.mul_succ]; omega
    have hsplit : B = B.take wb ++ B.drop wb := (List.take_append_drop _ _).symm
    have hmem : A ++ B ++ C = A ++ B.take wb ++ (B.drop wb ++ C) := by
      rw [List.append_assoc A (B.take wb), ← List.append_assoc (B.take wb), List.take_append_drop,
        List.append_assoc]
    have hlt := leNat_lt (B.take wb)
    rw [hB1] at hlt
    have hval : leNat B = leNat (B.take wb) + 256 ^ wb * leNat (B.drop wb) := by
      have := leNat_append (B.take wb) (B.drop wb)
      rw [List.take_append_drop, hB1] at this
      exact this
    have hpow : 256 ^ (wb * (m + 1)) = 256 ^ wb * 256 ^ (wb * m) := by
      rw [Nat.mul_succ, Nat.add_comm, Nat.pow_add]
    have hlt2 := leNat_lt (B.drop wb)
    rw [hB2] at hlt2
    have hP : 0 < 256 ^ wb := Nat.pow_pos (by decide)
    rw [blockIncFrom, hmem, loadW_mid wb i A _ _ hA hB1, storeW_mid wb i _ A _ _ hA hB1]
    rw [Nat.pow_mul, show (2 : Nat) ^ 8 = 256 by rfl]  -- 2^(8wb) = 256^wb
    rw [show wb * (m + 1) = wb + wb * m by rw [Nat.mul_succ, Nat.add_comm], natLE_add]
    split
    · -- the word wrapped and there is a next word
      rename_i hc
      obtain ⟨hv, hnext⟩ := hc
      have hm : 0 < m := by omega
      have hfull : leNat (B.take wb) + 1 = 256 ^ wb := by
        rcases Nat.dvd_of_mod_eq_zero hv with ⟨k, hk⟩  -- (x+1) % P = 0, x < P
        have hk1 : k = 1 := by
          rcases k with _ | _ | k
          · omega
          · rfl
          · rw [Nat.mul_add, Nat.mul_add] at hk; omega
        rw [hk1] at hk; omega
      have hA' : (A ++ natLE wb 0).length = wb * (i + 1) := by
        rw [List.length_append, natLE_length, hA, Nat.mul_succ]
      rw [hv]
      have e := ih (i + 1) (A ++ natLE wb 0) (B.drop wb) C (by omega) hm hA' hB2
      rw [show A ++ natLE wb 0 ++ (B.drop wb ++ C) = A ++ natLE wb 0 ++ B.drop wb ++ C by simp [List.append_assoc], e]
      have hsum : leNat B + 1 = 0 + 256 ^ wb * (leNat (B.drop wb) + 1) := by
        rw [hval, Nat.mul_add]; omega
      have hmod : (leNat B + 1) % (256 ^ wb * 256 ^ (wb * m))
          = 0 + 256 ^ wb * ((leNat (B.drop wb) + 1) % 256 ^ (wb * m)) := by
        rw [hsum, Nat.zero_add, Nat.zero_add, Nat.mul_mod_mul_left]
      rw [Nat.pow_add, hmod, natLE_add_mul, Nat.zero_add, Nat.mul_div_cancel_left _ hP]
      simp [List.append_assoc]
    · rename_i hc
      by_cases hv : (leNat (B.take wb) + 1) % 256 ^ wb = 0
      · -- wrapped in the last word
        have hm : m = 0 := by
          rcases Nat.eq_zero_or_pos m with h0 | hpos
          · exact h0
          · exact absurd ⟨hv, by omega⟩ hc
        subst hm
        have hnil : B.drop wb = [] := List.length_eq_zero_iff.mp (by rw [hB2, Nat.mul_zero])
        have hB' : leNat B = leNat (B.take wb) := by rw [hval, hnil]; simp [leNat]
        simp only [Nat.mul_zero, Nat.pow_zero, Nat.mul_one, Nat.add_zero, natLE, List.append_nil, hnil,
          List.nil_append, hB', hv]
      · have hsmall : leNat (B.take wb) + 1 < 256 ^ wb := by
          rcases Nat.lt_or_ge (leNat (B.take wb) + 1) (256 ^ wb) with h | h
          · exact h
          · have : leNat (B.take wb) + 1 = 256 ^ wb := by omega
            rw [this, Nat.mod_self] at hv; exact absurd rfl hv
        rw [Nat.mod_eq_of_lt hsmall]
        have hsum : leNat B + 1 = (leNat (B.take wb) + 1) + 256 ^ wb * leNat (B.drop wb) := by
          rw [hval]; omega
        have hlt3 : leNat B + 1 < 256 ^ wb * 256 ^ (wb * m) := by
          rw [hsum]
          have h1 : 256 ^ wb * (leNat (B.drop wb) + 1) ≤ 256 ^ wb * 256 ^ (wb * m) := Nat.mul_le_mul_left _ hlt2
          rw [Nat.mul_add] at h1
          omega
        rw [Nat.pow_add, Nat.mod_eq_of_lt hlt3, hsum, natLE_add_mul]
        have hdiv : (leNat (B.take wb) + 1 + 256 ^ wb * leNat (B.drop wb)) / 256 ^ wb = leNat (B.drop wb) := by
          rw [Nat.add_mul_div_left _ _ hP, Nat.div_eq_of_lt hsmall, Nat.zero_add]
        rw [hdiv]
        have := natLE_leNat (B.drop wb)
        rw [hB2] at this
        rw [this]
        simp [List.append_assoc]

end Bee2V.C03
