import Bee2V.C03.LemmasBrng
import Bee2V.C03.BeltLemmas
/-! # brngCTR block step = the standard's step -/
namespace Bee2V.C03
open Bee2V.Proto

/-- `brngBlockInc` on a memory `s ‖ rest`: `s ← s + 1 mod 2^256`, `rest` untouched; any word size dividing 32 -/
theorem blockInc_spec (wb : Nat) (hwb : 0 < wb) (hdiv : wb ∣ 32) (s rest : Bytes) (hs : s.length = 32) :
    blockInc wb (s ++ rest) = natLE 32 ((leNat s + 1) % 2 ^ 256) ++ rest := by
  have hmul : wb * (32 / wb) = 32 := Nat.mul_div_cancel' hdiv
  have hpos : 0 < 32 / wb := by
    rcases Nat.eq_zero_or_pos (32 / wb) with h | h
    · rw [h] at hmul; omega
    · exact h
  have h := incFrom_spec wb hwb (32 / wb) 0 [] s rest (by omega) hpos (by simp) (by rw [hmul, hs])
  simp only [List.nil_append, hmul] at h
  rw [blockInc, h, show (256 : Nat) ^ 32 = 2 ^ 256 by rfl]

theorem foldl_hashStepH (xs : List Bytes) (h : Belt.HashSt) (hw : h.WF) :
    xs.foldl (fun h x => Belt.hashStepH x h) h = Belt.hashStepH xs.flatten h := by
  induction xs generalizing h with
  | nil => simp [Belt.hashStepH_nil h hw]
  | cons x xs ih =>
    simp only [List.foldl_cons, List.flatten_cons]
    rw [ih _ (Belt.hashStepH_WF x h hw), Belt.hashStepH_append h hw]

/-- **one CTR block of brng.c = one step of STB 34.101.47**:
`Y = belt-hash(key ‖ s ‖ X ‖ r)`, `s ← s ⊞ 1 (mod 2^256)`, `r ← r ⊕ Y` — for every `s` (including `2^256 − 1`
and every carry pattern) and both word sizes; `xs` are the chunks in which the code feeds `X`. -/
theorem ctrNext_spec (wb : Nat) (hwb : 0 < wb) (hdiv : wb ∣ 32) (key s r : Bytes) (hs : s.length = 32)
    (hr : r.length = 32) (xs : List Bytes) (st : CtrSt) (hmem : st.mem = s ++ r)
    (hkey : st.keySt = Belt.hashStepH key Belt.hashStart) :
    let Y := Belt.hash (key ++ s ++ xs.flatten ++ r)
    ctrNext wb st xs = ({ st with mem := natLE 32 ((leNat s + 1) % 2 ^ 256) ++ xorBytes r Y }, Y) := by
  intro Y
  have es : st.s = s := by simp [CtrSt.s, hmem, ← hs]
  have er : st.r = r := by
    simp only [CtrSt.r, hmem]
    rw [List.drop_left' hs, ← hr, List.take_length]
  have w0 := Belt.hashStart_WF
  have w1 := Belt.hashStepH_WF key _ w0
  have w2 := Belt.hashStepH_WF s _ w1
  have w3 := Belt.hashStepH_WF xs.flatten _ w2
  have eY : Belt.hashStepG (Belt.hashStepH st.r (xs.foldl (fun h x => Belt.hashStepH x h)
      (Belt.hashStepH st.s st.keySt))) = Y := by
    rw [es, er, hkey, foldl_hashStepH _ _ w2, Belt.hashStepH_append _ w0, Belt.hashStepH_append _ w0,
      Belt.hashStepH_append _ w0]
    rfl
  simp only [ctrNext, eY]
  rw [hmem, blockInc_spec wb hwb hdiv s r hs]
  have hl : (natLE 32 ((leNat s + 1) % 2 ^ 256)).length = 32 := natLE_length _ _
  rw [List.take_left' hl, List.drop_left' hl]
  have e64 : List.drop 64 (natLE 32 ((leNat s + 1) % 2 ^ 256) ++ r) = [] := by
    apply List.drop_eq_nil_of_le; simp [hl, hr]
  rw [e64, ← hr, List.take_length, List.append_nil]

end Bee2V.C03
