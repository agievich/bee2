/-
C09 — error contract: failed allocations yield errors, not damage; no unauthenticated output.

Property theorems about the control-flow skeletons (`Bee2V.Gen.CfgAll`, regenerated from the
sources).  The per-function obligations (`allocFailSafe cfg_f = true`, `releaseSafe d cfg_f =
true`, and the argument-contract theorems `contract_f`) are in `Bee2V/Gen/C09Obl.lean`.

* `allocFailSafe_sound` — on EVERY path: a blob whose allocation failed is never used before it
  is re-assigned (`NoNullUse`); and if some blobCreate/blobResize on the path returned 0
  (`IsAllocFailure`: events allocFail, resizeFail, resizeKeep, and calleeFail = an allocating
  err_t callee whose result the code discards) then the
  function returns a value known to differ from ERR_OK and every blob it did obtain has been
  closed (`ClosesAll`: nothing is left allocated).
* `verifyFirst_sound` — on every path that calls a verification routine (MAC / key-token
  check), at every write to the designated output the authentication automaton `vstate` of the
  trace so far is `passed`: the most recent verification call precedes the write, its RESULT has been
  tested (directly, or through `code` with no assignment in between) and the test said success.
* `errorSticky_sound` — on every path: after `code` has been assigned an error constant or tested `!= ERR_OK`,
  it is never assigned ERR_OK or a fresh value again and no output is written (memSetZero / memWipe excepted).
* `classes_complete` — the class constants seen on any path are among the syntactic `Cfg.classes`.
* `releaseSafe_sound` — on every path that does not return a value known to be ERR_OK, every
  write to the designated output is followed by a zeroisation of it (in particular: paths that
  fail before the first write never touch it).
-/
import Bee2V.C15.Trace
namespace Bee2V.C09
open Bee2V.C15

/-- **Soundness of `allocFailSafe`.** -/
theorem allocFailSafe_sound (c : Cfg) (h : allocFailSafe c = true) :
    ∀ (tr : List Ev) (s' : St) (r : CS), Exec c St.init tr s' (.ret r) →
      NoNullUse tr ∧
      ((∃ e ∈ tr, IsAllocFailure e) → r = .bad ∧ ClosesAll tr) := by
  intro tr s' r hx
  have hp := rets_all h hx
  simp only [Bool.not_eq_true', Bool.or_eq_true, Bool.and_eq_true, decide_eq_true_eq] at hp
  refine ⟨noNullUse_of_fold tr St.init hp.1, ?_⟩
  intro hv
  have hfail := failed_of_mem tr St.init hv
  rcases hp.2 with h0 | ⟨⟨h1, h2⟩, h3⟩
  · rw [hfail] at h0; cases h0
  · exact ⟨h1, closesAll_of_fold tr St.init h2 h3⟩

/-- **Soundness of `releaseSafe`.** -/
theorem releaseSafe_sound (d : Nat) (c : Cfg) (h : releaseSafe d c = true) :
    ∀ (tr : List Ev) (s' : St) (r : CS), Exec c St.init tr s' (.ret r) → r ≠ .ok →
      CleanOutput d tr := by
  intro tr s' r hx hr
  have hp := rets_all h hx
  simp only [Bool.or_eq_true, decide_eq_true_eq, Bool.not_eq_true'] at hp
  rcases hp with h0 | h0
  · exact absurd h0 hr
  · exact cleanOutput_of_fold d tr St.init h0

/-- **Soundness of `verifyFirst`.** -/
theorem verifyFirst_sound (d : Nat) (c : Cfg) (h : verifyFirst d c = true) :
    ∀ (tr : List Ev) (s' : St) (r : CS), Exec c St.init tr s' (.ret r) → VerifyFirst d tr := by
  intro tr s' r hx
  have hp := rets_all h hx
  simp only [Bool.or_eq_true, Bool.not_eq_true', decide_eq_true_eq] at hp
  exact verifyFirst_of_fold d tr hp

/-- **Soundness of `errorSticky`.** -/
theorem errorSticky_sound (c : Cfg) (h : errorSticky c = true) :
    ∀ (tr : List Ev) (s' : St) (r : CS), Exec c St.init tr s' (.ret r) → ErrorSticky tr := by
  intro tr s' r hx
  have hp := rets_all h hx
  simp only [Bool.and_eq_true, Bool.not_eq_true'] at hp
  exact errorSticky_of_fold tr St.init hp.1 hp.2

/-- Every error-class constant that a path returns or assigns to `code` (event `cls n`) occurs
syntactically in the skeleton: `Cfg.classes` over-approximates what the function can produce by
itself, which is what the `class_<f>_<E>` obligations (documented class E is producible) rely on. -/
theorem classes_complete (c : Cfg) (s s' : St) (tr : List Ev) (o : Out) (hx : Exec c s tr s' o) :
    ∀ n, Ev.cls n ∈ tr → n ∈ c.classes := by
  intro n hn
  rcases exec_events hx _ hn with h | ⟨x, h⟩
  · simp only [Cfg.classes, List.mem_filterMap]
    exact ⟨_, h, rfl⟩
  · cases h

/-! non-vacuity: small skeletons on which the checkers say yes / no -/

/-- allocation failure handled: `if (state == 0) return ERR_OUTOFMEMORY;` -/
example : allocFailSafe (Cfg.seqs [.alloc 0, .ifnull 0 (.ret (.err 110)) .skip, .atom [.use 0], .atom [.close 0], .ret .ok]) = true := by decide
/-- null check missing -/
example : allocFailSafe (Cfg.seqs [.alloc 0, .atom [.use 0], .atom [.close 0], .ret .ok]) = false := by decide
/-- second allocation fails, first blob not closed -/
example : allocFailSafe (Cfg.seqs [.alloc 0, .ifnull 0 (.ret (.err 110)) .skip, .alloc 1,
    .ifnull 1 (.ret (.err 110)) .skip, .atom [.close 1], .atom [.close 0], .ret .ok]) = false := by decide
/-- `M = blobResize(M, n)` failing loses the old block -/
example : allocFailSafe (Cfg.seqs [.atom [.setnull 0], .loop (Cfg.seqs [.resize 0, .ifnull 0 (.ret (.err 110)) .skip]),
    .atom [.close 0], .ret .ok]) = false := by decide
/-- the result of an allocating err_t callee is discarded -/
example : allocFailSafe (Cfg.seqs [.atom [.call 0, .calleeFail 0], .ret .ok]) = false := by decide
/-- a recorded error is overwritten by a later `code = cond ? ERR_OK : ERR_X` / an output is written after it /
the usual `code = ERR_X; … zeroise; return code` is fine -/
example : errorSticky (Cfg.seqs [.ite 0 (.atom [.code .bad]) .skip, .atom [.code .unk], .ret .code]) = false := by decide
example : errorSticky (Cfg.seqs [.ite 0 (.atom [.code .bad]) .skip, .atom [.wr 0], .ret .code]) = false := by decide
example : errorSticky (Cfg.seqs [.atom [.wr 0], .ite 0 (Cfg.seqs [.atom [.zero 0], .atom [.code .bad]]) .skip, .ret .code]) = true := by decide
/-- verify, then write (DWP shape) / write, verify, zeroise on failure (KWP shape) / no zeroisation -/
example : releaseSafe 0 (Cfg.seqs [.ite 0 (.ret (.err 511)) .skip, .atom [.wr 0], .ret .ok]) = true := by decide
example : releaseSafe 0 (Cfg.seqs [.atom [.wr 0], .ite 0 (Cfg.seqs [.atom [.zero 0], .ret (.err 513)]) .skip, .ret .ok]) = true := by decide
example : releaseSafe 0 (Cfg.seqs [.atom [.wr 0], .ite 0 (.ret (.err 513)) .skip, .ret .ok]) = false := by decide
/-- verification first / write before the verification call -/
example : verifyFirst 0 (Cfg.seqs [.atom [.call 0], .atom [.vcall true], .ifcode (.ret .code) .skip, .atom [.wr 0], .ret .ok]) = true := by decide
example : verifyFirst 0 (Cfg.seqs [.atom [.wr 0], .atom [.call 0], .atom [.vcall true], .ifcode (.ret .code) .skip, .ret .ok]) = false := by decide
/-- the result of the verification call is NOT tested before the write / is overwritten first -/
example : verifyFirst 0 (Cfg.seqs [.atom [.call 0], .atom [.vcall true], .atom [.wr 0], .ifcode (.ret .code) .skip, .ret .ok]) = false := by decide
example : verifyFirst 0 (Cfg.seqs [.atom [.call 0], .atom [.vcall true], .atom [.code .unk], .ifcode (.ret .code) .skip, .atom [.wr 0], .ret .ok]) = false := by decide
/-- boolean verifier tested at once: `if (!V(..)) return ERR_BAD_MAC;` then write -/
example : verifyFirst 0 (Cfg.seqs [.atom [.vcall false], .ite 0 (Cfg.seqs [.atom [.vres false], .ret (.err 511)]) (.atom [.vres true]), .atom [.wr 0], .ret .ok]) = true := by decide
/-- the write sits in the arm taken when the verifier said NO -/
example : verifyFirst 0 (Cfg.seqs [.atom [.vcall false], .ite 0 (Cfg.seqs [.atom [.vres false], .atom [.wr 0], .ret (.err 511)]) (.atom [.vres true]), .ret .ok]) = false := by decide
example : vstate [.vcall true, .test .ok] = .passed ∧ vstate [.vcall true, .code .ok, .test .ok] = .failed ∧
    vstate [.vcall false, .vres true, .vcall false] = .pending := by decide
/-- the hypotheses of the theorems are satisfiable by a path with a failed allocation -/
example : Exec (Cfg.seqs [.alloc 0, .ifnull 0 (.ret (.err 110)) .skip, .atom [.close 0], .ret .ok])
    St.init [.allocFail 0] (St.init.apply (.allocFail 0)) (.ret .bad) := by
  have h1 : Exec (Cfg.alloc 0) St.init [.allocFail 0] (St.init.apply (.allocFail 0)) .norm := Exec.atom (by simp)
  have h2 : Exec (.ifnull 0 (.ret (.err 110)) .skip) (St.init.apply (.allocFail 0)) [] (St.init.apply (.allocFail 0)) (.ret .bad) :=
    Exec.ifnullT (by decide) Exec.ret
  exact Exec.seqN h1 (Exec.seqX (b := Cfg.seqs [.atom [.close 0], .ret .ok]) h2 (by simp))

end Bee2V.C09
