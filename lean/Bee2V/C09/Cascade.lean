/-
C09 — a header documents, per error class, the condition under which that class is NOT returned; `firstViol` returns the
class of the first such condition that is violated.  `Gen/C09Obl.lean` shows per function that the code's cascade
`check_f` is `firstViol` over the documented conditions (`agree_f`, by `cascade_cons`).  No Mathlib.
-/
namespace Bee2V.C09

open Classical in
/-- The conditions are the `dom_f_k` of `Gen/C09Checks.lean`, `Prop`s without a `Decidable` instance of their own, hence
the classical `if`; what is executed (driver, sweeps) is `check_f`. -/
noncomputable def firstViol : List (Nat × Prop) → Option Nat
  | [] => none
  | (k, D) :: l => if D then firstViol l else some k

variable {k : Nat} {D A B : Prop} {l : List (Nat × Prop)} {r t : Option Nat}

theorem firstViol_nil : firstViol [] = none := rfl

theorem firstViol_cons [Decidable D] : firstViol ((k, D) :: l) = if ¬ D then some k else firstViol l := by
  by_cases h : D <;> simp [firstViol, h]

/-- one line `if c then return k` of the code, where `c` is the negation of the documented condition -/
theorem cascade_cons {c : Prop} [Decidable c] (h : c ↔ ¬ D) (ht : t = firstViol l) :
    (if c then some k else t) = firstViol ((k, D) :: l) := by
  by_cases hD : D <;> simp [firstViol, hD, h, ht]

theorem ite_ite_same {c d : Prop} [Decidable c] [Decidable d] :
    (if c then some k else if d then some k else t) = if c ∨ d then some k else t := by
  by_cases c <;> by_cases d <;> simp [*]

/-- how `order_f` compares `check_f` (one condition per class) with the header's listing (item by item) -/
theorem ite_not_and [Decidable A] [Decidable B] :
    (if ¬ (A ∧ B) then some k else t) = if ¬ A then some k else if ¬ B then some k else t := by
  by_cases A <;> by_cases B <;> simp [*]

theorem firstViol_one_none (h : r = firstViol [(k, D)]) (hD : D) : r = none := by
  rw [h, firstViol, if_pos hD, firstViol]

theorem firstViol_one_some (h : r = firstViol [(k, D)]) (hD : ¬ D) : r = some k ∧ ¬ D := by
  rw [h, firstViol, if_neg hD]; exact ⟨rfl, hD⟩

end Bee2V.C09
