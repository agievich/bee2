/-
C20 — PIN/CAN/PUK automaton.  Property theorems only.

The model `Bee2V.Gen.Pwd.step` is REGENERATED from
src/crypto/btok/btok_pwd.c:btokPwdTransition on every run (xlate/x_pwd.py), so
everything below is re-checked by the kernel against what the code says now.
All rules are stated over *all finite event lists* (events are arbitrary
naturals; values that are not events are rejected by the code and the model).
-/
import Bee2V.Gen.Pwd

namespace Bee2V.C20
open Bee2V.Gen.Pwd

/-! ### Runs -/

def accepted (s : St) (e : Nat) : Bool := (step s e).1
def next (s : St) (e : Nat) : St := (step s e).2

def run (s : St) : List Nat → St
  | [] => s
  | e :: es => run (next s e) es

/-- enum-valid state -/
abbrev Valid (s : St) : Prop := s.pin < pinCount ∧ s.auth < authCount
/-- start of a session: any persistent PIN state, no authentication -/
abbrev Init (s : St) : Prop := Valid s ∧ s.auth = c_auth_none
/-- reachability invariant: PIN authentication is only held in `pin3` -/
abbrev Inv (s : St) : Prop := s.auth = c_auth_pin → s.pin = c_pin3

theorem step_not_event (s : St) (e : Nat) (h : eventCount ≤ e) : step s e = (false, s) := by
  have h : 9 ≤ e := h
  unfold step
  iterate 9 rw [if_neg (by omega)]

/-- `P` on the whole table of enum-valid states and events -/
def onTable (P : St → Nat → Bool) : Bool :=
  (List.range pinCount).all fun p => (List.range authCount).all fun a => (List.range eventCount).all fun e => P ⟨p, a⟩ e

/-- lifts a fact evaluated on the table to all valid states and all naturals as events; `hbad` is
the fact for a value that is not an event, which `step` rejects without a change -/
theorem table_lift {P : St → Nat → Prop} [∀ s e, Decidable (P s e)]
    (htab : onTable (fun s e => decide (P s e)) = true)
    (hbad : ∀ s e, eventCount ≤ e → accepted s e = false → next s e = s → P s e)
    (s : St) (hv : Valid s) (e : Nat) : P s e := by
  by_cases he : e < eventCount
  · simp only [onTable, List.all_eq_true, List.mem_range, decide_eq_true_eq] at htab
    exact htab s.pin hv.1 s.auth hv.2 e he
  · have hb := step_not_event s e (by omega)
    exact hbad s e (by omega) (by rw [accepted, hb]) (by rw [next, hb])

/-! ### Rule 6: rejected events leave the state unchanged -/

theorem reject_unchanged (s : St) (hv : Valid s) (e : Nat) :
    accepted s e = false → next s e = s :=
  table_lift (P := fun s e => accepted s e = false → next s e = s) (by decide +kernel)
    (fun _ _ _ _ hn _ => hn) s hv e

/-! ### Closure: valid states stay valid; the invariant is preserved -/

theorem valid_next (s : St) (hv : Valid s) (e : Nat) : Valid (next s e) :=
  table_lift (P := fun s e => Valid s → Valid (next s e)) (by decide +kernel)
    (fun _ _ _ _ hn h => hn.symm ▸ h) s hv e hv

theorem valid_run (s : St) (hv : Valid s) (es : List Nat) : Valid (run s es) := by
  induction es generalizing s with
  | nil => exact hv
  | cons e es ih => exact ih _ (valid_next s hv e)

theorem inv_next (s : St) (hv : Valid s) (hi : Inv s) (e : Nat) : Inv (next s e) :=
  table_lift (P := fun s e => Inv s → Inv (next s e)) (by decide +kernel)
    (fun _ _ _ _ hn h => hn.symm ▸ h) s hv e hi

theorem init_inv (s : St) (h : Init s) : Inv s := by
  intro ha; have := h.2; rw [this] at ha; exact absurd ha (by decide)

theorem inv_run (s : St) (hv : Valid s) (hi : Inv s) (es : List Nat) : Inv (run s es) := by
  induction es generalizing s with
  | nil => exact hi
  | cons e es ih => exact ih _ (valid_next s hv e) (inv_next s hv hi e)

/-! ### Rule 1: at most three consecutive wrong PINs, then blocked -/

/-- PIN attempts left in a PIN state -/
def left (p : Nat) : Nat :=
  if p = c_pin3 then 3 else if p = c_pin2 then 2 else if p = c_pins ∨ p = c_pin1 then 1 else 0

/-- accepted event that may legitimately restore attempts: correct PIN, correct PUK, activation (needs PUK auth) -/
def isReset (s : St) (e : Nat) : Bool :=
  accepted s e && (e == c_pin_ok || e == c_puk_ok || e == c_pin_activate)

def badCount (s : St) : List Nat → Nat
  | [] => 0
  | e :: es => (if e = c_pin_bad ∧ accepted s e = true then 1 else 0) + badCount (next s e) es

def noReset (s : St) : List Nat → Prop
  | [] => True
  | e :: es => isReset s e = false ∧ noReset (next s e) es

instance noResetDec : (s : St) → (es : List Nat) → Decidable (noReset s es)
  | _, [] => isTrue trivial
  | s, e :: es => by
    unfold noReset
    exact @instDecidableAnd _ _ _ (noResetDec (next s e) es)

theorem strike_step (s : St) (hv : Valid s) (e : Nat) (h : isReset s e = false) :
    (if e = c_pin_bad ∧ accepted s e = true then 1 else 0) + left (next s e).pin ≤ left s.pin :=
  table_lift (P := fun s e => isReset s e = false →
      (if e = c_pin_bad ∧ accepted s e = true then 1 else 0) + left (next s e).pin ≤ left s.pin)
    (by decide +kernel) (fun s e _ ha hn _ => by simp [ha, hn]) s hv e h

/-- **Rule 1.** In every window of a history that contains no accepted correct-PIN /
correct-PUK / activation event, the number of accepted wrong PINs plus the attempts
still left never exceeds the attempts left at the start of the window. -/
theorem three_strikes (s : St) (hv : Valid s) (es : List Nat) (h : noReset s es) :
    badCount s es + left (run s es).pin ≤ left s.pin := by
  induction es generalizing s with
  | nil => simp [badCount, run]
  | cons e es ih =>
    have h1 := strike_step s hv e h.1
    have h2 := ih (next s e) (valid_next s hv e) h.2
    simp only [badCount, run]
    omega

theorem left_le_three (p : Nat) : left p ≤ 3 := by unfold left; split <;> (try split) <;> (try split) <;> omega

/-- never more than three accepted wrong PINs in such a window … -/
theorem three_strikes_count (s : St) (hv : Valid s) (es : List Nat) (h : noReset s es) :
    badCount s es ≤ 3 := by
  have := three_strikes s hv es h; have := left_le_three s.pin; omega

/-- … and after the third no attempts are left: -/
theorem three_strikes_blocked (s : St) (hv : Valid s) (es : List Nat) (h : noReset s es)
    (h3 : badCount s es = 3) : left (run s es).pin = 0 := by
  have := three_strikes s hv es h; have := left_le_three s.pin; omega

/-- with no attempts left both a wrong and a correct PIN are refused (PIN blocked or deactivated) -/
theorem no_attempt_refused (s : St) (hv : Valid s) (h : left s.pin = 0) :
    accepted s c_pin_bad = false ∧ accepted s c_pin_ok = false :=
  (show ∀ p < pinCount, ∀ a < authCount, left p = 0 →
      accepted ⟨p, a⟩ c_pin_bad = false ∧ accepted ⟨p, a⟩ c_pin_ok = false by decide +kernel)
    s.pin hv.1 s.auth hv.2 h

theorem left_zero_tab : ∀ p < pinCount, left p = 0 → (p ≤ c_pin0 ∨ p = c_pind) := by decide

/-! ### Rule 2: a correct CAN is demanded between the second and the last PIN attempt -/

theorem second_bad_suspends_tab : ∀ a < authCount,
    accepted ⟨c_pin2, a⟩ c_pin_bad = true ∧ (next ⟨c_pin2, a⟩ c_pin_bad).pin = c_pins := by decide

/-- the last-attempt state is entered only from the suspended state and only by a correct CAN -/
theorem enter_pin1 (s : St) (hv : Valid s) (e : Nat)
    (h : (next s e).pin = c_pin1) (hne : s.pin ≠ c_pin1) : s.pin = c_pins ∧ e = c_can_ok :=
  table_lift (P := fun s e => (next s e).pin = c_pin1 → s.pin ≠ c_pin1 → s.pin = c_pins ∧ e = c_can_ok)
    (by decide +kernel) (fun s e _ _ hn h1 h2 => absurd (hn ▸ h1) h2) s hv e h hne

def pinAttempts (s : St) : List Nat → Nat
  | [] => 0
  | e :: es => (if (e = c_pin_ok ∨ e = c_pin_bad) ∧ accepted s e = true then 1 else 0)
      + pinAttempts (next s e) es

abbrev Susp (s : St) : Prop := s.pin = c_pins ∨ s.pin = c_pind

theorem susp_step (s : St) (hv : Valid s) (e : Nat)
    (h : Susp s ∧ e ≠ c_can_ok ∧ e ≠ c_puk_ok ∧ e ≠ c_pin_activate) :
    Susp (next s e) ∧ ((e = c_pin_ok ∨ e = c_pin_bad) → accepted s e = false) :=
  table_lift (P := fun s e => (Susp s ∧ e ≠ c_can_ok ∧ e ≠ c_puk_ok ∧ e ≠ c_pin_activate) →
      (Susp (next s e) ∧ ((e = c_pin_ok ∨ e = c_pin_bad) → accepted s e = false)))
    (by decide +kernel) (fun s e _ ha hn h => ⟨hn.symm ▸ h.1, fun _ => ha⟩) s hv e h

/-- **Rule 2.** After the second wrong PIN (state suspended) no PIN attempt, right or wrong,
is accepted in any continuation that contains no correct CAN (nor a correct PUK / activation). -/
theorem can_demanded (s : St) (hv : Valid s) (hs : Susp s) (es : List Nat)
    (h : ∀ e ∈ es, e ≠ c_can_ok ∧ e ≠ c_puk_ok ∧ e ≠ c_pin_activate) :
    pinAttempts s es = 0 ∧ Susp (run s es) := by
  induction es generalizing s with
  | nil => exact ⟨rfl, hs⟩
  | cons e es ih =>
    have he := h e (by simp)
    have hstep := susp_step s hv e ⟨hs, he⟩
    have := ih (next s e) (valid_next s hv e) hstep.1 (fun e' he' => h e' (by simp [he']))
    refine ⟨?_, this.2⟩
    simp only [pinAttempts, this.1]
    by_cases hpa : (e = c_pin_ok ∨ e = c_pin_bad)
    · simp [hstep.2 hpa]
    · simp [hpa]

/-! ### Rule 3: unblocking only by a correct PUK; ten wrong PUKs block for ever -/

abbrev Blocked (p : Nat) : Prop := p ≤ c_pin0

/-- a blocked PIN leaves the blocked states only by a correct PUK (the event itself, or an
action performed under a PUK authentication obtained earlier in the session) -/
theorem unblock_only_by_puk (s : St) (hv : Valid s) (hi : Inv s) (e : Nat)
    (hb : Blocked s.pin) (hn : ¬ Blocked (next s e).pin) : e = c_puk_ok ∨ s.auth = c_auth_puk :=
  table_lift (P := fun s e => Inv s → Blocked s.pin → ¬ Blocked (next s e).pin → (e = c_puk_ok ∨ s.auth = c_auth_puk))
    (by decide +kernel) (fun s e _ _ h _ hb hn => absurd hb (h ▸ hn)) s hv e hi hb hn

theorem puk_bad_counts_tab : ∀ p < pinCount, ∀ a < authCount, c_puk1 ≤ p → p ≤ c_pin0 →
    accepted ⟨p, a⟩ c_puk_bad = true ∧ (next ⟨p, a⟩ c_puk_bad).pin + 1 = p := by decide +kernel

theorem ten_wrong_puks : ∀ a < authCount,
    (run ⟨c_pin0, a⟩ (List.replicate 10 c_puk_bad)).pin = c_puk0 := by decide +kernel

/-- **Rule 3 (permanence).** Once the PUK counter is exhausted no event sequence changes the PIN state. -/
theorem terminated_permanent (s : St) (hv : Valid s) (h0 : s.pin = c_puk0) (es : List Nat) :
    (run s es).pin = c_puk0 := by
  induction es generalizing s with
  | nil => exact h0
  | cons e es ih =>
    exact ih (next s e) (valid_next s hv e) (table_lift (P := fun s e => s.pin = c_puk0 → (next s e).pin = c_puk0)
      (by decide +kernel) (fun s e _ _ hn h => hn.symm ▸ h) s hv e h0)

/-! ### Rule 4: the deactivated state is left only by activation under PUK authentication -/

theorem deactivated_exit (s : St) (hv : Valid s) (hd : s.pin = c_pind) (e : Nat)
    (hx : (next s e).pin ≠ c_pind) : e = c_pin_activate ∧ s.auth = c_auth_puk :=
  table_lift (P := fun s e => s.pin = c_pind → (next s e).pin ≠ c_pind → e = c_pin_activate ∧ s.auth = c_auth_puk)
    (by decide +kernel) (fun s e _ _ hn hd hx => absurd hd (hn ▸ hx)) s hv e hd hx

/-! ### Rule 5: at most the authentication of the most recent successful password -/

def isOk (e : Nat) : Bool := e == c_pin_ok || e == c_can_ok || e == c_puk_ok
def authOf (e : Nat) : Nat :=
  if e = c_pin_ok then c_auth_pin else if e = c_can_ok then c_auth_can
  else if e = c_puk_ok then c_auth_puk else c_auth_none

/-- authentication status belonging to the most recent accepted `*_ok` event (`d` if there is none) -/
def lastAuth (s : St) (d : Nat) : List Nat → Nat
  | [] => d
  | e :: es => lastAuth (next s e) (if accepted s e = true ∧ isOk e = true then authOf e else d) es

theorem auth_step (s : St) (hv : Valid s) (e : Nat) :
    (next s e).auth = c_auth_none ∨
    (next s e).auth = (if accepted s e = true ∧ isOk e = true then authOf e else s.auth) :=
  table_lift (P := fun s e => (next s e).auth = c_auth_none ∨
      (next s e).auth = (if accepted s e = true ∧ isOk e = true then authOf e else s.auth))
    (by decide +kernel) (fun s e _ ha hn => by simp [ha, hn]) s hv e

theorem single_auth_gen (s : St) (hv : Valid s) (d : Nat) (hd : s.auth = c_auth_none ∨ s.auth = d)
    (es : List Nat) : (run s es).auth = c_auth_none ∨ (run s es).auth = lastAuth s d es := by
  induction es generalizing s d with
  | nil => exact hd
  | cons e es ih =>
    apply ih (next s e) (valid_next s hv e)
    rcases auth_step s hv e with h | h
    · exact Or.inl h
    · by_cases hc : accepted s e = true ∧ isOk e = true
      · right; simpa [hc] using h
      · rw [if_neg hc] at h ⊢
        rw [h]; exact hd

/-- **Rule 5.** From a session start, after any history the automaton holds either no
authentication or exactly that of the most recent accepted successful password. -/
theorem single_auth (s : St) (hi : Init s) (es : List Nat) :
    (run s es).auth = c_auth_none ∨ (run s es).auth = lastAuth s c_auth_none es :=
  single_auth_gen s hi.1 c_auth_none (Or.inl hi.2) es

/-! ### Rule 3 (counting form): at most ten wrong PUKs, over every history -/

/-- wrong-PUK events that hit a live PUK counter (in `puk0` the event is accepted but there is nothing left to count) -/
def pukBadCount (s : St) : List Nat → Nat
  | [] => 0
  | e :: es => (if e = c_puk_bad ∧ s.pin ≠ c_puk0 then 1 else 0) + pukBadCount (next s e) es

/-- blocked, and neither PUK nor PIN authentication is held -/
abbrev BInv (s : St) : Prop := Blocked s.pin ∧ s.auth ≠ c_auth_puk ∧ s.auth ≠ c_auth_pin

theorem puk_strike_step (s : St) (hv : Valid s) (hb : BInv s) (e : Nat) (he : e ≠ c_puk_ok) :
    BInv (next s e) ∧ (if e = c_puk_bad ∧ s.pin ≠ c_puk0 then 1 else 0) + (next s e).pin ≤ s.pin :=
  table_lift (P := fun s e => BInv s → e ≠ c_puk_ok →
      BInv (next s e) ∧ (if e = c_puk_bad ∧ s.pin ≠ c_puk0 then 1 else 0) + (next s e).pin ≤ s.pin)
    (by decide +kernel)
    (fun s e he _ hn hb _ => by
      have hne : e ≠ c_puk_bad := by unfold eventCount at he; unfold c_puk_bad; omega
      rw [hn]; exact ⟨hb, by simp [hne]⟩) s hv e hb he

/-- **Rule 3 (counting form).** From a blocked state held without PUK authentication, in every
history that contains no correct-PUK event the PIN stays blocked, and the number of wrong PUKs
counted plus the PUK attempts still left never exceeds the attempts left at the start. -/
theorem puk_strikes (s : St) (hv : Valid s) (hb : BInv s) (es : List Nat) (h : c_puk_ok ∉ es) :
    BInv (run s es) ∧ pukBadCount s es + (run s es).pin ≤ s.pin := by
  induction es generalizing s with
  | nil => exact ⟨hb, by simp [pukBadCount, run]⟩
  | cons e es ih =>
    have he : e ≠ c_puk_ok := fun hh => h (by simp [hh])
    have h1 := puk_strike_step s hv hb e he
    have h2 := ih (next s e) (valid_next s hv e) h1.1 (fun hh => h (List.mem_cons_of_mem _ hh))
    refine ⟨h2.1, ?_⟩
    simp only [pukBadCount, run]
    omega

/-- never more than ten counted wrong PUKs in such a history … -/
theorem puk_strikes_count (s : St) (hv : Valid s) (hb : BInv s) (es : List Nat) (h : c_puk_ok ∉ es) :
    pukBadCount s es ≤ 10 := by
  have h1 := (puk_strikes s hv hb es h).2
  have h2 : s.pin ≤ 10 := hb.1
  omega

/-- … and when all attempts that were left have been used the token is in `puk0`, for ever
(whatever follows, correct PUKs included): -/
theorem puk_strikes_terminated (s : St) (hv : Valid s) (hb : BInv s) (es : List Nat) (h : c_puk_ok ∉ es)
    (hc : pukBadCount s es = s.pin) (fs : List Nat) : (run (run s es) fs).pin = c_puk0 := by
  have h1 := (puk_strikes s hv hb es h).2
  exact terminated_permanent (run s es) (valid_run s hv es) (by unfold c_puk0; omega) fs

/-! ### The PIN state rises only through an accepted unlock event -/

/-- accepted event that may raise the PIN state: correct PIN, correct CAN, correct PUK, activation, deactivation -/
def isUnlock (e : Nat) : Bool :=
  e == c_pin_ok || e == c_can_ok || e == c_puk_ok || e == c_pin_activate || e == c_pin_deactivate

/-- every step that increases the PIN state is an accepted unlock event; wrong passwords,
`can_bad`, `auth_close` and non-events never do -/
theorem pin_rise_only_by_unlock (s : St) (hv : Valid s) (e : Nat) (h : s.pin < (next s e).pin) :
    isUnlock e = true ∧ accepted s e = true :=
  table_lift (P := fun s e => s.pin < (next s e).pin → isUnlock e = true ∧ accepted s e = true)
    (by decide +kernel) (fun s e _ _ hn h => absurd (hn ▸ h) (Nat.lt_irrefl _)) s hv e h

/-- over every history without unlock events the PIN state is non-increasing -/
theorem pin_monotone (s : St) (hv : Valid s) (es : List Nat) (h : ∀ e ∈ es, isUnlock e = false) :
    (run s es).pin ≤ s.pin := by
  induction es generalizing s with
  | nil => simp [run]
  | cons e es ih =>
    have h1 : (next s e).pin ≤ s.pin := by
      by_cases hr : s.pin < (next s e).pin
      · have := (pin_rise_only_by_unlock s hv e hr).1
        rw [h e (by simp)] at this; exact absurd this (by decide)
      · omega
    have h2 := ih (next s e) (valid_next s hv e) (fun x hx => h x (List.mem_cons_of_mem _ hx))
    simp only [run]; omega

/-! ### Non-vacuity: the hypotheses are inhabited by non-trivial histories -/

example : Init ⟨c_pin3, c_auth_none⟩ := by decide
-- three wrong PINs with the CAN in between: blocked
example : noReset ⟨c_pin3, c_auth_none⟩ [c_pin_bad, c_pin_bad, c_can_ok, c_pin_bad] := by decide
example : badCount ⟨c_pin3, c_auth_none⟩ [c_pin_bad, c_pin_bad, c_can_ok, c_pin_bad] = 3 := by decide
example : (run ⟨c_pin3, c_auth_none⟩ [c_pin_bad, c_pin_bad, c_can_ok, c_pin_bad]).pin = c_pin0 := by decide
example : Susp (run ⟨c_pin3, c_auth_none⟩ [c_pin_bad, c_pin_bad]) := by decide
example : lastAuth ⟨c_pin3, c_auth_none⟩ c_auth_none [c_pin_ok, c_can_ok, c_pin_bad] = c_auth_can := by decide
example : (run ⟨c_pin3, c_auth_none⟩ [c_pin_ok, c_can_ok, c_pin_bad]).auth = c_auth_can := by decide

-- ten wrong PUKs with CAN traffic and a session close in between: terminated, and a correct PUK no longer helps
example : BInv ⟨c_pin0, c_auth_none⟩ := by decide
example : pukBadCount ⟨c_pin0, c_auth_none⟩ (List.replicate 5 c_puk_bad ++ [c_can_ok, c_auth_close] ++ List.replicate 5 c_puk_bad) = 10 := by decide
example : (run ⟨c_pin0, c_auth_none⟩ (List.replicate 5 c_puk_bad ++ [c_can_ok, c_auth_close] ++ List.replicate 5 c_puk_bad ++ [c_puk_ok])).pin = c_puk0 := by decide
example : (run ⟨c_pin3, c_auth_none⟩ [c_pin_bad, c_can_bad, c_pin_bad, c_auth_close]).pin < c_pin3 := by decide

end Bee2V.C20
