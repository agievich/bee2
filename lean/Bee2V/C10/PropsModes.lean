/-
C10 property theorems, belt encryption modes: CHUNK INDEPENDENCE of the incremental interfaces
`beltECBStepE/D`, `beltCBCStepE/D`, `beltCFBStepE/D`, `beltBDEStepE/D` (and sector independence of
`beltSDEStepE/D`).  A session `Start; Step(c1); …; Step(cm)` returns, fragment after fragment, exactly the octets
that the one-shot call on the concatenation `c1 ++ … ++ cm` returns, and ends in the same state — for every
fragmentation that the header belt.h admits:
  * ECB, CBC (ciphertext stealing): every fragment at least one block, all but the last whole blocks
    (`admissibleCTS`);
  * CFB: no restriction at all (empty fragments, cuts inside a block, …);
  * BDE: fragments of whole blocks (`wholeBlocks`, empty fragments allowed).
Stated for an arbitrary block cipher `C`; where a proof needs that `C.enc` / `C.dec` return 16 octets on 16
octets, exactly the needed half of `BlockLen C` is a hypothesis (`hE` / `hD`); the `belt_*` corollaries discharge
it for `beltCipher`.  Only property theorems and non-vacuity examples; helper lemmas are in LemmasModes.lean.
-/
import Bee2V.C10.LemmasModes
import Bee2V.C01.PropsStream
namespace Bee2V.C10
open Bee2V Bee2V.C10.Modes

/-- 33 octets 0, 1, …, 32 -/
def d33 : Bytes := (List.range 33).map UInt8.ofNat
/-- 37 octets 0, 1, …, 36 -/
def d37 : Bytes := (List.range 37).map UInt8.ofNat
/-- 48 octets 0, 1, …, 47 -/
def d48 : Bytes := (List.range 48).map UInt8.ofNat

/-- the hypotheses `hE`, `hD` of the theorems below (the two halves of `BlockLen`) are satisfiable: the toy
cipher of the examples has them … -/
example : BlockLen C01.toyC := by
  constructor <;> intro k x h <;>
    simp only [C01.toyC, List.length_map, C01.length_xorb, List.length_take, List.length_append, C01.zeros,
      List.length_replicate] <;> omega

/-- … and so has belt -/
theorem belt_blockLen : BlockLen C01.beltCipher :=
  ⟨C01.length_blockEncr, fun k x h => C01.length_blockDecr k x h⟩

/-- the header's example: 33 = 16 + 17 is admissible, 33 = 32 + 1 is not, nor is 8 + 25 -/
example : admissibleCTS [d33.take 16, d33.drop 16] := by decide
example : ¬ admissibleCTS [d33.take 32, d33.drop 32] := by decide
example : ¬ admissibleCTS [d33.take 8, d33.drop 8] := by decide
example : ¬ admissibleCTS [d33.take 16, [], d33.drop 16] := by decide

/-! ### ECB -/

/-- CHUNK INDEPENDENCE of `beltECBStepE`: for every admissible fragmentation the concatenation of the returned
buffers is the result of the one-shot call (incl. the ciphertext-stealing tail of the last fragment). -/
theorem chunk_indep_ecb_encr (C : C01.Cipher) (hE : ∀ k x, x.length = 16 → (C.enc k x).length = 16)
    (key : Bytes) (cs : List Bytes) (h : admissibleCTS cs) :
    dataOf (outs (ecbB C) key (calls EOp.encr cs)) = C01.ecbStepE C key cs.flatten :=
  (fold_cts (ecbB C) EOp.encr _ (ecb_isStepE C) (fun _ => True) (fun _ _ _ _ _ => trivial)
    (fun s a b _ _ h2 h3 => by simp only [C01.ecbStepE_eq, ecbStep_split _ (hE s) a b h2 h3]) cs key trivial h).1

/-- 33 octets cut 16 + 17: the second call steals from ITS first block -/
example : dataOf (outs (ecbB C01.toyC) [1, 2, 3] (calls EOp.encr [d33.take 16, d33.drop 16]))
    = C01.ecbStepE C01.toyC [1, 2, 3] d33 := by decide +kernel
/-- the restriction is needed: the inadmissible cut 32 + 1 gives something else -/
example : dataOf (outs (ecbB C01.toyC) [1, 2, 3] (calls EOp.encr [d33.take 32, d33.drop 32]))
    ≠ C01.ecbStepE C01.toyC [1, 2, 3] d33 := by decide +kernel

/-- the hypothesis `hE` is needed: with a "cipher" that returns 8 octets the stealing step of the one-shot call
reaches back into the previous block's output and the two results differ (9 octets vs 17) -/
example : dataOf (outs (ecbB ⟨fun _ x => x.take 8, fun _ x => x.take 8⟩) [] (calls EOp.encr [d33.take 16, d33.drop 16]))
    ≠ C01.ecbStepE ⟨fun _ x => x.take 8, fun _ x => x.take 8⟩ [] d33 := by decide +kernel

/-- CHUNK INDEPENDENCE of `beltECBStepD` -/
theorem chunk_indep_ecb_decr (C : C01.Cipher) (hD : ∀ k x, x.length = 16 → (C.dec k x).length = 16)
    (key : Bytes) (cs : List Bytes) (h : admissibleCTS cs) :
    dataOf (outs (ecbB C) key (calls EOp.decr cs)) = C01.ecbStepD C key cs.flatten :=
  (fold_cts (ecbB C) EOp.decr _ (ecb_isStepD C) (fun _ => True) (fun _ _ _ _ _ => trivial)
    (fun s a b _ _ h2 h3 => by simp only [C01.ecbStepD_eq, ecbStep_split _ (hD s) a b h2 h3]) cs key trivial h).1

example : dataOf (outs (ecbB C01.toyC) [1, 2, 3] (calls EOp.decr [d48.take 32, d48.drop 32 ++ [7]]))
    = C01.ecbStepD C01.toyC [1, 2, 3] (d48 ++ [7]) := by decide +kernel

/-- `beltECBEncr` on the concatenation = `beltECBStart` + any admissible session of `beltECBStepE` -/
theorem ecbEncr_chunked (C : C01.Cipher) (hE : ∀ k x, x.length = 16 → (C.enc k x).length = 16)
    (key : Bytes) (hk : C01.validKeyLen key.length = true) (cs : List Bytes) (h : admissibleCTS cs) :
    C01.ecbEncr C cs.flatten key = (.ok, some (dataOf (outs (ecbB C) (C01.fmtKey key) (calls EOp.encr cs)))) := by
  have hl := admissibleCTS_length cs h
  simp only [C01.ecbEncr, hk, chunk_indep_ecb_encr C hE _ cs h, Bool.not_true, Bool.or_false, decide_eq_true_eq,
    show ¬ cs.flatten.length < 16 by omega, if_false]

theorem ecbDecr_chunked (C : C01.Cipher) (hD : ∀ k x, x.length = 16 → (C.dec k x).length = 16)
    (key : Bytes) (hk : C01.validKeyLen key.length = true) (cs : List Bytes) (h : admissibleCTS cs) :
    C01.ecbDecr C cs.flatten key = (.ok, some (dataOf (outs (ecbB C) (C01.fmtKey key) (calls EOp.decr cs)))) := by
  have hl := admissibleCTS_length cs h
  simp only [C01.ecbDecr, hk, chunk_indep_ecb_decr C hD _ cs h, Bool.not_true, Bool.or_false, decide_eq_true_eq,
    show ¬ cs.flatten.length < 16 by omega, if_false]

/-- for the real cipher -/
theorem belt_ecbEncr_chunked (key : Bytes) (hk : C01.validKeyLen key.length = true) (cs : List Bytes)
    (h : admissibleCTS cs) :
    C01.ecbEncr C01.beltCipher cs.flatten key =
      (.ok, some (dataOf (outs (ecbB C01.beltCipher) (C01.fmtKey key) (calls EOp.encr cs)))) :=
  ecbEncr_chunked _ belt_blockLen.1 key hk cs h

theorem belt_ecbDecr_chunked (key : Bytes) (hk : C01.validKeyLen key.length = true) (cs : List Bytes)
    (h : admissibleCTS cs) :
    C01.ecbDecr C01.beltCipher cs.flatten key =
      (.ok, some (dataOf (outs (ecbB C01.beltCipher) (C01.fmtKey key) (calls EOp.decr cs)))) :=
  ecbDecr_chunked _ belt_blockLen.2 key hk cs h

example : C01.validKeyLen (C01.zeros 24).length = true := by decide

/-! ### BDE -/

/-- CHUNK INDEPENDENCE of `beltBDEStepE`: fragments of whole blocks (empty ones included), any state; the data
returned and the FINAL STATE (all fields, incl. the scratch copy `block` of the tweak register) are those of the
one-shot call.  No hypothesis on the cipher or on the state. -/
theorem chunk_indep_bde_encr (C : C01.Cipher) (st : C01.BdeSt) (cs : List Bytes) (h : wholeBlocks cs) :
    dataOf (outs (bdeB C) st (calls EOp.encr cs)) = (C01.bdeStepE C st cs.flatten).2 ∧
    after (bdeB C) st (calls EOp.encr cs) = (C01.bdeStepE C st cs.flatten).1 :=
  calls_hom (bdeB C) EOp.encr _ (bde_chunked C.enc) (bde_isStepE C).hB cs st trivial h

theorem chunk_indep_bde_decr (C : C01.Cipher) (st : C01.BdeSt) (cs : List Bytes) (h : wholeBlocks cs) :
    dataOf (outs (bdeB C) st (calls EOp.decr cs)) = (C01.bdeStepD C st cs.flatten).2 ∧
    after (bdeB C) st (calls EOp.decr cs) = (C01.bdeStepD C st cs.flatten).1 :=
  calls_hom (bdeB C) EOp.decr _ (bde_chunked C.dec) (bde_isStepD C).hB cs st trivial h

/-- … after `beltBDEStart(key, iv)` (no hypothesis on `iv` needed) -/
theorem chunk_indep_bde_encr_start (C : C01.Cipher) (key iv : Bytes) (cs : List Bytes) (h : wholeBlocks cs) :
    dataOf (outs (bdeB C) (C01.bdeStart C key iv) (calls EOp.encr cs))
      = (C01.bdeStepE C (C01.bdeStart C key iv) cs.flatten).2 ∧
    after (bdeB C) (C01.bdeStart C key iv) (calls EOp.encr cs)
      = (C01.bdeStepE C (C01.bdeStart C key iv) cs.flatten).1 :=
  chunk_indep_bde_encr C _ cs h

theorem chunk_indep_bde_decr_start (C : C01.Cipher) (key iv : Bytes) (cs : List Bytes) (h : wholeBlocks cs) :
    dataOf (outs (bdeB C) (C01.bdeStart C key iv) (calls EOp.decr cs))
      = (C01.bdeStepD C (C01.bdeStart C key iv) cs.flatten).2 ∧
    after (bdeB C) (C01.bdeStart C key iv) (calls EOp.decr cs)
      = (C01.bdeStepD C (C01.bdeStart C key iv) cs.flatten).1 :=
  chunk_indep_bde_decr C _ cs h

/-- 48 octets cut 16 + 0 + 32 -/
example : wholeBlocks [d48.take 16, [], d48.drop 16] := by unfold wholeBlocks; decide
example : dataOf (outs (bdeB C01.toyC) (C01.bdeStart C01.toyC [1, 2, 3] (d48.take 16))
      (calls EOp.encr [d48.take 16, [], d48.drop 16]))
    = (C01.bdeStepE C01.toyC (C01.bdeStart C01.toyC [1, 2, 3] (d48.take 16)) d48).2 := by decide +kernel
example : (fun st : C01.BdeSt => (st.key, st.s, st.block)) (after (bdeB C01.toyC)
      (C01.bdeStart C01.toyC [1, 2, 3] (d48.take 16)) (calls EOp.decr [d48.take 16, [], d48.drop 16, []]))
    = (fun st : C01.BdeSt => (st.key, st.s, st.block))
      (C01.bdeStepD C01.toyC (C01.bdeStart C01.toyC [1, 2, 3] (d48.take 16)) d48).1 := by decide +kernel

/-- `beltBDEEncr` on the concatenation (at least one block) = `beltBDEStart` + any session of `beltBDEStepE` on
whole-block fragments -/
theorem bdeEncr_chunked (C : C01.Cipher) (key iv : Bytes) (hk : C01.validKeyLen key.length = true)
    (cs : List Bytes) (h : wholeBlocks cs) (h16 : 16 ≤ cs.flatten.length) :
    C01.bdeEncr C cs.flatten key iv =
      (.ok, some (dataOf (outs (bdeB C) (C01.bdeStart C key iv) (calls EOp.encr cs)))) := by
  have hw := wholeBlocks_flatten cs h
  simp only [C01.bdeEncr, hk, (chunk_indep_bde_encr C _ cs h).1, hw, Bool.not_true, Bool.or_false, ne_eq,
    not_true_eq_false, decide_false, show ¬ cs.flatten.length < 16 by omega, Bool.false_eq_true, if_false]

theorem bdeDecr_chunked (C : C01.Cipher) (key iv : Bytes) (hk : C01.validKeyLen key.length = true)
    (cs : List Bytes) (h : wholeBlocks cs) (h16 : 16 ≤ cs.flatten.length) :
    C01.bdeDecr C cs.flatten key iv =
      (.ok, some (dataOf (outs (bdeB C) (C01.bdeStart C key iv) (calls EOp.decr cs)))) := by
  have hw := wholeBlocks_flatten cs h
  simp only [C01.bdeDecr, hk, (chunk_indep_bde_decr C _ cs h).1, hw, Bool.not_true, Bool.or_false, ne_eq,
    not_true_eq_false, decide_false, show ¬ cs.flatten.length < 16 by omega, Bool.false_eq_true, if_false]

theorem belt_bdeEncr_chunked (key iv : Bytes) (hk : C01.validKeyLen key.length = true)
    (cs : List Bytes) (h : wholeBlocks cs) (h16 : 16 ≤ cs.flatten.length) :
    C01.bdeEncr C01.beltCipher cs.flatten key iv =
      (.ok, some (dataOf (outs (bdeB C01.beltCipher) (C01.bdeStart C01.beltCipher key iv) (calls EOp.encr cs)))) :=
  bdeEncr_chunked _ key iv hk cs h h16

theorem belt_bdeDecr_chunked (key iv : Bytes) (hk : C01.validKeyLen key.length = true)
    (cs : List Bytes) (h : wholeBlocks cs) (h16 : 16 ≤ cs.flatten.length) :
    C01.bdeDecr C01.beltCipher cs.flatten key iv =
      (.ok, some (dataOf (outs (bdeB C01.beltCipher) (C01.bdeStart C01.beltCipher key iv) (calls EOp.decr cs)))) :=
  bdeDecr_chunked _ key iv hk cs h h16

/-! ### CFB -/

/-- CHUNK INDEPENDENCE of `beltCFBStepE`: EVERY fragmentation (no restriction on `cs`: empty fragments, cuts
inside a block, fragments that end inside the reserve of gamma, …), from every state with a 16-octet `block` and
`reserved ≤ 16`: the returned octets and the final state (all fields) are those of the one-shot call on the
concatenation. -/
theorem chunk_indep_cfb_encr (C : C01.Cipher) (hE : ∀ k x, x.length = 16 → (C.enc k x).length = 16)
    (st : C01.CfbSt) (hr : st.reserved ≤ 16) (hb : st.block.length = 16) (cs : List Bytes) :
    dataOf (outs (cfbB C) st (calls EOp.encr cs)) = (C01.cfbStepE C st cs.flatten).2 ∧
    after (cfbB C) st (calls EOp.encr cs) = (C01.cfbStepE C st cs.flatten).1 := by
  rw [cfbStepE_eq]
  exact calls_hom (cfbB C) EOp.encr _ (cfbG_chunked fbE C hE) (cfb_isStepE C).hB cs st ⟨hb, hr⟩ (fun _ _ => trivial)

/-- CHUNK INDEPENDENCE of `beltCFBStepD`, every fragmentation -/
theorem chunk_indep_cfb_decr (C : C01.Cipher) (hE : ∀ k x, x.length = 16 → (C.enc k x).length = 16)
    (st : C01.CfbSt) (hr : st.reserved ≤ 16) (hb : st.block.length = 16) (cs : List Bytes) :
    dataOf (outs (cfbB C) st (calls EOp.decr cs)) = (C01.cfbStepD C st cs.flatten).2 ∧
    after (cfbB C) st (calls EOp.decr cs) = (C01.cfbStepD C st cs.flatten).1 := by
  rw [cfbStepD_eq]
  exact calls_hom (cfbB C) EOp.decr _ (cfbG_chunked fbD C hE) (cfb_isStepD C).hB cs st ⟨hb, hr⟩ (fun _ _ => trivial)

/-- … after `beltCFBStart(key, iv)` -/
theorem chunk_indep_cfb_encr_start (C : C01.Cipher) (hE : ∀ k x, x.length = 16 → (C.enc k x).length = 16)
    (key iv : Bytes) (hiv : iv.length = 16) (cs : List Bytes) :
    dataOf (outs (cfbB C) (C01.cfbStart key iv) (calls EOp.encr cs))
      = (C01.cfbStepE C (C01.cfbStart key iv) cs.flatten).2 ∧
    after (cfbB C) (C01.cfbStart key iv) (calls EOp.encr cs) = (C01.cfbStepE C (C01.cfbStart key iv) cs.flatten).1 :=
  chunk_indep_cfb_encr C hE _ (Nat.zero_le _) hiv cs

theorem chunk_indep_cfb_decr_start (C : C01.Cipher) (hE : ∀ k x, x.length = 16 → (C.enc k x).length = 16)
    (key iv : Bytes) (hiv : iv.length = 16) (cs : List Bytes) :
    dataOf (outs (cfbB C) (C01.cfbStart key iv) (calls EOp.decr cs))
      = (C01.cfbStepD C (C01.cfbStart key iv) cs.flatten).2 ∧
    after (cfbB C) (C01.cfbStart key iv) (calls EOp.decr cs) = (C01.cfbStepD C (C01.cfbStart key iv) cs.flatten).1 :=
  chunk_indep_cfb_decr C hE _ (Nat.zero_le _) hiv cs

/-- 37 octets cut 5 + 0 + 20 + 12: the third fragment starts inside a block (offset 5) and ends inside the next
one (offset 9), the fourth one ends at offset 5 of the third block -/
example : dataOf (outs (cfbB C01.toyC) (C01.cfbStart [1, 2, 3] (d48.take 16))
      (calls EOp.encr [d37.take 5, [], (d37.drop 5).take 20, d37.drop 25]))
    = (C01.cfbStepE C01.toyC (C01.cfbStart [1, 2, 3] (d48.take 16)) d37).2 := by decide +kernel
example : (fun st : C01.CfbSt => (st.key, st.block, st.reserved)) (after (cfbB C01.toyC)
      (C01.cfbStart [1, 2, 3] (d48.take 16)) (calls EOp.encr [d37.take 5, [], (d37.drop 5).take 20, d37.drop 25]))
    = (fun st : C01.CfbSt => (st.key, st.block, st.reserved))
      (C01.cfbStepE C01.toyC (C01.cfbStart [1, 2, 3] (d48.take 16)) d37).1 := by decide +kernel
example : dataOf (outs (cfbB C01.toyC) (C01.cfbStart [1, 2, 3] (d48.take 16))
      (calls EOp.decr [d37.take 5, [], (d37.drop 5).take 20, d37.drop 25]))
    = (C01.cfbStepD C01.toyC (C01.cfbStart [1, 2, 3] (d48.take 16)) d37).2 := by decide +kernel
/-- … from a state in the middle of a block (`reserved = 11`), fragments 3 + 8 + 0 + 22 (the second one uses up
the reserve exactly) -/
example : dataOf (outs (cfbB C01.toyC) ⟨[1, 2, 3], d48.drop 32, 11⟩
      (calls EOp.decr [d33.take 3, (d33.drop 3).take 8, [], d33.drop 11]))
    = (C01.cfbStepD C01.toyC ⟨[1, 2, 3], d48.drop 32, 11⟩ d33).2 := by decide +kernel
/-- the result is not the identity -/
example : (C01.cfbStepE C01.toyC (C01.cfbStart [1, 2, 3] (d48.take 16)) d37).2 ≠ d37 := by decide +kernel

/-- `beltCFBEncr` on the concatenation = `beltCFBStart` + ANY session of `beltCFBStepE` -/
theorem cfbEncr_chunked (C : C01.Cipher) (hE : ∀ k x, x.length = 16 → (C.enc k x).length = 16)
    (key iv : Bytes) (hk : C01.validKeyLen key.length = true) (hiv : iv.length = 16) (cs : List Bytes) :
    C01.cfbEncr C cs.flatten key iv =
      (.ok, some (dataOf (outs (cfbB C) (C01.cfbStart key iv) (calls EOp.encr cs)))) := by
  simp only [C01.cfbEncr, hk, (chunk_indep_cfb_encr_start C hE key iv hiv cs).1, Bool.not_true, Bool.false_eq_true,
    if_false]

theorem cfbDecr_chunked (C : C01.Cipher) (hE : ∀ k x, x.length = 16 → (C.enc k x).length = 16)
    (key iv : Bytes) (hk : C01.validKeyLen key.length = true) (hiv : iv.length = 16) (cs : List Bytes) :
    C01.cfbDecr C cs.flatten key iv =
      (.ok, some (dataOf (outs (cfbB C) (C01.cfbStart key iv) (calls EOp.decr cs)))) := by
  simp only [C01.cfbDecr, hk, (chunk_indep_cfb_decr_start C hE key iv hiv cs).1, Bool.not_true, Bool.false_eq_true,
    if_false]

theorem belt_cfbEncr_chunked (key iv : Bytes) (hk : C01.validKeyLen key.length = true) (hiv : iv.length = 16)
    (cs : List Bytes) :
    C01.cfbEncr C01.beltCipher cs.flatten key iv =
      (.ok, some (dataOf (outs (cfbB C01.beltCipher) (C01.cfbStart key iv) (calls EOp.encr cs)))) :=
  cfbEncr_chunked _ belt_blockLen.1 key iv hk hiv cs

theorem belt_cfbDecr_chunked (key iv : Bytes) (hk : C01.validKeyLen key.length = true) (hiv : iv.length = 16)
    (cs : List Bytes) :
    C01.cfbDecr C01.beltCipher cs.flatten key iv =
      (.ok, some (dataOf (outs (cfbB C01.beltCipher) (C01.cfbStart key iv) (calls EOp.decr cs)))) :=
  cfbDecr_chunked _ belt_blockLen.1 key iv hk hiv cs

/-! ### CBC -/

/-- CHUNK INDEPENDENCE of `beltCBCStepE`: every admissible fragmentation, from every state with a 16-octet chaining
block: returned octets (incl. the ciphertext-stealing tail of the last fragment) and final state (all fields) are
those of the one-shot call. -/
theorem chunk_indep_cbc_encr (C : C01.Cipher) (hE : ∀ k x, x.length = 16 → (C.enc k x).length = 16)
    (st : C01.CbcSt) (hb : st.block.length = 16) (cs : List Bytes) (h : admissibleCTS cs) :
    dataOf (outs (cbcB C) st (calls EOp.encr cs)) = (C01.cbcStepE C st cs.flatten).2 ∧
    after (cbcB C) st (calls EOp.encr cs) = (C01.cbcStepE C st cs.flatten).1 :=
  fold_cts (cbcB C) EOp.encr (C01.cbcStepE C) (cbc_isStepE C) (fun s => s.block.length = 16)
    (fun s c hs _ h2 => cbcStepE_inv C hE s hs c h2)
    (fun s a b hs _ h2 h3 => cbcStepE_split C hE s hs a b h2 h3) cs st hb h

/-- CHUNK INDEPENDENCE of `beltCBCStepD` (the loop `while (count >= 32 || count == 16)` + the stealing tail for
`16 < count < 32`): every admissible fragmentation, from EVERY state, for every cipher; final states are equal in
all fields (incl. the scratch block `block2`). -/
theorem chunk_indep_cbc_decr (C : C01.Cipher) (st : C01.CbcSt) (cs : List Bytes) (h : admissibleCTS cs) :
    dataOf (outs (cbcB C) st (calls EOp.decr cs)) = (C01.cbcStepD C st cs.flatten).2 ∧
    after (cbcB C) st (calls EOp.decr cs) = (C01.cbcStepD C st cs.flatten).1 :=
  fold_cts (cbcB C) EOp.decr (C01.cbcStepD C) (cbc_isStepD C) (fun _ => True)
    (fun _ _ _ _ _ => trivial)
    (fun s a b _ _ h2 h3 => cbcStepD_split C s a b h2 h3) cs st trivial h

/-- … after `beltCBCStart(key, iv)` -/
theorem chunk_indep_cbc_encr_start (C : C01.Cipher) (hE : ∀ k x, x.length = 16 → (C.enc k x).length = 16)
    (key iv : Bytes) (hiv : iv.length = 16) (cs : List Bytes) (h : admissibleCTS cs) :
    dataOf (outs (cbcB C) (C01.cbcStart key iv) (calls EOp.encr cs))
      = (C01.cbcStepE C (C01.cbcStart key iv) cs.flatten).2 ∧
    after (cbcB C) (C01.cbcStart key iv) (calls EOp.encr cs) = (C01.cbcStepE C (C01.cbcStart key iv) cs.flatten).1 :=
  chunk_indep_cbc_encr C hE _ hiv cs h

/-- … `beltCBCStepD` after `beltCBCStart(key, iv)` (no hypothesis on `iv` needed) -/
theorem chunk_indep_cbc_decr_start (C : C01.Cipher) (key iv : Bytes) (cs : List Bytes) (h : admissibleCTS cs) :
    dataOf (outs (cbcB C) (C01.cbcStart key iv) (calls EOp.decr cs))
      = (C01.cbcStepD C (C01.cbcStart key iv) cs.flatten).2 ∧
    after (cbcB C) (C01.cbcStart key iv) (calls EOp.decr cs) = (C01.cbcStepD C (C01.cbcStart key iv) cs.flatten).1 :=
  chunk_indep_cbc_decr C _ cs h

/-- 33 octets cut 16 + 17, 48 + 1 octets cut 16 + 16 + 17 -/
example : dataOf (outs (cbcB C01.toyC) (C01.cbcStart [1, 2, 3] (d48.drop 32)) (calls EOp.encr [d33.take 16, d33.drop 16]))
    = (C01.cbcStepE C01.toyC (C01.cbcStart [1, 2, 3] (d48.drop 32)) d33).2 := by decide +kernel
example : dataOf (outs (cbcB C01.toyC) (C01.cbcStart [1, 2, 3] (d48.drop 32))
      (calls EOp.decr [d48.take 16, (d48.drop 16).take 16, d48.drop 32 ++ [9]]))
    = (C01.cbcStepD C01.toyC (C01.cbcStart [1, 2, 3] (d48.drop 32)) (d48 ++ [9])).2 := by decide +kernel
example : dataOf (outs (cbcB C01.toyC) (C01.cbcStart [1, 2, 3] (d48.drop 32)) (calls EOp.decr [d33.take 16, d33.drop 16]))
    = (C01.cbcStepD C01.toyC (C01.cbcStart [1, 2, 3] (d48.drop 32)) d33).2 := by decide +kernel
example : (fun st : C01.CbcSt => (st.key, st.block, st.block2)) (after (cbcB C01.toyC)
      (C01.cbcStart [1, 2, 3] (d48.drop 32)) (calls EOp.decr [d33.take 16, d33.drop 16]))
    = (fun st : C01.CbcSt => (st.key, st.block, st.block2))
      (C01.cbcStepD C01.toyC (C01.cbcStart [1, 2, 3] (d48.drop 32)) d33).1 := by decide +kernel
/-- the restriction is needed: the inadmissible cut 32 + 1 gives something else -/
example : dataOf (outs (cbcB C01.toyC) (C01.cbcStart [1, 2, 3] (d48.drop 32)) (calls EOp.encr [d33.take 32, d33.drop 32]))
    ≠ (C01.cbcStepE C01.toyC (C01.cbcStart [1, 2, 3] (d48.drop 32)) d33).2 := by decide +kernel
example : dataOf (outs (cbcB C01.toyC) (C01.cbcStart [1, 2, 3] (d48.drop 32)) (calls EOp.decr [d33.take 32, d33.drop 32]))
    ≠ (C01.cbcStepD C01.toyC (C01.cbcStart [1, 2, 3] (d48.drop 32)) d33).2 := by decide +kernel

/-- `beltCBCEncr` on the concatenation = `beltCBCStart` + any admissible session of `beltCBCStepE` -/
theorem cbcEncr_chunked (C : C01.Cipher) (hE : ∀ k x, x.length = 16 → (C.enc k x).length = 16)
    (key iv : Bytes) (hk : C01.validKeyLen key.length = true) (hiv : iv.length = 16) (cs : List Bytes)
    (h : admissibleCTS cs) :
    C01.cbcEncr C cs.flatten key iv =
      (.ok, some (dataOf (outs (cbcB C) (C01.cbcStart key iv) (calls EOp.encr cs)))) := by
  have hl := admissibleCTS_length cs h
  simp only [C01.cbcEncr, hk, (chunk_indep_cbc_encr_start C hE key iv hiv cs h).1, Bool.not_true, Bool.or_false,
    decide_eq_true_eq, show ¬ cs.flatten.length < 16 by omega, if_false]

/-- `beltCBCDecr` on the concatenation = `beltCBCStart` + any admissible session of `beltCBCStepD` (any cipher,
any `iv`) -/
theorem cbcDecr_chunked (C : C01.Cipher) (key iv : Bytes) (hk : C01.validKeyLen key.length = true)
    (cs : List Bytes) (h : admissibleCTS cs) :
    C01.cbcDecr C cs.flatten key iv =
      (.ok, some (dataOf (outs (cbcB C) (C01.cbcStart key iv) (calls EOp.decr cs)))) := by
  have hl := admissibleCTS_length cs h
  simp only [C01.cbcDecr, hk, (chunk_indep_cbc_decr C _ cs h).1, Bool.not_true, Bool.or_false,
    decide_eq_true_eq, show ¬ cs.flatten.length < 16 by omega, if_false]

theorem belt_cbcEncr_chunked (key iv : Bytes) (hk : C01.validKeyLen key.length = true) (hiv : iv.length = 16)
    (cs : List Bytes) (h : admissibleCTS cs) :
    C01.cbcEncr C01.beltCipher cs.flatten key iv =
      (.ok, some (dataOf (outs (cbcB C01.beltCipher) (C01.cbcStart key iv) (calls EOp.encr cs)))) :=
  cbcEncr_chunked _ belt_blockLen.1 key iv hk hiv cs h

theorem belt_cbcDecr_chunked (key iv : Bytes) (hk : C01.validKeyLen key.length = true)
    (cs : List Bytes) (h : admissibleCTS cs) :
    C01.cbcDecr C01.beltCipher cs.flatten key iv =
      (.ok, some (dataOf (outs (cbcB C01.beltCipher) (C01.cbcStart key iv) (calls EOp.decr cs)))) :=
  cbcDecr_chunked _ key iv hk cs h

/-! ### SDE: sector independence -/

/-- SECTOR INDEPENDENCE of `beltSDEStepE/D`: in a session `beltSDEStart(key); Step(iv1, d1); …; Step(ivm, dm)`
(encryptions and decryptions mixed, every `d_i` a sector: whole blocks, at least two) the buffer returned by the
i-th call is exactly what the one-shot `beltSDEEncr(d_i, key, iv_i)` / `beltSDEDecr(d_i, key, iv_i)` returns —
earlier calls leave no trace — and the state is the formatted key throughout.  (`okOut (.data b) = (ERR_OK, b)`;
`sdeOneShot C key (.encr iv d) = sdeEncr C d key iv`.) -/
theorem chunk_indep_sde (C : C01.Cipher) (key : Bytes) (hk : C01.validKeyLen key.length = true)
    (ops : List SdeOp) (hs : ∀ op ∈ ops, sector (sdeData op)) :
    (outs (sdeB C) (C01.fmtKey key) (ops.map Call.op)).map okOut = ops.map (sdeOneShot C key) ∧
    after (sdeB C) (C01.fmtKey key) (ops.map Call.op) = C01.fmtKey key :=
  sde_session C key hk ops hs

/-- the same, position by position -/
theorem chunk_indep_sde_at (C : C01.Cipher) (key : Bytes) (hk : C01.validKeyLen key.length = true)
    (ops : List SdeOp) (hs : ∀ op ∈ ops, sector (sdeData op)) (i : Nat) (hi : i < ops.length) :
    ∃ b, (outs (sdeB C) (C01.fmtKey key) (ops.map Call.op))[i]? = some (Out.data b) ∧
      sdeOneShot C key ops[i] = (.ok, some b) := by
  have h := congrArg (fun l => l[i]?) (chunk_indep_sde C key hk ops hs).1
  simp only [List.getElem?_map, List.getElem?_eq_getElem hi, Option.map_some] at h
  cases ho : (outs (sdeB C) (C01.fmtKey key) (ops.map Call.op))[i]? with
  | none => rw [ho] at h; simp at h
  | some o =>
    rw [ho] at h
    simp only [Option.map_some, Option.some.injEq] at h
    obtain ⟨hs1, hs2⟩ := hs ops[i] (List.getElem_mem hi)
    have hok : (sdeOneShot C key ops[i]).1 = .ok := by
      cases hop : ops[i] with
      | encr iv d =>
        rw [hop] at hs1 hs2
        simp only [sdeData] at hs1 hs2
        simp only [sdeOneShot, C01.sdeEncr, hk, hs1, ne_eq, not_true_eq_false, decide_false, Bool.not_true,
          Bool.or_false, show ¬ d.length < 32 by omega, Bool.false_eq_true, if_false]
      | decr iv d =>
        rw [hop] at hs1 hs2
        simp only [sdeData] at hs1 hs2
        simp only [sdeOneShot, C01.sdeDecr, hk, hs1, ne_eq, not_true_eq_false, decide_false, Bool.not_true,
          Bool.or_false, show ¬ d.length < 32 by omega, Bool.false_eq_true, if_false]
    cases o with
    | data b => exact ⟨b, rfl, h.symm⟩
    | none => rw [← h] at hok; simp [okOut] at hok
    | verdict v => rw [← h] at hok; simp [okOut] at hok

/-- two sectors (48 and 32 octets) under different IVs, an encryption followed by a decryption -/
example : ∀ op ∈ [SdeOp.encr (d48.take 16) d48, SdeOp.decr (d48.drop 32) (d37.take 32)], sector (sdeData op) := by
  unfold sector; decide
example : (outs (sdeB C01.toyC) (C01.fmtKey (C01.zeros 16))
      ([SdeOp.encr (d48.take 16) d48, SdeOp.decr (d48.drop 32) (d37.take 32)].map Call.op)).map okOut
    = [C01.sdeEncr C01.toyC d48 (C01.zeros 16) (d48.take 16),
       C01.sdeDecr C01.toyC (d37.take 32) (C01.zeros 16) (d48.drop 32)] := by decide +kernel
/-- the one-shot results are successes that change the data -/
example : C01.sdeEncr C01.toyC d48 (C01.zeros 16) (d48.take 16) ≠ (.ok, some d48) ∧
    (C01.sdeEncr C01.toyC d48 (C01.zeros 16) (d48.take 16)).1 = .ok := by decide +kernel

theorem belt_chunk_indep_sde (key : Bytes) (hk : C01.validKeyLen key.length = true)
    (ops : List SdeOp) (hs : ∀ op ∈ ops, sector (sdeData op)) :
    (outs (sdeB C01.beltCipher) (C01.fmtKey key) (ops.map Call.op)).map okOut = ops.map (sdeOneShot C01.beltCipher key) :=
  (chunk_indep_sde C01.beltCipher key hk ops hs).1

end Bee2V.C10
