/-
C10 helper lemmas: bridges between sessions of the C10 bundles (brng, botp, bash) and the run functions of C03
(`ctrRun`, `hmacGenRun`, `hotpRun`, `runAll`), over which C03 states the "= standard" theorems.
-/
import Bee2V.C10.PropsGen
namespace Bee2V.C10.Std
open Bee2V

/-! ### brng -/

/-- a session of `brngCTRStepR` calls IS `C03.ctrRun` -/
theorem ctr_run_bridge (bufs : List Bytes) : ∀ st : C03.CtrSt,
    run brngCtrB st (calls RngOp.gen bufs) =
      ((C03.ctrRun wOctets bufs st).1, (C03.ctrRun wOctets bufs st).2.map Out.data) := by
  induction bufs with
  | nil => intro st; rfl
  | cons b bs ih =>
    intro st
    show ((run brngCtrB (C03.ctrStepR wOctets b st).1 (calls RngOp.gen bs)).1,
      Out.data (C03.ctrStepR wOctets b st).2 :: (run brngCtrB (C03.ctrStepR wOctets b st).1 (calls RngOp.gen bs)).2) = _
    rw [ih]
    rfl

/-- a session of `brngHMACStepR` calls IS `C03.hmacGenRun` on the buffer lengths -/
theorem hmac_run_bridge (bufs : List Bytes) : ∀ st : C03.HmacGenSt,
    run brngHmacB st (calls RngOp.gen bufs) =
      ((C03.hmacGenRun (bufs.map List.length) st).1, (C03.hmacGenRun (bufs.map List.length) st).2.map Out.data) := by
  induction bufs with
  | nil => intro st; rfl
  | cons b bs ih =>
    intro st
    show ((run brngHmacB (C03.hmacGenStepR b.length st).1 (calls RngOp.gen bs)).1,
      Out.data (C03.hmacGenStepR b.length st).2 ::
        (run brngHmacB (C03.hmacGenStepR b.length st).1 (calls RngOp.gen bs)).2) = _
    rw [ih]
    rfl

/-! ### botp -/

/-- a history of `StepR` (`none`) / `StepV(otp)` (`some otp`) calls as a session of `hotpB` -/
def hotpSession (cs : List (Option Bytes)) : List (Call HotpOp) :=
  cs.map fun c => match c with
    | none => Call.op HotpOp.next
    | some o => Call.op (HotpOp.verify o)

/-- results of `C03.hotpRun` / `C03.Spec.hotpRun` as outputs of calls -/
def hotpOut : Bytes ⊕ Bool → Out
  | .inl b => .data b
  | .inr v => .verdict v

theorem hotp_run_bridge (cs : List (Option Bytes)) : ∀ st : C03.HotpSt,
    run hotpB st (hotpSession cs) = ((C03.hotpRun cs st).1, (C03.hotpRun cs st).2.map hotpOut) := by
  induction cs with
  | nil => intro st; rfl
  | cons c cs ih =>
    intro st
    cases c with
    | none =>
      show ((run hotpB (C03.hotpStepR st).1 (hotpSession cs)).1,
        Out.data (C03.hotpStepR st).2 :: (run hotpB (C03.hotpStepR st).1 (hotpSession cs)).2) = _
      rw [ih]; rfl
    | some o =>
      show ((run hotpB (C03.hotpStepV o st).1 (hotpSession cs)).1,
        Out.verdict (C03.hotpStepV o st).2 :: (run hotpB (C03.hotpStepV o st).1 (hotpSession cs)).2) = _
      rw [ih]; rfl

/-- what a TOTP session returns according to the standard -/
def totpStdOut (key : Bytes) (digit : Nat) : Call TotpOp → Out
  | .reloc => .none
  | .op (.next t) => .data (C03.Spec.totp key digit t)
  | .op (.verify t o) => .verdict (decide (C03.Spec.totp key digit t = o))

end Bee2V.C10.Std
