/-
C10 — shared vocabulary of the theorem statements: fragment lists, admissibility as the headers state it,
concatenation of the returned data.  No Mathlib.
-/
import Bee2V.C10.Machines
namespace Bee2V.C10

/-- concatenation of the data returned by a session (`Out.none` and verdicts are skipped) -/
def dataOf : List Out → Bytes
  | [] => []
  | .data b :: r => b ++ dataOf r
  | _ :: r => dataOf r

/-- the session `StepX(c1); StepX(c2); …` -/
def calls {ι : Type} (f : Bytes → ι) (cs : List Bytes) : List (Call ι) := cs.map (fun c => Call.op (f c))

/-- belt.h, `beltECBStepE` / `beltCBCStepE`: "count ≥ 16; the function may be called several times with buffers
of whole blocks; an incomplete block may be passed only in the last call" (e.g. 33 = 16 + 17 but not 32 + 1) -/
def admissibleCTS : List Bytes → Prop
  | [] => False
  | [c] => 16 ≤ c.length
  | c :: cs => 16 ≤ c.length ∧ c.length % 16 = 0 ∧ admissibleCTS cs

instance : (cs : List Bytes) → Decidable (admissibleCTS cs)
  | [] => isFalse (fun h => h)
  | [c] => inferInstanceAs (Decidable (16 ≤ c.length))
  | c :: d :: cs =>
    have := instDecidableAdmissibleCTS (d :: cs)
    inferInstanceAs (Decidable (16 ≤ c.length ∧ c.length % 16 = 0 ∧ admissibleCTS (d :: cs)))

/-- belt.h, `beltBDEStepE`: `count % 16 == 0` (empty fragments allowed) -/
def wholeBlocks (cs : List Bytes) : Prop := ∀ c ∈ cs, c.length % 16 = 0

/-- belt.h, `beltSDEStepE`: `count % 16 == 0 && count >= 32` -/
def sector (d : Bytes) : Prop := d.length % 16 = 0 ∧ 32 ≤ d.length

/-- brng.h, `brngCTRStepR`: the prior content of the buffer is additional input; chunk independence is claimed
for zero-filled buffers only -/
def zeroBufs (cs : List Bytes) : Prop := ∀ c ∈ cs, c = List.replicate c.length 0

/-- the cipher returns 16 octets on 16 octets (true for belt: `C01.length_blockEncr`) -/
def BlockLen (C : C01.Cipher) : Prop :=
  (∀ k x, x.length = 16 → (C.enc k x).length = 16) ∧ (∀ k x, x.length = 16 → (C.dec k x).length = 16)

end Bee2V.C10
