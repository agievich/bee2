/-
C10 property theorems — bash (hash, programmable automaton) and botp (HOTP, TOTP, OCRA) bundles:
chunk independence and get-then-continue, about exactly the state machines `bashHashB`, `prgB`, `hotpB`, `totpB`,
`ocraB` of `Machines.lean`.  `F` (the sponge function) is arbitrary.  The chunk-independence facts of the sponge
skeleton are lifted from C03 (`C03.bashHash_chunk_independent`, `C03.stepGen_append`).
Only property theorems and non-vacuity examples; helper lemmas are in `LemmasGen.lean`.
-/
import Bee2V.C10.LemmasGen
namespace Bee2V.C10
open Bee2V.C10.Gen

/-! ### bash hash -/

/-- CHUNK INDEPENDENCE of bash-hash: from every state with `pos < buf_len` (the invariant; `bashHashStart` makes
it, next theorem), any list of `bashHashStepH` fragments leaves EXACTLY the state of one call on the
concatenation -/
theorem chunk_indep_bashHash (F : Bytes → Bytes) (st : C03.Sp) (h : st.pos < st.bufLen) (cs : List Bytes) :
    after (bashHashB F) st (calls AOp.absorb cs) = C03.hashStepH F cs.flatten st := by
  exact (calls_hom (bashHashB F) AOp.absorb _ (stepGen_chunked F C03.copyOp).noOut (fun _ _ => ⟨rfl, rfl⟩) cs st h
    (fun _ _ => trivial)).2

/-- ... hence a `bashHashStepG` after the fragments returns the hash of the concatenation -/
theorem chunk_indep_bashHash_get (F : Bytes → Bytes) (st : C03.Sp) (h : st.pos < st.bufLen) (cs : List Bytes)
    (n : Nat) :
    ((bashHashB F).step (after (bashHashB F) st (calls AOp.absorb cs)) (.get n)).2 =
      .data (C03.hashStepG F n (C03.hashStepH F cs.flatten st)) := by
  rw [chunk_indep_bashHash F st h cs]
  rfl

/-- from `bashHashStart(l)`, `l ≤ 256`: fragments + StepG = the one-shot Start, StepH, StepG -/
theorem chunk_indep_bashHash_start (F : Bytes → Bytes) (l : Nat) (hl : l ≤ 256) (cs : List Bytes) (n : Nat) :
    outs (bashHashB F) (C03.hashStart l) (calls AOp.absorb cs ++ [.op (.get n)]) =
      List.replicate cs.length .none ++ [.data (C03.hashStepG F n (C03.hashStepH F cs.flatten (C03.hashStart l)))] := by
  have h := chunk_indep_bashHash_get F _ (C03.bashHashStart_inv l hl) cs n
  have ho : ∀ (cs : List Bytes) (st : C03.Sp),
      outs (bashHashB F) st (calls AOp.absorb cs) = List.replicate cs.length .none := by
    intro cs
    induction cs with
    | nil => intro st; rfl
    | cons c cs ih =>
      intro st
      show Out.none :: outs (bashHashB F) (C03.hashStepH F c st) (calls AOp.absorb cs) = _
      rw [ih]; rfl
  simp only [outs, run_append, run] at ho h ⊢
  rw [ho]
  show _ ++ [((bashHashB F).step (after (bashHashB F) (C03.hashStart l) (calls AOp.absorb cs)) (.get n)).2] = _
  rw [h]

/-- 5 octets cut 2 + 0 + 3 at level 256 (rate 64), a toy sponge function -/
example :
    let F : Bytes → Bytes := fun s => s.map (· + 1)
    (C03.hashStart 256).pos < (C03.hashStart 256).bufLen ∧
    outs (bashHashB F) (C03.hashStart 256) (calls AOp.absorb [[1, 2], [], [3, 4, 5]] ++ [.op (.get 4)]) =
      [.none, .none, .none, .data [2, 3, 4, 5]] ∧
    C03.hashStepG F 4 (C03.hashStepH F [1, 2, 3, 4, 5] (C03.hashStart 256)) = [2, 3, 4, 5] := by decide +kernel

/-- GET-THEN-CONTINUE of bash-hash, from EVERY state: StepG / StepV work on a copy (`s1`) -/
theorem get_observational_bashHash (F : Bytes → Bytes) (st : C03.Sp) : GetObservational (bashHashB F) st :=
  getObservational_of_getId (bashHashB F) (bashHash_getId F) st

example :
    let F : Bytes → Bytes := fun s => s.map (· + 1)
    let st := C03.hashStart 256
    outs (bashHashB F) (after (bashHashB F) st [.op (.absorb [1, 2]), .op (.verify [0])]) [.op (.absorb [3]), .op (.get 3)] =
      outs (bashHashB F) (after (bashHashB F) st [.op (.absorb [1, 2])]) [.op (.absorb [3]), .op (.get 3)] ∧
    outs (bashHashB F) st [.op (.absorb [1, 2]), .op (.verify [0])] = [.none, .verdict false] := by decide +kernel

/-! ### the programmable automaton -/

/-- CHUNK INDEPENDENCE of `bashPrgAbsorbStep` (no output: the state) -/
theorem chunk_indep_prg_absorb (F : Bytes → Bytes) (st : C03.PrgSt) (h : st.sp.pos < st.sp.bufLen) (cs : List Bytes) :
    after (prgB F) st (calls PrgOp.absorb cs) = C03.prgAbsorbStep F cs.flatten st :=
  (calls_hom (prgB F) PrgOp.absorb _ (prg_chunked F C03.xorOp).noOut (fun _ _ => ⟨rfl, rfl⟩) cs st h
    (fun _ _ => trivial)).2

/-- CHUNK INDEPENDENCE of `bashPrgEncrStep`: output and final state of any fragmentation = one call -/
theorem chunk_indep_prg_encr (F : Bytes → Bytes) (st : C03.PrgSt) (h : st.sp.pos < st.sp.bufLen) (cs : List Bytes) :
    dataOf (outs (prgB F) st (calls PrgOp.encr cs)) = (C03.prgEncrStep F cs.flatten st).2 ∧
    after (prgB F) st (calls PrgOp.encr cs) = (C03.prgEncrStep F cs.flatten st).1 := by
  exact calls_hom (prgB F) PrgOp.encr _ (prg_chunked F C03.encOp) (fun _ _ => ⟨rfl, List.append_nil _⟩) cs st h
    (fun _ _ => trivial)

/-- CHUNK INDEPENDENCE of `bashPrgDecrStep` -/
theorem chunk_indep_prg_decr (F : Bytes → Bytes) (st : C03.PrgSt) (h : st.sp.pos < st.sp.bufLen) (cs : List Bytes) :
    dataOf (outs (prgB F) st (calls PrgOp.decr cs)) = (C03.prgDecrStep F cs.flatten st).2 ∧
    after (prgB F) st (calls PrgOp.decr cs) = (C03.prgDecrStep F cs.flatten st).1 := by
  exact calls_hom (prgB F) PrgOp.decr _ (prg_chunked F C03.decOp) (fun _ _ => ⟨rfl, List.append_nil _⟩) cs st h
    (fun _ _ => trivial)

/-- CHUNK INDEPENDENCE of `bashPrgSqueezeStep`: squeezing `n1, n2, …` octets in turn = squeezing `n1 + n2 + …`
octets at once (the prior content of the output buffer is irrelevant to the model: zero buffers) -/
theorem chunk_indep_prg_squeeze (F : Bytes → Bytes) (st : C03.PrgSt) (h : st.sp.pos < st.sp.bufLen) (ns : List Nat) :
    dataOf (outs (prgB F) st (ns.map (fun n => Call.op (PrgOp.squeeze n)))) =
      (C03.prgSqueezeStep F (C03.zeros ns.sum) st).2 ∧
    after (prgB F) st (ns.map (fun n => Call.op (PrgOp.squeeze n))) =
      (C03.prgSqueezeStep F (C03.zeros ns.sum) st).1 := by
  have := map_hom (prgB F) PrgOp.squeeze C03.zeros _ (prg_chunked F C03.sqzOp) (fun _ _ => ⟨rfl, List.append_nil _⟩)
    ns st h (fun _ _ => trivial)
  rwa [zeros_flatten] at this

/-- a state with `pos < buf_len`, rate 4, toy sponge function: fragments that end inside a block, cross a block
boundary, are empty -/
example :
    let F : Bytes → Bytes := fun s => s.map (· + 1)
    let st : C03.PrgSt := ⟨128, 1, ⟨[1, 2, 3, 4, 5, 6], 4, 1⟩, []⟩
    st.sp.pos < st.sp.bufLen ∧
    dataOf (outs (prgB F) st (calls PrgOp.encr [[10, 20], [], [30, 40, 50, 60, 70]])) =
      (C03.prgEncrStep F [10, 20, 30, 40, 50, 60, 70] st).2 ∧
    (C03.prgEncrStep F [10, 20, 30, 40, 50, 60, 70] st).2 ≠ [10, 20, 30, 40, 50, 60, 70] ∧
    dataOf (outs (prgB F) st (calls PrgOp.decr [[10, 20], [], [30, 40, 50, 60, 70]])) =
      (C03.prgDecrStep F [10, 20, 30, 40, 50, 60, 70] st).2 ∧
    dataOf (outs (prgB F) st ([2, 0, 5].map (fun n => Call.op (PrgOp.squeeze n)))) =
      (C03.prgSqueezeStep F (C03.zeros 7) st).2 ∧
    (after (prgB F) st (calls PrgOp.absorb [[10, 20], [], [30, 40, 50, 60, 70]])).sp =
      (C03.prgAbsorbStep F [10, 20, 30, 40, 50, 60, 70] st).sp := by decide +kernel

/-! ### TOTP -/

/-- no TOTP call changes the state (`t`, `mac`, `otp` are scratch rewritten by every call before use):
after ANY session the state is the start state -/
theorem totp_state_const (st : TotpSt) (s : List (Call TotpOp)) : after totpB st s = st :=
  totp_after s st

/-- hence every call of ANY session returns what the same call returns as the first call:
`StepR(t)` the one-shot password `botpTOTPRand(digit, key, t)`, `StepV(t, otp)` the corresponding verdict -/
theorem totp_outs_spec (st : TotpSt) (s : List (Call TotpOp)) : outs totpB st s = s.map (totpSpecOut st) :=
  totp_outs s st

/-- every `StepR(t)` in any session returns `totpStepR digit key t` -/
theorem totp_next_spec (st : TotpSt) (pre : List (Call TotpOp)) (t : Nat) :
    (totpB.step (after totpB st pre) (.next t)).2 = .data (C03.totpStepR st.digit st.keySt t) := by
  rw [totp_after]; rfl

/-- GET-THEN-CONTINUE of TOTP (every call is Get-type), from every state -/
theorem get_observational_totp (st : TotpSt) : GetObservational totpB st :=
  getObservational_of_getId totpB (fun s g _ => by cases g <;> rfl) st

/-- non-vacuity.  (Evaluating belt-HMAC in the kernel takes minutes, so the examples observe what does not need the
MAC value: a 6-digit password is never the empty string — the verdict `false` is decided structurally — and the
symbolic instances below cover the successful verdict.) -/
example :
    let st := totpStart 6 [1, 2, 3]
    let s : List (Call TotpOp) := [.op (.verify 5 []), .reloc, .op (.next 5), .op (.next 6)]
    (outs totpB st s)[0]? = some (.verdict false) ∧ (outs totpB st s)[1]? = some .none ∧
    (after totpB st s).digit = 6 := by decide +kernel
/-- the password of `StepR(t)` verifies at time `t`, in any session -/
example (st : TotpSt) (pre : List (Call TotpOp)) (t : Nat) :
    (totpB.step (after totpB st pre) (.verify t (C03.totpStepR st.digit st.keySt t))).2 = .verdict true := by
  rw [totp_state_const]
  show Out.verdict (C03.totpStepV _ _ _ _) = _
  simp only [C03.totpStepV, decide_true]

/-! ### HOTP -/

/-- the `k`-th `StepR` of a run of `StepR` calls returns the one-shot password for the counter advanced `k` times
(`botpHOTPRand(digit, key, ctr + k)`; `botpCtrNext` = +1 mod 2^64 by `C03.botpCtrNext_eq`) -/
theorem hotp_next_spec (st : C03.HotpSt) (n : Nat) :
    outs hotpB st (List.replicate n (.op .next)) =
      (List.range n).map (fun k =>
        Out.data (C03.hotpStepR { st with ctr := Nat.repeat C03.botpCtrNext k st.ctr }).2) :=
  hotp_next_outs n st

/-- GET-THEN-CONTINUE of HOTP (`StepG` returns the counter), from every state -/
theorem get_observational_hotp (st : C03.HotpSt) : GetObservational hotpB st :=
  getObservational_of_getId hotpB hotp_getId st

/-- a FAILING `StepV` leaves the state unchanged (the counter does not advance) -/
theorem hotp_verify_fail_unobservable (st : C03.HotpSt) (o : Bytes) (h : (C03.hotpStepV o st).2 = false) :
    (hotpB.step st (.verify o)).1 = st :=
  hotp_verify_fail o st h

/-- a SUCCESSFUL `StepV` leaves the state of a `StepR` call (the counter advances once), and the password is the
one `StepR` would have returned -/
theorem hotp_verify_ok_advances (st : C03.HotpSt) (o : Bytes) (h : (C03.hotpStepV o st).2 = true) :
    (hotpB.step st (.verify o)).1 = (hotpB.step st .next).1 ∧ (hotpB.step st .next).2 = .data o := by
  have := hotp_verify_ok o st h
  exact ⟨this.1, by show Out.data (C03.hotpStepR st).2 = _; rw [this.2]⟩

/-- failed-Verify-then-continue: after any session `pre`, a failing `StepV` followed by any session `post` yields
the outputs of `post` without that call -/
theorem hotp_failed_verify_observational (st : C03.HotpSt) (pre post : List (Call HotpOp)) (o : Bytes)
    (h : (C03.hotpStepV o (after hotpB st pre)).2 = false) :
    outs hotpB (after hotpB st (pre ++ [.op (.verify o)])) post = outs hotpB (after hotpB st pre) post :=
  outs_skip hotpB st pre post (.verify o) (hotp_verify_fail o _ h)

/-- non-vacuity: `StepR`, a failing `StepV` (empty password against 6 digits), relocation, `StepG`, `StepR`, `StepG`:
the failing `StepV` did not advance the counter -/
example :
    let st := C03.hotpStart 6 [1, 2, 3]
    let s : List (Call HotpOp) := [.op .next, .op (.verify []), .reloc, .op .get, .op .next, .op .get]
    (C03.hotpStepV [] (after hotpB st [.op .next])).2 = false ∧
    (outs hotpB st s)[1]? = some (.verdict false) ∧
    (outs hotpB st s)[3]? = some (.data [0, 0, 0, 0, 0, 0, 0, 1]) ∧
    (outs hotpB st s)[5]? = some (.data [0, 0, 0, 0, 0, 0, 0, 2]) ∧
    Nat.repeat C03.botpCtrNext 3 [0, 0, 0, 0, 0, 0, 0xFF, 0xFE] = [0, 0, 0, 0, 0, 1, 0, 1] := by decide +kernel
/-- both verdicts occur from EVERY state: the password of `StepR` verifies, a longer one does not -/
example (st : C03.HotpSt) : (C03.hotpStepV (C03.hotpStepR st).2 st).2 = true := by
  simp only [C03.hotpStepV, if_true]
example (st : C03.HotpSt) : (C03.hotpStepV ((C03.hotpStepR st).2 ++ [0]) st).2 = false := by
  have hne : ¬ (C03.hotpStepR st).2 = (C03.hotpStepR st).2 ++ [0] := by
    intro h
    have := congrArg List.length h
    simp only [List.length_append, List.length_cons, List.length_nil] at this
    omega
  simp only [C03.hotpStepV, if_neg hne]

/-! ### OCRA -/

/-- the `k`-th `StepR(q_k, t_k)` of a run of `StepR` calls returns the one-shot password for the counter advanced
`k` times (not at all for a suite without counter): see `ocraNextOuts` -/
theorem ocra_next_spec (st : C03.OcraSt) (qts : List (Bytes × Nat)) :
    outs ocraB st (qts.map (fun qt => Call.op (OcraOp.next qt.1 qt.2))) = ocraNextOuts st 0 qts := by
  have := ocra_next_outs st qts 0
  rw [ocraCtrAt_zero] at this
  exact this

/-- GET-THEN-CONTINUE of OCRA (`StepG` returns the counter), from every state -/
theorem get_observational_ocra (st : C03.OcraSt) : GetObservational ocraB st :=
  getObservational_of_getId ocraB ocra_getId st

/-- a FAILING `StepV` leaves the state unchanged: the code restores the saved counter, and `StepR` changes nothing
else -/
theorem ocra_verify_fail_unobservable (st : C03.OcraSt) (q : Bytes) (t : Nat) (o : Bytes)
    (h : (C03.ocraStepV o q t st).2 = false) : (ocraB.step st (.verify q t o)).1 = st :=
  ocra_verify_fail o q t st h

/-- a SUCCESSFUL `StepV` leaves the state of the `StepR` call with the same `q`, `t` -/
theorem ocra_verify_ok_advances (st : C03.OcraSt) (q : Bytes) (t : Nat) (o : Bytes)
    (h : (C03.ocraStepV o q t st).2 = true) :
    (ocraB.step st (.verify q t o)).1 = (ocraB.step st (.next q t)).1 ∧ (ocraB.step st (.next q t)).2 = .data o := by
  have := ocra_verify_ok o q t st h
  exact ⟨this.1, by show Out.data (C03.ocraStepR q t st).2 = _; rw [this.2]⟩

theorem ocra_failed_verify_observational (st : C03.OcraSt) (pre post : List (Call OcraOp)) (q : Bytes) (t : Nat)
    (o : Bytes) (h : (C03.ocraStepV o q t (after ocraB st pre)).2 = false) :
    outs ocraB (after ocraB st (pre ++ [.op (.verify q t o)])) post = outs ocraB (after ocraB st pre) post :=
  outs_skip ocraB st pre post (.verify q t o) (ocra_verify_fail o q t _ h)

/-- non-vacuity: a state as `botpOCRAStart("OCRA-1:HOTP-HBELT-6:C-QN08", key)` makes it (6 digits, 8-octet counter);
`StepR`, a failing `StepV`, `StepG`, `StepR`, `StepG`: the failing `StepV` restored the counter; and a suite without
counter, where `StepR` leaves the counter alone -/
example :
    let st : C03.OcraSt := { digit := 6, ctrLen := 8, qType := 78, qMax := 8, keySt := C03.Belt.hmacStart [1, 2, 3] }
    let st' : C03.OcraSt := { digit := 6, ctrLen := 0, qType := 78, qMax := 8, keySt := C03.Belt.hmacStart [1, 2, 3] }
    let s : List (Call OcraOp) := [.op (.next [1, 2] 0), .op (.verify [3] 0 []), .reloc, .op .get, .op (.next [4] 0),
      .op .get]
    (C03.ocraStepV [] [3] 0 (after ocraB st [.op (.next [1, 2] 0)])).2 = false ∧
    (outs ocraB st s)[1]? = some (.verdict false) ∧
    (outs ocraB st s)[3]? = some (.data [0, 0, 0, 0, 0, 0, 0, 1]) ∧
    (outs ocraB st s)[5]? = some (.data [0, 0, 0, 0, 0, 0, 0, 2]) ∧
    (outs ocraB st' s)[5]? = some (.data [0, 0, 0, 0, 0, 0, 0, 0]) ∧
    ocraCtrAt st 2 = [0, 0, 0, 0, 0, 0, 0, 2] ∧ ocraCtrAt st' 2 = [0, 0, 0, 0, 0, 0, 0, 0] := by decide +kernel
example (st : C03.OcraSt) (q : Bytes) (t : Nat) : (C03.ocraStepV (C03.ocraStepR q t st).2 q t st).2 = true := by
  simp only [C03.ocraStepV, if_true]
example (st : C03.OcraSt) (q : Bytes) (t : Nat) :
    (C03.ocraStepV ((C03.ocraStepR q t st).2 ++ [0]) q t st).2 = false := by
  have hne : ¬ (C03.ocraStepR q t st).2 = (C03.ocraStepR q t st).2 ++ [0] := by
    intro h
    have := congrArg List.length h
    simp only [List.length_append, List.length_cons, List.length_nil] at this
    omega
  simp only [C03.ocraStepV, if_neg hne]

end Bee2V.C10
