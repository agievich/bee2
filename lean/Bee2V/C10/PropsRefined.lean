/-
C10 property theorems: REFINEMENT for the three bundles whose C01/C03 model state has no scratch fields — KRP,
bash hash, TOTP.  `Refined.lean` models the state with the members the C structs have (`belt_krp_st.block/key_new`,
`bash_hash_st.s1`, `botp_totp_st.t/mac/otp` + working HMAC copy), with ARBITRARY prior memory content where `Start`
does not initialise a member.  Proved: every session of the refined machine returns what the abstract machine
returns (so all chunk-independence theorems transfer), Get/Verify-type calls write ONLY scratch members — members
that every later call overwrites before reading — and hence get-then-continue holds for the machine that has the
fields the C has.  The driver executes the refined machines and their scratch members are compared with the real
structs (`D` token of the protocol).
-/
import Bee2V.C10.LemmasRefined
import Bee2V.C10.PropsAbsorb
namespace Bee2V.C10
open Bee2V Bee2V.Gen.C01 Refined

/-! ### KRP -/

/-- the invariant of a KRP state: 32-octet block, admissible length of the original key -/
def KrpR.wf (st : KrpR) : Prop := st.block.length = 32 ∧ (st.len = 16 ∨ st.len = 24 ∨ st.len = 32)

/-- ONE `beltKRPStepG` on the refined state (preconditions of the header: `key_len ∈ {16,24,32}`, `header[16]`):
it returns what the abstract model returns; it rewrites `block[0..4)`, `block[16..32)` and `key_new` — all three
are rewritten by EVERY call before being read — and leaves `key`, `len` and `block[4..16)` (= `level`) alone. -/
theorem krpR_step_refines (C : C01.Cipher) (st : KrpR) (hw : st.wf) (n : Nat) (h : Bytes) (hok : KrpOp.ok (.get n h)) :
    (krpRStepG C st n h).2 = C01.krpStepG C st.abs n h ∧ (krpRStepG C st n h).1.abs = st.abs ∧
    (krpRStepG C st n h).1.wf ∧ (krpRStepG C st n h).1.key = st.key ∧ (krpRStepG C st n h).1.len = st.len := by
  obtain ⟨hb, hl⟩ := hw
  obtain ⟨hn, hh⟩ := hok
  have hr : ((H.toList.drop (4 * (st.len - 16) + 2 * (n - 16))).take 4).length = 4 := rLen _ (by omega)
  have hL : ((st.block.drop 4).take 12).length = 12 := by rw [List.length_take, List.length_drop]; omega
  -- the block after the call is `r ‖ block[4..16) ‖ header`
  simp only [krpRStepG, C01.krpStepG, KrpR.abs, KrpR.wf, block_written st.block _ h hb hr hh,
    level_kept _ _ _ hr hL, List.length_append, hr, hL, hh, List.append_assoc, true_and, and_true]
  exact hl

/-- `beltKRPStart` establishes the invariant and stores `level` where the abstract state keeps it, whatever the
memory of the state held before (`junkBlock`, `junkKeyNew`) -/
theorem krpR_start_refines (key level jb jk : Bytes) (hk : C01.validKeyLen key.length = true)
    (hl : level.length = 12) (hj : jb.length = 32) :
    (krpRStart key level jb jk).abs = C01.krpStart key level ∧ (krpRStart key level jb jk).wf := by
  obtain ⟨h1, h2⟩ := level_stored jb level hj hl
  refine ⟨?_, h2, ?_⟩
  · show C01.KrpSt.mk _ _ _ = C01.KrpSt.mk _ _ _
    congr 1
  · show key.length = 16 ∨ key.length = 24 ∨ key.length = 32
    simpa [C01.validKeyLen, or_assoc] using hk

/-- the relation `abs st = a ∧ st.wf` is a simulation of the abstract KRP machine on admissible calls -/
theorem krpR_sim (C : C01.Cipher) (st : KrpR) (a : C01.KrpSt) (i : KrpOp) (hi : KrpOp.ok i) (h : st.abs = a ∧ st.wf) :
    (((krpRB C).step st i).1.abs = ((krpB C).step a i).1 ∧ ((krpRB C).step st i).1.wf) ∧
      ((krpRB C).step st i).2 = ((krpB C).step a i).2 := by
  obtain ⟨rfl, hw⟩ := h
  cases i with
  | get n h =>
    obtain ⟨e1, e2, e3, _, _⟩ := krpR_step_refines C st hw n h hi
    exact ⟨⟨e2, e3⟩, congrArg Out.data e1⟩

/-- REFINEMENT of whole sessions: the KRP machine with the C struct's members returns, in every session that
respects the preconditions, what the abstract machine returns -/
theorem krpR_refines (C : C01.Cipher) (key level jb jk : Bytes) (hk : C01.validKeyLen key.length = true)
    (hl : level.length = 12) (hj : jb.length = 32) (s : List (Call KrpOp)) (hs : SessionOk KrpOp.ok s) :
    outs (krpRB C) (krpRStart key level jb jk) s = outs (krpB C) (C01.krpStart key level) s := by
  obtain ⟨h1, h2⟩ := krpR_start_refines key level jb jk hk hl hj
  exact (outs_refine KrpOp.ok (krpRB C) (krpB C) (fun st a => st.abs = a ∧ st.wf) (krpR_sim C) s hs _ _ ⟨h1, h2⟩).1

/-- GET-THEN-CONTINUE for the KRP machine that has the scratch members of `belt_krp_st`: any `beltKRPStepG`
(it rewrites `block[0..4)`, `block[16..32)`, `key_new`) is invisible to all later calls -/
theorem get_observational_krpR (C : C01.Cipher) (key level jb jk : Bytes) (hk : C01.validKeyLen key.length = true)
    (hl : level.length = 12) (hj : jb.length = 32) :
    GetObservationalOn KrpOp.ok (krpRB C) (krpRStart key level jb jk) := by
  obtain ⟨h1, h2⟩ := krpR_start_refines key level jb jk hk hl hj
  refine getObservationalOn_of_sim KrpOp.ok (krpRB C) (fun st a => st.abs = a ∧ st.wf) (krpB C).step
    (krpR_sim C) ?_ _ _ ⟨h1, h2⟩
  intro a g _
  cases g with | get n h => rfl

/-- every `beltKRPStepG` in any admissible session on the refined state = the one-shot `beltKRP` -/
theorem chunk_indep_krpR (C : C01.Cipher) (key level jb jk : Bytes) (hk : C01.validKeyLen key.length = true)
    (hl : level.length = 12) (hj : jb.length = 32) (s : List (Call KrpOp)) (hs : SessionOk KrpOp.ok s)
    (m : Nat) (header : Bytes) (hm : C01.validKeyLen m = true) (hmn : m ≤ key.length) (hh : header.length = 16) :
    ((krpRB C).step (after (krpRB C) (krpRStart key level jb jk) s) (.get m header)).2 =
      .data ((C01.krpHL C m key level header).2.getD []) := by
  obtain ⟨h1, h2⟩ := krpR_start_refines key level jb jk hk hl hj
  have hR := (outs_refine KrpOp.ok (krpRB C) (krpB C) (fun st a => st.abs = a ∧ st.wf) (krpR_sim C) s hs _ _
    ⟨h1, h2⟩).2
  have hmv : m = 16 ∨ m = 24 ∨ m = 32 := by simpa [C01.validKeyLen, or_assoc] using hm
  obtain ⟨e1, _⟩ := krpR_step_refines C _ hR.2 m header ⟨hmv, hh⟩
  rw [← chunk_indep_krp C key level s m header hm hk hmn, ← hR.1]
  exact congrArg Out.data e1

/-- non-vacuity: two different junk memories, same outputs; the scratch members do change -/
example : outs (krpRB C01.chunkToy2) (krpRStart (C01.zeros 32) (C01.zeros 12) (List.replicate 32 0xC3) (List.replicate 32 0xC3))
      [.op (.get 16 (C01.zeros 16)), .reloc, .op (.get 32 (List.replicate 16 7)), .op (.get 16 (C01.zeros 16))] =
    outs (krpB C01.chunkToy2) (C01.krpStart (C01.zeros 32) (C01.zeros 12))
      [.op (.get 16 (C01.zeros 16)), .reloc, .op (.get 32 (List.replicate 16 7)), .op (.get 16 (C01.zeros 16))] ∧
    (after (krpRB C01.chunkToy2) (krpRStart (C01.zeros 32) (C01.zeros 12) (List.replicate 32 0xC3) (List.replicate 32 0xC3))
      [.op (.get 32 (List.replicate 16 7))]).block.drop 16 = List.replicate 16 7 := by
  decide +kernel

/-! ### bash hash -/

/-- `bashHashStepG` / `bashHashStepV` write ONLY `s1` (which every Get/Verify overwrites from `s` first): `s`,
`buf_len`, `pos` are untouched; `bashHashStepH` never reads or writes `s1` -/
theorem bashHashR_frame (F : Bytes → Bytes) (st : BashHashR) (n : Nat) (t d : Bytes) :
    ((bashHashRB F).step st (.get n)).1.sp = st.sp ∧ ((bashHashRB F).step st (.verify t)).1.sp = st.sp ∧
    ((bashHashRB F).step st (.absorb d)).1.s1 = st.s1 := ⟨rfl, rfl, rfl⟩

/-- one call of the refined bash-hash machine returns what the C03 machine returns on the projected state -/
theorem bashHashR_step_refines (F : Bytes → Bytes) (st : BashHashR) (op : AOp) :
    ((bashHashRB F).step st op).1.sp = ((bashHashB F).step st.sp op).1 ∧
    ((bashHashRB F).step st op).2 = ((bashHashB F).step st.sp op).2 := by
  cases op <;> exact ⟨rfl, rfl⟩

/-- REFINEMENT of whole sessions (no precondition) -/
theorem bashHashR_refines (F : Bytes → Bytes) (l : Nat) (junk : Bytes) (s : List (Call AOp)) :
    outs (bashHashRB F) (bashHashRStart l junk) s = outs (bashHashB F) (C03.hashStart l) s :=
  (outs_refine (fun _ => True) (bashHashRB F) (bashHashB F) (fun st a => st.sp = a)
    (fun st a i _ h => by subst h; exact bashHashR_step_refines F st i) s
    (sessionOk_true s) _ _ rfl).1

/-- GET-THEN-CONTINUE for the bash-hash machine that has `s1`: from EVERY state, all sessions -/
theorem get_observational_bashHashR (F : Bytes → Bytes) (st : BashHashR) : GetObservational (bashHashRB F) st := by
  refine getObservational_of_sim (bashHashRB F) (fun st a => st.sp = a) (bashHashB F).step ?_ ?_ st st.sp rfl
  · intro st a i h; subst h; exact bashHashR_step_refines F st i
  · intro a g hg
    cases g with
    | absorb d => exact absurd hg Bool.false_ne_true
    | get n => rfl
    | verify t => rfl

/-- Get with 2 octets pending writes the padded, permuted copy into `s1`; the final hash is that of all data -/
example : outs (bashHashRB (fun s => s.map (· + 1))) (bashHashRStart 256 (List.replicate 192 0xC3))
      [.op (.absorb [1, 2]), .op (.get 4), .op (.verify [0]), .reloc, .op (.absorb [3]), .op (.get 4)] =
    outs (bashHashB (fun s => s.map (· + 1))) (C03.hashStart 256)
      [.op (.absorb [1, 2]), .op (.get 4), .op (.verify [0]), .reloc, .op (.absorb [3]), .op (.get 4)] ∧
    (after (bashHashRB (fun s => s.map (· + 1))) (bashHashRStart 256 (List.replicate 192 0xC3))
      [.op (.absorb [1, 2]), .op (.get 4)]).s1.take 4 = [2, 3, 0x41, 1] := by
  decide +kernel

/-! ### TOTP -/

/-- `botpTOTPStepR` / `botpTOTPStepV` write only `t`, `mac`, `otp` and the working HMAC copy — each of them is
rewritten by every call before it is read; `digit` and the key state are never written -/
theorem totpR_frame (st : TotpR) (op : TotpOp) : (totpRB.step st op).1.abs = st.abs := by
  cases op <;> rfl

/-- one call returns what the C03 machine returns -/
theorem totpR_step_refines (st : TotpR) (op : TotpOp) :
    (totpRB.step st op).1.abs = (totpB.step st.abs op).1 ∧ (totpRB.step st op).2 = (totpB.step st.abs op).2 := by
  cases op with
  | next t => exact ⟨rfl, rfl⟩
  | verify t o =>
    refine ⟨rfl, ?_⟩
    show Out.verdict (decide (C03.botpDT st.digit _ = o)) = Out.verdict (C03.totpStepV o st.digit st.keySt t)
    simp only [C03.totpStepV, C03.totpStepR]
    congr

/-- REFINEMENT of whole sessions, for any prior content of `t`, `mac`, `otp` -/
theorem totpR_refines (digit : Nat) (key jt jm jo : Bytes) (s : List (Call TotpOp)) :
    outs totpRB (totpRStart digit key jt jm jo) s = outs totpB (totpStart digit key) s :=
  (outs_refine (fun _ => True) totpRB totpB (fun st a => st.abs = a)
    (fun st a i _ h => by subst h; exact totpR_step_refines st i) s
    (sessionOk_true s) _ _ rfl).1

/-- GET-THEN-CONTINUE for the TOTP machine with the members of `botp_totp_st`: every call is a Get -/
theorem get_observational_totpR (st : TotpR) : GetObservational totpRB st := by
  refine getObservational_of_sim totpRB (fun st a => st.abs = a) totpB.step ?_ ?_ st st.abs rfl
  · intro st a i h; subst h; exact totpR_step_refines st i
  · intro a g _; cases g <;> rfl

/-- the scratch members do change: a failed verification leaves the computed password in `st->otp` -/
example (st : TotpR) (t : Nat) : (totpRB.step st (.verify t [])).1.otp =
    C01.putAt st.otp 0 (C03.totpStepR st.digit st.keySt t ++ [0]) := rfl

end Bee2V.C10
