/-
C10 helper lemmas for the key-stream and AEAD bundles (belt_ctr.c, belt_dwp.c, belt_che.c).

The key stream of `beltCTRStepE` / `beltCHEStepE` splits at every cut by C01's closed form (`C01.Aead.ksStep_eq`,
`ksStep_append`).  The pending block of `beltDWPStepI` / `beltDWPStepA` is read on (`t`, pending octets), where
`absorb16` is `Buffer.absorb` (`absorb16_view`); accumulators are compared up to the scratch octets of `block` (`PEq`).
-/
import Bee2V.C10.LemmasSession
import Bee2V.C01.Lemmas.Lists
import Bee2V.C01.Lemmas.Stream
import Bee2V.C01.Lemmas.Aead
import Bee2V.C01.Lemmas.Chunk
import Bee2V.C01.Lemmas.Block
namespace Bee2V.C10.Aead
open Bee2V.C01 hiding Bytes
open Bee2V.C01.Aead (ksStep ksStep_nil ksStep_append)
open Bee2V.C01.TagL (absorbCore)

/-! ### the key-stream step -/

/-- state invariant of a key-stream mode: counter and gamma block of 16 octets, at most 16 octets in reserve -/
structure KsInv (x blk : Bytes) (res : Nat) : Prop where
  x : x.length = 16
  blk : blk.length = 16
  res : res ≤ 16

/-- the invariant is kept by `StepE` -/
theorem ksStep_inv (f e : Bytes → Bytes) (hf : ∀ x, x.length = 16 → (f x).length = 16)
    (he : ∀ x, x.length = 16 → (e x).length = 16) (buf x blk : Bytes) (res : Nat) (hi : KsInv x blk res) :
    KsInv (ksStep f e x blk res buf).1.1 (ksStep f e x blk res buf).1.2.1 (ksStep f e x blk res buf).1.2.2 := by
  rw [C01.Aead.ksStep_eq f e hf he x blk res buf hi.x hi.blk hi.res]
  obtain ⟨h1, h2, h3⟩ := C01.Aead.ksNext_inv f e hf he x blk res buf.length hi.x hi.blk hi.res
  exact ⟨h1, h2, h3⟩

/-! ### CTR -/

/-- state invariant of `belt_ctr_st` -/
structure CtrInv (st : CtrSt) : Prop where
  res : st.reserved ≤ 16
  blk : st.block.length = 16
  ctr : st.ctr.length = 16

theorem ctrInv_start (C : Cipher) (hlen : ∀ k x, x.length = 16 → (C.enc k x).length = 16) (key iv : Bytes)
    (hiv : iv.length = 16) : CtrInv (ctrStart C key iv) :=
  ⟨Nat.zero_le _, rfl, hlen _ _ hiv⟩

theorem ctrStepE_nil (C : Cipher) (st : CtrSt) : ctrStepE C st [] = (st, []) := by
  rw [C01.Aead.ctrStepE_eq, ksStep_nil]

theorem ctrStepE_keeps (C : Cipher) (hlen : ∀ k x, x.length = 16 → (C.enc k x).length = 16) (st : CtrSt)
    (hi : CtrInv st) (buf : Bytes) : CtrInv (ctrStepE C st buf).1 := by
  have := ksStep_inv incBlock (C.enc st.key) C01.Stream.length_incBlock (hlen st.key) buf st.ctr st.block st.reserved
    ⟨hi.ctr, hi.blk, hi.res⟩
  rw [C01.Aead.ctrStepE_eq]
  exact ⟨this.res, this.blk, this.x⟩

/-- `beltCTRStepE(a ++ b)` = `beltCTRStepE(a); beltCTRStepE(b)`: the same final state (every field), the
concatenated output -/
theorem ctrStepE_append (C : Cipher) (hlen : ∀ k x, x.length = 16 → (C.enc k x).length = 16) (st : CtrSt)
    (hi : CtrInv st) (a b : Bytes) :
    ctrStepE C st (a ++ b) =
      ((ctrStepE C (ctrStepE C st a).1 b).1, (ctrStepE C st a).2 ++ (ctrStepE C (ctrStepE C st a).1 b).2) := by
  rw [C01.Aead.ctrStepE_eq C st (a ++ b), C01.Aead.ctrStepE_eq C (ctrStepE C st a).1 b, C01.Aead.ctrStepE_eq C st a]
  dsimp only
  rw [ksStep_append incBlock (C.enc st.key) C01.Stream.length_incBlock (hlen st.key) st.ctr st.block st.reserved a b
    hi.ctr hi.blk hi.res]

/-- the data passed to the calls of a session of an encrypting bundle, concatenated -/
def eData : List (Call EOp) → Bytes
  | [] => []
  | .reloc :: s => eData s
  | .op (.encr d) :: s => d ++ eData s
  | .op (.decr d) :: s => d ++ eData s

def eD : EOp → Bytes
  | .encr d => d
  | .decr d => d

theorem eData_eq (s : List (Call EOp)) : eData s = sData eD s := by
  induction s with
  | nil => rfl
  | cons c s ih => rcases c with (_ | _) | _ <;> simp only [eData, sData, eD, ih]

/-! ### the pending-block scheme of `beltDWPStepI` / `beltDWPStepA` -/

/-- invariant of the accumulator: a 16-octet block buffer that is never left full, a 16-octet length block -/
structure PInv (p : PolySt) : Prop where
  blk : p.block.length = 16
  fil : p.filled < 16
  len : p.len.length = 16

theorem polySt_ext (p q : PolySt) (h1 : p.r = q.r) (h2 : p.t = q.t) (h3 : p.t1 = q.t1) (h4 : p.len = q.len)
    (h5 : p.block = q.block) (h6 : p.filled = q.filled) : p = q := by
  cases p; cases q; simp only [PolySt.mk.injEq]; exact ⟨h1, h2, h3, h4, h5, h6⟩

/-- one octet through the buffering scheme: store it at `block[filled]`; a completed block is folded into `t` -/
def absorbByte (p : PolySt) (c : UInt8) : PolySt :=
  if p.filled = 15 then
    { p with t := polyStep p.r p.t (putAt p.block 15 [c]), block := putAt p.block 15 [c], filled := 0 }
  else { p with block := putAt p.block p.filled [c], filled := p.filled + 1 }

theorem absorbByte_last (p : PolySt) (c : UInt8) (h : p.filled = 15) : absorbByte p c =
    { p with t := polyStep p.r p.t (putAt p.block 15 [c]), block := putAt p.block 15 [c], filled := 0 } := by
  unfold absorbByte
  rw [if_pos h]

theorem absorbByte_next (p : PolySt) (c : UInt8) (h : p.filled ≠ 15) : absorbByte p c =
    { p with block := putAt p.block p.filled [c], filled := p.filled + 1 } := by
  unfold absorbByte
  rw [if_neg h]

theorem absorb16_short (p : PolySt) (buf : Bytes) (h : p.filled ≠ 0 ∧ buf.length < 16 - p.filled) :
    absorb16 p buf = { p with block := putAt p.block p.filled buf, filled := p.filled + buf.length } := by
  rw [TagL.absorb16_eq, if_pos h]

theorem absorb16_fill (p : PolySt) (buf : Bytes) (h1 : p.filled ≠ 0) (h2 : ¬ buf.length < 16 - p.filled) :
    absorb16 p buf =
      absorbCore p (polyStep p.r p.t (putAt p.block p.filled (buf.take (16 - p.filled))))
        (putAt p.block p.filled (buf.take (16 - p.filled))) (buf.drop (16 - p.filled)) := by
  rw [TagL.absorb16_eq, if_neg (fun h => h2 h.2), if_pos h1]

theorem absorb16_zero (p : PolySt) (buf : Bytes) (h : p.filled = 0) :
    absorb16 p buf = absorbCore p p.t p.block buf := by
  rw [TagL.absorb16_eq, if_neg (fun h' => h'.1 h), if_neg (fun h' => h' h)]

theorem absorbCore_nil (p : PolySt) (t0 blk0 : Bytes) :
    absorbCore p t0 blk0 [] = { p with t := t0, block := blk0, filled := 0 } := by
  unfold absorbCore
  rw [C01.fullBlocks_short _ _ [] (by simp only [List.length_nil]; omega)]
  rfl

theorem absorbCore_short (p : PolySt) (t0 blk0 buf : Bytes) (h0 : buf.length ≠ 0) (h : buf.length < 16) :
    absorbCore p t0 blk0 buf = { p with t := t0, block := putAt blk0 0 buf, filled := buf.length } := by
  unfold absorbCore
  rw [C01.fullBlocks_short _ _ buf h]
  simp only [h0, ne_eq, not_false_eq_true, if_true]

theorem absorb16_nil (p : PolySt) (hi : PInv p) : absorb16 p [] = p := by
  by_cases h : p.filled = 0
  · rw [absorb16_zero p [] h, absorbCore_nil]
    exact polySt_ext _ _ rfl rfl rfl rfl rfl h.symm
  · rw [absorb16_short p [] ⟨h, by have := hi.fil; simp only [List.length_nil]; omega⟩]
    exact polySt_ext _ _ rfl rfl rfl rfl (Stream.putAt_nil _ _) rfl

theorem absorb16_one (p : PolySt) (hi : PInv p) (c : UInt8) : absorb16 p [c] = absorbByte p c := by
  have hf := hi.fil
  by_cases h15 : p.filled = 15
  · rw [absorbByte_last p c h15, absorb16_fill p [c] (by omega) (by simp only [List.length_cons, List.length_nil]; omega)]
    have h1 : 16 - p.filled = 1 := by omega
    rw [h1, h15]
    show absorbCore p _ _ [] = _
    rw [absorbCore_nil]
    rfl
  · rw [absorbByte_next p c h15]
    by_cases h0 : p.filled = 0
    · rw [absorb16_zero p [c] h0, absorbCore_short p _ _ [c] (by simp only [List.length_cons, List.length_nil]; omega)
        (by simp only [List.length_cons, List.length_nil]; omega)]
      exact polySt_ext _ _ rfl rfl rfl rfl (by rw [h0]) (by rw [h0]; rfl)
    · rw [absorb16_short p [c] ⟨h0, by simp only [List.length_cons, List.length_nil]; omega⟩]
      rfl

theorem absorb16_view (p : PolySt) (hi : PInv p) (buf : Bytes) :
    ((absorb16 p buf).t, (absorb16 p buf).block.take (absorb16 p buf).filled) =
        Buffer.absorb (polyStep p.r) 16 (· / 16) (p.t, p.block.take p.filled) buf ∧
      (absorb16 p buf).block.length = 16 ∧ (absorb16 p buf).filled = (p.filled + buf.length) % 16 ∧
      (absorb16 p buf).r = p.r ∧ (absorb16 p buf).len = p.len := by
  obtain ⟨v, b, fl, e, h1, h2, h3⟩ := C01.absorbG_abs (C01.shape16 p) (fun _ _ => rfl) (fun _ _ => rfl) 16
    (polyStep p.r) p.t p.block p.filled buf hi.blk hi.fil
  rw [C01.absorb16_absorbG, e]
  exact ⟨h1, h2, h3, rfl, rfl⟩

theorem absorb16_inv (p : PolySt) (hi : PInv p) (buf : Bytes) : PInv (absorb16 p buf) := by
  obtain ⟨_, h2, h3, _, h5⟩ := absorb16_view p hi buf
  exact ⟨h2, by rw [h3]; exact Nat.mod_lt _ (by decide), by rw [h5]; exact hi.len⟩

theorem absorb16_filled (p : PolySt) (hi : PInv p) (buf : Bytes) :
    (absorb16 p buf).filled = (p.filled + buf.length) % 16 := (absorb16_view p hi buf).2.2.1

/-! ### equality of accumulators up to the scratch octets -/

/-- `p` and `q` agree on everything later calls read: `r`, `t`, the length block, `filled` and the pending octets
`block[0 .. filled)`.  NOT compared: `t1` (output scratch of StepG) and `block[filled .. 16)` (StepG writes the
zero padding there, StepI/StepA overwrite these octets before reading them). -/
structure PEq (p q : PolySt) : Prop where
  ip : PInv p
  iq : PInv q
  r : p.r = q.r
  t : p.t = q.t
  len : p.len = q.len
  fil : p.filled = q.filled
  pend : p.block.take p.filled = q.block.take q.filled

theorem PEq.refl (p : PolySt) (hi : PInv p) : PEq p p := ⟨hi, hi, rfl, rfl, rfl, rfl, rfl⟩
theorem PEq.symm {p q : PolySt} (h : PEq p q) : PEq q p := ⟨h.iq, h.ip, h.r.symm, h.t.symm, h.len.symm, h.fil.symm, h.pend.symm⟩
theorem PEq.trans {p q u : PolySt} (h : PEq p q) (h' : PEq q u) : PEq p u :=
  ⟨h.ip, h'.iq, h.r.trans h'.r, h.t.trans h'.t, h.len.trans h'.len, h.fil.trans h'.fil, h.pend.trans h'.pend⟩

theorem absorb16_congr {p q : PolySt} (h : PEq p q) (buf : Bytes) : PEq (absorb16 p buf) (absorb16 q buf) := by
  obtain ⟨p1, _, p3, p4, p5⟩ := absorb16_view p h.ip buf
  obtain ⟨q1, _, q3, q4, q5⟩ := absorb16_view q h.iq buf
  have e : ((absorb16 p buf).t, (absorb16 p buf).block.take (absorb16 p buf).filled) =
      ((absorb16 q buf).t, (absorb16 q buf).block.take (absorb16 q buf).filled) := by
    rw [p1, q1, h.r, h.t, h.pend]
  exact ⟨absorb16_inv p h.ip buf, absorb16_inv q h.iq buf, by rw [p4, q4, h.r], congrArg Prod.fst e,
    by rw [p5, q5, h.len], by rw [p3, q3, h.fil], congrArg Prod.snd e⟩

/-- only `PEq`: the scratch octets `block[filled .. 16)` may differ -/
theorem absorb16_append (p : PolySt) (hi : PInv p) (a b : Bytes) :
    PEq (absorb16 (absorb16 p a) b) (absorb16 p (a ++ b)) := by
  have ha := absorb16_inv p hi a
  obtain ⟨a1, _, a3, a4, a5⟩ := absorb16_view p hi a
  obtain ⟨b1, _, b3, b4, b5⟩ := absorb16_view _ ha b
  obtain ⟨c1, _, c3, c4, c5⟩ := absorb16_view p hi (a ++ b)
  have e : ((absorb16 (absorb16 p a) b).t, (absorb16 (absorb16 p a) b).block.take (absorb16 (absorb16 p a) b).filled) =
      ((absorb16 p (a ++ b)).t, (absorb16 p (a ++ b)).block.take (absorb16 p (a ++ b)).filled) := by
    rw [b1, c1, Buffer.absorb_append (by intro n; omega) (by intro n m; omega), ← a1, a4]
  exact ⟨absorb16_inv _ ha b, absorb16_inv p hi _, by rw [b4, a4, c4], congrArg Prod.fst e, by rw [b5, a5, c5],
    by rw [b3, a3, c3, List.length_append]; omega, congrArg Prod.snd e⟩

/-! ### the length block -/

/-- new length block after `n` more octets of open data (`beltHalfBlockAddBitSizeW(st->len, n)`, 64-bit words) -/
def lenI (len : Bytes) (n : Nat) : Bytes := addBitSizeW 64 (len.take 8) n ++ len.drop 8
/-- ... of critical data (`beltHalfBlockAddBitSizeW(st->len + W_OF_B(64), n)`) -/
def lenA (len : Bytes) (n : Nat) : Bytes := len.take 8 ++ addBitSizeW 64 (len.drop 8) n

theorem addW_eq (h : Bytes) (n : Nat) :
    addBitSizeW 64 h n = natLE 8 ((leNat h + (n % 2 ^ 64) * 8 % 2 ^ 64) % 2 ^ 64) := rfl

theorem pow256_8 : (256 : Nat) ^ 8 = 2 ^ 64 := by decide

theorem addW_add (h : Bytes) (a b : Nat) : addBitSizeW 64 (addBitSizeW 64 h a) b = addBitSizeW 64 h (a + b) := by
  rw [addW_eq, addW_eq, addW_eq, C01.leNat_natLE, pow256_8]
  congr 1
  omega

theorem addW_zero (h : Bytes) (hl : h.length = 8) : addBitSizeW 64 h 0 = h := by
  have hlt := C01.leNat_lt h
  rw [hl, pow256_8] at hlt
  rw [addW_eq]
  have : (leNat h + 0 % 2 ^ 64 * 8 % 2 ^ 64) % 2 ^ 64 = leNat h := by omega
  rw [this, ← hl]
  exact C01.natLE_leNat h

theorem length_lenI (len : Bytes) (n : Nat) (hl : len.length = 16) : (lenI len n).length = 16 := by
  simp only [lenI, List.length_append, C01.Aead.length_addBitSizeW, List.length_drop, hl]

theorem length_lenA (len : Bytes) (n : Nat) (hl : len.length = 16) : (lenA len n).length = 16 := by
  simp only [lenA, List.length_append, C01.Aead.length_addBitSizeW, List.length_take, hl]
  omega

theorem lenI_zero (len : Bytes) (hl : len.length = 16) : lenI len 0 = len := by
  rw [lenI, addW_zero _ (by simp only [List.length_take, hl]; omega), List.take_append_drop]

theorem lenA_zero (len : Bytes) (hl : len.length = 16) : lenA len 0 = len := by
  rw [lenA, addW_zero _ (by simp only [List.length_drop, hl]), List.take_append_drop]

theorem lenI_add (len : Bytes) (a b : Nat) (_hl : len.length = 16) : lenI (lenI len a) b = lenI len (a + b) := by
  have h8 : (addBitSizeW 64 (len.take 8) a).length = 8 := C01.Aead.length_addBitSizeW _ _ _
  simp only [lenI]
  rw [List.take_left' h8, List.drop_left' h8, addW_add]

theorem lenA_add (len : Bytes) (a b : Nat) (hl : len.length = 16) : lenA (lenA len a) b = lenA len (a + b) := by
  have h8 : (len.take 8).length = 8 := by simp only [List.length_take, hl]; omega
  simp only [lenA]
  rw [List.take_left' h8, List.drop_left' h8, addW_add]

theorem lenI_drop (len : Bytes) (n : Nat) : (lenI len n).drop 8 = len.drop 8 := by
  rw [lenI, List.drop_left' (C01.Aead.length_addBitSizeW _ _ _)]

theorem lenA_drop (len : Bytes) (n : Nat) (hl : len.length = 16) :
    (lenA len n).drop 8 = addBitSizeW 64 (len.drop 8) n := by
  rw [lenA, List.drop_left' (by simp only [List.length_take, hl]; omega)]

/-! ### StepI / StepA / StepG on the accumulator -/

theorem polyStepI_def (p : PolySt) (buf : Bytes) :
    polyStepI 64 p buf = absorb16 { p with len := lenI p.len buf.length } buf := rfl

/-- the flush of a pending open-data block by the first non-empty fragment of critical data -/
def flushA (p : PolySt) (n : Nat) : PolySt :=
  if n ≠ 0 ∧ p.len.drop 8 = zeros 8 ∧ p.filled ≠ 0 then
    { p with block := p.block.take p.filled ++ zeros (16 - p.filled),
             t := polyStep p.r p.t (p.block.take p.filled ++ zeros (16 - p.filled)), filled := 0 }
  else p

theorem polyStepA_def (p : PolySt) (buf : Bytes) :
    polyStepA 64 p buf =
      absorb16 { flushA p buf.length with len := lenA (flushA p buf.length).len buf.length } buf := rfl

theorem absorb16_setLen (p : PolySt) (X buf : Bytes) :
    absorb16 { p with len := X } buf = { absorb16 p buf with len := X } := by
  unfold absorb16
  dsimp only
  by_cases h1 : p.filled ≠ 0 ∧ buf.length < 16 - p.filled
  · rw [if_pos h1, if_pos h1]
  · rw [if_neg h1, if_neg h1]
    generalize C01.fullBlocks 16 _ _ _ = l
    by_cases h2 : l.2.2.length ≠ 0
    · rw [if_pos h2, if_pos h2]
    · rw [if_neg h2, if_neg h2]

theorem setLen_inv {p : PolySt} (hi : PInv p) (X : Bytes) (hX : X.length = 16) : PInv { p with len := X } :=
  ⟨hi.blk, hi.fil, hX⟩

theorem setLen_congr {p q : PolySt} (h : PEq p q) (X : Bytes) (hX : X.length = 16) :
    PEq { p with len := X } { q with len := X } :=
  ⟨setLen_inv h.ip X hX, setLen_inv h.iq X hX, h.r, h.t, rfl, h.fil, h.pend⟩

theorem flushA_len (p : PolySt) (n : Nat) : (flushA p n).len = p.len := by
  unfold flushA; split <;> rfl

theorem length_take_zeros (b : Bytes) (f : Nat) (hb : b.length = 16) (hf : f < 16) :
    (b.take f ++ zeros (16 - f)).length = 16 := by
  simp only [List.length_append, List.length_take, zeros, List.length_replicate, hb]; omega

theorem flushA_inv {p : PolySt} (hi : PInv p) (n : Nat) : PInv (flushA p n) := by
  unfold flushA
  split
  · exact ⟨length_take_zeros _ _ hi.blk hi.fil, by simp only []; omega, hi.len⟩
  · exact hi

theorem flushA_congr {p q : PolySt} (h : PEq p q) (n : Nat) : PEq (flushA p n) (flushA q n) := by
  have ip := flushA_inv h.ip n
  have iq := flushA_inv h.iq n
  unfold flushA at ip iq ⊢
  by_cases hc : n ≠ 0 ∧ p.len.drop 8 = zeros 8 ∧ p.filled ≠ 0
  · have hc' : n ≠ 0 ∧ q.len.drop 8 = zeros 8 ∧ q.filled ≠ 0 := by rw [← h.len, ← h.fil]; exact hc
    rw [if_pos hc] at ip ⊢
    rw [if_pos hc'] at iq ⊢
    have eb : p.block.take p.filled ++ zeros (16 - p.filled) = q.block.take q.filled ++ zeros (16 - q.filled) := by
      rw [h.pend, h.fil]
    exact ⟨ip, iq, h.r, by show polyStep p.r p.t _ = polyStep q.r q.t _; rw [h.r, h.t, eb], h.len, rfl, rfl⟩
  · have hc' : ¬ (n ≠ 0 ∧ q.len.drop 8 = zeros 8 ∧ q.filled ≠ 0) := by rw [← h.len, ← h.fil]; exact hc
    rw [if_neg hc, if_neg hc']
    exact h

theorem polyStepI_inv {p : PolySt} (hi : PInv p) (buf : Bytes) : PInv (polyStepI 64 p buf) := by
  rw [polyStepI_def]
  exact absorb16_inv _ (setLen_inv hi _ (length_lenI _ _ hi.len)) buf

theorem polyStepA_inv {p : PolySt} (hi : PInv p) (buf : Bytes) : PInv (polyStepA 64 p buf) := by
  rw [polyStepA_def]
  have h1 := flushA_inv hi buf.length
  exact absorb16_inv _ (setLen_inv h1 _ (length_lenA _ _ h1.len)) buf

/-- StepI respects equality up to scratch -/
theorem polyStepI_congr {p q : PolySt} (h : PEq p q) (buf : Bytes) :
    PEq (polyStepI 64 p buf) (polyStepI 64 q buf) := by
  rw [polyStepI_def, polyStepI_def, h.len]
  exact absorb16_congr (setLen_congr h _ (length_lenI _ _ h.iq.len)) buf

/-- StepA respects equality up to scratch -/
theorem polyStepA_congr {p q : PolySt} (h : PEq p q) (buf : Bytes) :
    PEq (polyStepA 64 p buf) (polyStepA 64 q buf) := by
  rw [polyStepA_def, polyStepA_def]
  have h1 := flushA_congr h buf.length
  rw [h1.len]
  exact absorb16_congr (setLen_congr h1 _ (length_lenA _ _ h1.iq.len)) buf

/-- the block that StepG encrypts depends only on what `PEq` compares -/
theorem polyFinish_congr {p q : PolySt} (h : PEq p q) : (polyFinish p).2 = (polyFinish q).2 := by
  unfold polyFinish
  by_cases hf : p.filled ≠ 0
  · have hf' : q.filled ≠ 0 := by rw [← h.fil]; exact hf
    simp only [if_pos hf, if_pos hf']
    rw [h.r, h.t, h.len, h.pend, h.fil]
  · have hf' : ¬ q.filled ≠ 0 := by rw [← h.fil]; exact hf
    simp only [if_neg hf, if_neg hf']
    rw [h.r, h.t, h.len]

/-- StepG_internal changes scratch only -/
theorem polyFinish_peq {p : PolySt} (hi : PInv p) (x : Bytes) : PEq { (polyFinish p).1 with t1 := x } p := by
  unfold polyFinish
  by_cases hf : p.filled ≠ 0
  · simp only [if_pos hf]
    have hl : (p.block.take p.filled).length = p.filled := by
      simp only [List.length_take, hi.blk]; have := hi.fil; omega
    exact ⟨⟨length_take_zeros _ _ hi.blk hi.fil, hi.fil, hi.len⟩, hi, rfl, rfl, rfl, rfl,
      List.take_left' hl⟩
  · simp only [if_neg hf]
    exact ⟨⟨hi.blk, hi.fil, hi.len⟩, hi, rfl, rfl, rfl, rfl, rfl⟩

theorem polyStepI_nil {p : PolySt} (hi : PInv p) : polyStepI 64 p [] = p := by
  rw [polyStepI_def, List.length_nil, lenI_zero _ hi.len]
  exact absorb16_nil p hi

theorem polyStepA_nil {p : PolySt} (hi : PInv p) : polyStepA 64 p [] = p := by
  have hfl : flushA p 0 = p := by unfold flushA; rw [if_neg (fun h => h.1 rfl)]
  rw [polyStepA_def, List.length_nil, hfl, lenA_zero _ hi.len]
  exact absorb16_nil p hi

theorem polyStepI_append {p : PolySt} (hi : PInv p) (a b : Bytes) :
    PEq (polyStepI 64 (polyStepI 64 p a) b) (polyStepI 64 p (a ++ b)) := by
  rw [polyStepI_def (polyStepI 64 p a) b, polyStepI_def p a, polyStepI_def p (a ++ b)]
  rw [absorb16_setLen p, absorb16_setLen p]
  dsimp only
  rw [← absorb16_setLen, lenI_add _ _ _ hi.len, List.length_append]
  exact absorb16_append _ (setLen_inv hi _ (length_lenI _ _ hi.len)) a b


theorem flushA_pos (p : PolySt) (n m : Nat) (hn : n ≠ 0) (hm : m ≠ 0) : flushA p n = flushA p m := by
  unfold flushA
  by_cases hc : p.len.drop 8 = zeros 8 ∧ p.filled ≠ 0
  · rw [if_pos ⟨hn, hc⟩, if_pos ⟨hm, hc⟩]
  · rw [if_neg (fun h => hc h.2), if_neg (fun h => hc h.2)]

theorem flushA_neg (p : PolySt) (n : Nat) (h : p.len.drop 8 ≠ zeros 8) : flushA p n = p := by
  unfold flushA
  rw [if_neg (fun h' => h h'.2.1)]

theorem flushA_fil0 (p : PolySt) (n : Nat) (h : p.filled = 0) : flushA p n = p := by
  unfold flushA
  rw [if_neg (fun h' => h'.2.2 h)]

/-- after the first non-empty critical fragment nothing of the open data is pending -/
theorem flushA_filled (p : PolySt) (n : Nat) (hn : n ≠ 0) (hz : p.len.drop 8 = zeros 8) : (flushA p n).filled = 0 := by
  unfold flushA
  by_cases hf : p.filled ≠ 0
  · rw [if_pos ⟨hn, hz, hf⟩]
  · rw [if_neg (fun h' => hf h'.2.2)]; omega

/-- a zero bit counter after `n` octets means `n` is a multiple of 2^61, hence of the block size -/
theorem addW_eq_zero (n : Nat) (h : addBitSizeW 64 (zeros 8) n = zeros 8) : n % 16 = 0 := by
  have h' := congrArg leNat h
  rw [addW_eq, C01.leNat_natLE, pow256_8] at h'
  have hz : leNat (zeros 8) = 0 := by decide
  rw [hz] at h'
  omega

/-- critical data in two fragments = critical data in one fragment, from every state
whose critical-data counter is zero (no critical data yet).  NO bound on the lengths: the 64-bit bit counter of the
critical data can return to zero only after a multiple of 2^61 octets, i.e. of whole blocks, and then no octets
are pending, so StepA's "first critical fragment?" test cannot flush a second time. -/
theorem polyStepA_append {p : PolySt} (hi : PInv p) (hz : p.len.drop 8 = zeros 8) (a b : Bytes) :
    PEq (polyStepA 64 (polyStepA 64 p a) b) (polyStepA 64 p (a ++ b)) := by
  by_cases ha : a.length = 0
  · have : a = [] := List.eq_nil_of_length_eq_zero ha
    subst this
    rw [polyStepA_nil hi, List.nil_append]
    exact PEq.refl _ (polyStepA_inv hi b)
  · have hfe : flushA p (a ++ b).length = flushA p a.length :=
      flushA_pos p _ _ (by simp only [List.length_append]; omega) ha
    have h1 := flushA_inv hi a.length
    have hq : polyStepA 64 p a = absorb16 { flushA p a.length with len := lenA p.len a.length } a := by
      rw [polyStepA_def, flushA_len]
    have hqlen : (polyStepA 64 p a).len = lenA p.len a.length := by
      rw [hq, C01.Aead.absorb16_len]
    have hqfil : (polyStepA 64 p a).filled = a.length % 16 := by
      rw [hq, absorb16_filled _ (setLen_inv h1 _ (length_lenA _ _ hi.len))]
      show ((flushA p a.length).filled + a.length) % 16 = _
      rw [flushA_filled p _ ha hz, Nat.zero_add]
    have hfl : flushA (polyStepA 64 p a) b.length = polyStepA 64 p a := by
      by_cases hc : (polyStepA 64 p a).len.drop 8 = zeros 8
      · apply flushA_fil0
        rw [hqlen, lenA_drop _ _ hi.len, hz] at hc
        rw [hqfil]
        exact addW_eq_zero _ hc
      · exact flushA_neg _ _ hc
    rw [polyStepA_def (polyStepA 64 p a) b, hfl, hqlen, lenA_add _ _ _ hi.len, hq,
      absorb16_setLen (flushA p a.length)]
    dsimp only
    rw [← absorb16_setLen, polyStepA_def p (a ++ b), hfe, flushA_len, List.length_append]
    exact absorb16_append _ (setLen_inv h1 _ (length_lenA _ _ hi.len)) a b

/-! ### the accumulator as a function of the absorbed data -/

/-- the accumulator after open data `I` and critical data `A`, each absorbed by ONE call -/
def polySpec (p0 : PolySt) (I A : Bytes) : PolySt := polyStepA 64 (polyStepI 64 p0 I) A

theorem polyStepI_lenDrop (p : PolySt) (buf : Bytes) : (polyStepI 64 p buf).len.drop 8 = p.len.drop 8 := by
  rw [polyStepI_def, C01.Aead.absorb16_len]
  exact lenI_drop _ _

/-- StepI on a state that stands for `(I, A)`: allowed when the fragment is empty or no critical data yet -/
theorem polySpec_stepI {p p0 : PolySt} (h0 : PInv p0) (I A d : Bytes) (h : PEq p (polySpec p0 I A))
    (hadm : d = [] ∨ A = []) : PEq (polyStepI 64 p d) (polySpec p0 (I ++ d) A) := by
  rcases hadm with hd | hA
  · subst hd
    rw [polyStepI_nil h.ip, List.append_nil]
    exact h
  · subst hA
    unfold polySpec at h ⊢
    rw [polyStepA_nil (polyStepI_inv h0 _)] at h ⊢
    exact (polyStepI_congr h d).trans (polyStepI_append h0 I d)

/-- StepA on a state that stands for `(I, A)`: always allowed -/
theorem polySpec_stepA {p p0 : PolySt} (h0 : PInv p0) (hz : p0.len.drop 8 = zeros 8) (I A d : Bytes)
    (h : PEq p (polySpec p0 I A)) : PEq (polyStepA 64 p d) (polySpec p0 I (A ++ d)) :=
  (polyStepA_congr h d).trans (polyStepA_append (polyStepI_inv h0 I) (by rw [polyStepI_lenDrop]; exact hz) A d)

/-! ### sessions of an AEAD bundle: vocabulary -/

/-- what a DWP / CHE session has absorbed so far -/
structure Absorbed where
  I : Bytes      -- open data (StepI)
  A : Bytes      -- critical data (StepA)
  X : Bytes      -- data passed through StepE / StepD
  deriving DecidableEq, Repr

/-- the effect of a call on what has been absorbed (Get / Verify: none) -/
def absNext (a : Absorbed) : AeadOp → Absorbed
  | .ad d => { a with I := a.I ++ d }
  | .auth d => { a with A := a.A ++ d }
  | .encr d => { a with X := a.X ++ d }
  | .decr d => { a with X := a.X ++ d }
  | .get => a
  | .verify _ => a

/-- what a whole session absorbs -/
def absRun (a : Absorbed) : List (Call AeadOp) → Absorbed
  | [] => a
  | .reloc :: s => absRun a s
  | .op o :: s => absRun (absNext a o) s

/-- belt.h on `beltDWPStepI` / `beltCHEStepI`: open data must be processed before critical data — the ASSERT
`count == 0 || beltHalfBlockIsZero(st->len + W_OF_B(64))`: no NON-EMPTY StepI fragment after a non-empty StepA
fragment.  Nothing else is required (in particular no bound on the lengths: the bit counters are 64-bit words that
wrap, in the fragmented session exactly as in the one-call computation, see `polyStepA_append`). -/
def admOp (A : Bytes) : AeadOp → Bool
  | .ad d => d.isEmpty || A.isEmpty
  | _ => true

/-- admissible continuation of a session that has absorbed `a` -/
def admFrom (a : Absorbed) : List (Call AeadOp) → Bool
  | [] => true
  | .reloc :: s => admFrom a s
  | .op o :: s => admOp a.A o && admFrom (absNext a o) s

/-- admissible session (from Start): StepE / StepD / StepG / StepV / relocation anywhere, StepI / StepA in the
order belt.h prescribes -/
def Admissible (s : List (Call AeadOp)) : Prop := admFrom ⟨[], [], []⟩ s = true

instance (s : List (Call AeadOp)) : Decidable (Admissible s) := inferInstanceAs (Decidable (_ = true))

theorem admFrom_append (s t : List (Call AeadOp)) : ∀ a : Absorbed,
    admFrom a (s ++ t) = (admFrom a s && admFrom (absRun a s) t) := by
  induction s with
  | nil => intro a; rfl
  | cons c s ih =>
    intro a
    cases c with
    | reloc => exact ih a
    | op o => simp only [List.cons_append, admFrom, absRun, ih, Bool.and_assoc]

theorem absRun_append (s t : List (Call AeadOp)) : ∀ a : Absorbed, absRun a (s ++ t) = absRun (absRun a s) t := by
  induction s with
  | nil => intro a; rfl
  | cons c s ih =>
    intro a
    cases c with
    | reloc => exact ih a
    | op o => exact ih _

/-- the encr/decr outputs of a session, concatenated (the outputs of Get are data too, so `dataOf` is not it) -/
def cryptData : List (Call AeadOp) → List Out → Bytes
  | .op (.encr _) :: s, .data b :: o => b ++ cryptData s o
  | .op (.decr _) :: s, .data b :: o => b ++ cryptData s o
  | _ :: s, _ :: o => cryptData s o
  | _, _ => []

/-- the open data of a session (StepI fragments, concatenated) -/
def adOf : List (Call AeadOp) → Bytes
  | [] => []
  | .op (.ad d) :: s => d ++ adOf s
  | _ :: s => adOf s

/-- the critical data of a session (StepA fragments, concatenated) -/
def authOf : List (Call AeadOp) → Bytes
  | [] => []
  | .op (.auth d) :: s => d ++ authOf s
  | _ :: s => authOf s

/-- the data passed through StepE / StepD in a session, concatenated -/
def encOf : List (Call AeadOp) → Bytes
  | [] => []
  | .op (.encr d) :: s => d ++ encOf s
  | .op (.decr d) :: s => d ++ encOf s
  | _ :: s => encOf s

theorem absRun_eq (s : List (Call AeadOp)) : ∀ a : Absorbed,
    absRun a s = ⟨a.I ++ adOf s, a.A ++ authOf s, a.X ++ encOf s⟩ := by
  induction s with
  | nil => intro a; simp only [absRun, adOf, authOf, encOf, List.append_nil]
  | cons c s ih =>
    intro a
    cases c with
    | reloc => simp only [absRun, adOf, authOf, encOf, ih]
    | op o => cases o <;> simp only [absRun, absNext, adOf, authOf, encOf, ih, List.append_assoc]

theorem absRun_start (s : List (Call AeadOp)) : absRun ⟨[], [], []⟩ s = ⟨adOf s, authOf s, encOf s⟩ := by
  rw [absRun_eq]; rfl

theorem after_spec (B : Bundle Absorbed AeadOp) (hB : ∀ a op, (B.step a op).1 = absNext a op)
    (s : List (Call AeadOp)) : ∀ a, after B a s = absRun a s := by
  induction s with
  | nil => intro a; rfl
  | cons c s ih =>
    intro a
    cases c with
    | reloc => exact ih a
    | op o =>
      show after B (B.step a o).1 s = absRun (absNext a o) s
      rw [hB, ih]

/-! ### a bundle seen through a view of its state -/

section view
variable {σ τ ι : Type} (B : Bundle σ ι) (A : Bundle τ ι) (v : σ → τ)

/-- if `v` commutes with every call, it commutes with every session -/
theorem run_view (hv : ∀ s i, A.step (v s) i = (v (B.step s i).1, (B.step s i).2)) (cs : List (Call ι)) :
    ∀ s, run A (v s) cs = (v (run B s cs).1, (run B s cs).2) := by
  induction cs with
  | nil => intro s; rfl
  | cons c cs ih =>
    intro s
    cases c with
    | reloc => simp only [run, ih]
    | op i => simp only [run, hv, ih]

theorem outs_view (hv : ∀ s i, A.step (v s) i = (v (B.step s i).1, (B.step s i).2)) (s : σ) (cs : List (Call ι)) :
    outs B s cs = outs A (v s) cs := by simp only [outs, run_view B A v hv]

theorem after_view (hv : ∀ s i, A.step (v s) i = (v (B.step s i).1, (B.step s i).2)) (s : σ) (cs : List (Call ι)) :
    v (after B s cs) = after A (v s) cs := by simp only [after, run_view B A v hv]

theorem getObservational_view (hv : ∀ s i, A.step (v s) i = (v (B.step s i).1, (B.step s i).2))
    (hi : A.isGet = B.isGet) (s0 : σ) (h : GetObservational A (v s0)) : GetObservational B s0 := by
  intro pre post g hg
  rw [outs_view B A v hv, outs_view B A v hv, after_view B A v hv, after_view B A v hv]
  exact h pre post g (hi ▸ hg)

/-- the outputs of a session followed by one more call -/
theorem outs_snoc (s : σ) (cs : List (Call ι)) (i : ι) :
    outs B s (cs ++ [.op i]) = outs B s cs ++ [(B.step (after B s cs) i).2] := by
  simp only [outs, after, run_append, run]

end view

/-! ### DWP and CHE as one machine

belt-DWP and belt-CHE differ only in the key-stream half of the state: a `belt_ctr_st` inside `belt_dwp_st`, the
fields `key, s, block1, reserved` of `belt_che_st`.  `aeadB` is their common shape over a key-stream state `κ`:
`E` is StepE (= StepD), `K` selects the key under which StepG encrypts the tag block.  Everything is proved for
`aeadB`; `dwpB` and `cheB` are `aeadB` seen through `dwpV` / `cheV`. -/

section machine
variable {κ : Type} (C : Cipher) (E : κ → Bytes → κ × Bytes) (K : κ → Bytes)

/-- `StepG_internal` on the accumulator -/
def polyG (k : Bytes) (p : PolySt) : PolySt := { (polyFinish p).1 with t1 := C.enc k (polyFinish p).2 }

def aeadB : Bundle (κ × PolySt) AeadOp :=
  { step := fun st op => match op with
      | .ad d => ((st.1, polyStepI wBits st.2 d), .none)
      | .auth d => ((st.1, polyStepA wBits st.2 d), .none)
      | .encr d => (((E st.1 d).1, st.2), .data (E st.1 d).2)
      | .decr d => (((E st.1 d).1, st.2), .data (E st.1 d).2)
      | .get => ((st.1, polyG C (K st.1) st.2), .data ((polyG C (K st.1) st.2).t1.take 8))
      | .verify t => ((st.1, polyG C (K st.1) st.2), .verdict (decide (t = (polyG C (K st.1) st.2).t1.take 8))),
    isGet := AeadOp.isGet }

/-- StepG changes scratch only, and its output depends only on what `PEq` compares -/
theorem polyG_peq {p q : PolySt} (h : PEq p q) (k : Bytes) :
    PEq (polyG C k p) q ∧ (polyG C k p).t1 = (polyG C k q).t1 :=
  ⟨(polyFinish_peq h.ip _).trans h, congrArg (C.enc k) (polyFinish_congr h)⟩

/-! #### get-then-continue -/

/-- equality of states up to the scratch octets of the accumulator -/
def AeadEq (s a : κ × PolySt) : Prop := s.1 = a.1 ∧ PEq s.2 a.2

/-- the abstract machine of the get-then-continue theorem: the bundle itself, except that Get / Verify leave
the state alone -/
def obsStep (a : κ × PolySt) (op : AeadOp) : (κ × PolySt) × Out :=
  if op.isGet then (a, ((aeadB C E K).step a op).2) else (aeadB C E K).step a op

theorem aeadObs_step (s a : κ × PolySt) (op : AeadOp) (h : AeadEq s a) :
    AeadEq ((aeadB C E K).step s op).1 (obsStep C E K a op).1 ∧
      ((aeadB C E K).step s op).2 = (obsStep C E K a op).2 := by
  obtain ⟨k, p⟩ := s
  obtain ⟨k', q⟩ := a
  obtain ⟨rfl, hp⟩ := h
  have hg := polyG_peq C hp (K k)
  -- the first components are stated explicitly: left to unification, `_.1.1 = _.1.1` is attacked by comparing
  -- the two step results as wholes, which differ in the accumulator and unfold without end
  cases op with
  | ad d => exact ⟨⟨(rfl : k = k), polyStepI_congr hp d⟩, rfl⟩
  | auth d => exact ⟨⟨(rfl : k = k), polyStepA_congr hp d⟩, rfl⟩
  | encr d => exact ⟨⟨(rfl : (E k d).1 = (E k d).1), hp⟩, rfl⟩
  | decr d => exact ⟨⟨(rfl : (E k d).1 = (E k d).1), hp⟩, rfl⟩
  | get => exact ⟨⟨(rfl : k = k), hg.1⟩, congrArg (fun x : Bytes => Out.data (x.take 8)) hg.2⟩
  | verify t => exact ⟨⟨(rfl : k = k), hg.1⟩, congrArg (fun x : Bytes => Out.verdict (decide (t = x.take 8))) hg.2⟩

/-- GET-THEN-CONTINUE from every state whose block buffer is well-formed; no hypothesis on the key stream -/
theorem aead_getObservational (st : κ × PolySt) (hi : PInv st.2) : GetObservational (aeadB C E K) st :=
  getObservational_of_sim (aeadB C E K) AeadEq (obsStep C E K) (aeadObs_step C E K)
    (fun a g hg => by unfold obsStep; rw [if_pos (show g.isGet = true from hg)]) st st ⟨rfl, PEq.refl _ hi⟩

/-! #### simulation of the specification machine -/

/-- the SPECIFICATION machine: the state is what has been absorbed; Get and Verify return a function `tag` of
`(I, A)` alone and change nothing; StepE / StepD return the slice `[|X|, |X| + |d|)` of `crypt (X ++ d)` -/
def aeadSpecB (crypt : Bytes → Bytes) (tag : Bytes → Bytes → Bytes) : Bundle Absorbed AeadOp :=
  { step := fun a op => (absNext a op, match op with
      | .ad _ => Out.none
      | .auth _ => Out.none
      | .encr d => Out.data ((crypt (a.X ++ d)).drop a.X.length)
      | .decr d => Out.data ((crypt (a.X ++ d)).drop a.X.length)
      | .get => Out.data (tag a.I a.A)
      | .verify t => Out.verdict (decide (t = tag a.I a.A))),
    isGet := AeadOp.isGet }

/-- what the theorems need of the key-stream half: the invariant `Inv` is kept, a call on `a ++ b` is a call on
`a` followed by a call on `b`, the output has the length of the input, the key of the tag does not change -/
structure KsLaw (Inv : κ → Prop) : Prop where
  nil : ∀ k, E k [] = (k, [])
  keeps : ∀ k d, Inv k → Inv (E k d).1
  append : ∀ k a b, Inv k → E k (a ++ b) = ((E (E k a).1 b).1, (E k a).2 ++ (E (E k a).1 b).2)
  len : ∀ k a, Inv k → (E k a).2.length = a.length
  key : ∀ k d, K (E k d).1 = K k

variable {E K} {Inv : κ → Prop} (hL : KsLaw E K Inv) (k0 : κ) (p0 : PolySt)

/-- the tag of open data `I` and critical data `A`, each absorbed by ONE call, from the start state `(k0, p0)` -/
def tagOf (I A : Bytes) : Bytes := (polyG C (K k0) (polySpec p0 I A)).t1.take 8

variable (E) in
/-- the state stands for the absorbed data `a` -/
structure AeadRel (st : κ × PolySt) (a : Absorbed) : Prop where
  ks : st.1 = (E k0 a.X).1
  p : PEq st.2 (polySpec p0 a.I a.A)

include hL

theorem aeadRel_start (h0 : PInv p0) : AeadRel E k0 p0 (k0, p0) ⟨[], [], []⟩ := by
  refine ⟨by rw [hL.nil], ?_⟩
  show PEq _ (polyStepA 64 (polyStepI 64 _ []) [])
  rw [polyStepI_nil h0, polyStepA_nil h0]
  exact PEq.refl _ h0

/-- one call: the relation is kept and the output is the one of the specification machine -/
theorem aeadSim_step (hk0 : Inv k0) (h0 : PInv p0) (hz : p0.len.drop 8 = zeros 8) (st : κ × PolySt) (a : Absorbed)
    (op : AeadOp) (h : AeadRel E k0 p0 st a) (hadm : admOp a.A op = true) :
    AeadRel E k0 p0 ((aeadB C E K).step st op).1 (absNext a op) ∧
      ((aeadB C E K).step st op).2 =
        ((aeadSpecB (fun X => (E k0 X).2) (tagOf C (K := K) k0 p0)).step a op).2 := by
  have hg := polyG_peq C h.p (K st.1)
  have hkey : K st.1 = K k0 := by rw [h.ks, hL.key]
  have hc : ∀ d, (E st.1 d).1 = (E k0 (a.X ++ d)).1 ∧ (E st.1 d).2 = (E k0 (a.X ++ d)).2.drop a.X.length := by
    intro d
    rw [hL.append k0 a.X d hk0, ← h.ks]
    exact ⟨rfl, (List.drop_left' (hL.len k0 a.X hk0)).symm⟩
  cases op with
  | ad d =>
    have : d = [] ∨ a.A = [] := by
      simp only [admOp, Bool.or_eq_true, List.isEmpty_iff] at hadm
      exact hadm
    exact ⟨⟨h.ks, polySpec_stepI h0 a.I a.A d h.p this⟩, rfl⟩
  | auth d => exact ⟨⟨h.ks, polySpec_stepA h0 hz a.I a.A d h.p⟩, rfl⟩
  | encr d => exact ⟨⟨(hc d).1, h.p⟩, congrArg Out.data (hc d).2⟩
  | decr d => exact ⟨⟨(hc d).1, h.p⟩, congrArg Out.data (hc d).2⟩
  | get =>
    refine ⟨⟨h.ks, hg.1⟩, ?_⟩
    show Out.data ((polyG C (K st.1) st.2).t1.take 8) = Out.data ((polyG C (K k0) _).t1.take 8)
    rw [hg.2, hkey]
  | verify t =>
    refine ⟨⟨h.ks, hg.1⟩, ?_⟩
    show Out.verdict (decide (t = (polyG C (K st.1) st.2).t1.take 8)) =
      Out.verdict (decide (t = (polyG C (K k0) _).t1.take 8))
    rw [hg.2, hkey]

/-- SIMULATION: along every admissible session the implementation returns what the specification machine returns,
and its state keeps standing for the absorbed data -/
theorem aeadSim_run (hk0 : Inv k0) (h0 : PInv p0) (hz : p0.len.drop 8 = zeros 8) (s : List (Call AeadOp)) :
    ∀ (st : κ × PolySt) (a : Absorbed), AeadRel E k0 p0 st a → admFrom a s = true →
      outs (aeadB C E K) st s = outs (aeadSpecB (fun X => (E k0 X).2) (tagOf C (K := K) k0 p0)) a s ∧
        AeadRel E k0 p0 (after (aeadB C E K) st s) (absRun a s) := by
  induction s with
  | nil => intro st a h _; exact ⟨rfl, h⟩
  | cons c s ih =>
    intro st a h hadm
    cases c with
    | reloc =>
      have := ih st a h hadm
      exact ⟨congrArg (Out.none :: ·) this.1, this.2⟩
    | op o =>
      simp only [admFrom, Bool.and_eq_true] at hadm
      have hs := aeadSim_step C hL k0 p0 hk0 h0 hz st a o h hadm.1
      have := ih _ _ hs.1 hadm.2
      refine ⟨?_, this.2⟩
      show ((aeadB C E K).step st o).2 :: outs (aeadB C E K) ((aeadB C E K).step st o).1 s = _ :: outs _ (absNext a o) s
      rw [this.1, hs.2]

/-- from the start state `(k0, p0)` every admissible session returns what the specification machine returns -/
theorem aeadSim_start (hk0 : Inv k0) (h0 : PInv p0) (hz : p0.len.drop 8 = zeros 8) (s : List (Call AeadOp))
    (hadm : Admissible s) :
    outs (aeadB C E K) (k0, p0) s = outs (aeadSpecB (fun X => (E k0 X).2) (tagOf C (K := K) k0 p0)) ⟨[], [], []⟩ s :=
  (aeadSim_run C hL k0 p0 hk0 h0 hz s _ _ (aeadRel_start hL k0 p0 h0) hadm).1

/-- after an admissible session from the start state: the key-stream state is that of ONE call on the data passed
through StepE / StepD, and a StepG returns the one-call tag -/
theorem aead_after (hk0 : Inv k0) (h0 : PInv p0) (hz : p0.len.drop 8 = zeros 8) (s : List (Call AeadOp))
    (hadm : Admissible s) :
    (after (aeadB C E K) (k0, p0) s).1 = (E k0 (encOf s)).1 ∧
      (polyG C (K (after (aeadB C E K) (k0, p0) s).1) (after (aeadB C E K) (k0, p0) s).2).t1.take 8 =
        tagOf C (K := K) k0 p0 (adOf s) (authOf s) := by
  have h := (aeadSim_run C hL k0 p0 hk0 h0 hz s _ _ (aeadRel_start hL k0 p0 h0) hadm).2
  rw [absRun_start] at h
  refine ⟨h.ks, ?_⟩
  rw [(polyG_peq C h.p _).2, h.ks, hL.key]
  rfl

/-- the StepE / StepD outputs of ANY session, concatenated = ONE call on the concatenated data, whatever
StepI / StepA / StepG / StepV calls are interleaved -/
theorem aead_crypt_run (s : List (Call AeadOp)) : ∀ st : κ × PolySt, Inv st.1 →
    cryptData s (outs (aeadB C E K) st s) = (E st.1 (encOf s)).2 := by
  induction s with
  | nil => intro st _; rw [encOf, hL.nil]; rfl
  | cons c s ih =>
    intro st hi
    cases c with
    | reloc => exact ih st hi
    | op o =>
      have key : ∀ d : Bytes, (E st.1 d).2 ++ cryptData s (outs (aeadB C E K) ((E st.1 d).1, st.2) s) =
          (E st.1 (d ++ encOf s)).2 := by
        intro d
        rw [ih ((E st.1 d).1, st.2) (hL.keeps _ d hi), hL.append _ d _ hi]
      cases o with
      | ad d => exact ih (st.1, _) hi
      | auth d => exact ih (st.1, _) hi
      | encr d => exact key d
      | decr d => exact key d
      | get => exact ih (st.1, _) hi
      | verify t => exact ih (st.1, _) hi

include hL in
theorem KsLaw.chunked : Chunked Inv (fun _ => True) E :=
  ⟨fun k _ => hL.nil k, fun k a h _ => hL.keeps k a h, fun k a b h _ => hL.append k a b h⟩

/-- a run of StepE calls only, or of StepD calls only = one call on the concatenated data: output and state -/
theorem aead_calls (mk : Bytes → AeadOp) (hmk : mk = AeadOp.encr ∨ mk = AeadOp.decr) (cs : List Bytes)
    (st : κ × PolySt) (hi : Inv st.1) :
    dataOf (outs (aeadB C E K) st (calls mk cs)) = (E st.1 cs.flatten).2 ∧
    after (aeadB C E K) st (calls mk cs) = ((E st.1 cs.flatten).1, st.2) :=
  calls_hom (aeadB C E K) mk (fun st d => (((E st.1 d).1, st.2), (E st.1 d).2))
    (Inv := fun st => Inv st.1) (P := fun _ => True)
    ⟨fun st _ => by rw [hL.nil], fun st a h _ => hL.keeps _ a h, fun st a b h _ => by rw [hL.append _ a b h]⟩
    (fun _ _ => by rcases hmk with rfl | rfl <;> exact ⟨rfl, List.append_nil _⟩) cs st hi (fun _ _ => trivial)

omit hL
end machine

/-! ### DWP -/

/-- the tag of open data `I` and critical data `A`, each absorbed by ONE call (what `beltDWPWrap` computes) -/
def dwpTagOf (C : Cipher) (key iv I A : Bytes) : Bytes :=
  (dwpStepG C (dwpStepA wBits (dwpStepI wBits (dwpStart C key iv) I) A)).2

/-- the SPECIFICATION machine of DWP: the state is what has been absorbed; Get and Verify return functions of
`(I, A)` alone and change nothing; StepE / StepD return the slice `[|X|, |X| + |d|)` of the ONE-CALL key-stream
application to `X ++ d` -/
def dwpSpecB (C : Cipher) (key iv : Bytes) : Bundle Absorbed AeadOp :=
  { step := fun a op => (absNext a op, match op with
      | .ad _ => Out.none
      | .auth _ => Out.none
      | .encr d => Out.data ((ctrStepE C (ctrStart C key iv) (a.X ++ d)).2.drop a.X.length)
      | .decr d => Out.data ((ctrStepE C (ctrStart C key iv) (a.X ++ d)).2.drop a.X.length)
      | .get => Out.data (dwpTagOf C key iv a.I a.A)
      | .verify t => Out.verdict (decide (t = dwpTagOf C key iv a.I a.A))),
    isGet := AeadOp.isGet }

theorem pinv_dwpStart (C : Cipher) (key iv : Bytes) : PInv (dwpStart C key iv).p :=
  ⟨rfl, Nat.zero_lt_succ _, rfl⟩

/-- `belt_dwp_st` as key-stream state and accumulator -/
def dwpV (st : DwpSt) : CtrSt × PolySt := (st.ctr, st.p)

theorem dwp_view (C : Cipher) (st : DwpSt) (op : AeadOp) :
    (aeadB C (ctrStepE C) CtrSt.key).step (dwpV st) op = (dwpV ((dwpB C).step st op).1, ((dwpB C).step st op).2) := by
  cases op <;> rfl

theorem ctrLaw (C : Cipher) (hlen : ∀ k x, x.length = 16 → (C.enc k x).length = 16) :
    KsLaw (ctrStepE C) CtrSt.key CtrInv :=
  ⟨ctrStepE_nil C, fun k d h => ctrStepE_keeps C hlen k h d, fun k a b h => ctrStepE_append C hlen k h a b,
    fun k a h => C01.Aead.length_ctrStepE C hlen k a h.res h.blk h.ctr, C01.Aead.ctrStepE_key C⟩

theorem dwpTagOf_eq (C : Cipher) (key iv : Bytes) :
    dwpTagOf C key iv = tagOf C (K := CtrSt.key) (ctrStart C key iv) (dwpStart C key iv).p := by
  funext I A
  exact C01.Aead.dwpTag_eq C wBits A I key iv

theorem dwpSpecB_eq (C : Cipher) (key iv : Bytes) :
    dwpSpecB C key iv = aeadSpecB (fun X => (ctrStepE C (ctrStart C key iv) X).2)
      (tagOf C (K := CtrSt.key) (ctrStart C key iv) (dwpStart C key iv).p) := by
  rw [dwpSpecB, dwpTagOf_eq]
  rfl

/-- after an admissible session: StepG returns the one-call tag, the key-stream half is that of ONE `beltCTRStepE` -/
theorem dwp_get_after (C : Cipher) (hlen : ∀ k x, x.length = 16 → (C.enc k x).length = 16) (key iv : Bytes)
    (hiv : iv.length = 16) (s : List (Call AeadOp)) (hadm : Admissible s) :
    (dwpStepG C (after (dwpB C) (dwpStart C key iv) s)).2 = dwpTagOf C key iv (adOf s) (authOf s) ∧
    (after (dwpB C) (dwpStart C key iv) s).ctr = (ctrStepE C (ctrStart C key iv) (encOf s)).1 := by
  have h := aead_after C (ctrLaw C hlen) _ _ (ctrInv_start C hlen key iv hiv) (pinv_dwpStart C key iv) rfl s hadm
  rw [show (ctrStart C key iv, (dwpStart C key iv).p) = dwpV (dwpStart C key iv) from rfl,
    ← after_view _ _ dwpV (dwp_view C), ← dwpTagOf_eq] at h
  exact ⟨h.2, h.1⟩

/-! ### CHE -/

/-- the tag of open data `I` and critical data `A`, each absorbed by ONE call (what `beltCHEWrap` computes) -/
def cheTagOf (C : Cipher) (key iv I A : Bytes) : Bytes :=
  (cheStepG C (cheStepA wBits (cheStepI wBits (cheStart C key iv) I) A)).2

/-- the SPECIFICATION machine of CHE (as `dwpSpecB`, with the key stream of `beltCHEStepE`) -/
def cheSpecB (C : Cipher) (key iv : Bytes) : Bundle Absorbed AeadOp :=
  { step := fun a op => (absNext a op, match op with
      | .ad _ => Out.none
      | .auth _ => Out.none
      | .encr d => Out.data ((cheStepE C (cheStart C key iv) (a.X ++ d)).2.drop a.X.length)
      | .decr d => Out.data ((cheStepE C (cheStart C key iv) (a.X ++ d)).2.drop a.X.length)
      | .get => Out.data (cheTagOf C key iv a.I a.A)
      | .verify t => Out.verdict (decide (t = cheTagOf C key iv a.I a.A))),
    isGet := AeadOp.isGet }

theorem pinv_cheStart (C : Cipher) (key iv : Bytes) : PInv (cheStart C key iv).p :=
  ⟨rfl, Nat.zero_lt_succ _, rfl⟩

/-- the key-stream fields `key, s, block1, reserved` of `belt_che_st` -/
abbrev CheK := Bytes × Bytes × Bytes × Nat

/-- `belt_che_st` as key-stream state and accumulator -/
def cheV (st : CheSt) : CheK × PolySt := ((st.key, st.s, st.block1, st.reserved), st.p)

/-- `beltCHEStepE` on the key-stream fields -/
def cheE (C : Cipher) (k : CheK) (d : Bytes) : CheK × Bytes :=
  ((k.1, (ksStep cheNextS (C.enc k.1) k.2.1 k.2.2.1 k.2.2.2 d).1), (ksStep cheNextS (C.enc k.1) k.2.1 k.2.2.1 k.2.2.2 d).2)

theorem cheV_inj {a b : CheSt} (h : cheV a = cheV b) : a = b := by
  cases a; cases b
  simp only [cheV, Prod.mk.injEq] at h
  simp only [CheSt.mk.injEq]
  exact ⟨h.1.1, h.1.2.1, h.2, h.1.2.2.1, h.1.2.2.2⟩

theorem cheV_stepE (C : Cipher) (st : CheSt) (d : Bytes) :
    cheV (cheStepE C st d).1 = ((cheE C (cheV st).1 d).1, st.p) ∧ (cheStepE C st d).2 = (cheE C (cheV st).1 d).2 := by
  rw [C01.Aead.cheStepE_eq]
  exact ⟨rfl, rfl⟩

theorem che_view (C : Cipher) (st : CheSt) (op : AeadOp) :
    (aeadB C (cheE C) (·.1)).step (cheV st) op = (cheV ((cheB C).step st op).1, ((cheB C).step st op).2) := by
  have h := cheV_stepE C st
  cases op with
  | encr d => exact (Prod.ext (h d).1 (congrArg Out.data (h d).2)).symm
  | decr d => exact (Prod.ext (h d).1 (congrArg Out.data (h d).2)).symm
  | _ => rfl

/-- invariant of the key-stream fields -/
def CheKInv (k : CheK) : Prop := KsInv k.2.1 k.2.2.1 k.2.2.2

theorem cheLaw (C : Cipher) (hlen : ∀ k x, x.length = 16 → (C.enc k x).length = 16) :
    KsLaw (cheE C) (·.1) CheKInv where
  nil k := by unfold cheE; rw [ksStep_nil]
  keeps k d h := ksStep_inv cheNextS (C.enc k.1) C01.Aead.length_cheNextS (hlen k.1) d _ _ _ h
  append k a b h := by
    unfold cheE
    rw [ksStep_append cheNextS (C.enc k.1) C01.Aead.length_cheNextS (hlen k.1) _ _ _ a b h.x h.blk h.res]
  len k a h := C01.Aead.ksStep_length cheNextS (C.enc k.1) C01.Aead.length_cheNextS (hlen k.1) _ _ _ a h.x h.blk h.res
  key _ _ := rfl

theorem cheKInv_start (C : Cipher) (hlen : ∀ k x, x.length = 16 → (C.enc k x).length = 16) (key iv : Bytes)
    (hiv : iv.length = 16) : CheKInv (cheV (cheStart C key iv)).1 :=
  ⟨hlen _ _ hiv, rfl, Nat.zero_le _⟩

theorem cheTagOf_eq (C : Cipher) (key iv : Bytes) :
    cheTagOf C key iv = tagOf C (K := (·.1)) (cheV (cheStart C key iv)).1 (cheStart C key iv).p := by
  funext I A
  exact C01.Aead.cheTag_eq C wBits A I key iv

theorem cheSpecB_eq (C : Cipher) (key iv : Bytes) :
    cheSpecB C key iv = aeadSpecB (fun X => (cheE C (cheV (cheStart C key iv)).1 X).2)
      (tagOf C (K := (·.1)) (cheV (cheStart C key iv)).1 (cheStart C key iv).p) := by
  simp only [cheSpecB, cheTagOf_eq, (cheV_stepE C _ _).2]
  rfl

theorem che_get_after (C : Cipher) (hlen : ∀ k x, x.length = 16 → (C.enc k x).length = 16) (key iv : Bytes)
    (hiv : iv.length = 16) (s : List (Call AeadOp)) (hadm : Admissible s) :
    (cheStepG C (after (cheB C) (cheStart C key iv) s)).2 = cheTagOf C key iv (adOf s) (authOf s) ∧
    (cheV (after (cheB C) (cheStart C key iv) s)).1 = (cheE C (cheV (cheStart C key iv)).1 (encOf s)).1 := by
  have h := aead_after C (cheLaw C hlen) _ _ (cheKInv_start C hlen key iv hiv) (pinv_cheStart C key iv) rfl s hadm
  rw [show ((cheV (cheStart C key iv)).1, (cheStart C key iv).p) = cheV (cheStart C key iv) from rfl,
    ← after_view _ _ cheV (che_view C), ← cheTagOf_eq] at h
  exact ⟨h.2, h.1⟩

/-! ### instances for the examples -/

/-- toy cipher of the non-vacuity examples: depends on key and block, 16 octets to 16 octets -/
def toy : Cipher :=
  ⟨fun k x => (xorb x ((k ++ zeros 16).take 16)).map (· * 3 + 1), fun _ x => x⟩

theorem toy_hlen : ∀ k x : Bytes, x.length = 16 → (toy.enc k x).length = 16 := by
  intro k x h
  simp only [toy, List.length_map, C01.length_xorb, List.length_take, List.length_append, zeros,
    List.length_replicate]
  omega

/-- 40 octets 1, 2, ..., 40 -/
def toyData : Bytes := (List.range 40).map (fun i => UInt8.ofNat (i + 1))

end Bee2V.C10.Aead
