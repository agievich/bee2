/-
C10 helper lemmas, belt encryption modes (ECB, CBC, CFB, BDE): two-fragment split lemmas of the Step functions
of the C01 model.  BDE and CFB split at the cuts a `Chunked` names (sessions: `calls_hom` of LemmasSession.lean);
ECB and CBC split only where at least a block follows, so their sessions have an induction of their own, `fold_cts`.
The property theorems are in PropsModes.lean.
-/
import Bee2V.C10.LemmasSession
import Bee2V.C01.Lemmas.EcbCbc
import Bee2V.C01.Lemmas.Stream
namespace Bee2V.C10.Modes
open Bee2V Bee2V.C01

/-! ### sessions of one kind of call -/

section generic
variable {σ ι : Type}

theorem admissibleCTS_cons2 (c d : Bytes) (cs : List Bytes) :
    admissibleCTS (c :: d :: cs) ↔ (16 ≤ c.length ∧ c.length % 16 = 0 ∧ admissibleCTS (d :: cs)) := Iff.rfl

theorem admissibleCTS_length : ∀ cs : List Bytes, admissibleCTS cs → 16 ≤ cs.flatten.length
  | [], h => h.elim
  | [c], h => by
    have : 16 ≤ c.length := h
    simpa using this
  | c :: d :: cs, h => by
    have := admissibleCTS_length (d :: cs) h.2.2
    simp only [List.flatten_cons, List.length_append] at this ⊢
    omega

/-- Sessions of the ciphertext-stealing bundles: every fragment but the last consists of whole blocks and no
fragment is shorter than a block.  The step function has to split only at such cuts. -/
theorem fold_cts (B : Bundle σ ι) (mk : Bytes → ι) (step : σ → Bytes → σ × Bytes) (hB : IsStep B mk step)
    (Inv : σ → Prop)
    (hinv : ∀ s c, Inv s → 16 ≤ c.length → c.length % 16 = 0 → Inv (step s c).1)
    (hsplit : ∀ s a b, Inv s → 16 ≤ a.length → a.length % 16 = 0 → 16 ≤ b.length →
      step s (a ++ b) = ((step (step s a).1 b).1, (step s a).2 ++ (step (step s a).1 b).2)) :
    ∀ (cs : List Bytes) (s : σ), Inv s → admissibleCTS cs →
      dataOf (outs B s (calls mk cs)) = (step s cs.flatten).2 ∧
      after B s (calls mk cs) = (step s cs.flatten).1 := by
  intro cs
  induction cs with
  | nil => intro s _ h; exact h.elim
  | cons c cs ih =>
    intro s hs h
    cases cs with
    | nil =>
      simp only [outs, after, run_calls_cons, run_calls_nil, hB s c, dataOf, List.flatten_cons, List.flatten_nil,
        List.append_nil, and_self]
    | cons d cs =>
      obtain ⟨h1, h2, h3⟩ := (admissibleCTS_cons2 c d cs).mp h
      obtain ⟨i1, i2⟩ := ih (step s c).1 (hinv s c hs h1 h2) h3
      have hl := admissibleCTS_length _ h3
      simp only [outs, after] at i1 i2 ⊢
      rw [run_calls_cons, hB s c]
      simp only [dataOf, i1, i2]
      have e : (c :: d :: cs).flatten = c ++ (d :: cs).flatten := rfl
      rw [e, hsplit s c _ hs h1 h2 hl]
      exact ⟨rfl, rfl⟩

end generic

/-! ### ECB -/

/-- `beltECBStepE/D` over a block map: a cut after whole blocks, at least one block left -/
theorem ecbStep_split (f : Bytes → Bytes) (hlen : ∀ x, x.length = 16 → (f x).length = 16)
    (a b : Bytes) (ha : a.length % 16 = 0) (hb : 16 ≤ b.length) :
    ecbStep f (a ++ b) = ecbStep f a ++ ecbStep f b := by
  rw [ecbStep_whole f a ha]
  by_cases hr : b.length % 16 = 0
  · rw [ecbStep_whole f b hr, ecbStep_whole f (a ++ b) (by simp only [List.length_append]; omega),
      mapB_append f a b ha]
  · obtain ⟨pre, last, tail, rfl, hpre, hlast, ht0, ht⟩ := ragged_decomp b hb hr
    have e : a ++ (pre ++ last ++ tail) = (a ++ pre) ++ last ++ tail := by simp only [List.append_assoc]
    rw [e, ecbStep_ragged f hlen (a ++ pre) last tail (by simp only [List.length_append]; omega) hlast ht0 ht,
      ecbStep_ragged f hlen pre last tail hpre hlast ht0 ht, mapB_append f a pre ha]
    simp only [List.append_assoc]

theorem ecb_isStepE (C : Cipher) :
    IsStep (ecbB C) EOp.encr (fun key c => (key, ecbStepE C key c)) := fun _ _ => rfl
theorem ecb_isStepD (C : Cipher) :
    IsStep (ecbB C) EOp.decr (fun key c => (key, ecbStepD C key c)) := fun _ _ => rfl

/-! ### BDE -/

/-- `beltBDEStepE/D` written over the block function `F` (`C.enc` / `C.dec`) -/
def bdeStep (F : Bytes → Bytes → Bytes) (st : BdeSt) (buf : Bytes) : BdeSt × Bytes :=
  ({ st with s := (fullBlocks 16 (Stream.bdeBody F st.key) st.s buf).1,
             block := if buf.length ≥ 16 then (fullBlocks 16 (Stream.bdeBody F st.key) st.s buf).1 else st.block },
    (fullBlocks 16 (Stream.bdeBody F st.key) st.s buf).2.1 ++ (fullBlocks 16 (Stream.bdeBody F st.key) st.s buf).2.2)

theorem bdeStepE_eq (C : Cipher) (st : BdeSt) (buf : Bytes) : bdeStepE C st buf = bdeStep C.enc st buf := rfl
theorem bdeStepD_eq (C : Cipher) (st : BdeSt) (buf : Bytes) : bdeStepD C st buf = bdeStep C.dec st buf := rfl

theorem bdeStep_nil (F : Bytes → Bytes → Bytes) (st : BdeSt) : bdeStep F st [] = (st, []) := by
  simp [bdeStep, fullBlocks_nil]

/-- a cut after whole blocks: outputs are concatenated, the final states are EQUAL (all three fields: `block` is
the copy of `s` made by the last call that processed at least one block) -/
theorem bdeStep_split (F : Bytes → Bytes → Bytes) (st : BdeSt) (a b : Bytes) (ha : a.length % 16 = 0) :
    bdeStep F st (a ++ b) =
      ((bdeStep F (bdeStep F st a).1 b).1, (bdeStep F st a).2 ++ (bdeStep F (bdeStep F st a).1 b).2) := by
  have hra := fullBlocks_whole_rest (Stream.bdeBody F st.key) a ha st.s
  simp only [bdeStep, fullBlocks_append _ st.s a b ha, hra, List.append_nil, List.append_assoc, List.length_append]
  by_cases hb : b.length ≥ 16
  · simp only [hb, if_true, show a.length + b.length ≥ 16 by omega]
  · have hbs := fullBlocks_short (Stream.bdeBody F st.key) (fullBlocks 16 (Stream.bdeBody F st.key) st.s a).1 b
      (by omega)
    simp only [hb, if_false, hbs]
    by_cases ha16 : a.length ≥ 16
    · simp only [ha16, if_true, show a.length + b.length ≥ 16 by omega]
    · have : a = [] := List.eq_nil_of_length_eq_zero (by omega)
      subst this
      simp [fullBlocks_nil, hb]

theorem bde_isStepE (C : Cipher) : IsStep (bdeB C) EOp.encr (bdeStep C.enc) := fun _ _ => rfl
theorem bde_isStepD (C : Cipher) : IsStep (bdeB C) EOp.decr (bdeStep C.dec) := fun _ _ => rfl

theorem bde_chunked (F : Bytes → Bytes → Bytes) : Chunked (fun _ => True) (fun c => c.length % 16 = 0) (bdeStep F) :=
  ⟨fun s _ => bdeStep_nil F s, fun _ _ _ _ => trivial, fun s a b _ ha => bdeStep_split F s a b ha⟩

theorem wholeBlocks_flatten : ∀ cs : List Bytes, wholeBlocks cs → cs.flatten.length % 16 = 0
  | [], _ => rfl
  | c :: cs, h => by
    have h1 : c.length % 16 = 0 := h c (List.mem_cons_self ..)
    have h2 := wholeBlocks_flatten cs (fun d hd => h d (List.mem_cons_of_mem _ hd))
    simp only [List.flatten_cons, List.length_append]
    omega

/-! ### CFB: both directions at once -/

/-- The two directions of CFB differ only in what is returned (`fo γ x`) and in what is fed back into
`st->block` (`fn γ x`) for a slice `γ` of the gamma and a slice `x` of the buffer of the same length. -/
structure Fb where
  fo : Bytes → Bytes → Bytes
  fn : Bytes → Bytes → Bytes
  len_o : ∀ γ x : Bytes, γ.length = x.length → (fo γ x).length = x.length
  len_n : ∀ γ x : Bytes, γ.length = x.length → (fn γ x).length = x.length
  app_o : ∀ γ1 γ2 x1 x2 : Bytes, γ1.length = x1.length → fo (γ1 ++ γ2) (x1 ++ x2) = fo γ1 x1 ++ fo γ2 x2
  app_n : ∀ γ1 γ2 x1 x2 : Bytes, γ1.length = x1.length → fn (γ1 ++ γ2) (x1 ++ x2) = fn γ1 x1 ++ fn γ2 x2

/-- encryption: the ciphertext `γ ^ x` is returned and fed back -/
def fbE : Fb where
  fo := xorb
  fn := xorb
  len_o := fun γ x h => by rw [C01.length_xorb]; omega
  len_n := fun γ x h => by rw [C01.length_xorb]; omega
  app_o := fun γ1 γ2 x1 x2 h => xorb_append γ1 γ2 x1 x2 h
  app_n := fun γ1 γ2 x1 x2 h => xorb_append γ1 γ2 x1 x2 h

/-- decryption: `x ^ γ` is returned, `γ ^ (x ^ γ)` (= the ciphertext `x`) is fed back -/
def fbD : Fb where
  fo := fun γ x => xorb x γ
  fn := fun γ x => xorb γ (xorb x γ)
  len_o := fun γ x h => by rw [C01.length_xorb]; omega
  len_n := fun γ x h => by rw [C01.length_xorb, C01.length_xorb]; omega
  app_o := fun γ1 γ2 x1 x2 h => xorb_append x1 x2 γ1 γ2 h.symm
  app_n := fun γ1 γ2 x1 x2 h => by
    rw [xorb_append x1 x2 γ1 γ2 h.symm, xorb_append γ1 γ2 _ _ (by rw [C01.length_xorb]; omega)]

theorem Fb.fo_nil (F : Fb) : F.fo [] [] = [] := List.eq_nil_of_length_eq_zero (F.len_o [] [] rfl)
theorem Fb.fn_nil (F : Fb) : F.fn [] [] = [] := List.eq_nil_of_length_eq_zero (F.len_n [] [] rfl)

/-- `beltCFBStepE` / `beltCFBStepD` with the direction abstracted -/
def cfbG (F : Fb) (C : Cipher) (st : CfbSt) (buf : Bytes) : CfbSt × Bytes :=
  if st.reserved ≠ 0 ∧ st.reserved ≥ buf.length then
    let off := 16 - st.reserved
    let γ := (st.block.drop off).take buf.length
    ({ st with block := putAt st.block off (F.fn γ buf), reserved := st.reserved - buf.length }, F.fo γ buf)
  else
    let off := 16 - st.reserved
    let head := if st.reserved ≠ 0 then F.fo (st.block.drop off) (buf.take st.reserved) else []
    let blk0 := if st.reserved ≠ 0 then putAt st.block off (F.fn (st.block.drop off) (buf.take st.reserved))
      else st.block
    let buf := if st.reserved ≠ 0 then buf.drop st.reserved else buf
    let l := fullBlocks 16 (fun (blk : Bytes) b => (F.fn (C.enc st.key blk) b, F.fo (C.enc st.key blk) b)) blk0 buf
    let r := l.2.2
    if r.length ≠ 0 then
      let g := C.enc st.key l.1
      ({ st with block := F.fn (g.take r.length) r ++ g.drop r.length, reserved := 16 - r.length },
        head ++ l.2.1 ++ F.fo (g.take r.length) r)
    else ({ st with block := l.1, reserved := 0 }, head ++ l.2.1)

theorem cfbStepE_eq (C : Cipher) (st : CfbSt) (buf : Bytes) : cfbStepE C st buf = cfbG fbE C st buf := by
  unfold cfbStepE cfbG
  by_cases hr : st.reserved = 0 <;> simp [hr, fbE]

theorem cfbStepD_eq (C : Cipher) (st : CfbSt) (buf : Bytes) : cfbStepD C st buf = cfbG fbD C st buf := by
  unfold cfbStepD cfbG
  by_cases hr : st.reserved = 0 <;> simp [hr, fbD]

/-- state invariant of CFB (established by `beltCFBStart`, kept by every step) -/
def CfbInv (st : CfbSt) : Prop := st.block.length = 16 ∧ st.reserved ≤ 16

/-- use of the reserve of gamma: `x` must fit (`x.length ≤ st.reserved`) -/
def resG (F : Fb) (st : CfbSt) (x : Bytes) : CfbSt × Bytes :=
  (⟨st.key, putAt st.block (16 - st.reserved) (F.fn ((st.block.drop (16 - st.reserved)).take x.length) x),
    st.reserved - x.length⟩,
   F.fo ((st.block.drop (16 - st.reserved)).take x.length) x)

def bodyG (F : Fb) (C : Cipher) (key : Bytes) : Bytes → Bytes → Bytes × Bytes :=
  fun blk b => (F.fn (C.enc key blk) b, F.fo (C.enc key blk) b)

/-- the part of the step after the reserve has been used up; `blk0` = `st->block` at that point -/
def mainG (F : Fb) (C : Cipher) (key blk0 buf : Bytes) : CfbSt × Bytes :=
  if (fullBlocks 16 (bodyG F C key) blk0 buf).2.2.length ≠ 0 then
    (⟨key,
      F.fn ((C.enc key (fullBlocks 16 (bodyG F C key) blk0 buf).1).take (fullBlocks 16 (bodyG F C key) blk0 buf).2.2.length)
          (fullBlocks 16 (bodyG F C key) blk0 buf).2.2
        ++ (C.enc key (fullBlocks 16 (bodyG F C key) blk0 buf).1).drop (fullBlocks 16 (bodyG F C key) blk0 buf).2.2.length,
      16 - (fullBlocks 16 (bodyG F C key) blk0 buf).2.2.length⟩,
     (fullBlocks 16 (bodyG F C key) blk0 buf).2.1 ++
      F.fo ((C.enc key (fullBlocks 16 (bodyG F C key) blk0 buf).1).take (fullBlocks 16 (bodyG F C key) blk0 buf).2.2.length)
        (fullBlocks 16 (bodyG F C key) blk0 buf).2.2)
  else (⟨key, (fullBlocks 16 (bodyG F C key) blk0 buf).1, 0⟩, (fullBlocks 16 (bodyG F C key) blk0 buf).2.1)

/-- nothing left after the reserve: the state is not touched any more -/
def mainG' (F : Fb) (C : Cipher) (s : CfbSt) (y : Bytes) : CfbSt × Bytes :=
  if y.length = 0 then (s, []) else mainG F C s.key s.block y

theorem resG_nil (F : Fb) (st : CfbSt) : resG F st [] = (st, []) := by
  simp only [resG, List.length_nil, List.take_zero, F.fn_nil, F.fo_nil, Stream.putAt_nil, Nat.sub_zero]

theorem mainG_nil (F : Fb) (C : Cipher) (key blk0 : Bytes) : mainG F C key blk0 [] = (⟨key, blk0, 0⟩, []) := by
  simp [mainG, fullBlocks_nil]

/-- the step = reserve, then the rest -/
theorem cfbG_decomp (F : Fb) (C : Cipher) (st : CfbSt) (hi : CfbInv st) (buf : Bytes) :
    cfbG F C st buf =
      ((mainG' F C (resG F st (buf.take st.reserved)).1 (buf.drop st.reserved)).1,
       (resG F st (buf.take st.reserved)).2 ++ (mainG' F C (resG F st (buf.take st.reserved)).1 (buf.drop st.reserved)).2) := by
  obtain ⟨hb, hr⟩ := hi
  by_cases h : st.reserved ≠ 0 ∧ st.reserved ≥ buf.length
  · have e1 : buf.take st.reserved = buf := List.take_of_length_le h.2
    have e2 : buf.drop st.reserved = [] := List.drop_eq_nil_of_le h.2
    rw [e1, e2]
    simp only [cfbG, if_pos h, mainG', List.length_nil, if_true, List.append_nil, resG]
  · by_cases h0 : st.reserved = 0
    · simp only [h0, List.take_zero, List.drop_zero, resG_nil, List.nil_append]
      by_cases hbuf : buf.length = 0
      · have : buf = [] := List.eq_nil_of_length_eq_zero hbuf
        subst this
        cases st with
        | mk key block reserved =>
          simp only at h0
          subst h0
          simp [cfbG, mainG', fullBlocks_nil]
      · have hbody : (fun (blk : Bytes) b => (F.fn (C.enc st.key blk) b, F.fo (C.enc st.key blk) b))
            = bodyG F C st.key := rfl
        simp only [cfbG, h0, mainG', hbuf, if_false, mainG, hbody, ne_eq, not_true_eq_false, false_and,
          List.nil_append]
    · have hlt : st.reserved < buf.length := by
        have : ¬ st.reserved ≥ buf.length := fun h' => h ⟨h0, h'⟩
        omega
      have hd : (st.block.drop (16 - st.reserved)).length = st.reserved := by
        simp only [List.length_drop, hb]; omega
      have htk : (buf.take st.reserved).length = st.reserved := by simp only [List.length_take]; omega
      have e1 : (st.block.drop (16 - st.reserved)).take st.reserved
          = st.block.drop (16 - st.reserved) := List.take_of_length_le (by omega)
      have hne : ¬ (buf.drop st.reserved).length = 0 := by simp only [List.length_drop]; omega
      have hbody : (fun (blk : Bytes) b => (F.fn (C.enc st.key blk) b, F.fo (C.enc st.key blk) b))
          = bodyG F C st.key := rfl
      unfold cfbG
      rw [if_neg h]
      simp only [h0, ne_eq, not_false_eq_true, if_true, mainG', hne, if_false, resG, e1, htk,
        Nat.sub_self, mainG, hbody]
      by_cases hr : (fullBlocks 16 (bodyG F C st.key) (putAt st.block (16 - st.reserved)
          (F.fn (st.block.drop (16 - st.reserved)) (buf.take st.reserved))) (buf.drop st.reserved)).2.2.length = 0
      · simp only [hr, not_true_eq_false, if_false, List.append_assoc]
      · simp only [hr, not_false_eq_true, if_true, List.append_assoc]

theorem length_putAt_le (blk x : Bytes) (off : Nat) (h : off + x.length ≤ blk.length) :
    (putAt blk off x).length = blk.length := Stream.length_putAt blk x off h

theorem resG_inv (F : Fb) (st : CfbSt) (hi : CfbInv st) (x : Bytes) (hx : x.length ≤ st.reserved) :
    CfbInv (resG F st x).1 := by
  obtain ⟨hb, hr⟩ := hi
  have hg : ((st.block.drop (16 - st.reserved)).take x.length).length = x.length := by
    simp only [List.length_take, List.length_drop, hb]; omega
  refine ⟨?_, ?_⟩
  · simp only [resG]
    rw [Stream.length_putAt _ _ _ (by rw [F.len_n _ _ hg, hb]; omega)]; exact hb
  · simp only [resG]; omega

theorem mainG_inv (F : Fb) (C : Cipher) (hE : ∀ k x, x.length = 16 → (C.enc k x).length = 16)
    (key blk0 : Bytes) (h0 : blk0.length = 16) (buf : Bytes) : CfbInv (mainG F C key blk0 buf).1 := by
  have hL := Stream.fullBlocks_lengths 16 (by omega) (bodyG F C key) (fun s => s.length = 16)
    (fun s b hs hb => by
      have hg := hE key s hs
      show (F.fn (C.enc key s) b).length = 16 ∧ (F.fo (C.enc key s) b).length = 16
      rw [F.len_n _ _ (by omega), F.len_o _ _ (by omega)]
      exact ⟨hb, hb⟩)
    buf.length buf blk0 (Nat.le_refl _) h0
  obtain ⟨h1, _, h3, _⟩ := hL
  have hg := hE key _ h1
  unfold mainG
  split
  · refine ⟨?_, by simp only []; omega⟩
    simp only [List.length_append, List.length_drop, hg]
    rw [F.len_n _ _ (by simp only [List.length_take, hg]; omega)]
    omega
  · exact ⟨h1, by simp only []; omega⟩

theorem cfbG_inv (F : Fb) (C : Cipher) (hE : ∀ k x, x.length = 16 → (C.enc k x).length = 16)
    (st : CfbSt) (hi : CfbInv st) (buf : Bytes) : CfbInv (cfbG F C st buf).1 := by
  rw [cfbG_decomp F C st hi buf]
  have h1 := resG_inv F st hi (buf.take st.reserved) (by simp only [List.length_take]; omega)
  simp only [mainG']
  split
  · exact h1
  · exact mainG_inv F C hE _ _ h1.1 _

theorem cfbG_nil (F : Fb) (C : Cipher) (st : CfbSt) (hi : CfbInv st) : cfbG F C st [] = (st, []) := by
  rw [cfbG_decomp F C st hi []]
  simp [resG_nil, mainG']

/-! #### the reserve -/

theorem putAt_drop (B N : Bytes) (off : Nat) (h : off ≤ B.length) :
    (putAt B off N).drop (off + N.length) = B.drop (off + N.length) := by
  have ht : (B.take off ++ N).length = off + N.length := by
    simp only [List.length_append, List.length_take]; omega
  simp only [putAt]
  rw [List.drop_left' ht]

theorem putAt_putAt (B N M : Bytes) (off : Nat) (h : off ≤ B.length) :
    putAt (putAt B off N) (off + N.length) M = putAt B off (N ++ M) := by
  have ht : (B.take off ++ N).length = off + N.length := by
    simp only [List.length_append, List.length_take]; omega
  have e1 : (putAt B off N).take (off + N.length) = B.take off ++ N := by
    simp only [putAt]
    rw [List.take_left' ht]
  have e2 : (putAt B off N).drop (off + N.length + M.length) = B.drop (off + (N ++ M).length) := by
    rw [← List.drop_drop, putAt_drop B N off h, List.drop_drop, List.length_append, Nat.add_assoc]
  rw [putAt, e1, e2, putAt]
  simp only [List.append_assoc]

/-- two uses of the reserve in a row = one use on the concatenation -/
theorem resG_append (F : Fb) (st : CfbSt) (hi : CfbInv st) (x y : Bytes) (hxy : x.length + y.length ≤ st.reserved) :
    resG F st (x ++ y) =
      ((resG F (resG F st x).1 y).1, (resG F st x).2 ++ (resG F (resG F st x).1 y).2) := by
  obtain ⟨hb, hr⟩ := hi
  have hgx : ((st.block.drop (16 - st.reserved)).take x.length).length = x.length := by
    simp only [List.length_take, List.length_drop, hb]; omega
  have hnx := F.len_n _ _ hgx
  -- the slice of gamma for x ++ y
  have eg : (st.block.drop (16 - st.reserved)).take (x.length + y.length) =
      (st.block.drop (16 - st.reserved)).take x.length ++ (st.block.drop (16 - st.reserved + x.length)).take y.length := by
    rw [List.take_add, List.drop_drop]
  -- the offset of the second use
  have eo : 16 - (st.reserved - x.length) = 16 - st.reserved + x.length := by omega
  have ed : (putAt st.block (16 - st.reserved) (F.fn ((st.block.drop (16 - st.reserved)).take x.length) x)).drop
      (16 - st.reserved + x.length) = st.block.drop (16 - st.reserved + x.length) := by
    have := putAt_drop st.block (F.fn ((st.block.drop (16 - st.reserved)).take x.length) x) (16 - st.reserved)
      (by omega)
    rw [hnx] at this
    exact this
  have ep := putAt_putAt st.block (F.fn ((st.block.drop (16 - st.reserved)).take x.length) x)
    (F.fn ((st.block.drop (16 - st.reserved + x.length)).take y.length) y) (16 - st.reserved) (by omega)
  rw [hnx] at ep
  simp only [resG, List.length_append, eg, eo, ed, ep, F.app_n _ _ _ _ hgx, F.app_o _ _ _ _ hgx, Nat.sub_sub]

/-! #### the main part -/

theorem mainG_cons (F : Fb) (C : Cipher) (key blk0 w y : Bytes) (hw : w.length = 16) :
    mainG F C key blk0 (w ++ y) =
      ((mainG F C key (F.fn (C.enc key blk0) w) y).1,
       F.fo (C.enc key blk0) w ++ (mainG F C key (F.fn (C.enc key blk0) w) y).2) := by
  have hbody : bodyG F C key blk0 w = (F.fn (C.enc key blk0) w, F.fo (C.enc key blk0) w) := rfl
  simp only [mainG, fullBlocks_cons _ blk0 w y hw, hbody]
  by_cases hr : (fullBlocks 16 (bodyG F C key) (F.fn (C.enc key blk0) w) y).2.2.length = 0
  · simp only [hr, ne_eq, not_true_eq_false, if_false]
  · simp only [hr, ne_eq, not_false_eq_true, if_true, List.append_assoc]

/-- at most one block: the uniform shape (a full block leaves `reserved = 0` and no gamma) -/
theorem mainG_le16 (F : Fb) (C : Cipher) (hE : ∀ k x, x.length = 16 → (C.enc k x).length = 16)
    (key blk0 y : Bytes) (h0 : blk0.length = 16) (hy0 : 0 < y.length) (hy : y.length ≤ 16) :
    mainG F C key blk0 y =
      (⟨key, F.fn ((C.enc key blk0).take y.length) y ++ (C.enc key blk0).drop y.length, 16 - y.length⟩,
       F.fo ((C.enc key blk0).take y.length) y) := by
  have hg := hE key blk0 h0
  by_cases hlt : y.length < 16
  · have hne : y.length ≠ 0 := by omega
    simp only [mainG, fullBlocks_short _ blk0 y hlt, hne, ne_eq, not_false_eq_true, if_true, List.nil_append]
  · have h16 : y.length = 16 := by omega
    have := mainG_cons F C key blk0 y [] h16
    rw [List.append_nil] at this
    rw [this, mainG_nil, h16, List.take_of_length_le (by omega), List.drop_eq_nil_of_le (by omega)]
    simp only [List.append_nil]

/-- a partial block `a` has been processed (state as left by `mainG`), the next fragment still fits -/
theorem resG_after_partial (F : Fb) (key g a b : Bytes) (hg : g.length = 16) (ha : a.length < 16)
    (hab : a.length + b.length ≤ 16) :
    resG F ⟨key, F.fn (g.take a.length) a ++ g.drop a.length, 16 - a.length⟩ b =
      (⟨key, F.fn (g.take (a.length + b.length)) (a ++ b) ++ g.drop (a.length + b.length),
        16 - (a.length + b.length)⟩,
       F.fo ((g.drop a.length).take b.length) b) ∧
    F.fo (g.take (a.length + b.length)) (a ++ b) =
      F.fo (g.take a.length) a ++ F.fo ((g.drop a.length).take b.length) b := by
  have hga : (g.take a.length).length = a.length := by simp only [List.length_take]; omega
  have hna := F.len_n _ _ hga
  have hgb : ((g.drop a.length).take b.length).length = b.length := by
    simp only [List.length_take, List.length_drop]; omega
  have hnb := F.len_n _ _ hgb
  have eo : 16 - (16 - a.length) = a.length := by omega
  have ed : (F.fn (g.take a.length) a ++ g.drop a.length).drop a.length = g.drop a.length :=
    List.drop_left' hna
  have et : (F.fn (g.take a.length) a ++ g.drop a.length).take a.length = F.fn (g.take a.length) a :=
    List.take_left' hna
  have ed2 : (F.fn (g.take a.length) a ++ g.drop a.length).drop (a.length + b.length) = g.drop (a.length + b.length) := by
    rw [← List.drop_drop, ed, List.drop_drop]
  have eg : g.take (a.length + b.length) = g.take a.length ++ (g.drop a.length).take b.length := List.take_add
  refine ⟨?_, ?_⟩
  · simp only [resG, eo, ed, putAt, et, hnb, ed2, eg, F.app_n _ _ _ _ hga, List.append_assoc, Nat.sub_sub]
  · rw [eg, F.app_o _ _ _ _ hga]

/-! #### a cut anywhere -/

theorem mainG_split_nil (F : Fb) (C : Cipher) (key blk0 b : Bytes) (h0 : blk0.length = 16) :
    mainG F C key blk0 ([] ++ b) =
      ((cfbG F C (mainG F C key blk0 []).1 b).1,
       (mainG F C key blk0 []).2 ++ (cfbG F C (mainG F C key blk0 []).1 b).2) := by
  rw [mainG_nil, cfbG_decomp F C ⟨key, blk0, 0⟩ ⟨h0, by simp only []; omega⟩ b]
  simp only [List.take_zero, List.drop_zero, resG_nil, mainG', List.nil_append]
  by_cases hb : b.length = 0
  · have : b = [] := List.eq_nil_of_length_eq_zero hb
    subst this
    simp only [mainG_nil, List.length_nil, if_true]
  · simp only [hb, if_false]

theorem mainG_split_partial (F : Fb) (C : Cipher) (hE : ∀ k x, x.length = 16 → (C.enc k x).length = 16)
    (key blk0 a b : Bytes) (h0 : blk0.length = 16) (ha0 : 0 < a.length) (ha : a.length < 16) :
    mainG F C key blk0 (a ++ b) =
      ((cfbG F C (mainG F C key blk0 a).1 b).1,
       (mainG F C key blk0 a).2 ++ (cfbG F C (mainG F C key blk0 a).1 b).2) := by
  have hg := hE key blk0 h0
  have hna : (F.fn ((C.enc key blk0).take a.length) a).length = a.length :=
    F.len_n _ _ (by simp only [List.length_take]; omega)
  rw [mainG_le16 F C hE key blk0 a h0 ha0 (by omega)]
  simp only []
  have hs1 : CfbInv ⟨key, F.fn ((C.enc key blk0).take a.length) a ++ (C.enc key blk0).drop a.length, 16 - a.length⟩ := by
    refine ⟨?_, by simp only []; omega⟩
    simp only [List.length_append, hna, List.length_drop]; omega
  rw [cfbG_decomp F C _ hs1 b]
  simp only []
  have hb1 : (b.take (16 - a.length)).length ≤ 16 - a.length := by simp only [List.length_take]; omega
  obtain ⟨r1, r2⟩ := resG_after_partial F key (C.enc key blk0) a (b.take (16 - a.length)) hg ha (by omega)
  rw [r1]
  simp only [mainG']
  by_cases hb2 : (b.drop (16 - a.length)).length = 0
  · have hbl : b.length ≤ 16 - a.length := by simp only [List.length_drop] at hb2; omega
    have e1 : b.take (16 - a.length) = b := List.take_of_length_le hbl
    rw [e1] at r2 ⊢
    simp only [hb2, if_true, List.append_nil]
    rw [mainG_le16 F C hE key blk0 (a ++ b) h0 (by simp only [List.length_append]; omega)
      (by simp only [List.length_append]; omega)]
    simp only [List.length_append, r2]
  · have hbl : 16 - a.length < b.length := by simp only [List.length_drop] at hb2; omega
    have hl1 : (b.take (16 - a.length)).length = 16 - a.length := by simp only [List.length_take]; omega
    have hsum : a.length + (b.take (16 - a.length)).length = 16 := by omega
    have hw : (a ++ b.take (16 - a.length)).length = 16 := by simp only [List.length_append]; omega
    have eb : a ++ b = (a ++ b.take (16 - a.length)) ++ b.drop (16 - a.length) := by
      rw [List.append_assoc, List.take_append_drop]
    have et : (C.enc key blk0).take 16 = C.enc key blk0 := List.take_of_length_le (by omega)
    have edr : (C.enc key blk0).drop 16 = [] := List.drop_eq_nil_of_le (by omega)
    rw [hsum, et] at r2
    rw [hsum, et, edr]
    simp only [hb2, if_false, List.append_nil]
    rw [eb, mainG_cons F C key blk0 _ _ hw, r2]
    simp only [List.append_assoc]

theorem mainG_split (F : Fb) (C : Cipher) (hE : ∀ k x, x.length = 16 → (C.enc k x).length = 16) (key : Bytes) :
    ∀ (n : Nat) (a : Bytes), a.length ≤ n → ∀ (blk0 b : Bytes), blk0.length = 16 →
      mainG F C key blk0 (a ++ b) =
        ((cfbG F C (mainG F C key blk0 a).1 b).1,
         (mainG F C key blk0 a).2 ++ (cfbG F C (mainG F C key blk0 a).1 b).2) := by
  intro n
  induction n with
  | zero =>
    intro a han blk0 b h0
    have : a = [] := List.eq_nil_of_length_eq_zero (by omega)
    subst this
    exact mainG_split_nil F C key blk0 b h0
  | succ n ih =>
    intro a han blk0 b h0
    by_cases h16 : 16 ≤ a.length
    · obtain ⟨w, a', rfl, hw⟩ : ∃ w a' : Bytes, a = w ++ a' ∧ w.length = 16 :=
        ⟨a.take 16, a.drop 16, (List.take_append_drop 16 a).symm, by simp only [List.length_take]; omega⟩
      have hblk1 : (F.fn (C.enc key blk0) w).length = 16 := by
        rw [F.len_n _ _ (by rw [hE key blk0 h0, hw])]; exact hw
      simp only [List.length_append] at han
      rw [List.append_assoc, mainG_cons F C key blk0 w (a' ++ b) hw, mainG_cons F C key blk0 w a' hw,
        ih a' (by omega) _ b hblk1]
      simp only [List.append_assoc]
    · by_cases ha0 : a.length = 0
      · have : a = [] := List.eq_nil_of_length_eq_zero ha0
        subst this
        exact mainG_split_nil F C key blk0 b h0
      · exact mainG_split_partial F C hE key blk0 a b h0 (by omega) (by omega)

/-- THE SPLIT LEMMA OF CFB: a cut anywhere (inside the reserve, inside a block, at a block boundary, with empty
pieces) changes neither the returned octets nor the final state. -/
theorem cfbG_split (F : Fb) (C : Cipher) (hE : ∀ k x, x.length = 16 → (C.enc k x).length = 16)
    (st : CfbSt) (hi : CfbInv st) (a b : Bytes) :
    cfbG F C st (a ++ b) =
      ((cfbG F C (cfbG F C st a).1 b).1, (cfbG F C st a).2 ++ (cfbG F C (cfbG F C st a).1 b).2) := by
  by_cases hle : a.length ≤ st.reserved
  · -- `a` is served from the reserve
    have ea1 : a.take st.reserved = a := List.take_of_length_le hle
    have ea2 : a.drop st.reserved = [] := List.drop_eq_nil_of_le hle
    have hA : cfbG F C st a = ((resG F st a).1, (resG F st a).2) := by
      rw [cfbG_decomp F C st hi a, ea1, ea2]
      simp only [mainG', List.length_nil, if_true, List.append_nil]
    have hs1 := resG_inv F st hi a hle
    have e1 : (a ++ b).take st.reserved = a ++ b.take (st.reserved - a.length) := by
      rw [List.take_append, ea1]
    have e2 : (a ++ b).drop st.reserved = b.drop (st.reserved - a.length) := by
      rw [List.drop_append, ea2, List.nil_append]
    have hr1 : (resG F st a).1.reserved = st.reserved - a.length := rfl
    rw [hA]
    simp only []
    rw [cfbG_decomp F C st hi (a ++ b), e1, e2, cfbG_decomp F C _ hs1 b, hr1,
      resG_append F st hi a _ (by simp only [List.length_take]; omega)]
    simp only [List.append_assoc]
  · -- `a` exhausts the reserve
    have hlt : st.reserved < a.length := by omega
    have e1 : (a ++ b).take st.reserved = a.take st.reserved := List.take_append_of_le_length (by omega)
    have e2 : (a ++ b).drop st.reserved = a.drop st.reserved ++ b := List.drop_append_of_le_length (by omega)
    have hs1 := resG_inv F st hi (a.take st.reserved) (by simp only [List.length_take]; omega)
    have hne : ¬ (a.drop st.reserved).length = 0 := by simp only [List.length_drop]; omega
    have hne2 : ¬ (a.drop st.reserved ++ b).length = 0 := by
      simp only [List.length_append, List.length_drop]; omega
    rw [cfbG_decomp F C st hi (a ++ b), cfbG_decomp F C st hi a, e1, e2]
    simp only [mainG', hne, hne2, if_false]
    rw [mainG_split F C hE _ _ _ (Nat.le_refl _) _ b hs1.1]
    simp only [List.append_assoc]

theorem cfb_isStepE (C : Cipher) : IsStep (cfbB C) EOp.encr (cfbG fbE C) := fun s c => by
  show ((cfbStepE C s c).1, Out.data (cfbStepE C s c).2) = _
  rw [cfbStepE_eq]

theorem cfb_isStepD (C : Cipher) : IsStep (cfbB C) EOp.decr (cfbG fbD C) := fun s c => by
  show ((cfbStepD C s c).1, Out.data (cfbStepD C s c).2) = _
  rw [cfbStepD_eq]

theorem cfbG_chunked (F : Fb) (C : Cipher) (hE : ∀ k x, x.length = 16 → (C.enc k x).length = 16) :
    Chunked CfbInv (fun _ => True) (cfbG F C) :=
  ⟨fun s hs => cfbG_nil F C s hs, fun s c hs _ => cfbG_inv F C hE s hs c, fun s a b hs _ => cfbG_split F C hE s hs a b⟩

/-! ### CBC -/

/-- `beltCBCStepE` over a block map: a cut after whole blocks, at least one block left -/
theorem cbcE_split (f : Bytes → Bytes) (hlen : ∀ x, x.length = 16 → (f x).length = 16)
    (iv a b : Bytes) (hiv : iv.length = 16) (ha : a.length % 16 = 0) (hb : 16 ≤ b.length) :
    cbcE f iv (a ++ b) = ((cbcE f (cbcE f iv a).1 b).1, (cbcE f iv a).2 ++ (cbcE f (cbcE f iv a).1 b).2) := by
  rw [cbcE_whole f iv a ha]
  simp only []
  have hfab := fullBlocks_append (cbcEB f) iv a
  by_cases hr : b.length % 16 = 0
  · rw [cbcE_whole f _ b hr, cbcE_whole f iv (a ++ b) (by simp only [List.length_append]; omega), hfab b ha]
  · obtain ⟨pre, last, tail, rfl, hpre, hlast, ht0, ht⟩ := ragged_decomp b hb hr
    obtain ⟨_, hs1⟩ := cbcE_loop_len f hlen a ha iv hiv
    obtain ⟨_, hs2⟩ := cbcE_loop_len f hlen pre hpre _ hs1
    have hx : (xorb (fullBlocks 16 (cbcEB f) (fullBlocks 16 (cbcEB f) iv a).1 pre).1 last).length = 16 := by
      rw [length_xorb]; omega
    have hcl := hlen _ hx
    have e : a ++ (pre ++ last ++ tail) = (a ++ pre) ++ last ++ tail := by simp only [List.append_assoc]
    rw [e, cbcE_ragged f iv (a ++ pre) last tail _ (by simp only [List.length_append]; omega) hlast ht0 ht
        (by rw [hfab pre ha]) hcl,
      cbcE_ragged f _ pre last tail _ hpre hlast ht0 ht rfl hcl, hfab pre ha]
    simp only [List.append_assoc]

/-- the chaining block stays a block -/
theorem cbcE_state_len (f : Bytes → Bytes) (hlen : ∀ x, x.length = 16 → (f x).length = 16)
    (iv a : Bytes) (hiv : iv.length = 16) (ha : a.length % 16 = 0) : (cbcE f iv a).1.length = 16 := by
  rw [cbcE_whole f iv a ha]
  exact (cbcE_loop_len f hlen a ha iv hiv).2

/-- `beltCBCStepD` over a block map: a cut after whole blocks, at least one block left; no hypothesis on `g` or
on the state -/
theorem cbcD_split (g : Bytes → Bytes) (s : Bytes × Bytes) (a b : Bytes) (ha : a.length % 16 = 0)
    (hb : 16 ≤ b.length) :
    cbcD g s (a ++ b) = ((cbcD g (cbcD g s a).1 b).1, (cbcD g s a).2 ++ (cbcD g (cbcD g s a).1 b).2) := by
  rw [cbcD_whole g s a ha]
  simp only []
  have hfab := fullBlocks_append (cbcDB g) s a
  by_cases hr : b.length % 16 = 0
  · rw [cbcD_whole g _ b hr, cbcD_whole g s (a ++ b) (by simp only [List.length_append]; omega), hfab b ha]
  · obtain ⟨pre, last, tail, rfl, hpre, hlast, ht0, ht⟩ := ragged_decomp b hb hr
    have e : a ++ (pre ++ last ++ tail) = (a ++ pre) ++ last ++ tail := by simp only [List.append_assoc]
    rw [e, cbcD_ragged g s (a ++ pre) last tail (by simp only [List.length_append]; omega) hlast ht0 ht,
      cbcD_ragged g _ pre last tail hpre hlast ht0 ht, hfab pre ha]
    simp only [List.append_assoc]

theorem cbc_isStepE (C : Cipher) : IsStep (cbcB C) EOp.encr (cbcStepE C) := fun _ _ => rfl
theorem cbc_isStepD (C : Cipher) : IsStep (cbcB C) EOp.decr (cbcStepD C) := fun _ _ => rfl

theorem cbcStepE_split (C : Cipher) (hE : ∀ k x, x.length = 16 → (C.enc k x).length = 16)
    (st : CbcSt) (hiv : st.block.length = 16) (a b : Bytes) (ha : a.length % 16 = 0) (hb : 16 ≤ b.length) :
    cbcStepE C st (a ++ b) =
      ((cbcStepE C (cbcStepE C st a).1 b).1, (cbcStepE C st a).2 ++ (cbcStepE C (cbcStepE C st a).1 b).2) := by
  simp only [cbcStepE_eq]
  rw [cbcE_split (C.enc st.key) (hE st.key) st.block a b hiv ha hb]

theorem cbcStepE_inv (C : Cipher) (hE : ∀ k x, x.length = 16 → (C.enc k x).length = 16)
    (st : CbcSt) (hiv : st.block.length = 16) (a : Bytes) (ha : a.length % 16 = 0) :
    (cbcStepE C st a).1.block.length = 16 := by
  simp only [cbcStepE_eq]
  exact cbcE_state_len (C.enc st.key) (hE st.key) st.block a hiv ha

theorem cbcStepD_split (C : Cipher) (st : CbcSt) (a b : Bytes) (ha : a.length % 16 = 0) (hb : 16 ≤ b.length) :
    cbcStepD C st (a ++ b) =
      ((cbcStepD C (cbcStepD C st a).1 b).1, (cbcStepD C st a).2 ++ (cbcStepD C (cbcStepD C st a).1 b).2) := by
  simp only [cbcStepD_eq]
  rw [cbcD_split (C.dec st.key) (st.block, st.block2) a b ha hb]

/-! ### SDE -/

/-- the sector of a call -/
def sdeData : SdeOp → Bytes
  | .encr _ d => d
  | .decr _ d => d

/-- the one-shot function `beltSDEEncr` / `beltSDEDecr` that corresponds to a call (fresh `beltSDEStart(key)`) -/
def sdeOneShot (C : Cipher) (key : Bytes) : SdeOp → Err × Option Bytes
  | .encr iv d => sdeEncr C d key iv
  | .decr iv d => sdeDecr C d key iv

theorem sde_step_state (C : Cipher) (k : Bytes) (op : SdeOp) : ((sdeB C).step k op).1 = k := by
  cases op <;> rfl

theorem sde_step_out (C : Cipher) (key : Bytes) (hk : validKeyLen key.length = true) (op : SdeOp)
    (hs : sector (sdeData op)) :
    ∃ b, ((sdeB C).step (fmtKey key) op).2 = Out.data b ∧ sdeOneShot C key op = (.ok, some b) := by
  obtain ⟨h1, h2⟩ := hs
  cases op with
  | encr iv d =>
    simp only [sdeData] at h1 h2
    refine ⟨sdeStepE C (fmtKey key) iv d, rfl, ?_⟩
    simp only [sdeOneShot, sdeEncr, hk, h1, ne_eq, not_true_eq_false, decide_false, Bool.not_true, Bool.or_false,
      show ¬ d.length < 32 by omega, Bool.false_eq_true, if_false]
  | decr iv d =>
    simp only [sdeData] at h1 h2
    refine ⟨sdeStepD C (fmtKey key) iv d, rfl, ?_⟩
    simp only [sdeOneShot, sdeDecr, hk, h1, ne_eq, not_true_eq_false, decide_false, Bool.not_true, Bool.or_false,
      show ¬ d.length < 32 by omega, Bool.false_eq_true, if_false]

/-- a returned buffer seen as the result of a successful high-level call -/
def okOut : Out → Err × Option Bytes
  | .data b => (.ok, some b)
  | _ => (.badInput, none)

theorem sde_session (C : Cipher) (key : Bytes) (hk : validKeyLen key.length = true) :
    ∀ ops : List SdeOp, (∀ op ∈ ops, sector (sdeData op)) →
      (outs (sdeB C) (fmtKey key) (ops.map Call.op)).map okOut = ops.map (sdeOneShot C key) ∧
      after (sdeB C) (fmtKey key) (ops.map Call.op) = fmtKey key := by
  intro ops
  induction ops with
  | nil => intro _; exact ⟨rfl, rfl⟩
  | cons op ops ih =>
    intro h
    obtain ⟨i1, i2⟩ := ih (fun o ho => h o (List.mem_cons_of_mem _ ho))
    have e : run (sdeB C) (fmtKey key) ((op :: ops).map Call.op) =
        ((run (sdeB C) ((sdeB C).step (fmtKey key) op).1 (ops.map Call.op)).1,
         ((sdeB C).step (fmtKey key) op).2 :: (run (sdeB C) ((sdeB C).step (fmtKey key) op).1 (ops.map Call.op)).2) := rfl
    obtain ⟨b, hb1, hb2⟩ := sde_step_out C key hk op (h op (List.mem_cons_self ..))
    simp only [outs, after] at i1 i2 ⊢
    rw [e, sde_step_state]
    simp only [List.map_cons, i1, i2, hb1, hb2, okOut, and_self]

end Bee2V.C10.Modes
