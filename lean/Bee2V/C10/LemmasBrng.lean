/-
C10 helper lemmas, brng generators.  Both bundles refine ONE abstract generator `readerB` whose state is what a
caller can still see, (`core`, unread tail of `block`), and whose request is `serve` (C03/LemmasReader.lean).
`refines_chunks`, `refines_outs`: chunk independence and "states that look alike answer alike" for any bundle that
`Refines` it (`outs_refine` + `calls_hom` + `serve_add`).  The property theorems are in PropsBrng.lean.
-/
import Bee2V.C10.LemmasSession
import Bee2V.C03.LemmasGen
import Bee2V.C03.LemmasSponge
namespace Bee2V.C10.Brng
open Bee2V

def readerB {κ : Type} (nx : κ → κ × Bytes) (get : κ → Out) : Bundle (κ × Bytes) RngOp :=
  { step := fun a op => match op with
      | .gen buf => ((serve nx a buf.length).1, .data (serve nx a buf.length).2)
      | .get => (a, get a.1),
    isGet := RngOp.isGet }

/-- `v`: the view of the state; `I`: the states from which, `P`: the calls on which `B` steps as `readerB` -/
structure Refines {σ κ : Type} (B : Bundle σ RngOp) (nx : κ → κ × Bytes) (get : κ → Out) (v : σ → κ × Bytes)
    (I : σ → Prop) (P : RngOp → Prop) : Prop where
  step : ∀ s i, P i → I s → (I (B.step s i).1 ∧ v (B.step s i).1 = ((readerB nx get).step (v s) i).1) ∧
    (B.step s i).2 = ((readerB nx get).step (v s) i).2

section refines
variable {σ κ : Type} {B : Bundle σ RngOp} {nx : κ → κ × Bytes} {get : κ → Out} {v : σ → κ × Bytes} {I : σ → Prop}
  {P : RngOp → Prop} (hR : Refines B nx get v I P) (hlen : ∀ c, (nx c).2.length = 32)
include hR

theorem refines_outs (post : List (Call RngOp)) (hp : SessionOk P post) (a b : σ) (ha : I a) (hb : I b)
    (he : v a = v b) : outs B a post = outs B b post := by
  have r := outs_refine P B (readerB nx get) (fun s x => I s ∧ v s = x) (fun s x i hi h => h.2 ▸ hR.step s i hi h.1) post hp
  rw [(r a _ ⟨ha, rfl⟩).1, (r b _ ⟨hb, he.symm⟩).1]

include hlen in
theorem refines_chunks (s : σ) (hs : I s) (cs : List Bytes) (hP : ∀ c ∈ cs, P (.gen c)) (hf : P (.gen cs.flatten)) :
    (B.step s (.gen cs.flatten)).2 = .data (dataOf (outs B s (calls RngOp.gen cs))) ∧
    v (after B s (calls RngOp.gen cs)) = v (B.step s (.gen cs.flatten)).1 ∧
    I (after B s (calls RngOp.gen cs)) ∧ I (B.step s (.gen cs.flatten)).1 := by
  -- the session, seen on the abstract generator, is one request there (`serve_add`); so is the one-shot call
  have r1 := outs_refine P B (readerB nx get) (fun s x => I s ∧ v s = x) (fun s x i hi h => h.2 ▸ hR.step s i hi h.1)
    (calls RngOp.gen cs) (sessionOk_calls RngOp.gen P cs hP) s _ ⟨hs, rfl⟩
  have r2 := calls_hom (readerB nx get) RngOp.gen (fun a buf => serve nx a buf.length)
    (Inv := fun _ => True) (P := fun _ => True)
    ⟨fun a _ => serve_zero nx a, fun _ _ _ _ => trivial,
      fun a x y _ _ => by rw [List.length_append, serve_add nx hlen]⟩
    (fun _ _ => ⟨rfl, List.append_nil _⟩) cs (v s) trivial (fun _ _ => trivial)
  have r3 := hR.step s (.gen cs.flatten) hf hs
  refine ⟨?_, ?_, r1.2.1, r3.1.1⟩
  · rw [r3.2, r1.1, r2.1]; rfl
  · rw [r1.2.2, r2.2, r3.1.2]; rfl

end refines

/-! ### brngHMAC -/

theorem hmac_refines :
    Refines brngHmacB nxH (fun _ => .none) (fun st => (toGh st).abs) (fun st => GInv (toGh st)) (fun _ => True) := by
  refine ⟨fun st i _ hi => ?_⟩
  cases i with
  | get => exact ⟨⟨hi, rfl⟩, rfl⟩
  | gen buf =>
    have e := Prod.ext_iff.mp (gStep_abs nxH nxH_len (toGh st) hi buf.length)
    have e2 : brngHmacB.step st (.gen buf) =
        (ofGh (gStep nxH buf.length (toGh st)).1, .data (gStep nxH buf.length (toGh st)).2) := by
      show (_, Out.data _) = _
      rw [← ofGh_toGh st, hmacGenStepR_eq, toGh_ofGh]
    rw [e2]
    refine ⟨⟨?_, ?_⟩, congrArg Out.data e.2⟩
    · show GInv (toGh (ofGh _)); rw [toGh_ofGh]; exact gStep_inv nxH nxH_len _ _ hi
    · show (toGh (ofGh _)).abs = _; rw [toGh_ofGh]; exact e.1

theorem hmac_fields {a b : C03.HmacGenSt} (ha : GInv (toGh a)) (hb : GInv (toGh b))
    (h : (toGh a).abs = (toGh b).abs) :
    a.iv = b.iv ∧ a.r = b.r ∧ a.reserved = b.reserved ∧ a.keySt = b.keySt ∧
      a.block.drop (32 - a.reserved) = b.block.drop (32 - b.reserved) := by
  obtain ⟨e1, e2, e3⟩ := gEqv_of_abs ha hb h
  exact ⟨congrArg (·.1) e1, congrArg (·.2.1) e1, e2, congrArg (·.2.2) e1, e3⟩

/-! ### brngCTR on zero-filled buffers is the skeleton -/

/-- the part of `brng_ctr_st` that drives generation: the memory `s ‖ r` and the keyed hash state -/
abbrev CCore := Bytes × C03.Belt.HashSt

/-- one block with the additional input `X = 0^256` -/
def nxC (wb : Nat) (c : CCore) : CCore × Bytes :=
  (((C03.ctrNext wb ⟨c.1, [], 0, c.2⟩ [C03.zeros 32]).1.mem, c.2), (C03.ctrNext wb ⟨c.1, [], 0, c.2⟩ [C03.zeros 32]).2)

theorem nxC_len (wb : Nat) (c : CCore) : (nxC wb c).2.length = 32 := C03.Belt.hashStepG_length _

def toGc (st : C03.CtrSt) : G CCore := ⟨(st.mem, st.keySt), st.block, st.reserved⟩
def ofGc (g : G CCore) : C03.CtrSt := ⟨g.core.1, g.block, g.reserved, g.core.2⟩

theorem ofGc_toGc (st : C03.CtrSt) : ofGc (toGc st) = st := by cases st; rfl

theorem ctrNext_zeros (wb : Nat) (g : G CCore) :
    C03.ctrNext wb (ofGc g) [C03.zeros 32] = (ofGc ⟨(nxC wb g.core).1, g.block, g.reserved⟩, (nxC wb g.core).2) := rfl

/-- a partial request feeds `X` as `0^count` then `0^(32-count)`: the same hash input (needs `filled < 32` of the
keyed hash state, which `beltHashStepH` maintains) -/
theorem ctrNext_partial (wb : Nat) (st : C03.CtrSt) (hw : st.keySt.WF) (count : Nat) (hc : count ≤ 32) :
    C03.ctrNext wb st [C03.zeros count, C03.zeros (32 - count)] = C03.ctrNext wb st [C03.zeros 32] := by
  have w1 := C03.Belt.hashStepH_WF st.s st.keySt hw
  have e : C03.zeros count ++ C03.zeros (32 - count) = C03.zeros 32 := by
    rw [← C03.zeros_add]; congr 1; omega
  simp only [C03.ctrNext, List.foldl_cons, List.foldl_nil, C03.Belt.hashStepH_append _ w1, e]

theorem zeros_take (n c : Nat) (h : n ≤ c) : (C03.zeros c).take n = C03.zeros n := by
  simp only [C03.zeros, List.take_replicate]; congr 1; omega
theorem zeros_drop (n c : Nat) : (C03.zeros c).drop n = C03.zeros (c - n) := by
  simp only [C03.zeros, List.drop_replicate]

theorem ctrFull_zeros (wb : Nat) : ∀ (n c : Nat), c ≤ n → ∀ g : G CCore,
    C03.ctrFull wb (ofGc g) (C03.zeros c) =
      (ofGc ⟨(gFull (nxC wb) g.core (c / 32)).1, g.block, g.reserved⟩, C03.zeros (c % 32),
       (gFull (nxC wb) g.core (c / 32)).2) := by
  intro n
  induction n with
  | zero =>
    intro c hc g
    have : c = 0 := by omega
    subst this
    rw [C03.ctrFull]
    simp [C03.zeros_length, gFull]
  | succ n ih =>
    intro c hc g
    rw [C03.ctrFull]
    by_cases h : 32 ≤ c
    · have e1 : c / 32 = (c - 32) / 32 + 1 := by omega
      have e2 : c % 32 = (c - 32) % 32 := by omega
      simp only [C03.zeros_length, h, dite_true, zeros_take 32 c h, zeros_drop, ctrNext_zeros, ih (c - 32) (by omega), e1,
        e2, gFull]
    · have e1 : c / 32 = 0 := by omega
      have e2 : c % 32 = c := by omega
      simp only [C03.zeros_length, h, dite_false, e1, e2, gFull]

/-- the keyed hash state is never changed by the skeleton -/
theorem gFull_key (wb : Nat) (n : Nat) : ∀ c : CCore, (gFull (nxC wb) c n).1.2 = c.2 := by
  induction n with
  | zero => intro c; rfl
  | succ n ih => intro c; simp only [gFull, ih]; rfl

theorem ctrGen_zeros (wb : Nat) (g : G CCore) (hw : g.core.2.WF) (c : Nat) :
    C03.ctrGen wb (ofGc g) (C03.zeros c) = (ofGc (gGen (nxC wb) g c).1, (gGen (nxC wb) g c).2) := by
  simp only [C03.ctrGen, ctrFull_zeros wb c c (Nat.le_refl _) g, C03.zeros_length, gGen]
  by_cases h : c % 32 = 0
  · simp only [h, ne_eq, not_true_eq_false, if_false]
  · simp only [h, ne_eq, not_false_eq_true, if_true]
    rw [ctrNext_partial wb _ (by show (gFull (nxC wb) g.core (c / 32)).1.2.WF; rw [gFull_key]; exact hw) (c % 32)
      (by omega), ctrNext_zeros]
    rfl

/-- `brngCTRStepR` on a zero-filled buffer of `c` octets is the skeleton over `nxC` -/
theorem ctrStepR_zeros (wb : Nat) (g : G CCore) (hw : g.core.2.WF) (c : Nat) :
    C03.ctrStepR wb (C03.zeros c) (ofGc g) = (ofGc (gStep (nxC wb) c g).1, (gStep (nxC wb) c g).2) := by
  have e0 : ({ ofGc g with reserved := 0 } : C03.CtrSt) = ofGc ⟨g.core, g.block, 0⟩ := rfl
  unfold C03.ctrStepR gStep
  rw [e0, zeros_drop, ctrGen_zeros wb g hw, ctrGen_zeros wb ⟨g.core, g.block, 0⟩ hw]
  have hr : (ofGc g).reserved = g.reserved := rfl
  by_cases h0 : g.reserved = 0
  · simp only [hr, h0, ne_eq, not_true_eq_false, if_false]
  · simp only [hr, h0, ne_eq, not_false_eq_true, if_true, C03.zeros_length]
    by_cases h : g.reserved ≥ c
    · simp only [h, if_true]; rfl
    · simp only [h, if_false]; rfl

theorem zeroBufs_cons (c : Bytes) (cs : List Bytes) (h : zeroBufs (c :: cs)) :
    c = C03.zeros c.length ∧ zeroBufs cs :=
  ⟨h c (List.mem_cons_self ..), fun d hd => h d (List.mem_cons_of_mem _ hd)⟩

theorem zeroBufs_flatten : ∀ cs : List Bytes, zeroBufs cs → cs.flatten = C03.zeros cs.flatten.length
  | [], _ => rfl
  | c :: cs, h => by
    obtain ⟨h1, h2⟩ := zeroBufs_cons c cs h
    have ih := zeroBufs_flatten cs h2
    rw [List.flatten_cons, List.length_append, C03.zeros_add, ← h1, ← ih]

/-- every request of the session comes with a zero-filled buffer -/
def zeroSession (post : List (Call RngOp)) : Prop :=
  ∀ buf, Call.op (RngOp.gen buf) ∈ post → buf = C03.zeros buf.length

def zeroOp : RngOp → Prop
  | .gen buf => buf = C03.zeros buf.length
  | .get => True

theorem sessionOk_zero (post : List (Call RngOp)) (h : zeroSession post) : SessionOk zeroOp post := by
  intro c hc
  rcases c with (buf | _) | _
  · exact h buf hc
  · trivial
  · trivial

theorem gStep_key (wb : Nat) (g : G CCore) (hi : GInv g) (c : Nat) : (gStep (nxC wb) c g).1.core.2 = g.core.2 :=
  (congrArg (·.1.1.2) (gStep_abs (nxC wb) (nxC_len wb) g hi c)).trans (gFull_key wb _ _)

theorem ctr_refines :
    Refines brngCtrB (nxC wOctets) (fun c => .data (c.1.take 32)) (fun st => (toGc st).abs)
      (fun st => GInv (toGc st) ∧ st.keySt.WF) zeroOp := by
  refine ⟨fun st i hz hi => ?_⟩
  cases i with
  | get => exact ⟨⟨hi, rfl⟩, rfl⟩
  | gen buf =>
    have e := Prod.ext_iff.mp (gStep_abs (nxC wOctets) (nxC_len wOctets) (toGc st) hi.1 buf.length)
    have e2 : brngCtrB.step st (.gen buf) =
        (ofGc (gStep (nxC wOctets) buf.length (toGc st)).1, .data (gStep (nxC wOctets) buf.length (toGc st)).2) := by
      show (_, Out.data _) = _
      rw [show buf = C03.zeros buf.length from hz, ← ofGc_toGc st, ctrStepR_zeros wOctets _ hi.2, C03.zeros_length]
      rfl
    rw [e2]
    refine ⟨⟨⟨gStep_inv (nxC wOctets) (nxC_len wOctets) _ _ hi.1, ?_⟩, e.1⟩, congrArg Out.data e.2⟩
    show (gStep (nxC wOctets) buf.length (toGc st)).1.core.2.WF
    rw [gStep_key wOctets _ hi.1]; exact hi.2

theorem ctr_fields {a b : C03.CtrSt} (ha : GInv (toGc a)) (hb : GInv (toGc b)) (h : (toGc a).abs = (toGc b).abs) :
    a.mem = b.mem ∧ a.keySt = b.keySt ∧ a.reserved = b.reserved ∧
      a.block.drop (32 - a.reserved) = b.block.drop (32 - b.reserved) := by
  obtain ⟨e1, e2, e3⟩ := gEqv_of_abs ha hb h
  exact ⟨congrArg (·.1) e1, congrArg (·.2) e1, e2, e3⟩

end Bee2V.C10.Brng
