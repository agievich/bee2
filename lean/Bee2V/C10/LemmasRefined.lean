/-
C10 — helper lemmas for PropsRefined.lean: the KRP block `r ‖ level ‖ header` written in place.
-/
import Bee2V.C10.Refined
import Bee2V.C01.Lemmas.Wbl
import Bee2V.C01.Lemmas.Block
namespace Bee2V.C10.Refined
open Bee2V Bee2V.C10 Bee2V.Gen.C01

/-- the four octets `H[k .. k+4)` exist for every offset the code can form -/
theorem rLen (k : Nat) (hk : k + 4 ≤ 256) : ((H.toList.drop k).take 4).length = 4 := by
  rw [List.length_take, List.length_drop, C01.length_H]; omega

/-- a 32-octet block is `block[0..4) ‖ block[4..16) ‖ block[16..32)` -/
theorem block_split (block : Bytes) (hb : block.length = 32) :
    block = block.take 4 ++ ((block.drop 4).take 12 ++ block.drop 16) := by
  have h2 : block.drop 16 = (block.drop 4).drop 12 := by rw [List.drop_drop]
  rw [h2, List.take_append_drop, List.take_append_drop]

/-- writing `r` (4 octets) at 0 and `header` (16 octets) at 16 into a 32-octet block leaves `block[4..16)` -/
theorem block_written (block r header : Bytes) (hb : block.length = 32) (hr : r.length = 4) (hh : header.length = 16) :
    C01.putAt (C01.putAt block 0 r) 16 header = r ++ ((block.drop 4).take 12 ++ header) := by
  have hL : ((block.drop 4).take 12).length = 12 := by rw [List.length_take, List.length_drop]; omega
  have hZ : (block.drop 16).length = 16 := by rw [List.length_drop]; omega
  have h1 : C01.putAt block 0 r = r ++ ((block.drop 4).take 12 ++ block.drop 16) := by
    conv => lhs; rw [block_split block hb]
    have := C01.Wbl.putAt_append [] (block.take 4) ((block.drop 4).take 12 ++ block.drop 16) r 0 rfl
      (by rw [hr, List.length_take]; omega)
    simpa using this
  rw [h1]
  have := C01.Wbl.putAt_append (r ++ (block.drop 4).take 12) (block.drop 16) [] header 16
    (by rw [List.length_append, hr, hL]) (by rw [hh, hZ])
  simpa [List.append_assoc] using this

theorem level_kept (r L header : Bytes) (hr : r.length = 4) (hL : L.length = 12) :
    ((r ++ (L ++ header)).drop 4).take 12 = L := by
  rw [List.drop_left' hr, List.take_left' hL]

/-- `level` written by `beltKRPStart` into `block[4..16)` of a 32-octet memory -/
theorem level_stored (junk level : Bytes) (hj : junk.length = 32) (hl : level.length = 12) :
    ((C01.putAt junk 4 level).drop 4).take 12 = level ∧ (C01.putAt junk 4 level).length = 32 := by
  have ht : (junk.take 4).length = 4 := by rw [List.length_take]; omega
  constructor
  · simp only [C01.putAt, List.append_assoc]
    rw [List.drop_left' ht, List.take_left' hl]
  · simp only [C01.putAt, List.length_append, List.length_take, List.length_drop, hl, hj]; omega

end Bee2V.C10.Refined
