/-
Chunk independence of sessions.  A step function on buffers is `Chunked` when a call on `a ++ b` is a call on `a`
followed by a call on `b`; `run_hom`: a session whose calls hand their buffers to such a step function ends in the
state, and returns the data, of ONE call on the concatenated buffers.  No Mathlib.
-/
import Bee2V.C10.Stmts
namespace Bee2V.C10

namespace Modes
variable {σ ι : Type}

theorem run_calls_nil (B : Bundle σ ι) (mk : Bytes → ι) (s : σ) : run B s (calls mk []) = (s, []) := rfl

theorem run_calls_cons (B : Bundle σ ι) (mk : Bytes → ι) (s : σ) (c : Bytes) (cs : List Bytes) :
    run B s (calls mk (c :: cs)) =
      ((run B (B.step s (mk c)).1 (calls mk cs)).1,
       (B.step s (mk c)).2 :: (run B (B.step s (mk c)).1 (calls mk cs)).2) := rfl

/-- the calls `mk c` of the bundle `B` are the step function `step` on buffers -/
def IsStep (B : Bundle σ ι) (mk : Bytes → ι) (step : σ → Bytes → σ × Bytes) : Prop :=
  ∀ s c, B.step s (mk c) = ((step s c).1, Out.data (step s c).2)

theorem IsStep.hB {B : Bundle σ ι} {mk : Bytes → ι} {step : σ → Bytes → σ × Bytes} (h : IsStep B mk step) (s : σ)
    (c : Bytes) : (B.step s (mk c)).1 = (step s c).1 ∧ dataOf [(B.step s (mk c)).2] = (step s c).2 := by
  rw [h s c]; exact ⟨rfl, List.append_nil _⟩

end Modes

variable {σ ι : Type}

/-- `P`: the fragments after which `step` may be cut; `Inv`: the states from which -/
structure Chunked (Inv : σ → Prop) (P : Bytes → Prop) (step : σ → Bytes → σ × Bytes) : Prop where
  nil : ∀ s, Inv s → step s [] = (s, [])
  keeps : ∀ s a, Inv s → P a → Inv (step s a).1
  append : ∀ s a b, Inv s → P a →
    step s (a ++ b) = ((step (step s a).1 b).1, (step s a).2 ++ (step (step s a).1 b).2)

theorem Chunked.noOut {Inv : σ → Prop} {P : Bytes → Prop} {step : σ → Bytes → σ × Bytes} (h : Chunked Inv P step) :
    Chunked Inv P (fun s b => ((step s b).1, [])) :=
  ⟨fun s hs => by rw [h.nil s hs], h.keeps, fun s a b hs ha => by rw [h.append s a b hs ha]; rfl⟩

/-- `d` = the buffer a call hands over -/
def sData (d : ι → Bytes) : List (Call ι) → Bytes
  | [] => []
  | .reloc :: s => sData d s
  | .op i :: s => d i ++ sData d s

theorem sData_map {α : Type} (d : ι → Bytes) (mk : α → ι) (xs : List α) :
    sData d (xs.map fun x => Call.op (mk x)) = (xs.map fun x => d (mk x)).flatten := by
  induction xs with
  | nil => rfl
  | cons x xs ih => simp only [List.map_cons, sData, ih, List.flatten_cons]

theorem dataOf_cons (o : Out) (r : List Out) : dataOf (o :: r) = dataOf [o] ++ dataOf r := by
  cases o <;> simp [dataOf]

theorem dataOf_map_data (l : List Bytes) : dataOf (l.map Out.data) = l.flatten := by
  induction l with
  | nil => rfl
  | cons b l ih => simp only [List.map_cons, dataOf, ih, List.flatten_cons]

theorem sessionOk_map {α : Type} (mk : α → ι) (P : ι → Prop) (xs : List α) (h : ∀ x ∈ xs, P (mk x)) :
    SessionOk P (xs.map fun x => Call.op (mk x)) := by
  intro c hc
  obtain ⟨b, hb, rfl⟩ := List.mem_map.mp hc
  exact h b hb

theorem sessionOk_calls (mk : Bytes → ι) (P : ι → Prop) (cs : List Bytes) (h : ∀ c ∈ cs, P (mk c)) :
    SessionOk P (calls mk cs) := sessionOk_map mk P cs h

/-- `hB` reads what a call returns through `dataOf`, so calls without output (`Out.none`) are `step`s with
output `[]` -/
theorem run_hom (B : Bundle σ ι) (d : ι → Bytes) (step : σ → Bytes → σ × Bytes) {Inv : σ → Prop} {P : Bytes → Prop}
    (hL : Chunked Inv P step)
    (hB : ∀ s i, (B.step s i).1 = (step s (d i)).1 ∧ dataOf [(B.step s i).2] = (step s (d i)).2) :
    ∀ (cs : List (Call ι)) (s : σ), Inv s → SessionOk (fun i => P (d i)) cs →
      dataOf (outs B s cs) = (step s (sData d cs)).2 ∧ after B s cs = (step s (sData d cs)).1 := by
  intro cs
  induction cs with
  | nil => intro s hs _; rw [sData, hL.nil s hs]; exact ⟨rfl, rfl⟩
  | cons c cs ih =>
    intro s hs hok
    have hok' : SessionOk (fun i => P (d i)) cs := fun x hx => hok x (List.mem_cons_of_mem _ hx)
    cases c with
    | reloc => exact ih s hs hok'
    | op i =>
      have hi : P (d i) := hok (.op i) List.mem_cons_self
      obtain ⟨i1, i2⟩ := ih (step s (d i)).1 (hL.keeps s _ hs hi) hok'
      rw [sData, hL.append s _ _ hs hi, ← i1, ← i2, ← (hB s i).1, ← (hB s i).2]
      exact ⟨dataOf_cons _ _, rfl⟩

theorem run_map_comap {α : Type} (B : Bundle σ ι) (mk : α → ι) (xs : List α) : ∀ s : σ,
    run B s (xs.map fun x => Call.op (mk x)) =
      run ⟨fun s x => B.step s (mk x), fun _ => false⟩ s (xs.map Call.op) := by
  induction xs with
  | nil => intro s; rfl
  | cons x xs ih => intro s; simp only [List.map_cons, run, ih]

/-- sessions `StepX(x1); StepX(x2); …` of one kind of call `mk`, which hands over `bufOf x` -/
theorem map_hom {α : Type} (B : Bundle σ ι) (mk : α → ι) (bufOf : α → Bytes) (step : σ → Bytes → σ × Bytes)
    {Inv : σ → Prop} {P : Bytes → Prop} (hL : Chunked Inv P step)
    (hB : ∀ s x, (B.step s (mk x)).1 = (step s (bufOf x)).1 ∧ dataOf [(B.step s (mk x)).2] = (step s (bufOf x)).2)
    (xs : List α) (s : σ) (hs : Inv s) (hP : ∀ x ∈ xs, P (bufOf x)) :
    dataOf (outs B s (xs.map fun x => Call.op (mk x))) = (step s (xs.map bufOf).flatten).2 ∧
    after B s (xs.map fun x => Call.op (mk x)) = (step s (xs.map bufOf).flatten).1 := by
  have h := run_hom ⟨fun s x => B.step s (mk x), fun _ => false⟩ bufOf step hL hB (xs.map Call.op) s hs
    (sessionOk_map id _ xs hP)
  rw [show sData bufOf (xs.map Call.op) = (xs.map bufOf).flatten from sData_map bufOf id xs] at h
  simp only [outs, after, run_map_comap B mk xs s]
  exact h

theorem calls_hom (B : Bundle σ ι) (mk : Bytes → ι) (step : σ → Bytes → σ × Bytes) {Inv : σ → Prop}
    {P : Bytes → Prop} (hL : Chunked Inv P step)
    (hB : ∀ s c, (B.step s (mk c)).1 = (step s c).1 ∧ dataOf [(B.step s (mk c)).2] = (step s c).2)
    (cs : List Bytes) (s : σ) (hs : Inv s) (hP : ∀ c ∈ cs, P c) :
    dataOf (outs B s (calls mk cs)) = (step s cs.flatten).2 ∧ after B s (calls mk cs) = (step s cs.flatten).1 := by
  have h := map_hom B mk id step hL hB cs s hs hP
  rwa [List.map_id] at h

end Bee2V.C10
