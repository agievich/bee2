/-
C10 property theorems — belt-CTR, belt-DWP, belt-CHE: chunk independence and get-then-continue.
Stated for an ARBITRARY block cipher `C : C01.Cipher` that returns 16 octets on 16 octets (`hlen`; true for belt:
`C01.length_blockEncr`), about exactly the state machines `ctrB`, `dwpB`, `cheB` of `Machines.lean` that the driver
executes.  Only property theorems and non-vacuity examples; helper lemmas and the vocabulary (`eData`, the toy
cipher, …) are in `LemmasAead.lean`.
-/
import Bee2V.C10.LemmasAead
namespace Bee2V.C10
open Bee2V.C10.Aead

/-! ### belt-CTR -/

/-- CHUNK INDEPENDENCE of belt-CTR, session form.  From ANY state that satisfies the invariant of `belt_ctr_st`,
any session of `beltCTRStepE` / `beltCTRStepD` calls (the same function) and relocations — empty fragments,
fragments that begin inside a gamma block and end before its end, … — returns, concatenated, what one call on
the concatenated data returns, and ends in EXACTLY the same state (`key`, `ctr`, `block`, `reserved`). -/
theorem chunk_indep_ctr_session (C : C01.Cipher) (hlen : ∀ k x, x.length = 16 → (C.enc k x).length = 16)
    (st : C01.CtrSt) (hr : st.reserved ≤ 16) (hb : st.block.length = 16) (hc : st.ctr.length = 16)
    (s : List (Call EOp)) :
    dataOf (outs (ctrB C) st s) = (C01.ctrStepE C st (eData s)).2 ∧
    after (ctrB C) st s = (C01.ctrStepE C st (eData s)).1 := by
  rw [eData_eq]
  exact run_hom (ctrB C) eD _ (ctrLaw C hlen).chunked (fun _ i => by cases i <;> exact ⟨rfl, List.append_nil _⟩) s st
    ⟨hr, hb, hc⟩ (sessionOk_true s)

/-- CHUNK INDEPENDENCE of belt-CTR, fragment-list form (every list of fragments `cs`, from every invariant state) -/
theorem chunk_indep_ctr (C : C01.Cipher) (hlen : ∀ k x, x.length = 16 → (C.enc k x).length = 16)
    (st : C01.CtrSt) (hr : st.reserved ≤ 16) (hb : st.block.length = 16) (hc : st.ctr.length = 16)
    (cs : List Bytes) :
    dataOf (outs (ctrB C) st (calls EOp.encr cs)) = (C01.ctrStepE C st cs.flatten).2 ∧
    after (ctrB C) st (calls EOp.encr cs) = (C01.ctrStepE C st cs.flatten).1 := by
  exact calls_hom (ctrB C) EOp.encr _ (ctrLaw C hlen).chunked (fun _ _ => ⟨rfl, List.append_nil _⟩) cs st ⟨hr, hb, hc⟩
    (fun _ _ => trivial)

/-- the same for `beltCTRStepD` -/
theorem chunk_indep_ctr_decr (C : C01.Cipher) (hlen : ∀ k x, x.length = 16 → (C.enc k x).length = 16)
    (st : C01.CtrSt) (hr : st.reserved ≤ 16) (hb : st.block.length = 16) (hc : st.ctr.length = 16)
    (cs : List Bytes) :
    dataOf (outs (ctrB C) st (calls EOp.decr cs)) = (C01.ctrStepE C st cs.flatten).2 ∧
    after (ctrB C) st (calls EOp.decr cs) = (C01.ctrStepE C st cs.flatten).1 := by
  exact calls_hom (ctrB C) EOp.decr _ (ctrLaw C hlen).chunked (fun _ _ => ⟨rfl, List.append_nil _⟩) cs st ⟨hr, hb, hc⟩
    (fun _ _ => trivial)

/-- the state made by `beltCTRStart` satisfies the invariant: sessions from Start -/
theorem chunk_indep_ctr_start (C : C01.Cipher) (hlen : ∀ k x, x.length = 16 → (C.enc k x).length = 16)
    (key iv : Bytes) (hiv : iv.length = 16) (s : List (Call EOp)) :
    dataOf (outs (ctrB C) (C01.ctrStart C key iv) s) = (C01.ctrStepE C (C01.ctrStart C key iv) (eData s)).2 ∧
    after (ctrB C) (C01.ctrStart C key iv) s = (C01.ctrStepE C (C01.ctrStart C key iv) (eData s)).1 :=
  chunk_indep_ctr_session C hlen (C01.ctrStart C key iv) (Nat.zero_le _) rfl (hlen _ _ hiv) s

/-- fragmented Start/StepE* = the high-level `beltCTR(dest, src, count, key, len, iv)` -/
theorem chunk_indep_ctr_crypt (C : C01.Cipher) (hlen : ∀ k x, x.length = 16 → (C.enc k x).length = 16)
    (key iv : Bytes) (hiv : iv.length = 16) (hk : C01.validKeyLen key.length = true) (cs : List Bytes) :
    C01.ctrCrypt C cs.flatten key iv =
      (.ok, some (dataOf (outs (ctrB C) (C01.ctrStart C key iv) (calls EOp.encr cs)))) := by
  have h := (chunk_indep_ctr C hlen (C01.ctrStart C key iv) (Nat.zero_le _) rfl (hlen _ _ hiv) cs).1
  simp only [C01.ctrCrypt, hk, Bool.not_true, Bool.false_eq_true, if_false, h]

/-- instance: the belt block cipher -/
theorem chunk_indep_ctr_belt (key iv : Bytes) (hiv : iv.length = 16) (hk : C01.validKeyLen key.length = true)
    (cs : List Bytes) :
    C01.ctrCrypt C01.beltCipher cs.flatten key iv =
      (.ok, some (dataOf (outs (ctrB C01.beltCipher) (C01.ctrStart C01.beltCipher key iv) (calls EOp.encr cs)))) :=
  chunk_indep_ctr_crypt C01.beltCipher C01.length_blockEncr key iv hiv hk cs

/-- non-vacuity: 40 octets cut 7 + 0 + 20 + 13 (the first fragment ends inside a gamma block, the third one
begins inside one, crosses a block boundary and ends inside the next), mixed StepE / StepD and a relocation;
the output differs from the input -/
example :
    let s : List (Call EOp) := [.op (.encr (toyData.take 7)), .op (.encr []), .reloc,
      .op (.decr ((toyData.drop 7).take 20)), .op (.encr (toyData.drop 27))]
    eData s = toyData ∧
    dataOf (outs (ctrB toy) (C01.ctrStart toy (C01.zeros 16) (C01.zeros 16)) s) =
      (C01.ctrStepE toy (C01.ctrStart toy (C01.zeros 16) (C01.zeros 16)) toyData).2 ∧
    (C01.ctrStepE toy (C01.ctrStart toy (C01.zeros 16) (C01.zeros 16)) toyData).2 ≠ toyData ∧
    (after (ctrB toy) (C01.ctrStart toy (C01.zeros 16) (C01.zeros 16)) s).reserved = 8 := by decide +kernel

example : C01.validKeyLen (C01.zeros 16).length = true ∧ (C01.zeros 16).length = 16 := by decide

/-! ### belt-CHE: the key stream -/

/-- CHUNK INDEPENDENCE of `beltCHEStepE` (the key-stream half of belt-CHE; `beltCHEStepD` is the same function):
from any state whose key-stream fields satisfy the invariant, every list of fragments gives the output of one call
on the concatenation and EXACTLY the same final state. -/
theorem chunk_indep_che_crypt (C : C01.Cipher) (hlen : ∀ k x, x.length = 16 → (C.enc k x).length = 16)
    (st : C01.CheSt) (hr : st.reserved ≤ 16) (hb : st.block1.length = 16) (hs : st.s.length = 16)
    (cs : List Bytes) :
    dataOf (outs (cheB C) st (calls AeadOp.encr cs)) = (C01.cheStepE C st cs.flatten).2 ∧
    after (cheB C) st (calls AeadOp.encr cs) = (C01.cheStepE C st cs.flatten).1 := by
  have h := aead_calls C (cheLaw C hlen) AeadOp.encr (Or.inl rfl) cs (cheV st) ⟨hs, hb, hr⟩
  rw [← outs_view _ _ cheV (che_view C), ← after_view _ _ cheV (che_view C), ← (cheV_stepE C st _).2] at h
  exact ⟨h.1, cheV_inj (h.2.trans (cheV_stepE C st _).1.symm)⟩

/-- from `beltCHEStart` -/
theorem chunk_indep_che_crypt_start (C : C01.Cipher) (hlen : ∀ k x, x.length = 16 → (C.enc k x).length = 16)
    (key iv : Bytes) (hiv : iv.length = 16) (cs : List Bytes) :
    dataOf (outs (cheB C) (C01.cheStart C key iv) (calls AeadOp.encr cs)) =
      (C01.cheStepE C (C01.cheStart C key iv) cs.flatten).2 ∧
    after (cheB C) (C01.cheStart C key iv) (calls AeadOp.encr cs) =
      (C01.cheStepE C (C01.cheStart C key iv) cs.flatten).1 :=
  chunk_indep_che_crypt C hlen (C01.cheStart C key iv) (Nat.zero_le _) rfl (hlen _ _ hiv) cs

/-- non-vacuity: 40 octets cut 7 + 0 + 20 + 13 -/
example :
    let cs : List Bytes := [toyData.take 7, [], (toyData.drop 7).take 20, toyData.drop 27]
    cs.flatten = toyData ∧
    dataOf (outs (cheB toy) (C01.cheStart toy (C01.zeros 16) (C01.zeros 16)) (calls AeadOp.encr cs)) =
      (C01.cheStepE toy (C01.cheStart toy (C01.zeros 16) (C01.zeros 16)) toyData).2 ∧
    (C01.cheStepE toy (C01.cheStart toy (C01.zeros 16) (C01.zeros 16)) toyData).2 ≠ toyData := by decide +kernel

/-! ### belt-DWP -/

/-- SIMULATION THEOREM of belt-DWP (chunk independence and get-then-continue in one statement).
For every session `s` of `beltDWPStepI / StepE / StepA / StepD / StepG / StepV` calls and relocations from
`beltDWPStart` that respects the order rule of belt.h (`Admissible`: no non-empty StepI fragment after a
non-empty StepA fragment — the ASSERT of StepI — and NOTHING else: no bound on any length, the 64-bit bit counters
wrap in the session exactly as in the one-call computation; everything else in any order and any fragmentation,
empty fragments included), the implementation returns call by call what the
specification machine `dwpSpecB` returns, whose state is only `(I, A, X)` = the open data, critical data and
encrypted data absorbed so far:
(i) every StepG returns `dwpTagOf I A` = the tag computed by ONE StepI call on `I` and ONE StepA call on `A`,
    every StepV the corresponding verdict, and neither changes `(I, A, X)`;
(ii) every StepE / StepD returns the slice `[|X|, |X| + |d|)` of ONE `beltCTRStepE` call on `X ++ d`. -/
theorem sim_dwp (C : C01.Cipher) (hlen : ∀ k x, x.length = 16 → (C.enc k x).length = 16) (key iv : Bytes)
    (hiv : iv.length = 16) (s : List (Call AeadOp)) (hadm : Admissible s) :
    outs (dwpB C) (C01.dwpStart C key iv) s = outs (dwpSpecB C key iv) ⟨[], [], []⟩ s := by
  rw [outs_view _ _ dwpV (dwp_view C), dwpSpecB_eq]
  exact aeadSim_start C (ctrLaw C hlen) _ _ (ctrInv_start C hlen key iv hiv) (pinv_dwpStart C key iv) rfl s hadm

/-- the session of the examples: open data 5 + 12 octets with a StepG in between (5 octets pending in the block),
data 7 + 0 + 20 octets encrypted and the cipher text authenticated in fragments 7 + 0 + 20, an empty StepI after
critical data, a failing StepV (block partially filled: 17 + 7 = 24 octets) followed by more data, a relocation,
a final StepG -/
example :
    let k := C01.zeros 16
    let iv := C01.zeros 16
    let ct := (C01.ctrStepE toy (C01.ctrStart toy k iv) (toyData.take 27)).2
    let s : List (Call AeadOp) := [.op (.ad (toyData.take 5)), .op .get, .op (.ad ((toyData.drop 5).take 12)),
      .op (.encr (toyData.take 7)), .op (.auth (ct.take 7)), .op (.verify (C01.zeros 8)), .op (.ad []), .reloc,
      .op (.encr []), .op (.auth []), .op (.encr ((toyData.take 27).drop 7)), .op (.auth (ct.drop 7)), .op .get]
    Admissible s ∧ adOf s = toyData.take 17 ∧ encOf s = toyData.take 27 ∧ authOf s = ct ∧
    outs (dwpB toy) (C01.dwpStart toy k iv) s = outs (dwpSpecB toy k iv) ⟨[], [], []⟩ s ∧
    (outs (dwpB toy) (C01.dwpStart toy k iv) s)[1]? = some (.data (dwpTagOf toy k iv (toyData.take 5) [])) ∧
    (outs (dwpB toy) (C01.dwpStart toy k iv) s)[5]? = some (.verdict false) ∧
    (outs (dwpB toy) (C01.dwpStart toy k iv) s)[12]? = some (.data (dwpTagOf toy k iv (toyData.take 17) ct)) ∧
    dwpTagOf toy k iv (toyData.take 5) [] ≠ dwpTagOf toy k iv (toyData.take 17) ct := by decide +kernel

/-- the order rule is not vacuous: a session that violates it; StepA fragments are never restricted -/
example : ¬ Admissible [.op (.auth [1]), .op (.ad [2])] := by decide
example (ds : List Bytes) : Admissible (calls AeadOp.auth ds) := by
  show admFrom _ _ = true
  generalize (⟨[], [], []⟩ : Absorbed) = a
  induction ds generalizing a with
  | nil => rfl
  | cons d ds ih => exact ih _

/-- ... and the order rule is needed: with a non-empty StepI fragment after a non-empty StepA fragment the
implementation (Release build: the ASSERT is compiled out) does NOT compute the tag of `(I, A)` -/
example :
    let s : List (Call AeadOp) := [.op (.auth [1]), .op (.ad [2]), .op .get]
    outs (dwpB toy) (C01.dwpStart toy (C01.zeros 16) (C01.zeros 16)) s ≠
      outs (dwpSpecB toy (C01.zeros 16) (C01.zeros 16)) ⟨[], [], []⟩ s := by decide +kernel

/-- instance: the belt block cipher -/
theorem sim_dwp_belt (key iv : Bytes) (hiv : iv.length = 16) (s : List (Call AeadOp)) (hadm : Admissible s) :
    outs (dwpB C01.beltCipher) (C01.dwpStart C01.beltCipher key iv) s =
      outs (dwpSpecB C01.beltCipher key iv) ⟨[], [], []⟩ s :=
  sim_dwp C01.beltCipher C01.length_blockEncr key iv hiv s hadm

/-- (i) spelled out: a StepG after ANY admissible session returns the one-call tag of the data absorbed so far -/
theorem get_spec_dwp (C : C01.Cipher) (hlen : ∀ k x, x.length = 16 → (C.enc k x).length = 16) (key iv : Bytes)
    (hiv : iv.length = 16) (pre : List (Call AeadOp)) (hadm : Admissible pre) :
    outs (dwpB C) (C01.dwpStart C key iv) (pre ++ [.op .get]) =
      outs (dwpB C) (C01.dwpStart C key iv) pre ++ [.data (dwpTagOf C key iv (adOf pre) (authOf pre))] := by
  rw [outs_snoc]
  exact congrArg (fun t => _ ++ [Out.data t]) (dwp_get_after C hlen key iv hiv pre hadm).1

/-- (i) for StepV: the verdict is `true` exactly for the one-call tag — successful or not, see `get_observational_dwp`
for what follows -/
theorem verify_spec_dwp (C : C01.Cipher) (hlen : ∀ k x, x.length = 16 → (C.enc k x).length = 16) (key iv : Bytes)
    (hiv : iv.length = 16) (pre : List (Call AeadOp)) (hadm : Admissible pre) (t : Bytes) :
    outs (dwpB C) (C01.dwpStart C key iv) (pre ++ [.op (.verify t)]) =
      outs (dwpB C) (C01.dwpStart C key iv) pre ++
        [.verdict (decide (t = dwpTagOf C key iv (adOf pre) (authOf pre)))] := by
  rw [outs_snoc]
  exact congrArg (fun x => _ ++ [Out.verdict (decide (t = x))]) (dwp_get_after C hlen key iv hiv pre hadm).1

/-- (ii) spelled out, for EVERY session (admissible or not): the StepE / StepD outputs, concatenated, are ONE
`beltCTRStepE` call on the concatenated data — whatever StepI / StepA / StepG / StepV calls are interleaved -/
theorem crypt_spec_dwp (C : C01.Cipher) (hlen : ∀ k x, x.length = 16 → (C.enc k x).length = 16) (key iv : Bytes)
    (hiv : iv.length = 16) (s : List (Call AeadOp)) :
    cryptData s (outs (dwpB C) (C01.dwpStart C key iv) s) =
      (C01.ctrStepE C (C01.ctrStart C key iv) (encOf s)).2 := by
  rw [outs_view _ _ dwpV (dwp_view C)]
  exact aead_crypt_run C (ctrLaw C hlen) s _ (ctrInv_start C hlen key iv hiv)

/-- CHUNK INDEPENDENCE of belt-DWP, protect direction.  Any admissible session that encrypts `src1 = encOf s`
(fragments of StepE) under open data `src2 = adOf s` (fragments of StepI) and authenticates the cipher text
(`authOf s` = the cipher text: fragments of StepA, cut anywhere, interleaved anyhow with the StepE calls), with
StepG / StepV / relocations anywhere, produces exactly the cipher text and — by a final StepG — the tag of the
high-level `beltDWPWrap(dest, mac, src1, count1, src2, count2, key, len, iv)`. -/
theorem chunk_indep_dwp (C : C01.Cipher) (hlen : ∀ k x, x.length = 16 → (C.enc k x).length = 16) (key iv : Bytes)
    (hiv : iv.length = 16) (hk : C01.validKeyLen key.length = true) (s : List (Call AeadOp)) (hadm : Admissible s)
    (hct : authOf s = (C01.ctrStepE C (C01.ctrStart C key iv) (encOf s)).2) :
    C01.dwpWrap C wBits (encOf s) (adOf s) key iv =
      (.ok, some (cryptData s (outs (dwpB C) (C01.dwpStart C key iv) s),
        (C01.dwpStepG C (after (dwpB C) (C01.dwpStart C key iv) s)).2)) := by
  rw [C01.Aead.dwpWrap_eq, crypt_spec_dwp C hlen key iv hiv s, (dwp_get_after C hlen key iv hiv s hadm).1, hct]
  simp only [hk, Bool.not_true, Bool.false_eq_true, if_false]
  rfl

example :
    let k := C01.zeros 16
    let iv := C01.zeros 16
    let ct := (C01.ctrStepE toy (C01.ctrStart toy k iv) (toyData.take 27)).2
    let s : List (Call AeadOp) := [.op (.ad (toyData.take 5)), .op .get, .op (.ad ((toyData.drop 5).take 12)),
      .op (.encr (toyData.take 7)), .op (.auth (ct.take 7)), .op (.verify (C01.zeros 8)), .op (.ad []), .reloc,
      .op (.encr []), .op (.auth []), .op (.encr ((toyData.take 27).drop 7)), .op (.auth (ct.drop 7)), .op .get]
    C01.validKeyLen k.length = true ∧ Admissible s ∧
    authOf s = (C01.ctrStepE toy (C01.ctrStart toy k iv) (encOf s)).2 ∧
    C01.dwpWrap toy wBits (toyData.take 27) (toyData.take 17) k iv =
      (.ok, some (cryptData s (outs (dwpB toy) (C01.dwpStart toy k iv) s),
        (C01.dwpStepG toy (after (dwpB toy) (C01.dwpStart toy k iv) s)).2)) ∧
    cryptData s (outs (dwpB toy) (C01.dwpStart toy k iv) s) ≠ toyData.take 27 := by decide +kernel

/-- CHUNK INDEPENDENCE of belt-DWP, unprotect direction.  After any admissible session `s` of StepI / StepA
fragments (StepG / StepV / relocations anywhere, no StepE / StepD yet), `StepV(mac)` followed by StepD on ANY
fragmentation `ds` of the critical data is `beltDWPUnwrap`: the same verdict, and for a good tag the same plain
text. -/
theorem chunk_indep_dwp_unwrap (C : C01.Cipher) (hlen : ∀ k x, x.length = 16 → (C.enc k x).length = 16)
    (key iv : Bytes) (hiv : iv.length = 16) (hk : C01.validKeyLen key.length = true) (s : List (Call AeadOp))
    (hadm : Admissible s) (hx : encOf s = []) (mac : Bytes) (ds : List Bytes) (hds : ds.flatten = authOf s) :
    C01.dwpUnwrap C wBits (authOf s) (adOf s) mac key iv =
      if (C01.dwpStepV C (after (dwpB C) (C01.dwpStart C key iv) s) mac).2 then
        (.ok, some (dataOf (outs (dwpB C) (C01.dwpStepV C (after (dwpB C) (C01.dwpStart C key iv) s) mac).1
          (calls AeadOp.decr ds))))
      else (.badMac, none) := by
  have hg := dwp_get_after C hlen key iv hiv s hadm
  have hv : (C01.dwpStepV C (after (dwpB C) (C01.dwpStart C key iv) s) mac).2 =
      decide (mac = dwpTagOf C key iv (adOf s) (authOf s)) := by
    rw [← hg.1]; rfl
  have hc : (dwpV (C01.dwpStepV C (after (dwpB C) (C01.dwpStart C key iv) s) mac).1).1 = C01.ctrStart C key iv := by
    show (after (dwpB C) (C01.dwpStart C key iv) s).ctr = _
    rw [hg.2, hx, ctrStepE_nil]
  have hd := (aead_calls C (ctrLaw C hlen) AeadOp.decr (Or.inr rfl) ds
    (dwpV (C01.dwpStepV C (after (dwpB C) (C01.dwpStart C key iv) s) mac).1)
    (by rw [hc]; exact ctrInv_start C hlen key iv hiv)).1
  rw [← outs_view _ _ dwpV (dwp_view C), hc] at hd
  rw [C01.Aead.dwpUnwrap_eq, hv, hd, hds]
  simp only [hk, Bool.not_true, Bool.false_eq_true, if_false, decide_eq_true_eq]
  rfl

example :
    let k := C01.zeros 16
    let iv := C01.zeros 16
    let ct := toyData.drop 13
    let s : List (Call AeadOp) := [.op (.ad (toyData.take 5)), .op .get, .op (.ad ((toyData.drop 5).take 12)),
      .op (.auth (ct.take 7)), .op (.verify (C01.zeros 8)), .op (.ad []), .reloc, .op (.auth (ct.drop 7))]
    let ds : List Bytes := [ct.take 3, [], ct.drop 3]
    let mac := dwpTagOf toy k iv (toyData.take 17) ct
    Admissible s ∧ encOf s = [] ∧ ds.flatten = authOf s ∧
    (C01.dwpStepV toy (after (dwpB toy) (C01.dwpStart toy k iv) s) mac).2 = true ∧
    (C01.dwpStepV toy (after (dwpB toy) (C01.dwpStart toy k iv) s) (C01.zeros 8)).2 = false ∧
    C01.dwpUnwrap toy wBits ct (toyData.take 17) mac k iv =
      (.ok, some (dataOf (outs (dwpB toy) (C01.dwpStepV toy (after (dwpB toy) (C01.dwpStart toy k iv) s) mac).1
        (calls AeadOp.decr ds)))) := by decide +kernel

/-- GET-THEN-CONTINUE of belt-DWP, for ALL sessions (no admissibility needed, no hypothesis on the cipher): after
any session `pre` from `beltDWPStart`, a StepG or StepV call — successful or not — followed by any session `post`
yields the outputs of `post` without that call.  (StepG_internal writes `t1` and the zero padding
`block[filled .. 16)` only; StepI / StepA overwrite these octets before reading them — also when the order rule
is violated.) -/
theorem get_observational_dwp (C : C01.Cipher) (key iv : Bytes) :
    GetObservational (dwpB C) (C01.dwpStart C key iv) :=
  getObservational_view _ _ dwpV (dwp_view C) rfl _ (aead_getObservational C _ _ _ (pinv_dwpStart C key iv))

/-- ... and from every state whose block buffer is well-formed -/
theorem get_observational_dwp_inv (C : C01.Cipher) (st : C01.DwpSt) (hb : st.p.block.length = 16)
    (hf : st.p.filled < 16) (hl : st.p.len.length = 16) : GetObservational (dwpB C) st :=
  getObservational_view _ _ dwpV (dwp_view C) rfl st (aead_getObservational C _ _ _ ⟨hb, hf, hl⟩)

/-- non-vacuity: a failing StepV with 5 octets pending, then more open data, data and a StepG — with and without
the StepV; the state itself differs (scratch octets), the outputs do not -/
example :
    let k := C01.zeros 16
    let iv := C01.zeros 16
    let pre : List (Call AeadOp) := [.op (.ad (toyData.take 5))]
    let post : List (Call AeadOp) := [.op (.ad ((toyData.drop 5).take 12)), .op (.encr (toyData.take 7)),
      .op (.auth (toyData.take 20)), .op .get]
    let g : AeadOp := .verify (C01.zeros 8)
    (dwpB toy).isGet g = true ∧
    outs (dwpB toy) (after (dwpB toy) (C01.dwpStart toy k iv) (pre ++ [.op g])) post =
      outs (dwpB toy) (after (dwpB toy) (C01.dwpStart toy k iv) pre) post ∧
    (after (dwpB toy) (C01.dwpStart toy k iv) (pre ++ [.op g])).p.t1 ≠
      (after (dwpB toy) (C01.dwpStart toy k iv) pre).p.t1 ∧
    outs (dwpB toy) (C01.dwpStart toy k iv) (pre ++ [.op g]) = [.none, .verdict false] := by decide +kernel

/-! ### belt-CHE -/

/-- SIMULATION THEOREM of belt-CHE: as `sim_dwp`, with the specification machine `cheSpecB` (tag = `cheTagOf I A`
= ONE StepI call on `I` and ONE StepA call on `A`; StepE / StepD = slices of ONE `beltCHEStepE` call). -/
theorem sim_che (C : C01.Cipher) (hlen : ∀ k x, x.length = 16 → (C.enc k x).length = 16) (key iv : Bytes)
    (hiv : iv.length = 16) (s : List (Call AeadOp)) (hadm : Admissible s) :
    outs (cheB C) (C01.cheStart C key iv) s = outs (cheSpecB C key iv) ⟨[], [], []⟩ s := by
  rw [outs_view _ _ cheV (che_view C), cheSpecB_eq]
  exact aeadSim_start C (cheLaw C hlen) _ _ (cheKInv_start C hlen key iv hiv) (pinv_cheStart C key iv) rfl s hadm

example :
    let k := C01.zeros 16
    let iv := C01.zeros 16
    let ct := (C01.cheStepE toy (C01.cheStart toy k iv) (toyData.take 27)).2
    let s : List (Call AeadOp) := [.op (.ad (toyData.take 5)), .op .get, .op (.ad ((toyData.drop 5).take 12)),
      .op (.encr (toyData.take 7)), .op (.auth (ct.take 7)), .op (.verify (C01.zeros 8)), .op (.ad []), .reloc,
      .op (.encr []), .op (.auth []), .op (.encr ((toyData.take 27).drop 7)), .op (.auth (ct.drop 7)), .op .get]
    Admissible s ∧ adOf s = toyData.take 17 ∧ encOf s = toyData.take 27 ∧ authOf s = ct ∧
    outs (cheB toy) (C01.cheStart toy k iv) s = outs (cheSpecB toy k iv) ⟨[], [], []⟩ s ∧
    (outs (cheB toy) (C01.cheStart toy k iv) s)[1]? = some (.data (cheTagOf toy k iv (toyData.take 5) [])) ∧
    (outs (cheB toy) (C01.cheStart toy k iv) s)[5]? = some (.verdict false) ∧
    (outs (cheB toy) (C01.cheStart toy k iv) s)[12]? = some (.data (cheTagOf toy k iv (toyData.take 17) ct)) ∧
    cheTagOf toy k iv (toyData.take 5) [] ≠ cheTagOf toy k iv (toyData.take 17) ct := by decide +kernel

/-- instance: the belt block cipher -/
theorem sim_che_belt (key iv : Bytes) (hiv : iv.length = 16) (s : List (Call AeadOp)) (hadm : Admissible s) :
    outs (cheB C01.beltCipher) (C01.cheStart C01.beltCipher key iv) s =
      outs (cheSpecB C01.beltCipher key iv) ⟨[], [], []⟩ s :=
  sim_che C01.beltCipher C01.length_blockEncr key iv hiv s hadm

/-- a StepG after ANY admissible session returns the one-call tag of the data absorbed so far -/
theorem get_spec_che (C : C01.Cipher) (hlen : ∀ k x, x.length = 16 → (C.enc k x).length = 16) (key iv : Bytes)
    (hiv : iv.length = 16) (pre : List (Call AeadOp)) (hadm : Admissible pre) :
    outs (cheB C) (C01.cheStart C key iv) (pre ++ [.op .get]) =
      outs (cheB C) (C01.cheStart C key iv) pre ++ [.data (cheTagOf C key iv (adOf pre) (authOf pre))] := by
  rw [outs_snoc]
  exact congrArg (fun t => _ ++ [Out.data t]) (che_get_after C hlen key iv hiv pre hadm).1

theorem verify_spec_che (C : C01.Cipher) (hlen : ∀ k x, x.length = 16 → (C.enc k x).length = 16) (key iv : Bytes)
    (hiv : iv.length = 16) (pre : List (Call AeadOp)) (hadm : Admissible pre) (t : Bytes) :
    outs (cheB C) (C01.cheStart C key iv) (pre ++ [.op (.verify t)]) =
      outs (cheB C) (C01.cheStart C key iv) pre ++
        [.verdict (decide (t = cheTagOf C key iv (adOf pre) (authOf pre)))] := by
  rw [outs_snoc]
  exact congrArg (fun x => _ ++ [Out.verdict (decide (t = x))]) (che_get_after C hlen key iv hiv pre hadm).1

/-- for EVERY session (admissible or not): the StepE / StepD outputs, concatenated, are ONE `beltCHEStepE` call on
the concatenated data -/
theorem crypt_spec_che (C : C01.Cipher) (hlen : ∀ k x, x.length = 16 → (C.enc k x).length = 16) (key iv : Bytes)
    (hiv : iv.length = 16) (s : List (Call AeadOp)) :
    cryptData s (outs (cheB C) (C01.cheStart C key iv) s) =
      (C01.cheStepE C (C01.cheStart C key iv) (encOf s)).2 := by
  rw [outs_view _ _ cheV (che_view C), (cheV_stepE C _ _).2]
  exact aead_crypt_run C (cheLaw C hlen) s _ (cheKInv_start C hlen key iv hiv)

/-- CHUNK INDEPENDENCE of belt-CHE, protect direction: any admissible fragmentation / interleaving of
StepI (`src2`), StepE (`src1`), StepA (the cipher text) with a final StepG = `beltCHEWrap` -/
theorem chunk_indep_che (C : C01.Cipher) (hlen : ∀ k x, x.length = 16 → (C.enc k x).length = 16) (key iv : Bytes)
    (hiv : iv.length = 16) (hk : C01.validKeyLen key.length = true) (s : List (Call AeadOp)) (hadm : Admissible s)
    (hct : authOf s = (C01.cheStepE C (C01.cheStart C key iv) (encOf s)).2) :
    C01.cheWrap C wBits (encOf s) (adOf s) key iv =
      (.ok, some (cryptData s (outs (cheB C) (C01.cheStart C key iv) s),
        (C01.cheStepG C (after (cheB C) (C01.cheStart C key iv) s)).2)) := by
  rw [C01.Aead.cheWrap_eq, crypt_spec_che C hlen key iv hiv s, (che_get_after C hlen key iv hiv s hadm).1, hct]
  simp only [hk, Bool.not_true, Bool.false_eq_true, if_false]
  rfl

example :
    let k := C01.zeros 16
    let iv := C01.zeros 16
    let ct := (C01.cheStepE toy (C01.cheStart toy k iv) (toyData.take 27)).2
    let s : List (Call AeadOp) := [.op (.ad (toyData.take 5)), .op .get, .op (.ad ((toyData.drop 5).take 12)),
      .op (.encr (toyData.take 7)), .op (.auth (ct.take 7)), .op (.verify (C01.zeros 8)), .op (.ad []), .reloc,
      .op (.encr []), .op (.auth []), .op (.encr ((toyData.take 27).drop 7)), .op (.auth (ct.drop 7)), .op .get]
    C01.validKeyLen k.length = true ∧ Admissible s ∧
    authOf s = (C01.cheStepE toy (C01.cheStart toy k iv) (encOf s)).2 ∧
    C01.cheWrap toy wBits (toyData.take 27) (toyData.take 17) k iv =
      (.ok, some (cryptData s (outs (cheB toy) (C01.cheStart toy k iv) s),
        (C01.cheStepG toy (after (cheB toy) (C01.cheStart toy k iv) s)).2)) ∧
    cryptData s (outs (cheB toy) (C01.cheStart toy k iv) s) ≠ toyData.take 27 := by decide +kernel

/-- CHUNK INDEPENDENCE of belt-CHE, unprotect direction (as `chunk_indep_dwp_unwrap`) -/
theorem chunk_indep_che_unwrap (C : C01.Cipher) (hlen : ∀ k x, x.length = 16 → (C.enc k x).length = 16)
    (key iv : Bytes) (hiv : iv.length = 16) (hk : C01.validKeyLen key.length = true) (s : List (Call AeadOp))
    (hadm : Admissible s) (hx : encOf s = []) (mac : Bytes) (ds : List Bytes) (hds : ds.flatten = authOf s) :
    C01.cheUnwrap C wBits (authOf s) (adOf s) mac key iv =
      if (C01.cheStepV C (after (cheB C) (C01.cheStart C key iv) s) mac).2 then
        (.ok, some (dataOf (outs (cheB C) (C01.cheStepV C (after (cheB C) (C01.cheStart C key iv) s) mac).1
          (calls AeadOp.decr ds))))
      else (.badMac, none) := by
  have hg := che_get_after C hlen key iv hiv s hadm
  have hv : (C01.cheStepV C (after (cheB C) (C01.cheStart C key iv) s) mac).2 =
      decide (mac = cheTagOf C key iv (adOf s) (authOf s)) := by
    rw [← hg.1]; rfl
  have hc : (cheV (C01.cheStepV C (after (cheB C) (C01.cheStart C key iv) s) mac).1).1 =
      (cheV (C01.cheStart C key iv)).1 := by
    show (cheV (after (cheB C) (C01.cheStart C key iv) s)).1 = _
    rw [hg.2, hx, (cheLaw C hlen).nil]
  have hd := (aead_calls C (cheLaw C hlen) AeadOp.decr (Or.inr rfl) ds
    (cheV (C01.cheStepV C (after (cheB C) (C01.cheStart C key iv) s) mac).1)
    (by rw [hc]; exact cheKInv_start C hlen key iv hiv)).1
  rw [← outs_view _ _ cheV (che_view C), hc, ← (cheV_stepE C _ _).2] at hd
  rw [C01.Aead.cheUnwrap_eq, hv, hd, hds]
  simp only [hk, Bool.not_true, Bool.false_eq_true, if_false, decide_eq_true_eq]
  rfl

example :
    let k := C01.zeros 16
    let iv := C01.zeros 16
    let ct := toyData.drop 13
    let s : List (Call AeadOp) := [.op (.ad (toyData.take 5)), .op .get, .op (.ad ((toyData.drop 5).take 12)),
      .op (.auth (ct.take 7)), .op (.verify (C01.zeros 8)), .op (.ad []), .reloc, .op (.auth (ct.drop 7))]
    let ds : List Bytes := [ct.take 3, [], ct.drop 3]
    let mac := cheTagOf toy k iv (toyData.take 17) ct
    Admissible s ∧ encOf s = [] ∧ ds.flatten = authOf s ∧
    (C01.cheStepV toy (after (cheB toy) (C01.cheStart toy k iv) s) mac).2 = true ∧
    (C01.cheStepV toy (after (cheB toy) (C01.cheStart toy k iv) s) (C01.zeros 8)).2 = false ∧
    C01.cheUnwrap toy wBits ct (toyData.take 17) mac k iv =
      (.ok, some (dataOf (outs (cheB toy) (C01.cheStepV toy (after (cheB toy) (C01.cheStart toy k iv) s) mac).1
        (calls AeadOp.decr ds)))) := by decide +kernel

/-- GET-THEN-CONTINUE of belt-CHE, for ALL sessions, no hypothesis on the cipher -/
theorem get_observational_che (C : C01.Cipher) (key iv : Bytes) :
    GetObservational (cheB C) (C01.cheStart C key iv) :=
  getObservational_view _ _ cheV (che_view C) rfl _ (aead_getObservational C _ _ _ (pinv_cheStart C key iv))

/-- ... and from every state whose block buffer is well-formed -/
theorem get_observational_che_inv (C : C01.Cipher) (st : C01.CheSt) (hb : st.p.block.length = 16)
    (hf : st.p.filled < 16) (hl : st.p.len.length = 16) : GetObservational (cheB C) st :=
  getObservational_view _ _ cheV (che_view C) rfl st (aead_getObservational C _ _ _ ⟨hb, hf, hl⟩)

example :
    let k := C01.zeros 16
    let iv := C01.zeros 16
    let pre : List (Call AeadOp) := [.op (.ad (toyData.take 5))]
    let post : List (Call AeadOp) := [.op (.ad ((toyData.drop 5).take 12)), .op (.encr (toyData.take 7)),
      .op (.auth (toyData.take 20)), .op .get]
    let g : AeadOp := .verify (C01.zeros 8)
    (cheB toy).isGet g = true ∧
    outs (cheB toy) (after (cheB toy) (C01.cheStart toy k iv) (pre ++ [.op g])) post =
      outs (cheB toy) (after (cheB toy) (C01.cheStart toy k iv) pre) post ∧
    (after (cheB toy) (C01.cheStart toy k iv) (pre ++ [.op g])).p.t1 ≠
      (after (cheB toy) (C01.cheStart toy k iv) pre).p.t1 ∧
    outs (cheB toy) (C01.cheStart toy k iv) (pre ++ [.op g]) = [.none, .verdict false] := by decide +kernel

end Bee2V.C10
