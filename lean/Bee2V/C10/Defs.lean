/-
C10 — incremental APIs.  Generic vocabulary: a *bundle* is a Start/Step/Get family of functions over one
state; a *session* is a list of calls on that state, possibly interleaved with relocations of the state.
No Mathlib (the driver imports this file).

The model state has no addresses, so `Call.reloc` is the identity here; that this is faithful for the C structs
is the content of `Bee2V.Gen.C10Structs` (no pointer members) and of the correspondence run, whose harness
really moves the state (`memcpy` to a fresh exact-size allocation, old copy overwritten with 0xA5 and freed).
-/
namespace Bee2V.C10

abbrev Bytes := List UInt8

/-- what one call returns to the caller -/
inductive Out
  | none                       -- nothing (absorbing step)
  | data (b : Bytes)           -- processed buffer / tag / hash / password / counter
  | verdict (ok : Bool)        -- StepV
  deriving DecidableEq, Repr

/-- a bundle over state `σ` with calls `ι`: `isGet` marks the Get/Verify-type calls, i.e. those that the
documentation allows to be followed by further processing without influence on it -/
structure Bundle (σ ι : Type) where
  step : σ → ι → σ × Out
  isGet : ι → Bool

/-- a call of the bundle, or a relocation of the state in memory -/
inductive Call (ι : Type)
  | op (i : ι)
  | reloc
  deriving Repr

/-- execute a session; returns the final state and the outputs of the calls (relocation returns `Out.none`) -/
def run {σ ι : Type} (B : Bundle σ ι) : σ → List (Call ι) → σ × List Out
  | s, [] => (s, [])
  | s, .reloc :: cs => let r := run B s cs; (r.1, Out.none :: r.2)
  | s, .op i :: cs =>
    let q := B.step s i
    let r := run B q.1 cs
    (r.1, q.2 :: r.2)

/-- outputs only -/
def outs {σ ι : Type} (B : Bundle σ ι) (s : σ) (cs : List (Call ι)) : List Out := (run B s cs).2
/-- final state only -/
def after {σ ι : Type} (B : Bundle σ ι) (s : σ) (cs : List (Call ι)) : σ := (run B s cs).1

/-- GET-THEN-CONTINUE, observational form: from the state reached by ANY session `pre` from `s0` (it may itself
contain Get/Verify calls and relocations), making one more Get/Verify-type call `g` — successful or not — and
then continuing with ANY session `post` yields the same outputs as continuing without having made that call. -/
def GetObservational {σ ι : Type} (B : Bundle σ ι) (s0 : σ) : Prop :=
  ∀ (pre post : List (Call ι)) (g : ι), B.isGet g = true →
    outs B (after B s0 (pre ++ [.op g])) post = outs B (after B s0 pre) post

/-- RELOCATION, model side: a relocation anywhere in a session changes neither the later outputs nor the state. -/
def RelocInvisible {σ ι : Type} (B : Bundle σ ι) : Prop :=
  ∀ (s : σ) (pre post : List (Call ι)),
    run B s (pre ++ .reloc :: post) =
      ((run B s (pre ++ post)).1, (run B s pre).2 ++ Out.none :: (run B (run B s pre).1 post).2)

theorem run_append {σ ι : Type} (B : Bundle σ ι) (s : σ) (a b : List (Call ι)) :
    run B s (a ++ b) = ((run B (run B s a).1 b).1, (run B s a).2 ++ (run B (run B s a).1 b).2) := by
  induction a generalizing s with
  | nil => rfl
  | cons c a ih =>
    cases c with
    | reloc => simp only [List.cons_append, run, ih, List.cons_append]
    | op i => simp only [List.cons_append, run, ih, List.cons_append]

theorem after_append {σ ι : Type} (B : Bundle σ ι) (s : σ) (a b : List (Call ι)) :
    after B s (a ++ b) = after B (after B s a) b := by
  simp only [after, run_append]

/-- relocation is invisible in every model bundle (the model has no addresses) -/
theorem relocInvisible {σ ι : Type} (B : Bundle σ ι) : RelocInvisible B := by
  intro s pre post
  rw [run_append, run_append]
  simp only [run]

/-- all calls of a session satisfy the documented preconditions `P` of the bundle -/
def SessionOk {ι : Type} (P : ι → Prop) (cs : List (Call ι)) : Prop :=
  ∀ c ∈ cs, match c with | .op i => P i | .reloc => True

theorem sessionOk_true {ι : Type} (cs : List (Call ι)) : SessionOk (fun _ => True) cs :=
  fun c _ => by cases c <;> trivial

/-- `GetObservational` restricted to sessions whose calls satisfy the documented preconditions `P`
(e.g. `header` has 16 octets, `key_len ∈ {16, 24, 32}`): outside them the C functions are not defined. -/
def GetObservationalOn {σ ι : Type} (P : ι → Prop) (B : Bundle σ ι) (s0 : σ) : Prop :=
  ∀ (pre post : List (Call ι)) (g : ι), B.isGet g = true → SessionOk P pre → P g → SessionOk P post →
    outs B (after B s0 (pre ++ [.op g])) post = outs B (after B s0 pre) post

/-- REFINEMENT of sessions: if a refined machine (state with the scratch fields of the C struct) and an abstract
one are related by `R`, and every call satisfying `P` preserves `R` and returns the same output, then whole
sessions return the same outputs. -/
theorem outs_refine {σ τ ι : Type} (P : ι → Prop) (B : Bundle σ ι) (A : Bundle τ ι) (R : σ → τ → Prop)
    (hstep : ∀ s a i, P i → R s a → R (B.step s i).1 (A.step a i).1 ∧ (B.step s i).2 = (A.step a i).2)
    (cs : List (Call ι)) : SessionOk P cs → ∀ (s : σ) (a : τ), R s a →
      outs B s cs = outs A a cs ∧ R (after B s cs) (after A a cs) := by
  induction cs with
  | nil => intro _ s a h; exact ⟨rfl, h⟩
  | cons c cs ih =>
    intro hok s a h
    have hok' : SessionOk P cs := fun x hx => hok x (List.mem_cons_of_mem _ hx)
    cases c with
    | reloc =>
      have := ih hok' s a h
      exact ⟨congrArg (Out.none :: ·) this.1, this.2⟩
    | op i =>
      have e := hstep s a i (hok (.op i) List.mem_cons_self) h
      have := ih hok' _ _ e.1
      refine ⟨?_, this.2⟩
      show (B.step s i).2 :: outs B (B.step s i).1 cs = (A.step a i).2 :: outs A (A.step a i).1 cs
      rw [this.1, e.2]

/-- Simulation principle used for all get-then-continue theorems.  `R s a` relates a concrete state to an
abstract one (typically: the data absorbed so far); every call satisfying `P` preserves `R` and returns what the
abstract call returns; abstract Get/Verify calls do not change the abstract state.  Then Get/Verify calls are
unobservable: with and without the call the state is related to the same abstract state. -/
theorem getObservationalOn_of_sim {σ ι α : Type} (P : ι → Prop) (B : Bundle σ ι) (R : σ → α → Prop)
    (astep : α → ι → α × Out)
    (hstep : ∀ s a i, P i → R s a → R (B.step s i).1 (astep a i).1 ∧ (B.step s i).2 = (astep a i).2)
    (hget : ∀ a g, B.isGet g = true → (astep a g).1 = a)
    (s0 : σ) (a0 : α) (h0 : R s0 a0) : GetObservationalOn P B s0 := by
  intro pre post g hg hpre hPg hpost
  have ha := (outs_refine P B ⟨astep, B.isGet⟩ R hstep pre hpre s0 a0 h0).2
  have e := (hstep _ _ g hPg ha).1
  rw [hget _ g hg] at e
  rw [after_append, (outs_refine P B ⟨astep, B.isGet⟩ R hstep post hpost _ _ ha).1]
  exact (outs_refine P B ⟨astep, B.isGet⟩ R hstep post hpost _ _ e).1

/-- the same without preconditions -/
theorem getObservational_of_sim {σ ι α : Type} (B : Bundle σ ι) (R : σ → α → Prop) (astep : α → ι → α × Out)
    (hstep : ∀ s a i, R s a → R (B.step s i).1 (astep a i).1 ∧ (B.step s i).2 = (astep a i).2)
    (hget : ∀ a g, B.isGet g = true → (astep a g).1 = a)
    (s0 : σ) (a0 : α) (h0 : R s0 a0) : GetObservational B s0 :=
  fun pre post g hg =>
    getObservationalOn_of_sim (fun _ => True) B R astep (fun s a i _ => hstep s a i) hget s0 a0 h0 pre post g hg
      (sessionOk_true pre) trivial (sessionOk_true post)

end Bee2V.C10
