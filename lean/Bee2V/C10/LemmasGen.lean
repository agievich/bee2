/-
C10 helper lemmas for the bash (hash, programmable automaton) and botp (HOTP, TOTP, OCRA) bundles.
The chunk-independence facts of the sponge skeleton are LIFTED from C03 (`stepGen_eq_fold`, `stepGen_pos_lt`,
`stepGen_append`), not re-proved: they say that the Step functions are `Chunked`.
-/
import Bee2V.C10.LemmasSession
import Bee2V.C03.Props
namespace Bee2V.C10.Gen
open Bee2V

/-! ### Get/Verify-type calls that leave the model state alone -/

/-- if every Get-type call returns the state unchanged, get-then-continue holds from every state -/
theorem getObservational_of_getId {σ ι : Type} (B : Bundle σ ι)
    (h : ∀ s g, B.isGet g = true → (B.step s g).1 = s) (s0 : σ) : GetObservational B s0 :=
  getObservational_of_sim B (fun s a => s = a) B.step
    (fun s a i e => by subst e; exact ⟨rfl, rfl⟩) h s0 s0 rfl

/-- a call that returns the state unchanged can be dropped from a session -/
theorem outs_skip {σ ι : Type} (B : Bundle σ ι) (s0 : σ) (pre post : List (Call ι)) (i : ι)
    (h : (B.step (after B s0 pre) i).1 = after B s0 pre) :
    outs B (after B s0 (pre ++ [.op i])) post = outs B (after B s0 pre) post := by
  rw [after_append]
  show outs B (B.step (after B s0 pre) i).1 post = _
  rw [h]

/-! ### bash hash -/

theorem stepGen_chunked (F : Bytes → Bytes) (op : C03.OpB) :
    Chunked (fun st : C03.Sp => st.pos < st.bufLen) (fun _ => True) (fun st b => C03.stepGen F op b st) :=
  ⟨fun st h => by rw [C03.stepGen_eq_fold F op [] st h]; rfl, fun st a h _ => C03.stepGen_pos_lt F op a st h,
    fun st a b h _ => C03.stepGen_append F op a b st h⟩

theorem bashHash_getId (F : Bytes → Bytes) (s : C03.Sp) (g : AOp) (hg : (bashHashB F).isGet g = true) :
    ((bashHashB F).step s g).1 = s := by
  cases g with
  | absorb d => exact absurd hg (Bool.false_ne_true)
  | get n => rfl
  | verify t => rfl

/-! ### the programmable automaton -/

/-- the shape shared by `bashPrgAbsorbStep` / `SqueezeStep` / `EncrStep` / `DecrStep` -/
def prgStep (F : Bytes → Bytes) (op : C03.OpB) (buf : Bytes) (st : C03.PrgSt) : C03.PrgSt × Bytes :=
  ({ st with sp := (C03.stepGen F op buf st.sp).1 }, (C03.stepGen F op buf st.sp).2)

theorem prgStep_nil (F : Bytes → Bytes) (op : C03.OpB) (st : C03.PrgSt) (h : st.sp.pos < st.sp.bufLen) :
    prgStep F op [] st = (st, []) := by
  unfold prgStep
  rw [C03.stepGen_eq_fold F op [] st.sp h]
  rfl

theorem prgStep_append (F : Bytes → Bytes) (op : C03.OpB) (a b : Bytes) (st : C03.PrgSt)
    (h : st.sp.pos < st.sp.bufLen) :
    prgStep F op (a ++ b) st =
      ((prgStep F op b (prgStep F op a st).1).1, (prgStep F op a st).2 ++ (prgStep F op b (prgStep F op a st).1).2) := by
  unfold prgStep
  rw [C03.stepGen_append F op a b st.sp h]

theorem prgStep_inv (F : Bytes → Bytes) (op : C03.OpB) (a : Bytes) (st : C03.PrgSt)
    (h : st.sp.pos < st.sp.bufLen) : (prgStep F op a st).1.sp.pos < (prgStep F op a st).1.sp.bufLen :=
  C03.stepGen_pos_lt F op a st.sp h

theorem prg_chunked (F : Bytes → Bytes) (op : C03.OpB) :
    Chunked (fun st : C03.PrgSt => st.sp.pos < st.sp.bufLen) (fun _ => True) (fun st b => prgStep F op b st) :=
  ⟨fun s h => prgStep_nil F op s h, fun s a h _ => prgStep_inv F op a s h, fun s a b h _ => prgStep_append F op a b s h⟩

theorem zeros_flatten (ns : List Nat) : (ns.map C03.zeros).flatten = C03.zeros ns.sum := by
  induction ns with
  | nil => rfl
  | cons n ns ih =>
    rw [List.map_cons, List.flatten_cons, ih, List.sum_cons]
    simp only [C03.zeros, List.replicate_append_replicate]

/-! ### TOTP -/

theorem totp_after (s : List (Call TotpOp)) : ∀ st : TotpSt, after totpB st s = st := by
  induction s with
  | nil => intro st; rfl
  | cons c s ih =>
    intro st
    cases c with
    | reloc => exact ih st
    | op o => cases o <;> exact ih st

/-- what a TOTP session returns, call by call: a function of the start state and the call alone -/
def totpSpecOut (st : TotpSt) : Call TotpOp → Out
  | .reloc => .none
  | .op (.next t) => .data (C03.totpStepR st.digit st.keySt t)
  | .op (.verify t o) => .verdict (C03.totpStepV o st.digit st.keySt t)

theorem totp_outs (s : List (Call TotpOp)) : ∀ st : TotpSt, outs totpB st s = s.map (totpSpecOut st) := by
  induction s with
  | nil => intro st; rfl
  | cons c s ih =>
    intro st
    cases c with
    | reloc => show Out.none :: outs totpB st s = _; rw [ih]; rfl
    | op o =>
      cases o with
      | next t => show Out.data _ :: outs totpB st s = _; rw [ih]; rfl
      | verify t o => show Out.verdict _ :: outs totpB st s = _; rw [ih]; rfl

/-! ### HOTP -/

theorem hotp_getId (s : C03.HotpSt) (g : HotpOp) (hg : hotpB.isGet g = true) : (hotpB.step s g).1 = s := by
  cases g with
  | get => rfl
  | set c => exact absurd hg Bool.false_ne_true
  | next => exact absurd hg Bool.false_ne_true
  | verify o => exact absurd hg Bool.false_ne_true

theorem repeat_succ' {α : Type} (f : α → α) (n : Nat) : ∀ a : α, Nat.repeat f (n + 1) a = Nat.repeat f n (f a) := by
  induction n with
  | zero => intro a; rfl
  | succ n ih => intro a; show f (Nat.repeat f (n + 1) a) = f (Nat.repeat f n (f a)); rw [ih]

theorem hotpStepR_fst (st : C03.HotpSt) : (C03.hotpStepR st).1 = { st with ctr := C03.botpCtrNext st.ctr } := rfl

theorem hotp_next_outs (n : Nat) : ∀ st : C03.HotpSt,
    outs hotpB st (List.replicate n (.op .next)) =
      (List.range n).map (fun k => Out.data (C03.hotpStepR { st with ctr := Nat.repeat C03.botpCtrNext k st.ctr }).2) := by
  induction n with
  | zero => intro st; rfl
  | succ n ih =>
    intro st
    rw [List.replicate_succ, List.range_succ_eq_map, List.map_cons, List.map_map]
    show Out.data (C03.hotpStepR st).2 :: outs hotpB (C03.hotpStepR st).1 (List.replicate n (.op .next)) = _
    rw [ih, hotpStepR_fst]
    have e0 : ({ st with ctr := Nat.repeat C03.botpCtrNext 0 st.ctr } : C03.HotpSt) = st := rfl
    have hcons : ∀ (a b : Out) (l m : List Out), a = b → l = m → a :: l = b :: m := by
      intro a b l m h1 h2; rw [h1, h2]
    apply hcons
    · show _ = Out.data (C03.hotpStepR { st with ctr := Nat.repeat C03.botpCtrNext 0 st.ctr }).2
      rw [e0]
    apply List.map_congr_left
    intro k _
    show Out.data (C03.hotpStepR { st with ctr := Nat.repeat C03.botpCtrNext k (C03.botpCtrNext st.ctr) }).2 =
      Out.data (C03.hotpStepR { st with ctr := Nat.repeat C03.botpCtrNext (k + 1) st.ctr }).2
    rw [repeat_succ']

theorem hotp_verify_fail (o : List UInt8) (st : C03.HotpSt) (h : (C03.hotpStepV o st).2 = false) :
    (C03.hotpStepV o st).1 = st := by
  unfold C03.hotpStepV at h ⊢
  dsimp only at h ⊢
  split
  · rename_i hc; rw [if_pos hc] at h; exact Bool.noConfusion h
  · rfl

theorem hotp_verify_ok (o : List UInt8) (st : C03.HotpSt) (h : (C03.hotpStepV o st).2 = true) :
    (C03.hotpStepV o st).1 = (C03.hotpStepR st).1 ∧ (C03.hotpStepR st).2 = o := by
  unfold C03.hotpStepV at h ⊢
  dsimp only at h ⊢
  split
  · rename_i hc; exact ⟨rfl, hc⟩
  · rename_i hc; rw [if_neg hc] at h; exact Bool.noConfusion h

/-! ### OCRA -/

theorem ocra_getId (s : C03.OcraSt) (g : OcraOp) (hg : ocraB.isGet g = true) : (ocraB.step s g).1 = s := by
  cases g with
  | get => rfl
  | set c p s => exact absurd hg Bool.false_ne_true
  | next q t => exact absurd hg Bool.false_ne_true
  | verify q t o => exact absurd hg Bool.false_ne_true

/-- the counter after `StepR`: advanced iff the suite has a counter -/
def ocraCtrNext (st : C03.OcraSt) : Bytes := if st.ctrLen ≠ 0 then C03.botpCtrNext st.ctr else st.ctr

/-- `botpOCRAStepR` changes the counter only -/
theorem ocraStepR_fst (q : Bytes) (t : Nat) (st : C03.OcraSt) :
    (C03.ocraStepR q t st).1 = { st with ctr := ocraCtrNext st } := by
  unfold C03.ocraStepR ocraCtrNext
  by_cases h : st.ctrLen ≠ 0
  · simp only [if_pos h]
  · simp only [if_neg h]

theorem ocra_verify_fail (o q : Bytes) (t : Nat) (st : C03.OcraSt) (h : (C03.ocraStepV o q t st).2 = false) :
    (C03.ocraStepV o q t st).1 = st := by
  unfold C03.ocraStepV at h ⊢
  dsimp only at h ⊢
  split
  · rename_i hc; rw [if_pos hc] at h; exact Bool.noConfusion h
  · rw [ocraStepR_fst]

theorem ocra_verify_ok (o q : Bytes) (t : Nat) (st : C03.OcraSt) (h : (C03.ocraStepV o q t st).2 = true) :
    (C03.ocraStepV o q t st).1 = (C03.ocraStepR q t st).1 ∧ (C03.ocraStepR q t st).2 = o := by
  unfold C03.ocraStepV at h ⊢
  dsimp only at h ⊢
  split
  · rename_i hc; exact ⟨rfl, hc⟩
  · rename_i hc; rw [if_neg hc] at h; exact Bool.noConfusion h

/-- the counter before the `k`-th `StepR` of a run of `StepR` calls -/
def ocraCtrAt (st : C03.OcraSt) (k : Nat) : Bytes :=
  if st.ctrLen ≠ 0 then Nat.repeat C03.botpCtrNext k st.ctr else st.ctr

/-- what a run of `StepR(q_k, t_k)` calls returns: the `k`-th call returns the one-shot password for the
counter advanced `k` times (`j` = number of calls made before) -/
def ocraNextOuts (st : C03.OcraSt) : Nat → List (Bytes × Nat) → List Out
  | _, [] => []
  | j, qt :: r => Out.data (C03.ocraStepR qt.1 qt.2 { st with ctr := ocraCtrAt st j }).2 :: ocraNextOuts st (j + 1) r

theorem ocra_next_outs (st : C03.OcraSt) (qts : List (Bytes × Nat)) : ∀ j : Nat,
    outs ocraB { st with ctr := ocraCtrAt st j } (qts.map (fun qt => Call.op (OcraOp.next qt.1 qt.2))) =
      ocraNextOuts st j qts := by
  induction qts with
  | nil => intro j; rfl
  | cons qt qts ih =>
    intro j
    have hn : (C03.ocraStepR qt.1 qt.2 { st with ctr := ocraCtrAt st j }).1 = { st with ctr := ocraCtrAt st (j + 1) } := by
      rw [ocraStepR_fst]
      unfold ocraCtrNext ocraCtrAt
      by_cases h : st.ctrLen ≠ 0
      · simp only [if_pos h]; rfl
      · simp only [if_neg h]
    show Out.data (C03.ocraStepR qt.1 qt.2 { st with ctr := ocraCtrAt st j }).2 ::
      outs ocraB (C03.ocraStepR qt.1 qt.2 { st with ctr := ocraCtrAt st j }).1 _ = _
    rw [hn, ih (j + 1)]
    rfl

theorem ocraCtrAt_zero (st : C03.OcraSt) : { st with ctr := ocraCtrAt st 0 } = st := by
  unfold ocraCtrAt
  by_cases h : st.ctrLen ≠ 0
  · simp only [if_pos h]; rfl
  · simp only [if_neg h]

end Bee2V.C10.Gen
