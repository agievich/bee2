/-
C12 — the unfolding of the trial-division specification `irredTD` of ModelPp.lean, deg (a mod m) < deg m.  No Mathlib.
-/
import Bee2V.C12.LemmasBridgeC05
namespace Bee2V.C12

/-! ### irredTD: the specification it encodes -/

/-- `irredTD f`: f has degree ≥ 1 and no divisor d of degree 1 … deg f / 2 (d = 0, 1 are excluded) -/
theorem irredTD_spec (f : Nat) :
    irredTD f = true ↔ 2 ≤ f ∧ ∀ d, 2 ≤ d → d < 2 ^ (pdeg f / 2 + 1) → pmod f d ≠ 0 := by
  simp only [irredTD, Bool.and_eq_true, decide_eq_true_eq, List.all_eq_true, List.mem_range, Bool.or_eq_true,
    bne_iff_ne, ne_eq, ge_iff_le]
  constructor
  · rintro ⟨h2, h⟩
    refine ⟨h2, fun d hd2 hd => ?_⟩
    rcases h d hd with h' | h'
    · omega
    · exact h'
  · rintro ⟨h2, h⟩
    refine ⟨h2, fun d hd => ?_⟩
    by_cases hd2 : d < 2
    · exact Or.inl hd2
    · exact Or.inr (h d (by omega) hd)

example : irredTD 0b1011 = true ∧ irredTD 0b1001 = false := by decide +kernel

/-! ### plen / pmod: deg (a mod m) < deg m -/

namespace PpAux

theorem plen_le_iff (a k : Nat) : plen a ≤ k ↔ a < 2 ^ k := by
  unfold plen
  by_cases h : a = 0
  · subst h; simp [Nat.two_pow_pos]
  · rw [if_neg h, Nat.succ_le_iff, Nat.log2_lt h]

theorem plen_pos (a : Nat) (h : a ≠ 0) : 0 < plen a := by simp [plen, h]

end PpAux

/-- deg (a mod m) < deg m: the remainder is C05's (`BridgeC05.pmod_eq`), which is reduced -/
theorem pmod_lt (a m : Nat) (hm : m ≠ 0) : pmod a m < 2 ^ (plen m - 1) := by
  rw [BridgeC05.pmod_eq, BridgeC05.plen_eq m hm, Nat.add_sub_cancel]
  exact (C05.Pp.pdivmod_spec a m hm).2

theorem plen_pmod_lt (a m : Nat) (hm : m ≠ 0) : plen (pmod a m) < plen m := by
  have := (PpAux.plen_le_iff _ _).2 (pmod_lt a m hm)
  have := PpAux.plen_pos m hm
  omega

end Bee2V.C12
