import Bee2V.C12.LemmasSprp
/-!
C12 — priIsPrimeW against the textbook notion "strong probable prime" and the three literature bounds.

What was `priIsPrimeW_iff_prime_partial` (prime ⇒ accepted for all words; composite ⇒ rejected only below 2^16) is
sharpened to: the witness loop of the code IS the strong-probable-prime test (`Spec.SPRP`, defined without reference to
the model), and therefore `priIsPrimeW W a ⇔ Nat.Prime a` for ALL a < 2^W follows from exactly three published
computations, stated as hypotheses in their standard form (they cannot be re-run in the kernel: ψ₂ alone needs ≈ 7·10^5
Miller–Rabin evaluations ≈ 35 min of kernel time, the 64-bit bound is out of reach):
  Cited.PSW       Pomerance–Selfridge–Wagstaff 1980: no composite below 1373653 is a strong pseudoprime to 2 and 3;
  Cited.Jaeschke  Jaeschke 1993: none below 4759123141 to 2, 7 and 61;
  Cited.Sinclair  Sinclair 2011 (see Forišek–Jančina 2015; miller-rabin.appspot.com): none below 2^64 to
                  2, 325, 9375, 28178, 450775, 9780504, 1795265022.
Unconditional parts: `priIsPrimeW_accepts_primes`, `priIsPrimeW_exact_16bit`, `priIsPrimeW_thresholds_tight` (PropsPri).
-/
namespace Bee2V.C12

/-- the per-base loop of priIsPrimeW (power, then up to s − 1 squarings with both exits) decides "a is a strong probable
    prime to base b" in the textbook sense: a − 1 = r·2^s, b^r ≡ 1 or b^(r·2^i) ≡ −1 for some i < s. -/
theorem priIsPrimeW_witness_is_sprp (a r s b : Nat) (ha : 2 < a) (hr : r % 2 = 1) (hrs : r * 2 ^ s = a - 1) (hs : 0 < s) :
    witnessW a r s b = true ↔ Spec.SPRP b a := witnessW_iff_sprp a r s b ha hr hrs hs

/-- priIsPrimeW W a ⇔ a prime, for EVERY word a < 2^W, given the three cited computations (only the ranges the code
    actually relies on: {2,3} below 1373653; {2,7,61} on [1373653, 4759123141); the 7 bases on [4759123141, 2^64)). -/
theorem priIsPrimeW_iff_prime_of_cited_bounds (W a : Nat) (hW : W = 16 ∨ W = 32 ∨ W = 64) (ha : a < 2 ^ W)
    (h1 : Cited.PSW) (h2 : W ≠ 16 → Cited.JaeschkeRange) (h3 : W = 64 → Cited.SinclairRange) :
    priIsPrimeW W a = true ↔ Nat.Prime a := priIsPrimeW_iff_prime_of_cited_range W a hW ha h1 h2 h3

/-- the 64-bit build with the bounds in their published (full-range) form. -/
theorem priIsPrimeW64_iff_prime_of_cited_bounds (a : Nat) (ha : a < 2 ^ 64)
    (h1 : Cited.PSW) (h2 : Cited.Jaeschke) (h3 : Cited.Sinclair) :
    priIsPrimeW 64 a = true ↔ Nat.Prime a :=
  priIsPrimeW_iff_prime_of_cited 64 a (Or.inr (Or.inr rfl)) ha h1 h2 h3

/-- the bound of Cited.PSW is tight (so the `<` of `if (a < 1373653)` in pri.c cannot be `<=`): 1373653 = 829·1657 is a strong
    probable prime to 2 and to 3. -/
theorem psw_bound_tight : Spec.SPRP 2 1373653 ∧ Spec.SPRP 3 1373653 ∧ ¬ Nat.Prime 1373653 := by
  refine ⟨?_, ?_, ?_⟩
  · exact (witnessW_iff_sprp 1373653 343413 2 2 (by decide) (by decide) (by decide) (by decide)).1 (by decide +kernel)
  · exact (witnessW_iff_sprp 1373653 343413 2 3 (by decide) (by decide) (by decide) (by decide)).1 (by decide +kernel)
  · intro h
    have : (829 : Nat) ∣ 1373653 := ⟨1657, by decide⟩
    rcases (Nat.dvd_prime h).1 this with h1 | h1 <;> omega

end Bee2V.C12
