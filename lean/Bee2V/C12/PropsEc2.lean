import Bee2V.C12.ModelEc2
import Bee2V.C12.LemmasCascade
/-! C12 — decision list of dstuParamsVal (DSTU 4145-2002 curves over GF(2^m)) -/
namespace Bee2V.C12

/-- dstuParamsVal returns ERR_OK exactly when: the curve description is acceptable (160 ≤ m ≤ 509, A ∈ {0,1},
    trinomial or pentanomial admitted by gf2Create, B and the base point are field elements, n ≠ 0, 0 < c < 2^W), the order has
    more than 160 bits, the modulus is irreducible and B ≠ 0, the base point is on the curve and the Hasse bound
    holds, the order is prime ≠ 2^m and passes MOV(32), and nP = O. -/
theorem dstuParamsVal_ok_iff (isPrime : Nat → Bool) (W : Nat) (v : DstuVals) :
    dstuParamsValV isPrime W v = 0 ↔
      ∃ E, dstuCreate W v = some E ∧
        160 < bitSize (v.n % 2 ^ (W * wordSize W (2 ^ v.p0 - 1))) ∧
        ppIsIrred E.F.mod = true ∧ v.B ≠ 0 ∧
        E.onCurve v.xP v.yP = true ∧ hasse2 W (wordSize W (2 ^ v.p0 - 1)) v.p0 v.n v.c = true ∧
        ec2IsSafeGroup isPrime v.p0 v.n 32 = true ∧
        E.mul (v.n % 2 ^ (W * wordSize W (2 ^ v.p0 - 1))) (some (v.xP, v.yP)) = none := by
  unfold dstuParamsValV
  cases hc : dstuCreate W v with
  | none => simp
  | some E =>
    simp only [ite_err_eq_zero e502, Bool.not_eq_true', Bool.not_eq_false, Bool.and_eq_true, decide_eq_true_eq,
      Option.not_isSome_iff_eq_none, Nat.not_le, ne_eq, and_assoc, and_true, Option.some.injEq, exists_eq_left']

end Bee2V.C12
