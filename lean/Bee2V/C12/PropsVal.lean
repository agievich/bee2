import Bee2V.C12.LemmasVal
import Bee2V.C12.LemmasPp
import Bee2V.C12.LemmasSieve
/-!
C12 — property theorems for the parameter / key validators (decision lists + arithmetic sub-checks), the
irreducibility test and the factor base (helper lemmas: LemmasVal / LemmasSieve).
`isPrime` is the primality oracle the validator calls (priIsPrime); its own theorems are in PropsPri.lean.
-/
namespace Bee2V.C12
open Bee2V.Gen.C12

/-! ### arithmetic sub-checks -/

/-- the word-array computation of ecpSeemsValidGroup (n = f->n words, 2n-word square, shift by 2, compare) decides the
    Hasse bound (c·q − (p + 1))² ≤ 4p. -/
theorem ecpSeemsValidGroup_hasse (W n p order cof : Nat) (hW : 0 < W) (hn : 0 < n) (hp4 : 4 ≤ p) (hp : p < 2 ^ (W * n)) :
    hasseP W n p order cof = true ↔ order * cof ≠ 0 ∧ ((order * cof : Int) - (p + 1)) ^ 2 ≤ 4 * p := by
  unfold hasseP
  by_cases ht : order * cof = 0
  · simp [ht]
  · have core := ValAux.hasse_core W n p (order * cof) hW (ValAux.big_of_lt p _ hp4 hp) ht
    simp only [ht, if_false, ne_eq, not_false_eq_true, true_and]
    simp only [Int.natCast_mul] at core
    rw [← core]
    by_cases hws : wordSize W (if order * cof - 1 ≥ p then order * cof - 1 - p else p - (order * cof - 1)) > n
    · simp [hws]
    · simp only [hws, if_false, not_false_eq_true, true_and]
      exact ValAux.quarter_cmp _ p

/-- the instance used by g12sParamsVal: n = f->n = number of words of p -/
theorem hasseP_wordSize_iff (W p order cof : Nat) (hW : 0 < W) (hp4 : 4 ≤ p) :
    hasseP W (wordSize W p) p order cof = true ↔
      order * cof ≠ 0 ∧ ((order * cof : Int) - (p + 1)) ^ 2 ≤ 4 * p := by
  have hp : p < 2 ^ (W * wordSize W p) := (ValAux.wordSize_le_iff W p _ hW).1 (Nat.le_refl _)
  have hn : 0 < wordSize W p := by
    rcases Nat.eq_zero_or_pos (wordSize W p) with h0 | h
    · rw [h0] at hp; simp at hp; omega
    · exact h
  exact ecpSeemsValidGroup_hasse W _ p order cof hW hn hp4 hp

/-- the same for ec2SeemsValidGroup as repaired by docs/C12.fix-2 (before the repair the last comparison was
    `t3` with itself and the bound was not checked). -/
theorem ec2SeemsValidGroup_hasse (W n m order cof : Nat) (hW : 0 < W) (hn : 0 < n) (hm2 : 2 < m) (hm : m ≤ W * n) :
    hasse2 W n m order cof = true ↔ order * cof ≠ 0 ∧ ((order * cof : Int) - (2 ^ m + 1)) ^ 2 ≤ 4 * 2 ^ m := by
  have h2m : 8 ≤ 2 ^ m := by
    have : 2 ^ 3 ≤ 2 ^ m := Nat.pow_le_pow_right (by omega) (by omega)
    simpa using this
  have hle : 2 ^ m ≤ 2 ^ (W * n) := Nat.pow_le_pow_right (by omega) hm
  unfold hasse2
  by_cases ht : order * cof = 0
  · simp [ht]
  · have core := ValAux.hasse_core W n (2 ^ m) (order * cof) hW (ValAux.big_of_le _ _ (by omega) hle) ht
    simp only [ht, if_false, ne_eq, not_false_eq_true, true_and]
    simp only [Int.natCast_mul, Int.natCast_pow, Int.cast_ofNat_Int] at core
    rw [← core]
    by_cases hws : wordSize W (if order * cof - 1 ≥ 2 ^ m then order * cof - 1 - 2 ^ m else 2 ^ m - (order * cof - 1)) > n
    · simp [hws]
    · simp [hws]

/-- the MOV loop: P^i ≢ 1 (mod q) for i = 1 … threshold. -/
theorem mov_threshold (P q thr : Nat) (hq : 1 < q) :
    movOk P q thr = true ↔ ∀ i, 1 ≤ i → i ≤ thr → P ^ i % q ≠ 1 := by
  unfold movOk
  by_cases h0 : thr = 0
  · subst h0; simp only [if_true, true_iff]; intro i h1 h2; omega
  · simp only [h0, if_false]
    have hpow : ∀ j, P % q * (P % q) ^ j % q = P ^ (j + 1) % q := by
      intro j
      rw [← Nat.pow_succ', ← Nat.pow_mod]
    constructor
    · intro h i h1 h2
      by_cases h1' : P % q = 1
      · simp [h1'] at h
      · rw [if_neg h1', movLoop_iff] at h
        by_cases hi : i = 1
        · subst hi; simpa using h1'
        · have := h (i - 1) (by omega) (by omega)
          rw [hpow, show i - 1 + 1 = i by omega] at this
          exact this
    · intro h
      have h1' : P % q ≠ 1 := by simpa using h 1 (by omega) (by omega)
      rw [if_neg h1', movLoop_iff]
      intro j hj1 hj2
      rw [hpow]
      exact h (j + 1) (by omega) (by omega)

theorem ecpIsOnA_equation (E : Ecp) (x y : Nat) :
    Ecp.onCurve E x y = true ↔ (y * y) % E.p = (x * x * x + E.a * x + E.b) % E.p := by
  have h : (x * x % E.p * x + E.a * x + E.b) % E.p = (x * x * x + E.a * x + E.b) % E.p := by
    rw [Nat.add_assoc, Nat.add_mod, Nat.mod_mul_mod, ← Nat.add_mod, ← Nat.add_assoc]
  simp only [Ecp.onCurve, decide_eq_true_eq, h]

theorem ecpIsSafeGroup_conditions (isPrime : Nat → Bool) (p order mov : Nat) (hq : 1 < order) :
    ecpIsSafeGroup isPrime p order mov = true ↔
      isPrime order = true ∧ order ≠ p ∧ ∀ i, 1 ≤ i → i ≤ mov → p ^ i % order ≠ 1 := by
  simp only [ecpIsSafeGroup, Bool.and_eq_true, decide_eq_true_eq, mov_threshold p order mov hq, and_assoc]

theorem ecpIsValid_conditions (isPrime : Nat → Bool) (p a b : Nat) :
    ecpIsValid isPrime p a b = true ↔
      p % 2 = 1 ∧ isPrime p = true ∧ 3 < p ∧ a < p ∧ b < p ∧ (4 * a ^ 3 + 27 * b ^ 2) % p ≠ 0 := by
  have h : 4 * a * a * a + 27 * b * b = 4 * a ^ 3 + 27 * b ^ 2 := by
    simp only [Nat.pow_succ, Nat.pow_zero, Nat.one_mul, Nat.mul_assoc]
  simp only [ecpIsValid, detNonZero, Bool.and_eq_true, decide_eq_true_eq, and_assoc, h, gt_iff_lt]

/-! ### decision lists: ERR_OK ⇔ every condition of the standard's list -/

/-- bignParamsVal (STB 34.101.45, 6.1.4): operable sizes, b = belt-hash(p‖a‖seed‖…) mod p ≠ 0, p prime, non-singular,
    q prime ≠ p, MOV(50), b a square, G = (0, b^((p+1)/4)), qG = O. -/
theorem bignParamsVal_ok_iff (isPrime : Nat → Bool) (operable : Bool) (v : BignVals) (mov : Nat) :
    bignParamsValV isPrime operable v mov = 0 ↔
      operable = true ∧ bignStartOk v = true ∧ v.B % v.p = v.b ∧ v.b ≠ 0 ∧
      ecpIsValid isPrime v.p v.a v.b = true ∧ ecpIsSafeGroup isPrime v.p v.q mov = true ∧
      isQR v.b v.p = true ∧ powMod v.b ((v.p + 1) / 4) v.p = v.yG ∧
      Ecp.mul ⟨v.p, v.a, v.b⟩ v.q (some (0, v.yG)) = none := by
  simp only [bignParamsValV, ite_err_eq_zero e502, ite_else_err_eq_zero e502, Bool.not_eq_true', Bool.not_eq_false,
    Bool.and_eq_true, decide_eq_true_eq, Option.not_isSome_iff_eq_none, Classical.not_not, ne_eq, and_assoc, and_true]

/-- bignPubkeyVal: x, y < p ∧ on the curve. -/
theorem bignPubkeyVal_ok_iff (operable : Bool) (v : BignVals) (x y : Nat) :
    bignPubkeyValV operable v x y = 0 ↔
      operable = true ∧ bignStartOk v = true ∧ x < v.p ∧ y < v.p ∧ Ecp.onCurve ⟨v.p, v.a, v.b⟩ x y = true := by
  simp only [bignPubkeyValV, ite_err_eq_zero e502, ite_err_eq_zero e505, ite_else_err_eq_zero e505, Bool.not_eq_true',
    Bool.not_eq_false, decide_eq_true_eq, and_assoc, and_true]

/-- bignKeypairVal: 0 < d < q ∧ Q = dG — BOTH coordinates. -/
theorem bignKeypairVal_ok_iff (operable : Bool) (v : BignVals) (d x y : Nat) :
    bignKeypairValV operable v d x y = 0 ↔
      operable = true ∧ bignStartOk v = true ∧ 0 < d ∧ d < v.q ∧
      Ecp.mul ⟨v.p, v.a, v.b⟩ d (some (0, v.yG)) = some (x, y) := by
  simp only [bignKeypairValV, ite_err_eq_zero e502, ite_err_eq_zero e504, Bool.not_eq_true', Bool.not_eq_false,
    not_or, Nat.pos_iff_ne_zero, Nat.not_le, ge_iff_le, ne_eq, and_assoc]
  refine and_congr_right fun _ => and_congr_right fun _ => and_congr_right fun _ => and_congr_right fun _ => ?_
  cases Ecp.mul ⟨v.p, v.a, v.b⟩ d (some (0, v.yG)) with
  | none => simp
  | some q => simp only [ite_else_err_eq_zero e505, and_true, Option.some.injEq, Prod.ext_iff]

/-- a key pair whose public key has the right x and another y is rejected. -/
theorem bignKeypairVal_rejects_wrong_y (operable : Bool) (v : BignVals) (d x y y' : Nat) (hy : y ≠ y')
    (hmul : Ecp.mul ⟨v.p, v.a, v.b⟩ d (some (0, v.yG)) = some (x, y')) :
    bignKeypairValV operable v d x y ≠ 0 := by
  intro h
  rw [bignKeypairVal_ok_iff] at h
  have := h.2.2.2.2
  rw [hmul] at this
  simp at this
  exact hy this.symm

/-- g12sParamsVal (GOST R 34.10-2012). -/
theorem g12sParamsVal_ok_iff (isPrime : Nat → Bool) (W : Nat) (v : G12sVals) :
    g12sParamsValV isPrime W v = 0 ↔
      g12sCreateOk W v = true ∧ ecpIsValid isPrime v.p v.a v.b = true ∧
      Ecp.onCurve ⟨v.p, v.a, v.b⟩ v.xP v.yP = true ∧ hasseP W (wordSize W v.p) v.p v.q v.n = true ∧
      ecpIsSafeGroup isPrime v.p v.q (if v.l = 256 then 31 else 131) = true ∧
      Ecp.mul ⟨v.p, v.a, v.b⟩ (v.q % 2 ^ (W * wordSize W v.p)) (some (v.xP, v.yP)) = none ∧
      v.a ≠ 0 ∧ v.b ≠ 0 := by
  simp only [g12sParamsValV, ite_err_eq_zero e502, Bool.not_eq_true', Bool.not_eq_false, Bool.and_eq_true,
    Option.not_isSome_iff_eq_none, not_or, ne_eq, and_assoc, and_true]

/-- stb99ParamsVal (STB 1176.2): p prime of l bits, q prime of r bits, q | p − 1, 0 < d < p,
    a = d^((p−1)/q) ≠ e in the Montgomery group B_p. -/
theorem stb99ParamsVal_ok_iff (isPrime : Nat → Bool) (lr : List (Nat × Nat)) (v : Stb99Vals) :
    stb99ParamsValV isPrime lr v = 0 ↔
      lr.contains (v.l, v.r) = true ∧ v.tailsZero = true ∧ bitSize v.p = v.l ∧ isPrime v.p = true ∧
      bitSize v.q = v.r ∧ isPrime v.q = true ∧ (v.p - 1) % v.q = 0 ∧ v.d < v.p ∧ v.d ≠ 0 ∧
      montPow v.p (2 ^ (v.l + 2)) v.d ((v.p - 1) / v.q) ≠ 2 ^ (v.l + 2) % v.p ∧
      v.a = montPow v.p (2 ^ (v.l + 2)) v.d ((v.p - 1) / v.q) := by
  simp only [stb99ParamsValV, ite_err_eq_zero e502, Bool.not_eq_true', Bool.not_eq_false, Bool.and_eq_true,
    decide_eq_true_eq, not_or, Classical.not_not, ne_eq, and_assoc, and_true]

/-- after fix-3 a zero generator seed d is rejected -/
theorem stb99ParamsValV_a_pos (isPrime : Nat → Bool) (lr : List (Nat × Nat)) (v : Stb99Vals)
    (h : stb99ParamsValV isPrime lr v = 0) : v.d ≠ 0 :=
  ((stb99ParamsVal_ok_iff isPrime lr v).1 h).2.2.2.2.2.2.2.2.1

/-- pfokParamsVal: p and (p − 1)/2 prime, g^((p−1)/2) ∉ {e, g} in B_p. -/
theorem pfokParamsVal_ok_iff (isPrime : Nat → Bool) (lr : List (Nat × Nat)) (v : PfokVals) :
    pfokParamsValV isPrime lr v = 0 ↔
      pfokIsOperable lr v = true ∧ isPrime v.p = true ∧ isPrime (v.p / 2) = true ∧
      montPow v.p (2 ^ (v.l + 2)) v.g (v.p / 2) ≠ 2 ^ (v.l + 2) % v.p ∧
      montPow v.p (2 ^ (v.l + 2)) v.g (v.p / 2) ≠ v.g := by
  simp only [pfokParamsValV, ite_err_eq_zero e502, Bool.not_eq_true', Bool.not_eq_false, not_or, ne_eq, and_true]

/-! ### irreducibility (ppIsIrred, belsValM) -/

example : ppIsIrred 0b10011 = true ∧ ppIsIrred 0b10101 = false := by decide +kernel

/-! ### factor base (tables regenerated from pri.c) -/

/-- `_base[]` is exactly the list of the odd primes up to 8167 (1024 of them), in increasing order. -/
theorem base_is_first_odd_primes :
    base.size = 1024 ∧ base.toList = (List.range 8168).filter (fun n => decide (3 ≤ n) && isPrimeTD' n) :=
  ⟨base_size, base_eq⟩

/-- the shortcut of priBaseMod through the products `_prods[]` is exact, for every word size. -/
theorem priBaseMod_exact (W a count : Nat) (hW : W = 16 ∨ W = 32 ∨ W = 64) (hc : count ≤ 1024) :
    priBaseMod W a count = (List.range count).map (fun i => a % base[i]!) := priBaseMod_spec W a count hW hc

/-- priIsSieved ⇔ a odd and not divisible by the first `bc` primes of the factor base. -/
theorem priIsSieved_exact (W a bc : Nat) (hW : W = 16 ∨ W = 32 ∨ W = 64) (hbc : bc ≤ 1024) :
    priIsSieved W a bc = true ↔ a % 2 = 1 ∧ ∀ i, i < bc → a % base[i]! ≠ 0 := priIsSieved_iff W a bc hW hbc

end Bee2V.C12
