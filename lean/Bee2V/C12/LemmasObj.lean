/-
C12 — the structural predicates of ModelObj.lean: memory / word-array validity, the value of a word array
(`wordsVal`), and the predicates run on small well-formed and damaged objects.  Their condition lists are in PropsObj.
-/
import Bee2V.C12.ModelObj
import Bee2V.C12.LemmasVal
namespace Bee2V.C12

/-! ### memory / object header -/

theorem memIsValid_iff (ok : Bool) (c : Nat) : memIsValid ok c = true ↔ (c = 0 ∨ ok = true) := by
  simp [memIsValid]

theorem wwIsValid_iff (W : Nat) (ok : Bool) (n : Nat) :
    wwIsValid W ok n = true ↔ (n * (W / 8) % 2 ^ 64 = 0 ∨ ok = true) := by
  simp [wwIsValid, memIsValid]

/-! ### rings -/

namespace ObjAux

theorem wordsVal_zero (W : Nat) (ws : List Nat) : wordsVal W ws 0 = 0 := by simp [wordsVal]

theorem wordsVal_nil (W n : Nat) : wordsVal W [] n = 0 := by simp [wordsVal]

theorem wordsVal_cons (W : Nat) (w : Nat) (ws : List Nat) (n : Nat) :
    wordsVal W (w :: ws) (n + 1) = w % 2 ^ W + 2 ^ W * wordsVal W ws n := by
  simp [wordsVal]

/-- a non-zero word at position `k < n` puts the value at or above `2^(W·k)` -/
theorem wordsVal_ge (W : Nat) : ∀ (ws : List Nat) (n k : Nat), k < n → (∀ w ∈ ws, w < 2 ^ W) → ws.getD k 0 ≠ 0 →
    2 ^ (W * k) ≤ wordsVal W ws n
  | [], n, k, _, _, h => by simp at h
  | w :: ws, 0, k, hk, _, _ => by omega
  | w :: ws, n + 1, 0, _, hw, h => by
    rw [wordsVal_cons]
    have hlt : w < 2 ^ W := hw w List.mem_cons_self
    have h0 : w ≠ 0 := by simpa using h
    rw [Nat.mod_eq_of_lt hlt]
    simp only [Nat.mul_zero, Nat.pow_zero]
    omega
  | w :: ws, n + 1, k + 1, hk, hw, h => by
    rw [wordsVal_cons]
    have ih := wordsVal_ge W ws n k (by omega) (fun x hx => hw x (List.mem_cons_of_mem _ hx)) (by simpa using h)
    have : 2 ^ (W * (k + 1)) = 2 ^ W * 2 ^ (W * k) := by rw [Nat.mul_succ, Nat.pow_add, Nat.mul_comm]
    rw [this]
    have := Nat.mul_le_mul_left (2 ^ W) ih
    omega

theorem wordsVal_mod_two (W : Nat) (hW : 0 < W) (ws : List Nat) (n : Nat) (hn : 0 < n) (hw : ∀ w ∈ ws, w < 2 ^ W) :
    wordsVal W ws n % 2 = ws.headD 0 % 2 := by
  obtain ⟨m, rfl⟩ : ∃ m, n = m + 1 := ⟨n - 1, by omega⟩
  cases ws with
  | nil => simp [wordsVal_nil]
  | cons w ws =>
    rw [wordsVal_cons, Nat.mod_eq_of_lt (hw w List.mem_cons_self)]
    obtain ⟨V, rfl⟩ : ∃ V, W = V + 1 := ⟨W - 1, by omega⟩
    simp only [List.headD_cons]
    rw [Nat.pow_succ, Nat.mul_comm (2 ^ V) 2, Nat.mul_assoc, Nat.add_mul_mod_self_left]

end ObjAux

/-! ### affine points -/

namespace ObjAux

theorem le_or_shift (x h m : Nat) (hh : 0 < h) : 2 ^ m ≤ x ||| (h <<< m) := by
  have h1 : h <<< m ≤ x ||| (h <<< m) := Nat.right_le_or
  have h2 : 2 ^ m ≤ h <<< m := by
    rw [Nat.shiftLeft_eq]
    exact Nat.le_mul_of_pos_left _ hh
  omega

end ObjAux

/-! ### non-vacuity: small well-formed objects are accepted, the same with one field damaged are rejected -/

namespace ObjAux

def fns9 : List Bool := [true, true, true, true, true, true, true, true, true]

/-- Z/23 on one 64-bit word -/
def qrT : QrObj := ⟨⟨true, 200, 3, 0⟩, true, true, true, 1, 1, fns9, 0, [23], []⟩

/-- GF(2^5), x^5 + x^2 + 1 -/
def g2T : QrObj := { qrT with mod := [37], params := [5, 2, 0, 0] }

def ecT : EcObj := ⟨⟨true, 300, 6, 1⟩, qrT, true, true, true, true, 3, 1, fns9, 0, 29⟩

def e2T : Ec2 := ⟨⟨3, 0b1011⟩, 1, 1⟩

end ObjAux

open ObjAux in
example : objIsOperable2 lp64 qrT.hdr = true ∧ qrIsOperable lp64 64 qrT = true ∧ zmIsValid lp64 64 qrT = true ∧
    gfpIsOperable lp64 64 qrT = true ∧ gfpIsValid (fun p => p == 23) lp64 64 qrT = true := by decide

open ObjAux in
/-- damaged: null object, keep too small, o_count, p_count, p_count wrapping the size computation is still compared
    with keep, n = 0, a null function pointer, null unity, null modulus, top word 0, even modulus, modulus 1,
    composite modulus -/
example :
    qrIsOperable lp64 64 { qrT with hdr := ⟨false, 200, 3, 0⟩ } = false ∧
    qrIsOperable lp64 64 { qrT with hdr := ⟨true, 143, 3, 0⟩ } = false ∧
    qrIsOperable lp64 64 { qrT with hdr := ⟨true, 200, 3, 1⟩ } = false ∧
    qrIsOperable lp64 64 { qrT with hdr := ⟨true, 200, 4, 0⟩ } = false ∧
    objIsOperable2 lp64 ⟨true, 16, 2 ^ 61 - 1, 0⟩ = true ∧
    objIsOperable2 lp64 ⟨true, 15, 2 ^ 61 - 1, 0⟩ = false ∧
    qrIsOperable lp64 64 { qrT with n := 0 } = false ∧
    qrIsOperable lp64 64 { qrT with no := 0 } = false ∧
    qrIsOperable lp64 64 { qrT with fns := [true, true, true, true, true, true, true, false, true] } = false ∧
    qrIsOperable lp64 64 { qrT with unityOk := false } = false ∧
    zmIsValid lp64 64 { qrT with modOk := false } = false ∧
    zmIsValid lp64 64 { qrT with n := 2, mod := [23, 0] } = false ∧
    gfpIsOperable lp64 64 { qrT with mod := [22] } = false ∧
    gfpIsOperable lp64 64 { qrT with mod := [1] } = false ∧
    gfpIsOperable lp64 64 { qrT with n := 2, mod := [1, 1] } = true ∧
    gfpIsValid (fun p => p == 23) lp64 64 { qrT with mod := [21] } = false := by decide

open ObjAux in
example : gf2IsOperable lp64 64 g2T = true ∧ gf2IsValid lp64 64 g2T = true ∧
    gf2IsValid lp64 64 { g2T with mod := [61], params := [5, 4, 3, 2] } = true := by decide

open ObjAux in
/-- damaged: null params, p1 ≥ p0, p2 = p1 > 0, p3 = 0 with p2 > 0, n or no not matching the degree, top word 0,
    modulus not the described polynomial, reducible polynomial (x^5 + x + 1 = (x^2 + x + 1)(x^3 + x^2 + 1));
    p1 = 0 (reserved) is operable and nothing more is checked -/
example :
    gf2IsOperable lp64 64 { g2T with paramsOk := false } = false ∧
    gf2IsOperable lp64 64 { g2T with params := [5, 5, 0, 0] } = false ∧
    gf2IsOperable lp64 64 { g2T with params := [5, 2, 2, 1] } = false ∧
    gf2IsOperable lp64 64 { g2T with params := [5, 4, 3, 0] } = false ∧
    gf2IsOperable lp64 64 { g2T with n := 2 } = false ∧
    gf2IsOperable lp64 64 { g2T with no := 2 } = false ∧
    gf2IsOperable lp64 64 { g2T with mod := [0] } = false ∧
    gf2IsOperable lp64 64 { g2T with params := [64, 4, 3, 1], no := 8, mod := [27] } = false ∧
    gf2IsOperable lp64 64 { g2T with params := [64, 4, 3, 1], no := 8, mod := [27, 1] } = true ∧
    gf2IsValid lp64 64 { g2T with mod := [39] } = false ∧
    gf2IsValid lp64 64 { g2T with mod := [35], params := [5, 1, 0, 0] } = false ∧
    gf2IsValid lp64 64 { g2T with mod := [39], params := [5, 0, 0, 0] } = true := by decide

open ObjAux in
example : ecIsOperable2 lp64 64 ecT = true ∧ ecIsOperable lp64 64 ecT = true ∧ ecIsOperableGroup 64 ecT = true := by
  decide

open ObjAux in
example :
    ecIsOperable2 lp64 64 { ecT with hdr := ⟨true, 175, 6, 1⟩ } = false ∧
    ecIsOperable2 lp64 64 { ecT with hdr := ⟨true, 300, 6, 0⟩ } = false ∧
    ecIsOperable2 lp64 64 { ecT with aOk := false } = false ∧
    ecIsOperable2 lp64 64 { ecT with d := 2 } = false ∧
    ecIsOperable lp64 64 { ecT with f := { qrT with no := 0 } } = false ∧
    ecIsOperable lp64 64 { ecT with f := { qrT with deep := 1 } } = false ∧
    ecIsOperableGroup 64 { ecT with baseOk := false } = false ∧
    ecIsOperableGroup 64 { ecT with order := 0 } = false ∧
    ecIsOperableGroup 64 { ecT with cofactor := 0 } = false := by decide

example : ecpIsOnA ⟨23, 1, 1⟩ 3 10 = true ∧ ecpIsOnA ⟨23, 1, 1⟩ 3 11 = false ∧
    ecpIsOnA ⟨23, 1, 1⟩ 26 10 = false ∧ Ecp.onCurve ⟨23, 1, 1⟩ 26 10 = true ∧
    ecpIsOnA ⟨23, 1, 1⟩ 3 33 = false := by decide

open ObjAux in
example : ec2IsOnA e2T 2 5 = true ∧ ec2IsOnA e2T 2 4 = false ∧ ec2IsOnA e2T (2 ||| (1 <<< 3)) 5 = false ∧
    ec2IsOnA e2T 2 (5 ||| (1 <<< 3)) = false := by decide

example : mtMtxIsValid true 40 = true ∧ mtMtxIsValid false 40 = false ∧ mtMtxIsValid false 0 = true := by decide

end Bee2V.C12
