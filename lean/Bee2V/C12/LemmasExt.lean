/-
C12 — priExtendPrime2 / priExtendPrime (ModelPri2.lean): what the function returns is of the form 2·q·a·r + 1, has
exactly l bits, passed the sieve and Demytko's test (`priExtendPrime2_found`).  That Demytko's test PROVES primality
under the documented preconditions is `prime_of_pocklington` (LemmasPri), applied in PropsObj.
-/
import Mathlib.Data.Nat.Prime.Basic
import Mathlib.Data.Nat.Totient
import Mathlib.Data.ZMod.Basic
import Mathlib.GroupTheory.OrderOfElement
import Mathlib.FieldTheory.Finite.Basic
import Bee2V.C12.ModelPri2
import Bee2V.C12.LemmasPri
import Bee2V.C12.LemmasNext
import Bee2V.C12.LemmasNextP
import Bee2V.C12.LemmasSieve
import Bee2V.C12.LemmasSmooth
import Bee2V.C12.LemmasVal
namespace Bee2V.C12
open Bee2V.Gen.C12

/-! ### priBasePrime -/

theorem priBasePrime_strictMono (i j : Nat) (hij : i < j) (hj : j < 1024) : priBasePrime i < priBasePrime j :=
  base_sorted i j hij hj

theorem priBasePrime_ge_3 (i : Nat) (h : i < 1024) : 3 ≤ priBasePrime i := base_ge_3 i h

/-! ### the incremental residues -/

namespace ExtAux
open NextPAux

theorem add_mod_step (p d b : Nat) (hb : 0 < b) :
    (if p % b + d % b ≥ b then p % b + d % b - b else p % b + d % b) = (p + d) % b := by
  have h1 := Nat.mod_lt p hb
  have h2 := Nat.mod_lt d hb
  rw [Nat.add_mod p d b]
  generalize p % b = x at *
  generalize d % b = y at *
  split
  · rw [Nat.mod_eq_sub_mod (by omega), Nat.mod_eq_of_lt (by omega)]
  · rw [Nat.mod_eq_of_lt (by omega)]

theorem addMods_gen (p d : Nat) : ∀ (k s : Nat), s + k ≤ 1024 →
    addMods (res p s k) (res d s k) s = res (p + d) s k := by
  intro k
  induction k with
  | zero => intro s _; simp [res, addMods]
  | succ k ih =>
    intro s hs
    have hb := base_ge_3 s (by omega)
    rw [res_succ, res_succ, res_succ, addMods, ih (s + 1) (by omega), add_mod_step p d _ (by omega)]

end ExtAux

open NextPAux in
/-- `mods[i] += mods1[i]` with one conditional subtraction keeps `mods` = the residues of the candidate -/
theorem addMods_spec (p d bc : Nat) (hbc : bc ≤ 1024) (mods mods1 : List Nat)
    (hm : mods = (List.range bc).map (fun i => p % base[i]!))
    (hm1 : mods1 = (List.range bc).map (fun i => d % base[i]!)) :
    addMods mods mods1 0 = (List.range bc).map (fun i => (p + d) % base[i]!) := by
  subst hm hm1
  rw [← res_zero_eq, ← res_zero_eq, ← res_zero_eq]
  exact ExtAux.addMods_gen p d bc 0 (by omega)

/-! ### the inner loop -/

namespace ExtAux
open NextPAux

theorem extInner_found_gen (l nW q a bc : Nat) (hbc : bc ≤ 1024) :
    ∀ (fuel : Nat) (tr : Option Nat) (p r p' : Nat), p = 2 * (q * a) * r + 1 → bitSize p ≤ l → p < 2 ^ nW →
      extInner l nW (q * a) q a fuel tr p r (res p 0 bc) (res (2 * (q * a)) 0 bc) = .found p' →
      ∃ r', p' = 2 * (q * a) * r' + 1 ∧ r ≤ r' ∧ demytko p' q a r' = true ∧ (∀ i, i < bc → p' % base[i]! ≠ 0) ∧
        p ≤ p' ∧ bitSize p' ≤ l ∧ p' < 2 ^ nW
  | 0, tr, p, r, p', _, _, _, h => by simp [extInner] at h
  | fuel + 1, tr, p, r, p', hp, hb, hlt, h => by
    rw [extInner] at h
    split at h
    · next hc =>
      simp only [ExtRes.found.injEq] at h
      subst h
      rw [Bool.and_eq_true] at hc
      exact ⟨r, hp, Nat.le_refl _, hc.2, (res_all_iff p bc).1 hc.1, Nat.le_refl _, hb, hlt⟩
    · simp only at h
      split at h
      · cases h
      · next hov =>
        have hp' : p + 2 * (q * a) = 2 * (q * a) * (r + 1) + 1 := by rw [hp, Nat.mul_succ]; omega
        rw [addMods_gen p (2 * (q * a)) bc 0 (by omega)] at h
        split at h
        · cases h
        · obtain ⟨r', h1, h2, h3, h4, h5, h6, h7⟩ :=
            extInner_found_gen l nW q a bc hbc fuel _ (p + 2 * (q * a)) (r + 1) p' hp' (by omega) (by omega) h
          exact ⟨r', h1, by omega, h3, h4, by omega, h6, h7⟩

end ExtAux

open NextPAux in
/-- a candidate the inner loop returns: `p' = 2·q·a·r' + 1` for some `r' ≥ r`, accepted by Demytko's test with that
    `r'`, not divisible by the first `bc` base primes, inside the array and the bit length -/
theorem extInner_found (l nW qa q a bc fuel : Nat) (tr : Option Nat) (p r : Nat) (mods mods1 : List Nat) (p' : Nat)
    (hbc : bc ≤ 1024) (hqa : qa = q * a) (hp : p = 2 * qa * r + 1)
    (hm : mods = (List.range bc).map (fun i => p % base[i]!))
    (hm1 : mods1 = (List.range bc).map (fun i => (2 * qa) % base[i]!))
    (hb : bitSize p ≤ l) (hlt : p < 2 ^ nW)
    (h : extInner l nW qa q a fuel tr p r mods mods1 = .found p') :
    ∃ r', p' = 2 * qa * r' + 1 ∧ r ≤ r' ∧ demytko p' q a r' = true ∧ (∀ i, i < bc → p' % base[i]! ≠ 0) ∧
      p ≤ p' ∧ bitSize p' ≤ l ∧ p' < 2 ^ nW := by
  subst hqa hm hm1
  rw [← res_zero_eq, ← res_zero_eq] at h
  exact ExtAux.extInner_found_gen l nW q a bc hbc fuel tr p r p' hp hb hlt h

/-! ### the outer loop -/

namespace ExtAux
open NextPAux

/-- the doubling of the residues of q·a (`mods1[i] += mods1[i]` with one conditional subtraction) -/
theorem dbl_gen (x : Nat) : ∀ (k s : Nat), s + k ≤ 1024 →
    ((res x s k).zipIdx s).map (fun (m, i) => if 2 * m ≥ base[i]! then 2 * m - base[i]! else 2 * m) =
      res (2 * x) s k := by
  intro k
  induction k with
  | zero => intro s _; simp [res]
  | succ k ih =>
    intro s hs
    have hb := base_ge_3 s (by omega)
    have key := add_mod_step x x _ (show 0 < base[s]! by omega)
    rw [← Nat.two_mul, ← Nat.two_mul] at key
    rw [res_succ, res_succ, List.zipIdx_cons, List.map_cons, ih (s + 1) (by omega)]
    simp only []
    rw [key]

theorem np_ge (W l : Nat) (hW : W = 16 ∨ W = 32 ∨ W = 64) : l ≤ (l + W - 1) / W * W := by
  rcases hW with rfl | rfl | rfl <;> omega

/-- the start candidate of one outer round -/
theorem start_bounds (l qa t0 : Nat) (hl : 2 ≤ l) (hqa : 0 < qa)
    (hbs : bitSize (qa * ((t0 % 2 ^ (l - 2) + 2 ^ (l - 2) + qa - 1) / qa)) ≤ l - 1) :
    2 ^ (l - 1) ≤ 2 * (qa * ((t0 % 2 ^ (l - 2) + 2 ^ (l - 2) + qa - 1) / qa)) + 1 ∧
    2 * (qa * ((t0 % 2 ^ (l - 2) + 2 ^ (l - 2) + qa - 1) / qa)) + 1 < 2 ^ l := by
  have hlt := (ValAux.bitSize_le_iff _ _).1 hbs
  have hpos : 0 < 2 ^ (l - 2) := Nat.pow_pos (by decide)
  have h1 : 2 ^ (l - 1) = 2 * 2 ^ (l - 2) := by
    rw [show l - 1 = (l - 2) + 1 by omega, Nat.pow_succ]; omega
  have h2 : 2 ^ l = 2 * 2 ^ (l - 1) := by
    rw [show l = (l - 1) + 1 by omega, Nat.pow_succ, Nat.add_sub_cancel]; omega
  have hm : 2 ^ (l - 2) ≤ t0 % 2 ^ (l - 2) + 2 ^ (l - 2) := Nat.le_add_left _ _
  generalize t0 % 2 ^ (l - 2) + 2 ^ (l - 2) = t at *
  have hd := Nat.div_add_mod (t + qa - 1) qa
  have hr := Nat.mod_lt (t + qa - 1) hqa
  generalize (t + qa - 1) / qa = r at *
  generalize qa * r = tt at *
  omega

theorem extOuter_succ (W l q a bc fuel : Nat) (tr : Option Nat) (tape tape' : List UInt8) (t0 : Nat)
    (hd : drawOctets ((l + 7) / 8) tape = (t0, tape')) :
    extOuter W l q a bc (fuel + 1) tr tape =
      if tr = some 0 then (none, tape)
      else if bitSize (q * a * ((t0 % 2 ^ (l - 2) + 2 ^ (l - 2) + q * a - 1) / (q * a))) > l - 1 then
        extOuter W l q a bc fuel (tr.map (· - 1)) tape'
      else
        match extInner l ((l + W - 1) / W * W) (q * a) q a (2 ^ l) (tr.map (· - 1))
            (2 * (q * a * ((t0 % 2 ^ (l - 2) + 2 ^ (l - 2) + q * a - 1) / (q * a))) + 1)
            ((t0 % 2 ^ (l - 2) + 2 ^ (l - 2) + q * a - 1) / (q * a))
            (priBaseMod W (2 * (q * a * ((t0 % 2 ^ (l - 2) + 2 ^ (l - 2) + q * a - 1) / (q * a))) + 1) bc)
            ((priBaseMod W (q * a) bc).zipIdx.map
              (fun (m, i) => if 2 * m ≥ base[i]! then 2 * m - base[i]! else 2 * m)) with
        | .found p' => (some p', tape')
        | .fail => (none, tape')
        | .next tr' => extOuter W l q a bc fuel tr' tape' := by
  rw [extOuter, hd]
  rfl

theorem extOuter_found (W l q a bc : Nat) (hW : W = 16 ∨ W = 32 ∨ W = 64) (hbc : bc ≤ 1024) (hl : 2 ≤ l)
    (hqa : 0 < q * a) :
    ∀ (fuel : Nat) (tr : Option Nat) (tape : List UInt8) (p : Nat), (extOuter W l q a bc fuel tr tape).1 = some p →
      ∃ r, p = 2 * (q * a) * r + 1 ∧ bitSize p = l ∧ demytko p q a r = true ∧ (∀ i, i < bc → p % base[i]! ≠ 0)
  | 0, tr, tape, p, h => by simp [extOuter] at h
  | fuel + 1, tr, tape, p, h => by
    rw [extOuter_succ W l q a bc fuel tr tape (tape.drop ((l + 7) / 8)) _ rfl] at h
    split at h
    · simp at h
    · generalize (drawOctets ((l + 7) / 8) tape).1 = t0 at h
      generalize List.drop ((l + 7) / 8) tape = tape' at h
      split at h
      · exact extOuter_found W l q a bc hW hbc hl hqa fuel _ _ p h
      · next hbs =>
        obtain ⟨hlo, hhi⟩ := start_bounds l (q * a) _ hl hqa (Nat.le_of_not_lt hbs)
        rw [priBaseMod_spec W _ bc hW hbc, priBaseMod_spec W _ bc hW hbc, ← res_zero_eq, ← res_zero_eq,
          dbl_gen (q * a) bc 0 (by omega)] at h
        split at h
        · next p' hres =>
          simp only [Option.some.injEq] at h
          subst h
          have hnp : 2 ^ l ≤ 2 ^ ((l + W - 1) / W * W) := Nat.pow_le_pow_right (by decide) (np_ge W l hW)
          obtain ⟨r', h1, _, h3, h4, h5, h6, _⟩ :=
            extInner_found_gen l _ q a bc hbc _ _ _ _ p' (by rw [Nat.mul_assoc 2])
              ((ValAux.bitSize_le_iff _ _).2 hhi) (by omega) hres
          refine ⟨r', h1, ?_, h3, h4⟩
          exact (bitSize_eq_iff p' l (by omega)).2 ⟨by omega, (ValAux.bitSize_le_iff _ _).1 h6⟩
        · simp at h
        · exact extOuter_found W l q a bc hW hbc hl hqa fuel _ _ p h
end ExtAux

/-- what priExtendPrime2 returns (for every tape, every `trials`, every `fuel`): `p = 2·q·a·r + 1` with exactly `l`
    bits that passed Demytko's test with that `r` and is not divisible by the base primes in use -/
theorem priExtendPrime2_found (W l q a : Nat) (trials : Option Nat) (baseCount : Nat) (tape : List UInt8) (fuel p : Nat)
    (hW : W = 16 ∨ W = 32 ∨ W = 64) (hbc : baseCount ≤ 1024) (hl : 2 ≤ l) (hqa : 0 < q * a)
    (h : (priExtendPrime2 W l q a trials baseCount tape fuel).1 = some p) :
    ∃ r, p = 2 * q * a * r + 1 ∧ bitSize p = l ∧ demytko p q a r = true := by
  unfold priExtendPrime2 at h
  simp only at h
  have hbc' : (if l < W then adjustBaseCount (2 ^ (l - 1)) false baseCount else baseCount) ≤ 1024 := by
    split
    · exact Nat.le_trans (SieveAux.adjust_le _ _ _) hbc
    · exact hbc
  obtain ⟨r, h1, h2, h3, _⟩ := ExtAux.extOuter_found W l q a _ hW hbc' hl hqa fuel trials tape p h
  exact ⟨r, by rw [h1, Nat.mul_assoc 2 q a], h2, h3⟩

/-! ### non-vacuity -/

/-- 688139 = 2·1009·341 + 1, 738589 = 2·1009·3·122 + 1, 920209 = 2·1009·456 + 1; l = 20 = 2·bitlen 1009 -/
example : priExtendPrime2 64 20 1009 1 (some 50) 10 [0x12, 0x34, 0x05] 60 = (some 688139, []) ∧
    priExtendPrime2 64 20 1009 3 (some 50) 10 [0x12, 0x34, 0x05] 60 = (some 738589, []) ∧
    priExtendPrime2 16 20 1009 1 none 100 [0xff, 0xff, 0xff, 1, 2, 3] 60 = (some 920209, []) ∧
    priExtendPrime2 64 20 1009 1 (some 2) 10 [0x12, 0x34, 0x05] 60 = (none, []) ∧
    priExtendPrime 64 20 1009 (some 0) 10 [0x12, 0x34, 0x05] 60 = (none, [0x12, 0x34, 0x05]) ∧
    bitSize 1009 = 10 := by decide +kernel

/-- Demytko's test on the returned value, on a composite of the same shape (2·1009·342 + 1 = 690157 = 11·62741) and the
    degenerate a·r = 0 -/
example : demytko 688139 1009 1 341 = true ∧ demytko 690157 1009 1 342 = false ∧ demytko 1 1009 0 5 = false := by
  decide +kernel

/-- the side condition `2·a·r < 4q + 1` cannot be dropped: 2^10 ≡ 1 (mod 341), q = 5, a = 1, r = 34: 341 = 11·31
    passes both congruences of the test -/
example : demytko 341 5 1 34 = true ∧ 341 = 2 * 5 * 1 * 34 + 1 ∧ 341 = 11 * 31 := by decide +kernel

example : priBasePrime 0 = 3 ∧ priBasePrime 1 = 5 ∧ priBasePrime 1023 = 8167 := by decide +kernel

end Bee2V.C12
