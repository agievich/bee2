/-
C12 — priIsPrimeW (src/math/pri.c) against the textbook notion "strong probable prime" and the three cited
computational results on the base sets {2,3}, {2,7,61} and Sinclair's 7 bases.

* `Spec.SPRP b a`   : the textbook definition (no reference to the model);
* `witnessW_iff_sprp`: one pass of the loop of the model for the base `b`  ⇔  `Spec.SPRP b a`;
* `Cited.PSW`, `Cited.Jaeschke`, `Cited.Sinclair` : the literature facts as Props (NOT proved here, hypotheses);
* `priIsPrimeW_iff_prime_of_cited` : under the cited facts the model decides primality exactly on W-bit words
  (the direction "prime ⇒ accepted" is unconditional: `Spec.sprp_of_prime`, hence `priIsPrimeW_of_prime`);
* `psw_16bit` : the part of `Cited.PSW` below 2^16, proved (from the kernel's pass over the odd 16-bit words), so that
  `priIsPrimeW_iff_prime_small` holds without hypotheses.
-/
import Mathlib.Data.Nat.Prime.Basic
import Bee2V.C12.LemmasPri
import Bee2V.C12.LemmasPri16
namespace Bee2V.C12
open Bee2V.Gen.C12

/-! ### the textbook definition -/

/-- `a` is a strong probable prime to the base `b` (meant for odd `a > 2`):
    `a - 1 = r·2^s`, `r` odd, and `b^r ≡ 1` or `b^(r·2^i) ≡ -1 (mod a)` for some `0 ≤ i < s`. -/
def Spec.SPRP (b a : Nat) : Prop :=
  ∃ r s, r % 2 = 1 ∧ r * 2 ^ s = a - 1 ∧ (b ^ r % a = 1 % a ∨ ∃ i, i < s ∧ b ^ (r * 2 ^ i) % a = a - 1)

namespace SprpAux

/-- the decomposition `n = r·2^s` with `r` odd is unique -/
theorem odd_mul_two_pow_inj : ∀ (s s' r r' : Nat), r % 2 = 1 → r' % 2 = 1 → r * 2 ^ s = r' * 2 ^ s' →
    r = r' ∧ s = s'
  | 0, 0, r, r', _, _, h => by simpa using h
  | 0, s' + 1, r, r', hr, _, h => by
    exfalso
    rw [Nat.pow_zero, Nat.mul_one, Nat.pow_succ, ← Nat.mul_assoc] at h
    omega
  | s + 1, 0, r, r', _, hr', h => by
    exfalso
    rw [Nat.pow_zero, Nat.mul_one, Nat.pow_succ, ← Nat.mul_assoc] at h
    omega
  | s + 1, s' + 1, r, r', hr, hr', h => by
    have h' : r * 2 ^ s = r' * 2 ^ s' := by
      rw [Nat.pow_succ, Nat.pow_succ, ← Nat.mul_assoc, ← Nat.mul_assoc] at h
      omega
    have := odd_mul_two_pow_inj s s' r r' hr hr' h'
    omega

/-- one squaring step of the loop shifts the exponent `2^j` to `2^(j+1)` -/
theorem sq_step (x a j : Nat) : (x * x % a) ^ (2 ^ j) % a = x ^ (2 ^ (j + 1)) % a := by
  rw [← Nat.pow_mod, ← Nat.pow_two, ← Nat.pow_mul, ← Nat.pow_succ']

theorem sq_one (x a : Nat) : x ^ (2 ^ 1) % a = x * x % a := by
  rw [Nat.pow_one, Nat.pow_two]

/-- once `x^(2^j') ≡ 1`, all the later squares are `≡ 1` -/
theorem one_later {x a j' j : Nat} (ha : 1 < a) (h : x ^ (2 ^ j') % a = 1) (hj : j' ≤ j) :
    x ^ (2 ^ j) % a = 1 := by
  obtain ⟨d, rfl⟩ : ∃ d, j = j' + d := ⟨j - j', by omega⟩
  rw [Nat.pow_add, Nat.pow_mul, Nat.pow_mod, h, Nat.one_pow, Nat.mod_eq_of_lt ha]

/-- the loop of the model, literally: it leaves with `true` at the first `x_j = a - 1` (`1 ≤ j ≤ k`) provided no
    earlier `x_j'` was `1` -/
theorem sqLoopW_iff_first (a : Nat) : ∀ (k x : Nat), sqLoopW a k x = true ↔
    ∃ j, 1 ≤ j ∧ j ≤ k ∧ x ^ (2 ^ j) % a = a - 1 ∧ ∀ j', 1 ≤ j' → j' < j → x ^ (2 ^ j') % a ≠ 1
  | 0, x => by
    simp only [sqLoopW, Bool.false_eq_true, false_iff]
    rintro ⟨j, h1, h2, _⟩
    omega
  | k + 1, x => by
    rw [sqLoopW]
    split
    · next h =>
      simp only [true_iff]
      exact ⟨1, Nat.le_refl _, by omega, by rw [sq_one]; exact h, fun j' h1 h2 => by omega⟩
    · next hne =>
      split
      · next h1 =>
        simp only [Bool.false_eq_true, false_iff]
        rintro ⟨j, hj1, _, hj, hmin⟩
        by_cases hj' : j = 1
        · subst hj'; rw [sq_one] at hj; exact hne hj
        · exact hmin 1 (Nat.le_refl _) (by omega) (by rw [sq_one]; exact h1)
      · next hne1 =>
        rw [sqLoopW_iff_first a k (x * x % a)]
        constructor
        · rintro ⟨j, hj1, hjk, hj, hmin⟩
          refine ⟨j + 1, by omega, by omega, by rw [← sq_step]; exact hj, ?_⟩
          intro j' h1 h2
          by_cases hj' : j' = 1
          · subst hj'; rw [sq_one]; exact hne1
          · obtain ⟨i, rfl⟩ : ∃ i, j' = i + 1 := ⟨j' - 1, by omega⟩
            rw [← sq_step]
            exact hmin i (by omega) (by omega)
        · rintro ⟨j, hj1, hjk, hj, hmin⟩
          by_cases hj' : j = 1
          · subst hj'; rw [sq_one] at hj; exact absurd hj hne
          · obtain ⟨i, rfl⟩ : ∃ i, j = i + 1 := ⟨j - 1, by omega⟩
            refine ⟨i, by omega, by omega, by rw [sq_step]; exact hj, ?_⟩
            intro j' h1 h2
            rw [sq_step]
            exact hmin (j' + 1) (by omega) (by omega)

/-- for `a > 2` the side condition is automatic (`1 ≠ a - 1`): the loop accepts iff some `x_j = a - 1`, `1 ≤ j ≤ k` -/
theorem sqLoopW_iff (a : Nat) (ha : 2 < a) (k x : Nat) : sqLoopW a k x = true ↔
    ∃ j, 1 ≤ j ∧ j ≤ k ∧ x ^ (2 ^ j) % a = a - 1 := by
  rw [sqLoopW_iff_first]
  constructor
  · rintro ⟨j, h1, h2, h3, _⟩
    exact ⟨j, h1, h2, h3⟩
  · rintro ⟨j, h1, h2, h3⟩
    refine ⟨j, h1, h2, h3, ?_⟩
    intro j' _ hlt h
    have := one_later (by omega : 1 < a) h (Nat.le_of_lt hlt)
    omega

/-- with a decomposition `a - 1 = r·2^s` at hand `SPRP` is the statement about this `r`, `s` -/
theorem sprp_iff_of_decomp (a r s b : Nat) (hr : r % 2 = 1) (hrs : r * 2 ^ s = a - 1) :
    Spec.SPRP b a ↔ (b ^ r % a = 1 % a ∨ ∃ i, i < s ∧ b ^ (r * 2 ^ i) % a = a - 1) := by
  constructor
  · rintro ⟨r', s', hr', hrs', h⟩
    obtain ⟨rfl, rfl⟩ := odd_mul_two_pow_inj s' s r' r hr' hr (hrs'.trans hrs.symm)
    exact h
  · intro h
    exact ⟨r, s, hr, hrs, h⟩

end SprpAux

open SprpAux

/-- a strong probable prime is a Fermat probable prime -/
theorem Spec.SPRP.fermat {b a : Nat} (h : Spec.SPRP b a) (ha : 1 < a) : b ^ (a - 1) % a = 1 := by
  obtain ⟨r, s, _, hrs, h⟩ := h
  rw [← hrs, Nat.pow_mul, Nat.pow_mod]
  rcases h with h | ⟨i, hi, h⟩
  · rw [h, ← Nat.pow_mod, Nat.one_pow, Nat.mod_eq_of_lt ha]
  · refine one_later ha (j' := i + 1) ?_ hi
    rw [← Nat.pow_mod, ← Nat.pow_mul, Nat.pow_succ, ← Nat.mul_assoc, Nat.pow_mul, Nat.pow_mod, h]
    obtain ⟨c, rfl⟩ : ∃ c, a = c + 2 := ⟨a - 2, by omega⟩
    rw [show (c + 2 - 1) ^ 2 = 1 + (c + 2) * c by rw [show c + 2 - 1 = c + 1 from rfl]; ring,
      Nat.add_mul_mod_self_left, Nat.mod_eq_of_lt ha]

/-- a prime is a strong probable prime to every base it does not divide: `b^(r·2^s) ≡ 1` (Fermat), then descend by
    square roots of 1 -/
theorem Spec.sprp_of_prime {a r s b : Nat} (hp : Nat.Prime a) (hr : r % 2 = 1) (hrs : r * 2 ^ s = a - 1)
    (hb : ¬ a ∣ b) : Spec.SPRP b a := by
  refine ⟨r, s, hr, hrs, ?_⟩
  rw [Nat.mod_eq_of_lt hp.one_lt]
  have key : ∀ j, j ≤ s → b ^ (r * 2 ^ j) % a = 1 → b ^ r % a = 1 ∨ ∃ i, i < j ∧ b ^ (r * 2 ^ i) % a = a - 1 := by
    intro j
    induction j with
    | zero => intro _ h; exact Or.inl (by simpa using h)
    | succ j ih =>
      intro hj h
      have hsq : b ^ (r * 2 ^ j) % a * (b ^ (r * 2 ^ j) % a) % a = 1 := by
        rw [← Nat.mul_mod, ← Nat.pow_add, ← Nat.mul_two, Nat.mul_assoc, ← Nat.pow_succ]; exact h
      rcases sqrt_one_of_prime hp (Nat.mod_lt _ hp.pos) hsq with h1 | h1
      · rcases ih (by omega) h1 with h2 | ⟨i, hi, h2⟩
        · exact Or.inl h2
        · exact Or.inr ⟨i, by omega, h2⟩
      · exact Or.inr ⟨j, by omega, h1⟩
  exact key s (Nat.le_refl _) (by rw [hrs]; exact fermat_nat hp hb)

/-! ### one base: the model's pass ⇔ SPRP -/

theorem witnessW_iff_sprp (a r s b : Nat) (ha : 2 < a) (hr : r % 2 = 1) (hrs : r * 2 ^ s = a - 1) (hs : 0 < s) :
    witnessW a r s b = true ↔ Spec.SPRP b a := by
  rw [sprp_iff_of_decomp a r s b hr hrs, Nat.mod_eq_of_lt (by omega : 1 < a)]
  unfold witnessW
  simp only [powMod_eq]
  have hx : ∀ j, (b ^ r % a) ^ (2 ^ j) % a = b ^ (r * 2 ^ j) % a := by
    intro j; rw [← Nat.pow_mod, ← Nat.pow_mul]
  split
  · next h =>
    simp only [true_iff]
    rcases h with h | h
    · exact Or.inl h
    · exact Or.inr ⟨0, hs, by simpa using h⟩
  · next hne =>
    rw [sqLoopW_iff a ha]
    constructor
    · rintro ⟨j, h1, h2, h3⟩
      exact Or.inr ⟨j, by omega, by rw [← hx]; exact h3⟩
    · rintro (h | ⟨i, hi, h⟩)
      · exact absurd (Or.inl h) hne
      · by_cases hi0 : i = 0
        · subst hi0
          exact absurd (Or.inr (by simpa using h)) hne
        · exact ⟨i, by omega, by omega, by rw [hx]; exact h⟩

theorem witnessW_of_prime {a r s b : Nat} (hp : Nat.Prime a) (h2 : 2 < a) (hr : r % 2 = 1) (hrs : r * 2 ^ s = a - 1)
    (hs : 0 < s) (hb : ¬ a ∣ b) : witnessW a r s b = true :=
  (witnessW_iff_sprp a r s b h2 hr hrs hs).2 (Spec.sprp_of_prime hp hr hrs hb)

/-! ### the cited facts (hypotheses, not proved here) -/

/-- Pomerance–Selfridge–Wagstaff 1980: ψ₂ = 1373653 (no composite below it is a strong pseudoprime to 2 and 3) -/
def Cited.PSW : Prop :=
  ∀ a, a % 2 = 1 → 3 < a → a < 1373653 → Spec.SPRP 2 a → Spec.SPRP 3 a → Nat.Prime a

/-- Jaeschke 1993: no composite below 4759123141 is a strong pseudoprime to 2, 7 and 61 -/
def Cited.Jaeschke : Prop :=
  ∀ a, a % 2 = 1 → 3 < a → a < 4759123141 → Spec.SPRP 2 a → Spec.SPRP 7 a → Spec.SPRP 61 a → Nat.Prime a

/-- Sinclair 2011: the 7-base set for 64-bit integers -/
def Cited.Sinclair : Prop :=
  ∀ a, a % 2 = 1 → 3 < a → a < 2 ^ 64 →
    (∀ b ∈ [2, 325, 9375, 28178, 450775, 9780504, 1795265022], Spec.SPRP b a) → Nat.Prime a

/-- what the code uses of Jaeschke's result: only the range where `{2,7,61}` is selected -/
def Cited.JaeschkeRange : Prop :=
  ∀ a, a % 2 = 1 → 1373653 ≤ a → a < 4759123141 → Spec.SPRP 2 a → Spec.SPRP 7 a → Spec.SPRP 61 a → Nat.Prime a

/-- what the code uses of Sinclair's result: only the range where the 7 bases are selected (all bases `< a` there) -/
def Cited.SinclairRange : Prop :=
  ∀ a, a % 2 = 1 → 4759123141 ≤ a → a < 2 ^ 64 →
    (∀ b ∈ [2, 325, 9375, 28178, 450775, 9780504, 1795265022], Spec.SPRP b a) → Nat.Prime a

theorem Cited.Jaeschke.range (h : Cited.Jaeschke) : Cited.JaeschkeRange :=
  fun a h1 h2 h3 => h a h1 (by omega) h3

theorem Cited.Sinclair.range (h : Cited.Sinclair) : Cited.SinclairRange :=
  fun a h1 h2 h3 => h a h1 (by omega) h3

/-! ### all bases: the model's verdict in terms of SPRP -/

namespace SprpAux

/-- acceptance by the model = `a ∈ {2,3}`, or `a > 3` odd and SPRP to every base of the selected set -/
theorem priIsPrimeW_iff_sprp (W a : Nat) (ha : a < 2 ^ W) :
    priIsPrimeW W a = true ↔ a = 2 ∨ a = 3 ∨ (a % 2 = 1 ∧ 3 < a ∧ ∀ b ∈ basesW W a, Spec.SPRP b a) := by
  unfold priIsPrimeW
  split
  · rw [decide_eq_true_eq]; omega
  · next hc =>
    have h3 : 3 < a := by omega
    have hodd : a % 2 = 1 := by omega
    rcases hsp : splitOdd W (a - 1) 0 with ⟨r, s⟩
    obtain ⟨hr, hrs, hs⟩ := splitOdd_spec W a r s hodd (by omega) (by omega) hsp
    simp only [List.all_reverse, List.all_eq_true, witnessW_iff_sprp a r s _ (by omega) hr hrs hs]
    exact ⟨fun h => Or.inr (Or.inr ⟨hodd, h3, h⟩), fun h => by rcases h with h | h | h <;> [omega; omega; exact h.2.2]⟩

theorem prime_of_two_or_three {a : Nat} (h : a = 2 ∨ a = 3) : Nat.Prime a := by
  rcases h with rfl | rfl
  · exact Nat.prime_two
  · exact Nat.prime_three

end SprpAux

theorem priIsPrimeW_of_prime (W a : Nat) (hW : W = 16 ∨ W = 32 ∨ W = 64) (ha : a < 2 ^ W) (hp : Nat.Prime a) :
    priIsPrimeW W a = true := by
  refine (priIsPrimeW_iff_sprp W a ha).2 ?_
  have h2 := hp.two_le
  by_cases h3 : a ≤ 3
  · rcases hp.eq_two_or_odd with h | h <;> omega
  · have hodd : a % 2 = 1 := by rcases hp.eq_two_or_odd with h | h <;> omega
    rcases hsp : splitOdd W (a - 1) 0 with ⟨r, s⟩
    obtain ⟨hr, hrs, _⟩ := splitOdd_spec W a r s hodd (by omega) (by omega) hsp
    refine Or.inr (Or.inr ⟨hodd, by omega, fun b hb => Spec.sprp_of_prime hp hr hrs fun hd => ?_⟩)
    have hbl := basesW_lt W a hW (by omega) b hb
    have := Nat.le_of_dvd hbl.1 hd
    omega

theorem rmLoop_of_prime {a r s : Nat} (hp : Nat.Prime a) (hr : r % 2 = 1) (hrs : r * 2 ^ s = a - 1) (hs : 0 < s) :
    ∀ (iter : Nat) (tape : List Nat), (∀ b ∈ tape, 0 < b ∧ b < a) →
      (rmLoop a r s iter tape).1 = drawsOk a iter tape
  | 0, tape, _ => by simp [rmLoop, drawsOk]
  | iter + 1, tape, ht => by
    rw [rmLoop, drawsOk]
    have hm := drawBase_mem a 16 0 tape
    rcases hd : drawBase a 16 0 tape with ⟨o, t⟩
    rw [hd] at hm
    have ht' : ∀ b ∈ t, 0 < b ∧ b < a := fun b hb => ht b (hm.2 b hb)
    have ih := rmLoop_of_prime hp hr hrs hs iter t ht'
    cases o with
    | none => rfl
    | some b =>
      have hb := ht b (hm.1 b rfl).1
      have hnd : ¬ a ∣ b := fun hdv => by have := Nat.le_of_dvd hb.1 hdv; omega
      simp only [powMod_eq]
      split
      · exact ih
      · next hne =>
        -- the base passes `witnessW`, whose squaring loop is this one
        have ha2 : 2 < a := by have := (hm.1 b rfl).2; omega
        have hw := witnessW_of_prime hp ha2 hr hrs hs hnd
        simp only [witnessW, powMod_eq] at hw
        rw [if_neg (by omega)] at hw
        rw [sqLoopRM_eq_sqLoopW ha2, hw]
        exact ih

/-! ### 16-bit range: the result of Pomerance–Selfridge–Wagstaff below 2^16, from the pass of LemmasPri16 -/

theorem psw_16bit (a : Nat) (hodd : a % 2 = 1) (h3 : 3 < a) (ha : a < 65536) (hs2 : Spec.SPRP 2 a) (hs3 : Spec.SPRP 3 a) :
    Nat.Prime a := by
  have hc := allOdd_spec chk16 _ chk16_all a hodd (by omega) (by omega)
  simp only [chk16, Bool.or_eq_true, Bool.not_eq_true'] at hc
  rcases hc with hc | hc | hc | hc
  · exact absurd (hs2.fermat (by omega)) (Nat.ne_of_beq_eq_false hc)
  · exact (isPrimeTD'_iff_prime a).1 (isPrimeTD'_of_coprime_primorial 256 a (by omega) (by omega) (Nat.eq_of_beq_eq_true hc))
  · exact (isPrimeTD'_iff_prime a).1 hc
  · have hall : ∀ b ∈ basesW 16 a, Spec.SPRP b a := by
      simp only [basesW, if_true, bases16, List.mem_cons, List.not_mem_nil, or_false]
      rintro b (rfl | rfl) <;> assumption
    rw [(priIsPrimeW_iff_sprp 16 a (by omega)).2 (Or.inr (Or.inr ⟨hodd, h3, hall⟩))] at hc
    cases hc

theorem basesW_of_lt (W a : Nat) (h : a < 1373653) : basesW W a = bases16 := by
  unfold basesW
  simp only [h, if_true, ite_self]

/-- on the 16-bit range the model decides `Nat.Prime`, for every word size -/
theorem priIsPrimeW_iff_prime_small (W a : Nat) (hW : W = 16 ∨ W = 32 ∨ W = 64) (ha : a < 65536) :
    priIsPrimeW W a = true ↔ Nat.Prime a := by
  have haW : a < 2 ^ W := by rcases hW with rfl | rfl | rfl <;> omega
  refine ⟨fun h => ?_, priIsPrimeW_of_prime W a hW haW⟩
  rcases (priIsPrimeW_iff_sprp W a haW).1 h with h' | h' | ⟨hodd, hgt, hall⟩
  · exact prime_of_two_or_three (Or.inl h')
  · exact prime_of_two_or_three (Or.inr h')
  · rw [basesW_of_lt W a (by omega)] at hall
    exact psw_16bit a hodd hgt ha (hall 2 (by simp [bases16])) (hall 3 (by simp [bases16]))

/-- composite ⇒ rejected, on the 16-bit range, for every word size -/
theorem priIsPrimeW_rejects_composite_small (W a : Nat) (hW : W = 16 ∨ W = 32 ∨ W = 64) (ha : a < 65536)
    (hc : ¬ Nat.Prime a) : priIsPrimeW W a = false :=
  Bool.eq_false_iff.2 fun h => hc ((priIsPrimeW_iff_prime_small W a hW ha).1 h)

/-! ### MAIN: under the cited facts priIsPrimeW decides primality exactly -/

/-- the strongest form: only the parts of the cited results that the selected branch of `basesW` needs -/
theorem priIsPrimeW_iff_prime_of_cited_range (W a : Nat) (hW : W = 16 ∨ W = 32 ∨ W = 64) (ha : a < 2 ^ W)
    (h1 : Cited.PSW) (h2 : W ≠ 16 → Cited.JaeschkeRange) (h3 : W = 64 → Cited.SinclairRange) :
    priIsPrimeW W a = true ↔ Nat.Prime a := by
  refine ⟨fun h => ?_, priIsPrimeW_of_prime W a hW ha⟩
  rcases (priIsPrimeW_iff_sprp W a ha).1 h with h' | h' | ⟨hodd, hgt, hall⟩
  · exact prime_of_two_or_three (Or.inl h')
  · exact prime_of_two_or_three (Or.inr h')
  · -- by the range of `a`, as `basesW` selects
    by_cases h16 : a < 1373653
    · rw [basesW_of_lt W a h16] at hall
      exact h1 a hodd hgt h16 (hall 2 (by simp [bases16])) (hall 3 (by simp [bases16]))
    · have hW16 : W ≠ 16 := by rintro rfl; omega
      by_cases h32 : a < 4759123141
      · have hb : basesW W a = bases32 := by
          rcases hW with rfl | rfl | rfl <;> simp [basesW, h16, h32] at hW16 ⊢
        rw [hb] at hall
        exact h2 hW16 a hodd (by omega) h32 (hall 2 (by simp [bases32])) (hall 7 (by simp [bases32]))
          (hall 61 (by simp [bases32]))
      · obtain rfl : W = 64 := by rcases hW with rfl | rfl | rfl <;> omega
        have hb : basesW 64 a = bases64 := by simp [basesW, h16, h32]
        rw [hb] at hall
        exact h3 rfl a hodd (by omega) ha hall

/-- MAIN (standard form of the cited facts) -/
theorem priIsPrimeW_iff_prime_of_cited (W a : Nat) (hW : W = 16 ∨ W = 32 ∨ W = 64) (ha : a < 2 ^ W)
    (h1 : Cited.PSW) (h2 : Cited.Jaeschke) (h3 : Cited.Sinclair) :
    priIsPrimeW W a = true ↔ Nat.Prime a :=
  priIsPrimeW_iff_prime_of_cited_range W a hW ha h1 (fun _ => h2.range) (fun _ => h3.range)

/-- 16-bit words: only Pomerance–Selfridge–Wagstaff (`2^16 < 1373653`) -/
theorem priIsPrimeW16_iff_prime_of_PSW (a : Nat) (ha : a < 2 ^ 16) (h1 : Cited.PSW) :
    priIsPrimeW 16 a = true ↔ Nat.Prime a :=
  priIsPrimeW_iff_prime_of_cited_range 16 a (Or.inl rfl) ha h1 (fun h => absurd rfl h) (fun h => by omega)

/-- 32-bit words: PSW and Jaeschke (`2^32 < 4759123141`) -/
theorem priIsPrimeW32_iff_prime_of_cited (a : Nat) (ha : a < 2 ^ 32) (h1 : Cited.PSW) (h2 : Cited.Jaeschke) :
    priIsPrimeW 32 a = true ↔ Nat.Prime a :=
  priIsPrimeW_iff_prime_of_cited_range 32 a (Or.inr (Or.inl rfl)) ha h1 (fun _ => h2.range) (fun h => by omega)

/-! ### non-vacuity -/

/-- 2047 = 23·89 is a strong pseudoprime to the base 2 (2046 = 1023·2, 2^1023 ≡ 1) … -/
example : Spec.SPRP 2 2047 := ⟨1023, 1, by decide, by decide, Or.inl (by decide +kernel)⟩

/-- … and is not one to the base 3 -/
example : ¬ Spec.SPRP 3 2047 := by
  rw [sprp_iff_of_decomp 2047 1023 1 3 (by decide) (by decide)]
  decide +kernel

/-- the same through the model -/
example : ¬ Spec.SPRP 3 2047 := by
  rw [← witnessW_iff_sprp 2047 1023 1 3 (by decide) (by decide) (by decide) (by decide)]
  decide +kernel

/-- 2047 is composite: `Spec.SPRP` to a single base does not imply primality -/
example : ¬ Nat.Prime 2047 := by
  intro h
  have := (Nat.Prime.eq_one_or_self_of_dvd h 23 (by decide))
  omega

/-- the bound of `Cited.PSW` is tight: 1373653 = 829·1657 is a strong pseudoprime to 2 and to 3 -/
example : Spec.SPRP 2 1373653 ∧ Spec.SPRP 3 1373653 := by
  constructor
  · exact (witnessW_iff_sprp 1373653 343413 2 2 (by decide) (by decide) (by decide) (by decide)).1 (by decide +kernel)
  · exact (witnessW_iff_sprp 1373653 343413 2 3 (by decide) (by decide) (by decide) (by decide)).1 (by decide +kernel)

example : ¬ Nat.Prime 1373653 := by
  intro h
  have := (Nat.Prime.eq_one_or_self_of_dvd h 829 (by decide))
  omega

end Bee2V.C12
