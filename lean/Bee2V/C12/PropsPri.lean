import Bee2V.C12.LemmasSprp
/-!
C12 — property theorems for src/math/pri.c (primality tests, next-prime search, Sophie Germain test).
Helper lemmas: LemmasPri / LemmasPri16 / LemmasSprp / LemmasNext.
`Nat.Prime` (Mathlib) is the independent specification.
-/
namespace Bee2V.C12

/-! ### priIsPrimeW — deterministic Miller–Rabin on machine words -/

/-- prime ⇒ accepted, for every word size and every word value (Fermat + the only square roots of 1 mod a prime are ±1). -/
theorem priIsPrimeW_accepts_primes (W a : Nat) (hW : W = 16 ∨ W = 32 ∨ W = 64) (ha : a < 2 ^ W) (hp : Nat.Prime a) :
    priIsPrimeW W a = true := priIsPrimeW_of_prime W a hW ha hp

/-- exact on the 16-bit range (prime ⇒ accepted by Fermat's theorem; composite ⇒ rejected by a kernel-checked pass over all
    odd 16-bit words, LemmasPri16). -/
theorem priIsPrimeW_exact_16bit (W a : Nat) (hW : W = 16 ∨ W = 32 ∨ W = 64) (ha : a < 65536) :
    priIsPrimeW W a = true ↔ Nat.Prime a := priIsPrimeW_iff_prime_small W a hW ha

/-
FULL STATEMENT (not proved): ∀ W ∈ {16,32,64}, a < 2^W, priIsPrimeW W a = true ↔ Nat.Prime a.
The direction composite ⇒ rejected for 65536 ≤ a rests on the exhaustive computations cited in pri.c
(Pomerance–Selfridge–Wagstaff: ψ(2,3) = 1373653; Jaeschke: ψ(2,7,61) = 4759123141; Sinclair's 7 bases for 2^64),
which cannot be re-run in the kernel.  What IS proved: the thresholds are exactly those numbers — the model rejects
them and would accept them with the smaller base set — plus the sampled pseudoprimes below.
-/
theorem priIsPrimeW_iff_prime_partial (W a : Nat) (hW : W = 16 ∨ W = 32 ∨ W = 64) (ha : a < 2 ^ W) :
    (Nat.Prime a → priIsPrimeW W a = true) ∧ (a < 65536 → priIsPrimeW W a = true → Nat.Prime a) :=
  ⟨priIsPrimeW_of_prime W a hW ha, fun h16 h => (priIsPrimeW_iff_prime_small W a hW h16).1 h⟩

/-- the thresholds are tight: 1373653 = ψ(2,3) and 4759123141 = ψ(2,7,61) are rejected by the model, and each WOULD
    pass the smaller base set (so `<` vs `<=` at the thresholds matters). -/
theorem priIsPrimeW_thresholds_tight :
    priIsPrimeW 32 1373653 = false ∧ priIsPrimeW 64 1373653 = false ∧ priIsPrimeW 64 4759123141 = false ∧
    Bee2V.Gen.C12.bases16.all (witnessW 1373653 343413 2) = true ∧
    Bee2V.Gen.C12.bases32.all (witnessW 4759123141 1189780785 2) = true :=
  ⟨spsp_2_3.1, spsp_2_3.2, spsp_2_7_61, spsp_2_3_bases16.2, spsp_2_7_61_bases32.2⟩

/-! ### priRMTest / priIsPrime — Miller–Rabin with the generator's tape -/

/-- prime ⇒ accepted for ANY tape of bases in 1 … a-1: the verdict only depends on the draw budget
    (`drawsOk`: every iteration obtains, within 15 draws, a value different from ±1). -/
theorem priRMTest_accepts_primes (a iter : Nat) (tape : List Nat) (hp : Nat.Prime a) (ht : ∀ b ∈ tape, 0 < b ∧ b < a) :
    priRMTest a iter tape = (decide (a < 49) || drawsOk a iter tape) := by
  unfold priRMTest priRMTestT
  have h2 := hp.two_le
  split
  · next hev =>
    have : a = 2 := ((Nat.prime_dvd_prime_iff_eq Nat.prime_two hp).1 (Nat.dvd_of_mod_eq_zero hev)).symm
    subst this; rfl
  · next hodd =>
    split
    · next hlt =>
      have h3 : a = 3 ∨ a % 3 ≠ 0 := by
        by_cases h : a % 3 = 0
        · left; exact ((Nat.prime_dvd_prime_iff_eq Nat.prime_three hp).1 (Nat.dvd_of_mod_eq_zero h)).symm
        · right; exact h
      have h5 : a = 5 ∨ a % 5 ≠ 0 := by
        by_cases h : a % 5 = 0
        · left; exact ((Nat.prime_dvd_prime_iff_eq Nat.prime_five hp).1 (Nat.dvd_of_mod_eq_zero h)).symm
        · right; exact h
      have h1 : a ≠ 1 := by omega
      simp [hlt, h1, h3, h5]
    · next hge =>
      rcases hsp : splitOdd (bitSize a) (a - 1) 0 with ⟨r, s⟩
      have hf : a - 1 < 2 ^ bitSize a := by have := bitSize_lt a; omega
      obtain ⟨hr, hrs, hs⟩ := splitOdd_spec (bitSize a) a r s (by omega) (by omega) hf hsp
      simp only [rmLoop_of_prime hp hr hrs hs iter tape ht, hge, decide_false, Bool.false_or]

/-- composite ⇒ rejected is NOT a theorem for priRMTest (it is probabilistic): a tape of strong liars fools it. -/
theorem priRMTest_fooled_by_liars : priRMTest 2047 3 [2, 2, 2] = true ∧ ¬ Nat.Prime 2047 := by
  refine ⟨by decide +kernel, ?_⟩
  intro h
  have : (23 : Nat) ∣ 2047 := ⟨89, by decide⟩
  rcases (Nat.dvd_prime h).1 this with h1 | h1 <;> omega

example : priRMTest 1000003 3 [2, 3, 5] = true ∧ priRMTest 1000001 3 [2, 3, 5] = false ∧
    drawsOk 1000003 3 [2, 3, 5] = true := by decide +kernel

/-! ### priNextPrimeW -/

/-- the search returns the least odd number ≥ a of the same bit length that priIsPrimeW accepts, or reports that none
    exists (relative to the model's primality predicate; with `priIsPrimeW_exact_16bit` absolute on the 16-bit range). -/
theorem priNextPrimeW_least (W a : Nat) (ha : a < 2 ^ W) :
    match priNextPrimeW W a with
    | some p => p % 2 = 1 ∧ a ≤ p ∧ bitSize p = bitSize a ∧ priIsPrimeW W p = true ∧
        ∀ x, x % 2 = 1 → a ≤ x → x < p → priIsPrimeW W x = false
    | none => bitSize a ≤ 1 ∨ ∀ x, x % 2 = 1 → a ≤ x → bitSize x = bitSize a → priIsPrimeW W x = false := by
  cases h : priNextPrimeW W a with
  | some p => exact priNextPrimeW_some W a p ha h
  | none => exact priNextPrimeW_none W a ha h

/-- absolute version on the 16-bit range: the least odd prime ≥ a of the same bit length. -/
theorem priNextPrimeW_least_prime_16bit (W a p : Nat) (hW : W = 16 ∨ W = 32 ∨ W = 64) (ha : a < 65536)
    (h : priNextPrimeW W a = some p) :
    Nat.Prime p ∧ a ≤ p ∧ bitSize p = bitSize a ∧ ∀ x, a ≤ x → x < p → Nat.Prime x → x = 2 := by
  have h16 : (65536 : Nat) ≤ 2 ^ W := by rcases hW with rfl | rfl | rfl <;> decide
  obtain ⟨_, hle, hbs, hacc, hall⟩ := priNextPrimeW_some W a p (by omega) h
  have hp16 : p < 65536 := by
    have h1 := bitSize_lt p
    have h2 : 2 ^ bitSize p ≤ 2 ^ 16 := Nat.pow_le_pow_right (by decide) (hbs ▸ bitSize_le_of_lt a 16 (by simpa using ha))
    omega
  refine ⟨(priIsPrimeW_iff_prime_small W p hW hp16).1 hacc, hle, hbs, fun x hax hxp hx => ?_⟩
  rcases hx.eq_two_or_odd with h2 | h2
  · exact h2
  · have := hall x h2 hax hxp
    rw [(priIsPrimeW_iff_prime_small W x hW (by omega)).2 hx] at this
    cases this

/-! ### priIsSGPrime (Demytko) -/

/-- for an odd prime q: priIsSGPrime q ⇔ 2q + 1 is prime (deterministic, both directions). -/
theorem priIsSGPrime_exact (q : Nat) (hq : Nat.Prime q) (hqodd : q % 2 = 1) :
    priIsSGPrime q = true ↔ Nat.Prime (2 * q + 1) :=
  ⟨priIsSGPrime_sound q hq hqodd, priIsSGPrime_of_prime q hq⟩
/-! ### the trial division of LemmasSieve is `Nat.Prime` -/

example : priIsSGPrime 11 = true ∧ priIsSGPrime 13 = false := by decide +kernel

end Bee2V.C12
