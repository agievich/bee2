/-
C12 — the validators of ModelVal / ModelVal2 / ModelEc2 are cascades `if g₁ then e₁ else if g₂ then e₂ … else 0`
with non-zero error codes.  Such a cascade returns 0 exactly when no guard fires: the two lemmas below, used as
rewriting rules, turn `validator … = 0` into the conjunction of the negated guards in the order of the source.
No imports (no Mathlib).
-/
namespace Bee2V.C12

theorem ite_err_eq_zero {c : Prop} [Decidable c] {e x : Nat} (he : e ≠ 0) :
    (if c then e else x) = 0 ↔ ¬ c ∧ x = 0 := by
  split <;> simp [*]

theorem ite_else_err_eq_zero {c : Prop} [Decidable c] {e x : Nat} (he : e ≠ 0) :
    (if c then x else e) = 0 ↔ c ∧ x = 0 := by
  split <;> simp [*]

/-! ERR_BAD_INPUT, ERR_BAD_POINT, ERR_BAD_PARAMS, ERR_BAD_PRIVKEY, ERR_BAD_PUBKEY, ERR_BAD_SEED are not ERR_OK -/

theorem e109 : (109 : Nat) ≠ 0 := by decide
theorem e401 : (401 : Nat) ≠ 0 := by decide
theorem e502 : (502 : Nat) ≠ 0 := by decide
theorem e504 : (504 : Nat) ≠ 0 := by decide
theorem e505 : (505 : Nat) ≠ 0 := by decide
theorem e524 : (524 : Nat) ≠ 0 := by decide

end Bee2V.C12
