import Bee2V.C12.LemmasBridgeC05
import Bee2V.C12.LemmasPp
import Bee2V.C12.PropsEc2
import Bee2V.C05.PropsFld
import Bee2V.C06.LemmasTop3
import Bee2V.C13.PropsKeys
/-!
C12 — irreducibility, unconditional.  `ppIsIrred` of ModelPp.lean is C05's `ppIsIrredV` (LemmasBridgeC05), for which
Bee2V.C05.PropsFld proves Ben-Or in both directions: TRUE ⇔ `NatIrred` ⇔ `Irreducible` over (ZMod 2)[X].
With it the trial-division form (`ppIsIrred_iff_trial_division`, executable as `irredTD`) holds for every degree.
-/
namespace Bee2V.C12
open Bee2V.C05 Bee2V.C05.Fld

/-- ppIsIrred returns TRUE exactly for the irreducible polynomials of GF(2)[x], every degree
    (`NatIrred f`: degree ≥ 1 and every factorisation f = b·c over GF(2) is trivial). -/
theorem ppIsIrred_exact (f : Nat) : ppIsIrred f = true ↔ NatIrred f := by
  rw [ppIsIrred_eq_C05]; exact ppIsIrredV_iff f

/-- `NatIrred f` ⇔ `f` has degree ≥ 1 and no divisor of degree 1 … deg f / 2: of two factors of degree ≥ 1 one has at most
    half the degree (`log2_clmul`: degrees add) -/
theorem natIrred_iff_trial_division (f : Nat) :
    NatIrred f ↔ 2 ≤ f ∧ ∀ d, 2 ≤ d → d < 2 ^ (f.log2 / 2 + 1) → Spec.pmod f d ≠ 0 := by
  have hdiv : ∀ q d, d ≠ 0 → Spec.pmod (Spec.clmul q d) d = 0 := fun q d hd => by
    rw [Pp.pmod_cong hd (y := 0) ⟨q, Nat.xor_zero _⟩, Pp.pmod_of_lt hd (Nat.two_pow_pos _)]
  constructor
  · refine fun h => ⟨natIrred_two_le h, fun d hd hlt hmod => ?_⟩
    rw [Pp.pmod_eq f d (by omega), Pp.xor_eq_zero_iff] at hmod
    rcases h.2 _ d hmod with hq | hd1
    · rw [hq, Pp.one_clmul] at hmod
      have := Nat.log2_self_le (natIrred_ne_zero h)
      have := Nat.pow_le_pow_right (n := 2) (by decide) (show f.log2 / 2 + 1 ≤ f.log2 by have := h.1; omega)
      omega
    · omega
  · rintro ⟨h2, hall⟩
    refine ⟨(Nat.le_log2 (by omega)).2 h2, fun b c hbc => ?_⟩
    have hb : b ≠ 0 := by rintro rfl; rw [Pp.zero_clmul] at hbc; omega
    have hc : c ≠ 0 := by rintro rfl; rw [Pp.clmul_zero] at hbc; omega
    have hlog := Pp.log2_clmul hb hc
    rw [← hbc] at hlog
    by_contra hne
    have hb1 : 1 ≤ b.log2 := (Nat.le_log2 hb).2 (by omega)
    have hc1 : 1 ≤ c.log2 := (Nat.le_log2 hc).2 (by omega)
    -- the factor of smaller degree
    obtain ⟨q, d, hd, hf, hle⟩ : ∃ q d, d ≠ 0 ∧ f = Spec.clmul q d ∧ 1 ≤ d.log2 ∧ d.log2 ≤ f.log2 / 2 := by
      rcases Nat.le_total b.log2 c.log2 with h | h
      · exact ⟨c, b, hb, by rw [hbc, Pp.clmul_comm], hb1, by omega⟩
      · exact ⟨b, c, hc, hbc, hc1, by omega⟩
    refine hall d ((Nat.le_log2 hd).1 hle.1) ?_ (hf ▸ hdiv q d hd)
    exact Nat.lt_of_lt_of_le Nat.lt_log2_self (Nat.pow_le_pow_right (by decide) (by omega))

/-- ppIsIrred decides "degree ≥ 1 and no divisor of degree 1 … deg f / 2", every degree -/
theorem ppIsIrred_iff_trial_division (f : Nat) :
    ppIsIrred f = true ↔ 2 ≤ f ∧ ∀ d, 2 ≤ d → d < 2 ^ (pdeg f / 2 + 1) → pmod f d ≠ 0 := by
  rw [ppIsIrred_exact, natIrred_iff_trial_division]
  refine and_congr_right fun h2 => ?_
  rw [pdeg, BridgeC05.plen_eq f (by omega), Nat.add_sub_cancel]
  simp only [BridgeC05.pmod_eq]

/-- the same against the executable specification `irredTD` of ModelPp.lean -/
theorem ppIsIrred_eq_irredTD (f : Nat) : ppIsIrred f = irredTD f :=
  Bool.eq_iff_iff.2 ((ppIsIrred_iff_trial_division f).trans (irredTD_spec f).symm)

/-- the same against Mathlib's `Irreducible` over (ZMod 2)[X] (`decode`: bit i ↦ coefficient of X^i, a ring isomorphism
    for xor / carry-less product: `Bee2V.C05.decode_ring_iso`). -/
theorem ppIsIrred_irreducible (f : Nat) : ppIsIrred f = true ↔ Irreducible (decode f) := by
  rw [ppIsIrred_eq_C05]; exact ppIsIrredV_iff_irreducible f

/-- belsValM(m0, len) = ERR_OK ⇔ len ∈ {16, 24, 32} and x^(8 len) + m0(x) is irreducible over GF(2);
    ERR_BAD_INPUT ⇔ wrong length; ERR_BAD_PUBKEY otherwise. -/
theorem belsValM_exact (m0 len : Nat) :
    (belsValM m0 len = 0 ↔ (len = 16 ∨ len = 24 ∨ len = 32) ∧ Irreducible (decode (2 ^ (8 * len) + m0 % 2 ^ (8 * len)))) ∧
    (belsValM m0 len = 109 ↔ ¬ (len = 16 ∨ len = 24 ∨ len = 32)) := by
  have hl : (len ≠ 16 ∧ len ≠ 24 ∧ len ≠ 32) ↔ ¬ (len = 16 ∨ len = 24 ∨ len = 32) := by omega
  unfold belsValM
  refine ⟨by simp only [ite_err_eq_zero e109, ite_else_err_eq_zero e505, hl, Classical.not_not, and_true,
    ppIsIrred_irreducible], ?_⟩
  rw [← hl]
  by_cases h : len ≠ 16 ∧ len ≠ 24 ∧ len ≠ 32
  · rw [if_pos h]; exact ⟨fun _ => h, fun _ => rfl⟩
  · rw [if_neg h]; split <;> simp [h]

/-- the field check of dstuParamsVal (gf2IsValid inside ec2IsValid) in absolute form: dstuParamsVal = ERR_OK ⇔ … ∧ the
    reduction polynomial is irreducible over GF(2) ∧ … (the other conditions as in `dstuParamsVal_ok_iff`). -/
theorem dstuParamsVal_ok_iff_irreducible (isPrime : Nat → Bool) (W : Nat) (v : DstuVals) :
    dstuParamsValV isPrime W v = 0 ↔
      ∃ E, dstuCreate W v = some E ∧
        160 < bitSize (v.n % 2 ^ (W * wordSize W (2 ^ v.p0 - 1))) ∧
        Irreducible (decode E.F.mod) ∧ v.B ≠ 0 ∧
        E.onCurve v.xP v.yP = true ∧ hasse2 W (wordSize W (2 ^ v.p0 - 1)) v.p0 v.n v.c = true ∧
        ec2IsSafeGroup isPrime v.p0 v.n 32 = true ∧
        E.mul (v.n % 2 ^ (W * wordSize W (2 ^ v.p0 - 1))) (some (v.xP, v.yP)) = none := by
  rw [dstuParamsVal_ok_iff]
  constructor
  · rintro ⟨E, h1, h2, h3, h4⟩; exact ⟨E, h1, h2, (ppIsIrred_irreducible _).1 h3, h4⟩
  · rintro ⟨E, h1, h2, h3, h4⟩; exact ⟨E, h1, h2, (ppIsIrred_irreducible _).2 h3, h4⟩

/-- non-vacuity: the standard bels polynomial x^128 + x^7 + x^2 + x + 1 and the reduction polynomial of the first
    DSTU curve x^163 + x^7 + x^6 + x^3 + 1 are irreducible; x^4 + x^2 + 1 is not -/
example : NatIrred (2 ^ 128 + 0x87) ∧ NatIrred (2 ^ 163 + 2 ^ 7 + 2 ^ 6 + 2 ^ 3 + 1) ∧ ¬ NatIrred 0b10101 :=
  ⟨Bee2V.C13.natIrred_std16, Bee2V.C06.natIrred_163, by decide +kernel⟩

/- In this statement `2 ^ _` is core's power on `Nat`, as in the Mathlib-free files (`irredTD_spec` states the right-hand
   side there), not Mathlib's `Monoid.npow`.  A default instance cannot be set locally: the theorem comes last. -/
attribute [default_instance 10000] instPowNat

attribute [local instance 10000] instPowNat in
theorem ppIsIrred_enumerated_le11 (f : Nat) (hf : f < 2 ^ (11 + 1)) :
    ppIsIrred f = true ↔ 2 ≤ f ∧ ∀ d, 2 ≤ d → d < 2 ^ (pdeg f / 2 + 1) → pmod f d ≠ 0 :=
  ppIsIrred_iff_trial_division f

end Bee2V.C12
