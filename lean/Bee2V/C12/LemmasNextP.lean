/-
C12 — priNextPrime (multi-word): the incremental sieve `stepMods` keeps the residues of the candidate exact,
the search loop returns an odd candidate ≥ a of the same bit length that passes the sieve (adjusted base count)
and the Miller–Rabin test on the tape at that point; every earlier candidate was rejected by the sieve or by
priRMTestT.  No Mathlib.
-/
import Bee2V.C12.ModelPri
import Bee2V.C12.LemmasSieve
import Bee2V.C12.LemmasNext
namespace Bee2V.C12
open Bee2V.Gen.C12

namespace NextPAux

/-- residues of p modulo base[s], …, base[s+k-1] -/
def res (p s k : Nat) : List Nat := (List.range' s k).map (fun i => p % base[i]!)

theorem res_succ (p s k : Nat) : res p s (k + 1) = (p % base[s]!) :: res p (s + 1) k := by
  simp [res, List.range'_succ]

theorem res_zero_eq (p bc : Nat) : res p 0 bc = (List.range bc).map (fun i => p % base[i]!) := by
  simp [res, List.range_eq_range']

/-- one entry of the incremental update -/
theorem step_one (p b : Nat) (hb : 3 ≤ b) :
    (p + 2) % b = if p % b < b - 2 then p % b + 2 else if p % b = b - 1 then 1 else 0 := by
  have hlt := Nat.mod_lt p (show 0 < b by omega)
  rw [Nat.add_mod, Nat.mod_eq_of_lt (show 2 < b by omega)]
  generalize p % b = m at *
  split
  · exact Nat.mod_eq_of_lt (by omega)
  · split
    · next h =>
      rw [h, show b - 1 + 2 = 1 + b by omega, Nat.add_mod_right]
      exact Nat.mod_eq_of_lt (by omega)
    · have : m + 2 = b := by omega
      rw [this, Nat.mod_self]

theorem stepMods_gen (p : Nat) : ∀ (k s : Nat), s + k ≤ 1024 →
    stepMods (res p s k) s = (res (p + 2) s k, (res (p + 2) s k).all (fun x => decide (x ≠ 0))) := by
  intro k
  induction k with
  | zero => intro s _; simp [res, stepMods]
  | succ k ih =>
    intro s hs
    have hb := base_ge_3 s (by omega)
    rw [res_succ, res_succ, stepMods, ih (s + 1) (by omega)]
    simp only [List.all_cons]
    rw [step_one p _ hb]
    have hlt := Nat.mod_lt p (show 0 < base[s]! by omega)
    generalize p % base[s]! = m at hlt ⊢
    generalize base[s]! = b at hb hlt ⊢
    by_cases h1 : m < b - 2
    · simp [h1]
    · by_cases h2 : m = b - 1
      · have h1' : ¬ b - 1 < b - 2 := by omega
        simp [h2, h1']
      · simp [h1, h2]

theorem res_all_iff (p bc : Nat) :
    (res p 0 bc).all (fun x => decide (x ≠ 0)) = true ↔ ∀ i, i < bc → p % base[i]! ≠ 0 := by
  simp only [res, List.all_eq_true, List.mem_map, List.mem_range'_1, decide_eq_true_eq,
    forall_exists_index, and_imp]
  constructor
  · intro h i hi; exact h _ i (Nat.zero_le _) (by omega) rfl
  · intro h x i _ hi hx; subst hx; exact h i (by omega)

theorem bitSize_mono (a b : Nat) (h : a ≤ b) : bitSize a ≤ bitSize b :=
  bitSize_le_of_lt a _ (Nat.lt_of_le_of_lt h (bitSize_lt b))

/-- the adjustment of priNextPrime (`>=`): the dropped primes are ≥ a … -/
theorem adjustT_dropped (a : Nat) (bc i : Nat) (h1 : adjustBaseCount a true bc ≤ i) (h2 : i < bc) : a ≤ base[i]! := by
  have := SieveAux.adjust_dropped_gen a true bc i h1 h2
  omega

/-- … and the kept ones are < a (the table is increasing) -/
theorem adjustT_kept (a : Nat) : ∀ bc, bc ≤ 1024 → ∀ i, i < adjustBaseCount a true bc → base[i]! < a := by
  intro bc hbc i h
  have := SieveAux.adjust_kept_gen a true bc hbc i h
  have := this.2 rfl
  omega

end NextPAux

open NextPAux

/-- `stepMods`: from the residues of p to the residues of p + 2; the flag = "no residue is 0" -/
theorem stepMods_spec (p bc : Nat) (hbc : bc ≤ 1024) :
    stepMods ((List.range bc).map (fun i => p % base[i]!)) 0 =
      ((List.range bc).map (fun i => (p + 2) % base[i]!),
       ((List.range bc).map (fun i => (p + 2) % base[i]!)).all (fun x => decide (x ≠ 0))) := by
  rw [← res_zero_eq, ← res_zero_eq]
  exact stepMods_gen p bc 0 (by omega)

example : stepMods [1 % 3, 1 % 5, 1 % 7] 0 = ([0, 3, 3], false) ∧ stepMods [0, 3, 3] 0 = ([2, 0, 5], false) ∧
    stepMods [2, 0, 5] 0 = ([1, 2, 0], false) := by decide +kernel

/-- the search loop, started in a state where `mods` are the residues of p and `ok` says that none is 0:
    a returned p' = p + 2j stays inside the array and the bit length, passes the sieve and priRMTestT on some tape
    (the tape at that point); each earlier candidate was divisible by a base prime or rejected by priRMTestT;
    at most `trials` candidates are looked at. -/
theorem nextLoop_some (nW l iter bc : Nat) (hbc : bc ≤ 1024) :
    ∀ (fuel : Nat) (trials : Option Nat) (p : Nat) (tape : List Nat) (p' : Nat),
    p < 2 ^ nW → bitSize p ≤ l →
    nextLoop nW l iter fuel trials p (res p 0 bc) ((res p 0 bc).all (fun x => decide (x ≠ 0))) tape = some p' →
    ∃ j, p' = p + 2 * j ∧ (∀ n, trials = some n → j < n) ∧ p' < 2 ^ nW ∧ bitSize p' ≤ l ∧
      (∀ i, i < bc → p' % base[i]! ≠ 0) ∧ (∃ tape', (priRMTestT p' iter tape').1 = true) ∧
      ∀ k, k < j → (∃ i, i < bc ∧ (p + 2 * k) % base[i]! = 0) ∨
        ∃ tape'', (priRMTestT (p + 2 * k) iter tape'').1 = false := by
  intro fuel
  induction fuel with
  | zero => intro trials p tape p' _ _ h; simp [nextLoop] at h
  | succ fuel ih =>
    intro trials p tape p' hp hb h
    rw [nextLoop] at h
    by_cases ht : trials = some 0
    · simp [ht] at h
    · rw [if_neg ht] at h
      -- the continuation after a rejected candidate
      have cont : ∀ tape1,
          (∃ i, i < bc ∧ p % base[i]! = 0) ∨ (∃ tape'', (priRMTestT p iter tape'').1 = false) →
          (if p + 2 ≥ 2 ^ nW ∨ bitSize (p + 2) > l then none
            else
              match stepMods (res p 0 bc) 0 with
              | (mods', ok') => nextLoop nW l iter fuel (trials.map (· - 1)) (p + 2) mods' ok' tape1) = some p' →
          ∃ j, p' = p + 2 * j ∧ (∀ n, trials = some n → j < n) ∧ p' < 2 ^ nW ∧ bitSize p' ≤ l ∧
            (∀ i, i < bc → p' % base[i]! ≠ 0) ∧ (∃ tape', (priRMTestT p' iter tape').1 = true) ∧
            ∀ k, k < j → (∃ i, i < bc ∧ (p + 2 * k) % base[i]! = 0) ∨
              ∃ tape'', (priRMTestT (p + 2 * k) iter tape'').1 = false := by
        intro tape1 hrej h1
        by_cases hout : p + 2 ≥ 2 ^ nW ∨ bitSize (p + 2) > l
        · rw [if_pos hout] at h1; simp at h1
        · rw [if_neg hout, stepMods_gen p bc 0 (by omega)] at h1
          simp only at h1
          obtain ⟨j, hj, htr, h2, h3, h4, h5, h6⟩ := ih _ (p + 2) tape1 p' (by omega) (by omega) h1
          refine ⟨j + 1, by omega, ?_, h2, h3, h4, h5, ?_⟩
          · intro n hn
            subst hn
            have := htr (n - 1) rfl
            have : n ≠ 0 := fun h0 => ht (by rw [h0])
            omega
          · intro k hk
            cases k with
            | zero => simpa using hrej
            | succ k =>
              have := h6 k (by omega)
              rwa [show p + 2 + 2 * k = p + 2 * (k + 1) by omega] at this
      cases hok : (res p 0 bc).all (fun x => decide (x ≠ 0))
      · -- the sieve rejects p
        rw [hok] at h
        simp only [Bool.false_eq_true, if_false] at h
        have hrej : ∃ i, i < bc ∧ p % base[i]! = 0 := by
          apply Classical.byContradiction
          intro hno
          have : (res p 0 bc).all (fun x => decide (x ≠ 0)) = true :=
            (res_all_iff p bc).2 (fun i hi hz => hno ⟨i, hi, hz⟩)
          rw [hok] at this
          exact Bool.false_ne_true this
        exact cont tape (Or.inl hrej) h
      · rw [hok] at h
        simp only [if_true] at h
        rcases hrm : priRMTestT p iter tape with ⟨pass, tape1⟩
        rw [hrm] at h
        simp only at h
        cases pass
        · simp only [Bool.false_eq_true, if_false] at h
          exact cont tape1 (Or.inr ⟨tape, by rw [hrm]⟩) h
        · simp only [if_true, Option.some.injEq] at h
          subst h
          refine ⟨0, rfl, ?_, hp, hb, (res_all_iff p bc).1 hok, ⟨tape, by rw [hrm]⟩, fun k hk => by omega⟩
          intro n hn
          have : n ≠ 0 := fun h0 => ht (by rw [hn, h0])
          omega

/-- the form of the brief: `mods`, `ok` given by the invariant -/
theorem nextLoop_spec (nW l iter bc fuel : Nat) (trials : Option Nat) (p : Nat) (mods : List Nat) (ok : Bool)
    (tape : List Nat) (p' : Nat) (hbc : bc ≤ 1024) (hp : p < 2 ^ nW) (hb : bitSize p ≤ l)
    (hmods : mods = (List.range bc).map (fun i => p % base[i]!))
    (hok : ok = mods.all (fun x => decide (x ≠ 0)))
    (h : nextLoop nW l iter fuel trials p mods ok tape = some p') :
    p ≤ p' ∧ (p' - p) % 2 = 0 ∧ p' < 2 ^ nW ∧ bitSize p' ≤ l ∧ (∀ i, i < bc → p' % base[i]! ≠ 0) ∧
      (∃ tape', (priRMTestT p' iter tape').1 = true) ∧
      (∀ n, trials = some n → p' < p + 2 * n) ∧
      ∀ x, p ≤ x → x < p' → (x - p) % 2 = 0 →
        (∃ i, i < bc ∧ x % base[i]! = 0) ∨ ∃ tape'', (priRMTestT x iter tape'').1 = false := by
  subst hok
  rw [← res_zero_eq] at hmods
  subst hmods
  obtain ⟨j, hj, htr, h2, h3, h4, h5, h6⟩ := nextLoop_some nW l iter bc hbc fuel trials p tape p' hp hb h
  refine ⟨by omega, by omega, h2, h3, h4, h5, ?_, ?_⟩
  · intro n hn; have := htr n hn; omega
  · intro x hx1 hx2 hx3
    have e : p + 2 * ((x - p) / 2) = x := by omega
    have hk : (x - p) / 2 < j := by omega
    have := h6 ((x - p) / 2) hk
    rwa [e] at this

/-- `priNextPrime … = some p`: p is odd, a ≤ p, of the bit length of a, no prime of the (adjusted) factor base divides
    it, it passes priRMTestT with `iter` rounds on some tape, and every odd x with a ≤ x < p was rejected by the
    sieve or by priRMTestT.  (Primality of p is not claimed: `priRMTest_accepts_primes` gives the converse direction.) -/
theorem priNextPrime_spec (W n a : Nat) (trials : Option Nat) (baseCount iter : Nat) (tape : List Nat) (fuel p : Nat)
    (hW : W = 16 ∨ W = 32 ∨ W = 64) (hbc : baseCount ≤ 1024) (ha : a < 2 ^ (n * W))
    (h : priNextPrime W n a trials baseCount iter tape fuel = some p) :
    let bc := if bitSize a ≤ W then adjustBaseCount (a ||| 1) true baseCount else baseCount
    2 ≤ bitSize a ∧ p % 2 = 1 ∧ a ≤ p ∧ p < 2 ^ (n * W) ∧ bitSize p = bitSize a ∧
      (∀ i, i < bc → p % base[i]! ≠ 0) ∧ (∃ tape', (priRMTestT p iter tape').1 = true) ∧
      (∀ t, trials = some t → p < (a ||| 1) + 2 * t) ∧
      ∀ x, x % 2 = 1 → a ≤ x → x < p →
        (∃ i, i < bc ∧ x % base[i]! = 0) ∨ ∃ tape'', (priRMTestT x iter tape'').1 = false := by
  intro bc
  unfold priNextPrime at h
  simp only at h
  by_cases hl : bitSize a ≤ 1
  · rw [if_pos hl] at h; simp at h
  · rw [if_neg hl] at h
    have hl2 : 2 ≤ bitSize a := by omega
    have hbs := bitSize_or_one a hl2
    have hbcle : bc ≤ 1024 := by
      show (if bitSize a ≤ W then adjustBaseCount (a ||| 1) true baseCount else baseCount) ≤ 1024
      split
      · exact Nat.le_trans (SieveAux.adjust_le _ _ _) hbc
      · exact hbc
    have hp0 : a ||| 1 < 2 ^ (n * W) := by
      have h1 : a ||| 1 < 2 ^ bitSize a := hbs ▸ bitSize_lt (a ||| 1)
      have h2 : 2 ^ bitSize a ≤ 2 ^ (n * W) := Nat.pow_le_pow_right (by decide) (bitSize_le_of_lt a _ ha)
      omega
    have hmods := priBaseMod_spec W (a ||| 1) bc hW hbcle
    obtain ⟨h1, h2, h3, h4, h5, h6, h7, h8⟩ :=
      nextLoop_spec (n * W) (bitSize a) iter bc fuel trials (a ||| 1) _ _ tape p hbcle hp0 (by omega) hmods rfl h
    have ho := or_one_eq a
    have hodd : (a ||| 1) % 2 = 1 := by rw [Nat.or_mod_two_eq_one]; right; rfl
    have hap : a ≤ p := by split at ho <;> omega
    refine ⟨hl2, by omega, hap, h3, ?_, h5, h6, h7, ?_⟩
    · have := bitSize_mono a p hap
      omega
    · intro x hx hax hxp
      have hge : a ||| 1 ≤ x := by split at ho <;> omega
      exact h8 x hge hxp (by omega)

/-- the adjusted base count made explicit: when a fits a word, exactly the base primes < a | 1 are sieved -/
theorem priNextPrime_sieved (W n a : Nat) (trials : Option Nat) (baseCount iter : Nat) (tape : List Nat) (fuel p : Nat)
    (hW : W = 16 ∨ W = 32 ∨ W = 64) (hbc : baseCount ≤ 1024) (ha : a < 2 ^ (n * W))
    (h : priNextPrime W n a trials baseCount iter tape fuel = some p) :
    ∀ i, i < baseCount → (bitSize a ≤ W → base[i]! < a ||| 1) → p % base[i]! ≠ 0 := by
  have hs := (priNextPrime_spec W n a trials baseCount iter tape fuel p hW hbc ha h).2.2.2.2.2.1
  intro i hi hlt
  apply hs i
  by_cases hw : bitSize a ≤ W
  · rw [if_pos hw]
    apply Classical.byContradiction
    intro hnot
    have := adjustT_dropped (a ||| 1) baseCount i (by omega) hi
    have := hlt hw
    omega
  · rw [if_neg hw]; exact hi

/-- non-vacuity: one-word values (adjusted base) and a two-word value; tape of bases 2, 3, 5, … -/
example : priNextPrime 16 1 90 none 10 2 [2, 3, 5, 7, 11, 13] 100 = some 97 ∧
    priNextPrime 16 1 24 (some 2) 10 2 [2, 3, 5, 7] 100 = none ∧
    priNextPrime 16 2 70000 none 10 2 [2, 3, 5, 7, 11, 13, 17, 19] 100 = some 70001 := by decide +kernel

end Bee2V.C12
