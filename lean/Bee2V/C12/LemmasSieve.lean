/-
C12 — facts about the GENERATED factor-base tables of pri.c (Gen/C12Tables.lean; re-checked by the kernel
whenever the tables change) and the specification of priBaseMod / priIsSieved derived from them.  No Mathlib.
-/
import Bee2V.C12.ModelPri
namespace Bee2V.C12
open Bee2V.Gen.C12

/-! ### an independent trial-division primality test -/

/-- try d, d + 1, … while d² ≤ n -/
def sieveTdLoop (n : Nat) : Nat → Nat → Bool
  | 0, _ => true
  | fuel + 1, d => if d * d > n then true else if n % d = 0 then false else sieveTdLoop n fuel (d + 1)

def isPrimeTD' (n : Nat) : Bool := decide (2 ≤ n) && sieveTdLoop n n 2

theorem sieveTdLoop_iff (n : Nat) : ∀ fuel d, n < (d + fuel) * (d + fuel) →
    (sieveTdLoop n fuel d = true ↔ ∀ e, d ≤ e → e * e ≤ n → n % e ≠ 0) := by
  intro fuel
  induction fuel with
  | zero =>
    intro d h
    simp only [sieveTdLoop, true_iff]
    intro e he hee
    have := Nat.mul_le_mul he he
    simp only [Nat.add_zero] at h
    omega
  | succ fuel ih =>
    intro d h
    simp only [sieveTdLoop]
    by_cases h1 : d * d > n
    · simp only [h1, if_true, true_iff]
      intro e he hee
      have := Nat.mul_le_mul he he
      omega
    · rw [if_neg h1]
      by_cases h2 : n % d = 0
      · simp only [h2, if_true, Bool.false_eq_true, false_iff]
        intro hall
        exact hall d (Nat.le_refl d) (by omega) h2
      · rw [if_neg h2, ih (d + 1) (by rw [Nat.add_assoc, Nat.add_comm 1 fuel]; exact h)]
        constructor
        · intro hall e he hee
          by_cases hed : e = d
          · subst hed; exact h2
          · exact hall e (by omega) hee
        · intro hall e he hee
          exact hall e (by omega) hee

/-- `isPrimeTD' n` ⇔ n ≥ 2 has no divisor d with 2 ≤ d < n -/
theorem isPrimeTD'_iff (n : Nat) : isPrimeTD' n = true ↔ 2 ≤ n ∧ ∀ d, 2 ≤ d → d < n → n % d ≠ 0 := by
  have hfuel : n < (2 + n) * (2 + n) := by
    have : (2 + n) * 1 ≤ (2 + n) * (2 + n) := Nat.mul_le_mul_left _ (by omega)
    omega
  simp only [isPrimeTD', Bool.and_eq_true, decide_eq_true_eq, sieveTdLoop_iff n n 2 hfuel]
  constructor
  · rintro ⟨h2, hall⟩
    refine ⟨h2, ?_⟩
    intro d hd2 hdn hmod
    by_cases hdd : d * d ≤ n
    · exact hall d hd2 hdd hmod
    · -- the cofactor k = n / d is a divisor with k² ≤ n
      have hk : n = d * (n / d) := by
        have := Nat.div_add_mod n d
        omega
      have hkd : n / d < d := by
        apply (Nat.div_lt_iff_lt_mul (by omega)).2
        omega
      have hk2 : 2 ≤ n / d := by
        generalize n / d = k at hk
        rcases Nat.lt_or_ge k 2 with hlt | hge
        · have h01 : k = 0 ∨ k = 1 := by omega
          rcases h01 with h0 | h1
          · rw [h0] at hk; omega
          · rw [h1] at hk; omega
        · exact hge
      have hkk : (n / d) * (n / d) ≤ n := by
        have : (n / d) * (n / d) ≤ d * (n / d) := Nat.mul_le_mul_right _ (by omega)
        omega
      have hkm : n % (n / d) = 0 := by
        apply Nat.mod_eq_zero_of_dvd
        exact ⟨d, by rw [Nat.mul_comm]; exact hk⟩
      exact hall (n / d) hk2 hkk hkm
  · rintro ⟨h2, hall⟩
    refine ⟨h2, ?_⟩
    intro e he hee
    apply hall e he
    have : 2 * e ≤ e * e := Nat.mul_le_mul_right _ he
    omega

example : isPrimeTD' 8167 = true ∧ isPrimeTD' 8165 = false := by decide +kernel

/-! ### the product of the primes below N: for n < N² trial division is one gcd -/

/-- the product of the numbers below `N` that pass trial division -/
def primorial (N : Nat) : Nat := ((List.range N).filter isPrimeTD').prod

namespace SieveAux

theorem dvd_prod_of_mem {p : Nat} : ∀ {l : List Nat}, p ∈ l → p ∣ l.prod
  | a :: l, h => by
    rw [List.prod_cons]
    rcases List.mem_cons.1 h with rfl | h
    · exact Nat.dvd_mul_right _ _
    · exact Nat.dvd_trans (dvd_prod_of_mem h) (Nat.dvd_mul_left _ _)

theorem coprime_prod {n : Nat} : ∀ {l : List Nat}, (∀ p ∈ l, Nat.gcd n p = 1) → Nat.gcd n l.prod = 1
  | [], _ => Nat.gcd_one_right n
  | a :: l, h => by
    rw [List.prod_cons]
    exact Nat.Coprime.mul_right (h a List.mem_cons_self) (coprime_prod fun p hp => h p (List.mem_cons_of_mem _ hp))

/-- every e ≥ 2 has a divisor that passes trial division (its least divisor ≥ 2) -/
theorem exists_td_dvd (e : Nat) (h2 : 2 ≤ e) : ∃ p, isPrimeTD' p = true ∧ p ∣ e := by
  induction e using Nat.strongRecOn with
  | _ e ih =>
    by_cases hp : isPrimeTD' e = true
    · exact ⟨e, hp, Nat.dvd_refl e⟩
    · rw [isPrimeTD'_iff] at hp
      have : ∃ d, 2 ≤ d ∧ d < e ∧ e % d = 0 :=
        Classical.byContradiction fun hno => hp ⟨h2, fun d h1 h3 h4 => hno ⟨d, h1, h3, h4⟩⟩
      obtain ⟨d, h1, h3, h4⟩ := this
      obtain ⟨p, hp1, hp2⟩ := ih d h3 h1
      exact ⟨p, hp1, Nat.dvd_trans hp2 (Nat.dvd_of_mod_eq_zero h4)⟩

end SieveAux

/-- n < N² coprime to the primes below N passes trial division … -/
theorem isPrimeTD'_of_coprime_primorial (N n : Nat) (h2 : 2 ≤ n) (hn : n < N * N) (hg : Nat.gcd n (primorial N) = 1) :
    isPrimeTD' n = true := by
  have hfuel : n < (2 + n) * (2 + n) := Nat.lt_of_lt_of_le (by omega) (Nat.le_mul_self _)
  simp only [isPrimeTD', Bool.and_eq_true, decide_eq_true_eq, sieveTdLoop_iff n n 2 hfuel]
  refine ⟨h2, fun e he hee hmod => ?_⟩
  obtain ⟨p, hp, hpe⟩ := SieveAux.exists_td_dvd e he
  have hpN : p < N := by
    have := Nat.le_of_dvd (by omega) hpe
    have := Nat.mul_self_le_mul_self this
    apply Classical.byContradiction
    intro h
    have := Nat.mul_self_le_mul_self (Nat.le_of_not_lt h)
    omega
  have hd : p ∣ Nat.gcd n (primorial N) := Nat.dvd_gcd (Nat.dvd_trans hpe (Nat.dvd_of_mod_eq_zero hmod))
    (SieveAux.dvd_prod_of_mem (List.mem_filter.2 ⟨List.mem_range.2 hpN, hp⟩))
  rw [hg, Nat.dvd_one] at hd
  rw [hd] at hp
  cases hp

/-- … and an n ≥ N that passes trial division is coprime to them -/
theorem coprime_primorial_of_isPrimeTD' (N n : Nat) (hN : N ≤ n) (hp : isPrimeTD' n = true) :
    Nat.gcd n (primorial N) = 1 := by
  obtain ⟨h2, hd⟩ := (isPrimeTD'_iff n).1 hp
  refine SieveAux.coprime_prod fun p hm => ?_
  obtain ⟨hpN, hpp⟩ := List.mem_filter.1 hm
  have hp2 := ((isPrimeTD'_iff p).1 hpp).1
  have hgp : Nat.gcd n p ∣ p := Nat.gcd_dvd_right n p
  have hgn := Nat.mod_eq_zero_of_dvd (Nat.gcd_dvd_left n p)
  have hle := Nat.le_of_dvd (by omega) hgp
  have := List.mem_range.1 hpN
  apply Classical.byContradiction
  intro h1
  have h0 : Nat.gcd n p ≠ 0 := fun h => by rw [h] at hgp; have := Nat.eq_zero_of_zero_dvd hgp; omega
  exact hd (Nat.gcd n p) (by omega) (by omega) hgn

/-! ### C1: `_base[]` is exactly the list of the first 1024 odd primes -/

theorem base_size : base.size = 1024 := by decide +kernel

/-- the table = the increasing list of all n in [3, 8167] that pass trial division; what the kernel evaluates: of all n
    coprime to the primes below 91 (91² > 8167) or, below 91, passing trial division -/
theorem base_eq : base.toList = (List.range 8168).filter (fun n => decide (3 ≤ n) && isPrimeTD' n) := by
  have hk : base.toList = (List.range 8168).filter (fun n => Nat.ble 3 n &&
      (Nat.beq (Nat.gcd n (primorial 91)) 1 || (Nat.blt n 91 && isPrimeTD' n))) := by decide +kernel
  rw [hk]
  refine List.filter_congr fun n hn => ?_
  have hn := List.mem_range.1 hn
  rw [Bool.eq_iff_iff]
  simp only [Bool.and_eq_true, Bool.or_eq_true, Nat.ble_eq, Nat.blt_eq, decide_eq_true_eq]
  refine and_congr_right fun h3 => ⟨?_, fun hp => ?_⟩
  · rintro (hg | ⟨_, hp⟩)
    · exact isPrimeTD'_of_coprime_primorial 91 n (by omega) (by omega) (Nat.eq_of_beq_eq_true hg)
    · exact hp
  · by_cases h91 : n < 91
    · exact Or.inr ⟨h91, hp⟩
    · exact Or.inl (by rw [coprime_primorial_of_isPrimeTD' 91 n (by omega) hp]; rfl)

theorem base_mem_iff (n : Nat) : n ∈ base.toList ↔ 3 ≤ n ∧ n ≤ 8167 ∧ isPrimeTD' n = true := by
  rw [base_eq]
  simp only [List.mem_filter, List.mem_range, Bool.and_eq_true, decide_eq_true_eq]
  constructor
  · rintro ⟨h1, h2, h3⟩; exact ⟨h2, by omega, h3⟩
  · rintro ⟨h1, h2, h3⟩; exact ⟨by omega, h1, h3⟩

theorem base_sorted_list : base.toList.Pairwise (· < ·) := by
  rw [base_eq]
  exact List.Pairwise.filter _ List.pairwise_lt_range

theorem base_getElem! (i : Nat) (h : i < 1024) : base[i]! = base.toList[i]'(by simpa [base_size] using h) := by
  have h' : i < base.size := by rw [base_size]; exact h
  rw [getElem!_pos base i h', Array.getElem_toList]

/-- strictly increasing -/
theorem base_sorted (i j : Nat) (hij : i < j) (hj : j < 1024) : base[i]! < base[j]! := by
  rw [base_getElem! i (by omega), base_getElem! j hj]
  exact (List.pairwise_iff_getElem.1 base_sorted_list) i j _ _ hij

/-- every entry passes trial division -/
theorem base_all_prime (i : Nat) (h : i < 1024) : isPrimeTD' base[i]! = true := by
  rw [base_getElem! i h]
  exact ((base_mem_iff _).1 (List.getElem_mem _)).2.2

/-- every n in [3, 8167] that passes trial division occurs in the table -/
theorem base_complete (n : Nat) (h3 : 3 ≤ n) (hn : n ≤ 8167) (hp : isPrimeTD' n = true) :
    ∃ i, i < 1024 ∧ base[i]! = n := by
  have hm : n ∈ base.toList := (base_mem_iff n).2 ⟨h3, hn, hp⟩
  obtain ⟨i, hi, he⟩ := List.getElem_of_mem hm
  have hi' : i < 1024 := by simpa [base_size] using hi
  exact ⟨i, hi', by rw [base_getElem! i hi']; exact he⟩

theorem base_ge_3 (i : Nat) (h : i < 1024) : 3 ≤ base[i]! := by
  rw [base_getElem! i h]
  exact ((base_mem_iff _).1 (List.getElem_mem _)).1

/-! ### C2: `_prods[]` is aligned with `_base[]` -/

/-- base[i] · base[i+1] ⋯ base[i+n-1] -/
def baseProd (i : Nat) : Nat → Nat
  | 0 => 1
  | n + 1 => baseProd i n * base[i + n]!

/-- the alignment statement: walking through the product table from base index `i`, every entry is the product
    of the next `num` base primes, fits a W-bit word, and the walk stays inside the table -/
def AlignedAt (W : Nat) : List (Nat × Nat) → Nat → Prop
  | [], _ => True
  | (prod, num) :: rest, i =>
    i + num ≤ 1024 ∧ prod < 2 ^ W ∧ prod = baseProd i num ∧ AlignedAt W rest (i + num)

namespace SieveAux

def prodL (l : List Nat) : Nat := l.foldl (· * ·) 1

/-- linear-time checker: `bs` = the part of the base not yet consumed -/
def alignedL (W : Nat) : List (Nat × Nat) → List Nat → Bool
  | [], _ => true
  | (prod, num) :: rest, bs =>
    ((bs.take num).length == num) && decide (prod < 2 ^ W) && (prod == prodL (bs.take num)) &&
      alignedL W rest (bs.drop num)

theorem take_succ_drop (i n : Nat) (h : i + n < 1024) :
    (base.toList.drop i).take (n + 1) = (base.toList.drop i).take n ++ [base[i + n]!] := by
  have hlen : i + n < base.toList.length := by simpa [base_size] using h
  rw [List.take_add_one, List.getElem?_drop, List.getElem?_eq_getElem hlen, base_getElem! (i + n) h]
  rfl

theorem prodL_take_drop (i : Nat) : ∀ n, i + n ≤ 1024 → prodL ((base.toList.drop i).take n) = baseProd i n := by
  intro n
  induction n with
  | zero => intro _; rfl
  | succ n ih =>
    intro h
    rw [take_succ_drop i n (by omega), baseProd, ← ih (by omega)]
    simp [prodL, List.foldl_append]

theorem alignedL_sound (W : Nat) : ∀ l i, i ≤ 1024 → alignedL W l (base.toList.drop i) = true → AlignedAt W l i := by
  intro l
  induction l with
  | nil => intro i _ _; trivial
  | cons e rest ih =>
    intro i hi h
    obtain ⟨prod, num⟩ := e
    simp only [alignedL, Bool.and_eq_true, beq_iff_eq, decide_eq_true_eq, List.length_take, List.length_drop,
      List.drop_drop] at h
    obtain ⟨⟨⟨h1, h2⟩, h3⟩, h4⟩ := h
    have hlen : base.toList.length = 1024 := by simpa using base_size
    have hin : i + num ≤ 1024 := by omega
    refine ⟨hin, h2, ?_, ih (i + num) hin h4⟩
    rw [h3, prodL_take_drop i num hin]

end SieveAux

/-- the Bool checker over the generated tables (linear walk) -/
def prodsAligned (prods : Array (Nat × Nat)) (W : Nat) : Bool := SieveAux.alignedL W prods.toList base.toList

theorem prods_aligned_16 : prodsAligned (prodsW 16) 16 = true := by decide +kernel
theorem prods_aligned_32 : prodsAligned (prodsW 32) 32 = true := by decide +kernel
theorem prods_aligned_64 : prodsAligned (prodsW 64) 64 = true := by decide +kernel

theorem prods_aligned (W : Nat) (hW : W = 16 ∨ W = 32 ∨ W = 64) : AlignedAt W (prodsW W).toList 0 := by
  apply SieveAux.alignedL_sound W _ 0 (by omega)
  rcases hW with h | h | h <;> subst h
  · exact prods_aligned_16
  · exact prods_aligned_32
  · exact prods_aligned_64

/-! ### C3: priBaseMod computes all residues a mod base[i] -/

namespace SieveAux

/-- the accumulator after `i` residues (newest first) -/
def modsRev (a i : Nat) : List Nat := ((List.range i).map (fun i => a % base[i]!)).reverse

theorem modsRev_succ (a i : Nat) : modsRev a (i + 1) = (a % base[i]!) :: modsRev a i := by
  simp [modsRev, List.range_succ]

theorem dvd_baseProd (i : Nat) : ∀ n j, j < n → base[i + j]! ∣ baseProd i n := by
  intro n
  induction n with
  | zero => intro j h; omega
  | succ n ih =>
    intro j h
    by_cases hj : j = n
    · subst hj; exact Nat.dvd_mul_left _ _
    · exact Nat.dvd_trans (ih j (by omega)) (Nat.dvd_mul_right _ _)

theorem inner_spec (a prod count : Nat) : ∀ num i, (∀ j, j < num → base[i + j]! ∣ prod) → i ≤ count →
    baseModInner (a % prod) count num i (modsRev a i) = (min (i + num) count, modsRev a (min (i + num) count)) := by
  intro num
  induction num with
  | zero => intro i _ hi; simp [baseModInner, Nat.min_eq_left hi]
  | succ num ih =>
    intro i hd hi
    simp only [baseModInner]
    by_cases hic : i < count
    · rw [if_pos hic]
      have h0 : a % prod % base[i]! = a % base[i]! := Nat.mod_mod_of_dvd a (by simpa using hd 0 (by omega))
      rw [h0, ← modsRev_succ, ih (i + 1) (fun j hj => by
        have := hd (j + 1) (by omega)
        rwa [show i + (j + 1) = i + 1 + j by omega] at this) (by omega)]
      rw [show i + 1 + num = i + (num + 1) by omega]
    · rw [if_neg hic]
      have : min (i + (num + 1)) count = i := by omega
      rw [this]

theorem prods_stop (a count : Nat) (l : List (Nat × Nat)) (acc : List Nat) :
    baseModProds a count l count acc = (count, acc) := by
  cases l with
  | nil => rfl
  | cons e rest => obtain ⟨p, n⟩ := e; simp [baseModProds]

theorem prods_spec (W a count : Nat) : ∀ l i, AlignedAt W l i → i ≤ count →
    ∃ i', baseModProds a count l i (modsRev a i) = (i', modsRev a i') ∧ i' ≤ count := by
  intro l
  induction l with
  | nil => intro i _ hi; exact ⟨i, rfl, hi⟩
  | cons e rest ih =>
    intro i hal hi
    obtain ⟨prod, num⟩ := e
    obtain ⟨_, _, hprod, hrest⟩ := hal
    simp only [baseModProds]
    by_cases hic : i < count
    · rw [if_pos hic, inner_spec a prod count num i (fun j hj => hprod ▸ dvd_baseProd i num j hj) hi]
      simp only
      by_cases hle : i + num ≤ count
      · rw [Nat.min_eq_left hle]
        exact ih (i + num) hrest hle
      · rw [Nat.min_eq_right (by omega), prods_stop]
        exact ⟨count, rfl, Nat.le_refl _⟩
    · rw [if_neg hic]
      exact ⟨i, rfl, hi⟩

theorem rest_spec (a count : Nat) : ∀ fuel i, i ≤ count → count - i ≤ fuel →
    baseModRest a count fuel i (modsRev a i) = modsRev a count := by
  intro fuel
  induction fuel with
  | zero =>
    intro i h1 h2
    have : i = count := by omega
    subst this; rfl
  | succ fuel ih =>
    intro i h1 h2
    simp only [baseModRest]
    by_cases hic : i < count
    · rw [if_pos hic, ← modsRev_succ, ih (i + 1) (by omega) (by omega)]
    · rw [if_neg hic]
      have : i = count := by omega
      subst this; rfl

end SieveAux

/-- priBaseMod returns a mod base[0], …, a mod base[count − 1] (the shortcut through `_prods` is exact) -/
theorem priBaseMod_spec (W a count : Nat) (hW : W = 16 ∨ W = 32 ∨ W = 64) (_hc : count ≤ 1024) :
    priBaseMod W a count = (List.range count).map (fun i => a % base[i]!) := by
  unfold priBaseMod
  obtain ⟨i', h, hi'⟩ := SieveAux.prods_spec W a count _ 0 (prods_aligned W hW) (Nat.zero_le _)
  have h0 : SieveAux.modsRev a 0 = [] := rfl
  rw [h0] at h
  rw [h]
  simp only
  rw [SieveAux.rest_spec a count count i' hi' (by omega)]
  simp [SieveAux.modsRev]

example : priBaseMod 32 1000003 12 = [1, 3, 4, 4, 4, 12, 14, 9, 25, 5, 4, 13] := by decide +kernel

/-! ### C4: priIsSieved -/

namespace SieveAux

theorem adjust_le (a : Nat) (d : Bool) : ∀ bc, adjustBaseCount a d bc ≤ bc := by
  intro bc
  induction bc with
  | zero => simp [adjustBaseCount]
  | succ bc ih =>
    simp only [adjustBaseCount]
    split
    · omega
    · omega

/-- the adjustment stops at the last entry that is kept; the entries above it are dropped: `> a`, or `= a` when
    `dropEq` (the comparison `>=` of priNextPrime) -/
theorem adjust_dropped_gen (a : Nat) (d : Bool) : ∀ bc i, adjustBaseCount a d bc ≤ i → i < bc →
    a < base[i]! ∨ (d = true ∧ base[i]! = a) := by
  intro bc
  induction bc with
  | zero => intro i _ h; omega
  | succ bc ih =>
    intro i h1 h2
    rw [adjustBaseCount] at h1
    split at h1
    · next hc =>
      by_cases hi : i = bc
      · subst hi; exact hc
      · exact ih i h1 (by omega)
    · omega

/-- what remains lies below the first kept entry from the top (the table is increasing): `≤ a`, and `≠ a` when `dropEq` -/
theorem adjust_kept_gen (a : Nat) (d : Bool) : ∀ bc, bc ≤ 1024 → ∀ i, i < adjustBaseCount a d bc →
    base[i]! ≤ a ∧ (d = true → base[i]! ≠ a) := by
  intro bc
  induction bc with
  | zero => intro _ i h; simp [adjustBaseCount] at h
  | succ bc ih =>
    intro hbc i h
    rw [adjustBaseCount] at h
    split at h
    · exact ih (by omega) i h
    · next hc =>
      by_cases hi : i = bc
      · subst hi; exact ⟨by omega, fun hd he => hc (Or.inr ⟨hd, he⟩)⟩
      · have := base_sorted i bc (by omega) (by omega)
        exact ⟨by omega, fun _ => by omega⟩

/-- priIsSieved (`>`): the dropped primes exceed a -/
theorem adjust_dropped (a : Nat) (bc i : Nat) (h1 : adjustBaseCount a false bc ≤ i) (h2 : i < bc) : a < base[i]! :=
  (adjust_dropped_gen a false bc i h1 h2).resolve_right (by simp)

/-- all the dropped ones are at the end: what remains are exactly the base primes ≤ a (sortedness) -/
theorem adjust_kept (a : Nat) : ∀ bc, bc ≤ 1024 → ∀ i, i < adjustBaseCount a false bc → base[i]! ≤ a :=
  fun bc hbc i h => (adjust_kept_gen a false bc hbc i h).1

end SieveAux

/-- priIsSieved: a is odd and no prime of the factor base (first `bc` entries) divides it.
    (The adjustment for one-word a only drops primes > a, which cannot divide an odd a ≥ 1.  A base prime itself
    is NOT sieved: a mod a = 0.) -/
theorem priIsSieved_iff (W a bc : Nat) (hW : W = 16 ∨ W = 32 ∨ W = 64) (hbc : bc ≤ 1024) :
    priIsSieved W a bc = true ↔ a % 2 = 1 ∧ ∀ i, i < bc → a % base[i]! ≠ 0 := by
  unfold priIsSieved
  by_cases h2 : a % 2 = 0
  · simp [h2]
  · have hodd : a % 2 = 1 := by omega
    rw [if_neg h2]
    simp only [hodd, true_and]
    have hle : (if a < 2 ^ W then adjustBaseCount a false bc else bc) ≤ bc := by
      split
      · exact SieveAux.adjust_le a false bc
      · exact Nat.le_refl _
    rw [priBaseMod_spec W a _ hW (by omega)]
    simp only [List.all_eq_true, List.mem_map, List.mem_range, decide_eq_true_eq, ne_eq,
      forall_exists_index, and_imp]
    constructor
    · intro h i hi
      by_cases hin : i < (if a < 2 ^ W then adjustBaseCount a false bc else bc)
      · exact h _ i hin rfl
      · by_cases hw : a < 2 ^ W
        · rw [if_pos hw] at hin
          have hgt := SieveAux.adjust_dropped a bc i (by omega) hi
          rw [Nat.mod_eq_of_lt hgt]
          omega
        · rw [if_neg hw] at hin; omega
    · intro h x i hi hx
      subst hx
      exact h i (by omega)

/-- the form with the adjustment visible: for one-word a only the base primes ≤ a are tried -/
theorem priIsSieved_iff' (W a bc : Nat) (hW : W = 16 ∨ W = 32 ∨ W = 64) (hbc : bc ≤ 1024) :
    priIsSieved W a bc = true ↔
      a % 2 = 1 ∧ ∀ i, i < bc → (a < 2 ^ W → base[i]! ≤ a) → a % base[i]! ≠ 0 := by
  rw [priIsSieved_iff W a bc hW hbc]
  constructor
  · rintro ⟨h1, h⟩; exact ⟨h1, fun i hi _ => h i hi⟩
  · rintro ⟨h1, h⟩
    refine ⟨h1, fun i hi => ?_⟩
    by_cases hle : a < 2 ^ W → base[i]! ≤ a
    · exact h i hi hle
    · have : a < base[i]! := by omega
      rw [Nat.mod_eq_of_lt this]; omega

example : priIsSieved 32 1000003 40 = true ∧ priIsSieved 32 1000001 40 = false ∧
    priIsSieved 16 173 40 = false ∧ priIsSieved 16 169 4 = true ∧ priIsSieved 16 169 5 = false := by decide +kernel

end Bee2V.C12
