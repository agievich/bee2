/-
C12 — the closed facts about priIsPrimeW that the kernel evaluates (no axioms beyond the kernel's own Nat arithmetic;
no Mathlib): one pass over the odd 16-bit words, from which LemmasSprp derives that the model decides primality
exactly there, and the behaviour at the thresholds of the base sets: the strong pseudoprimes are rejected, the primes
next to them accepted.
-/
import Bee2V.C12.LemmasSieve
namespace Bee2V.C12
open Bee2V.Gen.C12

/-! ### all odd 16-bit words -/

/-- `a` is not a Fermat pseudoprime to the base 2 (so not a strong one: the model rejects it), or `a` is prime
    (coprime to `primorial 256`, the product of the primes below 256: `isPrimeTD'_of_coprime_primorial`; or, for the primes
    below 256 themselves, by trial division), or the model rejects `a`.
    Each odd composite below 2^16 except the 64 pseudoprimes to the base 2 leaves at the first test, each prime above
    256 at the second: the kernel runs the model on those 64 numbers only.
    Spelled with `Nat.pow`, `Nat.beq`, `or`, … instead of `^`, `==`, `||` (and `allOdd` with `Nat.rec`): the kernel
    computes these on literals at once, the notations cost it several unfoldings of instances per point. -/
def chk16 (a : Nat) : Bool :=
  or (not (Nat.beq (Nat.mod (Nat.pow 2 (Nat.sub a 1)) a) 1))
    (or (Nat.beq (Nat.gcd a (primorial 256)) 1) (or (isPrimeTD' a) (not (priIsPrimeW 16 a))))

/-- `f` holds on the odd numbers `5, 7, …, 2n + 3` (counting down: the argument of `f` is a literal for the kernel) -/
def allOdd (f : Nat → Bool) (n : Nat) : Bool :=
  Nat.rec true (fun n ih => and (f (Nat.add (Nat.mul 2 n) 5)) ih) n

theorem allOdd_spec (f : Nat → Bool) : ∀ n, allOdd f n = true → ∀ a, a % 2 = 1 → 5 ≤ a → a < 2 * n + 5 → f a = true
  | 0, _, a, _, _, _ => by omega
  | n + 1, h, a, ho, h5, hlt => by
    have h : (f (2 * n + 5) && allOdd f n) = true := h
    rw [Bool.and_eq_true] at h
    by_cases hn : a = 2 * n + 5
    · exact hn ▸ h.1
    · exact allOdd_spec f n h.2 a ho h5 (by omega)

theorem chk16_all : allOdd chk16 32766 = true := by decide +kernel

/-! ### the thresholds of the base sets: strong pseudoprimes rejected, neighbouring primes accepted -/

/-- 1373653 = 829·1657 is the least strong pseudoprime to the bases 2, 3: `a < 1373653` is the right test -/
theorem spsp_2_3 : priIsPrimeW 32 1373653 = false ∧ priIsPrimeW 64 1373653 = false := by decide +kernel
/-- … and with the base set {2, 3} it would have been accepted -/
theorem spsp_2_3_bases16 : (splitOdd 32 1373652 0 = (343413, 2)) ∧ bases16.all (witnessW 1373653 343413 2) = true := by
  decide +kernel
/-- 4759123141 is the least strong pseudoprime to the bases 2, 7, 61 -/
theorem spsp_2_7_61 : priIsPrimeW 64 4759123141 = false := by decide +kernel
theorem spsp_2_7_61_bases32 : (splitOdd 64 4759123140 0 = (1189780785, 2)) ∧
    bases32.all (witnessW 4759123141 1189780785 2) = true := by decide +kernel
/-- ψ₄ = 3215031751 (bases 2, 3, 5, 7), ψ₇ = 341550071728321, ψ₉ = 3825123056546413051 (bases ≤ 23) -/
theorem spsp_psi : priIsPrimeW 64 3215031751 = false ∧ priIsPrimeW 64 341550071728321 = false ∧
    priIsPrimeW 64 3825123056546413051 = false := by decide +kernel
/-- Carmichael numbers / squares of primes -/
theorem composites_rejected : priIsPrimeW 16 561 = false ∧ priIsPrimeW 16 2047 = false ∧ priIsPrimeW 16 (251 * 251) = false ∧
    priIsPrimeW 32 (65521 * 65521) = false ∧ priIsPrimeW 64 (4294967291 * 4294967291) = false := by decide +kernel
/-- primes next to the thresholds and the largest primes of each word size -/
theorem primes_accepted : priIsPrimeW 32 1373639 = true ∧ priIsPrimeW 32 1373677 = true ∧
    priIsPrimeW 64 1373639 = true ∧ priIsPrimeW 64 1373677 = true ∧
    priIsPrimeW 64 4759123129 = true ∧ priIsPrimeW 64 4759123151 = true ∧
    priIsPrimeW 64 3215031749 = true ∧ priIsPrimeW 64 341550071728289 = true ∧
    priIsPrimeW 64 3825123056546412979 = true ∧ priIsPrimeW 64 3825123056546413057 = true ∧
    priIsPrimeW 16 65521 = true ∧ priIsPrimeW 32 4294967291 = true ∧ priIsPrimeW 64 18446744073709551557 = true := by
  decide +kernel

end Bee2V.C12
