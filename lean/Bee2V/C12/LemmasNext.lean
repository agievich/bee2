/-
C12 — priNextPrimeW: the search returns the FIRST odd number ≥ a of the same bit length that priIsPrimeW accepts;
`none` only when there is none (or the bit length is ≤ 1).  Relative to the model's predicate `priIsPrimeW W`
(LemmasPri / LemmasSprp tie that predicate to `Nat.Prime`).  No Mathlib.
-/
import Bee2V.C12.ModelPri
namespace Bee2V.C12

/-! ### bitSize -/

theorem bitSize_eq_iff (x l : Nat) (hl : 1 ≤ l) : bitSize x = l ↔ 2 ^ (l - 1) ≤ x ∧ x < 2 ^ l := by
  unfold bitSize
  by_cases hx : x = 0
  · subst hx
    have : 0 < 2 ^ (l - 1) := Nat.pow_pos (by decide)
    simp; omega
  · simp only [hx, if_false]
    obtain ⟨m, rfl⟩ : ∃ m, l = m + 1 := ⟨l - 1, by omega⟩
    rw [Nat.add_sub_cancel, Nat.add_right_cancel_iff]
    exact Nat.log2_eq_iff hx

theorem bitSize_lt (x : Nat) : x < 2 ^ bitSize x := by
  unfold bitSize
  split
  · next h => subst h; simp
  · exact Nat.lt_log2_self

theorem bitSize_le_of_lt (x W : Nat) (h : x < 2 ^ W) : bitSize x ≤ W := by
  unfold bitSize
  split
  · omega
  · next hx => exact (Nat.log2_lt hx).2 h

theorem bitSize_le_one (x : Nat) (h : x < 2) : bitSize x ≤ 1 := bitSize_le_of_lt x 1 (by simpa using h)

theorem or_one_eq (a : Nat) : a ||| 1 = if a % 2 = 0 then a + 1 else a := by
  have h1 : (a ||| 1) / 2 = a / 2 := by rw [Nat.or_div_two]; simp
  have h2 : (a ||| 1) % 2 = 1 := by rw [Nat.or_mod_two_eq_one]; right; rfl
  split <;> omega

/-- the word addition `p[0] += 2` does not wrap while the bit length stays `l ≥ 2` -/
theorem step_no_wrap (W l p : Nat) (hl2 : 2 ≤ l) (hlW : l ≤ W) (hp : bitSize p = l)
    (h : bitSize ((p + 2) % 2 ^ W) = l) : (p + 2) % 2 ^ W = p + 2 := by
  apply Nat.mod_eq_of_lt
  apply Classical.byContradiction
  intro hge
  have hpl : p < 2 ^ l := hp ▸ bitSize_lt p
  have hlW' : 2 ^ l ≤ 2 ^ W := Nat.pow_le_pow_right (by decide) hlW
  have h4 : 2 ^ 2 ≤ 2 ^ l := Nat.pow_le_pow_right (by decide) hl2
  generalize 2 ^ W = c at *
  generalize 2 ^ l = d at *
  have : (p + 2) % c = p + 2 - c := by
    rw [Nat.mod_eq_sub_mod (by omega), Nat.mod_eq_of_lt (by omega)]
  rw [this] at h
  have := bitSize_le_one (p + 2 - c) (by omega)
  omega

/-! ### nextLoopW -/

/-- found: `p' = p + 2j`, accepted, of bit length `l`, and the `j` earlier candidates were rejected -/
theorem nextLoopW_some (W l : Nat) (hl2 : 2 ≤ l) (hlW : l ≤ W) : ∀ (fuel p p' : Nat), bitSize p = l →
    nextLoopW W l fuel p = some p' →
    ∃ j, p' = p + 2 * j ∧ priIsPrimeW W p' = true ∧ bitSize p' = l ∧ ∀ k, k < j → priIsPrimeW W (p + 2 * k) = false
  | 0, p, p', _, h => by simp [nextLoopW] at h
  | fuel + 1, p, p', hp, h => by
    rw [nextLoopW] at h
    split at h
    · next hacc =>
      simp only [Option.some.injEq] at h
      subst h
      exact ⟨0, rfl, hacc, hp, fun k hk => by omega⟩
    · next hrej =>
      simp only at h
      split at h
      · simp at h
      · next hbs =>
        have hbs' : bitSize ((p + 2) % 2 ^ W) = l := Classical.byContradiction fun hne => hbs hne
        have hnw := step_no_wrap W l p hl2 hlW hp hbs'
        rw [hnw] at h hbs'
        obtain ⟨j, hj, hacc, hb, hall⟩ := nextLoopW_some W l hl2 hlW fuel (p + 2) p' hbs' h
        refine ⟨j + 1, by omega, hacc, hb, ?_⟩
        intro k hk
        cases k with
        | zero => simpa using hrej
        | succ k =>
          have := hall k (by omega)
          rwa [show p + 2 * (k + 1) = p + 2 + 2 * k by omega]

/-- the form asked for: `p ≤ p'`, accepted, same bit length, every earlier candidate rejected -/
theorem nextLoopW_spec (W l fuel p p' : Nat) (hl2 : 2 ≤ l) (hlW : l ≤ W) (hp : bitSize p = l)
    (h : nextLoopW W l fuel p = some p') :
    p ≤ p' ∧ p' % 2 = p % 2 ∧ priIsPrimeW W p' = true ∧ bitSize p' = l ∧
      ∀ k, p + 2 * k < p' → priIsPrimeW W (p + 2 * k) = false := by
  obtain ⟨j, hj, hacc, hb, hall⟩ := nextLoopW_some W l hl2 hlW fuel p p' hp h
  exact ⟨by omega, by omega, hacc, hb, fun k hk => hall k (by omega)⟩

/-- not found with enough fuel: no candidate `p + 2k` of bit length `l` is accepted -/
theorem nextLoopW_none (W l : Nat) (hl2 : 2 ≤ l) (hlW : l ≤ W) : ∀ (fuel p : Nat), bitSize p = l →
    2 ^ l ≤ p + 2 * fuel → nextLoopW W l fuel p = none →
    ∀ k, bitSize (p + 2 * k) = l → priIsPrimeW W (p + 2 * k) = false
  | 0, p, hp, hf, _ => by
    have := hp ▸ bitSize_lt p
    omega
  | fuel + 1, p, hp, hf, h => by
    rw [nextLoopW] at h
    have hpb := (bitSize_eq_iff p l (by omega)).1 hp
    split at h
    · simp at h
    · next hrej =>
      have hrej' : priIsPrimeW W p = false := by simpa using hrej
      simp only at h
      by_cases hbs : bitSize ((p + 2) % 2 ^ W) = l
      · have hnw := step_no_wrap W l p hl2 hlW hp hbs
        rw [if_neg (by simpa using hbs), hnw] at h
        rw [hnw] at hbs
        have ih := nextLoopW_none W l hl2 hlW fuel (p + 2) hbs (by omega) h
        intro k hk
        cases k with
        | zero => simpa using hrej'
        | succ k =>
          rw [show p + 2 * (k + 1) = p + 2 + 2 * k by omega] at hk ⊢
          exact ih k hk
      · -- the loop stops: p + 2 has left the range of bit length l
        have hout : 2 ^ l ≤ p + 2 := by
          apply Classical.byContradiction
          intro hlt
          have hlW' : 2 ^ l ≤ 2 ^ W := Nat.pow_le_pow_right (by decide) hlW
          apply hbs
          rw [Nat.mod_eq_of_lt (by omega)]
          exact (bitSize_eq_iff (p + 2) l (by omega)).2 ⟨by omega, by omega⟩
        intro k hk
        cases k with
        | zero => simpa using hrej'
        | succ k =>
          have := ((bitSize_eq_iff _ l (by omega)).1 hk).2
          omega

/-! ### priNextPrimeW -/

theorem bitSize_or_one (a : Nat) (h : 2 ≤ bitSize a) : bitSize (a ||| 1) = bitSize a := by
  have hb := (bitSize_eq_iff a (bitSize a) (by omega)).1 rfl
  rw [bitSize_eq_iff _ _ (by omega), or_one_eq]
  split
  · next hev =>
    obtain ⟨m, hm⟩ : ∃ m, bitSize a = m + 1 := ⟨bitSize a - 1, by omega⟩
    rw [hm, Nat.pow_succ] at hb ⊢
    omega
  · exact hb

/-- `priNextPrimeW W a = some p`: `p` is the least odd number `≥ a` accepted by `priIsPrimeW W`, and it has the bit
    length of `a`.  `= none`: bit length ≤ 1, or no odd number `≥ a` of that bit length is accepted. -/
theorem priNextPrimeW_some (W a p : Nat) (ha : a < 2 ^ W) (h : priNextPrimeW W a = some p) :
    p % 2 = 1 ∧ a ≤ p ∧ bitSize p = bitSize a ∧ priIsPrimeW W p = true ∧
      ∀ x, x % 2 = 1 → a ≤ x → x < p → priIsPrimeW W x = false := by
  unfold priNextPrimeW at h
  simp only at h
  split at h
  · simp at h
  · next hl =>
    have hl2 : 2 ≤ bitSize a := by omega
    have hb := bitSize_or_one a hl2
    obtain ⟨hle, hpar, hacc, hbs, hall⟩ :=
      nextLoopW_spec W (bitSize a) _ _ p hl2 (bitSize_le_of_lt a W ha) hb h
    have ho := or_one_eq a
    have hodd : (a ||| 1) % 2 = 1 := by rw [Nat.or_mod_two_eq_one]; right; rfl
    refine ⟨by omega, by split at ho <;> omega, hbs, hacc, ?_⟩
    intro x hx hax hxp
    have hge : a ||| 1 ≤ x := by split at ho <;> omega
    have := hall ((x - (a ||| 1)) / 2) (by omega)
    rwa [show (a ||| 1) + 2 * ((x - (a ||| 1)) / 2) = x by omega] at this

theorem priNextPrimeW_none (W a : Nat) (ha : a < 2 ^ W) (h : priNextPrimeW W a = none) :
    bitSize a ≤ 1 ∨ ∀ x, x % 2 = 1 → a ≤ x → bitSize x = bitSize a → priIsPrimeW W x = false := by
  unfold priNextPrimeW at h
  simp only at h
  split at h
  · next hl => exact Or.inl hl
  · next hl =>
    right
    have hl2 : 2 ≤ bitSize a := by omega
    have hb := bitSize_or_one a hl2
    have hnone := nextLoopW_none W (bitSize a) hl2 (bitSize_le_of_lt a W ha) _ _ hb (by omega) h
    have ho := or_one_eq a
    have hodd : (a ||| 1) % 2 = 1 := by rw [Nat.or_mod_two_eq_one]; right; rfl
    intro x hx hax hbx
    have hge : a ||| 1 ≤ x := by split at ho <;> omega
    have := hnone ((x - (a ||| 1)) / 2)
    rw [show (a ||| 1) + 2 * ((x - (a ||| 1)) / 2) = x by omega] at this
    exact this hbx

/-- non-vacuity -/
example : priNextPrimeW 16 65500 = some 65519 ∧ priNextPrimeW 16 65522 = none ∧ priNextPrimeW 16 1 = none ∧
    priNextPrimeW 32 24 = some 29 ∧ priNextPrimeW 64 (2 ^ 64 - 58) = none := by decide +kernel

end Bee2V.C12
