/-
C12 — src/math/pri.c over Nat (a word array [n]a is its value; `W` = B_PER_W).
Code-shaped: the same loops as recursion carrying the same variables.  Executable, no Mathlib.
Modelled by their specification (other areas' code): zzPowerModW / qrPower = modular power,
zzModW = `%`, wwBitSize = `Nat.log2 + 1`, zm rings = arithmetic mod a (Montgomery form is
transparent: `x·R ≡ ±R ⇔ x ≡ ±1`).
-/
import Bee2V.Gen.C12Tables
namespace Bee2V.C12
open Bee2V.Gen.C12

/-- bit length (`wwBitSize`) -/
def bitSize (a : Nat) : Nat := if a = 0 then 0 else Nat.log2 a + 1

/-- square-and-multiply, the value of `zzPowerModW(b, e, m)` / `qrPower` -/
def powMod (b e m : Nat) : Nat :=
  if e = 0 then 1 % m
  else
    let h := powMod b (e / 2) m
    if e % 2 = 0 then h * h % m else h * h % m * b % m
termination_by e
decreasing_by omega

/-! ### priIsPrimeW -/

/-- `for (r = a - 1, s = 0; r % 2 == 0; r >>= 1, ++s);`  (fuel = a bound on the number of halvings) -/
def splitOdd : Nat → Nat → Nat → Nat × Nat
  | 0, r, s => (r, s)
  | fuel + 1, r, s => if r % 2 = 0 ∧ r ≠ 0 then splitOdd fuel (r / 2) (s + 1) else (r, s)

/-- inner loop of priIsPrimeW: `for (i = 1; i < s; ++i) { base = base² % a; if (base == a-1) break;
    if (base == 1) return FALSE; } if (i == s) return FALSE;` with `k = s - i` squarings left.
    `true` = left by `break` (this base passes). -/
def sqLoopW (a : Nat) : Nat → Nat → Bool
  | 0, _ => false
  | k + 1, base =>
    let base' := base * base % a
    if base' = a - 1 then true
    else if base' = 1 then false
    else sqLoopW a k base'

/-- one iteration of `while (iter--)` for the base `b` -/
def witnessW (a r s b : Nat) : Bool :=
  let base := powMod b r a
  if base = 1 ∨ base = a - 1 then true else sqLoopW a (s - 1) base

/-- the choice of the base set: thresholds and comparison operators as in the source
    (`if (a < 1373653) … else if (a < 4759123141) … else …`) -/
def basesW (W a : Nat) : List Nat :=
  if W = 16 then bases16
  else if W = 32 then (if a < 1373653 then bases16 else bases32)
  else (if a < 1373653 then bases16 else if a < 4759123141 then bases32 else bases64)

/-- `bool_t priIsPrimeW(word a, void* stack)`; the bases are used from the last to the first (`bases[iter]`, `iter--`) -/
def priIsPrimeW (W a : Nat) : Bool :=
  if a ≤ 3 ∨ a % 2 = 0 then (a = 2 ∨ a = 3)
  else
    let (r, s) := splitOdd W (a - 1) 0
    (basesW W a).reverse.all (witnessW a r s)

/-! ### priNextPrimeW -/

/-- `while (!priIsPrimeW(p[0])) { p[0] += 2; if (wwBitSize(p) != l) return FALSE; }`; `p[0] += 2` is word
    arithmetic (mod 2^W: the wrapped value has a smaller bit size, the loop then stops) -/
def nextLoopW (W l : Nat) : Nat → Nat → Option Nat
  | 0, _ => none
  | fuel + 1, p =>
    if priIsPrimeW W p then some p
    else
      let p' := (p + 2) % 2 ^ W
      if bitSize p' ≠ l then none else nextLoopW W l fuel p'

/-- `bool_t priNextPrimeW(word p[1], word a, void* stack)` -/
def priNextPrimeW (W a : Nat) : Option Nat :=
  let l := bitSize a
  if l ≤ 1 then none
  else nextLoopW W l (2 ^ l) (a ||| 1)

/-! ### factor base: priBaseMod, priIsSieved, priIsSmooth -/

def prodsW (W : Nat) : Array (Nat × Nat) := if W = 16 then prods16 else if W = 32 then prods32 else prods64

/-- inner `while (num-- && i < count) mods[i] = t % _base[i], ++i;` -/
def baseModInner (t count : Nat) : Nat → Nat → List Nat → Nat × List Nat
  | 0, i, acc => (i, acc)
  | num + 1, i, acc =>
    if i < count then baseModInner t count num (i + 1) ((t % base[i]!) :: acc) else (i, acc)

/-- first loop of priBaseMod over `_prods` -/
def baseModProds (a count : Nat) : List (Nat × Nat) → Nat → List Nat → Nat × List Nat
  | [], i, acc => (i, acc)
  | (prod, num) :: rest, i, acc =>
    if i < count then
      let (i', acc') := baseModInner (a % prod) count num i acc
      baseModProds a count rest i' acc'
    else (i, acc)

/-- second loop `for (; i < count; ++i) mods[i] = zzModW(a, n, _base[i]);` -/
def baseModRest (a count : Nat) : Nat → Nat → List Nat → List Nat
  | 0, _, acc => acc
  | fuel + 1, i, acc => if i < count then baseModRest a count fuel (i + 1) ((a % base[i]!) :: acc) else acc

/-- `void priBaseMod(word mods[], const word a[], size_t n, size_t count)` -/
def priBaseMod (W a count : Nat) : List Nat :=
  let (i, acc) := baseModProds a count (prodsW W).toList 0 []
  (baseModRest a count count i acc).reverse

/-- `while (base_count > 0 && priBasePrime(base_count - 1) > a[0]) --base_count;` (`dropEq` = false)
    resp. `… >= p[0]` in priNextPrime (`dropEq` = true … the prime itself is dropped) -/
def adjustBaseCount (a : Nat) (dropEq : Bool) : Nat → Nat
  | 0 => 0
  | bc + 1 => if base[bc]! > a ∨ (dropEq ∧ base[bc]! = a) then adjustBaseCount a dropEq bc else bc + 1

/-- `bool_t priIsSieved(const word a[], size_t n, size_t base_count, void* stack)` -/
def priIsSieved (W a baseCount : Nat) : Bool :=
  if a % 2 = 0 then false
  else
    let bc := if a < 2 ^ W then adjustBaseCount a false baseCount else baseCount
    (priBaseMod W a bc).all (· ≠ 0)

/-- main loop of priIsSmooth: `for (i = 0; i < base_count;) { mod = t % _base[i]; if (mod == 0) { t /= _base[i];
    if (t == 1) return TRUE; } else ++i; }` -/
def smoothLoop (baseCount : Nat) : Nat → Nat → Nat → Bool
  | 0, _, _ => false
  | fuel + 1, t, i =>
    if i < baseCount then
      if t % base[i]! = 0 then
        let t' := t / base[i]!
        if t' = 1 then true else smoothLoop baseCount fuel t' i
      else smoothLoop baseCount fuel t (i + 1)
    else false

/-- number of trailing zero bits (`wwLoZeroBits`; the length in bits for a = 0 is not needed: see priIsSmooth) -/
def loZeroBits : Nat → Nat → Nat
  | 0, _ => 0
  | fuel + 1, a => if a ≠ 0 ∧ a % 2 = 0 then loZeroBits fuel (a / 2) + 1 else 0

/-- `bool_t priIsSmooth(const word a[], size_t n, size_t base_count, void* stack)` for a ≠ 0
    (for a = 0: wwLoZeroBits = n·W, the shifted value is 0, no prime "divides it down to 1": the loop divides 0
    by _base[0] forever … the real function does not terminate for a = 0 and base_count > 0; the driver
    refuses that input) -/
def priIsSmooth (a baseCount : Nat) : Bool :=
  let t := a / 2 ^ loZeroBits (bitSize a) a
  if t = 1 then true else smoothLoop baseCount (bitSize a + baseCount + 1) t 0

/-! ### priRMTest with an explicit tape of candidate bases -/

/-- `do if (i++ * 45 > B_PER_IMPOSSIBLE * 10 || !zzRandNZMod(base, …)) return FALSE;
    while (base == one || base == -one);`  — B_PER_IMPOSSIBLE = 64: at most 15 draws.
    The tape holds the values the generator yields (in 1 … a-1, plain representation). -/
def drawBase (a : Nat) : Nat → Nat → List Nat → Option Nat × List Nat
  | 0, _, tape => (none, tape)
  | fuel + 1, i, tape =>
    if i * 45 > 64 * 10 then (none, tape)
    else match tape with
      | [] => (none, [])
      | b :: t => if b = 1 ∨ b + 1 = a then drawBase a fuel (i + 1) t else (some b, t)

/-- inner loop of priRMTest: `for (i = 1; i < s; ++i) { base = base²; if (base == one) return FALSE;
    if (base == -one) break; } if (i == s) return FALSE;` -/
def sqLoopRM (a : Nat) : Nat → Nat → Bool
  | 0, _ => false
  | k + 1, base =>
    let base' := base * base % a
    if base' = 1 then false
    else if base' + 1 = a then true
    else sqLoopRM a k base'

/-- `while (iter--) { draw; base <- base^r; … }`; returns the verdict and the unread tape -/
def rmLoop (a r s : Nat) : Nat → List Nat → Bool × List Nat
  | 0, tape => (true, tape)
  | iter + 1, tape =>
    match drawBase a 16 0 tape with
    | (none, t) => (false, t)
    | (some b, t) =>
      let base := powMod b r a
      if base = 1 ∨ base + 1 = a then rmLoop a r s iter t
      else if sqLoopRM a (s - 1) base then rmLoop a r s iter t
      else (false, t)

/-- `bool_t priRMTest(const word a[], size_t n, size_t iter, void* stack)` with the tape of the generator -/
def priRMTestT (a iter : Nat) (tape : List Nat) : Bool × List Nat :=
  if a % 2 = 0 then (a = 2, tape)
  else if a < 49 then (a ≠ 1 ∧ (a = 3 ∨ a % 3 ≠ 0) ∧ (a = 5 ∨ a % 5 ≠ 0), tape)
  else
    let (r, s) := splitOdd (bitSize a) (a - 1) 0
    rmLoop a r s iter tape

def priRMTest (a iter : Nat) (tape : List Nat) : Bool := (priRMTestT a iter tape).1

/-- `priIsPrime` = priRMTest with (B_PER_IMPOSSIBLE + 1) / 2 = 32 iterations -/
def priIsPrime (a : Nat) (tape : List Nat) : Bool := priRMTest a 32 tape

/-! ### priIsSGPrime (Demytko) -/

/-- `p <- 2q + 1; return 4^q mod p == 1`  (pre: q odd, q > 1) -/
def priIsSGPrime (q : Nat) : Bool :=
  let p := 2 * q + 1
  powMod (4 % p) q p = 1 % p

/-! ### priNextPrime -/

/-- `for (i…) { if (mods[i] < _base[i] - 2) mods[i] += 2; else if (mods[i] == _base[i] - 1) mods[i] = 1;
    else mods[i] = 0, base_success = FALSE; }` -/
def stepMods : List Nat → Nat → List Nat × Bool
  | [], _ => ([], true)
  | m :: ms, i =>
    let (ms', ok) := stepMods ms (i + 1)
    if m < base[i]! - 2 then ((m + 2) :: ms', ok)
    else if m = base[i]! - 1 then (1 :: ms', ok)
    else (0 :: ms', false)

/-- `while (trials == SIZE_MAX || trials--)`; trials = none ⇔ SIZE_MAX -/
def nextLoop (nW l iter : Nat) : Nat → Option Nat → Nat → List Nat → Bool → List Nat → Option Nat
  | 0, _, _, _, _, _ => none
  | fuel + 1, trials, p, mods, ok, tape =>
    if trials = some 0 then none
    else
      let trials' := trials.map (· - 1)
      let (pass, tape') := if ok then priRMTestT p iter tape else (false, tape)
      if pass then some p
      else
        let p' := p + 2
        if p' ≥ 2 ^ nW ∨ bitSize p' > l then none
        else
          let (mods', ok') := stepMods mods 0
          nextLoop nW l iter fuel trials' p' mods' ok' tape'

/-- `bool_t priNextPrime(word p[], const word a[], size_t n, size_t trials, size_t base_count, size_t iter, …)`;
    `nW` = n·W (bits of the array), trials = none ⇔ SIZE_MAX, `fuel` bounds the candidates the driver follows.
    The factor base is adjusted when the VALUE fits a word (`l <= B_PER_W`, docs/C12.fix-5; it was `n == 1`). -/
def priNextPrime (W n a : Nat) (trials : Option Nat) (baseCount iter : Nat) (tape : List Nat) (fuel : Nat) : Option Nat :=
  let l := bitSize a
  if l ≤ 1 then none
  else
    let p := a ||| 1
    let bc := if l ≤ W then adjustBaseCount p true baseCount else baseCount
    let mods := priBaseMod W p bc
    nextLoop (n * W) l iter fuel trials p mods (mods.all (· ≠ 0)) tape

end Bee2V.C12
