import Bee2V.C12.ModelTm
/-! C12 — tm.c: the leap-year test `yearIsSlope` is the Gregorian rule -/
namespace Bee2V.C12

theorem yearIsSlope_iff (y : Nat) : yearIsSlope y = true ↔ Spec.isLeap y := by
  unfold yearIsSlope Spec.isLeap
  simp only [Bool.or_eq_true, Bool.and_eq_true, beq_iff_eq, bne_iff_ne, ne_eq]
  omega

end Bee2V.C12
