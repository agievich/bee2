/-
C12 — the validators of ModelVal2.lean (the instances with the constants regenerated from the source): what
bign96Start accepts, the return codes of bign96ParamsVal and dstuPointVal.  The decision lists are in PropsVal2.
No Mathlib.
-/
import Bee2V.C12.ModelVal2
import Bee2V.C12.LemmasVal
namespace Bee2V.C12
open Bee2V.Gen.C12

/-! ### bign96 -/

/-- `bign96Start` accepts exactly: p odd, 192 bits, p ≡ 3 (mod 4); a, b, yG < p; q ≠ 0, 192 bits, odd -/
theorem bign96StartOk_iff (v : BignVals) :
    bign96StartOk v = true ↔
      v.p % 2 = 1 ∧ bitSize v.p = 192 ∧ v.p % 4 = 3 ∧ v.a < v.p ∧ v.b < v.p ∧ v.yG < v.p ∧ v.q ≠ 0 ∧
      bitSize v.q = 192 ∧ v.q % 2 = 1 := by
  simp only [bign96StartOk, Bool.and_eq_true, decide_eq_true_eq, and_assoc]

namespace Val2Aux

theorem op96_iff (l : Nat) (v : BignVals) :
    (l == 96 && bign96StartOk v) = true ↔ l = 96 ∧ bign96StartOk v = true := by
  simp only [Bool.and_eq_true, beq_iff_eq]

end Val2Aux

/-- only ERR_OK and ERR_BAD_PARAMS -/
theorem bign96ParamsVal_code (isPrime : Nat → Bool) (l : Nat) (v : BignVals) :
    bign96ParamsVal isPrime l v = 0 ∨ bign96ParamsVal isPrime l v = 502 :=
  bignParamsValV_code isPrime _ v _

/-- `bign96StartOk` implies `bignStartOk` (the conjunct is redundant in the lists of PropsVal2) -/
theorem bignStartOk_of_bign96StartOk (v : BignVals) (h : bign96StartOk v = true) : bignStartOk v = true := by
  rw [bign96StartOk_iff] at h
  simp only [bignStartOk, Bool.and_eq_true, decide_eq_true_eq]
  exact ⟨⟨⟨⟨h.1, h.2.2.2.1⟩, h.2.2.2.2.1⟩, h.2.2.2.2.2.1⟩, h.2.2.2.2.2.2.1⟩

/-! ### dstuPointVal -/

/-- only ERR_OK, ERR_BAD_PARAMS and ERR_BAD_POINT -/
theorem dstuPointValV_code (W : Nat) (v : DstuVals) (x y : Nat) :
    dstuPointValV W v x y = 0 ∨ dstuPointValV W v x y = 502 ∨ dstuPointValV W v x y = 401 := by
  unfold dstuPointValV
  cases dstuCreate W v with
  | none => simp
  | some E =>
    simp only
    split
    · exact Or.inl rfl
    · exact Or.inr (Or.inr rfl)

end Bee2V.C12
