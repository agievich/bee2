/-
C12 — lemmas about the validator models of ModelVal.lean: bit and word sizes, the common core of the two
word-array Hasse checks, the MOV loop, return codes, and the models run on toy and standard parameters.
The theorems about the Hasse checks, `movOk` and the decision lists are in PropsVal.  No Mathlib.
-/
import Bee2V.C12.ModelVal
import Bee2V.C12.LemmasCascade
namespace Bee2V.C12

/-! ### bitSize / wordSize -/

namespace ValAux

theorem bitSize_le_iff (v k : Nat) : bitSize v ≤ k ↔ v < 2 ^ k := by
  unfold bitSize
  by_cases hv : v = 0
  · subst hv; simp [Nat.two_pow_pos]
  · rw [if_neg hv, Nat.succ_le_iff, Nat.log2_lt hv]

theorem wordSize_le_iff (W d n : Nat) (hW : 0 < W) : wordSize W d ≤ n ↔ d < 2 ^ (W * n) := by
  rw [← bitSize_le_iff]
  unfold wordSize
  generalize bitSize d = s
  rw [← Nat.lt_succ_iff, Nat.div_lt_iff_lt_mul hW, Nat.succ_mul, Nat.mul_comm n W]
  omega

theorem wordSize_gt_iff (W d n : Nat) (hW : 0 < W) : wordSize W d > n ↔ 2 ^ (W * n) ≤ d := by
  have := wordSize_le_iff W d n hW
  omega

/-- the final comparison on (t2 / 4, t2 % 4) is `t2 ≤ 4 p` -/
theorem quarter_cmp (s p : Nat) : (!decide (s / 4 > p ∨ (s / 4 = p ∧ s % 4 ≠ 0))) = true ↔ s ≤ 4 * p := by
  simp only [Bool.not_eq_true', decide_eq_false_iff_not]
  omega

theorem sq_sub_of_le (t c d : Nat) (h : t = c + d) : ((t : Int) - (c : Int)) ^ 2 = ((d * d : Nat) : Int) := by
  subst h
  have : ((c + d : Nat) : Int) - (c : Int) = (d : Int) := by omega
  rw [this, Int.pow_succ, Int.pow_succ, Int.pow_zero, Int.one_mul, Int.natCast_mul]

theorem sq_sub_of_ge (t c d : Nat) (h : c = t + d) : ((t : Int) - (c : Int)) ^ 2 = ((d * d : Nat) : Int) := by
  subst h
  have : (t : Int) - ((t + d : Nat) : Int) = -(d : Int) := by omega
  rw [this, Int.pow_succ, Int.pow_succ, Int.pow_zero, Int.one_mul, Int.natCast_mul, Int.neg_mul_neg]

/-- the common core of both Hasse checks: `c` = p resp. 2^m; `hbig`: a difference that does not fit n words
    violates the bound -/
theorem hasse_core (W n c t : Nat) (hW : 0 < W) (hbig : ∀ d, 2 ^ (W * n) ≤ d → 4 * c < d * d) (ht : t ≠ 0) :
    let t1 := t - 1
    let d := if t1 ≥ c then t1 - c else c - t1
    (¬ wordSize W d > n ∧ d * d ≤ 4 * c) ↔ ((t : Int) - (c + 1)) ^ 2 ≤ 4 * c := by
  intro t1 d
  have hsq : ((t : Int) - ((c + 1 : Nat) : Int)) ^ 2 = ((d * d : Nat) : Int) := by
    by_cases h : t1 ≥ c
    · apply sq_sub_of_le; simp only [d, if_pos h, t1]; omega
    · apply sq_sub_of_ge; simp only [d, if_neg h, t1]; omega
  have hsq' : ((t : Int) - (c + 1)) ^ 2 = ((d * d : Nat) : Int) := by
    rw [← hsq]; simp
  rw [hsq', wordSize_gt_iff W d n hW]
  constructor
  · rintro ⟨_, h⟩; omega
  · intro h
    have h' : d * d ≤ 4 * c := by omega
    refine ⟨?_, h'⟩
    intro hge
    have := hbig d hge
    omega

theorem big_of_lt (c B : Nat) (hc4 : 4 ≤ c) (hc : c < B) : ∀ d, B ≤ d → 4 * c < d * d := by
  intro d hd
  have hcd : c + 1 ≤ d := by omega
  have h1 : (c + 1) * (c + 1) ≤ d * d := Nat.mul_le_mul hcd hcd
  have : 4 * (c + 1) ≤ (c + 1) * (c + 1) := Nat.mul_le_mul_right _ (by omega)
  omega

theorem big_of_le (c B : Nat) (hc5 : 5 ≤ c) (hc : c ≤ B) : ∀ d, B ≤ d → 4 * c < d * d := by
  intro d hd
  have hcd : c ≤ d := by omega
  have h1 : c * c ≤ d * d := Nat.mul_le_mul hcd hcd
  have : 5 * c ≤ c * c := Nat.mul_le_mul_right _ hc5
  omega

end ValAux

open ValAux

/-! ### the Hasse bound -/

example : hasseP 16 1 23 29 1 = true ∧ hasseP 16 1 23 37 1 = false := by decide

example : hasse2 16 1 5 37 1 = true ∧ hasse2 16 1 5 47 1 = false := by decide


/-! ### the MOV loop -/

theorem movLoop_iff (q t1 : Nat) : ∀ k t2, movLoop q t1 k t2 = true ↔ ∀ j, 1 ≤ j → j ≤ k → t2 * t1 ^ j % q ≠ 1 := by
  intro k
  induction k with
  | zero => intro t2; simp only [movLoop, true_iff]; intro j h1 h2; omega
  | succ k ih =>
    intro t2
    have hstep : ∀ j, t2 * t1 % q * t1 ^ j % q = t2 * t1 ^ (j + 1) % q := by
      intro j
      rw [Nat.mod_mul_mod, Nat.pow_succ, Nat.mul_assoc, Nat.mul_comm t1]
    simp only [movLoop]
    constructor
    · intro h j h1 h2
      by_cases h0 : t2 * t1 % q = 1
      · simp [h0] at h
      · rw [if_neg h0, ih] at h
        by_cases hj : j = 1
        · subst hj; simpa using h0
        · have := h (j - 1) (by omega) (by omega)
          rw [hstep, show j - 1 + 1 = j by omega] at this
          exact this
    · intro h
      have h0 : t2 * t1 % q ≠ 1 := by simpa using h 1 (by omega) (by omega)
      rw [if_neg h0, ih]
      intro j h1 h2
      rw [hstep]
      exact h (j + 1) (by omega) (by omega)

example : movOk 23 29 6 = true ∧ movOk 23 29 7 = false := by decide

/-! ### decision lists -/

example : Ecp.onCurve ⟨23, 1, 1⟩ 3 10 = true ∧ Ecp.onCurve ⟨23, 1, 1⟩ 3 11 = false := by decide

example : ecpIsValid (fun n => n == 23) 23 1 1 = true := by decide

/-- only ERR_OK and ERR_BAD_PARAMS -/
theorem bignParamsValV_code (isPrime : Nat → Bool) (operable : Bool) (v : BignVals) (mov : Nat) :
    bignParamsValV isPrime operable v mov = 0 ∨ bignParamsValV isPrime operable v mov = 502 := by
  unfold bignParamsValV
  repeat' split
  all_goals simp

/-- trial-division oracle for the toy examples -/
def ValAux.tdPrime (n : Nat) : Bool := decide (2 ≤ n) && (List.range n).all (fun d => d < 2 || n % d != 0)

-- toy curve y² = x³ + x + 4 over GF(23): 29 points, G = (0, 2), 23 has order 7 mod 29
example : bignParamsValV ValAux.tdPrime true ⟨23, 1, 4, 29, 2, 4 + 23 * 5⟩ 6 = 0 := by decide +kernel
example : bignParamsValV ValAux.tdPrime true ⟨23, 1, 4, 29, 2, 4 + 23 * 5⟩ 7 = 502 := by decide +kernel
example : bignPubkeyValV true ⟨23, 1, 4, 29, 2, 4⟩ 7 20 = 0 ∧ bignPubkeyValV true ⟨23, 1, 4, 29, 2, 4⟩ 7 19 = 505 := by
  decide +kernel
example : bignKeypairValV true ⟨23, 1, 4, 29, 2, 4⟩ 5 7 20 = 0 ∧ bignKeypairValV true ⟨23, 1, 4, 29, 2, 4⟩ 5 7 3 = 505 := by
  decide +kernel

/-! #### g12s -/

-- non-vacuity on a standard parameter set (id-GostR3410-2001-CryptoPro-A), W = 64; the oracle accepts exactly
-- p and q (≈ 15 s in the kernel: a 256-bit scalar multiplication with Fermat inversions)
example :
    let p := 2 ^ 256 - 617
    let q := 0xFFFFFFFFFFFFFFFFFFFFFFFFFFFFFFFF6C611070995AD10045841B09B761B893
    g12sParamsValV (fun n => n == p || n == q) 64
      ⟨256, p, p - 3, 166, q, 1, 1, 0x8D91E471E0989CDA27DF505A453F2B7635294F2DDF23E3B122ACC99C9E9F1E14⟩ = 0 := by
  decide +kernel

/-! #### stb99 -/

-- toy: p = 19 (5 bits), q = 3 (2 bits), R = 128, d = 4: a = d^6 R^(-5) mod p = 3 ≠ R mod p = 14
example : stb99ParamsValV ValAux.tdPrime [(5, 2)] ⟨5, 2, 19, 3, 3, 4, true⟩ = 0 ∧
    stb99ParamsValV ValAux.tdPrime [(5, 2)] ⟨5, 2, 19, 3, 0, 0, true⟩ = 502 := by decide +kernel

/-! #### pfok -/

theorem pfokIsOperable_iff (lr : List (Nat × Nat)) (v : PfokVals) :
    pfokIsOperable lr v = true ↔
      lr.contains (v.l, v.r) = true ∧ v.n < v.l ∧ v.p0 % 4 = 3 ∧ v.pTop / 32 = 1 ∧ v.tailsZero = true ∧
      v.g ≠ 0 ∧ v.g < v.p := by
  simp only [pfokIsOperable, Bool.and_eq_true, decide_eq_true_eq, and_assoc]

theorem pfokPubkeyValV_ok_iff (lr : List (Nat × Nat)) (v : PfokVals) (y : Nat) :
    pfokPubkeyValV lr v y = 0 ↔ pfokIsOperable lr v = true ∧ 0 < y ∧ y < v.p := by
  simp only [pfokPubkeyValV, ite_err_eq_zero e502, ite_err_eq_zero e505, Bool.not_eq_true', Bool.not_eq_false, not_or,
    Nat.pos_iff_ne_zero, Nat.not_le, ge_iff_le, ne_eq, and_true]

-- toy: p = 23 = 2·11 + 1, g = 5
example : pfokParamsValV ValAux.tdPrime [(5, 2)] ⟨5, 2, 3, 23, 5, 23, 32, true⟩ = 0 ∧
    pfokPubkeyValV [(5, 2)] ⟨5, 2, 3, 23, 5, 23, 32, true⟩ 22 = 0 ∧
    pfokPubkeyValV [(5, 2)] ⟨5, 2, 3, 23, 5, 23, 32, true⟩ 23 = 505 := by decide +kernel

end Bee2V.C12
