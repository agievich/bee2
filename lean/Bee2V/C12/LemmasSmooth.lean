/-
C12 — priIsSmooth: a ≠ 0 is accepted exactly when every prime divisor of a is 2 or one of the first
`base_count` primes of the factor base.
-/
import Mathlib.Data.Nat.Prime.Basic
import Bee2V.C12.ModelPri
import Bee2V.C12.LemmasPri
namespace Bee2V.C12
open Bee2V.Gen.C12

namespace SmoothAux

theorem base_prime (i : Nat) (h : i < 1024) : Nat.Prime base[i]! :=
  (isPrimeTD'_iff_prime _).1 (base_all_prime i h)

/-- `wwLoZeroBits` followed by the shift: a = 2^k · t with t odd -/
theorem loZeroBits_spec : ∀ (fuel a : Nat), a ≠ 0 → a < 2 ^ fuel →
    2 ^ loZeroBits fuel a ∣ a ∧ (a / 2 ^ loZeroBits fuel a) % 2 = 1 := by
  intro fuel
  induction fuel with
  | zero => intro a ha h; simp at h; omega
  | succ fuel ih =>
    intro a ha h
    unfold loZeroBits
    by_cases hc : a ≠ 0 ∧ a % 2 = 0
    · rw [if_pos hc]
      have hlt : a / 2 < 2 ^ fuel := by rw [Nat.pow_succ] at h; omega
      obtain ⟨h1, h2⟩ := ih (a / 2) (by omega) hlt
      have ha2 : a = 2 * (a / 2) := by omega
      rw [Nat.pow_succ, Nat.mul_comm]
      refine ⟨?_, ?_⟩
      · rw [ha2]
        exact Nat.mul_dvd_mul_left 2 (by rwa [← ha2])
      · rw [← Nat.div_div_eq_div_mul]
        exact h2
    · rw [if_neg hc]
      simp only [Nat.pow_zero, Nat.div_one, Nat.one_dvd, true_and]
      omega

/-- `k`-smooth with respect to the first `bc` base primes -/
def Smooth (bc t : Nat) : Prop := ∀ p, Nat.Prime p → p ∣ t → ∃ j, j < bc ∧ base[j]! = p

theorem smooth_mul_base (bc i t' : Nat) (hbc : bc ≤ 1024) (hi : i < bc) :
    Smooth bc (base[i]! * t') ↔ Smooth bc t' := by
  constructor
  · intro h p hp hd
    exact h p hp (Dvd.dvd.mul_left hd _)
  · intro h p hp hd
    rcases (Nat.Prime.dvd_mul hp).1 hd with h1 | h1
    · exact ⟨i, hi, ((Nat.prime_dvd_prime_iff_eq hp (base_prime i (by omega))).1 h1).symm⟩
    · exact h p hp h1

/-- the main loop: invariant "no base[j], j < i, divides t"; `e` bounds the bit length of t -/
theorem smoothLoop_iff (bc : Nat) (hbc : bc ≤ 1024) : ∀ (fuel t i e : Nat), 2 ≤ t → i ≤ bc → t < 2 ^ e →
    e + (bc - i) ≤ fuel → (∀ j, j < i → ¬ base[j]! ∣ t) →
    (smoothLoop bc fuel t i = true ↔ Smooth bc t) := by
  intro fuel
  induction fuel with
  | zero =>
    intro t i e ht hi he hf _
    have : e = 0 := by omega
    subst this
    simp at he
    omega
  | succ fuel ih =>
    intro t i e ht hi he hf hinv
    unfold smoothLoop
    by_cases hib : i < bc
    · rw [if_pos hib]
      have hb3 := base_ge_3 i (by omega)
      by_cases hdiv : t % base[i]! = 0
      · rw [if_pos hdiv]
        have hmul : t = base[i]! * (t / base[i]!) := by
          have := Nat.div_add_mod t base[i]!
          omega
        generalize t / base[i]! = q at hmul ⊢
        have hsm : Smooth bc t ↔ Smooth bc q := by
          conv => lhs; rw [hmul]
          exact smooth_mul_base bc i _ hbc hib
        by_cases h1 : q = 1
        · simp only [h1, if_true, true_iff]
          rw [hsm, h1]
          intro p hp hd
          exact absurd (Nat.dvd_one.1 hd) hp.ne_one
        · simp only [h1, if_false]
          have hpos : q ≠ 0 := by
            intro h0
            rw [h0] at hmul
            omega
          obtain ⟨e', rfl⟩ : ∃ e', e = e' + 1 := by
            refine ⟨e - 1, ?_⟩
            have : e ≠ 0 := by rintro rfl; simp at he; omega
            omega
          have hlt : q < 2 ^ e' := by
            rw [Nat.pow_succ] at he
            have h2 : 2 * q ≤ base[i]! * q := Nat.mul_le_mul_right _ (by omega)
            omega
          rw [hsm]
          refine ih q i e' (by omega) hi hlt (by omega) ?_
          intro j hj hd
          exact hinv j hj (Nat.dvd_trans hd ⟨base[i]!, by rw [Nat.mul_comm]; exact hmul⟩)
      · rw [if_neg hdiv]
        refine ih t (i + 1) e ht (by omega) he (by omega) ?_
        intro j hj hd
        by_cases hji : j = i
        · subst hji; exact hdiv (Nat.mod_eq_zero_of_dvd hd)
        · exact hinv j (by omega) hd
    · rw [if_neg hib]
      simp only [Bool.false_eq_true, false_iff]
      intro hs
      obtain ⟨p, hp, hd⟩ := Nat.exists_prime_and_dvd (show t ≠ 1 by omega)
      obtain ⟨j, hj, rfl⟩ := hs p hp hd
      exact hinv j (by omega) hd

end SmoothAux

example : priIsSmooth (2 ^ 5 * 3 * 3 * 7 * 13) 5 = true ∧ priIsSmooth (2 ^ 5 * 3 * 3 * 7 * 17) 5 = false ∧
    priIsSmooth 1 0 = true ∧ priIsSmooth 64 0 = true ∧ priIsSmooth 3 0 = false := by decide +kernel

end Bee2V.C12
