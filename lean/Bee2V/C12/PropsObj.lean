import Bee2V.C12.LemmasObj
import Bee2V.C12.LemmasExt
import Bee2V.C12.PropsVal
/-!
C12 — property theorems, fourth part: the structural predicates over ring / field / curve descriptions return TRUE
exactly under the conditions their headers list; the on-curve predicates reject non-canonical coordinates;
priExtendPrime2 returns primes of the requested shape (Demytko's theorem proved).  Helper lemmas: LemmasObj / LemmasExt.
-/
namespace Bee2V.C12
open Bee2V.Gen.C12

/-! ### objects (obj.h, qr.h, zm.h, gfp.h, gf2.h, ec.h) -/

theorem objIsOperable2_conditions (L : Layout) (h : ObjHdr) :
    objIsOperable2 L h = true ↔
      (L.hdr = 0 ∨ h.ptrOk = true) ∧ (h.keep = 0 ∨ h.ptrOk = true) ∧ h.oCount ≤ h.pCount ∧
      (L.hdr + L.ptr * h.pCount) % 2 ^ 64 ≤ h.keep := by
  simp [objIsOperable2, memIsValid, and_assoc]

/-- a null object pointer is refused as soon as the header has a size -/
theorem objIsOperable2_null (L : Layout) (h : ObjHdr) (hL : 0 < L.hdr) (hn : h.ptrOk = false) :
    objIsOperable2 L h = false := by
  cases hb : objIsOperable2 L h with
  | false => rfl
  | true =>
    have := ((objIsOperable2_conditions L h).1 hb).1
    rw [hn] at this
    rcases this with h0 | h0
    · omega
    · cases h0

/-- qrIsOperable (qr.h): object operable, keep ≥ sizeof(qr_o), 3 pointers, no nested objects, n > 0, no > 0, unity buffer
    valid, the nine function pointers set. -/
theorem qrIsOperable_conditions (L : Layout) (W : Nat) (r : QrObj) :
    qrIsOperable L W r = true ↔
      objIsOperable2 L r.hdr = true ∧ L.szQr ≤ r.hdr.keep ∧ r.hdr.pCount = 3 ∧ r.hdr.oCount = 0 ∧
      0 < r.n ∧ 0 < r.no ∧ wwIsValid W r.unityOk r.n = true ∧ (∀ f ∈ r.fns, f = true) := by
  simp [qrIsOperable, and_assoc]

/-- zmIsValid (zm.h): qrIsOperable, modulus buffer valid, top word of the modulus non-zero. -/
theorem zmIsValid_conditions (L : Layout) (W : Nat) (r : QrObj) :
    zmIsValid L W r = true ↔
      qrIsOperable L W r = true ∧ wwIsValid W r.modOk r.n = true ∧ r.mod.getD (r.n - 1) 0 ≠ 0 := by
  simp [zmIsValid, and_assoc]

/-- gfpIsOperable (gfp.h): zmIsValid and the modulus is odd and greater than 1 — as tested on the words … -/
theorem gfpIsOperable_conditions (L : Layout) (W : Nat) (f : QrObj) :
    gfpIsOperable L W f = true ↔
      zmIsValid L W f = true ∧ f.mod.headD 0 % 2 = 1 ∧ (1 < f.n ∨ 1 < f.mod.headD 0) := by
  simp [gfpIsOperable, and_assoc]

/-- … and as a statement about the VALUE of the modulus. -/
theorem gfpIsOperable_modulus_odd_gt_one (L : Layout) (W : Nat) (f : QrObj) (hW : 0 < W) (hw : ∀ w ∈ f.mod, w < 2 ^ W)
    (h : gfpIsOperable L W f = true) :
    wordsVal W f.mod f.n % 2 = 1 ∧ 1 < wordsVal W f.mod f.n := by
  obtain ⟨hzm, hodd, hgt⟩ := (gfpIsOperable_conditions L W f).1 h
  obtain ⟨hqr, _, htop⟩ := (zmIsValid_conditions L W f).1 hzm
  have hn : 0 < f.n := ((qrIsOperable_conditions L W f).1 hqr).2.2.2.2.1
  have hpar := ObjAux.wordsVal_mod_two W hW f.mod f.n hn hw
  refine ⟨by omega, ?_⟩
  rcases hgt with hgt | hgt
  · have hge := ObjAux.wordsVal_ge W f.mod f.n (f.n - 1) (by omega) hw htop
    have : 2 ^ 1 ≤ 2 ^ (W * (f.n - 1)) :=
      Nat.pow_le_pow_right (by decide) (Nat.mul_pos hW (by omega))
    omega
  · have hge := ObjAux.wordsVal_ge W f.mod f.n 0 hn hw (by
      cases hm : f.mod with
      | nil => rw [hm] at hgt; simp at hgt
      | cons w ws => rw [hm] at hgt; simp at hgt ⊢; omega)
    -- value ≥ 1 and odd; exclude the value 1 through the low word
    cases hm : f.mod with
    | nil => rw [hm] at hgt; simp at hgt
    | cons w ws =>
      rw [hm] at hgt hw
      obtain ⟨m, hm'⟩ : ∃ m, f.n = m + 1 := ⟨f.n - 1, by omega⟩
      rw [hm', ObjAux.wordsVal_cons, Nat.mod_eq_of_lt (hw w List.mem_cons_self)]
      simp only [List.headD_cons] at hgt
      omega

/-- gfpIsValid (gfp.h): gfpIsOperable and the modulus passes the primality oracle (priIsPrime: PropsPri). -/
theorem gfpIsValid_conditions (isPrime : Nat → Bool) (L : Layout) (W : Nat) (f : QrObj) :
    gfpIsValid isPrime L W f = true ↔
      gfpIsOperable L W f = true ∧ isPrime (wordsVal W f.mod f.n) = true := by
  simp [gfpIsValid]

/-- gf2IsOperable (gf2.h): qrIsOperable, params valid, p0 > p1 ≥ p2 ≥ p3, strict for pentanomials (p2 > 0), n = ⌈p0/W⌉,
    no = ⌈p0/8⌉, modulus buffer valid and its last word non-zero. -/
theorem gf2IsOperable_conditions (L : Layout) (W : Nat) (f : QrObj) :
    gf2IsOperable L W f = true ↔
      qrIsOperable L W f = true ∧ memIsValid f.paramsOk 32 = true ∧
      f.params.getD 1 0 < f.params.getD 0 0 ∧ f.params.getD 2 0 ≤ f.params.getD 1 0 ∧
      f.params.getD 3 0 ≤ f.params.getD 2 0 ∧
      (0 < f.params.getD 2 0 →
        f.params.getD 2 0 < f.params.getD 1 0 ∧ f.params.getD 3 0 < f.params.getD 2 0 ∧ 0 < f.params.getD 3 0) ∧
      f.n = (f.params.getD 0 0 + W - 1) / W ∧ f.no = (f.params.getD 0 0 + 7) / 8 ∧
      wwIsValid W f.modOk (f.n + (if f.params.getD 0 0 % W = 0 then 1 else 0)) = true ∧
      f.mod.getD (f.n + (if f.params.getD 0 0 % W = 0 then 1 else 0) - 1) 0 ≠ 0 := by
  unfold gf2IsOperable
  simp only []
  generalize f.params.getD 0 0 = p0
  generalize f.params.getD 1 0 = p1
  generalize f.params.getD 2 0 = p2
  generalize f.params.getD 3 0 = p3
  generalize f.n + (if p0 % W = 0 then 1 else 0) = n1
  cases hq : qrIsOperable L W f <;> cases hm : memIsValid f.paramsOk 32 <;> simp
  constructor
  · rintro ⟨⟨h1, h2, h3, h4, h5, h6⟩, h7, h8⟩
    refine ⟨h1, h2, h3, fun hp => ?_, h5, h6, h7, h8⟩
    omega
  · rintro ⟨h1, h2, h3, h4, h5, h6, h7, h8⟩
    refine ⟨⟨h1, h2, h3, ?_, h5, h6⟩, h7, h8⟩
    by_cases hp : p2 = 0
    · exact Or.inl hp
    · have := h4 (by omega)
      exact Or.inr (by omega)

/-- gf2IsValid (gf2.h): operable and, for p1 > 0, the modulus IS the polynomial x^p0 + x^p1 + x^p2 + x^p3 + 1 and that
    polynomial is irreducible (`ppIsIrred_irreducible`, PropsPp); for p1 = 0 (normal basis, reserved) nothing more. -/
theorem gf2IsValid_conditions (L : Layout) (W : Nat) (f : QrObj) :
    gf2IsValid L W f = true ↔
      gf2IsOperable L W f = true ∧
      (0 < f.params.getD 1 0 →
        wordsVal W f.mod (f.n + (if f.params.getD 0 0 % W = 0 then 1 else 0)) =
          2 ^ f.params.getD 0 0 ||| 2 ^ f.params.getD 1 0 ||| 2 ^ f.params.getD 2 0 ||| 2 ^ f.params.getD 3 0 ||| 1 ∧
        ppIsIrred (2 ^ f.params.getD 0 0 ||| 2 ^ f.params.getD 1 0 ||| 2 ^ f.params.getD 2 0 |||
          2 ^ f.params.getD 3 0 ||| 1) = true) := by
  unfold gf2IsValid
  simp only []
  cases ho : gf2IsOperable L W f <;> simp
  by_cases hp : f.params[1]?.getD 0 = 0
  · simp [hp]
  · have hp' : 0 < f.params[1]?.getD 0 := by omega
    simp [hp, hp']

theorem ecIsOperable2_conditions (L : Layout) (W : Nat) (ec : EcObj) :
    ecIsOperable2 L W ec = true ↔
      objIsOperable2 L ec.hdr = true ∧ L.szEc ≤ ec.hdr.keep ∧ ec.hdr.pCount = 6 ∧ ec.hdr.oCount = 1 ∧
      wwIsValid W ec.aOk ec.f.n = true ∧ wwIsValid W ec.bOk ec.f.n = true ∧ 3 ≤ ec.d ∧
      (∀ f ∈ ec.fns, f = true) := by
  simp [ecIsOperable2, and_assoc]

theorem ecIsOperable_conditions (L : Layout) (W : Nat) (ec : EcObj) :
    ecIsOperable L W ec = true ↔
      ecIsOperable2 L W ec = true ∧ qrIsOperable L W ec.f = true ∧ ec.f.deep ≤ ec.deep := by
  simp [ecIsOperable, and_assoc]

/-- ecIsOperableGroup (ec.h): base buffer (2n words) and order buffer (n + 1 words) valid, order ≠ 0, cofactor ≠ 0. -/
theorem ecIsOperableGroup_conditions (W : Nat) (ec : EcObj) :
    ecIsOperableGroup W ec = true ↔
      wwIsValid W ec.baseOk (2 * ec.f.n) = true ∧ wwIsValid W ec.orderOk (ec.f.n + 1) = true ∧
      ec.order ≠ 0 ∧ ec.cofactor ≠ 0 := by
  simp [ecIsOperableGroup, and_assoc]

theorem mtMtxIsValid_conditions (ok : Bool) (sz : Nat) : mtMtxIsValid ok sz = true ↔ sz = 0 ∨ ok = true := by
  simp [mtMtxIsValid, memIsValid]

/-! ### on-curve predicates on raw coordinates -/

/-- ecpIsOnA: both coordinates reduced and the curve equation. -/
theorem ecpIsOnA_exact (E : Ecp) (x y : Nat) :
    ecpIsOnA E x y = true ↔ x < E.p ∧ y < E.p ∧ (y * y) % E.p = (x * x * x + E.a * x + E.b) % E.p := by
  simp only [ecpIsOnA, Bool.and_eq_true, decide_eq_true_eq, ecpIsOnA_equation, and_assoc]

/-- non-canonical representatives x + k·p, y + k·p (k ≥ 1) satisfy the congruence but are rejected. -/
theorem ecpIsOnA_rejects_noncanonical (E : Ecp) (x y k : Nat) (hk : 0 < k) :
    ecpIsOnA E (x + k * E.p) y = false ∧ ecpIsOnA E x (y + k * E.p) = false ∧
    Ecp.onCurve E (x + k * E.p) y = Ecp.onCurve E x y := by
  have hp : E.p ≤ k * E.p := Nat.le_mul_of_pos_left _ hk
  refine ⟨Bool.eq_false_iff.2 fun h => ?_, Bool.eq_false_iff.2 fun h => ?_, ?_⟩
  · have := ((ecpIsOnA_exact E _ y).1 h).1
    omega
  · have := ((ecpIsOnA_exact E x _).1 h).2.1
    omega
  · -- the congruence alone does not distinguish `x` from `x + k·p`
    have hX : (x + k * E.p) % E.p = x % E.p := Nat.add_mul_mod_self_right _ _ _
    have hmul : ∀ u v u' v' : Nat, u % E.p = u' % E.p → v % E.p = v' % E.p → (u * v) % E.p = (u' * v') % E.p := by
      intro u v u' v' h1 h2; rw [Nat.mul_mod, h1, h2, ← Nat.mul_mod]
    have hadd : ∀ u v u' v' : Nat, u % E.p = u' % E.p → v % E.p = v' % E.p → (u + v) % E.p = (u' + v') % E.p := by
      intro u v u' v' h1 h2; rw [Nat.add_mod, h1, h2, ← Nat.add_mod]
    have key : ((x + k * E.p) * (x + k * E.p) * (x + k * E.p) + E.a * (x + k * E.p) + E.b) % E.p =
        (x * x * x + E.a * x + E.b) % E.p :=
      hadd _ _ _ _ (hadd _ _ _ _ (hmul _ _ _ _ (hmul _ _ _ _ hX hX) hX) (hmul _ _ _ _ rfl hX)) rfl
    rw [Bool.eq_iff_iff, ecpIsOnA_equation, ecpIsOnA_equation, key]

theorem ec2IsOnA_exact (E : Ec2) (x y : Nat) :
    ec2IsOnA E x y = true ↔ x < 2 ^ E.F.m ∧ y < 2 ^ E.F.m ∧ Ec2.onCurve E x y = true := by
  simp only [ec2IsOnA, Bool.and_eq_true, decide_eq_true_eq, and_assoc]

theorem ec2IsOnA_rejects_high_bits (E : Ec2) (x y h : Nat) (hh : 0 < h) :
    ec2IsOnA E (x ||| (h <<< E.F.m)) y = false ∧ ec2IsOnA E x (y ||| (h <<< E.F.m)) = false := by
  refine ⟨Bool.eq_false_iff.2 fun hb => ?_, Bool.eq_false_iff.2 fun hb => ?_⟩
  · have := ((ec2IsOnA_exact E _ y).1 hb).1
    have := ObjAux.le_or_shift x h E.F.m hh
    omega
  · have := ((ec2IsOnA_exact E x _).1 hb).2.1
    have := ObjAux.le_or_shift y h E.F.m hh
    omega

/-! ### priExtendPrime2 / priExtendPrime / priBasePrime -/

/-- Demytko's theorem for the test as computed: q odd prime, p = 2qar + 1, 2ar < 4q + 1, (4^r)^a ≢ 1 and ((4^r)^a)^q ≡ 1
    (mod p) ⇒ p is prime.  (The bound cannot be dropped: 341 = 11·31 passes with q = 5, a = 1, r = 34.) -/
theorem demytko_test_sound (p q a r : Nat) (hq : Nat.Prime q) (hq2 : q % 2 = 1) (hp : p = 2 * q * a * r + 1)
    (hR : 2 * a * r < 4 * q + 1) (h : demytko p q a r = true) : Nat.Prime p := by
  have hq3 : 3 ≤ q := by have := hq.two_le; omega
  unfold demytko at h
  simp only [powMod_eq, Bool.and_eq_true, bne_iff_ne, beq_iff_eq, ne_eq] at h
  obtain ⟨h1, h2⟩ := h
  have har : a * r ≠ 0 := by
    intro h0
    have hp1 : p = 1 := by rw [hp, Nat.mul_assoc, h0, Nat.mul_zero]
    subst hp1
    simp [Nat.mod_one] at h1
  have hpR : p = q * (2 * a * r) + 1 := by rw [hp]; ring
  have hp7 : 7 ≤ p := by
    have : 0 < a * r := Nat.pos_of_ne_zero har
    have := Nat.mul_le_mul_left q (show 2 ≤ 2 * a * r by rw [Nat.mul_assoc]; omega)
    omega
  have e1 : ((4 % p) ^ r % p) ^ a % p = 2 ^ (2 * a * r) % p := by
    rw [← Nat.pow_mod, ← pow_mul, ← Nat.pow_mod, show (4 : ℕ) = 2 ^ 2 by norm_num, ← pow_mul]
    congr 2; ring
  rw [e1, Nat.mod_eq_of_lt (show 1 < p by omega)] at h1 h2
  rw [← Nat.pow_mod, ← pow_mul, Nat.mul_comm] at h2
  have hodd : p % 2 = 1 := by rw [hp, Nat.mul_assoc, Nat.mul_assoc]; omega
  refine prime_of_pocklington hq hq2 hpR hodd ?_ h1 h2
  have hle : q * (2 * a * r) ≤ q * (4 * q) := Nat.mul_le_mul_left q (by omega)
  have hexp : (2 * q + 1) * (2 * q + 1) = q * (4 * q) + 4 * q + 1 := by ring
  omega

/-- whatever priExtendPrime2 returns — for EVERY output of the generator (tape), every trials / base_count — is a prime
    of exactly l bits with p ≡ 1 (mod 2q) and 2qa | p − 1, given the documented preconditions (q odd prime, a > 0,
    l ≤ 2·bitlen(q)). -/
theorem priExtendPrime2_returns_prime (W l q a : Nat) (trials : Option Nat) (baseCount : Nat) (tape : List UInt8) (fuel p : Nat)
    (hW : W = 16 ∨ W = 32 ∨ W = 64) (hbc : baseCount ≤ 1024) (hl2 : 2 ≤ l) (ha : 0 < a)
    (hq : Nat.Prime q) (hq2 : q % 2 = 1) (hl : l ≤ 2 * bitSize q)
    (h : (priExtendPrime2 W l q a trials baseCount tape fuel).1 = some p) :
    Nat.Prime p ∧ bitSize p = l ∧ p % (2 * q) = 1 ∧ (2 * q * a) ∣ (p - 1) := by
  have hq0 := hq.pos
  obtain ⟨r, hp, hb, hd⟩ :=
    priExtendPrime2_found W l q a trials baseCount tape fuel p hW hbc hl2 (Nat.mul_pos hq0 ha) h
  have hk : 1 ≤ bitSize q := by unfold bitSize; rw [if_neg (by omega)]; omega
  have hqlo : 2 ^ (bitSize q - 1) ≤ q := ((bitSize_eq_iff q (bitSize q) hk).1 rfl).1
  have hplt : p < 2 ^ l := by have := bitSize_lt p; rwa [hb] at this
  have hpow : 2 ^ l ≤ 2 ^ (bitSize q - 1) * 2 ^ (bitSize q + 1) := by
    rw [← Nat.pow_add]; exact Nat.pow_le_pow_right (by decide) (by omega)
  have hR : 2 * a * r < 4 * q + 1 := by
    have h1 : q * (2 * a * r) < q * 2 ^ (bitSize q + 1) := by
      have e : p = q * (2 * a * r) + 1 := by rw [hp]; ring
      have := Nat.mul_le_mul_right (2 ^ (bitSize q + 1)) hqlo
      omega
    have h2 := Nat.lt_of_mul_lt_mul_left h1
    have h3 : 2 ^ (bitSize q + 1) = 4 * 2 ^ (bitSize q - 1) := by
      rw [show bitSize q + 1 = (bitSize q - 1) + 2 by omega, Nat.pow_add]; omega
    omega
  refine ⟨demytko_test_sound p q a r hq hq2 hp hR hd, hb, ?_, ⟨r, by rw [hp, Nat.add_sub_cancel]⟩⟩
  have h2q : 1 < 2 * q := by omega
  rw [hp, Nat.mul_assoc (2 * q), Nat.mul_add_mod]
  exact Nat.mod_eq_of_lt h2q

theorem priExtendPrime_returns_prime (W l q : Nat) (trials : Option Nat) (baseCount : Nat) (tape : List UInt8) (fuel p : Nat)
    (hW : W = 16 ∨ W = 32 ∨ W = 64) (hbc : baseCount ≤ 1024) (hl2 : 2 ≤ l)
    (hq : Nat.Prime q) (hq2 : q % 2 = 1) (hl : l ≤ 2 * bitSize q)
    (h : (priExtendPrime W l q trials baseCount tape fuel).1 = some p) :
    Nat.Prime p ∧ bitSize p = l ∧ p % (2 * q) = 1 := by
  have := priExtendPrime2_returns_prime W l q 1 trials baseCount tape fuel p hW hbc hl2 (by decide) hq hq2 hl h
  exact ⟨this.1, this.2.1, this.2.2.1⟩

/-- priBasePrime(i), i < priBaseSize() = 1024, is prime and the table is strictly increasing (with
    `base_is_first_odd_primes`: it is the (i + 1)-th odd prime). -/
theorem priBasePrime_is_prime (i : Nat) (h : i < 1024) : Nat.Prime (priBasePrime i) := SmoothAux.base_prime i h

end Bee2V.C12
