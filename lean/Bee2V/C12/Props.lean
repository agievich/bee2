import Bee2V.C12.LemmasTm
/-!
C12 — property theorems (validators accept exactly the valid parameters, keys, primes, polynomials): dates.
The other parts are in PropsPri, PropsSprp, PropsVal, PropsVal2, PropsEc2, PropsPp, PropsObj.
-/
namespace Bee2V.C12

/-! ## dates (src/core/tm.c) -/

/-- `tmDateIsValid(y, m, d)` ⇔ (y, m, d) is a date of the Gregorian calendar, for all `size_t` triples. -/
theorem tmDateIsValid_gregorian (y m d : Nat) :
    tmDateIsValid y m d = true ↔ Spec.gregorian y m d := by
  unfold tmDateIsValid Spec.gregorian
  by_cases hy : 1583 ≤ y <;> by_cases hm1 : 1 ≤ m <;> by_cases hm2 : m ≤ 12 <;> simp [hy, hm1, hm2]
  have hcases : m = 1 ∨ m = 2 ∨ m = 3 ∨ m = 4 ∨ m = 5 ∨ m = 6 ∨ m = 7 ∨ m = 8 ∨ m = 9 ∨ m = 10 ∨ m = 11 ∨ m = 12 := by omega
  have hl := yearIsSlope_iff y
  rcases hcases with h | h | h | h | h | h | h | h | h | h | h | h <;> subst h <;> simp [Spec.daysInMonth]
  all_goals first
    | omega
    | (by_cases hs : Spec.isLeap y
       · have : yearIsSlope y = true := hl.mpr hs
         simp [hs, this]; omega
       · have : yearIsSlope y = false := by
           cases h : yearIsSlope y
           · rfl
           · exact absurd (hl.mp h) hs
         simp [hs, this]; omega)

/-- `tmDateIsValid2(date)` ⇔ the six octets are decimal digits ∧ (2000 + YY, MM, DD) is a Gregorian date;
    for all 256^6 octet vectors (structural proof). -/
theorem tmDateIsValid2_iff (d0 d1 d2 d3 d4 d5 : UInt8) :
    tmDateIsValid2 d0 d1 d2 d3 d4 d5 = true ↔
      (d0 ≤ 9 ∧ d1 ≤ 9 ∧ d2 ≤ 9 ∧ d3 ≤ 9 ∧ d4 ≤ 9 ∧ d5 ≤ 9) ∧
      Spec.gregorian (2000 + (10 * d0.toNat + d1.toNat)) (10 * d2.toNat + d3.toNat) (10 * d4.toNat + d5.toNat) := by
  unfold tmDateIsValid2
  simp only [Bool.and_eq_true, decide_eq_true_eq, tmDateIsValid_gregorian]
  have : 10 * d0.toNat + d1.toNat + 2000 = 2000 + (10 * d0.toNat + d1.toNat) := by omega
  rw [this]
  constructor
  · rintro ⟨⟨⟨⟨⟨⟨a, b⟩, c⟩, d⟩, e⟩, f⟩, g⟩; exact ⟨⟨a, b, c, d, e, f⟩, g⟩
  · rintro ⟨⟨a, b, c, d, e, f⟩, g⟩; exact ⟨⟨⟨⟨⟨⟨a, b⟩, c⟩, d⟩, e⟩, f⟩, g⟩

/-- non-vacuity: 29 Feb 2024 validates, 29 Feb 2023 and the "digit" 0x0A do not -/
example : tmDateIsValid2 2 4 0 2 2 9 = true ∧ tmDateIsValid2 2 3 0 2 2 9 = false ∧
    tmDateIsValid2 0 0 0 1 0 10 = false ∧ tmDateIsValid2 0 0 0 12 0 31 = false := by decide

end Bee2V.C12
