/-
C12 — lemmas on the model of src/math/pri.c (ModelPri.lean): `powMod` is the modular power, the decomposition
a − 1 = r·2^s, square roots of 1 modulo a prime and Fermat (the loops accept every prime: LemmasSprp), the draws of
priRMTest, Pocklington's criterion (`prime_of_pocklington`: the test of priIsSGPrime for 2q + 1 here, Demytko's test of
priExtendPrime2 in PropsObj), trial division = `Nat.Prime`.
-/
import Mathlib.FieldTheory.Finite.Basic
import Mathlib.Data.Nat.Prime.Basic
import Bee2V.C12.ModelPri
import Bee2V.C12.LemmasSieve
import Bee2V.C12.LemmasNext
namespace Bee2V.C12
open Bee2V.Gen.C12

/-! ### powMod = modular power -/

/-- the square-and-multiply of the model is the modular power (all `m`, also `m = 0` where `% 0` is the identity,
    and `m = 1` where both sides are `0`) -/
theorem powMod_eq (b e m : Nat) : powMod b e m = b ^ e % m := by
  induction e using Nat.strong_induction_on with
  | _ e ih =>
    rw [powMod]
    split
    · next h => subst h; simp
    · next h =>
      have hh := ih (e / 2) (by omega)
      simp only [hh]
      have he : e = e / 2 + e / 2 + e % 2 := by omega
      split
      · next h2 =>
        rw [← Nat.mul_mod, ← Nat.pow_add]
        congr 2; omega
      · next h2 =>
        rw [← Nat.mul_mod, ← Nat.pow_add, Nat.mod_mul_mod]
        have : e = (e / 2 + e / 2) + 1 := by omega
        conv => rhs; rw [this, Nat.pow_succ]

theorem powMod_lt (b e m : Nat) (hm : 0 < m) : powMod b e m < m := by
  rw [powMod_eq]; exact Nat.mod_lt _ hm

/-! ### splitOdd -/

/-- general form with the accumulator: `r·2^s` is preserved, the returned `r'` is odd -/
theorem splitOdd_spec_acc : ∀ (fuel r s r' s' : Nat), r ≠ 0 → r < 2 ^ fuel → splitOdd fuel r s = (r', s') →
    r' % 2 = 1 ∧ r' * 2 ^ s' = r * 2 ^ s ∧ s ≤ s' ∧ (r % 2 = 0 → s < s')
  | 0, r, s, r', s', h0, hlt, _ => by simp at hlt; omega
  | fuel + 1, r, s, r', s', h0, hlt, h => by
    rw [splitOdd] at h
    split at h
    · next hc =>
      have hlt' : r / 2 < 2 ^ fuel := by rw [Nat.pow_succ] at hlt; omega
      have ih := splitOdd_spec_acc fuel (r / 2) (s + 1) r' s' (by omega) hlt' h
      refine ⟨ih.1, ?_, by omega, fun _ => by omega⟩
      rw [ih.2.1, Nat.pow_succ]
      have : r = r / 2 * 2 := by omega
      conv => rhs; rw [this]
      rw [Nat.mul_assoc, Nat.mul_comm (2 ^ s) 2]
    · next hc =>
      simp only [Prod.mk.injEq] at h
      obtain ⟨rfl, rfl⟩ := h
      refine ⟨by omega, rfl, Nat.le_refl _, fun h2 => by omega⟩

/-- `a` odd, `a > 1`: `a - 1 = r·2^s` with `r` odd and `s > 0` -/
theorem splitOdd_spec (fuel a r s : Nat) (hodd : a % 2 = 1) (h1 : 1 < a) (hf : a - 1 < 2 ^ fuel)
    (h : splitOdd fuel (a - 1) 0 = (r, s)) : r % 2 = 1 ∧ r * 2 ^ s = a - 1 ∧ 0 < s := by
  have := splitOdd_spec_acc fuel (a - 1) 0 r s (by omega) hf h
  refine ⟨this.1, by simpa using this.2.1, this.2.2.2 (by omega)⟩

/-! ### square roots of 1 modulo a prime -/

theorem sqrt_one_of_prime {p x : Nat} (hp : Nat.Prime p) (hx : x < p) (h : x * x % p = 1) :
    x = 1 ∨ x = p - 1 := by
  have hp2 := hp.two_le
  have hx0 : x ≠ 0 := by rintro rfl; simp at h
  have hmod : 1 ≡ x * x [MOD p] := by
    unfold Nat.ModEq; rw [h, Nat.mod_eq_of_lt (by omega)]
  have hge : 1 ≤ x * x := Nat.mul_pos (by omega) (by omega)
  have hdvd : p ∣ x * x - 1 := (Nat.modEq_iff_dvd' hge).1 hmod
  have hfac : x * x - 1 = (x - 1) * (x + 1) := by
    obtain ⟨y, rfl⟩ : ∃ y, x = y + 1 := ⟨x - 1, by omega⟩
    simp only [Nat.add_sub_cancel]
    have : (y + 1) * (y + 1) = y * (y + 1 + 1) + 1 := by ring
    rw [this, Nat.add_sub_cancel]
  rw [hfac] at hdvd
  rcases (Nat.Prime.dvd_mul hp).1 hdvd with h1 | h1
  · left
    have := Nat.eq_zero_of_dvd_of_lt h1 (by omega)
    omega
  · right
    have := Nat.le_of_dvd (by omega) h1
    omega

/-! ### the squaring loops -/

/-- the two squaring loops differ only in the order of their tests (`1 ≠ a - 1` for `a > 2`) -/
theorem sqLoopRM_eq_sqLoopW {a : Nat} (ha : 2 < a) : ∀ (k base : Nat), sqLoopRM a k base = sqLoopW a k base
  | 0, _ => rfl
  | k + 1, base => by
    rw [sqLoopRM, sqLoopW, sqLoopRM_eq_sqLoopW ha k]
    simp only [show ∀ x, x + 1 = a ↔ x = a - 1 from fun x => by omega]
    split <;> split <;> first | rfl | omega

/-! ### Fermat -/

/-- Fermat in the form used below -/
theorem fermat_nat {a b : Nat} (hp : Nat.Prime a) (hb : ¬ a ∣ b) : b ^ (a - 1) % a = 1 := by
  have hc : Nat.Coprime b a := ((Nat.Prime.coprime_iff_not_dvd hp).2 hb).symm
  have := Nat.ModEq.pow_totient hc
  rw [Nat.totient_prime hp] at this
  unfold Nat.ModEq at this
  rw [this, Nat.mod_eq_of_lt hp.one_lt]

/-! ### the bases of priIsPrimeW -/

theorem basesW_lt (W a : Nat) (hW : W = 16 ∨ W = 32 ∨ W = 64) (h3 : 3 < a) :
    ∀ b ∈ basesW W a, 0 < b ∧ b < a := by
  intro b hb
  unfold basesW at hb
  rcases hW with rfl | rfl | rfl
  · simp [bases16] at hb; omega
  · simp only [show (32 : Nat) ≠ 16 by decide, if_false, if_true] at hb
    split at hb
    · simp [bases16] at hb; omega
    · simp [bases32] at hb; omega
  · simp only [show (64 : Nat) ≠ 16 by decide, show (64 : Nat) ≠ 32 by decide, if_false] at hb
    split at hb
    · simp [bases16] at hb; omega
    · split at hb
      · simp [bases32] at hb; omega
      · simp [bases64] at hb; omega

/-! ### priRMTest (tape-driven): the draws -/

/-- the skeleton of `rmLoop` that only follows the draws -/
def drawsOk (a : Nat) : Nat → List Nat → Bool
  | 0, _ => true
  | iter + 1, tape =>
    match drawBase a 16 0 tape with
    | (none, _) => false
    | (some _, t) => drawsOk a iter t

/-- what `drawBase` returns comes from the tape; the unread tape is a part of the tape -/
theorem drawBase_mem (a : Nat) : ∀ (fuel i : Nat) (tape : List Nat),
    (∀ b, (drawBase a fuel i tape).1 = some b → b ∈ tape ∧ b ≠ 1 ∧ b + 1 ≠ a) ∧
    (∀ x ∈ (drawBase a fuel i tape).2, x ∈ tape)
  | 0, i, tape => by simp [drawBase]
  | fuel + 1, i, [] => by rw [drawBase]; split <;> simp
  | fuel + 1, i, b :: t => by
    rw [drawBase]
    split
    · simp
    · split
      · have ih := drawBase_mem a fuel (i + 1) t
        refine ⟨fun x hx => ?_, fun x hx => List.mem_cons_of_mem _ (ih.2 x hx)⟩
        have := ih.1 x hx
        exact ⟨List.mem_cons_of_mem _ this.1, this.2⟩
      · next hne =>
        refine ⟨fun x hx => ?_, fun x hx => List.mem_cons_of_mem _ hx⟩
        simp only [Option.some.injEq] at hx
        subst hx
        exact ⟨List.mem_cons_self, by omega, by omega⟩

/-! ### priIsSGPrime -/

theorem priIsSGPrime_of_prime (q : Nat) (hq : Nat.Prime q) (hp : Nat.Prime (2 * q + 1)) : priIsSGPrime q = true := by
  unfold priIsSGPrime
  have hq2 := hq.two_le
  simp only [powMod_eq, decide_eq_true_eq]
  rw [← Nat.pow_mod, Nat.mod_eq_of_lt (a := 1) (by omega)]
  have h4 : 4 ^ q = 2 ^ (2 * q + 1 - 1) := by
    rw [Nat.add_sub_cancel, Nat.pow_mul]
  rw [h4]
  apply fermat_nat hp
  intro hd
  have := Nat.le_of_dvd (by decide) hd
  omega

/-! ### Pocklington's criterion with the factored part an odd prime `q` of `p − 1`; priIsSGPrime and Demytko's test -/

/-- a prime dividing φ(n) divides n or l − 1 for a prime l ∣ n -/
theorem prime_dvd_totient {q n : Nat} (hq : q.Prime) (h : q ∣ Nat.totient n) :
    q ∣ n ∨ ∃ l, l.Prime ∧ l ∣ n ∧ q ∣ l - 1 := by
  have h1 : q ∣ n * ∏ p ∈ n.primeFactors, (p - 1) := by
    rw [← Nat.totient_mul_prod_primeFactors]; exact Dvd.dvd.mul_right h _
  rcases (Nat.Prime.dvd_mul hq).1 h1 with h2 | h2
  · exact Or.inl h2
  · right
    obtain ⟨l, hl, hd⟩ := (Prime.dvd_finsetProd_iff hq.prime _).1 h2
    exact ⟨l, Nat.prime_of_mem_primeFactors hl, Nat.dvd_of_mem_primeFactors hl, hd⟩

/-- Pocklington's step: 2^(qR) ≡ 1, 2^R ≢ 1 (mod p), p = qR + 1 odd: some prime factor of p is ≡ 1 (mod q) -/
theorem demytko_factor {p q R : Nat} (hq : q.Prime) (hp : p = q * R + 1) (hodd : p % 2 = 1) (hp1 : 1 < p)
    (h1 : 2 ^ R % p ≠ 1) (h2 : 2 ^ (q * R) % p = 1) : ∃ l, l.Prime ∧ l ∣ p ∧ q ∣ l - 1 := by
  have hz2 : (2 : ZMod p) ^ (q * R) = 1 := by
    have := (ZMod.natCast_eq_natCast_iff' (2 ^ (q * R)) 1 p).2 (by rw [h2, Nat.mod_eq_of_lt hp1])
    simpa using this
  have hz1 : (2 : ZMod p) ^ R ≠ 1 := by
    intro hc
    have := (ZMod.natCast_eq_natCast_iff' (2 ^ R) 1 p).1 (by simpa using hc)
    rw [Nat.mod_eq_of_lt hp1] at this
    exact h1 this
  have hd1 : orderOf (2 : ZMod p) ∣ q * R := orderOf_dvd_of_pow_eq_one hz2
  have hd2 : ¬ orderOf (2 : ZMod p) ∣ R := fun hc => hz1 (orderOf_dvd_iff_pow_eq_one.1 hc)
  have hqd : q ∣ orderOf (2 : ZMod p) := by
    by_contra hnq
    have hc : Nat.Coprime (orderOf (2 : ZMod p)) q := ((Nat.Prime.coprime_iff_not_dvd hq).2 hnq).symm
    exact hd2 (hc.dvd_of_dvd_mul_left hd1)
  have hcop : Nat.Coprime 2 p := (Nat.Prime.coprime_iff_not_dvd Nat.prime_two).2 (by omega)
  have ht := Nat.ModEq.pow_totient hcop
  have hz3 : (2 : ZMod p) ^ Nat.totient p = 1 := by
    have := (ZMod.natCast_eq_natCast_iff _ _ _).2 ht
    simpa using this
  have hqphi : q ∣ Nat.totient p := dvd_trans hqd (orderOf_dvd_of_pow_eq_one hz3)
  rcases prime_dvd_totient hq hqphi with hqp | hl
  · exfalso
    rw [hp] at hqp
    have : q ∣ 1 := (Nat.dvd_add_right (dvd_mul_right q R)).1 hqp
    exact hq.one_lt.ne' (Nat.dvd_one.1 this)
  · exact hl

/-- q an odd prime, p = qR + 1 odd and below (2q + 1)², 2^(qR) ≡ 1 and 2^R ≢ 1 (mod p) ⇒ p is prime: the prime factor l
    of `demytko_factor` is ≡ 1 (mod 2q), so is p, hence the cofactor p / l; a cofactor > 1 would make p ≥ (2q + 1)² -/
theorem prime_of_pocklington {p q R : Nat} (hq : q.Prime) (hq2 : q % 2 = 1) (hp : p = q * R + 1) (hodd : p % 2 = 1)
    (hlt : p < (2 * q + 1) * (2 * q + 1)) (h1 : 2 ^ R % p ≠ 1) (h2 : 2 ^ (q * R) % p = 1) : Nat.Prime p := by
  have hq3 : 3 ≤ q := by have := hq.two_le; omega
  have hp1 : 1 < p := by
    rcases Nat.lt_or_ge 1 p with h | h
    · exact h
    · have : p = 1 := by omega
      subst this; simp [Nat.mod_one] at h2
  obtain ⟨l, hl, hlp, hql⟩ := demytko_factor hq hp hodd hp1 h1 h2
  have hl2 := hl.two_le
  have hlodd : l % 2 = 1 := by
    rcases hl.eq_two_or_odd with h2' | h2'
    · subst h2'; obtain ⟨c, hc⟩ := hlp; omega
    · exact h2'
  have hcop : Nat.Coprime 2 q := (Nat.coprime_primes Nat.prime_two hq).2 (by omega)
  have h2ql : 2 * q ∣ l - 1 := Nat.Coprime.mul_dvd_of_dvd_of_dvd hcop (Nat.dvd_of_mod_eq_zero (by omega)) hql
  have hlge : 2 * q + 1 ≤ l := by have := Nat.le_of_dvd (by omega) h2ql; omega
  have hlmod : l % (2 * q) = 1 := by
    obtain ⟨u, hu⟩ := h2ql
    have : l = 2 * q * u + 1 := by omega
    rw [this, Nat.mul_add_mod]; exact Nat.mod_eq_of_lt (by omega)
  have hpmod : p % (2 * q) = 1 := by
    obtain ⟨R', rfl⟩ : ∃ R', R = 2 * R' := ⟨R / 2, by
      have : (q * R) % 2 = 0 := by omega
      rw [Nat.mul_mod, hq2, Nat.one_mul, Nat.mod_mod] at this
      omega⟩
    rw [hp, ← Nat.mul_assoc, Nat.mul_comm q 2, Nat.mul_add_mod]; exact Nat.mod_eq_of_lt (by omega)
  obtain ⟨m, hm⟩ := hlp
  by_cases hm1 : m = 1
  · rw [hm, hm1, Nat.mul_one]; exact hl
  · exfalso
    have hm0 : m ≠ 0 := by rintro rfl; omega
    have hmmod : m % (2 * q) = 1 := by
      have := hpmod
      rw [hm, Nat.mul_mod, hlmod, Nat.one_mul, Nat.mod_mod] at this
      exact this
    have hmge : 2 * q + 1 ≤ m := by
      have hd := Nat.div_add_mod m (2 * q)
      rw [hmmod] at hd
      have : m / (2 * q) ≠ 0 := by
        intro h0; rw [h0] at hd; omega
      have : 2 * q * 1 ≤ 2 * q * (m / (2 * q)) := Nat.mul_le_mul_left _ (Nat.pos_of_ne_zero this)
      omega
    have hge : (2 * q + 1) * (2 * q + 1) ≤ p := by rw [hm]; exact Nat.mul_le_mul hlge hmge
    omega

/-- `priIsSGPrime q = true` for an odd prime `q` proves that `2q + 1` is prime: Pocklington with R = 2 (4^q = 2^(2q)) -/
theorem priIsSGPrime_sound (q : Nat) (hq : q.Prime) (hqodd : q % 2 = 1) (h : priIsSGPrime q = true) :
    Nat.Prime (2 * q + 1) := by
  have hq3 : 3 ≤ q := by have := hq.two_le; omega
  have h1 : 4 ^ q % (2 * q + 1) = 1 := by
    unfold priIsSGPrime at h
    simp only [powMod_eq, decide_eq_true_eq] at h
    rwa [← Nat.pow_mod, Nat.mod_eq_of_lt (a := 1) (by omega)] at h
  refine prime_of_pocklington (R := 2) hq hqodd (Nat.mul_comm 2 q ▸ rfl) (by omega) ?_ ?_ ?_
  · have := Nat.mul_le_mul_left (2 * q + 1) (show 2 ≤ 2 * q + 1 by omega); omega
  · rw [show 2 ^ 2 = 4 from rfl, Nat.mod_eq_of_lt (by omega)]; decide
  · rwa [Nat.mul_comm, Nat.pow_mul]

theorem isPrimeTD'_iff_prime (n : Nat) : isPrimeTD' n = true ↔ Nat.Prime n := by
  rw [isPrimeTD'_iff, Nat.prime_def_lt]
  refine and_congr_right fun h2 => ⟨fun hd m hm hdvd => ?_, fun hd d hd2 hdn hmod => ?_⟩
  · rcases Nat.lt_or_ge m 2 with hlt | hge
    · have : m ≠ 0 := by rintro rfl; have := Nat.eq_zero_of_zero_dvd hdvd; omega
      omega
    · exact absurd (Nat.mod_eq_zero_of_dvd hdvd) (hd m hge hm)
  · have := hd d hdn (Nat.dvd_of_mod_eq_zero hmod)
    omega

/-! ### non-vacuity -/

example : priRMTest 53 3 [1, 7, 52, 52, 10, 33] = true ∧ drawsOk 53 3 [1, 7, 52, 52, 10, 33] = true ∧
    drawsOk 53 3 [1, 7, 52] = false ∧ priRMTest 53 3 [1, 7, 52] = false ∧ priRMTest 91 3 [3, 5, 7] = false := by
  decide +kernel
example : priIsSGPrime 11 = true ∧ priIsSGPrime 7 = false ∧ priIsSGPrime 13 = false ∧ priIsSGPrime 1013 = true := by
  decide +kernel
example : priNextPrimeW 32 65500 = some 65519 ∧ priNextPrimeW 64 1000 = some 1009 := by decide +kernel

end Bee2V.C12
