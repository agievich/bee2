import Bee2V.C12.LemmasVal2
import Bee2V.C12.PropsVal
import Bee2V.C12.LemmasSeed
import Bee2V.C12.LemmasSmooth
import Bee2V.C12.LemmasNextP
/-!
C12 — property theorems, second part: constants regenerated from the source, bign96, seed chains, dstuPointVal,
priIsSmooth, priNextPrime (multi-word).
-/
namespace Bee2V.C12
open Bee2V.Gen.C12

/-! ### the constants written in the C sources are those of the standards (and of the models) -/

/-- MOV thresholds (bign 50, bign96 50, g12s 31 / 131, dstu 32), the size bounds of g12sEcCreate / dstuEcCreate /
    dstuParamsVal and the chain margins of stb99DiVal / pfokLiVal, as REGENERATED from the source on every run
    (Bee2V/Gen/C12Consts.lean), equal the values the models `g12sParamsValV`, `dstuParamsValV`, `g12sCreateOk`,
    `dstuCreate` carry as literals; `bignParamsVal` / `bign96ParamsVal` / `stb99SeedVal` / `pfokSeedVal` use the regenerated
    constants directly.  A changed constant in the C code makes this theorem false. -/
theorem validators_use_source_constants :
    movBign = 50 ∧ movBignGen = 50 ∧ movBign96 = 50 ∧ movG12s256 = 31 ∧ movG12s512 = 131 ∧ movDstu = 32 ∧
    dstuOrderBits = 160 ∧ dstuMinM = 160 ∧ dstuMaxM = 509 ∧ g12sPBits256 = 253 ∧ g12sPBits512 = 507 ∧
    g12sQBits256 = 254 ∧ g12sQBits512 = 508 ∧ stb99DiMargin = 16 ∧ pfokLiMargin = 16 := by
  decide

/-- stb99RiVal applies the rule of stb99.h (`5 ri[i+1] / 4 < ri[i]`, no `+ 4`) — docs/C12.fix-6.diff. -/
theorem stb99_ri_rule_is_header_rule : stb99RiMargin = 0 := by decide

/-- bignParamsVal with the threshold of the source. -/
theorem bignParamsVal_source_ok_iff (isPrime : Nat → Bool) (operable : Bool) (v : BignVals) :
    bignParamsVal isPrime operable v = 0 ↔
      operable = true ∧ bignStartOk v = true ∧ v.B % v.p = v.b ∧ v.b ≠ 0 ∧
      ecpIsValid isPrime v.p v.a v.b = true ∧ ecpIsSafeGroup isPrime v.p v.q movBign = true ∧
      isQR v.b v.p = true ∧ powMod v.b ((v.p + 1) / 4) v.p = v.yG ∧
      Ecp.mul ⟨v.p, v.a, v.b⟩ v.q (some (0, v.yG)) = none := by
  unfold bignParamsVal
  exact bignParamsVal_ok_iff isPrime operable v movBign

/-! ### bign96 -/

/-- bign96ParamsVal returns ERR_OK exactly when l = 96, bign96Start succeeds and the list of 6.1.4 holds
    with the MOV threshold written in bign96.c -/
theorem bign96ParamsVal_iff (isPrime : Nat → Bool) (l : Nat) (v : BignVals) :
    bign96ParamsVal isPrime l v = 0 ↔
      l = 96 ∧ bign96StartOk v = true ∧ bignStartOk v = true ∧ v.B % v.p = v.b ∧ v.b ≠ 0 ∧
      ecpIsValid isPrime v.p v.a v.b = true ∧ ecpIsSafeGroup isPrime v.p v.q movBign96 = true ∧
      isQR v.b v.p = true ∧ powMod v.b ((v.p + 1) / 4) v.p = v.yG ∧
      Ecp.mul ⟨v.p, v.a, v.b⟩ v.q (some (0, v.yG)) = none := by
  unfold bign96ParamsVal
  rw [bignParamsVal_ok_iff, Val2Aux.op96_iff, and_assoc]

theorem bign96PubkeyVal_iff (l : Nat) (v : BignVals) (x y : Nat) :
    bign96PubkeyVal l v x y = 0 ↔
      l = 96 ∧ bign96StartOk v = true ∧ bignStartOk v = true ∧ x < v.p ∧ y < v.p ∧
      Ecp.onCurve ⟨v.p, v.a, v.b⟩ x y = true := by
  unfold bign96PubkeyVal
  rw [bignPubkeyVal_ok_iff, Val2Aux.op96_iff, and_assoc]

theorem bign96KeypairVal_iff (l : Nat) (v : BignVals) (d x y : Nat) :
    bign96KeypairVal l v d x y = 0 ↔
      l = 96 ∧ bign96StartOk v = true ∧ bignStartOk v = true ∧ 0 < d ∧ d < v.q ∧
      Ecp.mul ⟨v.p, v.a, v.b⟩ d (some (0, v.yG)) = some (x, y) := by
  unfold bign96KeypairVal
  rw [bignKeypairVal_ok_iff, Val2Aux.op96_iff, and_assoc]

/-! ### dstuPointVal -/

/-- dstuPointVal returns ERR_OK exactly when the curve is created, the coordinates are field elements,
    the point is on the curve and has the order (truncated to f->n words, as the C code reads it) -/
theorem dstuPointVal_iff (W : Nat) (v : DstuVals) (x y : Nat) :
    dstuPointValV W v x y = 0 ↔
      ∃ E, dstuCreate W v = some E ∧ x < 2 ^ v.p0 ∧ y < 2 ^ v.p0 ∧ E.onCurve x y = true ∧
        E.mul (v.n % 2 ^ (W * wordSize W (2 ^ v.p0 - 1))) (some (x, y)) = none := by
  unfold dstuPointValV
  cases hc : dstuCreate W v with
  | none => simp
  | some E =>
    simp only [ite_else_err_eq_zero e401, and_true, Option.isNone_iff_eq_none, Option.some.injEq, exists_eq_left']

/-! ### seed chains (stb99SeedVal, pfokSeedVal) = the rules of the headers over the integers -/

/-- the machine-arithmetic chain test (size_t products, `SIZE_MAX / 5` guard, end of array) decides the integer rule
    x_i ≤ 2 x_{i+1}, 5 x_{i+1} + margin < 4 x_i, last element ≤ 32 (and > 16 for i ≥ 1), zeros after it.
    Hypotheses: the first entry is below SIZE_MAX/5 (stb99DiVal checks SIZE_MAX/8; r, l − 1 are small) and the
    subtraction `4 x₀ − margin` does not wrap (the callers guarantee x₀ > 16 ≥ margin).  Every later accepted entry is
    smaller than its predecessor, so the C guard `x[i] >= SIZE_MAX / 5` rejects nothing that the integer rule accepts. -/
theorem seed_chain_rule (S margin : Nat) (xs : List Nat) (hm : margin ≤ 64)
    (h0 : xs.headD 0 < (2 ^ S - 1) / 5) (hm0 : margin ≤ 4 * xs.headD 0) :
    chainOkM S margin xs = true ↔ Spec.chain margin xs := by
  cases xs with
  | nil => simp [chainOkM, SeedAux.chain_nil]
  | cons x0 rest =>
    simp only [List.headD_cons] at h0 hm0
    unfold chainOkM
    cases rest with
    | nil => simp [SeedAux.chain_single]
    | cons x rest =>
      simp only [List.isEmpty_cons, Bool.false_eq_true, if_false]
      exact SeedAux.go_iff (2 ^ S) margin hm (x :: rest) x0 h0 hm0

/-- `stb99SeedVal` returns ERR_OK exactly for the seeds of the header: l in the table (r = r(l)),
    zi ∈ {1 … 65256}, l/2 ≤ di[0] ≤ (7l − r)/8, the chain rule for di (margin of stb99DiVal), ri[0] = r, the chain
    rule for ri (margin of stb99RiVal).  `hl`, `hr`: sizes for which size_t arithmetic is exact
    (l ≥ 33 so that di[0] > 16; r > 16). -/
theorem stb99SeedVal_iff (S : Nat) (lr : List (Nat × Nat)) (l : Nat) (zi di ri : List Nat)
    (hRi : stb99RiMargin ≤ 16)
    (hl : 32 < l) (hlS : 7 * l + 9 ≤ 2 ^ S)
    (hr : ∀ p ∈ lr, 16 < p.2 ∧ p.2 < (2 ^ S - 1) / 5) :
    stb99SeedVal S lr l zi di ri = 0 ↔
      ∃ r, lr.find? (·.1 = l) = some (l, r) ∧ (∀ z ∈ zi, 1 ≤ z ∧ z ≤ 65256) ∧
        l ≤ 2 * di.headD 0 ∧ 8 * di.headD 0 ≤ 7 * l - r ∧ Spec.chain stb99DiMargin di ∧
        ri.headD 0 = r ∧ Spec.chain stb99RiMargin ri := by
  have hDi : stb99DiMargin ≤ 16 := by decide
  unfold stb99SeedVal
  cases hf : lr.find? (fun q => decide (q.1 = l)) with
  | none => simp
  | some p =>
    obtain ⟨l', r⟩ := p
    obtain ⟨rfl, hmem⟩ := SeedAux.find_fst lr _ (l', r) hf
    have hr' := hr _ hmem
    simp only [ite_err_eq_zero e524, Bool.not_eq_true', Bool.not_eq_false, SeedAux.zi_iff, not_or, Nat.not_le,
      Nat.not_lt, ge_iff_le, gt_iff_lt, Classical.not_not, and_true, Option.some.injEq, Prod.mk.injEq, true_and,
      exists_eq_left', and_assoc]
    refine and_congr_right fun _ => ?_
    -- the guard `d₀ < (2^S − 1)/8` of the code follows from the header's `8 d₀ ≤ 7l − r`; the chains by `seed_chain_rule`
    constructor
    · rintro ⟨h0, h1, h2, h3, h4, h5⟩
      exact ⟨h1, h2, (seed_chain_rule S _ di (by omega) (by omega) (by omega)).1 h3, h4,
        (seed_chain_rule S _ ri (by omega) (by omega) (by omega)).1 h5⟩
    · rintro ⟨h1, h2, h3, h4, h5⟩
      exact ⟨by omega, h1, h2, (seed_chain_rule S _ di (by omega) (by omega) (by omega)).2 h3, h4,
        (seed_chain_rule S _ ri (by omega) (by omega) (by omega)).2 h5⟩

theorem stb99SeedVal_header_rules (lr : List (Nat × Nat)) (l : Nat) (zi di ri : List Nat)
    (hl : 32 < l) (hl' : l < 2 ^ 60) (hr : ∀ p ∈ lr, 16 < p.2 ∧ p.2 < 2 ^ 60) :
    stb99SeedVal 64 lr l zi di ri = 0 ↔
      ∃ r, lr.find? (·.1 = l) = some (l, r) ∧ (∀ z ∈ zi, 1 ≤ z ∧ z ≤ 65256) ∧
        l ≤ 2 * di.headD 0 ∧ 8 * di.headD 0 ≤ 7 * l - r ∧ Spec.chain stb99DiMargin di ∧
        ri.headD 0 = r ∧ Spec.chain stb99RiMargin ri :=
  stb99SeedVal_iff 64 lr l zi di ri (by decide) hl (by omega) (fun p hp => by have := hr p hp; omega)

theorem pfokSeedVal_header_rules (S : Nat) (lr : List (Nat × Nat)) (l : Nat) (zi li : List Nat)
    (hl : 17 < l) (hlS : l - 1 < (2 ^ S - 1) / 5) :
    pfokSeedVal S lr l zi li = 0 ↔
      (∃ p ∈ lr, p.1 = l) ∧ (∀ z ∈ zi, 1 ≤ z ∧ z ≤ 65256) ∧ li.headD 0 = l - 1 ∧
        Spec.chain pfokLiMargin li := by
  have hLi : pfokLiMargin ≤ 16 := by decide
  simp only [pfokSeedVal, ite_err_eq_zero e524, Bool.not_eq_true', Bool.not_eq_false, SeedAux.zi_iff,
    List.any_eq_true, decide_eq_true_eq, Classical.not_not, and_true]
  refine and_congr_right fun _ => and_congr_right fun _ => and_congr_right fun h0 => ?_
  exact seed_chain_rule S pfokLiMargin li (by omega) (by omega) (by omega)

example : Spec.chain 16 [320, 161, 81, 41, 21, 0, 0, 0, 0, 0, 0, 0, 0, 0, 0, 0, 0, 0] :=
  (seed_chain_rule 64 16 _ (by decide) (by decide) (by decide)).1 (by decide)

/-- the header's own chains of maximal length are accepted (they were rejected before fix-6) -/
example : stb99SeedVal 64 stb99Ls 2462 (List.replicate 31 1)
    [1897, 1514, 1207, 962, 766, 609, 483, 383, 303, 239, 187, 146, 113, 87, 66, 49, 35, 24]
    [257, 205, 163, 130, 103, 82, 65, 51, 40, 31] = 0 := by decide

/-! ### priIsSmooth, priNextPrime -/

/-- priIsSmooth (a ≠ 0) ⇔ every prime divisor of a is 2 or one of the first `bc` primes of the factor base. -/
theorem priIsSmooth_exact (a bc : Nat) (ha : a ≠ 0) (hbc : bc ≤ 1024) :
    priIsSmooth a bc = true ↔ ∀ p, Nat.Prime p → p ∣ a → p = 2 ∨ ∃ i, i < bc ∧ base[i]! = p := by
  obtain ⟨hdvd, hodd⟩ := SmoothAux.loZeroBits_spec (bitSize a) a ha (bitSize_lt a)
  unfold priIsSmooth
  generalize loZeroBits (bitSize a) a = k at hdvd hodd
  have hmul : a = 2 ^ k * (a / 2 ^ k) := (Nat.mul_div_cancel' hdvd).symm
  have hta : a / 2 ^ k ≤ a := Nat.div_le_self _ _
  generalize a / 2 ^ k = t at hmul hodd hta
  simp only
  have hspec : (∀ p, Nat.Prime p → p ∣ a → p = 2 ∨ ∃ i, i < bc ∧ base[i]! = p) ↔ SmoothAux.Smooth bc t := by
    constructor
    · intro h p hp hd
      rcases h p hp (hmul ▸ Dvd.dvd.mul_left hd _) with h2 | h2
      · subst h2
        have := Nat.mod_eq_zero_of_dvd hd
        omega
      · exact h2
    · intro h p hp hd
      rw [hmul] at hd
      rcases (Nat.Prime.dvd_mul hp).1 hd with h1 | h1
      · exact Or.inl ((Nat.prime_dvd_prime_iff_eq hp Nat.prime_two).1 (hp.dvd_of_dvd_pow h1))
      · exact Or.inr (h p hp h1)
  rw [hspec]
  by_cases h1 : t = 1
  · simp only [h1, if_true, true_iff]
    intro p hp hd
    exact absurd (Nat.dvd_one.1 hd) hp.ne_one
  · rw [if_neg h1]
    exact SmoothAux.smoothLoop_iff bc hbc _ t 0 (bitSize a) (by omega) (Nat.zero_le _)
      (Nat.lt_of_le_of_lt hta (bitSize_lt a)) (by omega) (fun j hj => by omega)

/-- priNextPrime (multi-word, incremental residues, trials): a returned p is odd, a ≤ p, of the same bit length, not
    divisible by the (adjusted) factor base, passes Miller–Rabin on some tape, respects the trials bound, and every
    earlier odd candidate was sieved out or rejected by Miller–Rabin.  (Primality of p itself is probabilistic:
    `priRMTest_fooled_by_liars`.) -/
theorem priNextPrime_least (W n a : Nat) (trials : Option Nat) (baseCount iter : Nat) (tape : List Nat) (fuel p : Nat)
    (hW : W = 16 ∨ W = 32 ∨ W = 64) (hbc : baseCount ≤ 1024) (ha : a < 2 ^ (n * W))
    (h : priNextPrime W n a trials baseCount iter tape fuel = some p) :
    let bc := if bitSize a ≤ W then adjustBaseCount (a ||| 1) true baseCount else baseCount
    2 ≤ bitSize a ∧ p % 2 = 1 ∧ a ≤ p ∧ p < 2 ^ (n * W) ∧ bitSize p = bitSize a ∧
      (∀ i, i < bc → p % base[i]! ≠ 0) ∧ (∃ tape', (priRMTestT p iter tape').1 = true) ∧
      (∀ t, trials = some t → p < (a ||| 1) + 2 * t) ∧
      ∀ x, x % 2 = 1 → a ≤ x → x < p →
        (∃ i, i < bc ∧ x % base[i]! = 0) ∨ ∃ tape'', (priRMTestT x iter tape'').1 = false :=
  priNextPrime_spec W n a trials baseCount iter tape fuel p hW hbc ha h

end Bee2V.C12
