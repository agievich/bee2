/-
C12 ↔ C05 — the two executable models of `ppIsIrred` (pp_etc.c) agree:
`Bee2V.C12.ppIsIrred f = Bee2V.C05.ppIsIrredV f` for every f.  The primitives agree one by one:
remainder (`C12.pmod` = `C05.Spec.pmod`), Euclid (`C12.pgcd` = `C05.Spec.pgcd` = `C05.ppGCDV` on non-zero
arguments), squaring (`C12.psqr a` = `clmul a a`).  No Mathlib (C05.LemmasPp has none).
-/
import Bee2V.C12.ModelPp
import Bee2V.C05.ModelGf2
import Bee2V.C05.LemmasPp
namespace Bee2V.C12
namespace BridgeC05
open Bee2V.C05.Pp

/-! ### remainder -/

theorem plen_eq (a : Nat) (ha : a ≠ 0) : plen a = a.log2 + 1 := by
  unfold plen; rw [if_neg ha]

theorem xor_xor_cancel (a b : Nat) : a ^^^ b ^^^ a = b := by
  rw [Nat.xor_comm a b, Nat.xor_assoc, Nat.xor_self, Nat.xor_zero]

theorem pmodAux_spec (m : Nat) (hm : m ≠ 0) : ∀ (fuel a : Nat), a < 2 ^ (fuel + m.log2) →
    C05.Spec.pmod (pmodAux m (m.log2 + 1) fuel a) m = C05.Spec.pmod a m ∧
      pmodAux m (m.log2 + 1) fuel a < 2 ^ m.log2 := by
  intro fuel
  induction fuel with
  | zero =>
    intro a ha
    rw [Nat.zero_add] at ha
    exact ⟨rfl, ha⟩
  | succ fuel ih =>
    intro a ha
    unfold pmodAux
    by_cases hc : plen a ≥ m.log2 + 1 ∧ a ≠ 0
    · rw [if_pos hc]
      obtain ⟨hge, ha0⟩ := hc
      rw [plen_eq a ha0] at hge ⊢
      have hge' : m.log2 ≤ a.log2 := by omega
      rw [show a.log2 + 1 - (m.log2 + 1) = a.log2 - m.log2 by omega]
      have hlog : a.log2 < fuel + 1 + m.log2 := (Nat.log2_lt ha0).2 ha
      have hlt : a ^^^ (m <<< (a.log2 - m.log2)) < 2 ^ (a.log2 - m.log2 + m.log2) := by
        apply xor_shift_lt hm
        · rw [show a.log2 - m.log2 + m.log2 + 1 = a.log2 + 1 by omega]; exact Nat.lt_log2_self
        · rw [show a.log2 - m.log2 + m.log2 = a.log2 by omega]; exact Nat.testBit_log2 ha0
      have hlt' : a ^^^ (m <<< (a.log2 - m.log2)) < 2 ^ (fuel + m.log2) :=
        Nat.lt_of_lt_of_le hlt (Nat.pow_le_pow_right (by omega) (by omega))
      obtain ⟨h1, h2⟩ := ih _ hlt'
      refine ⟨?_, h2⟩
      rw [h1]
      apply pmod_cong hm
      exact ⟨2 ^ (a.log2 - m.log2), by rw [xor_xor_cancel, two_pow_clmul]⟩
    · rw [if_neg hc]
      refine ⟨rfl, ?_⟩
      by_cases ha0 : a = 0
      · subst ha0; exact Nat.two_pow_pos _
      · rw [plen_eq a ha0] at hc
        exact (Nat.log2_lt ha0).1 (by omega)

/-- the two remainders agree -/
theorem pmod_eq (a m : Nat) : pmod a m = C05.Spec.pmod a m := by
  by_cases hm : m = 0
  · subst hm; rfl
  · unfold pmod
    rw [if_neg hm, plen_eq m hm]
    have hlt : a < 2 ^ (plen a + m.log2) := by
      by_cases ha0 : a = 0
      · subst ha0; exact Nat.two_pow_pos _
      · rw [plen_eq a ha0]
        exact Nat.lt_of_lt_of_le Nat.lt_log2_self (Nat.pow_le_pow_right (by omega) (by omega))
    obtain ⟨h1, h2⟩ := pmodAux_spec m hm (plen a) a hlt
    rw [← h1, pmod_of_lt hm h2]

/-! ### Euclid -/

theorem pgcdAux_eq : ∀ (f a b : Nat), pgcdAux f a b = C05.Spec.pgcdAux f a b := by
  intro f
  induction f with
  | zero => intro a b; rfl
  | succ f ih =>
    intro a b
    unfold pgcdAux C05.Spec.pgcdAux
    rw [pmod_eq, ih]

theorem pgcd_eq (a b : Nat) : pgcd a b = C05.Spec.pgcd a b := by
  apply isPGcd_unique (a := a) (b := b) _ (pgcd_spec a b)
  unfold pgcd
  rw [pgcdAux_eq]
  apply pgcdAux_spec
  have hb : b < 2 ^ plen b := by
    by_cases hb0 : b = 0
    · subst hb0; exact Nat.two_pow_pos _
    · rw [plen_eq b hb0]; exact Nat.lt_log2_self
  exact Nat.lt_of_lt_of_le hb (Nat.pow_le_pow_right (by omega) (by omega))

/-! ### squaring -/

theorem or_eq_xor_of_lt (acc k : Nat) (h : acc < 2 ^ k) : acc ||| (1 <<< k) = acc ^^^ (1 <<< k) := by
  apply Nat.eq_of_testBit_eq
  intro j
  rw [Nat.testBit_or, Nat.testBit_xor, Nat.one_shiftLeft, Nat.testBit_two_pow]
  by_cases hj : k = j
  · subst hj
    rw [Nat.testBit_lt_two_pow h]
    simp
  · simp [hj]

theorem clmul_self_step (a : Nat) :
    C05.Spec.clmul a a = (a % 2) ^^^ (C05.Spec.clmul (a / 2) (a / 2) <<< 2) := by
  conv => lhs; rw [← bit_decomp a]
  rw [clmul_self_bit _ _ (Nat.mod_lt _ (by decide)), Nat.xor_comm, Nat.shiftLeft_eq, Nat.mul_comm]

theorem psqrAux_spec : ∀ (fuel a i acc : Nat), a < 2 ^ fuel → acc < 2 ^ (2 * i) →
    psqrAux fuel a i acc = acc ^^^ (C05.Spec.clmul a a <<< (2 * i)) := by
  intro fuel
  induction fuel with
  | zero =>
    intro a i acc ha _
    have : a = 0 := by simpa using ha
    subst this
    simp [psqrAux, zero_clmul]
  | succ fuel ih =>
    intro a i acc ha hacc
    unfold psqrAux
    have ha2 : a / 2 < 2 ^ fuel := by rw [Nat.pow_succ] at ha; omega
    have hpow : (2 : Nat) ^ (2 * i) < 2 ^ (2 * (i + 1)) := Nat.pow_lt_pow_right (by decide) (by omega)
    have hacc' : (if a % 2 = 1 then acc ||| 1 <<< (2 * i) else acc) < 2 ^ (2 * (i + 1)) := by
      split
      · rw [or_eq_xor_of_lt acc _ hacc]
        apply Nat.xor_lt_two_pow (by omega)
        rw [Nat.one_shiftLeft]; exact hpow
      · omega
    rw [ih (a / 2) (i + 1) _ ha2 hacc', clmul_self_step a, Nat.shiftLeft_xor_distrib, ← Nat.shiftLeft_add,
      show 2 + 2 * i = 2 * (i + 1) by omega, ← Nat.xor_assoc]
    congr 1
    rcases Nat.mod_two_eq_zero_or_one a with h | h
    · simp [h]
    · simp only [h, if_true]
      rw [or_eq_xor_of_lt acc _ hacc]

/-- spreading the bits = carry-less square -/
theorem psqr_eq (a : Nat) : psqr a = C05.Spec.clmul a a := by
  unfold psqr
  have ha : a < 2 ^ plen a := by
    by_cases ha0 : a = 0
    · subst ha0; exact Nat.two_pow_pos _
    · rw [plen_eq a ha0]; exact Nat.lt_log2_self
  rw [psqrAux_spec (plen a) a 0 0 ha (Nat.two_pow_pos _)]
  simp

/-! ### the Ben-Or loop -/

theorem irredLoop_eq (a : Nat) (ha : a ≠ 0) : ∀ (i h : Nat), irredLoop a i h = C05.ppIsIrredLoop a i h := by
  intro i
  induction i with
  | zero => intro h; rfl
  | succ i ih =>
    intro h
    unfold irredLoop C05.ppIsIrredLoop
    simp only
    by_cases h0 : h ^^^ 2 = 0
    · rw [if_pos h0, if_pos h0]
    · rw [if_neg h0, if_neg h0, pgcd_eq, ← gcdV_eq_pgcd h0 ha]
      by_cases hg : C05.ppGCDV (h ^^^ 2) a ≠ 1
      · rw [if_pos hg, if_pos hg]
      · rw [if_neg hg, if_neg hg]
        have hh : h ^^^ 2 ^^^ 2 = h := by rw [Nat.xor_assoc, Nat.xor_self, Nat.xor_zero]
        rw [hh, ih, psqr_eq, pmod_eq]

end BridgeC05

open BridgeC05

/-- the C12 and the C05 model of `ppIsIrred` are the same function -/
theorem ppIsIrred_eq_C05 (f : Nat) : ppIsIrred f = C05.ppIsIrredV f := by
  unfold ppIsIrred C05.ppIsIrredV
  by_cases h1 : f ≤ 1
  · rw [if_pos h1, if_pos h1]
  · rw [if_neg h1, if_neg h1]
    have hf : f ≠ 0 := by omega
    rw [irredLoop_eq f hf]
    unfold pdeg
    rw [plen_eq f hf, Nat.add_sub_cancel]

example : ppIsIrred 0x11B = true ∧ C05.ppIsIrredV 0x11B = true ∧ ppIsIrred 0x11D = C05.ppIsIrredV 0x11D := by
  decide +kernel

end Bee2V.C12
