/-
C12 — the seed-chain validators of ModelVal2.lean (size_t arithmetic modulo 2^S) against the chain rule of the
headers over the integers (`Spec.chain`): the unfolding of `Spec.chain` at the head and the loop `chainOkM.go`
(`go_iff`); the theorems about chainOkM, stb99SeedVal and pfokSeedVal are in PropsVal2.  No Mathlib.
(`go prev [] = decide (prev ≤ 32)`: [100, 60] is rejected, as the C loop does by
`if (x[count-1] > 32) return ERR_BAD_SEED`.)
-/
import Bee2V.C12.ModelVal2
namespace Bee2V.C12
open Bee2V.Gen.C12

namespace SeedAux

theorem chain_nil (m : Nat) : ¬ Spec.chain m [] := by
  rintro ⟨t, ht, _⟩
  simp at ht

theorem chain_single (m p : Nat) : Spec.chain m [p] ↔ p ≤ 32 := by
  constructor
  · rintro ⟨t, ht, _, _, _, hl⟩
    have h0 : t = 0 := by simpa using ht
    subst h0
    simpa using hl
  · intro h
    refine ⟨0, by simp, ?_, ?_, ?_, by simpa using h⟩
    · intro j h1 h2
      simp at h2
      omega
    · intro i hi; omega
    · intro i h1 h2; omega

/-- all entries zero, by index -/
theorem all_zero_iff (l : List Nat) : (∀ y ∈ l, y = 0) ↔ ∀ j, j < l.length → l.getD j 0 = 0 := by
  induction l with
  | nil => simp
  | cons a l ih =>
    constructor
    · intro h j hj
      cases j with
      | zero => simpa using h a (by simp)
      | succ j =>
        rw [List.getD_cons_succ]
        exact (ih.1 (fun y hy => h y (by simp [hy]))) j (by simpa using hj)
    · intro h y hy
      rcases List.mem_cons.1 hy with rfl | hy
      · simpa using h 0 (by simp)
      · refine ih.2 ?_ y hy
        intro j hj
        have := h (j + 1) (by simpa using hj)
        rwa [List.getD_cons_succ] at this

/-- unfolding `Spec.chain` at the head: either the chain ends at the head (head ≤ 32, zeros follow) or the next
    entry continues it -/
theorem chain_cons_cons (m p x : Nat) (rest : List Nat) :
    Spec.chain m (p :: x :: rest) ↔
      (p ≤ 32 ∧ ∀ y ∈ x :: rest, y = 0) ∨
      (16 < x ∧ p ≤ 2 * x ∧ 5 * x + m < 4 * p ∧ Spec.chain m (x :: rest)) := by
  constructor
  · rintro ⟨t, ht, hz, hs, hg, hl⟩
    cases t with
    | zero =>
      left
      refine ⟨by simpa using hl, ?_⟩
      rw [all_zero_iff]
      intro j hj
      have := hz (j + 1) (by omega) (by simpa using hj)
      rwa [List.getD_cons_succ] at this
    | succ t =>
      right
      have h0 := hs 0 (by omega)
      have h1 := hg 1 (by omega) (by omega)
      simp only [List.getD_cons_succ, List.getD_cons_zero, Nat.zero_add] at h0 h1
      refine ⟨h1, h0.1, h0.2, t, by simpa using ht, ?_, ?_, ?_, ?_⟩
      · intro j h1 h2
        have := hz (j + 1) (by omega) (by simpa using h2)
        rwa [List.getD_cons_succ] at this
      · intro i hi
        have := hs (i + 1) (by omega)
        simpa only [List.getD_cons_succ] using this
      · intro i hi1 hi2
        have := hg (i + 1) (by omega) (by omega)
        rwa [List.getD_cons_succ] at this
      · rwa [List.getD_cons_succ] at hl
  · rintro (⟨hp, hz⟩ | ⟨hx, h1, h2, t, ht, hz, hs, hg, hl⟩)
    · rw [all_zero_iff] at hz
      refine ⟨0, by simp, ?_, ?_, ?_, by simpa using hp⟩
      · intro j h1 h2
        obtain ⟨j, rfl⟩ : ∃ k, j = k + 1 := ⟨j - 1, by omega⟩
        rw [List.getD_cons_succ]
        exact hz j (by simpa using h2)
      · intro i hi; omega
      · intro i h1 h2; omega
    · refine ⟨t + 1, by simpa using ht, ?_, ?_, ?_, ?_⟩
      · intro j h1 h2
        obtain ⟨j, rfl⟩ : ∃ k, j = k + 1 := ⟨j - 1, by omega⟩
        rw [List.getD_cons_succ]
        exact hz j (by omega) (by simpa using h2)
      · intro i hi
        cases i with
        | zero => simpa using ⟨h1, h2⟩
        | succ i =>
          have := hs i (by omega)
          simpa only [List.getD_cons_succ] using this
      · intro i hi1 hi2
        obtain ⟨i, rfl⟩ : ∃ k, i = k + 1 := ⟨i - 1, by omega⟩
        rw [List.getD_cons_succ]
        cases i with
        | zero => simpa using hx
        | succ i => exact hg (i + 1) (by omega) (by omega)
      · rwa [List.getD_cons_succ]

/-- the size_t test of one chain step is the integer test, when the previous entry is below SIZE_MAX/5 and
    the subtraction of the margin does not wrap -/
theorem step_iff (M m prev x : Nat) (hprev : prev < (M - 1) / 5) (hm : m ≤ 4 * prev) :
    ¬ (x ≥ (M - 1) / 5 ∨ prev > 2 * x % M ∨ 5 * x % M ≥ (4 * prev % M + M - m) % M) ↔
      prev ≤ 2 * x ∧ 5 * x + m < 4 * prev := by
  by_cases hx : x ≥ (M - 1) / 5
  · simp only [hx, true_or, not_true_eq_false, false_iff]
    omega
  · have e1 : 2 * x % M = 2 * x := Nat.mod_eq_of_lt (by omega)
    have e2 : 5 * x % M = 5 * x := Nat.mod_eq_of_lt (by omega)
    have e3 : 4 * prev % M = 4 * prev := Nat.mod_eq_of_lt (by omega)
    have e4 : (4 * prev + M - m) % M = 4 * prev - m := by
      rw [show 4 * prev + M - m = (4 * prev - m) + M by omega, Nat.add_mod_right]
      exact Nat.mod_eq_of_lt (by omega)
    rw [e1, e2, e3, e4]
    omega

/-- the loop of the validators from an entry `prev` on -/
theorem go_iff (M m : Nat) (hm : m ≤ 64) : ∀ (rest : List Nat) (prev : Nat),
    prev < (M - 1) / 5 → m ≤ 4 * prev →
    (chainOkM.go m M prev rest = true ↔ Spec.chain m (prev :: rest)) := by
  intro rest
  induction rest with
  | nil =>
    intro prev _ _
    simp [chainOkM.go, chain_single]
  | cons x rest ih =>
    intro prev hprev hmp
    rw [chain_cons_cons]
    unfold chainOkM.go
    by_cases hx : x > 16
    · rw [if_pos hx]
      have hno : ¬ (prev ≤ 32 ∧ ∀ y ∈ x :: rest, y = 0) := by
        rintro ⟨_, hz⟩
        have := hz x (by simp)
        omega
      have hstep := step_iff M m prev x hprev hmp
      by_cases hc : x ≥ (M - 1) / 5 ∨ prev > 2 * x % M ∨ 5 * x % M ≥ (4 * prev % M + M - m) % M
      · rw [if_pos hc]
        have : ¬ (prev ≤ 2 * x ∧ 5 * x + m < 4 * prev) := fun h => (hstep.2 h) hc
        simp only [Bool.false_eq_true, false_iff]
        rintro (h | ⟨_, h1, h2, _⟩)
        · exact hno h
        · exact this ⟨h1, h2⟩
      · rw [if_neg hc]
        have hs := hstep.1 hc
        have hxlt : x < (M - 1) / 5 := by omega
        rw [ih x hxlt (by have := hm; omega)]
        constructor
        · intro h; exact Or.inr ⟨hx, hs.1, hs.2, h⟩
        · rintro (h | ⟨_, _, _, h⟩)
          · exact absurd h hno
          · exact h
    · rw [if_neg hx]
      have hno : ¬ (16 < x ∧ prev ≤ 2 * x ∧ 5 * x + m < 4 * prev ∧ Spec.chain m (x :: rest)) := fun h => hx h.1
      by_cases hp : prev > 32
      · rw [if_pos hp]
        simp only [Bool.false_eq_true, false_iff]
        rintro (⟨h, _⟩ | h)
        · omega
        · exact hno h
      · rw [if_neg hp]
        simp only [List.all_eq_true, beq_iff_eq]
        constructor
        · intro h; exact Or.inl ⟨by omega, h⟩
        · rintro (⟨_, h⟩ | h)
          · exact h
          · exact absurd h hno

end SeedAux

open SeedAux

/-- every entry of an accepted chain after the first is smaller than its predecessor (so the C test
    `x[i] >= SIZE_MAX / 5` rejects nothing the integer rule accepts) -/
theorem Spec.chain_decreasing (margin : Nat) (xs : List Nat) (h : Spec.chain margin xs) :
    ∃ t, t < xs.length ∧ (∀ i, i < t → xs.getD (i + 1) 0 < xs.getD i 0) ∧
      (∀ j, t < j → j < xs.length → xs.getD j 0 = 0) := by
  obtain ⟨t, ht, hz, hs, _, _⟩ := h
  exact ⟨t, ht, fun i hi => by have := hs i hi; omega, hz⟩

/-! ### stb99SeedVal / pfokSeedVal: the tests on `zi` and the lookup of `l` -/

namespace SeedAux

theorem zi_iff (zi : List Nat) :
    (zi.all (fun z => decide (z ≠ 0 ∧ z < 65257))) = true ↔ ∀ z ∈ zi, 1 ≤ z ∧ z ≤ 65256 := by
  simp only [List.all_eq_true, decide_eq_true_eq]
  constructor
  · intro h z hz; have := h z hz; omega
  · intro h z hz; have := h z hz; omega

theorem find_fst (lr : List (Nat × Nat)) (l : Nat) (p : Nat × Nat)
    (h : lr.find? (fun q => decide (q.1 = l)) = some p) : p.1 = l ∧ p ∈ lr := by
  have h1 := List.find?_some h
  have h2 := List.mem_of_find?_eq_some h
  exact ⟨by simpa using h1, h2⟩

end SeedAux

/-! ### non-vacuity: the standard chains (stb99SeedAdj / pfokSeedAdj for l = 638) -/

example : chainOkM 64 stb99DiMargin [320, 161, 81, 41, 21, 0, 0, 0, 0, 0, 0, 0, 0, 0, 0, 0, 0, 0] = true := by decide
example : chainOkM 64 16 [143, 72, 37, 19, 0, 0, 0, 0, 0, 0] = true ∧
    chainOkM 64 0 [143, 72, 37, 19, 0, 0, 0, 0, 0, 0] = true := by decide
-- 5·161 + 16 = 821 < 1280 but 5·257 + 16 ≥ 4·320; a chain that does not end in {17 … 32}; a non-zero tail;
-- a chain that reaches the end of the array with a last entry > 32
example : chainOkM 64 16 [320, 257, 0] = false ∧ chainOkM 64 16 [320, 161, 0] = false ∧
    chainOkM 64 16 [320, 161, 81, 41, 21, 0, 1] = false ∧ chainOkM 64 16 [100, 60] = false ∧
    chainOkM 64 16 [100, 60, 32] = true := by decide
-- the margin matters: 5·20 = 100 < 4·27 = 108 but 100 + 16 ≥ 108
example : chainOkM 64 0 [27, 20, 0] = true ∧ chainOkM 64 16 [27, 20, 0] = false := by decide
-- size_t wrap-around: 5·x wraps to a small value, the guard x ≥ SIZE_MAX/5 rejects
example : chainOkM 64 16 [2 ^ 63, (2 ^ 64 + 4) / 5 * 1, 0] = false := by decide

example : stb99SeedVal 64 [(638, 143), (766, 154)] 638 [1, 2, 3]
    [320, 161, 81, 41, 21, 0, 0, 0, 0, 0, 0, 0, 0, 0, 0, 0, 0, 0] [143, 72, 37, 19, 0, 0, 0, 0, 0, 0] = 0 := by decide
example : stb99SeedVal 64 [(638, 143), (766, 154)] 638 [1, 2, 0]
    [320, 161, 81, 41, 21, 0, 0, 0, 0, 0, 0, 0, 0, 0, 0, 0, 0, 0] [143, 72, 37, 19, 0, 0, 0, 0, 0, 0] = 524 := by decide
example : stb99SeedVal 64 [(638, 143), (766, 154)] 638 [1, 2, 3]
    [318, 161, 81, 41, 21, 0, 0, 0, 0, 0, 0, 0, 0, 0, 0, 0, 0, 0] [143, 72, 37, 19, 0, 0, 0, 0, 0, 0] = 524 := by decide
example : pfokSeedVal 64 [(638, 130)] 638 [1, 2, 3]
    [637, 319, 160, 81, 41, 21, 0, 0, 0, 0, 0, 0, 0, 0, 0, 0, 0, 0, 0, 0] = 0 := by decide

end Bee2V.C12
