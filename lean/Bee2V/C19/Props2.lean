/-
C19 — further parametricity corollaries (word size, edition) re-exported from C05's
`model = specification` theorems: squaring, division with remainder, modular multiplication,
GF(2)[x] multiplication / squaring / reduction, gcd, and wwCmp (regular = fast).  Same shape as
Props.lean: two builds with different word sizes, fed word arrays that represent the same numbers
(polynomials), return word arrays that represent the same number.
-/
import Bee2V.C05.PropsAdd
import Bee2V.C05.PropsMul
import Bee2V.C05.PropsDiv
import Bee2V.C05.PropsMisc
import Bee2V.C05.PropsPpMul
import Bee2V.C05.PropsPpDiv
import Bee2V.C05.PropsGcdW

namespace Bee2V.C19
open Bee2V.C05

/-- `zzSqr` for any two word sizes. -/
theorem zzSqr_word_size_independent (w1 w2 : Nat) (hw1 : 0 < w1) (hw2 : 0 < w2) (a1 a2 : List Nat)
    (ha1 : Wf w1 a1) (ha2 : Wf w2 a2) (ha : val w1 a1 = val w2 a2) :
    val w1 (zzSqr w1 a1) = val w2 (zzSqr w2 a2) := by
  rw [(zzSqr_spec w1 hw1 a1 ha1).1, (zzSqr_spec w2 hw2 a2 ha2).1, ha]

/-- `zzDiv`: quotient and remainder are the same numbers for any two word sizes. -/
theorem zzDiv_word_size_independent (w1 w2 : Nat) (a1 b1 a2 b2 : List Nat)
    (ha1 : Wf w1 a1) (hb1 : Wf w1 b1) (ha2 : Wf w2 a2) (hb2 : Wf w2 b2)
    (hne1 : b1 ≠ []) (hne2 : b2 ≠ []) (ht1 : b1.getLast hne1 ≠ 0) (ht2 : b2.getLast hne2 ≠ 0)
    (hn1 : b1.length ≤ a1.length) (hn2 : b2.length ≤ a2.length)
    (ha : val w1 a1 = val w2 a2) (hb : val w1 b1 = val w2 b2) :
    val w1 (zzDiv w1 a1 b1).1 = val w2 (zzDiv w2 a2 b2).1 ∧
    val w1 (zzDiv w1 a1 b1).2 = val w2 (zzDiv w2 a2 b2).2 := by
  obtain ⟨q1, r1⟩ := zzDiv_divmod w1 a1 b1 ha1 hb1 hne1 ht1 hn1
  obtain ⟨q2, r2⟩ := zzDiv_divmod w2 a2 b2 ha2 hb2 hne2 ht2 hn2
  rw [q1, q2, r1, r2, ha, hb]
  exact ⟨rfl, rfl⟩

/-- `zzMulMod` for any two word sizes. -/
theorem zzMulMod_word_size_independent (w1 w2 : Nat) (a1 b1 m1 a2 b2 m2 : List Nat)
    (ha1 : Wf w1 a1) (hb1 : Wf w1 b1) (hm1 : Wf w1 m1) (ha2 : Wf w2 a2) (hb2 : Wf w2 b2) (hm2 : Wf w2 m2)
    (hne1 : m1 ≠ []) (hne2 : m2 ≠ []) (ht1 : m1.getLast hne1 ≠ 0) (ht2 : m2.getLast hne2 ≠ 0)
    (ha : val w1 a1 = val w2 a2) (hb : val w1 b1 = val w2 b2) (hm : val w1 m1 = val w2 m2) :
    val w1 (zzMulMod w1 a1 b1 m1) = val w2 (zzMulMod w2 a2 b2 m2) := by
  rw [(zzMulMod_spec w1 a1 b1 m1 ha1 hb1 hm1 hne1 ht1).1,
    (zzMulMod_spec w2 a2 b2 m2 ha2 hb2 hm2 hne2 ht2).1, ha, hb, hm]

/-- `ppMul` (carry-less product with its per-word-size multiplication kernels): the same
polynomial for B_PER_W ∈ {16, 32, 64}. -/
theorem ppMul_word_size_independent (w1 w2 : Nat) (hw1 : w1 = 16 ∨ w1 = 32 ∨ w1 = 64)
    (hw2 : w2 = 16 ∨ w2 = 32 ∨ w2 = 64) (a1 b1 a2 b2 : List Nat)
    (ha1 : Wf w1 a1) (hb1 : Wf w1 b1) (ha2 : Wf w2 a2) (hb2 : Wf w2 b2)
    (ha : val w1 a1 = val w2 a2) (hb : val w1 b1 = val w2 b2) :
    val w1 (ppMul w1 a1 b1) = val w2 (ppMul w2 a2 b2) := by
  rw [(ppMul_spec w1 hw1 a1 b1 ha1 hb1).1, (ppMul_spec w2 hw2 a2 b2 ha2 hb2).1, ha, hb]

/-- `ppSqr` (table-driven squaring): the same polynomial for every word size that is a multiple of 16. -/
theorem ppSqr_word_size_independent (w1 w2 : Nat) (hw1 : 16 ∣ w1) (hw2 : 16 ∣ w2) (a1 a2 : List Nat)
    (ha1 : Wf w1 a1) (ha2 : Wf w2 a2) (ha : val w1 a1 = val w2 a2) :
    val w1 (ppSqr w1 a1) = val w2 (ppSqr w2 a2) := by
  rw [(ppSqr_spec w1 hw1 a1 ha1).1, (ppSqr_spec w2 hw2 a2 ha2).1, ha]

/-- `ppMod` (table-driven polynomial division): the same remainder for B_PER_W ∈ {16, 32, 64}. -/
theorem ppMod_word_size_independent (w1 w2 : Nat) (hw1 : w1 = 16 ∨ w1 = 32 ∨ w1 = 64)
    (hw2 : w2 = 16 ∨ w2 = 32 ∨ w2 = 64) (a1 b1 a2 b2 : List Nat)
    (ha1 : Wf w1 a1) (hb1 : Wf w1 b1) (ha2 : Wf w2 a2) (hb2 : Wf w2 b2)
    (hm1 : 0 < b1.length) (hm2 : 0 < b2.length)
    (ht1 : b1.getD (b1.length - 1) 0 ≠ 0) (ht2 : b2.getD (b2.length - 1) 0 ≠ 0)
    (ha : val w1 a1 = val w2 a2) (hb : val w1 b1 = val w2 b2) :
    val w1 (ppMod w1 a1 b1) = val w2 (ppMod w2 a2 b2) := by
  rw [(ppMod_spec w1 hw1 a1 b1 ha1 hb1 hm1 ht1).1, (ppMod_spec w2 hw2 a2 b2 ha2 hb2 hm2 ht2).1, ha, hb]

/-- `zzGCD` (binary gcd on word arrays): the same number for any two word sizes the size
bookkeeping admits. -/
theorem zzGCD_word_size_independent (w1 w2 : Nat) (hw1 : 0 < w1) (hw2 : 0 < w2)
    (hs1 : GcdW.SizesOK w1) (hs2 : GcdW.SizesOK w2) (a1 b1 a2 b2 : List Nat)
    (ha1 : Wf w1 a1) (hb1 : Wf w1 b1) (ha2 : Wf w2 a2) (hb2 : Wf w2 b2)
    (hp1 : 0 < val w1 a1) (hq1 : 0 < val w1 b1)
    (ha : val w1 a1 = val w2 a2) (hb : val w1 b1 = val w2 b2) :
    val w1 (zzGCDW w1 a1 b1) = val w2 (zzGCDW w2 a2 b2) := by
  rw [(zzGCDW_spec w1 hw1 hs1 a1 b1 ha1 hb1 hp1 hq1).1,
    (zzGCDW_spec w2 hw2 hs2 a2 b2 ha2 hb2 (ha ▸ hp1) (hb ▸ hq1)).1, ha, hb]

/-- `wwCmp`: regular and fast editions return the same sign (any word size: the models do not
depend on it). -/
theorem wwCmp_edition_independent (a b : List Nat) : wwCmp_safe a b = wwCmp_fast a b :=
  wwCmp_safe_eq_wwCmp_fast a b

/-- non-vacuity: the 64-bit and the 32-bit build on the same numbers (2^40 + 12 and 12). -/
example : val 64 (zzGCDW 64 [2 ^ 40 + 12] [12]) = val 32 (zzGCDW 32 [12, 2 ^ 8] [12]) :=
  zzGCD_word_size_independent 64 32 (by decide) (by decide) sizesOK64 sizesOK32
    [2 ^ 40 + 12] [12] [12, 2 ^ 8] [12] (by decide) (by decide) (by decide) (by decide)
    (by decide) (by decide) (by decide) (by decide)

end Bee2V.C19
