/-
C08 — nested SEQUENCEs: DER-level lemmas about derTSEQEncStart/Stop and derTSEQDecStart/Stop on encoded
structures, the encoder interpreter `runEnc` on a tree of primitive codes and SEQUENCEs, and for the decoder
interpreter `runDec` the acceptance predicate `Acc` with its combinators (sequencing, SEQUENCE around members).
For use by the container theorems (C08) and by C17.  All statements are about arbitrary buffers.
-/
import Bee2V.C08.LemmasTyped
import Bee2V.C08.Model3
namespace Bee2V.C08

/-! ### DER level -/

theorem tEncLen_eq (tag : Nat) (hv : derTIsValid tag = true) : tEncLen tag = tCount tag := by
  unfold tEncLen; rw [derTEnc_ok tag hv]; simp [beBytes_length]

theorem derTSEQEncStart_ok (pos tag : Nat) (hv : derTIsValid tag = true) (hc : derTIsConstructive tag = true) :
    derTSEQEncStart pos tag = .ok (⟨pos, tag, 0⟩, beBytes (tCount tag) tag ++ [0]) := by
  unfold derTSEQEncStart
  rw [if_neg (by simp [hv, hc]), derEnc_eq tag [] hv, tlvCode]
  have : derLEnc ([] : List UInt8).length = [0] := by decide
  rw [this]; simp

/-- Start on the code of a SEQUENCE (followed by anything) reads its tag and length -/
theorem derTSEQDecStart_enc (tag : Nat) (content rest : List UInt8) (hv : derTIsValid tag = true)
    (hc : derTIsConstructive tag = true) (hlt : tag < U32) (hl : content.length < SIZE_MAX) :
    derTSEQDecStart (beBytes (tCount tag) tag ++ derLEnc content.length ++ content ++ rest) tag =
      .ok (⟨0, tag, content.length⟩, tCount tag + (derLEnc content.length).length) := by
  unfold derTSEQDecStart
  rw [if_neg (by simp [hc])]
  have e1 : beBytes (tCount tag) tag ++ derLEnc content.length ++ content ++ rest =
      beBytes (tCount tag) tag ++ (derLEnc content.length ++ (content ++ rest)) := by simp
  rw [e1, derT_roundtrip' tag hv hlt]; simp only []
  rw [if_neg (by omega), List.drop_left' (beBytes_length _ _), derL_roundtrip' content.length hl]; simp only []
  have h4 := tCount_le4 tag hlt
  have h9 := derLEnc_le9 content.length (by omegaW)
  rw [Nat.mod_eq_of_lt (by omegaW)]

/-- Stop exactly behind the content succeeds -/
theorem derTSEQDecStop_enc (p0 tag len : Nat) (hv : derTIsValid tag = true)
    (hW : tCount tag + (derLEnc len).length + len < W) :
    derTSEQDecStop (tCount tag + (derLEnc len).length + len) ⟨p0, tag, len⟩ = .ok () := by
  unfold derTSEQDecStop
  simp only []
  rw [tEncLen_eq tag hv, Nat.mod_eq_of_lt (by omega), if_neg (by omega), Nat.mod_eq_of_lt hW, if_pos rfl]

/-! ### the encoder interpreter with its anchors -/

/-- runEnc, also returning the anchor list (needed to compose step lists) -/
def runEncA : List EStep → List UInt8 → List (Nat × Anchor) → R (List UInt8 × List (Nat × Anchor))
  | [], buf, an => .ok (buf, an)
  | .bytes e :: ss, buf, an =>
    match e with
    | .ok b => runEncA ss (buf ++ b) an
    | .err => .err
    | .oob => .oob
  | .start slot tag :: ss, buf, an =>
    match derTSEQEncStart buf.length tag with
    | .ok (a, b) => runEncA ss (buf ++ b) ((slot, a) :: an)
    | .err => .err
    | .oob => .oob
  | .stop slot :: ss, buf, an =>
    match an.find? (fun e => e.1 = slot) with
    | some (_, a) =>
      match derTSEQEncStop buf a with
      | .ok (_, buf') => runEncA ss buf' an
      | .err => .err
      | .oob => .oob
    | none => .err

theorem runEnc_eq_A (ss : List EStep) (buf : List UInt8) (an : List (Nat × Anchor)) :
    runEnc ss buf an = match runEncA ss buf an with
      | .ok (b, _) => .ok b
      | .err => .err
      | .oob => .oob := by
  induction ss generalizing buf an with
  | nil => rfl
  | cons s ss ih =>
    cases s with
    | bytes e =>
      cases e with
      | ok b => simp only [runEnc, runEncA]; exact ih _ _
      | err => rfl
      | oob => rfl
    | start slot tag =>
      simp only [runEnc, runEncA]
      cases derTSEQEncStart buf.length tag with
      | ok r => obtain ⟨a, b⟩ := r; exact ih _ _
      | err => rfl
      | oob => rfl
    | stop slot =>
      simp only [runEnc, runEncA]
      cases an.find? (fun e => e.1 = slot) with
      | none => rfl
      | some e =>
        obtain ⟨_, a⟩ := e
        simp only []
        cases derTSEQEncStop buf a with
        | ok r => obtain ⟨_, b⟩ := r; exact ih _ _
        | err => rfl
        | oob => rfl

theorem runEncA_append (s1 s2 : List EStep) (buf : List UInt8) (an : List (Nat × Anchor)) :
    runEncA (s1 ++ s2) buf an = match runEncA s1 buf an with
      | .ok (b, a) => runEncA s2 b a
      | .err => .err
      | .oob => .oob := by
  induction s1 generalizing buf an with
  | nil => rfl
  | cons s ss ih =>
    cases s with
    | bytes e =>
      cases e with
      | ok b => simp only [List.cons_append, runEncA]; exact ih _ _
      | err => rfl
      | oob => rfl
    | start slot tag =>
      simp only [List.cons_append, runEncA]
      cases derTSEQEncStart buf.length tag with
      | ok r => obtain ⟨a, b⟩ := r; exact ih _ _
      | err => rfl
      | oob => rfl
    | stop slot =>
      simp only [List.cons_append, runEncA]
      cases an.find? (fun e => e.1 = slot) with
      | none => rfl
      | some e =>
        obtain ⟨_, a⟩ := e
        simp only []
        cases derTSEQEncStop buf a with
        | ok r => obtain ⟨_, b⟩ := r; exact ih _ _
        | err => rfl
        | oob => rfl

/-! ### trees of codes -/

/-- an encoded structure: primitive codes and SEQUENCEs (anchor slot, tag, members) -/
inductive Tree where
  | prim (b : List UInt8)
  | seq (slot tag : Nat) (kids : List Tree)

mutual
/-- the `derEncStep` lines that write the structure -/
def Tree.steps : Tree → List EStep
  | .prim b => [.bytes (.ok b)]
  | .seq slot tag kids => .start slot tag :: (Tree.stepsL kids ++ [.stop slot])
def Tree.stepsL : List Tree → List EStep
  | [] => []
  | t :: ts => t.steps ++ Tree.stepsL ts
end

mutual
/-- the DER code of the structure -/
def Tree.code : Tree → List UInt8
  | .prim b => b
  | .seq _ tag kids => beBytes (tCount tag) tag ++ derLEnc (Tree.codeL kids).length ++ Tree.codeL kids
def Tree.codeL : List Tree → List UInt8
  | [] => []
  | t :: ts => t.code ++ Tree.codeL ts
end

mutual
def Tree.slots : Tree → List Nat
  | .prim _ => []
  | .seq slot _ kids => slot :: Tree.slotsL kids
def Tree.slotsL : List Tree → List Nat
  | [] => []
  | t :: ts => t.slots ++ Tree.slotsL ts
end

mutual
/-- upper bound of the code length (13 = at most 4 octets of T and 9 of L) -/
def Tree.bound : Tree → Nat
  | .prim b => b.length
  | .seq _ _ kids => 13 + Tree.boundL kids
def Tree.boundL : List Tree → Nat
  | [] => 0
  | t :: ts => t.bound + Tree.boundL ts
end

mutual
/-- every SEQUENCE tag is valid, constructive and fits u32; a slot is not reused inside its own SEQUENCE -/
def Tree.Ok : Tree → Prop
  | .prim _ => True
  | .seq slot tag kids => derTIsValid tag = true ∧ derTIsConstructive tag = true ∧ tag < U32 ∧
      slot ∉ Tree.slotsL kids ∧ Tree.OkL kids
def Tree.OkL : List Tree → Prop
  | [] => True
  | t :: ts => t.Ok ∧ Tree.OkL ts
end

theorem Tree.boundL_append (a b : List Tree) : Tree.boundL (a ++ b) = Tree.boundL a + Tree.boundL b := by
  induction a with
  | nil => simp only [List.nil_append, Tree.boundL, Nat.zero_add]
  | cons t a ih => simp only [List.cons_append, Tree.boundL, ih, Nat.add_assoc]

mutual
theorem Tree.code_le (t : Tree) (h : t.Ok) (hb : t.bound < W) : t.code.length ≤ t.bound := by
  match t with
  | .prim b => simp [Tree.code, Tree.bound]
  | .seq slot tag kids =>
    simp only [Tree.Ok] at h
    simp only [Tree.bound] at hb ⊢
    have hk := Tree.codeL_le kids h.2.2.2.2 (by omega)
    have h4 := tCount_le4 tag h.2.2.1
    have h9 := derLEnc_le9 (Tree.codeL kids).length (by omega)
    simp only [Tree.code, List.length_append, beBytes_length]
    omega
theorem Tree.codeL_le (ts : List Tree) (h : Tree.OkL ts) (hb : Tree.boundL ts < W) : (Tree.codeL ts).length ≤ Tree.boundL ts := by
  match ts with
  | [] => simp [Tree.codeL, Tree.boundL]
  | t :: ts =>
    simp only [Tree.OkL] at h
    simp only [Tree.boundL] at hb ⊢
    have h1 := Tree.code_le t h.1 (by omega)
    have h2 := Tree.codeL_le ts h.2 (by omega)
    simp only [Tree.codeL, List.length_append]
    omega
end

theorem find_cons_ne (slot s : Nat) (a : Anchor) (an : List (Nat × Anchor)) (h : s ≠ slot) :
    ((slot, a) :: an).find? (fun e => e.1 = s) = an.find? (fun e => e.1 = s) := by
  rw [List.find?_cons]
  simp [Ne.symm h]

mutual
/-- runEncA on the steps of a tree appends its code; anchors of foreign slots are untouched -/
theorem runEncA_tree (t : Tree) (h : t.Ok) (buf : List UInt8) (an : List (Nat × Anchor))
    (hW : buf.length + t.bound + 16 < W) :
    ∃ an', runEncA t.steps buf an = .ok (buf ++ t.code, an') ∧
      ∀ s, s ∉ t.slots → an'.find? (fun e => e.1 = s) = an.find? (fun e => e.1 = s) := by
  match t with
  | .prim b => exact ⟨an, by simp [Tree.steps, runEncA, Tree.code], fun _ _ => rfl⟩
  | .seq slot tag kids =>
    simp only [Tree.Ok] at h
    obtain ⟨hv, hc, hlt, hslot, hkids⟩ := h
    simp only [Tree.bound] at hW
    simp only [Tree.steps, runEncA]
    rw [derTSEQEncStart_ok buf.length tag hv hc]; simp only []
    have h4 := tCount_le4 tag hlt
    obtain ⟨an1, hrun, hfind⟩ := runEncA_treeL kids hkids (buf ++ (beBytes (tCount tag) tag ++ [0]))
      ((slot, ⟨buf.length, tag, 0⟩) :: an) (by simp [beBytes_length]; omega)
    rw [runEncA_append, hrun]; simp only [runEncA]
    rw [hfind slot hslot]
    simp only [List.find?_cons, decide_true]
    have hcl := Tree.codeL_le kids hkids (by omega)
    obtain ⟨E, hE, hstop⟩ := derTSEQEnc_spec buf (Tree.codeL kids) tag ⟨buf.length, tag, 0⟩ (beBytes (tCount tag) tag ++ [0])
      (derTSEQEncStart_ok buf.length tag hv hc) hlt (by omega)
    rw [derEnc_eq tag _ hv, tlvCode] at hE
    injection hE with hE
    rw [hstop]; simp only []
    refine ⟨an1, by rw [← hE]; simp [Tree.code], ?_⟩
    intro s hs
    simp only [Tree.slots, List.mem_cons, not_or] at hs
    rw [hfind s hs.2, find_cons_ne slot s _ an hs.1]
theorem runEncA_treeL (ts : List Tree) (h : Tree.OkL ts) (buf : List UInt8) (an : List (Nat × Anchor))
    (hW : buf.length + Tree.boundL ts + 16 < W) :
    ∃ an', runEncA (Tree.stepsL ts) buf an = .ok (buf ++ Tree.codeL ts, an') ∧
      ∀ s, s ∉ Tree.slotsL ts → an'.find? (fun e => e.1 = s) = an.find? (fun e => e.1 = s) := by
  match ts with
  | [] => exact ⟨an, by simp [Tree.stepsL, runEncA, Tree.codeL], fun _ _ => rfl⟩
  | t :: ts =>
    simp only [Tree.OkL] at h
    simp only [Tree.boundL] at hW
    obtain ⟨an1, hr1, hf1⟩ := runEncA_tree t h.1 buf an (by omega)
    have hcl := Tree.code_le t h.1 (by omega)
    obtain ⟨an2, hr2, hf2⟩ := runEncA_treeL ts h.2 (buf ++ t.code) an1 (by simp; omega)
    refine ⟨an2, ?_, ?_⟩
    · simp only [Tree.stepsL]
      rw [runEncA_append, hr1]; simp only []
      rw [hr2]; simp [Tree.codeL]
    · intro s hs
      simp only [Tree.slotsL, List.mem_append, not_or] at hs
      rw [hf2 s hs.2, hf1 s hs.1]
end

/-- the encoder interpreter on a well-formed tree writes exactly its nested DER code -/
theorem runEnc_tree (ts : List Tree) (h : Tree.OkL ts) (buf : List UInt8) (an : List (Nat × Anchor))
    (hW : buf.length + Tree.boundL ts + 16 < W) :
    runEnc (Tree.stepsL ts) buf an = .ok (buf ++ Tree.codeL ts) := by
  obtain ⟨an', hr, _⟩ := runEncA_treeL ts h buf an hW
  rw [runEnc_eq_A, hr]


/-! ### the decoder interpreter: compositional acceptance -/

theorem runDec_append (der : List UInt8) (s1 s2 : List DStep) (st : DSt) (p : Nat) :
    runDec der (s1 ++ s2) st p = match runDec der s1 st p with
      | .ok (p', st') => runDec der s2 st' p'
      | .err => .err
      | .oob => .oob := by
  induction s1 generalizing st p with
  | nil => rfl
  | cons s ss ih =>
    simp only [List.cons_append, runDec]
    cases s st p (der.drop p) with
    | ok r => obtain ⟨t, st'⟩ := r; exact ih _ _
    | err => rfl
    | oob => rfl

/-- `S` accepts the code `C` wherever it stands: on any input that continues with `C` at the current
    position (state satisfying `pre`), running `S` consumes exactly `C` and updates the state by `f`;
    anchors of slots outside `used` are not touched -/
structure Acc (S : List DStep) (C : List UInt8) (pre : DSt → Prop) (f : Nat → DSt → DSt) (used : List Nat) : Prop where
  run : ∀ (der : List UInt8) (p : Nat) (rest : List UInt8) (st : DSt) (more : List DStep),
    der.drop p = C ++ rest → der.length + 64 < W → pre st →
    runDec der (S ++ more) st p = runDec der more (f p st) (p + C.length)
  frame : ∀ (p : Nat) (st : DSt) (s : Nat), s ∉ used →
    (f p st).anchors.find? (fun e => e.1 = s) = st.anchors.find? (fun e => e.1 = s)

theorem Acc.nil (pre : DSt → Prop) : Acc [] [] pre (fun _ st => st) [] :=
  ⟨fun der p rest st more _ _ _ => by simp, fun _ _ _ _ => rfl⟩

/-- sequencing -/
theorem Acc.append {S1 S2 : List DStep} {C1 C2 : List UInt8} {pre1 pre2 : DSt → Prop} {f1 f2 : Nat → DSt → DSt}
    {u1 u2 : List Nat} (h1 : Acc S1 C1 pre1 f1 u1) (h2 : Acc S2 C2 pre2 f2 u2)
    (hpre : ∀ p st, pre1 st → pre2 (f1 p st)) :
    Acc (S1 ++ S2) (C1 ++ C2) pre1 (fun p st => f2 (p + C1.length) (f1 p st)) (u1 ++ u2) := by
  constructor
  · intro der p rest st more hd hl hp
    rw [List.append_assoc, h1.run der p (C2 ++ rest) st (S2 ++ more) (by rw [hd]; simp) hl hp,
      h2.run der (p + C1.length) rest (f1 p st) more (drop_after (C := C1) (by rw [hd, List.append_assoc])) hl (hpre p st hp)]
    simp [Nat.add_assoc]
  · intro p st s hs
    simp only [List.mem_append, not_or] at hs
    rw [h2.frame _ _ s hs.2, h1.frame _ _ s hs.1]

/-- weakening of the precondition / renaming of the state function -/
theorem Acc.conv {S : List DStep} {C : List UInt8} {pre pre' : DSt → Prop} {f f' : Nat → DSt → DSt} {u : List Nat}
    (h : Acc S C pre f u) (hp : ∀ st, pre' st → pre st) (hf : ∀ p st, f' p st = f p st) : Acc S C pre' f' u := by
  constructor
  · intro der p rest st more hd hl hpr
    rw [h.run der p rest st more hd hl (hp st hpr), hf]
  · intro p st s hs; rw [hf]; exact h.frame p st s hs

/-- a SEQUENCE around accepted members -/
theorem Acc.seq {S : List DStep} {C : List UInt8} {pre : DSt → Prop} {f : Nat → DSt → DSt} {u : List Nat}
    (slot tag : Nat) (h : Acc S C pre f u) (hv : derTIsValid tag = true) (hc : derTIsConstructive tag = true)
    (hlt : tag < U32) (hslot : slot ∉ u)
    (hpre : ∀ st p a, pre st → pre { st with anchors := (slot, p, a) :: st.anchors }) :
    Acc (dStart slot tag :: (S ++ [dStop slot])) (beBytes (tCount tag) tag ++ derLEnc C.length ++ C) pre
      (fun p st => f (p + (tCount tag + (derLEnc C.length).length))
        { st with anchors := (slot, p, ⟨0, tag, C.length⟩) :: st.anchors }) (slot :: u) := by
  constructor
  · intro der p rest st more hd hl hp
    have hCl : C.length < SIZE_MAX := by
      have : (der.drop p).length ≤ der.length := by simp [List.length_drop]
      rw [hd] at this; simp at this; omegaW
    have h4 := tCount_le4 tag hlt
    have h9 := derLEnc_le9 C.length (by omegaW)
    have hCb : tCount tag + (derLEnc C.length).length + C.length ≤ der.length := by
      have := congrArg List.length hd
      simp [beBytes_length] at this; omega
    simp only [List.cons_append, runDec, dStart]
    rw [hd, derTSEQDecStart_enc tag C rest hv hc hlt hCl]; simp only []
    rw [List.append_assoc, h.run der _ rest _ ([dStop slot] ++ more)
      (by
        have := drop_after (C := beBytes (tCount tag) tag ++ derLEnc C.length) (rest := C ++ rest)
          (by rw [hd, List.append_assoc])
        simpa [beBytes_length] using this) hl (hpre st p _ hp)]
    simp only [List.cons_append, List.nil_append, runDec, dStop]
    rw [h.frame _ _ slot hslot]
    simp only [List.find?_cons, decide_true]
    have hpos : p + (tCount tag + (derLEnc C.length).length) + C.length - p = tCount tag + (derLEnc C.length).length + C.length := by omega
    rw [hpos, derTSEQDecStop_enc 0 tag C.length hv (by omegaW)]; simp only []
    congr 1
    simp [beBytes_length]; omega
  · intro p st s hs
    simp only [List.mem_cons, not_or] at hs
    rw [h.frame _ _ s hs.2]
    rw [List.find?_cons]; simp [Ne.symm hs.1]


end Bee2V.C08
