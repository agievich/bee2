/-
C08 — helper lemmas: reads, loops, and one `_cases` lemma per decoder (T, L, TL, TLV, SIZE, OID, SEQ start; those of
the typed decoders OCT, UINT, BIT, PSTR are in LemmasCodec).  Every `_cases` lemma has the shape
`D x = .err ∨ ∃ …, D x = .ok … ∧ bounds`: the missing third disjunct `.oob` IS the statement that the decoder never
reads outside its input, and the bounds say that what it consumed lies inside the input.
-/
import Bee2V.C08.Model2
namespace Bee2V.C08

/-- `omega` knowing the numerals behind W, SIZE_MAX, U32 -/
macro "omegaW" : tactic => `(tactic|
  ((try simp only [W, SIZE_MAX, U32, U32_MAX] at *); omega))

/-- `x - c` as size_t computes it, `x + 2^64 - c`, when there is no borrow -/
theorem sub_mod_W {x c : Nat} (hc : c ≤ x) (hx : x < W) : (x + W - c) % W = x - c := by
  have : x + W - c = (x - c) + W := by omega
  rw [this, Nat.add_mod_right]; exact Nat.mod_eq_of_lt (by omega)

theorem rd_of_lt {xs : List UInt8} {i : Nat} (h : i < xs.length) : rd xs i = .ok xs[i].toNat := by
  simp [rd, List.getElem?_eq_getElem h]

theorem rd_ok {xs : List UInt8} {i v : Nat} (h : rd xs i = .ok v) : ∃ hi : i < xs.length, v = xs[i].toNat := by
  unfold rd at h
  split at h
  · rename_i b hb
    obtain ⟨hi, hb'⟩ := List.getElem?_eq_some_iff.mp hb
    exact ⟨hi, by cases h; simp [hb']⟩
  · cases h

theorem rd_ok_lt {xs : List UInt8} {i v : Nat} (h : rd xs i = .ok v) : i < xs.length ∧ v < 256 := by
  obtain ⟨hi, hv⟩ := rd_ok h
  exact ⟨hi, by rw [hv]; exact UInt8.toNat_lt _⟩

theorem rd_ne_err (xs : List UInt8) (i : Nat) : rd xs i ≠ .err := by
  unfold rd; split <;> simp

theorem rd_oob {xs : List UInt8} {i : Nat} (h : rd xs i = .oob) : xs.length ≤ i := by
  by_cases hi : i < xs.length
  · rw [rd_of_lt hi] at h; cases h
  · omega

theorem rd_drop (xs : List UInt8) (k i : Nat) : rd (xs.drop k) i = rd xs (k + i) := by
  simp [rd, List.getElem?_drop]

/-- stepping over the code `C` that stands at position `p` -/
theorem drop_after {der C rest : List UInt8} {p : Nat} (h : der.drop p = C ++ rest) :
    der.drop (p + C.length) = rest := by
  rw [← List.drop_drop, h, List.drop_left]

theorem dec_at {β : Type} (D : List UInt8 → β) {body code tail : List UInt8} {p : Nat} {r : β}
    (hd : body.drop p = code ++ tail) (hb : body.length < W)
    (h : (code ++ tail).length < W → D (code ++ tail) = r) : D (body.drop p) = r := by
  rw [hd]; apply h; rw [← hd, List.length_drop]; omega

theorem ltU32 {t : Nat} (h : t < 65536) : t < U32 := by unfold U32; omega

/-! ### derTDec -/

theorem tDecLoop_step (der : List UInt8) (count t tc b : Nat) (h : tc < count) (hb : rd der tc = .ok b) :
    tDecLoop der count t tc =
      if b / 128 = 0 then .ok ((t * 256 + b % 128) % U32, tc + 1)
      else tDecLoop der count ((t * 256 + b % 128) % U32) (tc + 1) := by
  rw [tDecLoop, dif_pos h, hb]

theorem tDecLoop_stop (der : List UInt8) (count t tc : Nat) (h : ¬ tc < count) :
    tDecLoop der count t tc = .ok (t, tc) := by
  rw [tDecLoop, dif_neg h]

theorem tagLoop_step (der : List UInt8) (tc t pos b : Nat) (h : pos < tc) (hb : rd der pos = .ok b) :
    tagLoop der tc t pos = tagLoop der tc ((t * 256 + b) % U32) (pos + 1) := by
  rw [tagLoop, dif_pos h, hb]

theorem tagLoop_stop (der : List UInt8) (tc t pos : Nat) (h : ¬ pos < tc) : tagLoop der tc t pos = .ok t := by
  rw [tagLoop, dif_neg h]

/-- what derTDec computes, spelled out on the first octets of the input -/
def tDecL : List UInt8 → R (Nat × Nat)
  | [] => .err
  | x0 :: r =>
    if x0.toNat % 32 ≠ 31 then .ok (x0.toNat, 1) else
    match r with
    | [] => .err
    | x1 :: r =>
      if x1.toNat % 128 = 0 then .err
      else if x1.toNat < 128 then
        if x1.toNat < 31 then .err else .ok (x0.toNat * 256 + x1.toNat, 2)
      else
        match r with
        | [] => .err
        | x2 :: r =>
          if x2.toNat < 128 then .ok ((x0.toNat * 256 + x1.toNat) * 256 + x2.toNat, 3)
          else
            match r with
            | [] => .err
            | x3 :: _ =>
              if x3.toNat < 128 then .ok (((x0.toNat * 256 + x1.toNat) * 256 + x2.toNat) * 256 + x3.toNat, 4)
              else .err

theorem tagv2 (d0 d1 : Nat) (h0 : d0 < 256) (h1 : d1 < 256) : (d0 * 256 + d1) % U32 = d0 * 256 + d1 := by
  unfold U32; omega
theorem tagv3 (d0 d1 d2 : Nat) (h0 : d0 < 256) (h1 : d1 < 256) (h2 : d2 < 256) :
    ((d0 * 256 + d1) % U32 * 256 + d2) % U32 = (d0 * 256 + d1) * 256 + d2 := by
  unfold U32; omega
theorem tagv4 (d0 d1 d2 d3 : Nat) (h0 : d0 < 256) (h1 : d1 < 256) (h2 : d2 < 256) (h3 : d3 < 256) :
    (((d0 * 256 + d1) % U32 * 256 + d2) % U32 * 256 + d3) % U32 = ((d0 * 256 + d1) * 256 + d2) * 256 + d3 := by
  unfold U32; omega
theorem rd_cons_zero (x : UInt8) (tl : List UInt8) : rd (x :: tl) 0 = .ok x.toNat := rfl
theorem rd_cons_succ (x : UInt8) (tl : List UInt8) (i : Nat) : rd (x :: tl) (i + 1) = rd tl i := by simp [rd]

theorem derTDec_eq (der : List UInt8) : derTDec der = tDecL der := by
  unfold derTDec
  match der with
  | [] => rfl
  | x0 :: r =>
    have hb0 := x0.toNat_lt
    rw [if_neg (by simp), rd_cons_zero]
    dsimp only
    by_cases hl : x0.toNat % 32 = 31
    · rw [if_pos hl]
      simp only [tDecL, hl, ne_eq, not_true_eq_false, if_false]
      match r with
      | [] => rfl
      | x1 :: r =>
        have hb1 := x1.toNat_lt
        have hr1 : rd (x0 :: x1 :: r) 1 = .ok x1.toNat := rfl
        generalize hc : min 4 (x0 :: x1 :: r).length = count
        have hc2 : 2 ≤ count ∧ count ≤ 4 := by rw [← hc]; simp only [List.length_cons]; omega
        rw [if_neg (by omega), hr1]
        dsimp only
        by_cases hz : x1.toNat % 128 = 0
        · rw [if_pos hz, if_pos hz]
        rw [if_neg hz, if_neg hz, tDecLoop_step _ _ 0 1 _ (by omega) hr1]
        generalize ht1 : (0 * 256 + x1.toNat % 128) % U32 = t1
        have ht1' : t1 = x1.toNat % 128 := by omegaW
        by_cases c1 : x1.toNat < 128
        · rw [if_pos (by omega), if_pos c1]
          dsimp only
          rw [show (2 : Nat) - 1 = 1 from rfl, hr1]
          dsimp only
          by_cases h31 : x1.toNat < 31
          · rw [if_pos (Or.inr (by omega)), if_pos h31]
          · rw [if_neg (by omega), if_neg h31]
            dsimp only
            rw [tagLoop_step _ 2 _ 1 _ (by omega) hr1, tagLoop_stop _ 2 _ 2 (by omega)]
            dsimp only
            rw [tagv2 _ _ hb0 hb1]
        · rw [if_neg (by omega), if_neg c1]
          match r with
          | [] =>
            have hc' : count = 2 := by rw [← hc]; rfl
            subst hc'
            rw [tDecLoop_stop _ _ _ 2 (by omega)]
            dsimp only
            rw [show (2 : Nat) - 1 = 1 from rfl, hr1]
            dsimp only
            rw [if_pos (Or.inl (by omega))]
          | x2 :: r =>
            have hb2 := x2.toNat_lt
            have hr2 : rd (x0 :: x1 :: x2 :: r) 2 = .ok x2.toNat := rfl
            have hc3 : 3 ≤ count := by rw [← hc]; simp only [List.length_cons]; omega
            rw [tDecLoop_step _ _ _ 2 _ (by omega) hr2]
            generalize ht2 : (t1 * 256 + x2.toNat % 128) % U32 = t2
            have ht2' : 31 ≤ t2 := by omegaW
            dsimp only
            by_cases c2 : x2.toNat < 128
            · rw [if_pos (by omega), if_pos c2]
              dsimp only
              rw [show (3 : Nat) - 1 = 2 from rfl, hr2]
              dsimp only
              rw [if_neg (by omega)]
              dsimp only
              rw [tagLoop_step _ 3 _ 1 _ (by omega) hr1, tagLoop_step _ 3 _ 2 _ (by omega) hr2,
                tagLoop_stop _ 3 _ 3 (by omega)]
              dsimp only
              rw [tagv3 _ _ _ hb0 hb1 hb2]
            · rw [if_neg (by omega), if_neg c2]
              match r with
              | [] =>
                have hc' : count = 3 := by rw [← hc]; rfl
                subst hc'
                rw [tDecLoop_stop _ _ _ 3 (by omega)]
                dsimp only
                rw [show (3 : Nat) - 1 = 2 from rfl, hr2]
                dsimp only
                rw [if_pos (Or.inl (by omega))]
              | x3 :: r =>
                have hb3 := x3.toNat_lt
                have hr3 : rd (x0 :: x1 :: x2 :: x3 :: r) 3 = .ok x3.toNat := rfl
                have hc4 : count = 4 := by rw [← hc]; simp only [List.length_cons]; omega
                subst hc4
                rw [tDecLoop_step _ _ _ 3 _ (by omega) hr3]
                generalize ht3 : (t2 * 256 + x3.toNat % 128) % U32 = t3
                have ht3' : 31 ≤ t3 := by omegaW
                dsimp only
                by_cases c3 : x3.toNat < 128
                · rw [if_pos (by omega), if_pos c3]
                  dsimp only
                  rw [show (4 : Nat) - 1 = 3 from rfl, hr3]
                  dsimp only
                  rw [if_neg (by omega)]
                  dsimp only
                  rw [tagLoop_step _ 4 _ 1 _ (by omega) hr1, tagLoop_step _ 4 _ 2 _ (by omega) hr2,
                    tagLoop_step _ 4 _ 3 _ (by omega) hr3, tagLoop_stop _ 4 _ 4 (by omega)]
                  dsimp only
                  rw [tagv4 _ _ _ _ hb0 hb1 hb2 hb3]
                · rw [if_neg (by omega), if_neg c3, tDecLoop_stop _ _ _ 4 (by omega)]
                  dsimp only
                  rw [show (4 : Nat) - 1 = 3 from rfl, hr3]
                  dsimp only
                  rw [if_pos (Or.inl (by omega))]
    · rw [if_neg hl]
      dsimp only
      rw [tagLoop_stop _ 1 _ 1 (by omega)]
      simp only [tDecL, hl, ne_eq, not_false_eq_true, if_true]

/-- bounds of an accepted tag field, read off the leaves of `tDecL` -/
theorem derTDec_cases (der : List UInt8) :
    derTDec der = .err ∨ ∃ tag k, derTDec der = .ok (tag, k) ∧ 1 ≤ k ∧ k ≤ 4 ∧ k ≤ der.length := by
  rw [derTDec_eq]
  fun_cases tDecL der <;> first
    | exact Or.inl rfl
    | exact Or.inr ⟨_, _, rfl, by simp only [List.length_cons]; omega⟩


/-! ### loops of derLDec -/

theorem lDecLoop_ok (der : List UInt8) (l_count l r : Nat) (hc : l_count ≤ der.length) (hl : l < W) :
    ∃ l', lDecLoop der l_count l r = .ok l' ∧ l' < W := by
  fun_induction lDecLoop der l_count l r with
  | case1 l r h b hb ih => exact ih (Nat.mod_lt _ (by decide))
  | case2 l r h hb => exact absurd hb (rd_ne_err _ _)
  | case3 l r h hb => have := rd_oob hb; omega
  | case4 l r h => exact ⟨_, rfl, hl⟩

theorem derLDec_cases (der : List UInt8) :
    derLDec der = .err ∨ ∃ l k, derLDec der = .ok (l, k) ∧ 1 ≤ k ∧ k ≤ 9 ∧ k ≤ der.length ∧ l < SIZE_MAX := by
  fun_cases derLDec der
  all_goals first | exact Or.inl rfl | skip
  next d0 hr0 _ h => exact Or.inr ⟨_, _, rfl, by omega, by omega, by omega, by omegaW⟩
  next d0 hr0 _ _ r lc h3 d1 hr1 _ v hv h5 =>
    obtain ⟨v', e, hlt⟩ := lDecLoop_ok der lc 0 1 (by omega) (by decide)
    obtain rfl := R.ok.inj (e.symm.trans hv)
    exact Or.inr ⟨_, _, rfl, by omega, by omega, by omega, by omegaW⟩
  next d0 hr0 _ _ r lc h3 d1 hr1 _ hv =>
    obtain ⟨v', e, _⟩ := lDecLoop_ok der lc 0 1 (by omega) (by decide)
    rw [e] at hv; cases hv
  next hr1 => have := rd_oob hr1; omega
  next hr0 => have := rd_oob hr0; omega

theorem derTLDec_cases (der : List UInt8) :
    derTLDec der = .err ∨ ∃ tag l c, derTLDec der = .ok (tag, l, c) ∧ 2 ≤ c ∧ c ≤ 13 ∧ c ≤ der.length ∧ l < SIZE_MAX := by
  unfold derTLDec
  rcases derTDec_cases der with e | ⟨tag, k, e, hk1, hk4, hkl⟩
  · rw [e]; exact Or.inl rfl
  · rw [e]; simp only []
    rcases derLDec_cases (der.drop k) with e2 | ⟨l, k2, e2, h1, h9, hl, hs⟩
    · rw [e2]; exact Or.inl rfl
    · rw [e2]; simp only []
      rw [List.length_drop] at hl
      have hm : (k + k2) % W = k + k2 := Nat.mod_eq_of_lt (by omegaW)
      rw [hm, if_neg (by omegaW)]
      exact Or.inr ⟨_, _, _, rfl, by omegaW, by omegaW, by omegaW, hs⟩

theorem derDec_cases (der : List UInt8) (hlen : der.length < W) :
    derDec der = .err ∨ ∃ tag off len c, derDec der = .ok (tag, off, len, c) ∧ 2 ≤ off ∧ off ≤ 13 ∧
      c = off + len ∧ c ≤ der.length := by
  unfold derDec
  rcases derTLDec_cases der with e | ⟨tag, l, c, e, h2, h13, hl, hs⟩
  · rw [e]; exact Or.inl rfl
  · rw [e]; simp only []
    rw [sub_mod_W hl hlen]
    by_cases h : l > der.length - c
    · rw [if_pos h]; exact Or.inl rfl
    · rw [if_neg h]
      have hm2 : (c + l) % W = c + l := Nat.mod_eq_of_lt (by omegaW)
      rw [hm2]
      exact Or.inr ⟨_, _, _, _, rfl, h2, h13, rfl, by omegaW⟩

/-! ### typed decoders -/

theorem derDec2_cases (der : List UInt8) (tag : Nat) (hlen : der.length < W) :
    derDec2 der tag = .err ∨ ∃ off len c, derDec2 der tag = .ok (off, len, c) ∧ derDec der = .ok (tag, off, len, c) ∧
      2 ≤ off ∧ off ≤ 13 ∧ c = off + len ∧ c ≤ der.length := by
  unfold derDec2
  rcases derDec_cases der hlen with e | ⟨t, off, len, c, e, h2, h13, hc, hl⟩
  · rw [e]; exact Or.inl rfl
  · rw [e]; simp only []
    by_cases ht : t ≠ tag
    · rw [if_pos ht]; exact Or.inl rfl
    · rw [if_neg ht]
      have : t = tag := by omega
      subst this
      exact Or.inr ⟨_, _, _, rfl, rfl, h2, h13, hc, hl⟩

theorem rdSlice_ok {der : List UInt8} {off len : Nat} (h : off + len ≤ der.length) :
    rdSlice der off len = .ok ((der.drop off).take len) := by
  unfold rdSlice; rw [if_pos h]

theorem derDec3_cases (der : List UInt8) (tag len : Nat) (hlen : der.length < W) :
    derDec3 der tag len = .err ∨ ∃ off c, derDec3 der tag len = .ok (off, c) ∧ derDec der = .ok (tag, off, len, c) ∧
      c = off + len ∧ c ≤ der.length := by
  unfold derDec3
  rcases derDec_cases der hlen with e | ⟨t, off, l, c, e, h2, h13, hc, hl⟩
  · rw [e]; exact Or.inl rfl
  · rw [e]; simp only []
    by_cases ht : t ≠ tag ∨ l ≠ len
    · rw [if_pos ht]; exact Or.inl rfl
    · rw [if_neg ht]
      have h1 : t = tag := by omega
      have h2 : l = len := by omega
      subst h1; subst h2
      exact Or.inr ⟨_, _, rfl, rfl, hc, hl⟩

theorem sizeLoop_ok (der : List UInt8) (len v pos : Nat) (h : len ≤ der.length) :
    ∃ v', sizeLoop der len v pos = .ok v' := by
  fun_induction sizeLoop der len v pos with
  | case1 v pos hp b hr ih => exact ih
  | case2 v pos hp hr => exact absurd hr (rd_ne_err _ _)
  | case3 v pos hp hr => have := rd_oob hr; omega
  | case4 v pos hp => exact ⟨_, rfl⟩


theorem derTSIZEDec_cases (der : List UInt8) (tag : Nat) (_hlen : der.length < W) :
    derTSIZEDec der tag = .err ∨ ∃ v c, derTSIZEDec der tag = .ok (v, c) ∧ c ≤ der.length := by
  have hT : ∀ {t k}, derTDec der = .ok (t, k) → k ≤ 4 ∧ k ≤ der.length := by
    intro t k e
    rcases derTDec_cases der with e' | ⟨_, _, e', _, hb⟩
    · rw [e] at e'; cases e'
    · rw [e] at e'; cases e'; exact hb
  have hL : ∀ {k l k2}, derLDec (der.drop k) = .ok (l, k2) → k2 ≤ 9 ∧ k2 ≤ der.length - k := by
    intro k l k2 e
    rcases derLDec_cases (der.drop k) with e' | ⟨_, _, e', _, h9, hl, _⟩
    · rw [e] at e'; cases e'
    · rw [e] at e'; cases e'; rw [List.length_drop] at hl; exact ⟨h9, hl⟩
  fun_cases derTSIZEDec der tag
  all_goals first | exact Or.inl rfl | skip
  next t k eT ht der1 len k2 eL h3 der2 h4 d0 hr0 c2 bad hc2 hbad vv hv =>
    simp only [der2, der1, List.drop_drop, List.length_drop] at eL h4
    have := hT eT; have := hL eL
    exact Or.inr ⟨_, _, rfl, by rw [Nat.mod_eq_of_lt (by omegaW)]; omega⟩
  next t k eT ht der1 len k2 eL h3 der2 h4 d0 hr0 c2 bad hc2 hbad hv =>
    simp only [der2, der1, List.drop_drop, List.length_drop] at eL h4 hv
    obtain ⟨v, ev⟩ := sizeLoop_ok (der.drop (k + k2)) len 0 0 (by rw [List.length_drop]; omega)
    rw [ev] at hv; cases hv
  next t k eT ht der1 len k2 eL h3 der2 h4 d0 hr0 c2 hc2 =>
    simp only [c2, der2, der1, List.drop_drop, List.length_drop] at eL h4 hc2
    exfalso
    by_cases h5 : d0 ≥ 128
    · rw [if_pos h5] at hc2; cases hc2
    rw [if_neg h5] at hc2
    by_cases h6 : d0 = 0 ∧ len > 1
    · rw [if_pos h6, rd_drop, rd_of_lt (show k + k2 + 1 < der.length by omega)] at hc2; cases hc2
    · rw [if_neg h6] at hc2; cases hc2
  next t k eT ht der1 len k2 eL h3 der2 h4 hr0 =>
    simp only [der2, der1, List.drop_drop, List.length_drop] at eL h4 hr0
    have := rd_oob hr0
    rw [List.length_drop] at this; omega
  next t k eT ht der1 eL =>
    rcases derLDec_cases der1 with e | ⟨_, _, e, _⟩ <;> rw [eL] at e <;> cases e
  next eT =>
    rcases derTDec_cases der with e | ⟨_, _, e, _⟩ <;> rw [eT] at e <;> cases e


theorem oidDecLoop_cases (der : List UInt8) (off l pos val d1 : Nat) (out : List UInt8) (h : off + l ≤ der.length) :
    oidDecLoop der off l pos val d1 out = .err ∨ ∃ d o, oidDecLoop der off l pos val d1 out = .ok (d, o) := by
  fun_induction oidDecLoop der off l pos val d1 out <;> first
    | exact Or.inl rfl
    | assumption
    | exact Or.inr ⟨_, _, rfl⟩
    | (rename_i hr; exact absurd hr (rd_ne_err _ _))
    | (rename_i hr; have := rd_oob hr; omega)

theorem rdS_of_le {s : List UInt8} {i : Nat} (h : i ≤ s.length) : ∃ v, rdS s i = .ok v ∧ (v ≠ 0 → i < s.length) := by
  unfold rdS
  by_cases hi : i < s.length
  · rw [if_pos hi, rd_of_lt hi]; exact ⟨_, rfl, fun _ => hi⟩
  · rw [if_neg hi, if_pos (by omega)]; exact ⟨0, rfl, fun h => absurd rfl h⟩

theorem sidCmpLoop_cases (oid : List UInt8) (o t n : Nat) (h : o + n ≤ oid.length) :
    sidCmpLoop oid o t n = .err ∨ sidCmpLoop oid o t n = .ok () := by
  induction n generalizing t with
  | zero => exact Or.inr rfl
  | succ n ih =>
    unfold sidCmpLoop
    obtain ⟨v, ev, _⟩ := rdS_of_le (s := oid) (i := o + n) (by omega)
    rw [ev]; simp only []
    split
    · exact Or.inl rfl
    · exact ih _ (by omega)

theorem derSIDDec2_cases (val : Nat) (oid : List UInt8) (o : Nat) (ho : o ≤ oid.length) :
    derSIDDec2 val oid o = .err ∨ ∃ k, derSIDDec2 val oid o = .ok k ∧ o + k ≤ oid.length := by
  unfold derSIDDec2
  simp only []
  by_cases h : oid.length - o < decLen val
  · rw [if_pos h]; exact Or.inl rfl
  · rw [if_neg h]
    rcases sidCmpLoop_cases oid o val (decLen val) (by omega) with e | e
    · rw [e]; exact Or.inl rfl
    · rw [e]; exact Or.inr ⟨_, rfl, by omega⟩


theorem oidDec2Loop_cases (der : List UInt8) (off l : Nat) (oid : List UInt8) (h : off + l ≤ der.length) :
    ∀ n pos val d1 o, n = l - pos → o ≤ oid.length →
    oidDec2Loop der off l pos val d1 oid o = .err ∨ ∃ d o', oidDec2Loop der off l pos val d1 oid o = .ok (d, o') ∧ o' ≤ oid.length := by
  intro n
  induction n with
  | zero =>
    intro pos val d1 o hn ho
    rw [oidDec2Loop, dif_neg (by omega)]
    exact Or.inr ⟨_, _, rfl, ho⟩
  | succ n ih =>
    intro pos val d1 o hn ho
    rw [oidDec2Loop, dif_pos (by omega)]
    -- 33554432 = 2^25: seven more bits would not fit u32
    by_cases h1 : val / 33554432 ≠ 0
    · rw [if_pos h1]; exact Or.inl rfl
    rw [if_neg h1, rd_of_lt (xs := der) (i := off + pos) (by omega)]
    dsimp only
    generalize der[off + pos].toNat = b
    by_cases h2 : val = 0 ∧ b = 128
    · rw [if_pos h2]; exact Or.inl rfl
    rw [if_neg h2]
    generalize (val * 128 + b % 128) % U32 = nv
    by_cases h3 : b / 128 = 0
    · rw [if_pos h3]
      generalize (if nv < 40 then 0 else if nv < 80 then 1 else 2) = d
      generalize (if d1 = 3 then if nv < 40 then nv else if nv < 80 then nv - 40 else nv - 80 else nv) = v
      by_cases h4 : d1 = 3
      · rw [if_pos h4]
        rcases derSIDDec2_cases d oid o ho with e | ⟨k, e, hk⟩
        · rw [e]; exact Or.inl rfl
        rw [e]
        dsimp only
        obtain ⟨c, ec, hc⟩ := rdS_of_le (s := oid) (i := o + k) hk
        rw [ec]
        dsimp only
        -- 46 = '.'
        by_cases h5 : c ≠ 46
        · rw [if_pos h5]; exact Or.inl rfl
        rw [if_neg h5]
        rcases derSIDDec2_cases v oid (o + k + 1) (by have := hc (by omega); omega) with e3 | ⟨k3, e3, hk3⟩
        · rw [e3]; exact Or.inl rfl
        · rw [e3]; exact ih _ _ _ _ (by omega) hk3
      · rw [if_neg h4]
        dsimp only
        obtain ⟨c, ec, hc⟩ := rdS_of_le (s := oid) (i := o) ho
        rw [ec]
        dsimp only
        by_cases h5 : c ≠ 46
        · rw [if_pos h5]; exact Or.inl rfl
        rw [if_neg h5]
        rcases derSIDDec2_cases v oid (o + 1) (by have := hc (by omega); omega) with e3 | ⟨k3, e3, hk3⟩
        · rw [e3]; exact Or.inl rfl
        · rw [e3]; exact ih _ _ _ _ (by omega) hk3
    · rw [if_neg h3]
      exact ih _ _ _ _ (by omega) ho


theorem derOIDDec2_cases (der oid : List UInt8) (hlen : der.length < W) :
    derOIDDec2 der oid = .err ∨ ∃ c, derOIDDec2 der oid = .ok c ∧ c ≤ der.length := by
  unfold derOIDDec2
  rcases derDec2_cases der 6 hlen with e | ⟨off, len, c, e, _, h2, h13, hc, hl⟩
  · rw [e]; exact Or.inl rfl
  · rw [e]; simp only []
    rcases oidDec2Loop_cases der off len oid (by omega) _ 0 0 3 0 rfl (by omega) with e2 | ⟨d, o, e2, ho⟩
    · rw [e2]; exact Or.inl rfl
    · rw [e2]; simp only []
      by_cases hd : d = 3
      · rw [if_pos hd]; exact Or.inl rfl
      · rw [if_neg hd]
        by_cases hz : len = 0
        · subst hz
          rw [oidDec2Loop] at e2
          simp at e2
          omega
        · rw [rd_of_lt (xs := der) (i := off + (len - 1)) (by omega)]; simp only []
          by_cases h5 : der[off + (len - 1)].toNat / 128 ≠ 0
          · rw [if_pos h5]; exact Or.inl rfl
          · rw [if_neg h5]
            obtain ⟨v, ev, _⟩ := rdS_of_le (s := oid) (i := o) ho
            rw [ev]; simp only []
            split
            · exact Or.inl rfl
            · exact Or.inr ⟨_, rfl, hl⟩

theorem derTSEQDecStart_cases (der : List UInt8) (tag : Nat) :
    derTSEQDecStart der tag = .err ∨ ∃ a c, derTSEQDecStart der tag = .ok (a, c) ∧ c ≤ der.length ∧ a.tag = tag := by
  unfold derTSEQDecStart
  split
  · exact Or.inl rfl
  · rcases derTDec_cases der with e | ⟨t, k, e, hk1, hk4, hkl⟩
    · rw [e]; exact Or.inl rfl
    · rw [e]; simp only []
      by_cases ht : t ≠ tag
      · rw [if_pos ht]; exact Or.inl rfl
      · rw [if_neg ht]
        rcases derLDec_cases (der.drop k) with e2 | ⟨l, k2, e2, h1, h9, hl, hs⟩
        · rw [e2]; exact Or.inl rfl
        · rw [e2]; simp only []
          rw [List.length_drop] at hl
          have hm : (k + k2) % W = k + k2 := Nat.mod_eq_of_lt (by omegaW)
          rw [hm]
          exact Or.inr ⟨_, _, rfl, by omega, by simp; omega⟩

theorem derIsValid_cases (der : List UInt8) : derIsValid der = .err ∨ derIsValid der = .ok () := by
  unfold derIsValid
  rcases derTDec_cases der with e | ⟨t, k, e, hk1, hk4, hkl⟩
  · rw [e]; exact Or.inl rfl
  · rw [e]; simp only []
    rcases derLDec_cases (der.drop k) with e2 | ⟨l, k2, e2, h1, h9, hl, hs⟩
    · rw [e2]; exact Or.inl rfl
    · rw [e2]; simp only []
      split
      · exact Or.inr rfl
      · exact Or.inl rfl

theorem derIsValid2_cases (der : List UInt8) (tag : Nat) : derIsValid2 der tag = .err ∨ derIsValid2 der tag = .ok () := by
  unfold derIsValid2
  rcases derTDec_cases der with e | ⟨t, k, e, hk1, hk4, hkl⟩
  · rw [e]; exact Or.inl rfl
  · rw [e]; simp only []
    split
    · exact Or.inl rfl
    · rcases derLDec_cases (der.drop k) with e2 | ⟨l, k2, e2, h1, h9, hl, hs⟩
      · rw [e2]; exact Or.inl rfl
      · rw [e2]; simp only []
        split
        · exact Or.inr rfl
        · exact Or.inl rfl

end Bee2V.C08
