/-
C08 — field L: value of the length loop, canonical form, round trip.
-/
import Bee2V.C08.LemmasBE
namespace Bee2V.C08

theorem slice_cons (der : List UInt8) (r lc : Nat) (h1 : r < lc) (h2 : lc ≤ der.length) :
    (der.drop r).take (lc - r) = der[r] :: (der.drop (r + 1)).take (lc - (r + 1)) := by
  rw [List.drop_eq_getElem_cons (by omega)]
  have : lc - r = (lc - (r + 1)) + 1 := by omega
  rw [this, List.take_succ_cons]

/-- the length loop computes the big-endian value of der[r..l_count) on top of l (mod 2^64) -/
theorem lDecLoop_val (der : List UInt8) (l_count l r : Nat) (hc : l_count ≤ der.length) (hr : r ≤ l_count) :
    ∃ v, lDecLoop der l_count l r = .ok v ∧ v % W = beVal ((der.drop r).take (l_count - r)) l % W ∧ (l < W → v < W) := by
  fun_induction lDecLoop der l_count l r with
  | case1 l r h b hb ih =>
    obtain ⟨hi, hbv⟩ := rd_ok hb
    obtain ⟨v, e, hv, hlt⟩ := ih (by omega)
    refine ⟨v, e, ?_, fun _ => hlt (Nat.mod_lt _ (by decide))⟩
    rw [hv, slice_cons der r l_count h hc, beVal_cons, ← hbv, beVal_mod]
  | case2 l r h hb => exact absurd hb (rd_ne_err _ _)
  | case3 l r h hb => have := rd_oob hb; omega
  | case4 l r h =>
    have : l_count - r = 0 := by omega
    exact ⟨l, rfl, by simp [this], fun h => h⟩

theorem pow8 : (256 : Nat) ^ 8 = W := by decide

/-- what derLDec accepts, spelled out -/
theorem derLDec_spec (der : List UInt8) (l k : Nat) (h : derLDec der = .ok (l, k)) :
    (∃ h0 : 0 < der.length, k = 1 ∧ der[0].toNat < 128 ∧ l = der[0].toNat) ∨
    (∃ (r : Nat) (h1 : 1 < der.length), 1 ≤ r ∧ r ≤ 8 ∧ k = 1 + r ∧ k ≤ der.length ∧ der[0].toNat = 128 + r ∧
      der[1].toNat ≠ 0 ∧ (r = 1 → 128 ≤ der[1].toNat) ∧ l = beVal ((der.drop 1).take r) 0 ∧ l ≠ SIZE_MAX) := by
  revert h
  fun_cases derLDec der <;> intro h <;> first | (simp only [reduceCtorEq] at h; done) | skip
  next hlen d0 hr0 h1 h2 =>
    obtain ⟨rfl, rfl⟩ := Prod.mk.inj (R.ok.inj h)
    obtain ⟨hi, rfl⟩ := rd_ok hr0
    exact Or.inl ⟨hi, rfl, h2, rfl⟩
  next hlen d0 hr0 h1 h2 r lc h3 d1 hr1 h4 v hv h5 =>
    obtain ⟨rfl, rfl⟩ := Prod.mk.inj (R.ok.inj h)
    obtain ⟨hi0, rfl⟩ := rd_ok hr0
    obtain ⟨hi1, rfl⟩ := rd_ok hr1
    have hb0 := der[0].toNat_lt
    have hkl : 1 + r ≤ der.length := by omega
    have hr8 : r ≤ 8 := by omega
    obtain ⟨v', e, hv', hlt⟩ := lDecLoop_val der (1 + r) 0 1 hkl (by omega)
    rw [show lDecLoop der lc 0 1 = lDecLoop der (1 + r) 0 1 from rfl, e] at hv
    obtain rfl := R.ok.inj hv
    rw [Nat.add_sub_cancel_left] at hv'
    have hbW : beVal ((der.drop 1).take r) 0 < W := by
      have hb := beVal_lt ((der.drop 1).take r) 0
      rw [show ((der.drop 1).take r).length = r by simp [List.length_take]; omega, Nat.zero_add, Nat.one_mul] at hb
      exact Nat.lt_of_lt_of_le hb (Nat.le_trans (Nat.pow_le_pow_right (by omega) hr8) (Nat.le_of_eq pow8))
    rw [Nat.mod_eq_of_lt (hlt (by omegaW)), Nat.mod_eq_of_lt hbW] at hv'
    exact Or.inr ⟨r, hi1, by omega, hr8, rfl, hkl, by omega, by omega, by omega, hv', h5⟩

theorem take_succ_eq (der : List UInt8) (r : Nat) (h : 0 < der.length) :
    der.take (1 + r) = der[0] :: (der.drop 1).take r := by
  cases der with
  | nil => simp at h
  | cons a t => simp [Nat.add_comm 1 r]

/-- CANONICAL: whatever derLDec accepts is exactly the code derLEnc produces for the decoded length -/
theorem derLDec_canonical' (der : List UInt8) (l k : Nat) (h : derLDec der = .ok (l, k)) :
    derLEnc l = der.take k := by
  rcases derLDec_spec der l k h with ⟨h0, hk, hs, hl⟩ | ⟨r, h1, hr1, hr8, hk, hkl, hd0, hd1, hmin, hl, _⟩
  · subst hk; subst hl
    unfold derLEnc
    rw [if_pos hs, oct_toNat]
    cases der with
    | nil => simp at h0
    | cons a t => simp
  · subst hk
    have hlen : ((der.drop 1).take r).length = r := by simp [List.length_take, List.length_drop]; omega
    -- the slice starts with der[1] ≠ 0
    have hsl : (der.drop 1).take r = der[1] :: (der.drop 2).take (r - 1) := by
      have := slice_cons der 1 (1 + r) (by omega) hkl
      rw [show 1 + r - 1 = r by omega, show 1 + r - (1 + 1) = r - 1 by omega] at this
      exact this
    have hol : octLen l = r := by
      rw [hl, hsl, octLen_beVal_cons _ _ hd1]
      have : ((der.drop 2).take (r - 1)).length = r - 1 := by simp [List.length_take, List.length_drop]; omega
      omega
    have hge : 128 ≤ l := by
      rw [hl, hsl, beVal_cons]
      have hge := beVal_ge ((der.drop 2).take (r - 1)) (0 * 256 + der[1].toNat)
      have hl2 : ((der.drop 2).take (r - 1)).length = r - 1 := by simp [List.length_take, List.length_drop]; omega
      rw [hl2] at hge
      by_cases hr : r = 1
      · subst hr; simp at hge ⊢; have := hmin rfl; omega
      · have : 256 ^ 1 ≤ 256 ^ (r - 1) := Nat.pow_le_pow_right (by decide) (by omega)
        have h256 : 1 * 256 ^ (r - 1) ≤ (0 * 256 + der[1].toNat) * 256 ^ (r - 1) := Nat.mul_le_mul_right _ (by omega)
        omega
    unfold derLEnc
    rw [if_neg (by omega), hol]
    have hb : beBytes r l = (der.drop 1).take r := by
      have := beBytes_beVal ((der.drop 1).take r)
      rw [hlen, ← hl] at this; exact this
    rw [hb, take_succ_eq der r (by omega)]
    congr 1
    rw [Nat.add_comm, ← hd0, oct_toNat]

theorem octLen_le8 {l : Nat} (h : l < W) : octLen l ≤ 8 := by
  by_cases h0 : l = 0
  · subst h0; simp [octLen_zero]
  · have h1 := pow_octLen_le h0
    rw [← pow8] at h
    have : 256 ^ (octLen l - 1) < 256 ^ 8 := by omega
    have := (Nat.pow_lt_pow_iff_right (by decide : 1 < 256)).mp this
    omega

theorem derLEnc_length (l : Nat) : (derLEnc l).length = if l < 128 then 1 else 1 + octLen l := by
  unfold derLEnc; split <;> simp [beBytes_length]; omega

theorem derLEnc_le9 (l : Nat) (h : l < W) : 1 ≤ (derLEnc l).length ∧ (derLEnc l).length ≤ 9 := by
  rw [derLEnc_length]; split
  · omega
  · have := octLen_le8 h; omega

/-- ROUND TRIP: every length below SIZE_MAX decodes back from its code, whatever follows -/
theorem derL_roundtrip' (l : Nat) (hl : l < SIZE_MAX) (rest : List UInt8) :
    derLDec (derLEnc l ++ rest) = .ok (l, (derLEnc l).length) := by
  by_cases hs : l < 128
  · have e : derLEnc l = [oct l] := by unfold derLEnc; rw [if_pos hs]
    rw [e]
    unfold derLDec
    have hr0 : rd ([oct l] ++ rest) 0 = .ok l := by
      rw [rd_of_lt (by simp)]; simp [toNat_oct]; omega
    simp only [List.length_append, List.length_singleton, hr0]
    rw [if_neg (by omega), if_neg (by omega), if_pos hs]
  · have hl0 : l ≠ 0 := by omega
    have hW : l < W := by omegaW
    have h8 := octLen_le8 hW
    have h1 : 1 ≤ octLen l := by rw [octLen_pos hl0]; omega
    obtain ⟨tl, htl, hnz, hval⟩ := beBytes_octLen_head hl0
    have e : derLEnc l = oct (octLen l + 128) :: beBytes (octLen l) l := by unfold derLEnc; rw [if_neg hs]
    rw [e]
    have hlen : (oct (octLen l + 128) :: beBytes (octLen l) l ++ rest).length = 1 + octLen l + rest.length := by
      simp [beBytes_length]; omega
    unfold derLDec
    have hr0 : rd (oct (octLen l + 128) :: beBytes (octLen l) l ++ rest) 0 = .ok (octLen l + 128) := by
      rw [rd_of_lt (by simp)]; simp [toNat_oct]; omega
    have hr1 : rd (oct (octLen l + 128) :: beBytes (octLen l) l ++ rest) 1 = .ok (l / 256 ^ (octLen l - 1)) := by
      have e1 : rd (oct (octLen l + 128) :: beBytes (octLen l) l ++ rest) 1 = rd (beBytes (octLen l) l ++ rest) 0 := by
        simp [rd]
      rw [e1, htl]
      simp [rd, hval]
    rw [hlen, if_neg (by omega), hr0]; simp only []
    rw [if_neg (by omega), if_neg (by omega)]
    have hsub : octLen l + 128 - 128 = octLen l := by omega
    rw [hsub, if_neg (by omega), hr1]; simp only []
    have hmin : ¬ (l / 256 ^ (octLen l - 1) = 0 ∨ (octLen l = 1 ∧ l / 256 ^ (octLen l - 1) < 128)) := by
      rw [← hval]
      intro hc
      rcases hc with hc | ⟨hc1, hc2⟩
      · exact hnz hc
      · rw [hval, hc1] at hc2; simp at hc2; omega
    rw [if_neg hmin]
    obtain ⟨v, ev, hv, hlt⟩ := lDecLoop_val (oct (octLen l + 128) :: beBytes (octLen l) l ++ rest) (1 + octLen l) 0 1
      (by rw [hlen]; omega) (by omega)
    rw [ev]; simp only []
    have hslice : (List.drop 1 (oct (octLen l + 128) :: beBytes (octLen l) l ++ rest)).take (1 + octLen l - 1) = beBytes (octLen l) l := by
      simp only [List.cons_append, List.drop_succ_cons, List.drop_zero, Nat.add_sub_cancel_left]
      rw [List.take_append_of_le_length (by rw [beBytes_length]; exact Nat.le_refl _)]
      rw [List.take_of_length_le (by rw [beBytes_length]; exact Nat.le_refl _)]
    rw [hslice, beVal_beBytes, Nat.mod_eq_of_lt (lt_pow_octLen l), Nat.mod_eq_of_lt (hlt (by omegaW)), Nat.mod_eq_of_lt hW] at hv
    subst hv
    rw [if_neg (by omegaW)]
    simp [beBytes_length]; omega

end Bee2V.C08
