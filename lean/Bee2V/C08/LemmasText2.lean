/-
C08 — hex and base64: canonical direction (re-encoding a decoded valid string gives the string back).
-/
import Bee2V.C08.LemmasText
import Bee2V.C08.Lemmas2
namespace Bee2V.C08

/-! ### hex -/

/-- upper-case form of a hex character -/
def hexUpC (c : UInt8) : UInt8 := if 97 ≤ c.toNat ∧ c.toNat ≤ 102 then oct (c.toNat - 32) else c

theorem hex_digit_inv (c : UInt8) (h : hexDec c.toNat ≠ 255) : hexUpperCh (hexDec c.toNat) = hexUpC c ∧ hexDec c.toNat < 16 := by
  have key : ∀ n ∈ List.range 256, hexDec (UInt8.ofNat n).toNat ≠ 255 →
      hexUpperCh (hexDec (UInt8.ofNat n).toNat) = hexUpC (UInt8.ofNat n) ∧ hexDec (UInt8.ofNat n).toNat < 16 := by decide +kernel
  have := key c.toNat (by simp; exact UInt8.toNat_lt c)
  rw [UInt8.ofNat_toNat] at this
  exact this h

theorem hexIsValid_cons2 (c0 c1 : UInt8) (rest : List UInt8) :
    hexIsValid (c0 :: c1 :: rest) = (decide (hexDec c0.toNat ≠ 255) && (decide (hexDec c1.toNat ≠ 255) && hexIsValid rest)) := by
  unfold hexIsValid
  simp only [List.length_cons, List.all_cons]
  by_cases h : rest.length % 2 ≠ 0
  · rw [if_pos (by omega), if_pos h]; simp
  · rw [if_neg (by omega), if_neg h]

/-- CANONICAL (hex): re-encoding a decoded valid string gives the string in upper case -/
theorem hex_canonical' : ∀ (n : Nat) (s : List UInt8), s.length ≤ n → hexIsValid s = true → hexFrom (hexTo s) = s.map hexUpC := by
  intro n
  induction n using Nat.strongRecOn with
  | _ n ih =>
    intro s hl hv
    match s, hl, hv with
    | [], _, _ => rfl
    | [c], _, hv => unfold hexIsValid at hv; simp at hv
    | c0 :: c1 :: rest, hl, hv =>
      rw [hexIsValid_cons2] at hv
      simp only [Bool.and_eq_true, decide_eq_true_eq] at hv
      obtain ⟨h0, h1, hr⟩ := hv
      obtain ⟨u0, l0⟩ := hex_digit_inv c0 h0
      obtain ⟨u1, l1⟩ := hex_digit_inv c1 h1
      simp only [List.length_cons] at hl
      have := ih (n - 2) (by omega) rest (by omega) hr
      simp only [hexTo, hexFrom, List.map_cons, this]
      have hv : (hexToO c0 c1).toNat = hexDec c0.toNat * 16 + hexDec c1.toNat := by
        unfold hexToO; rw [toNat_oct]; omega
      rw [hv]
      have e1 : (hexDec c0.toNat * 16 + hexDec c1.toNat) / 16 = hexDec c0.toNat := by omega
      have e2 : (hexDec c0.toNat * 16 + hexDec c1.toNat) % 16 = hexDec c1.toNat := by omega
      rw [e1, e2, u0, u1]


/-! ### base64 -/

theorem b64_digit_inv (c : UInt8) (h : b64Dec c.toNat ≠ 255) : b64Ch (b64Dec c.toNat) = c ∧ b64Dec c.toNat < 64 ∧ c ≠ 61 := by
  have key : ∀ n ∈ List.range 256, b64Dec (UInt8.ofNat n).toNat ≠ 255 →
      b64Ch (b64Dec (UInt8.ofNat n).toNat) = UInt8.ofNat n ∧ b64Dec (UInt8.ofNat n).toNat < 64 ∧ UInt8.ofNat n ≠ 61 := by
    decide +kernel
  have := key c.toNat (by simp; exact UInt8.toNat_lt c)
  rw [UInt8.ofNat_toNat] at this
  exact this h

theorem b64Dec_pad : b64Dec (61 : UInt8).toNat = 255 := by decide

/-- validity of a string that continues after a 4-character block -/
theorem b64IsValid_append (q s : List UInt8) (hq : q.length = 4) (hs : 4 ≤ s.length) :
    b64IsValid (q ++ s) = (q.all (fun c => b64Dec c.toNat ≠ 255) && b64IsValid s) := by
  have hun := b64Unpad_append q s (by omega)
  have hu : s.length - 2 ≤ b64Unpad s ∧ b64Unpad s ≤ s.length := by
    unfold b64Unpad; simp only []; split <;> (try split) <;> omega
  unfold b64IsValid
  rw [hun, hq]
  simp only [List.length_append, hq]
  by_cases hm : s.length % 4 ≠ 0
  · rw [if_pos (by omega), if_pos hm]; simp
  · rw [if_neg (by omega), if_neg hm]
    have hget : (q ++ s)[4 + b64Unpad s - 1]? = s[b64Unpad s - 1]? := by
      rw [List.getElem?_append_right (by omega)]; congr 1; omega
    have htake1 : (q ++ s).take (4 + b64Unpad s - 1) = q ++ s.take (b64Unpad s - 1) := by
      rw [List.take_append, List.take_of_length_le (by omega)]; congr 2; omega
    have htake0 : (q ++ s).take (4 + b64Unpad s) = q ++ s.take (b64Unpad s) := by
      rw [List.take_append, List.take_of_length_le (by omega)]; congr 2; omega
    by_cases h3 : b64Unpad s % 4 = 3
    · rw [if_pos (by omega), if_pos h3, hget]
      cases s[b64Unpad s - 1]? with
      | none => simp
      | some c =>
        simp only []
        split
        · simp
        · rw [htake1, List.all_append]
    · rw [if_neg (by omega), if_neg h3]
      by_cases h2 : b64Unpad s % 4 = 2
      · rw [if_pos (by omega), if_pos h2, hget]
        cases s[b64Unpad s - 1]? with
        | none => simp
        | some c =>
          simp only []
          split
          · simp
          · rw [htake1, List.all_append]
      · rw [if_neg (by omega), if_neg h2, htake0, List.all_append]


theorem b64To_append (c0 c1 c2 c3 : UInt8) (s : List UInt8) (hs : 4 ≤ s.length) :
    b64To ([c0, c1, c2, c3] ++ s) = b64ToAux [c0, c1, c2, c3] ++ b64To s := by
  unfold b64To
  rw [b64Unpad_append _ s (by omega)]
  have hu : b64Unpad s ≤ s.length := by unfold b64Unpad; simp only []; split <;> (try split) <;> omega
  simp only [List.length_cons, List.length_nil, List.cons_append, List.nil_append]
  rw [show 0 + 1 + 1 + 1 + 1 + b64Unpad s = b64Unpad s + 1 + 1 + 1 + 1 by omega]
  simp only [List.take_succ_cons]
  rw [b64ToAux_block, b64ToAux_block]
  simp [b64ToAux]

/-- one full block: the three octets re-encode to the four characters -/
theorem b64_block_inv (c0 c1 c2 c3 : UInt8) (h0 : b64Dec c0.toNat ≠ 255) (h1 : b64Dec c1.toNat ≠ 255)
    (h2 : b64Dec c2.toNat ≠ 255) (h3 : b64Dec c3.toNat ≠ 255) (rest : List UInt8) :
    b64From (b64ToAux [c0, c1, c2, c3] ++ rest) = [c0, c1, c2, c3] ++ b64From rest := by
  obtain ⟨i0, l0, _⟩ := b64_digit_inv c0 h0
  obtain ⟨i1, l1, _⟩ := b64_digit_inv c1 h1
  obtain ⟨i2, l2, _⟩ := b64_digit_inv c2 h2
  obtain ⟨i3, l3, _⟩ := b64_digit_inv c3 h3
  rw [b64ToAux_block]
  simp only [b64ToAux, List.cons_append, List.nil_append]
  rw [b64From]
  generalize hb : ((b64Dec c0.toNat * 64 + b64Dec c1.toNat) * 64 + b64Dec c2.toNat) * 64 + b64Dec c3.toNat = blk
  have hblk : blk < 16777216 := by omega
  simp only [toNat_oct]
  have e : (blk / 65536 % 256 * 256 + blk / 256 % 256) * 256 + blk % 256 = blk := by omega
  rw [e]
  have q0 : blk / 262144 = b64Dec c0.toNat := by omega
  have q1 : blk / 4096 % 64 = b64Dec c1.toNat := by omega
  have q2 : blk / 64 % 64 = b64Dec c2.toNat := by omega
  have q3 : blk % 64 = b64Dec c3.toNat := by omega
  rw [q0, q1, q2, q3, i0, i1, i2, i3]


theorem unpad4 (c0 c1 c2 c3 : UInt8) : b64Unpad [c0, c1, c2, c3] = if c3 = 61 then (if c2 = 61 then 2 else 3) else 4 := by
  unfold b64Unpad
  simp only [List.length_cons, List.length_nil]
  by_cases h3 : c3 = 61
  · by_cases h2 : c2 = 61
    · simp [h3, h2]
    · simp [h3, h2]
  · simp [h3]

/-- the last block (with or without padding) -/
theorem b64_last (c0 c1 c2 c3 : UInt8) (hv : b64IsValid [c0, c1, c2, c3] = true) :
    b64From (b64To [c0, c1, c2, c3]) = [c0, c1, c2, c3] := by
  unfold b64IsValid at hv
  unfold b64To
  rw [unpad4] at hv ⊢
  simp only [List.length_cons, List.length_nil, show (0 + 1 + 1 + 1 + 1) % 4 ≠ 0 ↔ False by simp, if_false] at hv
  by_cases h3 : c3 = 61
  · by_cases h2 : c2 = 61
    · -- "xy=="
      simp only [h3, h2, if_true] at hv ⊢
      simp only [show (2 : Nat) % 4 = 3 ↔ False by decide, show (2 : Nat) % 4 = 2 ↔ True by decide, if_false, if_true,
        show (2 : Nat) - 1 = 1 from rfl, List.getElem?_cons_succ, List.getElem?_cons_zero, List.take_succ_cons, List.take_zero,
        List.all_cons, List.all_nil, Bool.and_true] at hv
      by_cases h16 : b64Dec c1.toNat % 16 ≠ 0
      · rw [if_pos h16] at hv; cases hv
      · rw [if_neg h16] at hv
        have hc0 : b64Dec c0.toNat ≠ 255 := by simpa using hv
        have hc1 : b64Dec c1.toNat ≠ 255 := by omega
        obtain ⟨i0, l0, _⟩ := b64_digit_inv c0 hc0
        obtain ⟨i1, l1, _⟩ := b64_digit_inv c1 hc1
        simp only [List.take_succ_cons, List.take_zero, b64ToAux, b64From, toNat_oct]
        have e1 : (b64Dec c0.toNat * 64 + b64Dec c1.toNat) / 16 % 256 * 16 / 64 = b64Dec c0.toNat := by omega
        have e2 : (b64Dec c0.toNat * 64 + b64Dec c1.toNat) / 16 % 256 * 16 % 64 = b64Dec c1.toNat := by omega
        rw [e1, e2, i0, i1]
    · -- "xyz="
      simp only [h3, h2, if_true, if_false] at hv ⊢
      simp only [show (3 : Nat) % 4 = 3 ↔ True by decide, if_true,
        show (3 : Nat) - 1 = 2 from rfl, List.getElem?_cons_succ, List.getElem?_cons_zero, List.take_succ_cons, List.take_zero,
        List.all_cons, List.all_nil, Bool.and_true] at hv
      by_cases h4 : b64Dec c2.toNat % 4 ≠ 0
      · rw [if_pos h4] at hv; cases hv
      · rw [if_neg h4] at hv
        simp only [Bool.and_eq_true, decide_eq_true_eq] at hv
        have hc2 : b64Dec c2.toNat ≠ 255 := by omega
        obtain ⟨i0, l0, _⟩ := b64_digit_inv c0 hv.1
        obtain ⟨i1, l1, _⟩ := b64_digit_inv c1 hv.2
        obtain ⟨i2, l2, _⟩ := b64_digit_inv c2 hc2
        simp only [List.take_succ_cons, List.take_zero, b64ToAux, b64From, toNat_oct]
        generalize hb : ((b64Dec c0.toNat * 64 + b64Dec c1.toNat) * 64 + b64Dec c2.toNat) / 4 = blk
        have hblk : blk < 65536 := by omega
        have e : (blk / 256 % 256 * 256 + blk % 256) * 4 = (b64Dec c0.toNat * 64 + b64Dec c1.toNat) * 64 + b64Dec c2.toNat := by omega
        rw [e]
        have q0 : ((b64Dec c0.toNat * 64 + b64Dec c1.toNat) * 64 + b64Dec c2.toNat) / 4096 = b64Dec c0.toNat := by omega
        have q1 : ((b64Dec c0.toNat * 64 + b64Dec c1.toNat) * 64 + b64Dec c2.toNat) / 64 % 64 = b64Dec c1.toNat := by omega
        have q2 : ((b64Dec c0.toNat * 64 + b64Dec c1.toNat) * 64 + b64Dec c2.toNat) % 64 = b64Dec c2.toNat := by omega
        rw [q0, q1, q2, i0, i1, i2]
  · simp only [h3, if_false] at hv ⊢
    simp only [show (4 : Nat) % 4 = 3 ↔ False by decide, show (4 : Nat) % 4 = 2 ↔ False by decide, if_false,
      List.take_succ_cons, List.take_zero, List.all_cons, List.all_nil, Bool.and_true, Bool.and_eq_true, decide_eq_true_eq] at hv
    have := b64_block_inv c0 c1 c2 c3 hv.1 hv.2.1 hv.2.2.1 hv.2.2.2 []
    simp only [List.append_nil, b64From] at this
    simp only [List.take_succ_cons, List.take_zero]
    exact this

end Bee2V.C08
