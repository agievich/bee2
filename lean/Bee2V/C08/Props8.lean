/-
C08 — property theorems, part 8: container-level round trips (bpki.c) and the nested-SEQUENCE facts they
rest on: decode ∘ encode = id for PrivateKeyInfo, share container and EncryptedPrivateKeyInfo.
-/
import Bee2V.C08.ContCan
namespace Bee2V.C08

/-- the encoder interpreter on a well-formed tree of primitive codes and SEQUENCEs writes exactly the
    nested DER code (every Start/Stop pair becomes `T ‖ L(|content|) ‖ content`) -/
theorem runEnc_tree_code (ts : List Tree) (h : Tree.OkL ts) (buf : List UInt8) (an : List (Nat × Anchor))
    (hW : buf.length + Tree.boundL ts + 16 < W) : runEnc (Tree.stepsL ts) buf an = .ok (buf ++ Tree.codeL ts) :=
  runEnc_tree ts h buf an hW
example : Tree.codeL [.seq 0 48 [.prim [5, 0]]] = [48, 2, 5, 0] := by decide +kernel

/-- bpkiPrivkeyDec (bpkiPrivkeyEnc k) = k, consuming the whole code (24/32/48/64-octet keys) -/
theorem bpkiPrivkey_dec_enc (k pki : List UInt8) (hk : k.length = 24 ∨ k.length = 32 ∨ k.length = 48 ∨ k.length = 64)
    (he : bpkiPrivkeyEnc k = .ok pki) : ∃ st, bpkiPrivkeyDec pki = .ok (pki.length, st) ∧ st.outs = [k] :=
  bpkiPrivkey_roundtrip k pki hk he

/-- bpkiShareDec (bpkiShareEnc s) = s (17/25/33-octet shares) -/
theorem bpkiShare_dec_enc (s pki : List UInt8) (hs : s.length = 17 ∨ s.length = 25 ∨ s.length = 33)
    (he : bpkiShareEnc s = .ok pki) : ∃ st, bpkiShareDec pki = .ok (pki.length, st) ∧ st.outs = [s] :=
  bpkiShare_roundtrip s pki hs he

/-- bpkiEdataDec (bpkiEdataEnc edata salt iter) = (edata, salt, iter) through the seven nested SEQUENCEs -/
theorem bpkiEdata_dec_enc (edata salt e : List UInt8) (iter : Nat) (hsalt : salt.length = 8) (hiter : iter < W)
    (hed : edata.length < 4294967296) (he : bpkiEdataEnc edata salt iter = .ok e) :
    ∃ st, bpkiEdataDec e = .ok (e.length, st) ∧ st.outs = [salt, edata] ∧ st.nums = [iter] :=
  bpkiEdata_roundtrip edata salt e iter hsalt hiter hed he
example : (bpkiEdataEnc [1, 2, 3] [1, 2, 3, 4, 5, 6, 7, 8] 10000).isOk = true := by decide +kernel

/-- the OID matcher accepts the code of its string, whatever follows -/
theorem derOIDDec2_accepts_code (oid e rest : List UInt8) (he : derOIDEnc oid = .ok e)
    (hlen : 13 + e.length + rest.length < W) : derOIDDec2 (e ++ rest) oid = .ok e.length :=
  derOIDDec2_roundtrip oid e rest he (by rw [List.length_append]; omega)

/-! ### canonical direction -/

/-- an accepted PrivateKeyInfo is exactly bpkiPrivkeyEnc of the key it yields -/
theorem bpkiPrivkey_enc_dec (x : List UInt8) (hl : x.length < W) (c : Nat) (st : DSt) (h : bpkiPrivkeyDec x = .ok (c, st)) :
    c ≤ x.length ∧ ∃ k, st.outs = [k] ∧ (k.length = 24 ∨ k.length = 32 ∨ k.length = 48 ∨ k.length = 64) ∧
      bpkiPrivkeyEnc k = .ok (x.take c) := bpkiPrivkey_canonical x hl c st h

/-- an accepted share container is exactly bpkiShareEnc of the share it yields -/
theorem bpkiShare_enc_dec (x : List UInt8) (hl : x.length < W) (c : Nat) (st : DSt) (h : bpkiShareDec x = .ok (c, st)) :
    c ≤ x.length ∧ ∃ k, st.outs = [k] ∧ (k.length = 17 ∨ k.length = 25 ∨ k.length = 33) ∧
      bpkiShareEnc k = .ok (x.take c) := bpkiShare_canonical x hl c st h

/-- an accepted EncryptedPrivateKeyInfo is exactly bpkiEdataEnc of the (edata, salt, iter) it yields: all seven
    nested SEQUENCE lengths are forced (the seeded defect C08-m3 — Stop on the wrong anchor — contradicts this) -/
theorem bpkiEdata_enc_dec (x : List UInt8) (hl : x.length < 4294967296) (c : Nat) (st : DSt)
    (h : bpkiEdataDec x = .ok (c, st)) :
    c ≤ x.length ∧ ∃ edata salt iter, st.outs = [salt, edata] ∧ st.nums = [iter] ∧
      bpkiEdataEnc edata salt iter = .ok (x.take c) := bpkiEdata_canonical x hl c st h

end Bee2V.C08
