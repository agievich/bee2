/-
C08 — containers (Model3): a codec built from bounded steps never reads outside the input and
consumes at most the input.
-/
import Bee2V.C08.Model3
import Bee2V.C08.LemmasCodec
namespace Bee2V.C08

/-- a primitive that never over-reads and consumes at most what it is given -/
def BddPrim {α : Type} (f : List UInt8 → R α) (len : α → Nat) : Prop :=
  ∀ xs, xs.length < W → f xs ≠ .oob ∧ ∀ a, f xs = .ok a → len a ≤ xs.length

def BddStep (s : DStep) : Prop :=
  ∀ st p rest, rest.length < W → s st p rest ≠ .oob ∧ ∀ t st', s st p rest = .ok (t, st') → t ≤ rest.length

theorem runDec_bdd (der : List UInt8) (hlen : der.length < W) (steps : List DStep) (hall : ∀ s ∈ steps, BddStep s)
    (st : DSt) (p : Nat) (hp : p ≤ der.length) :
    runDec der steps st p ≠ .oob ∧ ∀ p' st', runDec der steps st p = .ok (p', st') → p ≤ p' ∧ p' ≤ der.length := by
  induction steps generalizing st p with
  | nil =>
    unfold runDec
    exact ⟨by simp, fun p' st' h => by cases h; exact ⟨Nat.le_refl _, hp⟩⟩
  | cons s ss ih =>
    have hs := hall s (List.mem_cons_self)
    have hss : ∀ s' ∈ ss, BddStep s' := fun s' h => hall s' (List.mem_cons_of_mem _ h)
    have hrl : (der.drop p).length < W := by rw [List.length_drop]; omega
    obtain ⟨hno, hb⟩ := hs st p (der.drop p) hrl
    unfold runDec
    cases hstep : s st p (der.drop p) with
    | ok r =>
      obtain ⟨t, st'⟩ := r
      have ht := hb t st' hstep
      rw [List.length_drop] at ht
      simp only []
      obtain ⟨h1, h2⟩ := ih hss st' (p + t) (by omega)
      exact ⟨h1, fun p' st'' h => by have := h2 p' st'' h; omega⟩
    | err => exact ⟨by simp, fun _ _ h => by cases h⟩
    | oob => exact absurd hstep hno

theorem bdd_dPrim (f : List UInt8 → R Nat) (hf : BddPrim f id) : BddStep (dPrim f) := by
  intro st p rest hl
  obtain ⟨h1, h2⟩ := hf rest hl
  unfold dPrim
  cases hfr : f rest with
  | ok t => exact ⟨by simp, fun t' st' h => by cases h; exact h2 t hfr⟩
  | err => exact ⟨by simp, fun _ _ h => by cases h⟩
  | oob => exact absurd hfr h1

theorem bdd_dOut (f : List UInt8 → R (List UInt8 × Nat)) (hf : BddPrim f Prod.snd) : BddStep (dOut f) := by
  intro st p rest hl
  obtain ⟨h1, h2⟩ := hf rest hl
  unfold dOut
  cases hfr : f rest with
  | ok r => obtain ⟨v, t⟩ := r; exact ⟨by simp, fun t' st' h => by cases h; exact h2 (v, t) hfr⟩
  | err => exact ⟨by simp, fun _ _ h => by cases h⟩
  | oob => exact absurd hfr h1

theorem bdd_dNum (f : List UInt8 → R (Nat × Nat)) (hf : BddPrim f Prod.snd) : BddStep (dNum f) := by
  intro st p rest hl
  obtain ⟨h1, h2⟩ := hf rest hl
  unfold dNum
  cases hfr : f rest with
  | ok r => obtain ⟨v, t⟩ := r; exact ⟨by simp, fun t' st' h => by cases h; exact h2 (v, t) hfr⟩
  | err => exact ⟨by simp, fun _ _ h => by cases h⟩
  | oob => exact absurd hfr h1

theorem bdd_dStart (slot tag : Nat) : BddStep (dStart slot tag) := by
  intro st p rest _
  unfold dStart
  rcases derTSEQDecStart_cases rest tag with e | ⟨a, c, e, hc, _⟩
  · rw [e]; exact ⟨by simp, fun _ _ h => by cases h⟩
  · rw [e]; exact ⟨by simp, fun t st' h => by cases h; exact hc⟩

theorem derTSEQDecStop_cases (pos : Nat) (a : Anchor) : derTSEQDecStop pos a = .err ∨ derTSEQDecStop pos a = .ok () := by
  unfold derTSEQDecStop
  simp only []
  split
  · exact Or.inl rfl
  · split
    · exact Or.inr rfl
    · exact Or.inl rfl

theorem bdd_dStop (slot : Nat) : BddStep (dStop slot) := by
  intro st p rest _
  unfold dStop
  cases st.anchors.find? (fun e => e.1 = slot) with
  | none => exact ⟨by simp, fun _ _ h => by cases h⟩
  | some e =>
    obtain ⟨_, p0, a⟩ := e
    simp only []
    rcases derTSEQDecStop_cases (p - p0) a with e | e
    · rw [e]; exact ⟨by simp, fun _ _ h => by cases h⟩
    · rw [e]; exact ⟨by simp, fun t st' h => by cases h; omega⟩

theorem bdd_dMark (k : Nat) : BddStep (dMark k) := by
  intro st p rest _
  unfold dMark
  exact ⟨by simp, fun t st' h => by cases h; omega⟩

theorem bdd_oidDec2 (oid : List UInt8) : BddPrim (oidDec2 oid) id := by
  intro xs hl
  unfold oidDec2
  rcases derOIDDec2_cases xs oid hl with e | ⟨c, e, hc⟩
  · rw [e]; exact ⟨by simp, fun _ h => by cases h⟩
  · rw [e]; exact ⟨by simp, fun a h => by cases h; exact hc⟩

theorem bdd_dAlt (alts : List (List UInt8 × Nat)) : BddStep (dAlt alts) := by
  induction alts with
  | nil => intro st p rest _; unfold dAlt; exact ⟨by simp, fun _ _ h => by cases h⟩
  | cons x xs ih =>
    obtain ⟨oid, len⟩ := x
    intro st p rest hl
    unfold dAlt
    rcases derOIDDec2_cases rest oid hl with e | ⟨c, e, hc⟩
    · rw [e]; exact ih st p rest hl
    · rw [e]; exact ⟨by simp, fun t st' h => by cases h; exact hc⟩

theorem bdd_dOctLen : BddStep dOctLen := by
  intro st p rest hl
  unfold dOctLen
  cases st.nums with
  | nil => exact ⟨by simp, fun _ _ h => by cases h⟩
  | cons len _ =>
    simp only []
    rcases derTOCTDec2_cases rest 4 len hl with e | ⟨v, c, e, hc⟩
    · rw [e]; exact ⟨by simp, fun _ _ h => by cases h⟩
    · rw [e]; exact ⟨by simp, fun t st' h => by cases h; exact hc⟩

theorem bdd_sizeDec2 (v : Nat) : BddPrim (sizeDec2 v) id := by
  intro xs hl
  unfold sizeDec2 derTSIZEDec2
  rcases derTSIZEDec_cases xs 2 hl with e | ⟨v', c, e, hc⟩
  · rw [e]; exact ⟨by simp, fun _ h => by cases h⟩
  · rw [e]; simp only []
    split
    · exact ⟨by simp, fun _ h => by cases h⟩
    · exact ⟨by simp, fun a h => by cases h; exact hc⟩

theorem bdd_nullDec : BddPrim nullDec id := by
  intro xs hl
  unfold nullDec
  rcases derDec4_cases xs 5 [] hl with e | ⟨c, e, hc⟩
  · rw [e]; exact ⟨by simp, fun _ h => by cases h⟩
  · rw [e]; exact ⟨by simp, fun a h => by cases h; exact hc⟩

theorem bdd_skipDec (tag : Nat) : BddPrim (skipDec tag) id := by
  intro xs hl
  unfold skipDec
  rcases derDec2_cases xs tag hl with e | ⟨off, len, c, e, _, _, _, _, hc⟩
  · rw [e]; exact ⟨by simp, fun _ h => by cases h⟩
  · rw [e]; exact ⟨by simp, fun a h => by cases h; exact hc⟩

theorem bdd_bitDec2 (len : Nat) : BddPrim (bitDec2 len) id := by
  intro xs hl
  unfold bitDec2
  rcases derTBITDec2_cases xs 3 len hl with e | ⟨v, c, e, hc⟩
  · rw [e]; exact ⟨by simp, fun _ h => by cases h⟩
  · rw [e]; exact ⟨by simp, fun a h => by cases h; exact hc⟩

theorem bdd_octDec2 (len : Nat) : BddPrim (fun r => derTOCTDec2 r 4 len) Prod.snd := by
  intro xs hl
  rcases derTOCTDec2_cases xs 4 len hl with e | ⟨v, c, e, hc⟩
  · simp only [e]; exact ⟨by simp, fun _ h => by cases h⟩
  · simp only [e]; exact ⟨by simp, fun a h => by cases h; exact hc⟩

theorem bdd_octDec : BddPrim (fun r => derTOCTDec r 4) Prod.snd := by
  intro xs hl
  rcases derTOCTDec_cases xs 4 hl with e | ⟨v, c, e, hc⟩
  · simp only [e]; exact ⟨by simp, fun _ h => by cases h⟩
  · simp only [e]; exact ⟨by simp, fun a h => by cases h; exact hc⟩

theorem bdd_sizeDec : BddPrim (fun r => derTSIZEDec r 2) Prod.snd := by
  intro xs hl
  rcases derTSIZEDec_cases xs 2 hl with e | ⟨v, c, e, hc⟩
  · simp only [e]; exact ⟨by simp, fun _ h => by cases h⟩
  · simp only [e]; exact ⟨by simp, fun a h => by cases h; exact hc⟩

theorem bdd_dUintP : BddStep dUintP := by
  intro st p rest hl
  unfold dUintP
  rcases derTUINTDec_cases rest 2 hl with e | ⟨v, c, e, hc⟩
  · rw [e]; exact ⟨by simp, fun _ _ h => by cases h⟩
  · rw [e]; simp only []
    split
    · exact ⟨by simp, fun _ _ h => by cases h⟩
    · exact ⟨by simp, fun t st' h => by cases h; exact hc⟩

theorem bdd_dUintLen : BddStep dUintLen := by
  intro st p rest hl
  unfold dUintLen
  cases st.nums with
  | nil => exact ⟨by simp, fun _ _ h => by cases h⟩
  | cons len _ =>
    simp only []
    rcases derTUINTDec2_cases rest 2 len hl with e | ⟨v, c, e, hc, _⟩
    · rw [e]; exact ⟨by simp, fun _ _ h => by cases h⟩
    · rw [e]; exact ⟨by simp, fun t st' h => by cases h; exact hc⟩

theorem bdd_dOpt (f : List UInt8 → R Nat) (hf : BddPrim f id) : BddStep (dOpt f) := by
  intro st p rest hl
  obtain ⟨h1, h2⟩ := hf rest hl
  unfold dOpt
  cases hfr : f rest with
  | ok t => exact ⟨by simp, fun t' st' h => by cases h; exact h2 t hfr⟩
  | err => exact ⟨by simp, fun t' st' h => by cases h; exact Nat.zero_le _⟩
  | oob => exact absurd hfr h1

theorem bdd_bitDec2v (len : Nat) : BddPrim (bitDec2v len) Prod.snd := by
  intro xs hl
  unfold bitDec2v
  rcases derTBITDec2_cases xs 3 len hl with e | ⟨v, c, e, hc⟩
  · rw [e]; exact ⟨by simp, fun _ h => by cases h⟩
  · rw [e]; exact ⟨by simp, fun a h => by cases h; exact hc⟩

end Bee2V.C08
