/-
C08 — property theorems, part 4: command APDUs (apdu.c) — no over-read, canonical form, round trip.
-/
import Bee2V.C08.LemmasApdu
namespace Bee2V.C08

/-- apduCmdDec never reads outside its input (whatever Lc/Le forms the octets pretend to have) -/
theorem apduCmdDec_no_oob (apdu : List UInt8) : apduCmdDec apdu ≠ .oob := by
  rcases apduCmdDec_cases apdu with e | ⟨_, e⟩ <;> rw [e] <;> simp
/-- the command of the seeded over-read (Lc announces one octet more than present): rejected, and — by the theorem
    above — without a read outside the input, although the model copies the data field before it decodes Le -/
example : apduCmdDec [0x00, 0xA4, 0x04, 0x04, 0x05, 0x11, 0x22, 0x33, 0x44] = .err := by decide +kernel

/-- the data field of an accepted command lies inside the input -/
theorem apduCmdDec_bounded (apdu : List UInt8) (cmd : Cmd) (h : apduCmdDec apdu = .ok cmd) :
    4 + cmd.cdf.length ≤ apdu.length ∧ cmd.rdf_len ≤ 65536 := by
  obtain ⟨body, rfl, hf⟩ := apduCmdDec_form apdu cmd h
  have := hf.bounds
  simp only [List.length_cons]
  omega

/-- CANONICAL: an accepted command re-encodes to exactly the accepted octets (needs fix-3: no
    extended Lc = 0, no extended Lc < 256 without Le) -/
theorem apduCmdDec_canonical (apdu : List UInt8) (cmd : Cmd) (h : apduCmdDec apdu = .ok cmd) :
    apduCmdEnc cmd = apdu := by
  obtain ⟨body, rfl, hf⟩ := apduCmdDec_form apdu cmd h
  exact hf.enc _ _ _ _
example : apduCmdDec [0x00, 0xA4, 0x04, 0x0C, 0x02, 0x01, 0x02, 0x00] = .ok ⟨0x00, 0xA4, 0x04, 0x0C, [0x01, 0x02], 256⟩ := by
  decide +kernel
/-- the fix-3 witnesses are rejected -/
example : apduCmdDec [0, 1, 2, 3, 0, 0, 0, 1, 1] = .err := by decide +kernel
example : apduCmdDec [0, 1, 2, 3, 0, 0, 2, 9, 9] = .err := by decide +kernel

/-- ROUND TRIP: every valid command (cdf_len < 65536, rdf_len ≤ 65536) decodes back from its code -/
theorem apduCmd_roundtrip (cmd : Cmd) (hv : apduCmdIsValid cmd = true) : apduCmdDec (apduCmdEnc cmd) = .ok cmd := by
  unfold apduCmdIsValid at hv
  simp only [decide_eq_true_eq] at hv
  obtain ⟨body, hf⟩ := CmdForm.ofValid cmd.cdf cmd.rdf_len hv.1 hv.2
  rw [hf.enc]
  exact hf.dec _ _ _ _
example : apduCmdIsValid ⟨0, 0xA4, 4, 0x0C, [], 65536⟩ = true ∧ apduCmdEnc ⟨0, 0xA4, 4, 0x0C, [], 65536⟩ = [0, 0xA4, 4, 0x0C, 0, 0, 0] := by
  decide

end Bee2V.C08
