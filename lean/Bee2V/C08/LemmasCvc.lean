/-
C08 — lemmas for Props9: every write of the CVC decode model (Model4) stays within the capacity of the
destination field of btok_cvc_t — on every path, also on the failing ones.
-/
import Bee2V.C08.Model4
import Bee2V.C08.LemmasCodec
namespace Bee2V.C08
set_option linter.unusedSimpArgs false

/-! ### lengths of decoded values -/

theorem derTOCTDec2_len {der : List UInt8} {tag len : Nat} {v : List UInt8} {c : Nat} (hlen : der.length < W)
    (h : derTOCTDec2 der tag len = .ok (v, c)) : v.length = len := by
  unfold derTOCTDec2 at h
  rcases derDec3_cases der tag len hlen with e | ⟨off, c', e, _, hc, hl⟩
  · rw [e] at h; cases h
  · rw [e] at h; simp only [] at h
    rw [rdSlice_ok (by omega)] at h
    injection h with h; injection h with hv _
    subst hv
    simp [List.length_take, List.length_drop]; omega

theorem derTBITDec_len {der : List UInt8} {tag : Nat} {v : List UInt8} {bl c : Nat} (hlen : der.length * 8 + 16 < W)
    (h : derTBITDec der tag = .ok (v, bl, c)) : ∃ v0, v0 ≤ 7 ∧ bl = (v.length * 8 + W - v0) % W ∧ v.length * 8 < W := by
  rw [derTBITDec_eq der tag (by omega)] at h
  obtain ⟨off, V, c', r, _, _, _, hl, hV, hb⟩ := tlvDec_ok (by omega) h
  cases hb
  match V, hV with
  | v0 :: tl, hV =>
    rw [bitV_cons] at hV
    simp only [List.length_cons] at hl
    split at hV
    · cases hV
    · split at hV
      · cases hV
      · cases hV; dsimp only; exact ⟨v0.toNat, by omega, rfl, by omega⟩

/-! ### invariants of the decode state -/

/-- every recorded write fits its field -/
def CapInv (st : DSt) : Prop := ∀ e ∈ st.outs, capOK e = true

theorem capInv_empty : CapInv {} := by
  intro e he; cases he

theorem capInv_wr {st : DSt} {field : Nat} {v : List UInt8} (h : CapInv st) (hv : capOK (UInt8.ofNat field :: v) = true) :
    CapInv (wr st field v) := by
  intro e he
  simp only [wr, List.mem_append, List.mem_singleton] at he
  rcases he with he | he
  · exact h e he
  · rw [he]; exact hv

/-- a step keeps the invariant whenever it succeeds on an input of at most L octets (a failing step leaves the
    state as it was) -/
def StepInv (L : Nat) (P : DSt → Prop) (s : DStep) : Prop :=
  ∀ st p rest t st', rest.length ≤ L → P st → s st p rest = .ok (t, st') → P st'

def AllInv (L : Nat) (P : DSt → Prop) (steps : List DStep) : Prop := ∀ s ∈ steps, StepInv L P s

theorem AllInv.nil {L : Nat} {P : DSt → Prop} : AllInv L P [] := by intro s hs; cases hs

theorem AllInv.cons {L : Nat} {P : DSt → Prop} {s : DStep} {ss : List DStep} (h : StepInv L P s) (hs : AllInv L P ss) :
    AllInv L P (s :: ss) := by
  intro x hx
  rcases List.mem_cons.mp hx with e | e
  · rw [e]; exact h
  · exact hs x e

theorem AllInv.append {L : Nat} {P : DSt → Prop} {a b : List DStep} (ha : AllInv L P a) (hb : AllInv L P b) :
    AllInv L P (a ++ b) := by
  intro x hx
  rcases List.mem_append.mp hx with e | e
  · exact ha x e
  · exact hb x e

theorem AllInv.ite {L : Nat} {P : DSt → Prop} {c : Bool} {a : List DStep} (ha : AllInv L P a) :
    AllInv L P (if c = true then a else []) := by
  cases c
  · exact AllInv.nil
  · exact ha

/-- the state returned by runDecS — result ok or not — satisfies every invariant its steps keep -/
theorem runDecS_inv (der : List UInt8) (L : Nat) (hL : der.length ≤ L) (P : DSt → Prop) :
    ∀ (steps : List DStep) (st : DSt) (p : Nat), AllInv L P steps → P st → P (runDecS der steps st p).2 := by
  intro steps
  induction steps with
  | nil => intro st p _ h; exact h
  | cons s ss ih =>
    intro st p hall h
    unfold runDecS
    cases hs : s st p (der.drop p) with
    | ok r =>
      obtain ⟨t, st'⟩ := r
      simp only []
      exact ih st' (p + t) (fun x hx => hall x (List.mem_cons_of_mem _ hx))
        (hall s List.mem_cons_self st p _ t st' (by rw [List.length_drop]; omega) h hs)
    | err => exact h
    | oob => exact h

/-! ### the steps of the CVC decoder -/

theorem stepInv_dStart (L : Nat) (P : DSt → Prop) (hP : ∀ st a, P st → P { st with anchors := a }) (slot tag : Nat) :
    StepInv L P (dStart slot tag) := by
  intro st p rest t st' _ h e
  unfold dStart at e
  cases hd : derTSEQDecStart rest tag with
  | ok r =>
    obtain ⟨a, c⟩ := r
    rw [hd] at e; simp only [] at e
    injection e with e; injection e with _ e2
    rw [← e2]; exact hP _ _ h
  | err => rw [hd] at e; cases e
  | oob => rw [hd] at e; cases e

theorem stepInv_dStop (L : Nat) (P : DSt → Prop) (slot : Nat) : StepInv L P (dStop slot) := by
  intro st p rest t st' _ h e
  unfold dStop at e
  split at e
  · split at e
    · injection e with e; injection e with _ e2; rw [← e2]; exact h
    · cases e
    · cases e
  · cases e

theorem stepInv_dPrim (L : Nat) (P : DSt → Prop) (f : List UInt8 → R Nat) : StepInv L P (dPrim f) := by
  intro st p rest t st' _ h e
  unfold dPrim at e
  split at e
  · injection e with e; injection e with _ e2; rw [← e2]; exact h
  · cases e
  · cases e

theorem capInv_anchors : ∀ (st : DSt) (a : List (Nat × Nat × Anchor)), CapInv st → CapInv { st with anchors := a } := by
  intro st a h; exact h

theorem stepInv_dName (L : Nat) (field tag : Nat) (hf : field = fAuthority ∨ field = fHolder) :
    StepInv L CapInv (dName field tag) := by
  intro st p rest t st' _ h e
  unfold dName at e
  split at e
  · next v c _ =>
    by_cases hv : v.length < 8 ∨ v.length > 12
    · rw [if_pos hv] at e; cases e
    · rw [if_neg hv] at e
      injection e with e; injection e with _ e2
      rw [← e2]
      apply capInv_wr h
      have h12 : v.length + 1 ≤ 13 := by omega
      rcases hf with hf | hf <;> subst hf <;> simp [capOK, fAuthority, fHolder, h12]
  · cases e
  · cases e

theorem stepInv_dFix (L : Nat) (hL : L < W) (field tag len : Nat)
    (hcap : ∀ v : List UInt8, v.length = len → capOK (UInt8.ofNat field :: v) = true) :
    StepInv L CapInv (dFix field tag len) := by
  intro st p rest t st' hr h e
  unfold dFix at e
  split at e
  · next v c hd =>
    injection e with e; injection e with _ e2
    rw [← e2]
    exact capInv_wr h (hcap v (derTOCTDec2_len (by omega) hd))
  · cases e
  · cases e

theorem stepInv_dPubkey (L : Nat) (hL : L * 8 + 16 < W) : StepInv L CapInv dPubkey := by
  intro st p rest t st' hr h e
  unfold dPubkey at e
  split at e
  · next v bl c hd =>
    by_cases hb : bl ≠ 384 ∧ bl ≠ 512 ∧ bl ≠ 768 ∧ bl ≠ 1024
    · rw [if_pos hb] at e; cases e
    · rw [if_neg hb] at e
      injection e with e; injection e with _ e2
      rw [← e2]
      obtain ⟨v0, h7, hbl, hv8⟩ := derTBITDec_len (by omega) hd
      have h128 : v.length ≤ 128 := by omegaW
      apply capInv_wr h
      simp [capOK, fAuthority, fHolder, fPubkey, h128]
  · cases e
  · cases e

/-! ### the whole decoders -/

theorem allInv_steps1 (L : Nat) (hL : L * 8 + 16 < W) : AllInv L CapInv cvcSteps1 := by
  unfold cvcSteps1
  refine AllInv.cons (stepInv_dStart L _ capInv_anchors _ _) (AllInv.cons (stepInv_dPrim L _ _)
    (AllInv.cons (stepInv_dName L _ _ (Or.inl rfl)) (AllInv.cons (stepInv_dStart L _ capInv_anchors _ _)
    (AllInv.cons (stepInv_dPrim L _ _) (AllInv.cons (stepInv_dPubkey L hL) (AllInv.cons (stepInv_dStop L _ _)
    (AllInv.cons (stepInv_dName L _ _ (Or.inr rfl)) AllInv.nil)))))))

theorem allInv_hat (L : Nat) (hL : L < W) : AllInv L CapInv cvcHat := by
  unfold cvcHat
  refine AllInv.cons (stepInv_dStart L _ capInv_anchors _ _) (AllInv.cons (stepInv_dPrim L _ _)
    (AllInv.cons (stepInv_dFix L hL _ _ _ ?_) (AllInv.cons (stepInv_dStop L _ _) AllInv.nil)))
  intro v hv; simp [capOK, fAuthority, fHolder, fPubkey, fHatEid, fFrom, fUntil, fHatEsign, fSig, hv]

theorem allInv_dates (L : Nat) (hL : L < W) : AllInv L CapInv cvcDates := by
  unfold cvcDates
  refine AllInv.cons (stepInv_dFix L hL _ _ _ ?_) (AllInv.cons (stepInv_dFix L hL _ _ _ ?_) AllInv.nil)
  · intro v hv; simp [capOK, fAuthority, fHolder, fPubkey, fHatEid, fFrom, fUntil, fHatEsign, fSig, hv]
  · intro v hv; simp [capOK, fAuthority, fHolder, fPubkey, fHatEid, fFrom, fUntil, fHatEsign, fSig, hv]

theorem allInv_ext (L : Nat) (hL : L < W) : AllInv L CapInv cvcExt := by
  unfold cvcExt
  refine AllInv.cons (stepInv_dStart L _ capInv_anchors _ _) (AllInv.cons (stepInv_dStart L _ capInv_anchors _ _)
    (AllInv.cons (stepInv_dPrim L _ _) (AllInv.cons (stepInv_dStart L _ capInv_anchors _ _)
    (AllInv.cons (stepInv_dPrim L _ _) (AllInv.cons (stepInv_dFix L hL _ _ _ ?_)
    (AllInv.cons (stepInv_dStop L _ _) (AllInv.cons (stepInv_dStop L _ _) (AllInv.cons (stepInv_dStop L _ _) AllInv.nil))))))))
  intro v hv; simp [capOK, fAuthority, fHolder, fPubkey, fHatEid, fFrom, fUntil, fHatEsign, fSig, hv]

theorem cvcBodyDecS_capInv (body : List UInt8) (hlen : body.length * 8 + 16 < W) : CapInv (cvcBodyDecS body).2 := by
  have hW : body.length < W := by omega
  unfold cvcBodyDecS
  have h1 := runDecS_inv body body.length (Nat.le_refl _) CapInv cvcSteps1 {} 0 (allInv_steps1 _ hlen) capInv_empty
  generalize runDecS body cvcSteps1 {} 0 = x1 at h1 ⊢
  obtain ⟨r1, st1⟩ := x1
  cases r1 with
  | err => exact h1
  | oob => exact h1
  | ok p1 =>
    simp only []
    have h2 := runDecS_inv body body.length (Nat.le_refl _) CapInv
      ((if startsWith (body.drop p1) 0x7F4C = true then cvcHat else []) ++ cvcDates) st1 p1
      (AllInv.append (AllInv.ite (allInv_hat _ hW)) (allInv_dates _ hW)) h1
    generalize runDecS body ((if startsWith (body.drop p1) 0x7F4C = true then cvcHat else []) ++ cvcDates) st1 p1 = x2 at h2 ⊢
    obtain ⟨r2, st2⟩ := x2
    cases r2 with
    | err => exact h2
    | oob => exact h2
    | ok p2 =>
      simp only []
      exact runDecS_inv body body.length (Nat.le_refl _) CapInv _ st2 p2
        (AllInv.append (AllInv.ite (allInv_ext _ hW)) (AllInv.cons (stepInv_dStop _ _ _) AllInv.nil)) h2

theorem cvcUnwrapS_capInv (cert : List UInt8) (hlen : cert.length * 8 + 16 < W) : CapInv (cvcUnwrapS cert).2 := by
  unfold cvcUnwrapS
  split
  · next a t _ =>
    have hb := cvcBodyDecS_capInv (cert.drop t) (by rw [List.length_drop]; omega)
    generalize cvcBodyDecS (cert.drop t) = xb at hb ⊢
    obtain ⟨rb, st⟩ := xb
    cases rb with
    | err => exact hb
    | oob => exact hb
    | ok bl =>
      simp only []
      split
      · next n hn =>
        have hn' : n = 34 ∨ n = 48 ∨ n = 72 ∨ n = 96 := by
          split at hn
          · injection hn with hn; omega
          · split at hn
            · injection hn with hn; omega
            · split at hn
              · injection hn with hn; omega
              · split at hn
                · injection hn with hn; omega
                · cases hn
        split
        · next v ts hd =>
          have hv : v.length = n := derTOCTDec2_len (by rw [List.length_drop]; omegaW) hd
          have hc : CapInv (wr st fSig v) := by
            apply capInv_wr hb
            have h96 : v.length ≤ 96 := by omega
            simp [capOK, fAuthority, fHolder, fPubkey, fHatEid, fFrom, fUntil, fHatEsign, fSig, h96]
          split <;> exact hc
        · exact hb
      · exact hb
  · exact capInv_empty

theorem cvcUnwrapKS_capInv (cert : List UInt8) (kl : Nat) (hk : kl = 48 ∨ kl = 64 ∨ kl = 96 ∨ kl = 128)
    (hlen : cert.length * 8 + 16 < W) : CapInv (cvcUnwrapKS cert kl) := by
  unfold cvcUnwrapKS
  split
  · next a t _ =>
    have hb := cvcBodyDecS_capInv (cert.drop t) (by rw [List.length_drop]; omega)
    generalize cvcBodyDecS (cert.drop t) = xb at hb ⊢
    obtain ⟨rb, st⟩ := xb
    cases rb with
    | err => exact hb
    | oob => exact hb
    | ok bl =>
      simp only []
      have hk0 : kl ≠ 0 := by omega
      rw [if_neg hk0]
      have hn : (if kl = 48 then 34 else kl - kl / 4) ≤ 96 := by split <;> omega
      generalize (if kl = 48 then 34 else kl - kl / 4) = n at hn ⊢
      split
      · next v ts hd =>
        have hv : v.length = n := derTOCTDec2_len (by rw [List.length_drop]; omegaW) hd
        apply capInv_wr hb
        have h96 : v.length ≤ 96 := by omega
        simp [capOK, fAuthority, fHolder, fPubkey, fHatEid, fFrom, fUntil, fHatEsign, fSig, h96]
      · apply capInv_wr hb
        simp [capOK, fAuthority, fHolder, fPubkey, fHatEid, fFrom, fUntil, fHatEsign, fSig, hn]
  · exact capInv_empty

/-! ### the structure image -/

theorem fieldOf_cap {st : DSt} (h : CapInv st) {f : Nat} {v : List UInt8} (hf : fieldOf st f = some v) :
    capOK (UInt8.ofNat f :: v) = true := by
  unfold fieldOf at hf
  rcases Option.map_eq_some_iff.mp hf with ⟨e, he, hd⟩
  have hp := List.find?_some he
  have hm : e ∈ st.outs := List.mem_reverse.mp (List.mem_of_find?_eq_some he)
  have hc := h e hm
  cases e with
  | nil => simp [capOK] at hc
  | cons x xs =>
    have hx : x = UInt8.ofNat f := by simpa using hp
    have hxs : xs = v := by simpa using hd
    rw [← hx, ← hxs]; exact hc

theorem padTo_length (n : Nat) (v : List UInt8) : (padTo n v).length = n := by
  simp [padTo]

theorem padTo_tail (n i : Nat) (v : List UInt8) (hv : v.length ≤ i) (hi : i < n) : (padTo n v)[i]? = some 0 := by
  unfold padTo
  rw [List.getElem?_take_of_lt hi, List.getElem?_append_right hv, List.getElem?_replicate]
  rw [if_pos (by omega)]

theorem fieldLen_le {st : DSt} (h : CapInv st) (f k : Nat) (hk : ∀ v : List UInt8, capOK (UInt8.ofNat f :: v) = true → v.length ≤ k) :
    ((fieldOf st f).getD []).length ≤ k := by
  cases hf : fieldOf st f with
  | none => simp
  | some v => simp only [Option.getD_some]; exact hk v (fieldOf_cap h hf)

/-- the image of a state whose writes fit: both names are terminated inside their 13 octets, the lengths are
    within the arrays -/
theorem image_ok {st : DSt} (h : CapInv st) :
    (cvcImage st).authority[12]? = some 0 ∧ (cvcImage st).holder[12]? = some 0 ∧
    (cvcImage st).pubkey_len ≤ 128 ∧ (cvcImage st).sig_len ≤ 96 := by
  refine ⟨?_, ?_, ?_, ?_⟩
  · exact padTo_tail 13 12 _ (fieldLen_le h fAuthority 12 (by intro v hv; simp [capOK, fAuthority, fHolder] at hv; omega)) (by omega)
  · exact padTo_tail 13 12 _ (fieldLen_le h fHolder 12 (by intro v hv; simp [capOK, fAuthority, fHolder] at hv; omega)) (by omega)
  · exact fieldLen_le h fPubkey 128 (by intro v hv; simp [capOK, fAuthority, fHolder, fPubkey] at hv; omega)
  · exact fieldLen_le h fSig 96 (by
      intro v hv; simp [capOK, fAuthority, fHolder, fPubkey, fHatEid, fFrom, fUntil, fHatEsign, fSig] at hv; omega)

end Bee2V.C08
