/-
C08 — the typed decoders of der.c as "TLV header, then a function of the value octets".

`tlvDec decV k der tag` decodes the header with the expected tag, hands the value octets `V = [l](der + off)` to
`decV` and returns `k a c`.  OCT, UINT, BIT, PSTR, OID (and `derTOCTDec2`, `derDec4`) each have ONE equation
`D der tag = tlvDec xV k der tag`, an equality in `R` (`.err`, `.oob` included), with `xV` a function on lists; their
`_cases` lemmas are `tlvDec_cases`, canonical form and round trip are `tlvDec_canonical`, `tlvDec_code` (LemmasTyped).
-/
import Bee2V.C08.Lemmas
namespace Bee2V.C08

theorem rd_slice {der V : List UInt8} {off l : Nat} (h : (der.drop off).take l = V) {i : Nat}
    (hi : i < V.length) : rd der (off + i) = rd V i := by
  have hl : i < l := by rw [← h, List.length_take] at hi; omega
  unfold rd
  rw [← h, List.getElem?_take, if_pos hl, List.getElem?_drop]

theorem rdSlice_slice {der V : List UInt8} {off l : Nat} (h : (der.drop off).take l = V)
    (hb : off + l ≤ der.length) {j n : Nat} (hj : j + n ≤ l) :
    rdSlice der (off + j) n = .ok ((V.drop j).take n) := by
  rw [rdSlice_ok (by omega), ← h, List.drop_take, List.take_take, List.drop_drop, Nat.min_eq_left (by omega)]

theorem derDec2_slice (der : List UInt8) (tag : Nat) (hlen : der.length < W) :
    derDec2 der tag = .err ∨ ∃ off l c V, derDec2 der tag = .ok (off, l, c) ∧ (der.drop off).take l = V ∧
      V.length = l ∧ c = off + l ∧ c ≤ der.length ∧ (∀ i, i < V.length → rd der (off + i) = rd V i) ∧
      ∀ j n, j + n ≤ l → rdSlice der (off + j) n = .ok ((V.drop j).take n) := by
  rcases derDec2_cases der tag hlen with e | ⟨off, l, c, e, _, _, _, hc, hl⟩
  · exact Or.inl e
  · refine Or.inr ⟨off, l, c, _, e, rfl, by rw [List.length_take, List.length_drop]; omega, hc, hl,
      fun i hi => rd_slice rfl hi, fun j n hj => rdSlice_slice rfl (by omega) hj⟩

def tlvDec {α β : Type} (decV : List UInt8 → Option α) (k : α → Nat → β) (der : List UInt8) (tag : Nat) : R β :=
  match derDec2 der tag with
  | .ok (off, l, c) =>
    match decV ((der.drop off).take l) with
    | some a => .ok (k a c)
    | none => .err
  | .err => .err
  | .oob => .oob

section
variable {α β : Type} {decV : List UInt8 → Option α} {k : α → Nat → β} {der : List UInt8} {tag : Nat}

theorem tlvDec_ok {b : β} (hlen : der.length < W) (h : tlvDec decV k der tag = .ok b) :
    ∃ off V c a, derDec der = .ok (tag, off, V.length, c) ∧ (der.drop off).take V.length = V ∧ 2 ≤ off ∧
      off + V.length ≤ der.length ∧ decV V = some a ∧ b = k a c := by
  unfold tlvDec at h
  rcases derDec2_cases der tag hlen with e | ⟨off, l, c, e, ed, h2, _, hc, hl⟩
  · rw [e] at h; cases h
  · rw [e] at h; simp only [] at h
    have hVl : ((der.drop off).take l).length = l := by rw [List.length_take, List.length_drop]; omega
    cases hv : decV ((der.drop off).take l) with
    | none => rw [hv] at h; cases h
    | some a =>
      rw [hv] at h; cases h
      exact ⟨off, _, c, a, by rw [hVl]; exact ed, by rw [hVl], h2, by rw [hVl]; omega, hv, rfl⟩

theorem tlvDec_cases (decV : List UInt8 → Option α) (k : α → Nat → β) (der : List UInt8) (tag : Nat)
    (hlen : der.length < W) :
    tlvDec decV k der tag = .err ∨
      ∃ V a c, decV V = some a ∧ tlvDec decV k der tag = .ok (k a c) ∧ c ≤ der.length := by
  unfold tlvDec
  rcases derDec2_cases der tag hlen with e | ⟨off, l, c, e, _, _, _, _, hl⟩
  · rw [e]; exact Or.inl rfl
  · rw [e]; simp only []
    cases hv : decV ((der.drop off).take l) with
    | none => exact Or.inl rfl
    | some a => exact Or.inr ⟨_, a, c, hv, rfl, hl⟩

theorem tlvDec_cases_pair (decV : List UInt8 → Option α) (der : List UInt8) (tag : Nat) (hlen : der.length < W) :
    tlvDec decV Prod.mk der tag = .err ∨ ∃ v c, tlvDec decV Prod.mk der tag = .ok (v, c) ∧ c ≤ der.length := by
  rcases tlvDec_cases decV Prod.mk der tag hlen with e | ⟨_, v, c, _, e, h⟩
  · exact Or.inl e
  · exact Or.inr ⟨v, c, e, h⟩
end

theorem derTOCTDec_eq (der : List UInt8) (tag : Nat) (hlen : der.length < W) :
    derTOCTDec der tag = tlvDec some Prod.mk der tag := by
  unfold derTOCTDec tlvDec
  rcases derDec2_slice der tag hlen with e | ⟨off, l, c, V, e, hV, hVl, hc, hl, r, s⟩
  · rw [e]
  · have s0 := s 0 l (by omega)
    rw [Nat.add_zero] at s0
    rw [e]; simp only []
    rw [s0, hV, List.drop_zero, List.take_of_length_le (by omega)]

def octV (len : Nat) (V : List UInt8) : Option (List UInt8) := if V.length = len then some V else none

theorem derTOCTDec2_eq (der : List UInt8) (tag len : Nat) (hlen : der.length < W) :
    derTOCTDec2 der tag len = tlvDec (octV len) Prod.mk der tag := by
  unfold derTOCTDec2 derDec3 tlvDec derDec2
  rcases derDec_cases der hlen with e | ⟨t, off, l, c, e, _, _, hc, hl⟩
  · rw [e]
  · rw [e]; simp only []
    have hVl : ((der.drop off).take l).length = l := by rw [List.length_take, List.length_drop]; omega
    unfold octV
    by_cases ht : t ≠ tag
    · rw [if_pos (Or.inl ht), if_pos ht]
    · rw [if_neg ht]; simp only []
      rw [hVl]
      by_cases h2 : l = len
      · subst h2
        rw [if_neg (by omega), if_pos rfl]; simp only []
        rw [rdSlice_ok (by omega)]
      · rw [if_pos (Or.inr h2), if_neg h2]

/-- `ex` of uintCore as a function of the value octets -/
def uintEx : List UInt8 → Option Nat
  | [] => none
  | [v0] => if v0.toNat ≥ 128 then none else some 0
  | v0 :: v1 :: _ =>
    if v0.toNat ≥ 128 then none
    else if v0.toNat = 0 then (if v1.toNat < 128 then none else some 1)
    else some 0

theorem uintEx_lt {V : List UInt8} {ex : Nat} (h : uintEx V = some ex) : ex ≤ 1 ∧ ex < V.length := by
  match V, h with
  | [v0], h => simp only [uintEx] at h; split at h <;> cases h; simp
  | v0 :: v1 :: tl, h =>
    simp only [uintEx] at h
    split at h
    · cases h
    · split at h
      · split at h <;> cases h; simp
      · cases h; simp

theorem uintCore_of {der : List UInt8} {tag off l c : Nat} {V : List UInt8} (e : derDec2 der tag = .ok (off, l, c))
    (hVl : V.length = l) (r : ∀ i, i < V.length → rd der (off + i) = rd V i) :
    uintCore der tag = match uintEx V with
      | some ex => .ok (off, l, ex, c)
      | none => .err := by
  unfold uintCore
  rw [e]; simp only []
  match V, hVl, r with
  | [], hVl, _ => rw [if_pos (by simp at hVl; omega)]; rfl
  | [v0], hVl, r =>
    have r0 := r 0 (by simp)
    rw [Nat.add_zero, rd_cons_zero] at r0
    simp only [List.length_singleton] at hVl; subst hVl
    rw [if_neg (by omega), r0]; simp only [uintEx]
    by_cases h1 : v0.toNat ≥ 128
    · rw [if_pos h1, if_pos h1]
    · rw [if_neg h1, if_neg h1, if_neg (by omega)]
  | v0 :: v1 :: tl, hVl, r =>
    simp only [List.length_cons] at hVl
    have r0 := r 0 (by simp); have r1 := r 1 (by simp)
    rw [Nat.add_zero, rd_cons_zero] at r0
    rw [rd_cons_succ, rd_cons_zero] at r1
    rw [if_neg (by omega), r0]; simp only [uintEx]
    by_cases h1 : v0.toNat ≥ 128
    · rw [if_pos h1, if_pos h1]
    · rw [if_neg h1, if_neg h1]
      by_cases h2 : v0.toNat = 0
      · rw [if_pos ⟨h2, by omega⟩, if_pos h2, r1]; simp only []
        by_cases h3 : v1.toNat < 128
        · rw [if_pos h3, if_pos h3]
        · rw [if_neg h3, if_neg h3]
      · rw [if_neg (by omega), if_neg h2]

def uintV (V : List UInt8) : Option (List UInt8) :=
  match uintEx V with
  | some ex => some (V.drop ex).reverse
  | none => none

theorem uintV_one (v0 : UInt8) : uintV [v0] = if v0.toNat ≥ 128 then none else some [v0] := by
  simp only [uintV, uintEx]
  by_cases h : v0.toNat ≥ 128 <;> simp only [h, ↓reduceIte] <;> rfl

theorem uintV_cons (v0 v1 : UInt8) (tl : List UInt8) :
    uintV (v0 :: v1 :: tl) =
      if v0.toNat ≥ 128 then none
      else if v0.toNat = 0 then (if v1.toNat < 128 then none else some (v1 :: tl).reverse)
      else some (v0 :: v1 :: tl).reverse := by
  simp only [uintV, uintEx]
  by_cases h1 : v0.toNat ≥ 128
  · simp only [h1, ↓reduceIte]
  · by_cases h2 : v0.toNat = 0
    · by_cases h3 : v1.toNat < 128 <;> simp only [h2, h3, ↓reduceIte] <;> rfl
    · simp only [h1, h2, ↓reduceIte]; rfl

theorem derTUINTDec_eq (der : List UInt8) (tag : Nat) (hlen : der.length < W) :
    derTUINTDec der tag = tlvDec uintV Prod.mk der tag := by
  unfold derTUINTDec tlvDec
  rcases derDec2_slice der tag hlen with e | ⟨off, l, c, V, e, hV, hVl, hc, hl, r, s⟩
  · unfold uintCore; rw [e]
  · rw [uintCore_of e hVl r, e]; simp only []
    rw [hV]; unfold uintV
    cases hx : uintEx V with
    | none => rfl
    | some ex =>
      have := uintEx_lt hx
      simp only []
      rw [s ex (l - ex) (by omega), List.take_of_length_le (by rw [List.length_drop]; omega)]

/-- `v0` of bitCore as a function of the value octets (fix-2: the unused bits are zero) -/
def bitPad : List UInt8 → Option Nat
  | [] => none
  | v0 :: tl =>
    if v0.toNat > 7 ∨ (v0.toNat ≠ 0 ∧ tl.length = 0) then none
    else if ((v0 :: tl)[tl.length]'(by simp)).toNat % 2 ^ v0.toNat ≠ 0 then none
    else some v0.toNat

theorem bitPad_le {V : List UInt8} {v0 : Nat} (h : bitPad V = some v0) :
    1 ≤ V.length ∧ v0 ≤ 7 ∧ (v0 ≠ 0 → 1 < V.length) := by
  match V, h with
  | x :: tl, h =>
    simp only [bitPad] at h
    split at h
    · cases h
    · split at h
      · cases h
      · cases h; simp only [List.length_cons]; omega

theorem bitCore_of {der : List UInt8} {tag off l c : Nat} {V : List UInt8} (e : derDec2 der tag = .ok (off, l, c))
    (hVl : V.length = l) (r : ∀ i, i < V.length → rd der (off + i) = rd V i) :
    bitCore der tag = match bitPad V with
      | some v0 => .ok (off, l, v0, c)
      | none => .err := by
  unfold bitCore
  rw [e]; simp only []
  match V, hVl, r with
  | [], hVl, _ => rw [if_pos (by simp at hVl; omega)]; rfl
  | v0 :: tl, hVl, r =>
    simp only [List.length_cons] at hVl; subst hVl
    have r0 := r 0 (by simp); have rl := r tl.length (by simp)
    rw [Nat.add_zero, rd_cons_zero] at r0
    rw [rd_of_lt (xs := v0 :: tl) (i := tl.length) (by simp)] at rl
    simp only [Nat.add_sub_cancel, bitPad]
    rw [if_neg (by omega), r0]; simp only []
    by_cases h1 : v0.toNat > 7 ∨ (v0.toNat ≠ 0 ∧ tl.length + 1 = 1)
    · rw [if_pos h1, if_pos (by omega)]
    · rw [if_neg h1, if_neg (by omega), rl]; simp only []
      by_cases h2 : ((v0 :: tl)[tl.length]'(by simp)).toNat % 2 ^ v0.toNat ≠ 0
      · rw [if_pos h2, if_pos h2]
      · rw [if_neg h2, if_neg h2]

/-- the bit count is left as size_t computes it (`% W`): `derTBITDec_eq` then needs no bound on `8 * V.length` -/
def bitV (V : List UInt8) : Option (List UInt8 × Nat) :=
  match bitPad V with
  | some v0 => some (V.drop 1, ((V.length - 1) * 8 + W - v0) % W)
  | none => none

theorem bitV_cons (v0 : UInt8) (tl : List UInt8) :
    bitV (v0 :: tl) =
      if v0.toNat > 7 ∨ (v0.toNat ≠ 0 ∧ tl.length = 0) then none
      else if ((v0 :: tl)[tl.length]'(by simp)).toNat % 2 ^ v0.toNat ≠ 0 then none
      else some (tl, (tl.length * 8 + W - v0.toNat) % W) := by
  simp only [bitV, bitPad, List.length_cons, Nat.add_sub_cancel, List.drop_succ_cons, List.drop_zero]
  by_cases h1 : v0.toNat > 7 ∨ (v0.toNat ≠ 0 ∧ tl.length = 0)
  · simp only [h1, ↓reduceIte]
  · simp only [h1, ↓reduceIte]
    by_cases h2 : ((v0 :: tl)[tl.length]'(by simp)).toNat % 2 ^ v0.toNat ≠ 0
    · rw [if_pos h2, if_pos h2]
    · rw [if_neg h2, if_neg h2]

theorem derTBITDec_eq (der : List UInt8) (tag : Nat) (hlen : der.length < W) :
    derTBITDec der tag = tlvDec bitV (fun r c => (r.1, r.2, c)) der tag := by
  unfold derTBITDec tlvDec
  rcases derDec2_slice der tag hlen with e | ⟨off, l, c, V, e, hV, hVl, hc, hl, r, s⟩
  · unfold bitCore; rw [e]
  · rw [bitCore_of e hVl r, e]; simp only []
    rw [hV]; unfold bitV
    cases hx : bitPad V with
    | none => rfl
    | some v0 =>
      have := bitPad_le hx
      simp only []
      rw [s 1 (l - 1) (by omega), List.take_of_length_le (by rw [List.length_drop]; omega), hVl]

theorem pstrLoop_eq (der : List UInt8) (off l pos : Nat) (hb : off + l ≤ der.length) (hp : pos ≤ l) :
    pstrLoop der off l pos =
      if ((der.drop (off + pos)).take (l - pos)).all (fun c => isPrintable c.toNat) then .ok () else .err := by
  fun_induction pstrLoop der off l pos with
  | case1 pos hlt ch hr hpr ih =>
    obtain ⟨hi, hv⟩ := rd_ok hr
    rw [ih (by omega), List.drop_eq_getElem_cons hi, show l - pos = (l - (pos + 1)) + 1 by omega, List.take_succ_cons,
      List.all_cons, ← hv, hpr, Bool.true_and, Nat.add_assoc]
  | case2 pos hlt ch hr hpr =>
    obtain ⟨hi, hv⟩ := rd_ok hr
    rw [List.drop_eq_getElem_cons hi, show l - pos = (l - (pos + 1)) + 1 by omega, List.take_succ_cons,
      List.all_cons, ← hv, Bool.eq_false_iff.mpr hpr, Bool.false_and]; rfl
  | case3 pos hlt hr => exact absurd hr (rd_ne_err _ _)
  | case4 pos hlt hr => have := rd_oob hr; omega
  | case5 pos hlt => rw [show l - pos = 0 by omega]; rfl

def pstrV (V : List UInt8) : Option (List UInt8) :=
  if V.all (fun c => isPrintable c.toNat) then some V else none

theorem derTPSTRDec_eq (der : List UInt8) (tag : Nat) (hlen : der.length < W) :
    derTPSTRDec der tag = tlvDec pstrV Prod.mk der tag := by
  unfold derTPSTRDec tlvDec
  rcases derDec2_slice der tag hlen with e | ⟨off, l, c, V, e, hV, hVl, hc, hl, r, s⟩
  · rw [e]
  · have s0 := s 0 l (by omega)
    rw [Nat.add_zero, List.drop_zero, List.take_of_length_le (by omega)] at s0
    rw [e]; simp only []
    rw [pstrLoop_eq der off l 0 (by omega) (Nat.zero_le _), Nat.add_zero, Nat.sub_zero, hV]; unfold pstrV
    by_cases hp : V.all (fun c => isPrintable c.toNat) = true
    · rw [if_pos hp, if_pos hp]; simp only []
      rw [s0]
    · rw [if_neg hp, if_neg hp]

/-- the sid loop of derOIDDec over the value octets as a list -/
def oidScan : List UInt8 → Nat → Nat → List UInt8 → R (Nat × List UInt8)
  | [], _, d1, out => .ok (d1, out)
  | x :: V, val, d1, out =>
    if val / 33554432 ≠ 0 then .err else
    if val = 0 ∧ x.toNat = 128 then .err else
    if x.toNat / 128 = 0 then
      if d1 = 3 then
        oidScan V 0 0 (out ++ derSIDDec (if (val * 128 + x.toNat % 128) % U32 < 40 then 0 else if (val * 128 + x.toNat % 128) % U32 < 80 then 1 else 2)
          ++ [46] ++ derSIDDec (if (val * 128 + x.toNat % 128) % U32 < 40 then (val * 128 + x.toNat % 128) % U32
            else if (val * 128 + x.toNat % 128) % U32 < 80 then (val * 128 + x.toNat % 128) % U32 - 40 else (val * 128 + x.toNat % 128) % U32 - 80))
      else oidScan V 0 d1 (out ++ [46] ++ derSIDDec ((val * 128 + x.toNat % 128) % U32))
    else oidScan V ((val * 128 + x.toNat % 128) % U32) d1 out

theorem oidDecLoop_eq_scan (der : List UInt8) (off l : Nat) (h : off + l ≤ der.length) :
    ∀ n pos val d1 out, n = l - pos →
    oidDecLoop der off l pos val d1 out = oidScan ((der.drop (off + pos)).take (l - pos)) val d1 out := by
  intro n
  induction n with
  | zero =>
    intro pos val d1 out hn
    rw [oidDecLoop, dif_neg (by omega), ← hn, List.take_zero, oidScan]
  | succ n ih =>
    intro pos val d1 out hn
    have hi : off + pos < der.length := by omega
    rw [oidDecLoop, dif_pos (by omega), List.drop_eq_getElem_cons hi, show l - pos = (l - (pos + 1)) + 1 by omega,
      List.take_succ_cons, oidScan, rd_of_lt hi]
    by_cases h1 : val / 33554432 ≠ 0
    · rw [if_pos h1, if_pos h1]
    · rw [if_neg h1, if_neg h1]
      simp only []
      by_cases h2 : val = 0 ∧ der[off + pos].toNat = 128
      · rw [if_pos h2, if_pos h2]
      · rw [if_neg h2, if_neg h2]
        by_cases h3 : der[off + pos].toNat / 128 = 0
        · rw [if_pos h3, if_pos h3]
          by_cases h4 : d1 = 3
          · rw [if_pos h4, if_pos h4, ih (pos + 1) _ _ _ (by omega), show off + pos + 1 = off + (pos + 1) by omega]
          · rw [if_neg h4, if_neg h4, ih (pos + 1) _ _ _ (by omega), show off + pos + 1 = off + (pos + 1) by omega]
        · rw [if_neg h3, if_neg h3, ih (pos + 1) _ _ _ (by omega), show off + pos + 1 = off + (pos + 1) by omega]


/-- derOIDDec behind the header: the scan saw a first arc (`d1 ≠ 3`) and the last octet ends an arc (F16 fixed) -/
def oidV (V : List UInt8) : Option (List UInt8) :=
  match oidScan V 0 3 [] with
  | .ok (d1, out) =>
    if d1 = 3 then none else
    match V.getLast? with
    | some last => if last.toNat / 128 ≠ 0 then none else some out
    | none => none
  | _ => none

theorem derOIDDec_eq (der : List UInt8) (hlen : der.length < W) : derOIDDec der = tlvDec oidV Prod.mk der 6 := by
  unfold derOIDDec tlvDec
  rcases derDec2_slice der 6 hlen with e | ⟨off, l, c, V, e, hV, hVl, hc, hl, r, s⟩
  · rw [e]
  · rw [e]; simp only []
    have hscan := oidDecLoop_eq_scan der off l (by omega) l 0 0 3 [] (by omega)
    rw [Nat.add_zero, Nat.sub_zero, hV] at hscan
    rw [hscan, hV]; unfold oidV
    rcases oidDecLoop_cases der off l 0 0 3 [] (by omega) with e2 | ⟨d1, out, e2⟩
    · rw [hscan] at e2; rw [e2]
    · rw [hscan] at e2; rw [e2]; simp only []
      by_cases hd : d1 = 3
      · rw [if_pos hd, if_pos hd]
      · rw [if_neg hd, if_neg hd]
        -- the loop ran: an empty value leaves d1 = 3
        have hl1 : 1 ≤ V.length := by
          cases V with
          | nil => rw [oidScan] at e2; cases e2; exact absurd rfl hd
          | cons _ _ => simp
        rw [← hVl, r (V.length - 1) (by omega), rd_of_lt (by omega), List.getLast?_eq_getElem?,
          List.getElem?_eq_getElem (by omega)]
        simp only []
        split <;> rfl

theorem derOIDDec_cases (der : List UInt8) (hlen : der.length < W) :
    derOIDDec der = .err ∨ ∃ s c, derOIDDec der = .ok (s, c) ∧ c ≤ der.length := by
  rw [derOIDDec_eq der hlen]; exact tlvDec_cases_pair _ der 6 hlen

theorem oidFromDER_cases (der : List UInt8) (hlen : der.length < W) :
    oidFromDER der = .err ∨ ∃ s, oidFromDER der = .ok s := by
  unfold oidFromDER
  rcases derOIDDec_cases der hlen with e | ⟨s, c, e, _⟩
  · rw [e]; exact Or.inl rfl
  · rw [e]; simp only []
    split
    · exact Or.inl rfl
    · exact Or.inr ⟨_, rfl⟩

theorem derDec4_eq (der : List UInt8) (tag : Nat) (val : List UInt8) (hlen : der.length < W) :
    derDec4 der tag val = tlvDec (fun V => if V = val then some () else none) (fun _ c => c) der tag := by
  unfold derDec4 tlvDec derDec2
  rcases derDec_cases der hlen with e | ⟨t, off, l, c, e, _, _, hc, hl⟩
  · rw [e]
  · rw [e]; simp only []
    have hVl : ((der.drop off).take l).length = l := by rw [List.length_take, List.length_drop]; omega
    by_cases ht : t ≠ tag
    · rw [if_pos (Or.inl ht), if_pos ht]
    · rw [if_neg ht]; simp only []
      by_cases h2 : l = val.length
      · rw [if_neg (by omega), rdSlice_ok (by omega)]; simp only []
        by_cases h3 : (der.drop off).take l = val
        · rw [if_pos h3, if_pos h3]
        · rw [if_neg h3, if_neg h3]
      · rw [if_pos (Or.inr h2), if_neg (fun h => h2 (by rw [← h, hVl]))]

theorem derTOCTDec_cases (der : List UInt8) (tag : Nat) (hlen : der.length < W) :
    derTOCTDec der tag = .err ∨ ∃ v c, derTOCTDec der tag = .ok (v, c) ∧ c ≤ der.length := by
  rw [derTOCTDec_eq der tag hlen]; exact tlvDec_cases_pair _ der tag hlen

theorem derTOCTDec2_cases (der : List UInt8) (tag len : Nat) (hlen : der.length < W) :
    derTOCTDec2 der tag len = .err ∨ ∃ v c, derTOCTDec2 der tag len = .ok (v, c) ∧ c ≤ der.length := by
  rw [derTOCTDec2_eq der tag len hlen]; exact tlvDec_cases_pair _ der tag hlen

theorem derTUINTDec_cases (der : List UInt8) (tag : Nat) (hlen : der.length < W) :
    derTUINTDec der tag = .err ∨ ∃ v c, derTUINTDec der tag = .ok (v, c) ∧ c ≤ der.length := by
  rw [derTUINTDec_eq der tag hlen]; exact tlvDec_cases_pair _ der tag hlen

theorem derTUINTDec2_cases (der : List UInt8) (tag len : Nat) (hlen : der.length < W) :
    derTUINTDec2 der tag len = .err ∨ ∃ v c, derTUINTDec2 der tag len = .ok (v, c) ∧ c ≤ der.length ∧ v.length = len := by
  unfold derTUINTDec2
  rcases derDec2_slice der tag hlen with e | ⟨off, l, c, V, e, hV, hVl, hc, hl, r, s⟩
  · left; unfold uintCore; rw [e]
  · rw [uintCore_of e hVl r]
    cases hx : uintEx V with
    | none => exact Or.inl rfl
    | some ex =>
      have := uintEx_lt hx
      simp only []
      by_cases h : l - ex ≠ len
      · rw [if_pos h]; exact Or.inl rfl
      · rw [if_neg h, s ex len (by omega)]
        exact Or.inr ⟨_, _, rfl, hl, by rw [List.length_reverse, List.length_take, List.length_drop]; omega⟩

theorem derTBITDec_cases (der : List UInt8) (tag : Nat) (hlen : der.length < W) :
    derTBITDec der tag = .err ∨ ∃ v bl c, derTBITDec der tag = .ok (v, bl, c) ∧ c ≤ der.length := by
  rw [derTBITDec_eq der tag hlen]
  rcases tlvDec_cases bitV (fun r c => (r.1, r.2, c)) der tag hlen with e | ⟨_, r, c, _, e, h⟩
  · exact Or.inl e
  · exact Or.inr ⟨r.1, r.2, c, e, h⟩

theorem derTBITDec2_cases (der : List UInt8) (tag len : Nat) (hlen : der.length < W) :
    derTBITDec2 der tag len = .err ∨ ∃ v c, derTBITDec2 der tag len = .ok (v, c) ∧ c ≤ der.length := by
  unfold derTBITDec2
  rcases derDec2_slice der tag hlen with e | ⟨off, l, c, V, e, hV, hVl, hc, hl, r, s⟩
  · left; unfold bitCore; rw [e]
  · rw [bitCore_of e hVl r]
    cases hx : bitPad V with
    | none => exact Or.inl rfl
    | some v0 =>
      have := bitPad_le hx
      simp only []
      split
      · exact Or.inl rfl
      · rw [s 1 (l - 1) (by omega)]; exact Or.inr ⟨_, _, rfl, hl⟩

theorem derTPSTRDec_cases (der : List UInt8) (tag : Nat) (hlen : der.length < W) :
    derTPSTRDec der tag = .err ∨ ∃ v c, derTPSTRDec der tag = .ok (v, c) ∧ c ≤ der.length := by
  rw [derTPSTRDec_eq der tag hlen]; exact tlvDec_cases_pair _ der tag hlen

theorem derDec4_cases (der : List UInt8) (tag : Nat) (val : List UInt8) (hlen : der.length < W) :
    derDec4 der tag val = .err ∨ ∃ c, derDec4 der tag val = .ok c ∧ c ≤ der.length := by
  rw [derDec4_eq der tag val hlen]
  rcases tlvDec_cases (fun V => if V = val then some () else none) (fun _ c => c) der tag hlen with e | ⟨_, _, c, _, e, h⟩
  · exact Or.inl e
  · exact Or.inr ⟨c, e, h⟩

end Bee2V.C08
