/-
C08 — containers (bpki.c): canonical direction.  Whatever a container decoder accepts is exactly what the
container encoder writes for the decoded values.
-/
import Bee2V.C08.ContRT
namespace Bee2V.C08

/-- canonical-direction counterpart of `Acc`: whenever `S` succeeds, the octets it consumed are related
    (by `rel`) to the state before and after; positions stay inside the input; anchors of slots outside
    `used` are not touched -/
structure Can (S : List DStep) (rel : DSt → DSt → List UInt8 → Prop) (used : List Nat) : Prop where
  run : ∀ (der : List UInt8) (p : Nat) (st : DSt) (p' : Nat) (st' : DSt), der.length < W → p ≤ der.length →
    runDec der S st p = .ok (p', st') →
    p ≤ p' ∧ p' ≤ der.length ∧ rel st st' ((der.drop p).take (p' - p)) ∧
      ∀ s, s ∉ used → st'.anchors.find? (fun e => e.1 = s) = st.anchors.find? (fun e => e.1 = s)

theorem Can.nil : Can [] (fun st st' c => st' = st ∧ c = []) [] :=
  ⟨fun der p st p' st' _ hp h => by
    simp only [runDec] at h; injection h with h; injection h with h1 h2
    subst h1; subst h2
    exact ⟨Nat.le_refl _, hp, ⟨rfl, by simp⟩, fun _ _ => rfl⟩⟩

theorem slice_split (der : List UInt8) (p q r : Nat) (h1 : p ≤ q) (h2 : q ≤ r) :
    (der.drop p).take (r - p) = (der.drop p).take (q - p) ++ (der.drop q).take (r - q) := by
  have : r - p = (q - p) + (r - q) := by omega
  rw [this, List.take_add, List.drop_drop]
  congr 3; omega

theorem Can.append {S1 S2 : List DStep} {r1 r2 : DSt → DSt → List UInt8 → Prop} {u1 u2 : List Nat}
    (h1 : Can S1 r1 u1) (h2 : Can S2 r2 u2) :
    Can (S1 ++ S2) (fun st st'' c => ∃ st' c1 c2, c = c1 ++ c2 ∧ r1 st st' c1 ∧ r2 st' st'' c2) (u1 ++ u2) := by
  constructor
  intro der p st p'' st'' hl hp h
  rw [runDec_append] at h
  cases h1r : runDec der S1 st p with
  | ok r =>
    obtain ⟨p', st'⟩ := r
    rw [h1r] at h; simp only [] at h
    obtain ⟨a1, a2, a3, a4⟩ := h1.run der p st p' st' hl hp h1r
    obtain ⟨b1, b2, b3, b4⟩ := h2.run der p' st' p'' st'' hl a2 h
    refine ⟨by omega, b2, ⟨st', _, _, slice_split der p p' p'' a1 b1, a3, b3⟩, ?_⟩
    intro s hs
    simp only [List.mem_append, not_or] at hs
    rw [b4 s hs.2, a4 s hs.1]
  | err => rw [h1r] at h; cases h
  | oob => rw [h1r] at h; cases h

theorem Can.weaken {S : List DStep} {r r' : DSt → DSt → List UInt8 → Prop} {u : List Nat}
    (h : Can S r u) (hr : ∀ st st' c, r st st' c → r' st st' c) : Can S r' u :=
  ⟨fun der p st p' st' hl hp hrun => by
    obtain ⟨a, b, c, d⟩ := h.run der p st p' st' hl hp hrun
    exact ⟨a, b, hr _ _ _ c, d⟩⟩

/-- the header read by derTSEQDecStart is the canonical TL of (tag, len) -/
theorem derTSEQDecStart_header (der : List UInt8) (tag : Nat) (a : Anchor) (k : Nat)
    (hs : derTSEQDecStart der tag = .ok (a, k)) :
    der.take k = beBytes (tCount tag) tag ++ derLEnc a.len ∧ a.tag = tag ∧ derTIsValid tag = true ∧ k ≤ der.length ∧
      k = tCount tag + (derLEnc a.len).length := by
  unfold derTSEQDecStart at hs
  split at hs
  · cases hs
  · rcases derTDec_cases der with e | ⟨t, tc, e, hk1, hk4, hkl⟩
    · rw [e] at hs; cases hs
    · rw [e] at hs; simp only [] at hs
      by_cases ht : t ≠ tag
      · rw [if_pos ht] at hs; cases hs
      · rw [if_neg ht] at hs
        have ht' : t = tag := by omega
        subst ht'
        rcases derLDec_cases (der.drop tc) with e2 | ⟨l, lc, e2, h1, h9, hl, hsz⟩
        · rw [e2] at hs; cases hs
        · rw [e2] at hs; simp only [] at hs
          rw [List.length_drop] at hl
          have hm : (tc + lc) % W = tc + lc := Nat.mod_eq_of_lt (by omegaW)
          rw [hm] at hs
          cases hs
          have hT := derTDec_canonical' der t tc e
          have hL := derLDec_canonical' _ l lc e2
          obtain ⟨hv, hTe⟩ := derTEnc_valid t _ hT
          have htc : tCount t = tc := by
            have := congrArg List.length hTe
            simp [beBytes_length, List.length_take] at this; omega
          refine ⟨?_, rfl, hv, by omega, ?_⟩
          · rw [List.take_add, ← hTe, hL]
          · rw [hL]; simp [List.length_take]; omega


theorem find3_cons_ne (slot s p : Nat) (a : Anchor) (an : List (Nat × Nat × Anchor)) (h : s ≠ slot) :
    ((slot, p, a) :: an).find? (fun e => e.1 = s) = an.find? (fun e => e.1 = s) := by
  rw [List.find?_cons]; simp [Ne.symm h]

/-- a SEQUENCE: if Start, the members and Stop succeed, the consumed octets are `T ‖ L(|c|) ‖ c` with `c`
    what the members consumed -/
theorem Can.seq {S : List DStep} {r : DSt → DSt → List UInt8 → Prop} {u : List Nat} (slot tag : Nat)
    (h : Can S r u) (hslot : slot ∉ u) :
    Can (dStart slot tag :: (S ++ [dStop slot]))
      (fun st st' c => ∃ p0 c', r { st with anchors := (slot, p0, ⟨0, tag, c'.length⟩) :: st.anchors } st' c' ∧
        c = tlvCode tag c' ∧ derTIsValid tag = true) (slot :: u) := by
  constructor
  intro der p st pE stE hl hp hrun
  simp only [runDec, dStart] at hrun
  cases hst : derTSEQDecStart (der.drop p) tag with
  | ok rr =>
    obtain ⟨a, k⟩ := rr
    rw [hst] at hrun; simp only [] at hrun
    obtain ⟨hhead, hatag, hvalid, hkl, hkeq⟩ := derTSEQDecStart_header _ tag a k hst
    rw [List.length_drop] at hkl
    rw [runDec_append] at hrun
    cases hS : runDec der S { st with anchors := (slot, p, a) :: st.anchors } (p + k) with
    | ok r2 =>
      obtain ⟨p2, st2⟩ := r2
      rw [hS] at hrun; simp only [runDec, dStop] at hrun
      obtain ⟨b1, b2, b3, b4⟩ := h.run der (p + k) _ p2 st2 hl (by omega) hS
      rw [b4 slot hslot] at hrun
      simp only [List.find?_cons, decide_true] at hrun
      cases hstop : derTSEQDecStop (p2 - p) a with
      | ok uu =>
        rw [hstop] at hrun; simp only [] at hrun
        injection hrun with hrun; injection hrun with e1 e2
        subst e2
        obtain ⟨hpos, _, _⟩ := derTSEQDec_spec _ tag a k (p2 - p) hst hstop
        have hp2 : p2 = p + k + a.len := by omega
        have hpe : pE = p2 := by omega
        rw [hpe]
        have hcl : ((der.drop (p + k)).take (p2 - (p + k))).length = a.len := by
          simp [List.length_take, List.length_drop]; omega
        refine ⟨by omega, b2, ⟨p, (der.drop (p + k)).take (p2 - (p + k)), ?_, ?_, hvalid⟩, ?_⟩
        · have ea : a = ⟨0, tag, a.len⟩ := by
            -- Start always returns pos = 0
            unfold derTSEQDecStart at hst
            split at hst
            · cases hst
            · cases hT : derTDec (der.drop p) with
              | ok tt =>
                obtain ⟨t, tc⟩ := tt
                rw [hT] at hst; simp only [] at hst
                split at hst
                · cases hst
                · cases hL : derLDec ((der.drop p).drop tc) with
                  | ok ll => obtain ⟨l, lc⟩ := ll; rw [hL] at hst; cases hst; simp at hatag ⊢; omega
                  | err => rw [hL] at hst; cases hst
                  | oob => rw [hL] at hst; cases hst
              | err => rw [hT] at hst; cases hst
              | oob => rw [hT] at hst; cases hst
          rw [hcl, ← ea]; exact b3
        · rw [slice_split der p (p + k) p2 (by omega) b1, show p + k - p = k by omega, hhead]
          unfold tlvCode
          rw [hcl]
        · intro s hs
          simp only [List.mem_cons, not_or] at hs
          rw [b4 s hs.2]
          exact find3_cons_ne slot s p a st.anchors hs.1
      | err => rw [hstop] at hrun; cases hrun
      | oob => rw [hstop] at hrun; cases hrun
    | err => rw [hS] at hrun; cases hrun
    | oob => rw [hS] at hrun; cases hrun
  | err => rw [hst] at hrun; cases hrun
  | oob => rw [hst] at hrun; cases hrun


/-! ### leaves -/

theorem take_len_sub (der : List UInt8) (p t : Nat) : (der.drop p).take (p + t - p) = (der.drop p).take t := by
  rw [Nat.add_sub_cancel_left]

theorem Can.prim (f : List UInt8 → R Nat) (P : List UInt8 → Prop)
    (hf : ∀ xs c, xs.length < W → f xs = .ok c → c ≤ xs.length ∧ P (xs.take c)) :
    Can [dPrim f] (fun st st' c => st' = st ∧ P c) [] := by
  constructor
  intro der p st p' st' hl hp hrun
  simp only [runDec, dPrim] at hrun
  cases hfx : f (der.drop p) with
  | ok t =>
    rw [hfx] at hrun; simp only [] at hrun
    injection hrun with hrun; injection hrun with e1 e2
    subst e1; subst e2
    obtain ⟨h1, h2⟩ := hf (der.drop p) t (by rw [List.length_drop]; omega) hfx
    rw [List.length_drop] at h1
    exact ⟨by omega, by omega, ⟨rfl, by rw [take_len_sub]; exact h2⟩, fun _ _ => rfl⟩
  | err => rw [hfx] at hrun; cases hrun
  | oob => rw [hfx] at hrun; cases hrun

theorem Can.out (f : List UInt8 → R (List UInt8 × Nat)) (P : List UInt8 → List UInt8 → Prop)
    (hf : ∀ xs v c, xs.length < W → f xs = .ok (v, c) → c ≤ xs.length ∧ P v (xs.take c)) :
    Can [dOut f] (fun st st' c => ∃ v, st' = { st with outs := st.outs ++ [v] } ∧ P v c) [] := by
  constructor
  intro der p st p' st' hl hp hrun
  simp only [runDec, dOut] at hrun
  cases hfx : f (der.drop p) with
  | ok r =>
    obtain ⟨v, t⟩ := r
    rw [hfx] at hrun; simp only [] at hrun
    injection hrun with hrun; injection hrun with e1 e2
    subst e1; subst e2
    obtain ⟨h1, h2⟩ := hf (der.drop p) v t (by rw [List.length_drop]; omega) hfx
    rw [List.length_drop] at h1
    exact ⟨by omega, by omega, ⟨v, rfl, by rw [take_len_sub]; exact h2⟩, fun _ _ => rfl⟩
  | err => rw [hfx] at hrun; cases hrun
  | oob => rw [hfx] at hrun; cases hrun

theorem Can.num (f : List UInt8 → R (Nat × Nat)) (P : Nat → List UInt8 → Prop)
    (hf : ∀ xs v c, xs.length < W → f xs = .ok (v, c) → c ≤ xs.length ∧ P v (xs.take c)) :
    Can [dNum f] (fun st st' c => ∃ v, st' = { st with nums := v :: st.nums } ∧ P v c) [] := by
  constructor
  intro der p st p' st' hl hp hrun
  simp only [runDec, dNum] at hrun
  cases hfx : f (der.drop p) with
  | ok r =>
    obtain ⟨v, t⟩ := r
    rw [hfx] at hrun; simp only [] at hrun
    injection hrun with hrun; injection hrun with e1 e2
    subst e1; subst e2
    obtain ⟨h1, h2⟩ := hf (der.drop p) v t (by rw [List.length_drop]; omega) hfx
    rw [List.length_drop] at h1
    exact ⟨by omega, by omega, ⟨v, rfl, by rw [take_len_sub]; exact h2⟩, fun _ _ => rfl⟩
  | err => rw [hfx] at hrun; cases hrun
  | oob => rw [hfx] at hrun; cases hrun

/-! primitive facts in the shape the leaves need -/

theorem sizeDec2_can (v : Nat) (xs : List UInt8) (c : Nat) (hl : xs.length < W) (h : sizeDec2 v xs = .ok c) :
    c ≤ xs.length ∧ xs.take c = sizeCode 2 v := by
  unfold sizeDec2 derTSIZEDec2 at h
  cases hd : derTSIZEDec xs 2 with
  | ok r =>
    obtain ⟨v', c'⟩ := r
    rw [hd] at h; simp only [] at h
    by_cases hv : v' ≠ v
    · rw [if_pos hv] at h; cases h
    · rw [if_neg hv] at h; cases h
      have hv' : v' = v := by omega
      subst hv'
      have hcan := derTSIZEDec_canonical' xs 2 v' c hd
      rw [derTSIZEEnc_eq 2 v' (by decide)] at hcan
      injection hcan with hcan
      have hle : c ≤ xs.length := by
        rcases derTSIZEDec_cases xs 2 hl with e | ⟨_, _, e, hc⟩
        · rw [e] at hd; cases hd
        · rw [e] at hd; cases hd; exact hc
      exact ⟨hle, hcan.symm⟩
  | err => rw [hd] at h; cases h
  | oob => rw [hd] at h; cases h

theorem sizeDec_can (xs : List UInt8) (v c : Nat) (hl : xs.length < W) (h : derTSIZEDec xs 2 = .ok (v, c)) :
    c ≤ xs.length ∧ xs.take c = sizeCode 2 v := by
  have hcan := derTSIZEDec_canonical' xs 2 v c h
  rw [derTSIZEEnc_eq 2 v (by decide)] at hcan
  injection hcan with hcan
  have hle : c ≤ xs.length := by
    rcases derTSIZEDec_cases xs 2 hl with e | ⟨_, _, e, hc⟩
    · rw [e] at h; cases h
    · rw [e] at h; cases h; exact hc
  exact ⟨hle, hcan.symm⟩

theorem oidDec2_can (oid : List UInt8) (hok : (derOIDEnc oid).isOk = true) (hstr : ∀ b ∈ oid, b ≠ 0)
    (xs : List UInt8) (c : Nat) (hl : xs.length < W) (h : derOIDDec2 xs oid = .ok c) :
    c ≤ xs.length ∧ xs.take c = oidCode oid := by
  have henc := derOIDDec_canonical' xs hl oid c (derOIDDec2_eq_dec xs oid hl hstr c h)
  rw [oidCode_ok oid hok] at henc
  injection henc with henc
  have hle : c ≤ xs.length := by
    rcases derOIDDec2_cases xs oid hl with e | ⟨_, e, hc⟩
    · rw [e] at h; cases h
    · rw [e] at h; cases h; exact hc
  exact ⟨hle, henc.symm⟩

theorem nullDec_can (xs : List UInt8) (c : Nat) (hl : xs.length < W) (h : nullDec xs = .ok c) :
    c ≤ xs.length ∧ xs.take c = tlvCode 5 [] := by
  unfold nullDec at h
  rw [derDec4_eq xs 5 [] hl] at h
  obtain ⟨V, a, c', hV, hb, hc, ht⟩ := tlvDec_can hl h
  split at hV
  · cases hb; subst ‹V = []›; exact ⟨hc, ht⟩
  · cases hV

theorem octDec2_can (xs : List UInt8) (len : Nat) (v : List UInt8) (c : Nat) (hl : xs.length < W)
    (h : derTOCTDec2 xs 4 len = .ok (v, c)) : c ≤ xs.length ∧ xs.take c = tlvCode 4 v ∧ v.length = len := by
  rw [derTOCTDec2_eq xs 4 len hl] at h
  obtain ⟨V, a, c', hV, hb, hc, ht⟩ := tlvDec_can hl h
  unfold octV at hV
  split at hV
  · cases hV; cases hb; exact ⟨hc, ht, ‹_›⟩
  · cases hV

theorem octDec_can (xs : List UInt8) (v : List UInt8) (c : Nat) (hl : xs.length < W)
    (h : derTOCTDec xs 4 = .ok (v, c)) : c ≤ xs.length ∧ xs.take c = tlvCode 4 v := by
  rw [derTOCTDec_eq xs 4 hl] at h
  obtain ⟨V, a, c', hV, hb, hc, ht⟩ := tlvDec_can hl h
  cases hV; cases hb; exact ⟨hc, ht⟩


theorem dAlt_ok (alts : List (List UInt8 × Nat)) (st : DSt) (p : Nat) (xs : List UInt8) (t : Nat) (st' : DSt)
    (h : dAlt alts st p xs = .ok (t, st')) :
    ∃ oid len, (oid, len) ∈ alts ∧ derOIDDec2 xs oid = .ok t ∧ st' = { st with nums := len :: st.nums } := by
  induction alts with
  | nil => unfold dAlt at h; cases h
  | cons x xs' ih =>
    obtain ⟨oid, len⟩ := x
    unfold dAlt at h
    cases hd : derOIDDec2 xs oid with
    | ok t' =>
      rw [hd] at h; simp only [] at h
      injection h with h; injection h with e1 e2
      exact ⟨oid, len, by simp, by rw [hd, e1], e2.symm⟩
    | err =>
      rw [hd] at h; simp only [] at h
      obtain ⟨o, l, hm, h1, h2⟩ := ih h
      exact ⟨o, l, by simp [hm], h1, h2⟩
    | oob => rw [hd] at h; cases h

theorem Can.alt (alts : List (List UInt8 × Nat))
    (hok : ∀ x ∈ alts, (derOIDEnc x.1).isOk = true ∧ ∀ b ∈ x.1, b ≠ 0) :
    Can [dAlt alts] (fun st st' c => ∃ oid len, (oid, len) ∈ alts ∧ st' = { st with nums := len :: st.nums } ∧ c = oidCode oid) [] := by
  constructor
  intro der p st p' st' hl hp hrun
  simp only [runDec] at hrun
  cases hfx : dAlt alts st p (der.drop p) with
  | ok r =>
    obtain ⟨t, st1⟩ := r
    rw [hfx] at hrun; simp only [] at hrun
    injection hrun with hrun; injection hrun with e1 e2
    subst e1; subst e2
    obtain ⟨oid, len, hm, hd, hst⟩ := dAlt_ok alts st p _ t st1 hfx
    obtain ⟨hk1, hk2⟩ := hok (oid, len) hm
    obtain ⟨h1, h2⟩ := oidDec2_can oid hk1 hk2 (der.drop p) t (by rw [List.length_drop]; omega) hd
    rw [List.length_drop] at h1
    exact ⟨by omega, by omega, ⟨oid, len, hm, hst, by rw [take_len_sub]; exact h2⟩, fun _ _ => by rw [hst]⟩
  | err => rw [hfx] at hrun; cases hrun
  | oob => rw [hfx] at hrun; cases hrun

theorem Can.octLen :
    Can [dOctLen] (fun st st' c => ∃ len tl v, st.nums = len :: tl ∧ v.length = len ∧
      st' = { st with outs := st.outs ++ [v] } ∧ c = tlvCode 4 v) [] := by
  constructor
  intro der p st p' st' hl hp hrun
  simp only [runDec, dOctLen] at hrun
  cases hn : st.nums with
  | nil => rw [hn] at hrun; cases hrun
  | cons len tl =>
    rw [hn] at hrun; simp only [] at hrun
    cases hfx : derTOCTDec2 (der.drop p) 4 len with
    | ok r =>
      obtain ⟨v, t⟩ := r
      rw [hfx] at hrun; simp only [] at hrun
      injection hrun with hrun; injection hrun with e1 e2
      subst e1; subst e2
      obtain ⟨h1, h2, h3⟩ := octDec2_can (der.drop p) len v t (by rw [List.length_drop]; omega) hfx
      rw [List.length_drop] at h1
      exact ⟨by omega, by omega, ⟨len, tl, v, rfl, h3, rfl, by rw [take_len_sub]; exact h2⟩, fun _ _ => rfl⟩
    | err => rw [hfx] at hrun; cases hrun
    | oob => rw [hfx] at hrun; cases hrun

/-- canonical form of a PrivateKeyInfo-like container: what the decoder steps accept is `pkiCode alg oid v`
    for the value v they output and an entry (oid, |v|) of the alternatives -/
theorem pki_can (alg : List UInt8) (alts : List (List UInt8 × Nat)) (halg : (derOIDEnc alg).isOk = true)
    (hstr : ∀ b ∈ alg, b ≠ 0) (hok : ∀ x ∈ alts, (derOIDEnc x.1).isOk = true ∧ ∀ b ∈ x.1, b ≠ 0)
    (x : List UInt8) (hl : x.length < W) (c : Nat) (st : DSt)
    (h : runDec x [dStart 0 48, dPrim (sizeDec2 0), dStart 1 48, dPrim (oidDec2 alg), dAlt alts, dStop 1, dOctLen, dStop 0] {} 0 =
      .ok (c, st)) :
    c ≤ x.length ∧ ∃ oid v, (oid, v.length) ∈ alts ∧ st.outs = [v] ∧ x.take c = pkiCode alg oid v := by
  have c1 := Can.append (Can.prim (oidDec2 alg) (fun c => c = oidCode alg)
    (fun xs c hl h => oidDec2_can alg halg hstr xs c hl h)) (Can.alt alts hok)
  have s1 := Can.seq 1 48 c1 (by simp)
  have c2 := Can.append s1 Can.octLen
  have c3 := Can.append (Can.prim (sizeDec2 0) (fun c => c = sizeCode 2 0) (fun xs c hl h => sizeDec2_can 0 xs c hl h)) c2
  have s0 := Can.seq 0 48 c3 (by simp)
  obtain ⟨_, hcl, hrel, _⟩ := s0.run x 0 {} c st hl (Nat.zero_le _) h
  refine ⟨hcl, ?_⟩
  simp only [List.drop_zero, Nat.sub_zero] at hrel
  obtain ⟨p0, c', ⟨stA, a, b, hc', ⟨hA, ha⟩, ⟨st2, b1, b2, hb, ⟨p1, d', ⟨st3, e1, e2, hd', ⟨h3, he1⟩, ⟨oid, len, hm, hst2, he2⟩⟩, hb1, _⟩,
    ⟨len', tl, v, hnums, hvlen, hst', hb2⟩⟩⟩, hx, _⟩ := hrel
  subst hA; subst h3
  rw [hst2] at hnums
  simp only [List.cons.injEq] at hnums
  obtain ⟨hll, _⟩ := hnums
  refine ⟨oid, v, by rw [hvlen, ← hll]; exact hm, by rw [hst', hst2]; rfl, ?_⟩
  rw [hx, hc', ha, hb, hb1, hd', he1, he2, hb2]
  unfold pkiCode tlvCode
  simp only [List.append_assoc]


/-! ### PrivateKeyInfo, share -/

theorem str_pubkey : ∀ b ∈ oid_bign_pubkey, b ≠ 0 := by decide +kernel
theorem str_share : ∀ b ∈ oid_bels_share, b ≠ 0 := by decide +kernel

theorem privAlts_ok : ∀ x ∈ [(oid_bign_curve192v1, 24), (oid_bign_curve256v1, 32), (oid_bign_curve384v1, 48), (oid_bign_curve512v1, 64)],
    (derOIDEnc x.1).isOk = true ∧ ∀ b ∈ x.1, b ≠ 0 := by decide +kernel
theorem shareAlts_ok : ∀ x ∈ [(oid_bels_m0128v1, 17), (oid_bels_m0192v1, 25), (oid_bels_m0256v1, 33)],
    (derOIDEnc x.1).isOk = true ∧ ∀ b ∈ x.1, b ≠ 0 := by decide +kernel

/-- CANONICAL (PrivateKeyInfo): an accepted container is exactly bpkiPrivkeyEnc of the key it yields -/
theorem bpkiPrivkey_canonical (x : List UInt8) (hl : x.length < W) (c : Nat) (st : DSt)
    (h : bpkiPrivkeyDec x = .ok (c, st)) :
    c ≤ x.length ∧ ∃ k, st.outs = [k] ∧ (k.length = 24 ∨ k.length = 32 ∨ k.length = 48 ∨ k.length = 64) ∧
      bpkiPrivkeyEnc k = .ok (x.take c) := by
  unfold bpkiPrivkeyDec bpkiPrivkeyDecSteps at h
  obtain ⟨hc, oid, v, hm, hout, hx⟩ := pki_can oid_bign_pubkey _ ok_pubkey str_pubkey privAlts_ok x hl c st h
  refine ⟨hc, v, hout, ?_⟩
  simp only [List.mem_cons, Prod.mk.injEq, List.mem_nil_iff, or_false] at hm
  unfold bpkiPrivkeyEnc
  rcases hm with ⟨ho, hv⟩ | ⟨ho, hv⟩ | ⟨ho, hv⟩ | ⟨ho, hv⟩
  · refine ⟨Or.inl hv, ?_⟩
    rw [if_pos hv, pki_enc _ _ v ok_pubkey ok_c192 (by rw [len_pubkey, len_c192]; omega), hx, ho]
  · refine ⟨Or.inr (Or.inl hv), ?_⟩
    rw [if_neg (by omega), if_pos hv, pki_enc _ _ v ok_pubkey ok_c256 (by rw [len_pubkey, len_c256]; omega), hx, ho]
  · refine ⟨Or.inr (Or.inr (Or.inl hv)), ?_⟩
    rw [if_neg (by omega), if_neg (by omega), if_pos hv, pki_enc _ _ v ok_pubkey ok_c384 (by rw [len_pubkey, len_c384]; omega), hx, ho]
  · refine ⟨Or.inr (Or.inr (Or.inr hv)), ?_⟩
    rw [if_neg (by omega), if_neg (by omega), if_neg (by omega), pki_enc _ _ v ok_pubkey ok_c512 (by rw [len_pubkey, len_c512]; omega), hx, ho]

/-- CANONICAL (share container) -/
theorem bpkiShare_canonical (x : List UInt8) (hl : x.length < W) (c : Nat) (st : DSt)
    (h : bpkiShareDec x = .ok (c, st)) :
    c ≤ x.length ∧ ∃ k, st.outs = [k] ∧ (k.length = 17 ∨ k.length = 25 ∨ k.length = 33) ∧
      bpkiShareEnc k = .ok (x.take c) := by
  unfold bpkiShareDec bpkiShareDecSteps at h
  obtain ⟨hc, oid, v, hm, hout, hx⟩ := pki_can oid_bels_share _ ok_share str_share shareAlts_ok x hl c st h
  refine ⟨hc, v, hout, ?_⟩
  simp only [List.mem_cons, Prod.mk.injEq, List.mem_nil_iff, or_false] at hm
  unfold bpkiShareEnc
  rcases hm with ⟨ho, hv⟩ | ⟨ho, hv⟩ | ⟨ho, hv⟩
  · refine ⟨Or.inl hv, ?_⟩
    rw [if_pos hv, pki_enc _ _ v ok_share ok_m128 (by rw [len_share, len_m128]; omega), hx, ho]
  · refine ⟨Or.inr (Or.inl hv), ?_⟩
    rw [if_neg (by omega), if_pos hv, pki_enc _ _ v ok_share ok_m192 (by rw [len_share, len_m192]; omega), hx, ho]
  · refine ⟨Or.inr (Or.inr hv), ?_⟩
    rw [if_neg (by omega), if_neg (by omega), pki_enc _ _ v ok_share ok_m256 (by rw [len_share, len_m256]; omega), hx, ho]


/-! ### EncryptedPrivateKeyInfo -/

theorem sizeDec_lt (xs : List UInt8) (v c : Nat) (h : derTSIZEDec xs 2 = .ok (v, c)) : v < W := by
  obtain ⟨k, k2, len, _, _, _, _, _, _, d0, tl, _, _, _, _, hv⟩ := derTSIZEDec_spec xs 2 v c h
  rw [hv]; exact Nat.mod_lt _ (by decide)

theorem str_pbes2 : ∀ b ∈ oid_id_pbes2, b ≠ 0 := by decide +kernel
theorem str_pbkdf2 : ∀ b ∈ oid_id_pbkdf2, b ≠ 0 := by decide +kernel
theorem str_hmac : ∀ b ∈ oid_hmac_hbelt, b ≠ 0 := by decide +kernel
theorem str_kwp : ∀ b ∈ oid_belt_kwp256, b ≠ 0 := by decide +kernel

/-- canonical form of EncryptedPrivateKeyInfo: the accepted octets are the code of the tree of the
    decoded (edata, salt, iter) -/
theorem edata_can (x : List UInt8) (hl : x.length < W) (c : Nat) (st : DSt) (h : bpkiEdataDec x = .ok (c, st)) :
    c ≤ x.length ∧ ∃ edata salt iter, st.outs = [salt, edata] ∧ st.nums = [iter] ∧ salt.length = 8 ∧ iter < W ∧
      x.take c = Tree.codeL [edataTree edata salt iter] := by
  have oidc := fun (oid : List UInt8) (hok : (derOIDEnc oid).isOk = true) (hs : ∀ b ∈ oid, b ≠ 0) =>
    Can.prim (oidDec2 oid) (fun c => c = oidCode oid) (fun xs c hl h => oidDec2_can oid hok hs xs c hl h)
  have null := Can.prim nullDec (fun c => c = tlvCode 5 []) (fun xs c hl h => nullDec_can xs c hl h)
  have prf := Can.seq 5 48 (Can.append (oidc _ ok_hmac str_hmac) null) (by simp)
  have lsalt := Can.out (fun r => derTOCTDec2 r 4 8) (fun v c => c = tlvCode 4 v ∧ v.length = 8)
    (fun xs v c hl h => by obtain ⟨a, b, d⟩ := octDec2_can xs 8 v c hl h; exact ⟨a, b, d⟩)
  have liter := Can.num (fun r => derTSIZEDec r 2) (fun v c => c = sizeCode 2 v ∧ v < W)
    (fun xs v c hl h => by obtain ⟨a, b⟩ := sizeDec_can xs v c hl h; exact ⟨a, b, sizeDec_lt xs v c h⟩)
  have params := Can.seq 4 48 (Can.append lsalt (Can.append liter prf)) (by simp)
  have pbkdf2 := Can.seq 3 48 (Can.append (oidc _ ok_pbkdf2 str_pbkdf2) params) (by simp)
  have kwp := Can.seq 6 48 (Can.append (oidc _ ok_kwp str_kwp) null) (by simp)
  have pbes2 := Can.seq 2 48 (Can.append pbkdf2 kwp) (by simp)
  have encalg := Can.seq 1 48 (Can.append (oidc _ ok_pbes2 str_pbes2) pbes2) (by simp)
  have ledata := Can.out (fun r => derTOCTDec r 4) (fun v c => c = tlvCode 4 v)
    (fun xs v c hl h => octDec_can xs v c hl h)
  have epki := Can.seq 0 48 (Can.append encalg ledata) (by simp)
  unfold bpkiEdataDec at h
  obtain ⟨_, hcl, hrel, _⟩ := epki.run x 0 {} c st hl (Nat.zero_le _) h
  refine ⟨hcl, ?_⟩
  simp only [List.drop_zero, Nat.sub_zero] at hrel
  obtain ⟨p0, c0, ⟨s1, a1, a2, hc0,
      ⟨p1, c1, ⟨s2, b1, b2, hc1, ⟨hs2, hb1⟩,
        ⟨p2, c2, ⟨s3, d1, d2, hc2,
          ⟨p3, c3, ⟨s4, e1, e2, hc3, ⟨hs4, he1⟩,
            ⟨p4, c4, ⟨s5, f1, f2, hc4, ⟨salt, hs5, hf1, hsl⟩,
              ⟨s6, g1, g2, hf2, ⟨iter, hs6, hg1, hit⟩,
                ⟨p5, c5, ⟨s7, i1, i2, hc5, ⟨hs7, hi1⟩, ⟨hs8, hi2⟩⟩, hg2, _⟩⟩⟩, he2, _⟩⟩, hd1, _⟩,
          ⟨p6, c6, ⟨s9, j1, j2, hc6, ⟨hs9, hj1⟩, ⟨hs10, hj2⟩⟩, hd2, _⟩⟩, hb2, _⟩⟩, ha1, _⟩,
      ⟨edata, hst, ha2⟩⟩, hx, _⟩ := hrel
  subst hs2 hs4 hs7 hs9
  refine ⟨edata, salt, iter, ?_, ?_, hsl, hit, ?_⟩
  · rw [hst, hs10, hs8, hs6, hs5]; try rfl
  · rw [hst, hs10, hs8, hs6, hs5]; try rfl
  · rw [hx, hc0, ha1, hc1, hb1, hb2, hc2, hd1, hc3, he1, he2, hc4, hf1, hf2, hg1, hg2, hc5, hi1, hi2, hd2, hc6, hj1, hj2, ha2]
    simp only [edataTree, Tree.codeL, Tree.code, tlvCode, List.append_nil, List.append_assoc]


theorem edataTree_len_ge (edata salt : List UInt8) (iter : Nat) :
    edata.length ≤ (Tree.codeL [edataTree edata salt iter]).length := by
  simp only [edataTree, Tree.codeL, Tree.code, tlvCode, List.length_append, List.append_nil]
  omega

/-- CANONICAL (EncryptedPrivateKeyInfo): an accepted container is exactly bpkiEdataEnc of the
    (edata, salt, iter) it yields — in particular every nested SEQUENCE length is the right one -/
theorem bpkiEdata_canonical (x : List UInt8) (hl : x.length < 4294967296) (c : Nat) (st : DSt)
    (h : bpkiEdataDec x = .ok (c, st)) :
    c ≤ x.length ∧ ∃ edata salt iter, st.outs = [salt, edata] ∧ st.nums = [iter] ∧
      bpkiEdataEnc edata salt iter = .ok (x.take c) := by
  obtain ⟨hc, edata, salt, iter, ho, hn, hs, hi, hx⟩ := edata_can x (by omegaW) c st h
  refine ⟨hc, edata, salt, iter, ho, hn, ?_⟩
  have hle := edataTree_len_ge edata salt iter
  rw [← hx] at hle
  have : (x.take c).length ≤ x.length := by simp [List.length_take]; omega
  rw [edata_enc edata salt iter hs hi (by omega), hx]

end Bee2V.C08
