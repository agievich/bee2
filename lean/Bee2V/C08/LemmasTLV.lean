/-
C08 — composition: T, TL, TLV canonical form and round trips.
-/
import Bee2V.C08.LemmasT
namespace Bee2V.C08

theorem derTEnc_ok (tag : Nat) (hv : derTIsValid tag = true) : derTEnc tag = .ok (beBytes (tCount tag) tag) := by
  unfold derTEnc tCount
  rw [hv]; rfl

theorem derTEnc_valid (tag : Nat) (e : List UInt8) (h : derTEnc tag = .ok e) :
    derTIsValid tag = true ∧ e = beBytes (tCount tag) tag := by
  unfold derTEnc at h
  by_cases hv : derTIsValid tag = true
  · rw [hv] at h
    simp only [Bool.not_true, Bool.false_eq_true, if_false] at h
    cases h
    exact ⟨hv, rfl⟩
  · have : derTIsValid tag = false := by simpa using hv
    rw [this] at h
    simp at h

theorem tCount_le4 (tag : Nat) (hlt : tag < U32) : 1 ≤ tCount tag ∧ tCount tag ≤ 4 := by
  unfold tCount
  by_cases h0 : tag = 0
  · subst h0; rw [octLen_zero]; simp
  · have h1 : 1 ≤ octLen tag := by rw [octLen_pos h0]; omega
    have h2 := pow_octLen_le h0
    have : 256 ^ (octLen tag - 1) < 256 ^ 4 := by
      have : (256 : Nat) ^ 4 = U32 := by decide
      omega
    have := (Nat.pow_lt_pow_iff_right (by decide : 1 < 256)).mp this
    rw [if_neg (by omega)]
    omega

/-! ### TL -/

theorem derTLDec_parts (der : List UInt8) (tag l c : Nat) (h : derTLDec der = .ok (tag, l, c)) :
    ∃ k k2, derTDec der = .ok (tag, k) ∧ derLDec (der.drop k) = .ok (l, k2) ∧ c = k + k2 ∧ c ≤ der.length := by
  unfold derTLDec at h
  rcases derTDec_cases der with e | ⟨t, k, e, hk1, hk4, hkl⟩
  · rw [e] at h; cases h
  · rw [e] at h; simp only [] at h
    rcases derLDec_cases (der.drop k) with e2 | ⟨l', k2, e2, h1, h9, hl, hs⟩
    · rw [e2] at h; cases h
    · rw [e2] at h; simp only [] at h
      rw [List.length_drop] at hl
      have hm : (k + k2) % W = k + k2 := Nat.mod_eq_of_lt (by omegaW)
      rw [hm, if_neg (by omega)] at h
      cases h
      exact ⟨k, k2, e, e2, rfl, by omega⟩

theorem derTLDec_canonical' (der : List UInt8) (tag l c : Nat) (h : derTLDec der = .ok (tag, l, c)) :
    derTLEnc tag l = .ok (der.take c) := by
  obtain ⟨k, k2, e1, e2, hc, _⟩ := derTLDec_parts der tag l c h
  unfold derTLEnc
  rw [derTDec_canonical' der tag k e1]; simp only []
  rw [derLDec_canonical' _ l k2 e2, hc, List.take_add]

theorem derTL_roundtrip' (tag l : Nat) (hv : derTIsValid tag = true) (hlt : tag < U32) (hl : l < SIZE_MAX)
    (rest : List UInt8) :
    ∃ e, derTLEnc tag l = .ok e ∧ derTLDec (e ++ rest) = .ok (tag, l, e.length) := by
  refine ⟨beBytes (tCount tag) tag ++ derLEnc l, ?_, ?_⟩
  · unfold derTLEnc; rw [derTEnc_ok tag hv]
  · unfold derTLDec
    rw [List.append_assoc, derT_roundtrip' tag hv hlt (derLEnc l ++ rest)]; simp only []
    have hd : List.drop (tCount tag) (beBytes (tCount tag) tag ++ (derLEnc l ++ rest)) = derLEnc l ++ rest := by
      rw [List.drop_append_of_le_length (by rw [beBytes_length]; exact Nat.le_refl _)]
      rw [List.drop_of_length_le (by rw [beBytes_length]; exact Nat.le_refl _)]; rfl
    rw [hd, derL_roundtrip' l hl rest]; simp only []
    have h4 := tCount_le4 tag hlt
    have hll := (derLEnc_le9 l (by omegaW)).2
    have hm : (tCount tag + (derLEnc l).length) % W = tCount tag + (derLEnc l).length := Nat.mod_eq_of_lt (by omegaW)
    rw [hm, if_neg (by simp [beBytes_length])]
    simp [beBytes_length]

/-! ### TLV -/

theorem derDec_parts (der : List UInt8) (hlen : der.length < W) (tag off len c : Nat)
    (h : derDec der = .ok (tag, off, len, c)) :
    derTLDec der = .ok (tag, len, off) ∧ c = off + len ∧ c ≤ der.length := by
  unfold derDec at h
  rcases derTLDec_cases der with e | ⟨t, l, c', e, h2, h13, hl, hs⟩
  · rw [e] at h; cases h
  · rw [e] at h; simp only [] at h
    rw [sub_mod_W (by omega) hlen] at h
    by_cases hgt : l > der.length - c'
    · rw [if_pos hgt] at h; cases h
    · rw [if_neg hgt] at h
      have hm2 : (c' + l) % W = c' + l := Nat.mod_eq_of_lt (by omega)
      rw [hm2] at h
      cases h
      exact ⟨e, rfl, by omega⟩

/-- CANONICAL (TLV): the accepted octets are exactly derEnc of the decoded tag and value -/
theorem derDec_canonical' (der : List UInt8) (hlen : der.length < W) (tag off len c : Nat)
    (h : derDec der = .ok (tag, off, len, c)) :
    derEnc tag ((der.drop off).take len) = .ok (der.take c) := by
  obtain ⟨htl, hc, hcl⟩ := derDec_parts der hlen tag off len c h
  have hcan := derTLDec_canonical' der tag len off htl
  unfold derTLEnc at hcan
  unfold derEnc
  cases hT : derTEnc tag with
  | ok t =>
    rw [hT] at hcan; simp only [] at hcan ⊢
    have hvl : ((der.drop off).take len).length = len := by
      simp [List.length_take]; omega
    rw [hvl]
    injection hcan with hcan
    rw [hcan, hc, List.take_add]
  | err => rw [hT] at hcan; cases hcan
  | oob => rw [hT] at hcan; cases hcan

def tlvCode (tag : Nat) (v : List UInt8) : List UInt8 := beBytes (tCount tag) tag ++ derLEnc v.length ++ v

theorem derEnc_eq (tag : Nat) (v : List UInt8) (hv : derTIsValid tag = true) : derEnc tag v = .ok (tlvCode tag v) := by
  unfold derEnc tlvCode; rw [derTEnc_ok tag hv]

theorem tlvCode_len (tag : Nat) (v : List UInt8) :
    (tlvCode tag v).length = tCount tag + (derLEnc v.length).length + v.length := by
  simp only [tlvCode, List.length_append, beBytes_length]

/-- 13 = at most 4 octets of T and 9 of L -/
theorem tlvCode_le (tag : Nat) (v : List UInt8) (hlt : tag < U32) (hv : v.length < W) :
    (tlvCode tag v).length ≤ 13 + v.length := by
  have h4 := tCount_le4 tag hlt
  have h9 := derLEnc_le9 v.length hv
  rw [tlvCode_len]; omega

/-- ROUND TRIP (TLV); the only bound is that the input is shorter than 2^64 -/
theorem derDec_code (tag : Nat) (v rest : List UInt8) (hv : derTIsValid tag = true) (hlt : tag < U32)
    (hl : (tlvCode tag v ++ rest).length < W) :
    derDec (tlvCode tag v ++ rest) = .ok (tag, (tlvCode tag v).length - v.length, v.length, (tlvCode tag v).length) ∧
      ((tlvCode tag v ++ rest).drop ((tlvCode tag v).length - v.length)).take v.length = v := by
  rw [List.length_append, tlvCode_len] at hl
  have h4 := tCount_le4 tag hlt
  obtain ⟨tl, htl, hdec⟩ := derTL_roundtrip' tag v.length hv hlt (by omegaW) (v ++ rest)
  unfold derTLEnc at htl
  rw [derTEnc_ok tag hv] at htl; simp only [] at htl
  injection htl with htl
  have e : tlvCode tag v = tl ++ v := by rw [← htl]; rfl
  have htll : tl.length = tCount tag + (derLEnc v.length).length := by rw [← htl]; simp [beBytes_length]
  rw [e]
  constructor
  · unfold derDec
    rw [List.append_assoc, hdec]; simp only []
    have hL : (tl ++ (v ++ rest)).length = tl.length + v.length + rest.length := by simp; omega
    rw [hL, sub_mod_W (by omega) (by omega), if_neg (by omega), Nat.mod_eq_of_lt (by omega)]
    simp
  · simp only [List.length_append, Nat.add_sub_cancel]
    rw [List.append_assoc, List.drop_append_of_le_length (Nat.le_refl _), List.drop_of_length_le (Nat.le_refl _)]
    simp

theorem derEnc_roundtrip' (tag : Nat) (val : List UInt8) (hv : derTIsValid tag = true) (hlt : tag < U32)
    (rest : List UInt8) (hlen : 13 + val.length + rest.length < W) :
    ∃ e, derEnc tag val = .ok e ∧
      derDec (e ++ rest) = .ok (tag, e.length - val.length, val.length, e.length) ∧
      ((e ++ rest).drop (e.length - val.length)).take val.length = val := by
  have := tlvCode_le tag val hlt (by omega)
  exact ⟨_, derEnc_eq tag val hv, derDec_code tag val rest hv hlt (by rw [List.length_append]; omega)⟩

theorem derDec_can (xs : List UInt8) (hl : xs.length < W) (tag off len c : Nat) (h : derDec xs = .ok (tag, off, len, c)) :
    c ≤ xs.length ∧ xs.take c = tlvCode tag ((xs.drop off).take len) ∧ ((xs.drop off).take len).length = len := by
  have hcan := derDec_canonical' xs hl tag off len c h
  obtain ⟨_, hc, hcl⟩ := derDec_parts xs hl tag off len c h
  have hvalid : derTIsValid tag = true := by
    unfold derEnc at hcan
    cases hT : derTEnc tag with
    | ok t => exact (derTEnc_valid tag t hT).1
    | err => rw [hT] at hcan; cases hcan
    | oob => rw [hT] at hcan; cases hcan
  rw [derEnc_eq tag _ hvalid] at hcan
  exact ⟨hcl, (R.ok.inj hcan).symm, by rw [List.length_take, List.length_drop]; omega⟩

end Bee2V.C08
