/-
C08 — APDU commands: the two length parsers inverted (`apduLc_spec`, `apduLe_spec`), and the relation `CmdForm`
(the seven cases of ISO/IEC 7816-4) between the octets after the header, the data field and the expected length:
what apduCmdDec accepts is a form, a form re-encodes to its octets, a form is accepted, every valid command has one.
-/
import Bee2V.C08.LemmasTyped
namespace Bee2V.C08

/-- what the Lc parser returns, by the shape of the octets after the header -/
theorem apduLc_spec (a : List UInt8) (cll cl : Nat) (h : apduLc a = .ok (cll, cl)) :
    (cll = 0 ∧ cl = 0 ∧ (a.length ≤ 1 ∨ ∃ y z, a = [0, y, z])) ∨
    (cll = 1 ∧ ∃ x t, a = x :: t ∧ x.toNat ≠ 0 ∧ cl = x.toNat ∧ t ≠ []) ∨
    (cll = 3 ∧ ∃ y z w t, a = 0 :: y :: z :: w :: t ∧ cl = y.toNat * 256 + z.toNat ∧ cl ≠ 0) := by
  unfold apduLc at h
  match a, h with
  | [], h => simp at h; exact Or.inl ⟨h.1.symm, h.2.symm, Or.inl (by simp)⟩
  | [x], h => simp at h; exact Or.inl ⟨h.1.symm, h.2.symm, Or.inl (by simp)⟩
  | [x, y], h =>
    simp [rd] at h
    split at h
    · simp at h
    · rename_i hx
      simp at h
      exact Or.inr (Or.inl ⟨h.1.symm, x, [y], rfl, by simpa using hx, h.2.symm, by simp⟩)
  | [x, y, z], h =>
    simp [rd] at h
    by_cases hx : x.toNat = 0
    · simp [hx] at h
      exact Or.inl ⟨h.1.symm, h.2.symm, Or.inr ⟨y, z, by rw [toNat_zero_eq x hx]⟩⟩
    · simp [hx] at h
      exact Or.inr (Or.inl ⟨h.1.symm, x, [y, z], rfl, hx, h.2.symm, by simp⟩)
  | x :: y :: z :: w :: t, h =>
    simp [rd] at h
    by_cases hx : x.toNat = 0
    · simp [hx] at h
      split at h
      · simp at h
      · split at h
        · cases h
        · rename_i hnz
          simp at h
          refine Or.inr (Or.inr ⟨h.1.symm, y, z, w, t, by rw [toNat_zero_eq x hx], h.2.symm, ?_⟩)
          rw [← h.2]; omega
    · simp [hx] at h
      exact Or.inr (Or.inl ⟨h.1.symm, x, y :: z :: w :: t, rfl, hx, h.2.symm, by simp⟩)

theorem apduLc_no_oob (a : List UInt8) : apduLc a ≠ .oob := by
  unfold apduLc
  match a with
  | [] => simp
  | [x] => simp
  | [x, y] => simp [rd]; split <;> simp
  | [x, y, z] => simp [rd]; split <;> (try split) <;> simp
  | x :: y :: z :: w :: t => simp [rd]; split <;> (try split) <;> (try split) <;> simp

theorem apduLe_spec (a : List UInt8) (cll cl r : Nat) (h : apduLe a cll cl = .ok r) :
    (a = [] ∧ r = 0 ∧ ¬(cll = 3 ∧ cl < 256)) ∨
    (∃ b, a = [b] ∧ cll ≠ 3 ∧ r = if b.toNat = 0 then 256 else b.toNat) ∨
    (∃ b0 b1, a = [b0, b1] ∧ ¬ cll ≤ 1 ∧ r = (if b0.toNat * 256 + b1.toNat = 0 then 65536 else b0.toNat * 256 + b1.toNat) ∧
        ¬(cl < 256 ∧ r ≤ 256)) ∨
    (∃ b1 b2, a = [0, b1, b2] ∧ cll = 0 ∧ r = (if b1.toNat * 256 + b2.toNat = 0 then 65536 else b1.toNat * 256 + b2.toNat) ∧
        r > 256) := by
  unfold apduLe at h
  match a, h with
  | [], h =>
    simp only [List.length_nil, if_true] at h
    split at h
    · cases h
    · rename_i hc; cases h; exact Or.inl ⟨rfl, rfl, hc⟩
  | [b], h =>
    simp [rd] at h
    split at h
    · cases h
    · rename_i hc; cases h
      exact Or.inr (Or.inl ⟨b, rfl, hc, rfl⟩)
  | [b0, b1], h =>
    by_cases hz : b0.toNat * 256 + b1.toNat = 0
    · simp [rd, hz] at h
      have h0 : b0.toNat = 0 ∧ b1.toNat = 0 := by omega
      (try simp [h0.1, h0.2] at h)
      split at h
      · cases h
      · rename_i hc; cases h
        exact Or.inr (Or.inr (Or.inl ⟨b0, b1, rfl, by omega, by rw [if_pos hz], by omega⟩))
    · simp [rd] at h
      have hz' : ¬ (b0.toNat * 256 = 0 ∧ b1.toNat = 0) := by omega
      simp only [hz', if_false] at h
      split at h
      · cases h
      · rename_i hc; cases h
        exact Or.inr (Or.inr (Or.inl ⟨b0, b1, rfl, by omega, by rw [if_neg hz], by omega⟩))
  | [b0, b1, b2], h =>
    by_cases hz : b1.toNat * 256 + b2.toNat = 0
    · simp [rd] at h
      have h0 : b1.toNat = 0 ∧ b2.toNat = 0 := by omega
      (try simp [h0.1, h0.2] at h)
      split at h
      · cases h
      · rename_i hc; cases h
        simp at hc
        exact Or.inr (Or.inr (Or.inr ⟨b1, b2, by rw [toNat_zero_eq b0 hc.1], hc.2, by rw [if_pos hz], by omega⟩))
    · simp [rd] at h
      have hz' : ¬ (b1.toNat * 256 = 0 ∧ b2.toNat = 0) := by omega
      simp only [hz', if_false] at h
      split at h
      · cases h
      · rename_i hc; cases h
        simp at hc
        exact Or.inr (Or.inr (Or.inr ⟨b1, b2, by rw [toNat_zero_eq b0 hc.1], hc.2.1, by rw [if_neg hz], by omega⟩))
  | _ :: _ :: _ :: _ :: _, h => simp at h

theorem apduLe_no_oob (a : List UInt8) (cll cl : Nat) : apduLe a cll cl ≠ .oob := by
  unfold apduLe
  match a with
  | [] => simp; split <;> simp
  | [b] => simp [rd]; split <;> simp
  | [b0, b1] => simp [rd]; split <;> (try split) <;> simp
  | [b0, b1, b2] => simp [rd]; split <;> (try split) <;> simp
  | _ :: _ :: _ :: _ :: _ => simp

theorem apduCmdDec_cases (apdu : List UInt8) : apduCmdDec apdu = .err ∨ ∃ cmd, apduCmdDec apdu = .ok cmd := by
  unfold apduCmdDec
  by_cases h4 : apdu.length < 4
  · rw [if_pos h4]; exact Or.inl rfl
  · rw [if_neg h4, rd_of_lt (xs := apdu) (i := 0) (by omega), rd_of_lt (xs := apdu) (i := 1) (by omega),
      rd_of_lt (xs := apdu) (i := 2) (by omega), rd_of_lt (xs := apdu) (i := 3) (by omega)]
    simp only []
    cases hlc : apduLc (apdu.drop 4) with
    | ok p =>
      obtain ⟨cll, cl⟩ := p
      simp only []
      by_cases hgt : cl > ((apdu.drop 4).drop cll).length
      · rw [if_pos hgt]; exact Or.inl rfl
      · rw [if_neg hgt, rdSlice_ok (by omega)]; simp only []
        cases hle : apduLe ((List.drop cll (List.drop 4 apdu)).drop cl) cll cl with
        | ok r => exact Or.inr ⟨_, rfl⟩
        | err => exact Or.inl rfl
        | oob => exact absurd hle (apduLe_no_oob _ _ _)
    | err => exact Or.inl rfl
    | oob => exact absurd hlc (apduLc_no_oob _)

/-- Le in one octet / in two octets -/
def le1 (b : UInt8) : Nat := if b.toNat = 0 then 256 else b.toNat
def le2 (b0 b1 : UInt8) : Nat := if b0.toNat * 256 + b1.toNat = 0 then 65536 else b0.toNat * 256 + b1.toNat

/-- `CmdForm body cdf rdf`: the octets `body` after the four header octets carry the data field `cdf` and the
    expected response length `rdf` — the seven cases of a command APDU in ISO/IEC 7816-4 (short / extended length):
    c1  case 1: no data, no Le;            c2s case 2S: Le in one octet;      c2e case 2E: `00` + Le in two octets;
    c3s case 3S: Lc in one octet + data;   c4s case 4S: 3S + Le in one octet;
    c3e case 3E: `00` + Lc in two octets + data (only when the short form does not fit);
    c4e case 4E: 3E + Le in two octets (only when Lc or Le needs the extended form) -/
inductive CmdForm : List UInt8 → List UInt8 → Nat → Prop
  | c1 : CmdForm [] [] 0
  | c2s (b : UInt8) : CmdForm [b] [] (le1 b)
  | c2e (b1 b2 : UInt8) (h : 256 < le2 b1 b2) : CmdForm [0, b1, b2] [] (le2 b1 b2)
  | c3s (x : UInt8) (cdf : List UInt8) (hx : x.toNat = cdf.length) (hn : cdf ≠ []) : CmdForm (x :: cdf) cdf 0
  | c4s (x : UInt8) (cdf : List UInt8) (b : UInt8) (hx : x.toNat = cdf.length) (hn : cdf ≠ []) :
      CmdForm (x :: (cdf ++ [b])) cdf (le1 b)
  | c3e (y z : UInt8) (cdf : List UInt8) (hl : y.toNat * 256 + z.toNat = cdf.length) (h : 256 ≤ cdf.length) :
      CmdForm (0 :: y :: z :: cdf) cdf 0
  | c4e (y z : UInt8) (cdf : List UInt8) (b0 b1 : UInt8) (hl : y.toNat * 256 + z.toNat = cdf.length) (hn : cdf ≠ [])
      (h : ¬(cdf.length < 256 ∧ le2 b0 b1 ≤ 256)) : CmdForm (0 :: y :: z :: (cdf ++ [b0, b1])) cdf (le2 b0 b1)

theorem le1_pos (b : UInt8) : le1 b ≠ 0 ∧ le1 b ≤ 256 := by
  have := UInt8.toNat_lt b; unfold le1; split <;> omega
theorem le2_pos (b0 b1 : UInt8) : le2 b0 b1 ≠ 0 ∧ le2 b0 b1 ≤ 65536 := by
  have := UInt8.toNat_lt b0; have := UInt8.toNat_lt b1; unfold le2; split <;> omega
theorem oct_le1 (b : UInt8) : oct (le1 b) = b := by
  have := UInt8.toNat_lt b; unfold le1; split <;> exact oct_eq_of_nat b (by omega)
theorem oct_le2 (b0 b1 : UInt8) : oct (le2 b0 b1 / 256) = b0 ∧ oct (le2 b0 b1) = b1 := by
  have := UInt8.toNat_lt b0; have := UInt8.toNat_lt b1
  unfold le2; split <;> exact ⟨oct_eq_of_nat b0 (by omega), oct_eq_of_nat b1 (by omega)⟩

theorem CmdForm.bounds {body cdf : List UInt8} {rdf : Nat} (h : CmdForm body cdf rdf) :
    cdf.length ≤ body.length ∧ rdf ≤ 65536 := by
  cases h with
  | c1 => simp
  | c2s b => exact ⟨by simp, by have := le1_pos b; omega⟩
  | c2e b1 b2 _ => exact ⟨by simp, (le2_pos b1 b2).2⟩
  | c3s x cdf _ _ => simp
  | c4s x cdf b _ _ => exact ⟨by simp; omega, by have := le1_pos b; omega⟩
  | c3e y z cdf _ _ => simp; omega
  | c4e y z cdf b0 b1 _ _ _ => exact ⟨by simp; omega, (le2_pos b0 b1).2⟩

theorem CmdForm.enc {body cdf : List UInt8} {rdf : Nat} (h : CmdForm body cdf rdf) (c i p1 p2 : UInt8) :
    apduCmdEnc ⟨c, i, p1, p2, cdf, rdf⟩ = c :: i :: p1 :: p2 :: body := by
  unfold apduCmdEnc
  cases h with
  | c1 => simp
  | c2s b => simp [le1_pos b, oct_le1]
  | c2e b1 b2 h =>
    have := le2_pos b1 b2
    simp [this.1, oct_le2, show ¬ le2 b1 b2 ≤ 256 by omega]
  | c3s x cdf hx hn =>
    have := UInt8.toNat_lt x
    have hl : cdf.length ≠ 0 := fun e => hn (List.eq_nil_of_length_eq_zero e)
    simp [← hx, show x.toNat ≠ 0 by omega, show x.toNat < 256 by omega, oct_toNat]
  | c4s x cdf b hx hn =>
    have := UInt8.toNat_lt x
    have hl : cdf.length ≠ 0 := fun e => hn (List.eq_nil_of_length_eq_zero e)
    simp [← hx, show x.toNat ≠ 0 by omega, show x.toNat < 256 by omega, le1_pos b, oct_le1, oct_toNat]
  | c3e y z cdf hl h =>
    have := UInt8.toNat_lt y; have := UInt8.toNat_lt z
    simp [show cdf.length ≠ 0 by omega, show ¬ cdf.length < 256 by omega]
    exact ⟨oct_eq_of_nat y (by omega), oct_eq_of_nat z (by omega)⟩
  | c4e y z cdf b0 b1 hl hn h =>
    have := UInt8.toNat_lt y; have := UInt8.toNat_lt z
    have hl0 : cdf.length ≠ 0 := fun e => hn (List.eq_nil_of_length_eq_zero e)
    have := le2_pos b0 b1
    simp [hl0, this.1, oct_le2, show ¬(cdf.length < 256 ∧ le2 b0 b1 ≤ 256) from h,
      show ¬(le2 b0 b1 ≤ 256 ∧ cdf.length < 256) from fun hh => h ⟨hh.2, hh.1⟩]
    exact ⟨oct_eq_of_nat y (by omega), oct_eq_of_nat z (by omega)⟩

theorem apduCmdDec_form (apdu : List UInt8) (cmd : Cmd) (h : apduCmdDec apdu = .ok cmd) :
    ∃ body, apdu = cmd.cla :: cmd.ins :: cmd.p1 :: cmd.p2 :: body ∧ CmdForm body cmd.cdf cmd.rdf_len := by
  -- the decoder's own steps: header, Lc, the slice, Le
  obtain ⟨c, i, p1, p2, body, rfl⟩ : ∃ c i p1 p2 body, apdu = c :: i :: p1 :: p2 :: body := by
    match apdu, h with
    | [], h | [_], h | [_, _], h | [_, _, _], h => simp [apduCmdDec] at h
    | c :: i :: p1 :: p2 :: body, _ => exact ⟨c, i, p1, p2, body, rfl⟩
  unfold apduCmdDec at h
  rw [if_neg (by simp)] at h
  simp only [rd, List.getElem?_cons_zero, List.getElem?_cons_succ, List.drop_succ_cons, List.drop_zero] at h
  cases hlc : apduLc body with
  | err => rw [hlc] at h; cases h
  | oob => rw [hlc] at h; cases h
  | ok p =>
  obtain ⟨cll, cl⟩ := p
  rw [hlc] at h; simp only [] at h
  by_cases hgt : cl > (body.drop cll).length
  · rw [if_pos hgt] at h; cases h
  rw [if_neg hgt, rdSlice_ok (by omega)] at h; simp only [] at h
  cases hle : apduLe ((List.drop cll body).drop cl) cll cl with
  | err => rw [hle] at h; cases h
  | oob => rw [hle] at h; cases h
  | ok rdf =>
  rw [hle] at h; simp only [List.drop_zero, oct_toNat] at h
  cases h
  refine ⟨body, rfl, ?_⟩
  simp only []
  generalize hcdf : (body.drop cll).take cl = cdf
  have hcl : cl ≤ (body.drop cll).length := by omega
  have hcdfl : cdf.length = cl := by rw [← hcdf, List.length_take]; omega
  have hsplit := List.take_append_drop cl (body.drop cll)
  rw [hcdf] at hsplit
  rcases apduLc_spec body cll cl hlc with ⟨h0, hcl0, _⟩ | ⟨h1, x, t, hb, hx, hclx, _⟩ | ⟨h3, y, z, w, t, hb, hclv, hclnz⟩
  · -- no Lc: cases 1, 2S, 2E
    subst h0 hcl0
    obtain rfl : cdf = [] := List.eq_nil_of_length_eq_zero hcdfl
    simp only [List.drop_zero, List.nil_append] at hle hsplit
    rcases apduLe_spec body 0 0 rdf hle with ⟨hb, hr, _⟩ | ⟨b, hb, _, hr⟩ | ⟨_, _, _, hc, _⟩ | ⟨b1, b2, hb, _, hr, hgt⟩
    · subst hb hr; exact .c1
    · subst hb hr; exact .c2s b
    · omega
    · subst hb hr; exact .c2e b1 b2 hgt
  · -- Lc in one octet: cases 3S, 4S
    subst h1 hb
    simp only [List.drop_succ_cons, List.drop_zero] at hle hsplit
    have hne : cdf ≠ [] := fun e => hx (by rw [← hclx, ← hcdfl, e]; rfl)
    rcases apduLe_spec _ 1 cl rdf hle with ⟨hb, hr, _⟩ | ⟨b, hb, _, hr⟩ | ⟨_, _, _, hc, _⟩ | ⟨_, _, _, hc, _⟩
    · rw [hb, List.append_nil] at hsplit; subst hsplit hr
      exact .c3s x cdf (by omega) hne
    · rw [hb] at hsplit; subst hsplit hr
      exact .c4s x cdf b (by omega) hne
    · omega
    · omega
  · -- Lc in three octets: cases 3E, 4E
    subst h3 hb
    simp only [List.drop_succ_cons, List.drop_zero] at hle hsplit
    have hne : cdf ≠ [] := fun e => hclnz (by rw [← hcdfl, e]; rfl)
    rcases apduLe_spec _ 3 cl rdf hle with ⟨hb, hr, hnot⟩ | ⟨_, _, hc, _⟩ | ⟨b0, b1, hb, _, hr, hnot⟩ | ⟨_, _, _, hc, _⟩
    · rw [hb, List.append_nil] at hsplit; rw [← hsplit]; subst hr
      exact .c3e y z cdf (by omega) (by rw [hcdfl]; exact Nat.le_of_not_lt fun hh => hnot ⟨rfl, hh⟩)
    · omega
    · rw [hb] at hsplit; rw [← hsplit]; subst hr
      exact .c4e y z cdf b0 b1 (by omega) hne (by rw [hcdfl]; exact hnot)
    · omega

theorem apduLc_short (x : UInt8) (t : List UInt8) (hx : x.toNat ≠ 0) (ht : t ≠ []) :
    apduLc (x :: t) = .ok (1, x.toNat) := by
  unfold apduLc
  match t, ht with
  | [y], _ => simp [rd, hx]
  | [y, z], _ => simp [rd, hx]
  | y :: z :: w :: t', _ => simp [rd, hx]

theorem apduLc_ext (y z : UInt8) (t : List UInt8) (ht : t ≠ []) (h : y.toNat * 256 + z.toNat ≠ 0) :
    apduLc (0 :: y :: z :: t) = .ok (3, y.toNat * 256 + z.toNat) := by
  obtain ⟨w, t, rfl⟩ := List.exists_cons_of_ne_nil ht
  unfold apduLc
  simp [rd]
  rw [if_neg (by omega), if_neg (by omega)]

theorem apduLe_nil (cll cl : Nat) (h : ¬(cll = 3 ∧ cl < 256)) : apduLe [] cll cl = .ok 0 := by
  unfold apduLe; simp only [List.length_nil, if_true]; rw [if_neg h]

theorem apduLe_one (b : UInt8) (cll cl : Nat) (h : cll ≠ 3) :
    apduLe [b] cll cl = .ok (if b.toNat = 0 then 256 else b.toNat) := by
  unfold apduLe; simp [rd, h]

theorem apduLe_two (b0 b1 : UInt8) (cll cl r : Nat) (hr : r = if b0.toNat * 256 + b1.toNat = 0 then 65536 else b0.toNat * 256 + b1.toNat)
    (h : ¬(cll ≤ 1 ∨ (cl < 256 ∧ r ≤ 256))) : apduLe [b0, b1] cll cl = .ok r := by
  unfold apduLe
  simp only [List.length_cons, List.length_nil, rd, List.getElem?_cons_zero, List.getElem?_cons_succ]
  simp only [show (0 + 1 + 1 = 0) = False by simp, show (0 + 1 + 1 = 1) = False by simp, if_false, if_true, ← hr]
  rw [if_neg h]

theorem apduLe_three (b1 b2 : UInt8) (cl r : Nat) (hr : r = if b1.toNat * 256 + b2.toNat = 0 then 65536 else b1.toNat * 256 + b2.toNat)
    (h : r > 256) : apduLe [0, b1, b2] 0 cl = .ok r := by
  unfold apduLe
  simp only [List.length_cons, List.length_nil, rd, List.getElem?_cons_zero, List.getElem?_cons_succ]
  simp only [show (0 + 1 + 1 + 1 = 0) = False by simp, show (0 + 1 + 1 + 1 = 1) = False by simp,
    show (0 + 1 + 1 + 1 = 2) = False by simp, if_false, if_true, ← hr]
  rw [if_neg (by simp; omega)]


theorem apduCmdDec_cons (c i p1 p2 : UInt8) (body : List UInt8) (cll cl r : Nat)
    (hlc : apduLc body = .ok (cll, cl)) (hcl : cl ≤ (body.drop cll).length)
    (hle : apduLe ((body.drop cll).drop cl) cll cl = .ok r) :
    apduCmdDec (c :: i :: p1 :: p2 :: body) = .ok ⟨c, i, p1, p2, (body.drop cll).take cl, r⟩ := by
  unfold apduCmdDec
  rw [if_neg (by simp)]
  simp only [rd, List.getElem?_cons_zero, List.getElem?_cons_succ, List.drop_succ_cons, List.drop_zero]
  rw [hlc]; simp only []
  rw [if_neg (by omega), rdSlice_ok (by omega)]; simp only []
  rw [hle]; simp only [List.drop_zero, oct_toNat]

theorem le1_oct {r : Nat} (h0 : r ≠ 0) (h : r ≤ 256) : le1 (oct r) = r := by
  unfold le1; rw [toNat_oct]; split <;> omega
theorem le2_oct {r : Nat} (h0 : r ≠ 0) (h : r ≤ 65536) : le2 (oct (r / 256)) (oct r) = r := by
  unfold le2; rw [toNat_oct, toNat_oct]; split <;> omega
theorem len_oct {n : Nat} (h : n < 65536) : (oct (n / 256)).toNat * 256 + (oct n).toNat = n := by
  rw [toNat_oct, toNat_oct]; omega

theorem CmdForm.dec {body cdf : List UInt8} {rdf : Nat} (h : CmdForm body cdf rdf) (c i p1 p2 : UInt8) :
    apduCmdDec (c :: i :: p1 :: p2 :: body) = .ok ⟨c, i, p1, p2, cdf, rdf⟩ := by
  cases h with
  | c1 =>
    simpa using apduCmdDec_cons c i p1 p2 [] 0 0 0 (by unfold apduLc; simp) (by simp) (apduLe_nil 0 0 (by omega))
  | c2s b =>
    simpa using apduCmdDec_cons c i p1 p2 [b] 0 0 (le1 b) (by unfold apduLc; simp) (by simp)
      (by simpa [le1] using apduLe_one b 0 0 (by omega))
  | c2e b1 b2 h =>
    simpa using apduCmdDec_cons c i p1 p2 [0, b1, b2] 0 0 (le2 b1 b2) (by unfold apduLc; simp [rd]) (by simp)
      (by simpa using apduLe_three b1 b2 0 (le2 b1 b2) rfl h)
  | c3s x cdf hx hn =>
    have hlc := apduLc_short x cdf (by rw [hx]; exact fun e => hn (List.eq_nil_of_length_eq_zero e)) hn
    rw [hx] at hlc
    simpa using apduCmdDec_cons c i p1 p2 (x :: cdf) 1 cdf.length 0 hlc (by simp)
      (by simpa using apduLe_nil 1 cdf.length (by omega))
  | c4s x cdf b hx hn =>
    have hlc := apduLc_short x (cdf ++ [b]) (by rw [hx]; exact fun e => hn (List.eq_nil_of_length_eq_zero e)) (by simp)
    rw [hx] at hlc
    simpa using apduCmdDec_cons c i p1 p2 (x :: (cdf ++ [b])) 1 cdf.length (le1 b) hlc (by simp)
      (by simpa [le1] using apduLe_one b 1 cdf.length (by omega))
  | c3e y z cdf hl h =>
    have hlc := apduLc_ext y z cdf (fun e => by rw [e] at h; simp at h) (by omega)
    rw [hl] at hlc
    simpa using apduCmdDec_cons c i p1 p2 (0 :: y :: z :: cdf) 3 cdf.length 0 hlc (by simp)
      (by simpa using apduLe_nil 3 cdf.length (by omega))
  | c4e y z cdf b0 b1 hl hn h =>
    have hlc := apduLc_ext y z (cdf ++ [b0, b1]) (by simp) (by rw [hl]; exact fun e => hn (List.eq_nil_of_length_eq_zero e))
    rw [hl] at hlc
    simpa using apduCmdDec_cons c i p1 p2 (0 :: y :: z :: (cdf ++ [b0, b1])) 3 cdf.length (le2 b0 b1) hlc
      (by simp) (by simpa using apduLe_two b0 b1 3 cdf.length (le2 b0 b1) rfl (by omega))

theorem CmdForm.ofValid (cdf : List UInt8) (rdf : Nat) (hn : cdf.length < 65536) (hr : rdf ≤ 65536) :
    ∃ body, CmdForm body cdf rdf := by
  by_cases h0 : cdf = []
  · subst h0
    by_cases hr0 : rdf = 0
    · subst hr0; exact ⟨_, .c1⟩
    · by_cases hs : rdf ≤ 256
      · have := CmdForm.c2s (oct rdf)
        rw [le1_oct hr0 hs] at this; exact ⟨_, this⟩
      · have := CmdForm.c2e (oct (rdf / 256)) (oct rdf) (by rw [le2_oct hr0 hr]; omega)
        rw [le2_oct hr0 hr] at this; exact ⟨_, this⟩
  · have hl : cdf.length ≠ 0 := fun e => h0 (List.eq_nil_of_length_eq_zero e)
    by_cases hsh : cdf.length < 256 ∧ rdf ≤ 256
    · have hx : (oct cdf.length).toNat = cdf.length := by rw [toNat_oct]; omega
      by_cases hr0 : rdf = 0
      · subst hr0; exact ⟨_, .c3s (oct cdf.length) cdf hx h0⟩
      · have := CmdForm.c4s (oct cdf.length) cdf (oct rdf) hx h0
        rw [le1_oct hr0 hsh.2] at this; exact ⟨_, this⟩
    · by_cases hr0 : rdf = 0
      · subst hr0
        exact ⟨_, .c3e (oct (cdf.length / 256)) (oct cdf.length) cdf (len_oct hn) (by omega)⟩
      · have := CmdForm.c4e (oct (cdf.length / 256)) (oct cdf.length) cdf (oct (rdf / 256)) (oct rdf)
          (len_oct hn) h0 (by rw [le2_oct hr0 hr]; exact hsh)
        rw [le2_oct hr0 hr] at this; exact ⟨_, this⟩

end Bee2V.C08
