/-
C08 — OID arcs: base-128 value lemmas (sidHi / sidLen invert the scanning loop), decimal print/parse.  Both directions
go through the arcs: a valid string is "d.v.v1.v2…" (`oidIsValid_shape`), the encoder maps that shape to the codes of
40 d + v, v1, v2, … (`derOIDEnc_shape`), the scanner reads such codes and writes that shape (`scan_first`, `scan_arcs`;
conversely `scan_arc`, `scan_tail`).  derOIDDec2 succeeds exactly along the string derOIDDec writes (`oidDec2Loop_iff`).
-/
import Bee2V.C08.LemmasTyped
import Bee2V.C08.LemmasText
namespace Bee2V.C08

/-- value of a run of base-128 octets (flags ignored) on top of acc -/
def sidVal (bs : List UInt8) (acc : Nat) : Nat := bs.foldl (fun a b => a * 128 + b.toNat % 128) acc

@[simp] theorem sidVal_nil (acc : Nat) : sidVal [] acc = acc := rfl
@[simp] theorem sidVal_cons (b : UInt8) (bs : List UInt8) (acc : Nat) :
    sidVal (b :: bs) acc = sidVal bs (acc * 128 + b.toNat % 128) := rfl
theorem sidVal_snoc (xs : List UInt8) (b : UInt8) (acc : Nat) :
    sidVal (xs ++ [b]) acc = sidVal xs acc * 128 + b.toNat % 128 := by
  simp [sidVal, List.foldl_append]

theorem sidHi_length (n v : Nat) : (sidHi n v).length = n := by
  induction n generalizing v with
  | zero => rfl
  | succ n ih => simp [sidHi, ih]

/-- the continuation octets written for the value of a run of flagged octets are that run -/
theorem sidHi_sidVal (n : Nat) (bs : List UInt8) (hn : bs.length = n) (hall : ∀ b ∈ bs, 128 ≤ b.toNat) :
    sidHi n (sidVal bs 0) = bs := by
  induction n generalizing bs with
  | zero => cases bs with
    | nil => rfl
    | cons _ _ => simp at hn
  | succ n ih =>
    rcases List.eq_nil_or_concat bs with h | ⟨xs, b, h⟩
    · subst h; simp at hn
    · subst h
      simp at hn
      rw [List.concat_eq_append] at hall ⊢
      have hb := hall b (by simp)
      have hb2 := UInt8.toNat_lt b
      rw [sidHi, sidVal_snoc]
      have h1 : (sidVal xs 0 * 128 + b.toNat % 128) / 128 = sidVal xs 0 := by omega
      have h2 : oct (128 + (sidVal xs 0 * 128 + b.toNat % 128) % 128) = b := oct_eq_of_nat b (by omega)
      rw [h1, h2, ih xs (by omega) (fun x hx => hall x (by simp [hx]))]

theorem sidLen_pos {v : Nat} (h : v ≠ 0) : sidLen v = 1 + sidLen (v / 128) := by
  rw [sidLen]; simp [h]
theorem sidLen_zero : sidLen 0 = 0 := by rw [sidLen]; simp

theorem sidLen_mul_add {v : Nat} (hv : v ≠ 0) (c : Nat) (hc : c < 128) : sidLen (v * 128 + c) = 1 + sidLen v := by
  rw [sidLen_pos (by omega)]
  congr 2; omega

theorem sidLen_sidVal (bs : List UInt8) (acc : Nat) (h : acc ≠ 0) : sidLen (sidVal bs acc) = sidLen acc + bs.length := by
  induction bs generalizing acc with
  | nil => simp
  | cons b bs ih =>
    simp only [sidVal_cons, List.length_cons]
    rw [ih _ (by omega), sidLen_mul_add h _ (by omega)]
    omega

theorem sidLen_small {v : Nat} (h0 : v ≠ 0) (h : v < 128) : sidLen v = 1 := by
  rw [sidLen_pos h0, show v / 128 = 0 by omega, sidLen_zero]

theorem sidLen_sidVal_cons (b : UInt8) (bs : List UInt8) (h : b.toNat % 128 ≠ 0) :
    sidLen (sidVal (b :: bs) 0) = 1 + bs.length := by
  simp only [sidVal_cons, Nat.zero_mul, Nat.zero_add]
  rw [sidLen_sidVal _ _ h, sidLen_small h (by omega)]

/-- the invariant of the scanning loop: `val` is the value of the run P of octets ≥ 128 read so far,
    which does not start with 0x80 -/
def SidInv (P : List UInt8) (val : Nat) : Prop :=
  val = sidVal P 0 ∧ (∀ b ∈ P, 128 ≤ b.toNat) ∧ (∀ b tl, P = b :: tl → b.toNat % 128 ≠ 0)

theorem SidInv_nil : SidInv [] 0 := ⟨rfl, by simp, by simp⟩

theorem SidInv_val_zero {P : List UInt8} {val : Nat} (h : SidInv P val) : val = 0 ↔ P = [] := by
  obtain ⟨hv, hall, hhd⟩ := h
  constructor
  · intro hz
    cases P with
    | nil => rfl
    | cons b tl =>
      exfalso
      have := hhd b tl rfl
      rw [hv, sidVal_cons] at hz
      have hs := sidLen_sidVal tl (0 * 128 + b.toNat % 128) (by omega)
      rw [hz, sidLen_zero] at hs
      rw [sidLen_small (by omega) (by omega)] at hs
      omega
  · intro hp; subst hp; exact hv

theorem SidInv_snoc {P : List UInt8} {val : Nat} (h : SidInv P val) (x : UInt8) (hx : 128 ≤ x.toNat)
    (hne : ¬(val = 0 ∧ x.toNat = 128)) : SidInv (P ++ [x]) (val * 128 + x.toNat % 128) := by
  obtain ⟨hv, hall, hhd⟩ := h
  refine ⟨by rw [sidVal_snoc, ← hv], ?_, ?_⟩
  · intro b hb
    rcases List.mem_append.mp hb with h | h
    · exact hall b h
    · simp at h; subst h; exact hx
  · intro b tl hcons
    cases P with
    | nil =>
      simp at hcons
      obtain ⟨rfl, _⟩ := hcons
      have hx2 := UInt8.toNat_lt x
      have : val = 0 := hv
      omega
    | cons p ps =>
      simp at hcons
      obtain ⟨rfl, _⟩ := hcons
      exact hhd p ps rfl

/-- KEY (canonical direction): a complete arc P ++ [x] read by the loop is exactly derSIDEnc of its value -/
theorem derSIDEnc_of_inv {P : List UInt8} {val : Nat} (h : SidInv P val) (x : UInt8) (hx : x.toNat < 128) :
    derSIDEnc (val * 128 + x.toNat) = P ++ [x] := by
  obtain ⟨hv, hall, hhd⟩ := h
  unfold derSIDEnc
  have h1 : (val * 128 + x.toNat) / 128 = val := by omega
  have h2 : oct ((val * 128 + x.toNat) % 128) = x := oct_eq_of_nat x (by omega)
  rw [h1, h2]
  congr 1
  cases P with
  | nil =>
    have hz : val = 0 := hv
    subst hz
    by_cases hx0 : x.toNat = 0
    · simp [hx0, sidHi]
    · simp only [Nat.zero_mul, Nat.zero_add, hx0, if_false]
      rw [sidLen_small hx0 hx]; rfl
  | cons p ps =>
    have hp := hhd p ps rfl
    have hvl : sidLen val = 1 + ps.length := by rw [hv]; exact sidLen_sidVal_cons p ps hp
    have hvnz : val ≠ 0 := by
      intro hz; rw [hz, sidLen_zero] at hvl; omega
    rw [if_neg (by omega), sidLen_mul_add hvnz _ hx]
    simp only [Nat.add_sub_cancel_left]
    rw [hvl, hv]
    rw [sidHi_sidVal (1 + ps.length) (p :: ps) (by simp; omega) hall]

/-! ### decimal print / parse -/

theorem decLen_small {v : Nat} (h : v < 10) : decLen v = 1 := by rw [decLen, dif_pos h]
theorem decLen_big {v : Nat} (h : ¬ v < 10) : decLen v = 1 + decLen (v / 10) := by rw [decLen, dif_neg h]

theorem decLen_pos (v : Nat) : 1 ≤ decLen v := by
  by_cases h : v < 10
  · rw [decLen_small h]; omega
  · rw [decLen_big h]; omega

theorem decLen_ge2 {v : Nat} (h : ¬ v < 10) : 2 ≤ decLen v := by
  rw [decLen_big h]
  have := decLen_pos (v / 10)
  omega

theorem derSIDDec_length (v : Nat) : (derSIDDec v).length = decLen v := by
  unfold derSIDDec; exact decChars_length _ _

theorem derSIDDec_small {v : Nat} (h : v < 10) : derSIDDec v = [oct (48 + v)] := by
  unfold derSIDDec
  rw [decLen_small h]
  simp [decChars, Nat.mod_eq_of_lt h]

theorem derSIDDec_big {v : Nat} (h : ¬ v < 10) : derSIDDec v = derSIDDec (v / 10) ++ [oct (48 + v % 10)] := by
  unfold derSIDDec
  rw [decLen_big h, Nat.add_comm, decChars]

theorem digit_toNat (d : Nat) (h : d < 10) : (oct (48 + d)).toNat = 48 + d := by
  rw [toNat_oct]; omega

/-- the encoder's digit loop reads back a printed number -/
theorem oidEncLoop_digits (v : Nat) (hv : v < U32) (tail : List UInt8) (d1 : Nat) (acc : List UInt8) :
    oidEncLoop (derSIDDec v ++ tail) d1 0 acc = oidEncLoop tail d1 v acc := by
  induction v using Nat.strongRecOn generalizing tail with
  | _ v ih =>
    by_cases h : v < 10
    · rw [derSIDDec_small h]
      simp only [List.cons_append, List.nil_append]
      rw [oidEncLoop]
      rw [if_neg (by rw [digit_toNat v h]; omega), digit_toNat v h]
      congr 1
      omegaW
    · rw [derSIDDec_big h, List.append_assoc, ih (v / 10) (by omega) (by omegaW)]
      simp only [List.cons_append, List.nil_append]
      rw [oidEncLoop]
      have hd : v % 10 < 10 := Nat.mod_lt _ (by omega)
      rw [if_neg (by rw [digit_toNat _ hd]; omega), digit_toNat _ hd]
      congr 1
      omegaW

/-- first character of a printed number -/
def firstDigit (v : Nat) : Nat := (derSIDDec v).headD 0 |>.toNat

theorem firstDigit_big {v : Nat} (h : ¬ v < 10) : firstDigit v = firstDigit (v / 10) := by
  unfold firstDigit
  rw [derSIDDec_big h]
  have : derSIDDec (v / 10) ≠ [] := by
    intro hc
    have hl := derSIDDec_length (v / 10)
    rw [hc, List.length_nil] at hl
    have := decLen_pos (v / 10)
    omega
  cases hd : derSIDDec (v / 10) with
  | nil => exact absurd hd this
  | cons a t => simp

theorem firstDigit_nonzero {v : Nat} (h : ¬ v < 10) : firstDigit v ≠ 48 := by
  induction v using Nat.strongRecOn with
  | _ v ih =>
    rw [firstDigit_big h]
    by_cases h2 : v / 10 < 10
    · unfold firstDigit
      rw [derSIDDec_small h2]
      simp only [List.headD_cons]
      rw [digit_toNat _ h2]; omega
    · exact ih (v / 10) (by omega) h2

/-- the validity automaton over one printed number: all digit checks pass (no leading zero, no overflow) -/
theorem oidLoop_digits (v : Nat) (hv : v < U32) (tail : List UInt8) (d1 n : Nat) :
    oidLoop (derSIDDec v ++ tail) 0 d1 0 n 0 = oidLoop tail v d1 (decLen v) n (firstDigit v) := by
  induction v using Nat.strongRecOn generalizing tail with
  | _ v ih =>
    by_cases h : v < 10
    · rw [derSIDDec_small h, decLen_small h]
      simp only [List.cons_append, List.nil_append]
      rw [oidLoop]
      have hd := digit_toNat v h
      rw [if_neg (by rw [hd]; omega)]
      rw [if_neg (by rw [hd]; omegaW)]
      simp only [if_true, hd]
      unfold firstDigit
      rw [derSIDDec_small h]
      simp only [List.headD_cons, hd]
      congr 1
      omegaW
    · rw [derSIDDec_big h, List.append_assoc, ih (v / 10) (by omega) (by omegaW), decLen_big h]
      simp only [List.cons_append, List.nil_append]
      rw [oidLoop]
      have hd10 : v % 10 < 10 := Nat.mod_lt _ (by omega)
      have hd := digit_toNat _ hd10
      rw [if_neg (by rw [hd]; omega)]
      have hlen1 := decLen_pos (v / 10)
      have hfd : decLen (v / 10) = 1 → firstDigit (v / 10) ≠ 48 := by
        intro h1
        have hlt : v / 10 < 10 := by
          apply Classical.byContradiction; intro hc
          have := decLen_ge2 hc
          omega
        unfold firstDigit
        rw [derSIDDec_small hlt]
        simp only [List.headD_cons]
        rw [digit_toNat _ hlt]; omega
      rw [if_neg (by
        rw [hd]
        intro hc
        rcases hc with hc | hc | hc | hc | hc
        · omega
        · omega
        · exact hfd hc.1 hc.2
        · omegaW
        · omegaW)]
      rw [if_neg (by omega), firstDigit_big h, hd]
      congr 1
      · omegaW
      · omega


/-- the arc the encoder emits for the number just read: `if (d1 != 3) val += 40 * d1` -/
def adj (dd prev : Nat) : Nat := if dd ≠ 3 then (prev + 40 * dd) % U32 else prev

/-- the value octets end with a complete arc (or are empty) -/
def EndsOk (xs : List UInt8) : Prop := xs = [] ∨ ∃ init last, xs = init ++ [last] ∧ last.toNat < 128

theorem oidEncLoop_nil (dd prev : Nat) (acc : List UInt8) : oidEncLoop [] dd prev acc = acc ++ derSIDEnc (adj dd prev) := by
  rw [oidEncLoop]; rfl

theorem oidEncLoop_dot (rest : List UInt8) (dd prev : Nat) (acc : List UInt8) :
    oidEncLoop (46 :: rest) dd prev acc = oidEncLoop rest 3 0 (acc ++ derSIDEnc (adj dd prev)) := by
  rw [oidEncLoop]; rfl

/-- the end-of-number test of oidIsValid passes after a nonempty number that is not the first one and,
    if it is the second, fits with the first -/
theorem endTest_ok {pv d1v pos n : Nat} (hp : pos ≠ 0) (hn : n ≥ 1)
    (hc : n = 1 → (d1v < 2 → pv < 40) ∧ pv ≤ U32_MAX - 40 * d1v) :
    ¬(pos = 0 ∨ (n = 0 ∧ pv > 2) ∨ (n = 1 ∧ d1v < 2 ∧ pv ≥ 40) ∨ (n = 1 ∧ pv > U32_MAX - 40 * d1v)) := by
  intro h
  rcases h with h | h | h | h
  · exact hp h
  · omega
  · have := hc h.1; omega
  · have := hc h.1; omega

theorem oidLoop_end_ok (pv d1v pos n c0 : Nat) (hp : pos ≠ 0) (hn : n ≥ 1)
    (hc : n = 1 → (d1v < 2 → pv < 40) ∧ pv ≤ U32_MAX - 40 * d1v) : oidLoop [] pv d1v pos n c0 = true := by
  rw [oidLoop, if_neg (endTest_ok hp hn hc)]
  simp; omega

theorem oidLoop_dot (rest : List UInt8) (pv d1v pos n c0 : Nat) (hp : pos ≠ 0) (hn : n ≥ 1)
    (hc : n = 1 → (d1v < 2 → pv < 40) ∧ pv ≤ U32_MAX - 40 * d1v) :
    oidLoop (46 :: rest) pv d1v pos n c0 = oidLoop rest 0 d1v 0 (n + 1) 0 := by
  rw [oidLoop]
  simp only [show (46 : UInt8).toNat = 46 from rfl, if_true]
  rw [if_neg (endTest_ok hp hn hc), if_neg (by omega)]

theorem EndsOk_tail (P : List UInt8) (x : UInt8) (V : List UInt8) (h : EndsOk (P ++ x :: V)) : EndsOk V := by
  rcases h with h | ⟨init, last, h, hl⟩
  · simp at h
  · rcases List.eq_nil_or_concat V with hv | ⟨V', y, hv⟩
    · left; exact hv
    · right
      subst hv
      rw [List.concat_eq_append] at h ⊢
      refine ⟨V', y, rfl, ?_⟩
      have : (P ++ x :: (V' ++ [y])) = (P ++ x :: V') ++ [y] := by simp
      rw [this] at h
      have := List.append_inj' h rfl
      simp at this
      rw [this.2]; exact hl

theorem EndsOk_all_hi (P : List UInt8) (hall : ∀ b ∈ P, 128 ≤ b.toNat) (h : EndsOk P) : P = [] := by
  rcases h with h | ⟨init, last, h, hl⟩
  · exact h
  · have := hall last (by rw [h]; simp)
    omega

/-- ".v1.v2…" -/
def renderTail : List Nat → List UInt8
  | [] => []
  | v :: vs => 46 :: derSIDDec v ++ renderTail vs

/-- the arcs v1, v2, … encoded one after the other -/
def encTail : List Nat → List UInt8
  | [] => []
  | v :: vs => derSIDEnc v ++ encTail vs

theorem enc_tail (vs : List Nat) (hvs : ∀ w ∈ vs, w < U32) (dd prev : Nat) (acc : List UInt8) :
    oidEncLoop (renderTail vs) dd prev acc = acc ++ derSIDEnc (adj dd prev) ++ encTail vs := by
  induction vs generalizing dd prev acc with
  | nil => rw [renderTail, oidEncLoop_nil]; simp [encTail]
  | cons v vs ih =>
    rw [renderTail, List.cons_append, oidEncLoop_dot, oidEncLoop_digits v (hvs v (by simp)), ih (fun w hw => hvs w (by simp [hw]))]
    simp [adj, encTail]

/-- the validity automaton, after a number that passes its end test, accepts ".v1.v2…" -/
theorem valid_tail (vs : List Nat) (hvs : ∀ w ∈ vs, w < U32) : ∀ pv d1v pos n c0, pos ≠ 0 → n ≥ 1 →
    (n = 1 → (d1v < 2 → pv < 40) ∧ pv ≤ U32_MAX - 40 * d1v) → oidLoop (renderTail vs) pv d1v pos n c0 = true := by
  induction vs with
  | nil => intro pv d1v pos n c0 hp hn hc; exact oidLoop_end_ok pv d1v pos n c0 hp hn hc
  | cons v vs ih =>
    intro pv d1v pos n c0 hp hn hc
    rw [renderTail, List.cons_append, oidLoop_dot _ pv d1v pos n c0 hp hn hc, oidLoop_digits v (hvs v (by simp))]
    exact ih (fun w hw => hvs w (by simp [hw])) _ _ _ _ _ (by have := decLen_pos v; omega) (by omega) (fun h => by omega)

/-- the loop after the first arc: the octets it scans are the codes of arcs v1, v2, … below 2^32, and it appends
    ".v1.v2…" to the string -/
theorem scan_arcs (V : List UInt8) : ∀ (P : List UInt8) (val : Nat) (out : List UInt8) (d1f : Nat) (outf : List UInt8),
    SidInv P val → oidScan V val 0 out = .ok (d1f, outf) → EndsOk (P ++ V) →
    d1f = 0 ∧ ∃ vs, (∀ w ∈ vs, w < U32) ∧ P ++ V = encTail vs ∧ outf = out ++ renderTail vs := by
  induction V with
  | nil =>
    intro P val out d1f outf hinv hs hend
    rw [oidScan] at hs
    cases hs
    have hP : P = [] := EndsOk_all_hi P hinv.2.1 (by simpa using hend)
    subst hP
    exact ⟨rfl, [], by simp, rfl, by simp [renderTail]⟩
  | cons x V ih =>
    intro P val out d1f outf hinv hs hend
    rw [oidScan] at hs
    by_cases h1 : val / 33554432 ≠ 0
    · rw [if_pos h1] at hs; cases hs
    · rw [if_neg h1] at hs
      by_cases h2 : val = 0 ∧ x.toNat = 128
      · rw [if_pos h2] at hs; cases hs
      · rw [if_neg h2] at hs
        have hx := UInt8.toNat_lt x
        have hmod : (val * 128 + x.toNat % 128) % U32 = val * 128 + x.toNat % 128 := by omegaW
        rw [hmod] at hs
        by_cases h3 : x.toNat / 128 = 0
        · -- the arc is complete
          rw [if_pos h3, if_neg (by omega), show x.toNat % 128 = x.toNat by omega] at hs
          obtain ⟨hd, vs, hvs, hV, houtf⟩ := ih [] 0 _ d1f outf SidInv_nil hs (by simpa using EndsOk_tail P x V hend)
          refine ⟨hd, (val * 128 + x.toNat) :: vs, ?_, ?_, by rw [houtf]; simp [renderTail]⟩
          · exact List.forall_mem_cons.mpr ⟨by omegaW, hvs⟩
          · rw [encTail, derSIDEnc_of_inv hinv x (by omega), ← hV]; simp
        · rw [if_neg h3] at hs
          obtain ⟨hd, vs, hvs, hV, houtf⟩ := ih (P ++ [x]) _ out d1f outf (SidInv_snoc hinv x (by omega) h2) hs (by simpa using hend)
          exact ⟨hd, vs, hvs, by rw [← hV]; simp, houtf⟩


/-- the code of "d.v.v1.v2…" is the first arc 40 d + v followed by the codes of v1, v2, … -/
theorem derOIDEnc_shape (d v : Nat) (vs : List Nat) (hd2 : d ≤ 2) (hd40 : d < 2 → v < 40) (hX : v + 40 * d < U32)
    (hvs : ∀ w ∈ vs, w < U32) :
    derOIDEnc (oct (48 + d) :: 46 :: derSIDDec v ++ renderTail vs) = derEnc 6 (derSIDEnc (v + 40 * d) ++ encTail vs) := by
  have hvlt : v < U32 := by omega
  have hdg := digit_toNat d (by omega)
  have hv : oidIsValid (oct (48 + d) :: 46 :: derSIDDec v ++ renderTail vs) = true := by
    unfold oidIsValid
    rw [List.cons_append, List.cons_append, oidLoop, if_neg (by rw [hdg]; omega), if_neg (by rw [hdg]; omegaW)]
    simp only [if_true, hdg]
    rw [oidLoop]
    simp only [show (46 : UInt8).toNat = 46 from rfl, if_true]
    rw [if_neg (by omegaW), oidLoop_digits v hvlt]
    apply valid_tail vs hvs
    · have := decLen_pos v
      omega
    · omega
    · intro _
      rw [show (0 * 10 + (48 + d - 48)) % U32 = d by omegaW]
      exact ⟨hd40, by omegaW⟩
  unfold derOIDEnc
  rw [hv]; simp only [Bool.not_true, Bool.false_eq_true, if_false]
  rw [List.cons_append, List.cons_append]; simp only []
  rw [show (oct (48 + d)).toNat - 48 = d by omega, oidEncLoop_digits v hvlt, enc_tail vs hvs]
  have : adj d v = v + 40 * d := by unfold adj; rw [if_pos (by omega)]; omegaW
  rw [this]; simp

/-- the loop up to and including the first arc (d1 = 3) followed by the rest -/
theorem scan_first (V : List UInt8) : ∀ (P : List UInt8) (val : Nat) (d1f : Nat) (outf : List UInt8),
    SidInv P val → oidScan V val 3 [] = .ok (d1f, outf) → EndsOk (P ++ V) → d1f ≠ 3 →
    ∃ d v vs, d ≤ 2 ∧ (d < 2 → v < 40) ∧ v + 40 * d < U32 ∧ (∀ w ∈ vs, w < U32) ∧
      outf = oct (48 + d) :: 46 :: derSIDDec v ++ renderTail vs ∧ P ++ V = derSIDEnc (v + 40 * d) ++ encTail vs := by
  induction V with
  | nil =>
    intro P val d1f outf hinv hs hend hd
    rw [oidScan] at hs; cases hs; exact absurd rfl hd
  | cons x V ih =>
    intro P val d1f outf hinv hs hend hd
    rw [oidScan] at hs
    by_cases h1 : val / 33554432 ≠ 0
    · rw [if_pos h1] at hs; cases hs
    · rw [if_neg h1] at hs
      by_cases h2 : val = 0 ∧ x.toNat = 128
      · rw [if_pos h2] at hs; cases hs
      · rw [if_neg h2] at hs
        have hx := UInt8.toNat_lt x
        have hmod : (val * 128 + x.toNat % 128) % U32 = val * 128 + x.toNat % 128 := by omegaW
        rw [hmod] at hs
        by_cases h3 : x.toNat / 128 = 0
        · rw [if_pos h3, if_pos rfl, show x.toNat % 128 = x.toNat by omega] at hs
          have hsid := derSIDEnc_of_inv hinv x (by omega)
          generalize hX : val * 128 + x.toNat = X at hs hsid
          generalize hdd : (if X < 40 then 0 else if X < 80 then 1 else 2) = d at hs
          generalize hvd : (if X < 40 then X else if X < 80 then X - 40 else X - 80) = vd at hs
          have hrel : d ≤ 2 ∧ vd + 40 * d = X ∧ (d < 2 → vd < 40) := by
            rw [← hdd, ← hvd]; split <;> (try split) <;> omega
          rw [derSIDDec_small (by omega : d < 10)] at hs
          obtain ⟨_, vs, hvs, hV, houtf⟩ := scan_arcs V [] 0 _ d1f outf SidInv_nil hs (by simpa using EndsOk_tail P x V hend)
          refine ⟨d, vd, vs, hrel.1, hrel.2.2, by omegaW, hvs, by rw [houtf]; simp, ?_⟩
          rw [hrel.2.1, hsid, ← hV]; simp
        · rw [if_neg h3] at hs
          obtain ⟨d, v, vs, h⟩ := ih (P ++ [x]) _ d1f outf (SidInv_snoc hinv x (by omega) h2) hs (by simpa using hend) hd
          exact ⟨d, v, vs, by simpa using h⟩


theorem oidV_canon {V s : List UInt8} (h : oidV V = some s) : derOIDEnc s = derEnc 6 V := by
  unfold oidV at h
  cases hs : oidScan V 0 3 [] with
  | ok r =>
    obtain ⟨d1, out⟩ := r
    rw [hs] at h; simp only [] at h
    by_cases hd : d1 = 3
    · rw [if_pos hd] at h; cases h
    rw [if_neg hd] at h
    cases hg : V.getLast? with
    | none => rw [hg] at h; cases h
    | some last =>
      rw [hg] at h; simp only [] at h
      by_cases hlast : last.toNat / 128 ≠ 0
      · rw [if_pos hlast] at h; cases h
      rw [if_neg hlast] at h; cases h
      obtain ⟨init, hV⟩ := List.getLast?_eq_some_iff.mp hg
      have hend : EndsOk ([] ++ V) := Or.inr ⟨init, last, hV, by omega⟩
      obtain ⟨d, v, vs, hd2, hd40, hX, hvs, hout, hV⟩ := scan_first V [] 0 d1 s SidInv_nil hs hend hd
      rw [hout, derOIDEnc_shape d v vs hd2 hd40 hX hvs, ← hV, List.nil_append]
  | err => rw [hs] at h; cases h
  | oob => rw [hs] at h; cases h

/-- CANONICAL (OID): the accepted octets are exactly derOIDEnc of the decoded dotted string -/
theorem derOIDDec_canonical' (der : List UInt8) (hlen : der.length < W) (s : List UInt8) (c : Nat)
    (h : derOIDDec der = .ok (s, c)) : derOIDEnc s = .ok (der.take c) := by
  rw [derOIDDec_eq der hlen] at h
  obtain ⟨V, a, c', hV, hb, _, hc⟩ := tlvDec_canonical hlen h
  cases hb
  rw [oidV_canon hV]; exact hc


/-! ### round trip: scanning encoded arcs, parsing valid strings -/

theorem lt_pow_sidLen (v : Nat) : v < 128 ^ sidLen v := by
  induction v using Nat.strongRecOn with
  | _ v ih =>
    by_cases h : v = 0
    · subst h; simp [sidLen_zero]
    · rw [sidLen_pos h, Nat.add_comm, Nat.pow_succ]
      have := ih (v / 128) (by omega)
      omega

theorem pow_sidLen_le {v : Nat} (h : v ≠ 0) : 128 ^ (sidLen v - 1) ≤ v := by
  induction v using Nat.strongRecOn with
  | _ v ih =>
    rw [sidLen_pos h]
    by_cases h2 : v / 128 = 0
    · rw [h2, sidLen_zero]; simp; try omega
    · have := ih (v / 128) (by omega) h2
      rw [sidLen_pos h2] at this ⊢
      simp only [Nat.add_sub_cancel_left] at this ⊢
      rw [Nat.add_comm, Nat.pow_succ]
      omega

/-- scanning the continuation octets of an arc accumulates their value -/
theorem scan_hi (n : Nat) : ∀ (w : Nat) (tail : List UInt8) (d1 : Nat) (out : List UInt8),
    w < 128 ^ n → (n ≥ 1 → 128 ^ (n - 1) ≤ w) → w < 33554432 →
    oidScan (sidHi n w ++ tail) 0 d1 out = oidScan tail w d1 out := by
  induction n with
  | zero =>
    intro w tail d1 out h1 _ _
    have : w = 0 := by simpa using h1
    subst this; rfl
  | succ n ih =>
    intro w tail d1 out h1 h2 h3
    have hge := h2 (by omega)
    simp only [Nat.add_sub_cancel] at hge
    rw [sidHi, List.append_assoc, ih (w / 128) _ d1 out
      (by rw [Nat.pow_succ] at h1; exact (Nat.div_lt_iff_lt_mul (by omega)).mpr h1)
      (by
        intro hn
        obtain ⟨m, rfl⟩ : ∃ m, n = m + 1 := ⟨n - 1, by omega⟩
        simp only [Nat.add_sub_cancel]
        rw [Nat.pow_succ] at hge
        exact (Nat.le_div_iff_mul_le (by omega)).mpr hge)
      (by omega)]
    simp only [List.cons_append, List.nil_append]
    rw [oidScan]
    have hx : (oct (128 + w % 128)).toNat = 128 + w % 128 := by rw [toNat_oct]; omega
    rw [if_neg (by omega), hx]
    have hnz : ¬(w / 128 = 0 ∧ 128 + w % 128 = 128) := by
      intro ⟨ha, hb⟩
      have hw0 : w = 0 := by omega
      have hpos : 0 < 128 ^ n := Nat.pow_pos (by omega)
      omega
    rw [if_neg hnz, if_neg (by omega)]
    congr 1
    omegaW

/-- scanning one encoded arc from a clean state reaches the "arc complete" branch with its value -/
theorem scan_arc (v : Nat) (hv : v < U32) (tail : List UInt8) (d1 : Nat) (out : List UInt8) :
    oidScan (derSIDEnc v ++ tail) 0 d1 out =
      if d1 = 3 then
        oidScan tail 0 0 (out ++ derSIDDec (if v < 40 then 0 else if v < 80 then 1 else 2) ++ [46] ++
          derSIDDec (if v < 40 then v else if v < 80 then v - 40 else v - 80))
      else oidScan tail 0 d1 (out ++ [46] ++ derSIDDec v) := by
  unfold derSIDEnc
  have hw : v / 128 < 33554432 := by omegaW
  have hcnt : (if v = 0 then 1 else sidLen v) - 1 = sidLen (v / 128) := by
    by_cases h0 : v = 0
    · subst h0; simp [sidLen_zero]
    · rw [if_neg h0, sidLen_pos h0]; omega
  simp only []
  rw [hcnt, List.append_assoc, scan_hi (sidLen (v / 128)) (v / 128) _ d1 out (lt_pow_sidLen _)
    (by
      intro hn
      apply pow_sidLen_le
      intro hz; rw [hz, sidLen_zero] at hn; omega) hw]
  simp only [List.cons_append, List.nil_append]
  rw [oidScan]
  have hx : (oct (v % 128)).toNat = v % 128 := by rw [toNat_oct]; omega
  rw [if_neg (by omega), hx, if_neg (by omega), if_pos (by omega)]
  have hm : (v / 128 * 128 + v % 128 % 128) % U32 = v := by omegaW
  rw [hm]


/-- end-of-number test of oidIsValid -/
def endBad (pos n val d1 : Nat) : Prop :=
  pos = 0 ∨ (n = 0 ∧ val > 2) ∨ (n = 1 ∧ d1 < 2 ∧ val ≥ 40) ∨ (n = 1 ∧ val > U32_MAX - 40 * d1)

/-- reading a number with the validity automaton: the characters up to the next '.' (or the end) are
    the canonical decimal print-out of a 32-bit value that passes the end-of-number test -/
theorem oidLoop_parse (s : List UInt8) : ∀ (val d1 pos n c0 : Nat) (ds : List UInt8),
    pos = ds.length → (ds = [] → val = 0) → (ds ≠ [] → derSIDDec val = ds ∧ val < U32 ∧ c0 = (ds.headD 0).toNat) →
    oidLoop s val d1 pos n c0 = true →
    ∃ v more, derSIDDec v = ds ++ more ∧ v < U32 ∧ ¬ endBad (ds ++ more).length n v d1 ∧
      ((s = more ∧ n + 1 ≥ 2) ∨ ∃ s', s = more ++ 46 :: s' ∧ oidLoop s' 0 (if n = 0 then v else d1) 0 (n + 1) 0 = true) := by
  induction s with
  | nil =>
    intro val d1 pos n c0 ds hpos hnil hcons h
    rw [oidLoop] at h
    by_cases hb : pos = 0 ∨ (n = 0 ∧ val > 2) ∨ (n = 1 ∧ d1 < 2 ∧ val ≥ 40) ∨ (n = 1 ∧ val > U32_MAX - 40 * d1)
    · rw [if_pos hb] at h; cases h
    · rw [if_neg hb] at h
      have hne : ds ≠ [] := by
        intro hd; apply hb; left; rw [hpos, hd]; rfl
      obtain ⟨hd, hv, _⟩ := hcons hne
      refine ⟨val, [], by simpa using hd, hv, ?_, Or.inl ⟨rfl, by simpa using h⟩⟩
      unfold endBad; rw [List.append_nil, ← hpos]; exact hb
  | cons c t ih =>
    intro val d1 pos n c0 ds hpos hnil hcons h
    rw [oidLoop] at h
    by_cases hdot : c.toNat = 46
    · rw [if_pos hdot] at h
      by_cases hb : pos = 0 ∨ (n = 0 ∧ val > 2) ∨ (n = 1 ∧ d1 < 2 ∧ val ≥ 40) ∨ (n = 1 ∧ val > U32_MAX - 40 * d1)
      · rw [if_pos hb] at h; cases h
      · rw [if_neg hb] at h
        have hne : ds ≠ [] := by
          intro hd; apply hb; left; rw [hpos, hd]; rfl
        obtain ⟨hd, hv, _⟩ := hcons hne
        have hc : c = 46 := by
          have := UInt8.ofNat_toNat (x := c); rw [hdot] at this; exact this.symm
        refine ⟨val, [], by simpa using hd, hv, ?_, Or.inr ⟨t, by rw [hc]; simp, h⟩⟩
        unfold endBad; rw [List.append_nil, ← hpos]; exact hb
    · rw [if_neg hdot] at h
      by_cases hbad : c.toNat < 48 ∨ c.toNat > 57 ∨ (pos = 1 ∧ c0 = 48) ∨ val > U32_MAX / 10 ∨
          (val = U32_MAX / 10 ∧ c.toNat - 48 > U32_MAX % 10)
      · rw [if_pos hbad] at h; cases h
      · rw [if_neg hbad] at h
        have hval' : (val * 10 + (c.toNat - 48)) % U32 = val * 10 + (c.toNat - 48) := by omegaW
        rw [hval'] at h
        have hcdig : c = oct (48 + (c.toNat - 48)) := by
          symm; apply oct_eq_of_nat; have := UInt8.toNat_lt c; omega
        -- the new state is consistent
        have hnew : derSIDDec (val * 10 + (c.toNat - 48)) = ds ++ [c] := by
          by_cases hd : ds = []
          · have hv0 := hnil hd
            subst hd; subst hv0
            rw [Nat.zero_mul, Nat.zero_add, derSIDDec_small (by omega)]
            simp only [List.nil_append]
            rw [← hcdig]
          · obtain ⟨hdd, hv, hc0⟩ := hcons hd
            have hval1 : 1 ≤ val := by
              by_cases hp1 : pos = 1
              · -- single digit so far, not '0'
                have hlen : (derSIDDec val).length = 1 := by rw [hdd, ← hpos, hp1]
                rw [derSIDDec_length] at hlen
                have hv10 : val < 10 := by
                  apply Classical.byContradiction; intro hc; have := decLen_ge2 hc; omega
                rw [derSIDDec_small hv10] at hdd
                have hc048 : c0 ≠ 48 := fun hc => hbad (Or.inr (Or.inr (Or.inl ⟨hp1, hc⟩)))
                rw [← hdd] at hc0
                simp only [List.headD_cons] at hc0
                rw [digit_toNat val hv10] at hc0
                omega
              · have hlen : (derSIDDec val).length = pos := by rw [hdd, ← hpos]
                rw [derSIDDec_length] at hlen
                have hp0 : pos ≠ 0 := by
                  intro hz; apply hd; apply List.eq_nil_of_length_eq_zero; omega
                apply Classical.byContradiction; intro hc
                have hv0 : val = 0 := by omega
                rw [hv0, decLen_small (by omega)] at hlen
                omega
            rw [derSIDDec_big (by omega)]
            have e1 : (val * 10 + (c.toNat - 48)) / 10 = val := by omega
            have e2 : (val * 10 + (c.toNat - 48)) % 10 = c.toNat - 48 := by omega
            rw [e1, e2, hdd, ← hcdig]
        obtain ⟨v, more, hv1, hv2, hv3, hv4⟩ := ih (val * 10 + (c.toNat - 48)) d1 (pos + 1) n (if pos = 0 then c.toNat else c0) (ds ++ [c])
          (by simp [hpos]) (by simp)
          (fun _ => ⟨hnew, by omegaW, by
            by_cases hd : ds = []
            · subst hd; simp at hpos; simp [hpos]
            · obtain ⟨_, _, hc0⟩ := hcons hd
              have hp0 : pos ≠ 0 := by
                intro hz; apply hd; apply List.eq_nil_of_length_eq_zero; omega
              rw [if_neg hp0, hc0]
              cases ds with
              | nil => exact absurd rfl hd
              | cons a tl => simp⟩) h
        refine ⟨v, c :: more, by rw [hv1]; simp, hv2, by simpa using hv3, ?_⟩
        rcases hv4 with ⟨he, hn⟩ | ⟨s', he, hl⟩
        · exact Or.inl ⟨by rw [he], hn⟩
        · exact Or.inr ⟨s', by rw [he]; simp, hl⟩


theorem scan_tail (vs : List Nat) (hvs : ∀ w ∈ vs, w < U32) (out : List UInt8) :
    oidScan (encTail vs) 0 0 out = .ok (0, out ++ renderTail vs) := by
  induction vs generalizing out with
  | nil => simp [encTail, renderTail, oidScan]
  | cons v vs ih =>
    rw [encTail, scan_arc v (hvs v (by simp)), if_neg (by omega), ih (fun w hw => hvs w (by simp [hw]))]
    simp [renderTail]

/-- after the first two numbers the automaton accepts exactly ".v.v…" with 32-bit canonical decimals -/
theorem parse_tail : ∀ (k : Nat) (s : List UInt8) (d1 n : Nat), s.length ≤ k → n ≥ 2 →
    oidLoop s 0 d1 0 n 0 = true → ∃ v vs, v < U32 ∧ (∀ w ∈ vs, w < U32) ∧ s = derSIDDec v ++ renderTail vs := by
  intro k
  induction k with
  | zero =>
    intro s d1 n hl hn h
    have : s = [] := List.eq_nil_of_length_eq_zero (by omega)
    subst this
    rw [oidLoop] at h; simp at h
  | succ k ih =>
    intro s d1 n hl hn h
    obtain ⟨v, more, hv1, hv2, _, hv4⟩ := oidLoop_parse s 0 d1 0 n 0 [] rfl (fun _ => rfl) (fun h => absurd rfl h) h
    simp only [List.nil_append] at hv1
    rcases hv4 with ⟨he, _⟩ | ⟨s', he, hl'⟩
    · exact ⟨v, [], hv2, by simp, by rw [he, hv1]; simp [renderTail]⟩
    · have hlen : s'.length ≤ k := by
        have := congrArg List.length he
        simp at this; omega
      rw [if_neg (by omega)] at hl'
      obtain ⟨v', vs, hv', hvs, hs'⟩ := ih s' d1 (n + 1) hlen (by omega) hl'
      refine ⟨v, v' :: vs, hv2, ?_, ?_⟩
      · exact List.forall_mem_cons.mpr ⟨hv', hvs⟩
      · rw [he, ← hv1, hs']; simp [renderTail]

/-- a valid OID string is "d.v" followed by ".w" for 32-bit canonical decimals, d ≤ 2,
    v < 40 unless d = 2, and 40·d + v fits 32 bits -/
theorem oidIsValid_shape (s : List UInt8) (h : oidIsValid s = true) :
    ∃ d v vs, d ≤ 2 ∧ (d < 2 → v < 40) ∧ v + 40 * d < U32 ∧ (∀ w ∈ vs, w < U32) ∧
      s = oct (48 + d) :: 46 :: derSIDDec v ++ renderTail vs := by
  unfold oidIsValid at h
  obtain ⟨d, more, hd1, hd2, hd3, hd4⟩ := oidLoop_parse s 0 0 0 0 0 [] rfl (fun _ => rfl) (fun h => absurd rfl h) h
  simp only [List.nil_append] at hd1 hd3
  unfold endBad at hd3
  have hdle : d ≤ 2 := by
    apply Classical.byContradiction; intro hc; exact hd3 (Or.inr (Or.inl ⟨rfl, by omega⟩))
  rcases hd4 with ⟨_, hn⟩ | ⟨s', he, hl⟩
  · omega
  · simp only [if_true] at hl
    obtain ⟨v, more2, hv1, hv2, hv3, hv4⟩ := oidLoop_parse s' 0 d 0 1 0 [] rfl (fun _ => rfl) (fun h => absurd rfl h) hl
    simp only [List.nil_append] at hv1 hv3
    unfold endBad at hv3
    have hc1 : d < 2 → v < 40 := by
      intro hd; apply Classical.byContradiction; intro hc
      exact hv3 (Or.inr (Or.inr (Or.inl ⟨rfl, hd, by omega⟩)))
    have hc2 : v + 40 * d < U32 := by
      apply Classical.byContradiction; intro hc
      exact hv3 (Or.inr (Or.inr (Or.inr ⟨rfl, by omegaW⟩)))
    have hdd : more = [oct (48 + d)] := by rw [← hd1, derSIDDec_small (by omega)]
    rcases hv4 with ⟨he2, _⟩ | ⟨s'', he2, hl2⟩
    · refine ⟨d, v, [], hdle, hc1, hc2, by simp, ?_⟩
      rw [he, hdd, he2, ← hv1]; simp [renderTail]
    · rw [if_neg (by omega)] at hl2
      obtain ⟨v', vs, hv', hvs, hs''⟩ := parse_tail s''.length s'' d 2 (Nat.le_refl _) (by omega) hl2
      refine ⟨d, v, v' :: vs, hdle, hc1, hc2, ?_, ?_⟩
      · exact List.forall_mem_cons.mpr ⟨hv', hvs⟩
      · rw [he, hdd, he2, ← hv1, hs'']; simp [renderTail]


theorem derSIDEnc_snoc (v : Nat) : ∃ hi, derSIDEnc v = hi ++ [oct (v % 128)] := by
  unfold derSIDEnc; exact ⟨_, rfl⟩

theorem encAll_last (x : Nat) (vs : List Nat) :
    ∃ init last, derSIDEnc x ++ encTail vs = init ++ [last] ∧ last.toNat < 128 := by
  induction vs generalizing x with
  | nil =>
    obtain ⟨hi, h⟩ := derSIDEnc_snoc x
    exact ⟨hi, oct (x % 128), by simp [encTail, h], by rw [toNat_oct]; omega⟩
  | cons v vs ih =>
    obtain ⟨init, last, h, hl⟩ := ih v
    exact ⟨derSIDEnc x ++ init, last, by rw [encTail, h]; simp, hl⟩

theorem oidV_enc (s : List UInt8) (hv : oidIsValid s = true) : ∃ V, derOIDEnc s = derEnc 6 V ∧ oidV V = some s := by
  obtain ⟨d, v, vs, hd2, hd40, hX, hvs, hs⟩ := oidIsValid_shape s hv
  have hvlt : v < U32 := by omega
  refine ⟨derSIDEnc (v + 40 * d) ++ encTail vs, ?_, ?_⟩
  · rw [hs]; exact derOIDEnc_shape d v vs hd2 hd40 hX hvs
  · obtain ⟨init, last, hVl, hlast⟩ := encAll_last (v + 40 * d) vs
    unfold oidV
    rw [scan_arc (v + 40 * d) hX, if_pos rfl]
    have hsplit : (if v + 40 * d < 40 then 0 else if v + 40 * d < 80 then 1 else 2) = d ∧
        (if v + 40 * d < 40 then v + 40 * d else if v + 40 * d < 80 then v + 40 * d - 40 else v + 40 * d - 80) = v := by
      constructor <;> (split <;> (try split) <;> omega)
    rw [hsplit.1, hsplit.2, scan_tail vs hvs]; simp only []
    rw [if_neg (by omega), hVl, List.getLast?_append, List.getLast?_singleton]; simp only [Option.some_or]
    rw [if_neg (by omega)]
    congr 1
    rw [hs, derSIDDec_small (by omega : d < 10)]
    simp

/-- ROUND TRIP (OID), any continuation -/
theorem derOID_code (s e rest : List UInt8) (he : derOIDEnc s = .ok e) (hl : (e ++ rest).length < W) :
    derOIDDec (e ++ rest) = .ok (s, e.length) := by
  have hv : oidIsValid s = true := by
    unfold derOIDEnc at he
    by_cases hv : oidIsValid s = true
    · exact hv
    · have hf : oidIsValid s = false := by simpa using hv
      rw [hf] at he; simp at he
  obtain ⟨V, henc, hV⟩ := oidV_enc s hv
  rw [he, derEnc_eq 6 V (by decide)] at henc
  cases henc
  rw [derOIDDec_eq _ hl]
  exact tlvDec_code hV 6 (by decide) (by decide) rest hl


/-! ### derOIDDec2 -/

theorem rdS_lt {s : List UInt8} {i : Nat} (h : i < s.length) : rdS s i = .ok s[i].toNat := by
  unfold rdS; rw [if_pos h, rd_of_lt h]

/-- the digit comparison of derSIDDec2: success means the next n characters are the n digits of t -/
theorem sidCmpLoop_spec (oid : List UInt8) (o : Nat) : ∀ (n t : Nat), o + n ≤ oid.length →
    sidCmpLoop oid o t n = .ok () → (oid.drop o).take n = decChars n t := by
  intro n
  induction n with
  | zero => intro t _ _; simp [decChars]
  | succ n ih =>
    intro t hl h
    unfold sidCmpLoop at h
    have hi : o + n < oid.length := by omega
    rw [rdS_lt hi] at h; simp only [] at h
    by_cases hc : oid[o + n].toNat ≠ 48 + t % 10
    · rw [if_pos hc] at h; cases h
    · rw [if_neg hc] at h
      have := ih (t / 10) (by omega) h
      rw [decChars, ← this, List.take_add_one]
      congr 1
      rw [List.getElem?_drop, List.getElem?_eq_getElem hi]
      simp only [Option.toList_some, List.cons.injEq, and_true]
      symm; apply oct_eq_of_nat
      have := UInt8.toNat_lt oid[o + n]
      omega

theorem derSIDDec2_spec (val : Nat) (oid : List UInt8) (o k : Nat) (h : derSIDDec2 val oid o = .ok k) :
    k = decLen val ∧ o + k ≤ oid.length ∧ (oid.drop o).take k = derSIDDec val := by
  unfold derSIDDec2 at h
  simp only [] at h
  by_cases hc : oid.length - o < decLen val
  · rw [if_pos hc] at h; cases h
  · rw [if_neg hc] at h
    have hl1 := decLen_pos val
    rcases sidCmpLoop_cases oid o val (decLen val) (by omega) with e | e
    · rw [e] at h; cases h
    · rw [e] at h; cases h
      exact ⟨rfl, by omega, sidCmpLoop_spec oid o _ val (by omega) e⟩

theorem rdS_dot (oid : List UInt8) (o ch : Nat) (h : rdS oid o = .ok ch) (hc : ch = 46) :
    o < oid.length ∧ oid.take o ++ [46] = oid.take (o + 1) := by
  unfold rdS at h
  by_cases hi : o < oid.length
  · rw [if_pos hi, rd_of_lt hi] at h
    injection h with h
    refine ⟨hi, ?_⟩
    rw [List.take_add_one, List.getElem?_eq_getElem hi]
    simp only [Option.toList_some, List.append_cancel_left_eq, List.cons.injEq, and_true]
    have := UInt8.ofNat_toNat (x := oid[o]); rw [h, hc] at this; exact this
  · rw [if_neg hi] at h
    split at h
    · injection h with h; omega
    · cases h

theorem oidDecLoop_mono (der : List UInt8) (off l : Nat) :
    ∀ n pos val d1 out d1f outf, n = l - pos → oidDecLoop der off l pos val d1 out = .ok (d1f, outf) →
    ∃ suf, outf = out ++ suf := by
  intro n
  induction n with
  | zero =>
    intro pos val d1 out d1f outf hn h
    rw [oidDecLoop, dif_neg (by omega)] at h
    cases h; exact ⟨[], by simp⟩
  | succ n ih =>
    intro pos val d1 out d1f outf hn h
    rw [oidDecLoop, dif_pos (by omega)] at h
    by_cases h1 : val / 33554432 ≠ 0
    · rw [if_pos h1] at h; cases h
    · rw [if_neg h1] at h
      cases hr : rd der (off + pos) with
      | ok b =>
        rw [hr] at h; simp only [] at h
        by_cases h2 : val = 0 ∧ b = 128
        · rw [if_pos h2] at h; cases h
        · rw [if_neg h2] at h
          by_cases h3 : b / 128 = 0
          · rw [if_pos h3] at h
            by_cases h4 : d1 = 3
            · rw [if_pos h4] at h
              obtain ⟨suf, hs⟩ := ih _ _ _ _ _ _ (by omega) h
              exact ⟨_, by rw [hs]; simp only [List.append_assoc]; rfl⟩
            · rw [if_neg h4] at h
              obtain ⟨suf, hs⟩ := ih _ _ _ _ _ _ (by omega) h
              exact ⟨_, by rw [hs]; simp only [List.append_assoc]; rfl⟩
          · rw [if_neg h3] at h
            exact ih _ _ _ _ _ _ (by omega) h
      | err => rw [hr] at h; cases h
      | oob => rw [hr] at h; cases h

theorem sidCmpLoop_of_eq (oid : List UInt8) (o : Nat) : ∀ (n t : Nat), o + n ≤ oid.length →
    (oid.drop o).take n = decChars n t → sidCmpLoop oid o t n = .ok () := by
  intro n
  induction n with
  | zero => intro t _ _; rfl
  | succ n ih =>
    intro t hl h
    have hi : o + n < oid.length := by omega
    rw [decChars, List.take_add_one, List.getElem?_drop, List.getElem?_eq_getElem hi] at h
    simp only [Option.toList_some] at h
    have hlen : ((oid.drop o).take n).length = (decChars n (t / 10)).length := by
      rw [decChars_length]; simp [List.length_take]; omega
    obtain ⟨h1, h2⟩ := List.append_inj h hlen
    unfold sidCmpLoop
    rw [rdS_lt hi]; simp only []
    have hv : oid[o + n].toNat = 48 + t % 10 := by
      have := List.cons.inj h2
      rw [this.1, toNat_oct]; omega
    rw [if_neg (by omega)]
    exact ih (t / 10) (by omega) h1

theorem derSIDDec2_of_eq (val : Nat) (oid : List UInt8) (o : Nat) (hl : o + decLen val ≤ oid.length)
    (h : (oid.drop o).take (decLen val) = derSIDDec val) : derSIDDec2 val oid o = .ok (decLen val) := by
  unfold derSIDDec2
  simp only []
  rw [if_neg (by omega), sidCmpLoop_of_eq oid o _ val hl h]

theorem slice_of_prefix (oid : List UInt8) (o e : Nat) (chunk suf : List UInt8) (h : oid.take e = oid.take o ++ chunk ++ suf)
    (ho : o ≤ e) (he : e ≤ oid.length) : (oid.drop o).take chunk.length = chunk ∧ o + chunk.length ≤ e := by
  have hl := congrArg List.length h
  simp only [List.length_take, List.length_append, Nat.min_eq_left he, Nat.min_eq_left (Nat.le_trans ho he)] at hl
  refine ⟨?_, by omega⟩
  have hd := congrArg (List.drop o) h
  rw [List.append_assoc, List.drop_left' (by simp; omega), List.drop_take] at hd
  have := congrArg (List.take chunk.length) hd
  rwa [List.take_take, Nat.min_eq_left (by omega), List.take_left' rfl] at this

/-- matching one printed chunk ".v" at position o of oid -/
theorem match_dot_num (oid : List UInt8) (o e v : Nat) (suf : List UInt8) (ho : o ≤ e) (he : e ≤ oid.length)
    (h : oid.take e = oid.take o ++ (46 :: derSIDDec v) ++ suf) :
    rdS oid o = .ok 46 ∧ derSIDDec2 v oid (o + 1) = .ok (decLen v) ∧ o + 1 + decLen v ≤ e ∧
      oid.take (o + 1 + decLen v) = oid.take o ++ (46 :: derSIDDec v) := by
  obtain ⟨hsl, hlen⟩ := slice_of_prefix oid o e (46 :: derSIDDec v) suf h ho he
  simp only [List.length_cons, derSIDDec_length] at hsl hlen
  have hi : o < oid.length := by omega
  have hd : oid.drop o = 46 :: (oid.drop (o + 1)) ∧ (oid.drop (o + 1)).take (decLen v) = derSIDDec v := by
    rw [List.drop_eq_getElem_cons hi, List.take_succ_cons] at hsl
    injection hsl with h1 h2
    exact ⟨by rw [List.drop_eq_getElem_cons hi, h1], h2⟩
  have h46 : oid[o] = 46 := by
    have := hd.1; rw [List.drop_eq_getElem_cons hi] at this; injection this
  refine ⟨by rw [rdS_lt hi, h46]; rfl, derSIDDec2_of_eq v oid (o + 1) (by omega) hd.2, by omega, ?_⟩
  rw [show o + 1 + decLen v = o + (decLen v + 1) by omega, List.take_add, hsl]

/-- derOIDDec2 succeeds exactly along the string derOIDDec writes: from position o of `oid` up to position e -/
theorem oidDec2Loop_iff (der : List UInt8) (off l : Nat) (oid : List UInt8) :
    ∀ n pos val d1 o d1f e, n = l - pos → o ≤ oid.length → (d1 = 3 ∨ d1 = 0) →
    (oidDec2Loop der off l pos val d1 oid o = .ok (d1f, e) ↔
      oidDecLoop der off l pos val d1 (oid.take o) = .ok (d1f, oid.take e) ∧ o ≤ e ∧ e ≤ oid.length) := by
  intro n
  induction n with
  | zero =>
    intro pos val d1 o d1f e hn ho hd
    rw [oidDec2Loop, dif_neg (by omega), oidDecLoop, dif_neg (by omega)]
    constructor
    · intro h; cases h; exact ⟨rfl, Nat.le_refl _, ho⟩
    · rintro ⟨h, h1, h2⟩
      injection h with h; injection h with e1 e2
      have := congrArg List.length e2
      simp only [List.length_take, Nat.min_eq_left ho, Nat.min_eq_left h2] at this
      rw [e1, this]
  | succ n ih =>
    intro pos val d1 o d1f e hn ho hd
    rw [oidDec2Loop, dif_pos (by omega), oidDecLoop, dif_pos (by omega)]
    by_cases h1 : val / 33554432 ≠ 0
    · rw [if_pos h1, if_pos h1]; exact iff_of_false nofun (fun h => nomatch h.1)
    · rw [if_neg h1, if_neg h1]
      cases hr : rd der (off + pos) with
      | ok b =>
        simp only []
        by_cases h2 : val = 0 ∧ b = 128
        · rw [if_pos h2, if_pos h2]; exact iff_of_false nofun (fun h => nomatch h.1)
        · rw [if_neg h2, if_neg h2]
          by_cases h3 : b / 128 = 0
          · rw [if_pos h3, if_pos h3]
            generalize (val * 128 + b % 128) % U32 = X
            -- ".v" at position o1: matched by derOIDDec2 exactly when derOIDDec writes it there
            have key : ∀ o1 v, o1 ≤ oid.length →
                ((match rdS oid o1 with
                  | .ok ch =>
                    if ch ≠ 46 then .err else
                    match derSIDDec2 v oid (o1 + 1) with
                    | .ok k => oidDec2Loop der off l (pos + 1) 0 0 oid (o1 + 1 + k)
                    | .err => .err
                    | .oob => .oob
                  | .err => .err
                  | .oob => .oob : R (Nat × Nat)) = .ok (d1f, e) ↔
                oidDecLoop der off l (pos + 1) 0 0 (oid.take o1 ++ [46] ++ derSIDDec v) = .ok (d1f, oid.take e) ∧
                  o1 ≤ e ∧ e ≤ oid.length) := by
              intro o1 v ho1
              constructor
              · intro h
                cases hrs : rdS oid o1 with
                | ok ch =>
                  rw [hrs] at h; simp only [] at h
                  by_cases h5 : ch ≠ 46
                  · rw [if_pos h5] at h; cases h
                  · rw [if_neg h5] at h
                    obtain ⟨hlt, hdot⟩ := rdS_dot oid o1 ch hrs (by omega)
                    cases hs2 : derSIDDec2 v oid (o1 + 1) with
                    | ok k2 =>
                      rw [hs2] at h; simp only [] at h
                      obtain ⟨_, hk2, hsl2⟩ := derSIDDec2_spec _ oid _ k2 hs2
                      have := (ih (pos + 1) 0 0 (o1 + 1 + k2) d1f e (by omega) hk2 (Or.inr rfl)).1 h
                      rw [List.take_add, hsl2, ← hdot] at this
                      exact ⟨this.1, by omega, this.2.2⟩
                    | err => rw [hs2] at h; cases h
                    | oob => rw [hs2] at h; cases h
                | err => rw [hrs] at h; cases h
                | oob => rw [hrs] at h; cases h
              · rintro ⟨h, h1, h2⟩
                obtain ⟨suf, hs⟩ := oidDecLoop_mono der off l _ _ _ _ _ _ _ rfl h
                obtain ⟨m1, m2, m3, m4⟩ := match_dot_num oid o1 e v suf h1 h2 (by rw [hs]; simp)
                rw [m1]; simp only []
                rw [if_neg (by omega), m2]; simp only []
                exact (ih (pos + 1) 0 0 _ d1f e (by omega) (by omega) (Or.inr rfl)).2 ⟨by rw [m4]; simpa using h, m3, h2⟩
            rcases hd with rfl | rfl
            · -- the first arc: the digit d, then ".v"
              simp only [if_true]
              generalize (if X < 40 then 0 else if X < 80 then 1 else 2) = d
              generalize (if X < 40 then X else if X < 80 then X - 40 else X - 80) = v
              constructor
              · intro h
                cases hs1 : derSIDDec2 d oid o with
                | ok k =>
                  rw [hs1] at h; simp only [] at h
                  obtain ⟨_, hk, hsl⟩ := derSIDDec2_spec _ oid o k hs1
                  have := (key (o + k) v hk).1 h
                  rw [List.take_add, hsl] at this
                  exact ⟨this.1, by omega, this.2.2⟩
                | err => rw [hs1] at h; cases h
                | oob => rw [hs1] at h; cases h
              · rintro ⟨h, h1, h2⟩
                obtain ⟨suf, hs⟩ := oidDecLoop_mono der off l _ _ _ _ _ _ _ rfl h
                obtain ⟨hsl, hlen⟩ := slice_of_prefix oid o e (derSIDDec d) ([46] ++ derSIDDec v ++ suf)
                  (by rw [hs]; simp) h1 h2
                rw [derSIDDec_length] at hsl hlen
                rw [derSIDDec2_of_eq d oid o (by omega) hsl]; simp only []
                exact (key (o + decLen d) v (by omega)).2 ⟨by rw [List.take_add, hsl]; exact h, hlen, h2⟩
            · simp only [show ¬ ((0 : Nat) = 3) by omega, if_false]
              exact key o X ho
          · rw [if_neg h3, if_neg h3]
            exact ih (pos + 1) _ d1 o d1f e (by omega) ho hd
      | err => exact iff_of_false nofun (fun h => nomatch h.1)
      | oob => exact iff_of_false nofun (fun h => nomatch h.1)

/-- derOIDDec2 accepts (der, oid) only if derOIDDec decodes der to exactly the string oid -/
theorem derOIDDec2_eq_dec (der oid : List UInt8) (hlen : der.length < W) (hstr : ∀ b ∈ oid, b ≠ 0) (c : Nat)
    (h : derOIDDec2 der oid = .ok c) : derOIDDec der = .ok (oid, c) := by
  unfold derOIDDec2 at h
  unfold derOIDDec
  rcases derDec2_cases der 6 hlen with e | ⟨off, l, c', e, _, _, _, hc, hcl⟩
  · rw [e] at h; cases h
  · rw [e] at h ⊢; simp only [] at h ⊢
    cases hl2 : oidDec2Loop der off l 0 0 3 oid 0 with
    | ok r =>
      obtain ⟨d1, o⟩ := r
      rw [hl2] at h; simp only [] at h
      obtain ⟨hfol, _, ho⟩ := (oidDec2Loop_iff der off l oid l 0 0 3 0 d1 o (by omega) (by omega) (Or.inl rfl)).1 hl2
      rw [List.take_zero] at hfol
      rw [hfol]; simp only []
      by_cases hd : d1 = 3
      · rw [if_pos hd] at h; cases h
      · rw [if_neg hd] at h ⊢
        cases hr : rd der (off + (l - 1)) with
        | ok last =>
          rw [hr] at h; simp only [] at h ⊢
          by_cases hla : last / 128 ≠ 0
          · rw [if_pos hla] at h; cases h
          · rw [if_neg hla] at h ⊢
            cases hrs : rdS oid o with
            | ok ch =>
              rw [hrs] at h; simp only [] at h
              by_cases hch : ch ≠ 0
              · rw [if_pos hch] at h; cases h
              · rw [if_neg hch] at h; cases h
                -- the terminating zero: o = |oid|
                have hoe : o = oid.length := by
                  unfold rdS at hrs
                  by_cases hi : o < oid.length
                  · rw [if_pos hi, rd_of_lt hi] at hrs
                    injection hrs with hrs
                    exfalso
                    have hz : oid[o].toNat = 0 := by omega
                    exact hstr oid[o] (List.getElem_mem hi) (toNat_zero_eq _ hz)
                  · omega
                rw [hoe, List.take_length]
            | err => rw [hrs] at h; cases h
            | oob => rw [hrs] at h; cases h
        | err => rw [hr] at h; cases h
        | oob => rw [hr] at h; cases h
    | err => rw [hl2] at h; cases h
    | oob => rw [hl2] at h; cases h


/-- derOIDDec returning `oid` implies derOIDDec2 accepts (der, oid) -/
theorem derOIDDec2_of_dec (der oid : List UInt8) (hlen : der.length < W) (c : Nat)
    (h : derOIDDec der = .ok (oid, c)) : derOIDDec2 der oid = .ok c := by
  unfold derOIDDec at h
  unfold derOIDDec2
  rcases derDec2_cases der 6 hlen with e | ⟨off, l, c', e, _, _, _, hc, hcl⟩
  · rw [e] at h; cases h
  · rw [e] at h ⊢; simp only [] at h ⊢
    cases hl1 : oidDecLoop der off l 0 0 3 [] with
    | ok r =>
      obtain ⟨d1, out⟩ := r
      rw [hl1] at h; simp only [] at h
      by_cases hd : d1 = 3
      · rw [if_pos hd] at h; cases h
      · rw [if_neg hd] at h
        cases hr : rd der (off + (l - 1)) with
        | ok last =>
          rw [hr] at h; simp only [] at h
          by_cases hla : last / 128 ≠ 0
          · rw [if_pos hla] at h; cases h
          · rw [if_neg hla] at h
            injection h with h; injection h with ho hc2
            subst ho; subst hc2
            have := (oidDec2Loop_iff der off l out l 0 0 3 0 d1 out.length (by omega) (by omega) (Or.inl rfl)).2
              ⟨by simpa using hl1, by omega, Nat.le_refl _⟩
            rw [this]; simp only []
            rw [if_neg hd, if_neg hla]
            have : rdS out out.length = .ok 0 := by unfold rdS; simp
            rw [this]; simp
        | err => rw [hr] at h; cases h
        | oob => rw [hr] at h; cases h
    | err => rw [hl1] at h; cases h
    | oob => rw [hl1] at h; cases h

/-- ROUND TRIP for the matcher: derOIDDec2 accepts the code of `oid`, followed by anything -/
theorem derOIDDec2_roundtrip (oid e rest : List UInt8) (he : derOIDEnc oid = .ok e) (hl : (e ++ rest).length < W) :
    derOIDDec2 (e ++ rest) oid = .ok e.length :=
  derOIDDec2_of_dec (e ++ rest) oid hl e.length (derOID_code oid e rest he hl)


end Bee2V.C08
