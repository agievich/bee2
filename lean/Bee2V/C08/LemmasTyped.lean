/-
C08 — typed values on top of TLV.  What `tlvDec` (LemmasCodec) accepts is the code of value octets the value decoder
accepts (`tlvDec_canonical`), and it decodes the code of such octets whatever follows (`tlvDec_code`); per type two
facts about lists remain (here for UINT, BIT): the value decoder accepts only what the encoder writes, and accepts
that.  SIZE is decoded on T and L directly and has its own walk.  SEQ anchors: Start + content + Stop = derEnc.
-/
import Bee2V.C08.LemmasTLV
import Bee2V.C08.LemmasCodec
namespace Bee2V.C08

theorem derDec2_parts (der : List UInt8) (hlen : der.length < W) (tag off len c : Nat)
    (h : derDec2 der tag = .ok (off, len, c)) :
    derDec der = .ok (tag, off, len, c) ∧ c = off + len ∧ c ≤ der.length := by
  rcases derDec2_cases der tag hlen with e | ⟨o, l, c', e, ed, _, _, hc, hl⟩
  · rw [e] at h; cases h
  · rw [e] at h; cases h; exact ⟨ed, hc, hl⟩

theorem derDec2_of_derDec (der : List UInt8) (tag off len c : Nat) (h : derDec der = .ok (tag, off, len, c)) :
    derDec2 der tag = .ok (off, len, c) := by
  unfold derDec2; rw [h]; simp

theorem slice_cons_len (der : List UInt8) (a n : Nat) (h1 : 0 < n) (h2 : a + n ≤ der.length) :
    (der.drop a).take n = der[a] :: (der.drop (a + 1)).take (n - 1) := by
  have := slice_cons der a (a + n) (by omega) h2
  rwa [Nat.add_sub_cancel_left, show a + n - (a + 1) = n - 1 by omega] at this

section
variable {α β : Type} {decV : List UInt8 → Option α} {k : α → Nat → β}

theorem tlvDec_canonical {der : List UInt8} {tag : Nat} {b : β} (hlen : der.length < W)
    (h : tlvDec decV k der tag = .ok b) :
    ∃ V a c, decV V = some a ∧ b = k a c ∧ V.length + 2 ≤ der.length ∧ derEnc tag V = .ok (der.take c) := by
  obtain ⟨off, V, c, a, hd, hs, h2, hl, hV, hb⟩ := tlvDec_ok hlen h
  refine ⟨V, a, c, hV, hb, by omega, ?_⟩
  have := derDec_canonical' der hlen tag off V.length c hd
  rwa [hs] at this

theorem tlvDec_can {der : List UInt8} {tag : Nat} {b : β} (hlen : der.length < W)
    (h : tlvDec decV k der tag = .ok b) :
    ∃ V a c, decV V = some a ∧ b = k a c ∧ c ≤ der.length ∧ der.take c = tlvCode tag V := by
  obtain ⟨off, V, c, a, hd, hs, _, _, hV, hb⟩ := tlvDec_ok hlen h
  obtain ⟨hc, ht, _⟩ := derDec_can der hlen tag off V.length c hd
  exact ⟨V, a, c, hV, hb, hc, by rw [ht, hs]⟩

theorem tlvDec_code {V : List UInt8} {a : α} (hV : decV V = some a) (tag : Nat) (hv : derTIsValid tag = true)
    (hlt : tag < U32) (rest : List UInt8) (hl : (tlvCode tag V ++ rest).length < W) :
    tlvDec decV k (tlvCode tag V ++ rest) tag = .ok (k a (tlvCode tag V).length) := by
  obtain ⟨hd, hs⟩ := derDec_code tag V rest hv hlt hl
  unfold tlvDec
  rw [derDec2_of_derDec _ _ _ _ _ hd]; simp only []
  rw [hs, hV]

theorem tlvDec_roundtrip {V : List UInt8} {a : α} (hV : decV V = some a) (tag : Nat) (hv : derTIsValid tag = true)
    (hlt : tag < U32) (rest : List UInt8) (hlen : 13 + V.length + rest.length < W) :
    ∃ e, derEnc tag V = .ok e ∧ (e ++ rest).length < W ∧ tlvDec decV k (e ++ rest) tag = .ok (k a e.length) := by
  have hl : (tlvCode tag V ++ rest).length < W := by
    have := tlvCode_le tag V hlt (by omega)
    rw [List.length_append]; omega
  exact ⟨_, derEnc_eq tag V hv, hl, tlvDec_code hV tag hv hlt rest hl⟩
end

/-! ### SIZE -/

theorem sizeLoop_eq (der : List UInt8) (len v pos : Nat) : sizeLoop der len v pos = lDecLoop der len v pos := by
  fun_induction sizeLoop der len v pos with
  | case1 v pos h b hb ih => rw [lDecLoop, dif_pos h, hb]; exact ih
  | case2 v pos h hb => exact absurd hb (rd_ne_err _ _)
  | case3 v pos h hb => rw [lDecLoop, dif_pos h, hb]
  | case4 v pos h => rw [lDecLoop, dif_neg h]

theorem sizeLen_small {v : Nat} (h : v < 256) : sizeLen v = 1 + v / 128 := by
  rw [sizeLen, dif_neg (by omega)]
theorem sizeLen_big {v : Nat} (h : v ≥ 256) : sizeLen v = 1 + sizeLen (v / 256) := by
  rw [sizeLen, dif_pos h]
theorem sizeLen_mul_add {v : Nat} (hv : v ≠ 0) (c : Nat) (hc : c < 256) : sizeLen (v * 256 + c) = 1 + sizeLen v := by
  rw [sizeLen_big (by omega)]
  congr 2; omega
theorem sizeLen_beVal (bs : List UInt8) (acc : Nat) (h : acc ≠ 0) : sizeLen (beVal bs acc) = sizeLen acc + bs.length := by
  induction bs generalizing acc with
  | nil => simp
  | cons b bs ih =>
    simp only [beVal_cons, List.length_cons]
    rw [ih _ (by have := UInt8.toNat_lt b; omega), sizeLen_mul_add h _ (UInt8.toNat_lt b)]
    omega

/-- what derTSIZEDec accepts -/
theorem derTSIZEDec_spec (der : List UInt8) (tag v c : Nat) (h : derTSIZEDec der tag = .ok (v, c)) :
    ∃ k k2 len, derTDec der = .ok (tag, k) ∧ derLDec (der.drop k) = .ok (len, k2) ∧ c = k + k2 + len ∧ c ≤ der.length ∧
      1 ≤ len ∧ len ≤ 9 ∧
      ∃ d0 tl, (der.drop (k + k2)).take len = d0 :: tl ∧ d0.toNat < 128 ∧
        (d0.toNat = 0 → len > 1 → ∃ d1 tl', tl = d1 :: tl' ∧ 128 ≤ d1.toNat) ∧ (len = 9 → d0.toNat = 0) ∧
        v = beVal (d0 :: tl) 0 % W := by
  revert h
  fun_cases derTSIZEDec der tag <;> intro h <;> first | (simp only [reduceCtorEq] at h; done) | skip
  next t k eT ht der1 len k2 eL h3 der2 h4 d0 hr0 c2 bad hc2 hbad vv hv =>
    simp only [c2, der2, der1, List.drop_drop] at eL h4 hr0 hc2 hv
    clear c2 der2 der1
    obtain ⟨rfl, rfl⟩ := Prod.mk.inj (R.ok.inj h)
    obtain rfl : t = tag := by omega
    obtain ⟨hk1, hk4, hkl⟩ : 1 ≤ k ∧ k ≤ 4 ∧ k ≤ der.length := by
      rcases derTDec_cases der with e | ⟨_, _, e, hb⟩
      · rw [eT] at e; cases e
      · rw [eT] at e; cases e; exact hb
    obtain ⟨h1, h9, hl, _⟩ : 1 ≤ k2 ∧ k2 ≤ 9 ∧ k2 ≤ (der.drop k).length ∧ len < SIZE_MAX := by
      rcases derLDec_cases (der.drop k) with e | ⟨_, _, e, hb⟩
      · rw [eL] at e; cases e
      · rw [eL] at e; cases e; exact hb
    rw [List.length_drop] at h4 hl
    rw [rd_drop, Nat.add_zero] at hr0
    obtain ⟨hi0, rfl⟩ := rd_ok hr0
    have hsl := slice_cons_len der (k + k2) len (by omega) (by omega)
    obtain ⟨vv', ev, hvv, hlt⟩ := lDecLoop_val (der.drop (k + k2)) len 0 0 (by rw [List.length_drop]; omega) (by omega)
    rw [sizeLoop_eq, ev] at hv
    obtain rfl := R.ok.inj hv
    rw [List.drop_drop, Nat.add_zero, Nat.sub_zero, Nat.mod_eq_of_lt (hlt (by omegaW)), hsl] at hvv
    have hbad' : bad = false := by simpa using hbad
    subst hbad'
    rw [Nat.mod_eq_of_lt (by omegaW)]
    refine ⟨k, k2, len, eT, eL, rfl, by omega, by omega, by omega, _, _, hsl, ?_, ?_, ?_, hvv⟩
    -- the sign / padding check came out false
    · by_cases h5 : der[k + k2].toNat ≥ 128
      · rw [if_pos h5] at hc2; cases hc2
      · omega
    · intro hz hl1
      rw [if_neg (by omega), if_pos ⟨hz, hl1⟩, rd_drop, rd_of_lt (show k + k2 + 1 < der.length by omega)] at hc2
      have hb := R.ok.inj hc2
      simp only [decide_eq_false_iff_not] at hb
      exact ⟨_, _, slice_cons_len der (k + k2 + 1) (len - 1) (by omega) (by omega), by omega⟩
    · intro h9'
      by_cases h5 : der[k + k2].toNat ≥ 128
      · rw [if_pos h5] at hc2; cases hc2
      rw [if_neg h5] at hc2
      by_cases h6 : der[k + k2].toNat = 0 ∧ len > 1
      · exact h6.1
      · rw [if_neg h6] at hc2
        have hb := R.ok.inj hc2
        simp only [decide_eq_false_iff_not] at hb
        omega


theorem pow7 : (128 : Nat) * 256 ^ 7 = 9223372036854775808 := by decide

theorem derTSIZEDec_canonical' (der : List UInt8) (tag v c : Nat) (h : derTSIZEDec der tag = .ok (v, c)) :
    derTSIZEEnc tag v = .ok (der.take c) := by
  obtain ⟨k, k2, len, e1, e2, hc, hcl, hl1, hl9, d0, tl, hsl, hd0, hpad, h9, hv⟩ := derTSIZEDec_spec der tag v c h
  have hlen : ((der.drop (k + k2)).take len).length = len := by
    simp [List.length_take]; omega
  rw [hsl] at hlen
  simp only [List.length_cons] at hlen
  -- the value without reduction, its encoded length and octets
  have key : beVal (d0 :: tl) 0 < W ∧ sizeLen (beVal (d0 :: tl) 0) = len := by
    simp only [beVal_cons, Nat.zero_mul, Nat.zero_add]
    by_cases hz : d0.toNat = 0
    · by_cases hl : len > 1
      · obtain ⟨d1, tl', htl, hd1⟩ := hpad hz hl
        subst htl
        simp only [List.length_cons] at hlen
        rw [hz, beVal_cons, Nat.zero_mul, Nat.zero_add]
        have hb1 := UInt8.toNat_lt d1
        constructor
        · have hb := beVal_lt tl' d1.toNat
          have hp : 256 ^ tl'.length ≤ 256 ^ 7 := Nat.pow_le_pow_right (by omega) (by omega)
          have : (d1.toNat + 1) * 256 ^ tl'.length ≤ 256 * 256 ^ 7 := Nat.mul_le_mul (by omega) hp
          have e8 : (256 : Nat) * 256 ^ 7 = W := by decide
          omega
        · rw [sizeLen_beVal _ _ (by omega), sizeLen_small hb1]; omega
      · have : tl = [] := by
          cases tl with
          | nil => rfl
          | cons _ _ => simp at hlen; omega
        subst this
        rw [hz]; simp only [beVal_nil]
        exact ⟨by omegaW, by rw [sizeLen_small (by omega)]; simp at hlen; omega⟩
    · have hlt9 : len ≠ 9 := fun h => hz (h9 h)
      constructor
      · have hb := beVal_lt tl d0.toNat
        have hp : 256 ^ tl.length ≤ 256 ^ 7 := Nat.pow_le_pow_right (by omega) (by omega)
        have : (d0.toNat + 1) * 256 ^ tl.length ≤ 128 * 256 ^ 7 := Nat.mul_le_mul (by omega) hp
        rw [pow7] at this
        omegaW
      · rw [sizeLen_beVal _ _ hz, sizeLen_small (by omega)]; omega
  rw [Nat.mod_eq_of_lt key.1] at hv
  have hbe : beBytes len v = (der.drop (k + k2)).take len := by
    rw [hsl, hv]
    exact beBytes_beVal' len (d0 :: tl) (by simp; omega)
  unfold derTSIZEEnc
  rw [derTDec_canonical' der tag k e1]; simp only []
  rw [hv, key.2, ← hv, hbe, derLDec_canonical' _ len k2 e2, hc, List.take_add, List.take_add]


/-- sizeLen v is the least n ≥ 1 with v < 2^(8n-1) -/
theorem sizeLen_spec (v : Nat) : 1 ≤ sizeLen v ∧ v < 128 * 256 ^ (sizeLen v - 1) ∧
    (sizeLen v > 1 → 128 * 256 ^ (sizeLen v - 2) ≤ v) := by
  induction v using Nat.strongRecOn with
  | _ v ih =>
    by_cases h : v ≥ 256
    · rw [sizeLen_big h]
      obtain ⟨h1, h2, h3⟩ := ih (v / 256) (by omega)
      refine ⟨by omega, ?_, fun _ => ?_⟩
      · have e : 1 + sizeLen (v / 256) - 1 = (sizeLen (v / 256) - 1) + 1 := by omega
        rw [e, Nat.pow_succ]
        have : v / 256 < 128 * 256 ^ (sizeLen (v / 256) - 1) := h2
        omega
      · by_cases hs : sizeLen (v / 256) > 1
        · have := h3 hs
          have e : 1 + sizeLen (v / 256) - 2 = (sizeLen (v / 256) - 2) + 1 := by omega
          rw [e, Nat.pow_succ]
          omega
        · have e : 1 + sizeLen (v / 256) - 2 = 0 := by omega
          rw [e]; simp; omega
    · rw [sizeLen_small (by omega)]
      by_cases h2 : v < 128
      · have : v / 128 = 0 := by omega
        rw [this]; simp; omega
      · have : v / 128 = 1 := by omega
        rw [this]; simp; omega

theorem sizeLen_le9 {v : Nat} (h : v < W) : sizeLen v ≤ 9 := by
  obtain ⟨_, _, h3⟩ := sizeLen_spec v
  apply Classical.byContradiction
  intro hc
  have := h3 (by omega)
  have hp : 256 ^ 8 ≤ 256 ^ (sizeLen v - 2) := Nat.pow_le_pow_right (by omega) (by omega)
  rw [pow8] at hp
  omega

/-- the octets derTSIZEEnc writes for v: first octet < 128, padded with 00 only before an octet ≥ 128 -/
theorem sizeBytes_spec (v : Nat) (hv : v < W) :
    ∃ d0 tl, beBytes (sizeLen v) v = d0 :: tl ∧ d0.toNat < 128 ∧
      (d0.toNat = 0 → sizeLen v > 1 → ∃ d1 tl', tl = d1 :: tl' ∧ 128 ≤ d1.toNat) ∧ (sizeLen v = 9 → d0.toNat = 0) ∧
      beVal (beBytes (sizeLen v) v) 0 = v := by
  obtain ⟨h1, h2, h3⟩ := sizeLen_spec v
  generalize hn : sizeLen v = n at *
  obtain ⟨m, rfl⟩ : ∃ m, n = m + 1 := ⟨n - 1, by omega⟩
  simp only [Nat.add_sub_cancel] at h2
  have hpos : 0 < 256 ^ m := Nat.pow_pos (by omega)
  have hd0 : v / 256 ^ m < 128 := by rw [Nat.div_lt_iff_lt_mul hpos]; omega
  have hval : beVal (beBytes (m + 1) v) 0 = v := by
    rw [beVal_beBytes, Nat.mod_eq_of_lt]
    rw [Nat.pow_succ]; omega
  refine ⟨oct (v / 256 ^ m), beBytes m v, beBytes_succ_cons m v, ?_, ?_, ?_, hval⟩
  · rw [toNat_oct, Nat.mod_eq_of_lt (Nat.lt_trans hd0 (by decide))]; exact hd0
  · intro hz hgt
    rw [toNat_oct, Nat.mod_eq_of_lt (Nat.lt_trans hd0 (by decide))] at hz
    obtain ⟨j, rfl⟩ : ∃ j, m = j + 1 := ⟨m - 1, by omega⟩
    refine ⟨oct (v / 256 ^ j), beBytes j v, beBytes_succ_cons j v, ?_⟩
    have hlo := h3 (by omega)
    simp only [show j + 1 + 1 - 2 = j by omega] at hlo
    have hposj : 0 < 256 ^ j := Nat.pow_pos (by omega)
    have hvlt : v < 256 ^ (j + 1) := by
      have := (Nat.div_eq_zero_iff_lt hpos).mp hz
      exact this
    have hq : v / 256 ^ j < 256 := by
      rw [Nat.div_lt_iff_lt_mul hposj]; rw [Nat.pow_succ, Nat.mul_comm] at hvlt; exact hvlt
    have hq2 : 128 ≤ v / 256 ^ j := by rw [Nat.le_div_iff_mul_le hposj]; omega
    rw [toNat_oct, Nat.mod_eq_of_lt hq]; exact hq2
  · intro h9
    have : m = 8 := by omega
    subst this
    rw [toNat_oct, pow8, (Nat.div_eq_zero_iff_lt (by omegaW)).mpr hv]


theorem derTSIZE_roundtrip' (tag v : Nat) (hv : derTIsValid tag = true) (hlt : tag < U32) (hvW : v < W)
    (rest : List UInt8) :
    ∃ e, derTSIZEEnc tag v = .ok e ∧ derTSIZEDec (e ++ rest) tag = .ok (v, e.length) := by
  have hn9 := sizeLen_le9 hvW
  obtain ⟨hn1, _, _⟩ := sizeLen_spec v
  obtain ⟨d0, tl, hB, hd0, hpad, h9, hval⟩ := sizeBytes_spec v hvW
  have h4 := tCount_le4 tag hlt
  have hL := derLEnc_le9 (sizeLen v) (by omegaW)
  refine ⟨beBytes (tCount tag) tag ++ derLEnc (sizeLen v) ++ beBytes (sizeLen v) v, ?_, ?_⟩
  · unfold derTSIZEEnc; rw [derTEnc_ok tag hv]
  · unfold derTSIZEDec
    have e1 : beBytes (tCount tag) tag ++ derLEnc (sizeLen v) ++ beBytes (sizeLen v) v ++ rest =
        beBytes (tCount tag) tag ++ (derLEnc (sizeLen v) ++ (beBytes (sizeLen v) v ++ rest)) := by simp
    rw [e1, derT_roundtrip' tag hv hlt]; simp only []
    rw [if_neg (by omega), List.drop_left' (beBytes_length _ _), derL_roundtrip' (sizeLen v) (by omegaW)]; simp only []
    rw [if_neg (by omega), List.drop_left' rfl]
    have hBl : (beBytes (sizeLen v) v ++ rest).length = sizeLen v + rest.length := by simp [beBytes_length]
    rw [hBl, if_neg (by omega)]
    have hr0 : rd (beBytes (sizeLen v) v ++ rest) 0 = .ok d0.toNat := by rw [hB]; simp [rd]
    rw [hr0]; simp only []
    -- value loop
    obtain ⟨vv, ev, hvv, hvlt⟩ := lDecLoop_val (beBytes (sizeLen v) v ++ rest) (sizeLen v) 0 0 (by rw [hBl]; omega) (by omega)
    have hsl : (List.drop 0 (beBytes (sizeLen v) v ++ rest)).take (sizeLen v - 0) = beBytes (sizeLen v) v := by
      simp only [List.drop_zero, Nat.sub_zero]
      rw [List.take_append_of_le_length (by rw [beBytes_length]; exact Nat.le_refl _),
        List.take_of_length_le (by rw [beBytes_length]; exact Nat.le_refl _)]
    rw [hsl, hval, Nat.mod_eq_of_lt (hvlt (by omegaW)), Nat.mod_eq_of_lt hvW] at hvv
    subst hvv
    rw [sizeLoop_eq, ev]
    have hcnt : (tCount tag + (derLEnc (sizeLen vv)).length + sizeLen vv) % W =
        (beBytes (tCount tag) tag ++ derLEnc (sizeLen vv) ++ beBytes (sizeLen vv) vv).length := by
      rw [Nat.mod_eq_of_lt (by omegaW)]; simp [beBytes_length]; omega
    rw [hcnt]
    rw [if_neg (by omega)]
    by_cases hz : d0.toNat = 0 ∧ sizeLen vv > 1
    · obtain ⟨d1, tl', htl, hd1⟩ := hpad hz.1 hz.2
      have hr1 : rd (beBytes (sizeLen vv) vv ++ rest) 1 = .ok d1.toNat := by rw [hB, htl]; simp [rd]
      rw [if_pos hz, hr1]; simp only []
      have hb : decide (d1.toNat < 128 ∨ sizeLen vv = 9 ∧ d0.toNat ≠ 0) = false := by
        simp; omega
      rw [hb]; simp
    · rw [if_neg hz]; simp only []
      have hb : decide (sizeLen vv = 9 ∧ d0.toNat ≠ 0) = false := by
        simp; intro h; exact h9 h
      rw [hb]; simp


/-! ### UINT -/

theorem uintStrip_keep (val : List UInt8) (n : Nat) (h : n ≤ 1 ∨ val[n - 1]? ≠ some 0) : uintStrip val n = n := by
  cases n with
  | zero => rfl
  | succ m =>
    unfold uintStrip
    rw [if_neg]
    intro hc
    rcases h with h | h
    · omega
    · exact h (by simpa using hc.2)

theorem toNat_zero_eq (x : UInt8) (h : x.toNat = 0) : x = 0 := UInt8.toNat_inj.mp h

theorem uintStrip_spec (val : List UInt8) (n : Nat) (hn : 1 ≤ n) (hl : n ≤ val.length) :
    1 ≤ uintStrip val n ∧ uintStrip val n ≤ n ∧ (uintStrip val n = 1 ∨ val[uintStrip val n - 1]? ≠ some 0) := by
  induction n with
  | zero => omega
  | succ m ih =>
    unfold uintStrip
    by_cases hc : m + 1 > 1 ∧ val[m]? = some 0
    · rw [if_pos hc]
      have := ih (by omega) (by omega)
      exact ⟨this.1, by omega, this.2.2⟩
    · rw [if_neg hc]
      refine ⟨by omega, by omega, ?_⟩
      by_cases hm : m = 0
      · left; omega
      · right; simp only [Nat.add_sub_cancel]
        intro h; exact hc ⟨by omega, h⟩

/-- the value octets derTUINTEnc writes (most significant first, 00 in front if the high bit is set) -/
def uintBody (val : List UInt8) : List UInt8 :=
  let s := uintStrip val val.length
  match val[s - 1]? with
  | some top => ((val.take s) ++ (if top.toNat ≥ 128 then [0] else [])).reverse
  | none => []

theorem derTUINTEnc_eq (tag : Nat) (val : List UInt8) (hne : val ≠ []) (hW : val.length + 1 < W) :
    derTUINTEnc tag val = derEnc tag (uintBody val) := by
  have hl : 1 ≤ val.length := by
    cases val with
    | nil => exact absurd rfl hne
    | cons _ _ => simp
  obtain ⟨s1, s2, _⟩ := uintStrip_spec val val.length hl (Nat.le_refl _)
  unfold derTUINTEnc uintBody
  rw [if_neg (by omega)]
  have hi : uintStrip val val.length - 1 < val.length := by omega
  simp only [List.getElem?_eq_getElem hi]
  unfold derTLEnc derEnc
  cases hT : derTEnc tag with
  | ok t =>
    simp only []
    by_cases hb : val[uintStrip val val.length - 1].toNat ≥ 128
    · simp only [hb, if_true]
      have hlen : ((val.take (uintStrip val val.length)) ++ [0]).reverse.length = uintStrip val val.length + 1 := by
        rw [List.length_reverse, List.length_append, List.length_take, Nat.min_eq_left s2]; simp
      rw [hlen, Nat.mod_eq_of_lt (by omega)]
    · simp only [hb, if_false]
      have hlen : ((val.take (uintStrip val val.length)) ++ []).reverse.length = uintStrip val val.length := by
        rw [List.length_reverse, List.length_append, List.length_take, Nat.min_eq_left s2]; simp
      rw [hlen, Nat.add_zero, Nat.mod_eq_of_lt (by omega)]
      simp
  | err => rfl
  | oob => rfl


theorem take_reverse_cons (val : List UInt8) (s : Nat) (h1 : 1 ≤ s) (h2 : s ≤ val.length) :
    (val.take s).reverse = val[s - 1] :: (val.take (s - 1)).reverse := by
  obtain ⟨m, rfl⟩ : ∃ m, s = m + 1 := ⟨s - 1, by omega⟩
  simp only [Nat.add_sub_cancel]
  rw [List.take_add_one, List.getElem?_eq_getElem (by omega)]
  simp

theorem uintBody_rev (x : UInt8) (vt : List UInt8) (hx : x.toNat ≠ 0 ∨ vt = []) :
    uintBody ((x :: vt).reverse) = (if x.toNat ≥ 128 then [0] else []) ++ x :: vt := by
  have hlen : ((x :: vt).reverse).length = vt.length + 1 := by simp
  have hget : ((x :: vt).reverse)[vt.length]? = some x := by
    simp [List.reverse_cons]
  have hstrip : uintStrip ((x :: vt).reverse) (vt.length + 1) = vt.length + 1 := by
    apply uintStrip_keep
    rcases hx with h | h
    · right; simp only [Nat.add_sub_cancel]; rw [hget]
      intro hc; injection hc with hc; rw [hc] at h; exact h rfl
    · left; subst h; simp
  unfold uintBody
  simp only [hlen, hstrip, Nat.add_sub_cancel, hget]
  rw [← hlen, List.take_length]
  by_cases hb : x.toNat ≥ 128 <;> simp [hb]

theorem uintV_rev (x : UInt8) (vt : List UInt8) (hx : x.toNat ≠ 0 ∨ vt = []) :
    uintV ((if x.toNat ≥ 128 then [0] else []) ++ x :: vt) = some (x :: vt).reverse := by
  by_cases hb : x.toNat ≥ 128
  · rw [if_pos hb, List.cons_append, List.nil_append, uintV_cons, if_neg (by decide), if_pos (by decide),
      if_neg (by omega)]
  · rw [if_neg hb, List.nil_append]
    cases vt with
    | nil => rw [uintV_one, if_neg hb]; rfl
    | cons v1 tl => rw [uintV_cons, if_neg hb, if_neg (by rcases hx with h | h; exact h; cases h)]

theorem uintV_canon {V w : List UInt8} (h : uintV V = some w) :
    w ≠ [] ∧ w.length ≤ V.length ∧ uintBody w = V := by
  match V, h with
  | [], h => cases h
  | [v0], h =>
    rw [uintV_one] at h
    by_cases h1 : v0.toNat ≥ 128
    · rw [if_pos h1] at h; cases h
    · rw [if_neg h1] at h; cases h
      refine ⟨by simp, by simp, ?_⟩
      have := uintBody_rev v0 [] (Or.inr rfl)
      simpa [h1] using this
  | v0 :: v1 :: tl, h =>
    rw [uintV_cons] at h
    by_cases h1 : v0.toNat ≥ 128
    · rw [if_pos h1] at h; cases h
    · rw [if_neg h1] at h
      by_cases h2 : v0.toNat = 0
      · rw [if_pos h2] at h
        by_cases h3 : v1.toNat < 128
        · rw [if_pos h3] at h; cases h
        · rw [if_neg h3] at h; cases h
          refine ⟨by simp, by simp, ?_⟩
          rw [uintBody_rev v1 tl (Or.inl (by omega)), if_pos (by omega), toNat_zero_eq v0 h2]; rfl
      · rw [if_neg h2] at h; cases h
        refine ⟨by simp, by simp, ?_⟩
        rw [uintBody_rev v0 (v1 :: tl) (Or.inl h2), if_neg h1]; rfl

/-- the little-endian value seen from its most significant octet `x` -/
theorem uintBody_eq (val : List UInt8) (hne : val ≠ []) :
    ∃ x vt, val.take (uintStrip val val.length) = (x :: vt).reverse ∧ (x.toNat ≠ 0 ∨ vt = []) ∧
      uintBody val = (if x.toNat ≥ 128 then [0] else []) ++ x :: vt := by
  have hl : 1 ≤ val.length := by
    cases val with
    | nil => exact absurd rfl hne
    | cons _ _ => simp
  obtain ⟨s1, s2, s3⟩ := uintStrip_spec val val.length hl (Nat.le_refl _)
  have hi : uintStrip val val.length - 1 < val.length := by omega
  have hr := take_reverse_cons val _ s1 s2
  refine ⟨val[uintStrip val val.length - 1], (val.take (uintStrip val val.length - 1)).reverse, ?_, ?_, ?_⟩
  · rw [← hr, List.reverse_reverse]
  · rcases s3 with h | h
    · right; rw [h]; simp
    · left; intro hc; apply h
      rw [List.getElem?_eq_getElem hi, toNat_zero_eq _ hc]
  · unfold uintBody
    simp only [List.getElem?_eq_getElem hi]
    rw [List.reverse_append, hr]
    split <;> simp

/-! ### BIT -/

theorem take_dropLast_snoc (v : List UInt8) (m : Nat) (h : v.length = m + 1) :
    v.take m ++ [v[m]'(by omega)] = v := by
  have := List.take_add_one (l := v) (i := m)
  rw [List.getElem?_eq_getElem (by omega)] at this
  simp only [Option.toList_some] at this
  rw [← this]
  exact List.take_of_length_le (by omega)

/-- the bit string as it is written: unused bits of the last octet cleared -/
def bitClean (val : List UInt8) (len : Nat) : List UInt8 :=
  if len % 8 ≠ 0 then
    match val[len / 8]? with
    | some o => val.take (len / 8) ++ [maskHi o (len % 8)]
    | none => val
  else val

theorem bitClean_length (val : List UInt8) (len : Nat) (hvl : val.length = (len + 7) / 8) :
    (bitClean val len).length = val.length := by
  unfold bitClean
  split
  · have hi : len / 8 < val.length := by omega
    rw [List.getElem?_eq_getElem hi]; simp [List.length_take]; omega
  · rfl

theorem maskHi_toNat (o : UInt8) (k : Nat) :
    (maskHi o k).toNat = o.toNat / 2 ^ (8 - k) * 2 ^ (8 - k) := by
  unfold maskHi
  rw [toNat_oct, Nat.mod_eq_of_lt]
  have := Nat.div_mul_le_self o.toNat (2 ^ (8 - k))
  have := UInt8.toNat_lt o
  omega

theorem derTBITEnc_eq (tag : Nat) (val : List UInt8) (len : Nat) (hvl : val.length = (len + 7) / 8) (hl : len + 15 < W) :
    derTBITEnc tag val len =
      derEnc tag ((if len % 8 ≠ 0 then oct (8 - len % 8) else 0) :: bitClean val len) := by
  unfold derTBITEnc derEnc
  cases hT : derTEnc tag with
  | ok t =>
    simp only []
    rw [Nat.mod_eq_of_lt (by omega), Nat.mod_eq_of_lt hl, rdSlice_ok (by omega)]; simp only []
    have htk : List.take ((len + 7) / 8) (List.drop 0 val) = val := by
      rw [List.drop_zero]; exact List.take_of_length_le (by omega)
    rw [htk]
    have hbl : ((if len % 8 ≠ 0 then oct (8 - len % 8) else 0) :: bitClean val len).length = (len + 15) / 8 := by
      rw [List.length_cons, bitClean_length val len hvl]; omega
    rw [hbl]
    unfold bitClean
    by_cases hm : len % 8 ≠ 0
    · have hi : len / 8 < val.length := by omega
      simp only [hm, if_true, List.getElem?_eq_getElem hi, ne_eq, not_false_eq_true]
    · simp only [hm, if_false]
  | err => rfl
  | oob => rfl


/-- a value whose last octet has its `v0` low bits clear is what bitClean leaves untouched -/
theorem bitClean_id (v : List UInt8) (v0 bl m : Nat) (hv7 : v0 ≤ 7) (hm : v.length = m + 1)
    (hmod : bl % 8 = 8 - v0) (hdiv : bl / 8 = m) (hlast : (v[m]'(by omega)).toNat % 2 ^ v0 = 0) :
    bitClean v bl = v := by
  unfold bitClean
  rw [if_pos (by omega), hdiv, List.getElem?_eq_getElem (by omega)]
  dsimp only
  have hmask : maskHi v[m] (bl % 8) = v[m] := by
    unfold maskHi
    rw [hmod, show 8 - (8 - v0) = v0 by omega, Nat.div_mul_cancel (Nat.dvd_of_mod_eq_zero hlast), oct_toNat]
  rw [hmask]
  exact take_dropLast_snoc v m hm

/-- needs fix-2: the unused bits are zero -/
theorem bitV_canon {V v : List UInt8} {bl : Nat} (h : bitV V = some (v, bl)) (hW : V.length * 8 < W) :
    v.length = (bl + 7) / 8 ∧ bl ≤ V.length * 8 ∧
      (if bl % 8 ≠ 0 then oct (8 - bl % 8) else 0) :: bitClean v bl = V := by
  match V, h with
  | [], h => cases h
  | v0 :: tl, h =>
    rw [bitV_cons] at h
    simp only [List.length_cons] at hW
    by_cases h1 : v0.toNat > 7 ∨ (v0.toNat ≠ 0 ∧ tl.length = 0)
    · rw [if_pos h1] at h; cases h
    rw [if_neg h1] at h
    by_cases h2 : ((v0 :: tl)[tl.length]'(by simp)).toNat % 2 ^ v0.toNat ≠ 0
    · rw [if_pos h2] at h; cases h
    rw [if_neg h2, sub_mod_W (by omega) (by omega)] at h
    obtain ⟨rfl, rfl⟩ := Prod.mk.inj (Option.some.inj h)
    have h7 : v0.toNat ≤ 7 := by omega
    refine ⟨by omega, by simp only [List.length_cons]; omega, ?_⟩
    by_cases hz : v0.toNat = 0
    · rw [hz, Nat.sub_zero, if_neg (by omega), ← toNat_zero_eq _ hz]
      unfold bitClean
      rw [if_neg (by omega)]
    · have hl : 1 ≤ tl.length := by omega
      have hmod : (tl.length * 8 - v0.toNat) % 8 = 8 - v0.toNat := by omega
      have hlast : (tl[tl.length - 1]'(by omega)).toNat % 2 ^ v0.toNat = 0 := by
        have : (v0 :: tl)[tl.length]'(by simp) = tl[tl.length - 1]'(by omega) := by
          obtain ⟨m, hm⟩ : ∃ m, tl.length = m + 1 := ⟨tl.length - 1, by omega⟩
          simp only [hm, List.getElem_cons_succ, Nat.add_sub_cancel]
        rw [← this]; omega
      rw [if_pos (by omega), hmod, show 8 - (8 - v0.toNat) = v0.toNat by omega, oct_toNat,
        bitClean_id tl _ _ (tl.length - 1) h7 (by omega) hmod (by omega) hlast]

theorem bitV_body (val : List UInt8) (len : Nat) (hvl : val.length = (len + 7) / 8) (hl : len + 15 < W) :
    bitV ((if len % 8 ≠ 0 then oct (8 - len % 8) else 0) :: bitClean val len) = some (bitClean val len, len) := by
  have hcl := bitClean_length val len hvl
  rw [bitV_cons]
  by_cases hm : len % 8 ≠ 0
  · have hi : len / 8 < val.length := by omega
    have h0 : (oct (8 - len % 8)).toNat = 8 - len % 8 := by rw [toNat_oct]; omega
    have hbc : bitClean val len = val.take (len / 8) ++ [maskHi val[len / 8] (len % 8)] := by
      unfold bitClean
      simp only [hm, if_true, ne_eq, not_false_eq_true, List.getElem?_eq_getElem hi]
    have hlast : (oct (8 - len % 8) :: bitClean val len)[(bitClean val len).length]'(by simp) =
        maskHi val[len / 8] (len % 8) := by
      simp only [hbc]
      simp [List.length_take, Nat.min_eq_left (Nat.le_of_lt hi)]
    rw [if_pos hm, hlast, h0, maskHi_toNat, if_neg (by rw [hcl]; omega),
      if_neg (by rw [Nat.mul_mod_left]; exact fun h => h rfl), hcl,
      show val.length * 8 + W - (8 - len % 8) = len + W by omega, Nat.add_mod_right, Nat.mod_eq_of_lt (by omega)]
  · have h0 : (0 : UInt8).toNat = 0 := rfl
    rw [if_neg hm, h0, if_neg (by omega), Nat.pow_zero, Nat.mod_one, if_neg (fun h => h rfl), hcl, Nat.sub_zero,
      Nat.add_mod_right, Nat.mod_eq_of_lt (by omega), show val.length * 8 = len by omega]

/-! ### SEQ anchors -/

/-- SEQ encoding: Start, then the content, then Stop = derEnc of the content (the length octet written
    by Start is replaced by the final length code and the content is moved by the returned shift) -/
theorem derTSEQEnc_spec (pre content : List UInt8) (tag : Nat) (a : Anchor) (e0 : List UInt8)
    (hs : derTSEQEncStart pre.length tag = .ok (a, e0)) (htag : tag < U32) (hW : pre.length + content.length + 16 < W) :
    ∃ E, derEnc tag content = .ok E ∧
      derTSEQEncStop (pre ++ e0 ++ content) a = .ok (E.length - e0.length - content.length, pre ++ E) := by
  unfold derTSEQEncStart at hs
  by_cases hv : (!derTIsValid tag) = true ∨ (!derTIsConstructive tag) = true
  · rw [if_pos hv] at hs; cases hs
  · rw [if_neg hv] at hs
    have hvalid : derTIsValid tag = true := by
      cases h : derTIsValid tag
      · exact absurd (Or.inl (by simp [h])) hv
      · rfl
    have hT := derTEnc_ok tag hvalid
    unfold derEnc at hs ⊢
    rw [hT] at hs ⊢
    simp only [] at hs ⊢
    injection hs with hs
    injection hs with ha he0
    subst ha
    refine ⟨_, rfl, ?_⟩
    have hL0 : derLEnc ([] : List UInt8).length = [0] := by decide
    rw [hL0, List.append_nil] at he0
    subst he0
    generalize hTl : beBytes (tCount tag) tag = T
    have hTlen : T.length = tCount tag := by rw [← hTl, beBytes_length]
    have htl : tEncLen tag = T.length := by unfold tEncLen; rw [hT, hTl]
    have hLc := derLEnc_le9 content.length (by omega)
    unfold derTSEQEncStop
    simp only [List.length_append, List.length_cons, List.length_nil]
    rw [htl]
    have hl0 : (derLEnc 0).length = 1 := by decide
    rw [hl0]
    have h4 : T.length ≤ 4 := by rw [hTlen]; exact (tCount_le4 tag htag).2
    rw [if_neg (by rw [Nat.mod_eq_of_lt (by omega)]; omega)]
    have hlen : (pre.length + (T.length + (0 + 1)) + content.length + 3 * W - pre.length - T.length - 1) % W = content.length := by
      have : pre.length + (T.length + (0 + 1)) + content.length + 3 * W - pre.length - T.length - 1 = content.length + 3 * W := by omega
      rw [this]
      omegaW
    simp only [hlen]
    rw [if_pos (by omega)]
    have hshift : ((derLEnc content.length).length + W - 1) % W =
        (T ++ derLEnc content.length ++ content).length - (T ++ [0]).length - content.length := by
      rw [sub_mod_W (by omega) (by omega)]
      simp; omega
    have e1 : pre.length + (T.length + (0 + 1)) + content.length - content.length - 1 = (pre ++ T).length := by simp
    have e2 : pre.length + (T.length + (0 + 1)) + content.length - content.length = (pre ++ T ++ [0]).length := by simp
    have a1 : pre ++ (T ++ [0]) ++ content = (pre ++ T) ++ ([0] ++ content) := by simp
    have a2 : pre ++ (T ++ [0]) ++ content = (pre ++ T ++ [0]) ++ content := by simp
    have hbuf : List.take (pre.length + (T.length + (0 + 1)) + content.length - content.length - 1) (pre ++ (T ++ [0]) ++ content) ++
        derLEnc content.length ++
        List.drop (pre.length + (T.length + (0 + 1)) + content.length - content.length) (pre ++ (T ++ [0]) ++ content) =
        pre ++ (T ++ derLEnc content.length ++ content) := by
      rw [e1, e2]
      conv => lhs; arg 1; arg 1; rw [a1, List.take_left' rfl]
      conv => lhs; arg 2; rw [a2, List.drop_left' rfl]
      simp
    rw [hshift, hbuf]
    simp
    omega


/-- SEQ decoding: Stop succeeds only at the position Start + |TL| + len (also for lengths near SIZE_MAX:
    the pointer sum cannot wrap back into the buffer) -/
theorem derTSEQDec_spec (der : List UInt8) (tag : Nat) (a : Anchor) (k pos : Nat)
    (hs : derTSEQDecStart der tag = .ok (a, k)) (hstop : derTSEQDecStop pos a = .ok ()) :
    pos = k + a.len ∧ a.tag = tag ∧ k ≤ der.length := by
  unfold derTSEQDecStart at hs
  split at hs
  · cases hs
  · rcases derTDec_cases der with e | ⟨t, tc, e, hk1, hk4, hkl⟩
    · rw [e] at hs; cases hs
    · rw [e] at hs; simp only [] at hs
      by_cases ht : t ≠ tag
      · rw [if_pos ht] at hs; cases hs
      · rw [if_neg ht] at hs
        have ht' : t = tag := by omega
        subst ht'
        rcases derLDec_cases (der.drop tc) with e2 | ⟨l, lc, e2, h1, h9, hl, hsz⟩
        · rw [e2] at hs; cases hs
        · rw [e2] at hs; simp only [] at hs
          rw [List.length_drop] at hl
          have hm : (tc + lc) % W = tc + lc := Nat.mod_eq_of_lt (by omegaW)
          rw [hm] at hs
          cases hs
          have hT := derTDec_canonical' der t tc e
          have hL := derLDec_canonical' _ l lc e2
          have htl : tEncLen t = tc := by
            unfold tEncLen; rw [hT]; simp; omega
          have hll : (derLEnc l).length = lc := by
            rw [hL]; simp [List.length_take]; omega
          unfold derTSEQDecStop at hstop
          simp only [] at hstop
          rw [htl, hll, hm] at hstop
          by_cases hgt : tc + lc > pos
          · rw [if_pos hgt] at hstop; cases hstop
          · rw [if_neg hgt] at hstop
            by_cases heq : pos = (tc + lc + l) % W
            · refine ⟨?_, rfl, by omega⟩
              simp only []
              have : l < W := by omegaW
              omegaW
            · rw [if_neg heq] at hstop; cases hstop


end Bee2V.C08
