/-
C08 — base64, decimal strings, check digits: the lemmas behind the round trips (Props5).
-/
import Bee2V.C08.LemmasBE
namespace Bee2V.C08

/-! ### base64 -/

theorem b64_digit (n : Nat) (h : n < 64) : b64Dec (b64Ch n).toNat = n ∧ b64Ch n ≠ 61 := by
  have : n ∈ List.range 64 := by simp; omega
  revert n
  decide

theorem b64ToAux_block (c0 c1 c2 c3 : UInt8) (x : List UInt8) :
    b64ToAux (c0 :: c1 :: c2 :: c3 :: x) =
      oct ((((b64Dec c0.toNat * 64 + b64Dec c1.toNat) * 64 + b64Dec c2.toNat) * 64 + b64Dec c3.toNat) / 65536) ::
      oct ((((b64Dec c0.toNat * 64 + b64Dec c1.toNat) * 64 + b64Dec c2.toNat) * 64 + b64Dec c3.toNat) / 256) ::
      oct (((b64Dec c0.toNat * 64 + b64Dec c1.toNat) * 64 + b64Dec c2.toNat) * 64 + b64Dec c3.toNat) :: b64ToAux x := by
  rw [b64ToAux]

theorem b64Unpad_nopad (s : List UInt8) (h : s.length = 0 ∨ s[s.length - 1]? ≠ some 61) : b64Unpad s = s.length := by
  unfold b64Unpad
  simp only []
  by_cases hc : s.length ≠ 0 ∧ s[s.length - 1]? = some 61
  · rcases h with h | h
    · exact absurd h hc.1
    · exact absurd hc.2 h
  · simp only [hc, if_false]

theorem b64Unpad_append (q s : List UInt8) (hs : 2 ≤ s.length) : b64Unpad (q ++ s) = q.length + b64Unpad s := by
  unfold b64Unpad
  simp only [List.length_append]
  have e1 : (q ++ s)[q.length + s.length - 1]? = s[s.length - 1]? := by
    rw [List.getElem?_append_right (by omega)]; congr 1; omega
  have e2 : (q ++ s)[q.length + s.length - 2]? = s[s.length - 2]? := by
    rw [List.getElem?_append_right (by omega)]; congr 1; omega
  rw [e1, e2]
  have hq : (q.length + s.length ≠ 0) = True := eq_true (by omega)
  have hs0 : (s.length ≠ 0) = True := eq_true (by omega)
  simp only [hq, hs0, true_and]
  by_cases h1 : s[s.length - 1]? = some 61
  · simp only [h1, if_true]
    by_cases h2 : s[s.length - 2]? = some 61
    · simp only [h2, if_true]; omega
    · simp only [h2, if_false]; omega
  · simp only [h1, if_false]

theorem b64From_length (v : List UInt8) : (b64From v).length = 4 * ((v.length + 2) / 3) := by
  induction v using b64From.induct with
  | case1 a b c rest ih => simp only [b64From, List.length_cons, ih]; omega
  | case2 a b => simp [b64From]
  | case3 a => simp [b64From]
  | case4 => simp [b64From]

/-! ### decimal strings -/

theorem decTo_snoc (m : Nat) (s : List UInt8) (c : UInt8) :
    decTo m (s ++ [c]) = (decTo m s * 10 + (c.toNat - 48)) % m := by
  unfold decTo; rw [List.foldl_append]; rfl

theorem decChars_length (n v : Nat) : (decChars n v).length = n := by
  induction n generalizing v with
  | zero => rfl
  | succ n ih => simp [decChars, ih]

/-! ### check digits -/

theorem luhnSum_shift (f g : Nat → Nat) (x : UInt8) (l : List UInt8) :
    luhnSum f g (x :: l) = f (x.toNat - 48) + luhnSum g f l := by
  induction l using luhnSum.induct generalizing x with
  | case1 => simp [luhnSum]
  | case2 a => simp [luhnSum]
  | case3 a b rest ih =>
    rw [luhnSum]
    rw [ih b]
    conv => rhs; rw [luhnSum]
    omega

theorem dammStep_lt (cd d : Nat) (h1 : cd < 10) (h2 : d < 10) : dammStep cd d < 10 := by
  have key : ∀ cd ∈ List.range 10, ∀ d ∈ List.range 10, dammStep cd d < 10 := by decide
  exact key cd (by simp; omega) d (by simp; omega)

theorem dammStep_diag (d : Nat) (h : d < 10) : dammStep d d = 0 := by
  have key : ∀ d ∈ List.range 10, dammStep d d = 0 := by decide
  exact key d (by simp; omega)

theorem damm_state_lt (s : List UInt8) (hv : decIsValid s = true) (cd : Nat) (h : cd < 10) :
    s.foldl (fun cd c => dammStep cd (c.toNat - 48)) cd < 10 := by
  induction s generalizing cd with
  | nil => exact h
  | cons c t ih =>
    unfold decIsValid at hv
    simp only [List.all_cons, Bool.and_eq_true, decide_eq_true_eq] at hv
    simp only [List.foldl_cons]
    exact ih (by unfold decIsValid; exact hv.2) _ (dammStep_lt _ _ h (by omega))

end Bee2V.C08
