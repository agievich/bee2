/-
C08 — field T: derTIsValid on a tag given by its octets, canonical form and round trip of derTDec
(through `derTDec_eq`, Lemmas.lean).
-/
import Bee2V.C08.LemmasL
namespace Bee2V.C08

theorem tValidLoop_stop (tag t b r : Nat) (h : ¬ tag > 255) : tValidLoop tag t b r = some (tag, t, b) := by
  rw [tValidLoop, dif_neg h]

/-- one round of the loop of derTIsValid on a tag whose low octet is `y` -/
theorem tValidLoop_cons (a y t b r : Nat) (ha : a ≠ 0) (hy : y < 256) :
    tValidLoop (a * 256 + y) t b r =
      if y < 128 then none else tValidLoop a ((t + y % 128 * 2 ^ r) % U32) (y % 128) (r + 7) := by
  rw [tValidLoop, dif_pos (by omega), show (a * 256 + y) / 256 = a by omega, show (a * 256 + y) % 128 = y % 128 by omega]
  by_cases h : y < 128
  · rw [if_pos h, if_pos (by omega)]
  · rw [if_neg h, if_neg (by omega)]

/-- the final check of derTIsValid -/
def tValidFin : Option (Nat × Nat × Nat) → Bool
  | none => false
  | some (tag', t, b) => if t < 31 ∨ b = 0 ∨ tag' % 32 ≠ 31 then false else true

theorem derTIsValid_cons (a x : Nat) (ha : a ≠ 0) (hx : x < 256) :
    derTIsValid (a * 256 + x) = if 128 ≤ x then false else tValidFin (tValidLoop a x x 7) := by
  unfold derTIsValid
  rw [if_neg (by omega)]
  by_cases h : 128 ≤ x
  · rw [if_pos h, if_pos (by omega)]
  · rw [if_neg h, if_neg (by omega), show (a * 256 + x) / 256 = a by omega, show (a * 256 + x) % 128 = x by omega]
    rfl

theorem derTIsValid_1 (x0 : Nat) (h0 : x0 < 256) : derTIsValid x0 = true ↔ x0 % 32 ≠ 31 := by
  unfold derTIsValid
  rw [if_pos h0]
  by_cases h : x0 % 32 = 31 <;> simp [h]

theorem derTIsValid_2 (x0 x1 : Nat) (h0 : x0 ≠ 0) (hb0 : x0 < 256) (hb1 : x1 < 256) :
    derTIsValid (x0 * 256 + x1) = true ↔ x0 % 32 = 31 ∧ 31 ≤ x1 ∧ x1 < 128 := by
  rw [derTIsValid_cons _ _ h0 hb1, tValidLoop_stop _ _ _ _ (by omega)]
  by_cases c1 : 128 ≤ x1
  · rw [if_pos c1]; simp only [Bool.false_eq_true, false_iff]; omega
  · rw [if_neg c1]
    by_cases c : x1 < 31 ∨ x1 = 0 ∨ x0 % 32 ≠ 31
    · simp only [tValidFin, if_pos c, Bool.false_eq_true, false_iff]; omega
    · simp only [tValidFin, if_neg c, true_iff]; omega

theorem derTIsValid_3 (x0 x1 x2 : Nat) (h0 : x0 ≠ 0) (hb0 : x0 < 256) (hb1 : x1 < 256) (hb2 : x2 < 256) :
    derTIsValid ((x0 * 256 + x1) * 256 + x2) = true ↔ x0 % 32 = 31 ∧ 128 < x1 ∧ x2 < 128 := by
  rw [derTIsValid_cons _ _ (by omega) hb2, tValidLoop_cons _ _ _ _ _ h0 hb1, tValidLoop_stop _ _ _ _ (by omega)]
  by_cases c2 : 128 ≤ x2
  · rw [if_pos c2]; simp only [Bool.false_eq_true, false_iff]; omega
  · rw [if_neg c2]
    by_cases c1 : x1 < 128
    · rw [if_pos c1]; simp only [tValidFin, Bool.false_eq_true, false_iff]; omega
    · rw [if_neg c1]
      by_cases c : (x2 + x1 % 128 * 2 ^ 7) % U32 < 31 ∨ x1 % 128 = 0 ∨ x0 % 32 ≠ 31
      · simp only [tValidFin, if_pos c, Bool.false_eq_true, false_iff]
        rw [show (2:Nat) ^ 7 = 128 from rfl] at c; omegaW
      · simp only [tValidFin, if_neg c, true_iff]; omega


theorem derTIsValid_4 (x0 x1 x2 x3 : Nat) (h0 : x0 ≠ 0) (hb0 : x0 < 256) (hb1 : x1 < 256) (hb2 : x2 < 256)
    (hb3 : x3 < 256) :
    derTIsValid (((x0 * 256 + x1) * 256 + x2) * 256 + x3) = true ↔ x0 % 32 = 31 ∧ 128 < x1 ∧ 128 ≤ x2 ∧ x3 < 128 := by
  rw [derTIsValid_cons _ _ (by omega) hb3, tValidLoop_cons _ _ _ _ _ (by omega) hb2, tValidLoop_cons _ _ _ _ _ h0 hb1,
    tValidLoop_stop _ _ _ _ (by omega)]
  by_cases c3 : 128 ≤ x3
  · rw [if_pos c3]; simp only [Bool.false_eq_true, false_iff]; omega
  · rw [if_neg c3]
    by_cases c2 : x2 < 128
    · rw [if_pos c2]; simp only [tValidFin, Bool.false_eq_true, false_iff]; omega
    · rw [if_neg c2]
      by_cases c1 : x1 < 128
      · rw [if_pos c1]; simp only [tValidFin, Bool.false_eq_true, false_iff]; omega
      · rw [if_neg c1]
        by_cases c : ((x3 + x2 % 128 * 2 ^ 7) % U32 + x1 % 128 * 2 ^ (7 + 7)) % U32 < 31 ∨ x1 % 128 = 0 ∨ x0 % 32 ≠ 31
        · simp only [tValidFin, if_pos c, Bool.false_eq_true, false_iff]
          rw [show (2:Nat) ^ 7 = 128 from rfl, show (2:Nat) ^ (7 + 7) = 16384 from rfl] at c; omegaW
        · simp only [tValidFin, if_neg c, true_iff]; omega

theorem derTEnc_of (tag : Nat) (xs : List UInt8) (hv : derTIsValid tag = true) (hx : beVal xs 0 = tag)
    (hl : xs.length = if octLen tag = 0 then 1 else octLen tag) : derTEnc tag = .ok xs := by
  subst hx
  unfold derTEnc
  rw [hv]
  simp only [Bool.not_true, Bool.false_eq_true, if_false, ← hl]
  rw [beBytes_beVal' _ _ rfl]

/-- CANONICAL (T): the accepted octets are exactly the code of the decoded tag -/
theorem derTDec_canonical' (der : List UInt8) (tag k : Nat) (h : derTDec der = .ok (tag, k)) :
    derTEnc tag = .ok (der.take k) := by
  rw [derTDec_eq] at h
  match der with
  | [] => cases h
  | x0 :: r =>
    have hb0 := x0.toNat_lt
    simp only [tDecL] at h
    by_cases hl : x0.toNat % 32 = 31
    · rw [if_neg (fun hn => hn hl)] at h
      have h0 : x0.toNat ≠ 0 := by omega
      match r with
      | [] => cases h
      | x1 :: r =>
        have hb1 := x1.toNat_lt
        dsimp only at h
        by_cases hz : x1.toNat % 128 = 0
        · rw [if_pos hz] at h; cases h
        rw [if_neg hz] at h
        by_cases c1 : x1.toNat < 128
        · rw [if_pos c1] at h
          by_cases c31 : x1.toNat < 31
          · rw [if_pos c31] at h; cases h
          rw [if_neg c31] at h; cases h
          exact derTEnc_of _ [x0, x1] ((derTIsValid_2 _ _ h0 hb0 hb1).mpr ⟨hl, by omega, c1⟩)
            (by simp only [beVal_cons, beVal_nil, Nat.zero_mul, Nat.zero_add])
            (by rw [octLen_mul_add h0 _ hb1, octLen_small h0 hb0]; rfl)
        rw [if_neg c1] at h
        match r with
        | [] => cases h
        | x2 :: r =>
          have hb2 := x2.toNat_lt
          dsimp only at h
          by_cases c2 : x2.toNat < 128
          · rw [if_pos c2] at h; cases h
            exact derTEnc_of _ [x0, x1, x2] ((derTIsValid_3 _ _ _ h0 hb0 hb1 hb2).mpr ⟨hl, by omega, c2⟩)
              (by simp only [beVal_cons, beVal_nil, Nat.zero_mul, Nat.zero_add])
              (by rw [octLen_mul_add (by omega) _ hb2, octLen_mul_add h0 _ hb1, octLen_small h0 hb0]; rfl)
          rw [if_neg c2] at h
          match r with
          | [] => cases h
          | x3 :: r =>
            have hb3 := x3.toNat_lt
            dsimp only at h
            by_cases c3 : x3.toNat < 128
            · rw [if_pos c3] at h; cases h
              exact derTEnc_of _ [x0, x1, x2, x3] ((derTIsValid_4 _ _ _ _ h0 hb0 hb1 hb2 hb3).mpr ⟨hl, by omega, by omega, c3⟩)
                (by simp only [beVal_cons, beVal_nil, Nat.zero_mul, Nat.zero_add])
                (by rw [octLen_mul_add (by omega) _ hb3, octLen_mul_add (by omega) _ hb2, octLen_mul_add h0 _ hb1,
                  octLen_small h0 hb0]; rfl)
            · rw [if_neg c3] at h; cases h
    · rw [if_pos hl] at h; cases h
      refine derTEnc_of _ [x0] ((derTIsValid_1 _ hb0).mpr hl) (by simp only [beVal_cons, beVal_nil, Nat.zero_mul, Nat.zero_add]) ?_
      by_cases hz : x0.toNat = 0
      · rw [hz, octLen_zero]; rfl
      · rw [octLen_small hz hb0]; rfl


theorem octLen_r2 {v : Nat} (h1 : 256 ≤ v) (h2 : v < 65536) : octLen v = 2 := by
  rw [octLen_pos (by omega), octLen_small (by omega) (by omega)]
theorem octLen_r3 {v : Nat} (h1 : 65536 ≤ v) (h2 : v < 16777216) : octLen v = 3 := by
  rw [octLen_pos (by omega), octLen_r2 (by omega) (by omega)]
theorem octLen_r4 {v : Nat} (h1 : 16777216 ≤ v) (h2 : v < 4294967296) : octLen v = 4 := by
  rw [octLen_pos (by omega), octLen_r3 (by omega) (by omega)]

/-- number of octets derTEnc writes -/
def tCount (tag : Nat) : Nat := if octLen tag = 0 then 1 else octLen tag

theorem derT_roundtrip' (tag : Nat) (hv : derTIsValid tag = true) (hlt : tag < U32) (rest : List UInt8) :
    derTDec (beBytes (tCount tag) tag ++ rest) = .ok (tag, tCount tag) := by
  rw [derTDec_eq]
  unfold tCount
  by_cases r1 : tag < 256
  · have hk : (if octLen tag = 0 then 1 else octLen tag) = 1 := by
      by_cases hz : tag = 0
      · rw [hz, octLen_zero]; rfl
      · rw [octLen_small hz r1]; rfl
    have hl := (derTIsValid_1 tag r1).mp hv
    rw [hk]
    show tDecL (oct tag :: rest) = _
    simp only [tDecL, toNat_oct, Nat.mod_eq_of_lt r1, hl, ne_eq, not_false_eq_true, if_true]
  have hpos : (if 1 + 1 = 0 then 1 else 1 + 1) = 2 ∧ (if 1 + (1 + 1) = 0 then 1 else 1 + (1 + 1)) = 3 ∧
      (if 1 + (1 + (1 + 1)) = 0 then 1 else 1 + (1 + (1 + 1))) = 4 := ⟨rfl, rfl, rfl⟩
  by_cases r2 : tag < 65536
  · obtain ⟨u0, u1, h0, rfl⟩ : ∃ u0 u1 : UInt8, u0.toNat ≠ 0 ∧ tag = u0.toNat * 256 + u1.toNat :=
      ⟨oct (tag / 256), oct tag, by rw [toNat_oct]; omega, by rw [toNat_oct, toNat_oct]; omega⟩
    obtain ⟨hl, h31, h128⟩ := (derTIsValid_2 _ _ h0 u0.toNat_lt u1.toNat_lt).mp hv
    have hb := beBytes_beVal' 2 [u0, u1] rfl
    simp only [beVal_cons, beVal_nil, Nat.zero_mul, Nat.zero_add] at hb
    rw [octLen_mul_add h0 _ u1.toNat_lt, octLen_small h0 u0.toNat_lt, hpos.1, hb]
    simp only [tDecL, List.cons_append]
    rw [if_neg (fun hn => hn hl), if_neg (by omega), if_pos h128, if_neg (by omega)]
  by_cases r3 : tag < 16777216
  · obtain ⟨u0, u1, u2, h0, rfl⟩ : ∃ u0 u1 u2 : UInt8, u0.toNat ≠ 0 ∧
        tag = (u0.toNat * 256 + u1.toNat) * 256 + u2.toNat :=
      ⟨oct (tag / 65536), oct (tag / 256), oct tag, by rw [toNat_oct]; omega, by rw [toNat_oct, toNat_oct, toNat_oct]; omega⟩
    have hb0 := u0.toNat_lt
    have hb1 := u1.toNat_lt
    obtain ⟨hl, h1, h2⟩ := (derTIsValid_3 _ _ _ h0 hb0 hb1 u2.toNat_lt).mp hv
    have hb := beBytes_beVal' 3 [u0, u1, u2] rfl
    simp only [beVal_cons, beVal_nil, Nat.zero_mul, Nat.zero_add] at hb
    rw [octLen_mul_add (by omega) _ u2.toNat_lt, octLen_mul_add h0 _ hb1, octLen_small h0 hb0, hpos.2.1, hb]
    simp only [tDecL, List.cons_append]
    rw [if_neg (fun hn => hn hl), if_neg (by omega), if_neg (by omega), if_pos h2]
  · obtain ⟨u0, u1, u2, u3, h0, rfl⟩ : ∃ u0 u1 u2 u3 : UInt8, u0.toNat ≠ 0 ∧
        tag = ((u0.toNat * 256 + u1.toNat) * 256 + u2.toNat) * 256 + u3.toNat :=
      ⟨oct (tag / 16777216), oct (tag / 65536), oct (tag / 256), oct tag, by rw [toNat_oct]; omegaW,
        by rw [toNat_oct, toNat_oct, toNat_oct, toNat_oct]; omegaW⟩
    have hb0 := u0.toNat_lt
    have hb1 := u1.toNat_lt
    have hb2 := u2.toNat_lt
    obtain ⟨hl, h1, h2, h3⟩ := (derTIsValid_4 _ _ _ _ h0 hb0 hb1 hb2 u3.toNat_lt).mp hv
    have hb := beBytes_beVal' 4 [u0, u1, u2, u3] rfl
    simp only [beVal_cons, beVal_nil, Nat.zero_mul, Nat.zero_add] at hb
    rw [octLen_mul_add (by omega) _ u3.toNat_lt, octLen_mul_add (by omega) _ hb2, octLen_mul_add h0 _ hb1,
      octLen_small h0 hb0, hpos.2.2, hb]
    simp only [tDecL, List.cons_append]
    rw [if_neg (fun hn => hn hl), if_neg (by omega), if_neg (by omega), if_neg (by omega), if_pos h3]

end Bee2V.C08
