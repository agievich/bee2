/-
C08 — property theorems, part 1: every DER decoder of der.c is total (Lean termination), never
reads outside its input (`≠ .oob`) and, when it accepts, consumed ≤ input length.
All statements are over ALL octet strings of ALL lengths < 2^64 (a C object cannot be larger).
Each theorem is followed by an `example` exhibiting a non-trivial accepted input.
-/
import Bee2V.C08.LemmasCodec
namespace Bee2V.C08

/-! ### T, L, TL, TLV -/

/-- derTDec: no read outside the input; an accepted tag occupies 1..4 octets inside the input. -/
theorem derTDec_no_oob (der : List UInt8) : derTDec der ≠ .oob := by
  rcases derTDec_cases der with e | ⟨_, _, e, _⟩ <;> rw [e] <;> simp

theorem derTDec_bounded (der : List UInt8) (tag k : Nat) (h : derTDec der = .ok (tag, k)) :
    1 ≤ k ∧ k ≤ 4 ∧ k ≤ der.length := by
  rcases derTDec_cases der with e | ⟨t, k', e, h1, h4, hl⟩
  · rw [e] at h; cases h
  · rw [e] at h; cases h; exact ⟨h1, h4, hl⟩
example : derTDec [0x7F, 0x21, 0x00] = .ok (0x7F21, 2) := by decide +kernel

/-- derLDec: no read outside the input; an accepted length field occupies 1..9 octets inside the
    input and is never the error value SIZE_MAX. -/
theorem derLDec_no_oob (der : List UInt8) : derLDec der ≠ .oob := by
  rcases derLDec_cases der with e | ⟨_, _, e, _⟩ <;> rw [e] <;> simp

theorem derLDec_bounded (der : List UInt8) (l k : Nat) (h : derLDec der = .ok (l, k)) :
    1 ≤ k ∧ k ≤ 9 ∧ k ≤ der.length ∧ l < SIZE_MAX := by
  rcases derLDec_cases der with e | ⟨l', k', e, h1, h9, hl, hs⟩
  · rw [e] at h; cases h
  · rw [e] at h; cases h; exact ⟨h1, h9, hl, hs⟩
example : derLDec [0x82, 0x01, 0x00, 0xAA] = .ok (256, 3) := by decide +kernel

theorem derTLDec_no_oob (der : List UInt8) : derTLDec der ≠ .oob := by
  rcases derTLDec_cases der with e | ⟨_, _, _, e, _⟩ <;> rw [e] <;> simp

/-- derTLDec: consumed ≤ input (the sum t_count + l_count does not wrap). -/
theorem derTLDec_bounded (der : List UInt8) (tag l c : Nat) (h : derTLDec der = .ok (tag, l, c)) :
    2 ≤ c ∧ c ≤ 13 ∧ c ≤ der.length ∧ l < SIZE_MAX := by
  rcases derTLDec_cases der with e | ⟨t, l', c', e, h2, h13, hl, hs⟩
  · rw [e] at h; cases h
  · rw [e] at h; cases h; exact ⟨h2, h13, hl, hs⟩
example : derTLDec [0x1F, 0x81, 0x00, 0x82, 0x01, 0x00] = .ok (2064640, 256, 6) := by decide +kernel

theorem derDec_no_oob (der : List UInt8) (hlen : der.length < W) : derDec der ≠ .oob := by
  rcases derDec_cases der hlen with e | ⟨_, _, _, _, e, _⟩ <;> rw [e] <;> simp

/-- derDec: the value lies inside the input and the returned count is exactly |TL| + |V| ≤ input:
    no wrap-around for lengths near SIZE_MAX. -/
theorem derDec_bounded (der : List UInt8) (hlen : der.length < W) (tag off len c : Nat)
    (h : derDec der = .ok (tag, off, len, c)) : c = off + len ∧ c ≤ der.length := by
  rcases derDec_cases der hlen with e | ⟨t, o, l, c', e, _, _, hc, hl⟩
  · rw [e] at h; cases h
  · rw [e] at h; cases h; exact ⟨hc, hl⟩
example : derDec [0x04, 0x01, 0xAA, 0xBB] = .ok (4, 2, 1, 3) := by decide +kernel
/-- the F17 witness: an 8-octet length 0xFF..FA is rejected, not wrapped -/
example : derDec [0x04, 0x88, 0xFF, 0xFF, 0xFF, 0xFF, 0xFF, 0xFF, 0xFF, 0xFA] = .err := by decide +kernel

theorem derDec2_no_oob (der : List UInt8) (tag : Nat) (hlen : der.length < W) : derDec2 der tag ≠ .oob := by
  rcases derDec2_cases der tag hlen with e | ⟨_, _, _, e, _⟩ <;> rw [e] <;> simp
theorem derDec2_bounded (der : List UInt8) (hlen : der.length < W) (tag off len c : Nat)
    (h : derDec2 der tag = .ok (off, len, c)) : c = off + len ∧ c ≤ der.length := by
  rcases derDec2_cases der tag hlen with e | ⟨o, l, c', e, _, _, _, hc, hl⟩
  · rw [e] at h; cases h
  · rw [e] at h; cases h; exact ⟨hc, hl⟩

theorem derDec3_no_oob (der : List UInt8) (tag len : Nat) (hlen : der.length < W) : derDec3 der tag len ≠ .oob := by
  rcases derDec3_cases der tag len hlen with e | ⟨_, _, e, _⟩ <;> rw [e] <;> simp
theorem derDec3_bounded (der : List UInt8) (hlen : der.length < W) (tag len off c : Nat)
    (h : derDec3 der tag len = .ok (off, c)) : c = off + len ∧ c ≤ der.length := by
  rcases derDec3_cases der tag len hlen with e | ⟨o, c', e, _, hc, hl⟩
  · rw [e] at h; cases h
  · rw [e] at h; cases h; exact ⟨hc, hl⟩

theorem derDec4_no_oob (der : List UInt8) (tag : Nat) (val : List UInt8) (hlen : der.length < W) :
    derDec4 der tag val ≠ .oob := by
  rcases derDec4_cases der tag val hlen with e | ⟨_, e, _⟩ <;> rw [e] <;> simp
theorem derDec4_bounded (der : List UInt8) (hlen : der.length < W) (tag : Nat) (val : List UInt8) (c : Nat)
    (h : derDec4 der tag val = .ok c) : c ≤ der.length := by
  rcases derDec4_cases der tag val hlen with e | ⟨c', e, hl⟩
  · rw [e] at h; cases h
  · rw [e] at h; cases h; exact hl
example : derDec4 [0x04, 0x01, 0xAA, 0xBB] 4 [0xAA] = .ok 3 := by decide +kernel

theorem derIsValid_no_oob (der : List UInt8) : derIsValid der ≠ .oob := by
  rcases derIsValid_cases der with e | e <;> rw [e] <;> simp
theorem derIsValid2_no_oob (der : List UInt8) (tag : Nat) : derIsValid2 der tag ≠ .oob := by
  rcases derIsValid2_cases der tag with e | e <;> rw [e] <;> simp
theorem derStartsWith_no_oob (der : List UInt8) (tag : Nat) : derStartsWith der tag ≠ .oob := by
  unfold derStartsWith
  rcases derTDec_cases der with e | ⟨_, _, e, _⟩
  · rw [e]; simp
  · rw [e]; simp only []; split <;> simp

/-! ### typed values -/

theorem derTSIZEDec_no_oob (der : List UInt8) (tag : Nat) (hlen : der.length < W) : derTSIZEDec der tag ≠ .oob := by
  rcases derTSIZEDec_cases der tag hlen with e | ⟨_, _, e, _⟩ <;> rw [e] <;> simp
/-- derTSIZEDec (F15 fixed): the value octets are inside the input -/
theorem derTSIZEDec_bounded (der : List UInt8) (hlen : der.length < W) (tag v c : Nat)
    (h : derTSIZEDec der tag = .ok (v, c)) : c ≤ der.length := by
  rcases derTSIZEDec_cases der tag hlen with e | ⟨v', c', e, hl⟩
  · rw [e] at h; cases h
  · rw [e] at h; cases h; exact hl
example : derTSIZEDec [0x02, 0x02, 0x00, 0x80, 0x55] 2 = .ok (128, 4) := by decide +kernel
/-- the F15 witness `02 05 01` is rejected -/
example : derTSIZEDec [0x02, 0x05, 0x01] 2 = .err := by decide +kernel

theorem derTUINTDec_no_oob (der : List UInt8) (tag : Nat) (hlen : der.length < W) : derTUINTDec der tag ≠ .oob := by
  rcases derTUINTDec_cases der tag hlen with e | ⟨_, _, e, _⟩ <;> rw [e] <;> simp
theorem derTUINTDec_bounded (der : List UInt8) (hlen : der.length < W) (tag : Nat) (v : List UInt8) (c : Nat)
    (h : derTUINTDec der tag = .ok (v, c)) : c ≤ der.length := by
  rcases derTUINTDec_cases der tag hlen with e | ⟨v', c', e, hl⟩
  · rw [e] at h; cases h
  · rw [e] at h; cases h; exact hl
example : derTUINTDec [0x02, 0x02, 0x00, 0xFF] 2 = .ok ([0xFF], 4) := by decide +kernel

theorem derTUINTDec2_no_oob (der : List UInt8) (tag len : Nat) (hlen : der.length < W) : derTUINTDec2 der tag len ≠ .oob := by
  rcases derTUINTDec2_cases der tag len hlen with e | ⟨_, _, e, _⟩ <;> rw [e] <;> simp
/-- derTUINTDec2: consumed ≤ input and exactly `len` octets are written to the output -/
theorem derTUINTDec2_bounded (der : List UInt8) (hlen : der.length < W) (tag len : Nat) (v : List UInt8) (c : Nat)
    (h : derTUINTDec2 der tag len = .ok (v, c)) : c ≤ der.length ∧ v.length = len := by
  rcases derTUINTDec2_cases der tag len hlen with e | ⟨v', c', e, hl, hv⟩
  · rw [e] at h; cases h
  · rw [e] at h; cases h; exact ⟨hl, hv⟩

theorem derTBITDec_no_oob (der : List UInt8) (tag : Nat) (hlen : der.length < W) : derTBITDec der tag ≠ .oob := by
  rcases derTBITDec_cases der tag hlen with e | ⟨_, _, _, e, _⟩ <;> rw [e] <;> simp
theorem derTBITDec_bounded (der : List UInt8) (hlen : der.length < W) (tag : Nat) (v : List UInt8) (bl c : Nat)
    (h : derTBITDec der tag = .ok (v, bl, c)) : c ≤ der.length := by
  rcases derTBITDec_cases der tag hlen with e | ⟨v', b', c', e, hl⟩
  · rw [e] at h; cases h
  · rw [e] at h; cases h; exact hl
example : derTBITDec [0x03, 0x02, 0x07, 0x80] 3 = .ok ([0x80], 1, 4) := by decide +kernel
/-- non-zero unused bits are rejected (fix-2) -/
example : derTBITDec [0x03, 0x02, 0x07, 0xFF] 3 = .err := by decide +kernel

theorem derTBITDec2_no_oob (der : List UInt8) (tag len : Nat) (hlen : der.length < W) : derTBITDec2 der tag len ≠ .oob := by
  rcases derTBITDec2_cases der tag len hlen with e | ⟨_, _, e, _⟩ <;> rw [e] <;> simp
theorem derTBITDec2_bounded (der : List UInt8) (hlen : der.length < W) (tag len : Nat) (v : List UInt8) (c : Nat)
    (h : derTBITDec2 der tag len = .ok (v, c)) : c ≤ der.length := by
  rcases derTBITDec2_cases der tag len hlen with e | ⟨v', c', e, hl⟩
  · rw [e] at h; cases h
  · rw [e] at h; cases h; exact hl

theorem derTOCTDec_no_oob (der : List UInt8) (tag : Nat) (hlen : der.length < W) : derTOCTDec der tag ≠ .oob := by
  rcases derTOCTDec_cases der tag hlen with e | ⟨_, _, e, _⟩ <;> rw [e] <;> simp
theorem derTOCTDec_bounded (der : List UInt8) (hlen : der.length < W) (tag : Nat) (v : List UInt8) (c : Nat)
    (h : derTOCTDec der tag = .ok (v, c)) : c ≤ der.length := by
  rcases derTOCTDec_cases der tag hlen with e | ⟨v', c', e, hl⟩
  · rw [e] at h; cases h
  · rw [e] at h; cases h; exact hl
theorem derTOCTDec2_no_oob (der : List UInt8) (tag len : Nat) (hlen : der.length < W) : derTOCTDec2 der tag len ≠ .oob := by
  rcases derTOCTDec2_cases der tag len hlen with e | ⟨_, _, e, _⟩ <;> rw [e] <;> simp
theorem derTOCTDec2_bounded (der : List UInt8) (hlen : der.length < W) (tag len : Nat) (v : List UInt8) (c : Nat)
    (h : derTOCTDec2 der tag len = .ok (v, c)) : c ≤ der.length := by
  rcases derTOCTDec2_cases der tag len hlen with e | ⟨v', c', e, hl⟩
  · rw [e] at h; cases h
  · rw [e] at h; cases h; exact hl
example : derTOCTDec [0x04, 0x02, 0xAA, 0xBB, 0xCC] 4 = .ok ([0xAA, 0xBB], 4) := by decide +kernel

theorem derTPSTRDec_no_oob (der : List UInt8) (tag : Nat) (hlen : der.length < W) : derTPSTRDec der tag ≠ .oob := by
  rcases derTPSTRDec_cases der tag hlen with e | ⟨_, _, e, _⟩ <;> rw [e] <;> simp
theorem derTPSTRDec_bounded (der : List UInt8) (hlen : der.length < W) (tag : Nat) (v : List UInt8) (c : Nat)
    (h : derTPSTRDec der tag = .ok (v, c)) : c ≤ der.length := by
  rcases derTPSTRDec_cases der tag hlen with e | ⟨v', c', e, hl⟩
  · rw [e] at h; cases h
  · rw [e] at h; cases h; exact hl
example : derTPSTRDec [0x13, 0x02, 0x41, 0x42] 0x13 = .ok ([0x41, 0x42], 4) := by decide +kernel
/-- a zero octet is not printable (fix-4) -/
example : derTPSTRDec [0x13, 0x02, 0x41, 0x00] 0x13 = .err := by decide +kernel

/-! ### OID -/

theorem derOIDDec_no_oob (der : List UInt8) (hlen : der.length < W) : derOIDDec der ≠ .oob := by
  rcases derOIDDec_cases der hlen with e | ⟨_, _, e, _⟩ <;> rw [e] <;> simp
theorem derOIDDec_bounded (der : List UInt8) (hlen : der.length < W) (s : List UInt8) (c : Nat)
    (h : derOIDDec der = .ok (s, c)) : c ≤ der.length := by
  rcases derOIDDec_cases der hlen with e | ⟨s', c', e, hl⟩
  · rw [e] at h; cases h
  · rw [e] at h; cases h; exact hl
example : derOIDDec [0x06, 0x03, 0x2A, 0x92, 0x29] = .ok ([49, 46, 50, 46, 50, 51, 52, 53], 5) := by decide +kernel
/-- F16 witnesses: truncated last arc and empty OID are rejected -/
example : derOIDDec [0x06, 0x03, 0x2A, 0x70, 0x81] = .err := by decide +kernel
example : derOIDDec [0x06, 0x00] = .err := by decide +kernel

/-- derOIDDec2 reads neither outside the DER input nor outside the string `oid`
    (its terminating zero included) — fix-5. -/
theorem derOIDDec2_no_oob (der oid : List UInt8) (hlen : der.length < W) : derOIDDec2 der oid ≠ .oob := by
  rcases derOIDDec2_cases der oid hlen with e | ⟨_, e, _⟩ <;> rw [e] <;> simp
theorem derOIDDec2_bounded (der oid : List UInt8) (hlen : der.length < W) (c : Nat)
    (h : derOIDDec2 der oid = .ok c) : c ≤ der.length := by
  rcases derOIDDec2_cases der oid hlen with e | ⟨c', e, hl⟩
  · rw [e] at h; cases h
  · rw [e] at h; cases h; exact hl
example : derOIDDec2 [0x06, 0x03, 0x2A, 0x92, 0x29] [49, 46, 50, 46, 50, 51, 52, 53] = .ok 5 := by decide +kernel
/-- the fix-5 witness: "1.2.3" against the code of 1.2.2345 is a clean mismatch -/
example : derOIDDec2 [0x06, 0x03, 0x2A, 0x92, 0x29] [49, 46, 50, 46, 51] = .err := by decide +kernel

theorem oidFromDER_no_oob (der : List UInt8) (hlen : der.length < W) : oidFromDER der ≠ .oob := by
  rcases oidFromDER_cases der hlen with e | ⟨_, e⟩ <;> rw [e] <;> simp

/-! ### SEQ anchors -/

theorem derTSEQDecStart_no_oob (der : List UInt8) (tag : Nat) : derTSEQDecStart der tag ≠ .oob := by
  rcases derTSEQDecStart_cases der tag with e | ⟨_, _, e, _⟩ <;> rw [e] <;> simp
theorem derTSEQDecStart_bounded (der : List UInt8) (tag : Nat) (a : Anchor) (c : Nat)
    (h : derTSEQDecStart der tag = .ok (a, c)) : c ≤ der.length ∧ a.tag = tag := by
  rcases derTSEQDecStart_cases der tag with e | ⟨a', c', e, hl, ht⟩
  · rw [e] at h; cases h
  · rw [e] at h; cases h; exact ⟨hl, ht⟩
example : derTSEQDecStart [0x30, 0x02, 0x05, 0x00] 0x30 = .ok (⟨0, 0x30, 2⟩, 2) := by decide +kernel

end Bee2V.C08
