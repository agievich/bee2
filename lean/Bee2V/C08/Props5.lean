/-
C08 — property theorems, part 5: base64, decimal strings, check digits (b64.c, dec.c).
-/
import Bee2V.C08.LemmasText2
namespace Bee2V.C08

/-- b64To ∘ b64From = id on every octet string (all three padding forms) -/
theorem b64_roundtrip (v : List UInt8) : b64To (b64From v) = v := by
  unfold b64To
  induction v using b64From.induct with
  | case1 a b c rest ih =>
    have ha := UInt8.toNat_lt a
    have hb := UInt8.toNat_lt b
    have hc := UInt8.toNat_lt c
    generalize hblk : (a.toNat * 256 + b.toNat) * 256 + c.toNat = blk
    have hblk' : blk < 16777216 := by omega
    have d0 := b64_digit (blk / 262144) (by omega)
    have d1 := b64_digit (blk / 4096 % 64) (by omega)
    have d2 := b64_digit (blk / 64 % 64) (by omega)
    have d3 := b64_digit (blk % 64) (by omega)
    have hfrom : b64From (a :: b :: c :: rest) =
        [b64Ch (blk / 262144), b64Ch (blk / 4096 % 64), b64Ch (blk / 64 % 64), b64Ch (blk % 64)] ++ b64From rest := by
      rw [b64From, ← hblk]; rfl
    rw [hfrom]
    have hdec : ((b64Dec (b64Ch (blk / 262144)).toNat * 64 + b64Dec (b64Ch (blk / 4096 % 64)).toNat) * 64 +
        b64Dec (b64Ch (blk / 64 % 64)).toNat) * 64 + b64Dec (b64Ch (blk % 64)).toNat = blk := by
      rw [d0.1, d1.1, d2.1, d3.1]; omega
    have hoct : oct (blk / 65536) = a ∧ oct (blk / 256) = b ∧ oct blk = c :=
      ⟨oct_eq_of_nat a (by omega), oct_eq_of_nat b (by omega), oct_eq_of_nat c (by omega)⟩
    clear hblk hblk' d0 d1 d2
    by_cases hr : rest = []
    · subst hr
      simp only [b64From, List.append_nil]
      rw [b64Unpad_nopad _ (Or.inr (by simp; exact d3.2))]
      simp only [List.length_cons, List.length_nil, List.take_succ_cons, List.take_zero]
      rw [b64ToAux_block, hdec]
      simp only [b64ToAux, List.cons.injEq, and_true]
      exact hoct
    · have hl : 2 ≤ (b64From rest).length := by
        rw [b64From_length]
        cases rest with
        | nil => exact absurd rfl hr
        | cons _ _ => simp; omega
      rw [b64Unpad_append _ _ hl]
      simp only [List.length_cons, List.length_nil]
      rw [show (0 + 1 + 1 + 1 + 1 + b64Unpad (b64From rest)) = 4 + b64Unpad (b64From rest) by omega]
      simp only [List.cons_append, List.nil_append, show 4 + b64Unpad (b64From rest) = b64Unpad (b64From rest) + 1 + 1 + 1 + 1 by omega,
        List.take_succ_cons]
      rw [b64ToAux_block, hdec, ih]
      simp only [List.cons.injEq, and_true]
      exact hoct
  | case2 a b =>
    have ha := UInt8.toNat_lt a
    have hb := UInt8.toNat_lt b
    generalize hblk : (a.toNat * 256 + b.toNat) * 4 = blk
    have d0 := b64_digit (blk / 4096) (by omega)
    have d1 := b64_digit (blk / 64 % 64) (by omega)
    have d2 := b64_digit (blk % 64) (by omega)
    have hfrom : b64From [a, b] = [b64Ch (blk / 4096), b64Ch (blk / 64 % 64), b64Ch (blk % 64), 61] := by
      rw [b64From, ← hblk]
    rw [hfrom]
    have hun : b64Unpad [b64Ch (blk / 4096), b64Ch (blk / 64 % 64), b64Ch (blk % 64), 61] = 3 := by
      unfold b64Unpad
      simp
      exact d2.2
    rw [hun]
    simp only [List.take_succ_cons, List.take_zero, b64ToAux, d0.1, d1.1, d2.1, List.cons.injEq, and_true]
    exact ⟨oct_eq_of_nat a (by omega), oct_eq_of_nat b (by omega)⟩
  | case3 a =>
    have ha := UInt8.toNat_lt a
    have d0 := b64_digit (a.toNat * 16 / 64) (by omega)
    have d1 := b64_digit (a.toNat * 16 % 64) (by omega)
    have hfrom : b64From [a] = [b64Ch (a.toNat * 16 / 64), b64Ch (a.toNat * 16 % 64), 61, 61] := by rw [b64From]
    rw [hfrom]
    have hun : b64Unpad [b64Ch (a.toNat * 16 / 64), b64Ch (a.toNat * 16 % 64), 61, 61] = 2 := by
      unfold b64Unpad; simp
    rw [hun]
    simp only [List.take_succ_cons, List.take_zero, b64ToAux, d0.1, d1.1, List.cons.injEq, and_true]
    exact oct_eq_of_nat a (by omega)
  | case4 => simp [b64From, b64Unpad, b64ToAux]
example : b64From [0x41, 0x42] = [81, 85, 73, 61] ∧ b64To [81, 85, 73, 61] = [0x41, 0x42] := by decide

/-- decToU32 / decToU64 (m = 2^32 / 2^64) read back what decFromU32 / decFromU64 printed:
    the number modulo 10^count (the documented truncation) and modulo the word size -/
theorem decTo_decFrom (m count n : Nat) : decTo m (decFrom count n) = n % 10 ^ count % m := by
  unfold decFrom
  induction count generalizing n with
  | zero => simp [decChars, decTo, Nat.mod_one]
  | succ c ih =>
    rw [decChars, decTo_snoc, ih, toNat_oct]
    have hd : (48 + n % 10) % 256 - 48 = n % 10 := by omega
    rw [hd, Nat.pow_succ, Nat.mul_comm (10 ^ c) 10, Nat.mod_mul (a := 10) (b := 10 ^ c)]
    rw [Nat.add_mod, Nat.mul_mod, Nat.mod_mod, ← Nat.mul_mod, ← Nat.add_mod]
    congr 1
    omega
example : decFrom 5 123 = [48, 48, 49, 50, 51] ∧ decTo U32 [48, 48, 49, 50, 51] = 123 := by decide

/-- what decFrom prints is a valid decimal string -/
theorem decFrom_isValid (count n : Nat) : decIsValid (decFrom count n) = true := by
  unfold decFrom decIsValid
  induction count generalizing n with
  | zero => rfl
  | succ c ih =>
    rw [decChars, List.all_append, ih]
    simp [toNat_oct]; omega
/-- Luhn: Verify accepts the string extended by the digit Calc returned -/
theorem decLuhn_calc_verify (s : List UInt8) : decLuhnVerify (s ++ [decLuhnCalc s]) = true := by
  unfold decLuhnVerify decLuhnCalc
  simp only [List.reverse_append, List.reverse_cons, List.reverse_nil, List.nil_append, List.singleton_append]
  rw [luhnSum_shift, toNat_oct]
  generalize luhnSum luhnTable id s.reverse = t
  simp only [id]
  have h9 : t % 10 * 9 % 10 < 10 := Nat.mod_lt _ (by omega)
  have key : (t % 10 * 9 % 10 + t) % 10 = 0 := by omega
  generalize t % 10 * 9 % 10 = u at *
  have : (u + 48) % 256 - 48 = u := by omega
  rw [this]
  simp; omega
example : decLuhnCalc [55, 57, 57, 50, 55, 51, 57, 56, 55, 49] = 51 := by decide

/-- Damm: Verify accepts the string extended by the digit Calc returned -/
theorem decDamm_calc_verify (s : List UInt8) (hv : decIsValid s = true) :
    decDammVerify (s ++ [decDammCalc s]) = true := by
  have hlt := damm_state_lt s hv 0 (by omega)
  have e : decDammCalc (s ++ [decDammCalc s]) = oct (0 + 48) := by
    unfold decDammCalc
    rw [List.foldl_append]
    simp only [List.foldl_cons, List.foldl_nil]
    generalize s.foldl (fun cd c => dammStep cd (c.toNat - 48)) 0 = st at *
    rw [toNat_oct]
    have : (st + 48) % 256 - 48 = st := by omega
    rw [this, dammStep_diag st hlt]
  unfold decDammVerify
  rw [e]
  decide
example : decDammCalc [53, 55, 50] = 52 := by decide

/-- CANONICAL (hex): hexFrom (hexTo s) is s in upper case, for every string hexIsValid accepts
    (hexFrom always writes upper-case digits; both cases are accepted on input) -/
theorem hex_canonical (s : List UInt8) (hv : hexIsValid s = true) : hexFrom (hexTo s) = s.map hexUpC :=
  hex_canonical' s.length s (Nat.le_refl _) hv
example : hexIsValid [48, 97, 70, 102] = true ∧ hexFrom (hexTo [48, 97, 70, 102]) = [48, 65, 70, 70] := by decide

/-- CANONICAL (base64): b64From (b64To s) = s for every string b64IsValid accepts (the padding bits of
    the last block must be zero, so the accepted text is the only text of its octets) -/
theorem b64_canonical (s : List UInt8) (hv : b64IsValid s = true) : b64From (b64To s) = s :=
  match s, hv with
  | [], _ => by simp [b64To, b64Unpad, b64ToAux, b64From]
  | [_], hv => by unfold b64IsValid at hv; simp at hv
  | [_, _], hv => by unfold b64IsValid at hv; simp at hv
  | [_, _, _], hv => by unfold b64IsValid at hv; simp at hv
  | [c0, c1, c2, c3], hv => b64_last c0 c1 c2 c3 hv
  | c0 :: c1 :: c2 :: c3 :: x :: rest, hv => by
    have hlen4 : 4 ≤ (x :: rest).length := by
      have hm : (c0 :: c1 :: c2 :: c3 :: x :: rest).length % 4 = 0 := by
        unfold b64IsValid at hv
        by_cases hm : (c0 :: c1 :: c2 :: c3 :: x :: rest).length % 4 ≠ 0
        · rw [if_pos hm] at hv; cases hv
        · omega
      simp only [List.length_cons] at hm ⊢
      omega
    have happ : c0 :: c1 :: c2 :: c3 :: x :: rest = [c0, c1, c2, c3] ++ (x :: rest) := rfl
    rw [happ, b64IsValid_append _ _ rfl hlen4] at hv
    simp only [List.all_cons, List.all_nil, Bool.and_true, Bool.and_eq_true, decide_eq_true_eq] at hv
    obtain ⟨⟨h0, h1, h2, h3⟩, hrest⟩ := hv
    rw [happ, b64To_append c0 c1 c2 c3 _ hlen4, b64_block_inv c0 c1 c2 c3 h0 h1 h2 h3,
      b64_canonical (x :: rest) hrest]
example : b64IsValid [81, 85, 73, 61] = true ∧ b64IsValid [81, 85, 74, 61] = false := by decide

end Bee2V.C08
