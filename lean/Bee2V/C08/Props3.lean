/-
C08 — property theorems, part 3: CANONICAL FORM (whatever a decoder accepts is exactly what the
encoder produces for the decoded value: `D xs = ok (v, k) → E v = ok (xs.take k)`) and ROUND TRIP
(`valid v → D (E v ++ rest) = ok (v, |E v|)` for every continuation `rest`) for the DER layer:
T, L, TL, TLV, OCT, PSTR, SIZE, UINT, BIT.  All inputs, all lengths < 2^64.
-/
import Bee2V.C08.LemmasTyped
namespace Bee2V.C08

/-! ### T -/

/-- the octets derTDec accepts as a tag are exactly derTEnc of the decoded tag (needs fix-1) -/
theorem derTDec_canonical (der : List UInt8) (tag k : Nat) (h : derTDec der = .ok (tag, k)) :
    derTEnc tag = .ok (der.take k) := derTDec_canonical' der tag k h
example : derTDec [0x1F, 0x81, 0x00, 0x55] = .ok (0x1F8100, 3) ∧ derTEnc 0x1F8100 = .ok [0x1F, 0x81, 0x00] := by
  decide +kernel

/-- every tag derTEnc accepts decodes back, whatever follows it -/
theorem derT_roundtrip (tag : Nat) (e rest : List UInt8) (hlt : tag < U32) (h : derTEnc tag = .ok e) :
    derTDec (e ++ rest) = .ok (tag, e.length) := by
  obtain ⟨hv, he⟩ := derTEnc_valid tag e h
  subst he
  rw [beBytes_length]
  exact derT_roundtrip' tag hv hlt rest
example : derTEnc 0x7F21 = .ok [0x7F, 0x21] := by decide +kernel

/-! ### L -/

/-- the octets derLDec accepts are the minimal (DER) code of the decoded length -/
theorem derLDec_canonical (der : List UInt8) (l k : Nat) (h : derLDec der = .ok (l, k)) :
    derLEnc l = der.take k := derLDec_canonical' der l k h
example : derLDec [0x82, 0x01, 0x00, 0x77] = .ok (256, 3) ∧ derLEnc 256 = [0x82, 0x01, 0x00] := by decide +kernel

/-- every length except the error value SIZE_MAX decodes back -/
theorem derL_roundtrip (l : Nat) (hl : l < SIZE_MAX) (rest : List UInt8) :
    derLDec (derLEnc l ++ rest) = .ok (l, (derLEnc l).length) := derL_roundtrip' l hl rest
example : derLEnc 18446744073709551614 = [0x88, 0xFF, 0xFF, 0xFF, 0xFF, 0xFF, 0xFF, 0xFF, 0xFE] := by decide +kernel

/-! ### TL, TLV -/

theorem derTLDec_canonical (der : List UInt8) (tag l c : Nat) (h : derTLDec der = .ok (tag, l, c)) :
    derTLEnc tag l = .ok (der.take c) := derTLDec_canonical' der tag l c h

theorem derTL_roundtrip (tag l : Nat) (e rest : List UInt8) (hlt : tag < U32) (hl : l < SIZE_MAX)
    (h : derTLEnc tag l = .ok e) : derTLDec (e ++ rest) = .ok (tag, l, e.length) := by
  have hv : derTIsValid tag = true := by
    unfold derTLEnc at h
    cases hT : derTEnc tag with
    | ok t => exact (derTEnc_valid tag t hT).1
    | err => rw [hT] at h; cases h
    | oob => rw [hT] at h; cases h
  obtain ⟨e', he', hd⟩ := derTL_roundtrip' tag l hv hlt hl rest
  rw [h] at he'; cases he'; exact hd
example : derTLEnc 0x30 300 = .ok [0x30, 0x82, 0x01, 0x2C] := by decide +kernel

/-- derDec: the accepted octets are derEnc of the decoded (tag, value) — in particular no second
    code of the same value is accepted (no long tags < 31, no non-minimal lengths) -/
theorem derDec_canonical (der : List UInt8) (hlen : der.length < W) (tag off len c : Nat)
    (h : derDec der = .ok (tag, off, len, c)) :
    derEnc tag ((der.drop off).take len) = .ok (der.take c) := derDec_canonical' der hlen tag off len c h
example : derDec [0x04, 0x02, 0xAA, 0xBB, 0xCC] = .ok (4, 2, 2, 4) ∧ derEnc 4 [0xAA, 0xBB] = .ok [0x04, 0x02, 0xAA, 0xBB] := by
  decide +kernel

/-- decode ∘ encode = id on (tag, value), with any continuation -/
theorem derEnc_roundtrip (tag : Nat) (val e rest : List UInt8) (hlt : tag < U32)
    (hlen : 13 + val.length + rest.length < W) (h : derEnc tag val = .ok e) :
    derDec (e ++ rest) = .ok (tag, e.length - val.length, val.length, e.length) ∧
      ((e ++ rest).drop (e.length - val.length)).take val.length = val := by
  have hv : derTIsValid tag = true := by
    unfold derEnc at h
    cases hT : derTEnc tag with
    | ok t => exact (derTEnc_valid tag t hT).1
    | err => rw [hT] at h; cases h
    | oob => rw [hT] at h; cases h
  obtain ⟨e', he', hd, hs⟩ := derEnc_roundtrip' tag val hv hlt rest hlen
  rw [h] at he'; cases he'; exact ⟨hd, hs⟩

/-! ### OCT, PSTR -/

theorem derTOCTDec_canonical (der : List UInt8) (hlen : der.length < W) (tag : Nat) (v : List UInt8) (c : Nat)
    (h : derTOCTDec der tag = .ok (v, c)) : derEnc tag v = .ok (der.take c) := by
  rw [derTOCTDec_eq der tag hlen] at h
  obtain ⟨V, a, c', hV, hb, _, hc⟩ := tlvDec_canonical hlen h
  cases hV; cases hb; exact hc

theorem derTOCT_roundtrip (tag : Nat) (val : List UInt8) (hv : derTIsValid tag = true) (hlt : tag < U32)
    (rest : List UInt8) (hlen : 13 + val.length + rest.length < W) :
    ∃ e, derEnc tag val = .ok e ∧ derTOCTDec (e ++ rest) tag = .ok (val, e.length) := by
  obtain ⟨e, he, hl, hd⟩ := tlvDec_roundtrip (decV := some) (k := Prod.mk) rfl tag hv hlt rest hlen
  exact ⟨e, he, by rwa [derTOCTDec_eq _ _ hl]⟩
example : derTIsValid 0x5F37 = true := by decide +kernel

/-- PrintableString: accepted octets = code of the decoded string (needs fix-4: no NUL inside) -/
theorem derTPSTRDec_canonical (der : List UInt8) (hlen : der.length < W) (tag : Nat) (v : List UInt8) (c : Nat)
    (h : derTPSTRDec der tag = .ok (v, c)) : derTPSTREnc tag v = .ok (der.take c) := by
  rw [derTPSTRDec_eq der tag hlen] at h
  obtain ⟨V, a, c', hV, hb, _, hc⟩ := tlvDec_canonical hlen h
  unfold pstrV at hV
  by_cases hp : V.all (fun c => isPrintable c.toNat) = true
  · rw [if_pos hp] at hV; cases hV; cases hb
    unfold derTPSTREnc
    rw [hp]; exact hc
  · rw [if_neg hp] at hV; cases hV

theorem derTPSTR_roundtrip (tag : Nat) (val : List UInt8) (hp : val.all (fun c => isPrintable c.toNat) = true)
    (hv : derTIsValid tag = true) (hlt : tag < U32) (rest : List UInt8) (hlen : 13 + val.length + rest.length < W) :
    ∃ e, derTPSTREnc tag val = .ok e ∧ derTPSTRDec (e ++ rest) tag = .ok (val, e.length) := by
  obtain ⟨e, he, hl, hd⟩ := tlvDec_roundtrip (decV := pstrV) (k := Prod.mk) (V := val)
    (by unfold pstrV; rw [if_pos hp]) tag hv hlt rest hlen
  exact ⟨e, by unfold derTPSTREnc; rw [hp]; exact he, by rwa [derTPSTRDec_eq _ _ hl]⟩
example : ([0x42, 0x59, 0x43, 0x41] : List UInt8).all (fun c => isPrintable c.toNat) = true := by decide

/-! ### SIZE -/

/-- INTEGER that fits size_t: only the minimal two's-complement code of a non-negative value is accepted -/
theorem derTSIZEDec_canonical (der : List UInt8) (tag v c : Nat) (h : derTSIZEDec der tag = .ok (v, c)) :
    derTSIZEEnc tag v = .ok (der.take c) := derTSIZEDec_canonical' der tag v c h
example : derTSIZEDec [0x02, 0x09, 0x00, 0xFF, 0xFF, 0xFF, 0xFF, 0xFF, 0xFF, 0xFF, 0xFF] 2 = .ok (18446744073709551615, 11) := by
  decide +kernel

theorem derTSIZE_roundtrip (tag v : Nat) (hv : derTIsValid tag = true) (hlt : tag < U32) (hvW : v < W)
    (rest : List UInt8) :
    ∃ e, derTSIZEEnc tag v = .ok e ∧ derTSIZEDec (e ++ rest) tag = .ok (v, e.length) :=
  derTSIZE_roundtrip' tag v hv hlt hvW rest

/-! ### UINT (value = little-endian octets) -/

theorem derTUINTDec_canonical (der : List UInt8) (hlen : der.length < W) (tag : Nat) (w : List UInt8) (c : Nat)
    (h : derTUINTDec der tag = .ok (w, c)) : derTUINTEnc tag w = .ok (der.take c) := by
  rw [derTUINTDec_eq der tag hlen] at h
  obtain ⟨V, a, c', hV, hb, hl, hc⟩ := tlvDec_canonical hlen h
  cases hb
  obtain ⟨hne, hwl, hbody⟩ := uintV_canon hV
  rw [derTUINTEnc_eq tag w hne (by omega), hbody]; exact hc
example : derTUINTDec [0x02, 0x03, 0x00, 0xFF, 0x01] 2 = .ok ([0x01, 0xFF], 5) := by decide +kernel

/-- decoding an encoded non-empty value returns it with the insignificant high zero octets removed
    (`uintStrip` = the stripping loop of derTUINTEnc) -/
theorem derTUINT_roundtrip (tag : Nat) (val : List UInt8) (hne : val ≠ []) (hv : derTIsValid tag = true)
    (hlt : tag < U32) (rest : List UInt8) (hlen : 15 + val.length + rest.length < W) :
    ∃ e, derTUINTEnc tag val = .ok e ∧
      derTUINTDec (e ++ rest) tag = .ok (val.take (uintStrip val val.length), e.length) := by
  obtain ⟨x, vt, ht, hx, hb⟩ := uintBody_eq val hne
  have hV : uintV (uintBody val) = some (val.take (uintStrip val val.length)) := by
    rw [hb, ht]; exact uintV_rev x vt hx
  have hbl : (uintBody val).length ≤ val.length + 1 := by
    have := congrArg List.length ht
    rw [hb]; simp [List.length_take] at this ⊢; split <;> simp <;> omega
  obtain ⟨e, he, hl, hd⟩ := tlvDec_roundtrip (k := Prod.mk) hV tag hv hlt rest (by omega)
  exact ⟨e, by rw [derTUINTEnc_eq tag val hne (by omega)]; exact he, by rwa [derTUINTDec_eq _ _ hl]⟩
example : uintStrip [0x01, 0xFF, 0x00, 0x00] 4 = 2 := by decide

/-! ### BIT -/

/-- BIT STRING: accepted octets = code of the decoded (octets, bit length); needs fix-2 -/
theorem derTBITDec_canonical (der : List UInt8) (hlen : der.length * 8 + 16 < W) (tag : Nat) (v : List UInt8)
    (bl c : Nat) (h : derTBITDec der tag = .ok (v, bl, c)) : derTBITEnc tag v bl = .ok (der.take c) := by
  rw [derTBITDec_eq der tag (by omega)] at h
  obtain ⟨V, r, c', hV, hb, hl, hc⟩ := tlvDec_canonical (by omega) h
  cases hb
  obtain ⟨hvl, hble, hbody⟩ := bitV_canon (v := r.1) (bl := r.2) hV (by omega)
  rw [derTBITEnc_eq tag r.1 r.2 hvl (by omega), hbody]; exact hc
example : derTBITDec [0x03, 0x03, 0x04, 0xAB, 0xC0] 3 = .ok ([0xAB, 0xC0], 12, 5) := by decide +kernel

/-- decoding an encoded bit string returns the bit length and the octets with the unused bits cleared -/
theorem derTBIT_roundtrip (tag : Nat) (val : List UInt8) (len : Nat) (hvl : val.length = (len + 7) / 8)
    (hv : derTIsValid tag = true) (hlt : tag < U32) (rest : List UInt8)
    (hlen : 16 + val.length + rest.length < W) (hl : len + 15 < W) :
    ∃ e, derTBITEnc tag val len = .ok e ∧ derTBITDec (e ++ rest) tag = .ok (bitClean val len, len, e.length) := by
  have hcl := bitClean_length val len hvl
  obtain ⟨e, he, hl', hd⟩ := tlvDec_roundtrip (k := fun r c => (r.1, r.2, c)) (bitV_body val len hvl hl) tag hv hlt rest
    (by simp only [List.length_cons, hcl]; omega)
  exact ⟨e, by rw [derTBITEnc_eq tag val len hvl hl]; exact he, by rw [derTBITDec_eq _ _ hl']; exact hd⟩
example : bitClean [0xAB, 0xCF] 12 = [0xAB, 0xC0] := by decide

end Bee2V.C08
