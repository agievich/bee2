/-
C01 property theorems, stream-like modes: CTR (belt_ctr.c), CFB (belt_cfb.c), BDE (belt_bde.c) and the
counter macro `beltBlockIncU32` (belt_lcl.h).
Only property theorems and non-vacuity examples; the proofs are in Lemmas/Stream.lean and Lemmas/Aead.lean.

Mode theorems are stated for an arbitrary `C : Cipher`; `hlen` says that the block transformation returns
16 octets on 16 octets, `hDE` that `dec` undoes `enc`.  The corollaries `belt_*` discharge them for
`beltCipher` (belt_block.c) with Lemmas/Block.lean.  `iv.length = 16` is the C prototype `const octet iv[16]`.
-/
import Bee2V.C01.Lemmas.Aead
namespace Bee2V.C01
open Bee2V.C01.Stream

/-- a toy block transformation pair used by the non-vacuity examples (evaluated by `decide`) -/
def toyC : Cipher :=
  ⟨fun k x => (xorb x ((k ++ zeros 16).take 16)).map (· + 1),
   fun k x => xorb (x.map (· - 1)) ((k ++ zeros 16).take 16)⟩

/-- the hypothesis `hlen` of the mode theorems is satisfiable (also by `beltCipher`: `length_blockEncr`) -/
example : ∀ k x : Bytes, x.length = 16 → (toyC.enc k x).length = 16 := by
  intro k x h
  simp only [toyC, List.length_map, length_xorb, List.length_take, List.length_append, zeros, List.length_replicate]
  omega

/-- ... and so is `hDE` -/
example : ∀ k x : Bytes, x.length = 16 → toyC.dec k (toyC.enc k x) = x := by
  intro k x h
  have hm : ∀ l : Bytes, (l.map (· + 1)).map (· - 1) = l := by
    intro l
    induction l with
    | nil => rfl
    | cons a l ih =>
      have : a + 1 - 1 = a := by grind
      simp only [List.map_cons, ih, this]
  simp only [toyC, hm]
  exact xorb_xorb_cancel _ _ (by
    simp only [List.length_take, List.length_append, zeros, List.length_replicate]; omega)

/-- call a Step function on consecutive fragments, threading the state:
`(final state, list of the processed fragments)` -/
def runFrags {σ : Type} (step : σ → Bytes → σ × Bytes) : σ → List Bytes → σ × List Bytes
  | st, [] => (st, [])
  | st, f :: fs => ((runFrags step (step st f).1 fs).1, (step st f).2 :: (runFrags step (step st f).1 fs).2)

/-! ### the counter -/

/-- `beltBlockIncU32(block)`: the short-circuit carry chain over the four u32 words of the block is the
increment of the 128-bit little-endian number modulo 2^128 (for ALL word values, including every carry
pattern and the wrap-around of the all-ones block). -/
theorem incU32_spec (w0 w1 w2 w3 : UInt32) :
    ∃ v0 v1 v2 v3, incU32 [w0, w1, w2, w3] = [v0, v1, v2, v3] ∧
      v0.toNat + 2 ^ 32 * v1.toNat + 2 ^ 64 * v2.toNat + 2 ^ 96 * v3.toNat =
        (w0.toNat + 2 ^ 32 * w1.toNat + 2 ^ 64 * w2.toNat + 2 ^ 96 * w3.toNat + 1) % 2 ^ 128 := by
  have hv := u32Val_incU32 w0 w1 w2 w3
  match h : incU32 [w0, w1, w2, w3], length_incU32 w0 w1 w2 w3 with
  | [v0, v1, v2, v3], _ =>
    refine ⟨v0, v1, v2, v3, rfl, ?_⟩
    rw [h] at hv
    simp only [u32Val] at hv
    omega

example : incU32 [0xFFFFFFFF, 0xFFFFFFFF, 0, 7] = [0, 0, 1, 7] := by decide
example : incU32 [0xFFFFFFFF, 0xFFFFFFFF, 0xFFFFFFFF, 0xFFFFFFFF] = [0, 0, 0, 0] := by decide
example : incU32 [5, 0xFFFFFFFF, 0, 7] = [6, 0xFFFFFFFF, 0, 7] := by decide

/-- the same on the octet image of `u32 ctr[4]` (little-endian platform): the 16-octet counter, read as a
little-endian number, is incremented modulo 2^128, and stays 16 octets long -/
theorem incBlock_spec (b : Bytes) (h : b.length = 16) :
    leNat (incBlock b) = (leNat b + 1) % 2 ^ 128 ∧ (incBlock b).length = 16 :=
  ⟨leNat_incBlock b h, length_incBlock b h⟩

example : incBlock [0xFF, 0xFF, 0xFF, 0xFF, 0xFF, 0xFF, 0xFF, 0xFF, 0xFF, 0, 0, 0, 0, 0, 0, 9]
    = [0, 0, 0, 0, 0, 0, 0, 0, 0, 1, 0, 0, 0, 0, 0, 9] := by decide

/-- a 16-octet block is determined by its little-endian value (so `incBlock_spec` determines `incBlock b`) -/
theorem natLE_leNat_block (b : Bytes) (h : b.length = 16) : natLE 16 (leNat b) = b := natLE_leNat_16 b h

/-! ### CTR -/

/-- `beltCTRStepE` from an arbitrary state keeps the length of the buffer. -/
theorem ctrStepE_length (C : Cipher) (hlen : ∀ k x, x.length = 16 → (C.enc k x).length = 16)
    (st : CtrSt) (hr : st.reserved ≤ 16) (hb : st.block.length = 16) (hc : st.ctr.length = 16) (buf : Bytes) :
    (ctrStepE C st buf).2.length = buf.length :=
  Aead.length_ctrStepE C hlen st buf hr hb hc

/-- `beltCTRStepE` (= `beltCTRStepD`) is an involution: applied twice from the SAME state (any reserve of key
stream `0 ≤ reserved ≤ 16`, any counter) it returns the original buffer, for every buffer length incl. 0 and
ragged tails; and the state after the call does not depend on the data. -/
theorem ctrStepE_involution (C : Cipher) (hlen : ∀ k x, x.length = 16 → (C.enc k x).length = 16)
    (st : CtrSt) (hr : st.reserved ≤ 16) (hb : st.block.length = 16) (hc : st.ctr.length = 16) (buf : Bytes) :
    (ctrStepE C st (ctrStepE C st buf).2).2 = buf ∧
    (ctrStepE C st (ctrStepE C st buf).2).1 = (ctrStepE C st buf).1 := by
  rw [Aead.ctrStepE_ctrStepE C hlen st buf hr hb hc]
  exact ⟨rfl, rfl⟩

/-- Fragment-wise CTR: processing the fragments with consecutive `beltCTRStepE` calls and then processing the
results again the same way from the same initial state returns the original fragments (same final state). -/
theorem ctr_fragments (C : Cipher) (hlen : ∀ k x, x.length = 16 → (C.enc k x).length = 16)
    (frags : List Bytes) (st : CtrSt) (hr : st.reserved ≤ 16) (hb : st.block.length = 16) (hc : st.ctr.length = 16) :
    runFrags (ctrStepE C) st (runFrags (ctrStepE C) st frags).2 = ((runFrags (ctrStepE C) st frags).1, frags) := by
  induction frags generalizing st with
  | nil => rfl
  | cons f fs ih =>
    obtain ⟨i1, i2, i3⟩ := Aead.ctrStepE_inv C hlen st f hr hb hc
    simp only [runFrags, Aead.ctrStepE_ctrStepE C hlen st f hr hb hc, ih _ i1 i2 i3]

example : (ctrStepE toyC ⟨[1, 2, 3], zeros 16, (zeros 15) ++ [9], 5⟩ [1, 2, 3, 4, 5, 6, 7]).2 = [1, 2, 3, 4, 12, 7, 4] := by
  decide

/-- The key stream of CTR.  After `beltCTRStart(key, iv)` the counter is `s = E_key(iv)`; octets
`16 i .. 16 i + 15` of the output of `beltCTRStepE` are the corresponding octets of the input xored with
`E_key(s ⊞ (i + 1))`, where `⊞` is addition modulo 2^128 on the little-endian value of the block; the last,
incomplete, block is xored with the prefix of that key-stream block (`xorb` truncates to the shorter
argument).  Together with `ctrStepE_length` this determines the whole output. -/
theorem ctrStepE_keystream (C : Cipher) (hlen : ∀ k x, x.length = 16 → (C.enc k x).length = 16)
    (key iv : Bytes) (hiv : iv.length = 16) (buf : Bytes) (i : Nat) :
    ((ctrStepE C (ctrStart C key iv) buf).2.drop (16 * i)).take 16 =
      xorb ((buf.drop (16 * i)).take 16)
        (C.enc (fmtKey key) (natLE 16 ((leNat (C.enc (fmtKey key) iv) + i + 1) % 2 ^ 128))) := by
  rw [Nat.add_assoc]
  exact Aead.ctrStepE_block C hlen (ctrStart C key iv) buf rfl rfl (hlen _ _ hiv) i

/-- `beltCTR` is its own inverse: `beltCTR(beltCTR(src, key, iv), key, iv) = src`. -/
theorem ctrCrypt_involution (C : Cipher) (hlen : ∀ k x, x.length = 16 → (C.enc k x).length = 16)
    (src key iv ct : Bytes) (hiv : iv.length = 16) (h : ctrCrypt C src key iv = (.ok, some ct)) :
    ctrCrypt C ct key iv = (.ok, some src) ∧ ct.length = src.length := by
  unfold ctrCrypt at h ⊢
  split at h
  · simp at h
  · rename_i hk
    rw [if_neg hk]
    simp only [Prod.mk.injEq, Option.some.injEq, true_and] at h
    subst h
    rw [Aead.ctrStepE_ctrStepE C hlen (ctrStart C key iv) src (Nat.zero_le _) rfl (hlen _ _ hiv)]
    exact ⟨rfl, Aead.length_ctrStepE C hlen (ctrStart C key iv) src (Nat.zero_le _) rfl (hlen _ _ hiv)⟩

/-- `beltCTR` fails exactly on a bad key length. -/
theorem ctrCrypt_badInput_iff (C : Cipher) (src key iv : Bytes) :
    (ctrCrypt C src key iv).1 = .badInput ↔ (key.length ≠ 16 ∧ key.length ≠ 24 ∧ key.length ≠ 32) := by
  unfold ctrCrypt validKeyLen
  split <;> simp_all

/-! ### CFB -/

/-- `beltCFBStepD` undoes `beltCFBStepE` when both start from the same state (any reserve of gamma
`0 ≤ reserved ≤ 16`), for every buffer length incl. 0 and ragged tails; the length is kept. -/
theorem cfbStepD_cfbStepE (C : Cipher) (hlen : ∀ k x, x.length = 16 → (C.enc k x).length = 16)
    (st : CfbSt) (hr : st.reserved ≤ 16) (hb : st.block.length = 16) (buf : Bytes) :
    (cfbStepD C st (cfbStepE C st buf).2).2 = buf ∧ (cfbStepE C st buf).2.length = buf.length :=
  ⟨(cfbStep_roundtrip C hlen st hr hb buf).2.1, (cfbStep_roundtrip C hlen st hr hb buf).1⟩

/-- ... and both end in the SAME state (block = last 16 ciphertext octets / partially used gamma,
same `reserved`), which again satisfies the state invariant. -/
theorem cfbStepD_cfbStepE_state (C : Cipher) (hlen : ∀ k x, x.length = 16 → (C.enc k x).length = 16)
    (st : CfbSt) (hr : st.reserved ≤ 16) (hb : st.block.length = 16) (buf : Bytes) :
    (cfbStepD C st (cfbStepE C st buf).2).1 = (cfbStepE C st buf).1 ∧
    (cfbStepE C st buf).1.block.length = 16 ∧ (cfbStepE C st buf).1.reserved ≤ 16 :=
  (cfbStep_roundtrip C hlen st hr hb buf).2.2

/-- Fragment-wise decryption of fragment-wise encryption: encrypting the fragments `frags` one
`beltCFBStepE` call after the other and then decrypting the resulting fragments one `beltCFBStepD` call
after the other (same fragmentation, same initial state) returns the original fragments, and both runs end
in the same state. -/
theorem cfb_fragments (C : Cipher) (hlen : ∀ k x, x.length = 16 → (C.enc k x).length = 16)
    (frags : List Bytes) (st : CfbSt) (hr : st.reserved ≤ 16) (hb : st.block.length = 16) :
    runFrags (cfbStepD C) st (runFrags (cfbStepE C) st frags).2 = ((runFrags (cfbStepE C) st frags).1, frags) := by
  induction frags generalizing st with
  | nil => rfl
  | cons f fs ih =>
    obtain ⟨_, h2, h3, h4, h5⟩ := cfbStep_roundtrip C hlen st hr hb f
    simp only [runFrags, h2, h3, ih _ h5 h4]

example : (cfbStepE toyC ⟨[1, 2, 3], (zeros 15) ++ [9], 3⟩ [1, 2, 3, 4, 5, 6, 7]).2 ≠ [1, 2, 3, 4, 5, 6, 7] := by decide
example : (runFrags (cfbStepE toyC) (cfbStart [] (zeros 16)) [[1, 2, 3], [], [4, 5]]).2 = [[0, 3, 2], [], [5, 4]] := by
  decide
example : (cfbStepE toyC (cfbStart [] (zeros 16)) [1, 2, 3, 4, 5]).2 = [0, 3, 2, 5, 4] := by decide

/-- `beltCFBDecr(beltCFBEncr(src, key, iv), key, iv) = src`, with the same length. -/
theorem cfbDecr_cfbEncr (C : Cipher) (hlen : ∀ k x, x.length = 16 → (C.enc k x).length = 16)
    (src key iv ct : Bytes) (hiv : iv.length = 16) (h : cfbEncr C src key iv = (.ok, some ct)) :
    cfbDecr C ct key iv = (.ok, some src) ∧ ct.length = src.length := by
  unfold cfbEncr at h
  unfold cfbDecr
  split at h
  · simp at h
  · rename_i hk
    rw [if_neg hk]
    simp only [Prod.mk.injEq, Option.some.injEq, true_and] at h
    subst h
    have hs := cfbStep_roundtrip C hlen (cfbStart key iv) (by simp [cfbStart]) (by simpa [cfbStart] using hiv) src
    rw [hs.2.1]
    exact ⟨rfl, hs.1⟩

/-- `beltCFBEncr` fails exactly on a bad key length. -/
theorem cfbEncr_badInput_iff (C : Cipher) (src key iv : Bytes) :
    (cfbEncr C src key iv).1 = .badInput ↔ (key.length ≠ 16 ∧ key.length ≠ 24 ∧ key.length ≠ 32) := by
  unfold cfbEncr validKeyLen
  split <;> simp_all

/-! ### BDE -/

/-- `beltBDEStepD` undoes `beltBDEStepE` from the same state (any 16-octet tweak register `s`), for every
number of whole blocks.  (The model also covers a buffer that is not a multiple of 16 -- a precondition
violation in C: the incomplete tail is left untouched by both.)  Both end in the same state. -/
theorem bdeStepD_bdeStepE (C : Cipher) (hlen : ∀ k x, x.length = 16 → (C.enc k x).length = 16)
    (hDE : ∀ k x, x.length = 16 → C.dec k (C.enc k x) = x)
    (st : BdeSt) (hs : st.s.length = 16) (buf : Bytes) :
    (bdeStepD C st (bdeStepE C st buf).2).2 = buf ∧ (bdeStepE C st buf).2.length = buf.length ∧
    (bdeStepD C st (bdeStepE C st buf).2).1 = (bdeStepE C st buf).1 := by
  obtain ⟨h1, h2, h3⟩ := bdeLoop_roundtrip C.enc C.dec st.key hlen hDE st.s hs buf
  rw [bdeStepE_eq, bdeStepD_eq]
  simp only [h1, h2, h3]
  exact ⟨trivial, trivial, trivial⟩

/-- `beltBDEStepE` undoes `beltBDEStepD` (needs `enc ∘ dec = id` and the length of `dec`). -/
theorem bdeStepE_bdeStepD (C : Cipher) (hlen : ∀ k x, x.length = 16 → (C.dec k x).length = 16)
    (hED : ∀ k x, x.length = 16 → C.enc k (C.dec k x) = x)
    (st : BdeSt) (hs : st.s.length = 16) (buf : Bytes) :
    (bdeStepE C st (bdeStepD C st buf).2).2 = buf ∧ (bdeStepD C st buf).2.length = buf.length := by
  obtain ⟨h1, h2, h3⟩ := bdeLoop_roundtrip C.dec C.enc st.key hlen hED st.s hs buf
  rw [bdeStepD_eq, bdeStepE_eq]
  simp only [h1, h2]
  exact ⟨trivial, trivial⟩

example : (bdeStepE toyC ⟨[1, 2, 3], (zeros 15) ++ [0x80], zeros 16⟩ (zeros 32)).2 ≠ zeros 32 := by decide

/-- `beltBDEDecr(beltBDEEncr(src, key, iv), key, iv) = src`. -/
theorem bdeDecr_bdeEncr (C : Cipher) (hlen : ∀ k x, x.length = 16 → (C.enc k x).length = 16)
    (hDE : ∀ k x, x.length = 16 → C.dec k (C.enc k x) = x)
    (src key iv ct : Bytes) (hiv : iv.length = 16) (h : bdeEncr C src key iv = (.ok, some ct)) :
    bdeDecr C ct key iv = (.ok, some src) ∧ ct.length = src.length := by
  unfold bdeEncr at h
  unfold bdeDecr
  split at h
  · simp at h
  · rename_i hk
    simp only [Prod.mk.injEq, Option.some.injEq, true_and] at h
    subst h
    have hs := bdeStepD_bdeStepE C hlen hDE (bdeStart C key iv) (hlen _ _ hiv) src
    rw [hs.2.1, if_neg hk, hs.1]
    exact ⟨rfl, rfl⟩

/-- `beltBDEEncr` returns `ERR_BAD_INPUT` exactly when the length is not a positive multiple of 16 or the key
length is not 16, 24 or 32; otherwise it returns `ERR_OK`. -/
theorem bdeEncr_badInput_iff (C : Cipher) (src key iv : Bytes) :
    ((bdeEncr C src key iv).1 = .badInput ↔
      (src.length % 16 ≠ 0 ∨ src.length < 16 ∨ (key.length ≠ 16 ∧ key.length ≠ 24 ∧ key.length ≠ 32))) ∧
    ((bdeEncr C src key iv).1 = .badInput ∨ (bdeEncr C src key iv).1 = .ok) := by
  unfold bdeEncr validKeyLen
  split <;> simp_all <;> omega

example : (bdeEncr toyC (zeros 17) (zeros 16) (zeros 16)).1 = .badInput := by decide
example : (bdeEncr toyC (zeros 32) (zeros 16) (zeros 16)).1 = .ok := by decide

/-! ### corollaries for belt -/

/-- `beltCTR` with the belt block cipher is an involution -/
theorem belt_ctrCrypt_involution (src key iv ct : Bytes) (hiv : iv.length = 16)
    (h : ctrCrypt beltCipher src key iv = (.ok, some ct)) :
    ctrCrypt beltCipher ct key iv = (.ok, some src) ∧ ct.length = src.length :=
  ctrCrypt_involution beltCipher length_blockEncr src key iv ct hiv h

/-- key stream of `beltCTR` with the belt block cipher -/
theorem belt_ctrStepE_keystream (key iv : Bytes) (hiv : iv.length = 16) (buf : Bytes) (i : Nat) :
    ((ctrStepE beltCipher (ctrStart beltCipher key iv) buf).2.drop (16 * i)).take 16 =
      xorb ((buf.drop (16 * i)).take 16)
        (beltCipher.enc (fmtKey key) (natLE 16 ((leNat (beltCipher.enc (fmtKey key) iv) + i + 1) % 2 ^ 128))) :=
  ctrStepE_keystream beltCipher length_blockEncr key iv hiv buf i

/-- `beltCFBDecr` inverts `beltCFBEncr` -/
theorem belt_cfbDecr_cfbEncr (src key iv ct : Bytes) (hiv : iv.length = 16)
    (h : cfbEncr beltCipher src key iv = (.ok, some ct)) :
    cfbDecr beltCipher ct key iv = (.ok, some src) ∧ ct.length = src.length :=
  cfbDecr_cfbEncr beltCipher length_blockEncr src key iv ct hiv h

/-- fragment-wise `beltCFBStepD` inverts fragment-wise `beltCFBStepE` -/
theorem belt_cfb_fragments (frags : List Bytes) (key iv : Bytes) (hiv : iv.length = 16) :
    runFrags (cfbStepD beltCipher) (cfbStart key iv) (runFrags (cfbStepE beltCipher) (cfbStart key iv) frags).2 =
      ((runFrags (cfbStepE beltCipher) (cfbStart key iv) frags).1, frags) :=
  cfb_fragments beltCipher length_blockEncr frags (cfbStart key iv) (by simp [cfbStart]) (by simpa [cfbStart] using hiv)

/-- `beltBDEDecr` inverts `beltBDEEncr` -/
theorem belt_bdeDecr_bdeEncr (src key iv ct : Bytes) (hiv : iv.length = 16)
    (h : bdeEncr beltCipher src key iv = (.ok, some ct)) :
    bdeDecr beltCipher ct key iv = (.ok, some src) ∧ ct.length = src.length :=
  bdeDecr_bdeEncr beltCipher length_blockEncr blockDecr_blockEncr' src key iv ct hiv h

/-- `beltBDEStepE` inverts `beltBDEStepD` for belt -/
theorem belt_bdeStepE_bdeStepD (st : BdeSt) (hs : st.s.length = 16) (buf : Bytes) :
    (bdeStepE beltCipher st (bdeStepD beltCipher st buf).2).2 = buf ∧
    (bdeStepD beltCipher st buf).2.length = buf.length :=
  bdeStepE_bdeStepD beltCipher length_blockDecr blockEncr_blockDecr' st hs buf

end Bee2V.C01
