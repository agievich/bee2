/-
C01 property theorems: the DWP / CHE tag is the polynomial MAC of STB 34.101.31 over
GF(2^128) = GF(2)[x]/(x^128 + x^7 + x^2 + x + 1); `beltBlockMulC` is multiplication by x.
Only property theorems and non-vacuity examples.  The standards-level definitions `Spec.polyAbsorb` / `Spec.polyMac`
and all helper lemmas are in Lemmas/Tag.lean; `gfMul` (field product on Nat-coded polynomials) is from Lemmas/PolyCode.lean.

  Spec.polyAbsorb r t X = fold over the 128-bit blocks B_i of X (last one zero-padded):  t ← (t ⊕ ⟦B_i⟧) * r
  Spec.polyMac r I X    = (polyAbsorb r (polyAbsorb r ⟦H[0..16)⟧ I) X ⊕ ⟦⟨8|I|⟩_64 ‖ ⟨8|X|⟩_64⟧) * r
-/
import Bee2V.C01.Lemmas.Tag
import Bee2V.C01.PropsAead
namespace Bee2V.C01
open Bee2V.Gen.C01 Bee2V.C01.Poly

/-! ### the tag as a polynomial MAC -/

/-- `beltDWPStart; beltDWPStepI(ad); beltDWPStepA(ct); beltDWPStepG` computes
`tag = Lo_64( E_K( (…((⟦H⟧ ⊕ I_1) r ⊕ I_2) r … ⊕ X_m) r ⊕ ⟦⟨|I|⟩_64 ‖ ⟨|X|⟩_64⟧) r ) )` with `s = E_K(iv)`,
`r = E_K(s)`, products in GF(2^128), little-endian polynomial coding: the buffering of `absorb16`, the zero padding
of the last open-data block when the first critical octet arrives (or in StepG if there is no critical data), the
zero padding of the last critical block and the bit-length block all agree with the standard's formula.
For every cipher with 16-octet blocks, every key (`K = beltKeyExpand2(key)`), every word size `w` of the length
arithmetic, open data shorter than 2^64 octets (the bit length is taken modulo 2^64) and critical data shorter
than 2^61 octets. -/
theorem dwpTag_spec (C : Cipher) (hlen : ∀ k x, x.length = 16 → (C.enc k x).length = 16) (w : Nat)
    (ct ad key iv : Bytes) (hiv : iv.length = 16) (had : ad.length < 2 ^ 64) (hct : ct.length < 2 ^ 61) :
    dwpTag C w ct ad key iv =
      (C.enc (fmtKey key) (natLE 16 (Spec.polyMac (leNat (C.enc (fmtKey key) (C.enc (fmtKey key) iv))) ad ct))).take 8 := by
  rw [Aead.dwpTag_eq]; exact TagL.polyTag_spec C w _ _ ct ad (hlen _ _ (hlen _ _ hiv)) had hct

/-- The same for CHE, where `r = E_K(iv)` (and the keystream starts from `s = r`). -/
theorem cheTag_spec (C : Cipher) (hlen : ∀ k x, x.length = 16 → (C.enc k x).length = 16) (w : Nat)
    (ct ad key iv : Bytes) (hiv : iv.length = 16) (had : ad.length < 2 ^ 64) (hct : ct.length < 2 ^ 61) :
    cheTag C w ct ad key iv =
      (C.enc (fmtKey key) (natLE 16 (Spec.polyMac (leNat (C.enc (fmtKey key) iv)) ad ct))).take 8 := by
  rw [Aead.cheTag_eq]; exact TagL.polyTag_spec C w _ _ ct ad (hlen _ _ hiv) had hct

/-- Fragment independence: feeding the open data as ANY sequence of `beltDWPStepI` calls (fragments of any
lengths, including empty ones) and then the critical data as ANY sequence of `beltDWPStepA` calls yields the tag of
the concatenations, i.e. the one-shot tag. -/
theorem dwpTag_fragments (C : Cipher) (hlen : ∀ k x, x.length = 16 → (C.enc k x).length = 16) (w : Nat)
    (cts ads : List Bytes) (key iv : Bytes) (hiv : iv.length = 16) (had : ads.flatten.length < 2 ^ 64)
    (hct : cts.flatten.length < 2 ^ 61) :
    (dwpStepG C (cts.foldl (dwpStepA w) (ads.foldl (dwpStepI w) (dwpStart C key iv)))).2 =
      dwpTag C w cts.flatten ads.flatten key iv := by
  rw [dwpTag_spec C hlen w _ _ key iv hiv had hct]
  exact TagL.dwp_run C hlen w cts ads key iv hiv had hct

theorem cheTag_fragments (C : Cipher) (hlen : ∀ k x, x.length = 16 → (C.enc k x).length = 16) (w : Nat)
    (cts ads : List Bytes) (key iv : Bytes) (hiv : iv.length = 16) (had : ads.flatten.length < 2 ^ 64)
    (hct : cts.flatten.length < 2 ^ 61) :
    (cheStepG C (cts.foldl (cheStepA w) (ads.foldl (cheStepI w) (cheStart C key iv)))).2 =
      cheTag C w cts.flatten ads.flatten key iv := by
  rw [cheTag_spec C hlen w _ _ key iv hiv had hct]
  exact TagL.che_run C hlen w cts ads key iv hiv had hct

/-- `beltDWPWrap` as a whole in the terms of the standard: the ciphertext is the CTR encryption of the plaintext and
the tag is the polynomial MAC of (open data, CIPHERTEXT) under `r = E_K(E_K(iv))`, encrypted and truncated. -/
theorem dwpWrap_poly (C : Cipher) (hlen : ∀ k x, x.length = 16 → (C.enc k x).length = 16) (w : Nat)
    (src1 src2 key iv ct tag : Bytes) (hiv : iv.length = 16) (h1 : src1.length < 2 ^ 61) (h2 : src2.length < 2 ^ 64)
    (hw : dwpWrap C w src1 src2 key iv = (.ok, some (ct, tag))) :
    ct = (ctrStepE C (ctrStart C key iv) src1).2 ∧
    tag = (C.enc (fmtKey key) (natLE 16
      (Spec.polyMac (leNat (C.enc (fmtKey key) (C.enc (fmtKey key) iv))) src2 ct))).take 8 := by
  rw [dwpWrap_spec] at hw
  cases hk : validKeyLen key.length
  · simp only [hk, Bool.not_false, if_true, Prod.mk.injEq, reduceCtorEq, false_and] at hw
  · simp only [hk, Bool.not_true, Bool.false_eq_true, if_false, Prod.mk.injEq, true_and, Option.some.injEq] at hw
    have hl := Aead.length_ctrStepE C hlen (ctrStart C key iv) src1 (Nat.zero_le _) rfl (hlen _ _ hiv)
    rcases hw with ⟨e1, e2⟩
    refine ⟨e1.symm, ?_⟩
    rw [← e2, e1]
    exact dwpTag_spec C hlen w ct src2 key iv hiv h2 (by rw [← e1, hl]; exact h1)

theorem cheWrap_poly (C : Cipher) (hlen : ∀ k x, x.length = 16 → (C.enc k x).length = 16) (w : Nat)
    (src1 src2 key iv ct tag : Bytes) (hiv : iv.length = 16) (h1 : src1.length < 2 ^ 61) (h2 : src2.length < 2 ^ 64)
    (hw : cheWrap C w src1 src2 key iv = (.ok, some (ct, tag))) :
    ct = (cheStepE C (cheStart C key iv) src1).2 ∧
    tag = (C.enc (fmtKey key) (natLE 16 (Spec.polyMac (leNat (C.enc (fmtKey key) iv)) src2 ct))).take 8 := by
  rw [cheWrap_spec] at hw
  cases hk : validKeyLen key.length
  · simp only [hk, Bool.not_false, if_true, Prod.mk.injEq, reduceCtorEq, false_and] at hw
  · simp only [hk, Bool.not_true, Bool.false_eq_true, if_false, Prod.mk.injEq, true_and, Option.some.injEq] at hw
    have hl := Aead.length_cheStepE C hlen (cheStart C key iv) src1 (Nat.zero_le _) rfl (hlen _ _ hiv)
    rcases hw with ⟨e1, e2⟩
    refine ⟨e1.symm, ?_⟩
    rw [← e2, e1]
    exact cheTag_spec C hlen w ct src2 key iv hiv h2 (by rw [← e1, hl]; exact h1)

/-- non-vacuity (toy cipher `x ↦ x + 1` octet-wise): the formula evaluated in the kernel gives the tag the model
computes (PropsAead.lean: `dwpWrap aeadToyCipher 64 [1,2,3] [9] 0^16 0^16 = ([2,0,1], [11,165,224,…])`), also with
17 octets of open data / 33 octets of critical data (padding of both kinds of last blocks) -/
example : (aeadToyCipher.enc (fmtKey (zeros 16)) (natLE 16 (Spec.polyMac
    (leNat (aeadToyCipher.enc (fmtKey (zeros 16)) (aeadToyCipher.enc (fmtKey (zeros 16)) (zeros 16)))) [9] [2, 0, 1]))).take 8
    = [11, 165, 224, 242, 12, 0, 237, 121] := by decide +kernel
example : dwpTag aeadToyCipher 64 [2, 0, 1] [9] (zeros 16) (zeros 16) = [11, 165, 224, 242, 12, 0, 237, 121] := by
  decide +kernel
example :
    let ad : Bytes := (List.range 17).map UInt8.ofNat
    let ct : Bytes := (List.range 33).map UInt8.ofNat
    cheTag aeadToyCipher 32 ct ad (zeros 32) (zeros 16) =
      (aeadToyCipher.enc (fmtKey (zeros 32)) (natLE 16 (Spec.polyMac
        (leNat (aeadToyCipher.enc (fmtKey (zeros 32)) (zeros 16))) ad ct))).take 8 := by decide +kernel
/-- fragments: 17 octets of open data as 5 + 0 + 12, 33 octets of critical data as 1 + 31 + 1 -/
example :
    let ad : Bytes := (List.range 17).map UInt8.ofNat
    let ct : Bytes := (List.range 33).map UInt8.ofNat
    (dwpStepG aeadToyCipher ([ct.take 1, (ct.drop 1).take 31, ct.drop 32].foldl (dwpStepA 64)
      ([ad.take 5, [], ad.drop 5].foldl (dwpStepI 64) (dwpStart aeadToyCipher (zeros 16) (zeros 16))))).2
      = dwpTag aeadToyCipher 64 ct ad (zeros 16) (zeros 16) := by decide +kernel
/-- the MAC depends on the split between open and critical data -/
example : Spec.polyMac 2 [1] [] ≠ Spec.polyMac 2 [] [1] := by decide +kernel

/-! ### multiplication by x -/

/-- Multiplication by x in the field: shift, and reduce by x^128 = x^7 + x^2 + x + 1 when the top bit falls out. -/
theorem gfMul_x (v : Nat) (hv : v < 2 ^ 128) :
    gfMul v 2 = (2 * v % 2 ^ 128) ^^^ (if v < 2 ^ 127 then 0 else 0x87) := TagL.gfMul_two v hv

/-- `beltBlockMulC` (word-level shifts with the regular mask `~((block[3] >> 31) - 1) & 0x87`) multiplies the
128-bit block, read as a polynomial in little-endian coding, by x in GF(2^128). -/
theorem mulC_spec (b : Bytes) (h : b.length = 16) : leNat (mulC b) = gfMul (leNat b) 2 ∧ (mulC b).length = 16 := by
  rcases u32From_16 b h with ⟨w0, w1, w2, w3, hw⟩
  refine ⟨?_, Stream.length_mulC b h⟩
  rw [mulC, leNat_u32To, hw, (TagL.mulCW_val w0 w1 w2 w3).1, ← hw, u32Val_u32From b h]

/-- BDE / SDE tweaks: the tweak of block `i` is `s · x^i` (each `beltBDEStepE` block does `s ← beltBlockMulC(s)`). -/
theorem mulC_iterate_spec (s : Bytes) (h : s.length = 16) (i : Nat) :
    leNat (Nat.iterate mulC i s) = Nat.iterate (fun v => gfMul v 2) i (leNat s) ∧
      (Nat.iterate mulC i s).length = 16 := by
  induction i generalizing s with
  | zero => exact ⟨rfl, h⟩
  | succ i ih =>
    have hm := mulC_spec s h
    have := ih (mulC s) hm.2
    simp only [Nat.iterate]
    rw [← hm.1]
    exact this

/-- CHE keystream state update `beltBlockMulC(s); s[0] ^= 1` is the standard's `s ← (s * C) ⊕ ⟨1⟩_128`, C = x. -/
theorem cheNextS_spec (s : Bytes) (h : s.length = 16) :
    leNat (cheNextS s) = gfMul (leNat s) 2 ^^^ 1 ∧ (cheNextS s).length = 16 := by
  refine ⟨?_, Aead.length_cheNextS s h⟩
  have hm := mulC_spec s h
  unfold cheNextS
  cases hc : mulC s with
  | nil => rw [hc] at hm; simp only [List.length_nil] at hm; omega
  | cons b0 rest =>
    rw [hc] at hm
    simp only [leNat] at hm ⊢
    rw [← hm.1, UInt8.toNat_xor]
    have e := TagL.xor_limb 8 b0.toNat (leNat rest) 1 0 b0.toNat_lt (by decide)
    rw [Nat.xor_zero, Nat.mul_zero, Nat.add_zero] at e
    simp only [Nat.reducePow] at e
    have e1 : (1 : UInt8).toNat = 1 := rfl
    rw [e1, e]

example : mulC (natLE 16 (2 ^ 127)) = natLE 16 0x87 := by decide +kernel
example : mulC (natLE 16 (2 ^ 127 + 2 ^ 31 + 1)) = natLE 16 (2 ^ 32 + 2 ^^^ 0x87) := by decide +kernel
example : gfMul (2 ^ 127) 2 = 0x87 := by decide +kernel
example : cheNextS (natLE 16 3) = natLE 16 7 := by decide +kernel

/-! ### the real cipher -/

/-- The formulas for the belt block cipher itself (`beltCipher.enc = blockEncr`, the model of `beltBlockEncr`). -/
theorem belt_dwpTag_spec (w : Nat) (ct ad key iv : Bytes) (hiv : iv.length = 16) (had : ad.length < 2 ^ 64)
    (hct : ct.length < 2 ^ 61) :
    dwpTag beltCipher w ct ad key iv =
      (beltCipher.enc (fmtKey key) (natLE 16 (Spec.polyMac
        (leNat (beltCipher.enc (fmtKey key) (beltCipher.enc (fmtKey key) iv))) ad ct))).take 8 :=
  dwpTag_spec beltCipher (fun k x h => length_blockEncr k x h) w ct ad key iv hiv had hct

theorem belt_cheTag_spec (w : Nat) (ct ad key iv : Bytes) (hiv : iv.length = 16) (had : ad.length < 2 ^ 64)
    (hct : ct.length < 2 ^ 61) :
    cheTag beltCipher w ct ad key iv =
      (beltCipher.enc (fmtKey key) (natLE 16 (Spec.polyMac (leNat (beltCipher.enc (fmtKey key) iv)) ad ct))).take 8 :=
  cheTag_spec beltCipher (fun k x h => length_blockEncr k x h) w ct ad key iv hiv had hct

example : beltCipher.enc = blockEncr := rfl

theorem belt_dwpTag_fragments (w : Nat) (cts ads : List Bytes) (key iv : Bytes) (hiv : iv.length = 16)
    (had : ads.flatten.length < 2 ^ 64) (hct : cts.flatten.length < 2 ^ 61) :
    (dwpStepG beltCipher (cts.foldl (dwpStepA w) (ads.foldl (dwpStepI w) (dwpStart beltCipher key iv)))).2 =
      dwpTag beltCipher w cts.flatten ads.flatten key iv :=
  dwpTag_fragments beltCipher (fun k x h => length_blockEncr k x h) w cts ads key iv hiv had hct

theorem belt_cheTag_fragments (w : Nat) (cts ads : List Bytes) (key iv : Bytes) (hiv : iv.length = 16)
    (had : ads.flatten.length < 2 ^ 64) (hct : cts.flatten.length < 2 ^ 61) :
    (cheStepG beltCipher (cts.foldl (cheStepA w) (ads.foldl (cheStepI w) (cheStart beltCipher key iv)))).2 =
      cheTag beltCipher w cts.flatten ads.flatten key iv :=
  cheTag_fragments beltCipher (fun k x h => length_blockEncr k x h) w cts ads key iv hiv had hct

/-- non-vacuity with the real cipher: belt-dwp tag of ([1,2,3] encrypted, [9]) under the zero key / iv -/
example : (blockEncr (fmtKey (zeros 16)) (natLE 16 (Spec.polyMac
    (leNat (blockEncr (fmtKey (zeros 16)) (blockEncr (fmtKey (zeros 16)) (zeros 16)))) [9] [218, 94, 25]))).take 8
    = [1, 80, 32, 206, 224, 39, 109, 141] := by decide +kernel

end Bee2V.C01
