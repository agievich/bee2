/-
C01 property theorems: FMT block count, the kernel-checked part of the table.
-/
import Bee2V.C01.PropsFmt
namespace Bee2V.C01

/-
FULL STATEMENT (the standard's b = min{b | mod^count ≤ 2^(64 b)} on the whole domain of the API):
  ∀ mod count, 2 ≤ mod → mod ≤ 65536 → 1 ≤ count → count ≤ 300 → IsBlockCount mod count (calcB mod count)
PROVED HERE by kernel evaluation (`decide +kernel`) of the model of beltFMTCalcB with the constants regenerated
from the source: every alphabet size 2..17409 and the 49 rows of `fmtExtraRows` (49667 ± 1, 2^11..2^16 ± 1,
65535, 65536, perfect powers), every count 1..300 -- 17457 rows x 300 counts.
MISSING: the rows 17410..65534 outside `fmtExtraRows`;
they are covered by the exhaustive comparison implementation = model = exact integers of the thorough tier only.
-/
theorem calcB_spec_rows_partial (mod count : Nat) (hm : (2 ≤ mod ∧ mod < 17410) ∨ mod ∈ fmtExtraRows)
    (hc : 1 ≤ count) (hc' : count ≤ 300) : IsBlockCount mod count (calcB mod count) := by
  rcases hm with ⟨h2, hlt⟩ | hrow
  · exact calcB_spec_rows mod count h2 hlt hc hc'
  · exact calcB_spec_partial mod count (Or.inr hrow) hc hc'

/-- non-vacuity: a row above 1025, with the block count attained exactly -/
example : IsBlockCount 10007 100 (calcB 10007 100) := calcB_spec_rows_partial 10007 100 (Or.inl (by omega)) (by omega) (by omega)
example : calcB 10007 100 = 21 := by decide +kernel

end Bee2V.C01
