/-
C01: the block cipher of STB 34.101.31 §6.1 written the way the standard writes it (namespace
`Bee2V.C01.Spec`), and the helper lemmas that connect it to the macro formulation of belt_block.c
(namespace `Bee2V.C01`).  No Mathlib.
-/
import Bee2V.C01.Spec
import Bee2V.C01.Lemmas.Block
import Bee2V.C01.Props
namespace Bee2V.C01.Spec
open Bee2V.Gen.C01

/-! ### G-blocks (§6.1.2): `G_r(u) = RotHi^r(H(u1) ‖ H(u2) ‖ H(u3) ‖ H(u4))`, `u = u1 ‖ u2 ‖ u3 ‖ u4`,
words are little-endian: `u1` is the least significant octet. -/

/-- `H(u1) ‖ H(u2) ‖ H(u3) ‖ H(u4)` as a 32-bit word -/
def hWord (x : UInt32) : UInt32 :=
  H[(x &&& 255).toNat]!.toUInt32 ||| H[(x >>> 8 &&& 255).toNat]!.toUInt32 <<< 8 |||
    H[(x >>> 16 &&& 255).toNat]!.toUInt32 <<< 16 ||| H[(x >>> 24).toNat]!.toUInt32 <<< 24

/-- `G_r` -/
def G (r : UInt32) (x : UInt32) : UInt32 := rotHi (hWord x) r

/-- the G-blocks of the standard, as the record used by the round model -/
def specG : GFun := ⟨G 5, G 13, G 21⟩

/-! ### Round keys (§6.1.3): `θ = θ1 ‖ … ‖ θ8`, `K[1] = θ1, …, K[8] = θ8, K[9] = θ1, …, K[56] = θ8`.
The array holds θ1..θ8 at positions 0..7. -/

/-- `K[j]`, `j = 1..56` -/
def rk (θ : Array UInt32) (j : Nat) : UInt32 := θ[(j - 1) % 8]!

/-- steps 2.1)–2.9) of encryption and decryption; `k1..k7` are the seven round keys in the order in which the
steps use them; `e` is the auxiliary register of the standard -/
def steps (g : GFun) (k1 k2 k3 k4 k5 k6 k7 : UInt32) (i : Nat) (a b c d : UInt32) : Regs :=
  let b := b ^^^ g.g5 (a + k1)                       -- 1) b ← b ⊕ G5(a ⊞ k1)
  let c := c ^^^ g.g21 (d + k2)                      -- 2) c ← c ⊕ G21(d ⊞ k2)
  let a := a - g.g13 (b + k3)                        -- 3) a ← a ⊟ G13(b ⊞ k3)
  let e := g.g21 (b + c + k4) ^^^ UInt32.ofNat i     -- 4) e ← G21(b ⊞ c ⊞ k4) ⊕ ⟨i⟩32
  let b := b + e                                     -- 5) b ← b ⊞ e
  let c := c - e                                     -- 6) c ← c ⊟ e
  let d := d + g.g13 (c + k5)                        -- 7) d ← d ⊞ G13(c ⊞ k5)
  let b := b ^^^ g.g21 (a + k6)                      -- 8) b ← b ⊕ G21(a ⊞ k6)
  let c := c ^^^ g.g5 (d + k7)                       -- 9) c ← c ⊕ G5(d ⊞ k7)
  (a, b, c, d)

/-- round `i` of encryption: steps 1)–9) with `K[7i-6], …, K[7i]`, then 10) `a ↔ b`, 11) `c ↔ d`, 12) `b ↔ c` -/
def encRound (g : GFun) (θ : Array UInt32) (x : Regs) (i : Nat) : Regs :=
  let (a, b, c, d) := x
  let (a, b, c, d) := steps g (rk θ (7 * i - 6)) (rk θ (7 * i - 5)) (rk θ (7 * i - 4)) (rk θ (7 * i - 3))
    (rk θ (7 * i - 2)) (rk θ (7 * i - 1)) (rk θ (7 * i)) i a b c d
  let (a, b) := (b, a)
  let (c, d) := (d, c)
  let (b, c) := (c, b)
  (a, b, c, d)

/-- round `i` of decryption: steps 1)–9) with `K[7i], …, K[7i-6]`, then 10) `a ↔ b`, 11) `c ↔ d`, 12) `a ↔ d` -/
def decRound (g : GFun) (θ : Array UInt32) (x : Regs) (i : Nat) : Regs :=
  let (a, b, c, d) := x
  let (a, b, c, d) := steps g (rk θ (7 * i)) (rk θ (7 * i - 1)) (rk θ (7 * i - 2)) (rk θ (7 * i - 3))
    (rk θ (7 * i - 4)) (rk θ (7 * i - 5)) (rk θ (7 * i - 6)) i a b c d
  let (a, b) := (b, a)
  let (c, d) := (d, c)
  let (a, d) := (d, a)
  (a, b, c, d)

/-- encryption of `X = a ‖ b ‖ c ‖ d`: rounds `i = 1, 2, …, 8`, then `Y ← b ‖ d ‖ a ‖ c` -/
def encr (g : GFun) (θ : Array UInt32) (x : Regs) : Regs :=
  let (a, b, c, d) := [1, 2, 3, 4, 5, 6, 7, 8].foldl (encRound g θ) x
  (b, d, a, c)

/-- decryption of `Y = a ‖ b ‖ c ‖ d`: rounds `i = 8, 7, …, 1`, then `X ← c ‖ a ‖ d ‖ b` -/
def decr (g : GFun) (θ : Array UInt32) (x : Regs) : Regs :=
  let (a, b, c, d) := [8, 7, 6, 5, 4, 3, 2, 1].foldl (decRound g θ) x
  (c, a, d, b)

/-- the cipher on octets: the block and the key are split into little-endian 32-bit words -/
def blockEncr (g : GFun) (key blk : Bytes) : Bytes :=
  match u32From blk with
  | [a, b, c, d] =>
    let (a, b, c, d) := encr g (u32From key).toArray (a, b, c, d)
    u32To [a, b, c, d]
  | _ => blk

def blockDecr (g : GFun) (key blk : Bytes) : Bytes :=
  match u32From blk with
  | [a, b, c, d] =>
    let (a, b, c, d) := decr g (u32From key).toArray (a, b, c, d)
    u32To [a, b, c, d]
  | _ => blk

/-! ### Key expansion (§6.1.? / `beltKeyExpand`) on the eight key words -/

/-- 128-bit key: `θ5..θ8 = θ1..θ4`; 192-bit key: `θ7 = θ1 ⊕ θ2 ⊕ θ3`, `θ8 = θ4 ⊕ θ5 ⊕ θ6`; 256-bit key: unchanged -/
def keyExpandW : List UInt32 → List UInt32
  | [t1, t2, t3, t4] => [t1, t2, t3, t4, t1, t2, t3, t4]
  | [t1, t2, t3, t4, t5, t6] => [t1, t2, t3, t4, t5, t6, t1 ^^^ t2 ^^^ t3, t4 ^^^ t5 ^^^ t6]
  | ts => ts

end Bee2V.C01.Spec

namespace Bee2V.C01
open Bee2V.Gen.C01

/-! ## Rounds -/

theorem u32_e_step (b c e : UInt32) : c + b - (b + e) = c - e := by grind

/-- The macro `R` performs steps 1)–9) of the standard (which uses the extra register `e`). -/
theorem R_eq_steps (g : GFun) (sk : Nat → UInt32) (i : Nat) (a b c d : UInt32) :
    R g sk (UInt32.ofNat i) a b c d = Spec.steps g (sk 0) (sk 1) (sk 2) (sk 3) (sk 4) (sk 5) (sk 6) i a b c d := by
  simp only [R, Spec.steps, u32_e_step]
  rw [UInt32.add_comm (c ^^^ g.g21 (d + sk 1)) (b ^^^ g.g5 (a + sk 0))]

theorem roundE_eq (g : GFun) (K : Array UInt32) (i : Nat) (a b c d : UInt32) :
    roundE g K i a b c d = Spec.steps g (subkeyE K i 0) (subkeyE K i 1) (subkeyE K i 2) (subkeyE K i 3)
      (subkeyE K i 4) (subkeyE K i 5) (subkeyE K i 6) i a b c d := R_eq_steps g _ i a b c d

theorem roundD_eq (g : GFun) (K : Array UInt32) (i : Nat) (a b c d : UInt32) :
    roundD g K i a b c d = Spec.steps g (subkeyD K i 0) (subkeyD K i 1) (subkeyD K i 2) (subkeyD K i 3)
      (subkeyD K i 4) (subkeyD K i 5) (subkeyD K i 6) i a b c d := R_eq_steps g _ i a b c d

/-- macro `E` = the eight rounds of the standard followed by `Y ← b ‖ d ‖ a ‖ c` -/
theorem E_eq_encr (g : GFun) (K : Array UInt32) (a b c d : UInt32) :
    E g K a b c d = Spec.encr g K (a, b, c, d) := by
  simp only [E, encRounds, Spec.encr, List.foldl, Spec.encRound, roundE_eq, xorSwap_eq, subkeyE, Spec.rk,
    Nat.reduceMul, Nat.reduceSub, Nat.reduceAdd, Nat.reduceMod]

/-- macro `D` = the eight rounds of the standard (i = 8..1) followed by `X ← c ‖ a ‖ d ‖ b` -/
theorem D_eq_decr (g : GFun) (K : Array UInt32) (a b c d : UInt32) :
    D g K a b c d = Spec.decr g K (a, b, c, d) := by
  simp only [D, decRounds, Spec.decr, List.foldl, Spec.decRound, roundD_eq, xorSwap_eq, subkeyD, Spec.rk,
    Nat.reduceMul, Nat.reduceSub, Nat.reduceMod]

/-! ## G-blocks -/

theorem xor_eq_or_of_and_eq_zero (a b : UInt32) (h : a &&& b = 0) : a ^^^ b = a ||| b := by
  rw [← UInt32.toBitVec_inj] at h ⊢
  simp only [UInt32.toBitVec_xor, UInt32.toBitVec_or, UInt32.toBitVec_and, UInt32.toBitVec_zero] at h ⊢
  ext i hi
  have := congrArg (fun v => v.getLsbD i) h
  simp only [BitVec.getLsbD_and, BitVec.getLsbD_zero] at this
  simp only [BitVec.getElem_xor, BitVec.getElem_or]
  simp only [← BitVec.getLsbD_eq_getElem] 
  revert this
  cases a.toBitVec.getLsbD i <;> cases b.toBitVec.getLsbD i <;> simp

theorem or_and_eq_zero (a b c : UInt32) (h1 : a &&& c = 0) (h2 : b &&& c = 0) : (a ||| b) &&& c = 0 := by
  rw [← UInt32.toBitVec_inj] at h1 h2 ⊢
  simp only [UInt32.toBitVec_or, UInt32.toBitVec_and, UInt32.toBitVec_zero] at h1 h2 ⊢
  rw [BitVec.and_or_distrib_right, h1, h2, BitVec.or_self]

theorem and_eq_zero_of_masks (a b ma mb : UInt32) (ha : a &&& ma = a) (hb : b &&& mb = b) (hm : ma &&& mb = 0) :
    a &&& b = 0 := by
  calc a &&& b = (a &&& ma) &&& (b &&& mb) := by rw [ha, hb]
    _ = (a &&& b) &&& (ma &&& mb) := by ac_rfl
    _ = 0 := by rw [hm, UInt32.and_zero]

/-- four words living in four pairwise disjoint masks: xor = or -/
theorem xor4_eq_or4 (t0 t1 t2 t3 m0 m1 m2 m3 : UInt32)
    (h0 : t0 &&& m0 = t0) (h1 : t1 &&& m1 = t1) (h2 : t2 &&& m2 = t2) (h3 : t3 &&& m3 = t3)
    (m01 : m0 &&& m1 = 0) (m02 : m0 &&& m2 = 0) (m03 : m0 &&& m3 = 0) (m12 : m1 &&& m2 = 0) (m13 : m1 &&& m3 = 0)
    (m23 : m2 &&& m3 = 0) : t0 ^^^ t1 ^^^ t2 ^^^ t3 = t0 ||| t1 ||| t2 ||| t3 := by
  have d01 := and_eq_zero_of_masks _ _ _ _ h0 h1 m01
  have d02 := and_eq_zero_of_masks _ _ _ _ h0 h2 m02
  have d03 := and_eq_zero_of_masks _ _ _ _ h0 h3 m03
  have d12 := and_eq_zero_of_masks _ _ _ _ h1 h2 m12
  have d13 := and_eq_zero_of_masks _ _ _ _ h1 h3 m13
  have d23 := and_eq_zero_of_masks _ _ _ _ h2 h3 m23
  rw [xor_eq_or_of_and_eq_zero t0 t1 d01, xor_eq_or_of_and_eq_zero _ t2 (or_and_eq_zero _ _ _ d02 d12),
    xor_eq_or_of_and_eq_zero _ t3 (or_and_eq_zero _ _ _ (or_and_eq_zero _ _ _ d03 d13) d23)]

theorem rotHi_or (a b r : UInt32) : Spec.rotHi (a ||| b) r = Spec.rotHi a r ||| Spec.rotHi b r := by
  simp only [Spec.rotHi, UInt32.shiftLeft_or, UInt32.shiftRight_or]
  ac_rfl

theorem u8_forall (p : UInt8 → Prop) (h : ∀ i : Fin 256, p (UInt8.ofNat i.val)) (b : UInt8) : p b := by
  have := h ⟨b.toNat, b.toNat_lt⟩
  simpa using this

theorem idx_and255 (y : UInt32) : (y &&& 255).toNat < 256 := by
  rw [UInt32.toNat_and]
  exact Nat.lt_of_le_of_lt Nat.and_le_right (by decide)

theorem idx_shr24 (x : UInt32) : (x >>> 24).toNat < 256 := by
  have := x.toNat_lt
  rw [UInt32.toNat_shiftRight]
  simp only [UInt32.toNat_ofNat, Nat.shiftRight_eq_div_pow, Nat.reducePow, Nat.reduceMod]
  omega

/-! `RotHi^r(h ≪ s) = RotHi^(r+s mod 32)(h)` for an octet `h`: facts about rotations only (no table involved) -/
theorem rotHi_shl_8_5 (b : UInt8) : Spec.rotHi (b.toUInt32 <<< 8) 5 = Spec.rotHi b.toUInt32 13 :=
  u8_forall (fun b => Spec.rotHi (b.toUInt32 <<< 8) 5 = Spec.rotHi b.toUInt32 13) (by decide +kernel) b
theorem rotHi_shl_16_5 (b : UInt8) : Spec.rotHi (b.toUInt32 <<< 16) 5 = Spec.rotHi b.toUInt32 21 :=
  u8_forall (fun b => Spec.rotHi (b.toUInt32 <<< 16) 5 = Spec.rotHi b.toUInt32 21) (by decide +kernel) b
theorem rotHi_shl_24_5 (b : UInt8) : Spec.rotHi (b.toUInt32 <<< 24) 5 = Spec.rotHi b.toUInt32 29 :=
  u8_forall (fun b => Spec.rotHi (b.toUInt32 <<< 24) 5 = Spec.rotHi b.toUInt32 29) (by decide +kernel) b
theorem rotHi_shl_8_13 (b : UInt8) : Spec.rotHi (b.toUInt32 <<< 8) 13 = Spec.rotHi b.toUInt32 21 :=
  u8_forall (fun b => Spec.rotHi (b.toUInt32 <<< 8) 13 = Spec.rotHi b.toUInt32 21) (by decide +kernel) b
theorem rotHi_shl_16_13 (b : UInt8) : Spec.rotHi (b.toUInt32 <<< 16) 13 = Spec.rotHi b.toUInt32 29 :=
  u8_forall (fun b => Spec.rotHi (b.toUInt32 <<< 16) 13 = Spec.rotHi b.toUInt32 29) (by decide +kernel) b
theorem rotHi_shl_24_13 (b : UInt8) : Spec.rotHi (b.toUInt32 <<< 24) 13 = Spec.rotHi b.toUInt32 5 :=
  u8_forall (fun b => Spec.rotHi (b.toUInt32 <<< 24) 13 = Spec.rotHi b.toUInt32 5) (by decide +kernel) b
theorem rotHi_shl_8_21 (b : UInt8) : Spec.rotHi (b.toUInt32 <<< 8) 21 = Spec.rotHi b.toUInt32 29 :=
  u8_forall (fun b => Spec.rotHi (b.toUInt32 <<< 8) 21 = Spec.rotHi b.toUInt32 29) (by decide +kernel) b
theorem rotHi_shl_16_21 (b : UInt8) : Spec.rotHi (b.toUInt32 <<< 16) 21 = Spec.rotHi b.toUInt32 5 :=
  u8_forall (fun b => Spec.rotHi (b.toUInt32 <<< 16) 21 = Spec.rotHi b.toUInt32 5) (by decide +kernel) b
theorem rotHi_shl_24_21 (b : UInt8) : Spec.rotHi (b.toUInt32 <<< 24) 21 = Spec.rotHi b.toUInt32 13 :=
  u8_forall (fun b => Spec.rotHi (b.toUInt32 <<< 24) 21 = Spec.rotHi b.toUInt32 13) (by decide +kernel) b

/-! the rotated image of an octet lives in the rotated octet mask -/
theorem rotHi_mask_5 (b : UInt8) : Spec.rotHi b.toUInt32 5 &&& 0x1fe0 = Spec.rotHi b.toUInt32 5 :=
  u8_forall (fun b => Spec.rotHi b.toUInt32 5 &&& 0x1fe0 = Spec.rotHi b.toUInt32 5) (by decide +kernel) b
theorem rotHi_mask_13 (b : UInt8) : Spec.rotHi b.toUInt32 13 &&& 0x1fe000 = Spec.rotHi b.toUInt32 13 :=
  u8_forall (fun b => Spec.rotHi b.toUInt32 13 &&& 0x1fe000 = Spec.rotHi b.toUInt32 13) (by decide +kernel) b
theorem rotHi_mask_21 (b : UInt8) : Spec.rotHi b.toUInt32 21 &&& 0x1fe00000 = Spec.rotHi b.toUInt32 21 :=
  u8_forall (fun b => Spec.rotHi b.toUInt32 21 &&& 0x1fe00000 = Spec.rotHi b.toUInt32 21) (by decide +kernel) b
theorem rotHi_mask_29 (b : UInt8) : Spec.rotHi b.toUInt32 29 &&& 0xe000001f = Spec.rotHi b.toUInt32 29 :=
  u8_forall (fun b => Spec.rotHi b.toUInt32 29 &&& 0xe000001f = Spec.rotHi b.toUInt32 29) (by decide +kernel) b

theorem hWord_rot (x r : UInt32) : Spec.G r x =
    Spec.rotHi (H[(x &&& 255).toNat]!.toUInt32) r ||| Spec.rotHi (H[(x >>> 8 &&& 255).toNat]!.toUInt32 <<< 8) r |||
      Spec.rotHi (H[(x >>> 16 &&& 255).toNat]!.toUInt32 <<< 16) r ||| Spec.rotHi (H[(x >>> 24).toNat]!.toUInt32 <<< 24) r := by
  simp only [Spec.G, Spec.hWord, rotHi_or]

theorem G5_eq (x : UInt32) : G5 x = Spec.G 5 x := by
  rw [hWord_rot, rotHi_shl_8_5, rotHi_shl_16_5, rotHi_shl_24_5]
  unfold G5
  rw [table_H5_rot ⟨_, idx_and255 x⟩, table_H13_rot ⟨_, idx_and255 (x >>> 8)⟩, table_H21_rot ⟨_, idx_and255 (x >>> 16)⟩,
    table_H29_rot ⟨_, idx_shr24 x⟩]
  exact xor4_eq_or4 _ _ _ _ _ _ _ _ (rotHi_mask_5 _) (rotHi_mask_13 _) (rotHi_mask_21 _) (rotHi_mask_29 _)
    (by decide) (by decide) (by decide) (by decide) (by decide) (by decide)

theorem G13_eq (x : UInt32) : G13 x = Spec.G 13 x := by
  rw [hWord_rot, rotHi_shl_8_13, rotHi_shl_16_13, rotHi_shl_24_13]
  unfold G13
  rw [table_H13_rot ⟨_, idx_and255 x⟩, table_H21_rot ⟨_, idx_and255 (x >>> 8)⟩, table_H29_rot ⟨_, idx_and255 (x >>> 16)⟩,
    table_H5_rot ⟨_, idx_shr24 x⟩]
  exact xor4_eq_or4 _ _ _ _ _ _ _ _ (rotHi_mask_13 _) (rotHi_mask_21 _) (rotHi_mask_29 _) (rotHi_mask_5 _)
    (by decide) (by decide) (by decide) (by decide) (by decide) (by decide)

theorem G21_eq (x : UInt32) : G21 x = Spec.G 21 x := by
  rw [hWord_rot, rotHi_shl_8_21, rotHi_shl_16_21, rotHi_shl_24_21]
  unfold G21
  rw [table_H21_rot ⟨_, idx_and255 x⟩, table_H29_rot ⟨_, idx_and255 (x >>> 8)⟩, table_H5_rot ⟨_, idx_and255 (x >>> 16)⟩,
    table_H13_rot ⟨_, idx_shr24 x⟩]
  exact xor4_eq_or4 _ _ _ _ _ _ _ _ (rotHi_mask_21 _) (rotHi_mask_29 _) (rotHi_mask_5 _) (rotHi_mask_13 _)
    (by decide) (by decide) (by decide) (by decide) (by decide) (by decide)

theorem beltG_eq_specG : beltG = Spec.specG := by
  simp only [beltG, Spec.specG, GFun.mk.injEq]
  exact ⟨funext G5_eq, funext G13_eq, funext G21_eq⟩

/-! ## Key expansion: word view = octet view -/

theorem st32_bitwise (w : UInt32) :
    st32 w = [w.toUInt8, (w >>> 8).toUInt8, (w >>> 16).toUInt8, (w >>> 24).toUInt8] := by
  have := w.toNat_lt
  simp only [st32, List.cons.injEq, and_true, ← UInt8.toNat_inj, UInt8.toNat_ofNat', UInt32.toNat_toUInt8,
    UInt32.toNat_shiftRight, UInt32.toNat_ofNat, Nat.shiftRight_eq_div_pow, Nat.reducePow, Nat.reduceMod]
  omega

theorem st32_xor (x y : UInt32) : st32 (x ^^^ y) = xorb (st32 x) (st32 y) := by
  simp only [st32_bitwise, xorb, List.zipWith_cons_cons, List.zipWith_nil_left, UInt32.shiftRight_xor,
    UInt32.toUInt8_xor]

theorem u32From_st32 (w : UInt32) : u32From (st32 w) = [w] := by
  have := u32From_st32_append w []
  simpa [u32From] using this

theorem ld32_xor (a0 a1 a2 a3 b0 b1 b2 b3 : UInt8) :
    ld32 a0 a1 a2 a3 ^^^ ld32 b0 b1 b2 b3 = ld32 (a0 ^^^ b0) (a1 ^^^ b1) (a2 ^^^ b2) (a3 ^^^ b3) := by
  have h := st32_xor (ld32 a0 a1 a2 a3) (ld32 b0 b1 b2 b3)
  rw [st32_ld32, st32_ld32] at h
  simp only [xorb, List.zipWith_cons_cons, List.zipWith_nil_left] at h
  have h2 := u32From_st32 (ld32 a0 a1 a2 a3 ^^^ ld32 b0 b1 b2 b3)
  rw [h] at h2
  simp only [u32From, List.cons.injEq, and_true] at h2
  exact h2.symm

theorem u32To_u32From (b : Bytes) (h : b.length % 4 = 0) : u32To (u32From b) = b := by
  fun_induction u32From b with
  | case1 b0 b1 b2 b3 rest ih =>
    simp only [u32To, st32_ld32]
    rw [ih (by simp only [List.length_cons] at h; omega)]
    rfl
  | case2 b hb =>
    match b, hb, h with
    | [], _, _ => rfl
    | [_], _, h => simp at h
    | [_, _], _, h => simp at h
    | [_, _, _], _, h => simp at h
    | _ :: _ :: _ :: _ :: _, hb, _ => exact absurd rfl (hb _ _ _ _ _)

theorem length_u32From (b : Bytes) : (u32From b).length = b.length / 4 := by
  fun_induction u32From b with
  | case1 b0 b1 b2 b3 rest ih => simp only [List.length_cons, ih]; omega
  | case2 b hb =>
    match b, hb with
    | [], _ => rfl
    | [_], _ => simp
    | [_, _], _ => simp
    | [_, _, _], _ => simp
    | _ :: _ :: _ :: _ :: _, hb => exact absurd rfl (hb _ _ _ _ _)

theorem keyExpand2_16 (key : Bytes) (h : key.length = 16) : keyExpand2 key = u32From key ++ u32From key := by
  match key, h with
  | [b0, b1, b2, b3, b4, b5, b6, b7, b8, b9, b10, b11, b12, b13, b14, b15], _ =>
    simp only [keyExpand2, u32From, List.cons_append, List.nil_append]

theorem keyExpand2_24 (key : Bytes) (h : key.length = 24) :
    ∃ t1 t2 t3 t4 t5 t6, u32From key = [t1, t2, t3, t4, t5, t6] ∧
      keyExpand2 key = [t1, t2, t3, t4, t5, t6, t1 ^^^ t2 ^^^ t3, t4 ^^^ t5 ^^^ t6] := by
  match key, h with
  | [b0, b1, b2, b3, b4, b5, b6, b7, b8, b9, b10, b11, b12, b13, b14, b15, b16, b17, b18, b19, b20, b21, b22, b23], _ =>
    exact ⟨ld32 b0 b1 b2 b3, ld32 b4 b5 b6 b7, ld32 b8 b9 b10 b11, ld32 b12 b13 b14 b15, ld32 b16 b17 b18 b19,
      ld32 b20 b21 b22 b23, by simp only [u32From], by simp only [keyExpand2, u32From]⟩

theorem keyExpand2_32 (key : Bytes) (h : key.length = 32) : keyExpand2 key = u32From key := by
  have hl := length_u32From key
  rw [h] at hl
  unfold keyExpand2
  split
  · next heq => rw [heq] at hl; simp at hl
  · next heq => rw [heq] at hl; simp at hl
  · rfl

theorem keyExpand_agree_16 (key : Bytes) (h : key.length = 16) : u32To (keyExpand2 key) = keyExpand key := by
  have h4 := u32To_u32From key (by omega)
  have h8 := u32To_u32From (key ++ key) (by simp only [List.length_append]; omega)
  match key, h with
  | [b0, b1, b2, b3, b4, b5, b6, b7, b8, b9, b10, b11, b12, b13, b14, b15], _ =>
    simp only [keyExpand2, keyExpand, u32From, List.length_cons, List.length_nil] 
    simp only [u32From, List.cons_append, List.nil_append] at h8
    exact h8

theorem keyExpand_agree_32 (key : Bytes) (h : key.length = 32) : u32To (keyExpand2 key) = keyExpand key := by
  rw [keyExpand2_32 key h, u32To_u32From key (by omega)]
  simp only [keyExpand, h]
  rfl

theorem keyExpand_agree_24 (key : Bytes) (h : key.length = 24) : u32To (keyExpand2 key) = keyExpand key := by
  match key, h with
  | [b0, b1, b2, b3, b4, b5, b6, b7, b8, b9, b10, b11, b12, b13, b14, b15, b16, b17, b18, b19, b20, b21, b22, b23], _ =>
    simp only [keyExpand2, keyExpand, u32From, List.length_cons, List.length_nil, u32To, ld32_xor, st32_ld32]
    simp [xorb]

end Bee2V.C01
