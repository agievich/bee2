/-
C01 helper lemmas for the stream-like modes CFB, BDE (belt_cfb.c, belt_bde.c) and the counter increment of CTR
(belt_ctr.c; the keystream step itself is treated in Lemmas/Aead.lean together with that of CHE).
-/
import Bee2V.C01.Model.Modes
import Bee2V.C01.Lemmas.Bytes
import Bee2V.C01.Lemmas.Lists
namespace Bee2V.C01.Stream

/-! ### xor of buffers -/


/-- `(g ^ b) ^ g = b` when `g` covers `b` -/
theorem xorb_cancel_mid (g b : Bytes) (h : b.length ≤ g.length) : xorb (xorb g b) g = b := by
  rw [xorb_comm g b]; exact xorb_xorb_cancel b g h

/-- `g ^ (g ^ b) = b` when `g` covers `b` -/
theorem xorb_cancel_left' (g b : Bytes) (h : b.length ≤ g.length) : xorb g (xorb g b) = b := by
  rw [xorb_comm g, xorb_cancel_mid g b h]


/-! ### the loop `while (count >= bs)` -/

/-- lengths of the processed part and of the ragged tail, under a state invariant `I` that makes every
iteration return `bs` octets -/
theorem fullBlocks_lengths {σ : Type} (bs : Nat) (hbs : 0 < bs) (f : σ → Bytes → σ × Bytes) (I : σ → Prop)
    (hI : ∀ s b, I s → b.length = bs → I (f s b).1 ∧ (f s b).2.length = bs) :
    ∀ (n : Nat) (buf : Bytes) (s : σ), buf.length ≤ n → I s →
      I (fullBlocks bs f s buf).1 ∧
      (fullBlocks bs f s buf).2.1.length + (fullBlocks bs f s buf).2.2.length = buf.length ∧
      (fullBlocks bs f s buf).2.2.length < bs ∧
      (bs ≤ buf.length → bs ≤ (fullBlocks bs f s buf).2.1.length) := by
  intro n
  induction n with
  | zero =>
    intro buf s hn hs
    rw [fullBlocks_lt bs f s buf (by omega)]
    exact ⟨hs, by simp, by simp only []; omega, by omega⟩
  | succ n ih =>
    intro buf s hn hs
    by_cases hlt : buf.length < bs
    · rw [fullBlocks_lt bs f s buf hlt]
      exact ⟨hs, by simp, hlt, by omega⟩
    · rw [fullBlocks_ge bs hbs f s buf (by omega)]
      have hb : (buf.take bs).length = bs := by simp only [List.length_take]; omega
      obtain ⟨h1, h2⟩ := hI s (buf.take bs) hs hb
      obtain ⟨i1, i2, i3, _⟩ := ih (buf.drop bs) (f s (buf.take bs)).1 (by simp only [List.length_drop]; omega) h1
      refine ⟨i1, ?_, i3, ?_⟩
      · simp only [List.length_append, List.length_drop] at i2 ⊢; omega
      · intro _; simp only [List.length_append]; omega

/-- round trip of two `while (count >= bs)` loops: if one iteration of `g` undoes one iteration of `f`
and keeps the two states related by `R`, then `g` over the output of `f` (with any replaced tail)
returns the input blocks, leaves the tail untouched and ends in related states -/
theorem fullBlocks_roundtrip {σ τ : Type} (bs : Nat) (hbs : 0 < bs) (f : σ → Bytes → σ × Bytes)
    (g : τ → Bytes → τ × Bytes) (R : σ → τ → Prop)
    (hstep : ∀ s t b, R s t → b.length = bs →
      (f s b).2.length = bs ∧ (g t (f s b).2).2 = b ∧ R (f s b).1 (g t (f s b).2).1) :
    ∀ (n : Nat) (buf : Bytes) (s : σ) (t : τ) (tail' : Bytes), buf.length ≤ n → R s t → tail'.length < bs →
      (fullBlocks bs g t ((fullBlocks bs f s buf).2.1 ++ tail')).2.1 ++ (fullBlocks bs f s buf).2.2 = buf ∧
      (fullBlocks bs g t ((fullBlocks bs f s buf).2.1 ++ tail')).2.2 = tail' ∧
      R (fullBlocks bs f s buf).1 (fullBlocks bs g t ((fullBlocks bs f s buf).2.1 ++ tail')).1 := by
  intro n
  induction n with
  | zero =>
    intro buf s t tail' hn hR ht
    rw [fullBlocks_lt bs f s buf (by omega)]
    simp only [List.nil_append]
    rw [fullBlocks_lt bs g t tail' ht]
    exact ⟨by simp, rfl, hR⟩
  | succ n ih =>
    intro buf s t tail' hn hR ht
    by_cases hlt : buf.length < bs
    · rw [fullBlocks_lt bs f s buf hlt]
      simp only [List.nil_append]
      rw [fullBlocks_lt bs g t tail' ht]
      exact ⟨by simp, rfl, hR⟩
    · rw [fullBlocks_ge bs hbs f s buf (by omega)]
      have hb : (buf.take bs).length = bs := by simp only [List.length_take]; omega
      obtain ⟨h1, h2, h3⟩ := hstep s t (buf.take bs) hR hb
      obtain ⟨i1, i2, i3⟩ := ih (buf.drop bs) (f s (buf.take bs)).1 (g t (f s (buf.take bs)).2).1 tail'
        (by simp only [List.length_drop]; omega) h3 ht
      simp only [List.append_assoc]
      rw [fullBlocks_ge bs hbs g t _ (by simp only [List.length_append]; omega), List.take_left' h1,
        List.drop_left' h1]
      refine ⟨?_, i2, i3⟩
      simp only [h2, List.append_assoc, i1, List.take_append_drop]

/-! ### the counter of CTR -/

theorem u32_succ_eq_zero (w : UInt32) (h : (w + 1 == 0) = true) : w.toNat = 4294967295 := by
  have h1 : w + 1 = 0 := eq_of_beq h
  have h2 := congrArg UInt32.toNat h1
  have := w.toNat_lt
  simp only [UInt32.toNat_add, UInt32.toNat_one, UInt32.toNat_zero] at h2
  omega

theorem u32_succ_ne_zero (w : UInt32) (h : ¬ (w + 1 == 0) = true) : (w + 1).toNat = w.toNat + 1 := by
  have h1 : w + 1 ≠ 0 := fun e => h (by rw [e]; rfl)
  have h2 : (w + 1).toNat ≠ 0 := fun e => h1 (UInt32.toNat_inj.mp (by rw [e]; rfl))
  have := w.toNat_lt
  simp only [UInt32.toNat_add, UInt32.toNat_one] at h2 ⊢
  omega

theorem u32_succ_toNat (w : UInt32) : (w + 1).toNat = (w.toNat + 1) % 4294967296 := by
  simp only [UInt32.toNat_add, UInt32.toNat_one]

/-- the short-circuit carry chain of `beltBlockIncU32` is the increment modulo 2^128 -/
theorem u32Val_incU32 (w0 w1 w2 w3 : UInt32) :
    u32Val (incU32 [w0, w1, w2, w3]) = (u32Val [w0, w1, w2, w3] + 1) % 2 ^ 128 := by
  have h0 := w0.toNat_lt; have h1 := w1.toNat_lt; have h2 := w2.toNat_lt; have h3 := w3.toNat_lt
  simp only [incU32]
  split
  · rename_i c0
    have e0 := u32_succ_eq_zero w0 c0
    have z0 : (w0 + 1).toNat = 0 := by rw [eq_of_beq c0]; rfl
    split
    · rename_i c1
      have e1 := u32_succ_eq_zero w1 c1
      have z1 : (w1 + 1).toNat = 0 := by rw [eq_of_beq c1]; rfl
      split
      · rename_i c2
        have e2 := u32_succ_eq_zero w2 c2
        have z2 : (w2 + 1).toNat = 0 := by rw [eq_of_beq c2]; rfl
        have s3 := u32_succ_toNat w3
        simp only [u32Val, z0, z1, z2, s3]
        omega
      · rename_i c2
        have s2 := u32_succ_ne_zero w2 c2
        have := (w2 + 1).toNat_lt
        simp only [u32Val, z0, z1, s2]
        omega
    · rename_i c1
      have s1 := u32_succ_ne_zero w1 c1
      have := (w1 + 1).toNat_lt
      simp only [u32Val, z0, s1]
      omega
  · rename_i c0
    have s0 := u32_succ_ne_zero w0 c0
    have := (w0 + 1).toNat_lt
    simp only [u32Val, s0]
    omega

theorem length_incU32 (w0 w1 w2 w3 : UInt32) : (incU32 [w0, w1, w2, w3]).length = 4 := by
  simp only [incU32]
  repeat' split
  all_goals rfl

theorem length_incBlock (b : Bytes) (h : b.length = 16) : (incBlock b).length = 16 := by
  obtain ⟨w0, w1, w2, w3, hw⟩ := u32From_16 b h
  simp only [incBlock, hw, length_u32To, length_incU32]

theorem leNat_incBlock (b : Bytes) (h : b.length = 16) : leNat (incBlock b) = (leNat b + 1) % 2 ^ 128 := by
  obtain ⟨w0, w1, w2, w3, hw⟩ := u32From_16 b h
  rw [← u32Val_u32From b h]
  simp only [incBlock, hw, leNat_u32To, u32Val_incU32]

theorem natLE_leNat_16 (b : Bytes) (h : b.length = 16) : natLE 16 (leNat b) = b := by
  rw [← h]; exact natLE_leNat b

protected theorem leNat_lt (b : Bytes) : leNat b < 256 ^ b.length := C01.leNat_lt b

/-! ### mulC -/

theorem length_mulC (b : Bytes) (h : b.length = 16) : (mulC b).length = 16 := by
  obtain ⟨w0, w1, w2, w3, hw⟩ := u32From_16 b h
  simp only [mulC, hw, mulCW, length_u32To, List.length_cons, List.length_nil]

/-! ### CFB -/

def cfbBodyE (C : Cipher) (key : Bytes) : Bytes → Bytes → Bytes × Bytes :=
  fun blk b => (xorb (C.enc key blk) b, xorb (C.enc key blk) b)

def cfbBodyD (C : Cipher) (key : Bytes) : Bytes → Bytes → Bytes × Bytes :=
  fun blk b => (xorb (C.enc key blk) (xorb b (C.enc key blk)), xorb b (C.enc key blk))

/-- `beltCFBStepE` after the reserve of the key stream has been used up; `blk0` = `st->block` at that point -/
def cfbMainE (C : Cipher) (st : CfbSt) (blk0 buf : Bytes) : CfbSt × Bytes :=
  let l := fullBlocks 16 (cfbBodyE C st.key) blk0 buf
  if l.2.2.length ≠ 0 then
    ({ st with block := xorb ((C.enc st.key l.1).take l.2.2.length) l.2.2 ++ (C.enc st.key l.1).drop l.2.2.length,
               reserved := 16 - l.2.2.length },
      l.2.1 ++ xorb ((C.enc st.key l.1).take l.2.2.length) l.2.2)
  else ({ st with block := l.1, reserved := 0 }, l.2.1)

def cfbMainD (C : Cipher) (st : CfbSt) (blk0 buf : Bytes) : CfbSt × Bytes :=
  let l := fullBlocks 16 (cfbBodyD C st.key) blk0 buf
  if l.2.2.length ≠ 0 then
    ({ st with block := xorb ((C.enc st.key l.1).take l.2.2.length) (xorb l.2.2 ((C.enc st.key l.1).take l.2.2.length))
                 ++ (C.enc st.key l.1).drop l.2.2.length,
               reserved := 16 - l.2.2.length },
      l.2.1 ++ xorb l.2.2 ((C.enc st.key l.1).take l.2.2.length))
  else ({ st with block := l.1, reserved := 0 }, l.2.1)

theorem putAt_nil (blk : Bytes) (off : Nat) : putAt blk off [] = blk := by
  simp only [putAt, List.append_nil, List.length_nil, Nat.add_zero, List.take_append_drop]

theorem length_putAt (blk x : Bytes) (off : Nat) (h : off + x.length ≤ blk.length) :
    (putAt blk off x).length = blk.length := by
  simp only [putAt, List.length_append, List.length_take, List.length_drop]; omega

theorem cfbStepE_main (C : Cipher) (st : CfbSt) (buf : Bytes)
    (h : ¬ (st.reserved ≠ 0 ∧ st.reserved ≥ buf.length)) :
    cfbStepE C st buf =
      ((cfbMainE C st (putAt st.block (16 - st.reserved)
          (xorb (st.block.drop (16 - st.reserved)) (buf.take st.reserved))) (buf.drop st.reserved)).1,
        xorb (st.block.drop (16 - st.reserved)) (buf.take st.reserved) ++
        (cfbMainE C st (putAt st.block (16 - st.reserved)
          (xorb (st.block.drop (16 - st.reserved)) (buf.take st.reserved))) (buf.drop st.reserved)).2) := by
  unfold cfbStepE cfbMainE cfbBodyE
  rw [if_neg h]
  by_cases hr : st.reserved = 0
  · simp only [hr, ne_eq, not_true_eq_false, if_false, List.take_zero, xorb_nil_right, List.drop_zero,
      List.nil_append, putAt_nil]
  · simp only [hr, ne_eq, not_false_eq_true, if_true]
    split <;> simp only [List.append_assoc]

theorem cfbStepD_main (C : Cipher) (st : CfbSt) (buf : Bytes)
    (h : ¬ (st.reserved ≠ 0 ∧ st.reserved ≥ buf.length)) :
    cfbStepD C st buf =
      ((cfbMainD C st (putAt st.block (16 - st.reserved)
          (xorb (st.block.drop (16 - st.reserved))
            (xorb (buf.take st.reserved) (st.block.drop (16 - st.reserved))))) (buf.drop st.reserved)).1,
        xorb (buf.take st.reserved) (st.block.drop (16 - st.reserved)) ++
        (cfbMainD C st (putAt st.block (16 - st.reserved)
          (xorb (st.block.drop (16 - st.reserved))
            (xorb (buf.take st.reserved) (st.block.drop (16 - st.reserved))))) (buf.drop st.reserved)).2) := by
  unfold cfbStepD cfbMainD cfbBodyD
  rw [if_neg h]
  by_cases hr : st.reserved = 0
  · simp only [hr, ne_eq, not_true_eq_false, if_false, List.take_zero, xorb_nil_left, xorb_nil_right, List.drop_zero,
      List.nil_append, putAt_nil]
  · simp only [hr, ne_eq, not_false_eq_true, if_true]
    split <;> simp only [List.append_assoc]

theorem cfbBody_step (C : Cipher) (key : Bytes) (hlen : ∀ k x, x.length = 16 → (C.enc k x).length = 16) :
    ∀ (s t b : Bytes), (s = t ∧ s.length = 16) → b.length = 16 →
      (cfbBodyE C key s b).2.length = 16 ∧ (cfbBodyD C key t (cfbBodyE C key s b).2).2 = b ∧
      ((cfbBodyE C key s b).1 = (cfbBodyD C key t (cfbBodyE C key s b).2).1 ∧
        (cfbBodyE C key s b).1.length = 16) := by
  rintro s t b ⟨rfl, hs⟩ hb
  have hg := hlen key s hs
  have e : xorb (xorb (C.enc key s) b) (C.enc key s) = b := xorb_cancel_mid _ _ (by omega)
  have hl : (xorb (C.enc key s) b).length = 16 := by rw [length_xorb]; omega
  simp only [cfbBodyE, cfbBodyD, e, hl]
  exact ⟨trivial, trivial, trivial, trivial⟩

theorem cfbMainE_out (C : Cipher) (st : CfbSt) (blk0 buf : Bytes) :
    (cfbMainE C st blk0 buf).2 = (fullBlocks 16 (cfbBodyE C st.key) blk0 buf).2.1 ++
      xorb ((C.enc st.key (fullBlocks 16 (cfbBodyE C st.key) blk0 buf).1).take
          (fullBlocks 16 (cfbBodyE C st.key) blk0 buf).2.2.length)
        (fullBlocks 16 (cfbBodyE C st.key) blk0 buf).2.2 := by
  unfold cfbMainE
  simp only []
  split
  · rfl
  · rename_i h
    have : (fullBlocks 16 (cfbBodyE C st.key) blk0 buf).2.2 = [] := by
      apply List.eq_nil_of_length_eq_zero; simpa using h
    rw [this, xorb_nil_right, List.append_nil]

theorem cfbMainD_out (C : Cipher) (st : CfbSt) (blk0 buf : Bytes) :
    (cfbMainD C st blk0 buf).2 = (fullBlocks 16 (cfbBodyD C st.key) blk0 buf).2.1 ++
      xorb (fullBlocks 16 (cfbBodyD C st.key) blk0 buf).2.2
        ((C.enc st.key (fullBlocks 16 (cfbBodyD C st.key) blk0 buf).1).take
          (fullBlocks 16 (cfbBodyD C st.key) blk0 buf).2.2.length) := by
  unfold cfbMainD
  simp only []
  split
  · rfl
  · rename_i h
    have : (fullBlocks 16 (cfbBodyD C st.key) blk0 buf).2.2 = [] := by
      apply List.eq_nil_of_length_eq_zero; simpa using h
    rw [this, xorb_nil_left, List.append_nil]

theorem cfbMain_roundtrip (C : Cipher) (hlen : ∀ k x, x.length = 16 → (C.enc k x).length = 16)
    (st : CfbSt) (blk0 : Bytes) (h0 : blk0.length = 16) (buf : Bytes) :
    (cfbMainE C st blk0 buf).2.length = buf.length ∧
    (cfbMainD C st blk0 (cfbMainE C st blk0 buf).2).2 = buf ∧
    (cfbMainD C st blk0 (cfbMainE C st blk0 buf).2).1 = (cfbMainE C st blk0 buf).1 ∧
    (cfbMainE C st blk0 buf).1.block.length = 16 ∧ (cfbMainE C st blk0 buf).1.reserved ≤ 16 := by
  have hL := fullBlocks_lengths 16 (by omega) (cfbBodyE C st.key) (fun s => s.length = 16)
    (fun s b hs hb => by
      have : (xorb (C.enc st.key s) b).length = 16 := by rw [length_xorb, hlen _ _ hs]; omega
      exact ⟨this, this⟩)
    buf.length buf blk0 (Nat.le_refl _) h0
  have hout := cfbMainE_out C st blk0 buf
  have hRT := fullBlocks_roundtrip 16 (by omega) (cfbBodyE C st.key) (cfbBodyD C st.key)
    (fun s t => s = t ∧ s.length = 16) (cfbBody_step C st.key hlen) buf.length buf blk0 blk0
  rcases hl : fullBlocks 16 (cfbBodyE C st.key) blk0 buf with ⟨c1, p, r⟩
  rw [hl] at hL hout hRT
  simp only [] at hL hout hRT
  obtain ⟨hc1, hpl, hr16, _⟩ := hL
  have hg : (C.enc st.key c1).length = 16 := hlen _ _ hc1
  have htk : ((C.enc st.key c1).take r.length).length = r.length := by
    simp only [List.length_take, hg]; omega
  have htl : (xorb ((C.enc st.key c1).take r.length) r).length = r.length := by
    rw [length_xorb, htk]; omega
  have hRT' := hRT _ (Nat.le_refl _) ⟨trivial, h0⟩ (by rw [htl]; exact hr16)
  have hout2 := cfbMainD_out C st blk0 (cfbMainE C st blk0 buf).2
  rw [hout] at hout2 ⊢
  rcases hl' : fullBlocks 16 (cfbBodyD C st.key) blk0
    (p ++ xorb ((C.enc st.key c1).take r.length) r) with ⟨c2, p', r'⟩
  rw [hl'] at hRT' hout2
  simp only [] at hRT' hout2
  obtain ⟨h1, h2, h3, _⟩ := hRT'
  subst h3 h2
  have hcan : xorb (xorb ((C.enc st.key c1).take r.length) r) ((C.enc st.key c1).take r.length) = r :=
    xorb_cancel_mid _ _ (by omega)
  refine ⟨by simp only [List.length_append, htl]; omega, ?_, ?_, ?_, ?_⟩
  · rw [hout2, htl, hcan, h1]
  · unfold cfbMainD cfbMainE
    simp only [hl, hl', htl, hcan]
    split <;> rfl
  · unfold cfbMainE
    simp only [hl]
    split
    · simp only [List.length_append, htl, List.length_drop, hg]; omega
    · exact hc1
  · unfold cfbMainE
    simp only [hl]
    split
    · simp only []; omega
    · simp only []; omega

theorem cfbStepE_res (C : Cipher) (st : CfbSt) (buf : Bytes)
    (h : st.reserved ≠ 0 ∧ st.reserved ≥ buf.length) :
    cfbStepE C st buf =
      ({ st with block := putAt st.block (16 - st.reserved)
                   (xorb ((st.block.drop (16 - st.reserved)).take buf.length) buf),
                 reserved := st.reserved - buf.length },
        xorb ((st.block.drop (16 - st.reserved)).take buf.length) buf) := by
  unfold cfbStepE
  rw [if_pos h]

theorem cfbStepD_res (C : Cipher) (st : CfbSt) (buf : Bytes)
    (h : st.reserved ≠ 0 ∧ st.reserved ≥ buf.length) :
    cfbStepD C st buf =
      ({ st with block := putAt st.block (16 - st.reserved)
                   (xorb ((st.block.drop (16 - st.reserved)).take buf.length)
                     (xorb buf ((st.block.drop (16 - st.reserved)).take buf.length))),
                 reserved := st.reserved - buf.length },
        xorb buf ((st.block.drop (16 - st.reserved)).take buf.length)) := by
  unfold cfbStepD
  rw [if_pos h]

/-- decryption of an encrypted fragment from the same state: data, final state, and the state invariant -/
theorem cfbStep_roundtrip (C : Cipher) (hlen : ∀ k x, x.length = 16 → (C.enc k x).length = 16)
    (st : CfbSt) (hr : st.reserved ≤ 16) (hb : st.block.length = 16) (buf : Bytes) :
    (cfbStepE C st buf).2.length = buf.length ∧
    (cfbStepD C st (cfbStepE C st buf).2).2 = buf ∧
    (cfbStepD C st (cfbStepE C st buf).2).1 = (cfbStepE C st buf).1 ∧
    (cfbStepE C st buf).1.block.length = 16 ∧ (cfbStepE C st buf).1.reserved ≤ 16 := by
  by_cases h : st.reserved ≠ 0 ∧ st.reserved ≥ buf.length
  · have hG : ((st.block.drop (16 - st.reserved)).take buf.length).length = buf.length := by
      simp only [List.length_take, List.length_drop, hb]; omega
    have hol : (xorb ((st.block.drop (16 - st.reserved)).take buf.length) buf).length = buf.length := by
      rw [length_xorb, hG]; omega
    have hcan : xorb (xorb ((st.block.drop (16 - st.reserved)).take buf.length) buf)
        ((st.block.drop (16 - st.reserved)).take buf.length) = buf := xorb_cancel_mid _ _ (by omega)
    rw [cfbStepE_res C st buf h]
    simp only []
    rw [cfbStepD_res C st _ (by rw [hol]; exact h)]
    simp only [hol, hcan]
    refine ⟨trivial, trivial, trivial, ?_, by omega⟩
    rw [length_putAt _ _ _ (by rw [hol, hb]; omega)]; exact hb
  · have hD : (st.block.drop (16 - st.reserved)).length = st.reserved := by
      simp only [List.length_drop, hb]; omega
    have hrl : st.reserved ≤ buf.length := by
      by_cases h0 : st.reserved = 0
      · omega
      · have : ¬ st.reserved ≥ buf.length := fun h' => h ⟨h0, h'⟩
        omega
    have htk : (buf.take st.reserved).length = st.reserved := by
      simp only [List.length_take]; omega
    have hhead : (xorb (st.block.drop (16 - st.reserved)) (buf.take st.reserved)).length = st.reserved := by
      rw [length_xorb, hD, htk]; omega
    have hblk0 : (putAt st.block (16 - st.reserved)
        (xorb (st.block.drop (16 - st.reserved)) (buf.take st.reserved))).length = 16 := by
      rw [length_putAt _ _ _ (by rw [hhead, hb]; omega)]; exact hb
    obtain ⟨m1, m2, m3, m4, m5⟩ := cfbMain_roundtrip C hlen st _ hblk0 (buf.drop st.reserved)
    rw [cfbStepE_main C st buf h]
    simp only []
    have hol : (xorb (st.block.drop (16 - st.reserved)) (buf.take st.reserved) ++
        (cfbMainE C st (putAt st.block (16 - st.reserved)
          (xorb (st.block.drop (16 - st.reserved)) (buf.take st.reserved))) (buf.drop st.reserved)).2).length
          = buf.length := by
      simp only [List.length_append, hhead, m1, List.length_drop]; omega
    rw [cfbStepD_main C st _ (by rw [hol]; exact h)]
    simp only []
    rw [List.take_left' hhead, List.drop_left' hhead,
      xorb_cancel_mid _ _ (by rw [htk, hD]; omega), m2, m3, List.take_append_drop]
    exact ⟨hol, rfl, rfl, m4, m5⟩

/-! ### BDE -/

/-- one iteration of `beltBDEStepE` (`F = C.enc`) / `beltBDEStepD` (`F = C.dec`) -/
def bdeBody (F : Bytes → Bytes → Bytes) (key : Bytes) : Bytes → Bytes → Bytes × Bytes :=
  fun s b => (mulC s, xorb (F key (xorb b (mulC s))) (mulC s))

theorem bdeStepE_eq (C : Cipher) (st : BdeSt) (buf : Bytes) :
    bdeStepE C st buf =
      ({ st with s := (fullBlocks 16 (bdeBody C.enc st.key) st.s buf).1,
                 block := if buf.length ≥ 16 then (fullBlocks 16 (bdeBody C.enc st.key) st.s buf).1 else st.block },
        (fullBlocks 16 (bdeBody C.enc st.key) st.s buf).2.1 ++ (fullBlocks 16 (bdeBody C.enc st.key) st.s buf).2.2) := rfl

theorem bdeStepD_eq (C : Cipher) (st : BdeSt) (buf : Bytes) :
    bdeStepD C st buf =
      ({ st with s := (fullBlocks 16 (bdeBody C.dec st.key) st.s buf).1,
                 block := if buf.length ≥ 16 then (fullBlocks 16 (bdeBody C.dec st.key) st.s buf).1 else st.block },
        (fullBlocks 16 (bdeBody C.dec st.key) st.s buf).2.1 ++ (fullBlocks 16 (bdeBody C.dec st.key) st.s buf).2.2) := rfl

theorem bdeBody_step (F G : Bytes → Bytes → Bytes) (key : Bytes)
    (hlen : ∀ k x, x.length = 16 → (F k x).length = 16)
    (hGF : ∀ k x, x.length = 16 → G k (F k x) = x) :
    ∀ (s t b : Bytes), (s = t ∧ s.length = 16) → b.length = 16 →
      (bdeBody F key s b).2.length = 16 ∧ (bdeBody G key t (bdeBody F key s b).2).2 = b ∧
      ((bdeBody F key s b).1 = (bdeBody G key t (bdeBody F key s b).2).1 ∧ (bdeBody F key s b).1.length = 16) := by
  rintro s t b ⟨rfl, hs⟩ hb
  have hm := length_mulC s hs
  have hx : (xorb b (mulC s)).length = 16 := by rw [length_xorb]; omega
  have hf := hlen key _ hx
  have e1 : xorb (xorb (F key (xorb b (mulC s))) (mulC s)) (mulC s) = F key (xorb b (mulC s)) :=
    xorb_xorb_cancel _ _ (by omega)
  have e2 : xorb (xorb b (mulC s)) (mulC s) = b := xorb_xorb_cancel _ _ (by omega)
  have hl : (xorb (F key (xorb b (mulC s))) (mulC s)).length = 16 := by rw [length_xorb]; omega
  simp only [bdeBody, e1, hGF key _ hx, e2, hl, hm]
  exact ⟨trivial, trivial, trivial, trivial⟩

/-- the loop of `beltBDEStepD` undoes the loop of `beltBDEStepE` (and vice versa, by the choice of `F`, `G`) -/
theorem bdeLoop_roundtrip (F G : Bytes → Bytes → Bytes) (key : Bytes)
    (hlen : ∀ k x, x.length = 16 → (F k x).length = 16)
    (hGF : ∀ k x, x.length = 16 → G k (F k x) = x) (s : Bytes) (hs : s.length = 16) (buf : Bytes) :
    ((fullBlocks 16 (bdeBody F key) s buf).2.1 ++ (fullBlocks 16 (bdeBody F key) s buf).2.2).length = buf.length ∧
    (fullBlocks 16 (bdeBody G key) s
      ((fullBlocks 16 (bdeBody F key) s buf).2.1 ++ (fullBlocks 16 (bdeBody F key) s buf).2.2)).2.1 ++
    (fullBlocks 16 (bdeBody G key) s
      ((fullBlocks 16 (bdeBody F key) s buf).2.1 ++ (fullBlocks 16 (bdeBody F key) s buf).2.2)).2.2 = buf ∧
    (fullBlocks 16 (bdeBody G key) s
      ((fullBlocks 16 (bdeBody F key) s buf).2.1 ++ (fullBlocks 16 (bdeBody F key) s buf).2.2)).1 =
    (fullBlocks 16 (bdeBody F key) s buf).1 := by
  have hL := fullBlocks_lengths 16 (by omega) (bdeBody F key) (fun s => s.length = 16)
    (fun s b hs hb => by
      have hm := length_mulC s hs
      have hx : (xorb b (mulC s)).length = 16 := by rw [length_xorb]; omega
      have hf := hlen key _ hx
      exact ⟨hm, by simp only [bdeBody, length_xorb]; omega⟩)
    buf.length buf s (Nat.le_refl _) hs
  have hRT := fullBlocks_roundtrip 16 (by omega) (bdeBody F key) (bdeBody G key)
    (fun s t => s = t ∧ s.length = 16) (bdeBody_step F G key hlen hGF) buf.length buf s s
  rcases hl : fullBlocks 16 (bdeBody F key) s buf with ⟨c1, p, r⟩
  rw [hl] at hL hRT
  simp only [] at hL hRT ⊢
  obtain ⟨hc1, hpl, hr16, _⟩ := hL
  obtain ⟨h1, h2, h3, _⟩ := hRT r (Nat.le_refl _) ⟨trivial, hs⟩ hr16
  refine ⟨by simp only [List.length_append]; omega, ?_, h3.symm⟩
  rw [h2, h1]

end Bee2V.C01.Stream
