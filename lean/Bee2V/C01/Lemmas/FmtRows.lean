/-
Kernel-checked rows of the beltFMTCalcB table, all counts 1..300: the alphabet sizes 2..17409 step by step
(`checkModsS`), and single rows point by point (`checkMods`: the special case 49667 and the shortcut for 65536 are
among them, powers of two and their neighbours, perfect powers).
One range is one kernel evaluation; 4096 rows keep it well under the default heartbeat limit.  The ranges end at
17409, where the proved part of the table ends (`calcB_spec_rows_partial`); a further range extends it.
-/
import Bee2V.C01.Lemmas.FmtTable
namespace Bee2V.C01

theorem fmtRows_2 : checkModsS 4096 2 = true := by decide +kernel

theorem fmtRows_4098 : checkModsS 4096 4098 = true := by decide +kernel

theorem fmtRows_8194 : checkModsS 4096 8194 = true := by decide +kernel

theorem fmtRows_12290 : checkModsS 4096 12290 = true := by decide +kernel

theorem fmtRows_16386 : checkModsS 1024 16386 = true := by decide +kernel

/-- exact block count on every alphabet size 2..17409 and every count 1..300 -/
theorem calcB_spec_rows (mod count : Nat) (h2 : 2 ≤ mod) (hlt : mod < 17410) (hc : 1 ≤ count) (hc' : count ≤ 300) :
    IsBlockCount mod count (calcB mod count) := by
  rcases Nat.lt_or_ge mod 4098 with h | h
  · exact checkModsS_spec 4096 2 fmtRows_2 mod count h2 h2 h hc hc'
  rcases Nat.lt_or_ge mod 8194 with h' | h'
  · exact checkModsS_spec 4096 4098 fmtRows_4098 mod count h2 h h' hc hc'
  rcases Nat.lt_or_ge mod 12290 with h'' | h''
  · exact checkModsS_spec 4096 8194 fmtRows_8194 mod count h2 h' h'' hc hc'
  rcases Nat.lt_or_ge mod 16386 with h₃ | h₃
  · exact checkModsS_spec 4096 12290 fmtRows_12290 mod count h2 h'' h₃ hc hc'
  · exact checkModsS_spec 1024 16386 fmtRows_16386 mod count h2 h₃ hlt hc hc'

def fmtExtraRows : List Nat := [1296, 1331, 2047, 2048, 2049, 2197, 2401, 3125, 4095, 4096, 4097, 4913, 6561, 6859, 7776, 8191, 8192, 8193, 9999, 10000, 12167, 14641, 15625, 16383, 16384, 16385, 16807, 19683, 24389, 28561, 29791, 32767, 32768, 32769, 40000, 46340, 46341, 46656, 49666, 49667, 49668, 50000, 50653, 59049, 60000, 65521, 65534, 65535, 65536]

theorem fmtRows_extra : (fmtExtraRows.all fun m => checkMods 1 m) = true := by decide +kernel

end Bee2V.C01
