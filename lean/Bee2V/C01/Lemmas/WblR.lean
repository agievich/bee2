/-
C01 helper lemmas for `beltWBLStepR` (continued wide-block encryption): the E loops entered with an
arbitrary admissible round counter `round0` (`round0 % 2n = 0`), their inverse, consecutive calls.
Builds on Lemmas/Wbl.lean and Lemmas/WblBlk.lean; everything lives in the namespace `Bee2V.C01.WblR`.

Outside the contract (`round0 % 2n ≠ 0`; the C code ASSERTs `st->round % (2 * n) == 0`): the do-while
of `beltWBLStepEBase/EOpt` then runs until the counter reaches the NEXT multiple of 2n, i.e. fewer than
2n rounds (the fuel 2n of the model still suffices); no theorem is stated for that case.
-/
import Bee2V.C01.Lemmas.WblBlk
namespace Bee2V.C01.WblR
open Bee2V.C01.Wbl

/-- `k` consecutive iterations of the do-loop of `beltWBLStepEBase`, entered with `st->round = r`
(so the round numbers xored into the blocks are `r+1, …, r+k`) -/
def iterRounds (C : Cipher) (key : Bytes) : Nat → Bytes → Nat → Bytes
  | 0, buf, _ => buf
  | k + 1, buf, r => iterRounds C key k (wblRoundEBase C key buf r).1 (r + 1)

/-- `k` D rounds with the round numbers `r0+k, …, r0+1` (descending) -/
def iterDFrom (g : Bytes → Nat → Bytes) : Nat → Nat → Bytes → Bytes
  | 0, _, buf => buf
  | k + 1, r0, buf => iterDFrom g k r0 (g buf (r0 + k + 1))

/-- the inverse of one `beltWBLStepR` call that was entered with `st->round = round0` -/
def stepRInv (C : Cipher) (key buf : Bytes) (round0 : Nat) : Bytes :=
  iterDFrom (wblRoundDBase C key) (2 * wblN buf.length) round0 buf

/-- `k` consecutive calls of `beltWBLStepR` on the same buffer, threading buffer and `st->round` -/
def stepRIter (C : Cipher) (key : Bytes) : Nat → Bytes → Nat → Bytes × Nat
  | 0, buf, r => (buf, r)
  | k + 1, buf, r => stepRIter C key k (wblStepR C key buf r).1 (wblStepR C key buf r).2

/-! ### arithmetic of admissible counters -/

theorem add_mod_of_mod (a x n : Nat) (h : a % n = 0) : (a + x) % n = x % n := by
  rw [Nat.add_mod, h, Nat.zero_add, Nat.mod_mod]

/-- `16 * round0 ≡ 0 (mod c)` for an admissible start round: `16 * 2n = 2c` -/
theorem sixteen_mul_mod (c round0 x : Nat) (hc : c % 16 = 0) (h0 : round0 % (2 * wblN c) = 0) :
    (16 * (round0 + x)) % c = (16 * x) % c := by
  obtain ⟨q, hq⟩ := Nat.dvd_of_mod_eq_zero h0
  have e : 16 * (round0 + x) = 16 * x + c * (2 * q) := by
    rw [hq, Nat.mul_add, ← Nat.mul_assoc, show 16 * (2 * wblN c) = 2 * c by unfold wblN; omega, Nat.add_comm]
    congr 1
    rw [Nat.mul_assoc, Nat.mul_left_comm]
  rw [e, Nat.add_mul_mod_self_left]

/-! ### the iterate -/

theorem length_iterRounds (C : Cipher) (hlen : ∀ k x, x.length = 16 → (C.enc k x).length = 16) (key : Bytes) :
    ∀ (k : Nat) (buf : Bytes) (r : Nat), 32 ≤ buf.length → (iterRounds C key k buf r).length = buf.length := by
  intro k
  induction k with
  | zero => intro buf r _; rfl
  | succ k ih =>
    intro buf r h
    have hl := (length_roundE C hlen key buf h r).1
    simp only [iterRounds]
    rw [ih _ _ (by omega), hl]

theorem iterRounds_succ (C : Cipher) (key : Bytes) : ∀ (k : Nat) (buf : Bytes) (r : Nat),
    iterRounds C key (k + 1) buf r = (wblRoundEBase C key (iterRounds C key k buf r) (r + k)).1 := by
  intro k
  induction k with
  | zero => intro buf r; rfl
  | succ k ih =>
    intro buf r
    have := ih (wblRoundEBase C key buf r).1 (r + 1)
    have e : r + 1 + k = r + (k + 1) := by omega
    rw [e] at this
    exact this

theorem iterRounds_add (C : Cipher) (key : Bytes) : ∀ (a b : Nat) (buf : Bytes) (r : Nat),
    iterRounds C key (a + b) buf r = iterRounds C key b (iterRounds C key a buf r) (r + a) := by
  intro a
  induction a with
  | zero => intro b buf r; simp [iterRounds]
  | succ a ih =>
    intro b buf r
    have e : a + 1 + b = (a + b) + 1 := by omega
    have e2 : r + 1 + a = r + (a + 1) := by omega
    rw [e]
    simp only [iterRounds]
    rw [ih, e2]

/-- D rounds in descending order undo the E rounds -/
theorem iterDFrom_iterRounds (C : Cipher) (hlen : ∀ k x, x.length = 16 → (C.enc k x).length = 16) (key : Bytes) :
    ∀ (k : Nat) (buf : Bytes) (r0 : Nat), 32 ≤ buf.length →
    iterDFrom (wblRoundDBase C key) k r0 (iterRounds C key k buf r0) = buf := by
  intro k
  induction k with
  | zero => intro buf r0 _; rfl
  | succ k ih =>
    intro buf r0 h
    rw [iterRounds_succ]
    simp only [iterDFrom]
    rw [roundD_roundE C hlen key _ (by rw [length_iterRounds C hlen key k buf r0 h]; exact h)]
    exact ih buf r0 h

/-- round level, the other direction: an E round entered with `st->round = r` undoes a D round with
round number `r + 1` -/
theorem roundE_roundD (C : Cipher) (hlen : ∀ k x, x.length = 16 → (C.enc k x).length = 16)
    (key buf : Bytes) (h : 32 ≤ buf.length) (r : Nat) :
    (wblRoundEBase C key (wblRoundDBase C key buf (r + 1)) r).1 = buf := by
  obtain ⟨M, T, S, rfl, hT, hS⟩ := split3' buf h
  have he := length_encRound C hlen key S (r + 1) hS
  have hT' : (xorb T (encRound C key S (r + 1))).length = 16 := by rw [length_xorb]; omega
  rw [roundD_form C hlen key M T S hT hS (r + 1)]
  generalize hs' : (xorBlocksFrom (S ++ (M ++ xorb T (encRound C key S (r + 1)))) 16 (32 + M.length) 16 S).1 = s'
  have hs'l : s'.length = 16 := by
    rw [← hs', length_xbf _ 16 (by omega) _ _ _ (by omega), hS]
  rw [roundE_form C hlen key s' M _ hs'l hT' r]
  simp only []
  have hback : (xorBlocksFrom (s' ++ (M ++ xorb T (encRound C key S (r + 1)))) 16 (32 + M.length) 16 s').1 = S := by
    rw [xbf_congr (s' ++ (M ++ xorb T (encRound C key S (r + 1)))) (S ++ (M ++ xorb T (encRound C key S (r + 1))))
      16 16 (by simp [hs'l, hS]) (by rw [List.drop_left' hs'l, List.drop_left' hS]) _ _ _ (Nat.le_refl _)]
    rw [← hs', xbf_xbf _ 16 (by omega) _ _ _ (by omega)]
  rw [hback, xorb_xorb_cancel T _ (by omega)]

theorem length_iterDFrom (C : Cipher) (hlen : ∀ k x, x.length = 16 → (C.enc k x).length = 16) (key : Bytes) :
    ∀ (k r0 : Nat) (buf : Bytes), 32 ≤ buf.length →
    (iterDFrom (wblRoundDBase C key) k r0 buf).length = buf.length := by
  intro k
  induction k with
  | zero => intro r0 buf _; rfl
  | succ k ih =>
    intro r0 buf h
    have hl := length_roundD C hlen key buf h (r0 + k + 1)
    simp only [iterDFrom]
    rw [ih r0 _ (by omega), hl]

/-- E rounds in ascending order undo the D rounds -/
theorem iterRounds_iterDFrom (C : Cipher) (hlen : ∀ k x, x.length = 16 → (C.enc k x).length = 16) (key : Bytes) :
    ∀ (k : Nat) (buf : Bytes) (r0 : Nat), 32 ≤ buf.length →
    iterRounds C key k (iterDFrom (wblRoundDBase C key) k r0 buf) r0 = buf := by
  intro k
  induction k with
  | zero => intro buf r0 _; rfl
  | succ k ih =>
    intro buf r0 h
    have hl := length_roundD C hlen key buf h (r0 + k + 1)
    rw [iterRounds_succ]
    simp only [iterDFrom]
    rw [ih _ r0 (by omega)]
    exact roundE_roundD C hlen key buf h (r0 + k)

/-- `wblIterD` is `iterDFrom` from 0 -/
theorem iterDFrom_zero (g : Bytes → Nat → Bytes) : ∀ (k : Nat) (buf : Bytes),
    iterDFrom g k 0 buf = wblIterD g k buf := by
  intro k
  induction k with
  | zero => intro buf; rfl
  | succ k ih =>
    intro buf
    simp only [iterDFrom, wblIterD, Nat.zero_add]
    exact ih _

/-! ### the Base loop from an admissible start round -/

theorem iterE_from (C : Cipher) (hlen : ∀ k x, x.length = 16 → (C.enc k x).length = 16) (key : Bytes)
    (n2 round0 : Nat) (h0 : round0 % n2 = 0) :
    ∀ (f : Nat) (buf : Bytes) (j : Nat), 32 ≤ buf.length → 0 < f → j + f = n2 →
    wblIterEBase C key n2 f buf (round0 + j) = (iterRounds C key f buf (round0 + j), round0 + n2) := by
  intro f
  induction f with
  | zero => intro buf j _ h; omega
  | succ f ih =>
    intro buf j hb _ hj
    obtain ⟨hl, hr1⟩ := length_roundE C hlen key buf hb (round0 + j)
    simp only [wblIterEBase, iterRounds]
    rw [hr1]
    have hmod : (round0 + j + 1) % n2 = (j + 1) % n2 := by
      rw [Nat.add_assoc]; exact add_mod_of_mod round0 (j + 1) n2 h0
    by_cases hlt : j + 1 < n2
    · have hc : (round0 + j + 1) % n2 ≠ 0 := by
        rw [hmod, Nat.mod_eq_of_lt hlt]; omega
      rw [if_pos hc]
      have := ih (wblRoundEBase C key buf (round0 + j)).1 (j + 1) (by omega) (by omega) (by omega)
      rw [← Nat.add_assoc] at this
      exact this
    · have hjn : j + 1 = n2 := by omega
      have hc : ¬ (round0 + j + 1) % n2 ≠ 0 := by
        rw [hmod, hjn, Nat.mod_self]; simp
      rw [if_neg hc]
      have hf : f = 0 := by omega
      subst hf
      simp only [iterRounds]
      have e : round0 + n2 = (wblRoundEBase C key buf (round0 + j)).2 := by rw [hr1]; omega
      rw [e]

theorem stepEBase_from (C : Cipher) (hlen : ∀ k x, x.length = 16 → (C.enc k x).length = 16)
    (key buf : Bytes) (round0 : Nat) (h : 32 ≤ buf.length) (h0 : round0 % (2 * wblN buf.length) = 0) :
    wblStepEBase C key buf round0 =
      (iterRounds C key (2 * wblN buf.length) buf round0, round0 + 2 * wblN buf.length) := by
  have := iterE_from C hlen key (2 * wblN buf.length) round0 h0 (2 * wblN buf.length) buf 0 h
    (wblN_pos _ h) (by omega)
  rw [Nat.add_zero] at this
  exact this

/-! ### Opt = Base from an admissible start round -/

theorem iterEOpt_blk (C : Cipher) (hlen : ∀ k x, x.length = 16 → (C.enc k x).length = 16) (key : Bytes)
    (m : Nat) (hm : 2 ≤ m) (round0 : Nat) (h0 : round0 % (2 * m) = 0) :
    ∀ (f : Nat) (bs : List Bytes) (k j : Nat), Blks bs → bs.length = m → k = j % m → j + f = 2 * m → 0 < f →
    (wblIterEOpt C key (2 * m) f (bs.flatten, xs (rotB bs k).flatten, 16 * k, round0 + j)).1
      = (wblIterEBase C key (2 * m) f (rotB bs k).flatten (round0 + j)).1 ∧
    (wblIterEOpt C key (2 * m) f (bs.flatten, xs (rotB bs k).flatten, 16 * k, round0 + j)).2.2.2
      = (wblIterEBase C key (2 * m) f (rotB bs k).flatten (round0 + j)).2 := by
  intro f
  induction f with
  | zero => intro bs k j _ _ _ _ h; omega
  | succ f ih =>
    intro bs k j h hl hk hj _
    subst hl
    obtain ⟨bs', h', hl', e1, e2⟩ := simE_blk C hlen key h hm k (round0 + j) (by rw [hk]; exact Nat.mod_lt _ (by omega))
    have hk1 : (k + 1) % bs.length = (j + 1) % bs.length := by rw [hk, Nat.mod_add_mod]
    have hmod : (round0 + j + 1) % (2 * bs.length) = (j + 1) % (2 * bs.length) := by
      rw [Nat.add_assoc]; exact add_mod_of_mod round0 (j + 1) _ h0
    simp only [wblIterEOpt, wblIterEBase]
    rw [e1, e2, hmod]
    by_cases hlt : j + 1 < 2 * bs.length
    · have hcnd : (j + 1) % (2 * bs.length) ≠ 0 := by rw [Nat.mod_eq_of_lt hlt]; omega
      rw [if_pos hcnd, if_pos hcnd]
      have := ih bs' ((k + 1) % bs.length) (j + 1) h' hl' hk1 (by omega) (by omega)
      rwa [← Nat.add_assoc] at this
    · have hn : j + 1 = 2 * bs.length := by omega
      have hcnd : ¬ (j + 1) % (2 * bs.length) ≠ 0 := by rw [hn, Nat.mod_self]; simp
      rw [if_neg hcnd, if_neg hcnd, hk1, hn, Nat.mul_mod_left]
      exact ⟨by rw [rotB_zero], rfl⟩

theorem stepEOpt_eq_Base_from (C : Cipher) (hlen : ∀ k x, x.length = 16 → (C.enc k x).length = 16)
    (key buf : Bytes) (round0 : Nat) (h16 : buf.length % 16 = 0) (h32 : 32 ≤ buf.length)
    (h0 : round0 % (2 * wblN buf.length) = 0) :
    wblStepEOpt C key buf round0 = wblStepEBase C key buf round0 := by
  obtain ⟨bs, h, hl, rfl⟩ := exists_blks (buf.length / 16) buf (by omega)
  have hn : 2 * wblN bs.flatten.length = 2 * bs.length := by rw [length_flatten h]; unfold wblN; omega
  rw [length_flatten h] at h32
  rw [hn] at h0
  obtain ⟨e1, e2⟩ := iterEOpt_blk C hlen key bs.length (by omega) round0 h0 (2 * bs.length) bs 0 0 h rfl
    (Nat.zero_mod _).symm (by omega) (by omega)
  rw [rotB_zero, Nat.add_zero] at e1 e2
  unfold wblStepEOpt wblStepEBase
  simp only []
  have hx : (xorBlocksFrom bs.flatten 16 bs.flatten.length 16 (bs.flatten.take 16)).1 = xs bs.flatten := rfl
  rw [hx, hn, e1, e2]

/-! ### entered with `st->round = 0`: `beltWBLStepE` -/

theorem stepE_spec (C : Cipher) (hlen : ∀ k x, x.length = 16 → (C.enc k x).length = 16) (key buf : Bytes)
    (h : 32 ≤ buf.length) :
    (wblStepEBase C key buf 0).2 = 2 * wblN buf.length ∧ (wblStepEBase C key buf 0).1.length = buf.length ∧
    (wblStepDBase C key (wblStepEBase C key buf 0).1).1 = buf := by
  have hl := length_iterRounds C hlen key (2 * wblN buf.length) buf 0 h
  rw [stepEBase_from C hlen key buf 0 h (Nat.zero_mod _)]
  refine ⟨Nat.zero_add _, hl, ?_⟩
  rw [wblStepDBase, hl, ← iterDFrom_zero]
  exact iterDFrom_iterRounds C hlen key _ buf 0 h

/-! ### beltWBLStepR -/

theorem stepR_eq (C : Cipher) (hlen : ∀ k x, x.length = 16 → (C.enc k x).length = 16)
    (key buf : Bytes) (round0 : Nat) (h : 32 ≤ buf.length) (h0 : round0 % (2 * wblN buf.length) = 0) :
    wblStepR C key buf round0 =
      (iterRounds C key (2 * wblN buf.length) buf round0, round0 + 2 * wblN buf.length) := by
  rw [← stepEBase_from C hlen key buf round0 h h0]
  unfold wblStepR
  split
  · rfl
  · rename_i hc
    exact stepEOpt_eq_Base_from C hlen key buf round0 (by simp at hc; omega) h h0

theorem stepRIter_succ (C : Cipher) (key : Bytes) : ∀ (k : Nat) (buf : Bytes) (r : Nat),
    stepRIter C key (k + 1) buf r
      = wblStepR C key (stepRIter C key k buf r).1 (stepRIter C key k buf r).2 := by
  intro k
  induction k with
  | zero => intro buf r; rfl
  | succ k ih =>
    intro buf r
    exact ih (wblStepR C key buf r).1 (wblStepR C key buf r).2

/-- after `k` calls the counter is `round0 + 2n·k`, the length is unchanged, and the buffer has gone
through the rounds `round0+1, …, round0+2nk` -/
theorem stepRIter_spec (C : Cipher) (hlen : ∀ k x, x.length = 16 → (C.enc k x).length = 16) (key : Bytes)
    (c : Nat) (hc : 32 ≤ c) :
    ∀ (k : Nat) (buf : Bytes) (round0 : Nat), buf.length = c → round0 % (2 * wblN c) = 0 →
    stepRIter C key k buf round0
      = (iterRounds C key (2 * wblN c * k) buf round0, round0 + 2 * wblN c * k) := by
  intro k
  induction k with
  | zero => intro buf round0 _ _; rfl
  | succ k ih =>
    intro buf round0 hb h0
    subst hb
    simp only [stepRIter]
    rw [stepR_eq C hlen key buf round0 hc h0]
    simp only []
    rw [ih _ _ (length_iterRounds C hlen key _ buf round0 hc)
      (by rw [Nat.add_mod, h0, Nat.mod_self]; simp)]
    have e : 2 * wblN buf.length * (k + 1) = 2 * wblN buf.length + 2 * wblN buf.length * k := by
      rw [Nat.mul_add, Nat.mul_one, Nat.add_comm]
    rw [e, iterRounds_add, Nat.add_assoc]

end Bee2V.C01.WblR
