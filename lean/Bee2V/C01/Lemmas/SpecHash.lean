/-
C01 helper lemmas: the models of belt_mac.c / belt_compr.c / belt_hash.c / belt_hmac.c / belt_krp.c /
belt_pbkdf.c against the standards-level definitions of SpecHash.lean.
-/
import Bee2V.C01.SpecHash
import Bee2V.C01.Lemmas.Chunk
import Bee2V.C01.Lemmas.Aead
import Bee2V.C01.Lemmas.SpecBlock
namespace Bee2V.C01.SpecHashL
open Bee2V.C01

/-! ### octet strings -/

theorem u8_not_eq_xor (x : UInt8) : ~~~x = x ^^^ 0xFF := by
  have h : ∀ n, n < 256 → ~~~(UInt8.ofNat n) = UInt8.ofNat n ^^^ 0xFF := by decide +kernel
  have := h x.toNat x.toNat_lt
  rwa [UInt8.ofNat_toNat] at this

theorem negb_eq_xor (a : Bytes) : ∀ n : Nat, a.length ≤ n → negb a = xorb a (List.replicate n 0xFF) := by
  induction a with
  | nil => intro n _; simp [negb, xorb]
  | cons x xs ih =>
    intro n h
    cases n with
    | zero => simp at h
    | succ n =>
      have := ih n (by simpa using h)
      simp only [negb, xorb, List.map_cons, List.replicate_succ, List.zipWith_cons_cons, u8_not_eq_xor] at this ⊢
      rw [this]

/-! ### the four 128-bit words of `X ‖ h` -/

theorem take32_append (X h : Bytes) (hX : X.length = 32) : (X ++ h).take 32 = X := List.take_left' hX

theorem blockAt_u1 (X h : Bytes) (hX : X.length = 32) : Spec.blockAt 16 (X ++ h) 0 = X.take 16 := by
  simp only [Spec.blockAt, Nat.mul_zero, List.drop_zero]
  exact List.take_append_of_le_length (by omega)

theorem blockAt_u2 (X h : Bytes) (hX : X.length = 32) : Spec.blockAt 16 (X ++ h) 1 = X.drop 16 := by
  simp only [Spec.blockAt, Nat.mul_one]
  rw [List.drop_append_of_le_length (by omega)]
  exact List.take_left' (by simp only [List.length_drop]; omega)

theorem blockAt_u3 (X h : Bytes) (hX : X.length = 32) : Spec.blockAt 16 (X ++ h) 2 = h.take 16 := by
  simp only [Spec.blockAt]
  rw [show 16 * 2 = 32 from rfl, List.drop_left' hX]

theorem blockAt_u4 (X h : Bytes) (hX : X.length = 32) (hh : h.length = 32) :
    Spec.blockAt 16 (X ++ h) 3 = h.drop 16 := by
  simp only [Spec.blockAt]
  have e : 16 * 3 = X.length + 16 := by omega
  rw [e, List.drop_append]
  rw [List.drop_of_length_le (by omega), List.nil_append, Nat.add_sub_cancel_left]
  exact List.take_of_length_le (by simp only [List.length_drop]; omega)

/-- the model of `beltCompr2` is `s ← s ⊕ sigma1(X ‖ h)`, `h ← sigma2(X ‖ h)` -/
theorem compr2_eq (C : Cipher) (s h X : Bytes) (hX : X.length = 32) (hh : h.length = 32) :
    compr2 C s h X = (xorb s (Spec.sigma1 C.enc (X ++ h)), Spec.sigma2 C.enc (X ++ h)) := by
  have e1 : Spec.sigma1 C.enc (X ++ h) =
      xorb (C.enc X (xorb (h.take 16) (h.drop 16))) (xorb (h.take 16) (h.drop 16)) := by
    simp only [Spec.sigma1, take32_append X h hX, blockAt_u3 X h hX, blockAt_u4 X h hX hh, xorb_assoc]
  have hl : (xorb (C.enc X (xorb (h.take 16) (h.drop 16))) (xorb (h.take 16) (h.drop 16))).length ≤ 16 := by
    simp only [length_xorb, List.length_take, List.length_drop]; omega
  simp only [Spec.sigma2, e1, blockAt_u1 X h hX, blockAt_u2 X h hX, blockAt_u3 X h hX,
    blockAt_u4 X h hX hh, compr2, Spec.ones128, negb_eq_xor _ 16 hl]

/-- `beltCompr` is `sigma2(X ‖ h)` -/
theorem compr_eq (C : Cipher) (h X : Bytes) (hX : X.length = 32) (hh : h.length = 32) :
    compr C h X = Spec.sigma2 C.enc (X ++ h) := by
  rw [compr, compr2_eq C _ h X hX hh]

/-! ### lengths, for a cipher that preserves the block length -/

section lengths
variable (C : Cipher) (hlen : ∀ k x : Bytes, x.length = 16 → (C.enc k x).length = 16)
include hlen

theorem length_sigma1 (u : Bytes) (hu : u.length = 64) : (Spec.sigma1 C.enc u).length = 16 := by
  have h3 : (Spec.blockAt 16 u 2).length = 16 := by
    simp only [Spec.blockAt, List.length_take, List.length_drop]; omega
  have h4 : (Spec.blockAt 16 u 3).length = 16 := by
    simp only [Spec.blockAt, List.length_take, List.length_drop]; omega
  simp only [Spec.sigma1, length_xorb, h3, h4, hlen _ _ (show (xorb (Spec.blockAt 16 u 2)
    (Spec.blockAt 16 u 3)).length = 16 by simp only [length_xorb, h3, h4, Nat.min_self]), Nat.min_self]

theorem length_sigma2 (u : Bytes) (hu : u.length = 64) : (Spec.sigma2 C.enc u).length = 32 := by
  have h1 : (Spec.blockAt 16 u 0).length = 16 := by
    simp only [Spec.blockAt, List.length_take, List.length_drop]; omega
  have h2 : (Spec.blockAt 16 u 1).length = 16 := by
    simp only [Spec.blockAt, List.length_take, List.length_drop]; omega
  simp only [Spec.sigma2, List.length_append, length_xorb, h1, h2, hlen _ _ h1, hlen _ _ h2, Nat.min_self]

end lengths

/-! ### belt-hash: the compression chain of the model is the chain of the standard -/

/-- the iteration of `Spec.hashChain`, any number of steps from any start -/
def specFold (E : Spec.BlockFn) (X : Bytes) (n : Nat) (sh : Bytes × Bytes) : Bytes × Bytes :=
  (List.range n).foldl
    (fun (sh : Bytes × Bytes) i =>
      (xorb sh.1 (Spec.sigma1 E (Spec.hashBlock X i ++ sh.2)), Spec.sigma2 E (Spec.hashBlock X i ++ sh.2))) sh

theorem specFold_succ (E : Spec.BlockFn) (X : Bytes) (n : Nat) (sh : Bytes × Bytes) :
    specFold E X (n + 1) sh =
      (xorb (specFold E X n sh).1 (Spec.sigma1 E (Spec.hashBlock X n ++ (specFold E X n sh).2)),
       Spec.sigma2 E (Spec.hashBlock X n ++ (specFold E X n sh).2)) := by
  simp only [specFold, List.range_succ, List.foldl_append, List.foldl_cons, List.foldl_nil]

theorem comprChain_succ_right (C : Cipher) (n : Nat) (sh : Bytes × Bytes) (X : Bytes) :
    comprChain C (n + 1) sh X =
      compr2 C (comprChain C n sh X).1 (comprChain C n sh X).2 (Spec.blockAt 32 X n) := by
  rw [comprChain_add]; rfl

theorem length_blockAt_full (X : Bytes) (n : Nat) (h : 32 * (n + 1) ≤ X.length) :
    (Spec.blockAt 32 X n).length = 32 := by
  simp only [Spec.blockAt, List.length_take, List.length_drop]; omega

theorem hashBlock_full (X : Bytes) (n : Nat) (h : 32 * (n + 1) ≤ X.length) :
    Spec.hashBlock X n = Spec.blockAt 32 X n := by
  simp only [Spec.hashBlock, length_blockAt_full X n h, Nat.sub_self, zeros, List.replicate_zero, List.append_nil]

theorem length_hashBlock (X : Bytes) (n : Nat) : (Spec.hashBlock X n).length = 32 := by
  simp only [Spec.hashBlock, List.length_append, length_zeros, Spec.blockAt, List.length_take, List.length_drop]
  omega

section chain
variable (C : Cipher) (hlen : ∀ k x : Bytes, x.length = 16 → (C.enc k x).length = 16)
include hlen

/-- one step keeps `|s| = 16`, `|h| = 32` -/
theorem length_step (s h B : Bytes) (hs : s.length = 16) (hh : h.length = 32) (hB : B.length = 32) :
    (xorb s (Spec.sigma1 C.enc (B ++ h))).length = 16 ∧ (Spec.sigma2 C.enc (B ++ h)).length = 32 := by
  have hu : (B ++ h).length = 64 := by simp only [List.length_append, hB, hh]
  exact ⟨by rw [length_xorb, length_sigma1 C hlen _ hu, hs, Nat.min_self], length_sigma2 C hlen _ hu⟩

theorem length_specFold (X : Bytes) (n : Nat) (sh : Bytes × Bytes) (hs : sh.1.length = 16)
    (hh : sh.2.length = 32) :
    (specFold C.enc X n sh).1.length = 16 ∧ (specFold C.enc X n sh).2.length = 32 := by
  induction n with
  | zero => exact ⟨hs, hh⟩
  | succ n ih =>
    rw [specFold_succ]
    exact length_step C hlen _ _ _ ih.1 ih.2 (length_hashBlock X n)

theorem comprChain_eq_specFold (X : Bytes) (sh : Bytes × Bytes) (hh : sh.2.length = 32) (hs : sh.1.length = 16) :
    ∀ n : Nat, 32 * n ≤ X.length → comprChain C n sh X = specFold C.enc X n sh := by
  intro n
  induction n with
  | zero => intro _; rfl
  | succ n ih =>
    intro hn
    have l := length_specFold C hlen X n sh hs hh
    rw [comprChain_succ_right, ih (by omega), specFold_succ,
      compr2_eq C _ _ _ (length_blockAt_full X n hn) l.2, hashBlock_full X n hn]

/-- the digest computed by the model from the compression chain, the pending octets and the length block `L`
is `sigma2(L ‖ s ‖ h)` over the chain of the standard -/
theorem spongeOut_eq (L X : Bytes) (hL : L.length = 16) :
    spongeOut C L (zeros 16) Spec.hashInit X =
      Spec.sigma2 C.enc (L ++ (Spec.hashChain C.enc X).1 ++ (Spec.hashChain C.enc X).2) := by
  have hi : Spec.hashInit.length = 32 := by decide +kernel
  have hc := comprChain_eq_specFold C hlen X (zeros 16, Spec.hashInit) hi (length_zeros 16) (X.length / 32)
    (by omega)
  have l := length_specFold C hlen X (X.length / 32) (zeros 16, Spec.hashInit) (length_zeros 16) hi
  unfold spongeOut
  by_cases hr : X.length % 32 ≠ 0
  · have hn : (X.length + 31) / 32 = X.length / 32 + 1 := by omega
    have hb : X.drop (32 * (X.length / 32)) ++ zeros (32 - X.length % 32) = Spec.hashBlock X (X.length / 32) := by
      have e : Spec.blockAt 32 X (X.length / 32) = X.drop (32 * (X.length / 32)) :=
        List.take_of_length_le (by simp only [List.length_drop]; omega)
      have el : (X.drop (32 * (X.length / 32))).length = X.length % 32 := by
        simp only [List.length_drop]; omega
      simp only [Spec.hashBlock, e, el]
    have l' := length_specFold C hlen X (X.length / 32 + 1) (zeros 16, Spec.hashInit) (length_zeros 16) hi
    simp only [hr, ne_eq, not_false_eq_true, if_true, hc, hb]
    rw [compr2_eq C _ _ _ (length_hashBlock X _) l.2]
    simp only [Spec.hashChain, hn]
    rw [← specFold, specFold_succ]
    rw [specFold_succ] at l'
    rw [compr_eq C _ _ (by simp only [List.length_append, hL, l'.1]) l'.2]
  · have hn : (X.length + 31) / 32 = X.length / 32 := by omega
    simp only [hr, if_false, hc, Spec.hashChain, hn]
    rw [← specFold, compr_eq C _ _ (by simp only [List.length_append, hL, l.1]) l.2]

end chain

/-- the table used by the model is the table of the standard -/
theorem H_eq : Bee2V.Gen.C01.H.toList = Spec.hBytes := by
  rw [Spec.hBytes, ← table_H_is_spec, List.map_map]
  simp only [Function.comp_def, UInt8.ofNat_toNat, List.map_id']

theorem hInit_eq : hInit = Spec.hashInit := by
  rw [Spec.hashInit, List.map_take, ← Spec.hBytes, ← H_eq, hInit]

/-- the length block of the model is `<|X|>_128` -/
theorem addBitSize_eq_bitLen (n : Nat) (hn : n < 2 ^ 64) : addBitSizeBlock (zeros 16) n = Spec.bitLen128 n := by
  apply eq_of_leNat_eq
  · rw [Aead.length_addBitSizeBlock _ _ rfl, Spec.bitLen128, length_natLE]
  · rw [Aead.addBitSizeBlock_val _ _ rfl hn, Spec.bitLen128, leNat_natLE]
    have h0 : leNat (zeros 16) = 0 := by decide
    have hp : (256 : Nat) ^ 16 = 2 ^ 128 := by decide
    rw [h0, hp, Nat.zero_add]

theorem length_bitLen128 (n : Nat) : (Spec.bitLen128 n).length = 16 := length_natLE _ _

/-- the digest held by the model after absorbing `X` from the initial state, `|X| < 2^64` octets -/
theorem hashOut_eq (C : Cipher) (hlen : ∀ k x : Bytes, x.length = 16 → (C.enc k x).length = 16) (X : Bytes)
    (hX : X.length < 2 ^ 64) :
    hashOutSpec C (addBitSizeBlock (zeros 16) X.length) X = Spec.hash C.enc X := by
  rw [hashOutSpec, hInit_eq, addBitSize_eq_bitLen _ hX, spongeOut_eq C hlen _ _ (length_bitLen128 _)]
  rfl

theorem length_hash (C : Cipher) (hlen : ∀ k x : Bytes, x.length = 16 → (C.enc k x).length = 16) (X : Bytes) :
    (Spec.hash C.enc X).length = 32 := by
  have l := length_specFold C hlen X ((X.length + 31) / 32) (zeros 16, Spec.hashInit) (length_zeros 16)
    (by decide +kernel)
  apply length_sigma2 C hlen
  simp only [List.length_append, length_bitLen128, Spec.hashChain]
  rw [← specFold, l.1, l.2]

/-! ### belt-mac -/

theorem macChain_eq_fold (C : Cipher) (k X : Bytes) (s : Bytes) (n : Nat) :
    macChain C k n s X = (List.range n).foldl (fun s i => C.enc k (xorb s (Spec.blockAt 16 X i))) s := by
  induction n with
  | zero => rfl
  | succ n ih =>
    rw [macChain_succ_right, ih, List.range_succ, List.foldl_append]
    rfl

theorem macBlockCount_pred (X : Bytes) : Spec.macBlockCount X - 1 = macNb X := by
  simp only [Spec.macBlockCount, macNb]; omega

theorem blockAt_last_mac (X : Bytes) : Spec.blockAt 16 X (macNb X) = macPend X := by
  simp only [Spec.blockAt, macPend]
  exact List.take_of_length_le (by simp only [List.length_drop, macNb]; omega)

/-- the closed form of the tag block read off the state machine is belt-mac of the standard -/
theorem macTagSpec_eq (C : Cipher) (k X : Bytes) :
    macTagSpec C k (C.enc k (zeros 16)) X = Spec.macFull C.enc k X := by
  have hz : 16 - (macPend X).length - 1 = 15 - (macPend X).length := by omega
  simp only [macTagSpec, Spec.macFull, macBlockCount_pred, blockAt_last_mac, macS, macChain_eq_fold,
    Spec.phi1, Spec.phi2, Spec.word32, Nat.mul_zero, Nat.mul_one, List.drop_zero, Nat.reduceMul, hz]
  split <;> rfl

/-! ### HMAC -/

/-- a first full block may be compressed in advance -/
theorem spongeOut_prepend (C : Cipher) (L s0 h0 B X : Bytes) (hB : B.length = 32) :
    spongeOut C L (compr2 C s0 h0 B).1 (compr2 C s0 h0 B).2 X = spongeOut C L s0 h0 (B ++ X) := by
  have hl : (B ++ X).length = 32 + X.length := by simp only [List.length_append, hB]
  have hn : (32 + X.length) / 32 = X.length / 32 + 1 := by omega
  have hm : (32 + X.length) % 32 = X.length % 32 := by omega
  simp only [spongeOut, hl, hn, hm, comprChain, List.take_left' hB, List.drop_left' hB,
    chunk_drop_block32 B X _ hB]

theorem spongeOut_nil (C : Cipher) (L s h : Bytes) : spongeOut C L s h [] = compr C h (L ++ s) := by
  simp [spongeOut, comprChain]

/-- the loop over the full blocks of a long key in `beltHMACStart` -/
theorem hmacKey_loop (C : Cipher) :
    ∀ (m : Nat) (Y : Bytes) (sh : Bytes × Bytes), Y.length / 32 = m →
      fullBlocks 32 (fun (sh : Bytes × Bytes) b => (compr2 C sh.1 sh.2 b, ([] : Bytes))) sh Y =
        (comprChain C m sh Y, [], Y.drop (32 * m)) := by
  intro m
  induction m with
  | zero =>
    intro Y sh hm
    rw [fullBlocks_lt _ _ _ _ (by omega)]
    simp [comprChain]
  | succ m ih =>
    intro Y sh hm
    have hY : 32 ≤ Y.length := by omega
    rw [fullBlocks_ge 32 (by omega) _ _ _ hY, ih _ _ (by simp only [List.length_drop]; omega)]
    simp only [List.nil_append, comprChain, List.drop_drop]
    have e2 : 32 + 32 * m = 32 * (m + 1) := by omega
    rw [e2]

/-- `K0` as computed by `beltHMACStart` -/
def modelK0 (C : Cipher) (key : Bytes) : Bytes :=
  if key.length ≤ 32 then key ++ zeros (32 - key.length)
  else spongeOut C (addBitSizeBlock (zeros 16) key.length) (zeros 16) hInit key

theorem hmacStart_eq (C : Cipher) (key : Bytes) :
    hmacStart C key =
      ⟨addBitSizeBlock (zeros 16) 32 ++ (compr2 C (zeros 16) hInit ((modelK0 C key).map (· ^^^ 0x36))).1,
       (compr2 C (zeros 16) hInit ((modelK0 C key).map (· ^^^ 0x36))).2, zeros 32,
       addBitSizeBlock (zeros 16) 64 ++
         (compr2 C (zeros 16) hInit (((modelK0 C key).map (· ^^^ 0x36)).map (· ^^^ 0x6A))).1,
       (compr2 C (zeros 16) hInit (((modelK0 C key).map (· ^^^ 0x36)).map (· ^^^ 0x6A))).2, zeros 32,
       zeros 16, ((modelK0 C key).map (· ^^^ 0x36)).map (· ^^^ 0x6A), 0⟩ := by
  have hk : (if key.length ≤ 32 then key ++ zeros (32 - key.length)
      else
        let len := addBitSizeBlock (zeros 16) key.length
        let l := fullBlocks 32 (fun (sh : Bytes × Bytes) b => (compr2 C sh.1 sh.2 b, [])) (zeros 16, hInit) key
        let r := l.2.2
        let sh := if r.length ≠ 0 then compr2 C l.1.1 l.1.2 (r ++ zeros (32 - r.length)) else l.1
        compr C sh.2 (len ++ sh.1)) = modelK0 C key := by
    unfold modelK0
    by_cases h : key.length ≤ 32
    · simp only [h, if_true]
    · simp only [h, if_false]
      rw [hmacKey_loop C _ key _ rfl]
      have hrl : (key.drop (32 * (key.length / 32))).length = key.length % 32 := by
        simp only [List.length_drop]; omega
      unfold spongeOut
      by_cases hr : key.length % 32 ≠ 0
      · simp only [hrl, hr, ne_eq, not_false_eq_true, if_true]
      · simp only [hrl, hr, if_false]
  unfold hmacStart
  simp only [hk]

theorem length_modelK0_short (C : Cipher) (key : Bytes) (hk : key.length ≤ 32) : (modelK0 C key).length = 32 := by
  simp only [modelK0, hk, if_true, List.length_append, length_zeros]; omega

theorem xor_pads (x : UInt8) : x ^^^ 0x36 ^^^ 0x6A = x ^^^ 0x5C := by
  rw [UInt8.xor_assoc]; rfl

section hmac
variable (C : Cipher) (hlen : ∀ k x : Bytes, x.length = 16 → (C.enc k x).length = 16)
include hlen

theorem spongeOut_eq_hash (X : Bytes) (hX : X.length < 2 ^ 64) :
    spongeOut C (addBitSizeBlock (zeros 16) X.length) (zeros 16) hInit X = Spec.hash C.enc X :=
  hashOut_eq C hlen X hX

theorem modelK0_eq (key : Bytes) (hk : key.length < 2 ^ 64) : modelK0 C key = Spec.hmacKey C.enc key := by
  unfold modelK0 Spec.hmacKey
  by_cases h : key.length ≤ 32
  · simp only [h, if_true]
  · simp only [h, if_false]
    exact spongeOut_eq_hash C hlen key hk

theorem length_hmacKey (key : Bytes) : (Spec.hmacKey C.enc key).length = 32 := by
  unfold Spec.hmacKey
  by_cases h : key.length ≤ 32
  · simp only [h, if_true, List.length_append, length_zeros]; omega
  · simp only [h, if_false]
    exact length_hash C hlen key

/-- the start state has a 32-octet buffer, for every key length -/
theorem length_hmacStart_block (key : Bytes) (hk : key.length < 2 ^ 64) : (hmacStart C key).block.length = 32 := by
  rw [hmacStart_eq]
  simp only [List.length_map, modelK0_eq C hlen key hk, length_hmacKey C hlen key]

/-- The outer digest read off an HMAC state that describes the data `X` is HMAC of the standard. -/
theorem hmacOut_eq (key X : Bytes) (hk : key.length < 2 ^ 64) (hX : 32 + X.length < 2 ^ 64) (st : HmacSt)
    (inv : HmacInv C (addBitSizeBlock (zeros 16) (32 + X.length)) ((hmacStart C key).ls_in.drop 16)
      (hmacStart C key).h_in (hmacStart C key).ls_out (hmacStart C key).h_out X st) :
    (hmacStepGInternal C st).h1_out = Spec.hmac C.enc key X := by
  have hK := modelK0_eq C hlen key hk
  have hKl := length_hmacKey C hlen key
  have l16 : ∀ n, (addBitSizeBlock (zeros 16) n).length = 16 := fun n => Aead.length_addBitSizeBlock _ _ rfl
  rw [hmacInv_out inv, hmacStart_eq, hmacOutSpec]
  simp only [List.drop_left' (l16 32), List.drop_left' (l16 64), List.take_left' (l16 64)]
  have hip : ((modelK0 C key).map (· ^^^ 0x36)).length = 32 := by rw [List.length_map, hK, hKl]
  have hop : (((modelK0 C key).map (· ^^^ 0x36)).map (· ^^^ 0x6A)).length = 32 := by
    rw [List.length_map, hip]
  rw [spongeOut_prepend C _ _ _ _ X hip]
  have e1 : spongeOut C (addBitSizeBlock (zeros 16) (32 + X.length)) (zeros 16) hInit
      ((modelK0 C key).map (· ^^^ 0x36) ++ X) = Spec.hash C.enc ((modelK0 C key).map (· ^^^ 0x36) ++ X) := by
    have := spongeOut_eq_hash C hlen ((modelK0 C key).map (· ^^^ 0x36) ++ X)
      (by simp only [List.length_append, hip]; exact hX)
    simpa only [List.length_append, hip] using this
  rw [e1]
  have hin : (Spec.hash C.enc ((modelK0 C key).map (· ^^^ 0x36) ++ X)).length = 32 := length_hash C hlen _
  have e2 := spongeOut_eq_hash C hlen
    (((modelK0 C key).map (· ^^^ 0x36)).map (· ^^^ 0x6A) ++ Spec.hash C.enc ((modelK0 C key).map (· ^^^ 0x36) ++ X))
    (by simp only [List.length_append, hop, hin]; omega)
  simp only [List.length_append, hop, hin] at e2
  rw [← spongeOut_prepend C _ _ _ _ _ hop] at e2
  have e3 := spongeOut_prepend C (addBitSizeBlock (zeros 16) 64)
    (compr2 C (zeros 16) hInit (((modelK0 C key).map (· ^^^ 0x36)).map (· ^^^ 0x6A))).1
    (compr2 C (zeros 16) hInit (((modelK0 C key).map (· ^^^ 0x36)).map (· ^^^ 0x6A))).2
    (Spec.hash C.enc ((modelK0 C key).map (· ^^^ 0x36) ++ X)) [] hin
  rw [List.append_nil, spongeOut_nil] at e3
  rw [e3, e2, Spec.hmac, hK]
  simp only [List.map_map, Function.comp_def, xor_pads]

end hmac

section hmac2
variable (C : Cipher) (hlen : ∀ k x : Bytes, x.length = 16 → (C.enc k x).length = 16)
include hlen

theorem hmacInv_start (key : Bytes) (hk : key.length < 2 ^ 64) :
    HmacInv C (addBitSizeBlock (zeros 16) 32) ((hmacStart C key).ls_in.drop 16)
      (hmacStart C key).h_in (hmacStart C key).ls_out (hmacStart C key).h_out [] (hmacStart C key) := by
  have l16 : (addBitSizeBlock (zeros 16) 32).length = 16 := Aead.length_addBitSizeBlock _ _ rfl
  have hl : 16 ≤ (hmacStart C key).ls_in.length := by
    show 16 ≤ (addBitSizeBlock (zeros 16) 32 ++ _).length
    rw [List.length_append, l16]; omega
  have ht : (hmacStart C key).ls_in.take 16 = addBitSizeBlock (zeros 16) 32 := by
    show (addBitSizeBlock (zeros 16) 32 ++ _).take 16 = _
    exact List.take_left' l16
  have := hmacInv_init C (hmacStart C key) hl (length_hmacStart_block C hlen key hk) rfl
  rwa [ht] at this

/-- `beltHMACStart; beltHMACStepA(X); beltHMACStepG` is HMAC of the standard -/
theorem hmac_oneshot (key X : Bytes) (hk : key.length < 2 ^ 64) (hX : 32 + X.length < 2 ^ 64) :
    (hmacStepGInternal C (hmacStepA C (hmacStart C key) X)).h1_out = Spec.hmac C.enc key X := by
  have inv := hmacInv_stepA (hmacInv_start C hlen key hk) X
  rw [Aead.addBitSizeBlock_add _ _ _ rfl hX, List.nil_append] at inv
  exact hmacOut_eq C hlen key X hk hX _ inv

/-- two fragments -/
theorem hmac_twoshot (key A B : Bytes) (hk : key.length < 2 ^ 64) (hX : 32 + (A.length + B.length) < 2 ^ 64) :
    (hmacStepGInternal C (hmacStepA C (hmacStepA C (hmacStart C key) A) B)).h1_out =
      Spec.hmac C.enc key (A ++ B) := by
  have inv := hmacInv_stepA (hmacInv_stepA (hmacInv_start C hlen key hk) A) B
  rw [Aead.addBitSizeBlock_add _ _ _ rfl (by omega), Aead.addBitSizeBlock_add _ _ _ rfl (by omega), List.nil_append] at inv
  exact hmacOut_eq C hlen key (A ++ B) hk (by simpa only [List.length_append] using hX) _
    (by simpa only [List.length_append] using inv)

theorem length_hmac (key X : Bytes) : (Spec.hmac C.enc key X).length = 32 := length_hash C hlen _

theorem length_pbkdfU (P S : Bytes) (i : Nat) : (Spec.pbkdfU C.enc P S i).length = 32 := by
  cases i <;> exact length_hmac C hlen _ _

/-- the iteration loop of `beltPBKDF2` -/
theorem pbkdfLoop_eq (pwd S : Bytes) (hk : pwd.length < 2 ^ 64) :
    ∀ (n j : Nat) (key : Bytes),
      pbkdfLoop C pwd n key (Spec.pbkdfU C.enc pwd S j) =
        (List.range n).foldl (fun acc i => xorb acc (Spec.pbkdfU C.enc pwd S (j + 1 + i))) key := by
  intro n
  induction n with
  | zero => intro j key; rfl
  | succ n ih =>
    intro j key
    have hU : (hmacStepG C (hmacStepA C (hmacStart C pwd) (Spec.pbkdfU C.enc pwd S j)) 32).2 =
        Spec.pbkdfU C.enc pwd S (j + 1) := by
      show (hmacStepGInternal C _).h1_out.take 32 = _
      rw [hmac_oneshot C hlen pwd _ hk (by rw [length_pbkdfU C hlen]; omega)]
      exact List.take_of_length_le (by rw [length_hmac C hlen]; omega)
    simp only [pbkdfLoop, hU]
    rw [ih (j + 1), List.range_succ_eq_map, List.foldl_cons, List.foldl_map]
    simp only [Nat.add_zero]
    congr 1
    funext acc i
    congr 2
    omega

end hmac2

/-! ### belt-keyrep -/

theorem length_fmtKey (key : Bytes) (h : key.length = 16 ∨ key.length = 24 ∨ key.length = 32) :
    (fmtKey key).length = 32 := by
  rw [fmtKey, length_u32To]
  rcases h with h | h | h
  · rw [keyExpand2_16 key h, List.length_append, length_u32From, h]
  · obtain ⟨t1, t2, t3, t4, t5, t6, _, he⟩ := keyExpand2_24 key h
    rw [he]; rfl
  · rw [keyExpand2_32 key h, length_u32From, h]

theorem krpStepG_eq (C : Cipher) (src level header : Bytes) (m : Nat)
    (hn : src.length = 16 ∨ src.length = 24 ∨ src.length = 32) (hm : m ≤ 32)
    (hl : level.length = 12) (hh : header.length = 16) :
    krpStepG C (krpStart src level) m header = Spec.krp C.enc (fmtKey src) src.length m level header := by
  have hH : Spec.hBytes.length = 256 := by decide +kernel
  have hr : ((Spec.hBytes.drop (4 * (src.length - 16) + 2 * (m - 16))).take 4).length = 4 := by
    simp only [List.length_take, List.length_drop, hH]; omega
  simp only [krpStepG, krpStart, Spec.krp, H_eq]
  rw [compr_eq C _ _ (by simp only [List.length_append, hr, hl, hh]) (length_fmtKey src hn)]

end Bee2V.C01.SpecHashL
