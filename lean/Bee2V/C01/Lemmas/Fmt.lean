import Bee2V.C01.Model.Fmt
namespace Bee2V.C01

theorem mod_two_cases (x m : Nat) (h : x < 2 * m) : x % m = if x < m then x else x - m := by
  split
  · exact Nat.mod_eq_of_lt ‹_›
  · rw [Nat.mod_eq_sub_mod (by omega)]
    exact Nat.mod_eq_of_lt (by omega)

/-! `beltBin2StrAdd` and `beltBin2StrSub` are one function of the digit operation: for `mod < 65536` digit `i` of the word is
combined with digit `i` of `bin` in base `mod` (`keyLoop`), for `mod = 65536` with the `i`-th u16 of `bin` (`zipWith`). -/

def keyLoop (op : Nat → Nat → Nat) (mod : Nat) : List Nat → Nat → List Nat
  | [], _ => []
  | s :: ss, a => op s (a % mod) :: keyLoop op mod ss (a / mod)

def bin2strG (op op16 : Nat → Nat → Nat) (mod : Nat) (str : List Nat) (bin : Bytes) : List Nat :=
  if mod == 65536 then List.zipWith op16 str (u16From bin) else keyLoop op mod str (leNat bin)

/-- the digit operations of `beltBin2StrAdd` / `beltBin2StrSub`: digit `s`, key digit `k` -/
def addD (mod s k : Nat) : Nat := (k + s) % 2 ^ 32 % mod % 65536
def subD (mod s k : Nat) : Nat := (s + mod - k) % 2 ^ 32 % mod % 65536

theorem bin2strAdd_eq (mod : Nat) (s : List Nat) (bin : Bytes) :
    bin2strAdd mod s bin = bin2strG (addD mod) (fun s u => (s + u) % 65536) mod s bin := by
  have : ∀ s a, bin2strAddLoop mod s a = keyLoop (addD mod) mod s a := by
    intro s; induction s with
    | nil => intro a; rfl
    | cons x xs ih => intro a; rw [bin2strAddLoop, keyLoop, ih]; rfl
  rw [bin2strAdd, bin2strG, this]

theorem bin2strSub_eq (mod : Nat) (s : List Nat) (bin : Bytes) :
    bin2strSub mod s bin = bin2strG (subD mod) (fun s u => (s + 65536 - u) % 65536) mod s bin := by
  have : ∀ s a, bin2strSubLoop mod s a = keyLoop (subD mod) mod s a := by
    intro s; induction s with
    | nil => intro a; rfl
    | cons x xs ih => intro a; rw [bin2strSubLoop, keyLoop, ih]; rfl
  rw [bin2strSub, bin2strG, this]

theorem u16From_lt (b : Bytes) : ∀ u ∈ u16From b, u < 65536 := by
  match b with
  | [] => intro u hu; simp [u16From] at hu
  | [_] => intro u hu; simp [u16From] at hu
  | b0 :: b1 :: rest =>
    intro u hu
    simp only [u16From, List.mem_cons] at hu
    rcases hu with rfl | hu
    · have := b0.toNat_lt; have := b1.toNat_lt; omega
    · exact u16From_lt rest u hu

section generic
variable (op op16 : Nat → Nat → Nat) (mod : Nat)

theorem length_keyLoop : ∀ (s : List Nat) (a : Nat), (keyLoop op mod s a).length = s.length
  | [], _ => rfl
  | _ :: xs, a => by rw [keyLoop, List.length_cons, length_keyLoop xs, List.length_cons]

theorem length_bin2strG (s : List Nat) (bin : Bytes) (hlen : mod = 65536 → s.length ≤ (u16From bin).length) :
    (bin2strG op op16 mod s bin).length = s.length := by
  unfold bin2strG
  split
  · rename_i h
    rw [List.length_zipWith]; exact Nat.min_eq_left (hlen (by simpa using h))
  · exact length_keyLoop op mod s _

theorem bin2strG_lt (hop : ∀ s k, op s k < mod) (hop16 : ∀ s u, op16 s u < 65536) (s : List Nat) (bin : Bytes) :
    ∀ d ∈ bin2strG op op16 mod s bin, d < mod := by
  have hk : ∀ (s : List Nat) (a : Nat), ∀ d ∈ keyLoop op mod s a, d < mod := by
    intro s; induction s with
    | nil => intro a d hd; cases hd
    | cons x xs ih =>
      intro a d hd
      rw [keyLoop, List.mem_cons] at hd
      rcases hd with rfl | hd
      · exact hop _ _
      · exact ih _ d hd
  unfold bin2strG
  split
  · rename_i h
    intro d hd
    obtain ⟨i, hi, rfl⟩ := List.mem_iff_getElem.1 hd
    rw [List.getElem_zipWith, show mod = 65536 by simpa using h]; exact hop16 _ _
  · exact hk s _

theorem bin2strG_inv (f f16 g g16 : Nat → Nat → Nat) (hm : 0 < mod)
    (hinv : ∀ s k, s < mod → k < mod → g (f s k) k = s)
    (hinv16 : ∀ s u, s < 65536 → u < 65536 → g16 (f16 s u) u = s)
    (s : List Nat) (bin : Bytes) (hs : ∀ d ∈ s, d < mod) (hlen : mod = 65536 → s.length ≤ (u16From bin).length) :
    bin2strG g g16 mod (bin2strG f f16 mod s bin) bin = s := by
  unfold bin2strG
  split
  · rename_i h
    have hmod : mod = 65536 := by simpa using h
    have hz : ∀ (s U : List Nat), s.length ≤ U.length → (∀ d ∈ s, d < 65536) → (∀ u ∈ U, u < 65536) →
        List.zipWith g16 (List.zipWith f16 s U) U = s := by
      intro s; induction s with
      | nil => intro U _ _ _; rfl
      | cons x xs ih =>
        intro U hl hs hU
        match U, hl with
        | u :: us, hl =>
          rw [List.zipWith_cons_cons, List.zipWith_cons_cons,
            hinv16 x u (hs x (List.mem_cons_self ..)) (hU u (List.mem_cons_self ..)),
            ih us (Nat.le_of_succ_le_succ hl) (fun d hd => hs d (List.mem_cons_of_mem _ hd))
              (fun v hv => hU v (List.mem_cons_of_mem _ hv))]
    exact hz s _ (hlen hmod) (fun d hd => hmod ▸ hs d hd) (u16From_lt bin)
  · have hk : ∀ (s : List Nat) (a : Nat), (∀ d ∈ s, d < mod) → keyLoop g mod (keyLoop f mod s a) a = s := by
      intro s; induction s with
      | nil => intro a _; rfl
      | cons x xs ih =>
        intro a hs
        rw [keyLoop, keyLoop, hinv x _ (hs x (List.mem_cons_self ..)) (Nat.mod_lt _ hm),
          ih _ (fun d hd => hs d (List.mem_cons_of_mem _ hd))]
    exact hk s _ hs

end generic

theorem subD_addD (mod s k : Nat) (hm : mod ≤ 65536) (hs : s < mod) (hk : k < mod) : subD mod (addD mod s k) k = s := by
  unfold subD addD
  rw [Nat.mod_eq_of_lt (show k + s < 2 ^ 32 by omega), mod_two_cases (k + s) mod (by omega)]
  split
  · rw [Nat.mod_eq_of_lt (show k + s < 65536 by omega), show k + s + mod - k = s + mod by omega,
      Nat.mod_eq_of_lt (show s + mod < 2 ^ 32 by omega), Nat.add_mod_right, Nat.mod_eq_of_lt hs,
      Nat.mod_eq_of_lt (by omega)]
  · rw [Nat.mod_eq_of_lt (show k + s - mod < 65536 by omega), show k + s - mod + mod - k = s by omega,
      Nat.mod_eq_of_lt (show s < 2 ^ 32 by omega), Nat.mod_eq_of_lt hs, Nat.mod_eq_of_lt (by omega)]

theorem addD_subD (mod s k : Nat) (hm : mod ≤ 65536) (hs : s < mod) (hk : k < mod) : addD mod (subD mod s k) k = s := by
  unfold subD addD
  rw [Nat.mod_eq_of_lt (show s + mod - k < 2 ^ 32 by omega), mod_two_cases (s + mod - k) mod (by omega)]
  split
  · rw [Nat.mod_eq_of_lt (show s + mod - k < 65536 by omega), show k + (s + mod - k) = s + mod by omega,
      Nat.mod_eq_of_lt (show s + mod < 2 ^ 32 by omega), Nat.add_mod_right, Nat.mod_eq_of_lt hs,
      Nat.mod_eq_of_lt (by omega)]
  · rw [Nat.mod_eq_of_lt (show s + mod - k - mod < 65536 by omega), show k + (s + mod - k - mod) = s by omega,
      Nat.mod_eq_of_lt (show s < 2 ^ 32 by omega), Nat.mod_eq_of_lt hs, Nat.mod_eq_of_lt (by omega)]

theorem addD_lt (mod s k : Nat) (hm2 : 2 ≤ mod) : addD mod s k < mod :=
  Nat.lt_of_le_of_lt (Nat.mod_le _ _) (Nat.mod_lt _ (by omega))

theorem subD_lt (mod s k : Nat) (hm2 : 2 ≤ mod) : subD mod s k < mod :=
  Nat.lt_of_le_of_lt (Nat.mod_le _ _) (Nat.mod_lt _ (by omega))

/-- `beltBin2StrSub` undoes `beltBin2StrAdd` with the same `bin`, for every alphabet size; for
`mod = 65536` the octet string must hold at least `count` u16 values (it holds `4(b+1) ≥ count`). -/
theorem bin2strSub_bin2strAdd (mod : Nat) (hm2 : 2 ≤ mod) (hm : mod ≤ 65536) (s : List Nat) (bin : Bytes)
    (hs : ∀ d ∈ s, d < mod) (hlen : mod = 65536 → s.length ≤ (u16From bin).length) :
    bin2strSub mod (bin2strAdd mod s bin) bin = s := by
  rw [bin2strAdd_eq, bin2strSub_eq]
  exact bin2strG_inv mod _ _ _ _ (by omega) (fun s k => subD_addD mod s k hm) (fun s u hs hu => by omega) s bin hs hlen

theorem bin2strAdd_bin2strSub (mod : Nat) (hm2 : 2 ≤ mod) (hm : mod ≤ 65536) (s : List Nat) (bin : Bytes)
    (hs : ∀ d ∈ s, d < mod) (hlen : mod = 65536 → s.length ≤ (u16From bin).length) :
    bin2strAdd mod (bin2strSub mod s bin) bin = s := by
  rw [bin2strAdd_eq, bin2strSub_eq]
  exact bin2strG_inv mod _ _ _ _ (by omega) (fun s k => addD_subD mod s k hm) (fun s u hs hu => by omega) s bin hs hlen

theorem length_bin2strAdd (mod : Nat) (s : List Nat) (bin : Bytes) (hlen : mod = 65536 → s.length ≤ (u16From bin).length) :
    (bin2strAdd mod s bin).length = s.length := by
  rw [bin2strAdd_eq]; exact length_bin2strG _ _ mod s bin hlen

theorem length_bin2strSub (mod : Nat) (s : List Nat) (bin : Bytes) (hlen : mod = 65536 → s.length ≤ (u16From bin).length) :
    (bin2strSub mod s bin).length = s.length := by
  rw [bin2strSub_eq]; exact length_bin2strG _ _ mod s bin hlen

theorem bin2strAdd_lt (mod : Nat) (hm2 : 2 ≤ mod) (s : List Nat) (bin : Bytes) : ∀ d ∈ bin2strAdd mod s bin, d < mod := by
  rw [bin2strAdd_eq]
  exact bin2strG_lt _ _ mod (fun s k => addD_lt mod s k hm2) (fun _ _ => Nat.mod_lt _ (by decide)) s bin

theorem bin2strSub_lt (mod : Nat) (hm2 : 2 ≤ mod) (s : List Nat) (bin : Bytes) : ∀ d ∈ bin2strSub mod s bin, d < mod := by
  rw [bin2strSub_eq]
  exact bin2strG_lt _ _ mod (fun s k => subD_lt mod s k hm2) (fun _ _ => Nat.mod_lt _ (by decide)) s bin


/-! ### Feistel rounds -/

/-- what the rounds need to know about the keyed function when `mod = 65536`: its output holds at
least `n` u16 values (in the C code: `8 (b + 1)` octets with `4 (b + 1) ≥ n`) -/
def FmtLenOk (C : Cipher) (st : FmtSt) (iv24 : Bytes) : Prop :=
  st.mod = 65536 → ∀ (str : List Nat) (off : Nat),
    (str.length = st.n2 → st.n1 ≤ (u16From (fmtF C st st.b2 str off iv24)).length) ∧
    (str.length = st.n1 → st.n2 ≤ (u16From (fmtF C st st.b1 str off iv24)).length)

theorem fmtRoundE_lt (C : Cipher) (st : FmtSt) (iv24 : Bytes) (i : Nat) (buf : List Nat) (hm2 : 2 ≤ st.mod) :
    ∀ d ∈ fmtRoundE C st iv24 i buf, d < st.mod := by
  intro d hd
  simp only [fmtRoundE, List.mem_append] at hd
  rcases hd with hd | hd
  · exact bin2strAdd_lt st.mod hm2 _ _ d hd
  · exact bin2strAdd_lt st.mod hm2 _ _ d hd

namespace FmtLen

/-- `FmtLenOk` restricted to the offsets used by the three rounds (`8 i`, `8 i + 4`, `i ≤ 2`) -/
def FmtLenOk' (C : Cipher) (st : FmtSt) (iv24 : Bytes) : Prop :=
  st.mod = 65536 → ∀ (str : List Nat) (off : Nat), off ≤ 20 →
    (str.length = st.n2 → st.n1 ≤ (u16From (fmtF C st st.b2 str off iv24)).length) ∧
    (str.length = st.n1 → st.n2 ≤ (u16From (fmtF C st st.b1 str off iv24)).length)

theorem fmtLenOk'_of_fmtLenOk (C : Cipher) (st : FmtSt) (iv24 : Bytes) (h : FmtLenOk C st iv24) :
    FmtLenOk' C st iv24 := fun hm str off _ => h hm str off

theorem fmtRoundD_fmtRoundE (C : Cipher) (st : FmtSt) (iv24 : Bytes) (i : Nat) (hi : i ≤ 2) (buf : List Nat)
    (hm2 : 2 ≤ st.mod) (hm : st.mod ≤ 65536) (hlen : buf.length = st.n1 + st.n2) (hd : ∀ d ∈ buf, d < st.mod)
    (hF : FmtLenOk' C st iv24) :
    fmtRoundD C st iv24 i (fmtRoundE C st iv24 i buf) = buf := by
  have hl : (buf.take st.n1).length = st.n1 := by simp only [List.length_take]; omega
  have hr : (buf.drop st.n1).length = st.n2 := by simp only [List.length_drop]; omega
  have hdl : ∀ d ∈ buf.take st.n1, d < st.mod := fun d h => hd d (List.mem_of_mem_take h)
  have hdr : ∀ d ∈ buf.drop st.n1, d < st.mod := fun d h => hd d (List.mem_of_mem_drop h)
  simp only [fmtRoundE, fmtRoundD]
  generalize hb1 : fmtF C st st.b2 (List.drop st.n1 buf) (8 * i) iv24 = bin1
  have hlen1 : st.mod = 65536 → (buf.take st.n1).length ≤ (u16From bin1).length := by
    intro h; rw [hl, ← hb1]; exact (hF h _ _ (by omega)).1 hr
  have hl' : (bin2strAdd st.mod (List.take st.n1 buf) bin1).length = st.n1 := by
    rw [length_bin2strAdd _ _ _ hlen1, hl]
  generalize hb2 : fmtF C st st.b1 (bin2strAdd st.mod (List.take st.n1 buf) bin1) (8 * i + 4) iv24 = bin2
  have hlen2 : st.mod = 65536 → (buf.drop st.n1).length ≤ (u16From bin2).length := by
    intro h; rw [hr, ← hb2]; exact (hF h _ _ (by omega)).2 hl'
  rw [List.take_left' hl', List.drop_left' hl', hb2]
  rw [bin2strSub_bin2strAdd st.mod hm2 hm _ bin2 hdr hlen2, hb1]
  rw [bin2strSub_bin2strAdd st.mod hm2 hm _ bin1 hdl hlen1]
  exact List.take_append_drop _ _

theorem fmtRoundE_length (C : Cipher) (st : FmtSt) (iv24 : Bytes) (i : Nat) (hi : i ≤ 2) (buf : List Nat)
    (hlen : buf.length = st.n1 + st.n2) (hF : FmtLenOk' C st iv24) :
    (fmtRoundE C st iv24 i buf).length = st.n1 + st.n2 := by
  have hl : (buf.take st.n1).length = st.n1 := by simp only [List.length_take]; omega
  have hr : (buf.drop st.n1).length = st.n2 := by simp only [List.length_drop]; omega
  simp only [fmtRoundE, List.length_append]
  have h1 : (bin2strAdd st.mod (List.take st.n1 buf) (fmtF C st st.b2 (List.drop st.n1 buf) (8 * i) iv24)).length = st.n1 := by
    rw [length_bin2strAdd _ _ _ (fun h => by rw [hl]; exact (hF h _ _ (by omega)).1 hr), hl]
  rw [h1, length_bin2strAdd _ _ _ (fun h => by rw [hr]; exact (hF h _ _ (by omega)).2 h1), hr]

theorem length_fmtStepE (C : Cipher) (st : FmtSt) (iv : Option Bytes) (buf : List Nat)
    (hlen : buf.length = st.n1 + st.n2) (hF : FmtLenOk' C st (fmtIv st iv)) :
    (fmtStepE C st iv buf).length = buf.length := by
  simp only [fmtStepE]
  rw [fmtRoundE_length C st _ 2 (by omega) _ (fmtRoundE_length C st _ 1 (by omega) _
    (fmtRoundE_length C st _ 0 (by omega) _ hlen hF) hF) hF, hlen]

theorem fmtStepD_fmtStepE (C : Cipher) (st : FmtSt) (iv : Option Bytes) (buf : List Nat)
    (hm2 : 2 ≤ st.mod) (hm : st.mod ≤ 65536) (hlen : buf.length = st.n1 + st.n2) (hd : ∀ d ∈ buf, d < st.mod)
    (hF : FmtLenOk' C st (fmtIv st iv)) :
    fmtStepD C st iv (fmtStepE C st iv buf) = buf := by
  simp only [fmtStepE, fmtStepD]
  have l0 := fmtRoundE_length C st (fmtIv st iv) 0 (by omega) buf hlen hF
  have l1 := fmtRoundE_length C st (fmtIv st iv) 1 (by omega) _ l0 hF
  rw [fmtRoundD_fmtRoundE C st _ 2 (by omega) _ hm2 hm l1 (fmtRoundE_lt C st _ 1 _ hm2) hF]
  rw [fmtRoundD_fmtRoundE C st _ 1 (by omega) _ hm2 hm l0 (fmtRoundE_lt C st _ 0 _ hm2) hF]
  exact fmtRoundD_fmtRoundE C st _ 0 (by omega) _ hm2 hm hlen hd hF

end FmtLen

end Bee2V.C01
