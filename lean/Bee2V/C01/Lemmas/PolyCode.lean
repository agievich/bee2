/-
C01: the C routine beltPolyMul = ppMul ; ppRedBelt ; wwCopy, composed from the C05 models of the
real pp routines (Karatsuba ppMul, word-level ppRedBelt), equals the model `polyMul` and the field
multiplication of GF(2^128) = GF(2)[x]/(x^128 + x^7 + x^2 + x + 1), for every word size.
-/
import Bee2V.C01.Lemmas.Poly
import Bee2V.C01.Lemmas.Bytes
import Bee2V.C05.PropsPpMul
import Bee2V.C05.PropsPpRed
namespace Bee2V.C01.Poly
open Bee2V.C01 Bee2V.C05 Bee2V.C05.Spec Bee2V.C05.Pp

/-- multiplication in the field of the standard, on Nat-coded polynomials -/
def gfMul (a b : Nat) : Nat := pmod (Bee2V.C05.Spec.clmul a b) beltP

/-- `beltPolyMul(c, a, b, stack)` as the C composes it, on the word images (W_OF_B(128) words of `w` bits):
`ppMul(prod, a, n, b, n); ppRedBelt(prod); wwCopy(c, prod, n)` -/
def polyMulCode (w : Nat) (a b : Bytes) : Bytes :=
  let n := wOfB w 128
  natLE 16 (val w (ppRedBelt w (ppMul w (toWords w n (leNat a)) (toWords w n (leNat b)))))

theorem leNat_lt (b : Bytes) : leNat b < 2 ^ (8 * b.length) := by
  rw [Nat.pow_mul]; exact C01.leNat_lt b

theorem leNat_natLE (n v : Nat) : leNat (natLE n v) = v % 2 ^ (8 * n) := by
  rw [Nat.pow_mul]; exact C01.leNat_natLE n v

theorem wf_toWords (w n v : Nat) : Wf w (toWords w n v) := by
  induction n generalizing v with
  | zero => intro x hx; simp [toWords] at hx
  | succ n ih =>
    intro x hx
    simp only [toWords, List.mem_cons] at hx
    rcases hx with rfl | hx
    · exact Nat.mod_lt _ (Nat.two_pow_pos w)
    · exact ih _ x hx

theorem length_toWords (w n v : Nat) : (toWords w n v).length = n := by
  induction n generalizing v with
  | zero => rfl
  | succ n ih => simp [toWords, ih]

theorem val_toWords' (w n v : Nat) : val w (toWords w n v) = v % 2 ^ (w * n) := by
  induction n generalizing v with
  | zero => simp [toWords, val, Nat.mod_one]
  | succ n ih =>
    simp only [toWords, val, ih]
    rw [show w * (n + 1) = w + w * n by rw [Nat.mul_succ, Nat.add_comm], Nat.pow_add, Nat.mod_mul]

theorem gfMul_lt (a b : Nat) : gfMul a b < 2 ^ 128 := by
  have := (pdivmod_spec (Bee2V.C05.Spec.clmul a b) beltP beltP_ne).2
  rw [beltP_log2] at this
  exact this

/-- the executable model of beltPolyMul is the field multiplication -/
theorem polyMul_gf (a b : Bytes) (ha : a.length = 16) (hb : b.length = 16) :
    leNat (polyMul a b) = gfMul (leNat a) (leNat b) ∧ (polyMul a b).length = 16 := by
  have hA := leNat_lt a
  have hB := leNat_lt b
  rw [ha] at hA; rw [hb] at hB
  have hc : Bee2V.C05.Spec.clmul (leNat a) (leNat b) < 2 ^ (128 + 128) :=
    Bee2V.C05.Pp.clmul_lt (by simpa using hA) (by simpa using hB)
  simp only [polyMul, leNat_natLE, length_natLE, and_true]
  rw [clmul_model _ 128 _ (by simpa using hB), redBelt_spec 128 _ hc]
  exact Nat.mod_eq_of_lt (gfMul_lt _ _)

theorem polyMul_eq (a b : Bytes) (ha : a.length = 16) (hb : b.length = 16) :
    polyMul a b = natLE 16 (gfMul (leNat a) (leNat b)) := by
  have hA := leNat_lt a
  have hB := leNat_lt b
  rw [ha] at hA; rw [hb] at hB
  have hc : Bee2V.C05.Spec.clmul (leNat a) (leNat b) < 2 ^ (128 + 128) :=
    Bee2V.C05.Pp.clmul_lt (by simpa using hA) (by simpa using hB)
  simp only [polyMul]
  rw [clmul_model _ 128 _ (by simpa using hB), redBelt_spec 128 _ hc]
  rfl

/-- the composition of the real pp routines gives the same octets, for B_PER_W ∈ {16, 32, 64} -/
theorem polyMulCode_eq (w : Nat) (hw : w = 16 ∨ w = 32 ∨ w = 64) (a b : Bytes) (ha : a.length = 16) (hb : b.length = 16) :
    polyMulCode w a b = natLE 16 (gfMul (leNat a) (leNat b)) := by
  have hA := leNat_lt a
  have hB := leNat_lt b
  rw [ha] at hA; rw [hb] at hB
  have hn : w * wOfB w 128 = 128 := by rcases hw with h | h | h <;> subst h <;> decide
  have h7 : 7 < w := by omega
  have h2 : 2 ≤ wOfB w 128 := by rcases hw with h | h | h <;> subst h <;> decide
  simp only [polyMulCode]
  have hm := ppMul_spec w hw (toWords w (wOfB w 128) (leNat a)) (toWords w (wOfB w 128) (leNat b))
    (wf_toWords _ _ _) (wf_toWords _ _ _)
  have hr := ppRedBelt_spec w _ h7 h2 hn hm.2.1 (by rw [hm.2.2, length_toWords, length_toWords]; omega)
  rw [hr.1, hm.1, val_toWords', val_toWords', hn,
    Nat.mod_eq_of_lt (by simpa using hA), Nat.mod_eq_of_lt (by simpa using hB)]
  rfl


/-! ### field laws of `gfMul` (from the ring theory of `clmul` proved in C05) -/

theorem cong_pmod (x : Nat) : Cong beltP (pmod x beltP) x := by
  refine ⟨(pdivmod x beltP).1, ?_⟩
  rw [pmod_eq x beltP beltP_ne, Nat.xor_comm x, Nat.xor_assoc, Nat.xor_self, Nat.xor_zero]

theorem pmod_lt (x : Nat) : pmod x beltP < 2 ^ 128 := by
  have := (pdivmod_spec x beltP beltP_ne).2
  rw [beltP_log2] at this
  exact this

theorem pmod_xor (x y : Nat) : pmod (x ^^^ y) beltP = pmod x beltP ^^^ pmod y beltP := by
  have h := pmod_cong beltP_ne (cong_xor (cong_pmod x) (cong_pmod y))
  rw [← h]
  exact pmod_of_lt beltP_ne (by rw [beltP_log2]; exact Nat.xor_lt_two_pow (pmod_lt x) (pmod_lt y))

theorem cong_clmul_right {x y : Nat} (c : Nat) (h : Cong beltP x y) :
    Cong beltP (Bee2V.C05.Spec.clmul x c) (Bee2V.C05.Spec.clmul y c) := by
  obtain ⟨k, hk⟩ := h
  refine ⟨Bee2V.C05.Spec.clmul k c, ?_⟩
  rw [← xor_clmul, hk, clmul_assoc, clmul_comm beltP c, ← clmul_assoc]

theorem gfMul_comm (a b : Nat) : gfMul a b = gfMul b a := by
  simp only [gfMul, clmul_comm a b]

theorem gfMul_assoc (a b c : Nat) : gfMul (gfMul a b) c = gfMul a (gfMul b c) := by
  have h1 : gfMul (gfMul a b) c = pmod (Bee2V.C05.Spec.clmul (Bee2V.C05.Spec.clmul a b) c) beltP :=
    pmod_cong beltP_ne (cong_clmul_right c (cong_pmod _))
  have h2 : gfMul a (gfMul b c) = pmod (Bee2V.C05.Spec.clmul a (Bee2V.C05.Spec.clmul b c)) beltP := by
    simp only [gfMul]
    rw [clmul_comm a, clmul_comm a]
    exact pmod_cong beltP_ne (cong_clmul_right a (cong_pmod _))
  rw [h1, h2, clmul_assoc]

theorem gfMul_xor (a b c : Nat) : gfMul a (b ^^^ c) = gfMul a b ^^^ gfMul a c := by
  simp only [gfMul, clmul_xor, pmod_xor]

theorem gfMul_one (a : Nat) (ha : a < 2 ^ 128) : gfMul a 1 = a := by
  simp only [gfMul, clmul_one]
  exact pmod_of_lt beltP_ne (by rw [beltP_log2]; exact ha)

theorem gfMul_zero (a : Nat) : gfMul a 0 = 0 := by
  simp only [gfMul, clmul_zero]
  exact pmod_of_lt beltP_ne (Nat.two_pow_pos _)

end Bee2V.C01.Poly
