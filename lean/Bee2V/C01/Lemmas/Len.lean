/-
C01 helper lemmas: output lengths of belt-hash / belt-mac / belt-HMAC of the model, with NO bound on the length
of the data (the length block is 16 octets whatever the count).
-/
import Bee2V.C01.Lemmas.SpecHash
namespace Bee2V.C01.LenL
open Bee2V.C01 Bee2V.C01.SpecHashL

theorem length_phi (r : Bytes) (hr : r.length = 16) : (Spec.phi1 r).length = 16 ∧ (Spec.phi2 r).length = 16 := by
  simp only [Spec.phi1, Spec.phi2, Spec.word32, List.length_append, length_xorb, List.length_take,
    List.length_drop, hr]
  omega

section len
variable (C : Cipher) (hlen : ∀ k x : Bytes, x.length = 16 → (C.enc k x).length = 16)
include hlen

/-- lengths after `beltCompr2` on well-formed buffers -/
theorem length_compr2 (s h X : Bytes) (hs : s.length = 16) (hh : h.length = 32) (hX : X.length = 32) :
    (compr2 C s h X).1.length = 16 ∧ (compr2 C s h X).2.length = 32 := by
  rw [compr2_eq C s h X hX hh]
  exact length_step C hlen s h X hs hh hX

theorem length_compr (h X : Bytes) (hh : h.length = 32) (hX : X.length = 32) : (compr C h X).length = 32 :=
  (length_compr2 C hlen (zeros 16) h X (length_zeros 16) hh hX).2

/-- the digest of the model is 32 octets for every 16-octet length block and every data -/
theorem length_spongeOut (L X : Bytes) (hL : L.length = 16) :
    (spongeOut C L (zeros 16) hInit X).length = 32 := by
  rw [hInit_eq, spongeOut_eq C hlen L X hL]
  have l := length_specFold C hlen X ((X.length + 31) / 32) (zeros 16, Spec.hashInit) (length_zeros 16)
    (by decide +kernel)
  apply length_sigma2 C hlen
  simp only [List.length_append, hL, Spec.hashChain]
  rw [← specFold, l.1, l.2]

theorem length_hashOut {L X : Bytes} {st : HashSt} (h : HashInv C L X st) :
    (hashStepGInternal C st).h1.length = 32 := by
  rw [hashInv_out h, hashOutSpec]
  exact length_spongeOut C hlen L X h.llen

/-- `K0` of the model is 32 octets for every key -/
theorem length_modelK0 (key : Bytes) : (modelK0 C key).length = 32 := by
  by_cases hk : key.length ≤ 32
  · exact length_modelK0_short C key hk
  · simp only [modelK0, hk, if_false]
    exact length_spongeOut C hlen _ _ (Aead.length_addBitSizeBlock _ _ rfl)

theorem length_hmacStart_block' (key : Bytes) : (hmacStart C key).block.length = 32 := by
  rw [hmacStart_eq]
  simp only [List.length_map, length_modelK0 C hlen key]

/-- the outer digest is 32 octets whenever the state describes some data absorbed after a 32-octet first block
`B`, and the outer state is well formed -/
theorem length_hmacOut {L B lo ho X : Bytes} {st : HmacSt} (hB : B.length = 32) (hlo : lo.length = 32)
    (hho : ho.length = 32)
    (inv : HmacInv C L (compr2 C (zeros 16) hInit B).1 (compr2 C (zeros 16) hInit B).2 lo ho X st) :
    (hmacStepGInternal C st).h1_out.length = 32 := by
  rw [hmacInv_out inv, hmacOutSpec, spongeOut_prepend C L _ _ B X hB]
  have hin := length_spongeOut C hlen L (B ++ X) inv.inner.llen
  have l := length_compr2 C hlen (lo.drop 16) ho _ (by simp only [List.length_drop, hlo]) hho hin
  exact length_compr C hlen _ _ l.2 (by simp only [List.length_append, List.length_take, hlo, l.1]; omega)

/-- the invariant of the start state, every key length, no bound -/
theorem hmacInv_start' (key : Bytes) :
    HmacInv C (addBitSizeBlock (zeros 16) 32)
      (compr2 C (zeros 16) hInit ((modelK0 C key).map (· ^^^ 0x36))).1
      (compr2 C (zeros 16) hInit ((modelK0 C key).map (· ^^^ 0x36))).2
      (hmacStart C key).ls_out (hmacStart C key).h_out [] (hmacStart C key) := by
  have l16 : (addBitSizeBlock (zeros 16) 32).length = 16 := Aead.length_addBitSizeBlock _ _ rfl
  have hl : 16 ≤ (hmacStart C key).ls_in.length := by
    show 16 ≤ (addBitSizeBlock (zeros 16) 32 ++ _).length
    rw [List.length_append, l16]; omega
  have ht : (hmacStart C key).ls_in.take 16 = addBitSizeBlock (zeros 16) 32 := by
    show (addBitSizeBlock (zeros 16) 32 ++ _).take 16 = _
    exact List.take_left' l16
  have hd : (hmacStart C key).ls_in.drop 16 =
      (compr2 C (zeros 16) hInit ((modelK0 C key).map (· ^^^ 0x36))).1 := by
    rw [hmacStart_eq]; exact List.drop_left' l16
  have hh : (hmacStart C key).h_in = (compr2 C (zeros 16) hInit ((modelK0 C key).map (· ^^^ 0x36))).2 := by
    rw [hmacStart_eq]
  have := hmacInv_init C (hmacStart C key) hl (length_hmacStart_block' C hlen key) rfl
  rwa [ht, hd, hh] at this

theorem length_hmacStart_out (key : Bytes) :
    (hmacStart C key).ls_out.length = 32 ∧ (hmacStart C key).h_out.length = 32 := by
  have hop : (((modelK0 C key).map (· ^^^ 0x36)).map (· ^^^ 0x6A)).length = 32 := by
    rw [List.length_map, List.length_map, length_modelK0 C hlen key]
  have l := length_compr2 C hlen (zeros 16) hInit _ (length_zeros 16) (by decide) hop
  rw [hmacStart_eq]
  exact ⟨by simp only [List.length_append, Aead.length_addBitSizeBlock (zeros 16) 64 rfl, l.1], l.2⟩

/-- the outer digest after any fragmentation is 32 octets -/
theorem length_hmac_fold (key : Bytes) (cs : List Bytes) :
    (hmacStepGInternal C (cs.foldl (hmacStepA C) (hmacStart C key))).h1_out.length = 32 := by
  have inv := hmacInv_fold cs (hmacInv_start' C hlen key)
  have lo := length_hmacStart_out C hlen key
  exact length_hmacOut C hlen (by rw [List.length_map, length_modelK0 C hlen key]) lo.1 lo.2 inv

/-! #### belt-mac -/

theorem length_macFold (K X : Bytes) : ∀ m : Nat, 16 * m ≤ X.length →
    ((List.range m).foldl (fun s i => C.enc K (xorb s (Spec.blockAt 16 X i))) (zeros 16)).length = 16 := by
  intro m
  induction m with
  | zero => intro _; exact length_zeros 16
  | succ m ih =>
    intro hm
    rw [List.range_succ, List.foldl_append]
    apply hlen
    have hb : (Spec.blockAt 16 X m).length = 16 := by
      simp only [Spec.blockAt, List.length_take, List.length_drop]; omega
    rw [length_xorb, ih (by omega), hb, Nat.min_self]

/-- `E_K(s)` of belt-mac is one block -/
theorem length_macFull (K X : Bytes) : (Spec.macFull C.enc K X).length = 16 := by
  have hr := length_phi (C.enc K (zeros 16)) (hlen _ _ (length_zeros 16))
  have hf := length_macFold C hlen K X (Spec.macBlockCount X - 1)
    (by simp only [Spec.macBlockCount]; omega)
  have hx : (Spec.blockAt 16 X (Spec.macBlockCount X - 1)).length ≤ 16 := by
    simp only [Spec.blockAt, List.length_take]; omega
  unfold Spec.macFull
  apply hlen
  by_cases h16 : (Spec.blockAt 16 X (Spec.macBlockCount X - 1)).length = 16
  · simp only [h16, if_true, length_xorb, hf, hr.1, Nat.min_self]
  · simp only [h16, if_false, length_xorb, hf, hr.2, List.length_append, List.length_cons, List.length_nil,
      length_zeros]
    omega

end len

end Bee2V.C01.LenL
