/-
C01 helper lemmas for belt_wbl.c / belt_kwp.c / belt_sde.c at the level of octets: the Base edition (any length),
`beltWBLStepD2`, SDE.  The Opt edition is in Lemmas/WblBlk.lean.
-/
import Bee2V.C01.Model.Wbl
import Bee2V.C01.Lemmas.Stream
namespace Bee2V.C01.Wbl

/-! ### xor of octet strings -/

protected theorem xorb_nil_left (b : Bytes) : xorb [] b = [] := C01.xorb_nil_left b
protected theorem xorb_nil_right (a : Bytes) : xorb a [] = [] := C01.xorb_nil_right a

theorem xorb_right_comm (a b c : Bytes) : xorb (xorb a b) c = xorb (xorb a c) b := by
  rw [xorb_assoc, xorb_comm b c, ← xorb_assoc]

theorem length_xorb16 (a b : Bytes) (ha : a.length = 16) (hb : b.length = 16) : (xorb a b).length = 16 := by
  rw [length_xorb, ha, hb]; rfl

theorem length_xorPrefix (d s : Bytes) (h : s.length ≤ d.length) : (xorPrefix d s).length = d.length := by
  simp only [xorPrefix, List.length_append, length_xorb, List.length_drop]; omega

theorem length_encRound (C : Cipher) (hlen : ∀ k x, x.length = 16 → (C.enc k x).length = 16)
    (key blk : Bytes) (round : Nat) (h : blk.length = 16) : (encRound C key blk round).length = 16 := by
  unfold encRound
  rw [length_xorPrefix _ _ (by rw [length_natLE, hlen key blk h]; omega), hlen key blk h]

/-! ### getBlk / putAt / xorAt on decomposed buffers -/

theorem length_getBlk (buf : Bytes) (i : Nat) : (getBlk buf i).length = min 16 (buf.length - i) := by
  simp [getBlk]

theorem getBlk_append (A B Z : Bytes) (i : Nat) (hi : i = A.length) (hB : B.length = 16) :
    getBlk (A ++ (B ++ Z)) i = B := by
  subst hi
  simp only [getBlk, List.drop_left]
  exact List.take_left' hB

theorem putAt_append (A B Z x : Bytes) (i : Nat) (hi : i = A.length) (hx : x.length = B.length) :
    putAt (A ++ (B ++ Z)) i x = A ++ (x ++ Z) := by
  subst hi
  simp only [putAt, List.take_left, List.append_assoc, List.append_cancel_left_eq]
  rw [← List.append_assoc, List.drop_left' (by simp [hx])]

theorem xorAt_append (A B Z x : Bytes) (i : Nat) (hi : i = A.length) (hB : B.length = 16)
    (hx : x.length = 16) : xorAt (A ++ (B ++ Z)) i x = A ++ (xorb B x ++ Z) := by
  unfold xorAt
  rw [getBlk_append A B Z i hi hB, putAt_append A B Z _ i hi (by rw [length_xorb]; omega)]

theorem length_xorAt (buf x : Bytes) (i : Nat) (h : i + 16 ≤ buf.length) :
    (xorAt buf i x).length = buf.length := by
  unfold xorAt
  apply Stream.length_putAt
  rw [length_xorb, length_getBlk]; omega

/-! the same three facts for the first block of a buffer -/

theorem getBlk_zero (B Z : Bytes) (hB : B.length = 16) : getBlk (B ++ Z) 0 = B :=
  getBlk_append [] B Z 0 rfl hB

theorem putAt_zero (B Z x : Bytes) (hx : x.length = B.length) : putAt (B ++ Z) 0 x = x ++ Z :=
  putAt_append [] B Z x 0 rfl hx

theorem xorAt_zero (B Z x : Bytes) (hB : B.length = 16) (hx : x.length = 16) :
    xorAt (B ++ Z) 0 x = xorb B x ++ Z :=
  xorAt_append [] B Z x 0 rfl hB hx

/-- a buffer of at least 32 octets is head block ++ middle ++ tail block -/
theorem split3 (buf : Bytes) (h : 32 ≤ buf.length) :
    ∃ H M T : Bytes, buf = H ++ (M ++ T) ∧ H.length = 16 ∧ T.length = 16 := by
  refine ⟨buf.take 16, (buf.drop 16).take (buf.length - 32), (buf.drop 16).drop (buf.length - 32), ?_, ?_, ?_⟩
  · rw [List.take_append_drop, List.take_append_drop]
  · simp; omega
  · simp; omega

theorem split3' (buf : Bytes) (h : 32 ≤ buf.length) :
    ∃ M T S : Bytes, buf = M ++ (T ++ S) ∧ T.length = 16 ∧ S.length = 16 := by
  refine ⟨buf.take (buf.length - 32), (buf.drop (buf.length - 32)).take 16, (buf.drop (buf.length - 32)).drop 16, ?_, ?_, ?_⟩
  · rw [List.take_append_drop, List.take_append_drop]
  · simp; omega
  · simp; omega

/-! ### the block-sum loop -/

theorem xbf_stop (b : Bytes) (stop f i : Nat) (acc : Bytes) (h : ¬ i + stop < b.length) :
    xorBlocksFrom b stop f i acc = (acc, i) := by
  cases f with
  | zero => rfl
  | succ f => simp only [xorBlocksFrom, h, if_false]

theorem xbf_succ (b : Bytes) (stop f i : Nat) (acc : Bytes) (h : i + stop < b.length) :
    xorBlocksFrom b stop (f + 1) i acc = xorBlocksFrom b stop f (i + 16) (xorb acc (getBlk b i)) := by
  simp only [xorBlocksFrom, h, if_true]

theorem getBlk_congr (b b' : Bytes) (k i : Nat) (hd : b.drop k = b'.drop k) (hk : k ≤ i) :
    getBlk b i = getBlk b' i := by
  have : i = k + (i - k) := by omega
  unfold getBlk
  rw [this, ← List.drop_drop, ← List.drop_drop, hd]

/-- the loop only reads the octets from offset `i` on -/
theorem xbf_congr (b b' : Bytes) (stop k : Nat) (hl : b.length = b'.length) (hd : b.drop k = b'.drop k) :
    ∀ (f i : Nat) (acc : Bytes), k ≤ i → xorBlocksFrom b stop f i acc = xorBlocksFrom b' stop f i acc := by
  intro f
  induction f with
  | zero => intro i acc _; rfl
  | succ f ih =>
    intro i acc hk
    simp only [xorBlocksFrom, hl]
    rw [getBlk_congr b b' k i hd hk, ih (i + 16) _ (by omega)]

theorem xbf_xorb (b : Bytes) (stop : Nat) : ∀ (f i : Nat) (a z : Bytes),
    (xorBlocksFrom b stop f i (xorb a z)).1 = xorb (xorBlocksFrom b stop f i a).1 z := by
  intro f
  induction f with
  | zero => intro i a z; rfl
  | succ f ih =>
    intro i a z
    simp only [xorBlocksFrom]
    split
    · rw [xorb_right_comm, ih]
    · rfl

theorem length_xbf (b : Bytes) (stop : Nat) (hs : 16 ≤ stop) : ∀ (f i : Nat) (a : Bytes), a.length ≤ 16 →
    (xorBlocksFrom b stop f i a).1.length = a.length := by
  intro f
  induction f with
  | zero => intro i a _; rfl
  | succ f ih =>
    intro i a ha
    simp only [xorBlocksFrom]
    split
    · rename_i hc
      have hl : (xorb a (getBlk b i)).length = a.length := by
        rw [length_xorb, length_getBlk]; omega
      rw [ih _ _ (by omega), hl]
    · rfl

/-- `acc + r_i + r_{i+16} + …  =  acc + (0 + r_i + r_{i+16} + …)` -/
theorem xbf_acc (b : Bytes) (stop f i : Nat) (a : Bytes) (ha : a.length ≤ 16) :
    (xorBlocksFrom b stop f i a).1 = xorb a (xorBlocksFrom b stop f i (zeros 16)).1 := by
  have h := xbf_xorb b stop f i (zeros 16) a
  rw [zeros_xorb a 16 ha] at h
  rw [h, xorb_comm]

/-- the block sum is an involution in its accumulator -/
theorem xbf_xbf (b : Bytes) (stop : Nat) (hs : 16 ≤ stop) (f i : Nat) (a : Bytes) (ha : a.length ≤ 16) :
    (xorBlocksFrom b stop f i (xorBlocksFrom b stop f i a).1).1 = a := by
  rw [xbf_acc b stop f i a ha, xbf_xorb, xbf_acc b stop f i a ha]
  apply xorb_xorb_cancel
  rw [length_xbf b stop hs f i _ (by rw [length_zeros]; omega), length_zeros]; exact ha

/-! ### Base rounds on a decomposed buffer `H ++ (M ++ T)` -/

theorem length3 (H M T : Bytes) (hH : H.length = 16) (hT : T.length = 16) :
    (H ++ (M ++ T)).length = 32 + M.length := by
  simp only [List.length_append, hH, hT]; omega

theorem length_sumE (H M T : Bytes) (hH : H.length = 16) :
    (xorBlocksFrom (H ++ (M ++ T)) 16 (32 + M.length) 16 H).1.length = 16 := by
  rw [length_xbf _ 16 (by omega) _ _ _ (by omega), hH]

theorem roundE_form (C : Cipher) (hlen : ∀ k x, x.length = 16 → (C.enc k x).length = 16)
    (key H M T : Bytes) (hH : H.length = 16) (hT : T.length = 16) (round : Nat) :
    wblRoundEBase C key (H ++ (M ++ T)) round =
      (M ++ (xorb T (encRound C key (xorBlocksFrom (H ++ (M ++ T)) 16 (32 + M.length) 16 H).1 (round + 1))
        ++ (xorBlocksFrom (H ++ (M ++ T)) 16 (32 + M.length) 16 H).1), round + 1) := by
  have hs := length_sumE H M T hH
  simp only [wblRoundEBase, length3 H M T hH hT, List.take_left' hH, List.drop_left' hH, List.append_assoc]
  rw [xorAt_append M T _ _ _ (by omega) hT (length_encRound C hlen key _ _ hs)]

theorem roundD_form (C : Cipher) (hlen : ∀ k x, x.length = 16 → (C.enc k x).length = 16)
    (key M T S : Bytes) (hT : T.length = 16) (hS : S.length = 16) (round : Nat) :
    wblRoundDBase C key (M ++ (T ++ S)) round =
      (xorBlocksFrom (S ++ (M ++ xorb T (encRound C key S round))) 16 (32 + M.length) 16 S).1
        ++ (M ++ xorb T (encRound C key S round)) := by
  have hl : (M ++ (T ++ S)).length = 32 + M.length := by
    simp only [List.length_append, hT, hS]; omega
  have he := length_encRound C hlen key S round hS
  have hg : getBlk (M ++ (T ++ S)) (32 + M.length - 16) = S := by
    have := getBlk_append (M ++ T) S [] (32 + M.length - 16) (by simp [hT]; omega) hS
    simpa using this
  have ht : (M ++ (T ++ S)).take (32 + M.length - 16) = M ++ T := by
    rw [← List.append_assoc]; exact List.take_left' (by simp [hT]; omega)
  simp only [wblRoundDBase, hl, hg, ht]
  have hx : xorAt (S ++ (M ++ T)) (32 + M.length - 16) (encRound C key S round)
      = S ++ (M ++ xorb T (encRound C key S round)) := by
    have := xorAt_append (S ++ M) T [] (encRound C key S round) (32 + M.length - 16) (by simp [hS]; omega) hT he
    simpa using this
  rw [hx, List.take_left' hS]
  have hs : (xorBlocksFrom (S ++ (M ++ xorb T (encRound C key S round))) 16 (32 + M.length) 16 S).1.length
      = S.length := length_xbf _ 16 (by omega) _ _ _ (by omega)
  exact putAt_zero S _ _ hs

theorem roundD_roundE_form (C : Cipher) (hlen : ∀ k x, x.length = 16 → (C.enc k x).length = 16)
    (key H M T : Bytes) (hH : H.length = 16) (hT : T.length = 16) (round : Nat) :
    wblRoundDBase C key (wblRoundEBase C key (H ++ (M ++ T)) round).1 (round + 1) = H ++ (M ++ T) := by
  have hs := length_sumE H M T hH
  have he := length_encRound C hlen key _ (round + 1) hs
  rw [roundE_form C hlen key H M T hH hT round]
  simp only []
  rw [roundD_form C hlen key M _ _ (by rw [length_xorb]; omega) hs (round + 1)]
  rw [xorb_xorb_cancel T _ (by omega)]
  rw [xbf_congr ((xorBlocksFrom (H ++ (M ++ T)) 16 (32 + M.length) 16 H).1 ++ (M ++ T)) (H ++ (M ++ T)) 16 16
    (by simp [hs, hH]) (by rw [List.drop_left' hs, List.drop_left' hH]) _ _ _ (Nat.le_refl _)]
  rw [xbf_xbf _ 16 (by omega) _ _ _ (by omega)]

/-- E round: length is preserved -/
theorem length_roundE (C : Cipher) (hlen : ∀ k x, x.length = 16 → (C.enc k x).length = 16)
    (key buf : Bytes) (h : 32 ≤ buf.length) (round : Nat) :
    (wblRoundEBase C key buf round).1.length = buf.length ∧ (wblRoundEBase C key buf round).2 = round + 1 := by
  obtain ⟨H, M, T, rfl, hH, hT⟩ := split3 buf h
  have hs := length_sumE H M T hH
  have he := length_encRound C hlen key _ (round + 1) hs
  rw [roundE_form C hlen key H M T hH hT round]
  simp only [List.length_append, length_xorb, hs, he, hT, hH, and_true]; omega

theorem length_roundD (C : Cipher) (hlen : ∀ k x, x.length = 16 → (C.enc k x).length = 16)
    (key buf : Bytes) (h : 32 ≤ buf.length) (round : Nat) :
    (wblRoundDBase C key buf round).length = buf.length := by
  obtain ⟨M, T, S, rfl, hT, hS⟩ := split3' buf h
  have he := length_encRound C hlen key S round hS
  rw [roundD_form C hlen key M T S hT hS round]
  simp only [List.length_append, length_xorb, length_xbf _ 16 (Nat.le_refl _) _ _ S (by omega), he, hT, hS]
  omega

theorem roundD_roundE (C : Cipher) (hlen : ∀ k x, x.length = 16 → (C.enc k x).length = 16)
    (key buf : Bytes) (h : 32 ≤ buf.length) (round : Nat) :
    wblRoundDBase C key (wblRoundEBase C key buf round).1 (round + 1) = buf := by
  obtain ⟨H, M, T, rfl, hH, hT⟩ := split3 buf h
  exact roundD_roundE_form C hlen key H M T hH hT round

/-! ### the 2n rounds -/

theorem length_iterD (g : Bytes → Nat → Bytes) (hg : ∀ b r, 32 ≤ b.length → (g b r).length = b.length) :
    ∀ (n : Nat) (buf : Bytes), 32 ≤ buf.length → (wblIterD g n buf).length = buf.length := by
  intro n
  induction n with
  | zero => intro buf _; rfl
  | succ n ih =>
    intro buf hb
    simp only [wblIterD]
    rw [ih _ (by rw [hg _ _ hb]; exact hb), hg _ _ hb]

theorem wblN_pos (c : Nat) (h : 32 ≤ c) : 0 < 2 * wblN c := by
  unfold wblN; omega

/-! ### beltWBLStepD2 -/

theorem xorb_split (x y1 y2 : Bytes) (a : Nat) (ha : a = y1.length) (h : a ≤ x.length) :
    xorb (x.take a) y1 ++ xorb (x.drop a) y2 = xorb x (y1 ++ y2) := by
  subst ha
  rw [← xorb_append _ _ _ _ (by simp; omega), List.take_append_drop]

/-- the loop with `i + 32 < count` followed by one conditional step is the loop with `i + 16 < count` -/
theorem xbf_32_16 (b : Bytes) : ∀ (f i : Nat) (acc : Bytes), b.length ≤ i + 16 * f →
    ((xorBlocksFrom b 16 f i acc).1 =
      if (xorBlocksFrom b 32 f i acc).2 + 16 < b.length
      then xorb (xorBlocksFrom b 32 f i acc).1 (getBlk b (xorBlocksFrom b 32 f i acc).2)
      else (xorBlocksFrom b 32 f i acc).1) ∧
    ¬ ((xorBlocksFrom b 32 f i acc).2 + 32 < b.length) ∧ i ≤ (xorBlocksFrom b 32 f i acc).2 := by
  intro f
  induction f with
  | zero =>
    intro i acc h
    have hn : ¬ (i + 16 < b.length) := by omega
    refine ⟨?_, ?_, Nat.le_refl _⟩
    · show acc = if i + 16 < b.length then xorb acc (getBlk b i) else acc
      rw [if_neg hn]
    · show ¬ (i + 32 < b.length)
      omega
  | succ f ih =>
    intro i acc h
    by_cases hc : i + 32 < b.length
    · have hc' : i + 16 < b.length := by omega
      simp only [xorBlocksFrom, hc, hc', if_true]
      obtain ⟨h1, h2, h3⟩ := ih (i + 16) (xorb acc (getBlk b i)) (by omega)
      exact ⟨h1, h2, by omega⟩
    · rw [xbf_stop b 32 _ i acc hc]
      simp only []
      refine ⟨?_, hc, Nat.le_refl _⟩
      by_cases hc' : i + 16 < b.length
      · simp only [xorBlocksFrom, hc', if_true]
        rw [xbf_stop b 16 _ (i + 16) _ (by omega)]
      · rw [xbf_stop b 16 _ i acc hc', if_neg hc']

theorem roundD2_form (C : Cipher) (hlen : ∀ k x, x.length = 16 → (C.enc k x).length = 16)
    (key M T S : Bytes) (hT : T.length = 16) (hS : S.length = 16) (round : Nat) :
    (wblRoundD2 C key (M ++ T, S) round).1 ++ (wblRoundD2 C key (M ++ T, S) round).2
      = wblRoundDBase C key (M ++ (T ++ S)) round ∧
    (wblRoundD2 C key (M ++ T, S) round).1.length = (M ++ T).length ∧
    (wblRoundD2 C key (M ++ T, S) round).2.length = 16 := by
  have he := length_encRound C hlen key S round hS
  have hT' := length_xorb16 T _ hT he
  rw [roundD_form C hlen key M T S hT hS round]
  have hc : (M ++ T).length + 16 = 32 + M.length := by simp [hT]; omega
  have hg : getBlk (M ++ T) (32 + M.length - 32) = T := by
    have := getBlk_append M T [] (32 + M.length - 32) (by omega) hT
    simpa using this
  have ht : (M ++ T).take (32 + M.length - 32) = M := List.take_left' (by omega)
  simp only [wblRoundD2, hc, hg, ht]
  generalize hT2 : xorb T (encRound C key S round) = T2 at *
  have hfull : S ++ M ++ T2 = S ++ (M ++ T2) := List.append_assoc _ _ _
  have hflen : (S ++ (M ++ T2)).length = 32 + M.length := by simp [hS, hT']; omega
  rw [hfull, List.take_left' hS]
  obtain ⟨h1, h2, h3⟩ := xbf_32_16 (S ++ (M ++ T2)) (32 + M.length) 16 S (by omega)
  rw [hflen] at h1 h2
  generalize hj : (xorBlocksFrom (S ++ (M ++ T2)) 32 (32 + M.length) 16 S).2 = j at *
  have hsl : (xorBlocksFrom (S ++ (M ++ T2)) 32 (32 + M.length) 16 S).1.length = 16 := by
    rw [length_xbf _ 32 (by omega) _ _ _ (by omega), hS]
  generalize hs1 : (xorBlocksFrom (S ++ (M ++ T2)) 32 (32 + M.length) 16 S).1 = s1 at *
  have hr : (if j + 16 < 32 + M.length then
        xorb (s1.take (32 + M.length - 16 - j)) ((S ++ M).drop j) ++
          xorb (s1.drop (32 + M.length - 16 - j)) (T2.take (32 + j - (32 + M.length)))
      else s1) = (xorBlocksFrom (S ++ (M ++ T2)) 16 (32 + M.length) 16 S).1 := by
    rw [h1]
    by_cases hjc : j + 16 < 32 + M.length
    · rw [if_pos hjc, if_pos hjc]
      rw [xorb_split s1 _ _ _ (by simp [hS]; omega) (by omega)]
      congr 1
      unfold getBlk
      have hd : List.drop j (S ++ M ++ T2) = List.drop j (S ++ M) ++ T2 :=
        List.drop_append_of_le_length (by simp [hS]; omega)
      rw [← List.append_assoc, hd, List.take_append]
      have ht1 : List.take 16 (List.drop j (S ++ M)) = List.drop j (S ++ M) :=
        List.take_of_length_le (by simp [hS]; omega)
      rw [ht1]
      congr 2
      simp [hS]; omega
    · rw [if_neg hjc, if_neg hjc]
  rw [hr]
  generalize hs2 : (xorBlocksFrom (S ++ (M ++ T2)) 16 (32 + M.length) 16 S).1 = s2
  have hs2l : s2.length = S.length := by
    rw [← hs2]; exact length_xbf _ 16 (by omega) _ _ _ (by omega)
  rw [putAt_zero S M s2 hs2l]
  refine ⟨by simp, by simp [hs2l, hS, hT]; omega, hT'⟩

theorem roundD2_spec (C : Cipher) (hlen : ∀ k x, x.length = 16 → (C.enc k x).length = 16)
    (key b1 b2 : Bytes) (h1 : 16 ≤ b1.length) (h2 : b2.length = 16) (round : Nat) :
    (wblRoundD2 C key (b1, b2) round).1 ++ (wblRoundD2 C key (b1, b2) round).2
      = wblRoundDBase C key (b1 ++ b2) round ∧
    (wblRoundD2 C key (b1, b2) round).1.length = b1.length ∧
    (wblRoundD2 C key (b1, b2) round).2.length = 16 := by
  have hb : b1 = b1.take (b1.length - 16) ++ b1.drop (b1.length - 16) := (List.take_append_drop _ _).symm
  have hT : (b1.drop (b1.length - 16)).length = 16 := by simp; omega
  rw [hb, List.append_assoc]
  exact roundD2_form C hlen key _ _ b2 hT h2 round

theorem iterD2_spec (C : Cipher) (hlen : ∀ k x, x.length = 16 → (C.enc k x).length = 16) (key : Bytes) :
    ∀ (n : Nat) (b1 b2 : Bytes), 16 ≤ b1.length → b2.length = 16 →
    (wblIterD2 C key n (b1, b2)).1 ++ (wblIterD2 C key n (b1, b2)).2
      = wblIterD (wblRoundDBase C key) n (b1 ++ b2) ∧
    (wblIterD2 C key n (b1, b2)).1.length = b1.length ∧ (wblIterD2 C key n (b1, b2)).2.length = 16 := by
  intro n
  induction n with
  | zero => intro b1 b2 _ h2; exact ⟨rfl, rfl, h2⟩
  | succ n ih =>
    intro b1 b2 h1 h2
    obtain ⟨r1, r2, r3⟩ := roundD2_spec C hlen key b1 b2 h1 h2 (n + 1)
    simp only [wblIterD2, wblIterD]
    obtain ⟨i1, i2, i3⟩ := ih (wblRoundD2 C key (b1, b2) (n + 1)).1 (wblRoundD2 C key (b1, b2) (n + 1)).2
      (by omega) r3
    rw [← r1]
    exact ⟨i1, by rw [i2, r2], i3⟩

theorem stepD2_spec (C : Cipher) (hlen : ∀ k x, x.length = 16 → (C.enc k x).length = 16)
    (key b1 b2 : Bytes) (h1 : 16 ≤ b1.length) (h2 : b2.length = 16) :
    (wblStepD2 C key b1 b2).1 ++ (wblStepD2 C key b1 b2).2.1 = (wblStepDBase C key (b1 ++ b2)).1 ∧
    (wblStepD2 C key b1 b2).1.length = b1.length ∧ (wblStepD2 C key b1 b2).2.1.length = 16 ∧
    (wblStepD2 C key b1 b2).2.2 = 0 := by
  obtain ⟨i1, i2, i3⟩ := iterD2_spec C hlen key (2 * wblN (b1.length + 16)) b1 b2 h1 h2
  simp only [wblStepD2, wblStepDBase, List.length_append, h2]
  exact ⟨i1, i2, i3, trivial⟩

/-- `take`/`drop` of an append at the boundary, as one fact -/
theorem append_eq_split (x y b : Bytes) (h : x ++ y = b) (hx : x.length = b.length - 16) :
    x = b.take (b.length - 16) ∧ y = b.drop (b.length - 16) := by
  subst h
  rw [← hx]
  exact ⟨(List.take_left (l₁ := x) (l₂ := y)).symm, (List.drop_left (l₁ := x) (l₂ := y)).symm⟩

theorem length_stepD (C : Cipher) (hlen : ∀ k x, x.length = 16 → (C.enc k x).length = 16)
    (key buf : Bytes) (h : 32 ≤ buf.length) : (wblStepDBase C key buf).1.length = buf.length :=
  length_iterD _ (fun b r hb => length_roundD C hlen key b hb r) _ buf h

/-! ### SDE -/

theorem xorAt0_xorAt0 (buf s : Bytes) (hb : 16 ≤ buf.length) (hs : s.length = 16) :
    xorAt (xorAt buf 0 s) 0 s = buf ∧ (xorAt buf 0 s).length = buf.length := by
  have hb' : buf = buf.take 16 ++ buf.drop 16 := (List.take_append_drop _ _).symm
  have hH : (buf.take 16).length = 16 := by simp; omega
  rw [hb', xorAt_zero _ _ s hH hs, xorAt_zero _ _ s (by rw [length_xorb]; omega) hs,
    xorb_xorb_cancel _ _ (by omega)]
  simp [length_xorb, hs]; omega

/-- `r1 + … + r_{n-1}` as computed by `beltWBLStepEBase` / at the start of `beltWBLStepEOpt` -/
def xs (b : Bytes) : Bytes := (xorBlocksFrom b 16 b.length 16 (b.take 16)).1

/-- `r1 + … + r_{n-2}` as computed at the start of `beltWBLStepDOpt` -/
def xs2 (b : Bytes) : Bytes := (xorBlocksFrom b 32 b.length 16 (b.take 16)).1

/-! ### a toy cipher for the non-vacuity examples -/

/-- adds 1 to every octet (keyless); only used to evaluate examples by `decide` -/
def toyCipher : Cipher := ⟨fun _ x => x.map (· + 1), fun _ x => x.map (· - 1)⟩

theorem toyCipher_len : ∀ k x, x.length = 16 → (toyCipher.enc k x).length = 16 := by
  intro k x h; simp [toyCipher, h]

end Bee2V.C01.Wbl
