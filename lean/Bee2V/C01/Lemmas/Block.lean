import Bee2V.C01.Model.Block
import Bee2V.C01.Lemmas.Bytes
namespace Bee2V.C01
open Bee2V.Gen.C01

theorem length_H : H.toList.length = 256 := by decide +kernel

theorem u32_xor_cancel (x y : UInt32) : x ^^^ y ^^^ y = x := by
  rw [UInt32.xor_assoc, UInt32.xor_self, UInt32.xor_zero]
theorem u32_xor_cancel' (x y : UInt32) : x ^^^ (x ^^^ y) = y := by
  rw [← UInt32.xor_assoc, UInt32.xor_self, UInt32.zero_xor]
theorem u32_add_sub (x y : UInt32) : x + y - y = x := by grind
theorem u32_sub_add (x y : UInt32) : x - y + y = x := by grind
theorem u32_add_sub' (x y : UInt32) : y + (x - y) = x := by grind
theorem u32_r5 (x y z : UInt32) : (x + y) - (y + z) + z = x := by grind
theorem u32_add_sub_left (x y : UInt32) : x + y - x = y := by grind

theorem xorSwap_eq (x y : UInt32) : xorSwap x y = (y, x) := by
  simp only [xorSwap]
  rw [UInt32.xor_comm x y]
  simp only [u32_xor_cancel', u32_xor_cancel]

/-- One application of the macro `R` is undone by `R` with the subkeys in reverse order applied to the
registers in the order d, c, b, a (G-blocks opaque). -/
theorem R_inv (g : GFun) (sk : Nat → UInt32) (i a b c d : UInt32) :
    R g (fun j => sk (6 - j)) i (R g sk i a b c d).2.2.2 (R g sk i a b c d).2.2.1
        (R g sk i a b c d).2.1 (R g sk i a b c d).1 = (d, c, b, a) := by
  simp only [R, u32_xor_cancel, u32_add_sub, u32_add_sub', u32_r5, u32_add_sub_left, u32_sub_add, Nat.sub_self,
    Nat.reduceSub]


theorem R_inv' (g : GFun) (sk sk' : Nat → UInt32) (hsk : ∀ j, j ≤ 6 → sk' j = sk (6 - j)) (i a b c d a' b' c' d' : UInt32)
    (h : R g sk i a b c d = (a', b', c', d')) : R g sk' i d' c' b' a' = (d, c, b, a) := by
  have h0 := R_inv g sk i a b c d
  rw [h] at h0
  simp only [R] at h0 ⊢
  simp only [hsk 0 (by omega), hsk 1 (by omega), hsk 2 (by omega), hsk 3 (by omega), hsk 4 (by omega),
    hsk 5 (by omega), hsk 6 (by omega)]
  exact h0

/-- The macro `D` undoes the macro `E` whenever each D-round undoes the matching E-round in the
conjugated register order. -/
theorem decRounds_encRounds (rfE rfD : Nat → UInt32 → UInt32 → UInt32 → UInt32 → Regs)
    (hinv : ∀ i a b c d a' b' c' d', 1 ≤ i → rfE i a b c d = (a', b', c', d') → rfD i d' c' b' a' = (d, c, b, a))
    (a b c d : UInt32) :
    decRounds rfD (encRounds rfE a b c d).1 (encRounds rfE a b c d).2.1 (encRounds rfE a b c d).2.2.1
      (encRounds rfE a b c d).2.2.2 = (a, b, c, d) := by
  -- the eight E-rounds are named in one copy of the E-term, not in the four projections of the goal
  generalize hp : encRounds rfE a b c d = p
  unfold encRounds at hp
  rcases h1 : rfE 1 a b c d with ⟨a1, b1, c1, d1⟩
  rcases h2 : rfE 2 b1 d1 a1 c1 with ⟨b2, d2, a2, c2⟩
  rcases h3 : rfE 3 d2 c2 b2 a2 with ⟨d3, c3, b3, a3⟩
  rcases h4 : rfE 4 c3 a3 d3 b3 with ⟨c4, a4, d4, b4⟩
  rcases h5 : rfE 5 a4 b4 c4 d4 with ⟨a5, b5, c5, d5⟩
  rcases h6 : rfE 6 b5 d5 a5 c5 with ⟨b6, d6, a6, c6⟩
  rcases h7 : rfE 7 d6 c6 b6 a6 with ⟨d7, c7, b7, a7⟩
  rcases h8 : rfE 8 c7 a7 d7 b7 with ⟨c8, a8, d8, b8⟩
  simp only [h1, h2, h3, h4, h5, h6, h7, h8, xorSwap_eq] at hp
  subst hp
  simp only [decRounds, hinv _ _ _ _ _ _ _ _ _ (by omega) h8, hinv _ _ _ _ _ _ _ _ _ (by omega) h7,
    hinv _ _ _ _ _ _ _ _ _ (by omega) h6, hinv _ _ _ _ _ _ _ _ _ (by omega) h5,
    hinv _ _ _ _ _ _ _ _ _ (by omega) h4, hinv _ _ _ _ _ _ _ _ _ (by omega) h3,
    hinv _ _ _ _ _ _ _ _ _ (by omega) h2, hinv _ _ _ _ _ _ _ _ _ (by omega) h1, xorSwap_eq]

/-- the converse composition: `E` undoes `D` -/
theorem encRounds_decRounds (rfE rfD : Nat → UInt32 → UInt32 → UInt32 → UInt32 → Regs)
    (hinv : ∀ i a b c d a' b' c' d', 1 ≤ i → rfD i a b c d = (a', b', c', d') → rfE i d' c' b' a' = (d, c, b, a))
    (a b c d : UInt32) :
    encRounds rfE (decRounds rfD a b c d).1 (decRounds rfD a b c d).2.1 (decRounds rfD a b c d).2.2.1
      (decRounds rfD a b c d).2.2.2 = (a, b, c, d) := by
  generalize hp : decRounds rfD a b c d = p
  unfold decRounds at hp
  rcases h8 : rfD 8 a b c d with ⟨a8, b8, c8, d8⟩
  rcases h7 : rfD 7 c8 a8 d8 b8 with ⟨c7, a7, d7, b7⟩
  rcases h6 : rfD 6 d7 c7 b7 a7 with ⟨d6, c6, b6, a6⟩
  rcases h5 : rfD 5 b6 d6 a6 c6 with ⟨b5, d5, a5, c5⟩
  rcases h4 : rfD 4 a5 b5 c5 d5 with ⟨a4, b4, c4, d4⟩
  rcases h3 : rfD 3 c4 a4 d4 b4 with ⟨c3, a3, d3, b3⟩
  rcases h2 : rfD 2 d3 c3 b3 a3 with ⟨d2, c2, b2, a2⟩
  rcases h1 : rfD 1 b2 d2 a2 c2 with ⟨b1, d1, a1, c1⟩
  simp only [h1, h2, h3, h4, h5, h6, h7, h8, xorSwap_eq] at hp
  subst hp
  simp only [encRounds, hinv _ _ _ _ _ _ _ _ _ (by omega) h1, hinv _ _ _ _ _ _ _ _ _ (by omega) h2,
    hinv _ _ _ _ _ _ _ _ _ (by omega) h3, hinv _ _ _ _ _ _ _ _ _ (by omega) h4,
    hinv _ _ _ _ _ _ _ _ _ (by omega) h5, hinv _ _ _ _ _ _ _ _ _ (by omega) h6,
    hinv _ _ _ _ _ _ _ _ _ (by omega) h7, hinv _ _ _ _ _ _ _ _ _ (by omega) h8, xorSwap_eq]

theorem subkeyD_eq (K : Array UInt32) (i j : Nat) (hi : 1 ≤ i) (hj : j ≤ 6) : subkeyD K i j = subkeyE K i (6 - j) := by
  simp only [subkeyD, subkeyE]
  congr 2
  omega

theorem subkeyE_eq (K : Array UInt32) (i j : Nat) (hi : 1 ≤ i) (hj : j ≤ 6) : subkeyE K i j = subkeyD K i (6 - j) := by
  simp only [subkeyD, subkeyE]
  congr 2
  omega

/-- `beltBlockDecr3` undoes `beltBlockEncr3` for every key array and every G-blocks -/
theorem D_E (g : GFun) (K : Array UInt32) (a b c d : UInt32) :
    D g K (E g K a b c d).1 (E g K a b c d).2.1 (E g K a b c d).2.2.1 (E g K a b c d).2.2.2 = (a, b, c, d) := by
  apply decRounds_encRounds
  intro i a b c d a' b' c' d' hi h
  exact R_inv' g (subkeyE K i) (subkeyD K i) (fun j hj => subkeyD_eq K i j hi hj) _ a b c d a' b' c' d' h

theorem E_D (g : GFun) (K : Array UInt32) (a b c d : UInt32) :
    E g K (D g K a b c d).1 (D g K a b c d).2.1 (D g K a b c d).2.2.1 (D g K a b c d).2.2.2 = (a, b, c, d) := by
  apply encRounds_decRounds
  intro i a b c d a' b' c' d' hi h
  exact R_inv' g (subkeyD K i) (subkeyE K i) (fun j hj => subkeyE_eq K i j hi hj) _ a b c d a' b' c' d' h

theorem length_blockEncr (key blk : Bytes) (h : blk.length = 16) : (blockEncr key blk).length = 16 := by
  obtain ⟨w0, w1, w2, w3, hw⟩ := u32From_16 blk h
  simp only [blockEncr, hw, length_u32To, List.length_cons, List.length_nil]

theorem length_blockDecr (key blk : Bytes) (h : blk.length = 16) : (blockDecr key blk).length = 16 := by
  obtain ⟨w0, w1, w2, w3, hw⟩ := u32From_16 blk h
  simp only [blockDecr, hw, length_u32To, List.length_cons, List.length_nil]

theorem blockDecr_blockEncr' (key blk : Bytes) (h : blk.length = 16) : blockDecr key (blockEncr key blk) = blk := by
  obtain ⟨w0, w1, w2, w3, hw⟩ := u32From_16 blk h
  have hb := u32To_u32From_16 blk h
  rw [hw] at hb
  have hde := D_E beltG (u32From key).toArray w0 w1 w2 w3
  rcases he : E beltG (u32From key).toArray w0 w1 w2 w3 with ⟨a, b, c, d⟩
  rw [he] at hde
  simp only [blockEncr, hw, he, blockDecr, u32From_u32To]
  simp only [] at hde
  rw [hde]
  exact hb

theorem blockEncr_blockDecr' (key blk : Bytes) (h : blk.length = 16) : blockEncr key (blockDecr key blk) = blk := by
  obtain ⟨w0, w1, w2, w3, hw⟩ := u32From_16 blk h
  have hb := u32To_u32From_16 blk h
  rw [hw] at hb
  have hde := E_D beltG (u32From key).toArray w0 w1 w2 w3
  rcases he : D beltG (u32From key).toArray w0 w1 w2 w3 with ⟨a, b, c, d⟩
  rw [he] at hde
  simp only [blockDecr, hw, he, blockEncr, u32From_u32To]
  simp only [] at hde
  rw [hde]
  exact hb

end Bee2V.C01
