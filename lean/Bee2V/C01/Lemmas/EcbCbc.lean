/-
C01 helper lemmas for belt_ecb.c / belt_cbc.c: the step functions written over an arbitrary block map,
their shape on whole-block buffers and on buffers with a ragged tail (ciphertext stealing).
-/
import Bee2V.C01.Model.Modes
import Bee2V.C01.Lemmas.Stream
namespace Bee2V.C01

/-- every buffer of at least 16 octets whose length is not a multiple of 16 is
`whole blocks ++ last whole block ++ ragged tail` -/
theorem ragged_decomp (buf : Bytes) (h16 : 16 ≤ buf.length) (hr : buf.length % 16 ≠ 0) :
    ∃ pre last tail : Bytes, buf = pre ++ last ++ tail ∧ pre.length % 16 = 0 ∧ last.length = 16 ∧
      0 < tail.length ∧ tail.length < 16 := by
  refine ⟨buf.take (16 * (buf.length / 16 - 1)), (buf.drop (16 * (buf.length / 16 - 1))).take 16,
    (buf.drop (16 * (buf.length / 16 - 1))).drop 16, ?_, ?_, ?_, ?_, ?_⟩
  · rw [List.append_assoc, List.take_append_drop, List.take_append_drop]
  · simp only [List.length_take]; omega
  · simp only [List.length_take, List.length_drop]; omega
  · simp only [List.length_drop]; omega
  · simp only [List.length_drop]; omega

/-! ### ECB -/

/-- the loop of `beltECBStepE/D` on whole blocks: apply `f` blockwise -/
def mapB (f : Bytes → Bytes) (x : Bytes) : Bytes := (fullBlocks 16 (fun (_ : Unit) b => ((), f b)) () x).2.1

/-- `beltECBStepE` / `beltECBStepD` over an arbitrary block map -/
def ecbStep (f : Bytes → Bytes) (buf : Bytes) : Bytes :=
  let l := fullBlocks 16 (fun (_ : Unit) b => ((), f b)) () buf
  let p := l.2.1
  let r := l.2.2
  if r.length ≠ 0 then
    let sw := stealSwap (p.drop (p.length - 16)) r
    p.take (p.length - 16) ++ f sw.1 ++ sw.2
  else p

theorem ecbStepE_eq (C : Cipher) (key buf : Bytes) : ecbStepE C key buf = ecbStep (C.enc key) buf := rfl
theorem ecbStepD_eq (C : Cipher) (key buf : Bytes) : ecbStepD C key buf = ecbStep (C.dec key) buf := rfl

theorem mapB_nil (f : Bytes → Bytes) : mapB f [] = [] := by
  simp only [mapB, fullBlocks_nil]

theorem mapB_cons (f : Bytes → Bytes) (b rest : Bytes) (hb : b.length = 16) :
    mapB f (b ++ rest) = f b ++ mapB f rest := by
  simp only [mapB, fullBlocks_cons _ _ b rest hb]

theorem mapB_block (f : Bytes → Bytes) (b : Bytes) (hb : b.length = 16) : mapB f b = f b := by
  have := mapB_cons f b [] hb
  simpa [mapB_nil] using this

theorem mapB_append (f : Bytes → Bytes) (x y : Bytes) (hx : x.length % 16 = 0) :
    mapB f (x ++ y) = mapB f x ++ mapB f y := by
  simp only [mapB, fullBlocks_append _ _ x y hx]

/-- the loop leaves nothing when the buffer consists of whole blocks (any body, any state) -/
theorem fullBlocks_whole_rest {σ : Type} (body : σ → Bytes → σ × Bytes) :
    ∀ x : Bytes, x.length % 16 = 0 → ∀ s : σ, (fullBlocks 16 body s x).2.2 = [] := by
  intro x hx
  refine whole_induction (P := fun x => ∀ s : σ, (fullBlocks 16 body s x).2.2 = []) ?_ ?_ x hx
  · intro s; simp only [fullBlocks_nil]
  · intro b rest hb _ ih s
    simp only [fullBlocks_cons _ _ b rest hb, ih]

theorem length_mapB (f : Bytes → Bytes) (hlen : ∀ x, x.length = 16 → (f x).length = 16) :
    ∀ x : Bytes, x.length % 16 = 0 → (mapB f x).length = x.length := by
  intro x hx
  refine whole_induction (P := fun x => (mapB f x).length = x.length) ?_ ?_ x hx
  · simp [mapB_nil]
  · intro b rest hb _ ih
    simp only [mapB_cons f b rest hb, List.length_append, ih, hlen b hb, hb]

theorem mapB_mapB (f g : Bytes → Bytes) (hlen : ∀ x, x.length = 16 → (f x).length = 16)
    (hgf : ∀ x, x.length = 16 → g (f x) = x) :
    ∀ x : Bytes, x.length % 16 = 0 → mapB g (mapB f x) = x := by
  intro x hx
  refine whole_induction (P := fun x => mapB g (mapB f x) = x) ?_ ?_ x hx
  · simp [mapB_nil]
  · intro b rest hb _ ih
    rw [mapB_cons f b rest hb, mapB_cons g (f b) _ (hlen b hb), hgf b hb, ih]

theorem ecbStep_whole (f : Bytes → Bytes) (x : Bytes) (hx : x.length % 16 = 0) : ecbStep f x = mapB f x := by
  simp only [ecbStep, fullBlocks_whole_rest _ x hx, List.length_nil, ne_eq, not_true_eq_false, if_false, mapB]

/-- shape of the output on a buffer with a ragged tail -/
theorem ecbStep_ragged (f : Bytes → Bytes) (hlen : ∀ x, x.length = 16 → (f x).length = 16)
    (pre last tail : Bytes) (hpre : pre.length % 16 = 0) (hlast : last.length = 16)
    (ht0 : 0 < tail.length) (ht : tail.length < 16) :
    ecbStep f (pre ++ last ++ tail) =
      mapB f pre ++ f (tail ++ (f last).drop tail.length) ++ (f last).take tail.length := by
  have hfl := hlen last hlast
  have hl : fullBlocks 16 (fun (_ : Unit) b => ((), f b)) () (pre ++ last ++ tail)
      = ((), mapB f pre ++ f last, tail) := by
    rw [List.append_assoc, fullBlocks_append _ _ pre _ hpre, fullBlocks_cons _ _ last tail hlast,
      fullBlocks_short _ _ tail ht]
    simp only [mapB, List.append_nil]
  have hne : tail.length ≠ 0 := by omega
  simp only [ecbStep, hl, hne, ne_eq, not_false_eq_true, if_true, stealSwap, List.length_append, hfl,
    Nat.add_sub_cancel]
  rw [List.drop_left' rfl, List.take_left' rfl]

/-! ### CBC -/

/-- body of the loop of `beltCBCStepE` (state = `st->block`) -/
def cbcEB (f : Bytes → Bytes) : Bytes → Bytes → Bytes × Bytes :=
  fun blk b => (f (xorb blk b), f (xorb blk b))

/-- body of the loop of `beltCBCStepD` (state = `(st->block, st->block2)`) -/
def cbcDB (g : Bytes → Bytes) : Bytes × Bytes → Bytes → (Bytes × Bytes) × Bytes :=
  fun s b => ((b, b), xorb (g b) s.1)

/-- `beltCBCStepE` over an arbitrary block map: (new `st->block`, output) -/
def cbcE (f : Bytes → Bytes) (iv buf : Bytes) : Bytes × Bytes :=
  let l := fullBlocks 16 (cbcEB f) iv buf
  let p := l.2.1
  let r := l.2.2
  if r.length ≠ 0 then
    let sw := stealSwap (p.drop (p.length - 16)) r
    let last := xorPrefix sw.1 (l.1.take r.length)
    (l.1, p.take (p.length - 16) ++ f last ++ sw.2)
  else (l.1, p)

/-- `beltCBCStepD` over an arbitrary block map: (new `(st->block, st->block2)`, output) -/
def cbcD (g : Bytes → Bytes) (s : Bytes × Bytes) (buf : Bytes) : (Bytes × Bytes) × Bytes :=
  let l := blockLoop 16 (fun n => decide (32 ≤ n) || n == 16) (cbcDB g) buf.length s buf
  let p := l.2.1
  let r := l.2.2
  if r.length ≠ 0 then
    let b0 := g (r.take 16)
    let t := r.drop 16
    let b1 := t ++ b0.drop t.length
    let t1 := b0.take t.length
    let t2 := xorb t1 (b1.take t.length)
    let b2 := xorb (g b1) l.1.1
    (l.1, p ++ b2 ++ t2)
  else (l.1, p)

theorem cbcStepE_eq (C : Cipher) (st : CbcSt) (buf : Bytes) :
    cbcStepE C st buf =
      ({ st with block := (cbcE (C.enc st.key) st.block buf).1 }, (cbcE (C.enc st.key) st.block buf).2) := by
  have hb : (fun (blk : Bytes) (b : Bytes) => (C.enc st.key (xorb blk b), C.enc st.key (xorb blk b)))
      = cbcEB (C.enc st.key) := rfl
  simp only [cbcStepE, cbcE, hb]
  by_cases h : (fullBlocks 16 (cbcEB (C.enc st.key)) st.block buf).2.2.length ≠ 0
  · simp only [if_pos h]
  · simp only [if_neg h]

theorem cbcStepD_eq (C : Cipher) (st : CbcSt) (buf : Bytes) :
    cbcStepD C st buf =
      ({ st with block := (cbcD (C.dec st.key) (st.block, st.block2) buf).1.1,
                 block2 := (cbcD (C.dec st.key) (st.block, st.block2) buf).1.2 },
       (cbcD (C.dec st.key) (st.block, st.block2) buf).2) := by
  have hb : (fun (s : Bytes × Bytes) (b : Bytes) => ((b, b), xorb (C.dec st.key b) s.1))
      = cbcDB (C.dec st.key) := rfl
  simp only [cbcStepD, cbcD, hb]
  by_cases h : (blockLoop 16 (fun n => decide (32 ≤ n) || n == 16) (cbcDB (C.dec st.key)) buf.length
      (st.block, st.block2) buf).2.2.length ≠ 0
  · simp only [if_pos h]
  · simp only [if_neg h]

/-- the condition of the loop of `beltCBCStepD` implies that a whole block is left -/
theorem cbcD_cond (n : Nat) (h : (decide (32 ≤ n) || n == 16) = true) : 16 ≤ n := by
  simp at h; omega

theorem cbcD_cond_stop (k : Nat) (h0 : 0 < k) (h : k < 16) :
    (decide (32 ≤ 16 + k) || 16 + k == 16) = false := by
  simp; omega

theorem cbcE_loop_len (f : Bytes → Bytes) (hlen : ∀ x, x.length = 16 → (f x).length = 16) :
    ∀ x : Bytes, x.length % 16 = 0 → ∀ iv : Bytes, iv.length = 16 →
      (fullBlocks 16 (cbcEB f) iv x).2.1.length = x.length ∧ (fullBlocks 16 (cbcEB f) iv x).1.length = 16 := by
  intro x hx iv hiv
  have h := Stream.fullBlocks_lengths 16 (by omega) (cbcEB f) (fun s => s.length = 16)
    (fun s b hs hb => by
      have : (f (xorb s b)).length = 16 := hlen _ (by rw [length_xorb]; omega)
      exact ⟨this, this⟩) x.length x iv (Nat.le_refl _) hiv
  rw [fullBlocks_whole_rest _ x hx] at h
  exact ⟨h.2.1, h.1⟩

/-- CBC on whole blocks: lengths, state, and decryption undoes encryption -/
theorem cbc_whole (f g : Bytes → Bytes) (hlen : ∀ x, x.length = 16 → (f x).length = 16)
    (hgf : ∀ x, x.length = 16 → g (f x) = x) :
    ∀ x : Bytes, x.length % 16 = 0 → ∀ iv s2 : Bytes, iv.length = 16 →
      (fullBlocks 16 (cbcEB f) iv x).2.1.length = x.length ∧
      (fullBlocks 16 (cbcEB f) iv x).1.length = 16 ∧
      (fullBlocks 16 (cbcDB g) (iv, s2) (fullBlocks 16 (cbcEB f) iv x).2.1).2.1 = x ∧
      (fullBlocks 16 (cbcDB g) (iv, s2) (fullBlocks 16 (cbcEB f) iv x).2.1).1.1
        = (fullBlocks 16 (cbcEB f) iv x).1 := by
  intro x hx iv s2 hiv
  have hL := cbcE_loop_len f hlen x hx iv hiv
  have hR := Stream.fullBlocks_roundtrip 16 (by omega) (cbcEB f) (cbcDB g) (fun s t => t.1 = s ∧ s.length = 16)
    (fun s t b hst hb => by
      have hx16 : (xorb s b).length = 16 := by rw [length_xorb]; omega
      simp only [cbcEB, cbcDB, hst.1, hgf _ hx16, xorb_xorb_cancel_left s b (by omega), hlen _ hx16, and_self])
    x.length x iv (iv, s2) [] (Nat.le_refl _) ⟨rfl, hiv⟩ (by simp)
  rw [fullBlocks_whole_rest _ x hx, List.append_nil, List.append_nil] at hR
  exact ⟨hL.1, hL.2, hR.1, hR.2.2.1⟩

/-! ### ECB: lengths and inversion -/

theorem length_ecbStep (f : Bytes → Bytes) (hlen : ∀ x, x.length = 16 → (f x).length = 16)
    (buf : Bytes) (h16 : 16 ≤ buf.length) : (ecbStep f buf).length = buf.length := by
  by_cases hr : buf.length % 16 = 0
  · rw [ecbStep_whole f buf hr, length_mapB f hlen buf hr]
  · obtain ⟨pre, last, tail, rfl, hpre, hlast, ht0, ht⟩ := ragged_decomp buf h16 hr
    rw [ecbStep_ragged f hlen pre last tail hpre hlast ht0 ht]
    have hfl := hlen last hlast
    have h2 : (tail ++ (f last).drop tail.length).length = 16 := by
      simp only [List.length_append, List.length_drop]; omega
    simp only [List.length_append, length_mapB f hlen pre hpre, hlen _ h2, List.length_take, hlast]
    omega

theorem ecbStep_ecbStep (f g : Bytes → Bytes) (hlenf : ∀ x, x.length = 16 → (f x).length = 16)
    (hleng : ∀ x, x.length = 16 → (g x).length = 16) (hgf : ∀ x, x.length = 16 → g (f x) = x)
    (buf : Bytes) (h16 : 16 ≤ buf.length) : ecbStep g (ecbStep f buf) = buf := by
  by_cases hr : buf.length % 16 = 0
  · rw [ecbStep_whole f buf hr, ecbStep_whole g _ (by rw [length_mapB f hlenf buf hr]; exact hr),
      mapB_mapB f g hlenf hgf buf hr]
  · obtain ⟨pre, last, tail, rfl, hpre, hlast, ht0, ht⟩ := ragged_decomp buf h16 hr
    rw [ecbStep_ragged f hlenf pre last tail hpre hlast ht0 ht]
    have hfl := hlenf last hlast
    have h2 : (tail ++ (f last).drop tail.length).length = 16 := by
      simp only [List.length_append, List.length_drop]; omega
    have h3 : ((f last).take tail.length).length = tail.length := by
      simp only [List.length_take]; omega
    rw [ecbStep_ragged g hleng (mapB f pre) _ _ (by rw [length_mapB f hlenf pre hpre]; exact hpre)
      (hlenf _ h2) (by omega) (by omega)]
    rw [h3, hgf _ h2, List.drop_left' rfl, List.take_left' rfl, List.take_append_drop, hgf last hlast,
      mapB_mapB f g hlenf hgf pre hpre]

/-! ### CBC: shapes, lengths and inversion -/

theorem cbcE_whole (f : Bytes → Bytes) (iv x : Bytes) (hx : x.length % 16 = 0) :
    cbcE f iv x = ((fullBlocks 16 (cbcEB f) iv x).1, (fullBlocks 16 (cbcEB f) iv x).2.1) := by
  simp only [cbcE, fullBlocks_whole_rest _ x hx, List.length_nil, ne_eq, not_true_eq_false, if_false]

/-- shape of `beltCBCStepE` on a buffer with a ragged tail: with `s1` the chaining block after `pre` and
`c = E(s1 ^ last)`, the output is `E-CBC(pre) ++ E((tail ^ c[0..k)) ++ c[k..16)) ++ c[0..k)`. -/
theorem cbcE_ragged (f : Bytes → Bytes) (iv pre last tail c : Bytes)
    (hpre : pre.length % 16 = 0) (hlast : last.length = 16) (ht0 : 0 < tail.length) (ht : tail.length < 16)
    (hc : c = f (xorb (fullBlocks 16 (cbcEB f) iv pre).1 last)) (hcl : c.length = 16) :
    cbcE f iv (pre ++ last ++ tail) =
      (c, (fullBlocks 16 (cbcEB f) iv pre).2.1
            ++ f (xorb tail (c.take tail.length) ++ c.drop tail.length) ++ c.take tail.length) := by
  have hl : fullBlocks 16 (cbcEB f) iv (pre ++ last ++ tail)
      = (c, (fullBlocks 16 (cbcEB f) iv pre).2.1 ++ c, tail) := by
    rw [List.append_assoc, fullBlocks_append _ _ pre _ hpre, fullBlocks_cons _ _ last tail hlast]
    have hbody : cbcEB f (fullBlocks 16 (cbcEB f) iv pre).1 last = (c, c) := by rw [hc]; rfl
    rw [hbody]
    simp only [fullBlocks_short _ _ tail ht, List.append_nil]
  have hne : tail.length ≠ 0 := by omega
  have htk : (c.take tail.length).length = tail.length := by simp only [List.length_take]; omega
  simp only [cbcE, hl, hne, ne_eq, not_false_eq_true, if_true, stealSwap, xorPrefix, List.length_append, hcl,
    Nat.add_sub_cancel, htk]
  rw [List.drop_left' rfl, List.take_left' rfl, xorb_append_left _ _ _ htk, List.drop_left' rfl]

theorem cbcD_whole (g : Bytes → Bytes) (s : Bytes × Bytes) (cx : Bytes) (hcx : cx.length % 16 = 0) :
    cbcD g s cx = ((fullBlocks 16 (cbcDB g) s cx).1, (fullBlocks 16 (cbcDB g) s cx).2.1) := by
  have hl := blockLoop_append (fun n => decide (32 ≤ n) || n == 16) (cbcDB g) cbcD_cond []
    (by intro m h1 h2; simp; omega) cx hcx s cx.length (by simp)
  simp only [List.append_nil, List.length_nil, blockLoop] at hl
  simp only [cbcD, hl, List.length_nil, ne_eq, not_true_eq_false, if_false]

/-- shape of `beltCBCStepD` on `whole blocks ++ one block ++ ragged tail`: the loop stops before `y`. -/
theorem cbcD_ragged (g : Bytes → Bytes) (s : Bytes × Bytes) (cx y t : Bytes)
    (hcx : cx.length % 16 = 0) (hy : y.length = 16) (ht0 : 0 < t.length) (ht : t.length < 16) :
    cbcD g s (cx ++ y ++ t) =
      ((fullBlocks 16 (cbcDB g) s cx).1,
       (fullBlocks 16 (cbcDB g) s cx).2.1
         ++ xorb (g (t ++ (g y).drop t.length)) (fullBlocks 16 (cbcDB g) s cx).1.1
         ++ xorb ((g y).take t.length) ((t ++ (g y).drop t.length).take t.length)) := by
  have hl := blockLoop_append (fun n => decide (32 ≤ n) || n == 16) (cbcDB g) cbcD_cond (y ++ t)
    (by intro m h1 h2; simp [hy]; omega) cx hcx s (cx ++ y ++ t).length (by simp)
  have hstop : blockLoop 16 (fun n => decide (32 ≤ n) || n == 16) (cbcDB g) (y ++ t).length
      (fullBlocks 16 (cbcDB g) s cx).1 (y ++ t) = ((fullBlocks 16 (cbcDB g) s cx).1, [], y ++ t) :=
    blockLoop_stop _ _ _ _ _ _ (by rw [List.length_append, hy]; exact cbcD_cond_stop _ ht0 ht)
  rw [hstop, ← List.append_assoc] at hl
  have hne : (y ++ t).length ≠ 0 := by rw [List.length_append, hy]; omega
  simp only [cbcD, hl, hne, ne_eq, not_false_eq_true, if_true, List.append_nil]
  rw [List.take_left' hy, List.drop_left' hy]

theorem length_cbcE (f : Bytes → Bytes) (hlen : ∀ x, x.length = 16 → (f x).length = 16)
    (iv buf : Bytes) (hiv : iv.length = 16) (h16 : 16 ≤ buf.length) : (cbcE f iv buf).2.length = buf.length := by
  by_cases hr : buf.length % 16 = 0
  · rw [cbcE_whole f iv buf hr]
    exact (cbcE_loop_len f hlen buf hr iv hiv).1
  · obtain ⟨pre, last, tail, rfl, hpre, hlast, ht0, ht⟩ := ragged_decomp buf h16 hr
    obtain ⟨h1, h2⟩ := cbcE_loop_len f hlen pre hpre iv hiv
    have hx16 : (xorb (fullBlocks 16 (cbcEB f) iv pre).1 last).length = 16 := by rw [length_xorb]; omega
    have hcl := hlen _ hx16
    rw [cbcE_ragged f iv pre last tail _ hpre hlast ht0 ht rfl hcl]
    generalize f (xorb (fullBlocks 16 (cbcEB f) iv pre).1 last) = c at hcl
    have h3 : (xorb tail (c.take tail.length) ++ c.drop tail.length).length = 16 := by
      simp only [List.length_append, length_xorb, List.length_take, List.length_drop]; omega
    simp only [List.length_append, h1, hlen _ h3, List.length_take, hlast]
    omega

/-- `beltCBCStepD` undoes `beltCBCStepE` (same chaining block at the start), every admissible length -/
theorem cbcD_cbcE (f g : Bytes → Bytes) (hlen : ∀ x, x.length = 16 → (f x).length = 16)
    (hgf : ∀ x, x.length = 16 → g (f x) = x) (iv s2 buf : Bytes) (hiv : iv.length = 16)
    (h16 : 16 ≤ buf.length) : (cbcD g (iv, s2) (cbcE f iv buf).2).2 = buf := by
  by_cases hr : buf.length % 16 = 0
  · obtain ⟨h1, h2, h3, h4⟩ := cbc_whole f g hlen hgf buf hr iv s2 hiv
    rw [cbcE_whole f iv buf hr]
    simp only
    rw [cbcD_whole g _ _ (by rw [h1]; exact hr)]
    exact h3
  · obtain ⟨pre, last, tail, rfl, hpre, hlast, ht0, ht⟩ := ragged_decomp buf h16 hr
    obtain ⟨h1, h2, h3, h4⟩ := cbc_whole f g hlen hgf pre hpre iv s2 hiv
    have hx16 : (xorb (fullBlocks 16 (cbcEB f) iv pre).1 last).length = 16 := by rw [length_xorb]; omega
    have hcl := hlen _ hx16
    have hgc := hgf _ hx16
    rw [cbcE_ragged f iv pre last tail _ hpre hlast ht0 ht rfl hcl]
    generalize f (xorb (fullBlocks 16 (cbcEB f) iv pre).1 last) = c at hcl hgc
    have htk : (c.take tail.length).length = tail.length := by simp only [List.length_take]; omega
    have hxk : (xorb tail (c.take tail.length)).length = tail.length := by rw [length_xorb]; omega
    have h5 : (xorb tail (c.take tail.length) ++ c.drop tail.length).length = 16 := by
      simp only [List.length_append, hxk, List.length_drop]; omega
    simp only
    rw [cbcD_ragged g (iv, s2) _ _ _ (by rw [h1]; exact hpre) (hlen _ h5) (by omega) (by omega)]
    simp only [htk, hgf _ h5, h3, h4]
    rw [List.drop_left' hxk, List.take_left' hxk, List.take_append_drop, hgc,
      xorb_xorb_cancel _ _ (by omega), xorb_xorb_cancel_left _ _ (by omega)]

/-! ### spec-level characterisations on whole blocks -/

theorem chunks16_nil : chunks16 [] = [] := by
  rw [chunks16]; simp

theorem chunks16_block (b : Bytes) (hb : b.length = 16) : chunks16 b = [b] := by
  rw [chunks16]
  have hne : b.isEmpty = false := by cases b with
    | nil => simp at hb
    | cons _ _ => rfl
  simp [hb, hne]

theorem chunks16_cons (b rest : Bytes) (hb : b.length = 16) (hr : rest ≠ []) :
    chunks16 (b ++ rest) = b :: chunks16 rest := by
  rw [chunks16]
  have hpos : 0 < rest.length := List.length_pos_iff.mpr hr
  have hn : ¬ (b ++ rest).length ≤ 16 := by simp only [List.length_append]; omega
  rw [dif_neg hn, List.take_left' hb, List.drop_left' hb]

/-- on whole blocks the ECB loop is `flatMap` over the 16-octet chunks -/
theorem mapB_eq_flatMap (f : Bytes → Bytes) :
    ∀ x : Bytes, x.length % 16 = 0 → mapB f x = (chunks16 x).flatMap f := by
  intro x hx
  refine whole_induction (P := fun x => mapB f x = (chunks16 x).flatMap f) ?_ ?_ x hx
  · simp [mapB_nil, chunks16_nil]
  · intro b rest hb _ ih
    by_cases hr : rest = []
    · subst hr
      simp [mapB_block f b hb, chunks16_block b hb]
    · rw [mapB_cons f b rest hb, chunks16_cons b rest hb hr, ih]
      simp

/-- the CBC chaining equation `c_i = f(c_{i-1} ^ p_i)`, `c_0 = prev` -/
def cbcChain (f : Bytes → Bytes) : Bytes → List Bytes → List Bytes
  | _, [] => []
  | prev, p :: ps => f (xorb prev p) :: cbcChain f (f (xorb prev p)) ps

theorem cbcE_loop_eq_chain (f : Bytes → Bytes) :
    ∀ x : Bytes, x.length % 16 = 0 → ∀ iv : Bytes,
      (fullBlocks 16 (cbcEB f) iv x).2.1 = (cbcChain f iv (chunks16 x)).flatten := by
  intro x hx
  refine whole_induction (P := fun x => ∀ iv : Bytes,
      (fullBlocks 16 (cbcEB f) iv x).2.1 = (cbcChain f iv (chunks16 x)).flatten) ?_ ?_ x hx
  · intro iv; simp [fullBlocks_nil, chunks16_nil, cbcChain]
  · intro b rest hb _ ih iv
    have hbody : cbcEB f iv b = (f (xorb iv b), f (xorb iv b)) := rfl
    rw [fullBlocks_cons _ iv b rest hb, hbody]
    by_cases hr : rest = []
    · subst hr
      simp [fullBlocks_nil, chunks16_block b hb, cbcChain]
    · simp only [chunks16_cons b rest hb hr, cbcChain, List.flatten_cons, ih]

/-! ### a toy cipher for non-vacuity examples -/

/-- add 1 to / subtract 1 from every octet (the key is ignored) -/
def toyCipher : Cipher := ⟨fun _ x => x.map (· + 1), fun _ x => x.map (· - 1)⟩

theorem toy_len_enc (k x : Bytes) : (toyCipher.enc k x).length = x.length := by simp [toyCipher]
theorem toy_len_dec (k x : Bytes) : (toyCipher.dec k x).length = x.length := by simp [toyCipher]
theorem toy_dec_enc (k x : Bytes) : toyCipher.dec k (toyCipher.enc k x) = x := by
  simp only [toyCipher, List.map_map]
  have : ((fun (a : UInt8) => a - 1) ∘ fun a => a + 1) = id := by funext a; simp only [Function.comp]; grind
  rw [this, List.map_id]
theorem toy_enc_dec (k x : Bytes) : toyCipher.enc k (toyCipher.dec k x) = x := by
  simp only [toyCipher, List.map_map]
  have : ((fun (a : UInt8) => a + 1) ∘ fun a => a - 1) = id := by funext a; simp only [Function.comp]; grind
  rw [this, List.map_id]

/-! ### the argument check of the high-level functions -/

theorem badCond_iff (n len : Nat) :
    (decide (n < 16) || !validKeyLen len) = true ↔ (n < 16 ∨ ¬ (len = 16 ∨ len = 24 ∨ len = 32)) := by
  simp [validKeyLen, and_assoc]

/-! ### CBC: encryption undoes decryption -/

theorem cbcD_loop_len (g : Bytes → Bytes) (hlen : ∀ x, x.length = 16 → (g x).length = 16) :
    ∀ cx : Bytes, cx.length % 16 = 0 → ∀ s : Bytes × Bytes, s.1.length = 16 →
      (fullBlocks 16 (cbcDB g) s cx).2.1.length = cx.length ∧ (fullBlocks 16 (cbcDB g) s cx).1.1.length = 16 := by
  intro cx hcx s hs
  have h := Stream.fullBlocks_lengths 16 (by omega) (cbcDB g) (fun s => s.1.length = 16)
    (fun s b hs hb => ⟨hb, by simp only [cbcDB, length_xorb, hlen b hb, hs]; omega⟩) cx.length cx s (Nat.le_refl _) hs
  rw [fullBlocks_whole_rest _ cx hcx] at h
  exact ⟨h.2.1, h.1⟩

theorem cbc_whole' (f g : Bytes → Bytes) (hlen : ∀ x, x.length = 16 → (g x).length = 16)
    (hfg : ∀ x, x.length = 16 → f (g x) = x) :
    ∀ cx : Bytes, cx.length % 16 = 0 → ∀ iv s2 : Bytes, iv.length = 16 →
      (fullBlocks 16 (cbcDB g) (iv, s2) cx).2.1.length = cx.length ∧
      (fullBlocks 16 (cbcDB g) (iv, s2) cx).1.1.length = 16 ∧
      (fullBlocks 16 (cbcEB f) iv (fullBlocks 16 (cbcDB g) (iv, s2) cx).2.1).2.1 = cx ∧
      (fullBlocks 16 (cbcEB f) iv (fullBlocks 16 (cbcDB g) (iv, s2) cx).2.1).1
        = (fullBlocks 16 (cbcDB g) (iv, s2) cx).1.1 := by
  intro cx hcx iv s2 hiv
  have hL := cbcD_loop_len g hlen cx hcx (iv, s2) hiv
  have hR := Stream.fullBlocks_roundtrip 16 (by omega) (cbcDB g) (cbcEB f) (fun s t => t = s.1 ∧ t.length = 16)
    (fun s t b hst hb => by
      obtain ⟨rfl, ht⟩ := hst
      have hg := hlen b hb
      have e : xorb s.1 (xorb (g b) s.1) = g b := xorb_cancel_mid _ _ (by omega)
      simp only [cbcEB, cbcDB, e, hfg b hb, hb, length_xorb, hg, ht, Nat.min_self, and_self])
    cx.length cx (iv, s2) iv [] (Nat.le_refl _) ⟨rfl, hiv⟩ (by simp)
  rw [fullBlocks_whole_rest _ cx hcx, List.append_nil, List.append_nil] at hR
  exact ⟨hL.1, hL.2, hR.1, hR.2.2.1⟩

/-- `beltCBCStepE` undoes `beltCBCStepD` (same chaining block at the start), every admissible length -/
theorem cbcE_cbcD (f g : Bytes → Bytes) (hlen : ∀ x, x.length = 16 → (g x).length = 16)
    (hfg : ∀ x, x.length = 16 → f (g x) = x) (iv s2 buf : Bytes) (hiv : iv.length = 16)
    (h16 : 16 ≤ buf.length) : (cbcE f iv (cbcD g (iv, s2) buf).2).2 = buf := by
  by_cases hr : buf.length % 16 = 0
  · obtain ⟨h1, h2, h3, h4⟩ := cbc_whole' f g hlen hfg buf hr iv s2 hiv
    rw [cbcD_whole g _ buf hr]
    simp only
    rw [cbcE_whole f iv _ (by rw [h1]; exact hr)]
    exact h3
  · obtain ⟨cx, y, t, rfl, hcx, hy, ht0, ht⟩ := ragged_decomp buf h16 hr
    obtain ⟨h1, h2, h3, h4⟩ := cbc_whole' f g hlen hfg cx hcx iv s2 hiv
    have hgy := hlen y hy
    have hb1 : (t ++ (g y).drop t.length).length = 16 := by
      simp only [List.length_append, List.length_drop]; omega
    have hgb1 := hlen _ hb1
    have hb2 : (xorb (g (t ++ (g y).drop t.length)) (fullBlocks 16 (cbcDB g) (iv, s2) cx).1.1).length = 16 := by
      rw [length_xorb]; omega
    have htk : ((g y).take t.length).length = t.length := by simp only [List.length_take]; omega
    have ht2 : (xorb ((g y).take t.length) ((t ++ (g y).drop t.length).take t.length)).length = t.length := by
      rw [List.take_left' rfl, length_xorb]; omega
    rw [cbcD_ragged g (iv, s2) cx y t hcx hy ht0 ht]
    simp only
    rw [cbcE_ragged f iv _ _ _ (t ++ (g y).drop t.length) (by rw [h1]; exact hcx) hb2 (by omega) (by omega)
      (by rw [h4, xorb_cancel_mid _ _ (by omega), hfg _ hb1]) hb1]
    simp only [ht2, h3]
    rw [List.take_left' rfl, List.drop_left' rfl, xorb_xorb_cancel _ _ (by omega), List.take_append_drop,
      hfg y hy]

theorem length_cbcD (g : Bytes → Bytes) (hlen : ∀ x, x.length = 16 → (g x).length = 16)
    (s : Bytes × Bytes) (buf : Bytes) (hs : s.1.length = 16) (h16 : 16 ≤ buf.length) :
    (cbcD g s buf).2.length = buf.length := by
  by_cases hr : buf.length % 16 = 0
  · rw [cbcD_whole g s buf hr]
    exact (cbcD_loop_len g hlen buf hr s hs).1
  · obtain ⟨cx, y, t, rfl, hcx, hy, ht0, ht⟩ := ragged_decomp buf h16 hr
    obtain ⟨h1, h2⟩ := cbcD_loop_len g hlen cx hcx s hs
    have hgy := hlen y hy
    have hb1 : (t ++ (g y).drop t.length).length = 16 := by
      simp only [List.length_append, List.length_drop]; omega
    have hgb1 := hlen _ hb1
    rw [cbcD_ragged g s cx y t hcx hy ht0 ht]
    simp only [List.length_append, length_xorb, List.length_take, List.length_drop, h1, h2, hgb1, hgy, hy]
    omega

end Bee2V.C01
