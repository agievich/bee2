/-
A few rows of the beltFMTCalcB table, kernel-checked in seconds.  props/C01.py builds this module first: if the
constants regenerated from belt_fmt.c no longer give the exact block count on these rows, the check reports the
proofs as broken without first rebuilding Lemmas/FmtRows.lean.
-/
import Bee2V.C01.Lemmas.FmtTable
namespace Bee2V.C01

def fmtCanaryRows : List Nat :=
  [2, 3, 7, 10, 58, 255, 256, 257, 1000, 4093, 10007, 16385, 30011, 39264, 49667, 65521, 65535, 65536]

theorem fmtCanary : (fmtCanaryRows.all fun m => checkMods 1 m) = true := by decide +kernel

end Bee2V.C01
