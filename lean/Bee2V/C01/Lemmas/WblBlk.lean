/-
C01: the buffer of `beltWBLStepEOpt` / `beltWBLStepDOpt` as a ring of 16-octet blocks.  An aligned buffer is `bs.flatten`;
at a block boundary `getBlk` / `putAt` / `xorAt` are `getElem` / `set` on `bs`, `xorBlocksFrom` is a fold of `xorb`, and
`rotB bs k`, the ring read from block `k`, is the buffer of the Base edition after the same rounds.  `rotB_step` is the one
fact about the ring; each Opt round is one equation at a variable block index and simulates the Base round on `rotB`.
-/
import Bee2V.C01.Lemmas.Wbl
namespace Bee2V.C01.Wbl

def Blks (bs : List Bytes) : Prop := ∀ b ∈ bs, b.length = 16

theorem Blks.nil : Blks [] := by intro b h; cases h
theorem Blks.cons {B : Bytes} {bs : List Bytes} (hB : B.length = 16) (h : Blks bs) : Blks (B :: bs) := by
  intro b hb; cases hb with
  | head => exact hB
  | tail _ hb => exact h b hb
theorem Blks.append {as bs : List Bytes} (ha : Blks as) (hb : Blks bs) : Blks (as ++ bs) := by
  intro b h; rcases List.mem_append.1 h with h | h
  · exact ha b h
  · exact hb b h
theorem Blks.of_append {as bs : List Bytes} (h : Blks (as ++ bs)) : Blks as ∧ Blks bs :=
  ⟨fun b hb => h b (List.mem_append_left _ hb), fun b hb => h b (List.mem_append_right _ hb)⟩
theorem Blks.of_cons {B : Bytes} {bs : List Bytes} (h : Blks (B :: bs)) : B.length = 16 ∧ Blks bs :=
  ⟨h B (List.mem_cons_self ..), fun b hb => h b (List.mem_cons_of_mem _ hb)⟩

theorem length_flatten {bs : List Bytes} (h : Blks bs) : bs.flatten.length = 16 * bs.length := by
  induction bs with
  | nil => rfl
  | cons B bs ih =>
    rw [List.flatten_cons, List.length_append, ih h.of_cons.2, h.of_cons.1, List.length_cons]; omega

theorem exists_blks : ∀ (n : Nat) (b : Bytes), b.length = 16 * n → ∃ bs, Blks bs ∧ bs.length = n ∧ b = bs.flatten := by
  intro n
  induction n with
  | zero => intro b h; exact ⟨[], Blks.nil, rfl, List.eq_nil_of_length_eq_zero h⟩
  | succ n ih =>
    intro b h
    obtain ⟨bs, h1, h2, h3⟩ := ih (b.drop 16) (by simp; omega)
    refine ⟨b.take 16 :: bs, Blks.cons (by simp; omega) h1, by simp [h2], ?_⟩
    rw [List.flatten_cons, ← h3, List.take_append_drop]

theorem getBlk_blk (P Z : List Bytes) (B : Bytes) (hP : Blks P) (hB : B.length = 16) :
    getBlk (P ++ B :: Z).flatten (16 * P.length) = B := by
  rw [List.flatten_append, List.flatten_cons]
  exact getBlk_append _ _ _ _ (length_flatten hP).symm hB

theorem putAt_blk (P Z : List Bytes) (B x : Bytes) (hP : Blks P) (hB : B.length = 16) (hx : x.length = 16) :
    putAt (P ++ B :: Z).flatten (16 * P.length) x = (P ++ x :: Z).flatten := by
  simp only [List.flatten_append, List.flatten_cons]
  exact putAt_append _ _ _ _ _ (length_flatten hP).symm (by omega)

theorem split_at (bs : List Bytes) (k : Nat) (hk : k < bs.length) :
    bs = bs.take k ++ bs[k] :: bs.drop (k + 1) ∧ (bs.take k).length = k := by
  refine ⟨?_, by rw [List.length_take]; omega⟩
  rw [← List.drop_eq_getElem_cons hk, List.take_append_drop]

theorem Blks.take {bs : List Bytes} (h : Blks bs) (k : Nat) : Blks (bs.take k) :=
  fun b hb => h b (List.mem_of_mem_take hb)

theorem Blks.get {bs : List Bytes} (h : Blks bs) (k : Nat) (hk : k < bs.length) : bs[k].length = 16 :=
  h _ (List.getElem_mem hk)

theorem Blks.set {bs : List Bytes} (h : Blks bs) (k : Nat) (x : Bytes) (hx : x.length = 16) : Blks (bs.set k x) := by
  intro b hb
  rcases List.mem_or_eq_of_mem_set hb with hb | rfl
  · exact h b hb
  · exact hx

theorem getBlk_flatten {bs : List Bytes} (h : Blks bs) (k : Nat) (hk : k < bs.length) :
    getBlk bs.flatten (16 * k) = bs[k] := by
  obtain ⟨e, el⟩ := split_at bs k hk
  have := getBlk_blk (bs.take k) (bs.drop (k + 1)) bs[k] (h.take k) (h.get k hk)
  rwa [← e, el] at this

theorem putAt_flatten {bs : List Bytes} (h : Blks bs) (k : Nat) (hk : k < bs.length) (x : Bytes)
    (hx : x.length = 16) : putAt bs.flatten (16 * k) x = (bs.set k x).flatten := by
  obtain ⟨e, el⟩ := split_at bs k hk
  have := putAt_blk (bs.take k) (bs.drop (k + 1)) bs[k] x (h.take k) (h.get k hk) hx
  rw [← e, el] at this
  rw [this, List.set_eq_take_append_cons_drop, if_pos hk]

theorem xorAt_flatten {bs : List Bytes} (h : Blks bs) (k : Nat) (hk : k < bs.length) (x : Bytes)
    (hx : x.length = 16) : xorAt bs.flatten (16 * k) x = (bs.set k (xorb bs[k] x)).flatten := by
  unfold xorAt
  rw [getBlk_flatten h k hk, putAt_flatten h k hk _ (length_xorb16 _ _ (h.get k hk) hx)]

def xsum (acc : Bytes) (bs : List Bytes) : Bytes := bs.foldl xorb acc

theorem xbf_blk (stop : Nat) (Z : Bytes) (hZ : Z.length = stop) : ∀ (M P : List Bytes) (f : Nat) (acc : Bytes),
    Blks P → Blks M → M.length ≤ f →
    (xorBlocksFrom ((P ++ M).flatten ++ Z) stop f (16 * P.length) acc).1 = xsum acc M := by
  intro M
  induction M with
  | nil =>
    intro P f acc hP _ _
    rw [xbf_stop _ _ _ _ _ (by simp [length_flatten hP, hZ])]; rfl
  | cons B M ih =>
    intro P f acc hP hM hf
    obtain ⟨f, rfl⟩ : ∃ g, f = g + 1 := ⟨f - 1, by simp at hf; omega⟩
    have hl := length_flatten (hP.append hM)
    have hg : getBlk ((P ++ B :: M).flatten ++ Z) (16 * P.length) = B := by
      rw [List.flatten_append, List.flatten_cons, List.append_assoc, List.append_assoc]
      exact getBlk_append _ _ _ _ (length_flatten hP).symm hM.of_cons.1
    rw [xbf_succ _ _ _ _ _ (by rw [List.length_append, hl, hZ, List.length_append, List.length_cons]; omega), hg]
    have := ih (P ++ [B]) f (xorb acc B) (hP.append (Blks.cons hM.of_cons.1 Blks.nil)) hM.of_cons.2
      (by simp at hf; omega)
    simp only [List.append_assoc, List.singleton_append, List.length_append, List.length_singleton,
      Nat.mul_add] at this
    exact this

theorem length_xsum : ∀ (M : List Bytes) (acc : Bytes), Blks M → acc.length = 16 → (xsum acc M).length = 16 := by
  intro M
  induction M with
  | nil => intro acc _ h; exact h
  | cons B M ih => intro acc hM h; exact ih _ hM.of_cons.2 (length_xorb16 _ _ h hM.of_cons.1)

theorem xsum_xorb : ∀ (M : List Bytes) (a z : Bytes), xsum (xorb a z) M = xorb (xsum a M) z := by
  intro M
  induction M with
  | nil => intro a z; rfl
  | cons B M ih => intro a z; show xsum (xorb (xorb a z) B) M = _; rw [xorb_right_comm, ih]; rfl

theorem xsum_acc (M : List Bytes) (a : Bytes) (ha : a.length = 16) : xsum a M = xorb a (xsum (zeros 16) M) := by
  have := xsum_xorb M (zeros 16) a
  rw [zeros_xorb a 16 (by omega)] at this
  rw [this, xorb_comm]

theorem xsum_cons0 (B : Bytes) (M : List Bytes) (hB : B.length = 16) : xsum (zeros 16) (B :: M) = xsum B M := by
  show xsum (xorb (zeros 16) B) M = _; rw [zeros_xorb B 16 (by omega)]

def rotB (bs : List Bytes) (k : Nat) : List Bytes := bs.drop k ++ bs.take k

theorem Blks.rotB {bs : List Bytes} (h : Blks bs) (k : Nat) : Blks (rotB bs k) :=
  Blks.append (fun b hb => h b (List.mem_of_mem_drop hb)) (h.take k)

theorem rotB_zero (bs : List Bytes) : rotB bs 0 = bs := by simp [rotB]

theorem rotB_append (X S : List Bytes) (i : Nat) (hi : i = X.length) : rotB (X ++ S) i = S ++ X := by
  subst hi; simp [rotB]

/-- The only place where `k = 0` and `k > 0` (and the wrap of `k + 1`) are told apart. -/
theorem rotB_step (bs : List Bytes) (k : Nat) (hk : k < bs.length) (hn : 2 ≤ bs.length) :
    ∃ (H T : Bytes) (M : List Bytes) (j : Nat) (hj : j < bs.length),
      rotB bs k = H :: M ++ [T] ∧ j = (k + (bs.length - 1)) % bs.length ∧ j ≠ k ∧ bs[k] = H ∧ bs[j] = T ∧
      ∀ x y, rotB ((bs.set j x).set k y) ((k + 1) % bs.length) = M ++ [x, y] ∧
        rotB ((bs.set j x).set k y) k = y :: M ++ [x] := by
  cases k with
  | zero =>
    obtain ⟨H, rest, rfl⟩ := List.exists_cons_of_ne_nil (List.ne_nil_of_length_pos hk)
    rcases List.eq_nil_or_concat rest with rfl | ⟨M, T, rfl⟩
    · simp at hn
    · have hl : (H :: M.concat T).length = M.length + 1 + 1 := by simp
      refine ⟨H, T, M, M.length + 1, by rw [hl]; exact Nat.lt_succ_self _, by simp [rotB], ?_,
        Nat.succ_ne_zero _, rfl, by simp, ?_⟩
      · rw [hl, Nat.zero_add]; exact (Nat.mod_eq_of_lt (Nat.lt_succ_self _)).symm
      · intro x y
        rw [hl, Nat.mod_eq_of_lt (by omega)]
        simp [rotB]
  | succ k =>
    obtain ⟨e, el⟩ := split_at bs k (Nat.lt_of_succ_lt hk)
    rw [List.drop_eq_getElem_cons hk] at e
    generalize hT : bs[k]'(Nat.lt_of_succ_lt hk) = T at e
    generalize hH : bs[k + 1] = H at e
    generalize bs.take k = P at e el
    generalize bs.drop (k + 1 + 1) = S at e
    subst e el
    have hl : (P ++ T :: H :: S).length = P.length + (S.length + 1 + 1) := by simp
    refine ⟨H, T, S ++ P, P.length, by rw [hl]; omega, ?_, ?_, Nat.ne_of_lt (Nat.lt_succ_self _), rfl, by simp, ?_⟩
    · have := rotB_append (P ++ [T]) (H :: S) (P.length + 1) (by simp)
      simpa using this
    · rw [hl, show P.length + 1 + (P.length + (S.length + 1 + 1) - 1) = P.length + (P.length + (S.length + 1 + 1)) by omega,
        Nat.add_mod_right, Nat.mod_eq_of_lt (by omega)]
    · intro x y
      have hset : ((P ++ T :: H :: S).set P.length x).set (P.length + 1) y = P ++ x :: y :: S := by simp
      rw [hset, hl]
      refine ⟨?_, by have := rotB_append (P ++ [x]) (y :: S) (P.length + 1) (by simp); simpa using this⟩
      cases S with
      | nil =>
        rw [List.length_nil, Nat.add_assoc, Nat.mod_self]; simp [rotB]
      | cons s S =>
        rw [Nat.mod_eq_of_lt (by simp only [List.length_cons]; omega),
          show P ++ x :: y :: s :: S = (P ++ [x, y]) ++ s :: S by simp, rotB_append _ _ _ (by simp)]
        simp

theorem pred_mod (k n : Nat) (hk : k < n) : (k + (n - 1)) % n = if k = 0 then n - 1 else k - 1 := by
  split
  · subst k; rw [Nat.zero_add]; exact Nat.mod_eq_of_lt (by omega)
  · rw [show k + (n - 1) = k - 1 + n by omega, Nat.add_mod_right]; exact Nat.mod_eq_of_lt (by omega)

/-- `rotB_step` at `k` and at its predecessor `j`, for the three blocks a D round touches -/
theorem rotB_stepD (bs : List Bytes) (k : Nat) (hk : k < bs.length) (hn : 3 ≤ bs.length) :
    ∃ (S T Q : Bytes) (M : List Bytes) (j q : Nat) (hj : j < bs.length) (hq : q < bs.length),
      j = (k + (bs.length - 1)) % bs.length ∧ q = (j + (bs.length - 1)) % bs.length ∧ j ≠ k ∧ j ≠ q ∧ k ≠ q ∧
      (j + 1) % bs.length = k ∧ bs[k] = S ∧ bs[j] = T ∧ bs[q] = Q ∧
      rotB bs ((k + 1) % bs.length) = M ++ [Q, T, S] ∧
      ∀ x y, rotB ((bs.set j x).set k y) k = y :: M ++ [Q, x] := by
  obtain ⟨S, T, M1, j, hj, e1, hjk, hne, eS, eT, st1⟩ := rotB_step bs k hk (by omega)
  obtain ⟨T', Q, M2, q, hq, e2, hqj, hne2, eT', eQ, st2⟩ := rotB_step bs j hj (by omega)
  have hj1 : (j + 1) % bs.length = k := by
    rw [hjk, Nat.mod_add_mod, Nat.add_assoc, show bs.length - 1 + 1 = bs.length by omega, Nat.add_mod_right,
      Nat.mod_eq_of_lt hk]
  have hkq : k ≠ q := by
    have hjv := pred_mod k bs.length hk
    have hqv := pred_mod j bs.length hj
    rw [← hjk] at hjv; rw [← hqj] at hqv
    split at hjv <;> split at hqv <;> omega
  -- the two views of `bs` from `k` agree
  have v2 := (st2 bs[q] bs[j]).1
  rw [List.set_getElem_self, List.set_getElem_self, hj1, e1, eQ, eT'] at v2
  have hM : S :: M1 = M2 ++ [Q] := by
    have : (S :: M1) ++ [T] = (M2 ++ [Q]) ++ [T'] := by simpa using v2
    exact (List.append_inj' this rfl).1
  have hl : (rotB bs j).length = bs.length := by simp [rotB]; omega
  rw [e2] at hl
  obtain ⟨S', M, rfl⟩ : ∃ S' M, M2 = S' :: M := by
    cases M2 with
    | nil => simp at hl; omega
    | cons a b => exact ⟨a, b, rfl⟩
  obtain ⟨rfl, rfl⟩ : S = S' ∧ M1 = M ++ [Q] := by simpa using hM
  refine ⟨S, T, Q, M, j, q, hj, hq, hjk, hqj, hne, fun h => hne2 h.symm, hkq, hj1, eS, eT, eQ, ?_, ?_⟩
  · have := (st1 bs[j] bs[k]).1
    rw [List.set_getElem_self, List.set_getElem_self, eT, eS] at this
    simpa using this
  · intro x y; simpa using (st1 x y).2

theorem roundEOpt_blk (C : Cipher) (hlen : ∀ k x, x.length = 16 → (C.enc k x).length = 16) (key : Bytes)
    {bs : List Bytes} (h : Blks bs) (sum : Bytes) (hsum : sum.length = 16) (k j r : Nat)
    (hk : k < bs.length) (hj : j < bs.length) (hjk : j = (k + (bs.length - 1)) % bs.length) (hne : j ≠ k) :
    wblRoundEOpt C key (bs.flatten, sum, 16 * k, r) =
      (((bs.set j (xorb bs[j] (encRound C key sum (r + 1)))).set k sum).flatten,
        xorb (xorb sum (xorb bs[j] (encRound C key sum (r + 1)))) bs[k],
        16 * ((k + 1) % bs.length), r + 1) := by
  have ej : (16 * k + 16 * bs.length - 16) % (16 * bs.length) = 16 * j := by
    rw [hjk, ← Nat.mul_mod_mul_left]; congr 1; omega
  have ek : (16 * k + 16) % (16 * bs.length) = 16 * ((k + 1) % bs.length) := by
    rw [← Nat.mul_mod_mul_left]; rfl
  have he := length_encRound C hlen key sum (r + 1) hsum
  simp only [wblRoundEOpt, length_flatten h, ej, ek]
  generalize encRound C key sum (r + 1) = blk at *
  have h1 := h.set j _ (length_xorb16 _ _ (h.get j hj) he)
  have hk1 : k < (bs.set j (xorb bs[j] blk)).length := by rw [List.length_set]; exact hk
  rw [xorAt_flatten h j hj blk he, getBlk_flatten h1 k hk1, putAt_flatten h1 k hk1 sum hsum,
    getBlk_flatten h1 j (by rw [List.length_set]; exact hj), List.getElem_set_self, List.getElem_set_ne hne]

theorem xs_blk (N : List Bytes) (T : Bytes) (hN : N ≠ []) (h : Blks (N ++ [T])) :
    xs (N ++ [T]).flatten = xsum (zeros 16) N := by
  obtain ⟨H, N', rfl⟩ := List.exists_cons_of_ne_nil hN
  have hH := (Blks.of_append h).1.of_cons.1
  have hT := (Blks.of_append h).2.of_cons.1
  have := xbf_blk 16 T hT N' [H] (H :: N' ++ [T]).flatten.length H (Blks.cons hH Blks.nil)
    (Blks.of_append h).1.of_cons.2 (by rw [length_flatten h]; simp; omega)
  rw [xsum_cons0 H N' hH]
  unfold xs
  simp only [List.flatten_cons, List.flatten_append, List.flatten_nil, List.append_nil,
    List.length_singleton, Nat.mul_one, List.append_assoc, List.cons_append] at this ⊢
  rw [List.take_left' hH]; exact this

theorem roundEBase_blk (C : Cipher) (hlen : ∀ k x, x.length = 16 → (C.enc k x).length = 16) (key : Bytes)
    (H T : Bytes) (M : List Bytes) (h : Blks (H :: M ++ [T])) (r : Nat) :
    wblRoundEBase C key (H :: M ++ [T]).flatten r =
      ((M ++ [xorb T (encRound C key (xsum (zeros 16) (H :: M)) (r + 1)), xsum (zeros 16) (H :: M)]).flatten,
        r + 1) := by
  have hH := (Blks.of_append h).1.of_cons.1
  have hM := (Blks.of_append h).1.of_cons.2
  have hT := (Blks.of_append h).2.of_cons.1
  have := roundE_form C hlen key H M.flatten T hH hT r
  have hx := xbf_blk 16 T hT M [H] (32 + M.flatten.length) H (Blks.cons hH Blks.nil) hM
    (by rw [length_flatten hM]; omega)
  simp only [List.flatten_cons, List.flatten_append, List.flatten_nil, List.append_nil,
    List.length_singleton, Nat.mul_one, List.append_assoc, List.cons_append, List.nil_append] at this hx ⊢
  rw [this, hx, xsum_cons0 H M hH]

/-- one Opt round simulates one Base round on the rotated buffer -/
theorem simE_blk (C : Cipher) (hlen : ∀ k x, x.length = 16 → (C.enc k x).length = 16) (key : Bytes)
    {bs : List Bytes} (h : Blks bs) (hn : 2 ≤ bs.length) (k r : Nat) (hk : k < bs.length) :
    ∃ bs', Blks bs' ∧ bs'.length = bs.length ∧
      wblRoundEOpt C key (bs.flatten, xs (rotB bs k).flatten, 16 * k, r)
        = (bs'.flatten, xs (rotB bs' ((k + 1) % bs.length)).flatten, 16 * ((k + 1) % bs.length), r + 1) ∧
      wblRoundEBase C key (rotB bs k).flatten r = ((rotB bs' ((k + 1) % bs.length)).flatten, r + 1) := by
  obtain ⟨H, T, M, j, hj, erot, hjk, hne, eH, eT, hstep⟩ := rotB_step bs k hk hn
  have hL : Blks ((H :: M) ++ [T]) := erot ▸ h.rotB k
  have hH := (Blks.of_append hL).1.of_cons.1
  have hM := (Blks.of_append hL).1.of_cons.2
  have hT := (Blks.of_append hL).2.of_cons.1
  have hA := length_xsum M (zeros 16) hM (length_zeros 16)
  have hs := length_xsum _ (zeros 16) (Blks.of_append hL).1 (length_zeros 16)
  have he := length_encRound C hlen key _ (r + 1) hs
  have hT' := length_xorb16 T _ hT he
  rw [erot, xs_blk _ T (List.cons_ne_nil _ _) hL, roundEBase_blk C hlen key H T M hL r,
    roundEOpt_blk C hlen key h _ hs k j r hk hj hjk hne, eH, eT]
  refine ⟨_, (h.set j _ hT').set k _ hs, by simp, ?_, by rw [(hstep _ _).1]⟩
  -- the new sum: `r2 + … + r*'` = old sum + `r*'` + `r1`
  have e' : ∀ x y : Bytes, M ++ [x, y] = (M ++ [x]) ++ [y] := by simp
  rw [(hstep _ _).1, e', xs_blk _ _ (by simp) (by rw [← e']; exact hM.append (Blks.cons hT' (Blks.cons hs Blks.nil)))]
  have hsum : ∀ x : Bytes, xsum (zeros 16) (M ++ [x]) = xorb (xsum (zeros 16) M) x := by
    intro x; simp [xsum, List.foldl_append]
  rw [hsum, xsum_cons0 H M hH, xsum_acc M H hH]
  congr 2
  rw [xorb_right_comm, xorb_comm H, xorb_xorb_cancel _ H (by omega)]

theorem roundDOpt_blk (C : Cipher) (hlen : ∀ k x, x.length = 16 → (C.enc k x).length = 16) (key : Bytes)
    {bs : List Bytes} (h : Blks bs) (sum : Bytes) (hsum : sum.length = 16) (k j q round : Nat)
    (hk : k < bs.length) (hj : j < bs.length) (hq : q < bs.length)
    (hjk : j = (k + (bs.length - 1)) % bs.length) (hqp : q = (j + (bs.length - 1)) % bs.length)
    (hne : j ≠ k) (hqj : j ≠ q) (hqk' : k ≠ q) :
    wblRoundDOpt C key (bs.flatten, sum, 16 * k) round =
      (((bs.set j (xorb bs[j] (encRound C key bs[k] round))).set k (xorb bs[k] sum)).flatten,
        xorb (xorb sum bs[q]) (xorb bs[k] sum), 16 * j) := by
  have ej : (16 * k + 16 * bs.length - 16) % (16 * bs.length) = 16 * j := by
    rw [hjk, ← Nat.mul_mod_mul_left]; congr 1; omega
  have eq : (16 * k + 16 * bs.length - 32) % (16 * bs.length) = 16 * q := by
    rw [hqp, hjk, Nat.mod_add_mod, ← Nat.mul_mod_mul_left,
      show 16 * (k + (bs.length - 1) + (bs.length - 1)) = 16 * k + 16 * bs.length - 32 + 16 * bs.length by omega,
      Nat.add_mod_right]
  have he := length_encRound C hlen key bs[k] round (h.get k hk)
  simp only [wblRoundDOpt, length_flatten h, ej, eq, getBlk_flatten h k hk]
  generalize encRound C key bs[k] round = blk at *
  have h1 := h.set j _ (length_xorb16 _ _ (h.get j hj) he)
  have hk1 : k < (bs.set j (xorb bs[j] blk)).length := by rw [List.length_set]; exact hk
  have h2 := h1.set k (xorb (bs.set j (xorb bs[j] blk))[k] sum) (length_xorb16 _ _ (h1.get k hk1) hsum)
  rw [xorAt_flatten h j hj blk he, xorAt_flatten h1 k hk1 sum hsum,
    getBlk_flatten h2 q (by simp only [List.length_set]; exact hq),
    getBlk_flatten h2 k (by simp only [List.length_set]; exact hk)]
  simp only [List.getElem_set_self, List.getElem_set_ne hne, List.getElem_set_ne hqj, List.getElem_set_ne hqk']

theorem xs2_blk (N : List Bytes) (T S : Bytes) (hN : N ≠ []) (h : Blks (N ++ [T, S])) :
    xs2 (N ++ [T, S]).flatten = xsum (zeros 16) N := by
  obtain ⟨H, N', rfl⟩ := List.exists_cons_of_ne_nil hN
  have hH := (Blks.of_append h).1.of_cons.1
  have hN' := (Blks.of_append h).1.of_cons.2
  have hT := (Blks.of_append h).2.of_cons.1
  have hS := (Blks.of_append h).2.of_cons.2.of_cons.1
  have := xbf_blk 32 (T ++ S) (by simp [hT, hS]) N' [H] (H :: N' ++ [T, S]).flatten.length H
    (Blks.cons hH Blks.nil) hN' (by rw [length_flatten h]; simp; omega)
  rw [xsum_cons0 H N' hH]
  unfold xs2
  simp only [List.flatten_cons, List.flatten_append, List.flatten_nil, List.append_nil,
    List.length_singleton, Nat.mul_one, List.append_assoc, List.cons_append] at this ⊢
  rw [List.take_left' hH]; exact this

theorem roundDBase_blk (C : Cipher) (hlen : ∀ k x, x.length = 16 → (C.enc k x).length = 16) (key : Bytes)
    (N : List Bytes) (T S : Bytes) (h : Blks (N ++ [T, S])) (round : Nat) :
    wblRoundDBase C key (N ++ [T, S]).flatten round =
      (xsum S N :: N ++ [xorb T (encRound C key S round)]).flatten := by
  have hN := (Blks.of_append h).1
  have hT := (Blks.of_append h).2.of_cons.1
  have hS := (Blks.of_append h).2.of_cons.2.of_cons.1
  have he := length_encRound C hlen key S round hS
  have := roundD_form C hlen key N.flatten T S hT hS round
  have hx := xbf_blk 16 (xorb T (encRound C key S round)) (length_xorb16 _ _ hT he) N [S]
    (32 + N.flatten.length) S (Blks.cons hS Blks.nil) hN (by rw [length_flatten hN]; omega)
  simp only [List.flatten_cons, List.flatten_append, List.flatten_nil, List.append_nil,
    List.length_singleton, Nat.mul_one, List.append_assoc, List.cons_append, List.nil_append] at this hx ⊢
  rw [this, hx]

theorem simD_blk (C : Cipher) (hlen : ∀ k x, x.length = 16 → (C.enc k x).length = 16) (key : Bytes)
    {bs : List Bytes} (h : Blks bs) (hn : 3 ≤ bs.length) (k round : Nat) (hk : k < bs.length) :
    ∃ bs' j, Blks bs' ∧ bs'.length = bs.length ∧ j = (k + (bs.length - 1)) % bs.length ∧ (j + 1) % bs.length = k ∧
      wblRoundDOpt C key (bs.flatten, xs2 (rotB bs ((k + 1) % bs.length)).flatten, 16 * k) round
        = (bs'.flatten, xs2 (rotB bs' k).flatten, 16 * j) ∧
      wblRoundDBase C key (rotB bs ((k + 1) % bs.length)).flatten round = (rotB bs' k).flatten := by
  obtain ⟨S, T, Q, M, j, q, hj, hq, hjk, hqk, hne, hjq, hkq, hj1, eS, eT, eQ, erot, hstep⟩ := rotB_stepD bs k hk hn
  have eL : M ++ [Q, T, S] = (M ++ [Q]) ++ [T, S] := by simp
  have hL : Blks ((M ++ [Q]) ++ [T, S]) := by rw [← eL, ← erot]; exact h.rotB _
  have hN := (Blks.of_append hL).1
  have hM := (Blks.of_append hN).1
  have hQ := (Blks.of_append hN).2.of_cons.1
  have hT := (Blks.of_append hL).2.of_cons.1
  have hS := (Blks.of_append hL).2.of_cons.2.of_cons.1
  have hA := length_xsum M (zeros 16) hM (length_zeros 16)
  have hsum : xsum (zeros 16) (M ++ [Q]) = xorb (xsum (zeros 16) M) Q := by simp [xsum, List.foldl_append]
  have hs := length_xsum _ (zeros 16) hN (length_zeros 16)
  have he := length_encRound C hlen key S round hS
  have hT' := length_xorb16 T _ hT he
  have hN1 := length_xorb16 S _ hS hs
  rw [erot, eL, xs2_blk _ T S (by simp) hL, roundDBase_blk C hlen key _ T S hL round,
    roundDOpt_blk C hlen key h _ hs k j q round hk hj hq hjk hqk hne hjq hkq, eS, eT, eQ, xsum_acc _ S hS]
  refine ⟨_, j, (h.set j _ hT').set k _ hN1, by simp, hjk, hj1, ?_, by rw [hstep]; simp⟩
  rw [hstep]
  have hL' : Blks ((xorb S (xsum (zeros 16) (M ++ [Q])) :: M) ++ [Q, xorb T (encRound C key S round)]) :=
    (Blks.cons hN1 hM).append (Blks.cons hQ (Blks.cons hT' Blks.nil))
  have e' : xorb S (xsum (zeros 16) (M ++ [Q])) :: M ++ [Q, xorb T (encRound C key S round)]
      = (xorb S (xsum (zeros 16) (M ++ [Q])) :: M) ++ [Q, xorb T (encRound C key S round)] := by simp
  rw [e', xs2_blk _ _ _ (by simp) hL', xsum_cons0 _ M hN1, xsum_acc M _ hN1, hsum,
    xorb_xorb_cancel _ Q (by omega)]
  congr 2; exact xorb_comm _ _

theorem iterDOpt_blk (C : Cipher) (hlen : ∀ k x, x.length = 16 → (C.enc k x).length = 16) (key : Bytes)
    (m : Nat) (hm : 3 ≤ m) : ∀ (n : Nat) (bs : List Bytes) (k : Nat), Blks bs → bs.length = m → k = (n + (m - 1)) % m →
    (wblIterDOpt C key n (bs.flatten, xs2 (rotB bs ((k + 1) % m)).flatten, 16 * k)).1
      = wblIterD (wblRoundDBase C key) n (rotB bs ((k + 1) % m)).flatten := by
  intro n
  induction n with
  | zero =>
    intro bs k _ hl hk
    rw [Nat.zero_add, Nat.mod_eq_of_lt (by omega)] at hk
    rw [hk, show m - 1 + 1 = m by omega, Nat.mod_self]
    rw [rotB_zero]; rfl
  | succ n ih =>
    intro bs k h hl hk
    subst hl
    obtain ⟨bs', j, h', hl', hj, hj1, e1, e2⟩ := simD_blk C hlen key h hm k (n + 1) (by rw [hk]; exact Nat.mod_lt _ (by omega))
    have hjn : j = (n + (bs.length - 1)) % bs.length := by
      rw [hj, hk, Nat.mod_add_mod,
        show n + 1 + (bs.length - 1) + (bs.length - 1) = n + (bs.length - 1) + bs.length by omega, Nat.add_mod_right]
    simp only [wblIterDOpt, wblIterD]
    rw [e1, e2]
    have := ih bs' j h' hl' hjn
    rwa [hj1] at this

end Bee2V.C01.Wbl
