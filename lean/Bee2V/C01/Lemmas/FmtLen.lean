/-
C01 helper lemmas: the keyed half-round function of belt_fmt.c returns `8 (b + 1)` octets, hence at
least `count` u16 values, when the alphabet is 65536.  `FmtLenOk` of Lemmas/Fmt.lean quantifies over
ALL offsets into H / the IV image, where the two 4-octet tails may be short and the primitives are
outside their domain; `FmtLenOk'` (Lemmas/Fmt.lean) restricts to the offsets the rounds really use
(`off ≤ 20`), and that is what the state built by `beltFMTStart` satisfies.
-/
import Bee2V.C01.PropsFmt
import Bee2V.C01.PropsWbl
namespace Bee2V.C01.FmtLen
open Bee2V.Gen.C01

/-! ### lengths of the conversions -/

theorem length_u16To (s : List Nat) : (u16To s).length = 2 * s.length := by
  induction s with
  | nil => rfl
  | cons x xs ih => simp only [u16To, List.length_cons, ih]; omega

theorem length_u16From (b : Bytes) : (u16From b).length = b.length / 2 := by
  match b with
  | [] => rfl
  | [_] => simp [u16From]
  | b0 :: b1 :: rest =>
    simp only [u16From, List.length_cons, length_u16From rest]
    omega

theorem length_xorLow (b : Bytes) (c : UInt8) : (xorLow b c).length = b.length := by
  cases b <;> rfl

/-- `beltFMTCalcB(65536, n) = ceil(16 n / 64)`: no special case has the alphabet 65536 -/
theorem calcB_65536 (n : Nat) : calcB 65536 n = (16 * n + 63) / 64 := by
  simp [calcB, fmtSpecial, fmt65536]

theorem length_str2bin_65536 (b : Nat) (str : List Nat) (h : 2 * str.length ≤ 8 * b) :
    (str2bin b 65536 str).length = 8 * b := by
  simp only [str2bin, beq_self_eq_true, if_true, List.length_append, length_u16To, length_zeros]
  omega

theorem length_tailH (off : Nat) (h : off ≤ 20) : ((H.toList.drop off).take 4).length = 4 := by
  simp only [List.length_take, List.length_drop, length_H]; omega

theorem length_tailIv (iv24 : Bytes) (off : Nat) (hl : iv24.length = 24) (h : off ≤ 20) :
    ((iv24.drop off).take 4).length = 4 := by
  simp only [List.length_take, List.length_drop, hl]; omega

/-! ### belt-32block keeps 24 octets -/

theorem length_b32Encr (C : Cipher) (hlen : ∀ k x, x.length = 16 → (C.enc k x).length = 16)
    (key blk : Bytes) (h : blk.length = 24) : (b32Encr C key blk).length = 24 := by
  have h0 : (blk.take 8).length = 8 := by simp only [List.length_take]; omega
  have h1 : ((blk.drop 8).take 8).length = 8 := by simp only [List.length_take, List.length_drop]; omega
  have h2 : ((blk.drop 16).take 8).length = 8 := by simp only [List.length_take, List.length_drop]; omega
  simp only [b32Encr]
  generalize blk.take 8 = a0 at h0 ⊢
  generalize (blk.drop 8).take 8 = a1 at h1 ⊢
  generalize (blk.drop 16).take 8 = a2 at h2 ⊢
  have e1 : (C.enc key (a1 ++ a2)).length = 16 := hlen _ _ (by simp only [List.length_append]; omega)
  generalize C.enc key (a1 ++ a2) = E1 at e1 ⊢
  have e2 : (C.enc key (E1.drop 8 ++ xorb a0 (xorLow (E1.take 8) 1))).length = 16 :=
    hlen _ _ (by simp only [List.length_append, List.length_drop, length_xorb, length_xorLow, List.length_take]; omega)
  generalize C.enc key (E1.drop 8 ++ xorb a0 (xorLow (E1.take 8) 1)) = E2 at e2 ⊢
  have e3 : (C.enc key (E2.drop 8 ++ xorb (xorLow (E1.take 8) 1) (xorLow (E2.take 8) 2))).length = 16 :=
    hlen _ _ (by simp only [List.length_append, List.length_drop, length_xorb, length_xorLow, List.length_take]; omega)
  generalize C.enc key (E2.drop 8 ++ xorb (xorLow (E1.take 8) 1) (xorLow (E2.take 8) 2)) = E3 at e3 ⊢
  simp only [List.length_append, List.length_drop, length_xorb, length_xorLow, List.length_take]
  omega

/-! ### the keyed function -/

/-- the keyed function of a half-round keeps the `8 b + 8` octets of its buffer, whichever of the three
primitives (block, belt-32block, WBL) it selects; `mod = 65536`, offsets of the real rounds -/
theorem length_fmtF (C : Cipher) (hlen : ∀ k x, x.length = 16 → (C.enc k x).length = 16)
    (st : FmtSt) (hm : st.mod = 65536) (b : Nat) (str : List Nat) (off : Nat) (iv24 : Bytes)
    (hb1 : 1 ≤ b) (hs : 2 * str.length ≤ 8 * b) (hoff : off ≤ 20) (hiv : iv24.length = 24) :
    (fmtF C st b str off iv24).length = 8 * b + 8 := by
  have hbuf : (str2bin b st.mod str ++ (H.toList.drop off).take 4 ++ (iv24.drop off).take 4).length = 8 * b + 8 := by
    rw [List.length_append, List.length_append, hm, length_str2bin_65536 b str hs, length_tailH off hoff,
      length_tailIv iv24 off hiv hoff]
  simp only [fmtF]
  generalize str2bin b st.mod str ++ (H.toList.drop off).take 4 ++ (iv24.drop off).take 4 = buf at hbuf ⊢
  by_cases c1 : b = 1
  · subst c1
    simp only [beq_self_eq_true, if_true]
    exact hlen _ _ hbuf
  · have c1' : (b == 1) = false := by simpa using c1
    by_cases c2 : b = 2
    · subst c2
      simp only [c1', Bool.false_eq_true, if_false, beq_self_eq_true, if_true]
      exact length_b32Encr C hlen _ _ hbuf
    · have c2' : (b == 2) = false := by simpa using c2
      simp only [c1', c2', Bool.false_eq_true, if_false]
      rw [(wblStepD_wblStepE C hlen st.key buf (by omega)).2, hbuf]

/-! ### the state built by `beltFMTStart` -/

theorem length_fmtIv (st : FmtSt) (iv : Option Bytes) (hf : st.fmt.length = 4)
    (hiv : ∀ v, iv = some v → v.length = 16) : (fmtIv st iv).length = 24 := by
  cases iv with
  | none => simp only [fmtIv, List.length_append, hf, length_zeros]
  | some v => simp only [fmtIv, List.length_append, hf, hiv v rfl]

/-- the state built by `beltFMTStart(65536, count)` satisfies the length condition, for every word
length `count ≥ 2`, every key, every IV (NULL or 16 octets) -/
theorem fmtLenOk'_start (C : Cipher) (hlen : ∀ k x, x.length = 16 → (C.enc k x).length = 16)
    (count : Nat) (hc : 2 ≤ count) (key : Bytes) (iv : Option Bytes) (hiv : ∀ v, iv = some v → v.length = 16) :
    FmtLenOk' C (fmtStart 65536 count key) (fmtIv (fmtStart 65536 count key) iv) := by
  intro _ str off hoff
  have hl24 : (fmtIv (fmtStart 65536 count key) iv).length = 24 := length_fmtIv _ iv rfl hiv
  generalize fmtIv (fmtStart 65536 count key) iv = iv24 at hl24 ⊢
  have hmod : (fmtStart 65536 count key).mod = 65536 := rfl
  have hn1 : (fmtStart 65536 count key).n1 = (count + 1) / 2 := rfl
  have hn2 : (fmtStart 65536 count key).n2 = count / 2 := rfl
  have hb1 : (fmtStart 65536 count key).b1 = (16 * ((count + 1) / 2) + 63) / 64 := calcB_65536 _
  have hb2 : (fmtStart 65536 count key).b2 = (16 * (count / 2) + 63) / 64 := calcB_65536 _
  generalize fmtStart 65536 count key = st at hmod hn1 hn2 hb1 hb2 ⊢
  constructor
  · intro hs
    rw [length_u16From, length_fmtF C hlen st hmod st.b2 str off iv24 (by omega) (by omega) hoff hl24]
    omega
  · intro hs
    rw [length_u16From, length_fmtF C hlen st hmod st.b1 str off iv24 (by omega) (by omega) hoff hl24]
    omega

end Bee2V.C01.FmtLen
