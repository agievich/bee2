/-
Helper lemmas for PropsLcl.lean / PropsAead.lean / PropsStream.lean (Mathlib-free, also used by C10): carry chains of
belt_lcl.c; the key-stream step `ksStep` shared by `beltCTRStepE` and `beltCHEStepE` (`ksStep_eq`, `ksStep_append`); the tag
`polyTag` of which `dwpTag` and `cheTag` are instances; the buffer of the polynomial accumulator.
-/
import Bee2V.C01.Model.Aead
import Bee2V.C01.Lemmas.Block
import Bee2V.C01.Lemmas.Stream
import Bee2V.Base.Limb
/- all helper names live in the sub-namespace `Bee2V.C01.Aead` so that they cannot clash with the helper files of
the other mode proofs -/
namespace Bee2V.C01.Aead

protected theorem xorb_append (a1 a2 b1 b2 : Bytes) (h : a1.length = b1.length) :
    xorb (a1 ++ a2) (b1 ++ b2) = xorb a1 b1 ++ xorb a2 b2 := C01.xorb_append a1 a2 b1 b2 h

/-! ### u32 carry chain -/

theorem addc32_spec (x y : UInt32) :
    (addc32 x y).1.toNat + 2 ^ 32 * (addc32 x y).2.toNat = x.toNat + y.toNat ∧ (addc32 x y).2.toNat ≤ 1 := by
  have hx := x.toNat_lt; have hy := y.toNat_lt
  simp only [addc32]
  by_cases h : x + y < y
  · simp only [h, if_true]
    rw [UInt32.lt_iff_toNat_lt, UInt32.toNat_add] at h
    rw [UInt32.toNat_add]
    simp only [UInt32.toNat_one]
    omega
  · simp only [h, if_false]
    rw [UInt32.lt_iff_toNat_lt, UInt32.toNat_add] at h
    rw [UInt32.toNat_add]
    simp only [UInt32.toNat_zero]
    omega

/-- `if ((b += carry) < carry) b = tw; else carry = (b += tw) < tw;` is the carry limb of Base/Limb -/
theorem limb32_addc (b carry tw : UInt32) :
    Base.limb32 b carry tw = if b + carry < carry then (tw, carry) else addc32 (b + carry) tw := rfl

theorem addBitSizeU32_eq (b0 b1 b2 b3 : UInt32) (count : Nat) :
    addBitSizeU32 [b0, b1, b2, b3] count =
      let c := UInt32.ofNat count <<< 3
      let t := (count % 2 ^ 64) >>> 29
      let r0 := addc32 b0 c
      let r1 := Base.limb32 b1 r0.2 (UInt32.ofNat t)
      let r2 := Base.limb32 b2 r1.2 (UInt32.ofNat (t >>> 32))
      [r0.1, r1.1, r2.1, b3 + r2.2 + UInt32.ofNat (t >>> 32 >>> 32)] := by
  dsimp only [addBitSizeU32, limb32_addc]

theorem u32_ofNat_shl3 (count : Nat) : (UInt32.ofNat count <<< 3).toNat = (count * 8) % 2 ^ 32 := by
  rw [UInt32.toNat_shiftLeft, UInt32.toNat_ofNat']
  have h : (3 : UInt32).toNat % 32 = 3 := by decide
  rw [h, Nat.shiftLeft_eq]
  omega

theorem addBitSizeU32_val (b0 b1 b2 b3 : UInt32) (count : Nat) (hc : count < 2 ^ 64) :
    u32Val (addBitSizeU32 [b0, b1, b2, b3] count) = (u32Val [b0, b1, b2, b3] + 8 * count) % 2 ^ 128 := by
  rw [addBitSizeU32_eq]
  simp only [u32Val]
  have h0 := addc32_spec b0 (UInt32.ofNat count <<< 3)
  have h1 := Base.limb32_spec b1 (addc32 b0 (UInt32.ofNat count <<< 3)).2 (UInt32.ofNat ((count % 2 ^ 64) >>> 29)) h0.2
  have h2 := Base.limb32_spec b2 (Base.limb32 b1 (addc32 b0 (UInt32.ofNat count <<< 3)).2 (UInt32.ofNat ((count % 2 ^ 64) >>> 29))).2
    (UInt32.ofNat ((count % 2 ^ 64) >>> 29 >>> 32)) h1.2
  generalize addc32 b0 (UInt32.ofNat count <<< 3) = r0 at *
  generalize Base.limb32 b1 r0.2 (UInt32.ofNat ((count % 2 ^ 64) >>> 29)) = r1 at *
  generalize Base.limb32 b2 r1.2 (UInt32.ofNat ((count % 2 ^ 64) >>> 29 >>> 32)) = r2 at *
  rw [u32_ofNat_shl3] at h0
  simp only [UInt32.toNat_add, UInt32.toNat_ofNat', Nat.shiftRight_eq_div_pow] at *
  have := r0.1.toNat_lt; have := r1.1.toNat_lt; have := r2.1.toNat_lt
  have := b0.toNat_lt; have := b1.toNat_lt; have := b2.toNat_lt; have := b3.toNat_lt
  omega

theorem addBitSizeU32_small_eq (b0 b1 b2 b3 : UInt32) (count : Nat) :
    addBitSizeU32_small [b0, b1, b2, b3] count =
      let r0 := addc32 b0 (UInt32.ofNat (count % 2 ^ 16) <<< 3)
      let r1 := addc32 b1 r0.2
      let r2 := addc32 b2 r1.2
      [r0.1, r1.1, r2.1, b3 + r2.2] := by
  dsimp only [addBitSizeU32_small]

theorem addBitSizeU32_small_val (b0 b1 b2 b3 : UInt32) (count : Nat) (hc : count < 2 ^ 16) :
    u32Val (addBitSizeU32_small [b0, b1, b2, b3] count) = (u32Val [b0, b1, b2, b3] + 8 * count) % 2 ^ 128 := by
  rw [addBitSizeU32_small_eq]
  simp only [u32Val]
  have h0 := addc32_spec b0 (UInt32.ofNat (count % 2 ^ 16) <<< 3)
  have h1 := addc32_spec b1 (addc32 b0 (UInt32.ofNat (count % 2 ^ 16) <<< 3)).2
  have h2 := addc32_spec b2 (addc32 b1 (addc32 b0 (UInt32.ofNat (count % 2 ^ 16) <<< 3)).2).2
  generalize addc32 b0 (UInt32.ofNat (count % 2 ^ 16) <<< 3) = r0 at *
  generalize addc32 b1 r0.2 = r1 at *
  generalize addc32 b2 r1.2 = r2 at *
  rw [u32_ofNat_shl3] at h0
  simp only [UInt32.toNat_add] at *
  have := r0.1.toNat_lt; have := r1.1.toNat_lt; have := r2.1.toNat_lt
  have := b0.toNat_lt; have := b1.toNat_lt; have := b2.toNat_lt; have := b3.toNat_lt
  omega

theorem u32Val4_inj (a0 a1 a2 a3 c0 c1 c2 c3 : UInt32) (h : u32Val [a0, a1, a2, a3] = u32Val [c0, c1, c2, c3]) :
    [a0, a1, a2, a3] = [c0, c1, c2, c3] := by
  have := a0.toNat_lt; have := a1.toNat_lt; have := a2.toNat_lt; have := a3.toNat_lt
  have := c0.toNat_lt; have := c1.toNat_lt; have := c2.toNat_lt; have := c3.toNat_lt
  simp only [u32Val] at h
  have e0 : a0 = c0 := UInt32.toNat_inj.mp (by omega)
  have e1 : a1 = c1 := UInt32.toNat_inj.mp (by omega)
  have e2 : a2 = c2 := UInt32.toNat_inj.mp (by omega)
  have e3 : a3 = c3 := UInt32.toNat_inj.mp (by omega)
  rw [e0, e1, e2, e3]

/-! ### little-endian octet strings -/

theorem natLE_mod (n v : Nat) : natLE n (v % 256 ^ n) = natLE n v := natLE_eq ▸ Proto.natLE_mod n v

/-! ### beltHalfBlockAddBitSizeW -/

theorem addBitSizeW64_val (half : Bytes) (count : Nat) :
    leNat (addBitSizeW64 half count) = (leNat half + 8 * count) % 2 ^ 64 := by
  simp only [addBitSizeW64, leNat_natLE]
  omega

theorem leNat_split (b : Bytes) (k : Nat) : leNat b = leNat (b.take k) + 256 ^ (b.take k).length * leNat (b.drop k) := by
  rw [← leNat_append, List.take_append_drop]

theorem addBitSizeW32_val (half : Bytes) (count : Nat) (hl : half.length = 8) (hc : count < 2 ^ 64) :
    leNat (addBitSizeW32 half count) = (leNat half + 8 * count) % 2 ^ 64 := by
  have h0 := leNat_lt (half.take 4)
  have h1 := leNat_lt (half.drop 4)
  have hs := leNat_split half 4
  have e4 : min 4 8 = 4 := by decide
  simp only [List.length_take, List.length_drop, hl, e4, Nat.reduceSub, Nat.reducePow] at h0 h1 hs
  simp only [addBitSizeW32, leNat_append, leNat_natLE, length_natLE, Nat.shiftRight_eq_div_pow]
  generalize leNat (half.take 4) = x0 at *
  generalize leNat (half.drop 4) = x1 at *
  rw [hs]
  split <;> omega

/-- Nat image of `if ((b += carry) < carry) b = tw; else carry = (b += tw) < tw;` on 16-bit words -/
def stepc16 (b carry tw : Nat) : Nat × Nat :=
  if (b + carry) % 2 ^ 16 < carry then (tw, carry)
  else ((((b + carry) % 2 ^ 16 + tw) % 2 ^ 16), if ((b + carry) % 2 ^ 16 + tw) % 2 ^ 16 < tw then 1 else 0)

theorem stepc16_spec (b carry tw : Nat) (hb : b < 2 ^ 16) (ht : tw < 2 ^ 16) (hc : carry ≤ 1) :
    (stepc16 b carry tw).1 + 2 ^ 16 * (stepc16 b carry tw).2 = b + carry + tw ∧ (stepc16 b carry tw).2 ≤ 1
      ∧ (stepc16 b carry tw).1 < 2 ^ 16 := by
  simp only [stepc16]
  split
  · simp only []; omega
  · simp only []
    split <;> omega

theorem addBitSizeW16_eq (half : Bytes) (count : Nat) :
    addBitSizeW16 half count =
      let w (i : Nat) := leNat ((half.drop (2 * i)).take 2)
      let carry := (count * 8) % 2 ^ 16
      let t := (count % 2 ^ 64) >>> 13
      let s0 := (w 0 + carry) % 2 ^ 16
      let c0 := if s0 < carry then 1 else 0
      let r1 := stepc16 (w 1) c0 (t % 2 ^ 16)
      let r2 := stepc16 (w 2) r1.2 (t >>> 16 % 2 ^ 16)
      natLE 2 s0 ++ natLE 2 r1.1 ++ natLE 2 r2.1 ++
        natLE 2 (((w 3 + r2.2) % 2 ^ 16 + t >>> 16 >>> 16 % 2 ^ 16) % 2 ^ 16) := by
  simp only [addBitSizeW16, stepc16]

theorem leNat_two (b : Bytes) (h : b.length = 2) : leNat b < 2 ^ 16 := by
  have := leNat_lt b
  rw [h] at this
  exact this

theorem w16_arith (x0 x1 x2 x3 c8 T t0 t1 t2 t3 s0 c0 a1 b1 a2 b2 s3 q : Nat)
    (hs0 : s0 + 65536 * c0 = x0 + c8) (hT : T = t0 + 65536 * t1 + 4294967296 * t2 + 281474976710656 * t3)
    (h1 : a1 + 65536 * b1 = x1 + c0 + t0) (h2 : a2 + 65536 * b2 = x2 + b1 + t1)
    (h3 : s3 + 65536 * q = x3 + b2 + t2)
    (l0 : s0 < 65536) (l1 : a1 < 65536) (l2 : a2 < 65536) (l3 : s3 < 65536) :
    s0 + 65536 * a1 + 4294967296 * a2 + 281474976710656 * s3 =
      (x0 + 65536 * x1 + 4294967296 * x2 + 281474976710656 * x3 + (c8 + 65536 * T)) % 18446744073709551616 := by
  have e : x0 + 65536 * x1 + 4294967296 * x2 + 281474976710656 * x3 + (c8 + 65536 * T)
      = (s0 + 65536 * a1 + 4294967296 * a2 + 281474976710656 * s3) + 18446744073709551616 * (q + t3) := by omega
  rw [e, Nat.add_mul_mod_self_left]
  omega

theorem addBitSizeW16_val (half : Bytes) (count : Nat) (hl : half.length = 8) (hc : count < 2 ^ 64) :
    leNat (addBitSizeW16 half count) = (leNat half + 8 * count) % 2 ^ 64 := by
  match half, hl with
  | [a0, a1, a2, a3, a4, a5, a6, a7], _ =>
    rw [addBitSizeW16_eq]
    simp only [Nat.mul_zero, Nat.mul_one, Nat.reduceMul, List.drop_zero, List.drop_succ_cons, List.take_succ_cons,
      List.take_zero, List.take_nil]
    have w0 := leNat_two [a0, a1] rfl
    have w1 := leNat_two [a2, a3] rfl
    have w2 := leNat_two [a4, a5] rfl
    have w3 := leNat_two [a6, a7] rfl
    have hv : leNat [a0, a1, a2, a3, a4, a5, a6, a7]
        = leNat [a0, a1] + 2 ^ 16 * leNat [a2, a3] + 2 ^ 32 * leNat [a4, a5] + 2 ^ 48 * leNat [a6, a7] := by
      have := leNat_append [a0, a1] ([a2, a3] ++ ([a4, a5] ++ [a6, a7]))
      rw [leNat_append [a2, a3], leNat_append [a4, a5]] at this
      simp only [List.cons_append, List.nil_append, List.length_cons, List.length_nil] at this
      omega
    rw [hv]
    generalize leNat [a0, a1] = x0 at *
    generalize leNat [a2, a3] = x1 at *
    generalize leNat [a4, a5] = x2 at *
    generalize leNat [a6, a7] = x3 at *
    simp only [leNat_append, leNat_natLE, length_natLE, List.length_append, Nat.shiftRight_eq_div_pow, Nat.reducePow,
      Nat.reduceAdd]
    have hc0 : (if (x0 + count * 8 % 65536) % 65536 < count * 8 % 65536 then 1 else 0) ≤ 1 := by split <;> omega
    have hs0 : (x0 + count * 8 % 65536) % 65536
        + 65536 * (if (x0 + count * 8 % 65536) % 65536 < count * 8 % 65536 then 1 else 0) = x0 + count * 8 % 65536 := by
      split <;> omega
    generalize (if (x0 + count * 8 % 65536) % 65536 < count * 8 % 65536 then 1 else 0) = c0 at *
    have h1 := stepc16_spec x1 c0 (count % 18446744073709551616 / 8192 % 65536) w1 (by omega) hc0
    generalize stepc16 x1 c0 (count % 18446744073709551616 / 8192 % 65536) = r1 at *
    have h2 := stepc16_spec x2 r1.2 (count % 18446744073709551616 / 8192 / 65536 % 65536) w2 (by omega) h1.2.1
    generalize stepc16 x2 r1.2 (count % 18446744073709551616 / 8192 / 65536 % 65536) = r2 at *
    clear hv
    have hm : ∀ z, z % 65536 % 65536 = z % 65536 := fun z => Nat.mod_mod _ _
    rw [hm, hm, Nat.mod_eq_of_lt (show r1.1 < 65536 from h1.2.2), Nat.mod_eq_of_lt (show r2.1 < 65536 from h2.2.2)]
    have e8 : 8 * count = count * 8 % 65536 + 65536 * (count / 8192) := by omega
    rw [e8]
    have hcm : count % 18446744073709551616 = count := Nat.mod_eq_of_lt hc
    rw [hcm] at h1 h2 ⊢
    exact w16_arith x0 x1 x2 x3 (count * 8 % 65536) (count / 8192) (count / 8192 % 65536)
      (count / 8192 / 65536 % 65536) (count / 8192 / 65536 / 65536 % 65536) (count / 8192 / 65536 / 65536 / 65536)
      _ c0 r1.1 r1.2 r2.1 r2.2 _ (((x3 + r2.2) % 65536 + count / 8192 / 65536 / 65536 % 65536) / 65536
        + (x3 + r2.2) / 65536)
      hs0 (by omega) h1.1 h2.1 (by omega) (by omega) h1.2.2 h2.2.2 (by omega)

theorem length_addBitSizeW64 (half : Bytes) (count : Nat) : (addBitSizeW64 half count).length = 8 := by
  simp only [addBitSizeW64, length_natLE]
theorem length_addBitSizeW32 (half : Bytes) (count : Nat) : (addBitSizeW32 half count).length = 8 := by
  simp only [addBitSizeW32, length_natLE, List.length_append]
theorem length_addBitSizeW16 (half : Bytes) (count : Nat) : (addBitSizeW16 half count).length = 8 := by
  rw [addBitSizeW16_eq]
  simp only [length_natLE, List.length_append]

theorem addBitSizeW32_eq_W64 (half : Bytes) (count : Nat) (hl : half.length = 8) (hc : count < 2 ^ 64) :
    addBitSizeW32 half count = addBitSizeW64 half count :=
  eq_of_leNat_eq _ _ (by rw [length_addBitSizeW32, length_addBitSizeW64])
    (by rw [addBitSizeW32_val half count hl hc, addBitSizeW64_val])

theorem addBitSizeW16_eq_W64 (half : Bytes) (count : Nat) (hl : half.length = 8) (hc : count < 2 ^ 64) :
    addBitSizeW16 half count = addBitSizeW64 half count :=
  eq_of_leNat_eq _ _ (by rw [length_addBitSizeW16, length_addBitSizeW64])
    (by rw [addBitSizeW16_val half count hl hc, addBitSizeW64_val])

theorem addBitSizeW_eq_W64 (w : Nat) (half : Bytes) (count : Nat) (hl : half.length = 8) (hc : count < 2 ^ 64) :
    addBitSizeW w half count = addBitSizeW64 half count := by
  simp only [addBitSizeW]
  split
  · rfl
  · split
    · exact addBitSizeW32_eq_W64 half count hl hc
    · exact addBitSizeW16_eq_W64 half count hl hc

theorem length_addBitSizeW (w : Nat) (half : Bytes) (count : Nat) : (addBitSizeW w half count).length = 8 := by
  simp only [addBitSizeW]
  split
  · exact length_addBitSizeW64 _ _
  · split
    · exact length_addBitSizeW32 _ _
    · exact length_addBitSizeW16 _ _

/-! ### octet image of the u32 block -/

theorem addBitSizeBlock_val (b : Bytes) (count : Nat) (hl : b.length = 16) (hc : count < 2 ^ 64) :
    leNat (addBitSizeBlock b count) = (leNat b + 8 * count) % 2 ^ 128 := by
  rcases u32From_16 b hl with ⟨w0, w1, w2, w3, hw⟩
  rw [addBitSizeBlock, leNat_u32To, hw, addBitSizeU32_val _ _ _ _ _ hc, ← hw, u32Val_u32From b hl]

theorem length_addBitSizeBlock (b : Bytes) (count : Nat) (hl : b.length = 16) :
    (addBitSizeBlock b count).length = 16 := by
  rcases u32From_16 b hl with ⟨w0, w1, w2, w3, hw⟩
  rw [addBitSizeBlock, hw, addBitSizeU32_eq, length_u32To]
  rfl

theorem addBitSizeBlock_add (b : Bytes) (m n : Nat) (hl : b.length = 16) (hmn : m + n < 2 ^ 64) :
    addBitSizeBlock (addBitSizeBlock b m) n = addBitSizeBlock b (m + n) := by
  have l1 := length_addBitSizeBlock b m hl
  apply eq_of_leNat_eq
  · rw [length_addBitSizeBlock _ n l1, length_addBitSizeBlock b (m + n) hl]
  · rw [addBitSizeBlock_val _ n l1 (by omega), addBitSizeBlock_val b m hl (by omega),
      addBitSizeBlock_val b (m + n) hl hmn]
    omega

/-! ### keystream steps (CTR / CHE) -/

/-- body of the full-block loop of a keystream mode: state `(x, gamma)`, `x <- f x; gamma <- e x; b ^= gamma` -/
def ksBody (f e : Bytes → Bytes) : Bytes × Bytes → Bytes → (Bytes × Bytes) × Bytes :=
  fun sb b => ((f sb.1, e (f sb.1)), xorb b (e (f sb.1)))

/-- the shape shared by `beltCTRStepE` and `beltCHEStepE` -/
def ksStep (f e : Bytes → Bytes) (x blk : Bytes) (res : Nat) (buf : Bytes) : (Bytes × Bytes × Nat) × Bytes :=
  if res ≠ 0 ∧ res ≥ buf.length then
    ((x, blk, res - buf.length), xorb buf ((blk.drop (16 - res)).take buf.length))
  else
    let head := if res ≠ 0 then xorb (buf.take res) (blk.drop (16 - res)) else []
    let buf := if res ≠ 0 then buf.drop res else buf
    let l := fullBlocks 16 (ksBody f e) (x, blk) buf
    let r := l.2.2
    if r.length ≠ 0 then
      let s := f l.1.1
      let g := e s
      ((s, g, 16 - r.length), head ++ l.2.1 ++ xorb r (g.take r.length))
    else ((l.1.1, l.1.2, 0), head ++ l.2.1)

theorem ctrStepE_eq (C : Cipher) (st : CtrSt) (buf : Bytes) :
    ctrStepE C st buf =
      ({ st with ctr := (ksStep incBlock (C.enc st.key) st.ctr st.block st.reserved buf).1.1,
                 block := (ksStep incBlock (C.enc st.key) st.ctr st.block st.reserved buf).1.2.1,
                 reserved := (ksStep incBlock (C.enc st.key) st.ctr st.block st.reserved buf).1.2.2 },
       (ksStep incBlock (C.enc st.key) st.ctr st.block st.reserved buf).2) := by
  by_cases h1 : st.reserved ≠ 0 ∧ st.reserved ≥ buf.length
  · simp only [ctrStepE, ksStep, if_pos h1]
  · simp only [ctrStepE, ksStep, if_neg h1]
    unfold ksBody
    generalize fullBlocks 16 _ _ _ = l
    by_cases h2 : l.2.2.length ≠ 0
    · simp only [if_pos h2]
    · simp only [if_neg h2]

theorem cheStepE_eq (C : Cipher) (st : CheSt) (buf : Bytes) :
    cheStepE C st buf =
      ({ st with s := (ksStep cheNextS (C.enc st.key) st.s st.block1 st.reserved buf).1.1,
                 block1 := (ksStep cheNextS (C.enc st.key) st.s st.block1 st.reserved buf).1.2.1,
                 reserved := (ksStep cheNextS (C.enc st.key) st.s st.block1 st.reserved buf).1.2.2 },
       (ksStep cheNextS (C.enc st.key) st.s st.block1 st.reserved buf).2) := by
  by_cases h1 : st.reserved ≠ 0 ∧ st.reserved ≥ buf.length
  · simp only [cheStepE, ksStep, if_pos h1]
  · simp only [cheStepE, ksStep, if_neg h1]
    unfold ksBody
    generalize fullBlocks 16 _ _ _ = l
    by_cases h2 : l.2.2.length ≠ 0
    · simp only [if_pos h2]
    · simp only [if_neg h2]

theorem xorb_append_right (a g h : Bytes) (hl : a.length ≤ g.length) : xorb a (g ++ h) = xorb a g := by
  rw [← xorb_take_right a (g ++ h), List.take_append_of_le_length hl, xorb_take_right]

section ks
variable (f e : Bytes → Bytes)

/-- `n` blocks of gamma produced after the state `x`: `e (f x) ‖ e (f (f x)) ‖ …` -/
def ksGamma : Nat → Bytes → Bytes
  | 0, _ => []
  | n + 1, x => e (f x) ++ ksGamma n (f x)

/-- the loop state `(x, gamma)` after `n` iterations -/
def ksIter : Nat → Bytes × Bytes → Bytes × Bytes
  | 0, s => s
  | n + 1, s => ksIter n (f s.1, e (f s.1))

variable (hf : ∀ x, x.length = 16 → (f x).length = 16) (he : ∀ x, x.length = 16 → (e x).length = 16)
include hf he

theorem length_ksGamma : ∀ (n : Nat) (x : Bytes), x.length = 16 → (ksGamma f e n x).length = 16 * n
  | 0, _, _ => rfl
  | n + 1, x, hx => by
    rw [ksGamma, List.length_append, he _ (hf x hx), length_ksGamma n _ (hf x hx)]; omega

theorem length_ksIter : ∀ (n : Nat) (s : Bytes × Bytes), s.1.length = 16 → s.2.length = 16 →
    (ksIter f e n s).1.length = 16 ∧ (ksIter f e n s).2.length = 16
  | 0, _, h1, h2 => ⟨h1, h2⟩
  | n + 1, _, h1, _ => length_ksIter n _ (hf _ h1) (he _ (hf _ h1))

omit hf he in
theorem ksIter_add : ∀ (i j : Nat) (s : Bytes × Bytes), ksIter f e (i + j) s = ksIter f e j (ksIter f e i s)
  | 0, j, s => by rw [Nat.zero_add]; rfl
  | i + 1, j, s => by rw [Nat.add_right_comm]; exact ksIter_add i j _

omit hf he in
theorem ksIter_succ (n : Nat) (s : Bytes × Bytes) :
    ksIter f e (n + 1) s = (f (ksIter f e n s).1, e (f (ksIter f e n s).1)) := ksIter_add f e n 1 s

omit hf he in
theorem ksGamma_add : ∀ (n k : Nat) (x b : Bytes),
    ksGamma f e (n + k) x = ksGamma f e n x ++ ksGamma f e k (ksIter f e n (x, b)).1
  | 0, k, x, b => by rw [Nat.zero_add]; rfl
  | n + 1, k, x, b => by
    rw [Nat.add_right_comm, ksGamma, ksGamma_add n k (f x) (e (f x)), ← List.append_assoc]; rfl

omit hf he in
theorem ksGamma_succ (n : Nat) (x b : Bytes) :
    ksGamma f e (n + 1) x = ksGamma f e n x ++ e (f (ksIter f e n (x, b)).1) := by
  rw [ksGamma_add f e n 1 x b]; simp only [ksGamma, List.append_nil]

/-- the full-block loop xors `⌊|buf| / 16⌋` blocks of gamma onto the buffer -/
theorem fullBlocks_ks : ∀ (n : Nat) (s : Bytes × Bytes) (buf : Bytes), buf.length / 16 = n → s.1.length = 16 →
    fullBlocks 16 (ksBody f e) s buf =
      (ksIter f e n s, xorb (buf.take (16 * n)) (ksGamma f e n s.1), buf.drop (16 * n))
  | 0, s, buf, hn, _ => by
    rw [fullBlocks_lt 16 _ s buf (by omega)]; rfl
  | n + 1, s, buf, hn, hs => by
    have h16 : (buf.take 16).length = 16 := by rw [List.length_take]; omega
    rw [fullBlocks_ge 16 (by omega) _ s buf (by omega),
      fullBlocks_ks n _ (buf.drop 16) (by rw [List.length_drop]; omega) (hf _ hs)]
    simp only [ksBody, ksIter, ksGamma, List.drop_drop]
    rw [← xorb_append _ _ _ _ (by rw [h16, he _ (hf _ hs)]), ← List.take_add, Nat.mul_add, Nat.mul_one,
      Nat.add_comm (16 * n) 16]

/-- the state `(x, gamma, reserved)` in which `ksStep` leaves a buffer of `len` octets -/
def ksNext (x blk : Bytes) (res len : Nat) : Bytes × Bytes × Nat :=
  if res ≠ 0 ∧ res ≥ len then (x, blk, res - len)
  else
    let s := ksIter f e ((len - res) / 16) (x, blk)
    if (len - res) % 16 ≠ 0 then (f s.1, e (f s.1), 16 - (len - res) % 16) else (s.1, s.2, 0)

/-- the gamma block in which the position `len` octets after the state with `res` octets in reserve lies: the state
`(x, blk, res)` stands at position `16 - res` of block 0 (= `blk`), block `i` is the gamma register after `i` iterations -/
def ksBlk (res len : Nat) : Nat := (16 - res + len - 1) / 16

omit hf he in
theorem ksNext_eq (x blk : Bytes) (res len : Nat) (hres : res ≤ 16) :
    ksNext f e x blk res len = ((ksIter f e (ksBlk res len) (x, blk)).1, (ksIter f e (ksBlk res len) (x, blk)).2,
      16 * (ksBlk res len + 1) - (16 - res + len)) := by
  unfold ksNext ksBlk
  split
  · rw [show (16 - res + len - 1) / 16 = 0 by omega]
    exact Prod.ext rfl (Prod.ext rfl (by simp only; omega))
  · split
    · rw [show (16 - res + len - 1) / 16 = (len - res) / 16 + 1 by omega, ksIter_succ]
      exact Prod.ext rfl (Prod.ext rfl (by simp only; omega))
    · rw [show (16 - res + len - 1) / 16 = (len - res) / 16 by omega]
      exact Prod.ext rfl (Prod.ext rfl (by simp only; omega))

omit hf he in
theorem ksNext_add (x blk : Bytes) (res a b : Nat) (hres : res ≤ 16) :
    ksNext f e (ksNext f e x blk res a).1 (ksNext f e x blk res a).2.1 (ksNext f e x blk res a).2.2 b
      = ksNext f e x blk res (a + b) := by
  have hr : 16 * (ksBlk res a + 1) - (16 - res + a) ≤ 16 := by unfold ksBlk; omega
  have hi : ksBlk res a + ksBlk (16 * (ksBlk res a + 1) - (16 - res + a)) b = ksBlk res (a + b) := by
    unfold ksBlk; omega
  rw [ksNext_eq f e x blk res a hres, ksNext_eq f e _ _ _ b hr, ksNext_eq f e x blk res (a + b) hres, ← ksIter_add, hi]
  exact Prod.ext rfl (Prod.ext rfl (by simp only; unfold ksBlk at hi ⊢; omega))

theorem ksNext_inv (x blk : Bytes) (res len : Nat) (hx : x.length = 16) (hblk : blk.length = 16) (hres : res ≤ 16) :
    (ksNext f e x blk res len).1.length = 16 ∧ (ksNext f e x blk res len).2.1.length = 16 ∧
      (ksNext f e x blk res len).2.2 ≤ 16 := by
  have hi := length_ksIter f e hf he (ksBlk res len) (x, blk) hx hblk
  rw [ksNext_eq f e x blk res len hres]
  exact ⟨hi.1, hi.2, by show 16 * (ksBlk res len + 1) - (16 - res + len) ≤ 16; unfold ksBlk; omega⟩

/-- `ksStep` xors the buffer with the reserve of gamma followed by fresh gamma blocks; the state it leaves
depends on the length of the buffer only -/
theorem ksStep_eq (x blk : Bytes) (res : Nat) (buf : Bytes) (hx : x.length = 16) (hblk : blk.length = 16)
    (hres : res ≤ 16) :
    ksStep f e x blk res buf = (ksNext f e x blk res buf.length,
      xorb buf (blk.drop (16 - res) ++ ksGamma f e ((buf.length - res) / 16 + 1) x)) := by
  have hP : (blk.drop (16 - res)).length = res := by rw [List.length_drop, hblk]; omega
  by_cases h : res ≠ 0 ∧ res ≥ buf.length
  · rw [ksStep, ksNext, if_pos h, if_pos h, xorb_take_right, xorb_append_right _ _ _ (by omega)]
  · have hle : res ≤ buf.length := by
      by_cases h0 : res = 0
      · omega
      · exact Nat.le_of_lt (Nat.lt_of_not_ge fun hge => h ⟨h0, hge⟩)
    have hhead : (if res ≠ 0 then xorb (buf.take res) (blk.drop (16 - res)) else [])
        = xorb (buf.take res) (blk.drop (16 - res)) := by
      split
      · rfl
      · rw [show res = 0 by omega]; rfl
    have hbuf : (if res ≠ 0 then buf.drop res else buf) = buf.drop res := by
      split
      · rfl
      · rw [show res = 0 by omega]; rfl
    have hl : (buf.drop res).length = buf.length - res := List.length_drop
    have hr : ((buf.drop res).drop (16 * ((buf.length - res) / 16))).length = (buf.length - res) % 16 := by
      rw [List.length_drop, hl]; omega
    rw [ksStep, ksNext, if_neg h, if_neg h]
    simp only [hhead, hbuf, fullBlocks_ks f e hf he _ (x, blk) (buf.drop res) (by rw [hl]) hx, hr]
    rw [ksGamma_succ f e _ x blk]
    generalize ksIter f e ((buf.length - res) / 16) (x, blk) = s
    have hsplit : buf = buf.take res ++ ((buf.drop res).take (16 * ((buf.length - res) / 16)) ++
        (buf.drop res).drop (16 * ((buf.length - res) / 16))) := by
      rw [List.take_append_drop, List.take_append_drop]
    conv => rhs; rhs; lhs; rw [hsplit]
    rw [xorb_append _ _ _ _ (by rw [List.length_take, hP]; omega),
      xorb_append _ _ _ _ (by rw [List.length_take, hl, length_ksGamma f e hf he _ x hx]; omega)]
    split
    · rw [← hr, xorb_take_right, List.append_assoc]
    · rw [List.eq_nil_of_length_eq_zero (show ((buf.drop res).drop _).length = 0 by omega), xorb_nil_left,
        List.append_nil]

theorem ksStep_length (x blk : Bytes) (res : Nat) (buf : Bytes) (hx : x.length = 16) (hblk : blk.length = 16)
    (hres : res ≤ 16) : (ksStep f e x blk res buf).2.length = buf.length := by
  rw [ksStep_eq f e hf he x blk res buf hx hblk hres]
  simp only [length_xorb, List.length_append, List.length_drop, hblk, length_ksGamma f e hf he _ x hx]
  omega

/-- a second pass from the same state undoes the first and ends in the same state -/
theorem ksStep_ksStep (x blk : Bytes) (res : Nat) (buf : Bytes) (hx : x.length = 16) (hblk : blk.length = 16)
    (hres : res ≤ 16) :
    ksStep f e x blk res (ksStep f e x blk res buf).2 = ((ksStep f e x blk res buf).1, buf) := by
  have hl := ksStep_length f e hf he x blk res buf hx hblk hres
  rw [ksStep_eq f e hf he x blk res _ hx hblk hres, hl, ksStep_eq f e hf he x blk res buf hx hblk hres]
  rw [xorb_xorb_cancel _ _ (by
    simp only [List.length_append, List.length_drop, hblk, length_ksGamma f e hf he _ x hx]; omega)]

/-- block `i` of the gamma is the gamma register after `i + 1` iterations -/
theorem ksGamma_block : ∀ (i n : Nat) (x b : Bytes), i < n → x.length = 16 →
    ((ksGamma f e n x).drop (16 * i)).take 16 = (ksIter f e (i + 1) (x, b)).2
  | 0, n + 1, x, _, _, hx => List.take_left' (he _ (hf x hx))
  | i + 1, n + 1, x, _, h, hx => by
    rw [ksGamma, Nat.mul_add, Nat.mul_one, Nat.add_comm, ← List.drop_drop, List.drop_left' (he _ (hf x hx)),
      ksGamma_block i n (f x) (e (f x)) (by omega) (hf x hx)]
    rfl

omit hf he in
theorem ksIter_snd : ∀ (n : Nat) (s : Bytes × Bytes), (ksIter f e (n + 1) s).2 = e (ksIter f e (n + 1) s).1
  | 0, _ => rfl
  | n + 1, s => ksIter_snd n (f s.1, e (f s.1))

/-- from a state without reserve, block `i` of the output is block `i` of the input xored with the gamma register
after `i + 1` iterations -/
theorem ksStep_block (x blk buf : Bytes) (hx : x.length = 16) (hblk : blk.length = 16) (i : Nat) :
    ((ksStep f e x blk 0 buf).2.drop (16 * i)).take 16 =
      xorb ((buf.drop (16 * i)).take 16) (ksIter f e (i + 1) (x, blk)).2 := by
  have hd : blk.drop (16 - 0) = [] := List.drop_eq_nil_of_le (by rw [hblk]; omega)
  rw [ksStep_eq f e hf he x blk 0 buf hx hblk (Nat.zero_le _), hd, List.nil_append]
  simp only [xorb, List.drop_zipWith, List.take_zipWith]
  by_cases hi : i < (buf.length - 0) / 16 + 1
  · rw [ksGamma_block f e hf he i _ x blk hi hx]
  · rw [List.drop_eq_nil_of_le (show buf.length ≤ 16 * i by omega)]; rfl

theorem xorb_ksGamma (buf P x : Bytes) (hx : x.length = 16) (n n' : Nat) (h : buf.length ≤ P.length + 16 * n)
    (h' : buf.length ≤ P.length + 16 * n') :
    xorb buf (P ++ ksGamma f e n x) = xorb buf (P ++ ksGamma f e n' x) := by
  have key : ∀ n k, buf.length ≤ P.length + 16 * n →
      xorb buf (P ++ ksGamma f e (n + k) x) = xorb buf (P ++ ksGamma f e n x) := by
    intro n k hn
    rw [ksGamma_add f e n k x [], ← List.append_assoc, xorb_append_right _ _ _ (by
      rw [List.length_append, length_ksGamma f e hf he n x hx]; exact hn)]
  rcases Nat.le_total n n' with hle | hle
  · obtain ⟨k, rfl⟩ := Nat.exists_eq_add_of_le hle; exact (key n k h).symm
  · obtain ⟨k, rfl⟩ := Nat.exists_eq_add_of_le hle; exact key n' k h'

theorem ksGamma_drop : ∀ (i m : Nat) (x blk : Bytes), x.length = 16 → blk.length = 16 →
    (blk ++ ksGamma f e (i + m) x).drop (16 * i)
      = (ksIter f e i (x, blk)).2 ++ ksGamma f e m (ksIter f e i (x, blk)).1
  | 0, m, x, blk, _, _ => by rw [Nat.zero_add]; rfl
  | i + 1, m, x, blk, hx, hblk => by
    rw [Nat.add_right_comm, ksGamma, Nat.mul_succ, Nat.add_comm, ← List.drop_drop, List.drop_left' hblk,
      ksGamma_drop i m (f x) (e (f x)) (hf x hx) (he _ (hf x hx))]
    rfl

theorem ksNext_gamma (x blk : Bytes) (res a m : Nat) (hx : x.length = 16) (hblk : blk.length = 16) (hres : res ≤ 16) :
    (ksNext f e x blk res a).2.1.drop (16 - (ksNext f e x blk res a).2.2) ++ ksGamma f e m (ksNext f e x blk res a).1
      = (blk.drop (16 - res) ++ ksGamma f e (ksBlk res a + m) x).drop a := by
  have hi := length_ksIter f e hf he (ksBlk res a) (x, blk) hx hblk
  rw [ksNext_eq f e x blk res a hres]
  simp only []
  rw [← List.drop_append_of_le_length (by rw [hi.2]; omega), ← ksGamma_drop f e hf he _ m x blk hx hblk, List.drop_drop,
    ← List.drop_append_of_le_length (l₁ := blk) (by rw [hblk]; omega), List.drop_drop]
  congr 1
  unfold ksBlk; omega

theorem ksStep_append (x blk : Bytes) (res : Nat) (a b : Bytes) (hx : x.length = 16) (hblk : blk.length = 16)
    (hres : res ≤ 16) :
    ksStep f e x blk res (a ++ b) =
      ((ksStep f e (ksStep f e x blk res a).1.1 (ksStep f e x blk res a).1.2.1 (ksStep f e x blk res a).1.2.2 b).1,
       (ksStep f e x blk res a).2 ++
        (ksStep f e (ksStep f e x blk res a).1.1 (ksStep f e x blk res a).1.2.1 (ksStep f e x blk res a).1.2.2 b).2) := by
  obtain ⟨h1, h2, h3⟩ := ksNext_inv f e hf he x blk res a.length hx hblk hres
  have hP : (blk.drop (16 - res)).length = res := by rw [List.length_drop, hblk]; omega
  rw [ksStep_eq f e hf he x blk res a hx hblk hres]
  simp only []
  rw [ksStep_eq f e hf he _ _ _ b h1 h2 h3, ksStep_eq f e hf he x blk res (a ++ b) hx hblk hres, List.length_append,
    ksNext_add f e x blk res a.length b.length hres, ksNext_gamma f e hf he x blk res a.length _ hx hblk hres]
  refine Prod.ext rfl ?_
  simp only []
  generalize hm : (b.length - (ksNext f e x blk res a.length).2.2) / 16 + 1 = m
  have hlen : a.length ≤ (blk.drop (16 - res) ++ ksGamma f e (ksBlk res a.length + m) x).length := by
    rw [List.length_append, hP, length_ksGamma f e hf he _ x hx]; unfold ksBlk; omega
  rw [xorb_ksGamma f e hf he (a ++ b) _ x hx _ (ksBlk res a.length + m) (by rw [List.length_append, hP]; omega) (by
      rw [List.length_append, hP, ← hm, ksNext_eq f e x blk res a.length hres]; simp only []; unfold ksBlk; omega),
    xorb_ksGamma f e hf he a _ x hx _ (ksBlk res a.length + m) (by rw [hP]; omega)
      (by rw [hP]; unfold ksBlk; omega)]
  generalize blk.drop (16 - res) ++ ksGamma f e (ksBlk res a.length + m) x = T at hlen ⊢
  conv => lhs; rhs; rw [← List.take_append_drop a.length T]
  rw [xorb_append _ _ _ _ (by rw [List.length_take]; omega), xorb_take_right]

omit hf he in
theorem ksStep_nil (x blk : Bytes) (res : Nat) : ksStep f e x blk res [] = ((x, blk, res), []) := by
  unfold ksStep
  by_cases h : res ≠ 0
  · rw [if_pos ⟨h, Nat.zero_le _⟩]; rfl
  · rw [if_neg (fun h' => h h'.1), if_neg h, if_neg h]
    simp only [fullBlocks_short _ _ [] (by decide : ([] : Bytes).length < 16), List.length_nil, ne_eq,
      not_true_eq_false, if_false, List.append_nil]
    rw [show res = 0 by omega]

end ks

theorem ksIter_incBlock (e : Bytes → Bytes) : ∀ (n : Nat) (s : Bytes × Bytes), s.1.length = 16 →
    (ksIter incBlock e n s).1 = natLE 16 ((leNat s.1 + n) % 2 ^ 128)
  | 0, s, hs => by
    have := leNat_lt s.1
    rw [hs] at this
    rw [ksIter, Nat.add_zero, Nat.mod_eq_of_lt this, Stream.natLE_leNat_16 _ hs]
  | n + 1, s, hs => by
    rw [ksIter, ksIter_incBlock e n _ (Stream.length_incBlock _ hs), Stream.leNat_incBlock _ hs]
    congr 1
    omega

theorem length_cheNextS (b : Bytes) (h : b.length = 16) : (cheNextS b).length = 16 := by
  have hm := Stream.length_mulC b h
  unfold cheNextS
  cases hc : mulC b with
  | nil => rw [hc] at hm; simp only [List.length_nil] at hm; omega
  | cons b0 rest => rw [hc] at hm; simpa only [List.length_cons] using hm

/-- `beltCTRStepE` applied twice from the same state returns the input and ends in the same state -/
theorem ctrStepE_ctrStepE (C : Cipher) (hlen : ∀ k x, x.length = 16 → (C.enc k x).length = 16) (st : CtrSt)
    (buf : Bytes) (hr : st.reserved ≤ 16) (hb : st.block.length = 16) (hc : st.ctr.length = 16) :
    ctrStepE C st (ctrStepE C st buf).2 = ((ctrStepE C st buf).1, buf) := by
  rw [ctrStepE_eq C st buf]
  dsimp only
  rw [ctrStepE_eq C st _, ksStep_ksStep incBlock (C.enc st.key) Stream.length_incBlock (hlen st.key) _ _ _ buf hc hb hr]

theorem cheStepE_cheStepE (C : Cipher) (hlen : ∀ k x, x.length = 16 → (C.enc k x).length = 16) (st : CheSt)
    (buf : Bytes) (hr : st.reserved ≤ 16) (hb : st.block1.length = 16) (hc : st.s.length = 16) :
    cheStepE C st (cheStepE C st buf).2 = ((cheStepE C st buf).1, buf) := by
  rw [cheStepE_eq C st buf]
  dsimp only
  rw [cheStepE_eq C st _, ksStep_ksStep cheNextS (C.enc st.key) length_cheNextS (hlen st.key) _ _ _ buf hc hb hr]

/-- the state invariant of CTR is kept by `beltCTRStepE` -/
theorem ctrStepE_inv (C : Cipher) (hlen : ∀ k x, x.length = 16 → (C.enc k x).length = 16) (st : CtrSt)
    (buf : Bytes) (hr : st.reserved ≤ 16) (hb : st.block.length = 16) (hc : st.ctr.length = 16) :
    (ctrStepE C st buf).1.reserved ≤ 16 ∧ (ctrStepE C st buf).1.block.length = 16 ∧
      (ctrStepE C st buf).1.ctr.length = 16 := by
  have h := ksNext_inv incBlock (C.enc st.key) Stream.length_incBlock (hlen st.key) st.ctr st.block st.reserved
    buf.length hc hb hr
  rw [ctrStepE_eq C st buf, ksStep_eq incBlock (C.enc st.key) Stream.length_incBlock (hlen st.key) _ _ _ buf hc hb hr]
  exact ⟨h.2.2, h.2.1, h.1⟩

/-- block `i` of the output of `beltCTRStepE` right after `beltCTRStart`: the input block xored with
`E(s ⊞ (i + 1))`, `s` the counter set by Start -/
theorem ctrStepE_block (C : Cipher) (hlen : ∀ k x, x.length = 16 → (C.enc k x).length = 16) (st : CtrSt)
    (buf : Bytes) (hr : st.reserved = 0) (hb : st.block.length = 16) (hc : st.ctr.length = 16) (i : Nat) :
    ((ctrStepE C st buf).2.drop (16 * i)).take 16 =
      xorb ((buf.drop (16 * i)).take 16) (C.enc st.key (natLE 16 ((leNat st.ctr + (i + 1)) % 2 ^ 128))) := by
  rw [ctrStepE_eq C st buf, hr,
    ksStep_block incBlock (C.enc st.key) Stream.length_incBlock (hlen st.key) _ _ buf hc hb i, ksIter_snd,
    ksIter_incBlock _ _ _ hc]

theorem ctrStepE_key (C : Cipher) (st : CtrSt) (buf : Bytes) : (ctrStepE C st buf).1.key = st.key := by
  rw [ctrStepE_eq]
theorem cheStepE_key (C : Cipher) (st : CheSt) (buf : Bytes) : (cheStepE C st buf).1.key = st.key := by
  rw [cheStepE_eq]
theorem cheStepE_p (C : Cipher) (st : CheSt) (buf : Bytes) : (cheStepE C st buf).1.p = st.p := by
  rw [cheStepE_eq]

/-! ### DWP / CHE -/

end Bee2V.C01.Aead

namespace Bee2V.C01

/-- The tag of both AEAD modes as a function of the formatted key `K` and the point `r` of the polynomial MAC
(`r = E_K(E_K(iv))` for DWP, `r = E_K(iv)` for CHE): StepI(ad), StepA(ct), finish, encrypt, 8 octets. -/
def polyTag (C : Cipher) (w : Nat) (K r ct ad : Bytes) : Bytes :=
  (C.enc K (polyFinish (polyStepA w (polyStepI w
    ⟨r, Gen.C01.H.toList.take 16, zeros 16, zeros 16, zeros 16, 0⟩ ad) ct)).2).take 8

/-- The tag `beltDWPWrap` outputs when the ciphertext is `ct` and the open data is `ad`:
Start, StepI(ad), StepA(ct), StepG. -/
def dwpTag (C : Cipher) (w : Nat) (ct ad key iv : Bytes) : Bytes :=
  (dwpStepG C (dwpStepA w (dwpStepI w (dwpStart C key iv) ad) ct)).2

/-- The tag `beltCHEWrap` outputs when the ciphertext is `ct` and the open data is `ad`. -/
def cheTag (C : Cipher) (w : Nat) (ct ad key iv : Bytes) : Bytes :=
  (cheStepG C (cheStepA w (cheStepI w (cheStart C key iv) ad) ct)).2

end Bee2V.C01

namespace Bee2V.C01.Aead

theorem dwpTag_eq (C : Cipher) (w : Nat) (ct ad key iv : Bytes) :
    dwpTag C w ct ad key iv = polyTag C w (fmtKey key) (C.enc (fmtKey key) (C.enc (fmtKey key) iv)) ct ad := rfl

theorem cheTag_eq (C : Cipher) (w : Nat) (ct ad key iv : Bytes) :
    cheTag C w ct ad key iv = polyTag C w (fmtKey key) (C.enc (fmtKey key) iv) ct ad := rfl

theorem dwpStepG_tag (C : Cipher) (st : DwpSt) :
    (dwpStepG C st).2 = (C.enc st.ctr.key (polyFinish st.p).2).take 8 := rfl
theorem cheStepG_tag (C : Cipher) (st : CheSt) :
    (cheStepG C st).2 = (C.enc st.key (polyFinish st.p).2).take 8 := rfl

theorem dwpWrap_eq (C : Cipher) (w : Nat) (src1 src2 key iv : Bytes) :
    dwpWrap C w src1 src2 key iv =
      if !validKeyLen key.length then (.badInput, none)
      else (.ok, some ((ctrStepE C (ctrStart C key iv) src1).2,
        dwpTag C w (ctrStepE C (ctrStart C key iv) src1).2 src2 key iv)) := by
  unfold dwpWrap
  split
  · rfl
  · simp only [dwpTag, dwpStepG_tag, dwpStepA, dwpStepE, dwpStepI, dwpStart, ctrStepE_key]

theorem dwpUnwrap_eq (C : Cipher) (w : Nat) (ct ad mac key iv : Bytes) :
    dwpUnwrap C w ct ad mac key iv =
      if !validKeyLen key.length then (.badInput, none)
      else if mac = dwpTag C w ct ad key iv then (.ok, some (ctrStepE C (ctrStart C key iv) ct).2)
      else (.badMac, none) := by
  unfold dwpUnwrap
  split
  · rfl
  · simp only [dwpStepV, Bool.not_eq_eq_eq_not, Bool.not_true, decide_eq_false_iff_not, ite_not]
    rfl

theorem cheWrap_eq (C : Cipher) (w : Nat) (src1 src2 key iv : Bytes) :
    cheWrap C w src1 src2 key iv =
      if !validKeyLen key.length then (.badInput, none)
      else (.ok, some ((cheStepE C (cheStart C key iv) src1).2,
        cheTag C w (cheStepE C (cheStart C key iv) src1).2 src2 key iv)) := by
  unfold cheWrap
  split
  · rfl
  · have h1 : (cheStepE C (cheStepI w (cheStart C key iv) src2) src1).2 = (cheStepE C (cheStart C key iv) src1).2 := by
      rw [cheStepE_eq, cheStepE_eq]; rfl
    simp only [cheTag, cheStepG_tag, cheStepA, cheStepE_key, cheStepE_p, h1]

theorem cheUnwrap_eq (C : Cipher) (w : Nat) (ct ad mac key iv : Bytes) :
    cheUnwrap C w ct ad mac key iv =
      if !validKeyLen key.length then (.badInput, none)
      else if mac = cheTag C w ct ad key iv then (.ok, some (cheStepE C (cheStart C key iv) ct).2)
      else (.badMac, none) := by
  unfold cheUnwrap
  split
  · rfl
  · -- the MAC pass leaves the key stream state alone
    have h1 : (cheStepE C (cheStepGInternal C (cheStepA w (cheStepI w (cheStart C key iv) ad) ct)) ct).2
        = (cheStepE C (cheStart C key iv) ct).2 := by
      rw [cheStepE_eq, cheStepE_eq]; rfl
    simp only [cheStepV, Bool.not_eq_eq_eq_not, Bool.not_true, decide_eq_false_iff_not, ite_not, h1]
    rfl

/-! ### length block of the polynomial accumulator -/

theorem absorb16_len (st : PolySt) (buf : Bytes) : (absorb16 st buf).len = st.len := by
  unfold absorb16
  by_cases h1 : st.filled ≠ 0 ∧ buf.length < 16 - st.filled
  · rw [if_pos h1]
  · rw [if_neg h1]
    dsimp only
    generalize fullBlocks 16 _ _ _ = l
    by_cases h2 : l.2.2.length ≠ 0
    · rw [if_pos h2]
    · rw [if_neg h2]

theorem polyStepI_w (w : Nat) (st : PolySt) (buf : Bytes) (hl : st.len.length = 16) (hb : buf.length < 2 ^ 64) :
    polyStepI w st buf = polyStepI 64 st buf := by
  unfold polyStepI
  have h8 : (st.len.take 8).length = 8 := by simp only [List.length_take, hl]; rfl
  rw [addBitSizeW_eq_W64 w _ _ h8 hb]
  rfl

theorem polyStepI_len (w : Nat) (st : PolySt) (buf : Bytes) (hl : st.len.length = 16) :
    (polyStepI w st buf).len.length = 16 := by
  unfold polyStepI
  rw [absorb16_len]
  simp only [List.length_append, length_addBitSizeW, List.length_drop, hl]

theorem polyStepA_w (w : Nat) (st : PolySt) (buf : Bytes) (hl : st.len.length = 16) (hb : buf.length < 2 ^ 64) :
    polyStepA w st buf = polyStepA 64 st buf := by
  unfold polyStepA
  have h8 : (st.len.drop 8).length = 8 := by simp only [List.length_drop, hl]
  by_cases hc : buf.length ≠ 0 ∧ st.len.drop 8 = zeros 8 ∧ st.filled ≠ 0
  · simp only [if_pos hc]
    rw [addBitSizeW_eq_W64 w _ _ h8 hb]
    rfl
  · simp only [if_neg hc]
    rw [addBitSizeW_eq_W64 w _ _ h8 hb]
    rfl

theorem length_polyFinish (st : PolySt) : (polyFinish st).2.length = 16 := by
  unfold polyFinish
  split <;> simp only [polyStep, polyMul, length_natLE]

theorem polyTag_length (C : Cipher) (hlen : ∀ k x, x.length = 16 → (C.enc k x).length = 16) (w : Nat)
    (K r ct ad : Bytes) : (polyTag C w K r ct ad).length = 8 := by
  rw [polyTag, List.length_take, hlen _ _ (length_polyFinish _)]; rfl

/-- the three `#if` variants of `beltHalfBlockAddBitSizeW` give the same tag -/
theorem polyTag_w (C : Cipher) (w : Nat) (K r ct ad : Bytes) (hct : ct.length < 2 ^ 64) (had : ad.length < 2 ^ 64) :
    polyTag C w K r ct ad = polyTag C 64 K r ct ad := by
  unfold polyTag
  rw [polyStepI_w w _ ad rfl had, polyStepA_w w _ ct (polyStepI_len 64 _ ad rfl) hct]

theorem length_ctrStepE (C : Cipher) (hlen : ∀ k x, x.length = 16 → (C.enc k x).length = 16) (st : CtrSt)
    (buf : Bytes) (hr : st.reserved ≤ 16) (hb : st.block.length = 16) (hc : st.ctr.length = 16) :
    (ctrStepE C st buf).2.length = buf.length := by
  rw [ctrStepE_eq C st buf]
  exact ksStep_length incBlock (C.enc st.key) Stream.length_incBlock (hlen st.key) st.ctr st.block st.reserved buf hc hb hr

theorem length_cheStepE (C : Cipher) (hlen : ∀ k x, x.length = 16 → (C.enc k x).length = 16) (st : CheSt)
    (buf : Bytes) (hr : st.reserved ≤ 16) (hb : st.block1.length = 16) (hc : st.s.length = 16) :
    (cheStepE C st buf).2.length = buf.length := by
  rw [cheStepE_eq C st buf]
  exact ksStep_length cheNextS (C.enc st.key) length_cheNextS (hlen st.key) st.s st.block1 st.reserved buf hc hb hr

end Bee2V.C01.Aead

namespace Bee2V.C01.TagL

/-- pending octets of the accumulator -/
def pend (st : PolySt) : Bytes := st.block.take st.filled

def Inv (st : PolySt) : Prop := st.t.length = 16 ∧ st.block.length = 16 ∧ st.filled < 16 ∧ st.r.length = 16

/-- the common tail of `absorb16`: full blocks from `(t0, blk0)`, then buffer the rest -/
def absorbCore (st : PolySt) (t0 blk0 buf : Bytes) : PolySt :=
  let l := fullBlocks 16 (fun (tb : Bytes × Bytes) b => ((polyStep st.r tb.1 b, b), ([] : Bytes))) (t0, blk0) buf
  if l.2.2.length ≠ 0 then { st with t := l.1.1, block := putAt l.1.2 0 l.2.2, filled := l.2.2.length }
  else { st with t := l.1.1, block := l.1.2, filled := 0 }

theorem absorb16_eq (st : PolySt) (buf : Bytes) :
    absorb16 st buf =
      if st.filled ≠ 0 ∧ buf.length < 16 - st.filled then
        { st with block := putAt st.block st.filled buf, filled := st.filled + buf.length }
      else if st.filled ≠ 0 then
        absorbCore st (polyStep st.r st.t (putAt st.block st.filled (buf.take (16 - st.filled))))
          (putAt st.block st.filled (buf.take (16 - st.filled))) (buf.drop (16 - st.filled))
      else absorbCore st st.t st.block buf := by
  unfold absorb16
  by_cases h1 : st.filled ≠ 0 ∧ buf.length < 16 - st.filled
  · rw [if_pos h1, if_pos h1]
  · rw [if_neg h1, if_neg h1]
    by_cases h0 : st.filled ≠ 0
    · simp only [if_pos h0]; rfl
    · simp only [if_neg h0, List.drop_zero]; rfl

end Bee2V.C01.TagL
