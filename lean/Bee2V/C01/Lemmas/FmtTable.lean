/-
Kernel-checked rows of the block-count table of beltFMTCalcB: a Bool-valued checker walks
count = 1..300 for one alphabet size carrying p = mod^count, and compares `calcB mod count` (the model
of the C routine, constants regenerated from the source) with the exact count through the two
inequalities  mod^count ≤ 2^(64 b)  and  2^(64 (b-1)) < mod^count.

`checkMods` evaluates `calcB` and two powers at every point.  The long ranges of the table are checked by
`checkModsS` instead.  On the general path of `beltFMTCalcB` everything up to the multiplication by `count`
depends on the alphabet size only (`rowConsts`), and without wraparound modulo 2^128 the result is
`⌈num · count / den⌉`: a step function of `count`.  So it is enough to compare `mod ^ count` with `2 ^ (64 k)`
at the last count of every step `k` (`checkRowS_spec`).
-/
import Bee2V.C01.Model.FmtB
namespace Bee2V.C01

/-- `b` is the least number of 64-bit blocks that hold a word of `Z_mod^count` -/
def IsBlockCount (mod count b : Nat) : Prop :=
  mod ^ count ≤ 2 ^ (64 * b) ∧ (b = 0 ∨ 2 ^ (64 * (b - 1)) < mod ^ count)

/-- the two inequalities of `IsBlockCount` at one point; `p` stands for `mod ^ count` -/
def okPoint (mod count p : Nat) : Bool :=
  let b := calcB mod count
  Nat.ble p (2 ^ (64 * b)) && (b == 0 || Nat.blt (2 ^ (64 * (b - 1))) p)

def checkRow (mod : Nat) : Nat → Nat → Nat → Bool
  | 0, _, _ => true
  | fuel + 1, count, p => okPoint mod count p && checkRow mod fuel (count + 1) (p * mod)

def checkMods : Nat → Nat → Bool
  | 0, _ => true
  | n + 1, mod => checkRow mod 300 1 mod && checkMods n (mod + 1)

theorem okPoint_sound (mod count : Nat) (h : okPoint mod count (mod ^ count) = true) :
    IsBlockCount mod count (calcB mod count) := by
  simp only [okPoint, Bool.and_eq_true, Bool.or_eq_true, beq_iff_eq] at h
  refine ⟨Nat.le_of_ble_eq_true h.1, ?_⟩
  rcases h.2 with h0 | h1
  · exact Or.inl h0
  · exact Or.inr (by have := Nat.le_of_ble_eq_true h1; omega)

theorem checkRow_sound (mod : Nat) (fuel count p : Nat) (h : checkRow mod fuel count p = true) :
    ∀ j, j < fuel → okPoint mod (count + j) (p * mod ^ j) = true := by
  induction fuel generalizing count p with
  | zero => intro j hj; omega
  | succ f ih =>
    simp only [checkRow, Bool.and_eq_true] at h
    intro j hj
    match j with
    | 0 => simpa using h.1
    | j + 1 =>
      have := ih (count + 1) (p * mod) h.2 j (by omega)
      have e1 : count + (j + 1) = count + 1 + j := by omega
      have e2 : p * mod ^ (j + 1) = p * mod * mod ^ j := by rw [Nat.pow_succ, Nat.mul_assoc, Nat.mul_comm (mod ^ j)]
      rw [e1, e2]; exact this

theorem checkMods_sound (n m : Nat) (h : checkMods n m = true) :
    ∀ i, i < n → checkRow (m + i) 300 1 (m + i) = true := by
  induction n generalizing m with
  | zero => intro i hi; omega
  | succ k ih =>
    simp only [checkMods, Bool.and_eq_true] at h
    intro i hi
    match i with
    | 0 => simpa using h.1
    | i + 1 =>
      have := ih (m + 1) h.2 i (by omega)
      have e : m + (i + 1) = m + 1 + i := by omega
      rw [e]; exact this

/-- a checked range of alphabet sizes gives the exact block count on all of 1 ≤ count ≤ 300 -/
theorem checkMods_spec (n m : Nat) (h : checkMods n m = true) (mod count : Nat)
    (hm : m ≤ mod) (hm' : mod < m + n) (hc : 1 ≤ count) (hc' : count ≤ 300) :
    IsBlockCount mod count (calcB mod count) := by
  have hrow := checkMods_sound n m h (mod - m) (by omega)
  have e : m + (mod - m) = mod := by omega
  rw [e] at hrow
  have hp := checkRow_sound mod 300 1 mod hrow (count - 1) (by omega)
  have e1 : 1 + (count - 1) = count := by omega
  have e2 : mod * mod ^ (count - 1) = mod ^ count := by
    have : count = (count - 1) + 1 := by omega
    conv => rhs; rw [this, Nat.pow_succ, Nat.mul_comm]
  rw [e1, e2] at hp
  exact okPoint_sound mod count hp

/-! ### The block count as a step function of `count` -/

open Bee2V.Gen.C01 in
/-- `beltFMTCalcB` before `count` enters: `(num, den)` with `calcBGeneral mod count =
⌈num · count / den⌉` in the C routine's arithmetic modulo 2^128 (`rowB`) -/
def rowConsts (mod : Nat) : Nat × Nat :=
  let k := bitLen mod
  let k := if 2 ^ k - mod > mod - 2 ^ (k - 1) then k - 1 else k
  let t0 := 2 ^ (3 * k) % M128
  let t1 := 2 ^ (2 * k) % M128 * mod % M128
  let t2 := 2 ^ k % M128 * mod % M128 * mod % M128
  let t3 := mod * mod % M128 * mod % M128
  let den := (t0 + t3) % M128
  let t4 := (t1 + t2) % M128 * fmtK0 % M128
  let den := (den + t4) % M128
  let num := den * fmtK1 % M128 * k % M128
  let t3 := t3 * fmtK2 % M128
  let num := (num + t3) % M128
  let t2 := t2 * fmtK3 % M128
  let num := (num + t2) % M128
  let t1 := t1 * fmtK4 % M128
  let num := (num + M128 - t1) % M128
  let t0 := t0 * fmtK5 % M128
  let num := (num + M128 - t0) % M128
  (num, den * fmtK6 % M128 * fmtK7 % M128)

def rowB (num den count : Nat) : Nat :=
  ((num * count % M128 + den) % M128 + M128 - 1) % M128 / den % 2 ^ 64

theorem calcBGeneral_eq_rowB (mod count : Nat) :
    calcBGeneral mod count = rowB (rowConsts mod).1 (rowConsts mod).2 count := by
  -- `rfl` alone makes the kernel compare the two let-chains after substituting them: minutes
  unfold calcBGeneral rowConsts rowB
  extract_lets
  rfl

/-- neither a special case of `beltFMTCalcB` nor the shortcut for 65536 applies to the alphabet size -/
def plainRow (mod : Nat) : Bool :=
  Bee2V.Gen.C01.fmtSpecial.all (fun s => s.1 != mod) && mod != 65536

theorem calcB_of_plainRow {mod : Nat} (h : plainRow mod = true) (count : Nat) :
    calcB mod count = rowB (rowConsts mod).1 (rowConsts mod).2 count := by
  simp only [plainRow, Bool.and_eq_true, List.all_eq_true, bne_iff_ne, ne_eq] at h
  have hnone : Bee2V.Gen.C01.fmtSpecial.find? (fun s => s.1 == mod && s.2.1 == count) = none :=
    List.find?_eq_none.mpr fun s hs => by simp [h.1 s hs]
  simp only [calcB, hnone, beq_iff_eq, h.2, if_false, calcBGeneral_eq_rowB]

/-- without wraparound the C arithmetic modulo 2^128 is exact: `rowB = ⌈num · count / den⌉` -/
theorem rowB_eq_ceil {num den count : Nat} (hd : 0 < den) (hw : num * count + den < M128)
    (hb : (num * count + den - 1) / den < 2 ^ 64) :
    rowB num den count = (num * count + den - 1) / den := by
  have h1 : num * count % M128 = num * count := Nat.mod_eq_of_lt (by omega)
  have h2 : (num * count + den) % M128 = num * count + den := Nat.mod_eq_of_lt hw
  have h3 : (num * count + den + M128 - 1) % M128 = num * count + den - 1 := by
    have : num * count + den + M128 - 1 = (num * count + den - 1) + M128 := by omega
    rw [this, Nat.add_mod_right, Nat.mod_eq_of_lt (by omega)]
  rw [rowB, h1, h2, h3, Nat.mod_eq_of_lt hb]

/-! The checker proper.  Its operations are spelled `Nat.mul`, `Nat.pow`, …, `2 ^ 64` is a literal, and it recurses
by `Nat.rec`: the kernel evaluates these definitions, every `*` or `^` costs it three unfoldings of instances
before it reaches the same function, and the compiled form of a structural recursion twice what the recursor costs. -/

/-- step `k` of a row: `c = ⌊k · den / num⌋` is the last count with `⌈num · c / den⌉ ≤ k`, and
`mod ^ c ≤ 2 ^ (64 k) < mod ^ (c + 1)` -/
def stepOk (num den mod k : Nat) : Bool :=
  (fun c t => and (Nat.ble (Nat.pow mod c) t) (Nat.blt t (Nat.pow mod (Nat.succ c))))
    (Nat.div (Nat.mul k den) num) (Nat.pow 2 (Nat.mul 64 k))

/-- a row for counts `1..N`: no wraparound up to `N`, the block count `K` at `N` fits 64 bits and holds
`mod ^ N`, and every step below `K` is where it should be -/
def checkRowS (N num den mod : Nat) : Bool :=
  (fun top => Nat.blt 0 num && Nat.blt 0 den && Nat.blt top M128 &&
      (fun K => Nat.blt K 18446744073709551616 && Nat.ble (Nat.pow mod N) (Nat.pow 2 (Nat.mul 64 K)) &&
        Nat.rec true (fun k ih => and (stepOk num den mod (Nat.succ k)) ih) (Nat.sub K 1))
      (Nat.div (Nat.sub top 1) den))
    (Nat.add (Nat.mul num N) den)

def checkModsS : Nat → Nat → Bool
  | 0, _ => true
  | n + 1, mod =>
    plainRow mod && checkRowS 300 (rowConsts mod).1 (rowConsts mod).2 mod && checkModsS n (mod + 1)

theorem stepOk_iff {num den mod k : Nat} : stepOk num den mod k = true ↔
    mod ^ (k * den / num) ≤ 2 ^ (64 * k) ∧ 2 ^ (64 * k) < mod ^ (k * den / num + 1) := by
  show (Nat.ble _ _ && Nat.blt _ _) = true ↔ _
  rw [Bool.and_eq_true, Nat.ble_eq, Nat.blt_eq]; rfl

/-- a conjunction folded by `Nat.rec` over `1..n` holds at every index -/
theorem forall_of_rec {f : Nat → Bool} {n : Nat}
    (h : (Nat.rec true (fun k ih => and (f (Nat.succ k)) ih) n : Bool) = true) :
    ∀ k, 1 ≤ k → k ≤ n → f k = true := by
  induction n with
  | zero => intro k h1 h2; omega
  | succ n ih =>
    have h : (f (n + 1) && (Nat.rec true (fun k ih => and (f (Nat.succ k)) ih) n : Bool)) = true := h
    rw [Bool.and_eq_true] at h
    intro k h1 h2
    rcases Nat.lt_or_ge k (n + 1) with hk | hk
    · exact ih h.2 k h1 (by omega)
    · rw [Nat.le_antisymm h2 hk]; exact h.1

theorem checkRowS_spec {N num den mod : Nat} (hm : 2 ≤ mod) (h : checkRowS N num den mod = true)
    (count : Nat) (hc : 1 ≤ count) (hc' : count ≤ N) : IsBlockCount mod count (rowB num den count) := by
  have h : (Nat.blt 0 num && Nat.blt 0 den && Nat.blt (num * N + den) M128 &&
      (Nat.blt ((num * N + den - 1) / den) (2 ^ 64) &&
        Nat.ble (mod ^ N) (2 ^ (64 * ((num * N + den - 1) / den))) &&
        (Nat.rec true (fun k ih => and (stepOk num den mod (Nat.succ k)) ih)
          ((num * N + den - 1) / den - 1) : Bool))) = true := h
  simp only [Bool.and_eq_true, Nat.blt_eq, Nat.ble_eq] at h
  obtain ⟨⟨⟨hA, hD⟩, hW⟩, ⟨hK, hTop⟩, hSteps⟩ := h
  have hSteps := forall_of_rec hSteps
  -- b = ⌈num · count / den⌉ lies in 1..K, K the block count at N
  have hx : num * count ≤ num * N := Nat.mul_le_mul_left _ hc'
  have hx1 : 1 ≤ num * count := Nat.mul_pos hA hc
  have hbK : (num * count + den - 1) / den ≤ (num * N + den - 1) / den := Nat.div_le_div_right (by omega)
  rw [rowB_eq_ceil hD (by omega) (by omega)]
  generalize hb : (num * count + den - 1) / den = b at hbK
  generalize (num * N + den - 1) / den = K at hK hTop hSteps hbK
  -- b · den is the least multiple of den that reaches num · count
  have hlo : b * den ≤ num * count + den - 1 := hb ▸ Nat.div_mul_le_self _ _
  have hhi : num * count + den - 1 < den * (b + 1) := hb ▸ Nat.lt_mul_div_succ _ hD
  rw [Nat.mul_add, Nat.mul_one, Nat.mul_comm den b] at hhi
  have hb1 : 1 ≤ b := by
    rcases Nat.eq_zero_or_pos b with h0 | h0
    · rw [h0] at hhi; omega
    · exact h0
  have hmod : 1 ≤ mod := by omega
  refine ⟨?_, Or.inr ?_⟩
  · -- count is at most the last count of step b (of N, on the last step)
    rcases Nat.lt_or_ge b K with hlt | hge
    · have hs := (stepOk_iff.mp (hSteps b hb1 (by omega))).1
      have : count ≤ b * den / num := (Nat.le_div_iff_mul_le hA).mpr (by rw [Nat.mul_comm]; omega)
      exact Nat.le_trans (Nat.pow_le_pow_right hmod this) hs
    · rw [Nat.le_antisymm hbK hge]
      exact Nat.le_trans (Nat.pow_le_pow_right hmod hc') hTop
  · -- count is beyond the last count of step b - 1
    rcases Nat.lt_or_ge 1 b with h2 | h2
    · have hs := (stepOk_iff.mp (hSteps (b - 1) (by omega) (by omega))).2
      have hbd : (b - 1) * den + den = b * den := by rw [← Nat.succ_mul]; congr 1; omega
      have : (b - 1) * den / num < count := (Nat.div_lt_iff_lt_mul hA).mpr (by rw [Nat.mul_comm count]; omega)
      exact Nat.lt_of_lt_of_le hs (Nat.pow_le_pow_right hmod this)
    · have : b = 1 := by omega
      subst this
      exact Nat.one_lt_pow (by omega) (by omega)

/-- a range of alphabet sizes checked step by step gives the exact block count on all of 1 ≤ count ≤ 300 -/
theorem checkModsS_spec (n m : Nat) (h : checkModsS n m = true) (mod count : Nat)
    (hm2 : 2 ≤ mod) (hm : m ≤ mod) (hm' : mod < m + n) (hc : 1 ≤ count) (hc' : count ≤ 300) :
    IsBlockCount mod count (calcB mod count) := by
  induction n generalizing m with
  | zero => omega
  | succ k ih =>
    simp only [checkModsS, Bool.and_eq_true] at h
    rcases Nat.eq_or_lt_of_le hm with rfl | hlt
    · rw [calcB_of_plainRow h.1.1]; exact checkRowS_spec hm2 h.1.2 count hc hc'
    · exact ih (m + 1) h.2 hlt (by omega)

end Bee2V.C01
