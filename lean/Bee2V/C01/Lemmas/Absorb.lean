/-
The buffering scheme of belt_hash.c, belt_hmac.c, belt_dwp.c and belt_che.c
(`if (filled) { if (count < n - filled) store, return; complete the block, step } while (count >= n) step;
if (count) store`), once: `absorbG` over a block size `n` and a block function `step`; `absorb16`, `absorb32` of the
model are instances; on `(value, block[0..filled))` it is `Buffer.absorb` with the rule `· / n` (`absorbG_abs`).
-/
import Bee2V.C01.Model.Aead
import Bee2V.C01.Model.Hash
import Bee2V.C01.Lemmas.Stream
import Bee2V.Base.Buffer
namespace Bee2V.C01
open Bee2V.Buffer (chain absorb)

theorem chunk_take_putAt (blk x : Bytes) (off : Nat) (h : off ≤ blk.length) :
    (putAt blk off x).take (off + x.length) = blk.take off ++ x := by
  unfold putAt
  rw [List.append_assoc, ← List.append_assoc]
  exact List.take_left' (by simp only [List.length_append, List.length_take]; omega)

variable {σ τ ρ : Type}

/-- where an instance keeps its data: the state `τ` of the block loop holds a value `σ` and the block buffer, the
result `ρ` is built from value, block buffer and `filled`; with it the model functions are `absorbG` by `rfl` -/
structure Shape (σ τ ρ : Type) where
  init : σ → Bytes → τ
  val : τ → σ
  blk : τ → Bytes
  out : σ → Bytes → Nat → ρ

theorem fullBlocks_chain (S : Shape σ τ ρ) (hv : ∀ s b, S.val (S.init s b) = s) (hk : ∀ s b, S.blk (S.init s b) = b)
    (n : Nat) (hn : 0 < n) (step : σ → Bytes → σ) :
    ∀ (k : Nat) (s : σ) (blk buf : Bytes), buf.length / n = k → blk.length = n →
      ∃ blk' : Bytes, blk'.length = n ∧
        fullBlocks n (fun t b => (S.init (step (S.val t) b) b, ([] : Bytes))) (S.init s blk) buf =
          (S.init (chain step n k s buf) blk', [], buf.drop (n * k))
  | 0, s, blk, buf, hk, hb => by
    rw [fullBlocks_lt n _ _ buf ((Nat.div_eq_zero_iff_lt hn).mp hk)]
    exact ⟨blk, hb, rfl⟩
  | k + 1, s, blk, buf, hk', hb => by
    have hge : n ≤ buf.length := by
      rcases Nat.lt_or_ge buf.length n with hlt | hge
      · rw [Nat.div_eq_of_lt hlt] at hk'; omega
      · exact hge
    obtain ⟨blk', hb', e⟩ := fullBlocks_chain S hv hk n hn step k (step s (buf.take n)) (buf.take n) (buf.drop n)
      (by have := Nat.div_eq_sub_div hn hge; rw [List.length_drop]; omega) (by rw [List.length_take]; omega)
    rw [fullBlocks_ge n hn _ _ buf hge, hv, e]
    exact ⟨blk', hb', by rw [List.drop_drop, Nat.mul_succ, Nat.add_comm]; rfl⟩

def absorbG (S : Shape σ τ ρ) (n : Nat) (step : σ → Bytes → σ) (s : σ) (block : Bytes) (filled : Nat) (buf : Bytes) : ρ :=
  if filled ≠ 0 ∧ buf.length < n - filled then S.out s (putAt block filled buf) (filled + buf.length)
  else
    let take := if filled ≠ 0 then n - filled else 0
    let blk0 := if filled ≠ 0 then putAt block filled (buf.take take) else block
    let s0 := if filled ≠ 0 then step s blk0 else s
    let buf := buf.drop take
    let l := fullBlocks n (fun t b => (S.init (step (S.val t) b) b, ([] : Bytes))) (S.init s0 blk0) buf
    let r := l.2.2
    if r.length ≠ 0 then S.out (S.val l.1) (putAt (S.blk l.1) 0 r) r.length else S.out (S.val l.1) (S.blk l.1) 0

theorem absorbG_tail (S : Shape σ τ ρ) (hv : ∀ s b, S.val (S.init s b) = s) (hk : ∀ s b, S.blk (S.init s b) = b)
    (n : Nat) (hn : 0 < n) (step : σ → Bytes → σ) (s0 : σ) (blk0 Y : Bytes) (hb : blk0.length = n) (r : ρ)
    (hr : r = (fun l : τ × Bytes × Bytes =>
      if l.2.2.length ≠ 0 then S.out (S.val l.1) (putAt (S.blk l.1) 0 l.2.2) l.2.2.length else S.out (S.val l.1) (S.blk l.1) 0)
      (fullBlocks n (fun t b => (S.init (step (S.val t) b) b, ([] : Bytes))) (S.init s0 blk0) Y)) :
    ∃ v b fl, r = S.out v b fl ∧ (v, b.take fl) = absorb step n (· / n) (s0, []) Y ∧ b.length = n ∧
      fl = Y.length % n := by
  obtain ⟨blk', hb', e⟩ := fullBlocks_chain S hv hk n hn step _ s0 blk0 Y rfl hb
  have hlen : (Y.drop (n * (Y.length / n))).length = Y.length % n := by rw [List.length_drop, ← Nat.mod_def]
  have hlt := Nat.mod_lt Y.length hn
  rw [e] at hr
  simp only [hv, hk] at hr
  simp only [absorb, List.nil_append]
  split at hr
  · refine ⟨_, _, _, hr, Prod.ext rfl ?_, ?_, hlen⟩
    · have := chunk_take_putAt blk' (Y.drop (n * (Y.length / n))) 0 (Nat.zero_le _)
      rwa [Nat.zero_add, List.take_zero, List.nil_append] at this
    · exact (Stream.length_putAt _ _ _ (by omega)).trans hb'
  · next h =>
    have h := Decidable.not_not.mp h
    exact ⟨_, _, _, hr, Prod.ext rfl (List.eq_nil_of_length_eq_zero h).symm, hb', h.symm.trans hlen⟩

theorem absorbG_abs (S : Shape σ τ ρ) (hv : ∀ s b, S.val (S.init s b) = s) (hk : ∀ s b, S.blk (S.init s b) = b)
    (n : Nat) (step : σ → Bytes → σ) (s : σ) (block : Bytes) (filled : Nat) (buf : Bytes)
    (hb : block.length = n) (hf : filled < n) :
    ∃ v b fl, absorbG S n step s block filled buf = S.out v b fl ∧
      (v, b.take fl) = absorb step n (· / n) (s, block.take filled) buf ∧ b.length = n ∧
      fl = (filled + buf.length) % n := by
  have hn : 0 < n := by omega
  have hp : (block.take filled).length = filled := by rw [List.length_take, hb]; omega
  unfold absorbG
  by_cases h1 : filled ≠ 0 ∧ buf.length < n - filled
  · rw [if_pos h1]
    have hl : (block.take filled ++ buf).length / n = 0 := by
      rw [List.length_append, hp]; exact Nat.div_eq_of_lt (by omega)
    refine ⟨_, _, _, rfl, ?_⟩
    simp only [absorb, hl, chain, Nat.mul_zero, List.drop_zero]
    exact ⟨Prod.ext rfl (chunk_take_putAt _ _ _ (by omega)), (Stream.length_putAt _ _ _ (by omega)).trans hb,
      (Nat.mod_eq_of_lt (by omega)).symm⟩
  · rw [if_neg h1]
    by_cases h0 : filled ≠ 0
    · -- the pending block is completed by the first `n - filled` octets of `buf`
      have e : n = (block.take filled).length + (n - filled) := by omega
      have hblk : putAt block filled (buf.take (n - filled)) = (block.take filled ++ buf).take n := by
        unfold putAt
        rw [List.drop_eq_nil_of_le (by rw [List.length_take]; omega), List.append_nil]
        conv => rhs; rw [e, List.take_length_add_append]
      have hrest : buf.drop (n - filled) = (block.take filled ++ buf).drop n := by
        conv => rhs; rw [e, List.drop_length_add_append]
      have hl : (block.take filled ++ buf).length / n = ((block.take filled ++ buf).drop n).length / n + 1 := by
        rw [List.length_drop]
        exact Nat.div_eq_sub_div hn (by rw [List.length_append, hp]; omega)
      simp only [if_pos h0]
      obtain ⟨v, b, fl, er, t1, t2, t3⟩ := absorbG_tail S hv hk n hn step (step s (putAt block filled (buf.take (n - filled))))
        (putAt block filled (buf.take (n - filled))) (buf.drop (n - filled))
        (by rw [hblk, List.length_take, List.length_append, hp]; omega) _ rfl
      refine ⟨v, b, fl, er, t1.trans ?_, t2, ?_⟩
      · simp only [absorb, List.nil_append, hl, chain, hblk, hrest, Nat.mul_succ, List.drop_drop]
        rw [Nat.add_comm]
      · rw [t3, List.length_drop, Nat.mod_eq_sub_mod (show filled + buf.length ≥ n by omega)]
        congr 1; omega
    · have hz : filled = 0 := Decidable.not_not.mp h0
      simp only [if_neg h0, List.drop_zero]
      obtain ⟨v, b, fl, er, t⟩ := absorbG_tail S hv hk n hn step s block buf hb _ rfl
      refine ⟨v, b, fl, er, ?_⟩
      rwa [hz, List.take_zero, Nat.zero_add]

/-- belt_dwp.c / belt_che.c -/
def shape16 (st : PolySt) : Shape Bytes (Bytes × Bytes) PolySt :=
  ⟨Prod.mk, Prod.fst, Prod.snd, fun t b fl => { st with t := t, block := b, filled := fl }⟩

theorem absorb16_absorbG (st : PolySt) (buf : Bytes) :
    absorb16 st buf = absorbG (shape16 st) 16 (polyStep st.r) st.t st.block st.filled buf := rfl

def comprStep (C : Cipher) (sh : Bytes × Bytes) (b : Bytes) : Bytes × Bytes := compr2 C sh.1 sh.2 b

/-- belt_hash.c / belt_hmac.c -/
def shape32 : Shape (Bytes × Bytes) (Bytes × Bytes × Bytes) (Bytes × Bytes × Bytes × Nat) :=
  ⟨fun sh b => (sh.1, sh.2, b), fun t => (t.1, t.2.1), fun t => t.2.2, fun sh b fl => (sh.1, sh.2, b, fl)⟩

theorem absorb32_absorbG (C : Cipher) (s h block : Bytes) (filled : Nat) (buf : Bytes) :
    absorb32 C s h block filled buf = absorbG shape32 32 (comprStep C) (s, h) block filled buf := rfl

end Bee2V.C01
