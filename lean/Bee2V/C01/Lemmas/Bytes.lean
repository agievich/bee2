/-
C01 helper lemmas: 32-bit words and their octets (`ld32`, `u32From`, `u32To`), little-endian values of octet strings
(`leNat`, `natLE`) and of arrays of 32-bit limbs.
-/
import Bee2V.C01.Model.Basic
import Bee2V.Base.Bytes
namespace Bee2V.C01

theorem u8_ofNat_eq (n : Nat) (b : UInt8) (h : n % 256 = b.toNat) : UInt8.ofNat n = b := by
  apply UInt8.toNat_inj.mp
  simp only [UInt8.toNat_ofNat']
  exact h

theorem ld32_st32 (w : UInt32) :
    ld32 (UInt8.ofNat (w.toNat % 256)) (UInt8.ofNat (w.toNat / 256 % 256))
      (UInt8.ofNat (w.toNat / 65536 % 256)) (UInt8.ofNat (w.toNat / 16777216 % 256)) = w := by
  have := w.toNat_lt
  apply UInt32.toNat_inj.mp
  simp only [ld32, UInt8.toNat_ofNat', UInt32.toNat_ofNat']
  omega

theorem st32_ld32 (b0 b1 b2 b3 : UInt8) : st32 (ld32 b0 b1 b2 b3) = [b0, b1, b2, b3] := by
  have h0 := b0.toNat_lt; have h1 := b1.toNat_lt; have h2 := b2.toNat_lt; have h3 := b3.toNat_lt
  simp only [st32, ld32, UInt32.toNat_ofNat']
  rw [u8_ofNat_eq _ b0 (by omega), u8_ofNat_eq _ b1 (by omega), u8_ofNat_eq _ b2 (by omega), u8_ofNat_eq _ b3 (by omega)]

theorem u32From_st32_append (w : UInt32) (rest : Bytes) : u32From (st32 w ++ rest) = w :: u32From rest := by
  simp only [st32, List.cons_append, List.nil_append, u32From, ld32_st32]

theorem u32From_u32To (ws : List UInt32) : u32From (u32To ws) = ws := by
  induction ws with
  | nil => simp [u32To, u32From]
  | cons w ws ih => simp only [u32To, u32From_st32_append, ih]

theorem length_u32To (ws : List UInt32) : (u32To ws).length = 4 * ws.length := by
  induction ws with
  | nil => simp [u32To]
  | cons w ws ih => simp only [u32To, List.length_append, ih, st32, List.length_cons, List.length_nil]; omega

/-- a buffer of 16 octets is the store of its four loaded words -/
theorem u32To_u32From_16 (b : Bytes) (h : b.length = 16) : u32To (u32From b) = b := by
  match b, h with
  | [b0, b1, b2, b3, b4, b5, b6, b7, b8, b9, b10, b11, b12, b13, b14, b15], _ =>
    simp only [u32From, u32To, st32_ld32, List.cons_append, List.nil_append, List.append_nil]

theorem u32From_16 (b : Bytes) (h : b.length = 16) : ∃ w0 w1 w2 w3, u32From b = [w0, w1, w2, w3] := by
  match b, h with
  | [b0, b1, b2, b3, b4, b5, b6, b7, b8, b9, b10, b11, b12, b13, b14, b15], _ =>
    exact ⟨ld32 b0 b1 b2 b3, ld32 b4 b5 b6 b7, ld32 b8 b9 b10 b11, ld32 b12 b13 b14 b15, by simp only [u32From]⟩

/-! ### little-endian octet strings -/

theorem leNat_eq : leNat = Proto.leNat := Proto.leNat_unique _ rfl fun _ _ => rfl
theorem natLE_eq : natLE = Proto.natLE := Proto.natLE_unique _ (fun _ => rfl) fun _ _ => rfl

theorem length_natLE (n v : Nat) : (natLE n v).length = n := natLE_eq ▸ Proto.natLE_length n v

theorem leNat_natLE (n v : Nat) : leNat (natLE n v) = v % 256 ^ n := leNat_eq ▸ natLE_eq ▸ Proto.leNat_natLE n v

theorem leNat_append (a b : Bytes) : leNat (a ++ b) = leNat a + 256 ^ a.length * leNat b :=
  leNat_eq ▸ Proto.leNat_append a b

theorem leNat_lt (b : Bytes) : leNat b < 256 ^ b.length := leNat_eq ▸ Proto.leNat_lt b

theorem natLE_leNat (b : Bytes) : natLE b.length (leNat b) = b := leNat_eq ▸ natLE_eq ▸ Proto.natLE_leNat b

/-- two octet strings of the same length with the same little-endian value are equal -/
theorem eq_of_leNat_eq (a b : Bytes) (hl : a.length = b.length) (hv : leNat a = leNat b) : a = b := by
  rw [← natLE_leNat a, ← natLE_leNat b, hl, hv]

/-- value of a little-endian array of 32-bit limbs -/
def u32Val : List UInt32 → Nat
  | [] => 0
  | w :: ws => w.toNat + 2 ^ 32 * u32Val ws

theorem leNat_st32 (w : UInt32) : leNat (st32 w) = w.toNat := by
  have := w.toNat_lt
  simp only [st32, leNat]
  rw [UInt8.toNat_ofNat', UInt8.toNat_ofNat', UInt8.toNat_ofNat', UInt8.toNat_ofNat']
  omega

theorem leNat_u32To (ws : List UInt32) : leNat (u32To ws) = u32Val ws := by
  induction ws with
  | nil => rfl
  | cons w ws ih =>
    have h4 : (st32 w).length = 4 := rfl
    simp only [u32To, leNat_append, leNat_st32, ih, u32Val, h4, Nat.reducePow]

theorem u32Val_u32From (b : Bytes) (h : b.length = 16) : u32Val (u32From b) = leNat b := by
  rw [← leNat_u32To, u32To_u32From_16 b h]

end Bee2V.C01
