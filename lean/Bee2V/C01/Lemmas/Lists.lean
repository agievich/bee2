/-
C01 helper lemmas: xor of buffers, the block loop of Model/Basic.lean, induction over whole blocks, folds seen through a
component of the state (`foldl_lens`).
-/
import Bee2V.C01.Model.Basic
namespace Bee2V.C01

/-! ### xor of buffers -/

theorem length_xorb (a b : Bytes) : (xorb a b).length = min a.length b.length := by
  simp only [xorb, List.length_zipWith]

theorem xorb_nil_left (b : Bytes) : xorb [] b = [] := List.zipWith_nil_left
theorem xorb_nil_right (a : Bytes) : xorb a [] = [] := List.zipWith_nil_right

theorem xorb_cons (x y : UInt8) (a b : Bytes) : xorb (x :: a) (y :: b) = (x ^^^ y) :: xorb a b := rfl

theorem xorb_comm (a b : Bytes) : xorb a b = xorb b a := by
  induction a generalizing b with
  | nil => rw [xorb_nil_left, xorb_nil_right]
  | cons x a ih =>
    cases b with
    | nil => rfl
    | cons y b => rw [xorb_cons, xorb_cons, ih, UInt8.xor_comm]

theorem xorb_assoc (a b c : Bytes) : xorb (xorb a b) c = xorb a (xorb b c) := by
  induction a generalizing b c with
  | nil => rfl
  | cons x a ih =>
    cases b with
    | nil => rfl
    | cons y b =>
      cases c with
      | nil => rfl
      | cons z c => simp only [xorb_cons, ih, UInt8.xor_assoc]

/-- `(a ^ b) ^ b = a` when `b` covers `a` -/
theorem xorb_xorb_cancel (a b : Bytes) (h : a.length ≤ b.length) : xorb (xorb a b) b = a := by
  induction a generalizing b with
  | nil => rfl
  | cons x a ih =>
    cases b with
    | nil => simp at h
    | cons y b =>
      simp only [List.length_cons] at h
      rw [xorb_cons, xorb_cons, ih b (by omega), UInt8.xor_assoc, UInt8.xor_self, UInt8.xor_zero]

/-- `(a ^ b) ^ a = b` for buffers of equal length -/
theorem xorb_xorb_cancel_left (a b : Bytes) (h : a.length = b.length) : xorb (xorb a b) a = b := by
  rw [xorb_comm a b]; exact xorb_xorb_cancel b a (by omega)

/-- `a ^ (b ^ a) = b` for buffers of equal length -/
theorem xorb_cancel_mid (a b : Bytes) (h : b.length = a.length) : xorb a (xorb b a) = b := by
  rw [xorb_comm a, xorb_xorb_cancel b a (by omega)]

theorem xorb_append (a1 a2 b1 b2 : Bytes) (h : a1.length = b1.length) :
    xorb (a1 ++ a2) (b1 ++ b2) = xorb a1 b1 ++ xorb a2 b2 := List.zipWith_append h

theorem xorb_append_left (a a' b : Bytes) (h : b.length = a.length) : xorb (a ++ a') b = xorb a b := by
  have := xorb_append a a' b [] h.symm
  rwa [List.append_nil, xorb_nil_right, List.append_nil] at this

/-- xor with a key stream longer than the data only uses its prefix -/
theorem xorb_take_right (a g : Bytes) : xorb a (g.take a.length) = xorb a g := by
  induction a generalizing g with
  | nil => rfl
  | cons x a ih =>
    cases g with
    | nil => rfl
    | cons y g => rw [List.length_cons, List.take_succ_cons, xorb_cons, xorb_cons, ih]

theorem length_zeros (n : Nat) : (zeros n).length = n := List.length_replicate

theorem xorb_zeros (a : Bytes) (n : Nat) (h : a.length ≤ n) : xorb a (zeros n) = a := by
  induction a generalizing n with
  | nil => rfl
  | cons x a ih =>
    cases n with
    | zero => simp at h
    | succ n =>
      simp only [List.length_cons] at h
      rw [show zeros (n + 1) = 0 :: zeros n from List.replicate_succ, xorb_cons, ih n (by omega), UInt8.xor_zero]

theorem zeros_xorb (a : Bytes) (n : Nat) (h : a.length ≤ n) : xorb (zeros n) a = a := by
  rw [xorb_comm, xorb_zeros a n h]

/-! ### induction over buffers made of whole 16-octet blocks -/

theorem whole_induction {P : Bytes → Prop} (nil : P [])
    (cons : ∀ b rest : Bytes, b.length = 16 → rest.length % 16 = 0 → P rest → P (b ++ rest)) :
    ∀ x : Bytes, x.length % 16 = 0 → P x := by
  intro x h
  suffices hs : ∀ (n : Nat) (x : Bytes), x.length = 16 * n → P x from hs (x.length / 16) x (by omega)
  intro n
  induction n with
  | zero =>
    intro x hx
    have : x = [] := List.eq_nil_of_length_eq_zero (by omega)
    subst this; exact nil
  | succ n ih =>
    intro x hx
    rw [← List.take_append_drop 16 x]
    apply cons
    · simp only [List.length_take]; omega
    · simp only [List.length_drop]; omega
    · apply ih; simp only [List.length_drop]; omega

/-! ### the block loop -/

section loop
variable {σ : Type}

theorem blockLoop_stop (bs : Nat) (cond : Nat → Bool) (body : σ → Bytes → σ × Bytes) (fuel : Nat) (s : σ)
    (rest : Bytes) (h : cond rest.length = false) : blockLoop bs cond body fuel s rest = (s, [], rest) := by
  cases fuel <;> simp [blockLoop, h]

/-- the fuel is irrelevant as soon as it is at least the number of octets left -/
theorem blockLoop_fuel (bs : Nat) (hbs : 0 < bs) (cond : Nat → Bool) (body : σ → Bytes → σ × Bytes)
    (hc : ∀ n, cond n = true → bs ≤ n) :
    ∀ (f1 f2 : Nat) (s : σ) (rest : Bytes), rest.length ≤ f1 → rest.length ≤ f2 →
      blockLoop bs cond body f1 s rest = blockLoop bs cond body f2 s rest := by
  intro f1
  induction f1 with
  | zero =>
    intro f2 s rest h1 h2
    have hcr : cond rest.length = false := by
      cases hcr : cond rest.length with
      | false => rfl
      | true => have := hc _ hcr; omega
    rw [blockLoop_stop _ _ _ _ _ _ hcr, blockLoop_stop _ _ _ _ _ _ hcr]
  | succ f1 ih =>
    intro f2 s rest h1 h2
    cases hcr : cond rest.length with
    | false => rw [blockLoop_stop _ _ _ _ _ _ hcr, blockLoop_stop _ _ _ _ _ _ hcr]
    | true =>
      have := hc _ hcr
      cases f2 with
      | zero => omega
      | succ f2 =>
        have hd : (rest.drop bs).length ≤ f1 := by simp only [List.length_drop]; omega
        have hd2 : (rest.drop bs).length ≤ f2 := by simp only [List.length_drop]; omega
        simp only [blockLoop, hcr, if_true]
        rw [ih f2 _ _ hd hd2]

/-- one iteration of the loop -/
theorem blockLoop_cons (cond : Nat → Bool) (body : σ → Bytes → σ × Bytes) (hc : ∀ n, cond n = true → 16 ≤ n)
    (fuel : Nat) (s : σ) (b rest : Bytes) (hb : b.length = 16) (hcond : cond (16 + rest.length) = true)
    (hf : 16 + rest.length ≤ fuel) :
    blockLoop 16 cond body fuel s (b ++ rest) =
      ((blockLoop 16 cond body rest.length (body s b).1 rest).1,
       (body s b).2 ++ (blockLoop 16 cond body rest.length (body s b).1 rest).2.1,
       (blockLoop 16 cond body rest.length (body s b).1 rest).2.2) := by
  cases fuel with
  | zero => omega
  | succ fuel =>
    simp only [blockLoop, List.length_append, hb, hcond, if_true, List.take_left' hb, List.drop_left' hb]
    rw [blockLoop_fuel 16 (by omega) cond body hc fuel rest.length _ rest (by omega) (Nat.le_refl _)]

/-! `while (count >= bs)`, any block size -/

theorem fullBlocks_lt (bs : Nat) (body : σ → Bytes → σ × Bytes) (s : σ) (buf : Bytes) (h : buf.length < bs) :
    fullBlocks bs body s buf = (s, [], buf) :=
  blockLoop_stop _ _ _ _ _ _ (by simp only [decide_eq_false_iff_not]; omega)

theorem fullBlocks_ge (bs : Nat) (hbs : 0 < bs) (body : σ → Bytes → σ × Bytes) (s : σ) (buf : Bytes)
    (h : bs ≤ buf.length) :
    fullBlocks bs body s buf =
      ((fullBlocks bs body (body s (buf.take bs)).1 (buf.drop bs)).1,
       (body s (buf.take bs)).2 ++ (fullBlocks bs body (body s (buf.take bs)).1 (buf.drop bs)).2.1,
       (fullBlocks bs body (body s (buf.take bs)).1 (buf.drop bs)).2.2) := by
  unfold fullBlocks
  cases hn : buf.length with
  | zero => omega
  | succ n =>
    simp only [blockLoop]
    rw [if_pos (by simp only [decide_eq_true_eq]; omega)]
    rw [blockLoop_fuel bs hbs _ body (by simp) n (buf.drop bs).length _ _
      (by simp only [List.length_drop]; omega) (Nat.le_refl _)]

/-! `while (count >= 16)` -/

theorem fullBlocks_short (body : σ → Bytes → σ × Bytes) (s : σ) (t : Bytes) (h : t.length < 16) :
    fullBlocks 16 body s t = (s, [], t) := fullBlocks_lt 16 body s t h

theorem fullBlocks_nil (body : σ → Bytes → σ × Bytes) (s : σ) : fullBlocks 16 body s [] = (s, [], []) :=
  fullBlocks_short body s [] (by simp)

theorem fullBlocks_cons (body : σ → Bytes → σ × Bytes) (s : σ) (b rest : Bytes) (hb : b.length = 16) :
    fullBlocks 16 body s (b ++ rest) =
      ((fullBlocks 16 body (body s b).1 rest).1,
       (body s b).2 ++ (fullBlocks 16 body (body s b).1 rest).2.1,
       (fullBlocks 16 body (body s b).1 rest).2.2) := by
  rw [fullBlocks_ge 16 (by omega) body s _ (by rw [List.length_append, hb]; omega), List.take_left' hb,
    List.drop_left' hb]

/-- A loop `while (cond(count))` over `x ++ y`, `x` made of whole blocks, where `cond` holds as long as
at least one block of `x` is left, is the plain `while (count >= 16)` loop over `x` followed by the loop
over `y`. -/
theorem blockLoop_append (cond : Nat → Bool) (body : σ → Bytes → σ × Bytes) (hc : ∀ n, cond n = true → 16 ≤ n)
    (y : Bytes) (hy : ∀ m, 0 < m → m % 16 = 0 → cond (m + y.length) = true) :
    ∀ x : Bytes, x.length % 16 = 0 → ∀ (s : σ) (fuel : Nat), x.length + y.length ≤ fuel →
      blockLoop 16 cond body fuel s (x ++ y) =
        ((blockLoop 16 cond body y.length (fullBlocks 16 body s x).1 y).1,
         (fullBlocks 16 body s x).2.1 ++ (blockLoop 16 cond body y.length (fullBlocks 16 body s x).1 y).2.1,
         (blockLoop 16 cond body y.length (fullBlocks 16 body s x).1 y).2.2) := by
  intro x hx
  refine whole_induction (P := fun x => ∀ (s : σ) (fuel : Nat), x.length + y.length ≤ fuel →
      blockLoop 16 cond body fuel s (x ++ y) =
        ((blockLoop 16 cond body y.length (fullBlocks 16 body s x).1 y).1,
         (fullBlocks 16 body s x).2.1 ++ (blockLoop 16 cond body y.length (fullBlocks 16 body s x).1 y).2.1,
         (blockLoop 16 cond body y.length (fullBlocks 16 body s x).1 y).2.2)) ?_ ?_ x hx
  · intro s fuel hf
    simp only [fullBlocks_nil, List.nil_append]
    rw [blockLoop_fuel 16 (by omega) cond body hc fuel y.length s y (by simpa using hf) (Nat.le_refl _)]
  · intro b rest hb hrest ih s fuel hf
    simp only [List.length_append] at hf
    rw [List.append_assoc, blockLoop_cons cond body hc fuel s b (rest ++ y) hb
      (by simp only [List.length_append]; rw [← Nat.add_assoc]; exact hy _ (by omega) (by omega))
      (by simp only [List.length_append]; omega)]
    rw [ih (body s b).1 _ (by simp only [List.length_append]; omega), fullBlocks_cons body s b rest hb]
    simp only [List.append_assoc]

theorem fullBlocks_append (body : σ → Bytes → σ × Bytes) (s : σ) (x y : Bytes) (hx : x.length % 16 = 0) :
    fullBlocks 16 body s (x ++ y) =
      ((fullBlocks 16 body (fullBlocks 16 body s x).1 y).1,
       (fullBlocks 16 body s x).2.1 ++ (fullBlocks 16 body (fullBlocks 16 body s x).1 y).2.1,
       (fullBlocks 16 body (fullBlocks 16 body s x).1 y).2.2) := by
  have := blockLoop_append (fun n => decide (16 ≤ n)) body (by simp) y (by intro m h1 h2; simp; omega) x hx s
    (x ++ y).length (by simp)
  unfold fullBlocks at *
  exact this

end loop

theorem foldl_lens {σ τ κ β : Type} (p : σ → τ) (k : σ → κ) (step : σ → β → σ) (pstep : τ → β → τ)
    (hp : ∀ s b, p (step s b) = pstep (p s) b) (hk : ∀ s b, k (step s b) = k s) :
    ∀ (l : List β) (s : σ), p (l.foldl step s) = l.foldl pstep (p s) ∧ k (l.foldl step s) = k s := by
  intro l
  induction l with
  | nil => intro s; exact ⟨rfl, rfl⟩
  | cons b l ih => intro s; simp only [List.foldl_cons]; rw [(ih _).1, (ih _).2, hp, hk]; exact ⟨rfl, rfl⟩

end Bee2V.C01
