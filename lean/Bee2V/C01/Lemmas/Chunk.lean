/-
C01 helper lemmas: chunk independence of the buffered absorbers (belt_mac.c, belt_hash.c, belt_hmac.c).
The state reached after absorbing data in fragments is described by the concatenated data alone.
-/
import Bee2V.C01.Model.Hash
import Bee2V.C01.Lemmas.Aead
import Bee2V.C01.Lemmas.Absorb
namespace Bee2V.C01

/-! ### belt-MAC: the state as a function of the data absorbed so far -/

/-- CBC-MAC chain value after `n` whole 16-octet blocks of `X`, starting from `s` -/
def macChain (C : Cipher) (k : Bytes) : Nat → Bytes → Bytes → Bytes
  | 0, s, _ => s
  | n + 1, s, X => macChain C k n (C.enc k (xorb s (X.take 16))) (X.drop 16)

/-- number of blocks already folded into `s` once `X` has been absorbed: all blocks but the last
(possibly full) one, which stays pending -/
def macNb (X : Bytes) : Nat := (X.length - 1) / 16

/-- `st->s` once `X` has been absorbed -/
def macS (C : Cipher) (k : Bytes) (X : Bytes) : Bytes := macChain C k (macNb X) (zeros 16) X

/-- the pending octets `st->block[0 .. filled)` once `X` has been absorbed -/
def macPend (X : Bytes) : Bytes := X.drop (16 * macNb X)

theorem length_macPend (X : Bytes) :
    (macPend X).length = if X = [] then 0 else (X.length - 1) % 16 + 1 := by
  simp only [macPend, macNb, List.length_drop]
  split
  · next h => subst h; rfl
  · next h =>
    have : X.length ≠ 0 := fun h0 => h (List.eq_nil_of_length_eq_zero h0)
    omega

theorem macChain_eq_chain (C : Cipher) (k : Bytes) : ∀ (n : Nat) (s X : Bytes),
    macChain C k n s X = Buffer.chain (fun s b => C.enc k (xorb s b)) 16 n s X
  | 0, _, _ => rfl
  | n + 1, s, X => by rw [macChain, Buffer.chain, macChain_eq_chain C k n]

theorem macChain_succ_right (C : Cipher) (k : Bytes) (n : Nat) (s X : Bytes) :
    macChain C k (n + 1) s X =
      C.enc k (xorb (macChain C k n s X) ((X.drop (16 * n)).take 16)) := by
  simp only [macChain_eq_chain, Buffer.chain_add]; rfl

theorem chunk_drop_block16 (blk Y : Bytes) (n : Nat) (hb : blk.length = 16) :
    (blk ++ Y).drop (16 * (n + 1)) = Y.drop (16 * n) := by
  have e : 16 * (n + 1) = blk.length + 16 * n := by omega
  rw [e, List.drop_append, List.drop_of_length_le (by omega), List.nil_append, Nat.add_sub_cancel_left]

/-- the loop over full blocks in `beltMACStepA` -/
theorem mac_loop (C : Cipher) (k : Bytes) :
    ∀ (m : Nat) (Y s blk : Bytes), Y.length / 16 = m → blk.length = 16 →
      fullBlocks 16 (fun (sb : Bytes × Bytes) b => ((C.enc k (xorb sb.1 sb.2), b), ([] : Bytes))) (s, blk) Y =
        ((macChain C k m s (blk ++ Y), ((blk ++ Y).drop (16 * m)).take 16), [], Y.drop (16 * m)) := by
  intro m
  induction m with
  | zero =>
    intro Y s blk hm hb
    rw [fullBlocks_lt _ _ _ _ (by omega)]
    simp [macChain, List.take_left' hb]
  | succ m ih =>
    intro Y s blk hm hb
    have hY : 16 ≤ Y.length := by omega
    rw [fullBlocks_ge 16 (by omega) _ _ _ hY]
    have ht : (Y.take 16).length = 16 := by simp only [List.length_take]; omega
    rw [ih (Y.drop 16) _ (Y.take 16) (by simp only [List.length_drop]; omega) ht]
    rw [chunk_drop_block16 blk Y m hb]
    simp only [List.take_append_drop, List.nil_append, macChain, List.take_left' hb, List.drop_left' hb,
      List.drop_drop]
    have e2 : 16 + 16 * m = 16 * (m + 1) := by omega
    rw [e2]

/-- the part of `beltMACStepA` after the pending block has been completed -/
def macTail (C : Cipher) (st : MacSt) (blk0 buf : Bytes) : MacSt :=
  let l := fullBlocks 16 (fun (sb : Bytes × Bytes) b => ((C.enc st.key (xorb sb.1 sb.2), b), [])) (st.s, blk0) buf
  let r := l.2.2
  if r.length ≠ 0 then
    let s := C.enc st.key (xorb l.1.1 l.1.2)
    { st with s := s, block := putAt l.1.2 0 r, filled := r.length }
  else { st with s := l.1.1, block := l.1.2, filled := 16 }

/-- what an absorption step does to the abstract state (chain value, pending octets) -/
structure MacStepAbs (C : Cipher) (st st' : MacSt) (Z : Bytes) : Prop where
  key : st'.key = st.key
  r : st'.r = st.r
  s : st'.s = macChain C st.key ((Z.length - 1) / 16) st.s Z
  filled : st'.filled = Z.length - 16 * ((Z.length - 1) / 16)
  pend : st'.block.take st'.filled = Z.drop (16 * ((Z.length - 1) / 16))
  blen : st'.block.length = 16

theorem MacStepAbs.of_n {C : Cipher} {st st' : MacSt} {Z : Bytes} (n : Nat) (hn : (Z.length - 1) / 16 = n)
    (key : st'.key = st.key) (r : st'.r = st.r) (s : st'.s = macChain C st.key n st.s Z)
    (filled : st'.filled = Z.length - 16 * n) (pend : st'.block.take st'.filled = Z.drop (16 * n))
    (blen : st'.block.length = 16) : MacStepAbs C st st' Z := by
  subst hn; exact ⟨key, r, s, filled, pend, blen⟩

theorem macTail_abs (C : Cipher) (st : MacSt) (blk0 Y : Bytes) (hb : blk0.length = 16) :
    MacStepAbs C st (macTail C st blk0 Y) (blk0 ++ Y) := by
  have hZ : (blk0 ++ Y).length = 16 + Y.length := by simp only [List.length_append, hb]
  have hl := mac_loop C st.key (Y.length / 16) Y st.s blk0 rfl hb
  unfold macTail
  rw [hl]
  have hrl : (Y.drop (16 * (Y.length / 16))).length = Y.length % 16 := by
    simp only [List.length_drop]; omega
  have hbl : (((blk0 ++ Y).drop (16 * (Y.length / 16))).take 16).length = 16 := by
    simp only [List.length_take, List.length_drop, hZ]; omega
  by_cases hr : Y.length % 16 = 0
  · have hn : ((blk0 ++ Y).length - 1) / 16 = Y.length / 16 := by rw [hZ]; omega
    simp only [hrl, hr, ne_eq, not_true_eq_false, if_false]
    refine MacStepAbs.of_n _ hn rfl rfl rfl (by simp only [hZ]; omega) ?_ hbl
    show List.take 16 _ = _
    rw [List.take_take, Nat.min_self]
    exact List.take_of_length_le (by simp only [List.length_drop, hZ]; omega)
  · have hn : ((blk0 ++ Y).length - 1) / 16 = Y.length / 16 + 1 := by rw [hZ]; omega
    simp only [hrl, hr, ne_eq, not_false_eq_true, if_true]
    refine MacStepAbs.of_n _ hn rfl rfl ?_ (by simp only [hZ]; omega) ?_ ?_
    · rw [macChain_succ_right]
    · show List.take (Y.length % 16) (putAt _ 0 _) = _
      have := chunk_take_putAt (((blk0 ++ Y).drop (16 * (Y.length / 16))).take 16)
        (Y.drop (16 * (Y.length / 16))) 0 (by omega)
      simp only [Nat.zero_add, hrl, List.take_zero, List.nil_append] at this
      rw [this, chunk_drop_block16 blk0 Y _ hb]
    · rw [Stream.length_putAt _ _ _ (by rw [hbl, hrl]; omega), hbl]

theorem macStepA_abs (C : Cipher) (st : MacSt) (buf : Bytes) (hb : st.block.length = 16) (hf : st.filled ≤ 16) :
    MacStepAbs C st (macStepA C st buf) (st.block.take st.filled ++ buf) := by
  have hZ : (st.block.take st.filled ++ buf).length = st.filled + buf.length := by
    simp only [List.length_append, List.length_take]; omega
  by_cases hc : st.filled < 16 ∧ buf.length ≤ 16 - st.filled
  · have hn : (st.filled + buf.length - 1) / 16 = 0 := by omega
    unfold macStepA
    rw [if_pos hc]
    refine MacStepAbs.of_n 0 (by rw [hZ]; exact hn) rfl rfl rfl (by simp only [hZ]; omega) ?_ ?_
    · exact chunk_take_putAt _ _ _ (by omega)
    · rw [Stream.length_putAt _ _ _ (by omega), hb]
  · by_cases hf16 : st.filled < 16
    · have hlt : 16 - st.filled < buf.length := by omega
      have hblk0 : putAt st.block st.filled (buf.take (16 - st.filled)) =
          st.block.take st.filled ++ buf.take (16 - st.filled) := by
        unfold putAt
        rw [List.drop_of_length_le (by simp only [List.length_take]; omega), List.append_nil]
      have e : macStepA C st buf = macTail C st (st.block.take st.filled ++ buf.take (16 - st.filled))
          (buf.drop (16 - st.filled)) := by
        unfold macStepA macTail
        rw [if_neg hc]
        simp only [hf16, if_true, hblk0]
      rw [e]
      have := macTail_abs C st (st.block.take st.filled ++ buf.take (16 - st.filled)) (buf.drop (16 - st.filled))
        (by simp only [List.length_append, List.length_take]; omega)
      rwa [List.append_assoc, List.take_append_drop] at this
    · have hf' : st.filled = 16 := by omega
      have e : macStepA C st buf = macTail C st st.block buf := by
        unfold macStepA macTail
        rw [if_neg hc]
        simp only [hf16, if_false, List.drop_zero]
      rw [e, hf', List.take_of_length_le (by omega)]
      exact macTail_abs C st st.block buf hb

/-- The belt-MAC state after the data `X` has been absorbed, in whatever fragments: everything the later steps
read is a function of `X` (and of the key material `k`, `r`) alone. The octets `block[filled .. 16)` are
deliberately not mentioned: they depend on the fragmentation. -/
structure MacInv (C : Cipher) (k r : Bytes) (X : Bytes) (st : MacSt) : Prop where
  key : st.key = k
  r : st.r = r
  s : st.s = macS C k X
  filled : st.filled = (macPend X).length
  pend : st.block.take st.filled = macPend X
  blen : st.block.length = 16

theorem macInv_start (C : Cipher) (key : Bytes) :
    MacInv C (fmtKey key) (C.enc (fmtKey key) (zeros 16)) [] (macStart C key) :=
  ⟨rfl, rfl, rfl, rfl, rfl, rfl⟩

theorem macInv_stepA {C : Cipher} {k r X : Bytes} {st : MacSt} (h : MacInv C k r X st) (buf : Bytes) :
    MacInv C k r (X ++ buf) (macStepA C st buf) := by
  have hf : st.filled ≤ 16 := by rw [h.filled]; simp only [macPend, macNb, List.length_drop]; omega
  obtain ⟨akey, ar, as, afilled, apend, ablen⟩ := macStepA_abs C st buf h.blen hf
  rw [h.pend] at as afilled apend
  -- the last block is held back: the rule is `(n - 1) / 16`
  have e := Buffer.absorb_append (f := fun s b => C.enc k (xorb s b)) (B := 16) (nb := fun n => (n - 1) / 16)
    (by intro n; omega) (by intro n m; omega) (zeros 16, []) X buf
  simp only [Buffer.absorb, List.nil_append, ← macChain_eq_chain] at e
  refine ⟨akey.trans h.key, ar.trans h.r, ?_, ?_, ?_, ablen⟩
  · rw [as, h.key, h.s]; exact (congrArg Prod.fst e).symm
  · rw [afilled, ← List.length_drop]; exact congrArg List.length (congrArg Prod.snd e).symm
  · rw [apend]; exact (congrArg Prod.snd e).symm

theorem macInv_fold {C : Cipher} {k r : Bytes} (cs : List Bytes) :
    ∀ {X : Bytes} {st : MacSt}, MacInv C k r X st → MacInv C k r (X ++ cs.flatten) (cs.foldl (macStepA C) st) := by
  induction cs with
  | nil => intro X st h; simpa using h
  | cons c cs ih =>
    intro X st h
    simp only [List.foldl_cons, List.flatten_cons, ← List.append_assoc]
    exact ih (macInv_stepA h c)

/-- the tag block `st->mac` computed by `beltMACStepG_internal`, as a function of the absorbed data -/
def macTagSpec (C : Cipher) (k r X : Bytes) : Bytes :=
  let r0 := r.take 4
  let r1 := (r.drop 4).take 4
  let r2 := (r.drop 8).take 4
  let r3 := (r.drop 12).take 4
  if (macPend X).length = 16 then
    C.enc k (xorb (xorb (macS C k X) (macPend X)) (r1 ++ r2 ++ r3 ++ xorb r0 r1))
  else
    C.enc k (xorb (xorb (macS C k X) (macPend X ++ [0x80] ++ zeros (16 - (macPend X).length - 1)))
      (xorb r0 r3 ++ r0 ++ r1 ++ r2))

theorem macInv_tag {C : Cipher} {k r X : Bytes} {st : MacSt} (h : MacInv C k r X st) :
    (macStepGInternal C st).mac = macTagSpec C k r X := by
  unfold macStepGInternal macTagSpec
  by_cases hf : st.filled = 16
  · have hb : st.block = macPend X := by
      rw [← h.pend, hf, List.take_of_length_le (by rw [h.blen]; omega)]
    have hp : (macPend X).length = 16 := by rw [← h.filled]; exact hf
    simp only [hf, beq_self_eq_true, if_true, hp, h.key, h.r, h.s, hb]
  · have hbeq : (st.filled == 16) = false := by simpa using hf
    simp only [hbeq, hf, Bool.false_eq_true, if_false, h.key, h.r, h.s, h.pend, ← h.filled]

/-- `beltMACStepG_internal` only writes `mac` and the padding octets: the state still describes `X` -/
theorem macInv_stepG {C : Cipher} {k r X : Bytes} {st : MacSt} (h : MacInv C k r X st) :
    MacInv C k r X (macStepGInternal C st) := by
  have hpl : (macPend X).length = X.length - 16 * macNb X := by simp only [macPend, List.length_drop]
  have hf : st.filled ≤ 16 := by rw [h.filled, hpl]; unfold macNb; omega
  unfold macStepGInternal
  by_cases hf16 : st.filled = 16
  · have hbeq : (st.filled == 16) = true := by simp [hf16]
    simp only [hbeq, if_true]
    exact ⟨h.key, h.r, h.s, h.filled, h.pend, h.blen⟩
  · have hbeq : (st.filled == 16) = false := by simpa using hf16
    simp only [hbeq, Bool.false_eq_true, if_false]
    have hl : (st.block.take st.filled).length = st.filled := by
      simp only [List.length_take, h.blen]; omega
    refine ⟨h.key, h.r, h.s, h.filled, ?_, ?_⟩
    · show List.take st.filled (st.block.take st.filled ++ [0x80] ++ zeros (16 - st.filled - 1)) = _
      rw [List.append_assoc, List.take_left' hl, h.pend]
    · show (st.block.take st.filled ++ [0x80] ++ zeros (16 - st.filled - 1)).length = 16
      simp only [List.length_append, hl, zeros, List.length_replicate, List.length_cons, List.length_nil]
      omega

/-- a session of `beltMACStepA` / `beltMACStepG2` calls -/
inductive MacOp where
  | absorb (buf : Bytes)
  | get (n : Nat)

def MacOp.data : MacOp → Bytes
  | .absorb b => b
  | .get _ => []

def macRun (C : Cipher) (st : MacSt) (ops : List MacOp) : MacSt :=
  ops.foldl (fun st op => match op with
    | .absorb b => macStepA C st b
    | .get n => (macStepG C st n).1) st

theorem macInv_run {C : Cipher} {k r : Bytes} (ops : List MacOp) :
    ∀ {X : Bytes} {st : MacSt}, MacInv C k r X st →
      MacInv C k r (X ++ (ops.map MacOp.data).flatten) (macRun C st ops) := by
  induction ops with
  | nil => intro X st h; simpa [macRun] using h
  | cons op ops ih =>
    intro X st h
    cases op with
    | absorb b =>
      have := ih (macInv_stepA h b)
      simpa only [macRun, List.foldl_cons, List.map_cons, List.flatten_cons, MacOp.data, List.append_assoc] using this
    | get n =>
      have := ih (macInv_stepG h)
      simpa only [macRun, List.foldl_cons, List.map_cons, List.flatten_cons, MacOp.data, List.nil_append,
        macStepG] using this

/-! ### belt-hash / belt-HMAC: the 32-octet absorber -/

/-- `(s, h)` after `n` whole 32-octet blocks of `X` have been compressed, starting from `sh` -/
def comprChain (C : Cipher) : Nat → Bytes × Bytes → Bytes → Bytes × Bytes
  | 0, sh, _ => sh
  | n + 1, sh, X => comprChain C n (compr2 C sh.1 sh.2 (X.take 32)) (X.drop 32)

theorem comprChain_eq_chain (C : Cipher) : ∀ (n : Nat) (sh : Bytes × Bytes) (X : Bytes),
    comprChain C n sh X = Buffer.chain (comprStep C) 32 n sh X
  | 0, _, _ => rfl
  | n + 1, sh, X => by rw [comprChain, Buffer.chain, comprChain_eq_chain C n]; rfl

theorem comprChain_add (C : Cipher) (n m : Nat) (sh : Bytes × Bytes) (X : Bytes) :
    comprChain C (n + m) sh X = comprChain C m (comprChain C n sh X) (X.drop (32 * n)) := by
  simp only [comprChain_eq_chain, Buffer.chain_add]

theorem chunk_drop_block32 (blk Y : Bytes) (n : Nat) (hb : blk.length = 32) :
    (blk ++ Y).drop (32 * (n + 1)) = Y.drop (32 * n) := by
  have e : 32 * (n + 1) = blk.length + 32 * n := by omega
  rw [e, List.drop_append, List.drop_of_length_le (by omega), List.nil_append, Nat.add_sub_cancel_left]

/-- what `absorb32` does to the abstract state ((s, h), pending octets), `Z` = pending octets ++ new data -/
structure AbsorbAbs (C : Cipher) (s h : Bytes) (r : Bytes × Bytes × Bytes × Nat) (Z : Bytes) : Prop where
  sh : (r.1, r.2.1) = comprChain C (Z.length / 32) (s, h) Z
  filled : r.2.2.2 = Z.length % 32
  pend : r.2.2.1.take r.2.2.2 = Z.drop (32 * (Z.length / 32))
  blen : r.2.2.1.length = 32

theorem absorb32_abs (C : Cipher) (s h block : Bytes) (filled : Nat) (buf : Bytes)
    (hb : block.length = 32) (hf : filled < 32) :
    AbsorbAbs C s h (absorb32 C s h block filled buf) (block.take filled ++ buf) := by
  obtain ⟨v, b, fl, e, a, alen, afl⟩ :=
    absorbG_abs shape32 (fun _ _ => rfl) (fun _ _ => rfl) 32 (comprStep C) (s, h) block filled buf hb hf
  have hp : (block.take filled ++ buf).length = filled + buf.length := by
    rw [List.length_append, List.length_take, hb]; omega
  rw [absorb32_absorbG, e]
  exact ⟨by rw [comprChain_eq_chain]; exact congrArg Prod.fst a, afl.trans (by rw [hp]), congrArg Prod.snd a, alen⟩

/-- The fields `(ls, h, block, filled)` of a belt-hash / belt-HMAC state after the data `X` has been absorbed,
starting from `(s0, h0)`: `L` is the length block, `(s, h)` the compression chain over the whole 32-octet blocks
of `X`, the first `filled = |X| mod 32` octets of `block` the pending ones. -/
structure SpongeInv (C : Cipher) (L s0 h0 X : Bytes) (ls h block : Bytes) (fl : Nat) : Prop where
  len : ls.take 16 = L
  llen : L.length = 16
  sh : (ls.drop 16, h) = comprChain C (X.length / 32) (s0, h0) X
  filled : fl = X.length % 32
  pend : block.take fl = X.drop (32 * (X.length / 32))
  blen : block.length = 32

theorem spongeInv_step {C : Cipher} {L s0 h0 X ls h block : Bytes} {filled : Nat}
    (inv : SpongeInv C L s0 h0 X ls h block filled) (buf : Bytes) :
    SpongeInv C (addBitSizeBlock L buf.length) s0 h0 (X ++ buf)
      (addBitSizeBlock (ls.take 16) buf.length ++ (absorb32 C (ls.drop 16) h block filled buf).1)
      (absorb32 C (ls.drop 16) h block filled buf).2.1
      (absorb32 C (ls.drop 16) h block filled buf).2.2.1
      (absorb32 C (ls.drop 16) h block filled buf).2.2.2 := by
  have hf : filled < 32 := by rw [inv.filled]; omega
  obtain ⟨v, b, fl, e, a, alen, afl⟩ := absorbG_abs shape32 (fun _ _ => rfl) (fun _ _ => rfl) 32 (comprStep C)
    (ls.drop 16, h) block filled buf inv.blen hf
  -- the state before the call is what absorbing `X` from `(s0, h0)` gives
  have hX : ((ls.drop 16, h), block.take filled) = Buffer.absorb (comprStep C) 32 (· / 32) ((s0, h0), []) X := by
    simp only [Buffer.absorb, List.nil_append, ← comprChain_eq_chain, ← inv.sh, inv.pend]
  rw [hX, ← Buffer.absorb_append (by intro n; omega) (by intro n m; omega)] at a
  simp only [Buffer.absorb, List.nil_append, ← comprChain_eq_chain] at a
  have hl16 : (addBitSizeBlock (ls.take 16) buf.length).length = 16 :=
    Aead.length_addBitSizeBlock _ _ (by rw [inv.len]; exact inv.llen)
  rw [absorb32_absorbG, e]
  refine ⟨?_, Aead.length_addBitSizeBlock _ _ inv.llen, ?_, ?_, congrArg Prod.snd a, alen⟩
  · rw [List.take_left' hl16, inv.len]
  · rw [List.drop_left' hl16]; exact congrArg Prod.fst a
  · show fl = _; rw [afl, inv.filled, List.length_append]; omega

/-! #### belt-hash -/

def HashInv (C : Cipher) (L X : Bytes) (st : HashSt) : Prop :=
  SpongeInv C L (zeros 16) hInit X st.ls st.h st.block st.filled

theorem hashInv_start (C : Cipher) : HashInv C (zeros 16) [] hashStart :=
  ⟨rfl, rfl, rfl, rfl, rfl, rfl⟩

theorem hashInv_stepH {C : Cipher} {L X : Bytes} {st : HashSt} (h : HashInv C L X st) (buf : Bytes) :
    HashInv C (addBitSizeBlock L buf.length) (X ++ buf) (hashStepH C st buf) :=
  spongeInv_step h buf

/-- the length block after a sequence of fragments -/
def lenFold (L : Bytes) (cs : List Bytes) : Bytes := cs.foldl (fun L c => addBitSizeBlock L c.length) L

theorem hashInv_fold {C : Cipher} (cs : List Bytes) :
    ∀ {L X : Bytes} {st : HashSt}, HashInv C L X st →
      HashInv C (lenFold L cs) (X ++ cs.flatten) (cs.foldl (hashStepH C) st) := by
  induction cs with
  | nil => intro L X st h; simpa [lenFold] using h
  | cons c cs ih =>
    intro L X st h
    simp only [List.foldl_cons, List.flatten_cons, ← List.append_assoc, lenFold]
    exact ih (hashInv_stepH h c)

/-- the inner digest computed by `beltHashStepG_internal` / `beltHMACStepG_internal`, as a function of the length
block and the absorbed data -/
def spongeOut (C : Cipher) (L s0 h0 X : Bytes) : Bytes :=
  let sh := comprChain C (X.length / 32) (s0, h0) X
  if X.length % 32 ≠ 0 then
    let r := compr2 C sh.1 sh.2 (X.drop (32 * (X.length / 32)) ++ zeros (32 - X.length % 32))
    compr C r.2 (L ++ r.1)
  else compr C sh.2 (L ++ sh.1)

theorem spongeInv_out {C : Cipher} {L s0 h0 X ls h block : Bytes} {fl : Nat}
    (inv : SpongeInv C L s0 h0 X ls h block fl) :
    (if fl ≠ 0 then
      compr C (compr2 C (ls.drop 16) h (block.take fl ++ zeros (32 - fl))).2
        (ls.take 16 ++ (compr2 C (ls.drop 16) h (block.take fl ++ zeros (32 - fl))).1)
     else compr C h ls) = spongeOut C L s0 h0 X := by
  have h1 : ls.drop 16 = (comprChain C (X.length / 32) (s0, h0) X).1 := congrArg Prod.fst inv.sh
  have h2 : h = (comprChain C (X.length / 32) (s0, h0) X).2 := congrArg Prod.snd inv.sh
  have hls : ls = L ++ (comprChain C (X.length / 32) (s0, h0) X).1 := by
    rw [← h1, ← inv.len, List.take_append_drop]
  unfold spongeOut
  by_cases hf : fl ≠ 0
  · have hx : X.length % 32 ≠ 0 := by rw [← inv.filled]; exact hf
    simp only [hf, hx, ne_eq, not_false_eq_true, if_true, inv.pend, h1, h2, inv.len]
    rw [inv.filled]
  · have hx : ¬ X.length % 32 ≠ 0 := by rw [← inv.filled]; exact hf
    simp only [hf, hx, if_false, h2]
    rw [hls]

/-- writing the zero padding behind the pending octets keeps the description -/
theorem spongeInv_pad {C : Cipher} {L s0 h0 X ls h block : Bytes} {fl : Nat}
    (inv : SpongeInv C L s0 h0 X ls h block fl) :
    SpongeInv C L s0 h0 X ls h (block.take fl ++ zeros (32 - fl)) fl := by
  have hfl : fl < 32 := by rw [inv.filled]; omega
  have hl : (block.take fl).length = fl := by simp only [List.length_take, inv.blen]; omega
  refine ⟨inv.len, inv.llen, inv.sh, inv.filled, ?_, ?_⟩
  · rw [List.take_left' hl, inv.pend]
  · simp only [List.length_append, hl, zeros, List.length_replicate]; omega

/-- `st->h1` computed by `beltHashStepG_internal` -/
def hashOutSpec (C : Cipher) (L X : Bytes) : Bytes := spongeOut C L (zeros 16) hInit X

theorem hashInv_out {C : Cipher} {L X : Bytes} {st : HashSt} (h : HashInv C L X st) :
    (hashStepGInternal C st).h1 = hashOutSpec C L X := by
  have := spongeInv_out h
  unfold hashStepGInternal hashOutSpec
  by_cases hf : st.filled ≠ 0
  · simp only [hf, ne_eq, not_false_eq_true, if_true] at this ⊢
    exact this
  · simp only [hf, if_false] at this ⊢
    exact this

theorem hashInv_stepG {C : Cipher} {L X : Bytes} {st : HashSt} (h : HashInv C L X st) :
    HashInv C L X (hashStepGInternal C st) := by
  unfold hashStepGInternal
  by_cases hf : st.filled ≠ 0
  · simp only [hf, ne_eq, not_false_eq_true, if_true]
    exact spongeInv_pad h
  · simp only [hf, if_false]
    exact h

/-! #### belt-HMAC -/

structure HmacInv (C : Cipher) (L s0 h0 lsOut hOut X : Bytes) (st : HmacSt) : Prop where
  inner : SpongeInv C L s0 h0 X st.ls_in st.h_in st.block st.filled
  lsOut : st.ls_out = lsOut
  hOut : st.h_out = hOut

theorem hmacInv_init (C : Cipher) (st : HmacSt) (hl : 16 ≤ st.ls_in.length) (hb : st.block.length = 32)
    (hf : st.filled = 0) :
    HmacInv C (st.ls_in.take 16) (st.ls_in.drop 16) st.h_in st.ls_out st.h_out [] st :=
  ⟨⟨rfl, by simp only [List.length_take]; omega, rfl, hf, by rw [hf]; rfl, hb⟩, rfl, rfl⟩

theorem hmacInv_stepA {C : Cipher} {L s0 h0 lo ho X : Bytes} {st : HmacSt} (h : HmacInv C L s0 h0 lo ho X st)
    (buf : Bytes) : HmacInv C (addBitSizeBlock L buf.length) s0 h0 lo ho (X ++ buf) (hmacStepA C st buf) :=
  ⟨spongeInv_step h.inner buf, h.lsOut, h.hOut⟩

theorem hmacInv_fold {C : Cipher} {s0 h0 lo ho : Bytes} (cs : List Bytes) :
    ∀ {L X : Bytes} {st : HmacSt}, HmacInv C L s0 h0 lo ho X st →
      HmacInv C (lenFold L cs) s0 h0 lo ho (X ++ cs.flatten) (cs.foldl (hmacStepA C) st) := by
  induction cs with
  | nil => intro L X st h; simpa [lenFold] using h
  | cons c cs ih =>
    intro L X st h
    simp only [List.foldl_cons, List.flatten_cons, ← List.append_assoc, lenFold]
    exact ih (hmacInv_stepA h c)

/-- `st->h1_out` computed by `beltHMACStepG_internal` -/
def hmacOutSpec (C : Cipher) (L s0 h0 lo ho X : Bytes) : Bytes :=
  let r := compr2 C (lo.drop 16) ho (spongeOut C L s0 h0 X)
  compr C r.2 (lo.take 16 ++ r.1)

theorem hmacInv_out {C : Cipher} {L s0 h0 lo ho X : Bytes} {st : HmacSt} (h : HmacInv C L s0 h0 lo ho X st) :
    (hmacStepGInternal C st).h1_out = hmacOutSpec C L s0 h0 lo ho X := by
  have := spongeInv_out h.inner
  unfold hmacStepGInternal hmacOutSpec
  by_cases hf : st.filled ≠ 0
  · simp only [hf, ne_eq, not_false_eq_true, if_true] at this ⊢
    rw [this, h.lsOut, h.hOut]
  · simp only [hf, if_false] at this ⊢
    rw [this, h.lsOut, h.hOut]

theorem hmacInv_stepG {C : Cipher} {L s0 h0 lo ho X : Bytes} {st : HmacSt} (h : HmacInv C L s0 h0 lo ho X st) :
    HmacInv C L s0 h0 lo ho X (hmacStepGInternal C st) := by
  unfold hmacStepGInternal
  by_cases hf : st.filled ≠ 0
  · simp only [hf, ne_eq, not_false_eq_true, if_true]
    exact ⟨spongeInv_pad h.inner, h.lsOut, h.hOut⟩
  · simp only [hf, if_false]
    exact ⟨h.inner, h.lsOut, h.hOut⟩

end Bee2V.C01
