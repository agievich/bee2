/-
C01: the DWP / CHE tag as the polynomial MAC of the standard over GF(2^128); `beltBlockMulC` as
multiplication by x.  Standards-level definitions (`Spec.polyAbsorb`, `Spec.polyMac`) and helper lemmas
(namespace `Bee2V.C01.TagL`).
-/
import Bee2V.C01.Lemmas.Aead
import Bee2V.C01.Lemmas.Absorb
import Bee2V.C01.PropsPoly

namespace Bee2V.C01.Spec
open Bee2V.C01 Bee2V.Gen.C01 Bee2V.C01.Poly

/-- absorb an octet string into the accumulator `t`: for every 128-bit block `B_i` (octets `16 i ..< 16 i + 16`,
the last block may be shorter = zero-padded, which does not change its little-endian value; no block at all for
the empty string) `t ← (t ⊕ ⟦B_i⟧) * r` in GF(2^128) -/
def polyAbsorb (r : Nat) (t : Nat) (X : Bytes) : Nat :=
  (List.range ((X.length + 15) / 16)).foldl (fun t i => gfMul (t ^^^ leNat ((X.drop (16 * i)).take 16)) r) t

/-- the polynomial MAC of belt-dwp / belt-che before the final encryption: `t ← ⟦H[0..16)⟧` (octets B194BAC8…),
absorb the open data `I`, absorb the critical data `X`, then `t ← (t ⊕ ⟦⟨|I|⟩_64 ‖ ⟨|X|⟩_64⟧) * r` with the bit
lengths as 8 little-endian octets each -/
def polyMac (r : Nat) (I X : Bytes) : Nat :=
  gfMul (polyAbsorb r (polyAbsorb r (leNat (H.toList.take 16)) I) X
    ^^^ leNat (natLE 8 (8 * I.length) ++ natLE 8 (8 * X.length))) r

end Bee2V.C01.Spec

namespace Bee2V.C01.TagL
open Bee2V.C01 Bee2V.Gen.C01 Bee2V.C01.Aead Bee2V.C01.Spec
open Bee2V.C01.Poly (gfMul gfMul_lt polyMul_gf polyMul_eq beltP beltP_ne beltP_log2)
open Bee2V.Buffer (chain absorb)

/-! ### Nat xor, limb-wise -/

theorem xor_limb (k a b c d : Nat) (ha : a < 2 ^ k) (hc : c < 2 ^ k) :
    (a + 2 ^ k * b) ^^^ (c + 2 ^ k * d) = (a ^^^ c) + 2 ^ k * (b ^^^ d) := by
  have hp : 0 < 2 ^ k := Nat.two_pow_pos k
  have hm : ((a + 2 ^ k * b) ^^^ (c + 2 ^ k * d)) % 2 ^ k = a ^^^ c := by
    rw [Nat.xor_mod_two_pow, Nat.add_mul_mod_self_left, Nat.add_mul_mod_self_left, Nat.mod_eq_of_lt ha,
      Nat.mod_eq_of_lt hc]
  have hd : ((a + 2 ^ k * b) ^^^ (c + 2 ^ k * d)) / 2 ^ k = b ^^^ d := by
    rw [Nat.xor_div_two_pow, Nat.add_mul_div_left _ _ hp, Nat.add_mul_div_left _ _ hp, Nat.div_eq_of_lt ha,
      Nat.div_eq_of_lt hc, Nat.zero_add, Nat.zero_add]
  rw [← Nat.mod_add_div ((a + 2 ^ k * b) ^^^ (c + 2 ^ k * d)) (2 ^ k), hm, hd]

theorem leNat_xorb (a b : Bytes) (h : a.length = b.length) : leNat (xorb a b) = leNat a ^^^ leNat b := by
  induction a generalizing b with
  | nil => cases b with
    | nil => rfl
    | cons y b => simp only [List.length_nil, List.length_cons] at h; omega
  | cons x a ih => cases b with
    | nil => simp only [List.length_nil, List.length_cons] at h; omega
    | cons y b =>
      simp only [List.length_cons, Nat.add_right_cancel_iff] at h
      have e : xorb (x :: a) (y :: b) = (x ^^^ y) :: xorb a b := rfl
      rw [e]
      simp only [leNat, ih b h, UInt8.toNat_xor]
      exact (xor_limb 8 x.toNat (leNat a) y.toNat (leNat b) x.toNat_lt y.toNat_lt).symm

theorem leNat_zeros (n : Nat) : leNat (zeros n) = 0 := by
  induction n with
  | zero => rfl
  | succ n ih =>
    have e : zeros (n + 1) = 0 :: zeros n := rfl
    rw [e, leNat, ih]; rfl

theorem leNat_pad (b : Bytes) (n : Nat) : leNat (b ++ zeros n) = leNat b := by
  rw [leNat_append, leNat_zeros, Nat.mul_zero, Nat.add_zero]

theorem leNat_lt128 (b : Bytes) (h : b.length = 16) : leNat b < 2 ^ 128 := by
  have := leNat_lt b
  rw [h] at this
  exact this

/-! ### unfolding `polyAbsorb` -/

theorem polyAbsorb_nil (r t : Nat) (X : Bytes) (h : X.length = 0) : polyAbsorb r t X = t := by
  simp only [polyAbsorb, h, Nat.zero_add, Nat.reduceDiv, List.range_zero, List.foldl_nil]

theorem polyAbsorb_step (r t : Nat) (X : Bytes) (h : X.length ≠ 0) :
    polyAbsorb r t X = polyAbsorb r (gfMul (t ^^^ leNat (X.take 16)) r) (X.drop 16) := by
  have hn : (X.length + 15) / 16 = ((X.drop 16).length + 15) / 16 + 1 := by
    simp only [List.length_drop]; omega
  simp only [polyAbsorb]
  rw [hn, List.range_succ_eq_map, List.foldl_cons, List.foldl_map]
  simp only [Nat.mul_zero, List.drop_zero, List.drop_drop, Nat.succ_eq_add_one, Nat.mul_add, Nat.mul_one]
  have e : ∀ i, 16 + 16 * i = 16 * i + 16 := fun i => Nat.add_comm _ _
  simp only [e]

/-- a string shorter than one block -/
theorem polyAbsorb_short (r t : Nat) (X : Bytes) (h : X.length < 16) :
    polyAbsorb r t X = if X.length = 0 then t else gfMul (t ^^^ leNat X) r := by
  by_cases h0 : X.length = 0
  · rw [if_pos h0, polyAbsorb_nil r t X h0]
  · rw [if_neg h0, polyAbsorb_step r t X h0, polyAbsorb_nil _ _ _ (by simp only [List.length_drop]; omega),
      List.take_of_length_le (by omega)]

/-! ### the accumulator -/

theorem polyStep_val (r t b : Bytes) (ht : t.length = 16) (hb : b.length = 16) (hr : r.length = 16) :
    leNat (polyStep r t b) = gfMul (leNat t ^^^ leNat b) (leNat r) ∧ (polyStep r t b).length = 16 := by
  unfold polyStep
  have hx : (xorb t b).length = 16 := by rw [length_xorb, ht, hb]; rfl
  have := polyMul_gf (xorb t b) r hx hr
  rw [leNat_xorb t b (by rw [ht, hb])] at this
  exact this

theorem polyAbsorb_chain (r : Bytes) (hr : r.length = 16) : ∀ (k : Nat) (t Z Y : Bytes), 16 * k ≤ Z.length →
    t.length = 16 → (chain (polyStep r) 16 k t Z).length = 16 ∧
      polyAbsorb (leNat r) (leNat (chain (polyStep r) 16 k t Z)) (Z.drop (16 * k) ++ Y)
        = polyAbsorb (leNat r) (leNat t) (Z ++ Y)
  | 0, t, Z, Y, _, ht => ⟨ht, by rw [Nat.mul_zero, List.drop_zero]; rfl⟩
  | k + 1, t, Z, Y, h, ht => by
    have hb : (Z.take 16).length = 16 := by rw [List.length_take]; omega
    obtain ⟨e1, e2⟩ := polyStep_val r t (Z.take 16) ht hb hr
    obtain ⟨i1, i2⟩ := polyAbsorb_chain r hr k (polyStep r t (Z.take 16)) (Z.drop 16) Y
      (by rw [List.length_drop]; omega) e2
    refine ⟨i1, ?_⟩
    rw [List.drop_drop, Nat.add_comm, ← Nat.mul_succ] at i2
    rw [chain, i2, e1, polyAbsorb_step _ _ (Z ++ Y) (by rw [List.length_append]; omega),
      List.take_append_of_le_length (by omega), List.drop_append_of_le_length (by omega)]

theorem absorb16_spec (st : PolySt) (buf : Bytes) (hI : Inv st) :
    Inv (absorb16 st buf) ∧ (absorb16 st buf).r = st.r ∧ (absorb16 st buf).len = st.len ∧
      ∀ Y : Bytes, polyAbsorb (leNat st.r) (leNat (absorb16 st buf).t) (pend (absorb16 st buf) ++ Y)
        = polyAbsorb (leNat st.r) (leNat st.t) (pend st ++ (buf ++ Y)) := by
  rcases hI with ⟨ht, hb, hf, hr⟩
  obtain ⟨v, b, fl, e, hv, hbl, hfl⟩ := absorbG_abs (shape16 st) (fun _ _ => rfl) (fun _ _ => rfl) 16 (polyStep st.r)
    st.t st.block st.filled buf hb hf
  obtain ⟨ev, ep⟩ := Prod.mk.inj hv
  have hk := fun Y => polyAbsorb_chain st.r hr ((pend st ++ buf).length / 16) st.t (pend st ++ buf) Y
    (Nat.mul_div_le _ 16) ht
  rw [absorb16_absorbG, e]
  refine ⟨⟨?_, hbl, by rw [hfl]; exact Nat.mod_lt _ (by decide), hr⟩, rfl, rfl, ?_⟩
  · show v.length = 16
    rw [ev]; exact (hk []).1
  · intro Y
    show polyAbsorb (leNat st.r) (leNat v) (b.take fl ++ Y) = _
    rw [ev, ep, ← List.append_assoc]; exact (hk Y).2

/-! ### the length block -/

theorem zeros8_eq : zeros 8 = natLE 8 0 := by decide

theorem addBitSizeW_natLE (w a n : Nat) (hn : n < 2 ^ 64) : addBitSizeW w (natLE 8 a) n = natLE 8 (a + 8 * n) := by
  rw [addBitSizeW_eq_W64 w _ _ (length_natLE 8 a) hn]
  apply eq_of_leNat_eq
  · rw [length_addBitSizeW64, length_natLE]
  · rw [addBitSizeW64_val, leNat_natLE, leNat_natLE]
    simp only [Nat.reducePow]
    omega

theorem natLE8_ne_zeros (v : Nat) (h : v % 2 ^ 64 ≠ 0) : natLE 8 v ≠ zeros 8 := by
  intro e
  have := congrArg leNat e
  rw [leNat_natLE, leNat_zeros] at this
  simp only [Nat.reducePow] at this h
  omega

/-! ### phases of the accumulator -/

/-- open data `D` absorbed so far, no critical data yet -/
def PhaseI (st : PolySt) (h : Nat) (D : Bytes) : Prop :=
  Inv st ∧ st.len = natLE 8 (8 * D.length) ++ zeros 8 ∧
    ∀ Y : Bytes, polyAbsorb (leNat st.r) (leNat st.t) (pend st ++ Y) = polyAbsorb (leNat st.r) h (D ++ Y)

/-- all open data `I` and the non-empty critical data `D` absorbed so far -/
def PhaseA (st : PolySt) (h : Nat) (I D : Bytes) : Prop :=
  Inv st ∧ st.len = natLE 8 (8 * I.length) ++ natLE 8 (8 * D.length) ∧ D.length ≠ 0 ∧
    ∀ Y : Bytes, polyAbsorb (leNat st.r) (leNat st.t) (pend st ++ Y)
      = polyAbsorb (leNat st.r) (polyAbsorb (leNat st.r) h I) (D ++ Y)

def PhaseIA (st : PolySt) (h : Nat) (I D : Bytes) : Prop :=
  if D.length = 0 then PhaseI st h I else PhaseA st h I D

theorem polyStepI_phase (w : Nat) (st : PolySt) (h : Nat) (D buf : Bytes) (hb : buf.length < 2 ^ 64)
    (hP : PhaseI st h D) : PhaseI (polyStepI w st buf) h (D ++ buf) ∧ (polyStepI w st buf).r = st.r := by
  rcases hP with ⟨hI, hl, hA⟩
  unfold polyStepI
  have h8 : (natLE 8 (8 * D.length)).length = 8 := length_natLE _ _
  have hlen : addBitSizeW w (st.len.take 8) buf.length ++ st.len.drop 8
      = natLE 8 (8 * (D ++ buf).length) ++ zeros 8 := by
    rw [hl, List.take_left' h8, List.drop_left' h8, addBitSizeW_natLE w _ _ hb, List.length_append, Nat.mul_add]
  rw [hlen]
  have hs := absorb16_spec { st with len := natLE 8 (8 * (D ++ buf).length) ++ zeros 8 } buf hI
  refine ⟨⟨hs.1, hs.2.2.1, ?_⟩, hs.2.1⟩
  intro Y
  rw [hs.2.1]
  have := hs.2.2.2 Y
  rw [this]
  have e := hA (buf ++ Y)
  rw [List.append_assoc]
  exact e

theorem pend_length (st : PolySt) (hI : Inv st) : (pend st).length = st.filled := by
  rcases hI with ⟨_, hb, hf, _⟩
  unfold pend; simp only [List.length_take, hb]; omega

/-- value of the accumulator after padding the pending block -/
theorem flush_val (st : PolySt) (hI : Inv st) (hf : st.filled ≠ 0) :
    leNat (polyStep st.r st.t (st.block.take st.filled ++ zeros (16 - st.filled)))
      = polyAbsorb (leNat st.r) (leNat st.t) (pend st) ∧
    (polyStep st.r st.t (st.block.take st.filled ++ zeros (16 - st.filled))).length = 16 ∧
    (st.block.take st.filled ++ zeros (16 - st.filled)).length = 16 := by
  have hpl := pend_length st hI
  rcases hI with ⟨ht, hb, hf', hr⟩
  have hbl : (st.block.take st.filled ++ zeros (16 - st.filled)).length = 16 := by
    simp only [List.length_append, List.length_take, hb, zeros, List.length_replicate]; omega
  have hps := polyStep_val st.r st.t _ ht hbl hr
  refine ⟨?_, hps.2, hbl⟩
  rw [hps.1, leNat_pad, polyAbsorb_short _ _ (pend st) (by rw [hpl]; exact hf'), if_neg (by rw [hpl]; exact hf)]
  rfl

theorem polyStepA_phaseI_nil (w : Nat) (st : PolySt) (h : Nat) (I : Bytes) (hP : PhaseI st h I) :
    PhaseI (polyStepA w st []) h I ∧ (polyStepA w st []).r = st.r := by
  rcases hP with ⟨hI, hl, hA⟩
  unfold polyStepA
  have hc : ¬(([] : Bytes).length ≠ 0 ∧ st.len.drop 8 = zeros 8 ∧ st.filled ≠ 0) := fun h => h.1 rfl
  simp only [if_neg hc]
  have h8 : (natLE 8 (8 * I.length)).length = 8 := length_natLE _ _
  have hlen : st.len.take 8 ++ addBitSizeW w (st.len.drop 8) ([] : Bytes).length = st.len := by
    rw [hl, List.take_left' h8, List.drop_left' h8, zeros8_eq, addBitSizeW_natLE w _ _ (by decide)]
    rfl
  rw [hlen]
  have hs := absorb16_spec { st with len := st.len } [] hI
  refine ⟨⟨hs.1, by rw [hs.2.2.1]; exact hl, ?_⟩, hs.2.1⟩
  intro Y
  rw [hs.2.1]
  have := hs.2.2.2 Y
  rw [this]
  exact hA Y

theorem polyStepA_phaseI_cons (w : Nat) (st : PolySt) (h : Nat) (I buf : Bytes) (hb : buf.length < 2 ^ 64)
    (hne : buf.length ≠ 0) (hP : PhaseI st h I) :
    PhaseA (polyStepA w st buf) h I buf ∧ (polyStepA w st buf).r = st.r := by
  rcases hP with ⟨hI, hl, hA⟩
  have h8 : (natLE 8 (8 * I.length)).length = 8 := length_natLE _ _
  have hd8 : st.len.drop 8 = zeros 8 := by rw [hl, List.drop_left' h8]
  have ht8 : st.len.take 8 = natLE 8 (8 * I.length) := by rw [hl, List.take_left' h8]
  unfold polyStepA
  by_cases hf : st.filled ≠ 0
  · have hc : buf.length ≠ 0 ∧ st.len.drop 8 = zeros 8 ∧ st.filled ≠ 0 := ⟨hne, hd8, hf⟩
    simp only [if_pos hc]
    have hfl := flush_val st hI hf
    have hlen : st.len.take 8 ++ addBitSizeW w (st.len.drop 8) buf.length
        = natLE 8 (8 * I.length) ++ natLE 8 (8 * buf.length) := by
      rw [ht8, hd8, zeros8_eq, addBitSizeW_natLE w _ _ hb, Nat.zero_add]
    rw [hlen]
    have hI2 : Inv ⟨st.r, polyStep st.r st.t (st.block.take st.filled ++ zeros (16 - st.filled)), st.t1,
        natLE 8 (8 * I.length) ++ natLE 8 (8 * buf.length), st.block.take st.filled ++ zeros (16 - st.filled), 0⟩ :=
      ⟨hfl.2.1, hfl.2.2, by show 0 < 16; omega, hI.2.2.2⟩
    have hs := absorb16_spec _ buf hI2
    refine ⟨⟨hs.1, hs.2.2.1, hne, ?_⟩, hs.2.1⟩
    intro Y
    rw [hs.2.1]
    have := hs.2.2.2 Y
    rw [this]
    show polyAbsorb (leNat st.r) (leNat (polyStep st.r st.t (st.block.take st.filled ++ zeros (16 - st.filled))))
      ((st.block.take st.filled ++ zeros (16 - st.filled)).take 0 ++ (buf ++ Y)) = _
    rw [hfl.1, List.take_zero, List.nil_append]
    have e := hA []
    rw [List.append_nil, List.append_nil] at e
    rw [e]
  · have hc : ¬(buf.length ≠ 0 ∧ st.len.drop 8 = zeros 8 ∧ st.filled ≠ 0) := fun h => hf h.2.2
    simp only [if_neg hc]
    have hlen : st.len.take 8 ++ addBitSizeW w (st.len.drop 8) buf.length
        = natLE 8 (8 * I.length) ++ natLE 8 (8 * buf.length) := by
      rw [ht8, hd8, zeros8_eq, addBitSizeW_natLE w _ _ hb, Nat.zero_add]
    rw [hlen]
    have hs := absorb16_spec { st with len := natLE 8 (8 * I.length) ++ natLE 8 (8 * buf.length) } buf hI
    refine ⟨⟨hs.1, hs.2.2.1, hne, ?_⟩, hs.2.1⟩
    intro Y
    rw [hs.2.1]
    have := hs.2.2.2 Y
    rw [this]
    have hf0 : st.filled = 0 := by omega
    have hp : pend st = [] := by unfold pend; rw [hf0]; rfl
    show polyAbsorb (leNat st.r) (leNat st.t) (pend st ++ (buf ++ Y)) = _
    have e := hA []
    rw [hp, List.nil_append, List.append_nil, polyAbsorb_nil _ _ [] rfl] at e
    rw [hp, List.nil_append, e]

theorem polyStepA_phaseA (w : Nat) (st : PolySt) (h : Nat) (I D buf : Bytes) (hD : D.length < 2 ^ 61)
    (hb : buf.length < 2 ^ 64) (hP : PhaseA st h I D) :
    PhaseA (polyStepA w st buf) h I (D ++ buf) ∧ (polyStepA w st buf).r = st.r := by
  rcases hP with ⟨hI, hl, hD0, hA⟩
  have h8 : (natLE 8 (8 * I.length)).length = 8 := length_natLE _ _
  have hd8 : st.len.drop 8 = natLE 8 (8 * D.length) := by rw [hl, List.drop_left' h8]
  have ht8 : st.len.take 8 = natLE 8 (8 * I.length) := by rw [hl, List.take_left' h8]
  have hnz : st.len.drop 8 ≠ zeros 8 := by
    rw [hd8]; exact natLE8_ne_zeros _ (by omega)
  unfold polyStepA
  have hc : ¬(buf.length ≠ 0 ∧ st.len.drop 8 = zeros 8 ∧ st.filled ≠ 0) := fun h => hnz h.2.1
  simp only [if_neg hc]
  have hlen : st.len.take 8 ++ addBitSizeW w (st.len.drop 8) buf.length
      = natLE 8 (8 * I.length) ++ natLE 8 (8 * (D ++ buf).length) := by
    rw [ht8, hd8, addBitSizeW_natLE w _ _ hb, List.length_append, Nat.mul_add]
  rw [hlen]
  have hs := absorb16_spec { st with len := natLE 8 (8 * I.length) ++ natLE 8 (8 * (D ++ buf).length) } buf hI
  refine ⟨⟨hs.1, hs.2.2.1, by simp only [List.length_append]; omega, ?_⟩, hs.2.1⟩
  intro Y
  rw [hs.2.1]
  have := hs.2.2.2 Y
  rw [this]
  have e := hA (buf ++ Y)
  rw [List.append_assoc]
  exact e

theorem polyStepA_phase (w : Nat) (st : PolySt) (h : Nat) (I D buf : Bytes) (hD : D.length < 2 ^ 61)
    (hb : buf.length < 2 ^ 64) (hP : PhaseIA st h I D) :
    PhaseIA (polyStepA w st buf) h I (D ++ buf) ∧ (polyStepA w st buf).r = st.r := by
  unfold PhaseIA at hP ⊢
  by_cases hD0 : D.length = 0
  · rw [if_pos hD0] at hP
    have hDn : D = [] := List.eq_nil_of_length_eq_zero hD0
    subst hDn
    by_cases hb0 : buf.length = 0
    · have hbn : buf = [] := List.eq_nil_of_length_eq_zero hb0
      subst hbn
      rw [if_pos (by rfl)]
      exact polyStepA_phaseI_nil w st h I hP
    · rw [if_neg (by simp only [List.nil_append]; exact hb0), List.nil_append]
      exact polyStepA_phaseI_cons w st h I buf hb hb0 hP
  · rw [if_neg hD0] at hP
    rw [if_neg (by simp only [List.length_append]; omega)]
    exact polyStepA_phaseA w st h I D buf hD hb hP

/-! ### finish -/

theorem polyFinish_val (st : PolySt) (hI : Inv st) (hl : st.len.length = 16) :
    (polyFinish st).2 = natLE 16 (gfMul (polyAbsorb (leNat st.r) (leNat st.t) (pend st) ^^^ leNat st.len) (leNat st.r)) := by
  have hr := hI.2.2.2
  have ht := hI.1
  unfold polyFinish
  by_cases hf : st.filled ≠ 0
  · simp only [if_pos hf]
    have hfl := flush_val st hI hf
    show polyStep st.r (polyStep st.r st.t (st.block.take st.filled ++ zeros (16 - st.filled))) st.len = _
    have hx : (xorb (polyStep st.r st.t (st.block.take st.filled ++ zeros (16 - st.filled))) st.len).length = 16 := by
      rw [length_xorb, hfl.2.1, hl]; rfl
    unfold polyStep at hx ⊢
    rw [polyMul_eq _ _ hx hr, leNat_xorb _ _ (by rw [hl]; exact hfl.2.1)]
    have e := hfl.1
    unfold polyStep at e
    rw [e]
  · simp only [if_neg hf]
    have hf0 : st.filled = 0 := by omega
    have hp : pend st = [] := by unfold pend; rw [hf0]; rfl
    show polyStep st.r st.t st.len = _
    have hx : (xorb st.t st.len).length = 16 := by rw [length_xorb, ht, hl]; rfl
    unfold polyStep
    rw [polyMul_eq _ _ hx hr, leNat_xorb _ _ (by rw [hl]; exact ht), hp, polyAbsorb_nil _ _ [] rfl]

theorem polyFinish_phase (st : PolySt) (h : Nat) (I D : Bytes) (hP : PhaseIA st h I D) :
    (polyFinish st).2 = natLE 16 (gfMul (polyAbsorb (leNat st.r) (polyAbsorb (leNat st.r) h I) D
      ^^^ leNat (natLE 8 (8 * I.length) ++ natLE 8 (8 * D.length))) (leNat st.r)) := by
  unfold PhaseIA at hP
  by_cases hD0 : D.length = 0
  · rw [if_pos hD0] at hP
    rcases hP with ⟨hI, hl, hA⟩
    have hll : st.len.length = 16 := by
      rw [hl, List.length_append, length_natLE]; rfl
    rw [polyFinish_val st hI hll, hl, hD0, Nat.mul_zero, ← zeros8_eq, polyAbsorb_nil _ _ D hD0]
    have e := hA []
    rw [List.append_nil, List.append_nil] at e
    rw [e]
  · rw [if_neg hD0] at hP
    rcases hP with ⟨hI, hl, _, hA⟩
    have hll : st.len.length = 16 := by
      rw [hl, List.length_append, length_natLE, length_natLE]
    rw [polyFinish_val st hI hll, hl]
    have e := hA []
    rw [List.append_nil, List.append_nil] at e
    rw [e]

/-! ### runs of StepI / StepA calls -/

theorem foldl_polyStepI_phase (w : Nat) (h : Nat) : ∀ (ads : List Bytes) (st : PolySt) (D : Bytes),
    (D ++ ads.flatten).length < 2 ^ 64 → PhaseI st h D →
      PhaseI (ads.foldl (polyStepI w) st) h (D ++ ads.flatten) ∧ (ads.foldl (polyStepI w) st).r = st.r := by
  intro ads
  induction ads with
  | nil =>
    intro st D _ hP
    simp only [List.flatten_nil, List.append_nil, List.foldl_nil, and_true]
    exact hP
  | cons a ads ih =>
    intro st D hlen hP
    simp only [List.flatten_cons, List.foldl_cons, List.length_append] at hlen ⊢
    have h1 := polyStepI_phase w st h D a (by omega) hP
    have h2 := ih (polyStepI w st a) (D ++ a) (by simp only [List.length_append]; omega) h1.1
    rw [List.append_assoc] at h2
    exact ⟨h2.1, by rw [h2.2, h1.2]⟩

theorem foldl_polyStepA_phase (w : Nat) (h : Nat) (I : Bytes) : ∀ (cts : List Bytes) (st : PolySt) (D : Bytes),
    (D ++ cts.flatten).length < 2 ^ 61 → PhaseIA st h I D →
      PhaseIA (cts.foldl (polyStepA w) st) h I (D ++ cts.flatten) ∧ (cts.foldl (polyStepA w) st).r = st.r := by
  intro cts
  induction cts with
  | nil =>
    intro st D _ hP
    simp only [List.flatten_nil, List.append_nil, List.foldl_nil, and_true]
    exact hP
  | cons a cts ih =>
    intro st D hlen hP
    simp only [List.flatten_cons, List.foldl_cons, List.length_append] at hlen ⊢
    have h1 := polyStepA_phase w st h I D a (by omega) (by omega) hP
    have h2 := ih (polyStepA w st a) (D ++ a) (by simp only [List.length_append]; omega) h1.1
    rw [List.append_assoc] at h2
    exact ⟨h2.1, by rw [h2.2, h1.2]⟩

/-- the start state of the accumulator -/
theorem phase_start (r t1 : Bytes) (hr : r.length = 16) :
    PhaseI ⟨r, H.toList.take 16, t1, zeros 16, zeros 16, 0⟩ (leNat (H.toList.take 16)) [] := by
  have h1 : (H.toList.take 16).length = 16 := by decide
  have h2 : (zeros 16).length = 16 := by decide
  have h3 : zeros 16 = natLE 8 (8 * ([] : Bytes).length) ++ zeros 8 := by decide
  exact ⟨⟨h1, h2, by show 0 < 16; omega, hr⟩, h3, fun _ => rfl⟩

/-- Start; StepI on each fragment of `ads`; StepA on each fragment of `cts`; finish -/
theorem poly_run (w : Nat) (r t1 : Bytes) (hr : r.length = 16) (ads cts : List Bytes)
    (ha : ads.flatten.length < 2 ^ 64) (hc : cts.flatten.length < 2 ^ 61) :
    (polyFinish (cts.foldl (polyStepA w) (ads.foldl (polyStepI w)
        ⟨r, H.toList.take 16, t1, zeros 16, zeros 16, 0⟩))).2
      = natLE 16 (polyMac (leNat r) ads.flatten cts.flatten) := by
  have h0 := phase_start r t1 hr
  have h1 := foldl_polyStepI_phase w _ ads _ [] (by rw [List.nil_append]; exact ha) h0
  rw [List.nil_append] at h1
  have h1' : PhaseIA (ads.foldl (polyStepI w) ⟨r, H.toList.take 16, t1, zeros 16, zeros 16, 0⟩)
      (leNat (H.toList.take 16)) ads.flatten [] := by
    unfold PhaseIA; rw [if_pos (show ([] : Bytes).length = 0 from rfl)]; exact h1.1
  have h2 := foldl_polyStepA_phase w _ ads.flatten cts _ [] (by rw [List.nil_append]; exact hc) h1'
  rw [List.nil_append] at h2
  rw [polyFinish_phase _ _ _ _ h2.1, h2.2, h1.2]
  rfl

/-! ### DWP / CHE runs -/

theorem polyTag_run (C : Cipher) (w : Nat) (K r : Bytes) (hr : r.length = 16) (cts ads : List Bytes)
    (ha : ads.flatten.length < 2 ^ 64) (hc : cts.flatten.length < 2 ^ 61) :
    (C.enc K (polyFinish (cts.foldl (polyStepA w) (ads.foldl (polyStepI w)
        ⟨r, H.toList.take 16, zeros 16, zeros 16, zeros 16, 0⟩))).2).take 8
      = (C.enc K (natLE 16 (polyMac (leNat r) ads.flatten cts.flatten))).take 8 := by
  rw [poly_run w r (zeros 16) hr ads cts ha hc]

theorem polyTag_spec (C : Cipher) (w : Nat) (K r ct ad : Bytes) (hr : r.length = 16) (had : ad.length < 2 ^ 64)
    (hct : ct.length < 2 ^ 61) :
    polyTag C w K r ct ad = (C.enc K (natLE 16 (polyMac (leNat r) ad ct))).take 8 := by
  have h := polyTag_run C w K r hr [ct] [ad]
    (by simp only [List.flatten_cons, List.flatten_nil, List.append_nil]; exact had)
    (by simp only [List.flatten_cons, List.flatten_nil, List.append_nil]; exact hct)
  simp only [List.flatten_cons, List.flatten_nil, List.append_nil, List.foldl_cons, List.foldl_nil] at h
  exact h

theorem dwp_run (C : Cipher) (hlen : ∀ k x, x.length = 16 → (C.enc k x).length = 16) (w : Nat)
    (cts ads : List Bytes) (key iv : Bytes) (hiv : iv.length = 16)
    (ha : ads.flatten.length < 2 ^ 64) (hc : cts.flatten.length < 2 ^ 61) :
    (dwpStepG C (cts.foldl (dwpStepA w) (ads.foldl (dwpStepI w) (dwpStart C key iv)))).2 =
      (C.enc (fmtKey key) (natLE 16 (polyMac (leNat (C.enc (fmtKey key) (C.enc (fmtKey key) iv)))
        ads.flatten cts.flatten))).take 8 := by
  have hA := foldl_lens DwpSt.p (·.ctr.key) (dwpStepA w) (polyStepA w) (fun _ _ => rfl) (fun _ _ => rfl) cts
  have hI := foldl_lens DwpSt.p (·.ctr.key) (dwpStepI w) (polyStepI w) (fun _ _ => rfl) (fun _ _ => rfl) ads
  rw [dwpStepG_tag, (hA _).1, (hA _).2, (hI _).1, (hI _).2]
  exact polyTag_run C w _ _ (hlen _ _ (hlen _ _ hiv)) cts ads ha hc

theorem che_run (C : Cipher) (hlen : ∀ k x, x.length = 16 → (C.enc k x).length = 16) (w : Nat)
    (cts ads : List Bytes) (key iv : Bytes) (hiv : iv.length = 16)
    (ha : ads.flatten.length < 2 ^ 64) (hc : cts.flatten.length < 2 ^ 61) :
    (cheStepG C (cts.foldl (cheStepA w) (ads.foldl (cheStepI w) (cheStart C key iv)))).2 =
      (C.enc (fmtKey key) (natLE 16 (polyMac (leNat (C.enc (fmtKey key) iv)) ads.flatten cts.flatten))).take 8 := by
  have hA := foldl_lens CheSt.p CheSt.key (cheStepA w) (polyStepA w) (fun _ _ => rfl) (fun _ _ => rfl) cts
  have hI := foldl_lens CheSt.p CheSt.key (cheStepI w) (polyStepI w) (fun _ _ => rfl) (fun _ _ => rfl) ads
  rw [cheStepG_tag, (hA _).1, (hA _).2, (hI _).1, (hI _).2]
  exact polyTag_run C w _ _ (hlen _ _ hiv) cts ads ha hc

/-! ### beltBlockMulC -/

/-- multiplication by x in GF(2^128) -/
theorem gfMul_two (v : Nat) (hv : v < 2 ^ 128) :
    gfMul v 2 = (2 * v % 2 ^ 128) ^^^ (if v < 2 ^ 127 then 0 else 0x87) := by
  unfold gfMul
  rw [Bee2V.C05.Pp.clmul_two]
  by_cases h : v < 2 ^ 127
  · rw [if_pos h, Nat.xor_zero, Nat.mod_eq_of_lt (by omega)]
    exact Bee2V.C05.Pp.pmod_of_lt beltP_ne (by rw [beltP_log2]; omega)
  · rw [if_neg h]
    have hm : 2 * v % 2 ^ 128 < 2 ^ 128 := Nat.mod_lt _ (Nat.two_pow_pos _)
    have e1 : 2 * v = 2 * v % 2 ^ 128 + 2 ^ 128 * 1 := by omega
    have e2 : beltP = 0x87 + 2 ^ 128 * 1 := by decide
    have hx : 2 * v ^^^ beltP = (2 * v % 2 ^ 128) ^^^ 0x87 := by
      conv => lhs; rw [e1, e2]
      rw [xor_limb 128 _ 1 0x87 1 hm (by decide), Nat.xor_self, Nat.mul_zero, Nat.add_zero]
    have hlt : (2 * v % 2 ^ 128) ^^^ 0x87 < 2 ^ 128 := Nat.xor_lt_two_pow hm (by decide)
    have hc : Bee2V.C05.Pp.Cong beltP (2 * v) ((2 * v % 2 ^ 128) ^^^ 0x87) := by
      refine ⟨1, ?_⟩
      rw [← hx, ← Nat.xor_assoc, Nat.xor_self, Nat.zero_xor, Bee2V.C05.Pp.one_clmul]
    rw [Bee2V.C05.Pp.pmod_cong beltP_ne hc]
    exact Bee2V.C05.Pp.pmod_of_lt beltP_ne (by rw [beltP_log2]; exact hlt)

theorem u32_shl1 (w : UInt32) : (w <<< 1).toNat = 2 * w.toNat % 2 ^ 32 := by
  rw [UInt32.toNat_shiftLeft]
  have h : (1 : UInt32).toNat % 32 = 1 := by decide
  rw [h, Nat.shiftLeft_eq]
  omega

theorem u32_shr31 (w : UInt32) : (w >>> 31).toNat = w.toNat / 2 ^ 31 := by
  rw [UInt32.toNat_shiftRight]
  have h : (31 : UInt32).toNat % 32 = 31 := by decide
  rw [h, Nat.shiftRight_eq_div_pow]

theorem even_xor_bit (x c : Nat) (hx : x % 2 = 0) (hc : c < 2) : x ^^^ c = x + c := by
  have h := Bee2V.C05.Pp.bit_decomp (x + c)
  have h1 : 2 * ((x + c) / 2) = x := by omega
  have h2 : (x + c) % 2 = c := by omega
  rw [h1, h2] at h
  exact h

theorem u32_shl_carry (w v : UInt32) : ((w <<< 1) ^^^ (v >>> 31)).toNat = 2 * w.toNat % 2 ^ 32 + v.toNat / 2 ^ 31 := by
  have := v.toNat_lt
  rw [UInt32.toNat_xor, u32_shl1, u32_shr31]
  exact even_xor_bit _ _ (by omega) (by omega)

theorem mulC_mask (w3 : UInt32) :
    (~~~((w3 >>> 31) - 1) &&& 0x00000087).toNat = if w3.toNat < 2 ^ 31 then 0 else 0x87 := by
  have hlt := w3.toNat_lt
  have hs := u32_shr31 w3
  by_cases h : w3.toNat < 2 ^ 31
  · have e : w3 >>> 31 = 0 := UInt32.toNat_inj.mp (by rw [hs, Nat.div_eq_of_lt h]; rfl)
    rw [e, if_pos h]; decide
  · have e : w3 >>> 31 = 1 := UInt32.toNat_inj.mp (by rw [hs]; show w3.toNat / 2 ^ 31 = 1; omega)
    rw [e, if_neg h]; decide

theorem mulCW_val (w0 w1 w2 w3 : UInt32) :
    u32Val (mulCW [w0, w1, w2, w3]) = gfMul (u32Val [w0, w1, w2, w3]) 2 ∧ (mulCW [w0, w1, w2, w3]).length = 4 := by
  refine ⟨?_, rfl⟩
  have h0 := w0.toNat_lt; have h1 := w1.toNat_lt; have h2 := w2.toNat_lt; have h3 := w3.toNat_lt
  simp only [mulCW, u32Val, u32_shl_carry, Nat.mul_zero, Nat.add_zero]
  have hv : w0.toNat + 2 ^ 32 * (w1.toNat + 2 ^ 32 * (w2.toNat + 2 ^ 32 * w3.toNat)) < 2 ^ 128 := by omega
  rw [gfMul_two _ hv]
  simp only [UInt32.toNat_xor, u32_shl1, mulC_mask]
  have hA : 2 * w0.toNat % 2 ^ 32 < 2 ^ 32 := Nat.mod_lt _ (Nat.two_pow_pos _)
  have ht : (if w3.toNat < 2 ^ 31 then 0 else 0x87) < 2 ^ 32 := by split <;> decide
  have e := xor_limb 32 (2 * w0.toNat % 2 ^ 32)
    (2 * w1.toNat % 2 ^ 32 + w0.toNat / 2 ^ 31 + 2 ^ 32 * (2 * w2.toNat % 2 ^ 32 + w1.toNat / 2 ^ 31
      + 2 ^ 32 * (2 * w3.toNat % 2 ^ 32 + w2.toNat / 2 ^ 31)))
    (if w3.toNat < 2 ^ 31 then 0 else 0x87) 0 hA ht
  rw [Nat.xor_zero, Nat.mul_zero, Nat.add_zero] at e
  rw [← e]
  have hc : (w0.toNat + 2 ^ 32 * (w1.toNat + 2 ^ 32 * (w2.toNat + 2 ^ 32 * w3.toNat)) < 2 ^ 127) ↔ w3.toNat < 2 ^ 31 := by
    omega
  simp only [hc]
  congr 1
  omega

end Bee2V.C01.TagL
