/-
C01 property theorems: chunk independence of the buffered absorbers
(belt_mac.c `beltMACStepA`, belt_hash.c `beltHashStepH`, belt_hmac.c `beltHMACStepA`).
The result of a Start / Step* / StepG session depends only on the concatenation of the fragments, not on where
the data was cut, and a StepG in the middle of a session does not disturb it.
Stated for an ARBITRARY `C : Cipher`, with no hypothesis on it (so in particular for `beltCipher`).
Only property theorems and non-vacuity examples; helper lemmas are in Lemmas/Chunk.lean.
-/
import Bee2V.C01.Lemmas.Chunk
import Bee2V.C01.Lemmas.Aead
namespace Bee2V.C01

/-- the toy cipher of the non-vacuity examples -/
def chunkToy : Cipher := ⟨fun _ x => x.map (· + 1), fun _ x => x.map (· - 1)⟩
/-- a toy cipher that depends on its key (belt-hash feeds data through the key input) -/
def chunkToy2 : Cipher := ⟨fun k x => (xorb x k).map (· * 3 + 1), fun _ x => x⟩
/-- 37 octets 0, 1, ..., 36 -/
def chunkToyData : Bytes := (List.range 37).map UInt8.ofNat

/-! ### belt-MAC -/

/-- The state of `beltMACStepA` after ANY fragmentation `cs` of the data `X = cs.flatten` is determined by `X`:
`st->s` is the CBC-MAC chain value over all 16-octet blocks of `X` except the last one, the last block (full or
not; never empty unless `X` is) is pending in `st->block[0 .. filled)`, `filled = 0` for empty `X` and
`((|X| - 1) mod 16) + 1` otherwise; key material untouched. Nothing is said about `block[filled .. 16)`: these
octets do depend on the fragmentation. -/
theorem mac_state_spec (C : Cipher) (key : Bytes) (cs : List Bytes) :
    let X := cs.flatten
    let st := cs.foldl (macStepA C) (macStart C key)
    st.key = fmtKey key ∧ st.r = C.enc (fmtKey key) (zeros 16) ∧
    st.s = macChain C (fmtKey key) ((X.length - 1) / 16) (zeros 16) X ∧
    st.filled = (if X = [] then 0 else (X.length - 1) % 16 + 1) ∧
    st.block.take st.filled = X.drop (16 * ((X.length - 1) / 16)) ∧ st.block.length = 16 := by
  intro X st
  have h := macInv_fold cs (macInv_start C key)
  rw [List.nil_append] at h
  exact ⟨h.key, h.r, h.s, h.filled.trans (length_macPend X), h.pend, h.blen⟩

/-- 37 octets cut 5 + 20 + 12: two blocks folded into `s`, 5 octets pending -/
example : (fun st : MacSt => (st.filled, st.s, st.block.take 5))
      ([chunkToyData.take 5, (chunkToyData.drop 5).take 20, chunkToyData.drop 25].foldl (macStepA chunkToy)
        (macStart chunkToy (zeros 16))) =
      (5, [18, 20, 18, 24, 18, 20, 18, 32, 18, 20, 18, 24, 18, 20, 18, 16], [32, 33, 34, 35, 36]) := by decide

/-- The tag is a closed-form function `macTagSpec` of the concatenated data: the last block (complete: xored with
`phi1(r)`; incomplete or empty: padded with 0x80 0 ... 0 and xored with `phi2(r)`) added to the chain value and
encrypted. -/
theorem mac_tag_spec (C : Cipher) (key : Bytes) (cs : List Bytes) (n : Nat) :
    (macStepG C (cs.foldl (macStepA C) (macStart C key)) n).2 =
      (macTagSpec C (fmtKey key) (C.enc (fmtKey key) (zeros 16)) cs.flatten).take n := by
  have h := macInv_fold cs (macInv_start C key)
  rw [List.nil_append] at h
  show (macStepGInternal C _).mac.take n = _
  rw [macInv_tag h]

/-- CHUNK INDEPENDENCE of belt-MAC: `beltMACStart; beltMACStepA(c1); ...; beltMACStepA(cm); beltMACStepG2`
returns the same tag as a single `beltMACStepA` on the concatenation, for every cipher, key, list of fragments
(empty fragments included) and tag length. -/
theorem mac_chunk_independent (C : Cipher) (key : Bytes) (cs : List Bytes) (n : Nat) :
    (macStepG C (cs.foldl (macStepA C) (macStart C key)) n).2 =
      (macStepG C (macStepA C (macStart C key) cs.flatten) n).2 := by
  have h := mac_tag_spec C key [cs.flatten] n
  simp only [List.foldl_cons, List.foldl_nil, List.flatten_cons, List.flatten_nil, List.append_nil] at h
  rw [mac_tag_spec, h]

example : (macStepG chunkToy ([chunkToyData.take 5, (chunkToyData.drop 5).take 20, chunkToyData.drop 25].foldl
    (macStepA chunkToy) (macStart chunkToy (zeros 16))) 8).2 =
    (macStepG chunkToy (macStepA chunkToy (macStart chunkToy (zeros 16)) chunkToyData) 8).2 := by decide
/-- ... and the tag does depend on the data (last octet changed) -/
example : (macStepG chunkToy (macStepA chunkToy (macStart chunkToy (zeros 16)) chunkToyData) 8).2 ≠
    (macStepG chunkToy (macStepA chunkToy (macStart chunkToy (zeros 16)) (chunkToyData.take 36 ++ [0])) 8).2 := by
  decide
/-- ... and on the length (a full last block is not confused with its padded prefix) -/
example : (macStepG chunkToy (macStepA chunkToy (macStart chunkToy (zeros 16)) (chunkToyData.take 32)) 8).2 ≠
    (macStepG chunkToy (macStepA chunkToy (macStart chunkToy (zeros 16)) (chunkToyData.take 31)) 8).2 := by
  decide

/-- ... and, with a key-dependent toy cipher, on the key -/
example : (macStepG chunkToy2 (macStepA chunkToy2 (macStart chunkToy2 (zeros 16)) chunkToyData) 8).2 ≠
    (macStepG chunkToy2 (macStepA chunkToy2 (macStart chunkToy2 (zeros 15 ++ [1])) chunkToyData) 8).2 := by
  decide

/-- the same for `beltMACStepV2`: the verdict does not depend on the fragmentation -/
theorem mac_chunk_independent_V (C : Cipher) (key : Bytes) (cs : List Bytes) (mac : Bytes) :
    (macStepV C (cs.foldl (macStepA C) (macStart C key)) mac).2 =
      (macStepV C (macStepA C (macStart C key) cs.flatten) mac).2 := by
  have h := mac_chunk_independent C key cs mac.length
  simp only [macStepG, macStepV] at h ⊢
  rw [h]

example : (macStepV chunkToy ([chunkToyData.take 16, [], chunkToyData.drop 16].foldl (macStepA chunkToy)
    (macStart chunkToy (zeros 16))) [51, 54, 49, 60, 56, 150, 20, 34]).2 = true := by decide

/-- The high-level `beltMAC(mac, src, count, key, len)` equals any fragmented session over the same data. -/
theorem macHL_chunked (C : Cipher) (key : Bytes) (cs : List Bytes) (hk : validKeyLen key.length = true) :
    macHL C cs.flatten key = (.ok, some (macStepG C (cs.foldl (macStepA C) (macStart C key)) 8).2) := by
  simp only [macHL, hk, Bool.not_true, Bool.false_eq_true, if_false, mac_chunk_independent]

/-- for the real cipher -/
theorem beltMAC_chunked (key : Bytes) (cs : List Bytes) (hk : validKeyLen key.length = true) :
    macHL beltCipher cs.flatten key =
      (.ok, some (macStepG beltCipher (cs.foldl (macStepA beltCipher) (macStart beltCipher key)) 8).2) :=
  macHL_chunked beltCipher key cs hk

/-- GET-THEN-CONTINUE: in an arbitrary session of `beltMACStepA` and `beltMACStepG2` calls (`MacOp.absorb` /
`MacOp.get`), a final `beltMACStepG2` returns the tag of the concatenation of all absorbed fragments: the
intermediate StepG calls (which write `st->mac` and the padding octets of `st->block`) change nothing. -/
theorem mac_get_then_continue (C : Cipher) (key : Bytes) (ops : List MacOp) (n : Nat) :
    (macStepG C (macRun C (macStart C key) ops) n).2 =
      (macStepG C (macStepA C (macStart C key) (ops.map MacOp.data).flatten) n).2 := by
  have h := macInv_run ops (macInv_start C key)
  have h1 := macInv_stepA (macInv_start C key) (ops.map MacOp.data).flatten
  show (macStepGInternal C _).mac.take n = (macStepGInternal C _).mac.take n
  rw [macInv_tag h, macInv_tag h1]

/-- the simplest instance: absorb, get, absorb, get = absorb both, get -/
theorem mac_get_then_continue2 (C : Cipher) (key a b : Bytes) (m n : Nat) :
    (macStepG C (macStepA C (macStepG C (macStepA C (macStart C key) a) m).1 b) n).2 =
      (macStepG C (macStepA C (macStart C key) (a ++ b)) n).2 := by
  have h := mac_get_then_continue C key [.absorb a, .get m, .absorb b] n
  simpa [macRun, MacOp.data] using h

/-- a Get with 5 octets pending overwrites block[5..16) with padding; the continuation is not affected -/
example : (macStepG chunkToy (macRun chunkToy (macStart chunkToy (zeros 16))
      [.absorb (chunkToyData.take 21), .get 8, .absorb (chunkToyData.drop 21)]) 8).2 =
    (macStepG chunkToy (macStepA chunkToy (macStart chunkToy (zeros 16)) chunkToyData) 8).2 := by decide
example : (macStepG chunkToy (macStepA chunkToy (macStart chunkToy (zeros 16)) (chunkToyData.take 21)) 8).1.block ≠
    (macStepA chunkToy (macStart chunkToy (zeros 16)) (chunkToyData.take 21)).block := by decide

/-! ### the length counter of belt-hash -/

/-- `beltBlockAddBitSizeU32` is additive: counting `m` octets and then `n` octets leaves the 128-bit length block
in the state reached by counting `m + n` octets at once (every argument a 64-bit `size_t`). -/
theorem addBitSizeBlock_add (b : Bytes) (m n : Nat) (hl : b.length = 16) (hmn : m + n < 2 ^ 64) :
    addBitSizeBlock (addBitSizeBlock b m) n = addBitSizeBlock b (m + n) :=
  Aead.addBitSizeBlock_add b m n hl hmn

example : addBitSizeBlock (addBitSizeBlock (zeros 16) (2 ^ 61 - 1)) 1 = addBitSizeBlock (zeros 16) (2 ^ 61) := by
  decide

/-- counting zero octets changes nothing -/
theorem addBitSizeBlock_zero (b : Bytes) (hl : b.length = 16) : addBitSizeBlock b 0 = b := by
  apply eq_of_leNat_eq
  · rw [Aead.length_addBitSizeBlock b 0 hl, hl]
  · have := leNat_lt b
    rw [hl] at this
    rw [Aead.addBitSizeBlock_val b 0 hl (by omega)]
    omega

/-- The length block after a fragmented session equals the length block of the one-shot call, as long as the
total length is a `size_t`. -/
theorem lenFold_eq (cs : List Bytes) : ∀ (L : Bytes), L.length = 16 → cs.flatten.length < 2 ^ 64 →
    lenFold L cs = addBitSizeBlock L cs.flatten.length := by
  induction cs with
  | nil => intro L hl _; simp only [lenFold, List.foldl_nil, List.flatten_nil, List.length_nil]
           exact (addBitSizeBlock_zero L hl).symm
  | cons c cs ih =>
    intro L hl hb
    simp only [List.flatten_cons, List.length_append] at hb ⊢
    show lenFold (addBitSizeBlock L c.length) cs = _
    rw [ih _ (Aead.length_addBitSizeBlock L _ hl) (by omega), addBitSizeBlock_add L _ _ hl hb]

/-! ### belt-hash -/

/-- The state of `beltHashStepH` after any fragmentation `cs` of `X = cs.flatten`: the second half of `st->ls`
and `st->h` are the `beltCompr2` chain over the whole 32-octet blocks of `X` (a full block is compressed at once,
unlike belt-MAC), `filled = |X| mod 32`, the pending octets are in `block[0 .. filled)`, and the length block
is the fold of the per-fragment updates. No bound on sizes. -/
theorem hash_state_spec (C : Cipher) (cs : List Bytes) :
    let X := cs.flatten
    let st := cs.foldl (hashStepH C) hashStart
    st.ls.take 16 = lenFold (zeros 16) cs ∧
    (st.ls.drop 16, st.h) = comprChain C (X.length / 32) (zeros 16, hInit) X ∧
    st.filled = X.length % 32 ∧ st.block.take st.filled = X.drop (32 * (X.length / 32)) ∧
    st.block.length = 32 := by
  intro X st
  have h := hashInv_fold cs (hashInv_start C)
  rw [List.nil_append] at h
  exact ⟨h.len, h.sh, h.filled, h.pend, h.blen⟩

/-- CHUNK INDEPENDENCE of belt-hash: `beltHashStart; beltHashStepH(c1); ...; beltHashStepH(cm); beltHashStepG2`
returns the hash of the one-shot call on the concatenation, for every cipher and every fragmentation whose total
length fits a 64-bit `size_t` (otherwise the one-shot call does not exist in C). -/
theorem hash_chunk_independent (C : Cipher) (cs : List Bytes) (n : Nat) (hb : cs.flatten.length < 2 ^ 64) :
    (hashStepG C (cs.foldl (hashStepH C) hashStart) n).2 =
      (hashStepG C (hashStepH C hashStart cs.flatten) n).2 := by
  have h := hashInv_fold cs (hashInv_start C)
  have h1 := hashInv_stepH (hashInv_start C) cs.flatten
  rw [lenFold_eq cs _ rfl hb] at h
  show (hashStepGInternal C _).h1.take n = (hashStepGInternal C _).h1.take n
  rw [hashInv_out h, hashInv_out h1]

/-- the same for `beltHashStepV2` -/
theorem hash_chunk_independent_V (C : Cipher) (cs : List Bytes) (hash : Bytes) (hb : cs.flatten.length < 2 ^ 64) :
    (hashStepV C (cs.foldl (hashStepH C) hashStart) hash).2 =
      (hashStepV C (hashStepH C hashStart cs.flatten) hash).2 := by
  have h := hash_chunk_independent C cs hash.length hb
  simp only [hashStepG, hashStepV] at h ⊢
  rw [h]

/-- `beltHash(hash, src, count)` equals any fragmented session over the same data -/
theorem hashHL_chunked (C : Cipher) (cs : List Bytes) (hb : cs.flatten.length < 2 ^ 64) :
    hashHL C cs.flatten = (.ok, some (hashStepG C (cs.foldl (hashStepH C) hashStart) 32).2) := by
  simp only [hashHL, hash_chunk_independent C cs 32 hb]

/-- get-then-continue for belt-hash: `beltHashStepG2` in the middle of a session (it writes `s1`, `h1` and the
zero padding of `block`) does not change the final hash. -/
theorem hash_get_then_continue (C : Cipher) (a b : Bytes) (m n : Nat) (hb : a.length + b.length < 2 ^ 64) :
    (hashStepG C (hashStepH C (hashStepG C (hashStepH C hashStart a) m).1 b) n).2 =
      (hashStepG C (hashStepH C hashStart (a ++ b)) n).2 := by
  have h := hashInv_stepH (hashInv_stepG (hashInv_stepH (hashInv_start C) a)) b
  have h1 := hashInv_stepH (hashInv_start C) (a ++ b)
  rw [addBitSizeBlock_add _ _ _ rfl (by simpa using hb)] at h
  rw [List.nil_append, List.length_append] at h1
  rw [List.nil_append] at h
  show (hashStepGInternal C _).h1.take n = (hashStepGInternal C _).h1.take n
  rw [hashInv_out h1]
  exact congrArg (List.take n) (hashInv_out h)

example : (hashStepG chunkToy2 ([chunkToyData.take 5, (chunkToyData.drop 5).take 20, chunkToyData.drop 25].foldl
    (hashStepH chunkToy2) hashStart) 32).2 =
    (hashStepG chunkToy2 (hashStepH chunkToy2 hashStart chunkToyData) 32).2 := by decide +kernel
/-- the hash depends on the data ... -/
example : (hashStepG chunkToy2 (hashStepH chunkToy2 hashStart chunkToyData) 32).2 ≠
    (hashStepG chunkToy2 (hashStepH chunkToy2 hashStart (chunkToyData.take 36 ++ [0])) 32).2 := by decide +kernel
/-- ... and on its length (zero padding is disambiguated by the length block) -/
example : (hashStepG chunkToy2 (hashStepH chunkToy2 hashStart (chunkToyData.take 32)) 32).2 ≠
    (hashStepG chunkToy2 (hashStepH chunkToy2 hashStart (chunkToyData.take 32 ++ [0])) 32).2 := by decide +kernel
/-- a Get with 5 octets pending zeroes block[5..32) -/
example : (hashStepG chunkToy2 (hashStepH chunkToy2 hashStart (chunkToyData.take 37)) 32).1.block ≠
    (hashStepH chunkToy2 hashStart (chunkToyData.take 37)).block := by decide +kernel

/-! ### belt-HMAC -/

/-- CHUNK INDEPENDENCE of `beltHMACStepA` from any state with an empty buffer (`filled = 0`, a 32-octet `block`,
a length block in `ls_in`): the tag of a fragmented session equals the tag of the one-shot call. -/
theorem hmac_chunk_independent_of_state (C : Cipher) (st0 : HmacSt) (hl : 16 ≤ st0.ls_in.length)
    (hblk : st0.block.length = 32) (hf : st0.filled = 0) (cs : List Bytes) (n : Nat)
    (hb : cs.flatten.length < 2 ^ 64) :
    (hmacStepG C (cs.foldl (hmacStepA C) st0) n).2 = (hmacStepG C (hmacStepA C st0 cs.flatten) n).2 := by
  have h0 := hmacInv_init C st0 hl hblk hf
  have h := hmacInv_fold cs h0
  have h1 := hmacInv_stepA h0 cs.flatten
  rw [lenFold_eq cs _ h0.inner.llen hb] at h
  show (hmacStepGInternal C _).h1_out.take n = (hmacStepGInternal C _).h1_out.take n
  rw [hmacInv_out h, hmacInv_out h1]

/-
Full statement: `hmac_chunk_independent` below for EVERY key length. For keys longer than 32 octets
`(hmacStart C key).block` is `beltHash(key)` xor pads, whose length is 32 only if the cipher preserves the
block length (`hlen`). The partial statement takes the length of the start block as a hypothesis; it is
discharged under `hlen` for every key length in PropsSpecHash.lean (`hmac_chunk_independent_anykey`), which
closes this item.
-/
/-- belt-HMAC after `beltHMACStart(key)`, any key for which the start state has a 32-octet block -/
theorem hmac_chunk_independent_partial (C : Cipher) (key : Bytes) (hblk : (hmacStart C key).block.length = 32)
    (cs : List Bytes) (n : Nat) (hb : cs.flatten.length < 2 ^ 64) :
    (hmacStepG C (cs.foldl (hmacStepA C) (hmacStart C key)) n).2 =
      (hmacStepG C (hmacStepA C (hmacStart C key) cs.flatten) n).2 := by
  refine hmac_chunk_independent_of_state C _ ?_ hblk rfl cs n hb
  show 16 ≤ (addBitSizeBlock (zeros 16) 32 ++ _).length
  rw [List.length_append, Aead.length_addBitSizeBlock _ _ rfl]; omega

/-- CHUNK INDEPENDENCE of belt-HMAC for keys of at most 32 octets (every key length used with belt), every
cipher, no further hypothesis. -/
theorem hmac_chunk_independent (C : Cipher) (key : Bytes) (hk : key.length ≤ 32) (cs : List Bytes) (n : Nat)
    (hb : cs.flatten.length < 2 ^ 64) :
    (hmacStepG C (cs.foldl (hmacStepA C) (hmacStart C key)) n).2 =
      (hmacStepG C (hmacStepA C (hmacStart C key) cs.flatten) n).2 := by
  refine hmac_chunk_independent_partial C key ?_ cs n hb
  simp only [hmacStart, hk, if_true, List.length_map, List.length_append, zeros, List.length_replicate]
  omega

/-- `beltHMAC(mac, src, count, key, len)` equals any fragmented session -/
theorem hmacHL_chunked (C : Cipher) (key : Bytes) (hk : key.length ≤ 32) (cs : List Bytes)
    (hb : cs.flatten.length < 2 ^ 64) :
    hmacHL C cs.flatten key = (.ok, some (hmacStepG C (cs.foldl (hmacStepA C) (hmacStart C key)) 32).2) := by
  simp only [hmacHL, hmac_chunk_independent C key hk cs 32 hb]

example : (hmacStepG chunkToy2 ([chunkToyData.take 5, (chunkToyData.drop 5).take 20, chunkToyData.drop 25].foldl
    (hmacStepA chunkToy2) (hmacStart chunkToy2 [1, 2, 3])) 32).2 =
    (hmacStepG chunkToy2 (hmacStepA chunkToy2 (hmacStart chunkToy2 [1, 2, 3]) chunkToyData) 32).2 := by decide +kernel
example : (hmacStepG chunkToy2 (hmacStepA chunkToy2 (hmacStart chunkToy2 [1, 2, 3]) chunkToyData) 32).2 ≠
    (hmacStepG chunkToy2 (hmacStepA chunkToy2 (hmacStart chunkToy2 [1, 2, 3]) (chunkToyData.take 36 ++ [0])) 32).2 := by
  decide +kernel
example : (hmacStepG chunkToy2 (hmacStepA chunkToy2 (hmacStart chunkToy2 [1, 2, 3]) chunkToyData) 32).2 ≠
    (hmacStepG chunkToy2 (hmacStepA chunkToy2 (hmacStart chunkToy2 [1, 2, 4]) chunkToyData) 32).2 := by decide +kernel
/-- the hypothesis of the partial statement holds for a long key with a length-preserving cipher -/
example : (hmacStart chunkToy2 chunkToyData).block.length = 32 := by decide

/-- get-then-continue for belt-HMAC (keys of at most 32 octets): `beltHMACStepG2` in the middle of a session
does not change the final tag. -/
theorem hmac_get_then_continue (C : Cipher) (key : Bytes) (hk : key.length ≤ 32) (a b : Bytes) (m n : Nat)
    (hb : a.length + b.length < 2 ^ 64) :
    (hmacStepG C (hmacStepA C (hmacStepG C (hmacStepA C (hmacStart C key) a) m).1 b) n).2 =
      (hmacStepG C (hmacStepA C (hmacStart C key) (a ++ b)) n).2 := by
  have hblk : (hmacStart C key).block.length = 32 := by
    simp only [hmacStart, hk, if_true, List.length_map, List.length_append, zeros, List.length_replicate]
    omega
  have hl : 16 ≤ (hmacStart C key).ls_in.length := by
    show 16 ≤ (addBitSizeBlock (zeros 16) 32 ++ _).length
    rw [List.length_append, Aead.length_addBitSizeBlock _ _ rfl]; omega
  have h0 := hmacInv_init C (hmacStart C key) hl hblk rfl
  have h := hmacInv_stepA (hmacInv_stepG (hmacInv_stepA h0 a)) b
  have h1 := hmacInv_stepA h0 (a ++ b)
  rw [addBitSizeBlock_add _ _ _ h0.inner.llen (by simpa using hb)] at h
  rw [List.nil_append, List.length_append] at h1
  rw [List.nil_append] at h
  show (hmacStepGInternal C _).h1_out.take n = (hmacStepGInternal C _).h1_out.take n
  rw [hmacInv_out h1]
  exact congrArg (List.take n) (hmacInv_out h)

example : (hmacStepG chunkToy2 (hmacStepA chunkToy2 (hmacStepG chunkToy2 (hmacStepA chunkToy2
      (hmacStart chunkToy2 [1, 2, 3]) (chunkToyData.take 21)) 32).1 (chunkToyData.drop 21)) 32).2 =
    (hmacStepG chunkToy2 (hmacStepA chunkToy2 (hmacStart chunkToy2 [1, 2, 3]) chunkToyData) 32).2 := by decide +kernel

end Bee2V.C01
