/-
C01 property theorems, part 1: tables and block cipher.
Only property theorems and non-vacuity examples.
-/
import Bee2V.C01.Spec
import Bee2V.C01.Lemmas.Block
namespace Bee2V.C01
open Bee2V.Gen.C01

/-- The table `H` of belt_block.c (as regenerated from the source) is the substitution defined by the
LFSR of the standard. -/
theorem table_H_is_spec : H.toList.map UInt8.toNat = Spec.hTable := by decide +kernel

/-- A table that lists `RotHi^r(H[i])` entry by entry (one comparison of two lists of 256 words) answers every
lookup with `RotHi^r` of the lookup in `H`. -/
theorem table_rot (T : Array UInt32) (r : UInt32)
    (h : T.toList = H.toList.map fun b => Spec.rotHi b.toUInt32 r) (i : Fin 256) :
    T[i.val]! = Spec.rotHi (H[i.val]!.toUInt32) r := by
  have hH : H.size = 256 := length_H
  have hT : T.size = 256 := by rw [← Array.length_toList, h, List.length_map, Array.length_toList, hH]
  rw [getElem!_pos T i.val (by omega), getElem!_pos H i.val (by omega)]
  simp only [← Array.getElem_toList, h, List.getElem_map]

/-- `H5[i] = RotHi^5(H[i])`, for every i -/
theorem table_H5_rot : ∀ i : Fin 256, H5[i.val]! = Spec.rotHi (H[i.val]!.toUInt32) 5 :=
  table_rot H5 5 (by decide +kernel)
/-- `H13[i] = RotHi^13(H[i]) = RotHi^5(H[i] ≪ 8)` -/
theorem table_H13_rot : ∀ i : Fin 256, H13[i.val]! = Spec.rotHi (H[i.val]!.toUInt32) 13 :=
  table_rot H13 13 (by decide +kernel)
theorem table_H21_rot : ∀ i : Fin 256, H21[i.val]! = Spec.rotHi (H[i.val]!.toUInt32) 21 :=
  table_rot H21 21 (by decide +kernel)
theorem table_H29_rot : ∀ i : Fin 256, H29[i.val]! = Spec.rotHi (H[i.val]!.toUInt32) 29 :=
  table_rot H29 29 (by decide +kernel)

/-- One round (macro `R`) is inverted by `R` with the seven subkeys in reverse order on the registers
taken in the order d, c, b, a -- for arbitrary G-blocks. -/
theorem round_inverse (g : GFun) (sk : Nat → UInt32) (i a b c d : UInt32) :
    R g (fun j => sk (6 - j)) i (R g sk i a b c d).2.2.2 (R g sk i a b c d).2.2.1
        (R g sk i a b c d).2.1 (R g sk i a b c d).1 = (d, c, b, a) := R_inv g sk i a b c d

example : R beltG (fun j => UInt32.ofNat j) 1 1 2 3 4 ≠ (1, 2, 3, 4) := by decide +kernel

/-- `beltBlockDecr3(beltBlockEncr3(a,b,c,d)) = (a,b,c,d)` for EVERY 8-word key array and every G -/
theorem decr3_encr3 (g : GFun) (K : Array UInt32) (a b c d : UInt32) :
    D g K (E g K a b c d).1 (E g K a b c d).2.1 (E g K a b c d).2.2.1 (E g K a b c d).2.2.2 = (a, b, c, d) :=
  D_E g K a b c d

theorem encr3_decr3 (g : GFun) (K : Array UInt32) (a b c d : UInt32) :
    E g K (D g K a b c d).1 (D g K a b c d).2.1 (D g K a b c d).2.2.1 (D g K a b c d).2.2.2 = (a, b, c, d) :=
  E_D g K a b c d

/-- `beltBlockDecr` inverts `beltBlockEncr` on octet blocks, for every formatted key (any 32 octets,
hence every key of 16, 24 or 32 octets after `beltKeyExpand2`) and every 16-octet block. -/
theorem blockDecr_blockEncr (key blk : Bytes) (h : blk.length = 16) :
    blockDecr key (blockEncr key blk) = blk := blockDecr_blockEncr' key blk h

theorem blockEncr_blockDecr (key blk : Bytes) (h : blk.length = 16) :
    blockEncr key (blockDecr key blk) = blk := blockEncr_blockDecr' key blk h

/-- non-vacuity: the cipher is not the identity (appendix A.1 of the standard: first octet 0x69) -/
example : (blockEncr ((H.toList.drop 128).take 32) (H.toList.take 16)).head? = some 0x69 := by decide +kernel

end Bee2V.C01
