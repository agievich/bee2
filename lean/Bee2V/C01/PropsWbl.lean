/-
C01 property theorems: belt_wbl.c (wide-block cipher), belt_kwp.c (key wrap), belt_sde.c (sector encryption).
Only property theorems and non-vacuity examples; helper lemmas are in Lemmas/Wbl.lean, Lemmas/WblBlk.lean and Lemmas/WblR.lean.
All mode theorems hold for an ARBITRARY cipher `C`: WBL only ever calls `C.enc`, so the only
hypothesis is that `enc` maps 16-octet blocks to 16-octet blocks.
-/
import Bee2V.C01.Lemmas.WblR
import Bee2V.C01.Lemmas.Block
namespace Bee2V.C01
open Wbl WblR

/-! ### 1. one round -/

/-- One iteration of the for-loop of `beltWBLStepDBase` with round number `round + 1` undoes one
iteration of the do-loop of `beltWBLStepEBase` entered with `st->round = round`, for EVERY buffer of at
least 32 octets (also when `count` is not a multiple of 16, where the blocks r_{n-1} and r* overlap)
and every key. -/
theorem wblRoundDBase_wblRoundEBase (C : Cipher) (hlen : ∀ k x, x.length = 16 → (C.enc k x).length = 16)
    (key buf : Bytes) (round : Nat) (h : 32 ≤ buf.length) :
    wblRoundDBase C key (wblRoundEBase C key buf round).1 (round + 1) = buf :=
  roundD_roundE C hlen key buf h round

/-- An E round keeps `count` and increments `st->round`. -/
theorem wblRoundEBase_length (C : Cipher) (hlen : ∀ k x, x.length = 16 → (C.enc k x).length = 16)
    (key buf : Bytes) (round : Nat) (h : 32 ≤ buf.length) :
    (wblRoundEBase C key buf round).1.length = buf.length ∧ (wblRoundEBase C key buf round).2 = round + 1 :=
  length_roundE C hlen key buf h round

/-- A D round keeps `count`. -/
theorem wblRoundDBase_length (C : Cipher) (hlen : ∀ k x, x.length = 16 → (C.enc k x).length = 16)
    (key buf : Bytes) (round : Nat) (h : 32 ≤ buf.length) :
    (wblRoundDBase C key buf round).length = buf.length :=
  length_roundD C hlen key buf h round

example : (wblRoundEBase toyCipher [] (List.replicate 40 7) 0).1 ≠ List.replicate 40 7 := by decide +kernel
example : wblRoundDBase toyCipher [] (wblRoundEBase toyCipher [] (List.replicate 40 7) 0).1 1
    = List.replicate 40 7 := by decide +kernel

/-! ### 2. the whole wide block -/

/-- `beltWBLStepDBase` inverts `beltWBLStepEBase` (entered with `st->round = 0`, as `beltWBLStepE` does)
on every buffer of at least 32 octets, of any length. -/
theorem wblStepDBase_wblStepEBase (C : Cipher) (hlen : ∀ k x, x.length = 16 → (C.enc k x).length = 16)
    (key buf : Bytes) (h : 32 ≤ buf.length) :
    (wblStepDBase C key (wblStepEBase C key buf 0).1).1 = buf :=
  (stepE_spec C hlen key buf h).2.2

/-- `beltWBLStepEBase` runs exactly the rounds 1..2n (the do-loop leaves with `st->round = 2n`,
n = ceil(count/16)) and keeps `count`. -/
theorem wblStepEBase_round (C : Cipher) (hlen : ∀ k x, x.length = 16 → (C.enc k x).length = 16)
    (key buf : Bytes) (h : 32 ≤ buf.length) :
    (wblStepEBase C key buf 0).2 = 2 * wblN buf.length ∧ (wblStepEBase C key buf 0).1.length = buf.length :=
  ⟨(stepE_spec C hlen key buf h).1, (stepE_spec C hlen key buf h).2.1⟩

/-- `beltWBLStepDBase` keeps `count` and leaves `st->round = 0`. -/
theorem wblStepDBase_length (C : Cipher) (hlen : ∀ k x, x.length = 16 → (C.enc k x).length = 16)
    (key buf : Bytes) (h : 32 ≤ buf.length) :
    (wblStepDBase C key buf).1.length = buf.length ∧ (wblStepDBase C key buf).2 = 0 :=
  ⟨length_stepD C hlen key buf h, rfl⟩

example : (wblStepEBase toyCipher [] (List.replicate 40 7) 0).1 ≠ List.replicate 40 7 := by decide +kernel
example : (wblStepEBase toyCipher [] (List.replicate 40 7) 0).2 = 6 := by decide +kernel

/-! ### 3. beltWBLStepD2 -/

/-- One round of `beltWBLStepD2` on the split buffer (`buf1` = all but the last 16 octets, `buf2` = the
last 16 octets) computes the same octets as one round of `beltWBLStepDBase` on `buf1 ‖ buf2`: the loop
with `i + 32 < count` plus the two partial `memXor2` is the loop with `i + 16 < count`. -/
theorem wblRoundD2_eq_wblRoundDBase (C : Cipher) (hlen : ∀ k x, x.length = 16 → (C.enc k x).length = 16)
    (key buf1 buf2 : Bytes) (round : Nat) (h1 : 16 ≤ buf1.length) (h2 : buf2.length = 16) :
    (wblRoundD2 C key (buf1, buf2) round).1 ++ (wblRoundD2 C key (buf1, buf2) round).2
      = wblRoundDBase C key (buf1 ++ buf2) round ∧
    (wblRoundD2 C key (buf1, buf2) round).1.length = buf1.length ∧
    (wblRoundD2 C key (buf1, buf2) round).2.length = 16 :=
  roundD2_spec C hlen key buf1 buf2 h1 h2 round

/-- `beltWBLStepD2(buf1, buf2, count, state)` (the function `beltKWPUnwrap` uses) leaves in `buf1`, `buf2`
exactly the first `count - 16` and the last 16 octets of what `beltWBLStepDBase` computes on the whole
buffer, and `st->round = 0`; for every `count ≥ 32`. -/
theorem wblStepD2_eq_wblStepDBase (C : Cipher) (hlen : ∀ k x, x.length = 16 → (C.enc k x).length = 16)
    (key buf : Bytes) (h : 32 ≤ buf.length) :
    wblStepD2 C key (buf.take (buf.length - 16)) (buf.drop (buf.length - 16)) =
      ((wblStepDBase C key buf).1.take (buf.length - 16), (wblStepDBase C key buf).1.drop (buf.length - 16), 0) := by
  obtain ⟨i1, i2, i3, i4⟩ := stepD2_spec C hlen key (buf.take (buf.length - 16)) (buf.drop (buf.length - 16))
    (by simp; omega) (by simp; omega)
  rw [List.take_append_drop] at i1
  have hl := length_stepD C hlen key buf h
  obtain ⟨e1, e2⟩ := append_eq_split _ _ _ i1 (by rw [i2, hl]; simp)
  rw [hl] at e1 e2
  generalize wblStepD2 C key (buf.take (buf.length - 16)) (buf.drop (buf.length - 16)) = r at *
  obtain ⟨r1, r2, r3⟩ := r
  simp only [] at e1 e2 i4
  rw [e1, e2, i4]

example : (wblStepD2 toyCipher [] (List.replicate 21 7) (List.replicate 16 9)).1 ≠ List.replicate 21 7 := by
  decide +kernel

/-! ### 4. KWP -/

/-- Complete description of `beltKWPUnwrap` for ANY token, header and key:
`ERR_BAD_INPUT` with `dest` untouched iff `count < 32` or the key length is not 16/24/32; otherwise the
token is decrypted by the wide-block cipher and `ERR_OK` is returned with the first `count - 16` octets
iff the last 16 decrypted octets equal the header (zeros for a NULL header); in every other case the
result is `ERR_BAD_KEYTOKEN` and `dest` holds `count - 16` zero octets, never the decrypted key. -/
theorem kwpUnwrap_spec (C : Cipher) (hlen : ∀ k x, x.length = 16 → (C.enc k x).length = 16)
    (tok : Bytes) (header : Option Bytes) (key : Bytes) :
    kwpUnwrap C tok header key =
      if tok.length < 32 ∨ validKeyLen key.length = false then (.badInput, none)
      else if (wblStepDBase C (fmtKey key) tok).1.drop (tok.length - 16) = header.getD (zeros 16)
        then (.ok, some ((wblStepDBase C (fmtKey key) tok).1.take (tok.length - 16)))
        else (.badKeytoken, some (zeros (tok.length - 16))) := by
  unfold kwpUnwrap
  by_cases h1 : tok.length < 32
  · simp [h1]
  · by_cases h2 : validKeyLen key.length = false
    · simp [h2]
    · have h2' : validKeyLen key.length = true := by simpa using h2
      have hc1 : (decide (tok.length < 32) || !validKeyLen key.length) = false := by simp [h1, h2']
      have hc2 : ¬ (tok.length < 32 ∨ validKeyLen key.length = false) := by simp [h1, h2']
      rw [if_neg hc2]
      simp only [hc1, Bool.false_eq_true, if_false]
      rw [wblStepD2_eq_wblStepDBase C hlen (fmtKey key) tok (by omega)]
      simp only []
      cases header with
      | none =>
        simp only [Option.getD_none]
        by_cases h3 : List.drop (tok.length - 16) (wblStepDBase C (fmtKey key) tok).1 = zeros 16
        · simp [h3]
        · simp [h3]
      | some hd =>
        simp only [Option.getD_some]
        by_cases h3 : List.drop (tok.length - 16) (wblStepDBase C (fmtKey key) tok).1 = hd
        · simp [h3]
        · have h3' : ¬ hd = List.drop (tok.length - 16) (wblStepDBase C (fmtKey key) tok).1 := fun e => h3 e.symm
          simp [h3, h3']

/-- On every failure of `beltKWPUnwrap` the destination is either untouched or all zeros. -/
theorem kwpUnwrap_fail_zero (C : Cipher) (hlen : ∀ k x, x.length = 16 → (C.enc k x).length = 16)
    (tok : Bytes) (header : Option Bytes) (key : Bytes) (h : (kwpUnwrap C tok header key).1 ≠ .ok) :
    (kwpUnwrap C tok header key).2 = none ∨ (kwpUnwrap C tok header key).2 = some (zeros (tok.length - 16)) := by
  rw [kwpUnwrap_spec C hlen] at h ⊢
  split
  · exact Or.inl rfl
  · rename_i hc
    rw [if_neg hc] at h
    split
    · rename_i hd; rw [if_pos hd] at h; exact absurd rfl h
    · exact Or.inr rfl

/-- `beltKWPUnwrap` returns `ERR_BAD_INPUT` iff the token is shorter than 32 octets or the key length is
not 16/24/32; in that case `dest` is untouched. -/
theorem kwpUnwrap_badInput_iff (C : Cipher) (hlen : ∀ k x, x.length = 16 → (C.enc k x).length = 16)
    (tok : Bytes) (header : Option Bytes) (key : Bytes) :
    ((kwpUnwrap C tok header key).1 = .badInput ↔ (tok.length < 32 ∨ validKeyLen key.length = false)) ∧
    ((kwpUnwrap C tok header key).1 = .badInput → (kwpUnwrap C tok header key).2 = none) := by
  rw [kwpUnwrap_spec C hlen]
  by_cases hc : tok.length < 32 ∨ validKeyLen key.length = false
  · rw [if_pos hc]; exact ⟨⟨fun _ => hc, fun _ => rfl⟩, fun _ => rfl⟩
  · rw [if_neg hc]
    split
    · exact ⟨⟨fun h => Err.noConfusion h, fun h => absurd h hc⟩, fun h => Err.noConfusion h⟩
    · exact ⟨⟨fun h => Err.noConfusion h, fun h => absurd h hc⟩, fun h => Err.noConfusion h⟩

/-! ### 5. the optimised editions compute the same function -/

/-- `beltWBLStepEOpt` (buffer kept in place as a circular list of blocks, running sum updated with two
block xors per round) returns the same buffer and the same `st->round` as `beltWBLStepEBase`, for every
buffer that consists of at least two whole blocks and every key.  (`beltWBLStepE` selects it for
`count % 16 = 0 ∧ count ≥ 64`.) -/
theorem wblStepEOpt_eq_wblStepEBase (C : Cipher) (hlen : ∀ k x, x.length = 16 → (C.enc k x).length = 16)
    (key buf : Bytes) (h16 : buf.length % 16 = 0) (h32 : 32 ≤ buf.length) :
    wblStepEOpt C key buf 0 = wblStepEBase C key buf 0 :=
  stepEOpt_eq_Base_from C hlen key buf 0 h16 h32 (Nat.zero_mod _)

/-- `beltWBLStepDOpt` returns the same buffer as `beltWBLStepDBase` for every buffer that consists of at
least three whole blocks.  (`beltWBLStepD` selects it for `count % 16 = 0 ∧ count ≥ 80`; for exactly two
blocks the initial sum of `beltWBLStepDOpt` would be wrong, which is why the bound 48 is needed.) -/
theorem wblStepDOpt_eq_wblStepDBase (C : Cipher) (hlen : ∀ k x, x.length = 16 → (C.enc k x).length = 16)
    (key buf : Bytes) (h16 : buf.length % 16 = 0) (h48 : 48 ≤ buf.length) :
    wblStepDOpt C key buf = wblStepDBase C key buf := by
  obtain ⟨bs, h, hl, rfl⟩ := exists_blks (buf.length / 16) buf (by omega)
  have hlen' := length_flatten h
  have hk : bs.length - 1 = (2 * bs.length + (bs.length - 1)) % bs.length := by
    rw [Nat.add_comm, Nat.mul_comm, Nat.add_mul_mod_self_left, Nat.mod_eq_of_lt (by omega)]
  have e := iterDOpt_blk C hlen key bs.length (by omega) (2 * bs.length) bs (bs.length - 1) h rfl hk
  rw [show bs.length - 1 + 1 = bs.length by omega, Nat.mod_self, rotB_zero] at e
  unfold wblStepDOpt wblStepDBase
  simp only []
  have hx : (xorBlocksFrom bs.flatten 32 bs.flatten.length 16 (bs.flatten.take 16)).1 = xs2 bs.flatten := rfl
  have hn : 2 * wblN bs.flatten.length = 2 * bs.length := by rw [hlen']; unfold wblN; omega
  rw [hx, hn, show bs.flatten.length - 16 = 16 * (bs.length - 1) by omega, e]

example : wblStepEOpt toyCipher [] (List.replicate 64 7) 0 ≠ (List.replicate 64 7, 0) := by decide +kernel
/-- the bound 48 in `wblStepDOpt_eq_wblStepDBase` is sharp: the two editions differ on two blocks -/
example : wblStepDOpt toyCipher [] (List.replicate 32 7) ≠ wblStepDBase toyCipher [] (List.replicate 32 7) := by
  decide +kernel

/-- The dispatching `beltWBLStepE` is `beltWBLStepEBase` from round 0, whatever branch it takes. -/
theorem wblStepE_eq_wblStepEBase (C : Cipher) (hlen : ∀ k x, x.length = 16 → (C.enc k x).length = 16)
    (key buf : Bytes) (h32 : 32 ≤ buf.length) : wblStepE C key buf = wblStepEBase C key buf 0 := by
  unfold wblStepE
  split
  · rfl
  · rename_i hc
    exact wblStepEOpt_eq_wblStepEBase C hlen key buf (by simp at hc; omega) h32

/-- The dispatching `beltWBLStepD` is `beltWBLStepDBase`, whatever branch it takes. -/
theorem wblStepD_eq_wblStepDBase (C : Cipher) (hlen : ∀ k x, x.length = 16 → (C.enc k x).length = 16)
    (key buf : Bytes) : wblStepD C key buf = wblStepDBase C key buf := by
  unfold wblStepD
  split
  · rfl
  · rename_i hc
    exact wblStepDOpt_eq_wblStepDBase C hlen key buf (by simp at hc; omega) (by simp at hc; omega)

/-- `beltWBLStepD(beltWBLStepE(buf)) = buf` for EVERY buffer of at least 32 octets (all four
combinations of Base/Opt editions) and every key. -/
theorem wblStepD_wblStepE (C : Cipher) (hlen : ∀ k x, x.length = 16 → (C.enc k x).length = 16)
    (key buf : Bytes) (h : 32 ≤ buf.length) :
    (wblStepD C key (wblStepE C key buf).1).1 = buf ∧ (wblStepE C key buf).1.length = buf.length := by
  rw [wblStepD_eq_wblStepDBase C hlen, wblStepE_eq_wblStepEBase C hlen key buf h]
  exact ⟨(stepE_spec C hlen key buf h).2.2, (stepE_spec C hlen key buf h).2.1⟩

example : (wblStepE toyCipher [] (List.replicate 80 7)).1 ≠ List.replicate 80 7 := by decide +kernel

/-! ### 4. KWP: round trip -/

/-- `beltKWPUnwrap(beltKWPWrap(src)) = src` with `ERR_OK` on both sides, for every key of 16, 24 or 32
octets, every header (16 octets, or NULL = zeros) and every `src` of at least 16 octets (both the Base
and the Opt branch of `beltWBLStepE`).  The token is 16 octets longer than `src`. -/
theorem kwpUnwrap_kwpWrap (C : Cipher) (hlen : ∀ k x, x.length = 16 → (C.enc k x).length = 16)
    (src : Bytes) (header : Option Bytes) (key : Bytes) (hs : 16 ≤ src.length)
    (hk : validKeyLen key.length = true) (hh : ∀ h, header = some h → h.length = 16) :
    ∃ tok, kwpWrap C src header key = (.ok, some tok) ∧ tok.length = src.length + 16 ∧
      kwpUnwrap C tok header key = (.ok, some src) := by
  have hm : kwpWrap C src header key =
      if src.length < 16 || !validKeyLen key.length then (.badInput, none)
      else (.ok, some (wblStepE C (fmtKey key) (src ++ header.getD (zeros 16))).1) := by
    cases header <;> rfl
  have hl : (header.getD (zeros 16)).length = 16 := by
    cases header with
    | none => exact length_zeros 16
    | some h => exact hh h rfl
  have hbl : (src ++ header.getD (zeros 16)).length = src.length + 16 := by simp [hl]
  have hw : kwpWrap C src header key
      = (.ok, some (wblStepEBase C (fmtKey key) (src ++ header.getD (zeros 16)) 0).1) := by
    rw [hm]
    have hc : (decide (src.length < 16) || !validKeyLen key.length) = false := by
      simp [hk]; omega
    simp only [hc, Bool.false_eq_true, if_false]
    rw [wblStepE_eq_wblStepEBase C hlen _ _ (by omega)]
  obtain ⟨_, e2, e3⟩ := stepE_spec C hlen (fmtKey key) (src ++ header.getD (zeros 16)) (by omega)
  refine ⟨_, hw, by rw [e2, hbl], ?_⟩
  rw [kwpUnwrap_spec C hlen, e3, e2, hbl]
  rw [if_neg (by simp [hk]; omega)]
  have h16 : src.length + 16 - 16 = src.length := by omega
  rw [h16, List.drop_left, List.take_left, if_pos rfl]

/-- `beltKWPWrap` fails with `ERR_BAD_INPUT` (dest untouched) iff the key to protect is shorter than 16
octets or the key-encryption key has a bad length. -/
theorem kwpWrap_badInput_iff (C : Cipher) (src : Bytes) (header : Option Bytes) (key : Bytes) :
    kwpWrap C src header key = (.badInput, none) ↔ (src.length < 16 ∨ validKeyLen key.length = false) := by
  unfold kwpWrap
  by_cases h1 : src.length < 16
  · simp [h1]
  · by_cases h2 : validKeyLen key.length = false
    · simp [h2]
    · have h2' : validKeyLen key.length = true := by simpa using h2
      simp [h1, h2']

example : ∃ tok, kwpWrap toyCipher (List.replicate 17 5) none (List.replicate 16 1) = (.ok, some tok) ∧
    tok ≠ List.replicate 17 5 ++ zeros 16 := ⟨_, rfl, by decide +kernel⟩
/-- a token with a wrong trailer is rejected and the destination is zeroed -/
example : kwpUnwrap toyCipher (List.replicate 33 5) none (List.replicate 16 1)
    = (.badKeytoken, some (zeros 17)) := by decide +kernel

/-! ### 6. SDE -/

/-- `beltSDEStepD(beltSDEStepE(buf, iv), iv) = buf` for every sector of at least 32 octets, every 16-octet
`iv` and every key; the sector length is kept. -/
theorem sdeStepD_sdeStepE (C : Cipher) (hlen : ∀ k x, x.length = 16 → (C.enc k x).length = 16)
    (key iv buf : Bytes) (hiv : iv.length = 16) (h : 32 ≤ buf.length) :
    sdeStepD C key iv (sdeStepE C key iv buf) = buf ∧ (sdeStepE C key iv buf).length = buf.length := by
  have hs := hlen key iv hiv
  obtain ⟨x1, x2⟩ := xorAt0_xorAt0 buf (C.enc key iv) (by omega) hs
  obtain ⟨hw, hEl⟩ := wblStepD_wblStepE C hlen key (xorAt buf 0 (C.enc key iv)) (by omega)
  rw [x2] at hEl
  obtain ⟨y1, y2⟩ := xorAt0_xorAt0 (wblStepE C key (xorAt buf 0 (C.enc key iv))).1 (C.enc key iv) (by omega) hs
  unfold sdeStepD sdeStepE
  simp only []
  rw [y1, hw, x1, y2, hEl]
  exact ⟨rfl, rfl⟩

/-- `beltSDEDecr(beltSDEEncr(src)) = src` with `ERR_OK` on both sides, for every sector length that is a
multiple of 16 and at least 32, every key of 16/24/32 octets and every 16-octet `iv`. -/
theorem sdeDecr_sdeEncr (C : Cipher) (hlen : ∀ k x, x.length = 16 → (C.enc k x).length = 16)
    (src key iv : Bytes) (hiv : iv.length = 16) (hk : validKeyLen key.length = true)
    (h16 : src.length % 16 = 0) (h : 32 ≤ src.length) :
    ∃ ct, sdeEncr C src key iv = (.ok, some ct) ∧ ct.length = src.length ∧
      sdeDecr C ct key iv = (.ok, some src) := by
  have hc : (decide (src.length % 16 ≠ 0) || decide (src.length < 32) || !validKeyLen key.length) = false := by
    simp [hk]; omega
  obtain ⟨e1, e2⟩ := sdeStepD_sdeStepE C hlen (fmtKey key) iv src hiv h
  refine ⟨sdeStepE C (fmtKey key) iv src, ?_, e2, ?_⟩
  · unfold sdeEncr
    simp only [hc, Bool.false_eq_true, if_false]
  · unfold sdeDecr
    rw [e2]
    simp only [hc, Bool.false_eq_true, if_false]
    rw [e1]

example : sdeStepE toyCipher [] (List.replicate 16 3) (List.replicate 64 7) ≠ List.replicate 64 7 := by
  decide +kernel

/-! ### 7. corollaries for the belt block cipher -/

/-- `beltWBLStepD ∘ beltWBLStepE = id` for belt itself, every `count ≥ 32`. -/
theorem belt_wblStepD_wblStepE (key buf : Bytes) (h : 32 ≤ buf.length) :
    (wblStepD beltCipher key (wblStepE beltCipher key buf).1).1 = buf :=
  (wblStepD_wblStepE beltCipher length_blockEncr key buf h).1

/-- Opt = Base for belt itself. -/
theorem belt_wblStepEOpt_eq_wblStepEBase (key buf : Bytes) (h16 : buf.length % 16 = 0) (h32 : 32 ≤ buf.length) :
    wblStepEOpt beltCipher key buf 0 = wblStepEBase beltCipher key buf 0 :=
  wblStepEOpt_eq_wblStepEBase beltCipher length_blockEncr key buf h16 h32

theorem belt_wblStepDOpt_eq_wblStepDBase (key buf : Bytes) (h16 : buf.length % 16 = 0) (h48 : 48 ≤ buf.length) :
    wblStepDOpt beltCipher key buf = wblStepDBase beltCipher key buf :=
  wblStepDOpt_eq_wblStepDBase beltCipher length_blockEncr key buf h16 h48

/-- `beltWBLStepD2` = `beltWBLStepDBase` on the split buffer, for belt itself. -/
theorem belt_wblStepD2_eq_wblStepDBase (key buf : Bytes) (h : 32 ≤ buf.length) :
    wblStepD2 beltCipher key (buf.take (buf.length - 16)) (buf.drop (buf.length - 16)) =
      ((wblStepDBase beltCipher key buf).1.take (buf.length - 16),
       (wblStepDBase beltCipher key buf).1.drop (buf.length - 16), 0) :=
  wblStepD2_eq_wblStepDBase beltCipher length_blockEncr key buf h

/-- `beltKWPUnwrap` for belt itself: error codes and the zeroed destination. -/
theorem belt_kwpUnwrap_spec (tok : Bytes) (header : Option Bytes) (key : Bytes) :
    kwpUnwrap beltCipher tok header key =
      if tok.length < 32 ∨ validKeyLen key.length = false then (.badInput, none)
      else if (wblStepDBase beltCipher (fmtKey key) tok).1.drop (tok.length - 16) = header.getD (zeros 16)
        then (.ok, some ((wblStepDBase beltCipher (fmtKey key) tok).1.take (tok.length - 16)))
        else (.badKeytoken, some (zeros (tok.length - 16))) :=
  kwpUnwrap_spec beltCipher length_blockEncr tok header key

/-- `beltKWPUnwrap ∘ beltKWPWrap` for belt itself, every key length ≥ 16. -/
theorem belt_kwpUnwrap_kwpWrap (src : Bytes) (header : Option Bytes) (key : Bytes)
    (hs : 16 ≤ src.length) (hk : validKeyLen key.length = true) (hh : ∀ h, header = some h → h.length = 16) :
    ∃ tok, kwpWrap beltCipher src header key = (.ok, some tok) ∧ tok.length = src.length + 16 ∧
      kwpUnwrap beltCipher tok header key = (.ok, some src) :=
  kwpUnwrap_kwpWrap beltCipher length_blockEncr src header key hs hk hh

/-- `beltSDEDecr ∘ beltSDEEncr` for belt itself, every sector length. -/
theorem belt_sdeDecr_sdeEncr (src key iv : Bytes) (hiv : iv.length = 16)
    (hk : validKeyLen key.length = true) (h16 : src.length % 16 = 0) (h : 32 ≤ src.length) :
    ∃ ct, sdeEncr beltCipher src key iv = (.ok, some ct) ∧ ct.length = src.length ∧
      sdeDecr beltCipher ct key iv = (.ok, some src) :=
  sdeDecr_sdeEncr beltCipher length_blockEncr src key iv hiv hk h16 h

end Bee2V.C01
