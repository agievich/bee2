/-
C01 property theorems: format-preserving encryption (belt_fmt.c), the alphabet 65536 included.
Completes PropsFmt.lean (`fmtStepD_fmtStepE_partial` assumed `FmtLenOk`): the length fact about the
keyed half-round function is proved here for every cipher that maps 16-octet blocks to 16-octet blocks.
Helper lemmas: Lemmas/FmtLen.lean.
-/
import Bee2V.C01.Lemmas.FmtLen
namespace Bee2V.C01
open FmtLen

/-- `beltFMTCalcB(65536, count) = ceil(count / 4)`: for the alphabet 65536 the number of 64-bit blocks is
computed by the shortcut `(16 count + 63) / 64`; no entry of the table of special cases applies. -/
theorem calcB_65536_eq (count : Nat) : calcB 65536 count = (count + 3) / 4 := by
  rw [calcB_65536]; omega

example : calcB 65536 5 = 2 ∧ calcB 65536 300 = 75 := by decide +kernel

/-- For the alphabet 65536 the keyed function of a half-round (`beltStr2Bin`, append 4 octets of H and 4
octets of the IV image, encrypt with the block cipher / belt-32block / WBL according to `b`) returns
exactly `8 b + 8` octets whichever primitive is selected, for every half-word that fits into `b` blocks
and every offset `0, 4, …, 20` the rounds use.  This is the buffer bound `beltBin2StrAdd/Sub` rely on
when they read `count` u16 values from it. -/
theorem fmtF_length_65536 (C : Cipher) (hlen : ∀ k x, x.length = 16 → (C.enc k x).length = 16)
    (st : FmtSt) (hm : st.mod = 65536) (b : Nat) (str : List Nat) (off : Nat) (iv24 : Bytes)
    (hb1 : 1 ≤ b) (hs : str.length ≤ 4 * b) (hoff : off ≤ 20) (hiv : iv24.length = 24) :
    (fmtF C st b str off iv24).length = 8 * b + 8 :=
  length_fmtF C hlen st hm b str off iv24 hb1 (by omega) hoff hiv

/-- The state made by `beltFMTStart(65536, count, key)` satisfies the length condition that
`fmtStepD_fmtStepE_partial` assumes, at every offset the rounds use: both halves of the word get
at least as many u16 key values as they have symbols (`4 (b + 1) ≥ n`).  Every `count ≥ 2` (no upper
bound), every key, IV NULL or 16 octets.
(`FmtLenOk` itself quantifies over ALL offsets, also beyond H and the IV image where the buffer is
shorter than a block and nothing is known about `C.enc`: it is false for some ciphers, see the example
below; `FmtLenOk'` is the same statement for `off ≤ 20`.) -/
theorem fmtLenOk_start (C : Cipher) (hlen : ∀ k x, x.length = 16 → (C.enc k x).length = 16)
    (count : Nat) (hc : 2 ≤ count) (key : Bytes) (iv : Option Bytes) (hiv : ∀ v, iv = some v → v.length = 16) :
    FmtLenOk' C (fmtStart 65536 count key) (fmtIv (fmtStart 65536 count key) iv) :=
  fmtLenOk'_start C hlen count hc key iv hiv

/-- why the offsets are restricted: a cipher that is the identity on blocks and returns nothing on other
lengths satisfies `hlen` but not the unrestricted `FmtLenOk` (offset 300 is outside H and the IV image) -/
example : ∃ C : Cipher, (∀ k x, x.length = 16 → (C.enc k x).length = 16) ∧
    ¬ FmtLenOk C (fmtStart 65536 2 []) (fmtIv (fmtStart 65536 2 []) none) := by
  refine ⟨⟨fun _ x => if x.length = 16 then x else [], fun _ x => x⟩, ?_, ?_⟩
  · intro k x h; simp [h]
  · intro h
    have := (h rfl [0] 300).1 rfl
    revert this
    decide +kernel

/-- `beltFMTStepD` inverts `beltFMTStepE` for the alphabet 65536: every word length `count ≥ 2`, every
key, IV NULL or 16 octets, every word of u16 symbols; for every cipher that keeps the block length. -/
theorem fmtStepD_fmtStepE_65536 (C : Cipher) (hlen : ∀ k x, x.length = 16 → (C.enc k x).length = 16)
    (count : Nat) (hc : 2 ≤ count) (key : Bytes) (iv : Option Bytes) (hiv : ∀ v, iv = some v → v.length = 16)
    (buf : List Nat) (hl : buf.length = count) (hd : ∀ d ∈ buf, d < 65536) :
    fmtStepD C (fmtStart 65536 count key) iv (fmtStepE C (fmtStart 65536 count key) iv buf) = buf ∧
    (fmtStepE C (fmtStart 65536 count key) iv buf).length = count := by
  have hn : buf.length = (fmtStart 65536 count key).n1 + (fmtStart 65536 count key).n2 := by
    simp only [fmtStart]; omega
  have hF := fmtLenOk'_start C hlen count hc key iv hiv
  refine ⟨FmtLen.fmtStepD_fmtStepE C _ iv buf (by simp [fmtStart]) (by simp [fmtStart]) hn
    (by simpa [fmtStart] using hd) hF, ?_⟩
  rw [FmtLen.length_fmtStepE C _ iv buf hn hF, hl]

/-- `beltFMTStepD` inverts `beltFMTStepE` on the state made by `beltFMTStart` for EVERY alphabet
2 ≤ mod ≤ 65536 (the three Feistel rounds, all three primitives), and the word length is kept. -/
theorem fmtStepD_fmtStepE_full (C : Cipher) (hlen : ∀ k x, x.length = 16 → (C.enc k x).length = 16)
    (mod count : Nat) (hm2 : 2 ≤ mod) (hm : mod ≤ 65536) (hc : 2 ≤ count) (key : Bytes) (iv : Option Bytes)
    (hiv : ∀ v, iv = some v → v.length = 16) (buf : List Nat) (hl : buf.length = count) (hd : ∀ d ∈ buf, d < mod) :
    fmtStepD C (fmtStart mod count key) iv (fmtStepE C (fmtStart mod count key) iv buf) = buf ∧
    (fmtStepE C (fmtStart mod count key) iv buf).length = count := by
  by_cases h : mod = 65536
  · subst h
    exact fmtStepD_fmtStepE_65536 C hlen count hc key iv hiv buf hl hd
  · have hn : buf.length = (fmtStart mod count key).n1 + (fmtStart mod count key).n2 := by
      simp only [fmtStart]; omega
    have hlt : (fmtStart mod count key).mod < 65536 := by simp only [fmtStart]; omega
    refine ⟨Bee2V.C01.fmtStepD_fmtStepE C _ iv buf (by simpa [fmtStart] using hm2) hlt hn
      (by simpa [fmtStart] using hd), ?_⟩
    rw [Bee2V.C01.length_fmtStepE C _ iv buf hlt hn, hl]

/-- High level, full strength: `beltFMTDecr` inverts `beltFMTEncr` for EVERY alphabet 2 ≤ mod ≤ 65536
(the checks of `beltFMTEncr` guarantee the bounds), every word of 2..600 symbols of the alphabet, every
key of 16/24/32 octets and every IV (NULL or 16 octets): if encryption returns `ERR_OK` with `ct`, then
decryption of `ct` returns `ERR_OK` with the original word.  For every cipher that keeps the block length. -/
theorem fmtDecr_fmtEncr_full (C : Cipher) (hlen : ∀ k x, x.length = 16 → (C.enc k x).length = 16)
    (mod : Nat) (src ct : List Nat) (key : Bytes) (iv : Option Bytes)
    (hiv : ∀ v, iv = some v → v.length = 16) (hd : ∀ d ∈ src, d < mod)
    (h : fmtEncr C mod src key iv = (.ok, some ct)) : fmtDecr C mod ct key iv = (.ok, some src) := by
  simp only [fmtEncr] at h
  cases hc : fmtCheck mod src.length key.length with
  | some e =>
    rw [hc] at h
    simp only [Prod.mk.injEq, reduceCtorEq, and_false] at h
  | none =>
    rw [hc] at h
    simp only [Prod.mk.injEq, Option.some.injEq, true_and] at h
    have hb : 2 ≤ mod ∧ mod ≤ 65536 ∧ 2 ≤ src.length := by
      simp only [fmtCheck] at hc
      split at hc
      · simp at hc
      · rename_i h1
        simp only [Bool.or_eq_true, decide_eq_true_eq, not_or, Nat.not_lt] at h1
        omega
    obtain ⟨e1, e2⟩ := fmtStepD_fmtStepE_full C hlen mod src.length hb.1 hb.2.1 hb.2.2 key iv hiv src rfl hd
    have hl : ct.length = src.length := by rw [← h]; exact e2
    simp only [fmtDecr, hl, hc]
    rw [← h, e1]

/-- the ciphertext of `beltFMTEncr` is a word of the same length over the same alphabet -/
theorem fmtEncr_format (C : Cipher) (hlen : ∀ k x, x.length = 16 → (C.enc k x).length = 16)
    (mod : Nat) (src ct : List Nat) (key : Bytes) (iv : Option Bytes)
    (hiv : ∀ v, iv = some v → v.length = 16) (hd : ∀ d ∈ src, d < mod)
    (h : fmtEncr C mod src key iv = (.ok, some ct)) : ct.length = src.length ∧ ∀ d ∈ ct, d < mod := by
  simp only [fmtEncr] at h
  cases hc : fmtCheck mod src.length key.length with
  | some e =>
    rw [hc] at h
    simp only [Prod.mk.injEq, reduceCtorEq, and_false] at h
  | none =>
    rw [hc] at h
    simp only [Prod.mk.injEq, Option.some.injEq, true_and] at h
    have hb : 2 ≤ mod ∧ mod ≤ 65536 ∧ 2 ≤ src.length := by
      simp only [fmtCheck] at hc
      split at hc
      · simp at hc
      · rename_i h1
        simp only [Bool.or_eq_true, decide_eq_true_eq, not_or, Nat.not_lt] at h1
        omega
    obtain ⟨_, e2⟩ := fmtStepD_fmtStepE_full C hlen mod src.length hb.1 hb.2.1 hb.2.2 key iv hiv src rfl hd
    refine ⟨by rw [← h]; exact e2, ?_⟩
    rw [← h]
    simp only [fmtStepE]
    exact fmtRoundE_lt C _ _ 2 _ (by simpa [fmtStart] using hb.1)

/-- corollary for belt itself: `beltFMTDecr(beltFMTEncr(src)) = src` for every alphabet up to 65536 -/
theorem belt_fmtDecr_fmtEncr (mod : Nat) (src ct : List Nat) (key : Bytes) (iv : Option Bytes)
    (hiv : ∀ v, iv = some v → v.length = 16) (hd : ∀ d ∈ src, d < mod)
    (h : fmtEncr beltCipher mod src key iv = (.ok, some ct)) : fmtDecr beltCipher mod ct key iv = (.ok, some src) :=
  fmtDecr_fmtEncr_full beltCipher length_blockEncr mod src ct key iv hiv hd h

/-- corollary for belt itself: the keyed function returns `8 b + 8` octets -/
theorem belt_fmtLenOk_start (count : Nat) (hc : 2 ≤ count) (key : Bytes) (iv : Option Bytes)
    (hiv : ∀ v, iv = some v → v.length = 16) :
    FmtLenOk' beltCipher (fmtStart 65536 count key) (fmtIv (fmtStart 65536 count key) iv) :=
  fmtLenOk_start beltCipher length_blockEncr count hc key iv hiv

/-! ### non-vacuity: a word of 3 symbols over the alphabet 65536 with a toy cipher -/

/-- encryption succeeds and changes the word ... -/
example : ∃ ct, fmtEncr Wbl.toyCipher 65536 [1, 65535, 300] (List.replicate 16 1) none = (.ok, some ct) ∧
    ct ≠ [1, 65535, 300] := ⟨_, rfl, by decide +kernel⟩

/-- the concrete round trip, evaluated by the kernel -/
example : fmtEncr Wbl.toyCipher 65536 [1, 65535, 300] (List.replicate 16 1) none = (.ok, some [5489, 770, 9048]) ∧
    fmtDecr Wbl.toyCipher 65536 [5489, 770, 9048] (List.replicate 16 1) none = (.ok, some [1, 65535, 300]) := by
  decide +kernel

/-- ... and the theorem applies to it (all hypotheses are satisfiable) -/
example (ct : List Nat)
    (h : fmtEncr Wbl.toyCipher 65536 [1, 65535, 300] (List.replicate 16 1) none = (.ok, some ct)) :
    fmtDecr Wbl.toyCipher 65536 ct (List.replicate 16 1) none = (.ok, some [1, 65535, 300]) :=
  fmtDecr_fmtEncr_full Wbl.toyCipher Wbl.toyCipher_len 65536 _ ct _ none (fun _ h => nomatch h)
    (by decide) h

/-- the WBL branch (`b ≥ 3`: 9 symbols in the longer half) is reached too -/
example : (fmtStart 65536 18 []).b1 = 3 ∧ (fmtStart 65536 4 []).b1 = 1 ∧ (fmtStart 65536 12 []).b1 = 2 := by
  decide +kernel

end Bee2V.C01
