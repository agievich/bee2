/-
C01 property theorems: the models of belt_mac.c, belt_compr.c, belt_hash.c, belt_hmac.c, belt_krp.c, belt_pbkdf.c
compute the functions of the standard (SpecHash.lean: belt-mac, sigma1 / sigma2, belt-hash, HMAC[belt-hash],
belt-keyrep, PBKDF2), for ALL input lengths and an ARBITRARY block cipher `C`.
Where the 512-bit words of the standard have to be cut in the right places the cipher must preserve the block
length (`hlen`); this is discharged for `beltCipher` in the corollaries.
Only property theorems and non-vacuity examples; helper lemmas are in Lemmas/SpecHash.lean.
-/
import Bee2V.C01.Lemmas.SpecHash
import Bee2V.C01.PropsChunk
namespace Bee2V.C01
open Bee2V.C01.SpecHashL

/-- a toy cipher that depends on key and data and preserves the block length, for the non-vacuity examples -/
def specToy : Cipher :=
  ⟨fun k x => (xorb (xorb x (k ++ zeros 16)) (k.drop 16 ++ zeros 16)).map (· * 3 + 1), fun _ x => x⟩

/-- `hlen` is satisfiable (besides belt itself, see the corollaries) -/
theorem specToy_hlen : ∀ k x : Bytes, x.length = 16 → (specToy.enc k x).length = 16 := by
  intro k x h
  simp only [specToy, List.length_map, length_xorb, List.length_append, List.length_drop, h,
    length_zeros]
  omega

/-! ### belt-compress -/

/-- `beltCompr2(s, h, X)` on formatted 32-octet buffers is `s ← s ⊕ sigma1(X ‖ h)`, `h ← sigma2(X ‖ h)` of the
standard (`u1 ‖ u2 = X`, `u3 ‖ u4 = h`), for every cipher. -/
theorem compr2_spec (C : Cipher) (s h X : Bytes) (hX : X.length = 32) (hh : h.length = 32) :
    compr2 C s h X = (xorb s (Spec.sigma1 C.enc (X ++ h)), Spec.sigma2 C.enc (X ++ h)) :=
  compr2_eq C s h X hX hh

/-- `beltCompr(h, X)` is `h ← sigma2(X ‖ h)` -/
theorem compr_spec (C : Cipher) (h X : Bytes) (hX : X.length = 32) (hh : h.length = 32) :
    compr C h X = Spec.sigma2 C.enc (X ++ h) := compr_eq C h X hX hh

example : compr2 specToy (zeros 16) (chunkToyData.take 32) (chunkToyData.drop 5) =
    (xorb (zeros 16) (Spec.sigma1 specToy.enc (chunkToyData.drop 5 ++ chunkToyData.take 32)),
      Spec.sigma2 specToy.enc (chunkToyData.drop 5 ++ chunkToyData.take 32)) := by decide
/-- sigma2 depends on both halves of its argument -/
example : Spec.sigma2 specToy.enc (chunkToyData.drop 5 ++ chunkToyData.take 32) ≠
    Spec.sigma2 specToy.enc (chunkToyData.drop 5 ++ zeros 32) ∧
    Spec.sigma2 specToy.enc (chunkToyData.drop 5 ++ chunkToyData.take 32) ≠
    Spec.sigma2 specToy.enc (zeros 32 ++ chunkToyData.take 32) := by decide

/-! ### belt-hash -/

/-- Step level: after ANY fragmentation of the data, `beltHashStepG2` returns the first `n` octets of belt-hash of
the concatenation (total length below 2^64 octets, i.e. any `size_t`; the bit length is counted modulo 2^128 as in
the standard). -/
theorem hash_steps_spec (C : Cipher) (hlen : ∀ k x : Bytes, x.length = 16 → (C.enc k x).length = 16)
    (cs : List Bytes) (n : Nat) (hb : cs.flatten.length < 2 ^ 64) :
    (hashStepG C (cs.foldl (hashStepH C) hashStart) n).2 = (Spec.hash C.enc cs.flatten).take n := by
  rw [hash_chunk_independent C cs n hb]
  have h := hashInv_stepH (hashInv_start C) cs.flatten
  rw [List.nil_append] at h
  show (hashStepGInternal C _).h1.take n = _
  rw [hashInv_out h, hashOut_eq C hlen _ hb]

/-- `beltHash(hash, src, count)` computes belt-hash of the standard, for every `src` of less than 2^64 octets. -/
theorem hash_spec (C : Cipher) (hlen : ∀ k x : Bytes, x.length = 16 → (C.enc k x).length = 16)
    (src : Bytes) (hb : src.length < 2 ^ 64) :
    hashHL C src = (.ok, some (Spec.hash C.enc src)) := by
  have h := hash_steps_spec C hlen [src] 32 (by simpa using hb)
  simp only [List.foldl_cons, List.foldl_nil, List.flatten_cons, List.flatten_nil, List.append_nil] at h
  rw [hashHL, h, List.take_of_length_le (by rw [length_hash C hlen]; omega)]

/-- belt-hash of belt -/
theorem belt_hash_spec (src : Bytes) (hb : src.length < 2 ^ 64) :
    hashHL beltCipher src = (.ok, some (Spec.hash blockEncr src)) :=
  hash_spec beltCipher (fun k x h => length_blockEncr k x h) src hb

/-- the statement checked by evaluation on 37 octets (one full block, 5 octets of the second), and on the
empty word -/
example : hashHL specToy chunkToyData = (.ok, some (Spec.hash specToy.enc chunkToyData)) :=
  hash_spec specToy specToy_hlen _ (by decide)
example : hashHL specToy [] = (.ok, some (Spec.hash specToy.enc [])) := hash_spec specToy specToy_hlen _ (by decide)
/-- the hash depends on the data and on its length -/
example : Spec.hash specToy.enc chunkToyData ≠ Spec.hash specToy.enc (chunkToyData.take 36 ++ [0]) ∧
    Spec.hash specToy.enc (chunkToyData.take 32) ≠ Spec.hash specToy.enc (chunkToyData.take 32 ++ [0]) := by
  simp only [Spec.hash, Spec.hashChain, ← hInit_eq]
  decide +kernel

/-! ### belt-mac -/

/-- Step level: after ANY fragmentation, `beltMACStepG2` returns the first `n` octets of `E_K(s)` of belt-mac of
the standard on the concatenation (every cipher, no hypothesis). -/
theorem mac_steps_spec (C : Cipher) (key : Bytes) (cs : List Bytes) (n : Nat) :
    (macStepG C (cs.foldl (macStepA C) (macStart C key)) n).2 =
      (Spec.macFull C.enc (fmtKey key) cs.flatten).take n := by
  rw [mac_tag_spec, macTagSpec_eq]

/-- `beltMAC(mac, src, count, key, len)` computes belt-mac of the standard with the expanded key, for every `src`
and every key of 16, 24 or 32 octets; other key lengths are rejected. -/
theorem mac_spec (C : Cipher) (src key : Bytes) (hk : validKeyLen key.length = true) :
    macHL C src key = (.ok, some (Spec.mac C.enc (fmtKey key) src)) := by
  have h := mac_steps_spec C key [src] 8
  simp only [List.foldl_cons, List.foldl_nil, List.flatten_cons, List.flatten_nil, List.append_nil] at h
  simp only [macHL, hk, Bool.not_true, Bool.false_eq_true, if_false, h, Spec.mac]

theorem mac_badInput (C : Cipher) (src key : Bytes) (hk : validKeyLen key.length = false) :
    macHL C src key = (.badInput, none) := by
  simp only [macHL, hk, Bool.not_false, if_true]

/-- belt-mac of belt -/
theorem belt_mac_spec (src key : Bytes) (hk : validKeyLen key.length = true) :
    macHL beltCipher src key = (.ok, some (Spec.mac blockEncr (fmtKey key) src)) := mac_spec beltCipher src key hk

/-- checked by evaluation: 37 octets (two chained blocks, a short last block), 32 octets (a full last block),
the empty word -/
example : macHL specToy chunkToyData (zeros 16) = (.ok, some (Spec.mac specToy.enc (fmtKey (zeros 16)) chunkToyData)) ∧
    macHL specToy (chunkToyData.take 32) (zeros 16) =
      (.ok, some (Spec.mac specToy.enc (fmtKey (zeros 16)) (chunkToyData.take 32))) ∧
    macHL specToy [] (zeros 16) = (.ok, some (Spec.mac specToy.enc (fmtKey (zeros 16)) [])) := by decide
example : Spec.mac specToy.enc (fmtKey (zeros 16)) (chunkToyData.take 32) ≠
    Spec.mac specToy.enc (fmtKey (zeros 16)) (chunkToyData.take 31) := by decide

/-! ### HMAC[belt-hash] -/

/-- CHUNK INDEPENDENCE of belt-HMAC for EVERY key length (closes `hmac_chunk_independent_partial`): for a cipher
that preserves the block length the start state has a 32-octet buffer also when the key is longer than 32 octets
and is hashed first. -/
theorem hmac_chunk_independent_anykey (C : Cipher)
    (hlen : ∀ k x : Bytes, x.length = 16 → (C.enc k x).length = 16) (key : Bytes) (hk : key.length < 2 ^ 64)
    (cs : List Bytes) (n : Nat) (hb : cs.flatten.length < 2 ^ 64) :
    (hmacStepG C (cs.foldl (hmacStepA C) (hmacStart C key)) n).2 =
      (hmacStepG C (hmacStepA C (hmacStart C key) cs.flatten) n).2 :=
  hmac_chunk_independent_partial C key (length_hmacStart_block C hlen key hk) cs n hb

/-- Step level: after ANY fragmentation, `beltHMACStepG2` returns the first `n` octets of HMAC[belt-hash] of the
standard, `hash((K0 ⊕ opad) ‖ hash((K0 ⊕ ipad) ‖ X))`, for every key length (longer keys are hashed). The bound
is the `size_t` range of the 32 + |X| octets of the inner hash. -/
theorem hmac_steps_spec (C : Cipher) (hlen : ∀ k x : Bytes, x.length = 16 → (C.enc k x).length = 16)
    (key : Bytes) (hk : key.length < 2 ^ 64) (cs : List Bytes) (n : Nat) (hb : 32 + cs.flatten.length < 2 ^ 64) :
    (hmacStepG C (cs.foldl (hmacStepA C) (hmacStart C key)) n).2 = (Spec.hmac C.enc key cs.flatten).take n := by
  rw [hmac_chunk_independent_anykey C hlen key hk cs n (by omega)]
  show (hmacStepGInternal C _).h1_out.take n = _
  rw [hmac_oneshot C hlen key _ hk hb]

/-- `beltHMAC(mac, src, count, key, len)` computes HMAC[belt-hash] of the standard for every key and every `src`
(lengths in the `size_t` range). -/
theorem hmac_spec (C : Cipher) (hlen : ∀ k x : Bytes, x.length = 16 → (C.enc k x).length = 16)
    (src key : Bytes) (hk : key.length < 2 ^ 64) (hb : 32 + src.length < 2 ^ 64) :
    hmacHL C src key = (.ok, some (Spec.hmac C.enc key src)) := by
  have h : (hmacStepG C (hmacStepA C (hmacStart C key) src) 32).2 = Spec.hmac C.enc key src := by
    show (hmacStepGInternal C _).h1_out.take 32 = _
    rw [hmac_oneshot C hlen key _ hk hb]
    exact List.take_of_length_le (by rw [length_hmac C hlen]; omega)
  rw [hmacHL, h]

/-- HMAC[belt-hash] of belt -/
theorem belt_hmac_spec (src key : Bytes) (hk : key.length < 2 ^ 64) (hb : 32 + src.length < 2 ^ 64) :
    hmacHL beltCipher src key = (.ok, some (Spec.hmac blockEncr key src)) :=
  hmac_spec beltCipher (fun k x h => length_blockEncr k x h) src key hk hb

/-- checked by evaluation: a short key and a 37-octet key (hashed first) -/
example : hmacHL specToy chunkToyData [1, 2, 3] = (.ok, some (Spec.hmac specToy.enc [1, 2, 3] chunkToyData)) :=
  hmac_spec specToy specToy_hlen _ _ (by decide) (by decide)
example : hmacHL specToy [7] chunkToyData = (.ok, some (Spec.hmac specToy.enc chunkToyData [7])) :=
  hmac_spec specToy specToy_hlen _ _ (by decide) (by decide)
/-- HMAC depends on key and data -/
example : Spec.hmac specToy.enc [1, 2, 3] chunkToyData ≠ Spec.hmac specToy.enc [1, 2, 4] chunkToyData ∧
    Spec.hmac specToy.enc [1, 2, 3] chunkToyData ≠ Spec.hmac specToy.enc [1, 2, 3] (chunkToyData.take 36) := by
  simp only [Spec.hmac, Spec.hmacKey, Spec.hash, Spec.hashChain, ← hInit_eq]
  decide +kernel

/-! ### PBKDF2 -/

/-- `beltPBKDF2(key, pwd, pwd_len, iter, salt, salt_len)` computes `U_1 ⊕ ... ⊕ U_iter` with
`U_1 = HMAC(pwd, salt ‖ 00000001)`, `U_{i+1} = HMAC(pwd, U_i)`, for every `iter ≥ 1`. (The C code absorbs the salt
and the counter in two `beltHMACStepA` calls: chunk independence is used here.) -/
theorem pbkdf2_spec (C : Cipher) (hlen : ∀ k x : Bytes, x.length = 16 → (C.enc k x).length = 16)
    (pwd salt : Bytes) (iter : Nat) (hi : 1 ≤ iter) (hk : pwd.length < 2 ^ 64)
    (hs : 32 + (salt.length + 4) < 2 ^ 64) :
    pbkdf2 C pwd iter salt = (.ok, some (Spec.pbkdf2 C.enc pwd iter salt)) := by
  have h0 : (iter == 0) = false := by simp; omega
  have hU : (hmacStepG C (hmacStepA C (hmacStepA C (hmacStart C pwd) salt) [0, 0, 0, 1]) 32).2 =
      Spec.pbkdfU C.enc pwd salt 0 := by
    show (hmacStepGInternal C _).h1_out.take 32 = _
    rw [hmac_twoshot C hlen pwd salt [0, 0, 0, 1] hk hs]
    exact List.take_of_length_le (by rw [length_hmac C hlen]; omega)
  simp only [pbkdf2, h0, Bool.false_eq_true, if_false, hU]
  rw [pbkdfLoop_eq C hlen pwd salt hk (iter - 1) 0]
  have hf : (fun acc i => xorb acc (Spec.pbkdfU C.enc pwd salt (0 + 1 + i))) =
      (fun acc i => xorb acc (Spec.pbkdfU C.enc pwd salt (i + 1))) := by
    funext acc i
    rw [show 0 + 1 + i = i + 1 by omega]
  rw [hf]
  rfl

/-- `ERR_BAD_INPUT` exactly for `iter = 0` -/
theorem pbkdf2_badInput_iff (C : Cipher) (pwd salt : Bytes) (iter : Nat) :
    (pbkdf2 C pwd iter salt).1 = .badInput ↔ iter = 0 := by
  unfold pbkdf2
  by_cases h : iter = 0
  · simp [h]
  · have h0 : (iter == 0) = false := by simp [h]
    simp [h0, h]

/-- PBKDF2 of belt -/
theorem belt_pbkdf2_spec (pwd salt : Bytes) (iter : Nat) (hi : 1 ≤ iter) (hk : pwd.length < 2 ^ 64)
    (hs : 32 + (salt.length + 4) < 2 ^ 64) :
    pbkdf2 beltCipher pwd iter salt = (.ok, some (Spec.pbkdf2 blockEncr pwd iter salt)) :=
  pbkdf2_spec beltCipher (fun k x h => length_blockEncr k x h) pwd salt iter hi hk hs

/-- checked by evaluation: two iterations -/
example : pbkdf2 specToy [1, 2, 3] 2 [9, 8] = (.ok, some (Spec.pbkdf2 specToy.enc [1, 2, 3] 2 [9, 8])) :=
  pbkdf2_spec specToy specToy_hlen _ _ _ (by decide) (by decide) (by decide)
/-- the second iteration changes the key; `iter = 0` is rejected -/
example : Spec.pbkdf2 specToy.enc [1, 2, 3] 2 [9, 8] ≠ Spec.pbkdf2 specToy.enc [1, 2, 3] 1 [9, 8] := by
  simp only [Spec.pbkdf2, Nat.reduceSub, List.range_succ, List.range_zero, List.nil_append, List.foldl_cons,
    List.foldl_nil, Spec.pbkdfU, Spec.hmac, Spec.hmacKey, Spec.hash, Spec.hashChain, ← hInit_eq]
  decide +kernel
example : pbkdf2 specToy [1, 2, 3] 0 [9, 8] = (.badInput, none) := by decide

/-! ### belt-keyrep -/

/-- `beltKRP(dest, m, src, n, level, header)` with admissible lengths (`n, m ∈ {16, 24, 32}`, `m ≤ n`) computes
belt-keyrep of the standard: the first `m` octets of `sigma2(r ‖ level ‖ header ‖ K)`, `K` the key expanded to 32
octets (`fmtKey src`, which is `keyExpand src` by `keyExpand_agree`), `r` the word of `H` at offset
`4 (n - 16) + 2 (m - 16)`. Every cipher. -/
theorem krp_spec (C : Cipher) (m : Nat) (src level header : Bytes) (ha : Spec.krpAdmissible src.length m)
    (hl : level.length = 12) (hh : header.length = 16) :
    krpHL C m src level header = (.ok, some (Spec.krp C.enc (fmtKey src) src.length m level header)) := by
  obtain ⟨hn, hm, hle⟩ := ha
  have h1 : validKeyLen m = true := by rcases hm with h | h | h <;> rw [h] <;> rfl
  have h2 : validKeyLen src.length = true := by rcases hn with h | h | h <;> rw [h] <;> rfl
  have h3 : decide (m > src.length) = false := by simp; omega
  simp only [krpHL, h1, h2, h3, Bool.not_true, Bool.or_false, Bool.false_eq_true, if_false]
  rw [krpStepG_eq C src level header m hn (by omega) hl hh]

/-- `ERR_BAD_INPUT` exactly for inadmissible lengths -/
theorem krp_badInput_iff (C : Cipher) (m : Nat) (src level header : Bytes) :
    (krpHL C m src level header).1 = .badInput ↔ ¬ Spec.krpAdmissible src.length m := by
  have hv : ∀ n : Nat, validKeyLen n = true ↔ (n = 16 ∨ n = 24 ∨ n = 32) := by
    intro n; simp [validKeyLen, or_assoc]
  by_cases ha : Spec.krpAdmissible src.length m
  · obtain ⟨hn, hm, hle⟩ := ha
    have h1 := (hv m).2 hm
    have h2 := (hv src.length).2 hn
    have h3 : decide (m > src.length) = false := by simp; omega
    simp only [krpHL, h1, h2, h3, Bool.not_true, Bool.or_false, Bool.false_eq_true, if_false]
    simp [Spec.krpAdmissible, hn, hm, hle]
  · have hb : (decide (m > src.length) || !validKeyLen m || !validKeyLen src.length) = true := by
      cases h1 : validKeyLen m <;> cases h2 : validKeyLen src.length <;> simp
      have := (hv m).1 h1
      have := (hv src.length).1 h2
      simp only [Spec.krpAdmissible] at ha
      omega
    simp only [krpHL, hb, if_true, ha, not_false_eq_true]

/-- belt-keyrep of belt -/
theorem belt_krp_spec (m : Nat) (src level header : Bytes) (ha : Spec.krpAdmissible src.length m)
    (hl : level.length = 12) (hh : header.length = 16) :
    krpHL beltCipher m src level header =
      (.ok, some (Spec.krp blockEncr (fmtKey src) src.length m level header)) :=
  krp_spec beltCipher m src level header ha hl hh

/-- checked by evaluation: a 24-octet key turned into a 16-octet key; the result depends on the header -/
example : krpHL specToy 16 (chunkToyData.take 24) (zeros 12) (chunkToyData.take 16) =
    (.ok, some (Spec.krp specToy.enc (fmtKey (chunkToyData.take 24)) 24 16 (zeros 12) (chunkToyData.take 16))) := by
  decide +kernel
example : Spec.krp specToy.enc (fmtKey (chunkToyData.take 24)) 24 16 (zeros 12) (chunkToyData.take 16) ≠
    Spec.krp specToy.enc (fmtKey (chunkToyData.take 24)) 24 16 (zeros 12) (zeros 16) := by decide +kernel
example : krpHL specToy 24 (chunkToyData.take 16) (zeros 12) (zeros 16) = (.badInput, none) := by decide +kernel

end Bee2V.C01
