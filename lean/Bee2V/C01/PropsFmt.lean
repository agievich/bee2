/-
C01 property theorems: format-preserving encryption (belt_fmt.c).
-/
import Bee2V.C01.Spec
import Bee2V.C01.Lemmas.Fmt
import Bee2V.C01.Lemmas.FmtRows
namespace Bee2V.C01

/-- `beltBin2StrSub` undoes `beltBin2StrAdd` digit by digit in Z_mod, for EVERY alphabet size
2 ≤ mod ≤ 65536, every octet string `bin` and every word over the alphabet (for mod = 65536 `bin` must
hold at least `count` u16 values, as it does in the C code). -/
theorem bin2str_sub_add (mod : Nat) (hm2 : 2 ≤ mod) (hm : mod ≤ 65536) (s : List Nat) (bin : Bytes)
    (hs : ∀ d ∈ s, d < mod) (hlen : mod = 65536 → s.length ≤ (u16From bin).length) :
    bin2strSub mod (bin2strAdd mod s bin) bin = s ∧ bin2strAdd mod (bin2strSub mod s bin) bin = s :=
  ⟨bin2strSub_bin2strAdd mod hm2 hm s bin hs hlen, bin2strAdd_bin2strSub mod hm2 hm s bin hs hlen⟩

example : bin2strAdd 10 [9, 9] (natLE 16 1234) = [3, 2] := by decide
example : bin2strSub 10 [3, 2] (natLE 16 1234) = [9, 9] := by decide

/-- outputs of both conversions stay in the alphabet, whatever the inputs -/
theorem bin2str_in_alphabet (mod : Nat) (hm2 : 2 ≤ mod) (s : List Nat) (bin : Bytes) :
    (∀ d ∈ bin2strAdd mod s bin, d < mod) ∧ (∀ d ∈ bin2strSub mod s bin, d < mod) :=
  ⟨bin2strAdd_lt mod hm2 s bin, bin2strSub_lt mod hm2 s bin⟩

/-- `beltFMTStepD` inverts `beltFMTStepE` (three Feistel rounds) for every alphabet 2 ≤ mod < 65536, every
word length, every IV (also NULL), every key -- and for ANY block cipher: nothing about `C` is used. -/
theorem fmtStepD_fmtStepE (C : Cipher) (st : FmtSt) (iv : Option Bytes) (buf : List Nat)
    (hm2 : 2 ≤ st.mod) (hm : st.mod < 65536) (hlen : buf.length = st.n1 + st.n2) (hd : ∀ d ∈ buf, d < st.mod) :
    fmtStepD C st iv (fmtStepE C st iv buf) = buf :=
  FmtLen.fmtStepD_fmtStepE C st iv buf hm2 (by omega) hlen hd (fun h => by omega)

/-- full statement for mod = 65536 too.  PARTIAL: for mod = 65536 it assumes that the keyed half-round
function returns at least `count` u16 values (`FmtLenOk`: true in the C code because the three
primitives -- block, belt-32block, WBL -- preserve the length `8 (b + 1)` of their buffer and
`4 (b + 1) ≥ count`); that length fact is not proved here: PropsFmt2.lean proves it, at the offsets the
rounds use, for every state built by `beltFMTStart` (`fmtStepD_fmtStepE_full`). -/
theorem fmtStepD_fmtStepE_partial (C : Cipher) (st : FmtSt) (iv : Option Bytes) (buf : List Nat)
    (hm2 : 2 ≤ st.mod) (hm : st.mod ≤ 65536) (hlen : buf.length = st.n1 + st.n2) (hd : ∀ d ∈ buf, d < st.mod)
    (hF : FmtLenOk C st (fmtIv st iv)) :
    fmtStepD C st iv (fmtStepE C st iv buf) = buf :=
  FmtLen.fmtStepD_fmtStepE C st iv buf hm2 hm hlen hd (FmtLen.fmtLenOk'_of_fmtLenOk C st _ hF)

theorem length_fmtStepE (C : Cipher) (st : FmtSt) (iv : Option Bytes) (buf : List Nat)
    (hm : st.mod < 65536) (hlen : buf.length = st.n1 + st.n2) : (fmtStepE C st iv buf).length = buf.length :=
  FmtLen.length_fmtStepE C st iv buf hlen (fun h => by omega)

/-- High level: `beltFMTDecr` inverts `beltFMTEncr` for every alphabet 2 ≤ mod < 65536, every word of
2..600 symbols of the alphabet, every key and IV; for every cipher `C`. -/
theorem fmtDecr_fmtEncr (C : Cipher) (mod : Nat) (src ct : List Nat) (key : Bytes) (iv : Option Bytes)
    (hm : mod < 65536) (hd : ∀ d ∈ src, d < mod)
    (h : fmtEncr C mod src key iv = (.ok, some ct)) : fmtDecr C mod ct key iv = (.ok, some src) := by
  simp only [fmtEncr] at h
  cases hc : fmtCheck mod src.length key.length with
  | some e =>
    rw [hc] at h
    simp only [Prod.mk.injEq, reduceCtorEq, and_false] at h
  | none =>
    rw [hc] at h
    simp only [Prod.mk.injEq, Option.some.injEq, true_and] at h
    have hm2 : 2 ≤ mod := by
      simp only [fmtCheck] at hc
      split at hc
      · simp at hc
      · rename_i h1
        simp only [Bool.or_eq_true, decide_eq_true_eq, not_or, Nat.not_lt] at h1
        omega
    have hn : src.length = (fmtStart mod src.length key).n1 + (fmtStart mod src.length key).n2 := by
      simp only [fmtStart]; omega
    have hl : ct.length = src.length := by
      rw [← h]; exact length_fmtStepE C _ iv src (by simpa [fmtStart] using hm) hn
    simp only [fmtDecr, hl, hc]
    rw [← h, fmtStepD_fmtStepE C _ iv src (by simpa [fmtStart] using hm2) (by simpa [fmtStart] using hm) hn
      (by simpa [fmtStart] using hd)]

/-- argument checks of `beltFMTEncr/Decr`: ERR_BAD_INPUT iff the alphabet size is outside [2, 65536], the word
is shorter than 2 or the key length is not 16/24/32; otherwise ERR_NOT_IMPLEMENTED iff the word is longer than
600; in both cases dest is not written. -/
theorem fmtEncr_errors (C : Cipher) (mod : Nat) (src : List Nat) (key : Bytes) (iv : Option Bytes) :
    ((mod < 2 ∨ 65536 < mod ∨ src.length < 2 ∨ ¬(key.length = 16 ∨ key.length = 24 ∨ key.length = 32)) →
      fmtEncr C mod src key iv = (.badInput, none)) ∧
    (¬(mod < 2 ∨ 65536 < mod ∨ src.length < 2 ∨ ¬(key.length = 16 ∨ key.length = 24 ∨ key.length = 32)) →
      600 < src.length → fmtEncr C mod src key iv = (.notImplemented, none)) ∧
    (¬(mod < 2 ∨ 65536 < mod ∨ src.length < 2 ∨ ¬(key.length = 16 ∨ key.length = 24 ∨ key.length = 32)) →
      src.length ≤ 600 → (fmtEncr C mod src key iv).1 = .ok) := by
  have hk : validKeyLen key.length = true ↔ (key.length = 16 ∨ key.length = 24 ∨ key.length = 32) := by
    simp [validKeyLen, or_assoc]
  refine ⟨fun h => ?_, fun h hl => ?_, fun h hl => ?_⟩
  · have : (decide (mod < 2) || decide (mod > 65536) || decide (src.length < 2) || !validKeyLen key.length) = true := by
      rcases h with h | h | h | h
      · simp [h]
      · simp [h]
      · simp [h]
      · have : validKeyLen key.length = false := by
          cases hv : validKeyLen key.length with
          | false => rfl
          | true => exact absurd (hk.mp hv) h
        simp [this]
    simp only [fmtEncr, fmtCheck, this, if_true]
  · have : (decide (mod < 2) || decide (mod > 65536) || decide (src.length < 2) || !validKeyLen key.length) = false := by
      have hv : validKeyLen key.length = true := hk.mpr (by
        by_cases hh : key.length = 16 ∨ key.length = 24 ∨ key.length = 32
        · exact hh
        · exact absurd (Or.inr (Or.inr (Or.inr hh))) h)
      simp only [not_or, Nat.not_lt] at h
      simp [hv]; omega
    simp only [fmtEncr, fmtCheck, this, Bool.false_eq_true, if_false, decide_eq_true_eq]
    simp [hl]
  · have : (decide (mod < 2) || decide (mod > 65536) || decide (src.length < 2) || !validKeyLen key.length) = false := by
      have hv : validKeyLen key.length = true := hk.mpr (by
        by_cases hh : key.length = 16 ∨ key.length = 24 ∨ key.length = 32
        · exact hh
        · exact absurd (Or.inr (Or.inr (Or.inr hh))) h)
      simp only [not_or, Nat.not_lt] at h
      simp [hv]; omega
    simp only [fmtEncr, fmtCheck, this, Bool.false_eq_true, if_false, decide_eq_true_eq]
    have : ¬ (src.length > 600) := by omega
    simp [this]

/-- Block count: sanity instances (the special case (49667, 160), a tiny alphabet, the 65536 shortcut). -/
theorem calcB_witnesses : calcB 49667 160 = 39 ∧ Spec.fmtBlocks 49667 160 = 39 ∧ calcB 10 10 = 1 ∧ calcB 65536 300 = 75 ∧
    calcBGeneral 49667 160 = 40 := by decide +kernel

/-
FULL STATEMENT (the standard's b = min{b | mod^count ≤ 2^(64 b)} on the whole domain of the API):
  ∀ mod count, 2 ≤ mod → mod ≤ 65536 → 1 ≤ count → count ≤ 300 → IsBlockCount mod count (calcB mod count)
PROVED HERE (kernel evaluation, `decide +kernel`, of the model of beltFMTCalcB with the constants regenerated
from the source): all alphabet sizes 2..1025 and 49 further rows (49667 and its neighbours, every power of
two from 2^11 to 2^16 with its neighbours, 65535, 65536, perfect powers), every count 1..300.
MISSING: the remaining rows 1026..65534 (19.3 of 19.6 million points) -- covered by the exhaustive comparison of the thorough tier only.
-/
theorem calcB_spec_partial (mod count : Nat) (hm : (2 ≤ mod ∧ mod ≤ 1025) ∨ mod ∈ fmtExtraRows)
    (hc : 1 ≤ count) (hc' : count ≤ 300) : IsBlockCount mod count (calcB mod count) := by
  rcases hm with ⟨h2, h1025⟩ | hrow
  · exact calcB_spec_rows mod count h2 (by omega) hc hc'
  · have h := List.all_eq_true.mp fmtRows_extra mod hrow
    exact checkMods_spec 1 mod h mod count (by omega) (by omega) hc hc'

/-- non-vacuity: the exact count is attained with both inequalities strict at the special case -/
example : IsBlockCount 49667 160 39 ∧ ¬ IsBlockCount 49667 160 40 := by
  constructor
  · exact calcB_witnesses.1 ▸ calcB_spec_partial 49667 160 (Or.inr (by decide)) (by omega) (by omega)
  · intro h
    have := h.2
    simp only [IsBlockCount] at h
    revert this
    decide +kernel

end Bee2V.C01
