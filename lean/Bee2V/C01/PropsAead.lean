/-
C01 property theorems: belt_dwp.c (DWP) and belt_che.c (CHE), authenticated encryption.
Only property theorems and non-vacuity examples; helper lemmas are in Lemmas/Aead.lean
(`dwpTag` / `cheTag`, defined there: the tag the Wrap function outputs for a given ciphertext and open data).
All theorems hold for an arbitrary block cipher `C` whose `enc` maps 16 octets to 16 octets (DWP and CHE never
call `dec`), every word size `w` of `beltHalfBlockAddBitSizeW`, every key, and buffers of every length.
-/
import Bee2V.C01.Lemmas.Aead
namespace Bee2V.C01
open Aead

/-- a toy cipher for the non-vacuity examples (kernel-evaluable in no time) -/
def aeadToyCipher : Cipher := ⟨fun _ x => x.map (· + 1), fun _ x => x.map (· - 1)⟩

/-! ### the keystream steps are involutions -/

/-- `beltCTRStepE` (used by `beltDWPStepE` / `beltDWPStepD`) applied twice FROM THE SAME STATE returns the input:
the reserve of gamma, the full-block loop (`beltBlockIncU32(ctr); block <- E(ctr); buf ^= block`) and the ragged
tail consume exactly the same gamma octets in both passes -- for every buffer length and every amount
`reserved ≤ 16` of unused gamma in the state. -/
theorem dwp_keystream_involution (C : Cipher) (hlen : ∀ k x, x.length = 16 → (C.enc k x).length = 16) (st : CtrSt)
    (buf : Bytes) (hr : st.reserved ≤ 16) (hb : st.block.length = 16) (hc : st.ctr.length = 16) :
    (ctrStepE C st (ctrStepE C st buf).2).2 = buf := by rw [ctrStepE_ctrStepE C hlen st buf hr hb hc]

/-- The same for `beltCHEStepE` / `beltCHEStepD` (gamma blocks `E(s)`, `s <- s * C ^ 1`). -/
theorem cheStepE_involution (C : Cipher) (hlen : ∀ k x, x.length = 16 → (C.enc k x).length = 16) (st : CheSt)
    (buf : Bytes) (hr : st.reserved ≤ 16) (hb : st.block1.length = 16) (hc : st.s.length = 16) :
    (cheStepE C st (cheStepE C st buf).2).2 = buf := by rw [cheStepE_cheStepE C hlen st buf hr hb hc]

/-- non-vacuity: a state with 5 octets of reserved gamma, a 40-octet buffer (reserve + 2 blocks + 3 octets),
and the step is not the identity -/
example :
    let st : CtrSt := ⟨zeros 32, zeros 16, (List.range 16).map UInt8.ofNat, 5⟩
    let buf : Bytes := (List.range 40).map UInt8.ofNat
    (ctrStepE aeadToyCipher st (ctrStepE aeadToyCipher st buf).2).2 = buf ∧ (ctrStepE aeadToyCipher st buf).2 ≠ buf := by
  decide +kernel

example :
    let st : CheSt := ⟨zeros 32, zeros 16, ⟨[], [], [], [], [], 0⟩, (List.range 16).map UInt8.ofNat, 5⟩
    let buf : Bytes := (List.range 40).map UInt8.ofNat
    (cheStepE aeadToyCipher st (cheStepE aeadToyCipher st buf).2).2 = buf ∧ (cheStepE aeadToyCipher st buf).2 ≠ buf := by
  decide +kernel

/-! ### DWP -/

/-- `beltDWPWrap`: fails with ERR_BAD_INPUT exactly on a bad key length without producing output; otherwise the
ciphertext is the CTR encryption of `src1` (the open data and the MAC computation do not influence it), and the tag
is a function of the CIPHERTEXT and the open data only (encrypt-then-MAC: the tag is `dwpTag` of what was
written to `dest`, not of the plaintext). -/
theorem dwpWrap_spec (C : Cipher) (w : Nat) (src1 src2 key iv : Bytes) :
    dwpWrap C w src1 src2 key iv =
      if !validKeyLen key.length then (.badInput, none)
      else (.ok, some ((ctrStepE C (ctrStart C key iv) src1).2,
        dwpTag C w (ctrStepE C (ctrStart C key iv) src1).2 src2 key iv)) := dwpWrap_eq C w src1 src2 key iv

/-- `beltDWPUnwrap`, complete case analysis: ERR_BAD_INPUT (nothing written) on a bad key length; ERR_BAD_MAC and
`none` -- the destination is never written, no plaintext octet is released -- unless `mac` is exactly the tag
Wrap computes for this ciphertext / open data / key / iv; and in that case the output is the CTR decryption of the
ciphertext started from the initial counter (the MAC pass does not disturb the CTR state). -/
theorem dwpUnwrap_spec (C : Cipher) (w : Nat) (ct ad mac key iv : Bytes) :
    dwpUnwrap C w ct ad mac key iv =
      if !validKeyLen key.length then (.badInput, none)
      else if mac = dwpTag C w ct ad key iv then (.ok, some (ctrStepE C (ctrStart C key iv) ct).2)
      else (.badMac, none) := dwpUnwrap_eq C w ct ad mac key iv

/-- `beltDWPUnwrap` returns ERR_OK iff the presented tag equals the recomputed one (valid key length). -/
theorem dwpUnwrap_ok_iff (C : Cipher) (w : Nat) (ct ad mac key iv : Bytes) (hk : validKeyLen key.length = true) :
    (dwpUnwrap C w ct ad mac key iv).1 = .ok ↔ mac = dwpTag C w ct ad key iv := by
  rw [dwpUnwrap_spec]
  simp only [hk, Bool.not_true, Bool.false_eq_true, if_false]
  by_cases hm : mac = dwpTag C w ct ad key iv
  · rw [if_pos hm]; exact ⟨fun _ => hm, fun _ => rfl⟩
  · rw [if_neg hm]; exact ⟨fun h => Err.noConfusion h, fun h => absurd h hm⟩

/-- A wrong tag yields exactly `(ERR_BAD_MAC, dest untouched)`. -/
theorem dwpUnwrap_badMac (C : Cipher) (w : Nat) (ct ad mac key iv : Bytes) (hk : validKeyLen key.length = true)
    (hm : mac ≠ dwpTag C w ct ad key iv) : dwpUnwrap C w ct ad mac key iv = (.badMac, none) := by
  rw [dwpUnwrap_spec]
  simp only [hk, Bool.not_true, Bool.false_eq_true, if_false, if_neg hm]

/-- `beltDWPUnwrap` reports ERR_BAD_INPUT iff the key length is not 16, 24 or 32, and then writes nothing. -/
theorem dwpUnwrap_badInput_iff (C : Cipher) (w : Nat) (ct ad mac key iv : Bytes) :
    ((dwpUnwrap C w ct ad mac key iv).1 = .badInput ↔ validKeyLen key.length = false) ∧
    ((dwpUnwrap C w ct ad mac key iv).1 = .badInput → dwpUnwrap C w ct ad mac key iv = (.badInput, none)) := by
  rw [dwpUnwrap_spec]
  cases hk : validKeyLen key.length
  · simp only [Bool.not_false, if_true, and_self, imp_self]
  · by_cases hm : mac = dwpTag C w ct ad key iv
    · simp only [Bool.not_true, Bool.false_eq_true, if_false, if_pos hm, reduceCtorEq, false_imp_iff, and_self]
    · simp only [Bool.not_true, Bool.false_eq_true, if_false, if_neg hm, reduceCtorEq, false_imp_iff, and_self]

/-- Correctness of DWP: whatever `beltDWPWrap` produced (for every plaintext, open data, 16-octet iv and key),
`beltDWPUnwrap` accepts and returns the plaintext. -/
theorem dwpUnwrap_dwpWrap (C : Cipher) (hlen : ∀ k x, x.length = 16 → (C.enc k x).length = 16) (w : Nat)
    (src1 src2 key iv ct tag : Bytes) (hiv : iv.length = 16)
    (hw : dwpWrap C w src1 src2 key iv = (.ok, some (ct, tag))) :
    dwpUnwrap C w ct src2 tag key iv = (.ok, some src1) := by
  rw [dwpWrap_spec] at hw
  rw [dwpUnwrap_spec]
  cases hk : validKeyLen key.length
  · simp only [hk, Bool.not_false, if_true, Prod.mk.injEq, reduceCtorEq, false_and] at hw
  · simp only [hk, Bool.not_true, Bool.false_eq_true, if_false, Prod.mk.injEq, true_and, Option.some.injEq] at hw ⊢
    rcases hw with ⟨h1, h2⟩
    rw [h1] at h2
    rw [if_pos h2.symm, ← h1]
    rw [ctrStepE_ctrStepE C hlen (ctrStart C key iv) src1 (Nat.zero_le _) rfl (hlen _ _ hiv)]

/-- ... and a tag different from the one Wrap produced is rejected with the destination untouched. -/
theorem dwpUnwrap_dwpWrap_wrong_tag (C : Cipher) (w : Nat) (src1 src2 key iv ct tag mac : Bytes)
    (hw : dwpWrap C w src1 src2 key iv = (.ok, some (ct, tag))) (hm : mac ≠ tag) :
    dwpUnwrap C w ct src2 mac key iv = (.badMac, none) := by
  rw [dwpWrap_spec] at hw
  cases hk : validKeyLen key.length
  · simp only [hk, Bool.not_false, if_true, Prod.mk.injEq, reduceCtorEq, false_and] at hw
  · simp only [hk, Bool.not_true, Bool.false_eq_true, if_false, Prod.mk.injEq, true_and, Option.some.injEq] at hw
    rcases hw with ⟨h1, h2⟩
    rw [h1] at h2
    exact dwpUnwrap_badMac C w ct src2 mac key iv hk (by rw [h2]; exact hm)

/-- non-vacuity: Wrap succeeds, changes the data, Unwrap restores it; a flipped tag bit, a flipped ciphertext bit
and a changed open-data octet are all rejected without output; a 17-octet key is ERR_BAD_INPUT -/
example : dwpWrap aeadToyCipher 64 [1, 2, 3] [9] (zeros 16) (zeros 16)
    = (.ok, some ([2, 0, 1], [11, 165, 224, 242, 12, 0, 237, 121])) := by decide +kernel
example : dwpUnwrap aeadToyCipher 64 [2, 0, 1] [9] [11, 165, 224, 242, 12, 0, 237, 121] (zeros 16) (zeros 16)
    = (.ok, some [1, 2, 3]) := by decide +kernel
example : dwpUnwrap aeadToyCipher 64 [2, 0, 1] [9] [10, 165, 224, 242, 12, 0, 237, 121] (zeros 16) (zeros 16)
    = (.badMac, none) := by decide +kernel
example : dwpUnwrap aeadToyCipher 64 [2, 0, 0] [9] [11, 165, 224, 242, 12, 0, 237, 121] (zeros 16) (zeros 16)
    = (.badMac, none) := by decide +kernel
example : dwpUnwrap aeadToyCipher 64 [2, 0, 1] [8] [11, 165, 224, 242, 12, 0, 237, 121] (zeros 16) (zeros 16)
    = (.badMac, none) := by decide +kernel
example : dwpUnwrap aeadToyCipher 64 [2, 0, 1] [9] [11, 165, 224, 242, 12, 0, 237, 121] (zeros 17) (zeros 16)
    = (.badInput, none) := by decide +kernel

/-! ### CHE -/

/-- `beltCHEWrap`: as `dwpWrap_spec`, with the CHE keystream. -/
theorem cheWrap_spec (C : Cipher) (w : Nat) (src1 src2 key iv : Bytes) :
    cheWrap C w src1 src2 key iv =
      if !validKeyLen key.length then (.badInput, none)
      else (.ok, some ((cheStepE C (cheStart C key iv) src1).2,
        cheTag C w (cheStepE C (cheStart C key iv) src1).2 src2 key iv)) := cheWrap_eq C w src1 src2 key iv

/-- `beltCHEUnwrap`, complete case analysis (see `dwpUnwrap_spec`): nothing is decrypted unless the tag matches. -/
theorem cheUnwrap_spec (C : Cipher) (w : Nat) (ct ad mac key iv : Bytes) :
    cheUnwrap C w ct ad mac key iv =
      if !validKeyLen key.length then (.badInput, none)
      else if mac = cheTag C w ct ad key iv then (.ok, some (cheStepE C (cheStart C key iv) ct).2)
      else (.badMac, none) := cheUnwrap_eq C w ct ad mac key iv

theorem cheUnwrap_ok_iff (C : Cipher) (w : Nat) (ct ad mac key iv : Bytes) (hk : validKeyLen key.length = true) :
    (cheUnwrap C w ct ad mac key iv).1 = .ok ↔ mac = cheTag C w ct ad key iv := by
  rw [cheUnwrap_spec]
  simp only [hk, Bool.not_true, Bool.false_eq_true, if_false]
  by_cases hm : mac = cheTag C w ct ad key iv
  · rw [if_pos hm]; exact ⟨fun _ => hm, fun _ => rfl⟩
  · rw [if_neg hm]; exact ⟨fun h => Err.noConfusion h, fun h => absurd h hm⟩

theorem cheUnwrap_badMac (C : Cipher) (w : Nat) (ct ad mac key iv : Bytes) (hk : validKeyLen key.length = true)
    (hm : mac ≠ cheTag C w ct ad key iv) : cheUnwrap C w ct ad mac key iv = (.badMac, none) := by
  rw [cheUnwrap_spec]
  simp only [hk, Bool.not_true, Bool.false_eq_true, if_false, if_neg hm]

theorem cheUnwrap_badInput_iff (C : Cipher) (w : Nat) (ct ad mac key iv : Bytes) :
    ((cheUnwrap C w ct ad mac key iv).1 = .badInput ↔ validKeyLen key.length = false) ∧
    ((cheUnwrap C w ct ad mac key iv).1 = .badInput → cheUnwrap C w ct ad mac key iv = (.badInput, none)) := by
  rw [cheUnwrap_spec]
  cases hk : validKeyLen key.length
  · simp only [Bool.not_false, if_true, and_self, imp_self]
  · by_cases hm : mac = cheTag C w ct ad key iv
    · simp only [Bool.not_true, Bool.false_eq_true, if_false, if_pos hm, reduceCtorEq, false_imp_iff, and_self]
    · simp only [Bool.not_true, Bool.false_eq_true, if_false, if_neg hm, reduceCtorEq, false_imp_iff, and_self]

/-- Correctness of CHE: `beltCHEUnwrap` accepts whatever `beltCHEWrap` produced and returns the plaintext. -/
theorem cheUnwrap_cheWrap (C : Cipher) (hlen : ∀ k x, x.length = 16 → (C.enc k x).length = 16) (w : Nat)
    (src1 src2 key iv ct tag : Bytes) (hiv : iv.length = 16)
    (hw : cheWrap C w src1 src2 key iv = (.ok, some (ct, tag))) :
    cheUnwrap C w ct src2 tag key iv = (.ok, some src1) := by
  rw [cheWrap_spec] at hw
  rw [cheUnwrap_spec]
  cases hk : validKeyLen key.length
  · simp only [hk, Bool.not_false, if_true, Prod.mk.injEq, reduceCtorEq, false_and] at hw
  · simp only [hk, Bool.not_true, Bool.false_eq_true, if_false, Prod.mk.injEq, true_and, Option.some.injEq] at hw ⊢
    rcases hw with ⟨h1, h2⟩
    rw [h1] at h2
    rw [if_pos h2.symm, ← h1]
    rw [cheStepE_cheStepE C hlen (cheStart C key iv) src1 (Nat.zero_le _) rfl (hlen _ _ hiv)]

theorem cheUnwrap_cheWrap_wrong_tag (C : Cipher) (w : Nat) (src1 src2 key iv ct tag mac : Bytes)
    (hw : cheWrap C w src1 src2 key iv = (.ok, some (ct, tag))) (hm : mac ≠ tag) :
    cheUnwrap C w ct src2 mac key iv = (.badMac, none) := by
  rw [cheWrap_spec] at hw
  cases hk : validKeyLen key.length
  · simp only [hk, Bool.not_false, if_true, Prod.mk.injEq, reduceCtorEq, false_and] at hw
  · simp only [hk, Bool.not_true, Bool.false_eq_true, if_false, Prod.mk.injEq, true_and, Option.some.injEq] at hw
    rcases hw with ⟨h1, h2⟩
    rw [h1] at h2
    exact cheUnwrap_badMac C w ct src2 mac key iv hk (by rw [h2]; exact hm)

example : cheWrap aeadToyCipher 64 [1, 2, 3] [9] (zeros 16) (zeros 16)
    = (.ok, some ([5, 1, 0], [227, 16, 64, 166, 230, 69, 26, 149])) := by decide +kernel
example : cheUnwrap aeadToyCipher 64 [5, 1, 0] [9] [227, 16, 64, 166, 230, 69, 26, 149] (zeros 16) (zeros 16)
    = (.ok, some [1, 2, 3]) := by decide +kernel
example : cheUnwrap aeadToyCipher 64 [5, 1, 0] [9] [227, 16, 64, 166, 230, 69, 26, 148] (zeros 16) (zeros 16)
    = (.badMac, none) := by decide +kernel
example : cheUnwrap aeadToyCipher 64 [5, 1, 0] [9] [227, 16, 64, 166, 230, 69, 26, 149] [] (zeros 16)
    = (.badInput, none) := by decide +kernel

/-! ### tag length, word size -/

/-- The tag is always 8 octets (`beltDWPStepG` copies 8 octets of `E(t)`), so `beltDWPUnwrap` can only succeed
for an 8-octet `mac`. -/
theorem dwpTag_length (C : Cipher) (hlen : ∀ k x, x.length = 16 → (C.enc k x).length = 16) (w : Nat)
    (ct ad key iv : Bytes) : (dwpTag C w ct ad key iv).length = 8 := by
  rw [dwpTag_eq]; exact polyTag_length C hlen w _ _ ct ad

theorem cheTag_length (C : Cipher) (hlen : ∀ k x, x.length = 16 → (C.enc k x).length = 16) (w : Nat)
    (ct ad key iv : Bytes) : (cheTag C w ct ad key iv).length = 8 := by
  rw [cheTag_eq]; exact polyTag_length C hlen w _ _ ct ad

/-- The DWP tag, and hence the verdict and output of `beltDWPUnwrap`, does not depend on the word size `B_PER_W`
of the build (the three `#if` variants of `beltHalfBlockAddBitSizeW` agree, PropsLcl.lean) as long as the lengths
fit a 64-bit size_t. -/
theorem dwpTag_word_size_independent (C : Cipher) (w : Nat) (ct ad key iv : Bytes) (hct : ct.length < 2 ^ 64)
    (had : ad.length < 2 ^ 64) : dwpTag C w ct ad key iv = dwpTag C 64 ct ad key iv := by
  rw [dwpTag_eq, dwpTag_eq]; exact polyTag_w C w _ _ ct ad hct had

theorem cheTag_word_size_independent (C : Cipher) (w : Nat) (ct ad key iv : Bytes) (hct : ct.length < 2 ^ 64)
    (had : ad.length < 2 ^ 64) : cheTag C w ct ad key iv = cheTag C 64 ct ad key iv := by
  rw [cheTag_eq, cheTag_eq]; exact polyTag_w C w _ _ ct ad hct had

theorem dwpUnwrap_word_size_independent (C : Cipher) (w : Nat) (ct ad mac key iv : Bytes) (hct : ct.length < 2 ^ 64)
    (had : ad.length < 2 ^ 64) : dwpUnwrap C w ct ad mac key iv = dwpUnwrap C 64 ct ad mac key iv := by
  rw [dwpUnwrap_spec, dwpUnwrap_spec, dwpTag_word_size_independent C w ct ad key iv hct had]

theorem cheUnwrap_word_size_independent (C : Cipher) (w : Nat) (ct ad mac key iv : Bytes) (hct : ct.length < 2 ^ 64)
    (had : ad.length < 2 ^ 64) : cheUnwrap C w ct ad mac key iv = cheUnwrap C 64 ct ad mac key iv := by
  rw [cheUnwrap_spec, cheUnwrap_spec, cheTag_word_size_independent C w ct ad key iv hct had]

/-- `beltDWPWrap` produces a ciphertext of the length of the plaintext and the same (ciphertext, tag) on 16-, 32-
and 64-bit-word builds. -/
theorem dwpWrap_word_size_independent (C : Cipher) (hlen : ∀ k x, x.length = 16 → (C.enc k x).length = 16) (w : Nat)
    (src1 src2 key iv : Bytes) (hiv : iv.length = 16) (h1 : src1.length < 2 ^ 64) (h2 : src2.length < 2 ^ 64) :
    dwpWrap C w src1 src2 key iv = dwpWrap C 64 src1 src2 key iv := by
  have hl := length_ctrStepE C hlen (ctrStart C key iv) src1 (Nat.zero_le _) rfl (hlen _ _ hiv)
  rw [dwpWrap_spec, dwpWrap_spec, dwpTag_word_size_independent C w _ src2 key iv (by rw [hl]; exact h1) h2]

theorem cheWrap_word_size_independent (C : Cipher) (hlen : ∀ k x, x.length = 16 → (C.enc k x).length = 16) (w : Nat)
    (src1 src2 key iv : Bytes) (hiv : iv.length = 16) (h1 : src1.length < 2 ^ 64) (h2 : src2.length < 2 ^ 64) :
    cheWrap C w src1 src2 key iv = cheWrap C 64 src1 src2 key iv := by
  have hl := length_cheStepE C hlen (cheStart C key iv) src1 (Nat.zero_le _) rfl (hlen _ _ hiv)
  rw [cheWrap_spec, cheWrap_spec, cheTag_word_size_independent C w _ src2 key iv (by rw [hl]; exact h1) h2]

example : dwpWrap aeadToyCipher 32 [1, 2, 3] [9] (zeros 16) (zeros 16)
    = (.ok, some ([2, 0, 1], [11, 165, 224, 242, 12, 0, 237, 121])) := by decide +kernel
example : cheWrap aeadToyCipher 16 [1, 2, 3] [9] (zeros 16) (zeros 16)
    = (.ok, some ([5, 1, 0], [227, 16, 64, 166, 230, 69, 26, 149])) := by decide +kernel

/-! ### the real cipher -/

/-- `beltDWPUnwrap(beltDWPWrap(x))` returns `x`, for the belt block cipher. -/
theorem belt_dwpUnwrap_dwpWrap (w : Nat) (src1 src2 key iv ct tag : Bytes) (hiv : iv.length = 16)
    (hw : dwpWrap beltCipher w src1 src2 key iv = (.ok, some (ct, tag))) :
    dwpUnwrap beltCipher w ct src2 tag key iv = (.ok, some src1) :=
  dwpUnwrap_dwpWrap beltCipher (fun k x h => length_blockEncr k x h) w src1 src2 key iv ct tag hiv hw

/-- `beltCHEUnwrap(beltCHEWrap(x))` returns `x`, for the belt block cipher. -/
theorem belt_cheUnwrap_cheWrap (w : Nat) (src1 src2 key iv ct tag : Bytes) (hiv : iv.length = 16)
    (hw : cheWrap beltCipher w src1 src2 key iv = (.ok, some (ct, tag))) :
    cheUnwrap beltCipher w ct src2 tag key iv = (.ok, some src1) :=
  cheUnwrap_cheWrap beltCipher (fun k x h => length_blockEncr k x h) w src1 src2 key iv ct tag hiv hw

/-- belt-dwp / belt-che release plaintext only for the right tag. -/
theorem belt_dwpUnwrap_ok_iff (w : Nat) (ct ad mac key iv : Bytes) (hk : validKeyLen key.length = true) :
    (dwpUnwrap beltCipher w ct ad mac key iv).1 = .ok ↔ mac = dwpTag beltCipher w ct ad key iv :=
  dwpUnwrap_ok_iff beltCipher w ct ad mac key iv hk

theorem belt_cheUnwrap_ok_iff (w : Nat) (ct ad mac key iv : Bytes) (hk : validKeyLen key.length = true) :
    (cheUnwrap beltCipher w ct ad mac key iv).1 = .ok ↔ mac = cheTag beltCipher w ct ad key iv :=
  cheUnwrap_ok_iff beltCipher w ct ad mac key iv hk

/-- non-vacuity with the real cipher -/
example : (dwpWrap beltCipher 64 [1, 2, 3] [9] (zeros 16) (zeros 16)).1 = .ok := by decide +kernel

end Bee2V.C01
