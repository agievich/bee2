/-
C01 property theorems: the formulation of belt_block.c (rotated tables, the macros R/E/D with pointer-permuted
registers, subkey index formulas, beltKeyExpand2) = the formulation of STB 34.101.31 §6.1
(`Bee2V.C01.Spec.*` in Lemmas/SpecBlock.lean, written step by step as the standard writes it).
Only property theorems and non-vacuity examples.
-/
import Bee2V.C01.Lemmas.SpecBlock
namespace Bee2V.C01
open Bee2V.Gen.C01

/-! ## The specification itself reproduces the appendix vectors of the standard
(so `Spec.encr`/`Spec.decr`/`Spec.G` are the standard's cipher, not merely a copy of the code) -/

/-- STB 34.101.31 A.1: X = H[0..15], θ = H[128..159] -/
example : Spec.blockEncr Spec.specG ((H.toList.drop 128).take 32) (H.toList.take 16) =
    [0x69, 0xCC, 0xA1, 0xC9, 0x35, 0x57, 0xC9, 0xE3, 0xD6, 0x6B, 0xC3, 0xE0, 0xFA, 0x88, 0xFA, 0x6E] := by
  decide +kernel

/-- STB 34.101.31 A.4: Y = H[64..79], θ = H[160..191] -/
example : Spec.blockDecr Spec.specG ((H.toList.drop 160).take 32) ((H.toList.drop 64).take 16) =
    [0x0D, 0xC5, 0x30, 0x06, 0x00, 0xCA, 0xB8, 0x40, 0xB3, 0x84, 0x48, 0xE5, 0xE9, 0x93, 0xF4, 0x21] := by
  decide +kernel

/-! ## G-blocks -/

/-- The macro `G5` (xor of four lookups in the pre-rotated tables H5, H13, H21, H29) computes
`G_5(u) = RotHi^5(H(u1) ‖ H(u2) ‖ H(u3) ‖ H(u4))` of the standard, for every 32-bit word. -/
theorem G5_spec (x : UInt32) : G5 x = Spec.G 5 x := G5_eq x
/-- The macro `G13` computes `G_13` of the standard, for every 32-bit word. -/
theorem G13_spec (x : UInt32) : G13 x = Spec.G 13 x := G13_eq x
/-- The macro `G21` computes `G_21` of the standard, for every 32-bit word. -/
theorem G21_spec (x : UInt32) : G21 x = Spec.G 21 x := G21_eq x

/-- non-vacuity: the G-blocks are not trivial and differ from each other -/
example : Spec.G 5 0 = 0x36363636 ∧ Spec.G 5 0x0A = 0x36362016 ∧ Spec.G 13 1 ≠ Spec.G 5 1 ∧ G21 0x01020304 = Spec.G 21 0x01020304 := by decide +kernel

/-- In the octet lanes `|||` and `^^^` coincide: the code may xor the four rotated lanes because the standard's
concatenation puts them on disjoint bit positions (here: for any four words confined to pairwise disjoint masks). -/
theorem lanes_xor_eq_or (t0 t1 t2 t3 m0 m1 m2 m3 : UInt32)
    (h0 : t0 &&& m0 = t0) (h1 : t1 &&& m1 = t1) (h2 : t2 &&& m2 = t2) (h3 : t3 &&& m3 = t3)
    (m01 : m0 &&& m1 = 0) (m02 : m0 &&& m2 = 0) (m03 : m0 &&& m3 = 0) (m12 : m1 &&& m2 = 0) (m13 : m1 &&& m3 = 0)
    (m23 : m2 &&& m3 = 0) : t0 ^^^ t1 ^^^ t2 ^^^ t3 = t0 ||| t1 ||| t2 ||| t3 :=
  xor4_eq_or4 t0 t1 t2 t3 m0 m1 m2 m3 h0 h1 h2 h3 m01 m02 m03 m12 m13 m23

example : (0x12 : UInt32) ^^^ 0x3400 ^^^ 0x560000 ^^^ 0x78000000 = 0x78563412 := by decide

/-! ## Rounds -/

/-- One macro `R(a, b, c, d, K, i, subkey)` performs exactly steps 2.1)–2.9) of the standard with the seven round
keys `subkey(K, i, 0..6)` (the code saves the auxiliary register `e` of the standard in `b` and `c`). -/
theorem R_spec (g : GFun) (sk : Nat → UInt32) (i : Nat) (a b c d : UInt32) :
    R g sk (UInt32.ofNat i) a b c d = Spec.steps g (sk 0) (sk 1) (sk 2) (sk 3) (sk 4) (sk 5) (sk 6) i a b c d :=
  R_eq_steps g sk i a b c d

/-- `subkey_e(K, i, j) = K[7i-6+j]` and `subkey_d(K, i, j) = K[7i-j]` in the numbering of the standard
(`K[1..56]`, `K[j] = θ[(j-1) mod 8 + 1]`), for every round number `i ≥ 1` and `j = 0..6`. -/
theorem subkey_spec (K : Array UInt32) (i j : Nat) (hi : 1 ≤ i) (hj : j ≤ 6) :
    subkeyE K i j = Spec.rk K (7 * i - 6 + j) ∧ subkeyD K i j = Spec.rk K (7 * i - j) := by
  simp only [subkeyE, subkeyD, Spec.rk]
  constructor <;> congr 2 <;> omega

example : subkeyE #[10, 11, 12, 13, 14, 15, 16, 17] 2 0 = 17 ∧ subkeyD #[10, 11, 12, 13, 14, 15, 16, 17] 8 0 = 17 := by
  decide

/-- The macro `E` (`beltBlockEncr3`): eight macros `R` on pointer-permuted registers (`R(b, d, a, c, K, 2, …)`, …)
followed by three xor-swaps = the standard's encryption: eight rounds `i = 1..8`, each steps 1)–9) with
`K[7i-6..7i]` and the exchanges `a ↔ b, c ↔ d, b ↔ c`, then `Y = b ‖ d ‖ a ‖ c`.
For every key array, all register values and arbitrary G-blocks. -/
theorem E_spec (g : GFun) (K : Array UInt32) (a b c d : UInt32) : E g K a b c d = Spec.encr g K (a, b, c, d) :=
  E_eq_encr g K a b c d

/-- The macro `D` (`beltBlockDecr3`) = the standard's decryption: rounds `i = 8..1`, each steps 1)–9) with
`K[7i], K[7i-1], …, K[7i-6]` and the exchanges `a ↔ b, c ↔ d, a ↔ d`, then `X = c ‖ a ‖ d ‖ b`. -/
theorem D_spec (g : GFun) (K : Array UInt32) (a b c d : UInt32) : D g K a b c d = Spec.decr g K (a, b, c, d) :=
  D_eq_decr g K a b c d

/-- non-vacuity: the register exchanges matter (the result is not a fixed point, and the output order is used) -/
example : Spec.encr beltG #[1, 2, 3, 4, 5, 6, 7, 8] (1, 2, 3, 4) ≠ (1, 2, 3, 4) ∧
    Spec.decr beltG #[1, 2, 3, 4, 5, 6, 7, 8] (Spec.encr beltG #[1, 2, 3, 4, 5, 6, 7, 8] (1, 2, 3, 4)) = (1, 2, 3, 4) := by
  refine ⟨by decide +kernel, ?_⟩
  rw [← E_eq_encr, ← D_eq_decr]
  exact D_E _ _ 1 2 3 4

/-- `beltBlockEncr` on octets (block and formatted key read as little-endian words, table-driven G-blocks)
is the block cipher of the standard with the standard's G-blocks, for every key and every block. -/
theorem blockEncr_spec (key blk : Bytes) : blockEncr key blk = Spec.blockEncr Spec.specG key blk := by
  unfold blockEncr Spec.blockEncr
  split
  next a b c d h => simp only [h, E_eq_encr, beltG_eq_specG]
  next hn =>
    split
    next a b c d h => exact absurd h (hn a b c d)
    next => rfl

/-- `beltBlockDecr` on octets is the decryption of the standard. -/
theorem blockDecr_spec (key blk : Bytes) : blockDecr key blk = Spec.blockDecr Spec.specG key blk := by
  unfold blockDecr Spec.blockDecr
  split
  next a b c d h => simp only [h, D_eq_decr, beltG_eq_specG]
  next hn =>
    split
    next a b c d h => exact absurd h (hn a b c d)
    next => rfl

/-! ## Key expansion -/

/-- `beltKeyExpand2` with a 128-bit key: `θ5..θ8 = θ1..θ4`. -/
theorem keyExpand2_128 (key : Bytes) (h : key.length = 16) :
    (u32From key).length = 4 ∧ keyExpand2 key = u32From key ++ u32From key :=
  ⟨by rw [length_u32From, h], keyExpand2_16 key h⟩

/-- `beltKeyExpand2` with a 192-bit key: `θ7 = θ1 ⊕ θ2 ⊕ θ3`, `θ8 = θ4 ⊕ θ5 ⊕ θ6`. -/
theorem keyExpand2_192 (key : Bytes) (h : key.length = 24) :
    ∃ t1 t2 t3 t4 t5 t6, u32From key = [t1, t2, t3, t4, t5, t6] ∧
      keyExpand2 key = [t1, t2, t3, t4, t5, t6, t1 ^^^ t2 ^^^ t3, t4 ^^^ t5 ^^^ t6] := keyExpand2_24 key h

/-- `beltKeyExpand2` with a 256-bit key: the eight words of the key. -/
theorem keyExpand2_256 (key : Bytes) (h : key.length = 32) :
    (u32From key).length = 8 ∧ keyExpand2 key = u32From key :=
  ⟨by rw [length_u32From, h], keyExpand2_32 key h⟩

/-- In all three cases the result is `Spec.keyExpandW` of the key words (the standard's expansion on words). -/
theorem keyExpand2_spec (key : Bytes) (h : key.length = 16 ∨ key.length = 24 ∨ key.length = 32) :
    keyExpand2 key = Spec.keyExpandW (u32From key) ∧ (keyExpand2 key).length = 8 := by
  rcases h with h | h | h
  · obtain ⟨w0, w1, w2, w3, hw⟩ := u32From_16 key h
    simp only [keyExpand2, Spec.keyExpandW, hw, List.length_cons, List.length_nil, and_self]
  · obtain ⟨t1, t2, t3, t4, t5, t6, hw, he⟩ := keyExpand2_24 key h
    simp only [he, Spec.keyExpandW, hw, List.length_cons, List.length_nil, and_self]
  · have hl := length_u32From key
    rw [h] at hl
    refine ⟨?_, by rw [keyExpand2_32 key h, hl]⟩
    rw [keyExpand2_32 key h]
    unfold Spec.keyExpandW
    split
    · next heq => rw [heq] at hl; simp at hl
    · next heq => rw [heq] at hl; simp at hl
    · rfl

/-- The word version `beltKeyExpand2` and the octet version `beltKeyExpand` agree: storing the eight expanded words
little-endian gives the 32 octets produced by `beltKeyExpand`, for every key of 16, 24 or 32 octets. -/
theorem keyExpand_agree (key : Bytes) (h : key.length = 16 ∨ key.length = 24 ∨ key.length = 32) :
    u32To (keyExpand2 key) = keyExpand key := by
  rcases h with h | h | h
  · exact keyExpand_agree_16 key h
  · exact keyExpand_agree_24 key h
  · exact keyExpand_agree_32 key h

/-- non-vacuity: a 24-octet key where the xor words are visible (octets 24..27 = k[0..3] ^ k[4..7] ^ k[8..11]) -/
example : (u32To (keyExpand2 (H.toList.take 24))).drop 24 = (keyExpand (H.toList.take 24)).drop 24 ∧
    (keyExpand (H.toList.take 24)).drop 24 = [141, 241, 79, 125, 198, 248, 96, 213] := by decide +kernel

/-- Loads commute with xor (used above; the loads of the model are arithmetic, xor is bitwise). -/
theorem ld32_xor_spec (a0 a1 a2 a3 b0 b1 b2 b3 : UInt8) :
    ld32 a0 a1 a2 a3 ^^^ ld32 b0 b1 b2 b3 = ld32 (a0 ^^^ b0) (a1 ^^^ b1) (a2 ^^^ b2) (a3 ^^^ b3) :=
  ld32_xor a0 a1 a2 a3 b0 b1 b2 b3

example : ld32 0xFF 1 2 3 ^^^ ld32 0x0F 1 0 0 = 0x030200F0 := by decide

/-- End to end: `beltKeyExpand2` followed by `beltBlockEncr` = the standard's cipher under the octet-expanded key,
for every key of 16, 24 or 32 octets and every block. -/
theorem blockEncr_keyExpand_spec (key blk : Bytes) (h : key.length = 16 ∨ key.length = 24 ∨ key.length = 32) :
    blockEncr (u32To (keyExpand2 key)) blk = Spec.blockEncr Spec.specG (keyExpand key) blk := by
  rw [blockEncr_spec, keyExpand_agree key h]

theorem blockDecr_keyExpand_spec (key blk : Bytes) (h : key.length = 16 ∨ key.length = 24 ∨ key.length = 32) :
    blockDecr (u32To (keyExpand2 key)) blk = Spec.blockDecr Spec.specG (keyExpand key) blk := by
  rw [blockDecr_spec, keyExpand_agree key h]

end Bee2V.C01
