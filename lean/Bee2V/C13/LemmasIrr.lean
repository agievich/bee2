/-
C13 — irreducibility: what C05 proves about its models (Ben-Or test decides irreducibility;
ppMinPolyMod returns the minimal polynomial: irreducible, degree ≤ l) transported to the bels
model through LemmasBridge.lean.  (Imports Mathlib through C05's field construction.)
-/
import Bee2V.C13.LemmasBridge
import Bee2V.Base.Bytes
import Bee2V.C13.LemmasGen
import Bee2V.C13.LemmasCrt
import Bee2V.C05.PropsMinPoly
import Bee2V.C05.PropsFld
namespace Bee2V.C13.Irr
open Bee2V.C13 Bee2V.C05 Bee2V.C05.Spec Bee2V.C05.Pp

/-- C05's `NatIrred` (every factorisation trivial) gives the divisor form used here -/
theorem pirred_of_natIrred {f : Nat} (h : NatIrred f) : PIrred f := by
  refine ⟨?_, fun d hd => ?_⟩
  · have : f ≠ 0 := by
      intro h0
      have h1 := h.1
      rw [h0, Nat.log2_zero] at h1
      omega
    have := (Nat.le_log2 this).1 h.1
    omega
  · obtain ⟨q, hq⟩ := hd
    rcases h.2 q d hq with h1 | h1
    · right; rw [hq, h1, one_clmul]
    · left; exact h1

theorem seq_zero (md : Nat) : ∀ i, ppMinPolySeq 0 md i 0 0 = 0 := by
  intro i
  induction i with
  | zero => rfl
  | succ i ih =>
    unfold ppMinPolySeq
    have : pmod (clmul 0 0) md = 0 := by
      rw [clmul_zero]; unfold pmod pdivmod; split <;> simp
    simp only [this, Nat.zero_mod, Nat.zero_shiftLeft, Nat.or_zero]
    exact ih

/-- the element 0 gives the polynomial 1 (never accepted) -/
theorem minPoly_zero (md : Nat) : ppMinPolyModV 0 md = 1 := by
  unfold ppMinPolyModV
  simp only [Nat.zero_mod, Nat.zero_shiftLeft, seq_zero]
  unfold ppMinPolyV
  rw [Nat.zero_mod]
  unfold ppMinPolyLoop
  simp

variable {f0 : Nat}

/-- which candidates belsGenMi / belsGenMid accept (f0 irreducible of degree l ≥ 1, u reduced):
    exactly the non-zero u whose minimal polynomial g has degree l and is not f0 itself
    (i.e. u lies in no proper subfield of GF(2)[x]/(f0) and is no root of f0); and then g is
    irreducible -/
theorem accept_iff (hI : NatIrred f0) {l u : Nat} (hl : f0.log2 = l) (hu : u < 2 ^ l) :
    miAccept l (ppMinPolyMod u f0) f0 = true ↔
      u ≠ 0 ∧ (ppMinPolyMod u f0).log2 = l ∧ ppMinPolyMod u f0 ≠ f0 := by
  have : Fact (NatIrred f0) := ⟨hI⟩
  have hl1 : 1 ≤ l := hl ▸ hI.1
  have hpow : 2 ≤ 2 ^ l := by
    have := Nat.pow_le_pow_right (by omega : 1 ≤ 2) hl1; simpa using this
  rw [Bridge.ppMinPolyMod_eq]
  by_cases hu0 : u = 0
  · subst hu0
    rw [minPoly_zero]
    unfold miAccept
    have : 1 / 2 ^ l = 0 := Nat.div_eq_of_lt (by omega)
    simp [this]
  · have hg := (ppMinPolyModV_spec u f0 (hl ▸ hl1)).2.2.2
    obtain ⟨hg0, hgl, _⟩ := hg
    rw [hl] at hgl
    have hf0 : f0 ≠ 0 := by intro h0; rw [h0, Nat.log2_zero] at hl; omega
    have hf0b := (Nat.log2_eq_iff hf0).1 hl
    have hgub : ppMinPolyModV u f0 < 2 ^ (l + 1) := by
      have := (Nat.log2_lt hg0).1 (Nat.lt_succ_of_le hgl); simpa using this
    unfold miAccept
    simp only [Bool.and_eq_true, decide_eq_true_eq]
    rw [Nat.pow_succ] at hgub hf0b
    constructor
    · rintro ⟨h1, h2⟩
      refine ⟨hu0, ?_, fun he => h2 (by rw [he])⟩
      have hge : 2 ^ l ≤ ppMinPolyModV u f0 := by
        rcases Nat.lt_or_ge (ppMinPolyModV u f0) (2 ^ l) with h | h
        · rw [Nat.div_eq_of_lt h] at h1; omega
        · exact h
      exact (Nat.log2_eq_iff hg0).2 ⟨hge, by rw [Nat.pow_succ]; exact hgub⟩
    · rintro ⟨_, h2, h3⟩
      have hgb := (Nat.log2_eq_iff hg0).1 h2
      have e1 : ppMinPolyModV u f0 / 2 ^ l = 1 := by
        apply Nat.div_eq_of_lt_le <;> omega
      have e2 : f0 / 2 ^ l = 1 := by
        apply Nat.div_eq_of_lt_le <;> omega
      refine ⟨e1, fun he => h3 ?_⟩
      have d1 := Nat.div_add_mod (ppMinPolyModV u f0) (2 ^ l)
      have d2 := Nat.div_add_mod f0 (2 ^ l)
      rw [e1] at d1; rw [e2] at d2
      omega

/-- an accepted candidate's polynomial is irreducible of degree exactly l -/
theorem accept_irred (hI : NatIrred f0) {l u : Nat} (hl : f0.log2 = l) (hu : u < 2 ^ l)
    (hacc : miAccept l (ppMinPolyMod u f0) f0 = true) :
    NatIrred (ppMinPolyMod u f0) ∧ (ppMinPolyMod u f0).log2 = l := by
  have : Fact (NatIrred f0) := ⟨hI⟩
  obtain ⟨hu0, h2, _⟩ := (accept_iff hI hl hu).1 hacc
  refine ⟨?_, h2⟩
  rw [Bridge.ppMinPolyMod_eq]
  exact (ppMinPolyModV_irred u hu0 (hl ▸ hu)).1

theorem leNat_lt (bs : List UInt8) : leNat bs < 2 ^ (8 * bs.length) := by
  rw [show leNat = Proto.leNat from Proto.leNat_unique _ rfl fun _ _ => rfl, Nat.pow_mul]
  exact Proto.leNat_lt bs

theorem tapeCand_lt (len : Nat) (tp : Tape) (j : Nat) : Gen.tapeCand len tp j < 2 ^ (8 * len) := by
  unfold Gen.tapeCand tapeRead
  have h := leNat_lt (List.take len (List.drop (len * j) tp))
  have hle : (List.take len (List.drop (len * j) tp)).length ≤ len := by
    rw [List.length_take]; exact Nat.min_le_left _ _
  exact Nat.lt_of_lt_of_le h (Nat.pow_le_pow_right (by omega) (Nat.mul_le_mul_left 8 hle))

theorem midCand_lt (len u : Nat) (hu : u < 2 ^ (8 * len)) : ∀ j, Gen.midCand len u j < 2 ^ (8 * len) := by
  intro j
  cases j with
  | zero => exact hu
  | succ j => exact Nat.mod_lt _ (Nat.two_pow_pos _)

theorem tapeRead_lt (len : Nat) (tp : Tape) : (tapeRead len tp).1 < 2 ^ (8 * len) := by
  unfold tapeRead
  have h := leNat_lt (List.take len tp)
  have hle : (List.take len tp).length ≤ len := by rw [List.length_take]; exact Nat.min_le_left _ _
  exact Nat.lt_of_lt_of_le h (Nat.pow_le_pow_right (by omega) (Nat.mul_le_mul_left 8 hle))

theorem genM0Loop_some (len : Nat) : ∀ (reps : Nat) (tp : Tape) (m : Nat), genM0Loop len reps tp = some m →
    ppIsIrred (2 ^ (8 * len) + m) = true ∧ m < 2 ^ (8 * len) := by
  intro reps
  induction reps with
  | zero => intro tp m h; simp [genM0Loop] at h
  | succ r ih =>
    intro tp m h
    unfold genM0Loop at h
    by_cases hi : ppIsIrred (2 ^ (8 * len) + (tapeRead len tp).1) = true
    · simp only [hi, if_true, Option.some.injEq] at h
      subst h
      exact ⟨hi, tapeRead_lt len tp⟩
    · simp only [hi, Bool.false_eq_true, if_false] at h
      exact ih _ m h

end Bee2V.C13.Irr
