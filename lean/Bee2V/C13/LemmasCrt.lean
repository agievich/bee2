/-
C13 — the pure CRT algebra behind belsRecover (`crtStep`, `crtLoop` of Defs.lean) over Nat-coded
GF(2)[x]:  · = `clmul`, + = `^^^`, `Cong md x y` = "x ≡ y (mod md)", `PDvd`, `PCoprime`.

§0 tools: `pring` (AC-normalisation + x + x = 0), congruence calculus
§1 (1) `crtStep_shape`, (2) `crtStep_cong`, `crtStep_none_iff`
§2 (3) Bezout characterisation of `PCoprime`, coprimality with a product, `pdvd_mul_of_coprime`
§3 (4) `Admissible`, `crtLoop_char` (the one induction over the loop) and its corollaries `crtLoop_correct`,
   `crtLoop_none_iff`, `crtLoop_shape`
§4 (5) `secretPoly_mod`, `secretPoly_lt`
No Mathlib.
-/
import Bee2V.C13.Defs
namespace Bee2V.C13.Crt
open Bee2V.C05 Bee2V.C05.Spec Bee2V.C05.Pp

/-! ## §0 tools -/

theorem clmul_left_comm (a b c : Nat) : clmul a (clmul b c) = clmul b (clmul a c) := by
  rw [← clmul_assoc, clmul_comm a b, clmul_assoc]

/-- identities of the commutative ring (GF(2)[x], ^^^, clmul): expand, sort, cancel x + x -/
syntax "pring" : tactic
macro_rules
  | `(tactic| pring) => `(tactic| simp only [clmul_xor, xor_clmul, clmul_assoc, clmul_comm,
      clmul_left_comm, Nat.xor_assoc, Nat.xor_comm, xor_left_comm, Nat.xor_self, xor_xor_cancel_left,
      clmul_one, one_clmul, clmul_zero, zero_clmul, Nat.xor_zero, Nat.zero_xor])

theorem pdvd_mul_right {d a : Nat} (k : Nat) (h : PDvd d a) : PDvd d (clmul a k) := by
  rw [clmul_comm]; exact pdvd_mul k h

theorem pdvd_trans {a b c : Nat} (h1 : PDvd a b) (h2 : PDvd b c) : PDvd a c := Pp.pdvd_trans h1 h2

theorem cong_iff_pdvd {md x y : Nat} : Cong md x y ↔ PDvd md (x ^^^ y) := Iff.rfl

theorem cong_symm {md x y : Nat} (h : Cong md x y) : Cong md y x := Pp.cong_symm h

/-- two reduced representatives of the same class are equal -/
theorem cong_eq_of_lt {md x y : Nat} (hmd : md ≠ 0) (hx : x < 2 ^ md.log2) (hy : y < 2 ^ md.log2)
    (h : Cong md x y) : x = y := by
  have := pmod_cong hmd h
  rwa [pmod_of_lt hmd hx, pmod_of_lt hmd hy] at this

theorem two_le_of_log2_pos {G : Nat} (h : 1 ≤ G.log2) : 2 ≤ G := by
  by_cases h0 : G = 0
  · subst h0; simp at h
  · have := (Nat.le_log2 h0).1 h
    simpa using this

/-! ## §1 one step of the loop -/

/-- what `crtStep … = some …` means: Bezout coefficients u, v of (F, G) with F u + G v = 1 and
    C' = (u C F + v s G) mod (F G) -/
theorem crtStep_some {F s G C G' C' : Nat} (hF : F ≠ 0) (hG : G ≠ 0)
    (h : crtStep F s (G, C) = some (G', C')) :
    ∃ u v, clmul F u ^^^ clmul G v = 1 ∧ G' = clmul F G
      ∧ C' = pmod (clmul (clmul u C) F ^^^ clmul (clmul v s) G) (clmul F G) := by
  unfold crtStep at h
  dsimp only at h
  split at h
  · cases h
  · rename_i h1
    have h1' : (ppExGCDV F G).1 = 1 := Decidable.not_not.1 h1
    simp only [Option.some.injEq, Prod.mk.injEq] at h
    exact ⟨_, _, (exGCDV_bezout hF hG).trans h1', h.1.symm, h.2.symm⟩

/-- (1) shape of one step -/
theorem crtStep_shape {F s G C G' C' : Nat} (hF : 2 ≤ F) (hG : 2 ≤ G)
    (h : crtStep F s (G, C) = some (G', C')) :
    G' = clmul F G ∧ G'.log2 = F.log2 + G.log2 ∧ C' < 2 ^ G'.log2 := by
  have hF0 : F ≠ 0 := by omega
  have hG0 : G ≠ 0 := by omega
  obtain ⟨u, v, _, hG', hC'⟩ := crtStep_some hF0 hG0 h
  subst hG'
  refine ⟨rfl, log2_clmul hF0 hG0, ?_⟩
  rw [hC']
  exact pmod_lt_two_pow (clmul_ne_zero hF0 hG0) _

/-- (2) one step is a CRT step: C' ≡ C (mod G), C' ≡ s (mod F) -/
theorem crtStep_cong {F s G C G' C' : Nat} (hF : 2 ≤ F) (hG : 2 ≤ G)
    (h : crtStep F s (G, C) = some (G', C')) : Cong G C' C ∧ Cong F C' s := by
  have hF0 : F ≠ 0 := by omega
  have hG0 : G ≠ 0 := by omega
  obtain ⟨u, v, hb, _, hC'⟩ := crtStep_some hF0 hG0 h
  have hFG := clmul_ne_zero hF0 hG0
  rw [hC', pmod_eq _ _ hFG]
  constructor
  · have key : ∀ q, (clmul (clmul u C) F ^^^ clmul (clmul v s) G ^^^ clmul q (clmul F G))
        ^^^ clmul C (clmul F u ^^^ clmul G v)
        = clmul (clmul q F ^^^ clmul C v ^^^ clmul v s) G := by
      intro q; pring
    have := key (pdivmod (clmul (clmul u C) F ^^^ clmul (clmul v s) G) (clmul F G)).1
    rw [hb, clmul_one] at this
    exact ⟨_, this⟩
  · have key : ∀ q, (clmul (clmul u C) F ^^^ clmul (clmul v s) G ^^^ clmul q (clmul F G))
        ^^^ clmul s (clmul F u ^^^ clmul G v)
        = clmul (clmul q G ^^^ clmul u C ^^^ clmul s u) F := by
      intro q; pring
    have := key (pdivmod (clmul (clmul u C) F ^^^ clmul (clmul v s) G) (clmul F G)).1
    rw [hb, clmul_one] at this
    exact ⟨_, this⟩

/-- the step fails exactly when the new modulus is not coprime to the product so far -/
theorem crtStep_none_iff {F s G C : Nat} (hF : F ≠ 0) (hG : G ≠ 0) :
    crtStep F s (G, C) = none ↔ ¬ PCoprime F G := by
  have hi : (ppExGCDV F G).1 = 1 ↔ PCoprime F G := Gcd.exGCDV_one_iff hF hG
  unfold crtStep
  dsimp only
  split
  · rename_i h1
    exact ⟨fun _ hc => h1 (hi.2 hc), fun _ => rfl⟩
  · rename_i h1
    have h1' : (ppExGCDV F G).1 = 1 := Decidable.not_not.1 h1
    exact ⟨fun h => (by cases h), fun hc => absurd (hi.1 h1') hc⟩

/-! ## §2 coprimality -/

theorem pcoprime_comm {F G : Nat} : PCoprime F G ↔ PCoprime G F :=
  ⟨fun h d a b => h d b a, fun h d a b => h d b a⟩

theorem bezout_of_pcoprime {F G : Nat} (hF : F ≠ 0) (hG : G ≠ 0) (h : PCoprime F G) :
    ∃ u v, clmul F u ^^^ clmul G v = 1 :=
  ⟨_, _, (exGCDV_bezout hF hG).trans ((Gcd.exGCDV_one_iff hF hG).2 h)⟩

theorem pcoprime_of_bezout {F G u v : Nat} (h : clmul F u ^^^ clmul G v = 1) : PCoprime F G := by
  intro d hdF hdG
  apply Gcd.pdvd_one
  rw [← h]
  exact pdvd_xor (pdvd_mul_right _ hdF) (pdvd_mul_right _ hdG)

theorem pcoprime_iff_bezout {F G : Nat} (hF : F ≠ 0) (hG : G ≠ 0) :
    PCoprime F G ↔ ∃ u v, clmul F u ^^^ clmul G v = 1 :=
  ⟨bezout_of_pcoprime hF hG, fun ⟨_, _, h⟩ => pcoprime_of_bezout h⟩

/-- Euclid's lemma: F coprime to G, d ∣ F, d ∣ G·H ⇒ d ∣ H -/
theorem pdvd_of_pcoprime_mul {F G H d : Nat} (hF : F ≠ 0) (hG : G ≠ 0) (hc : PCoprime F G)
    (hdF : PDvd d F) (hdGH : PDvd d (clmul G H)) : PDvd d H := by
  obtain ⟨u, v, hb⟩ := bezout_of_pcoprime hF hG hc
  have e : H = clmul (clmul H u) F ^^^ clmul v (clmul G H) := by
    have : clmul H (clmul F u ^^^ clmul G v) = clmul (clmul H u) F ^^^ clmul v (clmul G H) := by
      pring
    rwa [hb, clmul_one] at this
  rw [e]
  exact pdvd_xor (pdvd_mul _ hdF) (pdvd_mul _ hdGH)

/-- (3) coprimality with a product -/
theorem pcoprime_mul_iff {F G H : Nat} (hF : F ≠ 0) (hG : G ≠ 0) :
    PCoprime F (clmul G H) ↔ PCoprime F G ∧ PCoprime F H := by
  constructor
  · intro h
    exact ⟨fun d hdF hdG => h d hdF (pdvd_mul_right H hdG), fun d hdF hdH => h d hdF (pdvd_mul G hdH)⟩
  · intro ⟨hG', hH'⟩ d hdF hdGH
    exact hH' d hdF (pdvd_of_pcoprime_mul hF hG hG' hdF hdGH)

/-- (3) F, G coprime, F ∣ X, G ∣ X ⇒ F·G ∣ X -/
theorem pdvd_mul_of_coprime {F G X : Nat} (hF : F ≠ 0) (hG : G ≠ 0) (hc : PCoprime F G)
    (h1 : PDvd F X) (h2 : PDvd G X) : PDvd (clmul F G) X := by
  obtain ⟨u, v, hb⟩ := bezout_of_pcoprime hF hG hc
  obtain ⟨a, rfl⟩ := h1
  obtain ⟨b, h2⟩ := h2
  have e1 : clmul a F = clmul (clmul b G) (clmul F u) ^^^ clmul (clmul a F) (clmul G v) := by
    rw [← h2, ← clmul_xor, hb, clmul_one]
  have e2 : clmul (clmul b G) (clmul F u) ^^^ clmul (clmul a F) (clmul G v)
      = clmul (clmul b u ^^^ clmul a v) (clmul F G) := by pring
  exact ⟨_, e1.trans e2⟩

/-- CRT uniqueness: congruent mod F and mod G (coprime) ⇒ congruent mod F·G -/
theorem cong_mul_of_coprime {F G x y : Nat} (hF : F ≠ 0) (hG : G ≠ 0) (hc : PCoprime F G)
    (h1 : Cong F x y) (h2 : Cong G x y) : Cong (clmul F G) x y :=
  pdvd_mul_of_coprime hF hG hc h1 h2

/-! ## §3 the loop -/

theorem keyPoly_ne_zero (W n m : Nat) : keyPoly W n m ≠ 0 := by
  have := Nat.two_pow_pos (W * n); unfold keyPoly; omega

theorem keyPoly_log2 {W n m : Nat} (hm : m < 2 ^ (W * n)) : (keyPoly W n m).log2 = W * n := by
  rw [Nat.log2_eq_iff (keyPoly_ne_zero W n m), Nat.pow_succ]; unfold keyPoly; omega

theorem keyPoly_ge (W n m : Nat) (hW : 0 < W) (hn : 0 < n) : 2 ≤ keyPoly W n m := by
  unfold keyPoly
  have h1 : 1 ≤ W * n := Nat.mul_pos hW hn
  have : 2 ^ 1 ≤ 2 ^ (W * n) := Nat.pow_le_pow_right (by omega) h1
  omega

/-- what `crtLoop` needs to run through from the product `G` -/
def Admissible (W n : Nat) (prs : List (Nat × Nat)) (G : Nat) : Prop :=
  (∀ p ∈ prs, PCoprime (keyPoly W n p.1) G) ∧
    prs.Pairwise (fun p q => PCoprime (keyPoly W n p.1) (keyPoly W n q.1))

theorem admissible_cons {W n m s : Nat} {rest : List (Nat × Nat)} {G : Nat} :
    Admissible W n ((m, s) :: rest) G ↔
      PCoprime (keyPoly W n m) G ∧ Admissible W n rest (clmul (keyPoly W n m) G) := by
  have hmul : ∀ p : Nat × Nat, PCoprime (keyPoly W n p.1) (clmul (keyPoly W n m) G)
      ↔ PCoprime (keyPoly W n p.1) (keyPoly W n m) ∧ PCoprime (keyPoly W n p.1) G := fun p =>
    pcoprime_mul_iff (keyPoly_ne_zero W n p.1) (keyPoly_ne_zero W n m)
  simp only [Admissible, List.forall_mem_cons, List.pairwise_cons, hmul, forall_and,
    pcoprime_comm (F := keyPoly W n m)]
  constructor
  · rintro ⟨⟨h1, h2⟩, h3, h4⟩; exact ⟨h1, ⟨h3, h2⟩, h4⟩
  · rintro ⟨h1, ⟨h3, h2⟩, h4⟩; exact ⟨⟨h1, h2⟩, h3, h4⟩

/-- the last clause is stated for every `X`: CRT uniqueness (`cong_mul_of_coprime`) is applied inside the induction, and
    correctness is `cong_eq_of_lt` at the end -/
theorem crtLoop_char (W n : Nat) (hW : 0 < W) (hn : 0 < n) :
    ∀ (prs : List (Nat × Nat)) (G C : Nat), 2 ≤ G → (∀ p ∈ prs, p.1 < 2 ^ (W * n)) →
      (crtLoop W n prs (G, C) = none ↔ ¬ Admissible W n prs G) ∧
      ∀ G' C', crtLoop W n prs (G, C) = some (G', C') →
        G'.log2 = G.log2 + W * n * prs.length ∧ (prs ≠ [] ∨ C < 2 ^ G.log2 → C' < 2 ^ G'.log2) ∧
        ∀ X, Cong G C X → (∀ p ∈ prs, Cong (keyPoly W n p.1) p.2 X) → Cong G' C' X := by
  intro prs
  induction prs with
  | nil =>
    intro G C _ _
    refine ⟨by simp [crtLoop, Admissible], fun G' C' h => ?_⟩
    simp only [crtLoop, Option.some.injEq, Prod.mk.injEq] at h
    obtain ⟨rfl, rfl⟩ := h
    exact ⟨by simp, fun h => h.resolve_left (fun h => h rfl), fun X hX _ => hX⟩
  | cons p rest ih =>
    obtain ⟨m, s⟩ := p
    intro G C hG2 hm
    have hF2 := keyPoly_ge W n m hW hn
    have hF0 := keyPoly_ne_zero W n m
    have hG0 : G ≠ 0 := by omega
    have hmm : m < 2 ^ (W * n) := hm (m, s) List.mem_cons_self
    rw [crtLoop, admissible_cons]
    cases hst : crtStep (keyPoly W n m) s (G, C) with
    | none =>
      have hnc := (crtStep_none_iff hF0 hG0).1 hst
      exact ⟨⟨fun _ h => hnc h.1, fun _ => rfl⟩, fun _ _ h => by cases h⟩
    | some gc =>
      obtain ⟨G1, C1⟩ := gc
      have hFG : PCoprime (keyPoly W n m) G := Classical.byContradiction fun hc => by
        have := (crtStep_none_iff (s := s) (C := C) hF0 hG0).2 hc
        rw [hst] at this; cases this
      obtain ⟨hG1, hlog1, hC1⟩ := crtStep_shape hF2 hG2 hst
      obtain ⟨c1, c2⟩ := crtStep_cong hF2 hG2 hst
      have hG12 : 2 ≤ G1 := by
        apply two_le_of_log2_pos; rw [hlog1, keyPoly_log2 hmm]; have := Nat.mul_pos hW hn; omega
      obtain ⟨ihn, ihs⟩ := ih G1 C1 hG12 (fun p hp => hm p (List.mem_cons_of_mem _ hp))
      subst hG1
      refine ⟨by simpa [hFG] using ihn, fun G' C' h => ?_⟩
      obtain ⟨r1, r3, r4⟩ := ihs G' C' h
      refine ⟨?_, fun _ => r3 (Or.inr hC1), fun X hX hsh => ?_⟩
      · rw [r1, hlog1, keyPoly_log2 hmm, List.length_cons, Nat.mul_succ]; omega
      · exact r4 X (cong_mul_of_coprime hF0 hG0 hFG (cong_trans c2 (hsh _ List.mem_cons_self)) (cong_trans c1 hX))
          (fun p hp => hsh p (List.mem_cons_of_mem _ hp))


/-- (4) belsRecover fails (for arbitrary share values) iff the key polynomials are not pairwise
    coprime -/
theorem crtLoop_none_iff (W n m1 s1 : Nat) (prs : List (Nat × Nat)) (hW : 0 < W) (hn : 0 < n)
    (hm : ∀ p ∈ (m1, s1) :: prs, p.1 < 2 ^ (W * n)) :
    crtLoop W n prs (keyPoly W n m1, s1) = none ↔
      ¬ ((m1, s1) :: prs).Pairwise (fun p q => PCoprime (keyPoly W n p.1) (keyPoly W n q.1)) := by
  rw [(crtLoop_char W n hW hn prs _ s1 (keyPoly_ge W n m1 hW hn) (fun p hp => hm p (List.mem_cons_of_mem _ hp))).1,
    List.pairwise_cons, Admissible]
  simp only [pcoprime_comm (G := keyPoly W n m1)]

/-- (4) shape of ANY successful run: the degree of the product and the reducedness of C -/
theorem crtLoop_shape (W n : Nat) (hW : 0 < W) (hn : 0 < n) :
    ∀ (prs : List (Nat × Nat)) (i G C G' C' : Nat),
      (∀ p ∈ prs, p.1 < 2 ^ (W * n)) → 1 ≤ i → G.log2 = W * n * i →
      crtLoop W n prs (G, C) = some (G', C') →
      G'.log2 = W * n * (i + prs.length) ∧ (prs ≠ [] → C' < 2 ^ G'.log2) := by
  intro prs i G C G' C' hm hi hlog h
  have hG2 : 2 ≤ G := two_le_of_log2_pos (by rw [hlog]; exact Nat.mul_pos (Nat.mul_pos hW hn) hi)
  obtain ⟨r1, r3, _⟩ := (crtLoop_char W n hW hn prs G C hG2 hm).2 G' C' h
  exact ⟨by rw [r1, hlog, Nat.mul_add], fun h => r3 (Or.inl h)⟩

/-- (4) MAIN: from shares `pmod X (keyPoly mᵢ)` for pairwise coprime moduli whose degrees add up
    to more than deg X, the loop reconstructs X -/
theorem crtLoop_correct (W n X m1 s1 : Nat) (prs : List (Nat × Nat)) (hW : 0 < W) (hn : 0 < n)
    (hm : ∀ p ∈ (m1, s1) :: prs, p.1 < 2 ^ (W * n))
    (hsh : ∀ p ∈ (m1, s1) :: prs, p.2 = pmod X (keyPoly W n p.1))
    (hcop : ((m1, s1) :: prs).Pairwise (fun p q => PCoprime (keyPoly W n p.1) (keyPoly W n q.1)))
    (hX : X < 2 ^ (W * n * (prs.length + 1))) :
    ∃ G, crtLoop W n prs (keyPoly W n m1, s1) = some (G, X) := by
  have hG2 := keyPoly_ge W n m1 hW hn
  have hm' := fun p hp => hm p (List.mem_cons_of_mem _ hp)
  have hc : ∀ p ∈ (m1, s1) :: prs, Cong (keyPoly W n p.1) p.2 X := fun p hp => by
    rw [hsh p hp]; exact cong_pmod (keyPoly_ne_zero W n p.1) X
  have hsome := (crtLoop_char W n hW hn prs _ s1 hG2 hm').2
  cases h : crtLoop W n prs (keyPoly W n m1, s1) with
  | none => exact absurd hcop ((crtLoop_none_iff W n m1 s1 prs hW hn hm).1 h)
  | some gc =>
    obtain ⟨G', C'⟩ := gc
    obtain ⟨r1, r3, r4⟩ := hsome G' C' h
    have hlog : G'.log2 = W * n * (prs.length + 1) := by
      rw [r1, keyPoly_log2 (hm _ List.mem_cons_self), Nat.mul_succ, Nat.add_comm]
    have hG0 : G' ≠ 0 := by
      have := two_le_of_log2_pos (G := G') (by rw [hlog]; exact Nat.mul_pos (Nat.mul_pos hW hn) (by omega)); omega
    have hs : s1 = pmod X (keyPoly W n m1) := hsh _ List.mem_cons_self
    have hF0 := keyPoly_ne_zero W n m1
    have hC' : C' < 2 ^ G'.log2 := r3 (Or.inr (hs ▸ pmod_lt_two_pow hF0 X))
    exact ⟨G', by rw [cong_eq_of_lt hG0 hC' (hlog ▸ hX) (r4 X (hc _ List.mem_cons_self) (fun p hp => hc p (List.mem_cons_of_mem _ hp)))]⟩

-- non-vacuity: l = 3, moduli x^3 + x + 1, x^3 + x^2 + 1 (coprime), X = x^5 + x^3 + x^2 + 1
example : crtLoop 3 1 [(5, pmod 45 13)] (keyPoly 3 1 3, pmod 45 11) = some (clmul 11 13, 45) := by
  decide
-- the same modulus twice: failure
example : crtLoop 3 1 [(3, pmod 45 11)] (keyPoly 3 1 3, pmod 45 11) = none := by decide

/-! ## §4 the secret polynomial -/

/-- (5) the secret is the residue of c(x) modulo the dealer's polynomial -/
theorem secretPoly_mod (W n m0 k s : Nat) (hs : s < 2 ^ (W * n)) (hm0 : m0 < 2 ^ (W * n)) :
    pmod (secretPoly W n m0 k s) (keyPoly W n m0) = s := by
  have hF0 := keyPoly_ne_zero W n m0
  have hlog := keyPoly_log2 hm0
  obtain ⟨h1, h2⟩ := pdivmod_spec (secretPoly W n m0 k s) (keyPoly W n m0) hF0
  have hs' : s < 2 ^ (keyPoly W n m0).log2 := by rw [hlog]; exact hs
  have e : clmul (pdivmod (secretPoly W n m0 k s) (keyPoly W n m0)).1 (keyPoly W n m0)
      ^^^ (pdivmod (secretPoly W n m0 k s) (keyPoly W n m0)).2
      = clmul k (keyPoly W n m0) ^^^ s := by
    rw [h1, secretPoly, clmul_comm]
  exact (divmod_unique hF0 h2 hs' e).2

/-- (5) deg c(x) < l t -/
theorem secretPoly_lt (W n t m0 k s : Nat) (ht : 0 < t) (hs : s < 2 ^ (W * n))
    (hm0 : m0 < 2 ^ (W * n)) (hk : k < 2 ^ (W * (t * n - n))) :
    secretPoly W n m0 k s < 2 ^ (W * n * t) := by
  have hF0 := keyPoly_ne_zero W n m0
  have hlog := keyPoly_log2 hm0
  have hle : W * n ≤ W * n * t := Nat.le_mul_of_pos_right _ ht
  have hs' : s < 2 ^ (W * n * t) := Nat.lt_of_lt_of_le hs (Nat.pow_le_pow_right (by omega) hle)
  unfold secretPoly
  apply Nat.xor_lt_two_pow _ hs'
  by_cases hk0 : k = 0
  · subst hk0; rw [clmul_zero]; exact Nat.two_pow_pos _
  · have hne := clmul_ne_zero hF0 hk0
    have hl := log2_clmul hF0 hk0
    have hkl : k.log2 < W * (t * n - n) := (Nat.log2_lt hk0).2 hk
    have hnt : n ≤ t * n := Nat.le_mul_of_pos_left _ ht
    have e : W * n * t = W * n + W * (t * n - n) := by
      rw [← Nat.mul_add, Nat.add_sub_cancel' hnt, Nat.mul_assoc, Nat.mul_comm n t]
    apply (Nat.log2_lt hne).1
    rw [hl, hlog, e]
    omega

example : pmod (secretPoly 3 1 3 0b110 0b101) (keyPoly 3 1 3) = 0b101
    ∧ secretPoly 3 1 3 0b110 0b101 < 2 ^ (3 * 1 * 2) := by decide

end Bee2V.C13.Crt
