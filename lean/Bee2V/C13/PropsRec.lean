/-
C13 — property theorems, part 1: belsShare / belsRecover (src/crypto/bels.c) over the register
model of Model.lean.  For ALL word sizes W ≥ 1, key lengths n ≥ 1 words (l = W n bits), thresholds,
numbers of users, secrets, keys and generator outputs.

Notation: `keyPoly W n m = x^l + m(x)`; `secretPoly W n m0 k s = (x^l + m0) k + s`;
`shareSpec W n m0 k s m = secretPoly mod (x^l + m)` (STB 34.101.60, bels-share);
`PCoprime a b` = no common divisor except 1; `recoverCore W n m0 prs` = the computation of
belsRecover on the (key, share) pairs `prs` IN THE ORDER GIVEN: (err_t, secret).
Lemmas: LemmasGcd.lean (binary extended gcd = gcd), LemmasCrt.lean (CRT algebra),
LemmasReg.lean (registers with the declared word counts = algebra), LemmasStd.lean (standard keys).
-/
import Bee2V.C13.LemmasReg
import Bee2V.C13.LemmasCrt
import Bee2V.C13.LemmasStd
namespace Bee2V.C13
open Bee2V.C05 (ppExGCDV)
open Bee2V.C05.Spec (clmul pmod pgcd)
open Bee2V.C05.Pp (PDvd Cong)

/-! ## (iii-a) the binary extended gcd of pp_gcd.c -/

open Gcd Bee2V.C05.Pp in
/-- ppExGCD (value-level model of the binary algorithm) returns THE gcd and Bezout coefficients -/
theorem exgcd_is_gcd (a b : Nat) (ha : a ≠ 0) (hb : b ≠ 0) :
    (ppExGCDV a b).1 = pgcd a b ∧
    clmul a (ppExGCDV a b).2.1 ^^^ clmul b (ppExGCDV a b).2.2 = pgcd a b :=
  ⟨exGCDV_fst_eq_pgcd ha hb, by rw [exGCDV_bezout ha hb, exGCDV_fst_eq_pgcd ha hb]⟩

example : (ppExGCDV 0b1011 0b1101).1 = 1 := by decide

/-- … and it returns 1 exactly for coprime arguments -/
theorem exgcd_one_iff_coprime (a b : Nat) (ha : a ≠ 0) (hb : b ≠ 0) :
    (ppExGCDV a b).1 = 1 ↔ PCoprime a b := Gcd.exGCDV_one_iff ha hb

/-! ## (ii) every share equals the standard's value -/

open Reg Bee2V.C05.Pp in
/-- belsShare / belsShare2: the i-th share written is `((x^l + m0) k + s) mod (x^l + m_i)`, where
    `k` is the `(t-1) n` words the generator delivered -/
theorem share_equals_standard (W n t s m0 k : Nat) (mi : List Nat) (hW : 0 < W) (hn : 0 < n)
    (ht : 0 < t) (hs : s < 2 ^ (W * n)) (hm0 : m0 < 2 ^ (W * n)) (hmi : ∀ m ∈ mi, m < 2 ^ (W * n)) :
    shareCore W n t s m0 mi k = mi.map (shareSpec W n m0 (lowW W (t * n - n) k) s) := by
  have _ := hn
  have hk := lowW_lt W (t * n - n) k
  have hc := shareC_snd ht hs hm0 hk
  have e : t * n - n + n = t * n := by
    have : n ≤ t * n := Nat.le_mul_of_pos_left n ht
    omega
  have hlt : secretPoly W n m0 (lowW W (t * n - n) k) s < 2 ^ (W * (t * n)) := by
    unfold secretPoly
    apply Nat.xor_lt_two_pow
    · have h3 := clmul_key_lt_words (q := n) (m := m0) hk hm0
      rw [e] at h3
      rw [clmul_comm]
      exact h3
    · exact Nat.lt_of_lt_of_le hs (pow_le_pow_words W (by omega))
  unfold shareCore
  dsimp only
  rw [hc, shareLoop_spec hW hlt mi _ hmi]
  rfl

example : shareCore 8 2 2 0x1234 0x87 [0x285, 0xC41] 0xBEEF =
    [shareSpec 8 2 0x87 0xBEEF 0x1234 0x285, shareSpec 8 2 0x87 0xBEEF 0x1234 0xC41] := by decide

/-! ## (v) the declared operand lengths never truncate: registers = algebra -/

open Reg in
/-- belsRecover with its buffers, word counts and stale high words computes exactly the
    register-free incremental CRT `crtLoop` (Defs.lean) followed by the reduction modulo x^l + m0;
    ERR_BAD_PUBKEY exactly when the algebra stops at a gcd ≠ 1.  (Every `lowW`/`setLow` of
    `recStep` is the identity on the values that occur: `Reg.recStep_sim`.) -/
theorem recover_registers_exact (W n m0 m1 s1 : Nat) (rest : List (Nat × Nat)) (hW : 0 < W) (hn : 0 < n)
    (hm0 : m0 < 2 ^ (W * n))
    (h : ∀ p ∈ (m1, s1) :: rest, p.1 < 2 ^ (W * n) ∧ p.2 < 2 ^ (W * n)) :
    recoverCore W n m0 ((m1, s1) :: rest) =
      match crtLoop W n rest (keyPoly W n m1, s1) with
      | none => (ERR_BAD_PUBKEY, 0)
      | some (_, C) => (ERR_OK, pmod C (keyPoly W n m0)) := by
  have h1 := h (m1, s1) (List.mem_cons_self ..)
  have hsim := recLoop_sim W n hW hn rest 1 (recInit W n m1 s1) _ _
    (fun x hx => h x (List.mem_cons_of_mem _ hx)) (Nat.le_refl 1) (recInit_inv W n m1 s1 hW h1.1 h1.2)
  rw [recoverCore]
  cases hl : recLoop W n rest 1 (recInit W n m1 s1) <;> cases hc : crtLoop W n rest (keyPoly W n m1, s1) <;>
    rw [hl, hc] at hsim  -- closes the case none / none by `rfl`
  · exact hsim.elim
  · exact hsim.elim
  · dsimp only
    rw [Nat.add_comm rest.length 1, recFinal_eq W n _ m0 _ _ _ hW hm0 hsim]

/-! ## (i) the CRT invariant and the main theorem -/

/-- one iteration of the loop: the new accumulator is congruent to the old one modulo the old
    product and to the new share modulo the new key polynomial, and it is reduced -/
theorem crt_step_invariant {F s G C G' C' : Nat} (hF : 2 ≤ F) (hG : 2 ≤ G)
    (h : crtStep F s (G, C) = some (G', C')) :
    G' = clmul F G ∧ Cong G C' C ∧ Cong F C' s ∧ C' < 2 ^ G'.log2 := by
  obtain ⟨h1, _, h3⟩ := Crt.crtStep_shape hF hG h
  obtain ⟨h4, h5⟩ := Crt.crtStep_cong hF hG h
  exact ⟨h1, h4, h5, h3⟩

example : crtStep 0b1011 0b10 (0b1101, 0b11) = some (clmul 0b1011 0b1101, 20) ∧ pmod 20 0b1011 = 0b10 ∧ pmod 20 0b1101 = 0b11 := by decide

theorem shareSpec_lt (W n m0 k s m : Nat) (hm : m < 2 ^ (W * n)) : shareSpec W n m0 k s m < 2 ^ (W * n) := by
  have := Bee2V.C05.Pp.pmod_lt_two_pow (Crt.keyPoly_ne_zero W n m) (secretPoly W n m0 k s)
  rwa [Crt.keyPoly_log2 hm] at this

/-- MAIN.  Any list `prs` of at least `t` (key, share) pairs — any subset of the users, in any
    order, repetitions excluded by coprimality — whose shares are the standard's values for the
    secret `s` and a generator output `k` of `(t-1) n` words, with pairwise coprime key polynomials:
    belsRecover returns ERR_OK and the secret. -/
theorem recover_any_subset_any_order (W n t s m0 k : Nat) (prs : List (Nat × Nat))
    (hW : 0 < W) (hn : 0 < n) (ht : 0 < t) (hs : s < 2 ^ (W * n)) (hm0 : m0 < 2 ^ (W * n))
    (hk : k < 2 ^ (W * (t * n - n)))
    (hm : ∀ p ∈ prs, p.1 < 2 ^ (W * n))
    (hsh : ∀ p ∈ prs, p.2 = shareSpec W n m0 k s p.1)
    (hcop : prs.Pairwise (fun p q => PCoprime (keyPoly W n p.1) (keyPoly W n q.1)))
    (hlen : t ≤ prs.length) :
    recoverCore W n m0 prs = (ERR_OK, s) := by
  cases prs with
  | nil => simp at hlen; omega
  | cons p rest =>
    obtain ⟨m1, s1⟩ := p
    have hb : ∀ p ∈ (m1, s1) :: rest, p.1 < 2 ^ (W * n) ∧ p.2 < 2 ^ (W * n) := by
      intro p hp
      refine ⟨hm p hp, ?_⟩
      rw [hsh p hp]; exact shareSpec_lt W n m0 k s p.1 (hm p hp)
    rw [recover_registers_exact W n m0 m1 s1 rest hW hn hm0 hb]
    have hX : secretPoly W n m0 k s < 2 ^ (W * n * (rest.length + 1)) := by
      have h1 := Crt.secretPoly_lt W n t m0 k s ht hs hm0 hk
      have h2 : W * n * t ≤ W * n * (rest.length + 1) := Nat.mul_le_mul_left _ (by simpa using hlen)
      exact Nat.lt_of_lt_of_le h1 (Nat.pow_le_pow_right (by omega) h2)
    obtain ⟨G, hG⟩ := Crt.crtLoop_correct W n (secretPoly W n m0 k s) m1 s1 rest hW hn hm
      (fun p hp => hsh p hp) hcop hX
    rw [hG]
    simp only [Crt.secretPoly_mod W n m0 k s hs hm0]

/-- non-vacuity: toy parameters W = 8, n = 1 (l = 8), threshold 2, users with the coprime keys
    x^8 + 0x1B, x^8 + 0x1D, x^8 + 0x2B; shares of users 3 and 1, in this order -/
example : recoverCore 8 1 0x1B [(0x2B, shareSpec 8 1 0x1B 0x5A 0xC3 0x2B), (0x1D, shareSpec 8 1 0x1B 0x5A 0xC3 0x1D)]
    = (ERR_OK, 0xC3) := by decide

/-- end to end: split with belsShare (keys `mi`, pairwise coprime), take ANY list of the produced
    (key, share) pairs of length ≥ t with pairwise coprime keys, in any order: belsRecover
    returns the secret -/
theorem share_then_recover (W n t s m0 k : Nat) (mi : List Nat) (prs : List (Nat × Nat))
    (hW : 0 < W) (hn : 0 < n) (ht : 0 < t) (hs : s < 2 ^ (W * n)) (hm0 : m0 < 2 ^ (W * n))
    (hmi : ∀ m ∈ mi, m < 2 ^ (W * n))
    (hsel : ∀ p ∈ prs, p ∈ mi.zip (shareCore W n t s m0 mi k))
    (hcop : prs.Pairwise (fun p q => PCoprime (keyPoly W n p.1) (keyPoly W n q.1)))
    (hlen : t ≤ prs.length) :
    recoverCore W n m0 prs = (ERR_OK, s) := by
  rw [share_equals_standard W n t s m0 k mi hW hn ht hs hm0 hmi] at hsel
  have hz : ∀ (l : List Nat) (f : Nat → Nat) (p : Nat × Nat), p ∈ l.zip (l.map f) → p.1 ∈ l ∧ p.2 = f p.1 := by
    intro l f
    induction l with
    | nil => intro p hp; simp at hp
    | cons a l ih =>
      intro p hp
      simp only [List.map_cons, List.zip_cons_cons, List.mem_cons] at hp
      rcases hp with hp | hp
      · subst hp; exact ⟨List.mem_cons_self .., rfl⟩
      · exact ⟨List.mem_cons_of_mem _ (ih p hp).1, (ih p hp).2⟩
  apply recover_any_subset_any_order W n t s m0 (lowW W (t * n - n) k) prs hW hn ht hs hm0
    (Reg.lowW_lt W (t * n - n) k)
  · intro p hp; exact hmi _ (hz _ _ p (hsel p hp)).1
  · intro p hp; exact (hz _ _ p (hsel p hp)).2
  · exact hcop
  · exact hlen

/-! ## (iii) the error code -/

/-- for ANY share values: belsRecover fails — with ERR_BAD_PUBKEY — exactly when two of the key
    polynomials presented are not coprime; otherwise it returns ERR_OK -/
theorem recover_error_iff (W n m0 : Nat) (prs : List (Nat × Nat)) (hW : 0 < W) (hn : 0 < n)
    (hne : prs ≠ []) (hm0 : m0 < 2 ^ (W * n))
    (h : ∀ p ∈ prs, p.1 < 2 ^ (W * n) ∧ p.2 < 2 ^ (W * n)) :
    ((recoverCore W n m0 prs).1 = ERR_BAD_PUBKEY ↔
      ¬ prs.Pairwise (fun p q => PCoprime (keyPoly W n p.1) (keyPoly W n q.1))) ∧
    ((recoverCore W n m0 prs).1 = ERR_OK ↔
      prs.Pairwise (fun p q => PCoprime (keyPoly W n p.1) (keyPoly W n q.1))) := by
  cases prs with
  | nil => exact absurd rfl hne
  | cons p rest =>
    obtain ⟨m1, s1⟩ := p
    rw [recover_registers_exact W n m0 m1 s1 rest hW hn hm0 h]
    have hiff := Crt.crtLoop_none_iff W n m1 s1 rest hW hn (fun p hp => (h p hp).1)
    cases hc : crtLoop W n rest (keyPoly W n m1, s1) with
    | none =>
      have hnp := hiff.1 hc
      exact ⟨⟨fun _ => hnp, fun _ => rfl⟩, ⟨fun h => absurd h (by show ¬ (ERR_BAD_PUBKEY = ERR_OK); decide), fun h => absurd h hnp⟩⟩
    | some gc =>
      obtain ⟨G, C⟩ := gc
      have hp : ((m1, s1) :: rest).Pairwise (fun p q => PCoprime (keyPoly W n p.1) (keyPoly W n q.1)) :=
        Classical.byContradiction fun hcon => by
          have := hiff.2 hcon
          rw [hc] at this; cases this
      exact ⟨⟨fun h => absurd h (by show ¬ (ERR_OK = ERR_BAD_PUBKEY); decide), fun h => absurd hp h⟩, ⟨fun _ => hp, fun _ => rfl⟩⟩

example : (recoverCore 8 1 0x1B [(0x2B, 1), (0x2B, 1)]).1 = ERR_BAD_PUBKEY := by decide

/-- distinct irreducible polynomials of the same degree are coprime — so distinct VALID keys
    (belsValM's meaning) never produce the error -/
theorem irreducible_distinct_coprime {f g : Nat} (hf : PIrred f) (hg : PIrred g) (hdeg : f.log2 = g.log2)
    (hne : f ≠ g) : PCoprime f g := by
  have _ := hdeg
  intro d hdf hdg
  rcases hf.2 d hdf with h | h
  · exact h
  · rcases hg.2 d hdg with h' | h'
    · exact h'
    · exact absurd (h.symm.trans h') hne

example : PIrred 0b111 := by
  refine ⟨by decide, fun d hd => ?_⟩
  obtain ⟨q, hq⟩ := hd
  have h1 := Reg.log2_le_of_pdvd (a := 7) (d := d) (by decide) ⟨q, hq⟩
  have h2 := Reg.log2_le_of_pdvd (a := 7) (d := q) (by decide) ⟨d, by rw [hq, Bee2V.C05.Pp.clmul_comm]⟩
  have e : (7 : Nat).log2 = 2 := by decide
  rw [e] at h1 h2
  have hd8 : d < 2 ^ 3 := (Nat.log2_lt h1.1).1 (by omega)
  have hq8 : q < 2 ^ 3 := (Nat.log2_lt h2.1).1 (by omega)
  have key : ∀ d < 8, ∀ q < 8, 7 = clmul q d → d = 1 ∨ d = 7 := by decide
  exact key d hd8 q hq8 hq

example : PCoprime (keyPoly 64 2 (stdM 16 1)) (keyPoly 64 2 (stdM 16 16)) :=
  Std.std_coprime (Or.inl rfl) rfl (by decide) (by decide) (by decide)

end Bee2V.C13
