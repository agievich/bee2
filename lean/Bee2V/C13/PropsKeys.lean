/-
C13 — property theorems, part 3: validity of keys (belsValM, belsGenMi, belsGenMid) and recovery
with valid / generated keys without a coprimality hypothesis.
Rests on C05's theorems about its value-level models (Ben-Or test ⇔ irreducible; ppMinPolyMod =
the minimal polynomial), transported by LemmasBridge.lean / LemmasIrr.lean; the standard polynomial of degree 128 is
irreducible by Rabin's test (C06/LemmasTop3).
`NatIrred f` (C05): degree ≥ 1 and every factorisation f = b·c has b = 1 or c = 1; it is
`Irreducible (decode f)` over `(ZMod 2)[X]` (C05 `natIrred_iff_irreducible`).
-/
import Bee2V.C13.LemmasIrr
import Bee2V.C13.Props
import Bee2V.C12.LemmasCascade
import Bee2V.C06.LemmasTop3
namespace Bee2V.C13
open Bee2V.C05 (NatIrred)
open Bee2V.C05.Spec (clmul pmod)

/-! ## belsValM -/

/-- belsValM returns ERR_OK exactly for a valid length and an irreducible x^l + m0 -/
theorem belsValM_iff_irreducible (len m0 : Nat) :
    belsValM len m0 = ERR_OK ↔ validLen len = true ∧ NatIrred (2 ^ (8 * len) + m0 % 2 ^ (8 * len)) := by
  simp only [belsValM, ERR_OK, ERR_BAD_INPUT, ERR_BAD_PUBKEY, Bee2V.C12.ite_err_eq_zero Bee2V.C12.e109,
    Bee2V.C12.ite_else_err_eq_zero Bee2V.C12.e505, Bool.not_eq_true', Bool.not_eq_false, and_true,
    Bridge.ppIsIrred_eq, Bee2V.C05.ppIsIrredV_iff]

/-- the same in Mathlib's terms -/
theorem belsValM_iff_mathlib_irreducible (len m0 : Nat) :
    belsValM len m0 = ERR_OK ↔
      validLen len = true ∧ Irreducible (Bee2V.C05.Fld.decode (2 ^ (8 * len) + m0 % 2 ^ (8 * len))) := by
  rw [belsValM_iff_irreducible, Bee2V.C05.natIrred_iff_irreducible]

/-- x^128 + x^7 + x^2 + x + 1, by Rabin's test (`C06.natIrred_of_rabin`): the degree is 2^7, so the Frobenius orbit of
    length 128 (through C06's evaluator `frobFast` for sparse moduli) and one gcd, with x^(2^64) + x, run by the kernel -/
theorem natIrred_std16 : NatIrred (2 ^ 128 + 0x87) := by
  have h : (2 ^ 128 + 0x87 : Nat).log2 = 128 := by decide +kernel
  have hf : (2 ^ 128 + 0x87 : Nat) = 2 ^ 128 ^^^ Bee2V.C06.shlSum [7, 2, 1, 0] 1 := by decide +kernel
  refine Bee2V.C06.natIrred_of_rabin (by rw [h]; decide) ?_ fun p hp hd => ?_
  · rw [h, ← Bee2V.C06.frobFast_eq hf h (by decide)]; decide +kernel
  · rw [h] at hd ⊢
    obtain rfl : p = 2 := (Nat.prime_dvd_prime_iff_eq hp Nat.prime_two).1 (hp.dvd_of_dvd_pow (n := 7) hd)
    rw [← Bee2V.C06.frobFast_eq hf h (by decide)]; decide +kernel

example : belsValM 16 0x87 = ERR_OK := (belsValM_iff_irreducible 16 0x87).2 ⟨rfl, natIrred_std16⟩
example : NatIrred (2 ^ 128 + 0x87) := natIrred_std16

/-- otherwise the code is ERR_BAD_INPUT (length) or ERR_BAD_PUBKEY -/
theorem belsValM_codes (len m0 : Nat) :
    belsValM len m0 = ERR_OK ∨ belsValM len m0 = ERR_BAD_INPUT ∨ belsValM len m0 = ERR_BAD_PUBKEY := by
  unfold belsValM
  split
  · exact Or.inr (Or.inl rfl)
  · split
    · exact Or.inl rfl
    · exact Or.inr (Or.inr rfl)

/-! ## which candidates are accepted -/

/-- belsGenMi / belsGenMid accept a candidate u (reduced modulo the irreducible f0 of degree l)
    exactly when u ≠ 0, its minimal polynomial has degree l — u lies in no proper subfield of
    GF(2)[x]/(f0) — and the minimal polynomial is not f0 itself (u is no conjugate of x) -/
theorem candidate_accepted_iff {f0 l u : Nat} (hI : NatIrred f0) (hl : f0.log2 = l) (hu : u < 2 ^ l) :
    miAccept l (ppMinPolyMod u f0) f0 = true ↔
      u ≠ 0 ∧ (ppMinPolyMod u f0).log2 = l ∧ ppMinPolyMod u f0 ≠ f0 :=
  Irr.accept_iff hI hl hu

-- GF(16) = GF(2)[x]/(x^4 + x + 1): x is rejected (conjugate of x), x^2 + x lies in GF(4), x^3 is accepted
example : miAccept 4 (ppMinPolyMod 0b10 0b10011) 0b10011 = false ∧ miAccept 4 (ppMinPolyMod 0b110 0b10011) 0b10011 = false
    ∧ miAccept 4 (ppMinPolyMod 0b1000 0b10011) 0b10011 = true ∧ ppMinPolyMod 0b1000 0b10011 = 0b11111 := by decide +kernel

theorem key_valid_of_minpoly {len m0 m u : Nat} (hval : belsValM len m0 = ERR_OK)
    (hu : u < 2 ^ (8 * len)) (hm : m < 2 ^ (8 * len))
    (he : ppMinPolyMod u (keyPoly 8 len (m0 % 2 ^ (8 * len))) = keyPoly 8 len m) :
    belsValM len m = ERR_OK ∧ NatIrred (keyPoly 8 len m) := by
  obtain ⟨hv, hI⟩ := (belsValM_iff_irreducible len m0).1 hval
  have hI' : NatIrred (keyPoly 8 len (m0 % 2 ^ (8 * len))) := hI
  have : Fact (NatIrred (keyPoly 8 len (m0 % 2 ^ (8 * len)))) := ⟨hI'⟩
  have hlog : (keyPoly 8 len (m0 % 2 ^ (8 * len))).log2 = 8 * len :=
    Crt.keyPoly_log2 (Nat.mod_lt _ (Nat.two_pow_pos _))
  have hu0 : u ≠ 0 := by
    intro h0
    rw [h0, Bridge.ppMinPolyMod_eq, Irr.minPoly_zero] at he
    have := Nat.two_pow_pos (8 * len)
    have h2 : 2 ≤ keyPoly 8 len m := by
      have hl1 : 1 ≤ 8 * len := hlog ▸ hI'.1
      have := Nat.pow_le_pow_right (by omega : 1 ≤ 2) hl1
      unfold keyPoly; omega
    omega
  have hirr : NatIrred (keyPoly 8 len m) := by
    rw [← he, Bridge.ppMinPolyMod_eq]
    exact (Bee2V.C05.ppMinPolyModV_irred u hu0 (by rw [hlog]; exact hu)).1
  refine ⟨(belsValM_iff_irreducible len m).2 ⟨hv, ?_⟩, hirr⟩
  rw [Nat.mod_eq_of_lt hm]; exact hirr

/-! ## (iv) generated user keys are valid -/

/-- belsGenMid (after hashing, `h` = belt-hash of the identifier) with a VALID common key:
    ERR_OK ⇒ the key written passes belsValM (x^l + mid irreducible of degree l), differs from m0,
    and is the minimal polynomial of the FIRST of h, h+1, h+2 (mod 2^l) that is acceptable
    (`candidate_accepted_iff`).  Determinism in the identifier: `belsGenMid` is a function of
    (len, m0, id) only. -/
theorem genMid_valid (len m0 h m : Nat) (hval : belsValM len m0 = ERR_OK)
    (hr : belsGenMidH len m0 h = (ERR_OK, some m)) :
    belsValM len m = ERR_OK ∧ NatIrred (keyPoly 8 len m) ∧ m < 2 ^ (8 * len) ∧ m ≠ m0 % 2 ^ (8 * len) ∧
    ∃ j, j < 3 ∧ ppMinPolyMod (Gen.midCand len (h % 2 ^ (8 * len)) j) (keyPoly 8 len (m0 % 2 ^ (8 * len)))
        = keyPoly 8 len m := by
  obtain ⟨_, h2, h3, j, hj, he⟩ := genMid_ok_partial len m0 h m hr
  have hu := Irr.midCand_lt len (h % 2 ^ (8 * len)) (Nat.mod_lt _ (Nat.two_pow_pos _)) j
  obtain ⟨hv, hi⟩ := key_valid_of_minpoly hval hu h2 he
  exact ⟨hv, hi, h2, h3, j, hj, he⟩

/-- belsGenMi with a VALID common key: ERR_OK ⇒ the key written passes belsValM, differs from m0 and
    is the minimal polynomial of one of the first three `len`-octet elements of the generator tape -/
theorem genMi_valid (len m0 m : Nat) (tp : Tape) (hval : belsValM len m0 = ERR_OK)
    (hr : belsGenMi len m0 tp = (ERR_OK, some m)) :
    belsValM len m = ERR_OK ∧ NatIrred (keyPoly 8 len m) ∧ m < 2 ^ (8 * len) ∧ m ≠ m0 % 2 ^ (8 * len) ∧
    ∃ j, j < 3 ∧ ppMinPolyMod (Gen.tapeCand len tp j) (keyPoly 8 len (m0 % 2 ^ (8 * len))) = keyPoly 8 len m := by
  obtain ⟨_, h2, h3, j, hj, he⟩ := genMi_ok_partial len m0 m tp hr
  obtain ⟨hv, hi⟩ := key_valid_of_minpoly hval (Irr.tapeCand_lt len tp j) h2 he
  exact ⟨hv, hi, h2, h3, j, hj, he⟩

/-- belsGenM0: ERR_OK ⇒ the common key written passes belsValM -/
theorem genM0_valid (len m : Nat) (tp : Tape) (hr : belsGenM0 len tp = (ERR_OK, some m)) :
    belsValM len m = ERR_OK ∧ m < 2 ^ (8 * len) := by
  unfold belsGenM0 at hr
  by_cases hv : validLen len = true
  · simp only [hv, Bool.not_true, Bool.false_eq_true, if_false] at hr
    cases hg : genM0Loop len (len * 8 * 64 * 3 / 4) tp with
    | none => rw [hg] at hr; simp [ERR_OK, ERR_BAD_ANG] at hr
    | some m' =>
      rw [hg] at hr
      simp only [Prod.mk.injEq, Option.some.injEq, true_and] at hr
      subst hr
      obtain ⟨h1, h2⟩ := Irr.genM0Loop_some len _ tp m' hg
      refine ⟨?_, h2⟩
      unfold belsValM
      simp only [hv, Bool.not_true, Bool.false_eq_true, if_false, Nat.mod_eq_of_lt h2, h1, if_true]
  · have hv' : validLen len = false := by simpa using hv
    simp [hv', ERR_OK, ERR_BAD_INPUT] at hr

/-! ## (i) + (iv): recovery with valid keys needs no coprimality hypothesis -/

/-- Any list of at least t (key, share) pairs whose keys pass belsValM (in particular: keys produced
    by belsGenMi / belsGenMid from a valid common key, `genMi_valid` / `genMid_valid`) and are pairwise
    DISTINCT, in any order, with the standard's share values: belsRecover returns the secret. -/
theorem recover_valid_distinct_keys (W n len t s m0 k : Nat) (prs : List (Nat × Nat))
    (hWn : W * n = 8 * len) (hW : 0 < W) (hn : 0 < n) (ht : 0 < t)
    (hs : s < 2 ^ (W * n)) (hm0 : m0 < 2 ^ (W * n)) (hk : k < 2 ^ (W * (t * n - n)))
    (hm : ∀ p ∈ prs, p.1 < 2 ^ (W * n))
    (hval : ∀ p ∈ prs, belsValM len p.1 = ERR_OK)
    (hdist : prs.Pairwise (fun p q => p.1 ≠ q.1))
    (hsh : ∀ p ∈ prs, p.2 = shareSpec W n m0 k s p.1)
    (hlen : t ≤ prs.length) :
    recoverCore W n m0 prs = (ERR_OK, s) := by
  apply recover_any_subset_any_order W n t s m0 k prs hW hn ht hs hm0 hk hm hsh _ hlen
  refine List.Pairwise.imp_of_mem ?_ hdist
  intro p q hp hq hne
  have irr : ∀ r ∈ prs, PIrred (keyPoly W n r.1) := by
    intro r hr
    have h1 := ((belsValM_iff_irreducible len r.1).1 (hval r hr)).2
    have h2 := hm r hr
    rw [hWn] at h2
    rw [Nat.mod_eq_of_lt h2] at h1
    unfold keyPoly; rw [hWn]
    exact Irr.pirred_of_natIrred h1
  apply irreducible_distinct_coprime (irr p hp) (irr q hq)
  · rw [Crt.keyPoly_log2 (hm p hp), Crt.keyPoly_log2 (hm q hq)]
  · unfold keyPoly; omega

end Bee2V.C13
