/-
C13 — the register model of bels.c (Model.lean: `shareCore`, `recStep`, `recLoop`, `recFinal`,
`recoverCore`) with its declared operand lengths computes exactly the register-free algebra of
Defs.lean (`shareSpec`, `crtStep`, `crtLoop`): no operand is ever truncated and every result lands
where the next read expects it.
-/
import Bee2V.C13.LemmasCrt
namespace Bee2V.C13.Reg
open Bee2V.C05 (ppExGCDV)
open Bee2V.C05.Spec (clmul pmod pdivmod)
open Bee2V.C05.Pp
open Bee2V.C13.Crt (keyPoly_ne_zero keyPoly_log2 keyPoly_ge)

/-! ## R0 register algebra -/

theorem lowW_lt (W k x : Nat) : lowW W k x < 2 ^ (W * k) := Nat.mod_lt _ (Nat.two_pow_pos _)

theorem lowW_of_lt {W k x : Nat} (h : x < 2 ^ (W * k)) : lowW W k x = x := Nat.mod_eq_of_lt h

theorem pow_dvd_pow_words (W : Nat) {k' k : Nat} (h : k' ≤ k) : 2 ^ (W * k') ∣ 2 ^ (W * k) :=
  Nat.pow_dvd_pow 2 (Nat.mul_le_mul_left W h)

theorem pow_le_pow_words (W : Nat) {k' k : Nat} (h : k' ≤ k) : 2 ^ (W * k') ≤ 2 ^ (W * k) :=
  Nat.pow_le_pow_right (by omega) (Nat.mul_le_mul_left W h)

theorem lowW_lowW {W k' k : Nat} (h : k' ≤ k) (x : Nat) : lowW W k' (lowW W k x) = lowW W k' x :=
  Nat.mod_mod_of_dvd _ (pow_dvd_pow_words W h)

theorem lowW_setLow_le {W k' k : Nat} (h : k' ≤ k) (old new : Nat) :
    lowW W k' (setLow W k old new) = lowW W k' new := by
  unfold lowW setLow
  have hd := pow_dvd_pow_words W h
  rw [Nat.add_mod, Nat.mod_eq_zero_of_dvd (Nat.dvd_mul_left_of_dvd hd _), Nat.zero_add,
    Nat.mod_mod, Nat.mod_mod_of_dvd _ hd]

theorem lowW_setLow (W k old new : Nat) : lowW W k (setLow W k old new) = lowW W k new :=
  lowW_setLow_le (Nat.le_refl k) old new

/-- `wwFrom(r, x, len)`, or an output of exactly `k` words -/
theorem holds_setLow {W k old x : Nat} (h : x < 2 ^ (W * k)) : lowW W k (setLow W k old x) = x :=
  (lowW_setLow W k old x).trans (lowW_of_lt h)

theorem holds_setLow_le {W k' k old x : Nat} (hk : k' ≤ k) (h : x < 2 ^ (W * k')) :
    lowW W k' (setLow W k old x) = x :=
  (lowW_setLow_le hk old x).trans (lowW_of_lt h)

theorem setLow_zero {W k new : Nat} (h : new < 2 ^ (W * k)) : setLow W k 0 new = new := by
  unfold setLow
  rw [Nat.zero_div, Nat.zero_mul, Nat.zero_add, Nat.mod_eq_of_lt h]

theorem setLow_zero_lt (W k new : Nat) : setLow W k 0 new < 2 ^ (W * k) := by
  unfold setLow
  rw [Nat.zero_div, Nat.zero_mul, Nat.zero_add]
  exact Nat.mod_lt _ (Nat.two_pow_pos _)

/-- word `k` of a region on top of its `k` low words -/
theorem lowW_succ (W k x : Nat) :
    lowW W (k + 1) x = lowW W k x + x / 2 ^ (W * k) % 2 ^ W * 2 ^ (W * k) := by
  unfold lowW
  rw [Nat.mul_add, Nat.mul_one, Nat.pow_add, Nat.mod_mul, Nat.mul_comm (2 ^ (W * k))]

theorem lowW_setWord (W k old w : Nat) :
    lowW W (k + 1) (setWord W k old w) = lowW W k old + w % 2 ^ W * 2 ^ (W * k) := by
  unfold setWord
  rw [lowW_setLow]
  apply lowW_of_lt
  have h1 := lowW_lt W k old
  have h2 : w % 2 ^ W < 2 ^ W := Nat.mod_lt _ (Nat.two_pow_pos _)
  rw [Nat.mul_add, Nat.mul_one, Nat.pow_add]
  calc lowW W k old + w % 2 ^ W * 2 ^ (W * k)
      < 2 ^ (W * k) + w % 2 ^ W * 2 ^ (W * k) := by omega
    _ = (w % 2 ^ W + 1) * 2 ^ (W * k) := by rw [Nat.add_mul, Nat.one_mul, Nat.add_comm]
    _ ≤ 2 ^ W * 2 ^ (W * k) := Nat.mul_le_mul_right _ h2
    _ = 2 ^ (W * k) * 2 ^ W := Nat.mul_comm _ _

theorem shl_lt_words {W off k K x : Nat} (h : off + k ≤ K) (hx : x < 2 ^ (W * k)) :
    x <<< (W * off) < 2 ^ (W * K) := by
  rw [Nat.shiftLeft_eq]
  calc x * 2 ^ (W * off) < 2 ^ (W * k) * 2 ^ (W * off) :=
        Nat.mul_lt_mul_of_pos_right hx (Nat.two_pow_pos _)
    _ = 2 ^ (W * (off + k)) := by rw [← Nat.pow_add, ← Nat.mul_add, Nat.add_comm]
    _ ≤ 2 ^ (W * K) := pow_le_pow_words W h

theorem lowW_xor (W K a b : Nat) : lowW W K (a ^^^ b) = lowW W K a ^^^ lowW W K b :=
  Nat.xor_mod_two_pow

theorem lowW_xorAt {W off k K : Nat} (h : off + k ≤ K) (a b : Nat) :
    lowW W K (xorAt W off k a b) = lowW W K a ^^^ (lowW W k b <<< (W * off)) := by
  unfold xorAt
  rw [lowW_xor, lowW_of_lt (shl_lt_words h (lowW_lt W k b))]

theorem two_pow_add_eq_xor {L m : Nat} (h : m < 2 ^ L) : 2 ^ L + m = 2 ^ L ^^^ m := by
  have h0 := Nat.two_pow_add_eq_or_of_lt h 1
  rw [Nat.mul_one] at h0
  rw [h0]
  apply Nat.eq_of_testBit_eq
  intro j
  rw [Nat.testBit_or, Nat.testBit_xor, Nat.testBit_two_pow]
  by_cases hj : L = j
  · subst hj; simp [Nat.testBit_lt_two_pow h]
  · simp [hj]

theorem word_eq (W k x : Nat) : lowW W (k + 1) x / 2 ^ (W * k) = x / 2 ^ (W * k) % 2 ^ W := by
  rw [lowW_succ, Nat.add_mul_div_right _ _ (Nat.two_pow_pos _), Nat.div_eq_of_lt (lowW_lt W k x),
    Nat.zero_add]

theorem setLow_div (W k old new : Nat) : setLow W k old new / 2 ^ (W * k) = old / 2 ^ (W * k) := by
  unfold setLow
  rw [Nat.add_comm, Nat.add_mul_div_right _ _ (Nat.two_pow_pos _),
    Nat.div_eq_of_lt (Nat.mod_lt _ (Nat.two_pow_pos _)), Nat.zero_add]

/-! ### products -/

theorem clmul_lt_words {W a b p q : Nat} (ha : a < 2 ^ (W * p)) (hb : b < 2 ^ (W * q)) :
    clmul a b < 2 ^ (W * (p + q)) := by
  rw [Nat.mul_add]; exact clmul_lt ha hb

theorem clmul_key {L m : Nat} (t : Nat) (h : m < 2 ^ L) :
    clmul t (2 ^ L + m) = clmul t m ^^^ (t <<< L) := by
  rw [two_pow_add_eq_xor h, clmul_xor, clmul_two_pow, Nat.xor_comm]

theorem clmul_key_lt_words {W p q a m : Nat} (ha : a < 2 ^ (W * p)) (hm : m < 2 ^ (W * q)) :
    clmul a (keyPoly W q m) < 2 ^ (W * (p + q)) := by
  rw [keyPoly, clmul_key _ hm]
  exact Nat.xor_lt_two_pow (clmul_lt_words ha hm) (shl_lt_words (by omega) ha)

/-- `ppMul` with the declared lengths is exact on the words it writes -/
theorem lowW_ppMulR (W c a b p q : Nat) :
    lowW W (p + q) (ppMulR W c a p b q) = clmul (lowW W p a) (lowW W q b) := by
  unfold ppMulR
  rw [holds_setLow (clmul_lt_words (lowW_lt W p a) (lowW_lt W q b))]

/-- `ppMul(c, a, p, b, q); wwXor2(c + q, a, p)`: `c = a (x^{Wq} + b)` -/
theorem mulKey1 (W c a b p q : Nat) :
    lowW W (p + q) (xorAt W q p (ppMulR W c a p b q) a)
      = clmul (lowW W p a) (keyPoly W q (lowW W q b)) := by
  rw [lowW_xorAt (by omega), lowW_ppMulR, keyPoly, clmul_key _ (lowW_lt W q b)]

/-- `ppMul(c, a, p, b, q); wwXor2(c + p, b, q)`: `c = (x^{Wp} + a) b` -/
theorem mulKey2 (W c a b p q : Nat) :
    lowW W (p + q) (xorAt W p q (ppMulR W c a p b q) b)
      = clmul (keyPoly W p (lowW W p a)) (lowW W q b) := by
  rw [lowW_xorAt (by omega), lowW_ppMulR, keyPoly, clmul_comm (2 ^ (W * p) + lowW W p a),
    clmul_key _ (lowW_lt W p a), clmul_comm]

theorem keyPoly_shl {W p A : Nat} (q : Nat) (hA : A < 2 ^ (W * p)) :
    keyPoly W p A <<< (W * q) = 2 ^ (W * (p + q)) ^^^ A <<< (W * q) := by
  rw [keyPoly, two_pow_add_eq_xor hA, Nat.shiftLeft_xor_distrib,
    Nat.shiftLeft_eq (2 ^ (W * p)), ← Nat.pow_add, ← Nat.mul_add]

theorem key_mul {W p q A B : Nat} (hA : A < 2 ^ (W * p)) (hB : B < 2 ^ (W * q)) :
    clmul (keyPoly W p A) (keyPoly W q B)
      = 2 ^ (W * (p + q)) ^^^ (clmul (keyPoly W p A) B ^^^ A <<< (W * q)) := by
  show clmul (keyPoly W p A) (2 ^ (W * q) + B) = _
  rw [clmul_key _ hB, keyPoly_shl q hA]
  generalize clmul (keyPoly W p A) B = X
  generalize A <<< (W * q) = Y
  generalize 2 ^ (W * (p + q)) = Z
  rw [← Nat.xor_assoc, Nat.xor_comm X Z, Nat.xor_assoc]

/-- `ppMul(c, a, p, b, q); wwXor2(c + p, b, q); wwXor2(c + q, a, p); c[p + q] = 1`:
    `c = (x^{Wp} + a) (x^{Wq} + b)` -/
theorem mulKey3 (W c a b p q : Nat) :
    lowW W (p + q) (xorAt W q p (xorAt W p q (ppMulR W c a p b q) b) a) + 2 ^ (W * (p + q))
      = clmul (keyPoly W p (lowW W p a)) (keyPoly W q (lowW W q b)) := by
  have hlt := lowW_lt W (p + q) (xorAt W q p (xorAt W p q (ppMulR W c a p b q) b) a)
  rw [Nat.add_comm, two_pow_add_eq_xor hlt, lowW_xorAt (by omega), mulKey2,
    key_mul (lowW_lt W p a) (lowW_lt W q b)]

/-! ### key polynomials -/

theorem keyPoly_div {W n m : Nat} (hm : m < 2 ^ (W * n)) : keyPoly W n m / 2 ^ (W * n) = 1 := by
  unfold keyPoly
  rw [Nat.add_div_left _ (Nat.two_pow_pos _), Nat.div_eq_of_lt hm]

/-- a polynomial of degree exactly `W k` is `x^{W k}` + its `k` low words -/
theorem key_of_log2 {W k G : Nat} (h : G.log2 = W * k) (hpos : 0 < W * k) :
    G = keyPoly W k (lowW W k G) := by
  have hG : G ≠ 0 := by
    intro h0; rw [h0, Nat.log2_zero] at h; omega
  obtain ⟨h1, h2⟩ := (Nat.log2_eq_iff hG).1 h
  rw [Nat.pow_succ] at h2
  unfold keyPoly lowW
  rw [Nat.mod_eq_sub_mod h1, Nat.mod_eq_of_lt (by omega)]
  omega

/-- `wwFrom(f, m, len); f[n] = 1` on any region -/
theorem lowW_setKey {W n m : Nat} (hW : 0 < W) (f : Nat) (hm : m < 2 ^ (W * n)) :
    lowW W (n + 1) (setWord W n (setLow W n f m) 1) = keyPoly W n m := by
  rw [lowW_setWord, holds_setLow hm, Nat.mod_eq_of_lt (Nat.one_lt_two_pow (by omega)),
    Nat.one_mul, Nat.add_comm]
  rfl

variable {W p q K k : Nat} {a b c A B : Nat}

theorem holds_ppMul (hK : p + q = K) (ha : lowW W p a = A) (hb : lowW W q b = B) :
    lowW W K (ppMulR W c a p b q) = clmul A B := by
  rw [← hK, lowW_ppMulR, ha, hb]

theorem holds_mulKey1 (hK : p + q = K) (ha : lowW W p a = A) (hb : lowW W q b = B) :
    lowW W K (xorAt W q p (ppMulR W c a p b q) a) = clmul A (keyPoly W q B) := by
  rw [← hK, mulKey1, ha, hb]

/-- `wwXor2(a, b, k)` on the low `K ≥ k` words -/
theorem holds_xor0 (hk : k ≤ K) (ha : lowW W K a = A) (hb : lowW W k b = B) :
    lowW W K (xorAt W 0 k a b) = A ^^^ B := by
  rw [lowW_xorAt (by omega), ha, hb, Nat.mul_zero, Nat.shiftLeft_zero]

/-- the product of two key polynomials, its top word set by `c[p + q] = 1` -/
theorem holds_mulKey3 {g : Nat} (hW : 0 < W) (hK : p + q = K) (ha : lowW W p a = A) (hb : lowW W q b = B) :
    lowW W (K + 1) (setWord W K (setLow W K g
      (xorAt W q p (xorAt W p q (ppMulR W c a p b q) b) a)) 1)
      = clmul (keyPoly W p A) (keyPoly W q B) := by
  rw [lowW_setWord, lowW_setLow, Nat.mod_eq_of_lt (Nat.one_lt_two_pow (by omega)), Nat.one_mul,
    ← hK, mulKey3, ha, hb]

/-- `ppMod(r, a, k, g, K + 1)` for a modulus of degree exactly `W K`: the `K` low words of the
    result are the remainder -/
theorem holds_ppMod {g r G : Nat} (ha : lowW W k a = A) (hg : lowW W (K + 1) g = G) (hG : G ≠ 0)
    (hl : G.log2 = W * K) : lowW W K (ppModR W r a k g (K + 1)) = pmod A G := by
  unfold ppModR
  rw [lowW_setLow_le (by omega), ha, hg]
  apply lowW_of_lt
  have := (pdivmod_spec A G hG).2
  rwa [hl] at this

theorem lowW_ppModR_key {W n m k a f r : Nat} (hm : m < 2 ^ (W * n))
    (hf : lowW W (n + 1) f = keyPoly W n m) :
    lowW W n (ppModR W r a k f (n + 1)) = pmod (lowW W k a) (keyPoly W n m) :=
  holds_ppMod rfl hf (keyPoly_ne_zero W n m) (keyPoly_log2 hm)

/-! ## R1 belsShare -/

theorem shareC_snd {W n t s m0 k : Nat} (ht : 0 < t) (hs : s < 2 ^ (W * n))
    (hm0 : m0 < 2 ^ (W * n)) (hk : k < 2 ^ (W * (t * n - n))) :
    (shareC W n t s m0 k).2 = secretPoly W n m0 k s := by
  have e : t * n - n + n = t * n := by
    have : n ≤ t * n := Nat.le_mul_of_pos_left n ht
    omega
  have h1 := mulKey1 W 0 k (setLow W n 0 m0) (t * n - n) n
  rw [setLow_zero hm0, lowW_of_lt hm0, lowW_of_lt hk] at h1
  have h2 : xorAt W n (t * n - n) (ppMulR W 0 k (t * n - n) m0 n) k < 2 ^ (W * (t * n - n + n)) := by
    unfold xorAt ppMulR
    exact Nat.xor_lt_two_pow (setLow_zero_lt _ _ _) (shl_lt_words (by omega) (lowW_lt _ _ _))
  rw [lowW_of_lt h2] at h1
  show xorAt W 0 n (xorAt W n (t * n - n) (ppMulR W 0 k (t * n - n) (setLow W n 0 m0) n) k)
    (setLow W n (setLow W n 0 m0) s) = _
  rw [setLow_zero hm0, h1]
  unfold xorAt secretPoly
  rw [holds_setLow hs, Nat.mul_zero, Nat.shiftLeft_zero, clmul_comm]

theorem shareLoop_spec {W n t c : Nat} (hW : 0 < W) (hc : c < 2 ^ (W * (t * n))) :
    ∀ (mi : List Nat) (f : Nat), (∀ m ∈ mi, m < 2 ^ (W * n)) →
      shareLoop W n t c mi f = mi.map (fun m => pmod c (keyPoly W n m)) := by
  intro mi
  induction mi with
  | nil => intro f _; rfl
  | cons m ms ih =>
    intro f h
    have hm := h m (List.mem_cons_self ..)
    rw [shareLoop, List.map_cons]
    rw [ih _ (fun x hx => h x (List.mem_cons_of_mem _ hx)),
      lowW_ppModR_key hm (lowW_setKey hW f hm), lowW_of_lt hc]

/-! ## R2 one iteration of belsRecover -/

structure Inv (W n i : Nat) (st : RecSt) (G C : Nat) : Prop where
  fTop : lowW W (n + 1) st.f / 2 ^ (W * n) = 1
  gVal : lowW W (i * n + 1) st.g = G
  gDeg : G.log2 = W * n * i
  cVal : lowW W (i * n) st.c = C

theorem Inv.c_lt {W n i : Nat} {st : RecSt} {G C : Nat} (h : Inv W n i st G C) :
    C < 2 ^ (W * n * i) := by
  rw [← h.cVal, Nat.mul_assoc, Nat.mul_comm n i]
  exact lowW_lt _ _ _

/-- `wwFrom(f, m, len)` on a region with `f[n] = 1` -/
theorem lowW_setLow_key {W n m f : Nat} (hf : lowW W (n + 1) f / 2 ^ (W * n) = 1)
    (hm : m < 2 ^ (W * n)) : lowW W (n + 1) (setLow W n f m) = keyPoly W n m := by
  rw [word_eq] at hf
  rw [lowW_succ, holds_setLow hm, setLow_div, hf, Nat.one_mul, Nat.add_comm]
  rfl

/-- Bezout with d = 1: one of the operands has a constant term -/
theorem odd_of_bezout_one {a b x y : Nat} (h : clmul a x ^^^ clmul b y = 1) :
    a % 2 = 1 ∨ b % 2 = 1 := by
  have h2 := congrArg (· % 2) h
  simp only [xor_mod_two, clmul_mod_two] at h2
  rcases Nat.mod_two_eq_zero_or_one a with ha | ha
  · rcases Nat.mod_two_eq_zero_or_one b with hb | hb
    · rw [ha, hb] at h2; simp at h2
    · exact Or.inr hb
  · exact Or.inl ha

/-- a divisor of a nonzero polynomial has at most its degree -/
theorem log2_le_of_pdvd {d a : Nat} (ha : a ≠ 0) (h : PDvd d a) : d ≠ 0 ∧ d.log2 ≤ a.log2 := by
  obtain ⟨q, hq⟩ := h
  have hq0 : q ≠ 0 := by intro h0; rw [h0, zero_clmul] at hq; exact ha hq
  have hd0 : d ≠ 0 := by intro h0; rw [h0, clmul_zero] at hq; exact ha hq
  have hl := log2_clmul hq0 hd0
  rw [← hq] at hl
  exact ⟨hd0, by omega⟩

def Sim (W n i : Nat) : Option RecSt → Option (Nat × Nat) → Prop
  | none, none => True
  | some st, some gc => Inv W n i st gc.1 gc.2
  | _, _ => False

theorem recStep_sim {W n m s i : Nat} {st : RecSt} {G C : Nat} (hW : 0 < W) (hn : 0 < n)
    (hi : 1 ≤ i) (hm : m < 2 ^ (W * n)) (hs : s < 2 ^ (W * n)) (h : Inv W n i st G C) :
    Sim W n (i + 1) (recStep W n m s i st) (crtStep (keyPoly W n m) s (G, C)) := by
  obtain ⟨hfTop, hgVal, hgDeg, hcVal⟩ := h
  -- word-count arithmetic
  have hin : 0 < i * n := Nat.mul_pos (by omega) hn
  have hgDeg' : G.log2 = W * (i * n) := by rw [hgDeg, Nat.mul_assoc, Nat.mul_comm n i]
  have e1 : i * n + i * n = 2 * i * n := by rw [Nat.mul_assoc, Nat.two_mul]
  have e2 : (2 * i + 1) * n = 2 * i * n + n := by rw [Nat.add_mul, Nat.one_mul]
  have e3 : (i + 2) * n = 2 * n + i * n := by rw [Nat.add_mul, Nat.add_comm]
  have e4 : (i + 1) * n = n + i * n := by rw [Nat.add_mul, Nat.one_mul, Nat.add_comm]
  have e5 : n + n = 2 * n := (Nat.two_mul n).symm
  have e6 : (i + 2) * n ≤ (2 * i + 1) * n := Nat.mul_le_mul_right n (by omega)
  -- the operands of ppExGCD
  have hF := lowW_setLow_key hfTop hm
  have hF0 := keyPoly_ne_zero W n m
  have hFl := keyPoly_log2 hm
  have hF2 := keyPoly_ge W n m hW hn
  have hG0 : G ≠ 0 := by
    intro h0; rw [h0, Nat.log2_zero] at hgDeg'; have := Nat.mul_pos hW hin; omega
  have hG2 : 2 ≤ G := by
    have h1 : 2 ^ 1 ≤ 2 ^ (W * (i * n)) :=
      Nat.pow_le_pow_right (by omega) (Nat.mul_pos hW hin)
    have h2 := ((Nat.log2_eq_iff hG0).1 hgDeg').1
    omega
  have hGk := key_of_log2 hgDeg' (Nat.mul_pos hW hin)
  have hgl : lowW W (i * n) st.g = lowW W (i * n) G := by
    rw [← hgVal, lowW_lowW (by omega)]
  have hC : C < 2 ^ (W * (i * n)) := by rw [← hcVal]; exact lowW_lt _ _ _
  generalize ho : recStep W n m s i st = o
  unfold recStep at ho
  extract_lets f r d u v t1 c1 c2 t2 d2 t3 t4 c3 t5 t6 t7 g1 g2 c4 at ho
  have hr : r = ppExGCDV (keyPoly W n m) G := by
    show ppExGCDV (lowW W (n + 1) (setLow W n st.f m)) (lowW W (i * n + 1) st.g) = _
    rw [hF, hgVal]
  have hdv := log2_le_of_pdvd hF0 (Gcd.exGCDV_isPGcd hF0 hG0).1
  have hbez := exGCDV_bezout hF0 hG0
  have hda := @Gcd.exGCDV_da_lt (keyPoly W n m) G
  have hdb := @Gcd.exGCDV_db_lt (keyPoly W n m) G
  rw [← hr] at hdv hbez hda hdb
  have hd1 : lowW W (n + 1) d = r.1 := by
    show lowW W (n + 1) (setLow W (n + 1) st.d r.1) = _
    rw [lowW_setLow]
    apply lowW_of_lt
    have h3 := (Nat.log2_lt hdv.1).1 (show r.1.log2 < W * n + 1 by omega)
    exact Nat.lt_of_lt_of_le h3 (Nat.pow_le_pow_right (by omega) (by rw [Nat.mul_add]; omega))
  have hcrt : crtStep (keyPoly W n m) s (G, C) = if r.1 ≠ 1 then none else some (clmul (keyPoly W n m) G,
      pmod (clmul (clmul r.2.1 C) (keyPoly W n m) ^^^ clmul (clmul r.2.2 s) G) (clmul (keyPoly W n m) G)) := by
    rw [hr]; rfl
  rw [hcrt]
  by_cases h1 : r.1 = 1
  · rw [if_neg (by rw [hd1]; exact fun hne => hne h1)] at ho
    rw [if_neg (fun hne => hne h1), ← ho]
    rw [h1] at hbez
    have hodd := odd_of_bezout_one hbez
    have hu0 := hda hodd hF2 hG2
    have hv0 := hdb hodd hF2 hG2
    rw [hgDeg'] at hu0
    rw [hFl] at hv0
    have hfn : lowW W n f = m := holds_setLow hm
    have hu : lowW W (i * n) u = r.2.1 := holds_setLow_le (by omega) hu0
    have hv : lowW W n v = r.2.2 := holds_setLow_le (by omega) hv0
    have hFG0 := clmul_ne_zero hF0 hG0
    have hFGl : (clmul (keyPoly W n m) G).log2 = W * ((i + 1) * n) := by
      rw [log2_clmul hF0 hG0, hFl, hgDeg', e4, Nat.mul_add]
    -- c <- u f c
    have ht1 : lowW W (2 * i * n) t1 = _ := holds_ppMul e1 hu hcVal
    have hc2 : lowW W ((2 * i + 1) * n) c2 = _ := holds_mulKey1 e2.symm ht1 hfn
    -- c <- c + v g si
    have ht2 : lowW W n t2 = s := holds_setLow hs
    have hd2 : lowW W (2 * n) d2 = _ := holds_ppMul e5 hv ht2
    have ht4 : lowW W ((i + 2) * n) t4 = _ := holds_mulKey1 e3.symm hd2 hgl
    have hc3 : lowW W ((2 * i + 1) * n) c3 = _ := holds_xor0 e6 hc2 ht4
    -- g <- g f; c <- c mod g
    have hg2 : lowW W ((i + 1) * n + 1) g2 = _ := holds_mulKey3 hW e4.symm hfn hgl
    rw [← hGk] at ht4 hc3 hg2
    have hc4 : lowW W ((i + 1) * n) c4 = _ := holds_ppMod hc3 hg2 hFG0 hFGl
    refine ⟨?_, hg2, ?_, hc4⟩
    · exact (congrArg (· / 2 ^ (W * n)) hF).trans (keyPoly_div hm)
    · rw [log2_clmul hF0 hG0, hFl, hgDeg, Nat.mul_succ, Nat.add_comm]
  · rw [if_pos (by rw [hd1]; exact h1)] at ho
    rw [if_pos h1, ← ho]
    trivial

/-! ## R3 the loop and the top level -/

theorem recLoop_sim (W n : Nat) (hW : 0 < W) (hn : 0 < n) :
    ∀ (prs : List (Nat × Nat)) (i : Nat) (st : RecSt) (G C : Nat),
    (∀ p ∈ prs, p.1 < 2 ^ (W * n) ∧ p.2 < 2 ^ (W * n)) → 1 ≤ i → Inv W n i st G C →
    Sim W n (i + prs.length) (recLoop W n prs i st) (crtLoop W n prs (G, C)) := by
  intro prs
  induction prs with
  | nil => intro i st G C _ _ h; exact h
  | cons p rest ih =>
    intro i st G C hp hi h
    have hms := hp p (List.mem_cons_self ..)
    have hstep := recStep_sim hW hn hi hms.1 hms.2 h
    rw [recLoop, crtLoop, List.length_cons, ← Nat.add_assoc, Nat.add_right_comm]
    cases hst : recStep W n p.1 p.2 i st <;> cases hc : crtStep (keyPoly W n p.1) p.2 (G, C) <;>
      rw [hst, hc] at hstep
    · trivial
    · exact hstep.elim
    · exact hstep.elim
    · exact ih _ _ _ _ (fun x hx => hp x (List.mem_cons_of_mem _ hx)) (by omega) hstep

theorem recInit_inv (W n m1 s1 : Nat) (hW : 0 < W) (hm : m1 < 2 ^ (W * n))
    (hs : s1 < 2 ^ (W * n)) : Inv W n 1 (recInit W n m1 s1) (keyPoly W n m1) s1 := by
  refine ⟨?_, ?_, ?_, ?_⟩
  · show lowW W (n + 1) (setWord W n 0 1) / 2 ^ (W * n) = 1
    have h0 : (0 : Nat) < 2 ^ (W * n) := Nat.two_pow_pos _
    have h1 := lowW_setKey hW 0 h0
    rw [setLow_zero h0] at h1
    rw [h1]
    exact keyPoly_div h0
  · show lowW W (1 * n + 1) (setWord W n (setLow W n 0 m1) 1) = _
    rw [Nat.one_mul]
    exact lowW_setKey hW 0 hm
  · rw [keyPoly_log2 hm, Nat.mul_one]
  · show lowW W (1 * n) (setLow W n 0 s1) = s1
    rw [Nat.one_mul, holds_setLow hs]

theorem recFinal_eq (W n i m0 : Nat) (st : RecSt) (G C : Nat) (hW : 0 < W)
    (hm0 : m0 < 2 ^ (W * n)) (h : Inv W n i st G C) :
    recFinal W n i m0 st = pmod C (keyPoly W n m0) := by
  unfold recFinal
  dsimp only
  rw [lowW_ppModR_key hm0 (lowW_setKey hW st.f hm0), h.cVal]

end Bee2V.C13.Reg
