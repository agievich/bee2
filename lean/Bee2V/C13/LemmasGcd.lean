/-
C13 — the binary extended GCD of pp_gcd.c (value-level model `ppExGCDV`, C05/ModelPp.lean)
computes THE greatest common divisor in GF(2)[x] (Nat-coded), with reduced Bezout coefficients.

§1 (A) `exGCDV_fst_eq_pgcd`       : (ppExGCDV a b).1 = Spec.pgcd a b
§2 (B) `exGCDV_da_lt`, `exGCDV_db_lt` : deg da < deg b, deg db < deg a   (a or b odd, a, b ≥ 2)
§3 (C) `exGCDV_one_iff`           : returns 1 ⇔ a, b coprime

(A) is C05's: the first component of `ppExGCDV` is `ppGCDV` (`Pp.exGCDV_fst`), which terminates within its fuel
and is the gcd (`Pp.gcdV_isPGcd`); the Bezout identity is `Pp.exGCDV_bezout`.  No Mathlib.
-/
import Bee2V.C05.LemmasPp
namespace Bee2V.C13.Gcd
open Bee2V.C05 Bee2V.C05.Spec Bee2V.C05.Pp

/-! ## §1 (A) the d of ppExGCD is the greatest common divisor -/

/-- `u / x^k`, k = multiplicity of x in u (`wwShLo(u, n, wwLoZeroBits(u, n))`); C05's `Pp.oddP` -/
def oddPart (u : Nat) : Nat := u / 2 ^ ppLoZeros u

theorem oddPart_eq (u : Nat) : oddPart u = oddP u := rfl

theorem oddPart_of_odd {u : Nat} (h : u % 2 = 1) : oddPart u = u := oddP_of_odd h

theorem exGCDV_isPGcd {a b : Nat} (ha : a ≠ 0) (hb : b ≠ 0) : IsPGcd (ppExGCDV a b).1 a b :=
  exGCDV_fst a b ▸ gcdV_isPGcd ha hb

/-- (A) ppExGCD returns THE greatest common divisor (the Euclidean `Spec.pgcd`) -/
theorem exGCDV_fst_eq_pgcd {a b : Nat} (ha : a ≠ 0) (hb : b ≠ 0) :
    (ppExGCDV a b).1 = Spec.pgcd a b :=
  (exGCDV_fst a b).trans (gcdV_eq_pgcd ha hb)

/-- (A) for a or b odd, where `ppExGCDV` is the bare loop (`exGCDV_of_odd`) -/
theorem exGCDV_fst_eq_pgcd_of_odd {a b : Nat} (ha : a ≠ 0) (hb : b ≠ 0)
    (_hodd : a % 2 = 1 ∨ b % 2 = 1) : (ppExGCDV a b).1 = Spec.pgcd a b :=
  exGCDV_fst_eq_pgcd ha hb

example : ppExGCDV 0b110110 0b1010 = (0b1010, 0, 1) := by decide
example : (ppExGCDV 0b110110 0b1010).1 = Spec.pgcd 0b110110 0b1010 := by decide
example : ppExGCDV (clmul 0b111 0b1011) (clmul 0b111 0b1101) = (0b111, 0b10, 0b11) := by decide

/-! ## §2 (B) degree bounds of the Bezout coefficients -/

theorem halveEx_bound (aa bb : Nat) (f : Nat) :
    ∀ u da db, da < 2 ^ bb.log2 → db < 2 ^ aa.log2 →
      (ppHalveEx aa bb f u da db).2.1 < 2 ^ bb.log2 ∧ (ppHalveEx aa bb f u da db).2.2 < 2 ^ aa.log2 := by
  induction f with
  | zero => intro u da db h1 h2; exact ⟨h1, h2⟩
  | succ f ih =>
    intro u da db h1 h2
    unfold ppHalveEx
    split
    · split
      · exact ih _ _ _ (by omega) (by omega)
      · apply ih
        · have h : da ^^^ bb < 2 ^ (bb.log2 + 1) :=
            Nat.xor_lt_two_pow (by rw [Nat.pow_succ]; omega) Nat.lt_log2_self
          rw [Nat.pow_succ] at h
          omega
        · have h : db ^^^ aa < 2 ^ (aa.log2 + 1) :=
            Nat.xor_lt_two_pow (by rw [Nat.pow_succ]; omega) Nat.lt_log2_self
          rw [Nat.pow_succ] at h
          omega
    · exact ⟨h1, h2⟩

theorem exLoop_bound (aa bb : Nat) (f : Nat) :
    ∀ u v da0 db0 da db, da0 < 2 ^ bb.log2 → db0 < 2 ^ aa.log2 → da < 2 ^ bb.log2 → db < 2 ^ aa.log2 →
      (ppExGCDLoop aa bb f u v da0 db0 da db).2.1 < 2 ^ bb.log2
      ∧ (ppExGCDLoop aa bb f u v da0 db0 da db).2.2 < 2 ^ aa.log2 := by
  induction f with
  | zero => intro u v da0 db0 da db _ _ h1 h2; exact ⟨h1, h2⟩
  | succ f ih =>
    intro u v da0 db0 da db h01 h02 h1 h2
    obtain ⟨i01, i02⟩ := halveEx_bound aa bb (u.log2 + 1) u da0 db0 h01 h02
    obtain ⟨i1, i2⟩ := halveEx_bound aa bb (v.log2 + 1) v da db h1 h2
    unfold ppExGCDLoop
    dsimp only
    split
    · split
      · exact ih _ _ _ _ _ _ (Nat.xor_lt_two_pow i01 i1) (Nat.xor_lt_two_pow i02 i2) i1 i2
      · exact ⟨i1, i2⟩
    · split
      · exact ih _ _ _ _ _ _ i01 i02 (Nat.xor_lt_two_pow i1 i01) (Nat.xor_lt_two_pow i2 i02)
      · exact ⟨Nat.xor_lt_two_pow i1 i01, Nat.xor_lt_two_pow i2 i02⟩

theorem min_loZeros_of_odd {a b : Nat} (hodd : a % 2 = 1 ∨ b % 2 = 1) :
    min (ppLoZeros a) (ppLoZeros b) = 0 := by
  rcases hodd with h | h
  · rw [loZeros_of_odd h]; exact Nat.zero_min _
  · rw [loZeros_of_odd h]; exact Nat.min_zero _

/-- with a or b odd there is no common power of x to strip: ppExGCD is the bare loop -/
theorem exGCDV_of_odd {a b : Nat} (hodd : a % 2 = 1 ∨ b % 2 = 1) :
    ppExGCDV a b = ppExGCDLoop a b (a.log2 + b.log2 + 3) a b 1 0 0 1 := by
  unfold ppExGCDV
  simp only [min_loZeros_of_odd hodd, Nat.shiftRight_zero, Nat.shiftLeft_zero]

theorem one_lt_two_pow_log2 {n : Nat} (h : 2 ≤ n) : 1 < 2 ^ n.log2 := by
  have h1 : 2 ^ 1 ≤ n := by omega
  have h2 := (Nat.le_log2 (by omega : n ≠ 0)).2 h1
  exact Nat.lt_of_lt_of_le (by decide : 1 < 2 ^ 1) (Nat.pow_le_pow_right (by omega) h2)

theorem exGCDV_bounds {a b : Nat} (hodd : a % 2 = 1 ∨ b % 2 = 1) (ha : 2 ≤ a) (hb : 2 ≤ b) :
    (ppExGCDV a b).2.1 < 2 ^ b.log2 ∧ (ppExGCDV a b).2.2 < 2 ^ a.log2 := by
  rw [exGCDV_of_odd hodd]
  exact exLoop_bound a b _ a b 1 0 0 1 (one_lt_two_pow_log2 hb) (Nat.two_pow_pos _)
    (Nat.two_pow_pos _) (one_lt_two_pow_log2 ha)

/-- (B) deg da < deg b -/
theorem exGCDV_da_lt {a b : Nat} (hodd : a % 2 = 1 ∨ b % 2 = 1) (ha : 2 ≤ a) (hb : 2 ≤ b) :
    (ppExGCDV a b).2.1 < 2 ^ b.log2 := (exGCDV_bounds hodd ha hb).1

/-- (B) deg db < deg a -/
theorem exGCDV_db_lt {a b : Nat} (hodd : a % 2 = 1 ∨ b % 2 = 1) (ha : 2 ≤ a) (hb : 2 ≤ b) :
    (ppExGCDV a b).2.2 < 2 ^ a.log2 := (exGCDV_bounds hodd ha hb).2

example : (ppExGCDV 0b110111 0b1010).2.1 < 2 ^ (0b1010).log2
    ∧ (ppExGCDV 0b110111 0b1010).2.2 < 2 ^ (0b110111).log2 := by decide

/-! ## §3 (C) coprime ⇔ ppExGCD returns 1 -/

/-- the only divisor of 1 is 1 (degree) -/
theorem pdvd_one {d : Nat} (h : PDvd d 1) : d = 1 := by
  obtain ⟨q, hq⟩ := h
  have hq0 : q ≠ 0 := by intro h0; rw [h0, zero_clmul] at hq; omega
  have hd0 : d ≠ 0 := by intro h0; rw [h0, clmul_zero] at hq; omega
  have hl := log2_clmul hq0 hd0
  rw [← hq] at hl
  have h10 : Nat.log2 1 = 0 := by simpa using @Nat.log2_two_pow 0
  have := (Nat.log2_lt hd0).1 (by omega : d.log2 < 1)
  omega

/-- (C) ppExGCD returns 1 exactly for coprime a, b -/
theorem exGCDV_one_iff {a b : Nat} (ha : a ≠ 0) (hb : b ≠ 0) :
    (ppExGCDV a b).1 = 1 ↔ ∀ d, PDvd d a → PDvd d b → d = 1 := by
  constructor
  · intro h1 d hda hdb
    have := (exGCDV_isPGcd ha hb).2.2 d hda hdb
    rw [h1] at this
    exact pdvd_one this
  · intro h
    exact h _ (exGCDV_isPGcd ha hb).1 (exGCDV_isPGcd ha hb).2.1

example : (ppExGCDV 0b1011 0b1101).1 = 1 := by decide
example : (ppExGCDV 0b110110 0b1010).1 ≠ 1 := by decide

end Bee2V.C13.Gcd
