/-
C06, stage 2 — `ec2AddALD` / `ec2SubALD` (madd-2005-dl; Lopez–Dahab `a`, affine `b`): symbolic execution and the
algebra (characteristic 2).

`Spec A B p q r` describes the result `r` of the mixed addition of the Lopez–Dahab triple `p` and the affine
pair `q` branch by branch (closed forms `genF`, `dblF`; for an `O` result only `Z = 0` is stated, the
X, Y words are whatever the routine left there).  The exec theorems
show that `run2A … ec2AddALD .n p q` satisfies `Spec A B p q` and `run2A … ec2SubALD .n p q` satisfies
`Spec A B p (q.1, q.2 + q.1)`, for each arm of the three-way
branch on the coefficient `A` (`A = 1`, `A = 0`, else) in `ec2AddALD` and in the fall-through `ec2DblALD`;
a result satisfying `Spec A B p q` represents `P + Q`.
-/
import Bee2V.C06.Spec2
import Bee2V.C06.LemmasSub
import Mathlib.Tactic.Ring
import Mathlib.Tactic.FieldSimp
import Mathlib.Tactic.LinearCombination
namespace Bee2V.C06.BAddA
open Bee2V.C06 WeierstrassCurve
set_option linter.unusedSectionVars false
set_option linter.unusedSimpArgs false
set_option linter.unusedVariables false
variable {F : Type} [Field F] [DecidableEq F] [CharP F 2] {A B : F}

/-- `t1 = yb za² + ya` [A'] -/
def t1F (Y1 Z1 y2 : F) : F := y2 * (Z1 * Z1) + Y1
/-- `t2 = xb za + xa` [B'] -/
def t2F (X1 Z1 x2 : F) : F := x2 * Z1 + X1

/-- the generic branch of madd-2005-dl: `C = B' Z1`, `Z3 = C²`, `X3 = C (B'² + A' + a₂ C) + A'²`,
    `Y3 = (x2 + y2) Z3² + (A' C + Z3)(x2 Z3 + X3)` -/
def genF (A X1 Y1 Z1 x2 y2 : F) : P3 F :=
  let t1 := t1F Y1 Z1 y2
  let t2 := t2F X1 Z1 x2
  let t3 := t2 * Z1
  let zc := t3 * t3
  let xc := (t2 * t2 + t1 + A * t3) * t3 + t1 * t1
  (xc, (x2 + y2) * (zc * zc) + (t1 * t3 + zc) * (x2 * zc + xc), zc)

/-- `ec2DblALD` (mdbl-2005-dl) of the affine point `(x, y)`, `x ≠ 0` -/
def dblF (A B x y : F) : P3 F :=
  let zb := x * x
  let xb := zb * zb + B
  (xb, (y * y + B + A * zb) * xb + B * zb, zb)

/-- branch-by-branch description of the result `r` of `p + q` -/
structure Spec (A B : F) (p : P3 F) (q : P2 F) (r : P3 F) : Prop where
  o : p.2.2 = 0 → r = (q.1, q.2, 1)
  gen : p.2.2 ≠ 0 → t2F p.1 p.2.2 q.1 ≠ 0 → r = genF A p.1 p.2.1 p.2.2 q.1 q.2
  inv : p.2.2 ≠ 0 → t2F p.1 p.2.2 q.1 = 0 → t1F p.2.1 p.2.2 q.2 ≠ 0 → r.2.2 = 0
  dbl0 : p.2.2 ≠ 0 → t2F p.1 p.2.2 q.1 = 0 → t1F p.2.1 p.2.2 q.2 = 0 → q.1 = 0 → r.2.2 = 0
  dbl : p.2.2 ≠ 0 → t2F p.1 p.2.2 q.1 = 0 → t1F p.2.1 p.2.2 q.2 = 0 → q.1 ≠ 0 → r = dblF A B q.1 q.2

/-- the three arms of the branch on the coefficient: `A = 1`, `A = 0`, else -/
local macro "split_A" a:term : tactic =>
  `(tactic| (by_cases hA1 : $a = 1 <;> [subst hA1; (by_cases hA0 : $a = 0 <;> [subst hA0; skip])]))

/-! ### `ec2AddALD`

The three-way branch on the coefficient (`A = 1`, `A = 0`, else) changes one step of the generic branch and of the
fall-through `ec2DblALD`; the closed forms `genF`, `dblF` carry `A * _`, which is rewritten to what the arm
computes before the run is compared with it. -/

theorem add_o (X1 Y1 x2 y2 : F) :
    run2A (curveB A B) ec2AddALD .n (X1, Y1, 0) (x2, y2) = (x2, y2, 1) :=
  run_then res3 rfl

theorem add_gen (X1 Y1 Z1 x2 y2 : F) (hz : Z1 ≠ 0)
    (ht : x2 * Z1 + X1 ≠ 0) :
    run2A (curveB A B) ec2AddALD .n (X1, Y1, Z1) (x2, y2) = genF A X1 Y1 Z1 x2 y2 := by
  split_A A
  · simp only [genF, one_mul]
    exact (run_else res3 hz).trans ((run_else res3 ht).trans ((run_then res3 rfl).trans (by rfl)))
  · simp only [genF, zero_mul, add_zero]
    exact (run_else res3 hz).trans ((run_else res3 ht).trans ((run_else res3 ‹_›).trans ((run_then res3 rfl).trans (by rfl))))
  · exact (run_else res3 hz).trans ((run_else res3 ht).trans
      ((run_else res3 ‹¬A = 1›).trans ((run_else res3 ‹¬A = 0›).trans (by rfl))))

theorem add_inv (X1 Y1 Z1 x2 y2 : F) (hz : Z1 ≠ 0)
    (ht : x2 * Z1 + X1 = 0) (ht1 : y2 * (Z1 * Z1) + Y1 ≠ 0) :
    (run2A (curveB A B) ec2AddALD .n (X1, Y1, Z1) (x2, y2)).2.2 = 0 :=
  (run_else resZ hz).trans ((run_then resZ ht).trans (run_else resZ ht1))

theorem add_dbl0 (X1 Y1 Z1 y2 : F) (hz : Z1 ≠ 0)
    (ht : (0 : F) * Z1 + X1 = 0) (ht1 : y2 * (Z1 * Z1) + Y1 = 0) :
    (run2A (curveB A B) ec2AddALD .n (X1, Y1, Z1) (0, y2)).2.2 = 0 :=
  (run_else resZ hz).trans ((run_then resZ ht).trans ((run_then resZ ht1).trans (run_then resZ rfl)))

theorem add_dbl (X1 Y1 Z1 x2 y2 : F) (hz : Z1 ≠ 0)
    (ht : x2 * Z1 + X1 = 0) (ht1 : y2 * (Z1 * Z1) + Y1 = 0) (hx : x2 ≠ 0) :
    run2A (curveB A B) ec2AddALD .n (X1, Y1, Z1) (x2, y2) = dblF A B x2 y2 := by
  split_A A
  · simp only [dblF, one_mul]
    exact (run_else res3 hz).trans ((run_then res3 ht).trans ((run_then res3 ht1).trans ((run_else res3 hx).trans
      ((run_then res3 rfl).trans (by rfl)))))
  · simp only [dblF, zero_mul, add_zero]
    exact (run_else res3 hz).trans ((run_then res3 ht).trans ((run_then res3 ht1).trans ((run_else res3 hx).trans
      ((run_else res3 ‹_›).trans ((run_then res3 rfl).trans (by rfl))))))
  · exact (run_else res3 hz).trans ((run_then res3 ht).trans ((run_then res3 ht1).trans ((run_else res3 hx).trans
      ((run_else res3 ‹¬A = 1›).trans ((run_else res3 ‹¬A = 0›).trans (by rfl))))))

theorem add_spec (p : P3 F) (q : P2 F) :
    Spec A B p q (run2A (curveB A B) ec2AddALD .n p q) := by
  obtain ⟨X1, Y1, Z1⟩ := p
  obtain ⟨x2, y2⟩ := q
  refine ⟨?_, ?_, ?_, ?_, ?_⟩
  · rintro (rfl : Z1 = 0); exact add_o ..
  · exact fun hz ht => add_gen _ _ _ _ _ hz ht
  · exact fun hz ht ht1 => add_inv _ _ _ _ _ hz ht ht1
  · rintro hz ht ht1 (rfl : x2 = 0); exact add_dbl0 _ _ _ _ hz ht ht1
  · exact fun hz ht ht1 hx => add_dbl _ _ _ _ _ hz ht ht1 hx

/-- `ec2SubALD`: `t <- (xb, yb + xb)` at the scratch base, then `ec2AddALD(c, a, t)` (`LemmasSub`) -/
theorem sub_spec (p : P3 F) (q : P2 F) :
    Spec A B p (q.1, q.2 + q.1) (run2A (curveB A B) ec2SubALD .n p q) := by
  rw [subALD_n]; exact add_spec p _

/-- a triple with `Z = 0` stands for `O` -/
theorem rep3_zero {r : P3 F} (h : r.2.2 = 0) : RepB3 A B r 0 := by
  unfold RepB3; rw [if_pos h]

theorem rep3_of_rep2 {X Y Z : F} {P : (Wb A B).Point} (hz : Z ≠ 0)
    (h : RepB2 A B (X / Z, Y / Z ^ 2) P) : RepB3 A B (X, Y, Z) P := by
  unfold RepB3; rw [if_neg hz]; exact h

/-- `a = O`: the result `(xb : yb : 1)` -/
theorem alg_o {x2 y2 : F} {Q : (Wb A B).Point} (hq : RepB2 A B (x2, y2) Q) :
    RepB3 A B (x2, y2, 1) (0 + Q) := by
  rw [zero_add]
  exact rep3_of_rep2 one_ne_zero (RepB2_of_eq hq (by simp) (by simp))

/-- madd-2005-dl against the chord formulas, `d = x1 + x2` kept as an atom (no curve equation needed) -/
theorem gen_x (A x1 y1 Z1 x2 y2 d : F) (hz : Z1 ≠ 0) (hd : d ≠ 0) (e : d = x1 + x2) :
    ((y1 + y2) / d) ^ 2 + (y1 + y2) / d + x1 + x2 + A
      = (genF A (x1 * Z1) (y1 * Z1 ^ 2) Z1 x2 y2).1 / (Z1 * d * Z1 * (Z1 * d * Z1)) := by
  unfold genF t1F t2F; field_simp; subst e; char2

theorem gen_y (A x1 y1 Z1 x2 y2 d : F) (hz : Z1 ≠ 0) (hd : d ≠ 0) (e : d = x1 + x2) :
    ((y1 + y2) / d) * (x1 + (((y1 + y2) / d) ^ 2 + (y1 + y2) / d + x1 + x2 + A))
        + (((y1 + y2) / d) ^ 2 + (y1 + y2) / d + x1 + x2 + A) + y1
      = (genF A (x1 * Z1) (y1 * Z1 ^ 2) Z1 x2 y2).2.1 / (Z1 * d * Z1 * (Z1 * d * Z1)) ^ 2 := by
  unfold genF t1F t2F; field_simp; subst e; char2

theorem gen_z (A x1 y1 Z1 x2 y2 : F) :
    (genF A (x1 * Z1) (y1 * Z1 ^ 2) Z1 x2 y2).2.2 = Z1 * (x1 + x2) * Z1 * (Z1 * (x1 + x2) * Z1) := by
  unfold genF t1F t2F; ring

/-- generic branch: chord -/
theorem alg_gen {x1 y1 Z1 x2 y2 : F} (h₁ : (Wb A B).Nonsingular x1 y1) (h₂ : (Wb A B).Nonsingular x2 y2)
    (hz : Z1 ≠ 0) (hx : x1 ≠ x2) :
    RepB3 A B (genF A (x1 * Z1) (y1 * Z1 ^ 2) Z1 x2 y2)
      (Affine.Point.some x1 y1 h₁ + Affine.Point.some x2 y2 h₂) := by
  have hd : x1 + x2 ≠ 0 := fun h => hx (CharTwo.add_eq_zero.1 h)
  have hz3 : Z1 * (x1 + x2) * Z1 * (Z1 * (x1 + x2) * Z1) ≠ 0 :=
    mul_ne_zero (mul_ne_zero (mul_ne_zero hz hd) hz) (mul_ne_zero (mul_ne_zero hz hd) hz)
  have hr : genF A (x1 * Z1) (y1 * Z1 ^ 2) Z1 x2 y2
      = ((genF A (x1 * Z1) (y1 * Z1 ^ 2) Z1 x2 y2).1, (genF A (x1 * Z1) (y1 * Z1 ^ 2) Z1 x2 y2).2.1,
          Z1 * (x1 + x2) * Z1 * (Z1 * (x1 + x2) * Z1)) := by
    rw [← gen_z]
  rw [hr]
  exact rep3_of_rep2 hz3 (RepB2_of_eq (addB_chord h₁ h₂ hx)
    (gen_x A x1 y1 Z1 x2 y2 _ hz hd rfl) (gen_y A x1 y1 Z1 x2 y2 _ hz hd rfl))

/-- the curve equation solved for `B` -/
theorem curve_B {x y : F} (e : y ^ 2 + x * y = x ^ 3 + A * x ^ 2 + B) :
    B = y ^ 2 + x * y + x ^ 3 + A * x ^ 2 := by
  rw [e]; char2

/-- mdbl-2005-dl against the tangent formulas (uses the curve equation) -/
theorem dbl_x (A B x y : F) (hx : x ≠ 0) (e : y ^ 2 + x * y = x ^ 3 + A * x ^ 2 + B) :
    (x + y / x) ^ 2 + (x + y / x) + A = (dblF A B x y).1 / (x * x) := by
  have eB := curve_B e
  subst eB
  unfold dblF; field_simp; char2

theorem dbl_y (A B x y : F) (hx : x ≠ 0) (e : y ^ 2 + x * y = x ^ 3 + A * x ^ 2 + B) :
    x ^ 2 + ((x + y / x) + 1) * ((x + y / x) ^ 2 + (x + y / x) + A) = (dblF A B x y).2.1 / (x * x) ^ 2 := by
  have eB := curve_B e
  subst eB
  unfold dblF; field_simp; char2

/-- doubling branch: tangent at the affine `b`, `x ≠ 0` -/
theorem alg_dbl {x y : F} (h : (Wb A B).Nonsingular x y) (hx : x ≠ 0) :
    RepB3 A B (dblF A B x y) (Affine.Point.some x y h + Affine.Point.some x y h) := by
  have e := ((Wb_nonsingular A B x y).1 h).1
  exact rep3_of_rep2 (X := (dblF A B x y).1) (Y := (dblF A B x y).2.1) (Z := x * x) (mul_ne_zero hx hx)
    (RepB2_of_eq (addB_tangent h hx) (dbl_x A B x y hx e) (dbl_y A B x y hx e))

/-- a result described by `Spec` represents the sum, in every case -/
theorem spec_correct {p : P3 F} {q : P2 F} {r : P3 F} {P Q : (Wb A B).Point}
    (hs : Spec A B p q r) (hp : RepB3 A B p P) (hq : RepB2 A B q Q) : RepB3 A B r (P + Q) := by
  obtain ⟨X1, Y1, Z1⟩ := p
  obtain ⟨x2, y2⟩ := q
  by_cases hz : Z1 = 0
  · unfold RepB3 at hp; rw [if_pos hz] at hp; subst hp
    rw [hs.o hz]; exact alg_o hq
  · obtain ⟨x1, rfl⟩ : ∃ x1, X1 = x1 * Z1 := ⟨X1 / Z1, by field_simp⟩
    obtain ⟨y1, rfl⟩ : ∃ y1, Y1 = y1 * Z1 ^ 2 := ⟨Y1 / Z1 ^ 2, by field_simp⟩
    unfold RepB3 at hp; rw [if_neg hz] at hp
    obtain ⟨h₁, rfl⟩ := RepB2_of_eq (x' := x1) (y' := y1) hp (by field_simp) (by field_simp)
    obtain ⟨h₂, rfl⟩ := hq
    have e1 : t2F (x1 * Z1) Z1 x2 = Z1 * (x1 + x2) := by unfold t2F; ring
    have e2 : t1F (y1 * Z1 ^ 2) Z1 y2 = Z1 ^ 2 * (y1 + y2) := by unfold t1F; ring
    by_cases hx : x1 = x2
    · subst hx
      have ht2 : t2F (x1 * Z1) Z1 x1 = 0 := by rw [e1, CharTwo.add_self_eq_zero, mul_zero]
      by_cases hy : y1 = y2
      · subst hy
        have ht1 : t1F (y1 * Z1 ^ 2) Z1 y1 = 0 := by rw [e2, CharTwo.add_self_eq_zero, mul_zero]
        by_cases x0 : x1 = 0
        · rw [addB_inverse h₁ h₂ rfl (by rw [x0, zero_add])]
          exact rep3_zero (hs.dbl0 hz ht2 ht1 x0)
        · rw [hs.dbl hz ht2 ht1 x0]; exact alg_dbl h₁ x0
      · have ht1 : t1F (y1 * Z1 ^ 2) Z1 y2 ≠ 0 := by
          rw [e2]; exact mul_ne_zero (pow_ne_zero 2 hz) (fun h => hy (CharTwo.add_eq_zero.1 h))
        rcases yB_eq_or_neg h₁ h₂ with e | e
        · exact absurd e hy
        · rw [addB_inverse h₁ h₂ rfl e]
          exact rep3_zero (hs.inv hz ht2 ht1)
    · have ht2 : t2F (x1 * Z1) Z1 x2 ≠ 0 := by
        rw [e1]; exact mul_ne_zero hz (fun h => hx (CharTwo.add_eq_zero.1 h))
      rw [hs.gen hz ht2]; exact alg_gen h₁ h₂ hz hx

end Bee2V.C06.BAddA
