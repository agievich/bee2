/-
C06 — NAF layer, part 3: termination within the model's fuel `bitSize d + w + 2` (measure `mu`),
`nafLoop_term`, `wwNAF_zero`, `decode_digits`.
-/
import Bee2V.C06.LemmasNafInv
namespace Bee2V.C06.MulL
open Bee2V.C06

theorem nafStep_size (a w alen i : Nat) (st : NafSt) : (nafStep a w alen i st).size = st.size + 1 := rfl

/-- termination measure: an upper bound for the number of remaining iterations -/
def mu (d w : Nat) (st : NafSt) : Nat :=
  if w + st.size < bitSize d then bitSize d - (w + st.size) + w + 1
  else if st.window % 2 = 1 ∧ 2 ^ (w - 1) ≤ st.window then w
  else bitSize st.window

theorem mu2_le {w x : Nat} (hx : x ≤ 2 ^ w) :
    (if x % 2 = 1 ∧ 2 ^ (w - 1) ≤ x then w else bitSize x) ≤ w + 1 := by
  split
  · omega
  · have := Nat.two_pow_pos w
    rw [bitSize_le_iff, Nat.pow_succ]; omega

theorem mu_step {d w : Nat} (hw : 2 ≤ w) {st : NafSt} (hwin : st.window ≤ 2 ^ w)
    (hnt : ¬(st.window = 0 ∧ w + st.size ≥ bitSize d)) :
    mu d w (nafStep d w (bitSize d) (w + st.size) st) < mu d w st := by
  obtain ⟨h1, h2, h3⟩ := two_pow_split hw
  by_cases hph : w + st.size < bitSize d
  · -- phase 1
    have hnext : (nafStep d w (bitSize d) (w + st.size) st).window ≤ 2 ^ w := by
      have hile := inBit_le d (w + st.size) (2 ^ (w - 1))
      rcases nafStep_cases d (bitSize d) (w + st.size) hw st hwin _ rfl with
        ⟨_, heq⟩ | ⟨_, _, heq⟩ | ⟨_, _, _, heq⟩ | ⟨_, _, _, heq⟩ <;> rw [heq] <;> simp only <;> omega
    have hm := mu2_le hnext
    unfold mu
    rw [nafStep_size, if_pos hph]
    split <;> omega
  · -- phase 2
    have hge : bitSize d ≤ w + st.size := Nat.not_lt.1 hph
    have hib := inBit_of_ge (H := 2 ^ (w - 1)) hge
    have hw0 : st.window ≠ 0 := fun h => hnt ⟨h, hge⟩
    unfold mu
    rw [nafStep_size, if_neg hph, if_neg (by omega)]
    rcases nafStep_cases d (bitSize d) (w + st.size) hw st hwin _ rfl with
      ⟨hpar, heq⟩ | ⟨hpar, hlt, heq⟩ | ⟨hpar, hge', hi, heq⟩ | ⟨hpar, hge', hi, heq⟩
    · rw [heq, hib]; simp only [Nat.add_zero]
      rw [if_neg (by omega), if_neg (by omega)]
      exact bitSize_half_lt hw0
    · rw [heq, hib]; simp only
      rw [if_neg (by omega), if_neg (by omega)]
      exact bitSize_pos hw0
    · omega
    · rw [heq, hib]; simp only [Nat.add_zero]
      rw [if_neg (by omega), if_pos ⟨hpar, hge'⟩]
      have : bitSize (2 ^ (w - 1) / 2) ≤ w - 1 := by rw [bitSize_le_iff]; omega
      omega

theorem nafLoop_term {d w : Nat} (hw : 2 ≤ w) (fuel : Nat) {st : NafSt} (inv : NafInv d w st)
    (hf : mu d w st ≤ fuel) :
    let r := nafLoop d w (bitSize d) fuel (w + st.size) st
    r.window = 0 ∧ bitSize d ≤ w + r.size := by
  induction fuel generalizing st with
  | zero =>
    by_cases hnt : st.window = 0 ∧ w + st.size ≥ bitSize d
    · exact hnt
    · have := mu_step hw inv.win hnt; omega
  | succ n ih =>
    unfold nafLoop
    split
    · rename_i h; exact h
    · rename_i hnt
      have hlt := mu_step hw inv.win hnt
      have := ih (nafInv_step hw inv hnt) (by omega)
      rwa [nafStep_size, ← Nat.add_assoc] at this

theorem nafInv_init {d w : Nat} (hd : d ≠ 0) :
    NafInv d w { window := d % 2 ^ w, naf := 0, size := 0 } := by
  refine ⟨?_, ?_, ?_⟩
  · exact Nat.le_of_lt (Nat.mod_lt _ (by positivity))
  · simp only [decode, nafVal, Nat.add_zero, pow_zero, one_mul, zero_add]
    rw [Nat.shiftRight_eq_div_pow]
    have := Nat.mod_add_div d (2 ^ w)
    exact_mod_cast this.symm
  · intro h0 hb
    exfalso
    simp only [Nat.add_zero] at h0 hb
    have := (bitSize_le_iff d w).1 hb
    rw [Nat.mod_eq_of_lt this] at h0
    exact hd h0

theorem mu_init {d w : Nat} (hw : 2 ≤ w) :
    mu d w { window := d % 2 ^ w, naf := 0, size := 0 } ≤ bitSize d + w + 2 := by
  unfold mu
  simp only [Nat.add_zero]
  split
  · omega
  · have := mu2_le (Nat.le_of_lt (Nat.mod_lt d (show 0 < 2 ^ w by positivity)))
    omega

theorem wwNAF_zero (w : Nat) : wwNAF 0 w = (0, 0) := by simp [wwNAF]

/-- every digit is 0 or odd of magnitude `< 2^(w-1)` -/
theorem decode_digits {w : Nat} (hw : 2 ≤ w) (naf : Nat) :
    ∀ (k i : Nat) (e : Int), e ∈ decode w naf k i →
      e = 0 ∨ (e % 2 = 1 ∧ -(2 ^ (w - 1) : Int) < e ∧ e < 2 ^ (w - 1)) := by
  obtain ⟨h1, h2, h3⟩ := two_pow_split hw
  obtain ⟨H, hH⟩ : ∃ H, H = 2 ^ (w - 1) := ⟨_, rfl⟩
  have hHI : (2 ^ (w - 1) : Int) = (H : Int) := by rw [hH]; push_cast; rfl
  rw [hHI]
  rw [← hH] at h1 h2
  intro k
  induction k with
  | zero => intro i e he; simp [decode] at he
  | succ k ih =>
    intro i e he
    unfold decode at he
    simp only at he
    split at he
    · rename_i hodd
      rcases List.mem_cons.1 he with rfl | he
      · right
        have hlt : getBits naf i w < 2 ^ w := Nat.mod_lt _ (by positivity)
        generalize getBits naf i w = c at hodd hlt
        by_cases hc : c < H
        · rw [sval_pos hH hc]; omega
        · rw [sval_neg hH (by omega)]; omega
      · exact ih _ _ he
    · rcases List.mem_cons.1 he with rfl | he
      · left; rfl
      · exact ih _ _ he

end Bee2V.C06.MulL
