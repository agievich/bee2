/-
C06 — property theorems for `ecpAddJ` / `ecpSubJ` (`ec->add`, `ec->sub` of `ecpCreateJ`).

For every pair of Jacobian triples that stand for points `P`, `Q` of `y² = x³ + Ax + B` over a field of
characteristic ≠ 2 (including `O`, `P = Q`, `P = -Q`, points of order two) and for every aliasing of the
output with an input that the header allows, the program returns a triple that stands for Mathlib's
`P + Q` resp. `P - Q`.
-/
import Bee2V.C06.LemmasAddJ
import Bee2V.C06.LemmasPlace4
namespace Bee2V.C06
open WeierstrassCurve
set_option linter.unusedVariables false
variable {F : Type} [Field F] [DecidableEq F] {A B : F}

/-- `ecpAddJ(c, a, b)`, `a`, `b` in different buffers; `c` distinct, `c == a` or `c == b` -/
theorem add_correct {al : Al} {p q : P3 F} {P Q : (Wc A B).Point} (h2 : (2 : F) ≠ 0)
    (hal : al = .n ∨ al = .ca ∨ al = .cb) (hp : Rep3 A B p P) (hq : Rep3 A B q Q) :
    Rep3 A B ((ecOps (curveF A B)).add al p q) (P + Q) := by
  rcases hal with rfl | rfl | rfl
  · exact AddJ.add_ok h2 (.inl rfl) hp hq
  · exact AddJ.add_ok h2 (.inr rfl) hp hq
  · exact Rep3.congr (run2_al (curveF A B) ecpAddJ_pl (by decide) (.inr (.inr rfl)) p q)
      (AddJ.add_ok h2 (.inl rfl) hp hq)

/-- `ecpAddJ(c, a, a)`: the doubling fall-through (the value `q` is not placed in the store) -/
theorem add_ab_correct {p : P3 F} {P : (Wc A B).Point} (h2 : (2 : F) ≠ 0) (hp : Rep3 A B p P) (q : P3 F) :
    Rep3 A B ((ecOps (curveF A B)).add .ab p q) (P + P) :=
  Rep3.congr (run2_same (curveF A B) ecpAddJ_pl (by decide) p q) (AddJ.add_ok h2 (.inl rfl) hp hp)

/-- `ecpSubJ(c, a, b)` -/
theorem sub_correct {al : Al} {p q : P3 F} {P Q : (Wc A B).Point} (h2 : (2 : F) ≠ 0)
    (hal : al = .n ∨ al = .ca ∨ al = .cb) (hp : Rep3 A B p P) (hq : Rep3 A B q Q) :
    Rep3 A B ((ecOps (curveF A B)).sub al p q) (P - Q) := by
  rcases hal with rfl | rfl | rfl
  · exact AddJ.sub_ok h2 (.inl rfl) hp hq
  · exact AddJ.sub_ok h2 (.inr rfl) hp hq
  · exact Rep3.congr (run2_al (curveF A B) ecpSubJ_pl (by decide) (.inr (.inr rfl)) p q)
      (AddJ.sub_ok h2 (.inl rfl) hp hq)

/-- `ecpSubJ(c, a, a)` is `O` (in fact for every triple `p`, see `AddJ.sub_self_ok`) -/
theorem sub_ab_correct {p : P3 F} {P : (Wc A B).Point} (h2 : (2 : F) ≠ 0) (hp : Rep3 A B p P) (q : P3 F) :
    Rep3 A B ((ecOps (curveF A B)).sub .ab p q) 0 :=
  Rep3.congr (run2_same (curveF A B) ecpSubJ_pl (by decide) p q) (AddJ.sub_self_ok h2 p)

/-! Non-vacuity: `y² = x³ + 1` over `ℚ`, the points `(2, 3)` (as the triple `(8, 24, 2)`), `(0, 1)`,
    and `(-1, 0)` of order two. -/

example : Rep3 (0 : ℚ) 1 ((ecOps (curveF (0 : ℚ) 1)).add .ca (8, 24, 2) (0, 1, 1))
    (.some 2 3 AddJ.ns23 + .some 0 1 AddJ.ns01) :=
  add_correct (by norm_num) (Or.inr (Or.inl rfl)) AddJ.rep23 AddJ.rep01
/-- equal points in different representations, `c == a`: the fall-through doubles `b` -/
example : Rep3 (0 : ℚ) 1 ((ecOps (curveF (0 : ℚ) 1)).add .ca (8, 24, 2) (2, 3, 1))
    (.some 2 3 AddJ.ns23 + .some 2 3 AddJ.ns23) :=
  add_correct (by norm_num) (Or.inr (Or.inl rfl)) AddJ.rep23
    (AddJ.rep3_of_rep2 (by norm_num) ⟨AddJ.ns23, rfl⟩ (by norm_num) (by norm_num))
example : Rep3 (0 : ℚ) 1 ((ecOps (curveF (0 : ℚ) 1)).add .ab (-1, 0, 1) (0, 0, 0))
    (.some (-1) 0 AddJ.nsm10 + .some (-1) 0 AddJ.nsm10) :=
  add_ab_correct (by norm_num) AddJ.repm10 _
example : Rep3 (0 : ℚ) 1 ((ecOps (curveF (0 : ℚ) 1)).sub .cb (8, 24, 2) (0, 1, 1))
    (.some 2 3 AddJ.ns23 - .some 0 1 AddJ.ns01) :=
  sub_correct (by norm_num) (Or.inr (Or.inr rfl)) AddJ.rep23 AddJ.rep01
example : Rep3 (0 : ℚ) 1 ((ecOps (curveF (0 : ℚ) 1)).sub .ab (8, 24, 2) (0, 0, 0)) 0 :=
  sub_ab_correct (by norm_num) AddJ.rep23 _

end Bee2V.C06
