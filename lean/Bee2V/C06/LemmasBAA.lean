/-
C06, stage 2 — affine addition / subtraction `ec2AddAA`, `ec2SubAA` (ec2.c, curves
`y² + xy = x³ + Ax² + B` in characteristic 2): closed form of the execution on distinct buffers
(`addAA_exec`, `subAA_exec`, `subAA_self`) and agreement of the closed forms
with Mathlib's group law (`addSpec_correct`, `subSpec_correct`).
The C asserts that `a` and `c` are disjoint: the documented patterns are `.n`, `.cb`, `.ab`; `.ca`, `.abc` give the
same results (the routine saves `xa` before it writes `xc`); all are the call on distinct buffers (`PropsBAA`).
-/
import Bee2V.C06.Spec2
import Bee2V.C06.LemmasSub
import Mathlib.Tactic.Ring
import Mathlib.Tactic.FieldSimp
import Mathlib.Tactic.LinearCombination
namespace Bee2V.C06.BAA
open WeierstrassCurve

set_option linter.unusedSectionVars false
set_option linter.unusedSimpArgs false
variable {F : Type} [Field F] [DecidableEq F] [CharP F 2] {A B : F}

/-! ## closed forms -/

/-- chord as the C computes it from the slope `l`: `xc = xa + xb + l + l² + A`,
    `yc = ya + xc + (xa + xc) l` -/
def chord (A l x1 y1 x2 : F) : P2 F :=
  (x1 + x2 + l + l * l + A, y1 + (x1 + x2 + l + l * l + A) + (x1 + (x1 + x2 + l + l * l + A)) * l)

/-- tangent as the C computes it from the slope `l`: `xc = l² + l + A`, `yc = ya + l (xa + xc) + xc` -/
def tang (A l x1 y1 : F) : P2 F :=
  (l * l + l + A, y1 + l * (x1 + (l * l + l + A)) + (l * l + l + A))

/-- what `ec2AddAA` computes on distinct operand buffers -/
def addSpec (A x1 y1 x2 y2 : F) : Option (P2 F) :=
  if x1 = x2 then
    if y1 = y2 then
      if x1 = 0 then none else some (tang A (y1 * x1⁻¹ + x1) x1 y1)
    else none
  else some (chord A ((y1 + y2) * (x1 + x2)⁻¹) x1 y1 x2)

/-- what `ec2SubAA` computes on distinct operand buffers: `ec2AddAA` on `a` and `(xb, xb + yb)` -/
def subSpec (A x1 y1 x2 y2 : F) : Option (P2 F) := addSpec A x1 y1 x2 (x2 + y2)

/-! ## execution -/

theorem addAA_exec (x1 y1 x2 y2 : F) :
    runAA (curveB A B) ec2AddAA .n (x1, y1) (x2, y2) = addSpec A x1 y1 x2 y2 := by
  unfold addSpec
  by_cases hx : x1 = x2
  · rw [if_pos hx]
    by_cases hy : y1 = y2
    · rw [if_pos hy]
      by_cases h0 : x1 = 0
      · rw [if_pos h0]
        exact (run_then resO hx).trans ((run_then resO hy).trans (run_then resO h0))
      · rw [if_neg h0]
        exact (run_then resO hx).trans ((run_then resO hy).trans (run_else resO h0))
    · rw [if_neg hy]
      exact (run_then resO hx).trans (run_else resO hy)
  · rw [if_neg hx]
    exact run_else resO hx

/-- `ec2SubAA(c, a, b)` on distinct buffers: `ec2AddAA` on `a` and `(xb, xb + yb)` (`LemmasSub`) -/
theorem subAA_exec (x1 y1 x2 y2 : F) :
    runAA (curveB A B) ec2SubAA .n (x1, y1) (x2, y2) = subSpec A x1 y1 x2 y2 := by
  rw [subAA2_n]; exact addAA_exec ..

/-- `a - a` returns FALSE: through `ya != yt` if `xa ≠ 0`, through `xa == 0` otherwise -/
theorem subAA_self (a : P2 F) : runAA (curveB A B) ec2SubAA .n a a = none := by
  obtain ⟨x1, y1⟩ := a
  rw [subAA_exec]
  unfold subSpec addSpec
  rw [if_pos rfl]
  by_cases h0 : x1 = 0
  · rw [if_pos (by rw [h0, zero_add]), if_pos h0]
  · rw [if_neg]
    intro h; apply h0
    have : x1 + y1 + y1 = 0 := by rw [← h]; exact CharTwo.add_self_eq_zero y1
    rw [add_assoc, CharTwo.add_self_eq_zero, add_zero] at this; exact this

/-! ## the closed forms and the group law -/

theorem RepB2_ne_zero {r : P2 F} {P : (Wb A B).Point} (h : RepB2 A B r P) : P ≠ 0 := by
  obtain ⟨_, rfl⟩ := h
  exact Affine.Point.some_ne_zero _

theorem of_some {o : Option (P2 F)} {r0 : P2 F} {P : (Wb A B).Point} (ho : o = some r0)
    (h : RepB2 A B r0 P) : (o = none ↔ P = 0) ∧ ∀ r, o = some r → RepB2 A B r P := by
  subst ho
  refine ⟨⟨fun h0 => (by cases h0), fun h0 => absurd h0 (RepB2_ne_zero h)⟩, ?_⟩
  intro r hr
  cases hr
  exact h

theorem of_none {o : Option (P2 F)} {P : (Wb A B).Point} (ho : o = none)
    (h : P = 0) : (o = none ↔ P = 0) ∧ ∀ r, o = some r → RepB2 A B r P := by
  subst ho
  exact ⟨⟨fun _ => h, fun _ => rfl⟩, fun r hr => by cases hr⟩

/-- tangent at `(x, y)`, `x ≠ 0`, in the form the C computes (`yc = ya + λ(xa + xc) + xc`;
    equal to `x² + (λ + 1) xc` because `λ x = x² + y`) -/
theorem tangent_rep {x y : F} (h : (Wb A B).Nonsingular x y) (hx : x ≠ 0) :
    RepB2 A B (tang A (y * x⁻¹ + x) x y) (Affine.Point.some x y h + Affine.Point.some x y h) := by
  refine RepB2_of_eq (addB_tangent h hx) ?_ ?_
  · simp only [div_eq_mul_inv]; ring
  · simp only [div_eq_mul_inv]
    field_simp
    char2

/-- chord through `(x₁, y₁)`, `(x₂, y₂)`, `x₁ ≠ x₂`, in the form the C computes -/
theorem chord_rep {x1 y1 x2 y2 : F} (h1 : (Wb A B).Nonsingular x1 y1) (h2 : (Wb A B).Nonsingular x2 y2)
    (hx : x1 ≠ x2) :
    RepB2 A B (chord A ((y1 + y2) * (x1 + x2)⁻¹) x1 y1 x2)
      (Affine.Point.some x1 y1 h1 + Affine.Point.some x2 y2 h2) := by
  refine RepB2_of_eq (addB_chord h1 h2 hx) ?_ ?_ <;> simp only [div_eq_mul_inv] <;> ring

theorem addSpec_correct {x1 y1 x2 y2 : F}
    (h1 : (Wb A B).Nonsingular x1 y1) (h2 : (Wb A B).Nonsingular x2 y2) :
    (addSpec A x1 y1 x2 y2 = none ↔ Affine.Point.some x1 y1 h1 + Affine.Point.some x2 y2 h2 = 0) ∧
    ∀ r, addSpec A x1 y1 x2 y2 = some r →
      RepB2 A B r (Affine.Point.some x1 y1 h1 + Affine.Point.some x2 y2 h2) := by
  by_cases hx : x1 = x2
  · subst hx
    by_cases hy : y1 = y2
    · subst hy
      by_cases h0 : x1 = 0
      · subst h0
        exact of_none (by simp [addSpec]) (addB_order2 h1)
      · exact of_some (by simp [addSpec, h0]) (tangent_rep h1 h0)
    · refine of_none (by simp [addSpec, hy]) (addB_inverse h1 h2 rfl ?_)
      rcases yB_eq_or_neg h1 h2 with h | h
      · exact absurd h hy
      · exact h
  · exact of_some (by simp [addSpec, hx]) (chord_rep h1 h2 hx)

theorem subSpec_correct {x1 y1 x2 y2 : F}
    (h1 : (Wb A B).Nonsingular x1 y1) (h2 : (Wb A B).Nonsingular x2 y2) :
    (subSpec A x1 y1 x2 y2 = none ↔ Affine.Point.some x1 y1 h1 - Affine.Point.some x2 y2 h2 = 0) ∧
    ∀ r, subSpec A x1 y1 x2 y2 = some r →
      RepB2 A B r (Affine.Point.some x1 y1 h1 - Affine.Point.some x2 y2 h2) := by
  obtain ⟨hn, en⟩ := negB_some h2
  simp only at hn en
  rw [sub_eq_add_neg, en]
  exact addSpec_correct h1 hn

end Bee2V.C06.BAA
