/-
C06, phase 3 — a call `prog c a b s` anywhere in the store, with or without shared buffers, is the canonical call of
`Wrap.lean` on DISTINCT buffers (`Placeable.place`), given one finite fact about the routine (`Placeable`).  The
canonical calls with shared buffers are instances (`run1_al … runAA_same`).  No Mathlib, any field record.
-/
import Bee2V.C06.LemmasPlace2
import Bee2V.C06.Wrap2
namespace Bee2V.C06

/-- declared inputs of the canonical calls on distinct buffers: `A`, `B` and the operand slots -/
def D1 : List Nat := [0, 1, 5, 6, 7]
def D1a : List Nat := [0, 1, 5, 6]
def D2 : List Nat := [0, 1, 5, 6, 7, 8, 9, 10]
def D2A : List Nat := [0, 1, 5, 6, 7, 8, 9]
def DAA : List Nat := [0, 1, 5, 6, 8, 9]
/-- first operand in the destination slot (`ecpAddJ`, `ecpSubJ` with `c == a`) -/
def D2ca : List Nat := [0, 1, 2, 3, 4, 8, 9, 10]

/-- FALSE ↦ `none`, TRUE ↦ the affine point at `c` -/
def optRes {F : Type} (r : Store F × Bool) (c : Nat) : Option (P2 F) :=
  if r.2 then some (get2 r.1 c) else none

section
variable {F : Type} {cv : Curve F} {c a b s : Nat} {st : Store F}

/-! Any store holding the operands agrees (through `rho`) with the canonical store; each register by `rfl`, which is
much cheaper than one `simp` over `put3`/`upd`/`rho`. -/

theorem ag1 (hA : st.get rA = cv.A) (hB : st.get rB = cv.B) :
    ∀ i, i ∈ D1 → st.get (rho c a 0 s i) = (put3 (base cv) 5 (get3 st a)).get i := by
  simp only [D1, List.forall_mem_cons, List.not_mem_nil, false_imp_iff, implies_true, and_true]
  exact ⟨hA, hB, rfl, rfl, rfl⟩

theorem ag1a (hA : st.get rA = cv.A) (hB : st.get rB = cv.B) :
    ∀ i, i ∈ D1a → st.get (rho c a 0 s i) = (put2 (base cv) 5 (get2 st a)).get i := by
  simp only [D1a, List.forall_mem_cons, List.not_mem_nil, false_imp_iff, implies_true, and_true]
  exact ⟨hA, hB, rfl, rfl⟩

theorem ag2 (hA : st.get rA = cv.A) (hB : st.get rB = cv.B) :
    ∀ i, i ∈ D2 → st.get (rho c a b s i) = (put3 (put3 (base cv) 5 (get3 st a)) 8 (get3 st b)).get i := by
  simp only [D2, List.forall_mem_cons, List.not_mem_nil, false_imp_iff, implies_true, and_true]
  exact ⟨hA, hB, rfl, rfl, rfl, rfl, rfl, rfl⟩

theorem ag2ca (hA : st.get rA = cv.A) (hB : st.get rB = cv.B) :
    ∀ i, i ∈ D2ca → st.get (rho c a b s i) = (put3 (put3 (base cv) 2 (get3 st c)) 8 (get3 st b)).get i := by
  simp only [D2ca, List.forall_mem_cons, List.not_mem_nil, false_imp_iff, implies_true, and_true]
  exact ⟨hA, hB, rfl, rfl, rfl, rfl, rfl, rfl⟩

theorem ag2A (hA : st.get rA = cv.A) (hB : st.get rB = cv.B) :
    ∀ i, i ∈ D2A → st.get (rho c a b s i) = (put2 (put3 (base cv) 5 (get3 st a)) 8 (get2 st b)).get i := by
  simp only [D2A, List.forall_mem_cons, List.not_mem_nil, false_imp_iff, implies_true, and_true]
  exact ⟨hA, hB, rfl, rfl, rfl, rfl, rfl⟩

theorem agAA (hA : st.get rA = cv.A) (hB : st.get rB = cv.B) :
    ∀ i, i ∈ DAA → st.get (rho c a b s i) = (put2 (put2 (base cv) 5 (get2 st a)) 8 (get2 st b)).get i := by
  simp only [DAA, List.forall_mem_cons, List.not_mem_nil, false_imp_iff, implies_true, and_true]
  exact ⟨hA, hB, rfl, rfl, rfl, rfl⟩

end


section
variable {F : Type} (f : Fld F) {c a b s : Nat} {S : Nat → Bool} {q : Bool → Bool} {out D : List Nat} {P P' : Prog}
  {st0 st : Store F}

theorem place_run {σ : Nat → Nat} (hmap : P.map (rho c a b s) = P')
    (hρ : ∀ i j, S i = true → S j = true → rho c a b s i = rho c a b s j → σ i = σ j)
    (chk : (D.all S && P.safe q out σ S D) = true)
    (hag : ∀ i, i ∈ D → st.get (rho c a b s i) = st0.get i) :
    (P'.run f st).2 = (P.run f st0).2 ∧
    (q (P.run f st0).2 = false → ∀ i, i ∈ out → (P'.run f st).1.get (rho c a b s i) = (P.run f st0).1.get i) := by
  simp only [Bool.and_eq_true, List.all_eq_true] at chk
  exact hmap ▸ Prog.run_map f hρ q out P D chk.1 chk.2 hag

end

/-- What is finite about a routine whose text does not depend on which of its buffers coincide; `wc wa wb` are the
    widths of destination and operands, `als` the patterns.  The premise of `map` is for `ecpAddJ`, whose text is the same
    only for the placements with `c ≠ a`: `map` may use `c ≠ a` if no pattern of `als` identifies the two. -/
structure Placeable (prog : Nat → Nat → Nat → Nat → Prog) (wc wa wb : Nat) (q : Bool → Bool) (out D : List Nat)
    (als : List Al) : Prop where
  map : ∀ c a b s,
    (SW wc wa wb 2 = true → SW wc wa wb 5 = true → (∀ al, al ∈ als → al.sig 2 ≠ al.sig 5) → c ≠ a) →
    (prog 2 5 8 11).map (rho c a b s) = prog c a b s
  chk : (decide (wc ≤ 3 ∧ wa ≤ 3 ∧ wb ≤ 3) && D.all (SW wc wa wb) &&
    als.all fun al => (prog 2 5 8 11).safe q out al.sig (SW wc wa wb) D) = true

section
variable {F : Type} (f : Fld F) {prog : Nat → Nat → Nat → Nat → Prog} {wc wa wb c a b s : Nat} {q : Bool → Bool}
  {out D : List Nat} {als : List Al} {st0 st : Store F} {r' r : Store F × Bool}

/-- `st0` is the store of the canonical call on DISTINCT buffers, whatever `al` is. -/
theorem Placeable.place (pl : Placeable prog wc wa wb q out D als) {al : Al} (hal : al ∈ als) (h : al.Holds c a b)
    (hinj : ∀ i j, Sal wc wa wb al i = true → Sal wc wa wb al j = true → rho c a b s i = rho c a b s j → i = j)
    (hag : ∀ i, i ∈ D → st.get (rho c a b s i) = st0.get i) :
    ((prog c a b s).run f st).2 = ((prog 2 5 8 11).run f st0).2 ∧
    (q ((prog 2 5 8 11).run f st0).2 = false →
      ∀ i, i ∈ out → ((prog c a b s).run f st).1.get (rho c a b s i) = ((prog 2 5 8 11).run f st0).1.get i) := by
  have chk := pl.chk
  simp only [Bool.and_eq_true, decide_eq_true_eq, List.all_eq_true (l := als)] at chk
  obtain ⟨⟨⟨hwc, hwa, hwb⟩, hD⟩, hs⟩ := chk
  have hρ := rho_al al hwc hwa hwb h hinj
  exact place_run f (pl.map c a b s fun s2 s5 hne e => hne al hal (hρ 2 5 s2 s5 (by simp [rho, e]))) hρ
    (by rw [hD, hs al hal]; rfl) hag

theorem out3 (h : r'.2 = r.2 ∧ (false = false → ∀ i, i ∈ [2, 3, 4] → r'.1.get (rho c a b s i) = r.1.get i)) :
    get3 r'.1 c = get3 r.1 2 :=
  Prod.ext (h.2 rfl 2 (by simp)) (Prod.ext (h.2 rfl 3 (by simp)) (h.2 rfl 4 (by simp)))

theorem out2 (h : r'.2 = r.2 ∧ (false = false → ∀ i, i ∈ [2, 3] → r'.1.get (rho c a b s i) = r.1.get i)) :
    get2 r'.1 c = get2 r.1 2 :=
  Prod.ext (h.2 rfl 2 (by simp)) (h.2 rfl 3 (by simp))

theorem outOpt (h : r'.2 = r.2 ∧ ((!r.2) = false → ∀ i, i ∈ [2, 3] → r'.1.get (rho c a b s i) = r.1.get i)) :
    optRes r' c = optRes r 2 := by
  unfold optRes
  rw [h.1]
  split
  · next hb =>
    have e : get2 r'.1 c = get2 r.1 2 := out2 ⟨h.1, fun _ => h.2 (by rw [hb]; rfl)⟩
    rw [e]
  · rfl

/-- reading an `optRes` equation: the form of the `…_anywhere_…` theorems for FALSE-returning routines -/
theorem optRes_spec {r : Store F × Bool} {c : Nat} {o : Option (P2 F)} (e : optRes r c = o)
    {X : Prop} {R : P2 F → Prop} (h : (o = none ↔ X) ∧ ∀ v, o = some v → R v) :
    (r.2 = false ↔ X) ∧ (r.2 = true → R (get2 r.1 c)) := by
  subst e
  unfold optRes at h
  cases hb : r.2
  · have e1 : (if r.2 = true then some (get2 r.1 c) else none) = none := by simp [hb]
    rw [e1] at h
    exact ⟨⟨fun _ => h.1.1 rfl, fun _ => rfl⟩, fun h' => Bool.noConfusion h'⟩
  · have e1 : (if r.2 = true then some (get2 r.1 c) else none) = some (get2 r.1 c) := by simp [hb]
    rw [e1] at h
    exact ⟨⟨fun h' => Bool.noConfusion h', fun hx => by cases h.1.2 hx⟩, fun _ => h.2 _ rfl⟩


end

theorem optRes_none {F : Type} {r : Store F × Bool} {c : Nat} (e : optRes r c = none) : r.2 = false := by
  unfold optRes at e
  cases hb : r.2
  · rfl
  · rw [hb] at e; cases e

/-- `hinj` of `place_…` for `S := SW wc wa wb` from the interval hypotheses in the context -/
macro "inj_w" : tactic => `(tactic| (apply rho_inj_w <;> omega))

/-- `(prog <canonical indices>).map (rho c a b s) = prog <general indices>` for the programs of `Ecp.lean`;
    index disequalities (`c ≠ a`) are taken from the context.  Every hypothesis in scope becomes a rewrite rule (`*`):
    an injectivity hypothesis `∀ i j, … → i = j` there makes the call several times dearer. -/
macro "place_map" : tactic => `(tactic|
  simp only [ecpFromAJ, ecpToAJ, ecpNegJ, ecpDblJ, ecpDblJA3, ecpDblAJ, ecpAddJ, ecpAddAJ, ecpSubJ, ecpSubAJ,
    ecpTplJ, ecpTplJA3, ecpIsOnA, ecpNegA, ecpAATail, ecpAATangent, ecpAddAA, ecpSubAA,
    Prog.map, Prog.map_block, Instr.map, List.map, rho, slotA, slotB, sc, sa, sb, sk, cX, cY, cZ, rA, rB,
    Nat.add_assoc, Nat.add_zero, Nat.reduceAdd, Nat.reduceSub, Nat.reduceLT, Nat.reduceEqDiff, if_true, if_false, ite_self, *])

/-- the same for the programs of `Ec2.lean` -/
macro "place_map2" : tactic => `(tactic|
  simp only [ec2FromALD, ec2ToALD, ec2NegLD, ec2DblLDTail, ec2DblLD, ec2DblALDTail, ec2DblALD, ec2AddLD,
    ec2AddALDTail, ec2AddALD, ec2SubLD, ec2SubALD, ec2IsOnA, ec2NegA, ec2AddAA, ec2SubAA,
    Prog.map, Prog.map_block, Instr.map, List.map, rho, slotA, slotB, sc, sa, sb, sk, cX, cY, cZ, rA, rB,
    Nat.add_assoc, Nat.add_zero, Nat.reduceAdd, Nat.reduceSub, Nat.reduceLT, Nat.reduceEqDiff, if_true, if_false, ite_self, *])

/-! `Placeable.place` with the canonical side written as the wrapper.  The routine is a VARIABLE here: with a concrete
program in sight the unifier starts running it when it unfolds the wrapper (`ecpTplJ`: timeout). -/

section
variable {F : Type} {cv : Curve F} (f : Fld F) (hf : cv.f = f) {als : List Al} {al : Al} {c a b s : Nat} {st : Store F}
include hf

theorem Placeable.run1 {prog : Nat → Nat → Nat → Prog}
    (pl : Placeable (fun c a _ s => prog c a s) 3 3 0 (fun _ => false) [2, 3, 4] D1 als) (hal : al ∈ als)
    (h : al.Holds c a 0)
    (hinj : ∀ i j, Sal 3 3 0 al i = true → Sal 3 3 0 al j = true → rho c a 0 s i = rho c a 0 s j → i = j)
    (hA : st.get rA = cv.A) (hB : st.get rB = cv.B) :
    get3 ((prog c a s).run f st).1 c = run1 cv prog .n (get3 st a) := by
  subst hf; exact out3 (pl.place cv.f hal h hinj (ag1 hA hB))

variable {prog : Nat → Nat → Nat → Nat → Prog}

theorem Placeable.run2 (pl : Placeable prog 3 3 3 (fun _ => false) [2, 3, 4] D2 als) (hal : al ∈ als)
    (h : al.Holds c a b)
    (hinj : ∀ i j, Sal 3 3 3 al i = true → Sal 3 3 3 al j = true → rho c a b s i = rho c a b s j → i = j)
    (hA : st.get rA = cv.A) (hB : st.get rB = cv.B) :
    get3 ((prog c a b s).run f st).1 c = run2 cv prog .n (get3 st a) (get3 st b) := by
  subst hf; exact out3 (pl.place cv.f hal h hinj (ag2 hA hB))

theorem Placeable.run2A (pl : Placeable prog 3 3 2 (fun _ => false) [2, 3, 4] D2A als) (hal : al ∈ als)
    (h : al.Holds c a b)
    (hinj : ∀ i j, Sal 3 3 2 al i = true → Sal 3 3 2 al j = true → rho c a b s i = rho c a b s j → i = j)
    (hA : st.get rA = cv.A) (hB : st.get rB = cv.B) :
    get3 ((prog c a b s).run f st).1 c = run2A cv prog .n (get3 st a) (get2 st b) := by
  subst hf; exact out3 (pl.place cv.f hal h hinj (ag2A hA hB))

theorem Placeable.runAA (pl : Placeable prog 2 2 2 (fun b => !b) [2, 3] DAA als) (hal : al ∈ als)
    (h : al.Holds c a b)
    (hinj : ∀ i j, Sal 2 2 2 al i = true → Sal 2 2 2 al j = true → rho c a b s i = rho c a b s j → i = j)
    (hA : st.get rA = cv.A) (hB : st.get rB = cv.B) :
    optRes ((prog c a b s).run f st) c = runAA cv prog .n (get2 st a) (get2 st b) := by
  subst hf; exact outOpt (pl.place cv.f hal h hinj (agAA hA hB))

end

/-! The canonical calls with shared buffers: `Placeable.place` at the placement `2 (slotA al) (slotB al) 11`. -/

section
variable {F : Type} (cv : Curve F) {als : List Al} {al : Al}

theorem run1_al {prog : Nat → Nat → Nat → Prog}
    (pl : Placeable (fun c a _ s => prog c a s) 3 3 0 (fun _ => false) [2, 3, 4] D1 als)
    (hd : al = .n ∨ al = .ca) (hal : .ca ∈ als) (p : P3 F) : run1 cv prog al p = run1 cv prog .n p := by
  rcases hd with rfl | rfl
  · rfl
  · exact out3 (pl.place cv.f hal (c := 2) (a := 2) (b := 0) (s := 11) rfl (by inj_w)
      (by simp only [D1, List.forall_mem_cons, List.not_mem_nil, false_imp_iff, implies_true, and_true]
          exact ⟨rfl, rfl, rfl, rfl, rfl⟩))

/-- in place, for the wrappers with a fixed routine (`froma`, `dbla`; `negA`; `toa`) -/
theorem inplace_a3 {prog : Nat → Nat → Nat → Nat → Prog}
    (pl : Placeable prog 3 2 0 (fun _ => false) [2, 3, 4] D1a als) (hal : .ca ∈ als) (a : P2 F) :
    get3 ((prog 2 2 0 11).run cv.f (put2 (base cv) 2 a)).1 2 =
      get3 ((prog 2 5 8 11).run cv.f (put2 (base cv) 5 a)).1 2 :=
  out3 (pl.place cv.f hal (c := 2) (a := 2) (b := 0) (s := 11) rfl (by inj_w)
    (by simp only [D1a, List.forall_mem_cons, List.not_mem_nil, false_imp_iff, implies_true, and_true]
        exact ⟨rfl, rfl, rfl, rfl⟩))

theorem inplace_a2 {prog : Nat → Nat → Nat → Nat → Prog}
    (pl : Placeable prog 2 2 0 (fun _ => false) [2, 3] D1a als) (hal : .ca ∈ als) (a : P2 F) :
    get2 ((prog 2 2 0 11).run cv.f (put2 (base cv) 2 a)).1 2 =
      get2 ((prog 2 5 8 11).run cv.f (put2 (base cv) 5 a)).1 2 :=
  out2 (pl.place cv.f hal (c := 2) (a := 2) (b := 0) (s := 11) rfl (by inj_w)
    (by simp only [D1a, List.forall_mem_cons, List.not_mem_nil, false_imp_iff, implies_true, and_true]
        exact ⟨rfl, rfl, rfl, rfl⟩))

theorem inplace_opt {prog : Nat → Nat → Nat → Nat → Prog}
    (pl : Placeable prog 2 3 0 (fun b => !b) [2, 3] D1 als) (hal : .ca ∈ als) (p : P3 F) :
    optRes ((prog 2 2 0 11).run cv.f (put3 (base cv) 2 p)) 2 =
      optRes ((prog 2 5 8 11).run cv.f (put3 (base cv) 5 p)) 2 :=
  outOpt (pl.place cv.f hal (c := 2) (a := 2) (b := 0) (s := 11) rfl (by inj_w)
    (by simp only [D1, List.forall_mem_cons, List.not_mem_nil, false_imp_iff, implies_true, and_true]
        exact ⟨rfl, rfl, rfl, rfl, rfl⟩))

variable {prog : Nat → Nat → Nat → Nat → Prog}

theorem run2_al (pl : Placeable prog 3 3 3 (fun _ => false) [2, 3, 4] D2 als) (hal : al ∈ als)
    (hd : al = .n ∨ al = .ca ∨ al = .cb) (p q : P3 F) : run2 cv prog al p q = run2 cv prog .n p q := by
  rcases hd with rfl | rfl | rfl
  · rfl
  · exact out3 (pl.place cv.f hal (c := 2) (a := 2) (b := 8) (s := 11) rfl (by inj_w)
      (by simp only [D2, List.forall_mem_cons, List.not_mem_nil, false_imp_iff, implies_true, and_true]
          exact ⟨rfl, rfl, rfl, rfl, rfl, rfl, rfl, rfl⟩))
  · exact out3 (pl.place cv.f hal (c := 2) (a := 5) (b := 2) (s := 11) rfl (by inj_w)
      (by simp only [D2, List.forall_mem_cons, List.not_mem_nil, false_imp_iff, implies_true, and_true]
          exact ⟨rfl, rfl, rfl, rfl, rfl, rfl, rfl, rfl⟩))

theorem run2_same (pl : Placeable prog 3 3 3 (fun _ => false) [2, 3, 4] D2 als) (hal : .ab ∈ als) (p q : P3 F) :
    run2 cv prog .ab p q = run2 cv prog .n p p :=
  out3 (pl.place cv.f hal (c := 2) (a := 5) (b := 5) (s := 11) rfl (by inj_w)
    (by simp only [D2, List.forall_mem_cons, List.not_mem_nil, false_imp_iff, implies_true, and_true]
        exact ⟨rfl, rfl, rfl, rfl, rfl, rfl, rfl, rfl⟩))

theorem run2A_al (pl : Placeable prog 3 3 2 (fun _ => false) [2, 3, 4] D2A als) (hal : al ∈ als)
    (hd : al = .n ∨ al = .ca ∨ al = .cb) (p : P3 F) (q : P2 F) : run2A cv prog al p q = run2A cv prog .n p q := by
  rcases hd with rfl | rfl | rfl
  · rfl
  · exact out3 (pl.place cv.f hal (c := 2) (a := 2) (b := 8) (s := 11) rfl (by inj_w)
      (by simp only [D2A, List.forall_mem_cons, List.not_mem_nil, false_imp_iff, implies_true, and_true]
          exact ⟨rfl, rfl, rfl, rfl, rfl, rfl, rfl⟩))
  · exact out3 (pl.place cv.f hal (c := 2) (a := 5) (b := 2) (s := 11) rfl (by inj_w)
      (by simp only [D2A, List.forall_mem_cons, List.not_mem_nil, false_imp_iff, implies_true, and_true]
          exact ⟨rfl, rfl, rfl, rfl, rfl, rfl, rfl⟩))

theorem runAA_al (pl : Placeable prog 2 2 2 (fun b => !b) [2, 3] DAA als) (hal : al ∈ als)
    (hd : al = .n ∨ al = .ca ∨ al = .cb) (p q : P2 F) : runAA cv prog al p q = runAA cv prog .n p q := by
  rcases hd with rfl | rfl | rfl
  · rfl
  · exact outOpt (pl.place cv.f hal (c := 2) (a := 2) (b := 8) (s := 11) rfl (by inj_w)
      (by simp only [DAA, List.forall_mem_cons, List.not_mem_nil, false_imp_iff, implies_true, and_true]
          exact ⟨rfl, rfl, rfl, rfl, rfl, rfl⟩))
  · exact outOpt (pl.place cv.f hal (c := 2) (a := 5) (b := 2) (s := 11) rfl (by inj_w)
      (by simp only [DAA, List.forall_mem_cons, List.not_mem_nil, false_imp_iff, implies_true, and_true]
          exact ⟨rfl, rfl, rfl, rfl, rfl, rfl⟩))

theorem runAA_same (pl : Placeable prog 2 2 2 (fun b => !b) [2, 3] DAA als) (hal : al ∈ als)
    (hab : al = .ab ∨ al = .abc) (p q : P2 F) : runAA cv prog al p q = runAA cv prog .n p p := by
  rcases hab with rfl | rfl
  · exact outOpt (pl.place cv.f hal (c := 2) (a := 5) (b := 5) (s := 11) rfl (by inj_w)
      (by simp only [DAA, List.forall_mem_cons, List.not_mem_nil, false_imp_iff, implies_true, and_true]
          exact ⟨rfl, rfl, rfl, rfl, rfl, rfl⟩))
  · exact outOpt (pl.place cv.f hal (c := 2) (a := 2) (b := 2) (s := 11) ⟨rfl, rfl⟩ (by inj_w)
      (by simp only [DAA, List.forall_mem_cons, List.not_mem_nil, false_imp_iff, implies_true, and_true]
          exact ⟨rfl, rfl, rfl, rfl, rfl, rfl⟩))

end

end Bee2V.C06
