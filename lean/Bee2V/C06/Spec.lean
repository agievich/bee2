/-
C06 — specification side: the group of points of `y² = x³ + Ax + B` over a field `F` is Mathlib's
`WeierstrassCurve.Affine.Point` (an `AddCommGroup`); `fieldFld F` are the field operations the
programs of `Ecp` are interpreted with; `Rep3`/`Rep2` say which group element a Jacobian triple /
an affine pair stands for.  Explicit chord and tangent forms of Mathlib's addition (`add_chord`,
`add_tangent`, `add_inverse`) are the interface the formula lemmas use.
-/
import Mathlib.AlgebraicGeometry.EllipticCurve.Affine.Point
import Bee2V.C06.Wrap
namespace Bee2V.C06
open WeierstrassCurve

set_option linter.unusedSectionVars false
set_option linter.unusedSimpArgs false
variable {F : Type} [Field F] [DecidableEq F]

/-- the operations of a field; `gfpDouble a = a + a`, `gfpHalf a = a / 2`, `qrInv a = a⁻¹`,
    `qrPower a e = a ^ e` -/
def fieldFld (F : Type) [Field F] [DecidableEq F] : Fld F where
  zero := 0
  one := 1
  add a b := a + b
  sub a b := a - b
  mul a b := a * b
  neg a := -a
  dbl a := a + a
  half a := a / 2
  inv a := a⁻¹
  pow a e := a ^ e
  eqb a b := decide (a = b)

/-! ### symbolic runs

`Prog.run (fieldFld F)` of a program that starts with a test evaluates to `if decide p then r₁ else r₂`, where `p`
is the test on the values of the registers and `r₁`, `r₂` are the runs of the two arms.  With `p` or `¬p` at hand
the run continues in one arm; `k` is what the caller reads off the final state.  Used as a term, the two arms are
found by unification, which evaluates the straight-line code in front of the test; a straight-line tail is
closed by `rfl` (the final `run_then`/`run_else` may state the value of `k` on the arm directly; after a long tail
a separate `by rfl` is cheaper to elaborate). -/

theorem run_then {α β : Type} (k : α → β) {p : Prop} [Decidable p] {a b : α} (h : p) :
    k (if decide p then a else b) = k a := by rw [if_pos (decide_eq_true h)]

theorem run_else {α β : Type} (k : α → β) {p : Prop} [Decidable p] {a b : α} (h : ¬p) :
    k (if decide p then a else b) = k b := by rw [if_neg (by rwa [decide_eq_true_eq])]

/-- the triple in the destination slot / its `Z` / the flag with the pair -/
abbrev res3 {F : Type} (r : Store F × Bool) : P3 F := get3 r.1 sc
abbrev resZ {F : Type} (r : Store F × Bool) : F := (get3 r.1 sc).2.2
abbrev resO {F : Type} (r : Store F × Bool) : Option (P2 F) := if r.2 then some (get2 r.1 sc) else none

/-- the curve `y² = x³ + Ax + B` -/
def Wc (A B : F) : Affine F := { a₁ := 0, a₂ := 0, a₃ := 0, a₄ := A, a₆ := B }

/-- `ecpCreateJ` over a field -/
def curveF (A B : F) : Curve F := mkCurve (fieldFld F) A B

theorem Wc_equation (A B x y : F) : (Wc A B).Equation x y ↔ y ^ 2 = x ^ 3 + A * x + B := by
  rw [Affine.equation_iff]; simp [Wc]

theorem Wc_nonsingular (A B x y : F) :
    (Wc A B).Nonsingular x y ↔ y ^ 2 = x ^ 3 + A * x + B ∧ (3 * x ^ 2 + A ≠ 0 ∨ y + y ≠ 0) := by
  rw [Affine.nonsingular_iff, Wc_equation]
  simp only [Wc, zero_mul, mul_zero, add_zero, sub_zero]
  have e1 : (0 ≠ 3 * x ^ 2 + A) ↔ (3 * x ^ 2 + A ≠ 0) := ⟨fun h => h.symm, fun h => h.symm⟩
  have e2 : (y ≠ -y) ↔ (y + y ≠ 0) :=
    ⟨fun h h0 => h (by linear_combination h0), fun h h0 => h (by linear_combination h0)⟩
  rw [e1, e2]

@[simp] theorem Wc_negY (A B x y : F) : (Wc A B).negY x y = -y := by simp [Affine.negY, Wc]

/-- an affine pair stands for the point with these coordinates -/
def Rep2 (A B : F) (a : P2 F) (P : (Wc A B).Point) : Prop :=
  ∃ h : (Wc A B).Nonsingular a.1 a.2, P = .some a.1 a.2 h

/-- a Jacobian triple `(X : Y : Z)` stands for `O` if `Z = 0` and for `(X/Z², Y/Z³)` otherwise -/
def Rep3 (A B : F) (p : P3 F) (P : (Wc A B).Point) : Prop :=
  if p.2.2 = 0 then P = 0 else Rep2 A B (p.1 / p.2.2 ^ 2, p.2.1 / p.2.2 ^ 3) P

theorem Rep3.congr {A B : F} {p p' : P3 F} {P : (Wc A B).Point} (e : p' = p) (h : Rep3 A B p P) : Rep3 A B p' P :=
  e ▸ h

theorem Rep2.congr {A B : F} {a a' : P2 F} {P : (Wc A B).Point} (e : a' = a) (h : Rep2 A B a P) : Rep2 A B a' P :=
  e ▸ h

theorem some_congr {A B : F} {x y x' y' : F} (h : (Wc A B).Nonsingular x y) (hx : x = x') (hy : y = y') :
    ∃ h' : (Wc A B).Nonsingular x' y', Affine.Point.some x y h = Affine.Point.some x' y' h' := by
  subst hx; subst hy; exact ⟨h, rfl⟩

theorem Rep2_of_eq {A B : F} {x y x' y' : F} {P : (Wc A B).Point} (h : Rep2 A B (x, y) P)
    (hx : x = x') (hy : y = y') : Rep2 A B (x', y') P := by
  subst hx; subst hy; exact h

/-- chord: `x₁ ≠ x₂` -/
theorem add_chord {A B x₁ y₁ x₂ y₂ : F} (h₁ : (Wc A B).Nonsingular x₁ y₁) (h₂ : (Wc A B).Nonsingular x₂ y₂)
    (hx : x₁ ≠ x₂) :
    Rep2 A B (((y₁ - y₂) / (x₁ - x₂)) ^ 2 - x₁ - x₂,
      ((y₁ - y₂) / (x₁ - x₂)) * (x₁ - (((y₁ - y₂) / (x₁ - x₂)) ^ 2 - x₁ - x₂)) - y₁)
      (Affine.Point.some x₁ y₁ h₁ + Affine.Point.some x₂ y₂ h₂) := by
  rw [Affine.Point.add_of_X_ne hx]
  refine Rep2_of_eq ⟨_, rfl⟩ ?_ ?_
  · simp [Affine.slope_of_X_ne hx, Wc]
  · simp [Affine.slope_of_X_ne hx, Wc]; ring

/-- tangent: doubling of a point with `y ≠ 0` (`y + y ≠ 0`) -/
theorem add_tangent {A B x y : F} (h : (Wc A B).Nonsingular x y) (hy : y + y ≠ 0) :
    Rep2 A B (((3 * x ^ 2 + A) / (y + y)) ^ 2 - x - x,
      ((3 * x ^ 2 + A) / (y + y)) * (x - (((3 * x ^ 2 + A) / (y + y)) ^ 2 - x - x)) - y)
      (Affine.Point.some x y h + Affine.Point.some x y h) := by
  have hy' : y ≠ (Wc A B).negY x y := by
    rw [Wc_negY]; intro h0; apply hy; linear_combination h0
  rw [Affine.Point.add_self_of_Y_ne hy']
  have hs : (Wc A B).slope x x y y = (3 * x ^ 2 + A) / (y + y) := by
    rw [Affine.slope_of_Y_ne rfl hy']; simp [Wc, Affine.negY]
  refine Rep2_of_eq ⟨_, rfl⟩ ?_ ?_
  · rw [hs]; simp [Wc]
  · rw [hs]; simp [Wc]; ring

/-- inverse points: same `x`, `y₁ = -y₂` -/
theorem add_inverse {A B x₁ y₁ x₂ y₂ : F} (h₁ : (Wc A B).Nonsingular x₁ y₁) (h₂ : (Wc A B).Nonsingular x₂ y₂)
    (hx : x₁ = x₂) (hy : y₁ = -y₂) :
    Affine.Point.some x₁ y₁ h₁ + Affine.Point.some x₂ y₂ h₂ = 0 :=
  Affine.Point.add_of_Y_eq hx (by rw [Wc_negY]; exact hy)

/-- two points with the same `x` have `y₁ = y₂` or `y₁ = -y₂` -/
theorem y_eq_or_neg {A B x y₁ y₂ : F} (h₁ : (Wc A B).Nonsingular x y₁) (h₂ : (Wc A B).Nonsingular x y₂) :
    y₁ = y₂ ∨ y₁ = -y₂ := by
  have e₁ := ((Wc_nonsingular A B x y₁).1 h₁).1
  have e₂ := ((Wc_nonsingular A B x y₂).1 h₂).1
  have : (y₁ - y₂) * (y₁ + y₂) = 0 := by linear_combination e₁ - e₂
  rcases mul_eq_zero.1 this with h | h
  · exact Or.inl (by linear_combination h)
  · exact Or.inr (by linear_combination h)

theorem neg_some {A B x y : F} (h : (Wc A B).Nonsingular x y) :
    Rep2 A B (x, -y) (-(Affine.Point.some x y h)) := by
  rw [Affine.Point.neg_some]
  exact Rep2_of_eq ⟨_, rfl⟩ rfl (Wc_negY A B x y)

end Bee2V.C06
