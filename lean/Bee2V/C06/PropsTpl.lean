/-
C06 — property theorems for projective tripling: `ecpTplJ` (tpl-2007-bl, any `A`), `ecpTplJA3`
(tpl-2007-bl-2, `A = −3`) and the `tpl` entry installed by `ecpCreateJ`.  Neither routine has a
special-case branch; each returns `3P = P + P + P` of Mathlib's group law on `(Wc A B).Point` for
EVERY input: `P = O` (`Z = 0 ⇒ Z₃ = 0`), `P` of order two (`Y = 0`, the output represents `P`),
`P` of order three (`2P = −P`, `Z₃ = 2ZE = 0`), generic `P`; destination distinct from the operand
(`al = .n`) and in place (`al = .ca`); non-normalised `Z`; over any field with `2 ≠ 0`
(`3 ≠ 0` is not needed).
-/
import Bee2V.C06.LemmasTpl
import Bee2V.C06.LemmasPlace4
namespace Bee2V.C06
open WeierstrassCurve

set_option linter.unusedSectionVars false
set_option linter.unusedVariables false
variable {F : Type} [Field F] [DecidableEq F] {A B : F}

/-- `ecpTplJ` (any `A`) -/
theorem tplJ_correct {al : Al} {p : P3 F} {P : (Wc A B).Point} (h2 : (2 : F) ≠ 0)
    (hal : al = .n ∨ al = .ca) (hp : Rep3 A B p P) :
    Rep3 A B (run1 (curveF A B) ecpTplJ al p) (P + P + P) :=
  Rep3.congr (run1_al (curveF A B) ecpTplJ_pl hal (by decide) p) (Tpl.tplJ_ok h2 hp)

/-- generic point `(2, 3)` of order six as `(8 : 24 : 2)`, in place -/
example : Rep3 (0 : ℚ) 1 (run1 (curveF 0 1) ecpTplJ .ca (8, 24, 2))
    (.some 2 3 Tpl.ns23 + .some 2 3 Tpl.ns23 + .some 2 3 Tpl.ns23) :=
  tplJ_correct (by norm_num) (Or.inr rfl) Tpl.rep3_23
/-- order two -/
example : Rep3 (0 : ℚ) 1 (run1 (curveF 0 1) ecpTplJ .n (-4, 0, 2))
    (.some (-1) 0 Tpl.nsm10 + .some (-1) 0 Tpl.nsm10 + .some (-1) 0 Tpl.nsm10) :=
  tplJ_correct (by norm_num) (Or.inl rfl) Tpl.rep3_m10
/-- order three -/
example : Rep3 (0 : ℚ) 1 (run1 (curveF 0 1) ecpTplJ .ca (0, 8, 2))
    (.some 0 1 Tpl.ns01 + .some 0 1 Tpl.ns01 + .some 0 1 Tpl.ns01) :=
  tplJ_correct (by norm_num) (Or.inr rfl) Tpl.rep3_01
/-- `O` -/
example : Rep3 (0 : ℚ) 1 (run1 (curveF 0 1) ecpTplJ .ca (5, 7, 0)) (0 + 0 + 0) :=
  tplJ_correct (by norm_num) (Or.inr rfl) Tpl.rep3_O

/-- `ecpTplJA3` (`A = −3`) -/
theorem tplJA3_correct {al : Al} {p : P3 F} {P : (Wc A B).Point} (h2 : (2 : F) ≠ 0) (hA : A = -3)
    (hal : al = .n ∨ al = .ca) (hp : Rep3 A B p P) :
    Rep3 A B (run1 (curveF A B) ecpTplJA3 al p) (P + P + P) :=
  Rep3.congr (run1_al (curveF A B) ecpTplJA3_pl hal (by decide) p) (Tpl.tplJA3_ok h2 hA hp)

example : Rep3 (-3 : ℚ) 3 (run1 (curveF (-3) 3) ecpTplJA3 .ca (4, 8, 2))
    (.some 1 1 Tpl.ns11 + .some 1 1 Tpl.ns11 + .some 1 1 Tpl.ns11) :=
  tplJA3_correct (by norm_num) rfl (Or.inr rfl) Tpl.rep3_11

/-- `ec->tpl` as installed by `ecpCreateJ` (`ecpTplJA3` iff `A == −3`, else `ecpTplJ`) -/
theorem tpl_correct {al : Al} {p : P3 F} {P : (Wc A B).Point} (h2 : (2 : F) ≠ 0)
    (hal : al = .n ∨ al = .ca) (hp : Rep3 A B p P) :
    Rep3 A B ((ecOps (curveF A B)).tpl al p) (P + P + P) :=
  Rep3.congr (tpl_al (curveF A B) hal p) (Tpl.tpl_ok h2 hp)

example : Rep3 (0 : ℚ) 1 ((ecOps (curveF 0 1)).tpl .ca (8, 24, 2))
    (.some 2 3 Tpl.ns23 + .some 2 3 Tpl.ns23 + .some 2 3 Tpl.ns23) :=
  tpl_correct (by norm_num) (Or.inr rfl) Tpl.rep3_23
/-- the `A = −3` selection -/
example : Rep3 (-3 : ℚ) 3 ((ecOps (curveF (-3) 3)).tpl .n (4, 8, 2))
    (.some 1 1 Tpl.ns11 + .some 1 1 Tpl.ns11 + .some 1 1 Tpl.ns11) :=
  tpl_correct (by norm_num) (Or.inl rfl) Tpl.rep3_11

/-- the result is `O` (`Z₃ = 0`) exactly when `3P = O`: `P = O` or `P` of order three -/
theorem tpl_Z_eq_zero_iff {al : Al} {p : P3 F} {P : (Wc A B).Point} (h2 : (2 : F) ≠ 0)
    (hal : al = .n ∨ al = .ca) (hp : Rep3 A B p P) :
    ((ecOps (curveF A B)).tpl al p).2.2 = 0 ↔ P + P + P = 0 := by
  have h := tpl_correct h2 hal hp
  unfold Rep3 at h
  constructor
  · intro hz; rwa [if_pos hz] at h
  · intro h0
    by_contra hz
    rw [if_neg hz] at h
    obtain ⟨hn, e⟩ := h
    exact Affine.Point.some_ne_zero hn (e ▸ h0)

/-- order three, in place: `Z₃ = 0` -/
example : ((ecOps (curveF (0 : ℚ) 1)).tpl .ca (0, 8, 2)).2.2 = 0 ↔
    (Affine.Point.some 0 1 Tpl.ns01 + .some 0 1 Tpl.ns01 + .some 0 1 Tpl.ns01 : (Wc (0 : ℚ) 1).Point) = 0 :=
  tpl_Z_eq_zero_iff (by norm_num) (Or.inr rfl) Tpl.rep3_01

end Bee2V.C06
