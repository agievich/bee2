/-
C06 — property theorems: mixed addition / subtraction `ecpAddAJ`, `ecpSubAJ` (madd-2004-hmv; Jacobian `a`,
affine `b`) return the group-law result of Mathlib's `(Wc A B).Point` for ALL inputs — `a = O`, `a = b`
(fall-through to `ecpDblAJ(c, b)`, including `yb = 0`), `a = −b`, generic — and for the aliasings
`.n` (distinct buffers), `.ca` (`c == a`), `.cb` (`c == b`).
-/
import Bee2V.C06.LemmasAddAJ
import Bee2V.C06.LemmasPlace4
namespace Bee2V.C06
open WeierstrassCurve

set_option linter.unusedSectionVars false
variable {F : Type} [Field F] [DecidableEq F] {A B : F}

/-- `ecpAddAJ`: `c <- a + b` in the group of points, in every special case and under every aliasing -/
theorem adda_correct {al : Al} {p : P3 F} {q : P2 F} {P Q : (Wc A B).Point} (h2 : (2 : F) ≠ 0)
    (hal : al = .n ∨ al = .ca ∨ al = .cb) (hp : Rep3 A B p P) (hq : Rep2 A B q Q) :
    Rep3 A B ((ecOps (curveF A B)).adda al p q) (P + Q) :=
  Rep3.congr (run2A_al (curveF A B) ecpAddAJ_pl (Al.mem3 hal (by decide)) hal p q)
    (AddAJ.spec_correct h2 (AddAJ.add_spec p q) hp hq)

/-- `ecpSubAJ`: `c <- a - b` in the group of points, in every special case and under every aliasing -/
theorem suba_correct {al : Al} {p : P3 F} {q : P2 F} {P Q : (Wc A B).Point} (h2 : (2 : F) ≠ 0)
    (hal : al = .n ∨ al = .ca ∨ al = .cb) (hp : Rep3 A B p P) (hq : Rep2 A B q Q) :
    Rep3 A B ((ecOps (curveF A B)).suba al p q) (P - Q) := by
  obtain ⟨h, rfl⟩ := hq
  rw [sub_eq_add_neg]
  exact Rep3.congr (run2A_al (curveF A B) ecpSubAJ_pl (Al.mem3 hal (by decide)) hal p _)
    (AddAJ.spec_correct h2 (AddAJ.sub_spec p _) hp (neg_some h))

/-! ### non-vacuity: `y² = x³ + 1` over `ℚ`, points `(2,3) = (8 : 24 : 2)`, `(0,1)`, `(2,-3)` -/

/-- `adda`: chord `(2,3) + (0,1) = (-1,0)` with `c == b`; doubling `(2,3) + (2,3) = (0,1)` with `c == a`;
    `(2,3) + (2,-3) = O`; `O + (0,1)` -/
example : ∃ (p : P3 ℚ) (q q' q'' : P2 ℚ) (P Q Q' Q'' : (Wc (0 : ℚ) 1).Point), (2 : ℚ) ≠ 0 ∧
    Rep3 0 1 p P ∧ Rep2 0 1 q Q ∧ Rep2 0 1 q' Q' ∧ Rep2 0 1 q'' Q'' ∧
    (ecOps (curveF 0 1)).adda .cb p q = (-256, 0, -16) ∧
    (ecOps (curveF 0 1)).adda .ca p q' = (0, 216, 6) ∧
    ((ecOps (curveF 0 1)).adda .n p q'').2.2 = 0 ∧ P + Q'' = 0 ∧
    (ecOps (curveF 0 1)).adda .ca (5, 7, 0) q = (0, 1, 1) :=
  have h1 : (Wc (0 : ℚ) 1).Nonsingular 0 1 := (Wc_nonsingular ..).2 ⟨by norm_num, by norm_num⟩
  have h3 : (Wc (0 : ℚ) 1).Nonsingular 2 3 := (Wc_nonsingular ..).2 ⟨by norm_num, by norm_num⟩
  have h4 : (Wc (0 : ℚ) 1).Nonsingular 2 (-3) := (Wc_nonsingular ..).2 ⟨by norm_num, by norm_num⟩
  have hp : Rep3 (0 : ℚ) 1 (8, 24, 2) (.some 2 3 h3) :=
    AddAJ.rep3_of_rep2 (by norm_num) (Rep2_of_eq ⟨h3, rfl⟩ (by norm_num) (by norm_num))
  ⟨(8, 24, 2), (0, 1), (2, 3), (2, -3), _, _, _, _, by norm_num, hp, ⟨h1, rfl⟩, ⟨h3, rfl⟩, ⟨h4, rfl⟩,
    by rw [show (ecOps (curveF (0 : ℚ) 1)).adda = run2A _ ecpAddAJ from rfl,
        run2A_al _ ecpAddAJ_pl (by decide) (.inr (.inr rfl)), AddAJ.add_gen _ _ _ _ _ (by norm_num) (by norm_num)]
       norm_num [AddAJ.genF, AddAJ.t1F, AddAJ.t2F],
    by rw [show (ecOps (curveF (0 : ℚ) 1)).adda = run2A _ ecpAddAJ from rfl,
        run2A_al _ ecpAddAJ_pl (by decide) (.inr (.inl rfl)), AddAJ.add_dbl _ _ _ _ _ (by norm_num) (by norm_num) (by norm_num) (by norm_num)]
       norm_num [AddAJ.dblF],
    AddAJ.add_inv _ _ _ _ _ (by norm_num) (by norm_num) (by norm_num),
    add_inverse h3 h4 rfl (by norm_num),
    (run2A_al _ ecpAddAJ_pl (by decide) (.inr (.inl rfl)) _ _).trans (AddAJ.add_o ..)⟩

/-- `suba`: `(2,3) - (0,-1) = (-1,0)` with `c == b`; `(2,3) - (2,-3) = 2 (2,3) = (0,1)` with `c == a`;
    `(2,3) - (2,3) = O` -/
example : ∃ (p : P3 ℚ) (q q' q'' : P2 ℚ) (P Q Q' Q'' : (Wc (0 : ℚ) 1).Point), (2 : ℚ) ≠ 0 ∧
    Rep3 0 1 p P ∧ Rep2 0 1 q Q ∧ Rep2 0 1 q' Q' ∧ Rep2 0 1 q'' Q'' ∧
    (ecOps (curveF 0 1)).suba .cb p q = (-256, 0, -16) ∧
    (ecOps (curveF 0 1)).suba .ca p q' = (0, 216, 6) ∧
    ((ecOps (curveF 0 1)).suba .n p q'').2.2 = 0 ∧ P - Q'' = 0 :=
  have h1 : (Wc (0 : ℚ) 1).Nonsingular 0 (-1) := (Wc_nonsingular ..).2 ⟨by norm_num, by norm_num⟩
  have h3 : (Wc (0 : ℚ) 1).Nonsingular 2 3 := (Wc_nonsingular ..).2 ⟨by norm_num, by norm_num⟩
  have h4 : (Wc (0 : ℚ) 1).Nonsingular 2 (-3) := (Wc_nonsingular ..).2 ⟨by norm_num, by norm_num⟩
  have hp : Rep3 (0 : ℚ) 1 (8, 24, 2) (.some 2 3 h3) :=
    AddAJ.rep3_of_rep2 (by norm_num) (Rep2_of_eq ⟨h3, rfl⟩ (by norm_num) (by norm_num))
  ⟨(8, 24, 2), (0, -1), (2, -3), (2, 3), _, _, _, _, by norm_num, hp, ⟨h1, rfl⟩, ⟨h4, rfl⟩, ⟨h3, rfl⟩,
    by rw [show (ecOps (curveF (0 : ℚ) 1)).suba = run2A _ ecpSubAJ from rfl,
        run2A_al _ ecpSubAJ_pl (by decide) (.inr (.inr rfl)), (AddAJ.sub_spec _ _).gen (by norm_num) (by norm_num [AddAJ.t1F])]
       norm_num [AddAJ.genF, AddAJ.t1F, AddAJ.t2F],
    by rw [show (ecOps (curveF (0 : ℚ) 1)).suba = run2A _ ecpSubAJ from rfl,
        run2A_al _ ecpSubAJ_pl (by decide) (.inr (.inl rfl)), (AddAJ.sub_spec _ _).dbl (by norm_num) (by norm_num [AddAJ.t1F]) (by norm_num [AddAJ.t2F])
          (by norm_num)]
       norm_num [AddAJ.dblF],
    (AddAJ.sub_spec _ _).inv (by norm_num) (by norm_num [AddAJ.t1F]) (by norm_num [AddAJ.t2F]),
    sub_self _⟩

end Bee2V.C06
