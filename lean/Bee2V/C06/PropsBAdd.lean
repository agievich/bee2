/-
C06, stage 2 — property theorems for `ec2AddLD` / `ec2SubLD` (`ec->add`, `ec->sub` of `ec2CreateLD`).

For every pair of Lopez–Dahab triples that stand for points `P`, `Q` of `y² + xy = x³ + Ax² + B` over a field of
characteristic 2 (including `O`, `P = Q` in different representations — the fall-through `ec2DblLD(c, a, …)` with
its three-way branch on `A` —, points of order two `x = 0`, `P = −Q`) and for every aliasing of the output with an
input that the header allows, the program returns a triple that stands for Mathlib's `P + Q` resp. `P − Q`.
-/
import Bee2V.C06.LemmasBAdd
import Bee2V.C06.LemmasPlace4
namespace Bee2V.C06
open WeierstrassCurve
set_option linter.unusedVariables false
set_option linter.unusedSectionVars false
variable {F : Type} [Field F] [DecidableEq F] [CharP F 2] {A B : F}

/-- `ec2AddLD(c, a, b)`, `a`, `b` in different buffers; `c` distinct, `c == a` or `c == b` -/
theorem addB_correct {al : Al} {p q : P3 F} {P Q : (Wb A B).Point}
    (hal : al = .n ∨ al = .ca ∨ al = .cb) (hp : RepB3 A B p P) (hq : RepB3 A B q Q) :
    RepB3 A B ((ecOps2 (curveB A B)).add al p q) (P + Q) :=
  RepB3.congr (run2_al (curveB A B) ec2AddLD_pl (Al.mem3 hal (by decide)) hal p q) (BAdd.add_ok hp hq)

/-- `ec2AddLD(c, a, a)`: the doubling fall-through (the value `q` is not placed in the store) -/
theorem addB_ab_correct {p : P3 F} {P : (Wb A B).Point} (hp : RepB3 A B p P) (q : P3 F) :
    RepB3 A B ((ecOps2 (curveB A B)).add .ab p q) (P + P) :=
  RepB3.congr (run2_same (curveB A B) ec2AddLD_pl (by decide) p q) (BAdd.add_ok hp hp)

/-- `ec2SubLD(c, a, b)` -/
theorem subB_correct {al : Al} {p q : P3 F} {P Q : (Wb A B).Point}
    (hal : al = .n ∨ al = .ca ∨ al = .cb) (hp : RepB3 A B p P) (hq : RepB3 A B q Q) :
    RepB3 A B ((ecOps2 (curveB A B)).sub al p q) (P - Q) :=
  RepB3.congr (run2_al (curveB A B) ec2SubLD_pl (Al.mem3 hal (by decide)) hal p q) (BAdd.sub_ok hp hq)

/-- `ec2SubLD(c, a, a)` is `O` (in fact for every triple `p`, see `BAdd.sub_self_ok`) -/
theorem subB_ab_correct {p : P3 F} {P : (Wb A B).Point} (hp : RepB3 A B p P) (q : P3 F) :
    RepB3 A B ((ecOps2 (curveB A B)).sub .ab p q) 0 :=
  RepB3.congr (run2_same (curveB A B) ec2SubLD_pl (by decide) p q) (BAdd.sub_self_ok p)

/-! Non-vacuity: `y² + xy = x³ + 1` over `GF(2)`, the points `(1, 0)`, `(1, 1) = −(1, 0)` and `(0, 1)` of
    order two. -/

/-- generic branch, `c == a` -/
example : RepB3 (0 : ZMod 2) 1 ((ecOps2 (curveB (0 : ZMod 2) 1)).add .ca (1, 0, 1) (0, 1, 1))
    (.some 1 0 BAdd.ns10 + .some 0 1 BAdd.ns01) :=
  addB_correct (Or.inr (Or.inl rfl)) BAdd.rep10 BAdd.rep01
/-- equal points in different buffers, `c == b`: the fall-through doubles `a` -/
example : RepB3 (0 : ZMod 2) 1 ((ecOps2 (curveB (0 : ZMod 2) 1)).add .cb (1, 0, 1) (1, 0, 1))
    (.some 1 0 BAdd.ns10 + .some 1 0 BAdd.ns10) :=
  addB_correct (Or.inr (Or.inr rfl)) BAdd.rep10 BAdd.rep10
/-- opposite points -/
example : RepB3 (0 : ZMod 2) 1 ((ecOps2 (curveB (0 : ZMod 2) 1)).add .n (1, 0, 1) (1, 1, 1))
    (.some 1 0 BAdd.ns10 + .some 1 1 BAdd.ns11) :=
  addB_correct (Or.inl rfl) BAdd.rep10 BAdd.rep11
/-- `O + Q` -/
example : RepB3 (0 : ZMod 2) 1 ((ecOps2 (curveB (0 : ZMod 2) 1)).add .n (1, 0, 0) (1, 1, 1))
    (0 + .some 1 1 BAdd.ns11) :=
  addB_correct (Or.inl rfl) BAdd.repO BAdd.rep11
/-- `a == b`, a point of order two -/
example : RepB3 (0 : ZMod 2) 1 ((ecOps2 (curveB (0 : ZMod 2) 1)).add .ab (0, 1, 1) (0, 0, 0))
    (.some 0 1 BAdd.ns01 + .some 0 1 BAdd.ns01) :=
  addB_ab_correct BAdd.rep01 _
example : RepB3 (0 : ZMod 2) 1 ((ecOps2 (curveB (0 : ZMod 2) 1)).sub .cb (1, 0, 1) (0, 1, 1))
    (.some 1 0 BAdd.ns10 - .some 0 1 BAdd.ns01) :=
  subB_correct (Or.inr (Or.inr rfl)) BAdd.rep10 BAdd.rep01
/-- `P − (−P)`: the fall-through of `ec2AddLD` inside `ec2SubLD` -/
example : RepB3 (0 : ZMod 2) 1 ((ecOps2 (curveB (0 : ZMod 2) 1)).sub .ca (1, 0, 1) (1, 1, 1))
    (.some 1 0 BAdd.ns10 - .some 1 1 BAdd.ns11) :=
  subB_correct (Or.inr (Or.inl rfl)) BAdd.rep10 BAdd.rep11
example : RepB3 (0 : ZMod 2) 1 ((ecOps2 (curveB (0 : ZMod 2) 1)).sub .ab (1, 0, 1) (0, 0, 0)) 0 :=
  subB_ab_correct BAdd.rep10 _

end Bee2V.C06
