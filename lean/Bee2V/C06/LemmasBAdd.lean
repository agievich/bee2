/-
C06, stage 2 — ec2AddLD / ec2SubLD.  Symbolic execution of `run2 (curveB A B) ec2AddLD .n` per branch; closed forms: `addG` (generic branch, add-2005-dl) and `dblG` (the fall-through `ec2DblLD(c, a, …)`,
whose three arms `A = 1`, `A = 0`, general all give `X₃ = C² + D + A·Z₃`).  The algebra: Lopez–Dahab triples
versus affine points; `addG` (chord — uses the curve equations of both points) and `dblG` (tangent) represent
the sums Mathlib's group law gives.  Assembly: `add_core` is the case analysis of the group law against the
branch behaviour of the program (stated abstractly over the result `r`); `add_ok` instantiates it
with the execution lemmas, `sub_ok`, `sub_self_ok` follow through `LemmasSub`.
-/
import Bee2V.C06.Spec2
import Bee2V.C06.LemmasSub
import Mathlib.Algebra.Field.ZMod
import Mathlib.Tactic.Ring
import Mathlib.Tactic.FieldSimp
import Mathlib.Tactic.LinearCombination
namespace Bee2V.C06.BAdd
open WeierstrassCurve
set_option linter.unusedSimpArgs false
set_option linter.unusedVariables false
set_option linter.unusedSectionVars false
variable {F : Type} [Field F] [DecidableEq F] [CharP F 2] {A B : F}

/-- `A' = X₁Z₂` / `B' = X₂Z₁` as the program computes them -/
def aa (X Z : F) : F := X * Z
/-- `G = Y₁Z₂²` / `H = Y₂Z₁²` as the program computes them -/
def gg (Y Z : F) : F := Z * Z * Y

/-- closed form of the generic branch of `ec2AddLD` -/
def addG (X1 Y1 Z1 X2 Y2 Z2 : F) : P3 F :=
  let A' := X1 * Z2
  let B' := X2 * Z1
  let G := Z2 * Z2 * Y1
  let H := Z1 * Z1 * Y2
  let J := (A' + B') * (G + H)
  let F' := A' * A' + B' * B'
  let Z3 := F' * (Z1 * Z2)
  let X3 := B' * (A' * A' + G) + A' * (H + B' * B')
  (X3, (J + Z3) * X3 + (A' * J + G * F') * F', Z3)

/-- closed form of the generic branch of `ec2DblLD` -/
def dblG (A X Y Z : F) : P3 F :=
  let Z3 := X * Z * (X * Z)
  let C := Y + X * X
  let D := X * Z * C
  let X3 := C * C + D + A * Z3
  (X3, X * X * (X * X) * Z3 + (D + Z3) * X3, Z3)

/-- reading a store after a write -/
theorem get_upd {G : Type} (st : Store G) (d : Nat) (v : G) (i : Nat) :
    (upd st d v).get i = if i = d then v else st.get i := rfl

theorem add_exec_aO (X1 Y1 Z1 X2 Y2 Z2 : F) (h1 : Z1 = 0) :
    run2 (curveB A B) ec2AddLD .n (X1, Y1, Z1) (X2, Y2, Z2) = (X2, Y2, Z2) :=
  run_then res3 h1

theorem add_exec_bO (X1 Y1 Z1 X2 Y2 Z2 : F) (h1 : Z1 ≠ 0)
    (h2 : Z2 = 0) :
    run2 (curveB A B) ec2AddLD .n (X1, Y1, Z1) (X2, Y2, Z2) = (X1, Y1, Z1) :=
  (run_else res3 h1).trans (run_then res3 h2)

theorem add_exec_gen (X1 Y1 Z1 X2 Y2 Z2 : F)
    (h1 : Z1 ≠ 0) (h2 : Z2 ≠ 0) (hA : aa X1 Z2 ≠ aa X2 Z1) :
    run2 (curveB A B) ec2AddLD .n (X1, Y1, Z1) (X2, Y2, Z2) = addG X1 Y1 Z1 X2 Y2 Z2 :=
  (run_else res3 h1).trans ((run_else res3 h2).trans ((run_else res3 hA).trans (by rfl)))

theorem add_exec_opp (X1 Y1 Z1 X2 Y2 Z2 : F)
    (h1 : Z1 ≠ 0) (h2 : Z2 ≠ 0) (hA : aa X1 Z2 = aa X2 Z1) (hG : gg Y1 Z2 ≠ gg Y2 Z1) :
    (run2 (curveB A B) ec2AddLD .n (X1, Y1, Z1) (X2, Y2, Z2)).2.2 = 0 :=
  (run_else resZ h1).trans ((run_else resZ h2).trans ((run_then resZ hA).trans (run_else resZ hG)))

/-- `a = b` as points, `x = 0`: `ec2DblLD(c, a)` returns `O` -/
theorem add_exec_eq0 (X1 Y1 Z1 X2 Y2 Z2 : F)
    (h1 : Z1 ≠ 0) (h2 : Z2 ≠ 0) (hA : aa X1 Z2 = aa X2 Z1) (hG : gg Y1 Z2 = gg Y2 Z1) (hX : X1 = 0) :
    (run2 (curveB A B) ec2AddLD .n (X1, Y1, Z1) (X2, Y2, Z2)).2.2 = 0 :=
  (run_else resZ h1).trans ((run_else resZ h2).trans ((run_then resZ hA).trans ((run_then resZ hG).trans
      ((run_else resZ h1).trans (run_then resZ hX)))))

/-- `a = b` as points, `x ≠ 0`: `ec2DblLD(c, a)`, all three arms of the branch on `A`;
    `dblG` carries `A * Z₃`, rewritten to what the arm computes before the run is compared with it -/
theorem add_exec_eq (X1 Y1 Z1 X2 Y2 Z2 : F)
    (h1 : Z1 ≠ 0) (h2 : Z2 ≠ 0) (hA : aa X1 Z2 = aa X2 Z1) (hG : gg Y1 Z2 = gg Y2 Z1) (hX : X1 ≠ 0) :
    run2 (curveB A B) ec2AddLD .n (X1, Y1, Z1) (X2, Y2, Z2) = dblG A X1 Y1 Z1 := by
  obtain rfl | hA1 := eq_or_ne A 1
  · simp only [dblG, one_mul]
    exact (run_else res3 h1).trans ((run_else res3 h2).trans ((run_then res3 hA).trans ((run_then res3 hG).trans
      ((run_else res3 h1).trans ((run_else res3 hX).trans ((run_then res3 rfl).trans (by rfl)))))))
  obtain rfl | hA0 := eq_or_ne A 0
  · simp only [dblG, zero_mul, add_zero]
    exact (run_else res3 h1).trans ((run_else res3 h2).trans ((run_then res3 hA).trans ((run_then res3 hG).trans
      ((run_else res3 h1).trans ((run_else res3 hX).trans ((run_else res3 hA1).trans ((run_then res3 rfl).trans (by rfl))))))))
  · exact (run_else res3 h1).trans ((run_else res3 h2).trans ((run_then res3 hA).trans ((run_then res3 hG).trans
      ((run_else res3 h1).trans ((run_else res3 hX).trans ((run_else res3 hA1).trans ((run_else res3 hA0).trans (by rfl))))))))

/-! ### the algebra -/

theorem rep3_O {X Y Z : F} {P : (Wb A B).Point} (hz : Z = 0) (h : RepB3 A B (X, Y, Z) P) : P = 0 := by
  subst hz; simpa [RepB3] using h

theorem rep3_zero {p : P3 F} (hz : p.2.2 = 0) : RepB3 A B p 0 := by
  simp [RepB3, hz]

theorem rep3_nz {X Y Z : F} {P : (Wb A B).Point} (hz : Z ≠ 0) (h : RepB3 A B (X, Y, Z) P) :
    ∃ x y, ∃ hns : (Wb A B).Nonsingular x y, X = x * Z ∧ Y = y * Z ^ 2 ∧ P = .some x y hns := by
  simp only [RepB3, hz, if_false] at h
  obtain ⟨hns, hP⟩ := h
  exact ⟨_, _, hns, by field_simp, by field_simp, hP⟩

theorem rep3_of_rep2 {p : P3 F} {x y : F} {P : (Wb A B).Point} (hz : p.2.2 ≠ 0) (h : RepB2 A B (x, y) P)
    (hx : p.1 = x * p.2.2) (hy : p.2.1 = y * p.2.2 ^ 2) : RepB3 A B p P := by
  simp only [RepB3, hz, if_false]
  exact RepB2_of_eq h (by rw [hx]; field_simp) (by rw [hy]; field_simp)

/-- the negation `ec2SubLD` writes into the scratch: `−(X : Y : Z) = (X : XZ + Y : Z)` -/
theorem rep3_neg {X Y Z : F} {P : (Wb A B).Point} (h : RepB3 A B (X, Y, Z) P) :
    RepB3 A B (X, X * Z + Y, Z) (-P) := by
  by_cases hz : Z = 0
  · have := rep3_O hz h; subst this; rw [neg_zero]; exact rep3_zero hz
  · obtain ⟨x, y, hns, rfl, rfl, rfl⟩ := rep3_nz hz h
    exact rep3_of_rep2 hz (negB_some hns) rfl (by ring)

theorem aa_affine (x1 Z1 x2 Z2 : F) :
    aa (x1 * Z1) Z2 + aa (x2 * Z2) Z1 = Z1 * Z2 * (x1 + x2) := by
  unfold aa; ring

theorem gg_affine (y1 Z1 y2 Z2 : F) :
    gg (y1 * Z1 ^ 2) Z2 + gg (y2 * Z2 ^ 2) Z1 = Z1 ^ 2 * Z2 ^ 2 * (y1 + y2) := by
  unfold gg; ring

/-- the curve equations of both points: the numerator of the chord's `x₃` is the one of add-2005-dl -/
theorem chord_num {x1 y1 x2 y2 : F} (hn1 : (Wb A B).Nonsingular x1 y1) (hn2 : (Wb A B).Nonsingular x2 y2) :
    (y1 + y2) ^ 2 + (y1 + y2) * (x1 + x2) + (x1 + x2) ^ 3 + A * (x1 + x2) ^ 2
      = x1 * y2 + x2 * y1 + x1 * x2 * (x1 + x2) := by
  have e1 := ((Wb_nonsingular A B x1 y1).1 hn1).1
  have e2 := ((Wb_nonsingular A B x2 y2).1 hn2).1
  apply CharTwo.add_eq_zero.1
  have h : (y1 + y2) ^ 2 + (y1 + y2) * (x1 + x2) + (x1 + x2) ^ 3 + A * (x1 + x2) ^ 2
      + (x1 * y2 + x2 * y1 + x1 * x2 * (x1 + x2))
      = (y1 ^ 2 + x1 * y1 + (x1 ^ 3 + A * x1 ^ 2 + B)) + (y2 ^ 2 + x2 * y2 + (x2 ^ 3 + A * x2 ^ 2 + B)) := by
    char2
  rw [h, e1, e2, CharTwo.add_self_eq_zero, CharTwo.add_self_eq_zero, add_zero]

/-- `x₃` of the chord with the numerator of add-2005-dl -/
theorem chord_x {x1 y1 x2 y2 : F} (hn1 : (Wb A B).Nonsingular x1 y1) (hn2 : (Wb A B).Nonsingular x2 y2)
    (hd : x1 + x2 ≠ 0) :
    ((y1 + y2) / (x1 + x2)) ^ 2 + (y1 + y2) / (x1 + x2) + x1 + x2 + A
      = (x1 * y2 + x2 * y1 + x1 * x2 * (x1 + x2)) / (x1 + x2) ^ 2 := by
  rw [← chord_num hn1 hn2]
  field_simp
  ring

theorem addG_X (x1 y1 Z1 x2 y2 Z2 : F) :
    (addG (x1 * Z1) (y1 * Z1 ^ 2) Z1 (x2 * Z2) (y2 * Z2 ^ 2) Z2).1
      = (Z1 * Z2) ^ 3 * (x1 * y2 + x2 * y1 + x1 * x2 * (x1 + x2)) := by
  simp only [addG]; ring

theorem addG_Z (x1 y1 Z1 x2 y2 Z2 : F) :
    (addG (x1 * Z1) (y1 * Z1 ^ 2) Z1 (x2 * Z2) (y2 * Z2 ^ 2) Z2).2.2
      = (Z1 * Z2) ^ 3 * (x1 + x2) ^ 2 := by
  simp only [addG]; char2

theorem addG_Y (x1 y1 Z1 x2 y2 Z2 : F) :
    (addG (x1 * Z1) (y1 * Z1 ^ 2) Z1 (x2 * Z2) (y2 * Z2 ^ 2) Z2).2.1
      = (Z1 * Z2) ^ 6 * (x1 + x2) * ((x1 + x2) ^ 2 * (x1 * y2 + x2 * y1)
          + (y1 + y2 + (x1 + x2)) * (x1 * y2 + x2 * y1 + x1 * x2 * (x1 + x2))) := by
  simp only [addG]; char2

/-- chord -/
theorem addG_rep {x1 y1 Z1 x2 y2 Z2 : F} (hz1 : Z1 ≠ 0) (hz2 : Z2 ≠ 0)
    (hn1 : (Wb A B).Nonsingular x1 y1) (hn2 : (Wb A B).Nonsingular x2 y2) (hx : x1 ≠ x2) :
    RepB3 A B (addG (x1 * Z1) (y1 * Z1 ^ 2) Z1 (x2 * Z2) (y2 * Z2 ^ 2) Z2)
      (Affine.Point.some x1 y1 hn1 + Affine.Point.some x2 y2 hn2) := by
  have hd : x1 + x2 ≠ 0 := fun h => hx (CharTwo.add_eq_zero.1 h)
  have hw : Z1 * Z2 ≠ 0 := mul_ne_zero hz1 hz2
  refine rep3_of_rep2 ?_ (addB_chord hn1 hn2 hx) ?_ ?_
  · rw [addG_Z]; exact mul_ne_zero (pow_ne_zero _ hw) (pow_ne_zero _ hd)
  · rw [addG_Z, addG_X, chord_x hn1 hn2 hd]; field_simp
  · rw [addG_Z, addG_Y, chord_x hn1 hn2 hd]
    generalize Z1 * Z2 = w at hw ⊢
    field_simp
    char2

theorem dblG_Z (A x y Z : F) : (dblG A (x * Z) (y * Z ^ 2) Z).2.2 = x ^ 2 * Z ^ 4 := by
  simp only [dblG]; ring

/-- tangent (no curve equation is needed) -/
theorem dblG_rep {x y Z : F} (hz : Z ≠ 0) (hn : (Wb A B).Nonsingular x y) (hx : x ≠ 0) :
    RepB3 A B (dblG A (x * Z) (y * Z ^ 2) Z) (Affine.Point.some x y hn + Affine.Point.some x y hn) := by
  refine rep3_of_rep2 ?_ (addB_tangent hn hx) ?_ ?_
  · rw [dblG_Z]; exact mul_ne_zero (pow_ne_zero _ hx) (pow_ne_zero _ hz)
  · rw [dblG_Z]; simp only [dblG]; field_simp; char2
  · rw [dblG_Z]; simp only [dblG]; field_simp; char2

theorem add_core {X1 Y1 Z1 X2 Y2 Z2 : F} {r : P3 F} {P Q : (Wb A B).Point}
    (hp : RepB3 A B (X1, Y1, Z1) P) (hq : RepB3 A B (X2, Y2, Z2) Q)
    (eaO : Z1 = 0 → r = (X2, Y2, Z2))
    (ebO : Z1 ≠ 0 → Z2 = 0 → r = (X1, Y1, Z1))
    (egen : Z1 ≠ 0 → Z2 ≠ 0 → aa X1 Z2 ≠ aa X2 Z1 → r = addG X1 Y1 Z1 X2 Y2 Z2)
    (eopp : Z1 ≠ 0 → Z2 ≠ 0 → aa X1 Z2 = aa X2 Z1 → gg Y1 Z2 ≠ gg Y2 Z1 → r.2.2 = 0)
    (eeq0 : Z1 ≠ 0 → Z2 ≠ 0 → aa X1 Z2 = aa X2 Z1 → gg Y1 Z2 = gg Y2 Z1 → X1 = 0 → r.2.2 = 0)
    (eeq : Z1 ≠ 0 → Z2 ≠ 0 → aa X1 Z2 = aa X2 Z1 → gg Y1 Z2 = gg Y2 Z1 → X1 ≠ 0 → r = dblG A X1 Y1 Z1) :
    RepB3 A B r (P + Q) := by
  by_cases h1 : Z1 = 0
  · rw [eaO h1, rep3_O h1 hp, zero_add]; exact hq
  by_cases h2 : Z2 = 0
  · rw [ebO h1 h2, rep3_O h2 hq, add_zero]; exact hp
  obtain ⟨x1, y1, hn1, rfl, rfl, rfl⟩ := rep3_nz h1 hp
  obtain ⟨x2, y2, hn2, rfl, rfl, rfl⟩ := rep3_nz h2 hq
  have hzz : Z1 * Z2 ≠ 0 := mul_ne_zero h1 h2
  have hzz2 : Z1 ^ 2 * Z2 ^ 2 ≠ 0 := mul_ne_zero (pow_ne_zero _ h1) (pow_ne_zero _ h2)
  by_cases hA : aa (x1 * Z1) Z2 = aa (x2 * Z2) Z1
  · have hx : x1 = x2 := by
      have h := aa_affine x1 Z1 x2 Z2
      rw [hA, CharTwo.add_self_eq_zero] at h
      exact CharTwo.add_eq_zero.1 ((mul_eq_zero.1 h.symm).resolve_left hzz)
    subst hx
    by_cases hG : gg (y1 * Z1 ^ 2) Z2 = gg (y2 * Z2 ^ 2) Z1
    · have hy : y1 = y2 := by
        have h := gg_affine y1 Z1 y2 Z2
        rw [hG, CharTwo.add_self_eq_zero] at h
        exact CharTwo.add_eq_zero.1 ((mul_eq_zero.1 h.symm).resolve_left hzz2)
      subst hy
      by_cases hx0 : x1 = 0
      · subst hx0
        rw [addB_order2 hn1]
        exact rep3_zero (eeq0 h1 h2 hA hG (zero_mul _))
      · rw [eeq h1 h2 hA hG (mul_ne_zero hx0 h1)]
        exact dblG_rep h1 hn1 hx0
    · have hy : y1 = x1 + y2 := by
        rcases yB_eq_or_neg hn1 hn2 with e | e
        · exact absurd (by rw [e]; unfold gg; ring) hG
        · exact e
      rw [addB_inverse hn1 hn2 rfl hy]
      exact rep3_zero (eopp h1 h2 hA hG)
  · have hx : x1 ≠ x2 := by
      intro e; apply hA; rw [e]; unfold aa; ring
    rw [egen h1 h2 hA]
    exact addG_rep h1 h2 hn1 hn2 hx

theorem add_ok {p q : P3 F}
    {P Q : (Wb A B).Point} (hp : RepB3 A B p P) (hq : RepB3 A B q Q) :
    RepB3 A B (run2 (curveB A B) ec2AddLD .n p q) (P + Q) := by
  obtain ⟨X1, Y1, Z1⟩ := p; obtain ⟨X2, Y2, Z2⟩ := q
  exact add_core hp hq (add_exec_aO X1 Y1 Z1 X2 Y2 Z2) (add_exec_bO X1 Y1 Z1 X2 Y2 Z2)
    (add_exec_gen X1 Y1 Z1 X2 Y2 Z2) (add_exec_opp X1 Y1 Z1 X2 Y2 Z2)
    (add_exec_eq0 X1 Y1 Z1 X2 Y2 Z2) (add_exec_eq X1 Y1 Z1 X2 Y2 Z2)

/-- `ec2SubLD` is `ec2AddLD` on `(X₂, X₂Z₂ + Y₂, Z₂)` (`LemmasSub`) -/
theorem sub_ok {p q : P3 F}
    {P Q : (Wb A B).Point} (hp : RepB3 A B p P) (hq : RepB3 A B q Q) :
    RepB3 A B (run2 (curveB A B) ec2SubLD .n p q) (P - Q) := by
  obtain ⟨X2, Y2, Z2⟩ := q
  rw [sub_eq_add_neg]
  rw [subLD_n]; exact add_ok hp (rep3_neg hq)

/-- `a - a` on equal operands: `O` whatever the triple is (no hypothesis on `p` is needed) -/
theorem sub_self_ok (p : P3 F) :
    RepB3 A B (run2 (curveB A B) ec2SubLD .n p p) 0 := by
  obtain ⟨X1, Y1, Z1⟩ := p
  apply rep3_zero
  rw [subLD_n]
  show (run2 (curveB A B) ec2AddLD .n (X1, Y1, Z1) (X1, X1 * Z1 + Y1, Z1)).2.2 = 0
  by_cases h1 : Z1 = 0
  · rw [add_exec_aO _ _ _ _ _ _ h1]; exact h1
  by_cases hX : X1 = 0
  · exact add_exec_eq0 _ _ _ _ _ _ h1 h1 rfl (by rw [hX, zero_mul, zero_add]) hX
  · refine add_exec_opp _ _ _ _ _ _ h1 h1 rfl fun e => ?_
    unfold gg at e
    have h : Z1 * Z1 * Y1 + Z1 * Z1 * (X1 * Z1 + Y1) = 0 := by rw [← e]; exact CharTwo.add_self_eq_zero _
    have h' : Z1 * Z1 * Y1 + Z1 * Z1 * (X1 * Z1 + Y1) = X1 * Z1 ^ 3 := by char2
    rw [h'] at h
    exact (mul_ne_zero hX (pow_ne_zero _ h1)) h

/-! data for the non-vacuity examples of `PropsBAdd`: the curve `y² + xy = x³ + 1` over `GF(2)`
    (`A = 0`, `B = 1`; four points `O`, `(0, 1)` of order two, `(1, 0)`, `(1, 1) = −(1, 0)`) -/

theorem ns10 : (Wb (0 : ZMod 2) 1).Nonsingular 1 0 :=
  (Wb_nonsingular _ _ _ _).2 ⟨by decide, Or.inr (by decide)⟩
theorem ns11 : (Wb (0 : ZMod 2) 1).Nonsingular 1 1 :=
  (Wb_nonsingular _ _ _ _).2 ⟨by decide, Or.inr (by decide)⟩
theorem ns01 : (Wb (0 : ZMod 2) 1).Nonsingular 0 1 :=
  (Wb_nonsingular _ _ _ _).2 ⟨by decide, Or.inl (by decide)⟩
theorem rep10 : RepB3 (0 : ZMod 2) 1 (1, 0, 1) (.some 1 0 ns10) :=
  rep3_of_rep2 (by decide) ⟨ns10, rfl⟩ (by decide) (by decide)
theorem rep11 : RepB3 (0 : ZMod 2) 1 (1, 1, 1) (.some 1 1 ns11) :=
  rep3_of_rep2 (by decide) ⟨ns11, rfl⟩ (by decide) (by decide)
theorem rep01 : RepB3 (0 : ZMod 2) 1 (0, 1, 1) (.some 0 1 ns01) :=
  rep3_of_rep2 (by decide) ⟨ns01, rfl⟩ (by decide) (by decide)
theorem repO : RepB3 (0 : ZMod 2) 1 (1, 0, 0) 0 := rep3_zero rfl

end Bee2V.C06.BAdd
