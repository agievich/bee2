/-
C06 — property theorems for the affine routines `ecpAddAA`, `ecpSubAA` (ecp.c): for ALL pairs of
curve points (chord, tangent, inverse points, points of order 2) and every aliasing of the three
buffers the routine returns FALSE exactly when the result is `O` and otherwise writes the affine
coordinates of the sum / difference in Mathlib's group of points of `y² = x³ + Ax + B`.
`addAA c = runAA c ecpAddAA`, `subAA c = runAA c ecpSubAA` (Wrap.lean); `none` = FALSE.
-/
import Bee2V.C06.LemmasAA
import Bee2V.C06.LemmasPlace4
namespace Bee2V.C06
open WeierstrassCurve

-- `subAA_correct`/`subAA_same_correct` keep the hypotheses `(2 : F) ≠ 0` (and `Rep2 A B a P`) of the
-- common interface although their proofs do not need them
set_option linter.unusedVariables false
variable {F : Type} [Field F] [DecidableEq F] {A B : F}

/-- `ecpAddAA(c, a, b)`, `a` and `b` in different buffers (`c` distinct, `c == a` or `c == b`) -/
theorem addAA_correct (h2 : (2 : F) ≠ 0) {al : Al} (hal : al = .n ∨ al = .ca ∨ al = .cb)
    {a b : P2 F} {P Q : (Wc A B).Point} (ha : Rep2 A B a P) (hb : Rep2 A B b Q) :
    (addAA (curveF A B) al a b = none ↔ P + Q = 0) ∧
    ∀ r, addAA (curveF A B) al a b = some r → Rep2 A B r (P + Q) := by
  obtain ⟨x1, y1⟩ := a
  obtain ⟨x2, y2⟩ := b
  obtain ⟨h1, rfl⟩ := ha
  obtain ⟨h2', rfl⟩ := hb
  rw [addAA, runAA_al (curveF A B) ecpAddAA_pl (Al.mem3 hal (by decide)) hal, AA.addAA_exec]
  exact AA.addSpec_correct h2 h1 h2'

/-- `ecpAddAA(c, a, a)` (`a == b`; `c` distinct or `c == a == b`): doubling -/
theorem addAA_same_correct (h2 : (2 : F) ≠ 0) {al : Al} (hal : al = .ab ∨ al = .abc)
    {a : P2 F} {P : (Wc A B).Point} (ha : Rep2 A B a P) (b : P2 F) :
    (addAA (curveF A B) al a b = none ↔ P + P = 0) ∧
    ∀ r, addAA (curveF A B) al a b = some r → Rep2 A B r (P + P) := by
  obtain ⟨x1, y1⟩ := a
  obtain ⟨h1, rfl⟩ := ha
  rw [addAA, runAA_same (curveF A B) ecpAddAA_pl (by rcases hal with rfl | rfl <;> decide) hal, AA.addAA_exec]
  exact AA.addSpec_correct h2 h1 h1

/-- `ecpSubAA(c, a, b)`, `a` and `b` in different buffers (`c` distinct, `c == a` or `c == b`);
    includes `a = -b`, where `a - b = 2a` is computed by the tangent at `a` -/
theorem subAA_correct (h2 : (2 : F) ≠ 0) {al : Al} (hal : al = .n ∨ al = .ca ∨ al = .cb)
    {a b : P2 F} {P Q : (Wc A B).Point} (ha : Rep2 A B a P) (hb : Rep2 A B b Q) :
    (subAA (curveF A B) al a b = none ↔ P - Q = 0) ∧
    ∀ r, subAA (curveF A B) al a b = some r → Rep2 A B r (P - Q) := by
  obtain ⟨x1, y1⟩ := a
  obtain ⟨x2, y2⟩ := b
  obtain ⟨h1, rfl⟩ := ha
  obtain ⟨h2', rfl⟩ := hb
  rw [subAA, runAA_al (curveF A B) ecpSubAA_pl (Al.mem3 hal (by decide)) hal, AA.subAA_exec]
  exact AA.subSpec_correct h1 h2'

/-- `ecpSubAA(c, a, a)` (`a == b`) returns FALSE (`P - P = 0`) -/
theorem subAA_same_correct (h2 : (2 : F) ≠ 0) {al : Al} (hal : al = .ab ∨ al = .abc)
    {a : P2 F} {P : (Wc A B).Point} (ha : Rep2 A B a P) (b : P2 F) :
    subAA (curveF A B) al a b = none := by
  rw [subAA, runAA_same (curveF A B) ecpSubAA_pl (by rcases hal with rfl | rfl <;> decide) hal, AA.subAA_self]

/-! ## non-vacuity: `y² = x³ + 1` over `ℚ`, points `(0, 1)`, `(2, ±3)`, `(-1, 0)` (order 2) -/

/-- chord, `c == a`: `(0,1) + (2,3) = (-1,0)` -/
example : ∃ (a b : P2 ℚ) (P Q : (Wc (0 : ℚ) 1).Point), (2 : ℚ) ≠ 0 ∧ Rep2 0 1 a P ∧ Rep2 0 1 b Q ∧
    addAA (curveF 0 1) .ca a b = some (-1, 0) ∧ P + Q ≠ 0 :=
  have h1 : (Wc (0 : ℚ) 1).Nonsingular 0 1 := (Wc_nonsingular ..).2 ⟨by norm_num, by norm_num⟩
  have h3 : (Wc (0 : ℚ) 1).Nonsingular 2 3 := (Wc_nonsingular ..).2 ⟨by norm_num, by norm_num⟩
  have e : addAA (curveF (0 : ℚ) 1) .ca (0, 1) (2, 3) = some (-1, 0) := by
    rw [addAA, runAA_al _ ecpAddAA_pl (by decide) (by simp), AA.addAA_exec]; norm_num [AA.addSpec, AA.res]
  ⟨(0, 1), (2, 3), _, _, by norm_num, ⟨h1, rfl⟩, ⟨h3, rfl⟩, e,
    fun h0 => by
      have := (addAA_correct (by norm_num) (.inr (.inl rfl)) ⟨h1, rfl⟩ ⟨h3, rfl⟩).1.2 h0
      rw [e] at this; cases this⟩

/-- inverse points, `c == b`: `(2,3) + (2,-3) = O`, FALSE -/
example : ∃ (a b : P2 ℚ) (P Q : (Wc (0 : ℚ) 1).Point), (2 : ℚ) ≠ 0 ∧ Rep2 0 1 a P ∧ Rep2 0 1 b Q ∧
    addAA (curveF 0 1) .cb a b = none :=
  have h3 : (Wc (0 : ℚ) 1).Nonsingular 2 3 := (Wc_nonsingular ..).2 ⟨by norm_num, by norm_num⟩
  have h4 : (Wc (0 : ℚ) 1).Nonsingular 2 (-3) := (Wc_nonsingular ..).2 ⟨by norm_num, by norm_num⟩
  ⟨(2, 3), (2, -3), _, _, by norm_num, ⟨h3, rfl⟩, ⟨h4, rfl⟩, by
    rw [addAA, runAA_al _ ecpAddAA_pl (by decide) (by simp), AA.addAA_exec]; norm_num [AA.addSpec, AA.res]⟩

/-- doubling, `a == b == c`: `2 (0,1) = (0,-1)`; a point of order 2: `2 (-1,0) = O`, FALSE -/
example : ∃ (a a' : P2 ℚ) (P P' : (Wc (0 : ℚ) 1).Point), (2 : ℚ) ≠ 0 ∧ Rep2 0 1 a P ∧ Rep2 0 1 a' P' ∧
    addAA (curveF 0 1) .abc a (7, 7) = some (0, -1) ∧ addAA (curveF 0 1) .ab a' (7, 7) = none :=
  have h1 : (Wc (0 : ℚ) 1).Nonsingular 0 1 := (Wc_nonsingular ..).2 ⟨by norm_num, by norm_num⟩
  have h0 : (Wc (0 : ℚ) 1).Nonsingular (-1) 0 := (Wc_nonsingular ..).2 ⟨by norm_num, by norm_num⟩
  ⟨(0, 1), (-1, 0), _, _, by norm_num, ⟨h1, rfl⟩, ⟨h0, rfl⟩,
    by rw [addAA, runAA_same _ ecpAddAA_pl (by decide) (by simp), AA.addAA_exec]; norm_num [AA.addSpec, AA.res, AA.tan],
    by rw [addAA, runAA_same _ ecpAddAA_pl (by decide) (by simp), AA.addAA_exec]; norm_num [AA.addSpec, AA.res, AA.tan]⟩

/-- subtraction: chord `(0,1) - (2,-3) = (-1,0)`; `a = -b`: `(0,1) - (0,-1) = 2 (0,1) = (0,-1)`;
    `a = b` in different buffers: FALSE -/
example : ∃ (a b b' : P2 ℚ) (P Q Q' : (Wc (0 : ℚ) 1).Point), (2 : ℚ) ≠ 0 ∧
    Rep2 0 1 a P ∧ Rep2 0 1 b Q ∧ Rep2 0 1 b' Q' ∧
    subAA (curveF 0 1) .n a b = some (-1, 0) ∧ subAA (curveF 0 1) .ca a b' = some (0, -1) ∧
    subAA (curveF 0 1) .cb a a = none :=
  have h1 : (Wc (0 : ℚ) 1).Nonsingular 0 1 := (Wc_nonsingular ..).2 ⟨by norm_num, by norm_num⟩
  have h2 : (Wc (0 : ℚ) 1).Nonsingular 0 (-1) := (Wc_nonsingular ..).2 ⟨by norm_num, by norm_num⟩
  have h4 : (Wc (0 : ℚ) 1).Nonsingular 2 (-3) := (Wc_nonsingular ..).2 ⟨by norm_num, by norm_num⟩
  ⟨(0, 1), (2, -3), (0, -1), _, _, _, by norm_num, ⟨h1, rfl⟩, ⟨h4, rfl⟩, ⟨h2, rfl⟩,
    by rw [subAA, runAA_al _ ecpSubAA_pl (by decide) (by simp), AA.subAA_exec]; norm_num [AA.subSpec, AA.res],
    by rw [subAA, runAA_al _ ecpSubAA_pl (by decide) (by simp), AA.subAA_exec]; norm_num [AA.subSpec, AA.res, AA.tan],
    by rw [subAA, runAA_al _ ecpSubAA_pl (by decide) (by simp), AA.subAA_exec]; norm_num [AA.subSpec, AA.res]⟩

/-- `ecpSubAA(c, a, a)`: hypotheses satisfiable -/
example : ∃ (a : P2 ℚ) (P : (Wc (0 : ℚ) 1).Point), (2 : ℚ) ≠ 0 ∧ Rep2 0 1 a P ∧
    subAA (curveF 0 1) .abc a (7, 7) = none :=
  have h1 : (Wc (0 : ℚ) 1).Nonsingular 0 1 := (Wc_nonsingular ..).2 ⟨by norm_num, by norm_num⟩
  ⟨(0, 1), _, by norm_num, ⟨h1, rfl⟩, subAA_same_correct (by norm_num) (.inr rfl) ⟨h1, rfl⟩ _⟩

end Bee2V.C06
