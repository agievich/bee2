/-
C06, stage 2 — a field of characteristic 2 with a coefficient `A ∉ {0, 1}`: GF(4) by tables, and a point on
`y² + xy = x³ + ωx² + ω`, so that the non-vacuity examples of `PropsBUn` reach the third arm (multiplication
by `A`) of the branch in `ec2DblLD`/`ec2DblALD`.
-/
import Bee2V.C06.LemmasBUn
namespace Bee2V.C06.BUn
open Bee2V.C06 WeierstrassCurve

/-- GF(4) = {0, 1, ω, ω² = ω + 1}, by tables (a field of characteristic 2 with a coefficient
    `A ∉ {0, 1}` for the non-vacuity examples) -/
inductive G4 | z | o | w | v
  deriving DecidableEq

namespace G4

def add : G4 → G4 → G4
  | z, b => b | a, z => a
  | o, o => z | o, w => v | o, v => w
  | w, o => v | w, w => z | w, v => o
  | v, o => w | v, w => o | v, v => z

def mul : G4 → G4 → G4
  | z, _ => z | _, z => z
  | o, b => b | a, o => a
  | w, w => v | w, v => o
  | v, w => o | v, v => w

def inv : G4 → G4
  | z => z | o => o | w => v | v => w

instance : Zero G4 := ⟨z⟩
instance : One G4 := ⟨o⟩
instance : Add G4 := ⟨add⟩
instance : Mul G4 := ⟨mul⟩
instance : Neg G4 := ⟨id⟩
instance : Inv G4 := ⟨inv⟩

instance : Field G4 where
  add_assoc a b c := by cases a <;> cases b <;> cases c <;> rfl
  zero_add a := by cases a <;> rfl
  add_zero a := by cases a <;> rfl
  add_comm a b := by cases a <;> cases b <;> rfl
  neg_add_cancel a := by cases a <;> rfl
  nsmul := nsmulRec
  zsmul := zsmulRec
  left_distrib a b c := by cases a <;> cases b <;> cases c <;> rfl
  right_distrib a b c := by cases a <;> cases b <;> cases c <;> rfl
  zero_mul a := by cases a <;> rfl
  mul_zero a := by cases a <;> rfl
  mul_assoc a b c := by cases a <;> cases b <;> cases c <;> rfl
  one_mul a := by cases a <;> rfl
  mul_one a := by cases a <;> rfl
  mul_comm a b := by cases a <;> cases b <;> rfl
  exists_pair_ne := ⟨z, o, by decide⟩
  mul_inv_cancel a h := by cases a <;> first | rfl | exact absurd rfl h
  inv_zero := rfl
  nnqsmul := _
  qsmul := _

instance : CharP G4 2 := CharTwo.of_one_ne_zero_of_two_eq_zero (by decide) (by
  rw [← one_add_one_eq_two]; rfl)

end G4

/-- `(1, ω)` on `y² + xy = x³ + ωx² + ω` over GF(4) (general-`A` arm) -/
theorem ns1w : (Wb G4.w G4.w).Nonsingular 1 G4.w := by
  rw [Wb_nonsingular]; exact ⟨by rfl, Or.inr (by decide)⟩

theorem repB2_1w : RepB2 G4.w G4.w (1, G4.w) (.some 1 G4.w ns1w) := ⟨ns1w, rfl⟩

/-- `(ω : 1 : ω)` is `(1, ω)` (`Y/Z² = 1/ω² = ω`) -/
theorem repB3_1w : RepB3 G4.w G4.w (G4.w, 1, G4.w) (.some 1 G4.w ns1w) :=
  repB3_of_repB2 (by decide) (RepB2_of_eq repB2_1w (by rfl) (by rfl))

end Bee2V.C06.BUn
