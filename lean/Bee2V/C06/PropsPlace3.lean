/-
C06, phase 3 — the formula theorems of the binary-curve routines (ec2.c, Lopez–Dahab) for ARBITRARY placements,
part 1: `ec2NegLD`, `ec2DblLD`, `ec2DblALD`, `ec2FromALD` (`_n`, `_ca`), `ec2AddLD`, `ec2SubLD` (`_n`, `_ca`,
`_cb`, `_ab`), `ec2AddALD`, `ec2SubALD` (`_n`, `_ca`, `_cb`).

Operands, destination and scratch stack are ANYWHERE in the store: pairwise disjoint blocks (3 registers for a
projective, 2 for an affine point; aliased buffers share the block as the pattern says) above the registers
`rA = 0`, `rB = 1` of the coefficients and below the stack base `s`; all other registers hold ARBITRARY values.
Each theorem is the canonical-layout theorem (PropsBUn, PropsBAdd, PropsBAddA) for DISTINCT buffers, transported by
`Placeable.place` (LemmasPlace3.lean) with the routine's `…_pl` fact of LemmasPlace4.lean.
Part 2 (PropsPlace5.lean: `ec2ToALD`, `ec2NegA`, affine routines, `ec2IsOnA`) is imported here, so that building
this module builds all placement theorems of the binary curves.
-/
import Bee2V.C06.LemmasPlace4
import Bee2V.C06.PropsBUn
import Bee2V.C06.PropsBAdd
import Bee2V.C06.PropsBAddA
import Bee2V.C06.PropsPlace5
namespace Bee2V.C06
open WeierstrassCurve
set_option linter.unusedSimpArgs false
set_option linter.unusedVariables false
variable {F : Type} [Field F] [DecidableEq F] [CharP F 2] {A B : F}

/-- `ec2NegLD(b, a, ec, stack)`, destination and operand in different buffers -/
theorem ec2NegLD_anywhere_n {b a s : Nat} (hb : 2 ≤ b) (ha : 2 ≤ a) (hba : b + 3 ≤ a ∨ a + 3 ≤ b)
    (hbs : b + 3 ≤ s) (has : a + 3 ≤ s) (st : Store F) (hA : st.get rA = A) (hB : st.get rB = B)
    {P : (Wb A B).Point} (hp : RepB3 A B (get3 st a) P) :
    RepB3 A B (get3 ((ec2NegLD b a s).run (fieldFld F) st).1 b) (-P) :=
  RepB3.congr (ec2NegLD_pl.run1 (cv := curveB A B) _ rfl (al := .n) (by decide) trivial (by inj_w) hA hB)
    (negB_correct (al := .n) (.inl rfl) hp)

/-- `ec2NegLD(b, a, ec, stack)`, in place -/
theorem ec2NegLD_anywhere_ca {b s : Nat} (hb : 2 ≤ b) (hbs : b + 3 ≤ s) (st : Store F) (hA : st.get rA = A)
    (hB : st.get rB = B) {P : (Wb A B).Point} (hp : RepB3 A B (get3 st b) P) :
    RepB3 A B (get3 ((ec2NegLD b b s).run (fieldFld F) st).1 b) (-P) :=
  RepB3.congr (ec2NegLD_pl.run1 (cv := curveB A B) _ rfl (al := .ca) (by decide) rfl (by inj_w) hA hB)
    (negB_correct (al := .n) (.inl rfl) hp)

/-- `ec2DblLD(b, a, ec, stack)`, destination and operand in different buffers -/
theorem ec2DblLD_anywhere_n {b a s : Nat} (hb : 2 ≤ b) (ha : 2 ≤ a) (hba : b + 3 ≤ a ∨ a + 3 ≤ b)
    (hbs : b + 3 ≤ s) (has : a + 3 ≤ s) (st : Store F) (hA : st.get rA = A) (hB : st.get rB = B)
    {P : (Wb A B).Point} (hp : RepB3 A B (get3 st a) P) :
    RepB3 A B (get3 ((ec2DblLD b a s).run (fieldFld F) st).1 b) (P + P) :=
  RepB3.congr (ec2DblLD_pl.run1 (cv := curveB A B) _ rfl (al := .n) (by decide) trivial (by inj_w) hA hB)
    (dblB_correct (al := .n) (.inl rfl) hp)

/-- `ec2DblLD(b, a, ec, stack)`, in place -/
theorem ec2DblLD_anywhere_ca {b s : Nat} (hb : 2 ≤ b) (hbs : b + 3 ≤ s) (st : Store F) (hA : st.get rA = A)
    (hB : st.get rB = B) {P : (Wb A B).Point} (hp : RepB3 A B (get3 st b) P) :
    RepB3 A B (get3 ((ec2DblLD b b s).run (fieldFld F) st).1 b) (P + P) :=
  RepB3.congr (ec2DblLD_pl.run1 (cv := curveB A B) _ rfl (al := .ca) (by decide) rfl (by inj_w) hA hB)
    (dblB_correct (al := .n) (.inl rfl) hp)

/-- `ec2DblALD(b, a, ec, stack)`, destination and operand in different buffers (affine `a`) -/
theorem ec2DblALD_anywhere_n {b a s : Nat} (hb : 2 ≤ b) (ha : 2 ≤ a) (hba : b + 3 ≤ a ∨ a + 2 ≤ b)
    (hbs : b + 3 ≤ s) (has : a + 2 ≤ s) (st : Store F) (hA : st.get rA = A) (hB : st.get rB = B)
    {P : (Wb A B).Point} (hp : RepB2 A B (get2 st a) P) :
    RepB3 A B (get3 ((ec2DblALD b a s).run (fieldFld F) st).1 b) (P + P) :=
  RepB3.congr (out3 (ec2DblALD_pl.place _ (al := .n) (by decide) trivial (by inj_w) (ag1a (cv := curveB A B) hA hB)))
    (dblaB_correct (al := .n) (.inl rfl) hp)

/-- `ec2DblALD(b, a, ec, stack)`, in place (affine `a`) -/
theorem ec2DblALD_anywhere_ca {b s : Nat} (hb : 2 ≤ b) (hbs : b + 3 ≤ s) (st : Store F) (hA : st.get rA = A)
    (hB : st.get rB = B) {P : (Wb A B).Point} (hp : RepB2 A B (get2 st b) P) :
    RepB3 A B (get3 ((ec2DblALD b b s).run (fieldFld F) st).1 b) (P + P) :=
  RepB3.congr (out3 (ec2DblALD_pl.place _ (al := .ca) (by decide) rfl (by inj_w) (ag1a (cv := curveB A B) hA hB)))
    (dblaB_correct (al := .n) (.inl rfl) hp)

/-- `ec2FromALD(b, a, ec, stack)`, destination and operand in different buffers -/
theorem ec2FromALD_anywhere_n {b a : Nat} (hb : 2 ≤ b) (ha : 2 ≤ a) (hba : b + 3 ≤ a ∨ a + 2 ≤ b) (st : Store F)
    (hA : st.get rA = A) (hB : st.get rB = B) {P : (Wb A B).Point} (hp : RepB2 A B (get2 st a) P) :
    RepB3 A B (get3 ((ec2FromALD b a).run (fieldFld F) st).1 b) P :=
  RepB3.congr (out3 (ec2FromALD_pl.place _ (al := .n) (s := b + a + 3) (by decide) trivial (by inj_w) (ag1a (cv := curveB A B) hA hB)))
    (fromaB_correct (al := .n) (.inl rfl) hp)

/-- `ec2FromALD(b, a, ec, stack)`, in place -/
theorem ec2FromALD_anywhere_ca {b : Nat} (hb : 2 ≤ b) (st : Store F) (hA : st.get rA = A) (hB : st.get rB = B)
    {P : (Wb A B).Point} (hp : RepB2 A B (get2 st b) P) :
    RepB3 A B (get3 ((ec2FromALD b b).run (fieldFld F) st).1 b) P :=
  RepB3.congr (out3 (ec2FromALD_pl.place _ (al := .ca) (s := b + 3) (by decide) rfl (by inj_w) (ag1a (cv := curveB A B) hA hB)))
    (fromaB_correct (al := .n) (.inl rfl) hp)

/-- `ec2AddLD(c, a, b, ec, stack)`, all buffers distinct -/
theorem ec2AddLD_anywhere_n {c a b s : Nat} (hc : 2 ≤ c) (ha : 2 ≤ a) (hb : 2 ≤ b) (hca : c + 3 ≤ a ∨ a + 3 ≤ c)
    (hcb : c + 3 ≤ b ∨ b + 3 ≤ c) (hab : a + 3 ≤ b ∨ b + 3 ≤ a) (hcs : c + 3 ≤ s) (has : a + 3 ≤ s)
    (hbs : b + 3 ≤ s) (st : Store F) (hA : st.get rA = A) (hB : st.get rB = B) {P Q : (Wb A B).Point}
    (hp : RepB3 A B (get3 st a) P) (hq : RepB3 A B (get3 st b) Q) :
    RepB3 A B (get3 ((ec2AddLD c a b s).run (fieldFld F) st).1 c) (P + Q) :=
  RepB3.congr (ec2AddLD_pl.run2 (cv := curveB A B) _ rfl (al := .n) (by decide) trivial (by inj_w) hA hB)
    (addB_correct (al := .n) (.inl rfl) hp hq)

/-- `ec2AddLD(c, a, b, ec, stack)`, `c == a` -/
theorem ec2AddLD_anywhere_ca {c b s : Nat} (hc : 2 ≤ c) (hb : 2 ≤ b) (hcb : c + 3 ≤ b ∨ b + 3 ≤ c)
    (hcs : c + 3 ≤ s) (hbs : b + 3 ≤ s) (st : Store F) (hA : st.get rA = A) (hB : st.get rB = B)
    {P Q : (Wb A B).Point} (hp : RepB3 A B (get3 st c) P) (hq : RepB3 A B (get3 st b) Q) :
    RepB3 A B (get3 ((ec2AddLD c c b s).run (fieldFld F) st).1 c) (P + Q) :=
  RepB3.congr (ec2AddLD_pl.run2 (cv := curveB A B) _ rfl (al := .ca) (by decide) rfl (by inj_w) hA hB)
    (addB_correct (al := .n) (.inl rfl) hp hq)

/-- `ec2AddLD(c, a, b, ec, stack)`, `c == b` -/
theorem ec2AddLD_anywhere_cb {c a s : Nat} (hc : 2 ≤ c) (ha : 2 ≤ a) (hca : c + 3 ≤ a ∨ a + 3 ≤ c)
    (hcs : c + 3 ≤ s) (has : a + 3 ≤ s) (st : Store F) (hA : st.get rA = A) (hB : st.get rB = B)
    {P Q : (Wb A B).Point} (hp : RepB3 A B (get3 st a) P) (hq : RepB3 A B (get3 st c) Q) :
    RepB3 A B (get3 ((ec2AddLD c a c s).run (fieldFld F) st).1 c) (P + Q) :=
  RepB3.congr (ec2AddLD_pl.run2 (cv := curveB A B) _ rfl (al := .cb) (by decide) rfl (by inj_w) hA hB)
    (addB_correct (al := .n) (.inl rfl) hp hq)

/-- `ec2AddLD(c, a, b, ec, stack)`, `a == b`, `c` distinct: the doubling fall-through -/
theorem ec2AddLD_anywhere_ab {c a s : Nat} (hc : 2 ≤ c) (ha : 2 ≤ a) (hca : c + 3 ≤ a ∨ a + 3 ≤ c)
    (hcs : c + 3 ≤ s) (has : a + 3 ≤ s) (st : Store F) (hA : st.get rA = A) (hB : st.get rB = B)
    {P : (Wb A B).Point} (hp : RepB3 A B (get3 st a) P) :
    RepB3 A B (get3 ((ec2AddLD c a a s).run (fieldFld F) st).1 c) (P + P) :=
  RepB3.congr (ec2AddLD_pl.run2 (cv := curveB A B) _ rfl (al := .ab) (by decide) rfl (by inj_w) hA hB)
    (addB_correct (al := .n) (.inl rfl) hp hp)

/-- `ec2SubLD(c, a, b, ec, stack)`, all buffers distinct -/
theorem ec2SubLD_anywhere_n {c a b s : Nat} (hc : 2 ≤ c) (ha : 2 ≤ a) (hb : 2 ≤ b) (hca : c + 3 ≤ a ∨ a + 3 ≤ c)
    (hcb : c + 3 ≤ b ∨ b + 3 ≤ c) (hab : a + 3 ≤ b ∨ b + 3 ≤ a) (hcs : c + 3 ≤ s) (has : a + 3 ≤ s)
    (hbs : b + 3 ≤ s) (st : Store F) (hA : st.get rA = A) (hB : st.get rB = B) {P Q : (Wb A B).Point}
    (hp : RepB3 A B (get3 st a) P) (hq : RepB3 A B (get3 st b) Q) :
    RepB3 A B (get3 ((ec2SubLD c a b s).run (fieldFld F) st).1 c) (P - Q) :=
  RepB3.congr (ec2SubLD_pl.run2 (cv := curveB A B) _ rfl (al := .n) (by decide) trivial (by inj_w) hA hB)
    (subB_correct (al := .n) (.inl rfl) hp hq)

/-- `ec2SubLD(c, a, b, ec, stack)`, `c == a` -/
theorem ec2SubLD_anywhere_ca {c b s : Nat} (hc : 2 ≤ c) (hb : 2 ≤ b) (hcb : c + 3 ≤ b ∨ b + 3 ≤ c)
    (hcs : c + 3 ≤ s) (hbs : b + 3 ≤ s) (st : Store F) (hA : st.get rA = A) (hB : st.get rB = B)
    {P Q : (Wb A B).Point} (hp : RepB3 A B (get3 st c) P) (hq : RepB3 A B (get3 st b) Q) :
    RepB3 A B (get3 ((ec2SubLD c c b s).run (fieldFld F) st).1 c) (P - Q) :=
  RepB3.congr (ec2SubLD_pl.run2 (cv := curveB A B) _ rfl (al := .ca) (by decide) rfl (by inj_w) hA hB)
    (subB_correct (al := .n) (.inl rfl) hp hq)

/-- `ec2SubLD(c, a, b, ec, stack)`, `c == b` -/
theorem ec2SubLD_anywhere_cb {c a s : Nat} (hc : 2 ≤ c) (ha : 2 ≤ a) (hca : c + 3 ≤ a ∨ a + 3 ≤ c)
    (hcs : c + 3 ≤ s) (has : a + 3 ≤ s) (st : Store F) (hA : st.get rA = A) (hB : st.get rB = B)
    {P Q : (Wb A B).Point} (hp : RepB3 A B (get3 st a) P) (hq : RepB3 A B (get3 st c) Q) :
    RepB3 A B (get3 ((ec2SubLD c a c s).run (fieldFld F) st).1 c) (P - Q) :=
  RepB3.congr (ec2SubLD_pl.run2 (cv := curveB A B) _ rfl (al := .cb) (by decide) rfl (by inj_w) hA hB)
    (subB_correct (al := .n) (.inl rfl) hp hq)

/-- `ec2SubLD(c, a, b, ec, stack)`, `a == b`, `c` distinct: the result is `O` -/
theorem ec2SubLD_anywhere_ab {c a s : Nat} (hc : 2 ≤ c) (ha : 2 ≤ a) (hca : c + 3 ≤ a ∨ a + 3 ≤ c)
    (hcs : c + 3 ≤ s) (has : a + 3 ≤ s) (st : Store F) (hA : st.get rA = A) (hB : st.get rB = B)
    {P : (Wb A B).Point} (hp : RepB3 A B (get3 st a) P) :
    RepB3 A B (get3 ((ec2SubLD c a a s).run (fieldFld F) st).1 c) 0 :=
  RepB3.congr ((ec2SubLD_pl.run2 (cv := curveB A B) _ rfl (al := .ab) (by decide) rfl (by inj_w) hA hB).trans
    (run2_same (curveB A B) ec2SubLD_pl (by decide) (get3 st a) (get3 st a)).symm)
    (subB_ab_correct hp _)

/-- `ec2AddALD(c, a, b, ec, stack)`, all buffers distinct (affine `b`) -/
theorem ec2AddALD_anywhere_n {c a b s : Nat} (hc : 2 ≤ c) (ha : 2 ≤ a) (hb : 2 ≤ b)
    (hca : c + 3 ≤ a ∨ a + 3 ≤ c) (hcb : c + 3 ≤ b ∨ b + 2 ≤ c) (hab : a + 3 ≤ b ∨ b + 2 ≤ a) (hcs : c + 3 ≤ s)
    (has : a + 3 ≤ s) (hbs : b + 2 ≤ s) (st : Store F) (hA : st.get rA = A) (hB : st.get rB = B)
    {P Q : (Wb A B).Point} (hp : RepB3 A B (get3 st a) P) (hq : RepB2 A B (get2 st b) Q) :
    RepB3 A B (get3 ((ec2AddALD c a b s).run (fieldFld F) st).1 c) (P + Q) :=
  RepB3.congr (ec2AddALD_pl.run2A (cv := curveB A B) _ rfl (al := .n) (by decide) trivial (by inj_w) hA hB)
    (addaB_correct (al := .n) (.inl rfl) hp hq)

/-- `ec2AddALD(c, a, b, ec, stack)`, `c == a` (affine `b`) -/
theorem ec2AddALD_anywhere_ca {c b s : Nat} (hc : 2 ≤ c) (hb : 2 ≤ b) (hcb : c + 3 ≤ b ∨ b + 2 ≤ c)
    (hcs : c + 3 ≤ s) (hbs : b + 2 ≤ s) (st : Store F) (hA : st.get rA = A) (hB : st.get rB = B)
    {P Q : (Wb A B).Point} (hp : RepB3 A B (get3 st c) P) (hq : RepB2 A B (get2 st b) Q) :
    RepB3 A B (get3 ((ec2AddALD c c b s).run (fieldFld F) st).1 c) (P + Q) :=
  RepB3.congr (ec2AddALD_pl.run2A (cv := curveB A B) _ rfl (al := .ca) (by decide) rfl (by inj_w) hA hB)
    (addaB_correct (al := .n) (.inl rfl) hp hq)

/-- `ec2AddALD(c, a, b, ec, stack)`, `c == b` (affine `b`) -/
theorem ec2AddALD_anywhere_cb {c a s : Nat} (hc : 2 ≤ c) (ha : 2 ≤ a) (hca : c + 3 ≤ a ∨ a + 3 ≤ c)
    (hcs : c + 3 ≤ s) (has : a + 3 ≤ s) (st : Store F) (hA : st.get rA = A) (hB : st.get rB = B)
    {P Q : (Wb A B).Point} (hp : RepB3 A B (get3 st a) P) (hq : RepB2 A B (get2 st c) Q) :
    RepB3 A B (get3 ((ec2AddALD c a c s).run (fieldFld F) st).1 c) (P + Q) :=
  RepB3.congr (ec2AddALD_pl.run2A (cv := curveB A B) _ rfl (al := .cb) (by decide) rfl (by inj_w) hA hB)
    (addaB_correct (al := .n) (.inl rfl) hp hq)

/-- `ec2SubALD(c, a, b, ec, stack)`, all buffers distinct (affine `b`) -/
theorem ec2SubALD_anywhere_n {c a b s : Nat} (hc : 2 ≤ c) (ha : 2 ≤ a) (hb : 2 ≤ b)
    (hca : c + 3 ≤ a ∨ a + 3 ≤ c) (hcb : c + 3 ≤ b ∨ b + 2 ≤ c) (hab : a + 3 ≤ b ∨ b + 2 ≤ a) (hcs : c + 3 ≤ s)
    (has : a + 3 ≤ s) (hbs : b + 2 ≤ s) (st : Store F) (hA : st.get rA = A) (hB : st.get rB = B)
    {P Q : (Wb A B).Point} (hp : RepB3 A B (get3 st a) P) (hq : RepB2 A B (get2 st b) Q) :
    RepB3 A B (get3 ((ec2SubALD c a b s).run (fieldFld F) st).1 c) (P - Q) :=
  RepB3.congr (ec2SubALD_pl.run2A (cv := curveB A B) _ rfl (al := .n) (by decide) trivial (by inj_w) hA hB)
    (subaB_correct (al := .n) (.inl rfl) hp hq)

/-- `ec2SubALD(c, a, b, ec, stack)`, `c == a` (affine `b`) -/
theorem ec2SubALD_anywhere_ca {c b s : Nat} (hc : 2 ≤ c) (hb : 2 ≤ b) (hcb : c + 3 ≤ b ∨ b + 2 ≤ c)
    (hcs : c + 3 ≤ s) (hbs : b + 2 ≤ s) (st : Store F) (hA : st.get rA = A) (hB : st.get rB = B)
    {P Q : (Wb A B).Point} (hp : RepB3 A B (get3 st c) P) (hq : RepB2 A B (get2 st b) Q) :
    RepB3 A B (get3 ((ec2SubALD c c b s).run (fieldFld F) st).1 c) (P - Q) :=
  RepB3.congr (ec2SubALD_pl.run2A (cv := curveB A B) _ rfl (al := .ca) (by decide) rfl (by inj_w) hA hB)
    (subaB_correct (al := .n) (.inl rfl) hp hq)

/-- `ec2SubALD(c, a, b, ec, stack)`, `c == b` (affine `b`) -/
theorem ec2SubALD_anywhere_cb {c a s : Nat} (hc : 2 ≤ c) (ha : 2 ≤ a) (hca : c + 3 ≤ a ∨ a + 3 ≤ c)
    (hcs : c + 3 ≤ s) (has : a + 3 ≤ s) (st : Store F) (hA : st.get rA = A) (hB : st.get rB = B)
    {P Q : (Wb A B).Point} (hp : RepB3 A B (get3 st a) P) (hq : RepB2 A B (get2 st c) Q) :
    RepB3 A B (get3 ((ec2SubALD c a c s).run (fieldFld F) st).1 c) (P - Q) :=
  RepB3.congr (ec2SubALD_pl.run2A (cv := curveB A B) _ rfl (al := .cb) (by decide) rfl (by inj_w) hA hB)
    (subaB_correct (al := .n) (.inl rfl) hp hq)
/-! ### non-vacuity: `y² + xy = x³ + 1` over GF(2), placements different from the canonical one -/

/-- `ec2AddLD(c, a, b)` with `c = 20`, `a = 7`, `b = 30`, stack from `40`: `(1, 0) + (0, 1)`; register 25 and
    the stack register 41 hold garbage -/
example : RepB3 (0 : ZMod 2) 1
    (get3 ((ec2AddLD 20 7 30 40).run (fieldFld (ZMod 2))
      (upd (upd (put3 (put3 (base (curveB (0 : ZMod 2) 1)) 7 (1, 0, 1)) 30 (0, 1, 1)) 25 1) 41 1)).1 20)
    (.some 1 0 BAdd.ns10 + .some 0 1 BAdd.ns01) :=
  ec2AddLD_anywhere_n (by decide) (by decide) (by decide) (by decide) (by decide) (by decide) (by decide)
    (by decide) (by decide) _ rfl rfl BAdd.rep10 BAdd.rep01

/-- `ec2SubALD(c, a, c)` (`c == b`) with `c = 20`, `a = 7`, stack from `23` -/
example : RepB3 (0 : ZMod 2) 1
    (get3 ((ec2SubALD 20 7 20 23).run (fieldFld (ZMod 2))
      (upd (put2 (put3 (base (curveB (0 : ZMod 2) 1)) 7 (1, 0, 1)) 20 (0, 1)) 22 1)).1 20)
    (.some 1 0 BAdd.ns10 - .some 0 1 BUn.ns01) :=
  ec2SubALD_anywhere_cb (by decide) (by decide) (by decide) (by decide) (by decide) _ rfl rfl
    BAdd.rep10 BUn.repB2_01

end Bee2V.C06
