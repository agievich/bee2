/-
C06 — affine addition / subtraction `ecpAddAA`, `ecpSubAA` (ecp.c): closed form of the execution on distinct
buffers (`addAA_exec`, `subAA_exec`; the calls with shared buffers are the same call, `runAA_al`, or the call on
equal operands, `runAA_same`) and agreement of the closed forms with Mathlib's group law (`addSpec_correct`,
`subSpec_correct`).
-/
import Bee2V.C06.Spec
import Mathlib.Tactic.Ring
import Mathlib.Tactic.FieldSimp
import Mathlib.Tactic.LinearCombination
namespace Bee2V.C06.AA
open WeierstrassCurve

set_option linter.unusedSectionVars false
set_option linter.unusedSimpArgs false
variable {F : Type} [Field F] [DecidableEq F] {A B : F}

/-! ## closed forms -/

/-- the common tail: from the slope `l`, `xc = l² - xa - xb`, `yc = l (xa - xc) - ya` -/
def res (l x1 y1 x2 : F) : P2 F :=
  (l * l - x1 - x2, l * (x1 - (l * l - x1 - x2)) - y1)

/-- slope of the tangent as the C computes it: `(xa² + xa² + xa² + A) / (ya + ya)` -/
def tan (A x1 y1 : F) : F := (x1 * x1 + x1 * x1 + x1 * x1 + A) * (y1 + y1)⁻¹

/-- what `ecpAddAA` computes on distinct operand buffers -/
def addSpec (A x1 y1 x2 y2 : F) : Option (P2 F) :=
  if x1 = x2 then
    if y1 = y2 then
      if y2 = 0 then none else some (res (tan A x1 y1) x1 y1 x2)
    else none
  else some (res ((y1 - y2) * (x1 - x2)⁻¹) x1 y1 x2)

/-- what `ecpSubAA` computes on distinct operand buffers -/
def subSpec (A x1 y1 x2 y2 : F) : Option (P2 F) :=
  if x1 = x2 then
    if y1 = y2 then none else some (res (tan A x1 y1) x1 y1 x2)
  else some (res ((y1 + y2) * (x1 - x2)⁻¹) x1 y1 x2)

/-! ## execution -/

theorem addAA_exec (x1 y1 x2 y2 : F) :
    runAA (curveF A B) ecpAddAA .n (x1, y1) (x2, y2) = addSpec A x1 y1 x2 y2 := by
  unfold addSpec
  by_cases hx : x1 = x2
  · rw [if_pos hx]
    by_cases hy : y1 = y2
    · rw [if_pos hy]
      by_cases h0 : y2 = 0
      · rw [if_pos h0]
        exact (run_then resO hx).trans ((run_then resO hy).trans (run_then resO h0))
      · rw [if_neg h0]
        exact (run_then resO hx).trans ((run_then resO hy).trans (run_else resO h0))
    · rw [if_neg hy]
      exact (run_then resO hx).trans (run_else resO hy)
  · rw [if_neg hx]
    exact run_else resO hx

theorem subAA_exec (x1 y1 x2 y2 : F) :
    runAA (curveF A B) ecpSubAA .n (x1, y1) (x2, y2) = subSpec A x1 y1 x2 y2 := by
  unfold subSpec
  by_cases hx : x1 = x2
  · rw [if_pos hx]
    by_cases hy : y1 = y2
    · rw [if_pos hy]
      exact (run_then resO hx).trans (run_then resO hy)
    · rw [if_neg hy]
      exact (run_then resO hx).trans (run_else resO hy)
  · rw [if_neg hx]
    exact run_else resO hx

theorem subAA_self (a : P2 F) : runAA (curveF A B) ecpSubAA .n a a = none := by
  obtain ⟨x, y⟩ := a
  rw [subAA_exec]; simp [subSpec]

/-! ## the closed forms and the group law -/

theorem Rep2_ne_zero {r : P2 F} {P : (Wc A B).Point} (h : Rep2 A B r P) : P ≠ 0 := by
  obtain ⟨_, rfl⟩ := h
  exact Affine.Point.some_ne_zero _

theorem of_some {o : Option (P2 F)} {r0 : P2 F} {P : (Wc A B).Point} (ho : o = some r0)
    (h : Rep2 A B r0 P) : (o = none ↔ P = 0) ∧ ∀ r, o = some r → Rep2 A B r P := by
  subst ho
  refine ⟨⟨fun h0 => (by cases h0), fun h0 => absurd h0 (Rep2_ne_zero h)⟩, ?_⟩
  intro r hr
  cases hr
  exact h

theorem of_none {o : Option (P2 F)} {P : (Wc A B).Point} (ho : o = none)
    (h : P = 0) : (o = none ↔ P = 0) ∧ ∀ r, o = some r → Rep2 A B r P := by
  subst ho
  exact ⟨⟨fun _ => h, fun _ => rfl⟩, fun r hr => by cases hr⟩

theorem yy_ne (h2 : (2 : F) ≠ 0) {y : F} (hy : y ≠ 0) : y + y ≠ 0 := by
  rw [← two_mul]; exact mul_ne_zero h2 hy

/-- tangent at `(x, y)`, `y + y ≠ 0`, in the form the C computes -/
theorem tangent_rep {x y : F} (h : (Wc A B).Nonsingular x y) (hy : y + y ≠ 0) :
    Rep2 A B (res (tan A x y) x y x) (Affine.Point.some x y h + Affine.Point.some x y h) := by
  refine Rep2_of_eq (add_tangent h hy) ?_ ?_ <;> simp only [tan, div_eq_mul_inv] <;> ring

/-- chord through `(x₁, y₁)`, `(x₂, y₂)`, `x₁ ≠ x₂`, in the form the C computes -/
theorem chord_rep {x1 y1 x2 y2 : F} (h1 : (Wc A B).Nonsingular x1 y1) (h2 : (Wc A B).Nonsingular x2 y2)
    (hx : x1 ≠ x2) :
    Rep2 A B (res ((y1 - y2) * (x1 - x2)⁻¹) x1 y1 x2)
      (Affine.Point.some x1 y1 h1 + Affine.Point.some x2 y2 h2) := by
  refine Rep2_of_eq (add_chord h1 h2 hx) ?_ ?_ <;> simp only [div_eq_mul_inv] <;> ring

theorem addSpec_correct (h2 : (2 : F) ≠ 0) {x1 y1 x2 y2 : F}
    (h1 : (Wc A B).Nonsingular x1 y1) (h2' : (Wc A B).Nonsingular x2 y2) :
    (addSpec A x1 y1 x2 y2 = none ↔ Affine.Point.some x1 y1 h1 + Affine.Point.some x2 y2 h2' = 0) ∧
    ∀ r, addSpec A x1 y1 x2 y2 = some r →
      Rep2 A B r (Affine.Point.some x1 y1 h1 + Affine.Point.some x2 y2 h2') := by
  by_cases hx : x1 = x2
  · subst hx
    by_cases hy : y1 = y2
    · subst hy
      by_cases h0 : y1 = 0
      · exact of_none (by simp [addSpec, h0]) (add_inverse h1 h2' rfl (by rw [h0, neg_zero]))
      · exact of_some (by simp [addSpec, h0]) (tangent_rep h1 (yy_ne h2 h0))
    · refine of_none (by simp [addSpec, hy]) (add_inverse h1 h2' rfl ?_)
      rcases y_eq_or_neg h1 h2' with h | h
      · exact absurd h hy
      · exact h
  · exact of_some (by simp [addSpec, hx]) (chord_rep h1 h2' hx)

theorem subSpec_correct {x1 y1 x2 y2 : F}
    (h1 : (Wc A B).Nonsingular x1 y1) (h2' : (Wc A B).Nonsingular x2 y2) :
    (subSpec A x1 y1 x2 y2 = none ↔ Affine.Point.some x1 y1 h1 - Affine.Point.some x2 y2 h2' = 0) ∧
    ∀ r, subSpec A x1 y1 x2 y2 = some r →
      Rep2 A B r (Affine.Point.some x1 y1 h1 - Affine.Point.some x2 y2 h2') := by
  obtain ⟨hn, en⟩ := neg_some h2'
  simp only at hn en
  rw [sub_eq_add_neg, en]
  by_cases hx : x1 = x2
  · subst hx
    by_cases hy : y1 = y2
    · subst hy
      exact of_none (by simp [subSpec]) (add_inverse h1 hn rfl (neg_neg y1).symm)
    · have hyn : y1 = -y2 := by
        rcases y_eq_or_neg h1 h2' with h | h
        · exact absurd h hy
        · exact h
      subst hyn
      refine of_some (by simp [subSpec, hy]) (tangent_rep h1 ?_)
      intro h0
      exact hy (by linear_combination h0)
  · have hc := chord_rep h1 hn hx
    rw [sub_neg_eq_add] at hc
    exact of_some (by simp [subSpec, hx]) hc

end Bee2V.C06.AA
