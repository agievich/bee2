/-
C06, phase 3 — the formula theorems of the binary-curve routines (ec2.c) for ARBITRARY placements, part 2:
`ec2ToALD`, `ec2NegA` (`_n`, `_ca`), the affine routines `ec2AddAA`, `ec2SubAA` (`_n`, `_cb`, `_ab`: the C asserts
`a` and `c` disjoint) and `ec2IsOnA`.  Same setting as PropsPlace3.lean.  FALSE-returning routines: the flag is
FALSE iff the result is `O`, and if it is TRUE the destination holds the affine result (`outOpt`).
-/
import Bee2V.C06.LemmasPlace4
import Bee2V.C06.PropsBUn
import Bee2V.C06.PropsBAA
namespace Bee2V.C06
open WeierstrassCurve
set_option linter.unusedSimpArgs false
set_option linter.unusedVariables false
variable {F : Type} [Field F] [DecidableEq F] [CharP F 2] {A B : F}

/-- `ec2ToALD(b, a, ec, stack)`, destination and operand in different buffers: FALSE iff `a == O`, otherwise the affine point -/
theorem ec2ToALD_anywhere_n {b a s : Nat} (hb : 2 ≤ b) (ha : 2 ≤ a) (hba : b + 2 ≤ a ∨ a + 3 ≤ b)
    (hbs : b + 2 ≤ s) (has : a + 3 ≤ s) (st : Store F) (hA : st.get rA = A) (hB : st.get rB = B)
    {P : (Wb A B).Point} (hp : RepB3 A B (get3 st a) P) :
    (((ec2ToALD b a s).run (fieldFld F) st).2 = false ↔ P = 0) ∧
    (((ec2ToALD b a s).run (fieldFld F) st).2 = true →
      RepB2 A B (get2 ((ec2ToALD b a s).run (fieldFld F) st).1 b) P) :=
  optRes_spec (outOpt (ec2ToALD_pl.place _ (al := .n) (by decide) trivial (by inj_w) (ag1 (cv := curveB A B) hA hB)))
    (toaB_correct (al := .n) (.inl rfl) hp)

/-- `ec2ToALD(b, a, ec, stack)`, in place: FALSE iff `a == O`, otherwise the affine point -/
theorem ec2ToALD_anywhere_ca {b s : Nat} (hb : 2 ≤ b) (hbs : b + 3 ≤ s) (st : Store F) (hA : st.get rA = A)
    (hB : st.get rB = B) {P : (Wb A B).Point} (hp : RepB3 A B (get3 st b) P) :
    (((ec2ToALD b b s).run (fieldFld F) st).2 = false ↔ P = 0) ∧
    (((ec2ToALD b b s).run (fieldFld F) st).2 = true →
      RepB2 A B (get2 ((ec2ToALD b b s).run (fieldFld F) st).1 b) P) :=
  optRes_spec (outOpt (ec2ToALD_pl.place _ (al := .ca) (by decide) rfl (by inj_w) (ag1 (cv := curveB A B) hA hB)))
    (toaB_correct (al := .n) (.inl rfl) hp)

/-- `ec2NegA(b, a, ec)`, destination and operand in different buffers -/
theorem ec2NegA_anywhere_n {b a : Nat} (hb : 2 ≤ b) (ha : 2 ≤ a) (hba : b + 2 ≤ a ∨ a + 2 ≤ b) (st : Store F)
    (hA : st.get rA = A) (hB : st.get rB = B) {P : (Wb A B).Point} (hp : RepB2 A B (get2 st a) P) :
    RepB2 A B (get2 ((ec2NegA b a).run (fieldFld F) st).1 b) (-P) :=
  RepB2.congr (out2 (ec2NegA_pl.place _ (al := .n) (s := b + a + 3) (by decide) trivial (by inj_w) (ag1a (cv := curveB A B) hA hB)))
    (negAB_correct (al := .n) (.inl rfl) hp)

/-- `ec2NegA(b, a, ec)`, in place -/
theorem ec2NegA_anywhere_ca {b : Nat} (hb : 2 ≤ b) (st : Store F) (hA : st.get rA = A) (hB : st.get rB = B)
    {P : (Wb A B).Point} (hp : RepB2 A B (get2 st b) P) :
    RepB2 A B (get2 ((ec2NegA b b).run (fieldFld F) st).1 b) (-P) := by
  -- in place the routine copies `x` onto itself and then reads it: not `Prog.safe`; two instructions, run directly
  have e : get2 ((ec2NegA b b).run (fieldFld F) st).1 b = negA2 (curveB A B) .ca (get2 st b) := by
    simp [ec2NegA, negA2, Prog.block, Prog.run, Instr.exec, upd, get2, put2, base, slotA, cX, cY, curveB, mkCurve2]
  rw [e]; exact negAB_correct (.inr rfl) hp

/-- `ec2AddAA(c, a, b, ec, stack)`, all buffers distinct: FALSE iff `a + b == O`, otherwise the affine sum -/
theorem ec2AddAA_anywhere_n {c a b s : Nat} (hc : 2 ≤ c) (ha : 2 ≤ a) (hb : 2 ≤ b) (hca : c + 2 ≤ a ∨ a + 2 ≤ c)
    (hcb : c + 2 ≤ b ∨ b + 2 ≤ c) (hab : a + 2 ≤ b ∨ b + 2 ≤ a) (hcs : c + 2 ≤ s) (has : a + 2 ≤ s)
    (hbs : b + 2 ≤ s) (st : Store F) (hA : st.get rA = A) (hB : st.get rB = B) {P Q : (Wb A B).Point}
    (hp : RepB2 A B (get2 st a) P) (hq : RepB2 A B (get2 st b) Q) :
    (((ec2AddAA c a b s).run (fieldFld F) st).2 = false ↔ P + Q = 0) ∧
    (((ec2AddAA c a b s).run (fieldFld F) st).2 = true →
      RepB2 A B (get2 ((ec2AddAA c a b s).run (fieldFld F) st).1 c) (P + Q)) :=
  optRes_spec (ec2AddAA_pl.runAA (cv := curveB A B) _ rfl (al := .n) (by decide) trivial (by inj_w) hA hB)
    (addAA2_correct (al := .n) (.inl rfl) hp hq)

/-- `ec2AddAA(c, a, b, ec, stack)`, `c == b`: FALSE iff `a + b == O`, otherwise the affine sum -/
theorem ec2AddAA_anywhere_cb {c a s : Nat} (hc : 2 ≤ c) (ha : 2 ≤ a) (hca : c + 2 ≤ a ∨ a + 2 ≤ c)
    (hcs : c + 2 ≤ s) (has : a + 2 ≤ s) (st : Store F) (hA : st.get rA = A) (hB : st.get rB = B)
    {P Q : (Wb A B).Point} (hp : RepB2 A B (get2 st a) P) (hq : RepB2 A B (get2 st c) Q) :
    (((ec2AddAA c a c s).run (fieldFld F) st).2 = false ↔ P + Q = 0) ∧
    (((ec2AddAA c a c s).run (fieldFld F) st).2 = true →
      RepB2 A B (get2 ((ec2AddAA c a c s).run (fieldFld F) st).1 c) (P + Q)) :=
  optRes_spec (ec2AddAA_pl.runAA (cv := curveB A B) _ rfl (al := .cb) (by decide) rfl (by inj_w) hA hB)
    (addAA2_correct (al := .n) (.inl rfl) hp hq)

/-- `ec2AddAA(c, a, b, ec, stack)`, `a == b`, `c` distinct: FALSE iff `2a == O` (`xa = 0`), otherwise the affine double -/
theorem ec2AddAA_anywhere_ab {c a s : Nat} (hc : 2 ≤ c) (ha : 2 ≤ a) (hca : c + 2 ≤ a ∨ a + 2 ≤ c)
    (hcs : c + 2 ≤ s) (has : a + 2 ≤ s) (st : Store F) (hA : st.get rA = A) (hB : st.get rB = B)
    {P : (Wb A B).Point} (hp : RepB2 A B (get2 st a) P) :
    (((ec2AddAA c a a s).run (fieldFld F) st).2 = false ↔ P + P = 0) ∧
    (((ec2AddAA c a a s).run (fieldFld F) st).2 = true →
      RepB2 A B (get2 ((ec2AddAA c a a s).run (fieldFld F) st).1 c) (P + P)) :=
  optRes_spec (ec2AddAA_pl.runAA (cv := curveB A B) _ rfl (al := .ab) (by decide) rfl (by inj_w) hA hB)
    (addAA2_correct (al := .n) (.inl rfl) hp hp)

/-- `ec2SubAA(c, a, b, ec, stack)`, all buffers distinct: FALSE iff `a - b == O`, otherwise the affine difference -/
theorem ec2SubAA_anywhere_n {c a b s : Nat} (hc : 2 ≤ c) (ha : 2 ≤ a) (hb : 2 ≤ b) (hca : c + 2 ≤ a ∨ a + 2 ≤ c)
    (hcb : c + 2 ≤ b ∨ b + 2 ≤ c) (hab : a + 2 ≤ b ∨ b + 2 ≤ a) (hcs : c + 2 ≤ s) (has : a + 2 ≤ s)
    (hbs : b + 2 ≤ s) (st : Store F) (hA : st.get rA = A) (hB : st.get rB = B) {P Q : (Wb A B).Point}
    (hp : RepB2 A B (get2 st a) P) (hq : RepB2 A B (get2 st b) Q) :
    (((ec2SubAA c a b s).run (fieldFld F) st).2 = false ↔ P - Q = 0) ∧
    (((ec2SubAA c a b s).run (fieldFld F) st).2 = true →
      RepB2 A B (get2 ((ec2SubAA c a b s).run (fieldFld F) st).1 c) (P - Q)) :=
  optRes_spec (ec2SubAA_pl.runAA (cv := curveB A B) _ rfl (al := .n) (by decide) trivial (by inj_w) hA hB)
    (subAA2_correct (al := .n) (.inl rfl) hp hq)

/-- `ec2SubAA(c, a, b, ec, stack)`, `c == b`: FALSE iff `a - b == O`, otherwise the affine difference -/
theorem ec2SubAA_anywhere_cb {c a s : Nat} (hc : 2 ≤ c) (ha : 2 ≤ a) (hca : c + 2 ≤ a ∨ a + 2 ≤ c)
    (hcs : c + 2 ≤ s) (has : a + 2 ≤ s) (st : Store F) (hA : st.get rA = A) (hB : st.get rB = B)
    {P Q : (Wb A B).Point} (hp : RepB2 A B (get2 st a) P) (hq : RepB2 A B (get2 st c) Q) :
    (((ec2SubAA c a c s).run (fieldFld F) st).2 = false ↔ P - Q = 0) ∧
    (((ec2SubAA c a c s).run (fieldFld F) st).2 = true →
      RepB2 A B (get2 ((ec2SubAA c a c s).run (fieldFld F) st).1 c) (P - Q)) :=
  optRes_spec (ec2SubAA_pl.runAA (cv := curveB A B) _ rfl (al := .cb) (by decide) rfl (by inj_w) hA hB)
    (subAA2_correct (al := .n) (.inl rfl) hp hq)

/-- `ec2SubAA(c, a, b, ec, stack)`, `a == b`, `c` distinct: FALSE (`a - a == O`) for every content of the buffer -/
theorem ec2SubAA_anywhere_ab {c a s : Nat} (hc : 2 ≤ c) (ha : 2 ≤ a) (hca : c + 2 ≤ a ∨ a + 2 ≤ c)
    (hcs : c + 2 ≤ s) (has : a + 2 ≤ s) (st : Store F) (hA : st.get rA = A) (hB : st.get rB = B) :
    ((ec2SubAA c a a s).run (fieldFld F) st).2 = false :=
  optRes_none ((ec2SubAA_pl.runAA (cv := curveB A B) _ rfl (al := .ab) (by decide) rfl (by inj_w) hA hB).trans
    (BAA.subAA_self _))

/-- `ec2IsOnA(a, ec, stack)` (after the range test): TRUE iff the curve equation holds -/
theorem ec2IsOnA_anywhere {a s : Nat} (ha : 2 ≤ a) (has : a + 2 ≤ s) (st : Store F) (hA : st.get rA = A)
    (hB : st.get rB = B) :
    ((ec2IsOnA a s).run (fieldFld F) st).2 = true ↔ (get2 st a).2 ^ 2 + (get2 st a).1 * (get2 st a).2 = (get2 st a).1 ^ 3 + A * (get2 st a).1 ^ 2 + B := by
  have e : ((ec2IsOnA a s).run (fieldFld F) st).2 = isOnA2 (curveB A B) (get2 st a) :=
    (ec2IsOnA_pl.place _ (al := .n) (c := 0) (by decide) trivial (by inj_w) (ag1a (cv := curveB A B) hA hB)).1
  rw [e]; exact isOnA2_correct _
/-! ### non-vacuity: `y² + xy = x³ + 1` over GF(2), placements different from the canonical one -/

/-- `ec2AddAA(c, a, c)` (`c == b`) with `c = 20`, `a = 7`, stack from `40`: `(1, 0) + (0, 1)`; register 9 and the
    stack register 40 hold garbage -/
example :
    let st : Store (ZMod 2) := upd (upd (put2 (put2 (base (curveB (0 : ZMod 2) 1)) 7 (1, 0)) 20 (0, 1)) 9 1) 40 1
    (((ec2AddAA 20 7 20 40).run (fieldFld (ZMod 2)) st).2 = false ↔
      (.some 1 0 BUn.ns10 + .some 0 1 BUn.ns01 : (Wb (0 : ZMod 2) 1).Point) = 0) ∧
    (((ec2AddAA 20 7 20 40).run (fieldFld (ZMod 2)) st).2 = true →
      RepB2 0 1 (get2 ((ec2AddAA 20 7 20 40).run (fieldFld (ZMod 2)) st).1 20)
        (.some 1 0 BUn.ns10 + .some 0 1 BUn.ns01)) :=
  ec2AddAA_anywhere_cb (by decide) (by decide) (by decide) (by decide) (by decide) _ rfl rfl
    BUn.repB2_10 BUn.repB2_01

/-- `ec2IsOnA(a)` with `a = 7`, stack from `9` -/
example : ((ec2IsOnA 7 9).run (fieldFld (ZMod 2)) (put2 (base (curveB (0 : ZMod 2) 1)) 7 (1, 0))).2 = true :=
  (ec2IsOnA_anywhere (A := 0) (B := 1) (by decide) (by decide) _ rfl rfl).2 (by decide)

end Bee2V.C06
