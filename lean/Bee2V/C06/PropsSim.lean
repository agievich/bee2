/-
C06 — property theorems, simulation: for a prime `p ≠ 2` the interpreter on `natFld p` (what the
driver executes, canonical residues as naturals) simulates the interpreter on `fieldFld (ZMod p)`
(what the group-law theorems are about) through `Nat.cast`, for EVERY program; hence every wrapper
of `Wrap.lean` and every entry of the function table `ecOps` commutes with the casts.

`castStore p st = ⟨fun i => (st.get i : ZMod p)⟩`, `cast3 p (x, y, z) = ((x : ZMod p), (y : ZMod p), (z : ZMod p))`,
`cast2` likewise, `Red3 p q = (q.1 < p ∧ q.2.1 < p ∧ q.2.2 < p)`, `Red2` likewise
(definitions in `LemmasSim2`, namespace `Bee2V.C06.Sim`).
-/
import Bee2V.C06.LemmasSim2
namespace Bee2V.C06
open Sim (castStore cast3 cast2 Red3 Red2)

/-- `powMod` (square-and-multiply of the model) is the modular power -/
theorem powMod_spec (a e p : Nat) : powMod a e p = a ^ e % p := Sim.powMod_eq a e p

/-- every operation of `natFld p` commutes with the cast to `ZMod p` on residues `< p`, and the result
    is again `< p` (fields of `Sim.FldSim`: zero one add sub mul neg dbl half inv pow eqb) -/
theorem natFld_sim (p : Nat) [Fact p.Prime] (hp2 : p ≠ 2) :
    Sim.FldSim (natFld p) (fieldFld (ZMod p)) (fun a : Nat => (a : ZMod p)) (fun a => a < p) :=
  Sim.natFld_sim p hp2

/-- the simulation theorem: results stay reduced, the returned flag and the final store agree -/
theorem run_sim (p : Nat) [Fact p.Prime] (hp2 : p ≠ 2) (prog : Prog) (st : Store Nat)
    (hst : ∀ i, st.get i < p) :
    (∀ i, ((prog.run (natFld p) st).1.get i) < p) ∧
    (prog.run (natFld p) st).2 = (prog.run (fieldFld (ZMod p)) (castStore p st)).2 ∧
    castStore p (prog.run (natFld p) st).1 = (prog.run (fieldFld (ZMod p)) (castStore p st)).1 :=
  Sim.run_sim_gen (Sim.natFld_sim p hp2) prog st hst

section wrappers
variable (p : Nat) [Fact p.Prime] (hp2 : p ≠ 2) {A B : Nat} (hA : A < p) (hB : B < p)
include hp2 hA hB

/-- `bA3` of `ecpCreateJ` is the same on both sides -/
theorem mkCurve_a3_sim :
    (mkCurve (natFld p) A B).a3 = (curveF (A : ZMod p) (B : ZMod p)).a3 :=
  (Sim.curve_sim p hp2 hA hB).a3

theorem dblProg_sim :
    dblProg (mkCurve (natFld p) A B) = dblProg (curveF (A : ZMod p) (B : ZMod p)) :=
  Sim.dblProg_sim (Sim.curve_sim p hp2 hA hB)

theorem tplProg_sim :
    tplProg (mkCurve (natFld p) A B) = tplProg (curveF (A : ZMod p) (B : ZMod p)) :=
  Sim.tplProg_sim (Sim.curve_sim p hp2 hA hB)

theorem run1_sim (prog : Nat → Nat → Nat → Prog) (al : Al) {a : P3 Nat} (ha : Red3 p a) :
    Red3 p (run1 (mkCurve (natFld p) A B) prog al a) ∧
    cast3 p (run1 (mkCurve (natFld p) A B) prog al a) =
      run1 (curveF (A : ZMod p) (B : ZMod p)) prog al (cast3 p a) :=
  Sim.run1_sim (Sim.curve_sim p hp2 hA hB) prog al ha

theorem run2_sim (prog : Nat → Nat → Nat → Nat → Prog) (al : Al) {a b : P3 Nat}
    (ha : Red3 p a) (hb : Red3 p b) :
    Red3 p (run2 (mkCurve (natFld p) A B) prog al a b) ∧
    cast3 p (run2 (mkCurve (natFld p) A B) prog al a b) =
      run2 (curveF (A : ZMod p) (B : ZMod p)) prog al (cast3 p a) (cast3 p b) :=
  Sim.run2_sim (Sim.curve_sim p hp2 hA hB) prog al ha hb

theorem run2A_sim (prog : Nat → Nat → Nat → Nat → Prog) (al : Al) {a : P3 Nat} {b : P2 Nat}
    (ha : Red3 p a) (hb : Red2 p b) :
    Red3 p (run2A (mkCurve (natFld p) A B) prog al a b) ∧
    cast3 p (run2A (mkCurve (natFld p) A B) prog al a b) =
      run2A (curveF (A : ZMod p) (B : ZMod p)) prog al (cast3 p a) (cast2 p b) :=
  Sim.run2A_sim (Sim.curve_sim p hp2 hA hB) prog al ha hb

theorem froma_sim (al : Al) {a : P2 Nat} (ha : Red2 p a) :
    Red3 p (froma (mkCurve (natFld p) A B) al a) ∧
    cast3 p (froma (mkCurve (natFld p) A B) al a) =
      froma (curveF (A : ZMod p) (B : ZMod p)) al (cast2 p a) :=
  Sim.froma_sim (Sim.curve_sim p hp2 hA hB) al ha

theorem dbla_sim (al : Al) {a : P2 Nat} (ha : Red2 p a) :
    Red3 p (dbla (mkCurve (natFld p) A B) al a) ∧
    cast3 p (dbla (mkCurve (natFld p) A B) al a) =
      dbla (curveF (A : ZMod p) (B : ZMod p)) al (cast2 p a) :=
  Sim.dbla_sim (Sim.curve_sim p hp2 hA hB) al ha

theorem negA_sim (al : Al) {a : P2 Nat} (ha : Red2 p a) :
    Red2 p (negA (mkCurve (natFld p) A B) al a) ∧
    cast2 p (negA (mkCurve (natFld p) A B) al a) =
      negA (curveF (A : ZMod p) (B : ZMod p)) al (cast2 p a) :=
  Sim.negA_sim (Sim.curve_sim p hp2 hA hB) al ha

/-- `ecpToAJ`: `none` (FALSE) on one side iff on the other; the affine results correspond -/
theorem toa_sim (al : Al) {a : P3 Nat} (ha : Red3 p a) :
    (∀ q, toa (mkCurve (natFld p) A B) al a = some q → Red2 p q) ∧
    (toa (mkCurve (natFld p) A B) al a).map (cast2 p) =
      toa (curveF (A : ZMod p) (B : ZMod p)) al (cast3 p a) :=
  Sim.toa_sim (Sim.curve_sim p hp2 hA hB) al ha

/-- `ecpAddAA`/`ecpSubAA` (any affine three-address routine) -/
theorem runAA_sim (prog : Nat → Nat → Nat → Nat → Prog) (al : Al) {a b : P2 Nat}
    (ha : Red2 p a) (hb : Red2 p b) :
    (∀ q, runAA (mkCurve (natFld p) A B) prog al a b = some q → Red2 p q) ∧
    (runAA (mkCurve (natFld p) A B) prog al a b).map (cast2 p) =
      runAA (curveF (A : ZMod p) (B : ZMod p)) prog al (cast2 p a) (cast2 p b) :=
  Sim.runAA_sim (Sim.curve_sim p hp2 hA hB) prog al ha hb

theorem isOnA_sim {a : P2 Nat} (ha : Red2 p a) :
    isOnA (mkCurve (natFld p) A B) a = isOnA (curveF (A : ZMod p) (B : ZMod p)) (cast2 p a) :=
  Sim.isOnA_sim (Sim.curve_sim p hp2 hA hB) ha

/-- `ecpSWU` with the exponents of modulus `m` (the program is the same on both sides) -/
theorem swu_sim (m : Nat) {a : Nat} (ha : a < p) :
    Red2 p (swu m (mkCurve (natFld p) A B) a) ∧
    cast2 p (swu m (mkCurve (natFld p) A B) a) =
      swu m (curveF (A : ZMod p) (B : ZMod p)) (a : ZMod p) :=
  Sim.swu_sim (Sim.curve_sim p hp2 hA hB) m ha

/-! #### the function table `ecOps` -/

theorem ecOps_sim_froma {a : P2 Nat} (ha : Red2 p a) :
    Red3 p ((ecOps (mkCurve (natFld p) A B)).froma a) ∧
    cast3 p ((ecOps (mkCurve (natFld p) A B)).froma a) =
      (ecOps (curveF (A : ZMod p) (B : ZMod p))).froma (cast2 p a) :=
  froma_sim p hp2 hA hB .n ha

theorem ecOps_sim_toa {a : P3 Nat} (ha : Red3 p a) :
    (∀ q, (ecOps (mkCurve (natFld p) A B)).toa a = some q → Red2 p q) ∧
    ((ecOps (mkCurve (natFld p) A B)).toa a).map (cast2 p) =
      (ecOps (curveF (A : ZMod p) (B : ZMod p))).toa (cast3 p a) :=
  toa_sim p hp2 hA hB .n ha

omit hp2 hA hB in
theorem ecOps_sim_view {a : P3 Nat} (ha : Red3 p a) :
    Red2 p ((ecOps (mkCurve (natFld p) A B)).view a) ∧
    cast2 p ((ecOps (mkCurve (natFld p) A B)).view a) =
      (ecOps (curveF (A : ZMod p) (B : ZMod p))).view (cast3 p a) :=
  ⟨⟨ha.1, ha.2.1⟩, rfl⟩

omit hA hB in
theorem ecOps_sim_setO :
    Red3 p (ecOps (mkCurve (natFld p) A B)).setO ∧
    cast3 p (ecOps (mkCurve (natFld p) A B)).setO =
      (ecOps (curveF (A : ZMod p) (B : ZMod p))).setO :=
  Sim.setO_sim (c := mkCurve (natFld p) A B) (c' := curveF (A : ZMod p) (B : ZMod p)) (Sim.natFld_sim p hp2)

theorem ecOps_sim_neg (al : Al) {a : P3 Nat} (ha : Red3 p a) :
    Red3 p ((ecOps (mkCurve (natFld p) A B)).neg al a) ∧
    cast3 p ((ecOps (mkCurve (natFld p) A B)).neg al a) =
      (ecOps (curveF (A : ZMod p) (B : ZMod p))).neg al (cast3 p a) :=
  run1_sim p hp2 hA hB _ al ha

theorem ecOps_sim_dbl (al : Al) {a : P3 Nat} (ha : Red3 p a) :
    Red3 p ((ecOps (mkCurve (natFld p) A B)).dbl al a) ∧
    cast3 p ((ecOps (mkCurve (natFld p) A B)).dbl al a) =
      (ecOps (curveF (A : ZMod p) (B : ZMod p))).dbl al (cast3 p a) :=
  (Sim.ecOps_sim (Sim.curve_sim p hp2 hA hB)).dbl al ha

theorem ecOps_sim_tpl (al : Al) {a : P3 Nat} (ha : Red3 p a) :
    Red3 p ((ecOps (mkCurve (natFld p) A B)).tpl al a) ∧
    cast3 p ((ecOps (mkCurve (natFld p) A B)).tpl al a) =
      (ecOps (curveF (A : ZMod p) (B : ZMod p))).tpl al (cast3 p a) := by
  show Red3 p (run1 _ (tplProg (mkCurve (natFld p) A B)) al a) ∧
    cast3 p (run1 _ (tplProg (mkCurve (natFld p) A B)) al a) =
      run1 _ (tplProg (curveF (A : ZMod p) (B : ZMod p))) al (cast3 p a)
  rw [← tplProg_sim p hp2 hA hB]
  exact run1_sim p hp2 hA hB _ al ha

theorem ecOps_sim_dbla {a : P2 Nat} (ha : Red2 p a) :
    Red3 p ((ecOps (mkCurve (natFld p) A B)).dbla a) ∧
    cast3 p ((ecOps (mkCurve (natFld p) A B)).dbla a) =
      (ecOps (curveF (A : ZMod p) (B : ZMod p))).dbla (cast2 p a) :=
  dbla_sim p hp2 hA hB .n ha

theorem ecOps_sim_add (al : Al) {a b : P3 Nat} (ha : Red3 p a) (hb : Red3 p b) :
    Red3 p ((ecOps (mkCurve (natFld p) A B)).add al a b) ∧
    cast3 p ((ecOps (mkCurve (natFld p) A B)).add al a b) =
      (ecOps (curveF (A : ZMod p) (B : ZMod p))).add al (cast3 p a) (cast3 p b) :=
  run2_sim p hp2 hA hB _ al ha hb

theorem ecOps_sim_sub (al : Al) {a b : P3 Nat} (ha : Red3 p a) (hb : Red3 p b) :
    Red3 p ((ecOps (mkCurve (natFld p) A B)).sub al a b) ∧
    cast3 p ((ecOps (mkCurve (natFld p) A B)).sub al a b) =
      (ecOps (curveF (A : ZMod p) (B : ZMod p))).sub al (cast3 p a) (cast3 p b) :=
  run2_sim p hp2 hA hB _ al ha hb

theorem ecOps_sim_adda (al : Al) {a : P3 Nat} {b : P2 Nat} (ha : Red3 p a) (hb : Red2 p b) :
    Red3 p ((ecOps (mkCurve (natFld p) A B)).adda al a b) ∧
    cast3 p ((ecOps (mkCurve (natFld p) A B)).adda al a b) =
      (ecOps (curveF (A : ZMod p) (B : ZMod p))).adda al (cast3 p a) (cast2 p b) :=
  run2A_sim p hp2 hA hB _ al ha hb

theorem ecOps_sim_suba (al : Al) {a : P3 Nat} {b : P2 Nat} (ha : Red3 p a) (hb : Red2 p b) :
    Red3 p ((ecOps (mkCurve (natFld p) A B)).suba al a b) ∧
    cast3 p ((ecOps (mkCurve (natFld p) A B)).suba al a b) =
      (ecOps (curveF (A : ZMod p) (B : ZMod p))).suba al (cast3 p a) (cast2 p b) :=
  run2A_sim p hp2 hA hB _ al ha hb

end wrappers

/-! ### non-vacuity: `p = 7`, curve `y² = x³ + 4x + 3` (`A = -3`, so `bA3`), points `(1,1)`, `(5,1)` -/

attribute [local instance] Sim.fact_prime_7

/-- hypotheses of all theorems are satisfiable -/
example : (7 : Nat) ≠ 2 ∧ (4 : Nat) < 7 ∧ (3 : Nat) < 7 ∧ Red3 7 (1, 1, 1) ∧ Red3 7 (5, 1, 1) ∧
    Red2 7 (5, 1) ∧ (∀ i, (Store.mk (fun i => i % 7)).get i < 7) :=
  ⟨by decide, by decide, by decide, ⟨by decide, by decide, by decide⟩,
    ⟨by decide, by decide, by decide⟩, ⟨by decide, by decide⟩, fun i => Nat.mod_lt i (by decide)⟩

/-- `powMod_spec`: a concrete value -/
example : powMod 3 5 7 = 5 := by rw [powMod_spec]; decide

/-- `run_sim`: a program with a branch, `half` and `inv`, on the store `i ↦ i mod 7` -/
example :
    ((Prog.ifz 3 (.seq (.half 2 5) (.ret true)) (.seq (.inv 2 5) (.ret false))).run (natFld 7)
      ⟨fun i => i % 7⟩).1.get 2 = 3 ∧
    ((Prog.ifz 3 (.seq (.half 2 5) (.ret true)) (.seq (.inv 2 5) (.ret false))).run (natFld 7)
      ⟨fun i => i % 7⟩).2 = false := by decide +kernel

/-- … and what `run_sim` then says about the run over `ZMod 7` -/
example :
    ((Prog.ifz 3 (.seq (.half 2 5) (.ret true)) (.seq (.inv 2 5) (.ret false))).run (fieldFld (ZMod 7))
      (castStore 7 ⟨fun i => i % 7⟩)).2 = false := by
  rw [← (run_sim 7 (by decide) _ ⟨fun i => i % 7⟩ (fun i => Nat.mod_lt i (by decide))).2.1]
  decide +kernel

/-- `mkCurve_a3_sim`: `bA3` is set for `A = 4 = -3 (mod 7)` and not for `A = 1` -/
example : (mkCurve (natFld 7) 4 3).a3 = true ∧ (mkCurve (natFld 7) 1 3).a3 = false := by decide

/-- wrappers on naturals evaluate -/
example : run1 (mkCurve (natFld 7) 4 3) (dblProg (mkCurve (natFld 7) 4 3)) .ca (1, 1, 1) = (6, 6, 2) := by
  decide
example : (ecOps (mkCurve (natFld 7) 4 3)).add .n (1, 1, 1) (5, 1, 1) = (1, 6, 1) := by decide
example : (ecOps (mkCurve (natFld 7) 4 3)).toa (1, 6, 1) = some (1, 6) ∧
    (ecOps (mkCurve (natFld 7) 4 3)).toa (1, 1, 0) = none := by decide +kernel
example : isOnA (mkCurve (natFld 7) 4 3) (1, 1) = true := by decide
example : swu 7 (mkCurve (natFld 7) 4 3) 3 = (5, 1) := by decide +kernel

/-- … and transfer: the field-level table over `ZMod 7` adds `(1,1) + (5,1) = (1,-1)` -/
example : (ecOps (curveF (4 : ZMod 7) 3)).add .n (1, 1, 1) (5, 1, 1) = (1, 6, 1) := by
  have h := (ecOps_sim_add 7 (by decide) (A := 4) (B := 3) (by decide) (by decide) .n
    (a := (1, 1, 1)) (b := (5, 1, 1)) ⟨by decide, by decide, by decide⟩
    ⟨by decide, by decide, by decide⟩).2
  have e : (ecOps (mkCurve (natFld 7) 4 3)).add .n (1, 1, 1) (5, 1, 1) = (1, 6, 1) := by decide
  rw [e] at h
  exact h.symm

end Bee2V.C06
