/-
C06 — composition of the parts into statements about the real call structure:
  * `ecOps_correct`: the function table that `ecpCreateJ` installs (over any field with 2 ≠ 0)
    implements Mathlib's group of points, for the aliasing patterns `ecMulA`/`ecAddMulA` use;
  * `ecMulA_curve`, `ecHasOrderA_curve`, `ecAddMulA_curve`: the window-NAF routines of ec.c run on
    that table return `d • P` / `Σ dᵢ • Pᵢ` and FALSE exactly for the point at infinity;
  * `ecOps_nat_correct`, `ecMulA_nat`, `ecHasOrderA_nat`, `ecAddMulA_nat`: the same for what the
    driver `drv_c06` executes (naturals mod a prime p > 2), through the simulation `run_sim`.
-/
import Bee2V.C06.LemmasTop
import Bee2V.C06.PropsMul
import Bee2V.C06.PropsUn
import Bee2V.C06.PropsAddJ
import Bee2V.C06.PropsAddAJ
import Bee2V.C06.PropsSim
import Bee2V.C06.PropsTpl
import Bee2V.C06.PropsAA
import Bee2V.C06.PropsSWU
namespace Bee2V.C06
open WeierstrassCurve

section field
variable {F : Type} [Field F] [DecidableEq F] {A B : F}

/-- the table of `ecpCreateJ` is a correct operation table for the group of points -/
theorem ecOps_correct (h2 : (2 : F) ≠ 0) :
    (ecOps (curveF A B)).Correct (Rep3 A B) (Rep2 A B) where
  froma h := froma_correct (Or.inl rfl) h
  view_froma {a g} h := by rw [view_froma]; exact h
  toa_none h := (toa_correct (Or.inl rfl) h).1
  toa_some h hb := (toa_correct (Or.inl rfl) h).2 _ hb
  setO := setO_correct
  dbl_ca h := dbl_correct h2 (Or.inr rfl) h
  dbla h := dbla_correct h2 (Or.inl rfl) h
  add_n hp hq := add_correct h2 (Or.inl rfl) hp hq
  add_ca hp hq := add_correct h2 (Or.inr (Or.inl rfl)) hp hq
  sub_ca hp hq := sub_correct h2 (Or.inr (Or.inl rfl)) hp hq
  adda_n hp hq := adda_correct h2 (Or.inl rfl) hp hq
  adda_ca hp hq := adda_correct h2 (Or.inr (Or.inl rfl)) hp hq
  suba_ca hp hq := suba_correct h2 (Or.inr (Or.inl rfl)) hp hq

/-- `ecMulA` on a curve over any field with `2 ≠ 0`: FALSE iff `d • P = O`, else the affine `d • P` -/
theorem ecMulA_curve (h2 : (2 : F) ≠ 0) {a : P2 F} {P : (Wc A B).Point} (ha : Rep2 A B a P)
    (W m d : Nat) :
    (ecMulA (ecOps (curveF A B)) W a d m = none ↔ d • P = 0) ∧
    ∀ b, ecMulA (ecOps (curveF A B)) W a d m = some b → Rep2 A B b (d • P) :=
  ecMulA_spec (ecOps_correct h2) ha W m d

theorem ecHasOrderA_curve (h2 : (2 : F) ≠ 0) {a : P2 F} {P : (Wc A B).Point} (ha : Rep2 A B a P)
    (W m q : Nat) :
    ecHasOrderA (ecOps (curveF A B)) W a q m = true ↔ q • P = 0 :=
  ecHasOrderA_spec (ecOps_correct h2) ha W m q

/-- `ecAddMulA` on a curve: the multi-scalar sum `Σ dᵢ • Pᵢ` (repeated points, zero scalars, scalars of
    different lengths and hence different window widths included) -/
theorem ecAddMulA_curve (h2 : (2 : F) ≠ 0) (args : List (P2 F × Nat)) (Ps : List (Wc A B).Point)
    (h : List.Forall₂ (fun ad P => Rep2 A B ad.1 P) args Ps) (W : Nat) :
    let s := (List.zipWith (fun ad P => ad.2 • P) args Ps).sum
    (ecAddMulA (ecOps (curveF A B)) W args = none ↔ s = 0) ∧
    ∀ b, ecAddMulA (ecOps (curveF A B)) W args = some b → Rep2 A B b s :=
  ecAddMulA_spec (ecOps_correct h2) args Ps h W

end field

section nat
variable (p : Nat) [Fact p.Prime] (hp2 : p ≠ 2) {A B : Nat} (hA : A < p) (hB : B < p)
include hp2 hA hB

/-- the table the driver runs (`natFld p`) is correct for the group of points over `ZMod p` -/
theorem ecOps_nat_correct :
    (ecOps (mkCurve (natFld p) A B)).Correct (RepN3 p A B) (RepN2 p A B) :=
  (ecOps_correct (Sim.two_ne_zero' p hp2)).of_sim (Sim.ecOps_sim (Sim.curve_sim p hp2 hA hB))

/-- what `drv_c06` computes for `mul`: for a point `(x, y)` of the curve over `ZMod p` given by
    reduced naturals, every word size `W`, every length `m`, every scalar `d`: FALSE iff `d • P = O`,
    otherwise reduced coordinates of `d • P` -/
theorem ecMulA_nat {x y : Nat} (hx : x < p) (hy : y < p)
    (hns : (Wc (A : ZMod p) (B : ZMod p)).Nonsingular (x : ZMod p) (y : ZMod p)) (W m d : Nat) :
    (ecMulA (ecOps (mkCurve (natFld p) A B)) W (x, y) d m = none ↔
        d • (Affine.Point.some _ _ hns) = 0) ∧
    ∀ b, ecMulA (ecOps (mkCurve (natFld p) A B)) W (x, y) d m = some b →
        b.1 < p ∧ b.2 < p ∧
        Rep2 (A : ZMod p) (B : ZMod p) ((b.1 : ZMod p), (b.2 : ZMod p)) (d • (Affine.Point.some _ _ hns)) := by
  have ha : RepN2 p A B (x, y) (Affine.Point.some _ _ hns) :=
    ⟨⟨hx, hy⟩, by show Rep2 _ _ ((x : ZMod p), (y : ZMod p)) _; exact ⟨hns, rfl⟩⟩
  have h := ecMulA_spec (ecOps_nat_correct p hp2 hA hB) ha W m d
  exact ⟨h.1, fun b hb => ⟨(h.2 b hb).1.1, (h.2 b hb).1.2, (h.2 b hb).2⟩⟩

theorem ecHasOrderA_nat {x y : Nat} (hx : x < p) (hy : y < p)
    (hns : (Wc (A : ZMod p) (B : ZMod p)).Nonsingular (x : ZMod p) (y : ZMod p)) (W m q : Nat) :
    ecHasOrderA (ecOps (mkCurve (natFld p) A B)) W (x, y) q m = true ↔
      q • (Affine.Point.some _ _ hns) = 0 :=
  ecHasOrderA_spec (ecOps_nat_correct p hp2 hA hB)
    (⟨⟨hx, hy⟩, by show Rep2 _ _ ((x : ZMod p), (y : ZMod p)) _; exact ⟨hns, rfl⟩⟩ :
      RepN2 p A B (x, y) (Affine.Point.some _ _ hns)) W m q

/-- what `drv_c06` computes for `addmul` -/
theorem ecAddMulA_nat (args : List (P2 Nat × Nat)) (Ps : List (Wc (A : ZMod p) (B : ZMod p)).Point)
    (h : List.Forall₂ (fun ad P => RepN2 p A B ad.1 P) args Ps) (W : Nat) :
    let s := (List.zipWith (fun ad P => ad.2 • P) args Ps).sum
    (ecAddMulA (ecOps (mkCurve (natFld p) A B)) W args = none ↔ s = 0) ∧
    ∀ b, ecAddMulA (ecOps (mkCurve (natFld p) A B)) W args = some b → RepN2 p A B b s :=
  ecAddMulA_spec (ecOps_nat_correct p hp2 hA hB) args Ps h W

/-! ### every routine and aliasing on what the driver runs -/

theorem neg_nat {al : Al} (hal : al = .n ∨ al = .ca) {q : P3 Nat} {P} (hq : RepN3 p A B q P) :
    RepN3 p A B ((ecOps (mkCurve (natFld p) A B)).neg al q) (-P) := by
  have s := ecOps_sim_neg p hp2 hA hB al hq.1
  exact ⟨s.1, by rw [s.2]; exact neg_correct hal hq.2⟩

theorem dbl_nat {al : Al} (hal : al = .n ∨ al = .ca) {q : P3 Nat} {P} (hq : RepN3 p A B q P) :
    RepN3 p A B ((ecOps (mkCurve (natFld p) A B)).dbl al q) (P + P) := by
  have s := ecOps_sim_dbl p hp2 hA hB al hq.1
  exact ⟨s.1, by rw [s.2]; exact dbl_correct (Sim.two_ne_zero' p hp2) hal hq.2⟩

theorem tpl_nat {al : Al} (hal : al = .n ∨ al = .ca) {q : P3 Nat} {P} (hq : RepN3 p A B q P) :
    RepN3 p A B ((ecOps (mkCurve (natFld p) A B)).tpl al q) (P + P + P) := by
  have s := ecOps_sim_tpl p hp2 hA hB al hq.1
  exact ⟨s.1, by rw [s.2]; exact tpl_correct (Sim.two_ne_zero' p hp2) hal hq.2⟩

theorem add_nat {al : Al} (hal : al = .n ∨ al = .ca ∨ al = .cb) {q r : P3 Nat} {P Q}
    (hq : RepN3 p A B q P) (hr : RepN3 p A B r Q) :
    RepN3 p A B ((ecOps (mkCurve (natFld p) A B)).add al q r) (P + Q) := by
  have s := ecOps_sim_add p hp2 hA hB al hq.1 hr.1
  exact ⟨s.1, by rw [s.2]; exact add_correct (Sim.two_ne_zero' p hp2) hal hq.2 hr.2⟩

theorem sub_nat {al : Al} (hal : al = .n ∨ al = .ca ∨ al = .cb) {q r : P3 Nat} {P Q}
    (hq : RepN3 p A B q P) (hr : RepN3 p A B r Q) :
    RepN3 p A B ((ecOps (mkCurve (natFld p) A B)).sub al q r) (P - Q) := by
  have s := ecOps_sim_sub p hp2 hA hB al hq.1 hr.1
  exact ⟨s.1, by rw [s.2]; exact sub_correct (Sim.two_ne_zero' p hp2) hal hq.2 hr.2⟩

theorem adda_nat {al : Al} (hal : al = .n ∨ al = .ca ∨ al = .cb) {q : P3 Nat} {r : P2 Nat} {P Q}
    (hq : RepN3 p A B q P) (hr : RepN2 p A B r Q) :
    RepN3 p A B ((ecOps (mkCurve (natFld p) A B)).adda al q r) (P + Q) := by
  have s := ecOps_sim_adda p hp2 hA hB al hq.1 hr.1
  exact ⟨s.1, by rw [s.2]; exact adda_correct (Sim.two_ne_zero' p hp2) hal hq.2 hr.2⟩

theorem suba_nat {al : Al} (hal : al = .n ∨ al = .ca ∨ al = .cb) {q : P3 Nat} {r : P2 Nat} {P Q}
    (hq : RepN3 p A B q P) (hr : RepN2 p A B r Q) :
    RepN3 p A B ((ecOps (mkCurve (natFld p) A B)).suba al q r) (P - Q) := by
  have s := ecOps_sim_suba p hp2 hA hB al hq.1 hr.1
  exact ⟨s.1, by rw [s.2]; exact suba_correct (Sim.two_ne_zero' p hp2) hal hq.2 hr.2⟩

theorem addAA_nat {al : Al} (hal : al = .n ∨ al = .ca ∨ al = .cb) {q r : P2 Nat} {P Q}
    (hq : RepN2 p A B q P) (hr : RepN2 p A B r Q) :
    (addAA (mkCurve (natFld p) A B) al q r = none ↔ P + Q = 0) ∧
    ∀ t, addAA (mkCurve (natFld p) A B) al q r = some t → RepN2 p A B t (P + Q) := by
  have s := runAA_sim p hp2 hA hB ecpAddAA al hq.1 hr.1
  have c := addAA_correct (Sim.two_ne_zero' p hp2) hal hq.2 hr.2
  refine ⟨?_, fun t ht => ⟨s.1 t ht, c.2 _ ?_⟩⟩
  · rw [← c.1]; unfold addAA; rw [← s.2, Option.map_eq_none_iff]
  · unfold addAA at ht ⊢; rw [← s.2, ht]; rfl

theorem subAA_nat {al : Al} (hal : al = .n ∨ al = .ca ∨ al = .cb) {q r : P2 Nat} {P Q}
    (hq : RepN2 p A B q P) (hr : RepN2 p A B r Q) :
    (subAA (mkCurve (natFld p) A B) al q r = none ↔ P - Q = 0) ∧
    ∀ t, subAA (mkCurve (natFld p) A B) al q r = some t → RepN2 p A B t (P - Q) := by
  have s := runAA_sim p hp2 hA hB ecpSubAA al hq.1 hr.1
  have c := subAA_correct (Sim.two_ne_zero' p hp2) hal hq.2 hr.2
  refine ⟨?_, fun t ht => ⟨s.1 t ht, c.2 _ ?_⟩⟩
  · rw [← c.1]; unfold subAA; rw [← s.2, Option.map_eq_none_iff]
  · unfold subAA at ht ⊢; rw [← s.2, ht]; rfl

/-- SWU on what the driver runs: inside the exact domain the output is a reduced point of the curve -/
theorem swu_nat_on_curve (hp : p % 4 = 3) {a : Nat} (ha : a < p)
    (hA0 : (A : ZMod p) ≠ 0) (hB0 : (B : ZMod p) ≠ 0)
    (hdom : IsSquare (B : ZMod p) ∨ ((a : ZMod p) ≠ 0 ∧ (a : ZMod p) ≠ 1 ∧ (a : ZMod p) ≠ -1)) :
    (swu p (mkCurve (natFld p) A B) a).1 < p ∧ (swu p (mkCurve (natFld p) A B) a).2 < p ∧
    ((swu p (mkCurve (natFld p) A B) a).2 : ZMod p) ^ 2 =
      ((swu p (mkCurve (natFld p) A B) a).1 : ZMod p) ^ 3 + A * ((swu p (mkCurve (natFld p) A B) a).1 : ZMod p) + B := by
  have s := swu_sim p hp2 hA hB p ha
  have c := swu_on_curve p hp (A : ZMod p) (B : ZMod p) (a : ZMod p) hA0 hB0 hdom
  rw [← s.2] at c
  exact ⟨s.1.1, s.1.2, c⟩

end nat

/-! ## non-vacuity: `y² = x³ + x + 1` over `ZMod 23` (order 28), `P = (3, 10)` -/

example : ecMulA (ecOps (mkCurve (natFld 23) 1 1)) 64 (3, 10) 2 1 = some (7, 12) := by decide +kernel
example : ecMulA (ecOps (mkCurve (natFld 23) 1 1)) 64 (3, 10) 28 1 = none := by decide +kernel
example : ecHasOrderA (ecOps (mkCurve (natFld 23) 1 1)) 64 (3, 10) 28 1 = true := by decide +kernel
-- 3P + 3P = 6P: the running sum meets a precomputed multiple (P == Q fall-through of ecpAddJ, c == a)
example : ecAddMulA (ecOps (mkCurve (natFld 23) 1 1)) 64 [((3, 10), 3), ((3, 10), 3)] = some (12, 4) := by
  decide +kernel
example : ecAddMulA (ecOps (mkCurve (natFld 23) 1 1)) 64 [((3, 10), 2), ((3, 13), 2)] = none := by
  decide +kernel


attribute [local instance] fact_prime_23 in
/-- the hypotheses of `ecMulA_nat` are satisfiable: `p = 23`, `A = B = 1`, `P = (3, 10)`, `d = 29 = 28 + 1` -/
example : ∃ hns : (Wc ((1 : Nat) : ZMod 23) ((1 : Nat) : ZMod 23)).Nonsingular ((3 : Nat) : ZMod 23) ((10 : Nat) : ZMod 23),
    ecMulA (ecOps (mkCurve (natFld 23) 1 1)) 64 (3, 10) 29 1 ≠ none ∧
    (29 : Nat) • (Affine.Point.some _ _ hns) ≠ 0 := by
  have hns : (Wc ((1 : Nat) : ZMod 23) ((1 : Nat) : ZMod 23)).Nonsingular ((3 : Nat) : ZMod 23) ((10 : Nat) : ZMod 23) :=
    (Wc_nonsingular _ _ _ _).2 ⟨by decide, Or.inr (by decide)⟩
  have h := ecMulA_nat 23 (by decide) (A := 1) (B := 1) (by decide) (by decide) (x := 3) (y := 10)
    (by decide) (by decide) hns 64 1 29
  have hne : ecMulA (ecOps (mkCurve (natFld 23) 1 1)) 64 (3, 10) 29 1 ≠ none := by decide +kernel
  exact ⟨hns, hne, fun h0 => hne (h.1.2 h0)⟩

end Bee2V.C06
