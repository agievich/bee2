/-
C06, phase 3 — the formula theorems of the prime-curve routines (ecp.c) for ARBITRARY placements, part 2:
the mixed routines `ecpAddAJ`, `ecpSubAJ` (`_n`, `_ca`, `_cb`), `ecpToAJ`, `ecpNegA` (`_n`, `_ca`), the affine
routines `ecpAddAA`, `ecpSubAA` (`_n`, `_ca`, `_cb`, `_ab`, `_abc`) and `ecpIsOnA`.  Same setting as
PropsPlace2.lean (blocks of 3 registers for projective, 2 for affine points, arbitrary other store contents).

The routines that return FALSE without writing the output (`ecpToAJ` on `O`, `ecpAddAA`/`ecpSubAA` when the
result is `O`) are stated as: the returned flag is FALSE iff the result is `O`, and if the flag is TRUE the
destination holds the affine result.  They go through `outOpt` (the output registers have to be written on the TRUE
paths only).  `ecpSubAA(c, a, a)` returns FALSE whatever the buffer holds.
-/
import Bee2V.C06.LemmasPlace4
import Bee2V.C06.PropsUn
import Bee2V.C06.PropsAddAJ
import Bee2V.C06.PropsAA
namespace Bee2V.C06
open WeierstrassCurve
set_option linter.unusedSimpArgs false
set_option linter.unusedVariables false
variable {F : Type} [Field F] [DecidableEq F] {A B : F}

/-- `ecpAddAJ(c, a, b, ec, stack)`, all buffers distinct (affine `b`) -/
theorem addAJ_anywhere_n (h2 : (2 : F) ≠ 0) {c a b s : Nat} (hc : 2 ≤ c) (ha : 2 ≤ a) (hb : 2 ≤ b)
    (hca : c + 3 ≤ a ∨ a + 3 ≤ c) (hcb : c + 3 ≤ b ∨ b + 2 ≤ c) (hab : a + 3 ≤ b ∨ b + 2 ≤ a) (hcs : c + 3 ≤ s)
    (has : a + 3 ≤ s) (hbs : b + 2 ≤ s) (st : Store F) (hA : st.get rA = A) (hB : st.get rB = B)
    {P Q : (Wc A B).Point} (hp : Rep3 A B (get3 st a) P) (hq : Rep2 A B (get2 st b) Q) :
    Rep3 A B (get3 ((ecpAddAJ c a b s).run (fieldFld F) st).1 c) (P + Q) :=
  Rep3.congr (ecpAddAJ_pl.run2A (cv := curveF A B) _ rfl (al := .n) (by decide) trivial (by inj_w) hA hB)
    (adda_correct (al := .n) h2 (.inl rfl) hp hq)

/-- `ecpAddAJ(c, a, b, ec, stack)`, `c == a` (affine `b`) -/
theorem addAJ_anywhere_ca (h2 : (2 : F) ≠ 0) {c b s : Nat} (hc : 2 ≤ c) (hb : 2 ≤ b)
    (hcb : c + 3 ≤ b ∨ b + 2 ≤ c) (hcs : c + 3 ≤ s) (hbs : b + 2 ≤ s) (st : Store F) (hA : st.get rA = A)
    (hB : st.get rB = B) {P Q : (Wc A B).Point} (hp : Rep3 A B (get3 st c) P) (hq : Rep2 A B (get2 st b) Q) :
    Rep3 A B (get3 ((ecpAddAJ c c b s).run (fieldFld F) st).1 c) (P + Q) :=
  Rep3.congr (ecpAddAJ_pl.run2A (cv := curveF A B) _ rfl (al := .ca) (by decide) rfl (by inj_w) hA hB)
    (adda_correct (al := .n) h2 (.inl rfl) hp hq)

/-- `ecpAddAJ(c, a, b, ec, stack)`, `c == b` (affine `b`) -/
theorem addAJ_anywhere_cb (h2 : (2 : F) ≠ 0) {c a s : Nat} (hc : 2 ≤ c) (ha : 2 ≤ a)
    (hca : c + 3 ≤ a ∨ a + 3 ≤ c) (hcs : c + 3 ≤ s) (has : a + 3 ≤ s) (st : Store F) (hA : st.get rA = A)
    (hB : st.get rB = B) {P Q : (Wc A B).Point} (hp : Rep3 A B (get3 st a) P) (hq : Rep2 A B (get2 st c) Q) :
    Rep3 A B (get3 ((ecpAddAJ c a c s).run (fieldFld F) st).1 c) (P + Q) :=
  Rep3.congr (ecpAddAJ_pl.run2A (cv := curveF A B) _ rfl (al := .cb) (by decide) rfl (by inj_w) hA hB)
    (adda_correct (al := .n) h2 (.inl rfl) hp hq)

/-- `ecpSubAJ(c, a, b, ec, stack)`, all buffers distinct (affine `b`) -/
theorem subAJ_anywhere_n (h2 : (2 : F) ≠ 0) {c a b s : Nat} (hc : 2 ≤ c) (ha : 2 ≤ a) (hb : 2 ≤ b)
    (hca : c + 3 ≤ a ∨ a + 3 ≤ c) (hcb : c + 3 ≤ b ∨ b + 2 ≤ c) (hab : a + 3 ≤ b ∨ b + 2 ≤ a) (hcs : c + 3 ≤ s)
    (has : a + 3 ≤ s) (hbs : b + 2 ≤ s) (st : Store F) (hA : st.get rA = A) (hB : st.get rB = B)
    {P Q : (Wc A B).Point} (hp : Rep3 A B (get3 st a) P) (hq : Rep2 A B (get2 st b) Q) :
    Rep3 A B (get3 ((ecpSubAJ c a b s).run (fieldFld F) st).1 c) (P - Q) :=
  Rep3.congr (ecpSubAJ_pl.run2A (cv := curveF A B) _ rfl (al := .n) (by decide) trivial (by inj_w) hA hB)
    (suba_correct (al := .n) h2 (.inl rfl) hp hq)

/-- `ecpSubAJ(c, a, b, ec, stack)`, `c == a` (affine `b`) -/
theorem subAJ_anywhere_ca (h2 : (2 : F) ≠ 0) {c b s : Nat} (hc : 2 ≤ c) (hb : 2 ≤ b)
    (hcb : c + 3 ≤ b ∨ b + 2 ≤ c) (hcs : c + 3 ≤ s) (hbs : b + 2 ≤ s) (st : Store F) (hA : st.get rA = A)
    (hB : st.get rB = B) {P Q : (Wc A B).Point} (hp : Rep3 A B (get3 st c) P) (hq : Rep2 A B (get2 st b) Q) :
    Rep3 A B (get3 ((ecpSubAJ c c b s).run (fieldFld F) st).1 c) (P - Q) :=
  Rep3.congr (ecpSubAJ_pl.run2A (cv := curveF A B) _ rfl (al := .ca) (by decide) rfl (by inj_w) hA hB)
    (suba_correct (al := .n) h2 (.inl rfl) hp hq)

/-- `ecpSubAJ(c, a, b, ec, stack)`, `c == b` (affine `b`) -/
theorem subAJ_anywhere_cb (h2 : (2 : F) ≠ 0) {c a s : Nat} (hc : 2 ≤ c) (ha : 2 ≤ a)
    (hca : c + 3 ≤ a ∨ a + 3 ≤ c) (hcs : c + 3 ≤ s) (has : a + 3 ≤ s) (st : Store F) (hA : st.get rA = A)
    (hB : st.get rB = B) {P Q : (Wc A B).Point} (hp : Rep3 A B (get3 st a) P) (hq : Rep2 A B (get2 st c) Q) :
    Rep3 A B (get3 ((ecpSubAJ c a c s).run (fieldFld F) st).1 c) (P - Q) :=
  Rep3.congr (ecpSubAJ_pl.run2A (cv := curveF A B) _ rfl (al := .cb) (by decide) rfl (by inj_w) hA hB)
    (suba_correct (al := .n) h2 (.inl rfl) hp hq)

/-- `ecpToAJ(b, a, ec, stack)`, destination and operand in different buffers: FALSE iff `a == O`, otherwise the affine point -/
theorem toAJ_anywhere_n {b a s : Nat} (hb : 2 ≤ b) (ha : 2 ≤ a) (hba : b + 2 ≤ a ∨ a + 3 ≤ b) (hbs : b + 2 ≤ s)
    (has : a + 3 ≤ s) (st : Store F) (hA : st.get rA = A) (hB : st.get rB = B) {P : (Wc A B).Point}
    (hp : Rep3 A B (get3 st a) P) :
    (((ecpToAJ b a s).run (fieldFld F) st).2 = false ↔ P = 0) ∧
    (((ecpToAJ b a s).run (fieldFld F) st).2 = true →
      Rep2 A B (get2 ((ecpToAJ b a s).run (fieldFld F) st).1 b) P) :=
  optRes_spec (outOpt (ecpToAJ_pl.place _ (al := .n) (by decide) trivial (by inj_w) (ag1 (cv := curveF A B) hA hB)))
    (toa_correct (al := .n) (.inl rfl) hp)

/-- `ecpToAJ(b, a, ec, stack)`, in place: FALSE iff `a == O`, otherwise the affine point -/
theorem toAJ_anywhere_ca {b s : Nat} (hb : 2 ≤ b) (hbs : b + 3 ≤ s) (st : Store F) (hA : st.get rA = A)
    (hB : st.get rB = B) {P : (Wc A B).Point} (hp : Rep3 A B (get3 st b) P) :
    (((ecpToAJ b b s).run (fieldFld F) st).2 = false ↔ P = 0) ∧
    (((ecpToAJ b b s).run (fieldFld F) st).2 = true →
      Rep2 A B (get2 ((ecpToAJ b b s).run (fieldFld F) st).1 b) P) :=
  optRes_spec (outOpt (ecpToAJ_pl.place _ (al := .ca) (by decide) rfl (by inj_w) (ag1 (cv := curveF A B) hA hB)))
    (toa_correct (al := .n) (.inl rfl) hp)

/-- `ecpNegA(b, a, ec)`, destination and operand in different buffers -/
theorem negA_anywhere_n {b a : Nat} (hb : 2 ≤ b) (ha : 2 ≤ a) (hba : b + 2 ≤ a ∨ a + 2 ≤ b) (st : Store F)
    (hA : st.get rA = A) (hB : st.get rB = B) {P : (Wc A B).Point} (hp : Rep2 A B (get2 st a) P) :
    Rep2 A B (get2 ((ecpNegA b a).run (fieldFld F) st).1 b) (-P) :=
  Rep2.congr (out2 (ecpNegA_pl.place _ (al := .n) (s := b + a + 3) (by decide) trivial (by inj_w) (ag1a (cv := curveF A B) hA hB)))
    (negA_correct (al := .n) (.inl rfl) hp)

/-- `ecpNegA(b, a, ec)`, in place -/
theorem negA_anywhere_ca {b : Nat} (hb : 2 ≤ b) (st : Store F) (hA : st.get rA = A) (hB : st.get rB = B)
    {P : (Wc A B).Point} (hp : Rep2 A B (get2 st b) P) :
    Rep2 A B (get2 ((ecpNegA b b).run (fieldFld F) st).1 b) (-P) :=
  Rep2.congr (out2 (ecpNegA_pl.place _ (al := .ca) (s := b + 3) (by decide) rfl (by inj_w) (ag1a (cv := curveF A B) hA hB)))
    (negA_correct (al := .n) (.inl rfl) hp)

/-- `ecpAddAA(c, a, b, ec, stack)`, all buffers distinct: FALSE iff `a + b == O`, otherwise the affine sum -/
theorem addAA_anywhere_n (h2 : (2 : F) ≠ 0) {c a b s : Nat} (hc : 2 ≤ c) (ha : 2 ≤ a) (hb : 2 ≤ b)
    (hca : c + 2 ≤ a ∨ a + 2 ≤ c) (hcb : c + 2 ≤ b ∨ b + 2 ≤ c) (hab : a + 2 ≤ b ∨ b + 2 ≤ a) (hcs : c + 2 ≤ s)
    (has : a + 2 ≤ s) (hbs : b + 2 ≤ s) (st : Store F) (hA : st.get rA = A) (hB : st.get rB = B)
    {P Q : (Wc A B).Point} (hp : Rep2 A B (get2 st a) P) (hq : Rep2 A B (get2 st b) Q) :
    (((ecpAddAA c a b s).run (fieldFld F) st).2 = false ↔ P + Q = 0) ∧
    (((ecpAddAA c a b s).run (fieldFld F) st).2 = true →
      Rep2 A B (get2 ((ecpAddAA c a b s).run (fieldFld F) st).1 c) (P + Q)) :=
  optRes_spec (ecpAddAA_pl.runAA (cv := curveF A B) _ rfl (al := .n) (by decide) trivial (by inj_w) hA hB)
    (addAA_correct (al := .n) h2 (.inl rfl) hp hq)

/-- `ecpAddAA(c, a, b, ec, stack)`, `c == a`: FALSE iff `a + b == O`, otherwise the affine sum -/
theorem addAA_anywhere_ca (h2 : (2 : F) ≠ 0) {c b s : Nat} (hc : 2 ≤ c) (hb : 2 ≤ b)
    (hcb : c + 2 ≤ b ∨ b + 2 ≤ c) (hcs : c + 2 ≤ s) (hbs : b + 2 ≤ s) (st : Store F) (hA : st.get rA = A)
    (hB : st.get rB = B) {P Q : (Wc A B).Point} (hp : Rep2 A B (get2 st c) P) (hq : Rep2 A B (get2 st b) Q) :
    (((ecpAddAA c c b s).run (fieldFld F) st).2 = false ↔ P + Q = 0) ∧
    (((ecpAddAA c c b s).run (fieldFld F) st).2 = true →
      Rep2 A B (get2 ((ecpAddAA c c b s).run (fieldFld F) st).1 c) (P + Q)) :=
  optRes_spec (ecpAddAA_pl.runAA (cv := curveF A B) _ rfl (al := .ca) (by decide) rfl (by inj_w) hA hB)
    (addAA_correct (al := .n) h2 (.inl rfl) hp hq)

/-- `ecpAddAA(c, a, b, ec, stack)`, `c == b`: FALSE iff `a + b == O`, otherwise the affine sum -/
theorem addAA_anywhere_cb (h2 : (2 : F) ≠ 0) {c a s : Nat} (hc : 2 ≤ c) (ha : 2 ≤ a)
    (hca : c + 2 ≤ a ∨ a + 2 ≤ c) (hcs : c + 2 ≤ s) (has : a + 2 ≤ s) (st : Store F) (hA : st.get rA = A)
    (hB : st.get rB = B) {P Q : (Wc A B).Point} (hp : Rep2 A B (get2 st a) P) (hq : Rep2 A B (get2 st c) Q) :
    (((ecpAddAA c a c s).run (fieldFld F) st).2 = false ↔ P + Q = 0) ∧
    (((ecpAddAA c a c s).run (fieldFld F) st).2 = true →
      Rep2 A B (get2 ((ecpAddAA c a c s).run (fieldFld F) st).1 c) (P + Q)) :=
  optRes_spec (ecpAddAA_pl.runAA (cv := curveF A B) _ rfl (al := .cb) (by decide) rfl (by inj_w) hA hB)
    (addAA_correct (al := .n) h2 (.inl rfl) hp hq)

/-- `ecpAddAA(c, a, b, ec, stack)`, `a == b`, `c` distinct: FALSE iff `2a == O`, otherwise the affine double -/
theorem addAA_anywhere_ab (h2 : (2 : F) ≠ 0) {c a s : Nat} (hc : 2 ≤ c) (ha : 2 ≤ a)
    (hca : c + 2 ≤ a ∨ a + 2 ≤ c) (hcs : c + 2 ≤ s) (has : a + 2 ≤ s) (st : Store F) (hA : st.get rA = A)
    (hB : st.get rB = B) {P : (Wc A B).Point} (hp : Rep2 A B (get2 st a) P) :
    (((ecpAddAA c a a s).run (fieldFld F) st).2 = false ↔ P + P = 0) ∧
    (((ecpAddAA c a a s).run (fieldFld F) st).2 = true →
      Rep2 A B (get2 ((ecpAddAA c a a s).run (fieldFld F) st).1 c) (P + P)) :=
  optRes_spec (ecpAddAA_pl.runAA (cv := curveF A B) _ rfl (al := .ab) (by decide) rfl (by inj_w) hA hB)
    (addAA_correct (al := .n) h2 (.inl rfl) hp hp)

/-- `ecpAddAA(c, a, b, ec, stack)`, `a == b == c`: FALSE iff `2a == O`, otherwise the affine double -/
theorem addAA_anywhere_abc (h2 : (2 : F) ≠ 0) {c s : Nat} (hc : 2 ≤ c) (hcs : c + 2 ≤ s) (st : Store F)
    (hA : st.get rA = A) (hB : st.get rB = B) {P : (Wc A B).Point} (hp : Rep2 A B (get2 st c) P) :
    (((ecpAddAA c c c s).run (fieldFld F) st).2 = false ↔ P + P = 0) ∧
    (((ecpAddAA c c c s).run (fieldFld F) st).2 = true →
      Rep2 A B (get2 ((ecpAddAA c c c s).run (fieldFld F) st).1 c) (P + P)) :=
  optRes_spec (ecpAddAA_pl.runAA (cv := curveF A B) _ rfl (al := .abc) (by decide) ⟨rfl, rfl⟩ (by inj_w) hA hB)
    (addAA_correct (al := .n) h2 (.inl rfl) hp hp)

/-- `ecpSubAA(c, a, b, ec, stack)`, all buffers distinct: FALSE iff `a - b == O`, otherwise the affine difference -/
theorem subAA_anywhere_n (h2 : (2 : F) ≠ 0) {c a b s : Nat} (hc : 2 ≤ c) (ha : 2 ≤ a) (hb : 2 ≤ b)
    (hca : c + 2 ≤ a ∨ a + 2 ≤ c) (hcb : c + 2 ≤ b ∨ b + 2 ≤ c) (hab : a + 2 ≤ b ∨ b + 2 ≤ a) (hcs : c + 2 ≤ s)
    (has : a + 2 ≤ s) (hbs : b + 2 ≤ s) (st : Store F) (hA : st.get rA = A) (hB : st.get rB = B)
    {P Q : (Wc A B).Point} (hp : Rep2 A B (get2 st a) P) (hq : Rep2 A B (get2 st b) Q) :
    (((ecpSubAA c a b s).run (fieldFld F) st).2 = false ↔ P - Q = 0) ∧
    (((ecpSubAA c a b s).run (fieldFld F) st).2 = true →
      Rep2 A B (get2 ((ecpSubAA c a b s).run (fieldFld F) st).1 c) (P - Q)) :=
  optRes_spec (ecpSubAA_pl.runAA (cv := curveF A B) _ rfl (al := .n) (by decide) trivial (by inj_w) hA hB)
    (subAA_correct (al := .n) h2 (.inl rfl) hp hq)

/-- `ecpSubAA(c, a, b, ec, stack)`, `c == a`: FALSE iff `a - b == O`, otherwise the affine difference -/
theorem subAA_anywhere_ca (h2 : (2 : F) ≠ 0) {c b s : Nat} (hc : 2 ≤ c) (hb : 2 ≤ b)
    (hcb : c + 2 ≤ b ∨ b + 2 ≤ c) (hcs : c + 2 ≤ s) (hbs : b + 2 ≤ s) (st : Store F) (hA : st.get rA = A)
    (hB : st.get rB = B) {P Q : (Wc A B).Point} (hp : Rep2 A B (get2 st c) P) (hq : Rep2 A B (get2 st b) Q) :
    (((ecpSubAA c c b s).run (fieldFld F) st).2 = false ↔ P - Q = 0) ∧
    (((ecpSubAA c c b s).run (fieldFld F) st).2 = true →
      Rep2 A B (get2 ((ecpSubAA c c b s).run (fieldFld F) st).1 c) (P - Q)) :=
  optRes_spec (ecpSubAA_pl.runAA (cv := curveF A B) _ rfl (al := .ca) (by decide) rfl (by inj_w) hA hB)
    (subAA_correct (al := .n) h2 (.inl rfl) hp hq)

/-- `ecpSubAA(c, a, b, ec, stack)`, `c == b`: FALSE iff `a - b == O`, otherwise the affine difference -/
theorem subAA_anywhere_cb (h2 : (2 : F) ≠ 0) {c a s : Nat} (hc : 2 ≤ c) (ha : 2 ≤ a)
    (hca : c + 2 ≤ a ∨ a + 2 ≤ c) (hcs : c + 2 ≤ s) (has : a + 2 ≤ s) (st : Store F) (hA : st.get rA = A)
    (hB : st.get rB = B) {P Q : (Wc A B).Point} (hp : Rep2 A B (get2 st a) P) (hq : Rep2 A B (get2 st c) Q) :
    (((ecpSubAA c a c s).run (fieldFld F) st).2 = false ↔ P - Q = 0) ∧
    (((ecpSubAA c a c s).run (fieldFld F) st).2 = true →
      Rep2 A B (get2 ((ecpSubAA c a c s).run (fieldFld F) st).1 c) (P - Q)) :=
  optRes_spec (ecpSubAA_pl.runAA (cv := curveF A B) _ rfl (al := .cb) (by decide) rfl (by inj_w) hA hB)
    (subAA_correct (al := .n) h2 (.inl rfl) hp hq)

/-- `ecpSubAA(c, a, b, ec, stack)`, `a == b`, `c` distinct: FALSE (`a - a == O`) for every content of the buffer -/
theorem subAA_anywhere_ab {c a s : Nat} (hc : 2 ≤ c) (ha : 2 ≤ a) (hca : c + 2 ≤ a ∨ a + 2 ≤ c)
    (hcs : c + 2 ≤ s) (has : a + 2 ≤ s) (st : Store F) (hA : st.get rA = A) (hB : st.get rB = B) :
    ((ecpSubAA c a a s).run (fieldFld F) st).2 = false :=
  optRes_none ((ecpSubAA_pl.runAA (cv := curveF A B) _ rfl (al := .ab) (by decide) rfl (by inj_w) hA hB).trans
    (AA.subAA_self _))

/-- `ecpSubAA(c, a, b, ec, stack)`, `a == b == c`: FALSE (`a - a == O`) for every content of the buffer -/
theorem subAA_anywhere_abc {c s : Nat} (hc : 2 ≤ c) (hcs : c + 2 ≤ s) (st : Store F) (hA : st.get rA = A)
    (hB : st.get rB = B) :
    ((ecpSubAA c c c s).run (fieldFld F) st).2 = false :=
  optRes_none ((ecpSubAA_pl.runAA (cv := curveF A B) _ rfl (al := .abc) (by decide) ⟨rfl, rfl⟩ (by inj_w) hA hB).trans
    (AA.subAA_self _))

/-- `ecpIsOnA(a, ec, stack)` (after the range test): TRUE iff the curve equation holds -/
theorem isOnA_anywhere {a s : Nat} (ha : 2 ≤ a) (has : a + 2 ≤ s) (st : Store F) (hA : st.get rA = A)
    (hB : st.get rB = B) :
    ((ecpIsOnA a s).run (fieldFld F) st).2 = true ↔ (get2 st a).2 ^ 2 = (get2 st a).1 ^ 3 + A * (get2 st a).1 + B := by
  have e : ((ecpIsOnA a s).run (fieldFld F) st).2 = isOnA (curveF A B) (get2 st a) :=
    (ecpIsOnA_pl.place _ (al := .n) (c := 0) (by decide) trivial (by inj_w) (ag1a (cv := curveF A B) hA hB)).1
  rw [e]; exact isOnA_correct _
/-! ### non-vacuity: `y² = x³ + 1` over `ℚ`, placements different from the canonical one, garbage elsewhere -/

/-- `ecpAddAA(c, a, c)` with `c = 20`, `a = 7`, stack from `40`: `(2, 3) + (-1, 0)`; register 9 (right behind
    the affine `a`) and the stack register 40 hold garbage -/
example :
    let st : Store ℚ := upd (upd (put2 (put2 (base (curveF (0 : ℚ) 1)) 7 (2, 3)) 20 (-1, 0)) 9 7) 40 99
    (((ecpAddAA 20 7 20 40).run (fieldFld ℚ) st).2 = false ↔
      (.some 2 3 Un.ns23 + .some (-1) 0 Un.nsm10 : (Wc (0 : ℚ) 1).Point) = 0) ∧
    (((ecpAddAA 20 7 20 40).run (fieldFld ℚ) st).2 = true →
      Rep2 0 1 (get2 ((ecpAddAA 20 7 20 40).run (fieldFld ℚ) st).1 20)
        (.some 2 3 Un.ns23 + .some (-1) 0 Un.nsm10)) :=
  addAA_anywhere_cb (by norm_num) (by decide) (by decide) (by decide) (by decide) (by decide) _ rfl rfl
    Un.rep2_23 Un.rep2_m10

/-- `ecpToAJ(b, b)` in place at `b = 12`, stack from `15` -/
example :
    let st : Store ℚ := upd (put3 (base (curveF (0 : ℚ) 1)) 12 (8, 24, 2)) 16 5
    (((ecpToAJ 12 12 15).run (fieldFld ℚ) st).2 = false ↔ (.some 2 3 Un.ns23 : (Wc (0 : ℚ) 1).Point) = 0) ∧
    (((ecpToAJ 12 12 15).run (fieldFld ℚ) st).2 = true →
      Rep2 0 1 (get2 ((ecpToAJ 12 12 15).run (fieldFld ℚ) st).1 12) (.some 2 3 Un.ns23)) :=
  toAJ_anywhere_ca (by decide) (by decide) _ rfl rfl Un.rep3_23

end Bee2V.C06
