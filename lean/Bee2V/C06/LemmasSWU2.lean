/-
C06 — the SWU map `ecpSWU`, part 2: the closed form `swuSpec` over `ZMod p`, `p ≡ 3 (mod 4)`.
Inversion by power, the exponent `e2 = (p-2) - p/4`, Euler's criterion, the SWU identity
`g(t x1) = t³ g(x1)` and the two results `spec_on_curve`, `spec_off_curve`.
-/
import Bee2V.C06.LemmasSWU
import Bee2V.C06.LemmasSim2
import Mathlib.Data.ZMod.Basic
import Mathlib.FieldTheory.Finite.Basic
import Mathlib.NumberTheory.LegendreSymbol.Basic
import Mathlib.Tactic.Ring
import Mathlib.Tactic.FieldSimp
import Mathlib.Tactic.LinearCombination
namespace Bee2V.C06.SWU

set_option linter.unusedSectionVars false
set_option linter.unusedSimpArgs false

/-! ## generic field facts -/
section Generic
variable {F : Type} [Field F]

/-- `t + t² = 0` exactly for `a ∈ {0, 1, -1}` -/
theorem wF_eq_zero_iff (a : F) : wF a = 0 ↔ a = 0 ∨ a = 1 ∨ a = -1 := by
  have e : wF a = a * a * ((a - 1) * (a + 1)) := by unfold wF tF; ring
  rw [e]
  constructor
  · intro h
    rcases mul_eq_zero.1 h with h | h
    · exact Or.inl (mul_self_eq_zero.1 h)
    · rcases mul_eq_zero.1 h with h | h
      · exact Or.inr (Or.inl (by linear_combination h))
      · exact Or.inr (Or.inr (by linear_combination h))
  · rintro (rfl | rfl | rfl) <;> ring

/-- the SWU identity: with `x1 = -(B/A)(1 + 1/(t + t²))`, `g(t x1) = t³ g(x1)` -/
theorem swu_identity (A B t : F) (hA : A ≠ 0) (hw : t * t + t ≠ 0) :
    gF A B ((-(((t * t + t) * A)⁻¹ * (t * t + t + 1) * B)) * t) =
      t ^ 3 * gF A B (-(((t * t + t) * A)⁻¹ * (t * t + t + 1) * B)) := by
  have e : t * t + t = t * (t + 1) := by ring
  rw [e] at hw ⊢
  have ht : t ≠ 0 := left_ne_zero_of_mul hw
  have ht1 : t + 1 ≠ 0 := right_ne_zero_of_mul hw
  unfold gF
  field_simp
  ring

theorem gF_eq (A B x : F) : gF A B x = x ^ 3 + A * x + B := by unfold gF; ring

end Generic

/-! ## `ZMod p`, `p ≡ 3 (mod 4)` -/
section ZModP
variable {p : Nat} [Fact p.Prime]

theorem two_ne_zero' (hp : p % 4 = 3) : (2 : ZMod p) ≠ 0 :=
  Sim.two_ne_zero' p (by omega)

theorem neg_one_ne_one' (hp : p % 4 = 3) : (-1 : ZMod p) ≠ 1 := by
  intro h
  exact two_ne_zero' hp (by linear_combination -h)

/-- `s² y = y^(p/2)` for `s = y^e2`, `y ≠ 0` -/
theorem s_sq_mul (hp : p % 4 = 3) (y : ZMod p) (hy : y ≠ 0) :
    y ^ (p - 2 - p / 4) * y ^ (p - 2 - p / 4) * y = y ^ (p / 2) := by
  have e : (p - 2 - p / 4) + (p - 2 - p / 4) + 1 = (p - 1) + p / 2 := by omega
  calc y ^ (p - 2 - p / 4) * y ^ (p - 2 - p / 4) * y
      = y ^ ((p - 2 - p / 4) + (p - 2 - p / 4) + 1) := by rw [pow_succ, pow_add]
    _ = y ^ (p - 1) * y ^ (p / 2) := by rw [e, pow_add]
    _ = y ^ (p / 2) := by rw [ZMod.pow_card_sub_one_eq_one hy, one_mul]

theorem e2_ne_zero (hp : p % 4 = 3) : p - 2 - p / 4 ≠ 0 := by omega

/-- `t + t² = 0`: `x1 = 0`, `y = B` -/
theorem x1F_of_w0 (hp : p % 4 = 3) (A B a : ZMod p) (hw : wF a = 0) : x1F p A B a = 0 := by
  have : p - 2 ≠ 0 := by omega
  simp [x1F, hw, this]

theorem gF_zero {F : Type} [Field F] (A B : F) : gF A B 0 = B := by simp [gF]

/-- the closed form is on the curve (exact domain) -/
theorem spec_on_curve (hp : p % 4 = 3) (A B a : ZMod p) (hA : A ≠ 0) (hB : B ≠ 0)
    (hdom : IsSquare B ∨ (a ≠ 0 ∧ a ≠ 1 ∧ a ≠ -1)) :
    (swuSpec p A B a).2 ^ 2 = gF A B (swuSpec p A B a).1 := by
  by_cases hw : wF a = 0
  · -- a ∈ {0, ±1}: B is a square
    have hsq : IsSquare B := by
      rcases hdom with h | ⟨h0, h1, h2⟩
      · exact h
      · rcases (wF_eq_zero_iff a).1 hw with h | h | h <;> contradiction
    have hx1 : x1F p A B a = 0 := x1F_of_w0 hp A B a hw
    have hs : B ^ (p - 2 - p / 4) * B ^ (p - 2 - p / 4) * B = 1 := by
      rw [s_sq_mul hp B hB]; exact (ZMod.euler_criterion p hB).1 hsq
    unfold swuSpec
    simp only [hx1, gF_zero, hs, if_true]
    linear_combination B * hs
  · -- the regular case
    have hu : wF a * A ≠ 0 := mul_ne_zero hw hA
    have hx1 : x1F p A B a = -((wF a * A)⁻¹ * (wF a + 1) * B) := by
      unfold x1F; rw [Sim.inv_cast p (by omega)]
    have hid : gF A B (x1F p A B a * tF a) = tF a ^ 3 * gF A B (x1F p A B a) := by
      rw [hx1]; exact swu_identity A B (tF a) hA hw
    have ht3 : tF a ^ 3 = -(a * a * a) ^ 2 := by unfold tF; ring
    unfold swuSpec
    generalize x1F p A B a = x1 at hid ⊢
    simp only
    by_cases hy : gF A B x1 = 0
    · have h01 : (0 : ZMod p) ≠ 1 := zero_ne_one
      simp [hy, hid, h01]
    · rcases ZMod.pow_div_two_eq_neg_one_or_one p hy with h | h
      · have hs := (s_sq_mul hp _ hy).trans h
        rw [if_pos hs]
        linear_combination gF A B x1 * hs
      · have hs := (s_sq_mul hp _ hy).trans h
        have hne : ¬ (gF A B x1 ^ (p - 2 - p / 4) * gF A B x1 ^ (p - 2 - p / 4) * gF A B x1 = 1) := by
          rw [hs]; exact neg_one_ne_one' hp
        rw [if_neg hne]
        simp only
        rw [hid, ht3]
        linear_combination (a * a * a) ^ 2 * gF A B x1 * hs

/-- outside the domain the closed form leaves the curve -/
theorem spec_off_curve (hp : p % 4 = 3) (A B a : ZMod p) (hB : B ≠ 0)
    (hns : ¬ IsSquare B) (ha : a = 0 ∨ a = 1 ∨ a = -1) :
    (swuSpec p A B a).2 ^ 2 ≠ gF A B (swuSpec p A B a).1 := by
  have hw : wF a = 0 := (wF_eq_zero_iff a).2 ha
  have hx1 : x1F p A B a = 0 := x1F_of_w0 hp A B a hw
  have hs : B ^ (p - 2 - p / 4) * B ^ (p - 2 - p / 4) * B = -1 := by
    rw [s_sq_mul hp B hB]
    rcases ZMod.pow_div_two_eq_neg_one_or_one p hB with h | h
    · exact absurd ((ZMod.euler_criterion p hB).2 h) hns
    · exact h
  have hne : ¬ (B ^ (p - 2 - p / 4) * B ^ (p - 2 - p / 4) * B = 1) := by
    rw [hs]; exact neg_one_ne_one' hp
  unfold swuSpec
  simp only [hx1, gF_zero, if_neg hne, zero_mul]
  intro h
  have h' : -((a * a * a) ^ 2) * B = B := by
    linear_combination h - (a * a * a) ^ 2 * B * hs
  rcases ha with rfl | rfl | rfl
  · apply hB; linear_combination -h'
  · apply hB
    have : (2 : ZMod p) * B = 0 := by linear_combination -h'
    exact (mul_eq_zero.1 this).resolve_left (two_ne_zero' hp)
  · apply hB
    have : (2 : ZMod p) * B = 0 := by linear_combination -h'
    exact (mul_eq_zero.1 this).resolve_left (two_ne_zero' hp)

end ZModP

/-- for the non-vacuity examples -/
theorem prime7 : Fact (Nat.Prime 7) := ⟨by decide⟩
theorem prime11 : Fact (Nat.Prime 11) := ⟨by decide⟩

end Bee2V.C06.SWU
