/-
C06, stage 2 — property theorems: mixed addition / subtraction on binary curves `ec2AddALD`, `ec2SubALD`
(madd-2005-dl; Lopez–Dahab `a`, affine `b`) return the group-law result of Mathlib's `(Wb A B).Point` for
ALL inputs — `a = O`, `a = b` (fall-through to `ec2DblALD(c, b)`, including `xb = 0`), `a = −b`, generic —
for each arm of the three-way branch on the coefficient `A` (`A = 1`, `A = 0`, else) and for the aliasings
`.n` (distinct buffers), `.ca` (`c == a`), `.cb` (`c == b`, the affine `b` at the start of `c`).
-/
import Bee2V.C06.LemmasBAddA
import Bee2V.C06.LemmasPlace4
import Mathlib.Algebra.Field.ZMod
import Bee2V.C06.LemmasBEx
namespace Bee2V.C06
open WeierstrassCurve
open Bee2V.C06.BEx (ns01 ns10 ns11 rep10 rep01)

set_option linter.unusedSectionVars false
variable {F : Type} [Field F] [DecidableEq F] [CharP F 2] {A B : F}

/-- `ec2AddALD`: `c <- a + b` in the group of points, in every special case and under every aliasing -/
theorem addaB_correct {al : Al} {p : P3 F} {q : P2 F} {P Q : (Wb A B).Point}
    (hal : al = .n ∨ al = .ca ∨ al = .cb) (hp : RepB3 A B p P) (hq : RepB2 A B q Q) :
    RepB3 A B ((ecOps2 (curveB A B)).adda al p q) (P + Q) :=
  RepB3.congr (run2A_al (curveB A B) ec2AddALD_pl (Al.mem3 hal (by decide)) hal p q)
    (BAddA.spec_correct (BAddA.add_spec p q) hp hq)

/-- `ec2SubALD`: `c <- a - b` in the group of points, in every special case and under every aliasing -/
theorem subaB_correct {al : Al} {p : P3 F} {q : P2 F} {P Q : (Wb A B).Point}
    (hal : al = .n ∨ al = .ca ∨ al = .cb) (hp : RepB3 A B p P) (hq : RepB2 A B q Q) :
    RepB3 A B ((ecOps2 (curveB A B)).suba al p q) (P - Q) := by
  obtain ⟨h, rfl⟩ := hq
  rw [sub_eq_add_neg]
  exact RepB3.congr (run2A_al (curveB A B) ec2SubALD_pl (Al.mem3 hal (by decide)) hal p _)
    (BAddA.spec_correct (BAddA.sub_spec p _) hp (RepB2_of_eq (negB_some h) rfl (add_comm _ _)))

/-! ### non-vacuity: `y² + xy = x³ + 1` over GF(2) = `ZMod 2`; the group is cyclic of order 4:
    `O`, `(1, 0) = (1 : 0 : 1)`, `2 (1, 0) = (0, 1)` (order two), `3 (1, 0) = (1, 1)` -/

section NonVacuity



/-- `adda`: chord `(1,0) + (0,1) = (1,1)` with `c == b`; doubling `(1,0) + (1,0) = (0,1)` with `c == a`;
    `(1,0) + (1,1) = O`; doubling of the point of order two `(0,1) + (0,1) = O` with `c == b`; `O + (0,1)` -/
example : ∃ (p p' : P3 (ZMod 2)) (q q' q'' : P2 (ZMod 2)) (P P' Q Q' Q'' : (Wb (0 : ZMod 2) 1).Point),
    RepB3 0 1 p P ∧ RepB3 0 1 p' P' ∧ RepB2 0 1 q Q ∧ RepB2 0 1 q' Q' ∧ RepB2 0 1 q'' Q'' ∧
    (ecOps2 (curveB 0 1)).adda .cb p q = (1, 1, 1) ∧
    (ecOps2 (curveB 0 1)).adda .ca p q' = (0, 1, 1) ∧
    ((ecOps2 (curveB 0 1)).adda .n p q'').2.2 = 0 ∧ P + Q'' = 0 ∧
    ((ecOps2 (curveB 0 1)).adda .cb p' q).2.2 = 0 ∧ P' + Q = 0 ∧
    (ecOps2 (curveB 0 1)).adda .ca (1, 1, 0) q = (0, 1, 1) :=
  ⟨(1, 0, 1), (0, 1, 1), (0, 1), (1, 0), (1, 1), _, _, _, _, _, rep10, rep01, ⟨ns01, rfl⟩, ⟨ns10, rfl⟩,
    ⟨ns11, rfl⟩,
    by rw [show (ecOps2 (curveB (0 : ZMod 2) 1)).adda = run2A _ ec2AddALD from rfl,
        run2A_al _ ec2AddALD_pl (by decide) (.inr (.inr rfl)), BAddA.add_gen _ _ _ _ _ (by decide) (by decide)]
       decide,
    by rw [show (ecOps2 (curveB (0 : ZMod 2) 1)).adda = run2A _ ec2AddALD from rfl,
        run2A_al _ ec2AddALD_pl (by decide) (.inr (.inl rfl)),
        BAddA.add_dbl _ _ _ _ _ (by decide) (by decide) (by decide) (by decide)]
       decide,
    BAddA.add_inv _ _ _ _ _ (by decide) (by decide) (by decide),
    addB_inverse ns10 ns11 rfl (by decide),
    (congrArg (·.2.2) (run2A_al (curveB (0 : ZMod 2) 1) ec2AddALD_pl (by decide) (.inr (.inr rfl)) _ _)).trans
      (BAddA.add_dbl0 _ _ _ _ (by decide) (by decide) (by decide)),
    addB_order2 ns01,
    (run2A_al (curveB (0 : ZMod 2) 1) ec2AddALD_pl (by decide) (.inr (.inl rfl)) _ _).trans (BAddA.add_o ..)⟩

/-- `suba`: `(1,0) - (0,1) = (1,1)` with `c == b`; `(1,0) - (1,1) = 2 (1,0) = (0,1)` with `c == a`;
    `(1,0) - (1,0) = O`; `O - (1,0) = (1,1)` -/
example : ∃ (p : P3 (ZMod 2)) (q q' q'' : P2 (ZMod 2)) (P Q Q' Q'' : (Wb (0 : ZMod 2) 1).Point),
    RepB3 0 1 p P ∧ RepB2 0 1 q Q ∧ RepB2 0 1 q' Q' ∧ RepB2 0 1 q'' Q'' ∧
    (ecOps2 (curveB 0 1)).suba .cb p q = (1, 1, 1) ∧
    (ecOps2 (curveB 0 1)).suba .ca p q' = (0, 1, 1) ∧
    ((ecOps2 (curveB 0 1)).suba .n p q'').2.2 = 0 ∧ P - Q'' = 0 ∧
    (ecOps2 (curveB 0 1)).suba .ca (1, 1, 0) q'' = (1, 1, 1) :=
  ⟨(1, 0, 1), (0, 1), (1, 1), (1, 0), _, _, _, _, rep10, ⟨ns01, rfl⟩, ⟨ns11, rfl⟩, ⟨ns10, rfl⟩,
    by rw [show (ecOps2 (curveB (0 : ZMod 2) 1)).suba = run2A _ ec2SubALD from rfl,
        run2A_al _ ec2SubALD_pl (by decide) (.inr (.inr rfl)), (BAddA.sub_spec _ _).gen (by decide) (by decide)]
       decide,
    by rw [show (ecOps2 (curveB (0 : ZMod 2) 1)).suba = run2A _ ec2SubALD from rfl,
        run2A_al _ ec2SubALD_pl (by decide) (.inr (.inl rfl)),
        (BAddA.sub_spec _ _).dbl (by decide) (by decide) (by decide) (by decide)]
       decide,
    (BAddA.sub_spec _ _).inv (by decide) (by decide) (by decide),
    sub_self _,
    by rw [show (ecOps2 (curveB (0 : ZMod 2) 1)).suba = run2A _ ec2SubALD from rfl,
        run2A_al _ ec2SubALD_pl (by decide) (.inr (.inl rfl)), (BAddA.sub_spec _ _).o rfl]
       decide⟩

end NonVacuity

end Bee2V.C06
