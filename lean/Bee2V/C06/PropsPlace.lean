/-
C06, phase 3 — the formula theorems for ARBITRARY placements: operands, destination and scratch stack anywhere
in the store (pairwise disjoint 3-register blocks above the registers of A and B and below the stack, resp.
aliased as the pattern says), and arbitrary contents of all other registers.  Each theorem is obtained from
the canonical-layout theorem by `Placeable.place` (LemmasPlace3.lean: renaming of the registers + def-use independence).
-/
import Bee2V.C06.LemmasPlace4
import Bee2V.C06.PropsAddJ
namespace Bee2V.C06
open WeierstrassCurve
variable {F : Type} [Field F] [DecidableEq F] {A B : F}

/-- `ecpAddJ(c, a, b, ec, stack)` with all buffers distinct, ANYWHERE in a store with arbitrary other contents -/
theorem addJ_anywhere_n (h2 : (2 : F) ≠ 0) {c a b s : Nat} (hc : 2 ≤ c) (ha : 2 ≤ a) (hb : 2 ≤ b)
    (hca : c + 3 ≤ a ∨ a + 3 ≤ c) (hcb : c + 3 ≤ b ∨ b + 3 ≤ c) (hab : a + 3 ≤ b ∨ b + 3 ≤ a)
    (hcs : c + 3 ≤ s) (has : a + 3 ≤ s) (hbs : b + 3 ≤ s)
    (st : Store F) (hA : st.get rA = A) (hB : st.get rB = B) {P Q : (Wc A B).Point}
    (hp : Rep3 A B (get3 st a) P) (hq : Rep3 A B (get3 st b) Q) :
    Rep3 A B (get3 ((ecpAddJ c a b s).run (fieldFld F) st).1 c) (P + Q) :=
  Rep3.congr (ecpAddJ_pl.run2 (cv := curveF A B) _ rfl (al := .n) (by decide) trivial (by inj_w) hA hB)
    (add_correct (al := .n) h2 (.inl rfl) hp hq)
end Bee2V.C06
