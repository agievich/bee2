/-
C06 — property theorems for the one-operand routines of `ecp.c`: `ecpNegJ`, `ecpDblJ`, `ecpDblJA3`,
`ecpDblAJ`, `ecpFromAJ`, `ecpToAJ`, `ecpNegA`, `ecSetO`, `ecpIsOnA`.  Each returns the value of
Mathlib's group law on `(Wc A B).Point` for EVERY input — the point at infinity and the points of
order two included — with the destination distinct from the operand (`al = .n`) and in place
(`al = .ca`: the same call, `run1_al`, `froma_al`, … of LemmasPlace3/4), over any field with `2 ≠ 0`.
-/
import Bee2V.C06.LemmasUn
import Bee2V.C06.LemmasPlace4
namespace Bee2V.C06
open WeierstrassCurve

set_option linter.unusedSectionVars false
set_option linter.unusedVariables false
variable {F : Type} [Field F] [DecidableEq F] {A B : F}

/-- `ecpNegJ` -/
theorem neg_correct {al : Al} {p : P3 F} {P : (Wc A B).Point} (hal : al = .n ∨ al = .ca)
    (hp : Rep3 A B p P) : Rep3 A B ((ecOps (curveF A B)).neg al p) (-P) :=
  Rep3.congr (run1_al (curveF A B) ecpNegJ_pl hal (by decide) p) (Un.neg_ok hp)

example : Rep3 (0 : ℚ) 1 ((ecOps (curveF 0 1)).neg .ca (8, 24, 2)) (-(.some 2 3 Un.ns23)) :=
  neg_correct (Or.inr rfl) Un.rep3_23

/-- `ecpDblJ` (any `A`) -/
theorem dblJ_correct {al : Al} {p : P3 F} {P : (Wc A B).Point} (h2 : (2 : F) ≠ 0)
    (hal : al = .n ∨ al = .ca) (hp : Rep3 A B p P) :
    Rep3 A B (run1 (curveF A B) ecpDblJ al p) (P + P) :=
  Rep3.congr (run1_al (curveF A B) ecpDblJ_pl hal (by decide) p) (Un.dblJ_ok h2 hp)

example : Rep3 (-3 : ℚ) 3 (run1 (curveF (-3) 3) ecpDblJ .ca (4, 8, 2))
    (.some 1 1 Un.ns11 + .some 1 1 Un.ns11) :=
  dblJ_correct (by norm_num) (Or.inr rfl) Un.rep3_11

/-- `ecpDblJA3` (`A = -3`) -/
theorem dblJA3_correct {al : Al} {p : P3 F} {P : (Wc A B).Point} (h2 : (2 : F) ≠ 0) (hA : A = -3)
    (hal : al = .n ∨ al = .ca) (hp : Rep3 A B p P) :
    Rep3 A B (run1 (curveF A B) ecpDblJA3 al p) (P + P) :=
  Rep3.congr (run1_al (curveF A B) ecpDblJA3_pl hal (by decide) p) (Un.dblJA3_ok h2 hA hp)

example : Rep3 (-3 : ℚ) 3 (run1 (curveF (-3) 3) ecpDblJA3 .ca (4, 8, 2))
    (.some 1 1 Un.ns11 + .some 1 1 Un.ns11) :=
  dblJA3_correct (by norm_num) rfl (Or.inr rfl) Un.rep3_11

/-- `ec->dbl` as installed by `ecpCreateJ` (`ecpDblJA3` iff `A == -3`, else `ecpDblJ`) -/
theorem dbl_correct {al : Al} {p : P3 F} {P : (Wc A B).Point} (h2 : (2 : F) ≠ 0)
    (hal : al = .n ∨ al = .ca) (hp : Rep3 A B p P) :
    Rep3 A B ((ecOps (curveF A B)).dbl al p) (P + P) :=
  Rep3.congr (dbl_al (curveF A B) hal p) (Un.dbl_ok h2 hp)

example : Rep3 (0 : ℚ) 1 ((ecOps (curveF 0 1)).dbl .ca (8, 24, 2))
    (.some 2 3 Un.ns23 + .some 2 3 Un.ns23) :=
  dbl_correct (by norm_num) (Or.inr rfl) Un.rep3_23
/-- a point of order two, in place -/
example : Rep3 (0 : ℚ) 1 ((ecOps (curveF 0 1)).dbl .ca (-4, 0, 2))
    (.some (-1) 0 Un.nsm10 + .some (-1) 0 Un.nsm10) :=
  dbl_correct (by norm_num) (Or.inr rfl) Un.rep3_m10
/-- the `A = -3` selection -/
example : Rep3 (-3 : ℚ) 3 ((ecOps (curveF (-3) 3)).dbl .n (4, 8, 2))
    (.some 1 1 Un.ns11 + .some 1 1 Un.ns11) :=
  dbl_correct (by norm_num) (Or.inl rfl) Un.rep3_11

/-- `ecpDblAJ`, including `y = 0 → O` -/
theorem dbla_correct {al : Al} {a : P2 F} {P : (Wc A B).Point} (h2 : (2 : F) ≠ 0)
    (hal : al = .n ∨ al = .ca) (ha : Rep2 A B a P) :
    Rep3 A B (dbla (curveF A B) al a) (P + P) :=
  Rep3.congr (dbla_al (curveF A B) hal a) (Un.dbla_ok h2 ha)

example : Rep3 (0 : ℚ) 1 (dbla (curveF 0 1) .ca (2, 3)) (.some 2 3 Un.ns23 + .some 2 3 Un.ns23) :=
  dbla_correct (by norm_num) (Or.inr rfl) Un.rep2_23
example : Rep3 (0 : ℚ) 1 (dbla (curveF 0 1) .n (-1, 0))
    (.some (-1) 0 Un.nsm10 + .some (-1) 0 Un.nsm10) :=
  dbla_correct (by norm_num) (Or.inl rfl) Un.rep2_m10

/-- `ecpFromAJ` -/
theorem froma_correct {al : Al} {a : P2 F} {P : (Wc A B).Point} (hal : al = .n ∨ al = .ca)
    (ha : Rep2 A B a P) : Rep3 A B (froma (curveF A B) al a) P :=
  Rep3.congr (froma_al (curveF A B) hal a) (Un.froma_ok ha)

example : Rep3 (0 : ℚ) 1 (froma (curveF 0 1) .ca (2, 3)) (.some 2 3 Un.ns23) :=
  froma_correct (Or.inr rfl) Un.rep2_23

/-- `ecpToAJ`: FALSE iff the point is `O`, otherwise the affine point -/
theorem toa_correct {al : Al} {p : P3 F} {P : (Wc A B).Point} (hal : al = .n ∨ al = .ca)
    (hp : Rep3 A B p P) :
    (toa (curveF A B) al p = none ↔ P = 0) ∧ ∀ b, toa (curveF A B) al p = some b → Rep2 A B b P := by
  rw [toa_al (curveF A B) hal]; exact Un.toa_ok hp

example : (toa (curveF (0 : ℚ) 1) .ca (8, 24, 2) = none ↔ (Affine.Point.some 2 3 Un.ns23) = 0) ∧
    ∀ b, toa (curveF (0 : ℚ) 1) .ca (8, 24, 2) = some b → Rep2 0 1 b (.some 2 3 Un.ns23) :=
  toa_correct (Or.inr rfl) Un.rep3_23

/-- `ecpNegA` -/
theorem negA_correct {al : Al} {a : P2 F} {P : (Wc A B).Point} (hal : al = .n ∨ al = .ca)
    (ha : Rep2 A B a P) : Rep2 A B (negA (curveF A B) al a) (-P) :=
  Rep2.congr (negA_al (curveF A B) hal a) (Un.negA_ok ha)

example : Rep2 (0 : ℚ) 1 (negA (curveF 0 1) .ca (2, 3)) (-(.some 2 3 Un.ns23)) :=
  negA_correct (Or.inr rfl) Un.rep2_23

/-- `ecpFromAJ` then reading the first two words back -/
theorem view_froma (a : P2 F) :
    (ecOps (curveF A B)).view ((ecOps (curveF A B)).froma a) = a := by
  obtain ⟨X, Y⟩ := a
  show ((froma (curveF A B) .n (X, Y)).1, (froma (curveF A B) .n (X, Y)).2.1) = (X, Y)
  rw [Un.fromAJ_exec]

example : (ecOps (curveF (0 : ℚ) 1)).view ((ecOps (curveF (0 : ℚ) 1)).froma (2, 3)) = (2, 3) :=
  view_froma _

/-- `ecSetO` -/
theorem setO_correct : Rep3 A B (ecOps (curveF A B)).setO 0 :=
  Un.rep3_O rfl

example : Rep3 (0 : ℚ) 1 (ecOps (curveF 0 1)).setO 0 := setO_correct

/-- `ecpIsOnA` on field elements -/
theorem isOnA_correct (a : P2 F) :
    isOnA (curveF A B) a = true ↔ a.2 ^ 2 = a.1 ^ 3 + A * a.1 + B :=
  Un.isOnA_ok a

example : isOnA (curveF (0 : ℚ) 1) (2, 3) = true := (isOnA_correct _).2 (by norm_num)
example : ¬ isOnA (curveF (0 : ℚ) 1) (2, 4) = true := fun h => by
  have := (isOnA_correct _).1 h; norm_num at this

/-- `ecpIsOnA` on words over `natFld p`: range test, then the curve equation in `ZMod p` -/
theorem isOnAW_correct (p : Nat) [Fact p.Prime] (A B x y : Nat) (hA : A < p) (hB : B < p) :
    isOnAW p (mkCurve (natFld p) A B) (x, y) = true ↔
      x < p ∧ y < p ∧ ((y : ZMod p) ^ 2 = (x : ZMod p) ^ 3 + A * x + B) :=
  Un.isOnAW_ok p A B x y

example : isOnAW 7 (mkCurve (natFld 7) 1 1) (0, 1) = true :=
  (@isOnAW_correct 7 Un.prime7 1 1 0 1 (by norm_num) (by norm_num)).2
    ⟨by norm_num, by norm_num, by simp⟩

end Bee2V.C06
