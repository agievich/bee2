/-
C06, phase 3 — the renamings used to move the canonical layout (destination 2..4, operands 5..7 and 8..10,
stack from 11) to an arbitrary placement `c a b s`: `rho`, the register sets `SW wc wa wb` with block widths (3 for
projective, 2 for affine points, 0 for an absent / aliased block) and the injectivity of `rho` on them; the aliasing
patterns as relations between the indices of a call (`Al.Holds`) and as maps of the canonical layout (`Al.sig`), and
`rho_al`: under a pattern `rho` identifies what `Al.sig` identifies.
-/
import Bee2V.C06.LemmasPlace
import Bee2V.C06.Wrap
namespace Bee2V.C06

/-- `0, 1 ↦ 0, 1` (A, B); `2+k ↦ c+k`; `5+k ↦ a+k`; `8+k ↦ b+k` (k < 3); `11+k ↦ s+k` -/
def rho (c a b s : Nat) (i : Nat) : Nat :=
  if i < 2 then i else if i < 5 then c + (i - 2) else if i < 8 then a + (i - 5)
  else if i < 11 then b + (i - 8) else s + (i - 11)

/-- `A`, `B`; `wc` registers of the destination slot, `wa` of the slot 5.., `wb` of the slot 8..; the stack -/
def SW (wc wa wb : Nat) (i : Nat) : Bool :=
  decide (i < 2 ∨ (2 ≤ i ∧ i < 2 + wc) ∨ (5 ≤ i ∧ i < 5 + wa) ∨ (8 ≤ i ∧ i < 8 + wb) ∨ (11 ≤ i ∧ i < 48))

/-- on each block `rho` is a translation (written without subtraction) -/
theorem rho_block {wc wa wb c a b s i : Nat} (hwc : wc ≤ 3) (hwa : wa ≤ 3) (hwb : wb ≤ 3)
    (hi : SW wc wa wb i = true) :
    (i < 2 ∧ rho c a b s i = i) ∨ (2 ≤ i ∧ i < 2 + wc ∧ rho c a b s i + 2 = c + i) ∨
    (5 ≤ i ∧ i < 5 + wa ∧ rho c a b s i + 5 = a + i) ∨ (8 ≤ i ∧ i < 8 + wb ∧ rho c a b s i + 8 = b + i) ∨
    (11 ≤ i ∧ rho c a b s i + 11 = s + i) := by
  simp only [SW, decide_eq_true_eq] at hi
  unfold rho
  repeat' split
  all_goals omega

/-- blocks of widths `wc, wa, wb ≤ 3` at `c, a, b`: above `A`, `B`, below the stack, pairwise disjoint
    (a block of width 0 is absent) -/
theorem rho_inj_w {wc wa wb c a b s : Nat} (hwc : wc ≤ 3) (hwa : wa ≤ 3) (hwb : wb ≤ 3) (hs : 2 ≤ s)
    (hc : wc = 0 ∨ (2 ≤ c ∧ c + wc ≤ s)) (ha : wa = 0 ∨ (2 ≤ a ∧ a + wa ≤ s))
    (hb : wb = 0 ∨ (2 ≤ b ∧ b + wb ≤ s))
    (hca : wc = 0 ∨ wa = 0 ∨ c + wc ≤ a ∨ a + wa ≤ c)
    (hcb : wc = 0 ∨ wb = 0 ∨ c + wc ≤ b ∨ b + wb ≤ c)
    (hab : wa = 0 ∨ wb = 0 ∨ a + wa ≤ b ∨ b + wb ≤ a) :
    ∀ i j, SW wc wa wb i = true → SW wc wa wb j = true → rho c a b s i = rho c a b s j → i = j := by
  intro i j hi hj e
  have h1 := rho_block (c := c) (a := a) (b := b) (s := s) hwc hwa hwb hi
  have h2 := rho_block (c := c) (a := a) (b := b) (s := s) hwc hwa hwb hj
  rw [e] at h1
  generalize rho c a b s j = r at h1 h2
  omega

/-- without the slot 5..7 (`c == a`, or one-operand routines in place) -/
def Sca (i : Nat) : Bool := decide (i < 5 ∨ (8 ≤ i ∧ i < 48))
/-- without the slot 8..10 (`c == b`, `a == b`, one-operand routines) -/
def Scb (i : Nat) : Bool := decide (i < 8 ∨ (11 ≤ i ∧ i < 48))
/-- only destination and stack (everything aliased) -/
def Sc (i : Nat) : Bool := decide (i < 5 ∨ (11 ≤ i ∧ i < 48))

theorem Sca_eq (i : Nat) : Sca i = SW 3 0 3 i := by
  unfold Sca SW; rw [decide_eq_decide]; omega
theorem Scb_eq (i : Nat) : Scb i = SW 3 3 0 i := by
  unfold Scb SW; rw [decide_eq_decide]; omega
theorem Sc_eq (i : Nat) : Sc i = SW 3 0 0 i := by
  unfold Sc SW; rw [decide_eq_decide]; omega

theorem rho_inj_ca {c a b s : Nat} (hc : 2 ≤ c) (hb : 2 ≤ b)
    (hcb : c + 3 ≤ b ∨ b + 3 ≤ c) (hcs : c + 3 ≤ s) (hbs : b + 3 ≤ s) :
    ∀ i j, Sca i = true → Sca j = true → rho c a b s i = rho c a b s j → i = j := by
  simp only [Sca_eq]
  apply rho_inj_w <;> omega

theorem rho_inj_cb {c a b s : Nat} (hc : 2 ≤ c) (ha : 2 ≤ a)
    (hca : c + 3 ≤ a ∨ a + 3 ≤ c) (hcs : c + 3 ≤ s) (has : a + 3 ≤ s) :
    ∀ i j, Scb i = true → Scb j = true → rho c a b s i = rho c a b s j → i = j := by
  simp only [Scb_eq]
  apply rho_inj_w <;> omega

theorem rho_inj_c {c a b s : Nat} (hc : 2 ≤ c) (hcs : c + 3 ≤ s) :
    ∀ i j, Sc i = true → Sc j = true → rho c a b s i = rho c a b s j → i = j := by
  simp only [Sc_eq]
  apply rho_inj_w <;> omega

theorem rho_c {c a b s i : Nat} (h1 : 2 ≤ i) (h2 : i < 5) : rho c a b s i = c + (i - 2) := by
  unfold rho; rw [if_neg (by omega), if_pos h2]
theorem rho_a {c a b s i : Nat} (h1 : 5 ≤ i) (h2 : i < 8) : rho c a b s i = a + (i - 5) := by
  unfold rho; rw [if_neg (by omega), if_neg (by omega), if_pos h2]
theorem rho_b {c a b s i : Nat} (h1 : 8 ≤ i) (h2 : i < 11) : rho c a b s i = b + (i - 8) := by
  unfold rho; rw [if_neg (by omega), if_neg (by omega), if_neg (by omega), if_pos h2]

def Al.Holds : Al → Nat → Nat → Nat → Prop
  | .n, _, _, _ => True
  | .ca, c, a, _ => a = c
  | .cb, c, _, b => b = c
  | .ab, _, a, b => b = a
  | .abc, c, a, b => a = c ∧ b = c

theorem Al.mem3 {al : Al} {als : List Al} (h : al = .n ∨ al = .ca ∨ al = .cb)
    (hs : (als.contains .n && als.contains .ca && als.contains .cb) = true) : al ∈ als := by
  simp only [Bool.and_eq_true, List.contains_iff_mem] at hs
  rcases h with rfl | rfl | rfl
  · exact hs.1.1
  · exact hs.1.2
  · exact hs.2

/-- the pattern as a map of the canonical layout: the slot of an aliased operand lands on the slot it shares -/
def Al.sig : Al → Nat → Nat
  | .n, i => i
  | .ca, i => if 5 ≤ i ∧ i < 8 then i - 3 else i
  | .cb, i => if 8 ≤ i ∧ i < 11 then i - 6 else i
  | .ab, i => if 8 ≤ i ∧ i < 11 then i - 3 else i
  | .abc, i => if 5 ≤ i ∧ i < 8 then i - 3 else if 8 ≤ i ∧ i < 11 then i - 6 else i

/-- buffers that coincide are one block, as wide as the wider operand -/
@[reducible] def Sal (wc wa wb : Nat) : Al → Nat → Bool
  | .n => SW wc wa wb
  | .ca => SW (max wc wa) 0 wb
  | .cb => SW (max wc wb) wa 0
  | .ab => SW wc (max wa wb) 0
  | .abc => SW (max wc (max wa wb)) 0 0

/-- `rho` does not change along `al.sig`, which maps the registers of the unaliased layout into those the call
    occupies, where `rho` is injective. -/
theorem rho_al (al : Al) {wc wa wb c a b s : Nat} (hwc : wc ≤ 3) (hwa : wa ≤ 3) (hwb : wb ≤ 3) (h : al.Holds c a b)
    (hinj : ∀ i j, Sal wc wa wb al i = true → Sal wc wa wb al j = true → rho c a b s i = rho c a b s j → i = j) :
    ∀ i j, SW wc wa wb i = true → SW wc wa wb j = true → rho c a b s i = rho c a b s j → al.sig i = al.sig j := by
  have key : ∀ i, SW wc wa wb i = true →
      Sal wc wa wb al (al.sig i) = true ∧ rho c a b s (al.sig i) = rho c a b s i := by
    intro i hi
    cases al
    · exact ⟨hi, rfl⟩
    · cases (h : a = c)
      simp only [SW, decide_eq_true_eq] at hi ⊢
      simp only [Al.sig]; split
      · next hi' => rw [rho_a hi'.1 hi'.2, rho_c (by omega) (by omega)]; omega
      · exact ⟨by omega, rfl⟩
    · cases (h : b = c)
      simp only [SW, decide_eq_true_eq] at hi ⊢
      simp only [Al.sig]; split
      · next hi' => rw [rho_b hi'.1 hi'.2, rho_c (by omega) (by omega)]; omega
      · exact ⟨by omega, rfl⟩
    · cases (h : b = a)
      simp only [SW, decide_eq_true_eq] at hi ⊢
      simp only [Al.sig]; split
      · next hi' => rw [rho_b hi'.1 hi'.2, rho_a (by omega) (by omega)]; omega
      · exact ⟨by omega, rfl⟩
    · obtain ⟨rfl, rfl⟩ := (h : a = c ∧ b = c)
      simp only [SW, decide_eq_true_eq] at hi ⊢
      simp only [Al.sig]; split
      · next hi' => rw [rho_a hi'.1 hi'.2, rho_c (by omega) (by omega)]; omega
      · split
        · next hi' => rw [rho_b hi'.1 hi'.2, rho_c (by omega) (by omega)]; omega
        · exact ⟨by omega, rfl⟩
  intro i j hi hj e
  exact hinj _ _ (key i hi).1 (key j hj).1 (by rw [(key i hi).2, (key j hj).2, e])

end Bee2V.C06
