/-
C06, phase 3 — the moduli of the standard binary fields as the driver builds them from the field token
`b:m:k1:k2:k3` (`Drv.ctx?`), and their irreducibility by Rabin's test (`natIrred_of_rabin`, on top of the field theory
of the C05 area).  The degrees 163, 233, 283 are prime, so the test needs one Frobenius orbit `x ↦ x²` of length `m`
and the one gcd with `x² + x` (`natIrred_of_prime_deg`); the orbit (through `frobFast`, an evaluator for sparse moduli)
and the gcd are evaluated in the kernel.
-/
import Bee2V.C05.PropsSimC06
import Mathlib.Tactic.NormNum.Prime
namespace Bee2V.C06
open Bee2V.C05 (NatIrred gf2SqrN gfSqr)
open Bee2V.C05.Spec Bee2V.C05.Pp Bee2V.C05.Gf2 Bee2V.C05.Fld

/-- modulus `x^m + x^k1 + x^k2 + x^k3 + 1` (a zero exponent is skipped), bit i = coefficient of x^i -/
def gf2Mod (m k1 k2 k3 : Nat) : Nat :=
  [m, k1, k2, k3].foldl (fun acc k => if k = 0 then acc else acc ||| (1 <<< k)) 1

/-- a fixed point of `x ↦ x ^ 2 ^ k` is a fixed point of every iterate -/
theorem pow_two_pow_mul {M : Type} [Monoid M] {x : M} {k : Nat} (h : x ^ 2 ^ k = x) (m : Nat) :
    x ^ 2 ^ (k * m) = x := by
  induction m with
  | zero => simp
  | succ m ih => rw [Nat.mul_succ, pow_add, pow_mul, ih, h]

/-- Rabin's test for a polynomial `f` of degree `n` over GF(2): `x^(2^n) = x (mod f)` and `gcd(f, x^(2^(n/p)) + x) = 1`
    for every prime `p ∣ n`.  An irreducible factor `g` of degree `d < n` gives `x^(2^d) = x (mod g)`, hence
    `x^(2^e) = x (mod g)` for `e = gcd(d, n)` (`d·m = n·q + e`); `e` divides some `n / p`, so `g` would divide that gcd. -/
theorem natIrred_of_rabin {f : Nat} (hn : 1 ≤ f.log2) (hfix : gf2SqrN f f.log2 (pmod 2 f) = pmod 2 f)
    (hg : ∀ p, p.Prime → p ∣ f.log2 → pgcd f (gf2SqrN f (f.log2 / p) (pmod 2 f) ^^^ 2) = 1) : NatIrred f := by
  by_contra hred
  obtain ⟨g, g1, g2, g3⟩ := exists_irred_factor f.log2 f rfl hn
  have hd := g3 hred
  have hf0 : f ≠ 0 := by rintro rfl; simp at hn
  have : Fact (NatIrred g) := ⟨g1⟩
  have : Fact (f ≠ 0) := ⟨hf0⟩
  have hd1 : 1 ≤ g.log2 := g1.1
  have h1 : proj g 2 ^ 2 ^ g.log2 = proj g 2 := by
    have := FiniteField.pow_card (proj g 2)
    rwa [card_R] at this
  have h2 : proj g 2 ^ 2 ^ f.log2 = proj g 2 := by
    have := congrArg (proj g) hfix
    rwa [proj_sqrN_of_dvd g2, proj_pmod_of_dvd g2] at this
  have hlt : Nat.gcd g.log2 f.log2 < f.log2 :=
    Nat.lt_of_le_of_lt (Nat.gcd_le_left _ (by omega)) (by omega)
  obtain ⟨m, -, hm⟩ := Nat.exists_mul_mod_eq_gcd hlt
  have he : proj g 2 ^ 2 ^ Nat.gcd g.log2 f.log2 = proj g 2 := by
    have e := pow_two_pow_mul h1 m
    rwa [← Nat.div_add_mod (g.log2 * m) f.log2, hm, pow_add, pow_mul, pow_two_pow_mul h2] at e
  -- a prime `p` of `n / e`: `e` divides `n / p`
  obtain ⟨k, hk⟩ := Nat.gcd_dvd_right g.log2 f.log2
  generalize Nat.gcd g.log2 f.log2 = e at hlt he hk
  obtain ⟨p, hp, c, hc⟩ := Nat.exists_prime_and_dvd (show k ≠ 1 by rintro rfl; omega)
  have hpn : p ∣ f.log2 := ⟨e * c, by rw [hk, hc, Nat.mul_left_comm]⟩
  have hdiv : f.log2 / p = e * c := by
    rw [hk, hc, Nat.mul_left_comm, Nat.mul_div_cancel_left _ hp.pos]
  have hw : proj g (gf2SqrN f (f.log2 / p) (pmod 2 f) ^^^ 2) = 0 := by
    rw [proj_xor, proj_sqrN_of_dvd g2, proj_pmod_of_dvd g2, hdiv, pow_two_pow_mul he, add_self]
  have := (pgcd_spec f _).2.2 g g2 ((proj_eq_zero_iff (f := g) _).1 hw)
  rw [hg p hp hpn] at this
  obtain ⟨q, hq⟩ := this
  have hq0 : q ≠ 0 := by rintro rfl; rw [zero_clmul] at hq; exact absurd hq (by decide)
  have := log2_clmul hq0 (natIrred_ne_zero g1)
  rw [← hq] at this
  have h1 : Nat.log2 1 = 0 := by decide
  omega

/-- prime degree: one gcd, with `x² + x` (no root in GF(2)) -/
theorem natIrred_of_prime_deg {f : Nat} (hp : f.log2.Prime)
    (hfix : gf2SqrN f f.log2 (pmod 2 f) = pmod 2 f) (hg : pgcd f (gf2SqrN f 1 (pmod 2 f) ^^^ 2) = 1) : NatIrred f :=
  natIrred_of_rabin hp.one_lt.le hfix fun p hpp hd => by
    rw [(Nat.prime_dvd_prime_iff_eq hpp hp).1 hd, Nat.div_self hp.pos]; exact hg

/-! ### a lean evaluator for `x ↦ x² mod f`, `f = x^n + Σ x^e` sparse

Written with the kernel's accelerated `Nat` operations applied directly (each operation written as notation
costs the kernel several instance unfoldings) and with `Nat.rec` for the one loop. -/

/-- `a²` in GF(2)[x]: the bits of `a` spread to the even positions (`k` = number of bits) -/
def spread (k a : Nat) : Nat :=
  @Nat.rec (fun _ => Nat → Nat) (fun _ => 0)
    (fun _ ih a => Nat.xor (Nat.shiftLeft (ih (Nat.shiftRight a 1)) 2) (Nat.land a 1)) k a

/-- `Σ h·x^e` -/
def shlSum (es : List Nat) (h : Nat) : Nat := es.foldl (fun acc e => Nat.xor acc (Nat.shiftLeft h e)) 0

/-- one folding step modulo `x^n + Σ x^e`: the part above `x^n` is replaced by its product with `Σ x^e` -/
def fold (n : Nat) (es : List Nat) (x : Nat) : Nat :=
  Nat.xor (Nat.xor x (Nat.shiftLeft (Nat.shiftRight x n) n)) (shlSum es (Nat.shiftRight x n))

/-- `a² mod f` by spreading and two folding steps; outside the range where that suffices, the definition -/
def sqrFast (f n : Nat) (es : List Nat) (a : Nat) : Nat :=
  if a < 2 ^ n ∧ fold n es (fold n es (spread n a)) < 2 ^ n then fold n es (fold n es (spread n a)) else gfSqr f a

def frobFast (f n : Nat) (es : List Nat) : Nat → Nat → Nat
  | 0, x => x
  | k + 1, x => frobFast f n es k (sqrFast f n es x)

theorem spread_eq (k : Nat) : ∀ a, a < 2 ^ k → spread k a = clmul a a := by
  induction k with
  | zero => intro a ha; obtain rfl : a = 0 := by omega
            rfl
  | succ k ih =>
    intro a ha
    have e : spread (k + 1) a = (spread k (a / 2)) <<< 2 ^^^ a &&& 1 := by
      show Nat.xor (Nat.shiftLeft (spread k (Nat.shiftRight a 1)) 2) (Nat.land a 1) = _
      rw [show Nat.shiftRight a 1 = a / 2 from Nat.shiftRight_one a]; rfl
    rw [e, ih _ (by omega), Nat.and_one_is_mod, Nat.shiftLeft_eq, Nat.mul_comm]
    conv_rhs => rw [← bit_decomp a]
    exact (clmul_self_bit _ _ (Nat.mod_lt _ (by decide))).symm

theorem shlSum_eq (es : List Nat) (h : Nat) : shlSum es h = clmul h (shlSum es 1) := by
  suffices ∀ acc acc', acc = clmul h acc' →
      es.foldl (fun acc e => Nat.xor acc (Nat.shiftLeft h e)) acc =
        clmul h (es.foldl (fun acc e => Nat.xor acc (Nat.shiftLeft 1 e)) acc') from
    this 0 0 (clmul_zero h).symm
  induction es with
  | nil => intro acc acc' e; exact e
  | cons e es ih =>
    intro acc acc' hacc
    refine ih _ _ ?_
    show acc ^^^ h <<< e = clmul h (acc' ^^^ 1 <<< e)
    rw [clmul_xor, ← hacc, Nat.one_shiftLeft, clmul_two_pow]

theorem fold_cong {f n : Nat} {es : List Nat} (hf : f = 2 ^ n ^^^ shlSum es 1) (x : Nat) :
    Cong f x (fold n es x) := by
  refine ⟨x >>> n, ?_⟩
  show x ^^^ ((x ^^^ (x >>> n) <<< n) ^^^ shlSum es (x >>> n)) = _
  rw [hf, clmul_xor, clmul_two_pow, ← shlSum_eq, ← Nat.xor_assoc, ← Nat.xor_assoc, Nat.xor_self, Nat.zero_xor]

theorem sqrFast_eq {f n : Nat} {es : List Nat} (hf : f = 2 ^ n ^^^ shlSum es 1) (hn : f.log2 = n) (hn0 : n ≠ 0)
    (a : Nat) : sqrFast f n es a = gfSqr f a := by
  unfold sqrFast
  split
  · next h =>
    have hf0 : f ≠ 0 := by rintro rfl; exact hn0 hn.symm
    have e1 := pmod_cong hf0 (fold_cong hf (spread n a))
    have e2 := pmod_cong hf0 (fold_cong hf (fold n es (spread n a)))
    have e3 := pmod_of_lt hf0 (show _ < 2 ^ f.log2 by rw [hn]; exact h.2)
    show _ = pmod (clmul a a) f
    rw [← spread_eq n a h.1, e1, e2, e3]
  · rfl

theorem frobFast_eq {f n : Nat} {es : List Nat} (hf : f = 2 ^ n ^^^ shlSum es 1) (hn : f.log2 = n) (hn0 : n ≠ 0)
    (k x : Nat) :
    frobFast f n es k x = gf2SqrN f k x := by
  induction k generalizing x with
  | zero => rfl
  | succ k ih => show frobFast f n es k (sqrFast f n es x) = gf2SqrN f k (gfSqr f x)
                 rw [sqrFast_eq hf hn hn0, ih]

theorem natIrred_163 : NatIrred (gf2Mod 163 7 6 3) :=
  have h : (gf2Mod 163 7 6 3).log2 = 163 := by decide +kernel
  natIrred_of_prime_deg (by rw [h]; norm_num)
    (by rw [h, ← frobFast_eq (es := [7, 6, 3, 0]) (by decide +kernel) h (by decide)]; decide +kernel)
    (by decide +kernel)
theorem natIrred_233 : NatIrred (gf2Mod 233 74 0 0) :=
  have h : (gf2Mod 233 74 0 0).log2 = 233 := by decide +kernel
  natIrred_of_prime_deg (by rw [h]; norm_num)
    (by rw [h, ← frobFast_eq (es := [74, 0]) (by decide +kernel) h (by decide)]; decide +kernel)
    (by decide +kernel)
theorem natIrred_283 : NatIrred (gf2Mod 283 12 7 5) :=
  have h : (gf2Mod 283 12 7 5).log2 = 283 := by decide +kernel
  natIrred_of_prime_deg (by rw [h]; norm_num)
    (by rw [h, ← frobFast_eq (es := [12, 7, 5, 0]) (by decide +kernel) h (by decide)]; decide +kernel)
    (by decide +kernel)

instance fact163 : Fact (NatIrred (gf2Mod 163 7 6 3)) := ⟨natIrred_163⟩
instance fact233 : Fact (NatIrred (gf2Mod 233 74 0 0)) := ⟨natIrred_233⟩
instance fact283 : Fact (NatIrred (gf2Mod 283 12 7 5)) := ⟨natIrred_283⟩

end Bee2V.C06
