/-
C06, stage 2 — specification side for binary curves `y² + xy = x³ + Ax² + B` over a field of
characteristic 2 (`ec2.c`, Lopez–Dahab coordinates `x = X/Z`, `y = Y/Z²`, `−(x, y) = (x, x + y)`).
The group is Mathlib's `WeierstrassCurve.Affine.Point` for `a₁ = 1, a₂ = A, a₃ = a₄ = 0, a₆ = B`.
`char2` is a normalisation tactic for polynomial identities in characteristic 2
(`sub`/`neg` ↦ `add`, `ring_nf`, numerals reduced mod 2, `ring`); after `field_simp` it closes the
identities of the formula lemmas.
-/
import Mathlib.Algebra.CharP.Two
import Mathlib.Algebra.CharP.Basic
import Bee2V.C06.Spec
import Bee2V.C06.Wrap2
namespace Bee2V.C06
open WeierstrassCurve

set_option linter.unusedSectionVars false
set_option linter.unusedSimpArgs false
variable {F : Type} [Field F] [DecidableEq F] [CharP F 2]

theorem ofNat_char2 (n : ℕ) [n.AtLeastTwo] : (OfNat.ofNat n : F) = ((n % 2 : ℕ) : F) := by
  rw [← Nat.cast_ofNat (R := F)]
  exact CharP.cast_eq_mod F 2 n

/-- close / normalise a polynomial identity in characteristic 2 -/
macro "char2" : tactic => `(tactic|
  (try simp only [CharTwo.sub_eq_add, CharTwo.neg_eq] at *
   try ring_nf
   try simp only [ofNat_char2, Nat.reduceMod, Nat.cast_zero, Nat.cast_one, mul_zero, mul_one, add_zero, zero_add]
   try ring))

/-- the curve `y² + xy = x³ + Ax² + B` -/
def Wb (A B : F) : Affine F := { a₁ := 1, a₂ := A, a₃ := 0, a₄ := 0, a₆ := B }

/-- `ec2CreateLD` over a field of characteristic 2 -/
def curveB (A B : F) : Curve F := mkCurve2 (fieldFld F) A B

theorem Wb_equation (A B x y : F) : (Wb A B).Equation x y ↔ y ^ 2 + x * y = x ^ 3 + A * x ^ 2 + B := by
  rw [Affine.equation_iff]; simp [Wb]

@[simp] theorem Wb_negY (A B x y : F) : (Wb A B).negY x y = x + y := by
  simp [Affine.negY, Wb]; char2

/-- nonsingular points: on the curve and not (`x = 0` and `y = x²`…); in characteristic 2 the
    partial derivatives are `y + x²` (by x) and `x` (by y) -/
theorem Wb_nonsingular (A B x y : F) :
    (Wb A B).Nonsingular x y ↔ y ^ 2 + x * y = x ^ 3 + A * x ^ 2 + B ∧ (y + x ^ 2 ≠ 0 ∨ x ≠ 0) := by
  rw [Affine.nonsingular_iff, Wb_equation]
  simp only [Wb, one_mul, zero_mul, mul_zero, add_zero, sub_zero]
  have e1 : (y ≠ 3 * x ^ 2 + 2 * A * x) ↔ (y + x ^ 2 ≠ 0) := by
    constructor
    · intro h h0; apply h
      have : y = x ^ 2 := by
        have := h0; rw [CharTwo.add_eq_zero] at this; exact this
      rw [this]; char2
    · intro h h0; apply h; rw [h0]; char2
  have e2 : (y ≠ -y - x) ↔ (x ≠ 0) := by
    have e : -y - x = y + x := by char2
    rw [e]; simp
  rw [e1, e2]

/-- an affine pair stands for the point with these coordinates -/
def RepB2 (A B : F) (a : P2 F) (P : (Wb A B).Point) : Prop :=
  ∃ h : (Wb A B).Nonsingular a.1 a.2, P = .some a.1 a.2 h

/-- a Lopez–Dahab triple `(X : Y : Z)` stands for `O` if `Z = 0` and for `(X/Z, Y/Z²)` otherwise -/
def RepB3 (A B : F) (p : P3 F) (P : (Wb A B).Point) : Prop :=
  if p.2.2 = 0 then P = 0 else RepB2 A B (p.1 / p.2.2, p.2.1 / p.2.2 ^ 2) P

theorem RepB3.congr {A B : F} {p p' : P3 F} {P : (Wb A B).Point} (e : p' = p) (h : RepB3 A B p P) :
    RepB3 A B p' P :=
  e ▸ h

theorem RepB2.congr {A B : F} {a a' : P2 F} {P : (Wb A B).Point} (e : a' = a) (h : RepB2 A B a P) :
    RepB2 A B a' P :=
  e ▸ h

theorem RepB2_of_eq {A B : F} {x y x' y' : F} {P : (Wb A B).Point} (h : RepB2 A B (x, y) P)
    (hx : x = x') (hy : y = y') : RepB2 A B (x', y') P := by
  subst hx; subst hy; exact h

/-- chord: `x₁ ≠ x₂`, `λ = (y₁ + y₂)/(x₁ + x₂)`, `x₃ = λ² + λ + x₁ + x₂ + A`, `y₃ = λ(x₁ + x₃) + x₃ + y₁` -/
theorem addB_chord {A B x₁ y₁ x₂ y₂ : F} (h₁ : (Wb A B).Nonsingular x₁ y₁) (h₂ : (Wb A B).Nonsingular x₂ y₂)
    (hx : x₁ ≠ x₂) :
    RepB2 A B (((y₁ + y₂) / (x₁ + x₂)) ^ 2 + (y₁ + y₂) / (x₁ + x₂) + x₁ + x₂ + A,
      ((y₁ + y₂) / (x₁ + x₂)) * (x₁ + (((y₁ + y₂) / (x₁ + x₂)) ^ 2 + (y₁ + y₂) / (x₁ + x₂) + x₁ + x₂ + A))
        + (((y₁ + y₂) / (x₁ + x₂)) ^ 2 + (y₁ + y₂) / (x₁ + x₂) + x₁ + x₂ + A) + y₁)
      (Affine.Point.some x₁ y₁ h₁ + Affine.Point.some x₂ y₂ h₂) := by
  rw [Affine.Point.add_of_X_ne hx]
  have hs : (Wb A B).slope x₁ x₂ y₁ y₂ = (y₁ + y₂) / (x₁ + x₂) := by
    rw [Affine.slope_of_X_ne hx]; simp only [CharTwo.sub_eq_add]
  refine RepB2_of_eq ⟨_, rfl⟩ ?_ ?_
  · rw [hs]; simp [Wb]; char2
  · rw [hs]; simp [Wb]; char2

/-- tangent: doubling of a point with `x ≠ 0`, `λ = x + y/x`, `x₃ = λ² + λ + A`, `y₃ = x² + (λ + 1)x₃` -/
theorem addB_tangent {A B x y : F} (h : (Wb A B).Nonsingular x y) (hx : x ≠ 0) :
    RepB2 A B ((x + y / x) ^ 2 + (x + y / x) + A,
      x ^ 2 + ((x + y / x) + 1) * ((x + y / x) ^ 2 + (x + y / x) + A))
      (Affine.Point.some x y h + Affine.Point.some x y h) := by
  have hy' : y ≠ (Wb A B).negY x y := by
    rw [Wb_negY]; intro h0; apply hx
    have : x + y + y = 0 := by rw [← h0]; exact CharTwo.add_self_eq_zero y
    have h1 : x = x + y + y := by char2
    rw [h1]; exact this
  rw [Affine.Point.add_self_of_Y_ne hy']
  have hs : (Wb A B).slope x x y y = x + y / x := by
    rw [Affine.slope_of_Y_ne rfl hy', Wb_negY]
    simp only [Wb, mul_zero, add_zero, one_mul, zero_mul]
    have hd : y - (x + y) = x := by char2
    have hn : 3 * x ^ 2 + 2 * A * x - y = x ^ 2 + y := by char2
    rw [hd, hn]
    field_simp
  refine RepB2_of_eq ⟨_, rfl⟩ ?_ ?_
  · rw [hs]; simp [Wb]; char2
  · rw [hs]; simp [Wb]; field_simp; char2

/-- inverse points: same `x`, `y₁ = x₂ + y₂` -/
theorem addB_inverse {A B x₁ y₁ x₂ y₂ : F} (h₁ : (Wb A B).Nonsingular x₁ y₁) (h₂ : (Wb A B).Nonsingular x₂ y₂)
    (hx : x₁ = x₂) (hy : y₁ = x₂ + y₂) :
    Affine.Point.some x₁ y₁ h₁ + Affine.Point.some x₂ y₂ h₂ = 0 :=
  Affine.Point.add_of_Y_eq hx (by rw [Wb_negY]; exact hy)

/-- two points with the same `x` have `y₁ = y₂` or `y₁ = x + y₂` -/
theorem yB_eq_or_neg {A B x y₁ y₂ : F} (h₁ : (Wb A B).Nonsingular x y₁) (h₂ : (Wb A B).Nonsingular x y₂) :
    y₁ = y₂ ∨ y₁ = x + y₂ := by
  have e₁ := ((Wb_nonsingular A B x y₁).1 h₁).1
  have e₂ := ((Wb_nonsingular A B x y₂).1 h₂).1
  have : (y₁ + y₂) * (y₁ + y₂ + x) = 0 := by
    have : (y₁ + y₂) * (y₁ + y₂ + x) = (y₁ ^ 2 + x * y₁) + (y₂ ^ 2 + x * y₂) := by char2
    rw [this, e₁, e₂]; exact CharTwo.add_self_eq_zero _
  rcases mul_eq_zero.1 this with h | h
  · exact Or.inl (CharTwo.add_eq_zero.1 h)
  · right
    have : y₁ + (x + y₂) = 0 := by rw [← h]; ring
    exact CharTwo.add_eq_zero.1 this

theorem negB_some {A B x y : F} (h : (Wb A B).Nonsingular x y) :
    RepB2 A B (x, x + y) (-(Affine.Point.some x y h)) := by
  rw [Affine.Point.neg_some]
  exact RepB2_of_eq ⟨_, rfl⟩ rfl (Wb_negY A B x y)

/-- a point with `x = 0` has order two -/
theorem addB_order2 {A B y : F} (h : (Wb A B).Nonsingular 0 y) :
    Affine.Point.some 0 y h + Affine.Point.some 0 y h = 0 :=
  addB_inverse h h rfl (by simp)

end Bee2V.C06
