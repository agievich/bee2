/-
C06 — scalar multiplication over an abstract correct operation table: `EcOps.Correct`, the table of odd
multiples (`preTable_ok`), `nafApply_spec`, `mulLoop_spec` (Horner), `mulCore_spec` (= `ecMulA` at any width ≥ 2).
-/
import Bee2V.C06.LemmasNafLen2
import Bee2V.C06.LemmasSim
import Mathlib.Algebra.Module.Basic
import Mathlib.Tactic.Abel

namespace Bee2V.C06

/-- correctness of an operation table w.r.t. an additive commutative group `G`:
    `R3 p g` — the projective value `p` represents `g`; `R2 a g` — the affine value `a` represents `g`. -/
structure EcOps.Correct {P A G : Type} [AddCommGroup G] (o : EcOps P A)
    (R3 : P → G → Prop) (R2 : A → G → Prop) : Prop where
  froma : ∀ {a g}, R2 a g → R3 (o.froma a) g
  view_froma : ∀ {a g}, R2 a g → R2 (o.view (o.froma a)) g
  toa_none : ∀ {p g}, R3 p g → (o.toa p = none ↔ g = 0)
  toa_some : ∀ {p g b}, R3 p g → o.toa p = some b → R2 b g
  setO : R3 o.setO 0
  dbl_ca : ∀ {p g}, R3 p g → R3 (o.dbl .ca p) (g + g)
  dbla : ∀ {a g}, R2 a g → R3 (o.dbla a) (g + g)
  add_n : ∀ {p q g h}, R3 p g → R3 q h → R3 (o.add .n p q) (g + h)
  add_ca : ∀ {p q g h}, R3 p g → R3 q h → R3 (o.add .ca p q) (g + h)
  sub_ca : ∀ {p q g h}, R3 p g → R3 q h → R3 (o.sub .ca p q) (g - h)
  adda_n : ∀ {p a g h}, R3 p g → R2 a h → R3 (o.adda .n p a) (g + h)
  adda_ca : ∀ {p a g h}, R3 p g → R2 a h → R3 (o.adda .ca p a) (g + h)
  suba_ca : ∀ {p a g h}, R3 p g → R2 a h → R3 (o.suba .ca p a) (g - h)

/-- correctness transfers along a simulation of tables -/
theorem EcOps.Correct.of_sim {P A P' A' G : Type} [AddCommGroup G] {o : EcOps P A} {o' : EcOps P' A'}
    {R3 : P' → G → Prop} {R2 : A' → G → Prop} {m3 : P → P'} {m2 : A → A'} {D3 : P → Prop} {D2 : A → Prop}
    (hc : o'.Correct R3 R2) (S : o.Sim o' m3 m2 D3 D2) :
    o.Correct (fun q g => D3 q ∧ R3 (m3 q) g) (fun a g => D2 a ∧ R2 (m2 a) g) where
  froma := fun ⟨hd, hg⟩ => ⟨(S.froma hd).1, by rw [(S.froma hd).2]; exact hc.froma hg⟩
  view_froma := fun ⟨hd, hg⟩ =>
    ⟨(S.view (S.froma hd).1).1, by rw [(S.view (S.froma hd).1).2, (S.froma hd).2]; exact hc.view_froma hg⟩
  toa_none := fun ⟨hd, hg⟩ => by rw [← hc.toa_none hg, ← (S.toa hd).2, Option.map_eq_none_iff]
  toa_some := fun ⟨hd, hg⟩ hb =>
    ⟨(S.toa hd).1 _ hb, hc.toa_some hg (by rw [← (S.toa hd).2, hb]; rfl)⟩
  setO := ⟨S.setO.1, by rw [S.setO.2]; exact hc.setO⟩
  dbl_ca := fun ⟨hd, hg⟩ => ⟨(S.dbl .ca hd).1, by rw [(S.dbl .ca hd).2]; exact hc.dbl_ca hg⟩
  dbla := fun ⟨hd, hg⟩ => ⟨(S.dbla hd).1, by rw [(S.dbla hd).2]; exact hc.dbla hg⟩
  add_n := fun ⟨hd, hg⟩ ⟨hd', hh⟩ =>
    ⟨(S.add .n hd hd').1, by rw [(S.add .n hd hd').2]; exact hc.add_n hg hh⟩
  add_ca := fun ⟨hd, hg⟩ ⟨hd', hh⟩ =>
    ⟨(S.add .ca hd hd').1, by rw [(S.add .ca hd hd').2]; exact hc.add_ca hg hh⟩
  sub_ca := fun ⟨hd, hg⟩ ⟨hd', hh⟩ =>
    ⟨(S.sub .ca hd hd').1, by rw [(S.sub .ca hd hd').2]; exact hc.sub_ca hg hh⟩
  adda_n := fun ⟨hd, hg⟩ ⟨hd', hh⟩ =>
    ⟨(S.adda .n hd hd').1, by rw [(S.adda .n hd hd').2]; exact hc.adda_n hg hh⟩
  adda_ca := fun ⟨hd, hg⟩ ⟨hd', hh⟩ =>
    ⟨(S.adda .ca hd hd').1, by rw [(S.adda .ca hd hd').2]; exact hc.adda_ca hg hh⟩
  suba_ca := fun ⟨hd, hg⟩ ⟨hd', hh⟩ =>
    ⟨(S.suba .ca hd hd').1, by rw [(S.suba .ca hd hd').2]; exact hc.suba_ca hg hh⟩

namespace MulL
variable {P A G : Type} [AddCommGroup G] {o : EcOps P A} {R3 : P → G → Prop} {R2 : A → G → Prop}

/-- a table of the odd multiples `g, 3g, …, (2 count - 1) g` whose entry 0 is literally `froma a` -/
structure TableOk (o : EcOps P A) (R3 : P → G → Prop) (pre : Array P) (a : A) (g : G)
    (count : Nat) : Prop where
  zero : pre[0]? = some (o.froma a)
  ent : ∀ i, i < count → ∃ p, pre[i]? = some p ∧ R3 p ((2 * i + 1) • g)

theorem go_spec (hc : o.Correct R3 R2) {t : P} {g : G} (ht : R3 t (g + g)) (x : P) :
    ∀ (k m : Nat) (last : P) (acc : Array P), acc.size = m + 1 → R3 last ((2 * m + 1) • g) →
      acc[0]? = some x → (∀ i, i < m + 1 → ∃ p, acc[i]? = some p ∧ R3 p ((2 * i + 1) • g)) →
      (preTable.go o t k last acc)[0]? = some x ∧
      ∀ i, i < m + 1 + k → ∃ p, (preTable.go o t k last acc)[i]? = some p ∧ R3 p ((2 * i + 1) • g) := by
  intro k
  induction k with
  | zero => intro m last acc _ _ h0 hacc; exact ⟨h0, hacc⟩
  | succ k ih =>
    intro m last acc hsz hl h0 hacc
    unfold preTable.go
    simp only
    have hnx : R3 (o.add .n t last) ((2 * (m + 1) + 1) • g) := by
      have := hc.add_n ht hl
      rwa [show 2 * (m + 1) + 1 = 2 + (2 * m + 1) by ring, add_nsmul, two_nsmul]
    have := ih (m + 1) (o.add .n t last) (acc.push (o.add .n t last)) (by simp [hsz]) hnx
      (by rw [Array.getElem?_push, if_neg (by omega)]; exact h0)
      (by
        intro i hi
        rw [Array.getElem?_push]
        by_cases h : i = acc.size
        · rw [if_pos h]; exact ⟨_, rfl, by rw [h, hsz]; exact hnx⟩
        · rw [if_neg h]; exact hacc i (by omega))
    refine ⟨this.1, fun i hi => this.2 i (by omega)⟩

/-- **preTable**: entry `i < count` exists and represents `(2 i + 1) g`; entry 0 is `froma a` -/
theorem preTable_ok (hc : o.Correct R3 R2) {a : A} {g : G} (ha : R2 a g) (count : Nat) :
    TableOk o R3 (preTable o a count) a g count := by
  have hv := hc.view_froma ha
  have ht := hc.dbla hv
  have h1 : R3 (o.adda .n (o.dbla (o.view (o.froma a))) (o.view (o.froma a))) ((2 * 1 + 1) • g) := by
    have := hc.adda_n ht hv
    rwa [show 2 * 1 + 1 = 2 + 1 by rfl, add_nsmul, two_nsmul, one_nsmul]
  have := go_spec hc ht (o.froma a) (count - 2) 1
    (o.adda .n (o.dbla (o.view (o.froma a))) (o.view (o.froma a)))
    #[o.froma a, o.adda .n (o.dbla (o.view (o.froma a))) (o.view (o.froma a))] rfl h1 (by simp) (by
    intro i hi
    rcases i with _ | _ | i
    · exact ⟨o.froma a, by simp, by simpa using hc.froma ha⟩
    · exact ⟨_, by simp, h1⟩
    · omega)
  exact ⟨this.1, fun i hi => this.2 i (by omega)⟩

theorem getD_of_some {pre : Array P} {i : Nat} {p d : P} (h : pre[i]? = some p) : pre.getD i d = p := by
  rw [Array.getD_eq_getD_getElem?, h]; rfl

/-- `nafApply` adds the signed digit of any odd code `c < 2^w` (`w ≥ 2`) -/
theorem nafApply_spec (hc : o.Correct R3 R2) {w : Nat} (hw : 2 ≤ w) {a : A} {g : G} (ha : R2 a g)
    {pre : Array P} (tb : TableOk o R3 pre a g (2 ^ (w - 2))) {c : Nat} (hodd : c % 2 = 1)
    (hlt : c < 2 ^ w) {t : P} {h : G} (ht : R3 t h) :
    R3 (nafApply o pre (2 ^ (w - 1)) c t) (h + sval w c • g) := by
  obtain ⟨h1, h2, h3⟩ := two_pow_split hw
  obtain ⟨H, hH⟩ : ∃ H, H = 2 ^ (w - 1) := ⟨_, rfl⟩
  obtain ⟨H2, hH2⟩ : ∃ H2, H2 = 2 ^ (w - 2) := ⟨_, rfl⟩
  rw [← hH2] at tb
  rw [← hH] at h1 h2 ⊢; rw [← hH2] at h2 h3
  have hv := hc.view_froma ha
  unfold nafApply
  simp only [getD_of_some tb.zero]
  split_ifs with c1 c2 c3
  · subst c1
    rw [sval_pos hH (by omega)]
    simpa using hc.adda_ca ht hv
  · rw [sval_neg hH (by omega), c2]
    have := hc.suba_ca ht hv
    simpa [sub_eq_add_neg] using this
  · rw [Nat.mod_eq_of_lt (by omega)] at c3
    obtain ⟨p, hp, hr⟩ := tb.ent ((c - H) / 2) (by omega)
    rw [getD_of_some hp, sval_neg hH c3, neg_smul, natCast_zsmul, ← sub_eq_add_neg]
    rw [show 2 * ((c - H) / 2) + 1 = c - H by omega] at hr
    exact hc.sub_ca ht hr
  · rw [Nat.mod_eq_of_lt (by omega)] at c3
    obtain ⟨p, hp, hr⟩ := tb.ent (c / 2) (by omega)
    rw [getD_of_some hp, sval_pos hH (by omega), natCast_zsmul]
    rw [show 2 * (c / 2) + 1 = c by omega] at hr
    exact hc.add_ca ht hr

theorem getBits_lt (naf i w : Nat) : getBits naf i w < 2 ^ w := Nat.mod_lt _ (by positivity)

/-- the `while (--naf_size)` loop: Horner evaluation of the remaining digits -/
theorem mulLoop_spec (hc : o.Correct R3 R2) {w : Nat} (hw : 2 ≤ w) {a : A} {g : G} (ha : R2 a g)
    {pre : Array P} (tb : TableOk o R3 pre a g (2 ^ (w - 2))) (naf : Nat) :
    ∀ (k i : Nat) (t : P) (n : Int), R3 t (n • g) →
      R3 (mulLoop o pre w naf k i t) ((n * 2 ^ k + nafVal (decode w naf k i)) • g) := by
  intro k
  induction k with
  | zero => intro i t n ht; simpa [mulLoop, decode, nafVal] using ht
  | succ k ih =>
    intro i t n ht
    have hd := hc.dbl_ca ht
    rw [← add_smul] at hd
    unfold mulLoop decode
    simp only
    split
    · rename_i hodd
      have := nafApply_spec hc hw ha tb hodd (getBits_lt naf i w) hd
      rw [← add_smul] at this
      have := ih (i + w) _ _ this
      rw [nafVal, decode_length]
      convert this using 2; ring
    · have := ih (i + 1) _ _ hd
      rw [nafVal, decode_length]
      convert this using 2; ring

theorem ecNAFWidth_ge (l : Nat) : 3 ≤ ecNAFWidth l ∧ ecNAFWidth l ≤ 6 := by
  unfold ecNAFWidth; split_ifs <;> omega

/-- **ecMulA** at an arbitrary window width `w ≥ 2` (the body of `ecMulA` after `w` is chosen) -/
theorem mulCore_spec (hc : o.Correct R3 R2) {w : Nat} (hw : 2 ≤ w) {a : A} {g : G} (ha : R2 a g)
    {d : Nat} (hd : 0 < d) :
    let sn := wwNAF d w
    let pre := preTable o a (2 ^ (w - 2))
    R3 (mulLoop o pre w sn.2 (sn.1 - 1) w (pre.getD (getBits sn.2 0 w / 2) o.setO)) (d • g) := by
  intro sn pre
  obtain ⟨h1, h2, h3⟩ := two_pow_split hw
  obtain ⟨hv, hpos, hodd, hlt⟩ := wwNAF_spec hw hd
  have tb := preTable_ok hc ha (2 ^ (w - 2))
  obtain ⟨p, hp, hr⟩ := tb.ent (getBits (wwNAF d w).2 0 w / 2) (by omega)
  show R3 (mulLoop o _ w (wwNAF d w).2 ((wwNAF d w).1 - 1) w
    ((preTable o a (2 ^ (w - 2))).getD (getBits (wwNAF d w).2 0 w / 2) o.setO)) (d • g)
  rw [getD_of_some hp]
  rw [show 2 * (getBits (wwNAF d w).2 0 w / 2) + 1 = getBits (wwNAF d w).2 0 w by omega,
    ← natCast_zsmul] at hr
  have := mulLoop_spec hc hw ha tb (wwNAF d w).2 ((wwNAF d w).1 - 1) w p _ hr
  obtain ⟨s, hs⟩ : ∃ s, (wwNAF d w).1 = s + 1 := ⟨(wwNAF d w).1 - 1, by omega⟩
  rw [hs] at hv
  unfold decode at hv
  simp only [hodd, if_true, Nat.zero_add, nafVal, decode_length, sval_pos rfl hlt] at hv
  rw [hs, Nat.add_sub_cancel] at this ⊢
  rw [hv, natCast_zsmul] at this
  exact this

end MulL
end Bee2V.C06
