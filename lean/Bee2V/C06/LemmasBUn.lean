/-
C06, stage 2 — one-operand routines of `ec2.c` (`ec2NegLD`, `ec2DblLD`, `ec2DblALD`, `ec2FromALD`,
`ec2ToALD`, `ec2NegA`, `ec2IsOnA`; Lopez–Dahab coordinates `x = X/Z`, `y = Y/Z²`): `RepB3`/`RepB2`
bookkeeping and the doubling formulas (dbl-2005-l, mdbl-2005-dl) against Mathlib's group law on
`(Wb A B).Point` in characteristic 2; symbolic execution on the canonical store with the destination
distinct from the operand (only `ec2NegA` is also executed in place: `Prog.safe` rejects that call) — `ec2DblLD`/`ec2DblALD`: the three arms of the branch on the coefficient (`A = 1`: an addition, `A = 0`: skipped,
else: a multiplication) give the same closed form `… + A·Z₃`; execution + formulas = group law (all special
cases: the point at infinity, the points of order two `x = 0`), and the concrete points over `ZMod 2` used by
the non-vacuity examples of `PropsBUn`.
-/
import Bee2V.C06.Spec2
import Mathlib.Tactic.Ring
import Mathlib.Tactic.FieldSimp
import Mathlib.Tactic.LinearCombination
import Mathlib.Data.ZMod.Basic
import Mathlib.Algebra.Field.ZMod
namespace Bee2V.C06.BUn
open Bee2V.C06 WeierstrassCurve
set_option linter.unusedSectionVars false
set_option linter.unusedSimpArgs false
set_option linter.unusedVariables false
variable {F : Type} [Field F] [DecidableEq F] [CharP F 2] {A B : F}

/-! ### `RepB3` / `RepB2` bookkeeping -/

theorem repB3_O {p : P3 F} (h : p.2.2 = 0) : RepB3 A B p 0 := by
  unfold RepB3; simp [h]

theorem repB3_z0 {X Y Z : F} {P : (Wb A B).Point} (hp : RepB3 A B (X, Y, Z) P) (hz : Z = 0) : P = 0 := by
  unfold RepB3 at hp; simpa [hz] using hp

theorem repB3_nz {X Y Z : F} {P : (Wb A B).Point} (hp : RepB3 A B (X, Y, Z) P) (hz : Z ≠ 0) :
    ∃ h : (Wb A B).Nonsingular (X / Z) (Y / Z ^ 2), P = .some (X / Z) (Y / Z ^ 2) h := by
  unfold RepB3 at hp; simp only [hz, if_false] at hp; exact hp

theorem repB3_of_repB2 {X Y Z : F} {P : (Wb A B).Point} (hz : Z ≠ 0)
    (h : RepB2 A B (X / Z, Y / Z ^ 2) P) : RepB3 A B (X, Y, Z) P := by
  unfold RepB3; simp only [hz, if_false]; exact h

/-! ### the doubling formulas -/

/-- output of `ec2DblLD` (dbl-2005-l): `Z₃ = (XZ)²`, `C = Y + X²`, `D = XZ·C`, `X₃ = C² + D + A·Z₃`,
    `Y₃ = X⁴·Z₃ + (D + Z₃)·X₃` (all three arms of the branch on `A` compute this) -/
def dblBForm (A X Y Z : F) : P3 F :=
  ((Y + X * X) * (Y + X * X) + X * Z * (Y + X * X) + A * (X * Z * (X * Z)),
   X * X * (X * X) * (X * Z * (X * Z)) +
     (X * Z * (Y + X * X) + X * Z * (X * Z)) *
       ((Y + X * X) * (Y + X * X) + X * Z * (Y + X * X) + A * (X * Z * (X * Z))),
   X * Z * (X * Z))

/-- `X₃/Z₃ = λ² + λ + A`, `Y₃/Z₃² = x² + (λ + 1)x₃` with `λ = x + y/x`; the curve equation is not used -/
theorem dblB_math {X Y Z : F} {P : (Wb A B).Point} (hp : RepB3 A B (X, Y, Z) P)
    (hz : Z ≠ 0) (hx : X ≠ 0) : RepB3 A B (dblBForm A X Y Z) (P + P) := by
  obtain ⟨h, rfl⟩ := repB3_nz hp hz
  have hx' : X / Z ≠ 0 := div_ne_zero hx hz
  have hZ' : X * Z * (X * Z) ≠ 0 := mul_ne_zero (mul_ne_zero hx hz) (mul_ne_zero hx hz)
  refine repB3_of_repB2 hZ' (RepB2_of_eq (addB_tangent h hx') ?_ ?_)
  · field_simp; char2
  · field_simp; char2

/-- output of `ec2DblALD` (mdbl-2005-dl, `Z₁ = 1`): `Z₃ = x²`, `X₃ = x⁴ + B`,
    `Y₃ = (y² + B + A·Z₃)·X₃ + B·Z₃` -/
def dblaBForm (A B X Y : F) : P3 F :=
  (X * X * (X * X) + B,
   (Y * Y + B + A * (X * X)) * (X * X * (X * X) + B) + B * (X * X),
   X * X)

/-- here the curve equation is used: `B = y² + xy + x³ + Ax²` -/
theorem dblaB_math {X Y : F} {P : (Wb A B).Point} (hp : RepB2 A B (X, Y) P)
    (hx : X ≠ 0) : RepB3 A B (dblaBForm A B X Y) (P + P) := by
  obtain ⟨h, rfl⟩ := hp
  have e := ((Wb_nonsingular A B X Y).1 h).1
  have hB : B = Y ^ 2 + X * Y + X ^ 3 + A * X ^ 2 := by
    have : B + (Y ^ 2 + X * Y + X ^ 3 + A * X ^ 2) = 0 := by
      have e' : B + (Y ^ 2 + X * Y + X ^ 3 + A * X ^ 2) = (Y ^ 2 + X * Y) + (X ^ 3 + A * X ^ 2 + B) := by ring
      rw [e', e]; exact CharTwo.add_self_eq_zero _
    exact CharTwo.add_eq_zero.1 this
  have hZ' : X * X ≠ 0 := mul_ne_zero hx hx
  refine repB3_of_repB2 hZ' (RepB2_of_eq (addB_tangent h hx) ?_ ?_)
  · simp only [dblaBForm]; rw [hB]; field_simp; char2
  · simp only [dblaBForm]; rw [hB]; field_simp; char2

/-! ### `ec2DblLD` -/

theorem dblLD_exec (X Y Z : F) (hz : Z ≠ 0) (hx : X ≠ 0) :
    run1 (curveB A B) ec2DblLD .n (X, Y, Z) = dblBForm A X Y Z := by
  obtain rfl | hA1 := eq_or_ne A 1
  · simp only [dblBForm, one_mul]
    exact (run_else res3 hz).trans ((run_else res3 hx).trans ((run_then res3 rfl).trans (by rfl)))
  obtain rfl | hA0 := eq_or_ne A 0
  · simp only [dblBForm, zero_mul, add_zero]
    exact (run_else res3 hz).trans ((run_else res3 hx).trans ((run_else res3 hA1).trans ((run_then res3 rfl).trans (by rfl))))
  · exact (run_else res3 hz).trans ((run_else res3 hx).trans ((run_else res3 hA1).trans ((run_else res3 hA0).trans (by rfl))))

theorem dblLD_exec_z0 (X Y : F) :
    (run1 (curveB A B) ec2DblLD .n (X, Y, 0)).2.2 = 0 :=
  run_then resZ rfl

theorem dblLD_exec_x0 (Y Z : F) :
    (run1 (curveB A B) ec2DblLD .n (0, Y, Z)).2.2 = 0 := by
  by_cases hz : Z = 0
  · exact run_then resZ hz
  · exact (run_else resZ hz).trans (run_then resZ rfl)

/-! ### `ec2DblALD` -/

theorem dblALD_exec (X Y : F) (hx : X ≠ 0) :
    dbla2 (curveB A B) .n (X, Y) = dblaBForm A B X Y := by
  obtain rfl | hA1 := eq_or_ne A 1
  · simp only [dblaBForm, one_mul]
    exact (run_else res3 hx).trans (run_then res3 rfl)
  obtain rfl | hA0 := eq_or_ne A 0
  · simp only [dblaBForm, zero_mul, add_zero]
    exact (run_else res3 hx).trans ((run_else res3 hA1).trans ((run_then res3 rfl).trans (by rfl)))
  · exact (run_else res3 hx).trans ((run_else res3 hA1).trans ((run_else res3 hA0).trans (by rfl)))

theorem dblALD_exec_x0 (Y : F) :
    (dbla2 (curveB A B) .n (0, Y)).2.2 = 0 :=
  run_then resZ rfl

/-! ### `ec2NegLD`, `ec2FromALD`, `ec2ToALD`, `ec2NegA`, `ec2IsOnA` -/

theorem negLD_exec (X Y Z : F) :
    run1 (curveB A B) ec2NegLD .n (X, Y, Z) = (X, Y + X * Z, Z) := by
  rfl

theorem fromALD_exec (X Y : F) :
    froma2 (curveB A B) .n (X, Y) = (X, Y, 1) := by
  rfl

theorem toALD_exec (X Y Z : F) (hz : Z ≠ 0) :
    toa2 (curveB A B) .n (X, Y, Z) = some (X * Z⁻¹, Y * (Z⁻¹ * Z⁻¹)) :=
  run_else resO hz

theorem toALD_exec_z0 (X Y : F) :
    toa2 (curveB A B) .n (X, Y, 0) = none :=
  run_then resO rfl

theorem negA_exec {al : Al} (hal : al = .n ∨ al = .ca) (X Y : F) :
    negA2 (curveB A B) al (X, Y) = (X, X + Y) := by
  rcases hal with rfl | rfl <;> rfl

theorem isOnA_exec (X Y : F) :
    isOnA2 (curveB A B) (X, Y) = decide (X * X * (X + A) + B = (X + Y) * Y) := by
  by_cases h : X * X * (X + A) + B = (X + Y) * Y
  · rw [decide_eq_true h]; exact run_then Prod.snd h
  · rw [decide_eq_false h]; exact run_else Prod.snd h

/-- `ec2DblLD`: `Z = 0 → O`, `X = 0` (order two) `→ O`, else dbl-2005-l -/
theorem dbl_ok {p : P3 F} {P : (Wb A B).Point}
    (hp : RepB3 A B p P) : RepB3 A B (run1 (curveB A B) ec2DblLD .n p) (P + P) := by
  obtain ⟨X, Y, Z⟩ := p
  by_cases hz : Z = 0
  · subst hz
    rw [repB3_z0 hp rfl, add_zero]; exact repB3_O (dblLD_exec_z0 X Y)
  · by_cases hx : X = 0
    · subst hx
      obtain ⟨h, rfl⟩ := repB3_nz hp hz
      have h0 : (0 : F) / Z = 0 := zero_div _
      have : ∀ (x y : F) (h : (Wb A B).Nonsingular x y), x = 0 →
          Affine.Point.some x y h + Affine.Point.some x y h = 0 := by
        intro x y h hx0; subst hx0; exact addB_order2 h
      rw [this _ _ h h0]; exact repB3_O (dblLD_exec_x0 Y Z)
    · rw [dblLD_exec X Y Z hz hx]; exact dblB_math hp hz hx

/-- `ec2DblALD`: `x = 0` (order two) `→ O`, else mdbl-2005-dl -/
theorem dbla_ok {a : P2 F} {P : (Wb A B).Point}
    (ha : RepB2 A B a P) : RepB3 A B (dbla2 (curveB A B) .n a) (P + P) := by
  obtain ⟨X, Y⟩ := a
  by_cases hx : X = 0
  · subst hx
    obtain ⟨h, rfl⟩ := ha
    rw [addB_order2 h]; exact repB3_O (dblALD_exec_x0 Y)
  · rw [dblALD_exec X Y hx]; exact dblaB_math ha hx

/-- `ec2NegLD`: `(X : XZ + Y : Z)` -/
theorem neg_ok {p : P3 F} {P : (Wb A B).Point}
    (hp : RepB3 A B p P) : RepB3 A B (run1 (curveB A B) ec2NegLD .n p) (-P) := by
  obtain ⟨X, Y, Z⟩ := p
  rw [negLD_exec]
  by_cases hz : Z = 0
  · rw [repB3_z0 hp hz, neg_zero]; exact repB3_O hz
  · obtain ⟨h, rfl⟩ := repB3_nz hp hz
    exact repB3_of_repB2 hz (RepB2_of_eq (negB_some h) rfl (by field_simp; ring))

theorem froma_ok {a : P2 F} {P : (Wb A B).Point}
    (ha : RepB2 A B a P) : RepB3 A B (froma2 (curveB A B) .n a) P := by
  obtain ⟨X, Y⟩ := a
  rw [fromALD_exec]
  exact repB3_of_repB2 one_ne_zero (RepB2_of_eq ha (by simp) (by simp))

theorem toa_ok {p : P3 F} {P : (Wb A B).Point}
    (hp : RepB3 A B p P) :
    (toa2 (curveB A B) .n p = none ↔ P = 0) ∧ ∀ b, toa2 (curveB A B) .n p = some b → RepB2 A B b P := by
  obtain ⟨X, Y, Z⟩ := p
  by_cases hz : Z = 0
  · subst hz
    rw [toALD_exec_z0]
    exact ⟨⟨fun _ => repB3_z0 hp rfl, fun _ => rfl⟩, fun b hb => (by cases hb)⟩
  · rw [toALD_exec X Y Z hz]
    obtain ⟨h, rfl⟩ := repB3_nz hp hz
    refine ⟨⟨fun hb => (by cases hb), fun hb => absurd hb (Affine.Point.some_ne_zero h)⟩, fun b hb => ?_⟩
    cases hb
    exact RepB2_of_eq ⟨h, rfl⟩ (by field_simp) (by field_simp)

theorem negA_ok {al : Al} (hal : al = .n ∨ al = .ca) {a : P2 F} {P : (Wb A B).Point}
    (ha : RepB2 A B a P) : RepB2 A B (negA2 (curveB A B) al a) (-P) := by
  obtain ⟨X, Y⟩ := a
  rw [negA_exec hal]
  obtain ⟨h, rfl⟩ := ha
  exact negB_some h

theorem isOnA_ok (a : P2 F) :
    isOnA2 (curveB A B) a = true ↔ a.2 ^ 2 + a.1 * a.2 = a.1 ^ 3 + A * a.1 ^ 2 + B := by
  obtain ⟨X, Y⟩ := a
  rw [isOnA_exec, decide_eq_true_eq]
  constructor <;> intro h <;> linear_combination -h

/-! ### concrete points over `ZMod 2` for the non-vacuity examples -/

/-- `(1, 0)` on `y² + xy = x³ + 1` over GF(2) (a point of order four; `A = 0` arm) -/
theorem ns10 : (Wb (0 : ZMod 2) 1).Nonsingular 1 0 := by rw [Wb_nonsingular]; decide

/-- `(0, 1)`, the point of order two on `y² + xy = x³ + 1` over GF(2) -/
theorem ns01 : (Wb (0 : ZMod 2) 1).Nonsingular 0 1 := by rw [Wb_nonsingular]; decide

/-- `(0, 1)`, the point of order two on `y² + xy = x³ + x² + 1` over GF(2) (`A = 1` arm) -/
theorem ns01' : (Wb (1 : ZMod 2) 1).Nonsingular 0 1 := by rw [Wb_nonsingular]; decide

theorem repB2_10 : RepB2 (0 : ZMod 2) 1 (1, 0) (.some 1 0 ns10) := ⟨ns10, rfl⟩
theorem repB2_01 : RepB2 (0 : ZMod 2) 1 (0, 1) (.some 0 1 ns01) := ⟨ns01, rfl⟩
theorem repB2_01' : RepB2 (1 : ZMod 2) 1 (0, 1) (.some 0 1 ns01') := ⟨ns01', rfl⟩

/-- `(1 : 0 : 1)` is `(1, 0)` -/
theorem repB3_10 : RepB3 (0 : ZMod 2) 1 (1, 0, 1) (.some 1 0 ns10) :=
  repB3_of_repB2 one_ne_zero (RepB2_of_eq repB2_10 (by simp) (by simp))

/-- `(0 : 1 : 1)` is `(0, 1)` -/
theorem repB3_01 : RepB3 (0 : ZMod 2) 1 (0, 1, 1) (.some 0 1 ns01) :=
  repB3_of_repB2 one_ne_zero (RepB2_of_eq repB2_01 (by simp) (by simp))

end Bee2V.C06.BUn
