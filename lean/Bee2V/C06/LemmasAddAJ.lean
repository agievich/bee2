/-
C06 — `ecpAddAJ` / `ecpSubAJ` (madd-2004-hmv): symbolic execution and the algebra.

`Spec A p q r` describes the result `r` of the mixed addition of the Jacobian triple `p` and the affine
pair `q` branch by branch (closed forms `genF`, `dblF`; for an `O` result only `Z = 0` is stated, the
X, Y words are whatever the routine left there and differ between the aliasings).  The exec theorems
show that `run2A … ecpAddAJ .n p q` satisfies `Spec A p q` and `run2A … ecpSubAJ .n p q` satisfies
`Spec A p (q.1, -q.2)` for the aliasings `.n`, `.ca`, `.cb`; a result satisfying `Spec A p q` represents `P + Q`.
-/
import Bee2V.C06.Spec
import Bee2V.C06.LemmasSub
import Mathlib.Tactic.Ring
import Mathlib.Tactic.FieldSimp
import Mathlib.Tactic.LinearCombination
namespace Bee2V.C06.AddAJ
open Bee2V.C06 WeierstrassCurve
set_option linter.unusedSectionVars false
set_option linter.unusedSimpArgs false
variable {F : Type} [Field F] [DecidableEq F] {A B : F}

/-- `t1 = xb za² − xa` -/
def t1F (X1 Z1 x2 : F) : F := Z1 * Z1 * x2 - X1
/-- `t2 = yb za³ − ya` -/
def t2F (Y1 Z1 y2 : F) : F := Z1 * Z1 * Z1 * y2 - Y1

/-- the generic branch of madd-2004-hmv -/
def genF (X1 Y1 Z1 x2 y2 : F) : P3 F :=
  let t1 := t1F X1 Z1 x2
  let t2 := t2F Y1 Z1 y2
  let t3 := t1 * t1 * X1
  let t4 := t1 * (t1 * t1)
  let x := t2 * t2 - (t3 + t3) - t4
  (x, (t3 - x) * t2 - t4 * Y1, t1 * Z1)

/-- `ecpDblAJ` (mdbl-2007-bl) of the affine point `(x, y)`, `y ≠ 0` -/
def dblF (A x y : F) : P3 F :=
  let m := x * x + x * x + x * x + A
  let s := (y * y + x) * (y * y + x) - x * x - y * y * (y * y)
  let s2 := s + s
  let x3 := m * m - (s2 + s2)
  let y4 := y * y * (y * y)
  (x3, m * (s2 - x3) - (y4 + y4 + (y4 + y4) + (y4 + y4 + (y4 + y4))), y + y)

/-- branch-by-branch description of the result `r` of `p + q` -/
structure Spec (A : F) (p : P3 F) (q : P2 F) (r : P3 F) : Prop where
  o : p.2.2 = 0 → r = (q.1, q.2, 1)
  gen : p.2.2 ≠ 0 → t1F p.1 p.2.2 q.1 ≠ 0 → r = genF p.1 p.2.1 p.2.2 q.1 q.2
  inv : p.2.2 ≠ 0 → t1F p.1 p.2.2 q.1 = 0 → t2F p.2.1 p.2.2 q.2 ≠ 0 → r.2.2 = 0
  dbl0 : p.2.2 ≠ 0 → t1F p.1 p.2.2 q.1 = 0 → t2F p.2.1 p.2.2 q.2 = 0 → q.2 = 0 → r.2.2 = 0
  dbl : p.2.2 ≠ 0 → t1F p.1 p.2.2 q.1 = 0 → t2F p.2.1 p.2.2 q.2 = 0 → q.2 ≠ 0 → r = dblF A q.1 q.2

/-! ### `ecpAddAJ` -/

theorem add_o (X1 Y1 x2 y2 : F) :
    run2A (curveF A B) ecpAddAJ .n (X1, Y1, 0) (x2, y2) = (x2, y2, 1) := by
  exact run_then res3 rfl

theorem add_gen (X1 Y1 Z1 x2 y2 : F) (hz : Z1 ≠ 0)
    (ht : Z1 * Z1 * x2 - X1 ≠ 0) :
    run2A (curveF A B) ecpAddAJ .n (X1, Y1, Z1) (x2, y2) = genF X1 Y1 Z1 x2 y2 := by
  exact (run_else res3 hz).trans ((run_else res3 ht).trans (by rfl))

theorem add_inv (X1 Y1 Z1 x2 y2 : F) (hz : Z1 ≠ 0)
    (ht : Z1 * Z1 * x2 - X1 = 0) (ht2 : Z1 * Z1 * Z1 * y2 - Y1 ≠ 0) :
    (run2A (curveF A B) ecpAddAJ .n (X1, Y1, Z1) (x2, y2)).2.2 = 0 := by
  exact (run_else resZ hz).trans ((run_then resZ ht).trans (run_else resZ ht2))

theorem add_dbl0 (X1 Y1 Z1 x2 : F) (hz : Z1 ≠ 0)
    (ht : Z1 * Z1 * x2 - X1 = 0) (ht2 : Z1 * Z1 * Z1 * 0 - Y1 = 0) :
    (run2A (curveF A B) ecpAddAJ .n (X1, Y1, Z1) (x2, 0)).2.2 = 0 := by
  exact (run_else resZ hz).trans ((run_then resZ ht).trans ((run_then resZ ht2).trans (run_then resZ rfl)))

theorem add_dbl (X1 Y1 Z1 x2 y2 : F) (hz : Z1 ≠ 0)
    (ht : Z1 * Z1 * x2 - X1 = 0) (ht2 : Z1 * Z1 * Z1 * y2 - Y1 = 0) (hy : y2 ≠ 0) :
    run2A (curveF A B) ecpAddAJ .n (X1, Y1, Z1) (x2, y2) = dblF A x2 y2 := by
  exact (run_else res3 hz).trans ((run_then res3 ht).trans ((run_then res3 ht2).trans ((run_else res3 hy).trans (by rfl))))

theorem add_spec (p : P3 F) (q : P2 F) :
    Spec A p q (run2A (curveF A B) ecpAddAJ .n p q) := by
  obtain ⟨X1, Y1, Z1⟩ := p
  obtain ⟨x2, y2⟩ := q
  refine ⟨?_, ?_, ?_, ?_, ?_⟩
  · rintro (rfl : Z1 = 0); exact add_o ..
  · exact fun hz ht => add_gen _ _ _ _ _ hz ht
  · exact fun hz ht ht2 => add_inv _ _ _ _ _ hz ht ht2
  · rintro hz ht ht2 (rfl : y2 = 0); exact add_dbl0 _ _ _ _ hz ht ht2
  · exact fun hz ht ht2 hy => add_dbl _ _ _ _ _ hz ht ht2 hy

/-- `ecpSubAJ`: `t <- (xb, −yb)` at the scratch base, then `ecpAddAJ(c, a, t)` (`LemmasSub`) -/
theorem sub_spec (p : P3 F) (q : P2 F) :
    Spec A p (q.1, -q.2) (run2A (curveF A B) ecpSubAJ .n p q) := by
  rw [subAJ_n]; exact add_spec p _

/-- a triple with `Z = 0` stands for `O` -/
theorem rep3_zero {r : P3 F} (h : r.2.2 = 0) : Rep3 A B r 0 := by
  unfold Rep3; rw [if_pos h]

/-- a triple `(x Z², y Z³, Z)`, `Z ≠ 0`, stands for `(x, y)` -/
theorem rep3_scaled {x y Z : F} {P : (Wc A B).Point} (hz : Z ≠ 0) (h : Rep2 A B (x, y) P) :
    Rep3 A B (x * Z ^ 2, y * Z ^ 3, Z) P := by
  unfold Rep3; rw [if_neg hz]
  exact Rep2_of_eq h (by field_simp) (by field_simp)

theorem rep3_of_rep2 {X Y Z : F} {P : (Wc A B).Point} (hz : Z ≠ 0)
    (h : Rep2 A B (X / Z ^ 2, Y / Z ^ 3) P) : Rep3 A B (X, Y, Z) P := by
  unfold Rep3; rw [if_neg hz]; exact h

/-- `a = O`: the result `(xb : yb : 1)` -/
theorem alg_o {x2 y2 : F} {Q : (Wc A B).Point} (hq : Rep2 A B (x2, y2) Q) :
    Rep3 A B (x2, y2, 1) (0 + Q) := by
  rw [zero_add]
  exact rep3_of_rep2 one_ne_zero (Rep2_of_eq hq (by simp) (by simp))

/-- generic branch: chord -/
theorem alg_gen {x1 y1 Z1 x2 y2 : F} (h₁ : (Wc A B).Nonsingular x1 y1) (h₂ : (Wc A B).Nonsingular x2 y2)
    (hz : Z1 ≠ 0) (hx : x1 ≠ x2) :
    Rep3 A B (genF (x1 * Z1 ^ 2) (y1 * Z1 ^ 3) Z1 x2 y2)
      (Affine.Point.some x1 y1 h₁ + Affine.Point.some x2 y2 h₂) := by
  have hd : x1 - x2 ≠ 0 := sub_ne_zero.2 hx
  have ht : Z1 * Z1 * x2 - x1 * Z1 ^ 2 ≠ 0 := by
    have : Z1 * Z1 * x2 - x1 * Z1 ^ 2 = -(Z1 ^ 2 * (x1 - x2)) := by ring
    rw [this]; exact neg_ne_zero.2 (mul_ne_zero (pow_ne_zero 2 hz) hd)
  unfold genF t1F t2F
  refine rep3_of_rep2 (mul_ne_zero ht hz) (Rep2_of_eq (add_chord h₁ h₂ hx) ?_ ?_)
  · field_simp; ring
  · field_simp; ring

/-- mdbl-2007-bl against the tangent formulas, denominator `d = y + y` kept as an atom -/
theorem dbl_x (A x y d : F) (hd : d ≠ 0) (e : d = y + y) :
    ((3 * x ^ 2 + A) / d) ^ 2 - x - x = (dblF A x y).1 / d ^ 2 := by
  unfold dblF; field_simp; subst e; ring

theorem dbl_y (A x y d : F) (hd : d ≠ 0) (e : d = y + y) :
    ((3 * x ^ 2 + A) / d) * (x - (((3 * x ^ 2 + A) / d) ^ 2 - x - x)) - y = (dblF A x y).2.1 / d ^ 3 := by
  unfold dblF; field_simp; subst e; ring

/-- doubling branch: tangent at the affine `b` -/
theorem alg_dbl {x y : F} (h2 : (2 : F) ≠ 0) (h : (Wc A B).Nonsingular x y) (hy : y ≠ 0) :
    Rep3 A B (dblF A x y) (Affine.Point.some x y h + Affine.Point.some x y h) := by
  have hyy : y + y ≠ 0 := by rw [← two_mul]; exact mul_ne_zero h2 hy
  exact rep3_of_rep2 (X := (dblF A x y).1) (Y := (dblF A x y).2.1) (Z := y + y) hyy
    (Rep2_of_eq (add_tangent h hyy) (dbl_x A x y _ hyy rfl) (dbl_y A x y _ hyy rfl))

/-- a result described by `Spec` represents the sum, in every case -/
theorem spec_correct (h2 : (2 : F) ≠ 0) {p : P3 F} {q : P2 F} {r : P3 F} {P Q : (Wc A B).Point}
    (hs : Spec A p q r) (hp : Rep3 A B p P) (hq : Rep2 A B q Q) : Rep3 A B r (P + Q) := by
  obtain ⟨X1, Y1, Z1⟩ := p
  obtain ⟨x2, y2⟩ := q
  by_cases hz : Z1 = 0
  · unfold Rep3 at hp; rw [if_pos hz] at hp; subst hp
    rw [hs.o hz]; exact alg_o hq
  · obtain ⟨x1, rfl⟩ : ∃ x1, X1 = x1 * Z1 ^ 2 := ⟨X1 / Z1 ^ 2, by field_simp⟩
    obtain ⟨y1, rfl⟩ : ∃ y1, Y1 = y1 * Z1 ^ 3 := ⟨Y1 / Z1 ^ 3, by field_simp⟩
    unfold Rep3 at hp; rw [if_neg hz] at hp
    obtain ⟨h₁, rfl⟩ := Rep2_of_eq (x' := x1) (y' := y1) hp (by field_simp) (by field_simp)
    obtain ⟨h₂, rfl⟩ := hq
    have e1 : t1F (x1 * Z1 ^ 2) Z1 x2 = Z1 ^ 2 * (x2 - x1) := by unfold t1F; ring
    have e2 : t2F (y1 * Z1 ^ 3) Z1 y2 = Z1 ^ 3 * (y2 - y1) := by unfold t2F; ring
    by_cases hx : x1 = x2
    · subst hx
      have ht1 : t1F (x1 * Z1 ^ 2) Z1 x1 = 0 := by rw [e1, sub_self, mul_zero]
      by_cases hy : y1 = y2
      · subst hy
        have ht2 : t2F (y1 * Z1 ^ 3) Z1 y1 = 0 := by rw [e2, sub_self, mul_zero]
        by_cases y0 : y1 = 0
        · rw [add_inverse h₁ h₂ rfl (by rw [y0, neg_zero])]
          exact rep3_zero (hs.dbl0 hz ht1 ht2 y0)
        · rw [hs.dbl hz ht1 ht2 y0]; exact alg_dbl h2 h₁ y0
      · have ht2 : t2F (y1 * Z1 ^ 3) Z1 y2 ≠ 0 := by
          rw [e2]; exact mul_ne_zero (pow_ne_zero 3 hz) (sub_ne_zero.2 (Ne.symm hy))
        rcases y_eq_or_neg h₁ h₂ with e | e
        · exact absurd e hy
        · rw [add_inverse h₁ h₂ rfl e]
          exact rep3_zero (hs.inv hz ht1 ht2)
    · have ht1 : t1F (x1 * Z1 ^ 2) Z1 x2 ≠ 0 := by
        rw [e1]; exact mul_ne_zero (pow_ne_zero 2 hz) (sub_ne_zero.2 (Ne.symm hx))
      rw [hs.gen hz ht1]; exact alg_gen h₁ h₂ hz hx

end Bee2V.C06.AddAJ
