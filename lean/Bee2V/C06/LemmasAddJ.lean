/-
C06 — ecpAddJ / ecpSubJ.  Symbolic execution of `run2 (curveF A B) ecpAddJ al` per branch for distinct buffers and for
`c == a`, where the text of the routine differs (`c == b`, `a == b` are the call on distinct buffers: `run2_al`, `run2_same`;
`ecpSubJ(c, a, b)` writes `t = (X2, -Y2, Z2)` into the scratch and calls `ecpAddJ(c, a, t)`: `LemmasSub`); the
algebra: the closed forms `addG` (chord) and `dblG` (tangent) represent
the sums Mathlib's group law gives; `add_core`: the case analysis of the group law against the branch behaviour
of the program, instantiated by `add_ok`, `sub_ok`, `sub_self_ok`.
-/
import Bee2V.C06.Spec
import Bee2V.C06.LemmasSub
import Mathlib.Tactic.Ring
import Mathlib.Tactic.FieldSimp
import Mathlib.Tactic.LinearCombination
import Mathlib.Tactic.NormNum
namespace Bee2V.C06.AddJ
open WeierstrassCurve
set_option linter.unusedSimpArgs false
set_option linter.unusedVariables false
set_option linter.unusedSectionVars false
variable {F : Type} [Field F] [DecidableEq F] {A B : F}

/-- `H = U2 - U1` as the program computes it -/
def hh (X1 Z1 X2 Z2 : F) : F := X2 * (Z1 * Z1) - X1 * (Z2 * Z2)
/-- `S1`, `S2` -/
def s1 (Y1 Z2 : F) : F := Y1 * (Z2 * (Z2 * Z2))

/-- closed form of the generic branch of `ecpAddJ` (add-2007-bl) -/
def addG (X1 Y1 Z1 X2 Y2 Z2 : F) : P3 F :=
  let U1 := X1 * (Z2 * Z2)
  let S1 := Y1 * (Z2 * (Z2 * Z2))
  let S2 := Y2 * (Z1 * (Z1 * Z1))
  let H := X2 * (Z1 * Z1) - U1
  let r := (S2 - S1) + (S2 - S1)
  let I := (H + H) * (H + H)
  let J := H * I
  let V := U1 * I
  let X3 := r * r - J - (V + V)
  (X3, r * (V - X3) - (S1 + S1) * J, ((Z1 + Z2) * (Z1 + Z2) - Z1 * Z1 - Z2 * Z2) * H)

/-- closed form of the generic branch of `ecpDblJ` (dbl-1998-hnm) -/
def dblG (A X Y Z : F) : P3 F :=
  let M := A * (Z * Z * (Z * Z)) + X * X + (X * X + X * X)
  let Y2 := (Y + Y) * (Y + Y)
  let T := Y2 * Y2 / 2
  let S := Y2 * X
  let X3 := M * M - S - S
  (X3, (S - X3) * M - T, Y * Z + Y * Z)

theorem add_exec_aO {al : Al} (hal : al = .n ∨ al = .ca) (X1 Y1 Z1 X2 Y2 Z2 : F) (h1 : Z1 = 0) :
    run2 (curveF A B) ecpAddJ al (X1, Y1, Z1) (X2, Y2, Z2) = (X2, Y2, Z2) := by
  rcases hal with rfl | rfl <;> exact run_then res3 h1

theorem add_exec_bO {al : Al} (hal : al = .n ∨ al = .ca) (X1 Y1 Z1 X2 Y2 Z2 : F) (h1 : Z1 ≠ 0) (h2 : Z2 = 0) :
    run2 (curveF A B) ecpAddJ al (X1, Y1, Z1) (X2, Y2, Z2) = (X1, Y1, Z1) := by
  rcases hal with rfl | rfl <;> exact (run_else res3 h1).trans (run_then res3 h2)

theorem add_exec_gen {al : Al} (hal : al = .n ∨ al = .ca) (X1 Y1 Z1 X2 Y2 Z2 : F)
    (h1 : Z1 ≠ 0) (h2 : Z2 ≠ 0) (hH : hh X1 Z1 X2 Z2 ≠ 0) :
    run2 (curveF A B) ecpAddJ al (X1, Y1, Z1) (X2, Y2, Z2) = addG X1 Y1 Z1 X2 Y2 Z2 := by
  rcases hal with rfl | rfl <;>
    exact (run_else res3 h1).trans ((run_else res3 h2).trans ((run_else res3 hH).trans (by rfl)))

theorem add_exec_opp {al : Al} (hal : al = .n ∨ al = .ca) (X1 Y1 Z1 X2 Y2 Z2 : F)
    (h1 : Z1 ≠ 0) (h2 : Z2 ≠ 0) (hH : hh X1 Z1 X2 Z2 = 0) (hS : s1 Y1 Z2 ≠ s1 Y2 Z1) :
    (run2 (curveF A B) ecpAddJ al (X1, Y1, Z1) (X2, Y2, Z2)).2.2 = 0 := by
  rcases hal with rfl | rfl <;>
    exact (run_else resZ h1).trans ((run_else resZ h2).trans ((run_then resZ hH).trans (run_else resZ hS)))

/-- `a = b` inside the fall-through, `c ≠ a`: `ecpDblJ(c, a)` -/
theorem add_exec_eq_a (X1 Y1 Z1 X2 Y2 Z2 : F)
    (h1 : Z1 ≠ 0) (h2 : Z2 ≠ 0) (hH : hh X1 Z1 X2 Z2 = 0) (hS : s1 Y1 Z2 = s1 Y2 Z1) (hY : Y1 ≠ 0) :
    run2 (curveF A B) ecpAddJ .n (X1, Y1, Z1) (X2, Y2, Z2) = dblG A X1 Y1 Z1 :=
  (run_else res3 h1).trans ((run_else res3 h2).trans ((run_then res3 hH).trans ((run_then res3 hS).trans
      ((run_else res3 h1).trans ((run_else res3 hY).trans (by rfl))))))

theorem add_exec_eq_a0 (X1 Y1 Z1 X2 Y2 Z2 : F)
    (h1 : Z1 ≠ 0) (h2 : Z2 ≠ 0) (hH : hh X1 Z1 X2 Z2 = 0) (hS : s1 Y1 Z2 = s1 Y2 Z1) (hY : Y1 = 0) :
    (run2 (curveF A B) ecpAddJ .n (X1, Y1, Z1) (X2, Y2, Z2)).2.2 = 0 :=
  (run_else resZ h1).trans ((run_else resZ h2).trans ((run_then resZ hH).trans ((run_then resZ hS).trans
      ((run_else resZ h1).trans (run_then resZ hY)))))

/-- `a = b` inside the fall-through, `c == a`: `ecpDblJ(c, b)` -/
theorem add_exec_eq_b (X1 Y1 Z1 X2 Y2 Z2 : F)
    (h1 : Z1 ≠ 0) (h2 : Z2 ≠ 0) (hH : hh X1 Z1 X2 Z2 = 0) (hS : s1 Y1 Z2 = s1 Y2 Z1) (hY : Y2 ≠ 0) :
    run2 (curveF A B) ecpAddJ .ca (X1, Y1, Z1) (X2, Y2, Z2) = dblG A X2 Y2 Z2 :=
  (run_else res3 h1).trans ((run_else res3 h2).trans ((run_then res3 hH).trans ((run_then res3 hS).trans
    ((run_else res3 h2).trans ((run_else res3 hY).trans (by rfl))))))

theorem add_exec_eq_b0 (X1 Y1 Z1 X2 Y2 Z2 : F)
    (h1 : Z1 ≠ 0) (h2 : Z2 ≠ 0) (hH : hh X1 Z1 X2 Z2 = 0) (hS : s1 Y1 Z2 = s1 Y2 Z1) (hY : Y2 = 0) :
    (run2 (curveF A B) ecpAddJ .ca (X1, Y1, Z1) (X2, Y2, Z2)).2.2 = 0 :=
  (run_else resZ h1).trans ((run_else resZ h2).trans ((run_then resZ hH).trans ((run_then resZ hS).trans
    ((run_else resZ h2).trans (run_then resZ hY)))))

/-! ### the algebra -/

theorem rep3_O {X Y Z : F} {P : (Wc A B).Point} (hz : Z = 0) (h : Rep3 A B (X, Y, Z) P) : P = 0 := by
  subst hz; simpa [Rep3] using h

theorem rep3_zero {p : P3 F} (hz : p.2.2 = 0) : Rep3 A B p 0 := by
  simp [Rep3, hz]

theorem rep3_nz {X Y Z : F} {P : (Wc A B).Point} (hz : Z ≠ 0) (h : Rep3 A B (X, Y, Z) P) :
    ∃ x y, ∃ hns : (Wc A B).Nonsingular x y, X = x * Z ^ 2 ∧ Y = y * Z ^ 3 ∧ P = .some x y hns := by
  simp only [Rep3, hz, if_false] at h
  obtain ⟨hns, hP⟩ := h
  exact ⟨_, _, hns, by field_simp, by field_simp, hP⟩

theorem rep3_of_rep2 {p : P3 F} {x y : F} {P : (Wc A B).Point} (hz : p.2.2 ≠ 0) (h : Rep2 A B (x, y) P)
    (hx : p.1 = x * p.2.2 ^ 2) (hy : p.2.1 = y * p.2.2 ^ 3) : Rep3 A B p P := by
  simp only [Rep3, hz, if_false]
  exact Rep2_of_eq h (by rw [hx]; field_simp) (by rw [hy]; field_simp)

theorem rep3_neg {X Y Z : F} {P : (Wc A B).Point} (h : Rep3 A B (X, Y, Z) P) : Rep3 A B (X, -Y, Z) (-P) := by
  by_cases hz : Z = 0
  · have := rep3_O hz h; subst this; rw [neg_zero]; exact rep3_zero hz
  · obtain ⟨x, y, hns, rfl, rfl, rfl⟩ := rep3_nz hz h
    exact rep3_of_rep2 hz (neg_some hns) rfl (by ring)

theorem hh_affine (x1 Z1 x2 Z2 : F) :
    hh (x1 * Z1 ^ 2) Z1 (x2 * Z2 ^ 2) Z2 = Z1 ^ 2 * Z2 ^ 2 * (x2 - x1) := by
  unfold hh; ring

theorem s1_affine (y1 Z1 y2 Z2 : F) :
    s1 (y1 * Z1 ^ 3) Z2 - s1 (y2 * Z2 ^ 3) Z1 = Z1 ^ 3 * Z2 ^ 3 * (y1 - y2) := by
  unfold s1; ring

theorem s1_zero_iff {Y1 Z1 Y2 Z2 : F} (h1 : Z1 ≠ 0) (h2 : Z2 ≠ 0) (hS : s1 Y1 Z2 = s1 Y2 Z1) :
    Y1 = 0 ↔ Y2 = 0 := by
  unfold s1 at hS
  constructor
  · intro h; subst h
    have : Y2 * (Z1 * (Z1 * Z1)) = 0 := by rw [← hS]; ring
    simpa [h1] using this
  · intro h; subst h
    have : Y1 * (Z2 * (Z2 * Z2)) = 0 := by rw [hS]; ring
    simpa [h2] using this

/-- chord -/
theorem addG_rep {x1 y1 Z1 x2 y2 Z2 : F} (h2 : (2 : F) ≠ 0) (hz1 : Z1 ≠ 0) (hz2 : Z2 ≠ 0)
    (hn1 : (Wc A B).Nonsingular x1 y1) (hn2 : (Wc A B).Nonsingular x2 y2) (hx : x1 ≠ x2) :
    Rep3 A B (addG (x1 * Z1 ^ 2) (y1 * Z1 ^ 3) Z1 (x2 * Z2 ^ 2) (y2 * Z2 ^ 3) Z2)
      (Affine.Point.some x1 y1 hn1 + Affine.Point.some x2 y2 hn2) := by
  have hd : x1 - x2 ≠ 0 := sub_ne_zero.2 hx
  have hd' : x2 - x1 ≠ 0 := sub_ne_zero.2 (Ne.symm hx)
  have hZ : (addG (x1 * Z1 ^ 2) (y1 * Z1 ^ 3) Z1 (x2 * Z2 ^ 2) (y2 * Z2 ^ 3) Z2).2.2
      = 2 * Z1 ^ 3 * Z2 ^ 3 * (x2 - x1) := by
    simp only [addG]; ring
  refine rep3_of_rep2 ?_ (add_chord hn1 hn2 hx) ?_ ?_
  · rw [hZ]; exact mul_ne_zero (mul_ne_zero (mul_ne_zero h2 (pow_ne_zero _ hz1)) (pow_ne_zero _ hz2)) hd'
  · rw [hZ]; simp only [addG]; field_simp; ring
  · rw [hZ]; simp only [addG]; field_simp; ring

/-- tangent -/
theorem dblG_rep {x y Z : F} (h2 : (2 : F) ≠ 0) (hz : Z ≠ 0) (hn : (Wc A B).Nonsingular x y) (hy : y ≠ 0) :
    Rep3 A B (dblG A (x * Z ^ 2) (y * Z ^ 3) Z) (Affine.Point.some x y hn + Affine.Point.some x y hn) := by
  have hyy : y + y ≠ 0 := by rw [← two_mul]; exact mul_ne_zero h2 hy
  have hZ : (dblG A (x * Z ^ 2) (y * Z ^ 3) Z).2.2 = 2 * y * Z ^ 4 := by
    simp only [dblG]; ring
  have h4 : (4 : F) ≠ 0 := by
    have : (4 : F) = 2 * 2 := by norm_num
    rw [this]; exact mul_ne_zero h2 h2
  have e : y + y = 2 * y := (two_mul y).symm
  refine rep3_of_rep2 ?_ (add_tangent hn hyy) ?_ ?_
  · rw [hZ]; exact mul_ne_zero (mul_ne_zero h2 hy) (pow_ne_zero _ hz)
  · rw [hZ]; simp only [dblG]; rw [e]; field_simp; ring
  · rw [hZ]; simp only [dblG]; rw [e]; field_simp; ring

/-- a point of order two: `y = 0` -/
theorem dbl_order2 {x y : F} (hn : (Wc A B).Nonsingular x y) (hy : y = 0) :
    Affine.Point.some x y hn + Affine.Point.some x y hn = 0 :=
  add_inverse hn hn rfl (by rw [hy, neg_zero])

/-! ### assembly -/

theorem add_core {X1 Y1 Z1 X2 Y2 Z2 : F} {r : P3 F} {P Q : (Wc A B).Point} (h2 : (2 : F) ≠ 0)
    (hp : Rep3 A B (X1, Y1, Z1) P) (hq : Rep3 A B (X2, Y2, Z2) Q)
    (eaO : Z1 = 0 → r = (X2, Y2, Z2))
    (ebO : Z1 ≠ 0 → Z2 = 0 → r = (X1, Y1, Z1))
    (egen : Z1 ≠ 0 → Z2 ≠ 0 → hh X1 Z1 X2 Z2 ≠ 0 → r = addG X1 Y1 Z1 X2 Y2 Z2)
    (eopp : Z1 ≠ 0 → Z2 ≠ 0 → hh X1 Z1 X2 Z2 = 0 → s1 Y1 Z2 ≠ s1 Y2 Z1 → r.2.2 = 0)
    (eeq0 : Z1 ≠ 0 → Z2 ≠ 0 → hh X1 Z1 X2 Z2 = 0 → s1 Y1 Z2 = s1 Y2 Z1 → Y1 = 0 → Y2 = 0 → r.2.2 = 0)
    (eeq : Z1 ≠ 0 → Z2 ≠ 0 → hh X1 Z1 X2 Z2 = 0 → s1 Y1 Z2 = s1 Y2 Z1 → Y1 ≠ 0 → Y2 ≠ 0 →
      r = dblG A X1 Y1 Z1 ∨ r = dblG A X2 Y2 Z2) :
    Rep3 A B r (P + Q) := by
  by_cases h1 : Z1 = 0
  · rw [eaO h1, rep3_O h1 hp, zero_add]; exact hq
  by_cases h2' : Z2 = 0
  · rw [ebO h1 h2', rep3_O h2' hq, add_zero]; exact hp
  obtain ⟨x1, y1, hn1, rfl, rfl, rfl⟩ := rep3_nz h1 hp
  obtain ⟨x2, y2, hn2, rfl, rfl, rfl⟩ := rep3_nz h2' hq
  have hzz : Z1 ^ 2 * Z2 ^ 2 ≠ 0 := mul_ne_zero (pow_ne_zero _ h1) (pow_ne_zero _ h2')
  have hzz3 : Z1 ^ 3 * Z2 ^ 3 ≠ 0 := mul_ne_zero (pow_ne_zero _ h1) (pow_ne_zero _ h2')
  by_cases hH : hh (x1 * Z1 ^ 2) Z1 (x2 * Z2 ^ 2) Z2 = 0
  · have hx : x1 = x2 := by
      have h := hH
      rw [hh_affine] at h
      exact (sub_eq_zero.1 ((mul_eq_zero.1 h).resolve_left hzz)).symm
    subst hx
    by_cases hS : s1 (y1 * Z1 ^ 3) Z2 = s1 (y2 * Z2 ^ 3) Z1
    · have hy : y1 = y2 := by
        have h := s1_affine y1 Z1 y2 Z2
        rw [hS, sub_self] at h
        exact sub_eq_zero.1 ((mul_eq_zero.1 h.symm).resolve_left hzz3)
      subst hy
      by_cases hy0 : y1 = 0
      · rw [dbl_order2 hn1 hy0]
        exact rep3_zero (eeq0 h1 h2' hH hS (by rw [hy0, zero_mul]) (by rw [hy0, zero_mul]))
      · have hY1 : y1 * Z1 ^ 3 ≠ 0 := mul_ne_zero hy0 (pow_ne_zero _ h1)
        have hY2 : y1 * Z2 ^ 3 ≠ 0 := mul_ne_zero hy0 (pow_ne_zero _ h2')
        rcases eeq h1 h2' hH hS hY1 hY2 with e | e
        · rw [e]; exact dblG_rep h2 h1 hn1 hy0
        · rw [e]; exact dblG_rep h2 h2' hn2 hy0
    · have hy : y1 = -y2 := by
        rcases y_eq_or_neg hn1 hn2 with e | e
        · exact absurd (by rw [e]; unfold s1; ring) hS
        · exact e
      rw [add_inverse hn1 hn2 rfl hy]
      exact rep3_zero (eopp h1 h2' hH hS)
  · have hx : x1 ≠ x2 := by
      intro e; apply hH; rw [hh_affine, e, sub_self, mul_zero]
    rw [egen h1 h2' hH]
    exact addG_rep h2 h1 h2' hn1 hn2 hx

theorem add_ok {al : Al} (h2 : (2 : F) ≠ 0) (hal : al = .n ∨ al = .ca) {p q : P3 F}
    {P Q : (Wc A B).Point} (hp : Rep3 A B p P) (hq : Rep3 A B q Q) :
    Rep3 A B (run2 (curveF A B) ecpAddJ al p q) (P + Q) := by
  obtain ⟨X1, Y1, Z1⟩ := p; obtain ⟨X2, Y2, Z2⟩ := q
  refine add_core h2 hp hq (add_exec_aO hal X1 Y1 Z1 X2 Y2 Z2) (add_exec_bO hal X1 Y1 Z1 X2 Y2 Z2)
    (add_exec_gen hal X1 Y1 Z1 X2 Y2 Z2) (add_exec_opp hal X1 Y1 Z1 X2 Y2 Z2) ?_ ?_
  · intro h1 h2' hH hS hY1 hY2
    rcases hal with rfl | rfl
    · exact add_exec_eq_a0 X1 Y1 Z1 X2 Y2 Z2 h1 h2' hH hS hY1
    · exact add_exec_eq_b0 X1 Y1 Z1 X2 Y2 Z2 h1 h2' hH hS hY2
  · intro h1 h2' hH hS hY1 hY2
    rcases hal with rfl | rfl
    · exact Or.inl (add_exec_eq_a X1 Y1 Z1 X2 Y2 Z2 h1 h2' hH hS hY1)
    · exact Or.inr (add_exec_eq_b X1 Y1 Z1 X2 Y2 Z2 h1 h2' hH hS hY2)

/-- `ecpSubJ` is `ecpAddJ` on `(X2, -Y2, Z2)` (`LemmasSub`) -/
theorem sub_ok {al : Al} (h2 : (2 : F) ≠ 0) (hal : al = .n ∨ al = .ca) {p q : P3 F}
    {P Q : (Wc A B).Point} (hp : Rep3 A B p P) (hq : Rep3 A B q Q) :
    Rep3 A B (run2 (curveF A B) ecpSubJ al p q) (P - Q) := by
  obtain ⟨X2, Y2, Z2⟩ := q
  rw [sub_eq_add_neg]
  rcases hal with rfl | rfl
  · rw [subJ_n]; exact add_ok h2 (.inl rfl) hp (rep3_neg hq)
  · rw [subJ_ca]; exact add_ok h2 (.inr rfl) hp (rep3_neg hq)

/-- `a - a` is `O` whatever the triple is (no hypothesis on `p` is needed) -/
theorem sub_self_ok (h2 : (2 : F) ≠ 0) (p : P3 F) :
    Rep3 A B (run2 (curveF A B) ecpSubJ .n p p) 0 := by
  obtain ⟨X1, Y1, Z1⟩ := p
  apply rep3_zero
  rw [subJ_n]
  show (run2 (curveF A B) ecpAddJ .n (X1, Y1, Z1) (X1, -Y1, Z1)).2.2 = 0
  by_cases h1 : Z1 = 0
  · rw [add_exec_aO (.inl rfl) _ _ _ _ _ _ h1]; exact h1
  have hH : hh X1 Z1 X1 Z1 = 0 := sub_self _
  by_cases hY : Y1 = 0
  · exact add_exec_eq_a0 _ _ _ _ _ _ h1 h1 hH (by rw [hY, neg_zero]) hY
  · refine add_exec_opp (.inl rfl) _ _ _ _ _ _ h1 h1 hH fun e => ?_
    unfold s1 at e
    have h : 2 * (Y1 * (Z1 * (Z1 * Z1))) = 0 := by linear_combination e
    simp [h2, hY, h1] at h

/-! data for the non-vacuity examples of `PropsAddJ`: `y² = x³ + 1` over `ℚ` -/
theorem ns23 : (Wc (0 : ℚ) 1).Nonsingular 2 3 :=
  (Wc_nonsingular _ _ _ _).2 ⟨by norm_num, Or.inr (by norm_num)⟩
theorem ns01 : (Wc (0 : ℚ) 1).Nonsingular 0 1 :=
  (Wc_nonsingular _ _ _ _).2 ⟨by norm_num, Or.inr (by norm_num)⟩
theorem nsm10 : (Wc (0 : ℚ) 1).Nonsingular (-1) 0 :=
  (Wc_nonsingular _ _ _ _).2 ⟨by norm_num, Or.inl (by norm_num)⟩
theorem rep23 : Rep3 (0 : ℚ) 1 (8, 24, 2) (.some 2 3 ns23) :=
  rep3_of_rep2 (by norm_num) ⟨ns23, rfl⟩ (by norm_num) (by norm_num)
theorem rep01 : Rep3 (0 : ℚ) 1 (0, 1, 1) (.some 0 1 ns01) :=
  rep3_of_rep2 (by norm_num) ⟨ns01, rfl⟩ (by norm_num) (by norm_num)
theorem repm10 : Rep3 (0 : ℚ) 1 (-1, 0, 1) (.some (-1) 0 nsm10) :=
  rep3_of_rep2 (by norm_num) ⟨nsm10, rfl⟩ (by norm_num) (by norm_num)

end Bee2V.C06.AddJ
