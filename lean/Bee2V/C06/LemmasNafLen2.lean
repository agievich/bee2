/-
C06 — NAF layer, part 5: the length invariant along the whole loop (`nafLoopAll_lenInv`), the final state
(`wwNAF_final`) with its two summaries `wwNAF_spec` (value) and `wwNAFLen_spec` (length), and the read positions of
the decoder (`ReadsOk`).
-/
import Bee2V.C06.LemmasNafLen
namespace Bee2V.C06.MulL
open Bee2V.C06

theorem nafLoopAll_lenInv {d w : Nat} (hw : 2 ≤ w) : ∀ (fuel : Nat) (st : NafSt) (len : Nat),
    LenInv d w st len → nafLoopAll (LenInv d w) d w (bitSize d) fuel (w + st.size) st len := by
  intro fuel
  induction fuel with
  | zero => intro st len h; exact h
  | succ n ih =>
    intro st len h
    refine ⟨h, fun hnt => ?_⟩
    have := ih _ _ (lenInv_step hw h hnt)
    rwa [nafStep_size, ← Nat.add_assoc] at this

/-- the loop has ended by its test: the fuel of the model suffices -/
theorem wwNAF_final {d w : Nat} (hw : 2 ≤ w) (hd : 0 < d) :
    ∃ (r : NafSt) (len : Nat), wwNAF d w = (r.size, r.naf) ∧ wwNAFLen d w = len ∧ LenInv d w r len ∧
      r.window = 0 ∧ bitSize d ≤ w + r.size := by
  have hd0 : d ≠ 0 := by omega
  have h0 := lenInv_init hw hd0
  have hf := nafLoopAll_final _ _ _ _ _ _ _ (nafLoopAll_lenInv hw (bitSize d + w + 2) _ _ h0)
  have hterm := nafLoop_term hw (bitSize d + w + 2) h0.inv (mu_init hw)
  simp only [Nat.add_zero] at hf hterm
  have hfst := nafLoopLen_fst d w (bitSize d) (bitSize d + w + 2) w
    { window := d % 2 ^ w, naf := 0, size := 0 } 0
  rw [← hfst] at hterm
  refine ⟨_, _, ?_, ?_, hf, hterm.1, hterm.2⟩
  · unfold wwNAF; rw [if_neg hd0, hfst]
  · unfold wwNAFLen; rw [if_neg hd0]

/-- **wwNAF**: the digit string of `wwNAF d w`, read as `ecMulA` reads it, has value `d`; its first
    (most significant) code is odd and positive -/
theorem wwNAF_spec {d w : Nat} (hw : 2 ≤ w) (hd : 0 < d) :
    nafVal (decode w (wwNAF d w).2 (wwNAF d w).1 0) = d ∧ 0 < (wwNAF d w).1 ∧
    getBits (wwNAF d w).2 0 w % 2 = 1 ∧ getBits (wwNAF d w).2 0 w < 2 ^ (w - 1) := by
  obtain ⟨r, len, e, _, hf, hz, hb⟩ := wwNAF_final hw hd
  have hv := hf.inv.val
  rw [hz, (shr_eq_zero_iff d _).2 hb] at hv
  simp only [Nat.cast_zero, mul_zero, add_zero] at hv
  rw [e]
  exact ⟨hv.symm, hf.inv.top hz hb⟩

/-- everything about the final state of the instrumented `wwNAF` -/
theorem wwNAFLen_spec {d w : Nat} (hw : 2 ≤ w) (hd : 0 < d) :
    (wwNAF d w).1 ≤ bitSize d + 1 ∧
    wwNAFLen d w + 2 ≤ 2 * (wwNAF d w).1 + w ∧
    (wwNAF d w).2 < 2 ^ wwNAFLen d w ∧
    wwNAFLen d w = digitsLen w (decode w (wwNAF d w).2 (wwNAF d w).1 0) := by
  obtain ⟨r, len, e, e', hf, hz, hb⟩ := wwNAF_final hw hd
  have := hf.sz
  rw [e, e']
  exact ⟨by show r.size ≤ _; omega, hf.fin hz hb, hf.packed, hf.dlen⟩

/-- the reads of the decoder (= of `ecMulA`): a non-zero digit at position `i` occupies `[i, i+w)`,
    a zero digit `[i, i+1)`; all inside the first `bound` bits -/
def ReadsOk (w naf bound : Nat) : Nat → Nat → Prop
  | 0, _ => True
  | k + 1, i =>
    if getBits naf i w % 2 = 1 then i + w ≤ bound ∧ ReadsOk w naf bound k (i + w)
    else i + 1 ≤ bound ∧ ReadsOk w naf bound k (i + 1)

theorem readsOk_decode {w : Nat} (hw : 2 ≤ w) (naf : Nat) : ∀ (k i : Nat),
    ReadsOk w naf (i + digitsLen w (decode w naf k i)) k i := by
  intro k
  induction k with
  | zero => intro i; trivial
  | succ k ih =>
    intro i
    unfold ReadsOk decode
    simp only
    split
    · rename_i hodd
      rw [digitsLen, if_neg (sval_ne_zero hw hodd), ← Nat.add_assoc]
      exact ⟨Nat.le_add_right _ _, ih _⟩
    · rw [digitsLen, if_pos rfl, ← Nat.add_assoc]
      exact ⟨Nat.le_add_right _ _, ih _⟩

end Bee2V.C06.MulL
