/-
C06, phase 3 — one `Placeable` fact per routine of `ecp.c` and `ec2.c`, for all the aliasing patterns under which its
canonical program is `Prog.safe` (at least those its header allows); `ecpAddJ`, `ecpSubJ` without `c == a`: their text
depends on it (the fall-through `ecpDblJ(c, c == a ? b : a)`).  Then in place = not in place for the wrappers with a
fixed routine.  No Mathlib.
-/
import Bee2V.C06.LemmasPlace3
namespace Bee2V.C06

theorem ecpNegJ_pl : Placeable (fun c a _ _ => ecpNegJ c a) 3 3 0 (fun _ => false) [2, 3, 4] D1 [.n, .ca] :=
  ⟨fun c a b s _ => by place_map, by decide +kernel⟩

theorem ecpDblJ_pl : Placeable (fun c a _ s => ecpDblJ c a s) 3 3 0 (fun _ => false) [2, 3, 4] D1 [.n, .ca] :=
  ⟨fun c a b s _ => by place_map, by decide +kernel⟩

theorem ecpDblJA3_pl :
    Placeable (fun c a _ s => ecpDblJA3 c a s) 3 3 0 (fun _ => false) [2, 3, 4] D1 [.n, .ca] :=
  ⟨fun c a b s _ => by place_map, by decide +kernel⟩

theorem ecpTplJ_pl : Placeable (fun c a _ s => ecpTplJ c a s) 3 3 0 (fun _ => false) [2, 3, 4] D1 [.n, .ca] :=
  ⟨fun c a b s _ => by place_map, by decide +kernel⟩

theorem ecpTplJA3_pl :
    Placeable (fun c a _ s => ecpTplJA3 c a s) 3 3 0 (fun _ => false) [2, 3, 4] D1 [.n, .ca] :=
  ⟨fun c a b s _ => by place_map, by decide +kernel⟩

theorem ecpDblAJ_pl : Placeable (fun c a _ s => ecpDblAJ c a s) 3 2 0 (fun _ => false) [2, 3, 4] D1a [.n, .ca] :=
  ⟨fun c a b s _ => by place_map, by decide +kernel⟩

theorem ecpFromAJ_pl : Placeable (fun c a _ _ => ecpFromAJ c a) 3 2 0 (fun _ => false) [2, 3, 4] D1a [.n, .ca] :=
  ⟨fun c a b s _ => by place_map, by decide +kernel⟩

theorem ecpToAJ_pl : Placeable (fun c a _ s => ecpToAJ c a s) 2 3 0 (fun b => !b) [2, 3] D1 [.n, .ca] :=
  ⟨fun c a b s _ => by place_map, by decide +kernel⟩

theorem ecpNegA_pl : Placeable (fun c a _ _ => ecpNegA c a) 2 2 0 (fun _ => false) [2, 3] D1a [.n, .ca] :=
  ⟨fun c a b s _ => by place_map, by decide +kernel⟩

theorem ecpIsOnA_pl : Placeable (fun _ a _ s => ecpIsOnA a s) 0 2 0 (fun _ => false) [] D1a [.n] :=
  ⟨fun c a b s _ => by place_map, by decide +kernel⟩

theorem ecpAddJ_pl : Placeable ecpAddJ 3 3 3 (fun _ => false) [2, 3, 4] D2 [.n, .cb, .ab] :=
  ⟨fun c a b s h => by have hne := h (by decide) (by decide) (by decide); place_map, by decide +kernel⟩

theorem ecpSubJ_pl : Placeable ecpSubJ 3 3 3 (fun _ => false) [2, 3, 4] D2 [.n, .cb, .ab] :=
  ⟨fun c a b s h => by have hne := h (by decide) (by decide) (by decide); place_map, by decide +kernel⟩

theorem ecpAddAJ_pl : Placeable ecpAddAJ 3 3 2 (fun _ => false) [2, 3, 4] D2A [.n, .ca, .cb] :=
  ⟨fun c a b s _ => by place_map, by decide +kernel⟩

theorem ecpSubAJ_pl : Placeable ecpSubAJ 3 3 2 (fun _ => false) [2, 3, 4] D2A [.n, .ca, .cb] :=
  ⟨fun c a b s _ => by place_map, by decide +kernel⟩

theorem ecpAddAA_pl : Placeable ecpAddAA 2 2 2 (fun b => !b) [2, 3] DAA [.n, .ca, .cb, .ab, .abc] :=
  ⟨fun c a b s _ => by place_map, by decide +kernel⟩

theorem ecpSubAA_pl : Placeable ecpSubAA 2 2 2 (fun b => !b) [2, 3] DAA [.n, .ca, .cb, .ab, .abc] :=
  ⟨fun c a b s _ => by place_map, by decide +kernel⟩

theorem ec2NegLD_pl : Placeable (fun c a _ s => ec2NegLD c a s) 3 3 0 (fun _ => false) [2, 3, 4] D1 [.n, .ca] :=
  ⟨fun c a b s _ => by place_map2, by decide +kernel⟩

theorem ec2DblLD_pl : Placeable (fun c a _ s => ec2DblLD c a s) 3 3 0 (fun _ => false) [2, 3, 4] D1 [.n, .ca] :=
  ⟨fun c a b s _ => by place_map2, by decide +kernel⟩

theorem ec2DblALD_pl :
    Placeable (fun c a _ s => ec2DblALD c a s) 3 2 0 (fun _ => false) [2, 3, 4] D1a [.n, .ca] :=
  ⟨fun c a b s _ => by place_map2, by decide +kernel⟩

theorem ec2FromALD_pl :
    Placeable (fun c a _ _ => ec2FromALD c a) 3 2 0 (fun _ => false) [2, 3, 4] D1a [.n, .ca] :=
  ⟨fun c a b s _ => by place_map2, by decide +kernel⟩

theorem ec2ToALD_pl : Placeable (fun c a _ s => ec2ToALD c a s) 2 3 0 (fun b => !b) [2, 3] D1 [.n, .ca] :=
  ⟨fun c a b s _ => by place_map2, by decide +kernel⟩

/-- not `.ca`: in place `ec2NegA` copies `x` onto itself and then reads it, which `Prog.safe` does not accept
    (a register is read after one aliased with it was written) -/
theorem ec2NegA_pl : Placeable (fun c a _ _ => ec2NegA c a) 2 2 0 (fun _ => false) [2, 3] D1a [.n] :=
  ⟨fun c a b s _ => by place_map2, by decide +kernel⟩

theorem ec2IsOnA_pl : Placeable (fun _ a _ s => ec2IsOnA a s) 0 2 0 (fun _ => false) [] D1a [.n] :=
  ⟨fun c a b s _ => by place_map2, by decide +kernel⟩

theorem ec2AddLD_pl : Placeable ec2AddLD 3 3 3 (fun _ => false) [2, 3, 4] D2 [.n, .ca, .cb, .ab] :=
  ⟨fun c a b s _ => by place_map2, by decide +kernel⟩

theorem ec2SubLD_pl : Placeable ec2SubLD 3 3 3 (fun _ => false) [2, 3, 4] D2 [.n, .ca, .cb, .ab] :=
  ⟨fun c a b s _ => by place_map2, by decide +kernel⟩

theorem ec2AddALD_pl : Placeable ec2AddALD 3 3 2 (fun _ => false) [2, 3, 4] D2A [.n, .ca, .cb] :=
  ⟨fun c a b s _ => by place_map2, by decide +kernel⟩

theorem ec2SubALD_pl : Placeable ec2SubALD 3 3 2 (fun _ => false) [2, 3, 4] D2A [.n, .ca, .cb] :=
  ⟨fun c a b s _ => by place_map2, by decide +kernel⟩

theorem ec2AddAA_pl : Placeable ec2AddAA 2 2 2 (fun b => !b) [2, 3] DAA [.n, .ca, .cb, .ab, .abc] :=
  ⟨fun c a b s _ => by place_map2, by decide +kernel⟩

theorem ec2SubAA_pl : Placeable ec2SubAA 2 2 2 (fun b => !b) [2, 3] DAA [.n, .ca, .cb, .ab, .abc] :=
  ⟨fun c a b s _ => by place_map2, by decide +kernel⟩

theorem froma_al {F : Type} (cv : Curve F) {al : Al} (hal : al = .n ∨ al = .ca) (a : P2 F) :
    froma cv al a = froma cv .n a := by
  rcases hal with rfl | rfl
  · rfl
  · exact inplace_a3 cv ecpFromAJ_pl (by decide) a

theorem dbla_al {F : Type} (cv : Curve F) {al : Al} (hal : al = .n ∨ al = .ca) (a : P2 F) :
    dbla cv al a = dbla cv .n a := by
  rcases hal with rfl | rfl
  · rfl
  · exact inplace_a3 cv ecpDblAJ_pl (by decide) a

theorem toa_al {F : Type} (cv : Curve F) {al : Al} (hal : al = .n ∨ al = .ca) (p : P3 F) :
    toa cv al p = toa cv .n p := by
  rcases hal with rfl | rfl
  · rfl
  · exact inplace_opt cv ecpToAJ_pl (by decide) p

theorem negA_al {F : Type} (cv : Curve F) {al : Al} (hal : al = .n ∨ al = .ca) (a : P2 F) :
    negA cv al a = negA cv .n a := by
  rcases hal with rfl | rfl
  · rfl
  · exact inplace_a2 cv ecpNegA_pl (by decide) a

theorem froma2_al {F : Type} (cv : Curve F) {al : Al} (hal : al = .n ∨ al = .ca) (a : P2 F) :
    froma2 cv al a = froma2 cv .n a := by
  rcases hal with rfl | rfl
  · rfl
  · exact inplace_a3 cv ec2FromALD_pl (by decide) a

theorem dbla2_al {F : Type} (cv : Curve F) {al : Al} (hal : al = .n ∨ al = .ca) (a : P2 F) :
    dbla2 cv al a = dbla2 cv .n a := by
  rcases hal with rfl | rfl
  · rfl
  · exact inplace_a3 cv ec2DblALD_pl (by decide) a

theorem toa2_al {F : Type} (cv : Curve F) {al : Al} (hal : al = .n ∨ al = .ca) (p : P3 F) :
    toa2 cv al p = toa2 cv .n p := by
  rcases hal with rfl | rfl
  · rfl
  · exact inplace_opt cv ec2ToALD_pl (by decide) p

theorem dbl_al {F : Type} (cv : Curve F) {al : Al} (hal : al = .n ∨ al = .ca) (p : P3 F) :
    run1 cv (dblProg cv) al p = run1 cv (dblProg cv) .n p := by
  unfold dblProg; split
  · exact run1_al cv ecpDblJA3_pl hal (by decide) p
  · exact run1_al cv ecpDblJ_pl hal (by decide) p

theorem tpl_al {F : Type} (cv : Curve F) {al : Al} (hal : al = .n ∨ al = .ca) (p : P3 F) :
    run1 cv (tplProg cv) al p = run1 cv (tplProg cv) .n p := by
  unfold tplProg; split
  · exact run1_al cv ecpTplJA3_pl hal (by decide) p
  · exact run1_al cv ecpTplJ_pl hal (by decide) p

end Bee2V.C06
