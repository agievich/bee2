/-
C06, phase 3 — the formula theorems of the prime-curve routines (ecp.c) for ARBITRARY placements, part 1:
the projective routines `ecpNegJ`, `ecpDblJ`, `ecpDblJA3`, `ecpDblAJ`, `ecpFromAJ`, `ecpTplJ`, `ecpTplJA3`
(destination distinct from the operand `_n`, in place `_ca`), `ecpAddJ` (`_ca`, `_cb`, `_ab`; `_n` is
`addJ_anywhere_n` of PropsPlace.lean) and `ecpSubJ` (`_n`, `_ca`, `_cb`, `_ab`).

Operands, destination and scratch stack are ANYWHERE in the store: pairwise disjoint blocks (3 registers for a
projective, 2 for an affine point; aliased buffers share the block as the pattern says) above the registers
`rA = 0`, `rB = 1` of the coefficients and below the stack base `s`; all other registers of the store hold
ARBITRARY values.  The hypotheses speak about the store only: `st.get rA = A`, `st.get rB = B` and the operands
read by `get3 st a` / `get2 st a`.  Each theorem is the canonical-layout theorem (PropsUn, PropsTpl, PropsAddJ) for
DISTINCT buffers, transported by `Placeable.place` (LemmasPlace3.lean) with the routine's `…_pl` fact of
LemmasPlace4.lean; `ecpAddJ`, `ecpSubJ` with `c == a` (their text depends on it) go through `place_run` with the
canonical program of that pattern.  The canonical theorem is given its pattern explicitly (`(al := .n)`): left to
unification, the unifier runs the program with a stuck slot index (two instructions: 145 M heartbeats).
Part 2 (PropsPlace4.lean: mixed and affine routines, `ecpIsOnA`) is imported here, so that building this module
builds all placement theorems of the prime curves.
-/
import Bee2V.C06.LemmasPlace4
import Bee2V.C06.PropsUn
import Bee2V.C06.PropsTpl
import Bee2V.C06.PropsAddJ
import Bee2V.C06.PropsPlace4
namespace Bee2V.C06
open WeierstrassCurve
set_option linter.unusedSimpArgs false
set_option linter.unusedVariables false
variable {F : Type} [Field F] [DecidableEq F] {A B : F}

/-- `ecpNegJ(b, a, ec)`, destination and operand in different buffers -/
theorem negJ_anywhere_n {b a : Nat} (hb : 2 ≤ b) (ha : 2 ≤ a) (hba : b + 3 ≤ a ∨ a + 3 ≤ b) (st : Store F)
    (hA : st.get rA = A) (hB : st.get rB = B) {P : (Wc A B).Point} (hp : Rep3 A B (get3 st a) P) :
    Rep3 A B (get3 ((ecpNegJ b a).run (fieldFld F) st).1 b) (-P) :=
  Rep3.congr (ecpNegJ_pl.run1 (cv := curveF A B) _ rfl (al := .n) (s := b + a + 3) (by decide) trivial (by inj_w) hA hB)
    (neg_correct (al := .n) (.inl rfl) hp)

/-- `ecpNegJ(b, a, ec)`, in place -/
theorem negJ_anywhere_ca {b : Nat} (hb : 2 ≤ b) (st : Store F) (hA : st.get rA = A) (hB : st.get rB = B)
    {P : (Wc A B).Point} (hp : Rep3 A B (get3 st b) P) :
    Rep3 A B (get3 ((ecpNegJ b b).run (fieldFld F) st).1 b) (-P) :=
  Rep3.congr (ecpNegJ_pl.run1 (cv := curveF A B) _ rfl (al := .ca) (s := b + 3) (by decide) rfl (by inj_w) hA hB)
    (neg_correct (al := .n) (.inl rfl) hp)

/-- `ecpDblJ(b, a, ec, stack)`, destination and operand in different buffers (any `A`) -/
theorem dblJ_anywhere_n (h2 : (2 : F) ≠ 0) {b a s : Nat} (hb : 2 ≤ b) (ha : 2 ≤ a) (hba : b + 3 ≤ a ∨ a + 3 ≤ b)
    (hbs : b + 3 ≤ s) (has : a + 3 ≤ s) (st : Store F) (hA : st.get rA = A) (hB : st.get rB = B)
    {P : (Wc A B).Point} (hp : Rep3 A B (get3 st a) P) :
    Rep3 A B (get3 ((ecpDblJ b a s).run (fieldFld F) st).1 b) (P + P) :=
  Rep3.congr (ecpDblJ_pl.run1 (cv := curveF A B) _ rfl (al := .n) (by decide) trivial (by inj_w) hA hB)
    (dblJ_correct (al := .n) h2 (.inl rfl) hp)

/-- `ecpDblJ(b, a, ec, stack)`, in place (any `A`) -/
theorem dblJ_anywhere_ca (h2 : (2 : F) ≠ 0) {b s : Nat} (hb : 2 ≤ b) (hbs : b + 3 ≤ s) (st : Store F)
    (hA : st.get rA = A) (hB : st.get rB = B) {P : (Wc A B).Point} (hp : Rep3 A B (get3 st b) P) :
    Rep3 A B (get3 ((ecpDblJ b b s).run (fieldFld F) st).1 b) (P + P) :=
  Rep3.congr (ecpDblJ_pl.run1 (cv := curveF A B) _ rfl (al := .ca) (by decide) rfl (by inj_w) hA hB)
    (dblJ_correct (al := .n) h2 (.inl rfl) hp)

/-- `ecpDblJA3(b, a, ec, stack)`, destination and operand in different buffers (`A = -3`) -/
theorem dblJA3_anywhere_n (h2 : (2 : F) ≠ 0) (hA3 : A = -3) {b a s : Nat} (hb : 2 ≤ b) (ha : 2 ≤ a)
    (hba : b + 3 ≤ a ∨ a + 3 ≤ b) (hbs : b + 3 ≤ s) (has : a + 3 ≤ s) (st : Store F) (hA : st.get rA = A)
    (hB : st.get rB = B) {P : (Wc A B).Point} (hp : Rep3 A B (get3 st a) P) :
    Rep3 A B (get3 ((ecpDblJA3 b a s).run (fieldFld F) st).1 b) (P + P) :=
  Rep3.congr (ecpDblJA3_pl.run1 (cv := curveF A B) _ rfl (al := .n) (by decide) trivial (by inj_w) hA hB)
    (dblJA3_correct (al := .n) h2 hA3 (.inl rfl) hp)

/-- `ecpDblJA3(b, a, ec, stack)`, in place (`A = -3`) -/
theorem dblJA3_anywhere_ca (h2 : (2 : F) ≠ 0) (hA3 : A = -3) {b s : Nat} (hb : 2 ≤ b) (hbs : b + 3 ≤ s)
    (st : Store F) (hA : st.get rA = A) (hB : st.get rB = B) {P : (Wc A B).Point} (hp : Rep3 A B (get3 st b) P) :
    Rep3 A B (get3 ((ecpDblJA3 b b s).run (fieldFld F) st).1 b) (P + P) :=
  Rep3.congr (ecpDblJA3_pl.run1 (cv := curveF A B) _ rfl (al := .ca) (by decide) rfl (by inj_w) hA hB)
    (dblJA3_correct (al := .n) h2 hA3 (.inl rfl) hp)

/-- `ecpDblAJ(b, a, ec, stack)`, destination and operand in different buffers (affine `a`) -/
theorem dblAJ_anywhere_n (h2 : (2 : F) ≠ 0) {b a s : Nat} (hb : 2 ≤ b) (ha : 2 ≤ a)
    (hba : b + 3 ≤ a ∨ a + 2 ≤ b) (hbs : b + 3 ≤ s) (has : a + 2 ≤ s) (st : Store F) (hA : st.get rA = A)
    (hB : st.get rB = B) {P : (Wc A B).Point} (hp : Rep2 A B (get2 st a) P) :
    Rep3 A B (get3 ((ecpDblAJ b a s).run (fieldFld F) st).1 b) (P + P) :=
  Rep3.congr (out3 (ecpDblAJ_pl.place _ (al := .n) (by decide) trivial (by inj_w) (ag1a (cv := curveF A B) hA hB)))
    (dbla_correct (al := .n) h2 (.inl rfl) hp)

/-- `ecpDblAJ(b, a, ec, stack)`, in place (affine `a`) -/
theorem dblAJ_anywhere_ca (h2 : (2 : F) ≠ 0) {b s : Nat} (hb : 2 ≤ b) (hbs : b + 3 ≤ s) (st : Store F)
    (hA : st.get rA = A) (hB : st.get rB = B) {P : (Wc A B).Point} (hp : Rep2 A B (get2 st b) P) :
    Rep3 A B (get3 ((ecpDblAJ b b s).run (fieldFld F) st).1 b) (P + P) :=
  Rep3.congr (out3 (ecpDblAJ_pl.place _ (al := .ca) (by decide) rfl (by inj_w) (ag1a (cv := curveF A B) hA hB)))
    (dbla_correct (al := .n) h2 (.inl rfl) hp)

/-- `ecpFromAJ(b, a, ec, stack)`, destination and operand in different buffers -/
theorem fromAJ_anywhere_n {b a : Nat} (hb : 2 ≤ b) (ha : 2 ≤ a) (hba : b + 3 ≤ a ∨ a + 2 ≤ b) (st : Store F)
    (hA : st.get rA = A) (hB : st.get rB = B) {P : (Wc A B).Point} (hp : Rep2 A B (get2 st a) P) :
    Rep3 A B (get3 ((ecpFromAJ b a).run (fieldFld F) st).1 b) P :=
  Rep3.congr (out3 (ecpFromAJ_pl.place _ (al := .n) (s := b + a + 3) (by decide) trivial (by inj_w) (ag1a (cv := curveF A B) hA hB)))
    (froma_correct (al := .n) (.inl rfl) hp)

/-- `ecpFromAJ(b, a, ec, stack)`, in place -/
theorem fromAJ_anywhere_ca {b : Nat} (hb : 2 ≤ b) (st : Store F) (hA : st.get rA = A) (hB : st.get rB = B)
    {P : (Wc A B).Point} (hp : Rep2 A B (get2 st b) P) :
    Rep3 A B (get3 ((ecpFromAJ b b).run (fieldFld F) st).1 b) P :=
  Rep3.congr (out3 (ecpFromAJ_pl.place _ (al := .ca) (s := b + 3) (by decide) rfl (by inj_w) (ag1a (cv := curveF A B) hA hB)))
    (froma_correct (al := .n) (.inl rfl) hp)

/-- `ecpTplJ(b, a, ec, stack)`, destination and operand in different buffers (any `A`) -/
theorem tplJ_anywhere_n (h2 : (2 : F) ≠ 0) {b a s : Nat} (hb : 2 ≤ b) (ha : 2 ≤ a) (hba : b + 3 ≤ a ∨ a + 3 ≤ b)
    (hbs : b + 3 ≤ s) (has : a + 3 ≤ s) (st : Store F) (hA : st.get rA = A) (hB : st.get rB = B)
    {P : (Wc A B).Point} (hp : Rep3 A B (get3 st a) P) :
    Rep3 A B (get3 ((ecpTplJ b a s).run (fieldFld F) st).1 b) (P + P + P) :=
  Rep3.congr (ecpTplJ_pl.run1 (cv := curveF A B) _ rfl (al := .n) (by decide) trivial (by inj_w) hA hB)
    (tplJ_correct (al := .n) h2 (.inl rfl) hp)

/-- `ecpTplJ(b, a, ec, stack)`, in place (any `A`) -/
theorem tplJ_anywhere_ca (h2 : (2 : F) ≠ 0) {b s : Nat} (hb : 2 ≤ b) (hbs : b + 3 ≤ s) (st : Store F)
    (hA : st.get rA = A) (hB : st.get rB = B) {P : (Wc A B).Point} (hp : Rep3 A B (get3 st b) P) :
    Rep3 A B (get3 ((ecpTplJ b b s).run (fieldFld F) st).1 b) (P + P + P) :=
  Rep3.congr (ecpTplJ_pl.run1 (cv := curveF A B) _ rfl (al := .ca) (by decide) rfl (by inj_w) hA hB)
    (tplJ_correct (al := .n) h2 (.inl rfl) hp)

/-- `ecpTplJA3(b, a, ec, stack)`, destination and operand in different buffers (`A = -3`) -/
theorem tplJA3_anywhere_n (h2 : (2 : F) ≠ 0) (hA3 : A = -3) {b a s : Nat} (hb : 2 ≤ b) (ha : 2 ≤ a)
    (hba : b + 3 ≤ a ∨ a + 3 ≤ b) (hbs : b + 3 ≤ s) (has : a + 3 ≤ s) (st : Store F) (hA : st.get rA = A)
    (hB : st.get rB = B) {P : (Wc A B).Point} (hp : Rep3 A B (get3 st a) P) :
    Rep3 A B (get3 ((ecpTplJA3 b a s).run (fieldFld F) st).1 b) (P + P + P) :=
  Rep3.congr (ecpTplJA3_pl.run1 (cv := curveF A B) _ rfl (al := .n) (by decide) trivial (by inj_w) hA hB)
    (tplJA3_correct (al := .n) h2 hA3 (.inl rfl) hp)

/-- `ecpTplJA3(b, a, ec, stack)`, in place (`A = -3`) -/
theorem tplJA3_anywhere_ca (h2 : (2 : F) ≠ 0) (hA3 : A = -3) {b s : Nat} (hb : 2 ≤ b) (hbs : b + 3 ≤ s)
    (st : Store F) (hA : st.get rA = A) (hB : st.get rB = B) {P : (Wc A B).Point} (hp : Rep3 A B (get3 st b) P) :
    Rep3 A B (get3 ((ecpTplJA3 b b s).run (fieldFld F) st).1 b) (P + P + P) :=
  Rep3.congr (ecpTplJA3_pl.run1 (cv := curveF A B) _ rfl (al := .ca) (by decide) rfl (by inj_w) hA hB)
    (tplJA3_correct (al := .n) h2 hA3 (.inl rfl) hp)

/-- `ecpAddJ(c, a, b, ec, stack)`, `c == a` -/
theorem addJ_anywhere_ca (h2 : (2 : F) ≠ 0) {c b s : Nat} (hc : 2 ≤ c) (hb : 2 ≤ b)
    (hcb : c + 3 ≤ b ∨ b + 3 ≤ c) (hcs : c + 3 ≤ s) (hbs : b + 3 ≤ s) (st : Store F) (hA : st.get rA = A)
    (hB : st.get rB = B) {P Q : (Wc A B).Point} (hp : Rep3 A B (get3 st c) P) (hq : Rep3 A B (get3 st b) Q) :
    Rep3 A B (get3 ((ecpAddJ c c b s).run (fieldFld F) st).1 c) (P + Q) := by
  have e : get3 ((ecpAddJ c c b s).run (fieldFld F) st).1 c =
      (ecOps (curveF A B)).add .ca (get3 st c) (get3 st b) :=
    out3 (place_run (q := fun _ => false) (σ := id) (S := SW 3 0 3) (c := c) (a := 0) (b := b) (s := s) (P := ecpAddJ 2 2 8 11) _
      (by place_map) (by inj_w) (by decide +kernel)
      (ag2ca (cv := curveF A B) hA hB))
  rw [e]; exact add_correct h2 (.inr (.inl rfl)) hp hq

/-- `ecpAddJ(c, a, b, ec, stack)`, `c == b` -/
theorem addJ_anywhere_cb (h2 : (2 : F) ≠ 0) {c a s : Nat} (hc : 2 ≤ c) (ha : 2 ≤ a)
    (hca : c + 3 ≤ a ∨ a + 3 ≤ c) (hcs : c + 3 ≤ s) (has : a + 3 ≤ s) (st : Store F) (hA : st.get rA = A)
    (hB : st.get rB = B) {P Q : (Wc A B).Point} (hp : Rep3 A B (get3 st a) P) (hq : Rep3 A B (get3 st c) Q) :
    Rep3 A B (get3 ((ecpAddJ c a c s).run (fieldFld F) st).1 c) (P + Q) :=
  Rep3.congr (ecpAddJ_pl.run2 (cv := curveF A B) _ rfl (al := .cb) (by decide) rfl (by inj_w) hA hB)
    (add_correct (al := .n) h2 (.inl rfl) hp hq)

/-- `ecpAddJ(c, a, b, ec, stack)`, `a == b`, `c` distinct: the doubling fall-through -/
theorem addJ_anywhere_ab (h2 : (2 : F) ≠ 0) {c a s : Nat} (hc : 2 ≤ c) (ha : 2 ≤ a)
    (hca : c + 3 ≤ a ∨ a + 3 ≤ c) (hcs : c + 3 ≤ s) (has : a + 3 ≤ s) (st : Store F) (hA : st.get rA = A)
    (hB : st.get rB = B) {P : (Wc A B).Point} (hp : Rep3 A B (get3 st a) P) :
    Rep3 A B (get3 ((ecpAddJ c a a s).run (fieldFld F) st).1 c) (P + P) :=
  Rep3.congr (ecpAddJ_pl.run2 (cv := curveF A B) _ rfl (al := .ab) (by decide) rfl (by inj_w) hA hB)
    (add_correct (al := .n) h2 (.inl rfl) hp hp)

/-- `ecpSubJ(c, a, b, ec, stack)`, all buffers distinct -/
theorem subJ_anywhere_n (h2 : (2 : F) ≠ 0) {c a b s : Nat} (hc : 2 ≤ c) (ha : 2 ≤ a) (hb : 2 ≤ b)
    (hca : c + 3 ≤ a ∨ a + 3 ≤ c) (hcb : c + 3 ≤ b ∨ b + 3 ≤ c) (hab : a + 3 ≤ b ∨ b + 3 ≤ a) (hcs : c + 3 ≤ s)
    (has : a + 3 ≤ s) (hbs : b + 3 ≤ s) (st : Store F) (hA : st.get rA = A) (hB : st.get rB = B)
    {P Q : (Wc A B).Point} (hp : Rep3 A B (get3 st a) P) (hq : Rep3 A B (get3 st b) Q) :
    Rep3 A B (get3 ((ecpSubJ c a b s).run (fieldFld F) st).1 c) (P - Q) :=
  Rep3.congr (ecpSubJ_pl.run2 (cv := curveF A B) _ rfl (al := .n) (by decide) trivial (by inj_w) hA hB)
    (sub_correct (al := .n) h2 (.inl rfl) hp hq)

/-- `ecpSubJ(c, a, b, ec, stack)`, `c == a` -/
theorem subJ_anywhere_ca (h2 : (2 : F) ≠ 0) {c b s : Nat} (hc : 2 ≤ c) (hb : 2 ≤ b)
    (hcb : c + 3 ≤ b ∨ b + 3 ≤ c) (hcs : c + 3 ≤ s) (hbs : b + 3 ≤ s) (st : Store F) (hA : st.get rA = A)
    (hB : st.get rB = B) {P Q : (Wc A B).Point} (hp : Rep3 A B (get3 st c) P) (hq : Rep3 A B (get3 st b) Q) :
    Rep3 A B (get3 ((ecpSubJ c c b s).run (fieldFld F) st).1 c) (P - Q) := by
  have e : get3 ((ecpSubJ c c b s).run (fieldFld F) st).1 c =
      (ecOps (curveF A B)).sub .ca (get3 st c) (get3 st b) :=
    out3 (place_run (q := fun _ => false) (σ := id) (S := SW 3 0 3) (c := c) (a := 0) (b := b) (s := s) (P := ecpSubJ 2 2 8 11) _
      (by place_map) (by inj_w) (by decide +kernel)
      (ag2ca (cv := curveF A B) hA hB))
  rw [e]; exact sub_correct h2 (.inr (.inl rfl)) hp hq

/-- `ecpSubJ(c, a, b, ec, stack)`, `c == b` -/
theorem subJ_anywhere_cb (h2 : (2 : F) ≠ 0) {c a s : Nat} (hc : 2 ≤ c) (ha : 2 ≤ a)
    (hca : c + 3 ≤ a ∨ a + 3 ≤ c) (hcs : c + 3 ≤ s) (has : a + 3 ≤ s) (st : Store F) (hA : st.get rA = A)
    (hB : st.get rB = B) {P Q : (Wc A B).Point} (hp : Rep3 A B (get3 st a) P) (hq : Rep3 A B (get3 st c) Q) :
    Rep3 A B (get3 ((ecpSubJ c a c s).run (fieldFld F) st).1 c) (P - Q) :=
  Rep3.congr (ecpSubJ_pl.run2 (cv := curveF A B) _ rfl (al := .cb) (by decide) rfl (by inj_w) hA hB)
    (sub_correct (al := .n) h2 (.inl rfl) hp hq)

/-- `ecpSubJ(c, a, b, ec, stack)`, `a == b`, `c` distinct: the result is `O` -/
theorem subJ_anywhere_ab (h2 : (2 : F) ≠ 0) {c a s : Nat} (hc : 2 ≤ c) (ha : 2 ≤ a)
    (hca : c + 3 ≤ a ∨ a + 3 ≤ c) (hcs : c + 3 ≤ s) (has : a + 3 ≤ s) (st : Store F) (hA : st.get rA = A)
    (hB : st.get rB = B) {P : (Wc A B).Point} (hp : Rep3 A B (get3 st a) P) :
    Rep3 A B (get3 ((ecpSubJ c a a s).run (fieldFld F) st).1 c) 0 :=
  Rep3.congr ((ecpSubJ_pl.run2 (cv := curveF A B) _ rfl (al := .ab) (by decide) rfl (by inj_w) hA hB).trans
      (run2_same (curveF A B) ecpSubJ_pl (by decide) (get3 st a) (get3 st a)).symm)
    (sub_ab_correct h2 hp _)
/-! ### non-vacuity: `y² = x³ + 1` over `ℚ`, placements different from the canonical one, garbage elsewhere -/

/-- `ecpSubJ(c, c, b)` with `c = 20`, `b = 30`, stack from `40`: `(2, 3) = (8 : 24 : 2)` minus `(0, 1)`;
    register 25 and the stack register 41 hold garbage -/
example : Rep3 (0 : ℚ) 1
    (get3 ((ecpSubJ 20 20 30 40).run (fieldFld ℚ)
      (upd (upd (put3 (put3 (base (curveF (0 : ℚ) 1)) 20 (8, 24, 2)) 30 (0, 1, 1)) 25 7) 41 99)).1 20)
    (.some 2 3 AddJ.ns23 - .some 0 1 AddJ.ns01) :=
  subJ_anywhere_ca (by norm_num) (by decide) (by decide) (by decide) (by decide) (by decide) _ rfl rfl
    AddJ.rep23 AddJ.rep01

/-- `ecpTplJ(b, a)` with `b = 9`, `a = 3`, stack from `15` (the blocks may be adjacent) -/
example : Rep3 (0 : ℚ) 1
    (get3 ((ecpTplJ 9 3 15).run (fieldFld ℚ) (upd (put3 (base (curveF (0 : ℚ) 1)) 3 (8, 24, 2)) 6 5)).1 9)
    (.some 2 3 Tpl.ns23 + .some 2 3 Tpl.ns23 + .some 2 3 Tpl.ns23) :=
  tplJ_anywhere_n (by norm_num) (by decide) (by decide) (by decide) (by decide) (by decide) _ rfl rfl
    Tpl.rep3_23

end Bee2V.C06
