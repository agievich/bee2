/-
C06, stage 2 — property theorems for the affine routines `ec2AddAA`, `ec2SubAA` (ec2.c, binary curves
`y² + xy = x³ + Ax² + B` over a field of characteristic 2): for ALL pairs of curve points (chord,
tangent, inverse points, points of order 2 = `x = 0`) and every documented aliasing of the three
buffers (`.n` all distinct, `.cb` `c == b`, `.ab` `a == b`; the C asserts `a`, `c` disjoint) the routine
returns FALSE exactly when the result is `O` and otherwise writes the affine coordinates of the
sum / difference in Mathlib's group of points.
`addAA2 c = runAA c ec2AddAA`, `subAA2 c = runAA c ec2SubAA` (Wrap2.lean); `none` = FALSE.
The `…_extra` theorems: the undocumented patterns `c == a` (`.ca`, `.abc`) give the same results
(the routine saves `xa` in a temporary before it writes `xc`).
-/
import Bee2V.C06.LemmasBAA
import Bee2V.C06.LemmasPlace4
import Mathlib.Algebra.Field.ZMod
import Bee2V.C06.LemmasBEx
namespace Bee2V.C06
open WeierstrassCurve
open Bee2V.C06.BEx (ns01 ns10 ns11)

-- `subAA2_same_none` keeps the hypothesis `RepB2 A B a P` of the common interface although its proof
-- does not need it
set_option linter.unusedVariables false
variable {F : Type} [Field F] [DecidableEq F] [CharP F 2] {A B : F}

/-- `ec2AddAA(c, a, b)`, `a` and `b` in different buffers (`c` distinct or `c == b`) -/
theorem addAA2_correct {al : Al} (hal : al = .n ∨ al = .cb)
    {a b : P2 F} {P Q : (Wb A B).Point} (ha : RepB2 A B a P) (hb : RepB2 A B b Q) :
    (addAA2 (curveB A B) al a b = none ↔ P + Q = 0) ∧
    ∀ r, addAA2 (curveB A B) al a b = some r → RepB2 A B r (P + Q) := by
  obtain ⟨x1, y1⟩ := a
  obtain ⟨x2, y2⟩ := b
  obtain ⟨h1, rfl⟩ := ha
  obtain ⟨h2, rfl⟩ := hb
  rw [addAA2, runAA_al (curveB A B) ec2AddAA_pl (by rcases hal with rfl | rfl <;> decide) (hal.imp_right .inr),
    BAA.addAA_exec]
  exact BAA.addSpec_correct h1 h2

/-- `ec2AddAA(c, a, a)` (`a == b`, `c` distinct): doubling; FALSE iff `xa = 0` (order two) -/
theorem addAA2_same_correct {a : P2 F} {P : (Wb A B).Point} (ha : RepB2 A B a P) (b : P2 F) :
    (addAA2 (curveB A B) .ab a b = none ↔ P + P = 0) ∧
    ∀ r, addAA2 (curveB A B) .ab a b = some r → RepB2 A B r (P + P) := by
  obtain ⟨x1, y1⟩ := a
  obtain ⟨h1, rfl⟩ := ha
  rw [addAA2, runAA_same (curveB A B) ec2AddAA_pl (by decide) (.inl rfl), BAA.addAA_exec]
  exact BAA.addSpec_correct h1 h1

/-- `ec2SubAA(c, a, b)`, `a` and `b` in different buffers (`c` distinct or `c == b`); includes
    `a = -b`, where `a - b = 2a` is computed by the tangent at `a` (or FALSE if `xa = 0`) -/
theorem subAA2_correct {al : Al} (hal : al = .n ∨ al = .cb)
    {a b : P2 F} {P Q : (Wb A B).Point} (ha : RepB2 A B a P) (hb : RepB2 A B b Q) :
    (subAA2 (curveB A B) al a b = none ↔ P - Q = 0) ∧
    ∀ r, subAA2 (curveB A B) al a b = some r → RepB2 A B r (P - Q) := by
  obtain ⟨x1, y1⟩ := a
  obtain ⟨x2, y2⟩ := b
  obtain ⟨h1, rfl⟩ := ha
  obtain ⟨h2, rfl⟩ := hb
  rw [subAA2, runAA_al (curveB A B) ec2SubAA_pl (by rcases hal with rfl | rfl <;> decide) (hal.imp_right .inr),
    BAA.subAA_exec]
  exact BAA.subSpec_correct h1 h2

/-- `ec2SubAA(c, a, a)` (`a == b`, `c` distinct) returns FALSE for every `a`: through `ya != yt` if
    `xa ≠ 0`, through the `xa == 0` test otherwise (then `ya == yt`) -/
theorem subAA2_same_none {a : P2 F} {P : (Wb A B).Point} (ha : RepB2 A B a P) (b : P2 F) :
    subAA2 (curveB A B) .ab a b = none := by
  rw [subAA2, runAA_same (curveB A B) ec2SubAA_pl (by decide) (.inl rfl), BAA.subAA_self]

/-- `ec2SubAA(c, a, a)` in the common form: FALSE, and `P - P = 0` -/
theorem subAA2_same_correct {a : P2 F} {P : (Wb A B).Point} (ha : RepB2 A B a P) (b : P2 F) :
    (subAA2 (curveB A B) .ab a b = none ↔ P - P = 0) ∧
    ∀ r, subAA2 (curveB A B) .ab a b = some r → RepB2 A B r (P - P) :=
  BAA.of_none (subAA2_same_none ha b) (sub_self P)

/-! ## outside the precondition: `c == a` -/

/-- `ec2AddAA(a, a, b)` (`c == a`, excluded by the C's `ASSERT(wwIsDisjoint(a, c, 2 * n))`) happens to
    compute the same result -/
theorem addAA2_ca_extra {a b : P2 F} {P Q : (Wb A B).Point} (ha : RepB2 A B a P) (hb : RepB2 A B b Q) :
    (addAA2 (curveB A B) .ca a b = none ↔ P + Q = 0) ∧
    ∀ r, addAA2 (curveB A B) .ca a b = some r → RepB2 A B r (P + Q) := by
  obtain ⟨x1, y1⟩ := a
  obtain ⟨x2, y2⟩ := b
  obtain ⟨h1, rfl⟩ := ha
  obtain ⟨h2, rfl⟩ := hb
  rw [addAA2, runAA_al (curveB A B) ec2AddAA_pl (by decide) (.inr (.inl rfl)), BAA.addAA_exec]
  exact BAA.addSpec_correct h1 h2

/-- `ec2AddAA(a, a, a)` (`a == b == c`, outside the precondition): the same doubling -/
theorem addAA2_abc_extra {a : P2 F} {P : (Wb A B).Point} (ha : RepB2 A B a P) (b : P2 F) :
    (addAA2 (curveB A B) .abc a b = none ↔ P + P = 0) ∧
    ∀ r, addAA2 (curveB A B) .abc a b = some r → RepB2 A B r (P + P) := by
  obtain ⟨x1, y1⟩ := a
  obtain ⟨h1, rfl⟩ := ha
  rw [addAA2, runAA_same (curveB A B) ec2AddAA_pl (by decide) (.inr rfl), BAA.addAA_exec]
  exact BAA.addSpec_correct h1 h1

/-- `ec2SubAA(a, a, b)` (`c == a`, outside the precondition): the same result -/
theorem subAA2_ca_extra {a b : P2 F} {P Q : (Wb A B).Point} (ha : RepB2 A B a P) (hb : RepB2 A B b Q) :
    (subAA2 (curveB A B) .ca a b = none ↔ P - Q = 0) ∧
    ∀ r, subAA2 (curveB A B) .ca a b = some r → RepB2 A B r (P - Q) := by
  obtain ⟨x1, y1⟩ := a
  obtain ⟨x2, y2⟩ := b
  obtain ⟨h1, rfl⟩ := ha
  obtain ⟨h2, rfl⟩ := hb
  rw [subAA2, runAA_al (curveB A B) ec2SubAA_pl (by decide) (.inr (.inl rfl)), BAA.subAA_exec]
  exact BAA.subSpec_correct h1 h2

/-- `ec2SubAA(a, a, a)` (outside the precondition): FALSE -/
theorem subAA2_abc_extra {a : P2 F} {P : (Wb A B).Point} (ha : RepB2 A B a P) (b : P2 F) :
    (subAA2 (curveB A B) .abc a b = none ↔ P - P = 0) ∧
    ∀ r, subAA2 (curveB A B) .abc a b = some r → RepB2 A B r (P - P) :=
  BAA.of_none (by rw [subAA2, runAA_same (curveB A B) ec2SubAA_pl (by decide) (.inr rfl), BAA.subAA_self])
    (sub_self P)

/-! ## non-vacuity: `y² + xy = x³ + 1` over GF(2) = `ZMod 2`; the group is cyclic of order 4:
    `O`, `(1, 0)`, `2 (1, 0) = (0, 1)` (order two), `3 (1, 0) = (1, 1)` -/

section NonVacuity



/-- chord, `c == b`: `(0,1) + (1,0) = (1,1)` -/
example : ∃ (a b : P2 (ZMod 2)) (P Q : (Wb (0 : ZMod 2) 1).Point), RepB2 0 1 a P ∧ RepB2 0 1 b Q ∧
    addAA2 (curveB 0 1) .cb a b = some (1, 1) ∧ P + Q ≠ 0 :=
  have e : addAA2 (curveB (0 : ZMod 2) 1) .cb (0, 1) (1, 0) = some (1, 1) := by
    rw [addAA2, runAA_al _ ec2AddAA_pl (by decide) (.inr (.inr rfl)), BAA.addAA_exec]
    simp [BAA.addSpec, BAA.chord]; decide
  ⟨(0, 1), (1, 0), _, _, ⟨ns01, rfl⟩, ⟨ns10, rfl⟩, e,
    fun h0 => by
      have := (addAA2_correct (.inr rfl) ⟨ns01, rfl⟩ ⟨ns10, rfl⟩).1.2 h0
      rw [e] at this; cases this⟩

/-- inverse points, all buffers distinct: `(1,0) + (1,1) = O`, FALSE -/
example : ∃ (a b : P2 (ZMod 2)) (P Q : (Wb (0 : ZMod 2) 1).Point), RepB2 0 1 a P ∧ RepB2 0 1 b Q ∧
    addAA2 (curveB 0 1) .n a b = none ∧ P + Q = 0 :=
  have e : addAA2 (curveB (0 : ZMod 2) 1) .n (1, 0) (1, 1) = none := by
    rw [addAA2, BAA.addAA_exec]; simp [BAA.addSpec]
  ⟨(1, 0), (1, 1), _, _, ⟨ns10, rfl⟩, ⟨ns11, rfl⟩, e,
    (addAA2_correct (.inl rfl) ⟨ns10, rfl⟩ ⟨ns11, rfl⟩).1.1 e⟩

/-- doubling, `a == b`: `2 (1,0) = (0,1)`; a point of order two: `2 (0,1) = O`, FALSE -/
example : ∃ (a a' : P2 (ZMod 2)) (P P' : (Wb (0 : ZMod 2) 1).Point), RepB2 0 1 a P ∧ RepB2 0 1 a' P' ∧
    addAA2 (curveB 0 1) .ab a (1, 1) = some (0, 1) ∧ addAA2 (curveB 0 1) .ab a' (1, 1) = none ∧
    P + P ≠ 0 ∧ P' + P' = 0 :=
  have e : addAA2 (curveB (0 : ZMod 2) 1) .ab (1, 0) (1, 1) = some (0, 1) := by
    rw [addAA2, runAA_same _ ec2AddAA_pl (by decide) (.inl rfl), BAA.addAA_exec]; simp [BAA.addSpec, BAA.tang]; decide
  have e' : addAA2 (curveB (0 : ZMod 2) 1) .ab (0, 1) (1, 1) = none := by
    rw [addAA2, runAA_same _ ec2AddAA_pl (by decide) (.inl rfl), BAA.addAA_exec]; simp [BAA.addSpec]
  ⟨(1, 0), (0, 1), _, _, ⟨ns10, rfl⟩, ⟨ns01, rfl⟩, e, e',
    (fun h0 => by
      have := (addAA2_same_correct ⟨ns10, rfl⟩ (1, 1)).1.2 h0
      rw [e] at this; cases this),
    (addAA2_same_correct ⟨ns01, rfl⟩ (1, 1)).1.1 e'⟩

/-- subtraction: chord `(0,1) - (1,1) = (1,1)`; `a = -b`: `(1,0) - (1,1) = 2 (1,0) = (0,1)`;
    `a = b` in different buffers: FALSE -/
example : ∃ (a b a' : P2 (ZMod 2)) (P Q P' : (Wb (0 : ZMod 2) 1).Point),
    RepB2 0 1 a P ∧ RepB2 0 1 b Q ∧ RepB2 0 1 a' P' ∧
    subAA2 (curveB 0 1) .n a b = some (1, 1) ∧ subAA2 (curveB 0 1) .cb a' b = some (0, 1) ∧
    subAA2 (curveB 0 1) .cb b b = none :=
  ⟨(0, 1), (1, 1), (1, 0), _, _, _, ⟨ns01, rfl⟩, ⟨ns11, rfl⟩, ⟨ns10, rfl⟩,
    by rw [subAA2, BAA.subAA_exec]; simp [BAA.subSpec, BAA.addSpec, BAA.chord]; decide,
    by rw [subAA2, runAA_al _ ec2SubAA_pl (by decide) (.inr (.inr rfl)), BAA.subAA_exec]
       simp [BAA.subSpec, BAA.addSpec, BAA.tang]; decide,
    by rw [subAA2, runAA_al _ ec2SubAA_pl (by decide) (.inr (.inr rfl)), BAA.subAA_exec]
       simp [BAA.subSpec, BAA.addSpec]⟩

/-- `ec2SubAA(c, a, a)`: hypotheses satisfiable (a point with `xa ≠ 0` and the point of order two) -/
example : ∃ (a a' : P2 (ZMod 2)) (P P' : (Wb (0 : ZMod 2) 1).Point), RepB2 0 1 a P ∧ RepB2 0 1 a' P' ∧
    subAA2 (curveB 0 1) .ab a (1, 1) = none ∧ subAA2 (curveB 0 1) .ab a' (1, 1) = none :=
  ⟨(1, 0), (0, 1), _, _, ⟨ns10, rfl⟩, ⟨ns01, rfl⟩,
    subAA2_same_none ⟨ns10, rfl⟩ _, subAA2_same_none ⟨ns01, rfl⟩ _⟩

/-- the `…_extra` statements: `c == a`, `(0,1) + (1,0) = (1,1)` -/
example : ∃ (a b : P2 (ZMod 2)) (P Q : (Wb (0 : ZMod 2) 1).Point), RepB2 0 1 a P ∧ RepB2 0 1 b Q ∧
    addAA2 (curveB 0 1) .ca a b = some (1, 1) :=
  ⟨(0, 1), (1, 0), _, _, ⟨ns01, rfl⟩, ⟨ns10, rfl⟩, by
    rw [addAA2, runAA_al _ ec2AddAA_pl (by decide) (.inr (.inl rfl)), BAA.addAA_exec]
    simp [BAA.addSpec, BAA.chord]; decide⟩

end NonVacuity

end Bee2V.C06
