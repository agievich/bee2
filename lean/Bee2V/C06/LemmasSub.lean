/-
C06 — the subtraction routines call the addition routine on a negated copy of `b` in the scratch:
`ecpSubJ(c, a, b) = t <- -b; ecpAddJ(c, a, t)` with `t` at the stack base, and likewise `ecpSubAJ`, `ec2SubLD`,
`ec2SubALD`, `ec2SubAA`.  For the callee this is a call with its second operand at the stack base and its stack
behind it, so by placement independence (`place_run`) the result is the canonical call of the
addition routine on `a` and `-b`.  Stated for distinct buffers (the calls with shared buffers are that call: `run2_al`,
`run2A_al`, `runAA_al`, …) and, for `ecpSubJ`, for `c == a`, where the text of `ecpAddJ` differs.  Generic in the field
record (no Mathlib).
-/
import Bee2V.C06.LemmasPlace3
namespace Bee2V.C06
open Instr
variable {F : Type} (cv : Curve F)

/-- the store after a straight-line prefix -/
def pre (f : Fld F) (l : List Instr) (st : Store F) : Store F := l.foldl (fun s i => i.exec f s) st

/-! ### the call: the canonical program `P` moved by `rho 2 5 11 s` (destination and first operand stay, the second
operand and the stack go behind the canonical stack base), one lemma per wrapper (`run2`, `run2A`, `runAA`).
`chk` is the conjunction of the finite facts about `P`: the renamed program is the callee `P'`, and the `chk` of
`place_run`. -/

section call
variable {cv} {P P' : Prog} {st : Store F} {wb s : Nat}

theorem call_inj (hwb : wb ≤ 3) (hs : 11 + wb ≤ s) :
    ∀ i j, SW 3 3 wb i = true → SW 3 3 wb j = true → rho 2 5 11 s i = rho 2 5 11 s j → i = j := by
  apply rho_inj_w <;> omega

theorem call3 (chk : (decide (P.map (rho 2 5 11 14) = P') && (D2.all (SW 3 3 3) &&
      P.safe (fun _ => false) [2, 3, 4] id (SW 3 3 3) D2)) = true)
    (hA : st.get rA = cv.A) (hB : st.get rB = cv.B) :
    get3 (P'.run cv.f st).1 2 = get3 (P.run cv.f (put3 (put3 (base cv) 5 (get3 st 5)) 8 (get3 st 11))).1 2 := by
  rw [Bool.and_eq_true, decide_eq_true_eq] at chk
  exact out3 (place_run cv.f chk.1 (call_inj (by decide) (by decide)) chk.2 (ag2 hA hB))

/-- `c == a` (`ecpSubJ`: the text of `ecpAddJ` depends on it) -/
theorem call3ca (chk : (decide (P.map (rho 2 5 11 14) = P') && (D2ca.all (SW 3 3 3) &&
      P.safe (fun _ => false) [2, 3, 4] id (SW 3 3 3) D2ca)) = true)
    (hA : st.get rA = cv.A) (hB : st.get rB = cv.B) :
    get3 (P'.run cv.f st).1 2 = get3 (P.run cv.f (put3 (put3 (base cv) 2 (get3 st 2)) 8 (get3 st 11))).1 2 := by
  rw [Bool.and_eq_true, decide_eq_true_eq] at chk
  exact out3 (place_run cv.f chk.1 (call_inj (by decide) (by decide)) chk.2 (ag2ca hA hB))

theorem call3A (chk : (decide (P.map (rho 2 5 11 13) = P') && (D2A.all (SW 3 3 2) &&
      P.safe (fun _ => false) [2, 3, 4] id (SW 3 3 2) D2A)) = true)
    (hA : st.get rA = cv.A) (hB : st.get rB = cv.B) :
    get3 (P'.run cv.f st).1 2 = get3 (P.run cv.f (put2 (put3 (base cv) 5 (get3 st 5)) 8 (get2 st 11))).1 2 := by
  rw [Bool.and_eq_true, decide_eq_true_eq] at chk
  exact out3 (place_run cv.f chk.1 (call_inj (by decide) (by decide)) chk.2 (ag2A hA hB))

theorem callAA (chk : (decide (P.map (rho 2 5 11 13) = P') && (DAA.all (SW 3 3 2) &&
      P.safe (fun b => !b) [2, 3] id (SW 3 3 2) DAA)) = true) (hA : st.get rA = cv.A)
    (hB : st.get rB = cv.B) :
    optRes (P'.run cv.f st) 2 = optRes (P.run cv.f (put2 (put2 (base cv) 5 (get2 st 5)) 8 (get2 st 11))) 2 := by
  rw [Bool.and_eq_true, decide_eq_true_eq] at chk
  exact outOpt (place_run cv.f chk.1 (call_inj (by decide) (by decide)) chk.2 (agAA hA hB))

end call

/-! ### `ecpSubJ`: `t = (X, -Y, Z)` -/

def negJ (f : Fld F) (q : P3 F) : P3 F := (q.1, f.neg q.2.1, q.2.2)

theorem subJ_n (p q : P3 F) : run2 cv ecpSubJ .n p q = run2 cv ecpAddJ .n p (negJ cv.f q) :=
  call3 (P := ecpAddJ 2 5 8 11) (P' := ecpAddJ 2 5 11 14)
    (st := pre cv.f [copy 11 8, neg 12 9, copy 13 10] (put3 (put3 (base cv) 5 p) 8 q)) (by decide +kernel) rfl rfl

theorem subJ_ca (p q : P3 F) : run2 cv ecpSubJ .ca p q = run2 cv ecpAddJ .ca p (negJ cv.f q) :=
  call3ca (P := ecpAddJ 2 2 8 11) (P' := ecpAddJ 2 2 11 14)
    (st := pre cv.f [copy 11 8, neg 12 9, copy 13 10] (put3 (put3 (base cv) 2 p) 8 q)) (by decide +kernel) rfl rfl

/-! ### `ecpSubAJ`: `t = (x, -y)` -/

def negAJ (f : Fld F) (q : P2 F) : P2 F := (q.1, f.neg q.2)

theorem subAJ_n (p : P3 F) (q : P2 F) : run2A cv ecpSubAJ .n p q = run2A cv ecpAddAJ .n p (negAJ cv.f q) :=
  call3A (P := ecpAddAJ 2 5 8 11) (P' := ecpAddAJ 2 5 11 13)
    (st := pre cv.f [copy 11 8, neg 12 9] (put2 (put3 (base cv) 5 p) 8 q)) (by decide +kernel) rfl rfl

/-! ### `ec2SubLD`: `t = (X, XZ + Y, Z)` -/

def negLD (f : Fld F) (q : P3 F) : P3 F := (q.1, f.add (f.mul q.1 q.2.2) q.2.1, q.2.2)

theorem subLD_n (p q : P3 F) : run2 cv ec2SubLD .n p q = run2 cv ec2AddLD .n p (negLD cv.f q) :=
  call3 (P := ec2AddLD 2 5 8 11) (P' := ec2AddLD 2 5 11 14)
    (st := pre cv.f [mul 12 8 10, add 12 12 9, copy 11 8, copy 13 10] (put3 (put3 (base cv) 5 p) 8 q))
    (by decide +kernel) rfl rfl

/-! ### `ec2SubALD`: `t = (x, y + x)` -/

def negALD (f : Fld F) (q : P2 F) : P2 F := (q.1, f.add q.2 q.1)

theorem subALD_n (p : P3 F) (q : P2 F) : run2A cv ec2SubALD .n p q = run2A cv ec2AddALD .n p (negALD cv.f q) :=
  call3A (P := ec2AddALD 2 5 8 11) (P' := ec2AddALD 2 5 11 13)
    (st := pre cv.f [copy 11 8, copy 12 9, add 12 12 11] (put2 (put3 (base cv) 5 p) 8 q)) (by decide +kernel) rfl rfl

/-! ### `ec2SubAA`: `t = (x, x + y)` -/

def negAA2 (f : Fld F) (q : P2 F) : P2 F := (q.1, f.add q.1 q.2)

theorem subAA2_n (p q : P2 F) : runAA cv ec2SubAA .n p q = runAA cv ec2AddAA .n p (negAA2 cv.f q) :=
  callAA (P := ec2AddAA 2 5 8 11) (P' := ec2AddAA 2 5 11 13)
    (st := pre cv.f [copy 11 8, add 12 8 9] (put2 (put2 (base cv) 5 p) 8 q)) (by decide +kernel) rfl rfl

end Bee2V.C06
