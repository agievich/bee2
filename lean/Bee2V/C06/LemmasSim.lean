/-
C06 — simulation, part 1 (generic): if two records of field operations `f : Fld α`, `g : Fld β` are
related by a map `φ : α → β` that commutes with every operation on "reduced" values (`R`), then the
interpreter on `f` simulates the interpreter on `g` for EVERY program, and so do all the wrappers of
`Wrap.lean` (they are `get3/get2` of a run on a store built by `base/put3/put2/upd`).
Part 2 (`LemmasSim2`) instantiates this with `natFld p`, `fieldFld (ZMod p)`, `Nat.cast`, `· < p`.
-/
import Bee2V.C06.Wrap
namespace Bee2V.C06
namespace Sim

variable {α β : Type}

/-- `φ` is a homomorphism of operation records on the values satisfying `R`, and `R` is preserved -/
structure FldSim (f : Fld α) (g : Fld β) (φ : α → β) (R : α → Prop) : Prop where
  zero : R f.zero ∧ φ f.zero = g.zero
  one : R f.one ∧ φ f.one = g.one
  add : ∀ a b, R a → R b → R (f.add a b) ∧ φ (f.add a b) = g.add (φ a) (φ b)
  sub : ∀ a b, R a → R b → R (f.sub a b) ∧ φ (f.sub a b) = g.sub (φ a) (φ b)
  mul : ∀ a b, R a → R b → R (f.mul a b) ∧ φ (f.mul a b) = g.mul (φ a) (φ b)
  neg : ∀ a, R a → R (f.neg a) ∧ φ (f.neg a) = g.neg (φ a)
  dbl : ∀ a, R a → R (f.dbl a) ∧ φ (f.dbl a) = g.dbl (φ a)
  half : ∀ a, R a → R (f.half a) ∧ φ (f.half a) = g.half (φ a)
  inv : ∀ a, R a → R (f.inv a) ∧ φ (f.inv a) = g.inv (φ a)
  pow : ∀ a e, R a → R (f.pow a e) ∧ φ (f.pow a e) = g.pow (φ a) e
  eqb : ∀ a b, R a → R b → f.eqb a b = g.eqb (φ a) (φ b)

/-- image of a store -/
def mapStore (φ : α → β) (st : Store α) : Store β := ⟨fun i => φ (st.get i)⟩

/-- every register is reduced -/
def RedS (R : α → Prop) (st : Store α) : Prop := ∀ i, R (st.get i)

@[simp] theorem mapStore_get (φ : α → β) (st : Store α) (i : Nat) : (mapStore φ st).get i = φ (st.get i) := rfl

theorem mapStore_upd (φ : α → β) (st : Store α) (d : Nat) (v : α) :
    mapStore φ (upd st d v) = upd (mapStore φ st) d (φ v) := by
  simp only [mapStore, upd, Store.mk.injEq]
  funext i
  split <;> rfl

theorem RedS_upd {R : α → Prop} {st : Store α} (h : RedS R st) (d : Nat) {v : α} (hv : R v) :
    RedS R (upd st d v) := by
  intro i
  simp only [upd]
  split
  · exact hv
  · exact h i

variable {f : Fld α} {g : Fld β} {φ : α → β} {R : α → Prop}

theorem upd_sim {st : Store α} (hst : RedS R st) (d : Nat) {v : α} {w : β} (h : R v ∧ φ v = w) :
    RedS R (upd st d v) ∧ mapStore φ (upd st d v) = upd (mapStore φ st) d w :=
  ⟨RedS_upd hst d h.1, by rw [mapStore_upd, h.2]⟩

theorem exec_sim (H : FldSim f g φ R) (i : Instr) (st : Store α) (hst : RedS R st) :
    RedS R (i.exec f st) ∧ mapStore φ (i.exec f st) = i.exec g (mapStore φ st) := by
  cases i with
  | sqr d a => exact upd_sim hst d (H.mul _ _ (hst a) (hst a))
  | mul d a b => exact upd_sim hst d (H.mul _ _ (hst a) (hst b))
  | add d a b => exact upd_sim hst d (H.add _ _ (hst a) (hst b))
  | sub d a b => exact upd_sim hst d (H.sub _ _ (hst a) (hst b))
  | neg d a => exact upd_sim hst d (H.neg _ (hst a))
  | dbl d a => exact upd_sim hst d (H.dbl _ (hst a))
  | half d a => exact upd_sim hst d (H.half _ (hst a))
  | copy d a => exact upd_sim hst d ⟨hst a, rfl⟩
  | zero d => exact upd_sim hst d H.zero
  | one d => exact upd_sim hst d H.one
  | inv d a => exact upd_sim hst d (H.inv _ (hst a))
  | div d a b =>
    have hi := H.inv _ (hst b)
    have h := H.mul _ _ (hst a) hi.1
    exact upd_sim hst d ⟨h.1, by rw [h.2, hi.2]; rfl⟩
  | pow d a e => exact upd_sim hst d (H.pow _ e (hst a))

/-- the simulation theorem, generic form: by induction on the program -/
theorem run_sim_gen (H : FldSim f g φ R) (prog : Prog) (st : Store α) (hst : RedS R st) :
    RedS R (prog.run f st).1 ∧
    (prog.run f st).2 = (prog.run g (mapStore φ st)).2 ∧
    mapStore φ (prog.run f st).1 = (prog.run g (mapStore φ st)).1 := by
  induction prog generalizing st with
  | ret b => exact ⟨hst, rfl, rfl⟩
  | seq i k ih =>
    have h := exec_sim H i st hst
    simp only [Prog.run]
    rw [← h.2]
    exact ih _ h.1
  | ifz r t e iht ihe =>
    have hc : f.eqb (st.get r) f.zero = g.eqb ((mapStore φ st).get r) g.zero := by
      rw [H.eqb _ _ (hst r) H.zero.1, H.zero.2]; rfl
    simp only [Prog.run, hc]
    split
    · exact iht st hst
    · exact ihe st hst
  | ifeq r s t e iht ihe =>
    have hc : f.eqb (st.get r) (st.get s) = g.eqb ((mapStore φ st).get r) ((mapStore φ st).get s) := by
      rw [H.eqb _ _ (hst r) (hst s)]; rfl
    simp only [Prog.run, hc]
    split
    · exact iht st hst
    · exact ihe st hst
  | ifone r t e iht ihe =>
    have hc : f.eqb (st.get r) f.one = g.eqb ((mapStore φ st).get r) g.one := by
      rw [H.eqb _ _ (hst r) H.one.1, H.one.2]; rfl
    simp only [Prog.run, hc]
    split
    · exact iht st hst
    · exact ihe st hst

/-! ### wrappers -/

def map3 (φ : α → β) (q : P3 α) : P3 β := (φ q.1, φ q.2.1, φ q.2.2)
def map2 (φ : α → β) (q : P2 α) : P2 β := (φ q.1, φ q.2)
def R3 (R : α → Prop) (q : P3 α) : Prop := R q.1 ∧ R q.2.1 ∧ R q.2.2
def R2 (R : α → Prop) (q : P2 α) : Prop := R q.1 ∧ R q.2

/-- two curve descriptions related by `φ` -/
structure CurveSim (c : Curve α) (c' : Curve β) (φ : α → β) (R : α → Prop) : Prop where
  fld : FldSim c.f c'.f φ R
  rA : R c.A
  rB : R c.B
  hA : φ c.A = c'.A
  hB : φ c.B = c'.B
  a3 : c.a3 = c'.a3

theorem mkCurve_sim (H : FldSim f g φ R) {A B : α} (hA : R A) (hB : R B) :
    CurveSim (mkCurve f A B) (mkCurve g (φ A) (φ B)) φ R := by
  refine ⟨H, hA, hB, rfl, rfl, ?_⟩
  have h1 := H.dbl _ H.one.1
  have h2 := H.add _ _ h1.1 H.one.1
  have h3 := H.neg _ h2.1
  simp only [mkCurve]
  rw [H.eqb _ _ h3.1 hA, h3.2, h2.2, h1.2, H.one.2]

variable {c : Curve α} {c' : Curve β}

theorem base_red (C : CurveSim c c' φ R) : RedS R (base c) := by
  intro i
  simp only [base]
  split
  · exact C.rA
  · split
    · exact C.rB
    · exact C.fld.zero.1

theorem base_map (C : CurveSim c c' φ R) : mapStore φ (base c) = base c' := by
  simp only [mapStore, base, Store.mk.injEq]
  funext i
  split
  · exact C.hA
  · split
    · exact C.hB
    · exact C.fld.zero.2

theorem put3_map (st : Store α) (q : Nat) (a : P3 α) :
    mapStore φ (put3 st q a) = put3 (mapStore φ st) q (map3 φ a) := by
  simp only [put3, mapStore_upd, map3]

theorem put2_map (st : Store α) (q : Nat) (a : P2 α) :
    mapStore φ (put2 st q a) = put2 (mapStore φ st) q (map2 φ a) := by
  simp only [put2, mapStore_upd, map2]

theorem put3_red {st : Store α} (h : RedS R st) (q : Nat) {a : P3 α} (ha : R3 R a) :
    RedS R (put3 st q a) :=
  RedS_upd (RedS_upd (RedS_upd h _ ha.1) _ ha.2.1) _ ha.2.2

theorem put2_red {st : Store α} (h : RedS R st) (q : Nat) {a : P2 α} (ha : R2 R a) :
    RedS R (put2 st q a) :=
  RedS_upd (RedS_upd h _ ha.1) _ ha.2

theorem get3_map (st : Store α) (q : Nat) : map3 φ (get3 st q) = get3 (mapStore φ st) q := rfl
theorem get2_map (st : Store α) (q : Nat) : map2 φ (get2 st q) = get2 (mapStore φ st) q := rfl
theorem get3_red {st : Store α} (h : RedS R st) (q : Nat) : R3 R (get3 st q) := ⟨h _, h _, h _⟩
theorem get2_red {st : Store α} (h : RedS R st) (q : Nat) : R2 R (get2 st q) := ⟨h _, h _⟩

/-- the shape all wrappers have: run a program on a reduced store whose image is known -/
theorem run_on (C : CurveSim c c' φ R) (prog : Prog) {st : Store α} {st' : Store β}
    (hr : RedS R st) (hm : mapStore φ st = st') :
    RedS R (prog.run c.f st).1 ∧ (prog.run c.f st).2 = (prog.run c'.f st').2 ∧
    mapStore φ (prog.run c.f st).1 = (prog.run c'.f st').1 := by
  subst hm
  exact run_sim_gen C.fld prog st hr

theorem run1_sim (C : CurveSim c c' φ R) (prog : Nat → Nat → Nat → Prog) (al : Al) {a : P3 α}
    (ha : R3 R a) :
    R3 R (run1 c prog al a) ∧ map3 φ (run1 c prog al a) = run1 c' prog al (map3 φ a) := by
  have h := run_on C (prog sc (slotA al) sk) (put3_red (base_red C) (slotA al) ha)
    (by rw [put3_map, base_map C])
  exact ⟨get3_red h.1 _, by simp only [run1, get3_map, h.2.2]⟩

theorem run2_sim (C : CurveSim c c' φ R) (prog : Nat → Nat → Nat → Nat → Prog) (al : Al) {a b : P3 α}
    (ha : R3 R a) (hb : R3 R b) :
    R3 R (run2 c prog al a b) ∧ map3 φ (run2 c prog al a b) = run2 c' prog al (map3 φ a) (map3 φ b) := by
  have h := run_on C (prog sc (slotA al) (slotB al) sk)
    (st := if al = .ab ∨ al = .abc then put3 (base c) (slotA al) a
      else put3 (put3 (base c) (slotA al) a) (slotB al) b)
    (st' := if al = .ab ∨ al = .abc then put3 (base c') (slotA al) (map3 φ a)
      else put3 (put3 (base c') (slotA al) (map3 φ a)) (slotB al) (map3 φ b))
    (by
      split
      · exact put3_red (base_red C) _ ha
      · exact put3_red (put3_red (base_red C) _ ha) _ hb)
    (by
      split
      · rw [put3_map, base_map C]
      · rw [put3_map, put3_map, base_map C])
  exact ⟨get3_red h.1 _, by simp only [run2, get3_map, h.2.2]⟩

theorem run2A_sim (C : CurveSim c c' φ R) (prog : Nat → Nat → Nat → Nat → Prog) (al : Al) {a : P3 α}
    {b : P2 α} (ha : R3 R a) (hb : R2 R b) :
    R3 R (run2A c prog al a b) ∧
    map3 φ (run2A c prog al a b) = run2A c' prog al (map3 φ a) (map2 φ b) := by
  have h := run_on C (prog sc (slotA al) (slotB al) sk)
    (put2_red (put3_red (base_red C) (slotA al) ha) (slotB al) hb)
    (by rw [put2_map, put3_map, base_map C])
  exact ⟨get3_red h.1 _, by simp only [run2A, get3_map, h.2.2]⟩

theorem froma_sim (C : CurveSim c c' φ R) (al : Al) {a : P2 α} (ha : R2 R a) :
    R3 R (froma c al a) ∧ map3 φ (froma c al a) = froma c' al (map2 φ a) := by
  have h := run_on C (ecpFromAJ sc (slotA al)) (put2_red (base_red C) (slotA al) ha)
    (by rw [put2_map, base_map C])
  exact ⟨get3_red h.1 _, by simp only [froma, get3_map, h.2.2]⟩

theorem dbla_sim (C : CurveSim c c' φ R) (al : Al) {a : P2 α} (ha : R2 R a) :
    R3 R (dbla c al a) ∧ map3 φ (dbla c al a) = dbla c' al (map2 φ a) := by
  have h := run_on C (ecpDblAJ sc (slotA al) sk) (put2_red (base_red C) (slotA al) ha)
    (by rw [put2_map, base_map C])
  exact ⟨get3_red h.1 _, by simp only [dbla, get3_map, h.2.2]⟩

theorem negA_sim (C : CurveSim c c' φ R) (al : Al) {a : P2 α} (ha : R2 R a) :
    R2 R (negA c al a) ∧ map2 φ (negA c al a) = negA c' al (map2 φ a) := by
  have h := run_on C (ecpNegA sc (slotA al)) (put2_red (base_red C) (slotA al) ha)
    (by rw [put2_map, base_map C])
  exact ⟨get2_red h.1 _, by simp only [negA, get2_map, h.2.2]⟩

theorem opt_sim {r : Store α × Bool} {r' : Store β × Bool} (h1 : RedS R r.1) (h2 : r.2 = r'.2)
    (h3 : mapStore φ r.1 = r'.1) :
    (∀ q, (if r.2 then some (get2 r.1 sc) else none) = some q → R2 R q) ∧
    (if r.2 then some (get2 r.1 sc) else none).map (map2 φ) =
      if r'.2 then some (get2 r'.1 sc) else none := by
  rw [← h2, ← h3]
  cases r.2
  · exact ⟨fun q hq => (by cases hq), rfl⟩
  · exact ⟨fun q hq => (by cases hq; exact get2_red h1 _), rfl⟩

theorem toa_sim (C : CurveSim c c' φ R) (al : Al) {a : P3 α} (ha : R3 R a) :
    (∀ q, toa c al a = some q → R2 R q) ∧
    (toa c al a).map (map2 φ) = toa c' al (map3 φ a) := by
  have h := run_on C (ecpToAJ sc (slotA al) sk) (put3_red (base_red C) (slotA al) ha)
    (by rw [put3_map, base_map C])
  exact opt_sim h.1 h.2.1 h.2.2

theorem runAA_sim (C : CurveSim c c' φ R) (prog : Nat → Nat → Nat → Nat → Prog) (al : Al) {a b : P2 α}
    (ha : R2 R a) (hb : R2 R b) :
    (∀ q, runAA c prog al a b = some q → R2 R q) ∧
    (runAA c prog al a b).map (map2 φ) = runAA c' prog al (map2 φ a) (map2 φ b) := by
  have h := run_on C (prog sc (slotA al) (slotB al) sk)
    (st := if al = .ab ∨ al = .abc then put2 (base c) (slotA al) a
      else put2 (put2 (base c) (slotA al) a) (slotB al) b)
    (st' := if al = .ab ∨ al = .abc then put2 (base c') (slotA al) (map2 φ a)
      else put2 (put2 (base c') (slotA al) (map2 φ a)) (slotB al) (map2 φ b))
    (by
      split
      · exact put2_red (base_red C) _ ha
      · exact put2_red (put2_red (base_red C) _ ha) _ hb)
    (by
      split
      · rw [put2_map, base_map C]
      · rw [put2_map, put2_map, base_map C])
  exact opt_sim h.1 h.2.1 h.2.2

theorem isOnA_sim (C : CurveSim c c' φ R) {a : P2 α} (ha : R2 R a) :
    isOnA c a = isOnA c' (map2 φ a) := by
  have h := run_on C (ecpIsOnA sa sk) (put2_red (base_red C) sa ha)
    (by rw [put2_map, base_map C])
  simp only [isOnA, h.2.1]

theorem swu_sim (C : CurveSim c c' φ R) (p : Nat) {a : α} (ha : R a) :
    R2 R (swu p c a) ∧ map2 φ (swu p c a) = swu p c' (φ a) := by
  have h := run_on C (ecpSWU p sc sa sk) (RedS_upd (base_red C) sa ha)
    (by rw [mapStore_upd, base_map C])
  exact ⟨get2_red h.1 _, by simp only [swu, get2_map, h.2.2]⟩

theorem dblProg_sim (C : CurveSim c c' φ R) : dblProg c = dblProg c' := by
  simp only [dblProg, C.a3]

theorem tplProg_sim (C : CurveSim c c' φ R) : tplProg c = tplProg c' := by
  simp only [tplProg, C.a3]

end Sim

/-- only the entries `EcOps.Correct` speaks of (no `neg`, `tpl`) -/
structure EcOps.Sim {P A P' A' : Type} (o : EcOps P A) (o' : EcOps P' A') (m3 : P → P') (m2 : A → A')
    (D3 : P → Prop) (D2 : A → Prop) : Prop where
  froma : ∀ {a}, D2 a → D3 (o.froma a) ∧ m3 (o.froma a) = o'.froma (m2 a)
  toa : ∀ {p}, D3 p → (∀ b, o.toa p = some b → D2 b) ∧ (o.toa p).map m2 = o'.toa (m3 p)
  view : ∀ {p}, D3 p → D2 (o.view p) ∧ m2 (o.view p) = o'.view (m3 p)
  setO : D3 o.setO ∧ m3 o.setO = o'.setO
  dbl : ∀ al {p}, D3 p → D3 (o.dbl al p) ∧ m3 (o.dbl al p) = o'.dbl al (m3 p)
  dbla : ∀ {a}, D2 a → D3 (o.dbla a) ∧ m3 (o.dbla a) = o'.dbla (m2 a)
  add : ∀ al {p q}, D3 p → D3 q → D3 (o.add al p q) ∧ m3 (o.add al p q) = o'.add al (m3 p) (m3 q)
  sub : ∀ al {p q}, D3 p → D3 q → D3 (o.sub al p q) ∧ m3 (o.sub al p q) = o'.sub al (m3 p) (m3 q)
  adda : ∀ al {p a}, D3 p → D2 a → D3 (o.adda al p a) ∧ m3 (o.adda al p a) = o'.adda al (m3 p) (m2 a)
  suba : ∀ al {p a}, D3 p → D2 a → D3 (o.suba al p a) ∧ m3 (o.suba al p a) = o'.suba al (m3 p) (m2 a)

namespace Sim
variable {α β : Type} {φ : α → β} {R : α → Prop} {c : Curve α} {c' : Curve β}

theorem setO_sim (H : FldSim c.f c'.f φ R) :
    R3 R (c.f.zero, c.f.zero, c.f.zero) ∧
      map3 φ (c.f.zero, c.f.zero, c.f.zero) = (c'.f.zero, c'.f.zero, c'.f.zero) :=
  ⟨⟨H.zero.1, H.zero.1, H.zero.1⟩, by simp only [map3, H.zero.2]⟩

theorem ecOps_sim (C : CurveSim c c' φ R) :
    (ecOps c).Sim (ecOps c') (map3 φ) (map2 φ) (R3 R) (R2 R) where
  froma ha := froma_sim C .n ha
  toa ha := toa_sim C .n ha
  view ha := ⟨⟨ha.1, ha.2.1⟩, rfl⟩
  setO := setO_sim C.fld
  dbl al p ha := by
    show R3 R (run1 c (dblProg c) al p) ∧
      map3 φ (run1 c (dblProg c) al p) = run1 c' (dblProg c') al (map3 φ p)
    rw [← dblProg_sim C]
    exact run1_sim C _ al ha
  dbla ha := dbla_sim C .n ha
  add al _ _ ha hb := run2_sim C ecpAddJ al ha hb
  sub al _ _ ha hb := run2_sim C ecpSubJ al ha hb
  adda al _ _ ha hb := run2A_sim C ecpAddAJ al ha hb
  suba al _ _ ha hb := run2A_sim C ecpSubAJ al ha hb

end Sim
end Bee2V.C06
