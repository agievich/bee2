/-
C06, stage 2 — the generic simulation lemmas of `LemmasSim` for the wrappers of `Wrap2` (ec2.c):
if an executable record of field operations `f` simulates `g` through `φ` (on values satisfying `R`),
then every wrapper run on `f` simulates the run on `g`.
-/
import Bee2V.C06.LemmasSim
import Bee2V.C06.Wrap2
namespace Bee2V.C06.Sim

variable {α β : Type} {f : Fld α} {g : Fld β} {φ : α → β} {R : α → Prop}

theorem mkCurve2_sim (H : FldSim f g φ R) {A B : α} (hA : R A) (hB : R B) :
    CurveSim (mkCurve2 f A B) (mkCurve2 g (φ A) (φ B)) φ R :=
  ⟨H, hA, hB, rfl, rfl, rfl⟩

variable {c : Curve α} {c' : Curve β}

theorem froma2_sim (C : CurveSim c c' φ R) (al : Al) {a : P2 α} (ha : R2 R a) :
    R3 R (froma2 c al a) ∧ map3 φ (froma2 c al a) = froma2 c' al (map2 φ a) := by
  have h := run_on C (ec2FromALD sc (slotA al)) (put2_red (base_red C) (slotA al) ha)
    (by rw [put2_map, base_map C])
  exact ⟨get3_red h.1 _, by simp only [froma2, get3_map, h.2.2]⟩

theorem dbla2_sim (C : CurveSim c c' φ R) (al : Al) {a : P2 α} (ha : R2 R a) :
    R3 R (dbla2 c al a) ∧ map3 φ (dbla2 c al a) = dbla2 c' al (map2 φ a) := by
  have h := run_on C (ec2DblALD sc (slotA al) sk) (put2_red (base_red C) (slotA al) ha)
    (by rw [put2_map, base_map C])
  exact ⟨get3_red h.1 _, by simp only [dbla2, get3_map, h.2.2]⟩

theorem toa2_sim (C : CurveSim c c' φ R) (al : Al) {a : P3 α} (ha : R3 R a) :
    (∀ q, toa2 c al a = some q → R2 R q) ∧
    (toa2 c al a).map (map2 φ) = toa2 c' al (map3 φ a) := by
  have h := run_on C (ec2ToALD sc (slotA al) sk) (put3_red (base_red C) (slotA al) ha)
    (by rw [put3_map, base_map C])
  exact opt_sim h.1 h.2.1 h.2.2

theorem ecOps2_sim (C : CurveSim c c' φ R) :
    (ecOps2 c).Sim (ecOps2 c') (map3 φ) (map2 φ) (R3 R) (R2 R) where
  froma ha := froma2_sim C .n ha
  toa ha := toa2_sim C .n ha
  view ha := ⟨⟨ha.1, ha.2.1⟩, rfl⟩
  setO := setO_sim C.fld
  dbl al _ ha := run1_sim C ec2DblLD al ha
  dbla ha := dbla2_sim C .n ha
  add al _ _ ha hb := run2_sim C ec2AddLD al ha hb
  sub al _ _ ha hb := run2_sim C ec2SubLD al ha hb
  adda al _ _ ha hb := run2A_sim C ec2AddALD al ha hb
  suba al _ _ ha hb := run2A_sim C ec2SubALD al ha hb

end Bee2V.C06.Sim
