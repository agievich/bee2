/-
C06 — one-operand routines of `ecp.c` (`ecpNegJ`, `ecpDblJ`, `ecpDblJA3`, `ecpDblAJ`, `ecpFromAJ`,
`ecpToAJ`, `ecpNegA`, `ecpIsOnA`): the doubling formulas against Mathlib's group law; symbolic execution on the
canonical store with the destination distinct from the operand (the call in place is the same call: `run1_al`, `froma_al`, …
of LemmasPlace3/4); execution + formulas = group law (all special cases), the word-level `ecpIsOnA` over
`natFld p`, and the concrete points used by the non-vacuity examples of `PropsUn`.
-/
import Bee2V.C06.Spec
import Mathlib.Tactic.Ring
import Mathlib.Tactic.FieldSimp
import Mathlib.Tactic.LinearCombination
import Mathlib.Data.ZMod.Basic
import Mathlib.Tactic.NormNum
import Mathlib.Tactic.NormNum.Prime
namespace Bee2V.C06.Un
open Bee2V.C06 WeierstrassCurve
set_option linter.unusedSectionVars false
set_option linter.unusedSimpArgs false
set_option linter.unusedVariables false
variable {F : Type} [Field F] [DecidableEq F] {A B : F}

/-! ### `Rep3` / `Rep2` bookkeeping -/

theorem rep3_O {p : P3 F} (h : p.2.2 = 0) : Rep3 A B p 0 := by
  unfold Rep3; simp [h]

theorem rep3_z0 {X Y Z : F} {P : (Wc A B).Point} (hp : Rep3 A B (X, Y, Z) P) (hz : Z = 0) : P = 0 := by
  unfold Rep3 at hp; simpa [hz] using hp

theorem rep3_nz {X Y Z : F} {P : (Wc A B).Point} (hp : Rep3 A B (X, Y, Z) P) (hz : Z ≠ 0) :
    ∃ h : (Wc A B).Nonsingular (X / Z ^ 2) (Y / Z ^ 3), P = .some (X / Z ^ 2) (Y / Z ^ 3) h := by
  unfold Rep3 at hp; simp only [hz, if_false] at hp; exact hp

theorem rep3_of_rep2 {X Y Z : F} {P : (Wc A B).Point} (hz : Z ≠ 0)
    (h : Rep2 A B (X / Z ^ 2, Y / Z ^ 3) P) : Rep3 A B (X, Y, Z) P := by
  unfold Rep3; simp only [hz, if_false]; exact h

/-- a point of order two: `y = 0` -/
theorem add_self_y0 {x y : F} (h : (Wc A B).Nonsingular x y) (hy : y = 0) :
    Affine.Point.some x y h + Affine.Point.some x y h = 0 :=
  add_inverse h h rfl (by rw [hy, neg_zero])

theorem one_add_one_ne (h2 : (2 : F) ≠ 0) : (1 : F) + 1 ≠ 0 := by
  rw [one_add_one_eq_two]; exact h2

/-! ### the doubling formulas -/

/-- output of `ecpDblJ`/`ecpDblJA3` as a function of `M = 3X² + AZ⁴` -/
def dblForm (M X Y Z : F) : P3 F :=
  (M * M - (Y + Y) * (Y + Y) * X - (Y + Y) * (Y + Y) * X,
   ((Y + Y) * (Y + Y) * X - (M * M - (Y + Y) * (Y + Y) * X - (Y + Y) * (Y + Y) * X)) * M
     - (Y + Y) * (Y + Y) * ((Y + Y) * (Y + Y)) / 2,
   Y * Z + Y * Z)

theorem dbl_math (h2 : (2 : F) ≠ 0) {X Y Z M : F} {P : (Wc A B).Point} (hp : Rep3 A B (X, Y, Z) P)
    (hz : Z ≠ 0) (hy : Y ≠ 0) (hM : M = 3 * X ^ 2 + A * Z ^ 4) :
    Rep3 A B (dblForm M X Y Z) (P + P) := by
  obtain ⟨h, rfl⟩ := rep3_nz hp hz
  have h11 := one_add_one_ne h2
  have hyy : Y / Z ^ 3 + Y / Z ^ 3 ≠ 0 := by
    rw [← two_mul]; exact mul_ne_zero h2 (div_ne_zero hy (pow_ne_zero _ hz))
  have hZ' : Y * Z + Y * Z ≠ 0 := by
    rw [← two_mul]; exact mul_ne_zero h2 (mul_ne_zero hy hz)
  subst hM
  refine rep3_of_rep2 hZ' (Rep2_of_eq (add_tangent h hyy) ?_ ?_)
  · field_simp
  · field_simp; ring

/-- output of `ecpDblAJ` -/
def dblaForm (A X Y : F) : P3 F :=
  ((X * X + X * X + X * X + A) * (X * X + X * X + X * X + A) -
        ((Y * Y + X) * (Y * Y + X) - X * X - Y * Y * (Y * Y) + ((Y * Y + X) * (Y * Y + X) - X * X - Y * Y * (Y * Y)) +
          ((Y * Y + X) * (Y * Y + X) - X * X - Y * Y * (Y * Y) +
            ((Y * Y + X) * (Y * Y + X) - X * X - Y * Y * (Y * Y)))),
   (X * X + X * X + X * X + A) *
            ((Y * Y + X) * (Y * Y + X) - X * X - Y * Y * (Y * Y) +
                ((Y * Y + X) * (Y * Y + X) - X * X - Y * Y * (Y * Y)) -
              ((X * X + X * X + X * X + A) * (X * X + X * X + X * X + A) -
                ((Y * Y + X) * (Y * Y + X) - X * X - Y * Y * (Y * Y) +
                    ((Y * Y + X) * (Y * Y + X) - X * X - Y * Y * (Y * Y)) +
                  ((Y * Y + X) * (Y * Y + X) - X * X - Y * Y * (Y * Y) +
                    ((Y * Y + X) * (Y * Y + X) - X * X - Y * Y * (Y * Y)))))) -
          (Y * Y * (Y * Y) + Y * Y * (Y * Y) + (Y * Y * (Y * Y) + Y * Y * (Y * Y)) +
            (Y * Y * (Y * Y) + Y * Y * (Y * Y) + (Y * Y * (Y * Y) + Y * Y * (Y * Y)))),
   Y + Y)

theorem dbla_math (h2 : (2 : F) ≠ 0) {X Y : F} {P : (Wc A B).Point} (hp : Rep2 A B (X, Y) P)
    (hy : Y ≠ 0) : Rep3 A B (dblaForm A X Y) (P + P) := by
  obtain ⟨h, rfl⟩ := hp
  have h11 := one_add_one_ne h2
  have hyy : Y + Y ≠ 0 := by rw [← two_mul]; exact mul_ne_zero h2 hy
  refine rep3_of_rep2 hyy (Rep2_of_eq (add_tangent h hyy) ?_ ?_)
  · field_simp; ring
  · field_simp; ring

/-! ### `ecpDblJ` -/

theorem dblJ_exec (X Y Z : F) (hz : Z ≠ 0) (hy : Y ≠ 0) :
    run1 (curveF A B) ecpDblJ .n (X, Y, Z) =
      dblForm (A * (Z * Z * (Z * Z)) + X * X + (X * X + X * X)) X Y Z := by
  exact (run_else res3 hz).trans ((run_else res3 hy).trans (by rfl))

theorem dblJ_exec_z0 (X Y : F) :
    (run1 (curveF A B) ecpDblJ .n (X, Y, 0)).2.2 = 0 := by
  exact run_then resZ rfl

theorem dblJ_exec_y0 (X Z : F) :
    (run1 (curveF A B) ecpDblJ .n (X, 0, Z)).2.2 = 0 := by
  by_cases hz : Z = 0
  · exact run_then resZ hz
  · exact (run_else resZ hz).trans (run_then resZ rfl)

/-! ### `ecpDblJA3` -/

theorem dblJA3_exec (X Y Z : F) (hz : Z ≠ 0) (hy : Y ≠ 0) :
    run1 (curveF A B) ecpDblJA3 .n (X, Y, Z) =
      dblForm ((X + Z * Z) * (X - Z * Z) + (X + Z * Z) * (X - Z * Z) + (X + Z * Z) * (X - Z * Z)) X Y Z := by
  exact (run_else res3 hz).trans ((run_else res3 hy).trans (by rfl))

theorem dblJA3_exec_z0 (X Y : F) :
    (run1 (curveF A B) ecpDblJA3 .n (X, Y, 0)).2.2 = 0 := by
  exact run_then resZ rfl

theorem dblJA3_exec_y0 (X Z : F) :
    (run1 (curveF A B) ecpDblJA3 .n (X, 0, Z)).2.2 = 0 := by
  by_cases hz : Z = 0
  · exact run_then resZ hz
  · exact (run_else resZ hz).trans (run_then resZ rfl)

/-! ### `ecpDblAJ` -/

theorem dblAJ_exec (X Y : F) (hy : Y ≠ 0) :
    dbla (curveF A B) .n (X, Y) = dblaForm A X Y := by
  exact (run_else res3 hy).trans (by rfl)

theorem dblAJ_exec_y0 (X : F) :
    (dbla (curveF A B) .n (X, 0)).2.2 = 0 := by
  exact run_then resZ rfl

/-! ### `ecpNegJ`, `ecpFromAJ`, `ecpToAJ`, `ecpNegA`, `ecpIsOnA` -/

theorem negJ_exec (X Y Z : F) :
    run1 (curveF A B) (fun b a _ => ecpNegJ b a) .n (X, Y, Z) = (X, -Y, Z) := by
  rfl

theorem fromAJ_exec (X Y : F) :
    froma (curveF A B) .n (X, Y) = (X, Y, 1) := by
  rfl

theorem toAJ_exec (X Y Z : F) (hz : Z ≠ 0) :
    toa (curveF A B) .n (X, Y, Z) = some (X * (Z⁻¹ * Z⁻¹), Y * (Z⁻¹ * (Z⁻¹ * Z⁻¹))) := by
  exact run_else resO hz

theorem toAJ_exec_z0 (X Y : F) :
    toa (curveF A B) .n (X, Y, 0) = none := by
  exact run_then resO rfl

theorem negA_exec (X Y : F) :
    negA (curveF A B) .n (X, Y) = (X, -Y) := by
  rfl

theorem isOnA_exec (X Y : F) :
    isOnA (curveF A B) (X, Y) = decide ((X * X + A) * X + B = Y * Y) := by
  by_cases h : (X * X + A) * X + B = Y * Y
  · rw [decide_eq_true h]; exact run_then Prod.snd h
  · rw [decide_eq_false h]; exact run_else Prod.snd h

/-- doubling with a program whose three behaviours are known -/
theorem dbl_of_exec (h2 : (2 : F) ≠ 0) (f : P3 F → P3 F) (M : F → F → F)
    (hM : ∀ X Z, M X Z = 3 * X ^ 2 + A * Z ^ 4)
    (e : ∀ X Y Z, Z ≠ 0 → Y ≠ 0 → f (X, Y, Z) = dblForm (M X Z) X Y Z)
    (ez : ∀ X Y, (f (X, Y, 0)).2.2 = 0) (ey : ∀ X Z, (f (X, 0, Z)).2.2 = 0)
    {p : P3 F} {P : (Wc A B).Point} (hp : Rep3 A B p P) : Rep3 A B (f p) (P + P) := by
  obtain ⟨X, Y, Z⟩ := p
  by_cases hz : Z = 0
  · subst hz
    rw [rep3_z0 hp rfl, add_zero]; exact rep3_O (ez X Y)
  · by_cases hy : Y = 0
    · subst hy
      obtain ⟨h, rfl⟩ := rep3_nz hp hz
      rw [add_self_y0 h (zero_div _)]; exact rep3_O (ey X Z)
    · rw [e X Y Z hz hy]; exact dbl_math h2 hp hz hy (hM X Z)

theorem dblJ_ok (h2 : (2 : F) ≠ 0) {p : P3 F} {P : (Wc A B).Point}
    (hp : Rep3 A B p P) : Rep3 A B (run1 (curveF A B) ecpDblJ .n p) (P + P) :=
  dbl_of_exec h2 _ (fun X Z => A * (Z * Z * (Z * Z)) + X * X + (X * X + X * X)) (fun X Z => by ring)
    dblJ_exec dblJ_exec_z0 dblJ_exec_y0 hp

theorem dblJA3_ok (h2 : (2 : F) ≠ 0) (hA : A = -3) {p : P3 F}
    {P : (Wc A B).Point} (hp : Rep3 A B p P) : Rep3 A B (run1 (curveF A B) ecpDblJA3 .n p) (P + P) :=
  dbl_of_exec h2 _
    (fun X Z => (X + Z * Z) * (X - Z * Z) + (X + Z * Z) * (X - Z * Z) + (X + Z * Z) * (X - Z * Z))
    (fun X Z => by rw [hA]; ring)
    dblJA3_exec dblJA3_exec_z0 dblJA3_exec_y0 hp

/-- `bA3` of `ecpCreateJ` over a field -/
theorem a3_iff : (curveF A B).a3 = true ↔ A = -3 := by
  simp only [curveF, mkCurve, fieldFld, decide_eq_true_eq]
  constructor
  · intro h; rw [← h]; norm_num
  · intro h; rw [h]; norm_num

theorem dbl_ok (h2 : (2 : F) ≠ 0) {p : P3 F} {P : (Wc A B).Point}
    (hp : Rep3 A B p P) : Rep3 A B (run1 (curveF A B) (dblProg (curveF A B)) .n p) (P + P) := by
  by_cases h : (curveF A B).a3 = true
  · have : dblProg (curveF A B) = ecpDblJA3 := by simp [dblProg, h]
    rw [this]; exact dblJA3_ok h2 (a3_iff.1 h) hp
  · have : dblProg (curveF A B) = ecpDblJ := by simp [dblProg, h]
    rw [this]; exact dblJ_ok h2 hp

theorem dbla_ok (h2 : (2 : F) ≠ 0) {a : P2 F} {P : (Wc A B).Point}
    (ha : Rep2 A B a P) : Rep3 A B (dbla (curveF A B) .n a) (P + P) := by
  obtain ⟨X, Y⟩ := a
  by_cases hy : Y = 0
  · subst hy
    obtain ⟨h, rfl⟩ := ha
    rw [add_self_y0 h rfl]; exact rep3_O (dblAJ_exec_y0 X)
  · rw [dblAJ_exec X Y hy]; exact dbla_math h2 ha hy

theorem neg_ok {p : P3 F} {P : (Wc A B).Point}
    (hp : Rep3 A B p P) : Rep3 A B (run1 (curveF A B) (fun b a _ => ecpNegJ b a) .n p) (-P) := by
  obtain ⟨X, Y, Z⟩ := p
  rw [negJ_exec]
  by_cases hz : Z = 0
  · rw [rep3_z0 hp hz, neg_zero]; exact rep3_O hz
  · obtain ⟨h, rfl⟩ := rep3_nz hp hz
    exact rep3_of_rep2 hz (Rep2_of_eq (neg_some h) rfl (neg_div _ _).symm)

theorem froma_ok {a : P2 F} {P : (Wc A B).Point}
    (ha : Rep2 A B a P) : Rep3 A B (froma (curveF A B) .n a) P := by
  obtain ⟨X, Y⟩ := a
  rw [fromAJ_exec]
  exact rep3_of_rep2 one_ne_zero (Rep2_of_eq ha (by simp) (by simp))

theorem toa_ok {p : P3 F} {P : (Wc A B).Point}
    (hp : Rep3 A B p P) :
    (toa (curveF A B) .n p = none ↔ P = 0) ∧ ∀ b, toa (curveF A B) .n p = some b → Rep2 A B b P := by
  obtain ⟨X, Y, Z⟩ := p
  by_cases hz : Z = 0
  · subst hz
    rw [toAJ_exec_z0]
    exact ⟨⟨fun _ => rep3_z0 hp rfl, fun _ => rfl⟩, fun b hb => (by cases hb)⟩
  · rw [toAJ_exec X Y Z hz]
    obtain ⟨h, rfl⟩ := rep3_nz hp hz
    refine ⟨⟨fun hb => (by cases hb), fun hb => absurd hb (Affine.Point.some_ne_zero h)⟩, fun b hb => ?_⟩
    cases hb
    exact Rep2_of_eq ⟨h, rfl⟩ (by field_simp) (by field_simp)

theorem negA_ok {a : P2 F} {P : (Wc A B).Point}
    (ha : Rep2 A B a P) : Rep2 A B (negA (curveF A B) .n a) (-P) := by
  obtain ⟨X, Y⟩ := a
  rw [negA_exec]
  obtain ⟨h, rfl⟩ := ha
  exact neg_some h

theorem isOnA_ok (a : P2 F) : isOnA (curveF A B) a = true ↔ a.2 ^ 2 = a.1 ^ 3 + A * a.1 + B := by
  obtain ⟨X, Y⟩ := a
  rw [isOnA_exec, decide_eq_true_eq]
  constructor <;> intro h <;> linear_combination -h

/-! ### `ecpIsOnA` on words -/

theorem isOnA_nat_exec (p A B x y : Nat) :
    isOnA (mkCurve (natFld p) A B) (x, y) = (((x * x + A) * x + B) % p == y * y % p) := by
  by_cases h : ((x * x + A) * x + B) % p = y * y % p <;>
  simp [isOnA, mkCurve, ecpIsOnA, Prog.run, Prog.block, Instr.exec, upd, put2, base,
    natFld, cX, cY, cZ, rA, rB, sc, sa, sk, h]

theorem isOnAW_ok (p : Nat) [Fact p.Prime] (A B x y : Nat) :
    isOnAW p (mkCurve (natFld p) A B) (x, y) = true ↔
      x < p ∧ y < p ∧ ((y : ZMod p) ^ 2 = (x : ZMod p) ^ 3 + A * x + B) := by
  unfold isOnAW
  by_cases hr : x < p ∧ y < p
  · simp only [hr, if_true, true_and, and_self]
    rw [isOnA_nat_exec, beq_iff_eq]
    rw [← ZMod.natCast_eq_natCast_iff']
    simp only [Nat.cast_add, Nat.cast_mul]
    constructor <;> intro h <;> linear_combination -h
  · simp only [hr, if_false]
    constructor
    · intro h; cases h
    · intro h; exact absurd ⟨h.1, h.2.1⟩ hr

/-! ### concrete points for the non-vacuity examples -/

/-- `(2, 3)` on `y² = x³ + 1` over `ℚ` -/
theorem ns23 : (Wc (0 : ℚ) 1).Nonsingular 2 3 := by rw [Wc_nonsingular]; norm_num

/-- `(-1, 0)`, a point of order two on `y² = x³ + 1` over `ℚ` -/
theorem nsm10 : (Wc (0 : ℚ) 1).Nonsingular (-1) 0 := by rw [Wc_nonsingular]; norm_num

/-- `(1, 1)` on `y² = x³ - 3x + 3` over `ℚ` (the `A = -3` case) -/
theorem ns11 : (Wc (-3 : ℚ) 3).Nonsingular 1 1 := by rw [Wc_nonsingular]; norm_num

theorem rep2_23 : Rep2 (0 : ℚ) 1 (2, 3) (.some 2 3 ns23) := ⟨ns23, rfl⟩
theorem rep2_m10 : Rep2 (0 : ℚ) 1 (-1, 0) (.some (-1) 0 nsm10) := ⟨nsm10, rfl⟩

/-- `(8 : 24 : 2)` is `(2, 3)` -/
theorem rep3_23 : Rep3 (0 : ℚ) 1 (8, 24, 2) (.some 2 3 ns23) :=
  rep3_of_rep2 (by norm_num) (Rep2_of_eq rep2_23 (by norm_num) (by norm_num))

/-- `(-4 : 0 : 2)` is `(-1, 0)` -/
theorem rep3_m10 : Rep3 (0 : ℚ) 1 (-4, 0, 2) (.some (-1) 0 nsm10) :=
  rep3_of_rep2 (by norm_num) (Rep2_of_eq rep2_m10 (by norm_num) (by norm_num))

/-- `(4 : 8 : 2)` is `(1, 1)` on the `A = -3` curve -/
theorem rep3_11 : Rep3 (-3 : ℚ) 3 (4, 8, 2) (.some 1 1 ns11) :=
  rep3_of_rep2 (by norm_num) (Rep2_of_eq ⟨ns11, rfl⟩ (by norm_num) (by norm_num))

theorem prime7 : Fact (Nat.Prime 7) := ⟨by norm_num⟩

end Bee2V.C06.Un
