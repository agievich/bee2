/-
C06 / tripling.  Symbolic execution of `ecpTplJ` (tpl-2007-bl) and `ecpTplJA3`
(tpl-2007-bl-2, A = −3) on values, destination distinct from the operand (in place it is the same call: `run1_al`).
Both routines are split into a head (up to `E²`) and a common tail of 28 instructions.  The tail computes `tailF`
of the operand and of the seven scratch values `Y², Z², Y⁴, M, M², E, E²` the head leaves there (`tail_get`, by
evaluation on an arbitrary store), `tailF_eq` is its algebra; of the head only `M` and `E` need more than
evaluation.  Result: `run1 … = tplOut A X Y Z` with
`M = 3X² + AZ⁴`, `E = 12XY² − M²`, `U = 2ME − 16Y⁴`,
`X₃ = 4(XE² − 4Y²U)`, `Y₃ = 8Y(U(16Y⁴ − U) − E³)`, `Z₃ = 2ZE`.

The closed form `tplOut` represents `P + P + P` for every input.
Affine coordinates `x = X/Z²`, `y = Y/Z³`, `m = 3x² + A`, `e = 12xy² − m²`, `u = 2me − 16y⁴`:
`tplOut = (4Z¹⁸(xe² − 4y²u), 8yZ²⁷(u(16y⁴ − u) − e³), 2Z⁹e)`, and `x(2P) − x(P) = −e/(4y²)`.
  * `Z = 0`: `Z₃ = 0`;
  * `y = 0` (order two): `2P = O`, `3P = P`, `e = −m²`, `m ≠ 0` by nonsingularity, output ≅ `(x, 0)`;
  * `y ≠ 0`, `e = 0` (order three): `2P = (x, −y) = −P`, `3P = O`, `Z₃ = 0`;
  * `y ≠ 0`, `e ≠ 0`: chord of `2P` and `P`.
Only `2 ≠ 0` is used (`3 ≠ 0` is not needed).

Assembly (`run1 … ecpTplJ`, `run1 … ecpTplJA3`, the `tpl` entry of the table
filled by `ecpCreateJ`) and the concrete points used by the non-vacuity examples of `PropsTpl`.
-/
import Bee2V.C06.Spec
import Mathlib.Tactic.Ring
import Mathlib.Tactic.FieldSimp
import Mathlib.Tactic.LinearCombination
import Mathlib.Tactic.NormNum
namespace Bee2V.C06.Tpl
open WeierstrassCurve Instr Prog
set_option linter.unusedSectionVars false
set_option linter.unusedSimpArgs false
set_option linter.unusedVariables false
variable {F : Type} [Field F] [DecidableEq F] {A B : F}

/-- `M = 3X² + A·Z⁴` -/
def tM (A X Z : F) : F := 3 * X ^ 2 + A * Z ^ 4
/-- `E = 12·X·Y² − M²` -/
def tE (A X Y Z : F) : F := 12 * X * Y ^ 2 - tM A X Z ^ 2
/-- `U = 2·M·E − 16·Y⁴` -/
def tU (A X Y Z : F) : F := 2 * tM A X Z * tE A X Y Z - 16 * Y ^ 4
/-- closed form of the output of `ecpTplJ` -/
def tplOut (A X Y Z : F) : P3 F :=
  (4 * (X * tE A X Y Z ^ 2 - 4 * Y ^ 2 * tU A X Y Z),
   8 * Y * (tU A X Y Z * (16 * Y ^ 4 - tU A X Y Z) - tE A X Y Z ^ 3),
   2 * Z * tE A X Y Z)

/-- first 19 instructions of `ecpTplJ` (up to `E²`) -/
def headJ (a s : Nat) : List Instr :=
  let t0 := s; let t1 := s + 1; let t2 := s + 2; let t3 := s + 3
  let t4 := s + 4; let t5 := s + 5; let t6 := s + 6; let t7 := s + 7
  [sqr t0 (cX a), sqr t1 (cY a), sqr t2 (cZ a), sqr t3 t1, sqr t4 t2, mul t4 t4 rA, dbl t5 t0,
   add t5 t0 t5, add t4 t4 t5, sqr t5 t4, add t6 (cX a) t1, sqr t6 t6, sub t6 t6 t0, sub t6 t6 t3,
   dbl t7 t6, add t6 t6 t7, dbl t6 t6, sub t6 t6 t5, sqr t7 t6]

/-- first 16 instructions of `ecpTplJA3` (up to `E²`) -/
def headA3 (a s : Nat) : List Instr :=
  let t1 := s; let t2 := s + 1; let t3 := s + 2
  let t4 := s + 3; let t5 := s + 4; let t6 := s + 5; let t7 := s + 6
  [sqr t1 (cY a), sqr t2 (cZ a), sqr t3 t1, sub t4 (cX a) t2, add t5 (cX a) t2, mul t4 t4 t5,
   dbl t5 t4, add t4 t4 t5, sqr t5 t4, mul t6 (cX a) t1, dbl t7 t6, add t6 t6 t7, dbl t6 t6,
   dbl t6 t6, sub t6 t6 t5, sqr t7 t6]

/-- the common last 28 instructions of `ecpTplJ` and `ecpTplJA3` -/
def tailL (b a t1 t2 t3 t4 t5 t6 t7 : Nat) : List Instr :=
  [dbl t3 t3, dbl t3 t3, dbl t3 t3, dbl t3 t3,
   add (cZ b) (cZ a) t6, sqr (cZ b) (cZ b), sub (cZ b) (cZ b) t2, sub (cZ b) (cZ b) t7,
   add t2 t4 t6, sqr t2 t2, sub t2 t2 t5, sub t2 t2 t7, sub t2 t2 t3, sub t3 t3 t2,
   mul t3 t2 t3, mul t6 t6 t7, sub t3 t3 t6,
   mul (cY b) (cY a) t3, dbl (cY b) (cY b), dbl (cY b) (cY b), dbl (cY b) (cY b),
   mul t1 t1 t2, dbl t1 t1, dbl t1 t1,
   mul (cX b) (cX a) t7, sub (cX b) (cX b) t1, dbl (cX b) (cX b), dbl (cX b) (cX b)]

/-- what the tail computes from the operand `(X, Y, Z)` and the scratch values `t1 … t7` -/
def tailF (X Y Z y2 z2 y4 m m2 e e2 : F) : P3 F :=
  let t3 := y4 + y4 + (y4 + y4) + (y4 + y4 + (y4 + y4)) + (y4 + y4 + (y4 + y4) + (y4 + y4 + (y4 + y4)))
  let u := (m + e) * (m + e) - m2 - e2 - t3
  let w := u * (t3 - u) - e * e2
  let y := Y * w + Y * w + (Y * w + Y * w)
  let x := X * e2 - (y2 * u + y2 * u + (y2 * u + y2 * u))
  (x + x + (x + x), y + y, (Z + e) * (Z + e) - z2 - e2)

theorem tail_get (t1 : Nat) (ht : t1 = 11 ∨ t1 = 12) (st : Store F) :
    get3 ((Prog.block (tailL 2 5 t1 (t1 + 1) (t1 + 2) (t1 + 3) (t1 + 4) (t1 + 5) (t1 + 6))
      (.ret true)).run (fieldFld F) st).1 2 =
    tailF (st.get 5) (st.get 6) (st.get 7) (st.get t1) (st.get (t1 + 1)) (st.get (t1 + 2))
      (st.get (t1 + 3)) (st.get (t1 + 4)) (st.get (t1 + 5)) (st.get (t1 + 6)) := by
  rcases ht with rfl | rfl <;> rfl

/-- the tail with `t1 = Y²`, `t2 = Z²`, `t3 = Y⁴`, `t5 = t4²`, `t7 = t6²` -/
theorem tailF_eq (X Y Z M E : F) :
    tailF X Y Z (Y * Y) (Z * Z) (Y * Y * (Y * Y)) M (M * M) E (E * E) =
    (4 * (X * E ^ 2 - 4 * Y ^ 2 * (2 * M * E - 16 * Y ^ 4)),
     8 * Y * ((2 * M * E - 16 * Y ^ 4) * (16 * Y ^ 4 - (2 * M * E - 16 * Y ^ 4)) - E ^ 3),
     2 * Z * E) := by
  simp only [tailF, Prod.mk.injEq]
  refine ⟨?_, ?_, ?_⟩ <;> ring

/-- the tail on a store whose scratch holds `Y², Z², Y⁴, M, M², E, E²` -/
theorem tail_run (t1 : Nat) (ht : t1 = 11 ∨ t1 = 12) (st : Store F) (X Y Z : F)
    (hX : st.get 5 = X) (hY : st.get 6 = Y) (hZ : st.get 7 = Z)
    (h1 : st.get t1 = Y * Y) (h2 : st.get (t1 + 1) = Z * Z) (h3 : st.get (t1 + 2) = Y * Y * (Y * Y))
    (h4 : st.get (t1 + 3) = tM A X Z) (h5 : st.get (t1 + 4) = st.get (t1 + 3) * st.get (t1 + 3))
    (h6 : st.get (t1 + 5) = tE A X Y Z) (h7 : st.get (t1 + 6) = st.get (t1 + 5) * st.get (t1 + 5)) :
    get3 ((Prog.block (tailL 2 5 t1 (t1 + 1) (t1 + 2) (t1 + 3) (t1 + 4) (t1 + 5) (t1 + 6))
      (.ret true)).run (fieldFld F) st).1 2 = tplOut A X Y Z := by
  rw [tail_get t1 ht, h7, h5, hX, hY, hZ, h1, h2, h3, h4, h6, tailF_eq]
  rfl

/-- running a straight-line block = folding `exec` over it -/
theorem block_run (f : Fld F) (l : List Instr) (k : Prog) (st : Store F) :
    (Prog.block l k).run f st = k.run f (l.foldl (fun s i => i.exec f s) st) := by
  induction l generalizing st with
  | nil => rfl
  | cons i is ih => exact ih _

theorem tplJ_split (b a s : Nat) : ecpTplJ b a s =
    Prog.block (headJ a s) (Prog.block
      (tailL b a (s + 1) (s + 2) (s + 3) (s + 4) (s + 5) (s + 6) (s + 7)) (.ret true)) := rfl

theorem tplJA3_split (b a s : Nat) : ecpTplJA3 b a s =
    Prog.block (headA3 a s) (Prog.block
      (tailL b a s (s + 1) (s + 2) (s + 3) (s + 4) (s + 5) (s + 6)) (.ret true)) := rfl

theorem get_upd (st : Store F) (d : Nat) (v : F) (i : Nat) :
    (upd st d v).get i = if i = d then v else st.get i := rfl

theorem tplJ_exec (X Y Z : F) : run1 (curveF A B) ecpTplJ .n (X, Y, Z) = tplOut A X Y Z := by
  unfold run1
  simp only [sc, sk]
  rw [tplJ_split, block_run]
  refine tail_run 12 (.inr rfl) _ X Y Z rfl rfl rfl rfl rfl rfl ?_ rfl ?_ rfl <;>
  · simp only [headJ, List.foldl, Instr.exec, get_upd, put3, base, curveF, mkCurve, fieldFld, slotA, sc, sa, sk,
      cX, cY, cZ, rA, rB, Nat.reduceAdd, Nat.reduceEqDiff, if_true, if_false, tM, tE]
    ring

theorem tplJA3_exec (hA : A = -3) (X Y Z : F) : run1 (curveF A B) ecpTplJA3 .n (X, Y, Z) = tplOut A X Y Z := by
  subst hA
  unfold run1
  simp only [sc, sk]
  rw [tplJA3_split, block_run]
  refine tail_run 11 (.inl rfl) _ X Y Z rfl rfl rfl rfl rfl rfl ?_ rfl ?_ rfl <;>
  · simp only [headA3, List.foldl, Instr.exec, get_upd, put3, base, curveF, mkCurve, fieldFld, slotA, sc, sa, sk,
      cX, cY, cZ, rA, rB, Nat.reduceAdd, Nat.reduceEqDiff, if_true, if_false, tM, tE]
    ring

/-- order two: `y = 0`, `3P = P` -/
theorem tpl_affine_y0 {x y Z m e u : F} (h : (Wc A B).Nonsingular x y) (hy : y = 0) (hZ : Z ≠ 0)
    (h2 : (2 : F) ≠ 0) (hm : m = 3 * x ^ 2 + A) (he : e = 12 * x * y ^ 2 - m ^ 2)
    (hu : u = 2 * m * e - 16 * y ^ 4) :
    Rep3 A B (4 * Z ^ 18 * (x * e ^ 2 - 4 * y ^ 2 * u),
        8 * y * Z ^ 27 * (u * (16 * y ^ 4 - u) - e ^ 3), 2 * Z ^ 9 * e)
      (Affine.Point.some x y h + Affine.Point.some x y h + Affine.Point.some x y h) := by
  subst hy
  have hm0 : m ≠ 0 := by
    rcases ((Wc_nonsingular A B x 0).1 h).2 with h' | h'
    · rwa [hm]
    · simp at h'
  have e0 : Affine.Point.some x 0 h + Affine.Point.some x 0 h = 0 := add_inverse h h rfl (by simp)
  rw [e0, zero_add]
  have he' : e = - m ^ 2 := by rw [he]; ring
  have hz3 : 2 * Z ^ 9 * e ≠ 0 := by
    rw [he']; exact mul_ne_zero (mul_ne_zero h2 (pow_ne_zero _ hZ)) (neg_ne_zero.2 (pow_ne_zero _ hm0))
  unfold Rep3
  simp only []
  rw [if_neg hz3]
  refine Rep2_of_eq ⟨h, rfl⟩ ?_ ?_
  · rw [he']; field_simp; ring
  · simp

theorem tangent_ex {x y : F} (h : (Wc A B).Nonsingular x y) (hy : y + y ≠ 0) :
    ∃ l x₂ y₂, ∃ h' : (Wc A B).Nonsingular x₂ y₂, l = (3 * x ^ 2 + A) / (y + y) ∧ x₂ = l ^ 2 - x - x ∧
      y₂ = l * (x - x₂) - y ∧
      Affine.Point.some x y h + Affine.Point.some x y h = Affine.Point.some x₂ y₂ h' := by
  obtain ⟨h', e⟩ := add_tangent h hy
  exact ⟨_, _, _, h', rfl, rfl, rfl, e⟩

/-- generic case, x-coordinate: atoms `x y l Z`, `m = 2yl`, `d = x₂ − x = l² − 3x`, `e = −4y²d` -/
theorem gen_x {x y l Z d : F} (hy : y ≠ 0) (hZ : Z ≠ 0) (h2 : (2 : F) ≠ 0) (hd : d ≠ 0)
    (hdd : d = l ^ 2 - 3 * x) :
    ((l * (x - (x + d)) - y - y) / d) ^ 2 - (x + d) - x =
      4 * Z ^ 18 * (x * (-(4 * y ^ 2 * d)) ^ 2 - 4 * y ^ 2 * (2 * (l * (2 * y)) * (-(4 * y ^ 2 * d)) - 16 * y ^ 4)) /
        (2 * Z ^ 9 * (-(4 * y ^ 2 * d))) ^ 2 := by
  have h4 : (4 : F) ≠ 0 := by
    have : (4 : F) = 2 * 2 := by norm_num
    rw [this]; exact mul_ne_zero h2 h2
  field_simp
  rw [hdd]
  ring
theorem gen_y {x y l Z d : F} (hy : y ≠ 0) (hZ : Z ≠ 0) (h2 : (2 : F) ≠ 0) (hd : d ≠ 0)
    (hdd : d = l ^ 2 - 3 * x) :
    ((l * (x - (x + d)) - y - y) / d) * ((x + d) - (((l * (x - (x + d)) - y - y) / d) ^ 2 - (x + d) - x))
        - (l * (x - (x + d)) - y) =
      8 * y * Z ^ 27 * ((2 * (l * (2 * y)) * (-(4 * y ^ 2 * d)) - 16 * y ^ 4) *
          (16 * y ^ 4 - (2 * (l * (2 * y)) * (-(4 * y ^ 2 * d)) - 16 * y ^ 4)) - (-(4 * y ^ 2 * d)) ^ 3) /
        (2 * Z ^ 9 * (-(4 * y ^ 2 * d))) ^ 3 := by
  have h4 : (4 : F) ≠ 0 := by
    have : (4 : F) = 2 * 2 := by norm_num
    rw [this]; exact mul_ne_zero h2 h2
  field_simp
  rw [hdd]
  ring

/-- `y ≠ 0` -/
theorem tpl_affine_y {x y Z m e u : F} (h : (Wc A B).Nonsingular x y) (hy : y ≠ 0) (hZ : Z ≠ 0) (h2 : (2 : F) ≠ 0)
    (hm : m = 3 * x ^ 2 + A) (he : e = 12 * x * y ^ 2 - m ^ 2) (hu : u = 2 * m * e - 16 * y ^ 4) :
    Rep3 A B (4 * Z ^ 18 * (x * e ^ 2 - 4 * y ^ 2 * u), 8 * y * Z ^ 27 * (u * (16 * y ^ 4 - u) - e ^ 3), 2 * Z ^ 9 * e)
      (Affine.Point.some x y h + Affine.Point.some x y h + Affine.Point.some x y h) := by
  have hyy : y + y ≠ 0 := by rw [← two_mul]; exact mul_ne_zero h2 hy
  obtain ⟨l, x₂, y₂, h', hl, hx2, hy2, e2⟩ := tangent_ex h hyy
  rw [e2]
  rw [← hm] at hl
  have hlm : l * (2 * y) = m := by rw [hl, ← two_mul]; field_simp
  have h4' : (4 : F) ≠ 0 := by
    have : (4 : F) = 2 * 2 := by norm_num
    rw [this]; exact mul_ne_zero h2 h2
  have hxe : (x₂ - x) * (4 * y ^ 2) = - e := by rw [hx2, he, ← hlm]; ring
  have h4 : (4 : F) * y ^ 2 ≠ 0 := mul_ne_zero h4' (pow_ne_zero _ hy)
  unfold Rep3
  simp only []
  by_cases he0 : e = 0
  · have hx : x₂ = x := by
      have : (x₂ - x) * (4 * y ^ 2) = 0 := by rw [hxe, he0, neg_zero]
      rcases mul_eq_zero.1 this with h0 | h0
      · exact sub_eq_zero.1 h0
      · exact absurd h0 h4
    have hyn : y₂ = -y := by rw [hy2, hx]; ring
    rw [if_pos (by rw [he0, mul_zero])]
    exact add_inverse h' h hx hyn
  · have hx : x₂ ≠ x := by
      intro hx; apply he0
      have : -e = 0 := by rw [← hxe, hx, sub_self, zero_mul]
      exact neg_eq_zero.1 this
    have hz3 : 2 * Z ^ 9 * e ≠ 0 := mul_ne_zero (mul_ne_zero h2 (pow_ne_zero _ hZ)) he0
    rw [if_neg hz3]
    obtain ⟨d, hd⟩ : ∃ d, d = x₂ - x := ⟨_, rfl⟩
    have hd' : x₂ - x = d := hd.symm
    have hxd : x₂ = x + d := by rw [hd]; ring
    have hdne : d ≠ 0 := by rw [hd]; exact sub_ne_zero.2 hx
    have hdd : d = l ^ 2 - 3 * x := by rw [hd, hx2]; ring
    have hee : e = -(4 * y ^ 2 * d) := by rw [hd]; linear_combination hxe
    refine Rep2_of_eq (add_chord h' h hx) ?_ ?_
    · rw [hy2, hd', hxd, hu, hee, ← hlm]
      exact gen_x hy hZ h2 hdne hdd
    · rw [hy2, hd', hxd, hu, hee, ← hlm]
      exact gen_y hy hZ h2 hdne hdd

/-- every affine point -/
theorem tpl_affine {x y Z m e u : F} (h : (Wc A B).Nonsingular x y) (hZ : Z ≠ 0) (h2 : (2 : F) ≠ 0)
    (hm : m = 3 * x ^ 2 + A) (he : e = 12 * x * y ^ 2 - m ^ 2) (hu : u = 2 * m * e - 16 * y ^ 4) :
    Rep3 A B (4 * Z ^ 18 * (x * e ^ 2 - 4 * y ^ 2 * u),
        8 * y * Z ^ 27 * (u * (16 * y ^ 4 - u) - e ^ 3), 2 * Z ^ 9 * e)
      (Affine.Point.some x y h + Affine.Point.some x y h + Affine.Point.some x y h) := by
  by_cases hy : y = 0
  · exact tpl_affine_y0 h hy hZ h2 hm he hu
  · exact tpl_affine_y h hy hZ h2 hm he hu

/-- `tplOut` in affine coordinates -/
theorem tplOut_affine (x y Z : F) :
    tplOut A (x * Z ^ 2) (y * Z ^ 3) Z =
      (4 * Z ^ 18 * (x * (12 * x * y ^ 2 - (3 * x ^ 2 + A) ^ 2) ^ 2 - 4 * y ^ 2 *
          (2 * (3 * x ^ 2 + A) * (12 * x * y ^ 2 - (3 * x ^ 2 + A) ^ 2) - 16 * y ^ 4)),
       8 * y * Z ^ 27 * ((2 * (3 * x ^ 2 + A) * (12 * x * y ^ 2 - (3 * x ^ 2 + A) ^ 2) - 16 * y ^ 4) *
          (16 * y ^ 4 - (2 * (3 * x ^ 2 + A) * (12 * x * y ^ 2 - (3 * x ^ 2 + A) ^ 2) - 16 * y ^ 4)) -
          (12 * x * y ^ 2 - (3 * x ^ 2 + A) ^ 2) ^ 3),
       2 * Z ^ 9 * (12 * x * y ^ 2 - (3 * x ^ 2 + A) ^ 2)) := by
  obtain ⟨m, hm⟩ : ∃ m, m = 3 * x ^ 2 + A := ⟨_, rfl⟩
  rw [← hm]
  obtain ⟨e, he⟩ : ∃ e, e = 12 * x * y ^ 2 - m ^ 2 := ⟨_, rfl⟩
  rw [← he]
  obtain ⟨u, hu⟩ : ∃ u, u = 2 * m * e - 16 * y ^ 4 := ⟨_, rfl⟩
  rw [← hu]
  have hM : tM A (x * Z ^ 2) Z = Z ^ 4 * m := by rw [tM, hm]; ring
  have hE : tE A (x * Z ^ 2) (y * Z ^ 3) Z = Z ^ 8 * e := by rw [tE, hM, he]; ring
  have hU : tU A (x * Z ^ 2) (y * Z ^ 3) Z = Z ^ 12 * u := by rw [tU, hM, hE, hu]; ring
  rw [tplOut, hU, hE]
  refine Prod.ext ?_ (Prod.ext ?_ ?_) <;> simp only [] <;> ring

/-- the closed form represents `3P`, every case -/
theorem tplOut_ok {p : P3 F} {P : (Wc A B).Point} (h2 : (2 : F) ≠ 0) (hp : Rep3 A B p P) :
    Rep3 A B (tplOut A p.1 p.2.1 p.2.2) (P + P + P) := by
  obtain ⟨X, Y, Z⟩ := p
  unfold Rep3 at hp
  simp only [] at hp ⊢
  by_cases hZ : Z = 0
  · rw [if_pos hZ] at hp
    subst hp; subst hZ
    unfold Rep3
    simp [tplOut]
  · rw [if_neg hZ] at hp
    obtain ⟨h, rfl⟩ := hp
    have hX : X = X / Z ^ 2 * Z ^ 2 := by field_simp
    have hY : Y = Y / Z ^ 3 * Z ^ 3 := by field_simp
    simp only [] at h ⊢
    generalize X / Z ^ 2 = x at h hX ⊢
    generalize Y / Z ^ 3 = y at h hY ⊢
    subst hX; subst hY
    rw [tplOut_affine]
    exact tpl_affine h hZ h2 rfl rfl rfl

theorem tplJ_ok {p : P3 F} {P : (Wc A B).Point} (h2 : (2 : F) ≠ 0)
    (hp : Rep3 A B p P) :
    Rep3 A B (run1 (curveF A B) ecpTplJ .n p) (P + P + P) := by
  obtain ⟨X, Y, Z⟩ := p
  rw [tplJ_exec]
  exact tplOut_ok h2 hp

theorem tplJA3_ok {p : P3 F} {P : (Wc A B).Point} (h2 : (2 : F) ≠ 0) (hA : A = -3)
    (hp : Rep3 A B p P) :
    Rep3 A B (run1 (curveF A B) ecpTplJA3 .n p) (P + P + P) := by
  obtain ⟨X, Y, Z⟩ := p
  rw [tplJA3_exec hA]
  exact tplOut_ok h2 hp

/-- `bA3` of `ecpCreateJ` over a field -/
theorem a3_iff : (curveF A B).a3 = true ↔ A = -3 := by
  simp only [curveF, mkCurve, fieldFld, decide_eq_true_eq]
  constructor
  · intro h; rw [← h]; ring
  · intro h; rw [h]; ring

theorem tpl_ok {p : P3 F} {P : (Wc A B).Point} (h2 : (2 : F) ≠ 0)
    (hp : Rep3 A B p P) :
    Rep3 A B ((ecOps (curveF A B)).tpl .n p) (P + P + P) := by
  show Rep3 A B (run1 (curveF A B) (tplProg (curveF A B)) .n p) (P + P + P)
  unfold tplProg
  by_cases h3 : (curveF A B).a3 = true
  · rw [if_pos h3]; exact tplJA3_ok h2 (a3_iff.1 h3) hp
  · rw [if_neg h3]; exact tplJ_ok h2 hp

/-! concrete points: `y² = x³ + 1` over ℚ has `(2, 3)` of order six, `(−1, 0)` of order two,
    `(0, 1)` of order three; `y² = x³ − 3x + 3` has `(1, 1)`. -/

theorem ns23 : (Wc (0 : ℚ) 1).Nonsingular 2 3 :=
  (Wc_nonsingular _ _ _ _).2 ⟨by norm_num, Or.inr (by norm_num)⟩
theorem nsm10 : (Wc (0 : ℚ) 1).Nonsingular (-1) 0 :=
  (Wc_nonsingular _ _ _ _).2 ⟨by norm_num, Or.inl (by norm_num)⟩
theorem ns01 : (Wc (0 : ℚ) 1).Nonsingular 0 1 :=
  (Wc_nonsingular _ _ _ _).2 ⟨by norm_num, Or.inr (by norm_num)⟩
theorem ns11 : (Wc (-3 : ℚ) 3).Nonsingular 1 1 :=
  (Wc_nonsingular _ _ _ _).2 ⟨by norm_num, Or.inr (by norm_num)⟩

theorem rep3_of {A B X Y Z x y : ℚ} (h : (Wc A B).Nonsingular x y) (hZ : Z ≠ 0)
    (hx : X / Z ^ 2 = x) (hy : Y / Z ^ 3 = y) : Rep3 A B (X, Y, Z) (.some x y h) := by
  unfold Rep3
  simp only []
  rw [if_neg hZ]
  subst hx; subst hy
  exact ⟨h, rfl⟩

/-- `(8 : 24 : 2)` is `(2, 3)`, not normalised -/
theorem rep3_23 : Rep3 (0 : ℚ) 1 (8, 24, 2) (.some 2 3 ns23) :=
  rep3_of ns23 (by norm_num) (by norm_num) (by norm_num)
theorem rep3_m10 : Rep3 (0 : ℚ) 1 (-4, 0, 2) (.some (-1) 0 nsm10) :=
  rep3_of nsm10 (by norm_num) (by norm_num) (by norm_num)
theorem rep3_01 : Rep3 (0 : ℚ) 1 (0, 8, 2) (.some 0 1 ns01) :=
  rep3_of ns01 (by norm_num) (by norm_num) (by norm_num)
theorem rep3_11 : Rep3 (-3 : ℚ) 3 (4, 8, 2) (.some 1 1 ns11) :=
  rep3_of ns11 (by norm_num) (by norm_num) (by norm_num)
theorem rep3_O : Rep3 (0 : ℚ) 1 (5, 7, 0) 0 := by
  unfold Rep3; simp

end Bee2V.C06.Tpl
