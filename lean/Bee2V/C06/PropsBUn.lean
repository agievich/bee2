/-
C06, stage 2 — property theorems for the one-operand routines of `ec2.c` (curves
`y² + xy = x³ + Ax² + B` over a field of characteristic 2, Lopez–Dahab coordinates `x = X/Z`,
`y = Y/Z²`): `ec2NegLD`, `ec2DblLD`, `ec2DblALD`, `ec2FromALD`, `ec2ToALD`, `ec2NegA`, `ecSetO`,
`ec2IsOnA`.  Each returns the value of Mathlib's group law on `(Wb A B).Point` for EVERY input — the
point at infinity and the points of order two (`x = 0`) included — with the destination distinct from
the operand (`al = .n`) and in place (`al = .ca`), for every coefficient `A` (the three arms `A = 1`,
`A = 0`, else of the doubling routines).
-/
import Bee2V.C06.LemmasBUn4
import Bee2V.C06.LemmasPlace4
namespace Bee2V.C06
open WeierstrassCurve

set_option linter.unusedSectionVars false
set_option linter.unusedVariables false
variable {F : Type} [Field F] [DecidableEq F] [CharP F 2] {A B : F}

/-- `ec2NegLD`: `(X : XZ + Y : Z)` -/
theorem negB_correct {al : Al} {p : P3 F} {P : (Wb A B).Point} (hal : al = .n ∨ al = .ca)
    (hp : RepB3 A B p P) : RepB3 A B ((ecOps2 (curveB A B)).neg al p) (-P) :=
  RepB3.congr (run1_al (curveB A B) ec2NegLD_pl hal (by decide) p) (BUn.neg_ok hp)

example : RepB3 (0 : ZMod 2) 1 ((ecOps2 (curveB 0 1)).neg .ca (1, 0, 1)) (-(.some 1 0 BUn.ns10)) :=
  negB_correct (Or.inr rfl) BUn.repB3_10
example : RepB3 BUn.G4.w BUn.G4.w ((ecOps2 (curveB BUn.G4.w BUn.G4.w)).neg .n (BUn.G4.w, 1, BUn.G4.w))
    (-(.some 1 BUn.G4.w BUn.ns1w)) :=
  negB_correct (Or.inl rfl) BUn.repB3_1w

/-- `ec2DblLD` (`ec->dbl` as installed by `ec2CreateLD`), all three arms of the branch on `A`;
    `Z = 0 → O`, `X = 0` (a point of order two) `→ O` -/
theorem dblB_correct {al : Al} {p : P3 F} {P : (Wb A B).Point} (hal : al = .n ∨ al = .ca)
    (hp : RepB3 A B p P) : RepB3 A B ((ecOps2 (curveB A B)).dbl al p) (P + P) :=
  RepB3.congr (run1_al (curveB A B) ec2DblLD_pl hal (by decide) p) (BUn.dbl_ok hp)

/-- `A = 0`, in place -/
example : RepB3 (0 : ZMod 2) 1 ((ecOps2 (curveB 0 1)).dbl .ca (1, 0, 1))
    (.some 1 0 BUn.ns10 + .some 1 0 BUn.ns10) :=
  dblB_correct (Or.inr rfl) BUn.repB3_10
/-- a point of order two, in place -/
example : RepB3 (0 : ZMod 2) 1 ((ecOps2 (curveB 0 1)).dbl .ca (0, 1, 1))
    (.some 0 1 BUn.ns01 + .some 0 1 BUn.ns01) :=
  dblB_correct (Or.inr rfl) BUn.repB3_01
/-- `A = ω ∉ {0, 1}` over GF(4), `Z ≠ 1` -/
example : RepB3 BUn.G4.w BUn.G4.w ((ecOps2 (curveB BUn.G4.w BUn.G4.w)).dbl .n (BUn.G4.w, 1, BUn.G4.w))
    (.some 1 BUn.G4.w BUn.ns1w + .some 1 BUn.G4.w BUn.ns1w) :=
  dblB_correct (Or.inl rfl) BUn.repB3_1w

/-- `ec2DblALD`, all three arms of the branch on `A`; `x = 0 → O` -/
theorem dblaB_correct {al : Al} {a : P2 F} {P : (Wb A B).Point} (hal : al = .n ∨ al = .ca)
    (ha : RepB2 A B a P) : RepB3 A B (dbla2 (curveB A B) al a) (P + P) :=
  RepB3.congr (dbla2_al (curveB A B) hal a) (BUn.dbla_ok ha)

example : RepB3 (0 : ZMod 2) 1 (dbla2 (curveB 0 1) .ca (1, 0)) (.some 1 0 BUn.ns10 + .some 1 0 BUn.ns10) :=
  dblaB_correct (Or.inr rfl) BUn.repB2_10
/-- a point of order two on the `A = 1` curve -/
example : RepB3 (1 : ZMod 2) 1 (dbla2 (curveB 1 1) .n (0, 1)) (.some 0 1 BUn.ns01' + .some 0 1 BUn.ns01') :=
  dblaB_correct (Or.inl rfl) BUn.repB2_01'
example : RepB3 BUn.G4.w BUn.G4.w (dbla2 (curveB BUn.G4.w BUn.G4.w) .ca (1, BUn.G4.w))
    (.some 1 BUn.G4.w BUn.ns1w + .some 1 BUn.G4.w BUn.ns1w) :=
  dblaB_correct (Or.inr rfl) BUn.repB2_1w

/-- `ec2FromALD` -/
theorem fromaB_correct {al : Al} {a : P2 F} {P : (Wb A B).Point} (hal : al = .n ∨ al = .ca)
    (ha : RepB2 A B a P) : RepB3 A B (froma2 (curveB A B) al a) P :=
  RepB3.congr (froma2_al (curveB A B) hal a) (BUn.froma_ok ha)

example : RepB3 (0 : ZMod 2) 1 (froma2 (curveB 0 1) .ca (1, 0)) (.some 1 0 BUn.ns10) :=
  fromaB_correct (Or.inr rfl) BUn.repB2_10

/-- `ec2ToALD`: FALSE iff the point is `O`, otherwise the affine point -/
theorem toaB_correct {al : Al} {p : P3 F} {P : (Wb A B).Point} (hal : al = .n ∨ al = .ca)
    (hp : RepB3 A B p P) :
    (toa2 (curveB A B) al p = none ↔ P = 0) ∧ ∀ b, toa2 (curveB A B) al p = some b → RepB2 A B b P := by
  rw [toa2_al (curveB A B) hal]; exact BUn.toa_ok hp

example : (toa2 (curveB BUn.G4.w BUn.G4.w) .ca (BUn.G4.w, 1, BUn.G4.w) = none ↔
      (Affine.Point.some 1 BUn.G4.w BUn.ns1w) = 0) ∧
    ∀ b, toa2 (curveB BUn.G4.w BUn.G4.w) .ca (BUn.G4.w, 1, BUn.G4.w) = some b →
      RepB2 BUn.G4.w BUn.G4.w b (.some 1 BUn.G4.w BUn.ns1w) :=
  toaB_correct (Or.inr rfl) BUn.repB3_1w

/-- `ec2NegA`: `(x, x + y)` -/
theorem negAB_correct {al : Al} {a : P2 F} {P : (Wb A B).Point} (hal : al = .n ∨ al = .ca)
    (ha : RepB2 A B a P) : RepB2 A B (negA2 (curveB A B) al a) (-P) :=
  BUn.negA_ok hal ha

example : RepB2 (0 : ZMod 2) 1 (negA2 (curveB 0 1) .ca (1, 0)) (-(.some 1 0 BUn.ns10)) :=
  negAB_correct (Or.inr rfl) BUn.repB2_10

/-- `ec2FromALD` then reading the first two words back -/
theorem viewB_froma (a : P2 F) :
    (ecOps2 (curveB A B)).view ((ecOps2 (curveB A B)).froma a) = a := by
  obtain ⟨X, Y⟩ := a
  show ((froma2 (curveB A B) .n (X, Y)).1, (froma2 (curveB A B) .n (X, Y)).2.1) = (X, Y)
  rw [BUn.fromALD_exec]

example : (ecOps2 (curveB (0 : ZMod 2) 1)).view ((ecOps2 (curveB (0 : ZMod 2) 1)).froma (1, 0)) = (1, 0) :=
  viewB_froma _

/-- `ecSetO` -/
theorem setOB_correct : RepB3 A B (ecOps2 (curveB A B)).setO 0 :=
  BUn.repB3_O rfl

example : RepB3 (0 : ZMod 2) 1 (ecOps2 (curveB 0 1)).setO 0 := setOB_correct

/-- `ec2IsOnA` on field elements -/
theorem isOnA2_correct (a : P2 F) :
    isOnA2 (curveB A B) a = true ↔ a.2 ^ 2 + a.1 * a.2 = a.1 ^ 3 + A * a.1 ^ 2 + B :=
  BUn.isOnA_ok a

example : isOnA2 (curveB BUn.G4.w BUn.G4.w) (1, BUn.G4.w) = true := (isOnA2_correct _).2 (by rfl)
example : ¬ isOnA2 (curveB BUn.G4.w BUn.G4.w) (1, 1) = true := fun h => by
  have := (isOnA2_correct _).1 h; revert this; decide

end Bee2V.C06
