/-
C06 — NAF layer, part 4: the bit length of the packed string as the C tracks it (`naf_len`): instrumented
loop `nafLoopLen`, "holds at every visited state" predicate `nafLoopAll`, the shape of one iteration
(`nafStep_shape`), and the length invariant `LenInv` with its preservation.
-/
import Bee2V.C06.LemmasNafTerm
namespace Bee2V.C06.MulL
open Bee2V.C06

/-- `naf_len` after one iteration: `+w` for a non-zero digit, `+1` for a zero digit -/
def nafStepLen (w : Nat) (st : NafSt) (len : Nat) : Nat :=
  if st.window % 2 = 1 then len + w else len + 1

/-- `nafLoop` carrying `naf_len` -/
def nafLoopLen (a w alen : Nat) : Nat → Nat → NafSt → Nat → NafSt × Nat
  | 0, _, st, len => (st, len)
  | fuel + 1, i, st, len =>
    if st.window = 0 ∧ i ≥ alen then (st, len)
    else nafLoopLen a w alen fuel (i + 1) (nafStep a w alen i st) (nafStepLen w st len)

/-- final `naf_len` of `wwNAF(naf, a, n, w)` -/
def wwNAFLen (a w : Nat) : Nat :=
  if a = 0 then 0 else
  (nafLoopLen a w (bitSize a) (bitSize a + w + 2) w { window := a % 2 ^ w, naf := 0, size := 0 } 0).2

/-- `Q` holds at every state visited by the loop (loop head, before the exit test, and the final state) -/
def nafLoopAll (Q : NafSt → Nat → Prop) (a w alen : Nat) : Nat → Nat → NafSt → Nat → Prop
  | 0, _, st, len => Q st len
  | fuel + 1, i, st, len =>
    Q st len ∧ (¬(st.window = 0 ∧ i ≥ alen) →
      nafLoopAll Q a w alen fuel (i + 1) (nafStep a w alen i st) (nafStepLen w st len))

theorem nafLoopLen_fst (a w alen : Nat) : ∀ (fuel i : Nat) (st : NafSt) (len : Nat),
    (nafLoopLen a w alen fuel i st len).1 = nafLoop a w alen fuel i st := by
  intro fuel
  induction fuel with
  | zero => intro i st len; rfl
  | succ n ih =>
    intro i st len
    unfold nafLoopLen nafLoop
    split
    · rfl
    · exact ih _ _ _

theorem nafLoopAll_mono {Q Q' : NafSt → Nat → Prop} (h : ∀ st len, Q st len → Q' st len)
    (a w alen : Nat) : ∀ (fuel i : Nat) (st : NafSt) (len : Nat),
    nafLoopAll Q a w alen fuel i st len → nafLoopAll Q' a w alen fuel i st len := by
  intro fuel
  induction fuel with
  | zero => intro i st len hq; exact h _ _ hq
  | succ n ih =>
    intro i st len hq
    exact ⟨h _ _ hq.1, fun hnt => ih _ _ _ (hq.2 hnt)⟩

theorem nafLoopAll_final {Q : NafSt → Nat → Prop} (a w alen : Nat) : ∀ (fuel i : Nat) (st : NafSt) (len : Nat),
    nafLoopAll Q a w alen fuel i st len →
    Q (nafLoopLen a w alen fuel i st len).1 (nafLoopLen a w alen fuel i st len).2 := by
  intro fuel
  induction fuel with
  | zero => intro i st len hq; exact hq
  | succ n ih =>
    intro i st len hq
    unfold nafLoopLen
    split
    · exact hq.1
    · rename_i hnt; exact ih _ _ _ (hq.2 hnt)

/-- bit length of a digit list: `w` per non-zero digit, 1 per zero digit -/
def digitsLen (w : Nat) : List Int → Nat
  | [] => 0
  | e :: L => (if e = 0 then 1 else w) + digitsLen w L

theorem sval_ne_zero {w c : Nat} (hw : 2 ≤ w) (hodd : c % 2 = 1) : sval w c ≠ 0 := by
  obtain ⟨_, h2, _⟩ := two_pow_split hw
  by_cases hc : c < 2 ^ (w - 1)
  · rw [sval_pos rfl hc]; omega
  · rw [sval_neg rfl (by omega)]; omega

/-- shape of one iteration: what is pushed and which power of two divides the next window -/
theorem nafStep_shape {d w : Nat} (hw : 2 ≤ w) (i : Nat) (st : NafSt) (hwin : st.window ≤ 2 ^ w) :
    (st.window % 2 = 0 ∧ (nafStep d w (bitSize d) i st).naf = st.naf * 2 ∧
      ∀ r, 2 ^ (r + 1) ∣ st.window → r + 1 ≤ w - 1 → 2 ^ r ∣ (nafStep d w (bitSize d) i st).window) ∨
    (st.window % 2 = 1 ∧ ∃ c r, c % 2 = 1 ∧ c < 2 ^ w ∧
      (nafStep d w (bitSize d) i st).naf = st.naf * 2 ^ w + c ∧
      2 ^ r ∣ (nafStep d w (bitSize d) i st).window ∧ w - 2 ≤ r ∧ r ≤ w - 1) := by
  obtain ⟨h1, h2, h3⟩ := two_pow_split hw
  have hib := inBit_eq d i (2 ^ (w - 1))
  have hlt : st.window % 2 = 1 → st.window < 2 ^ w := by
    intro hpar; rw [h1, h2] at hwin ⊢; exact odd_lt_of_le hwin hpar
  rcases nafStep_cases d (bitSize d) i hw st hwin _ rfl with
    ⟨hpar, heq⟩ | ⟨hpar, hl, heq⟩ | ⟨hpar, hge, hi, heq⟩ | ⟨hpar, hge, hi, heq⟩
  · left
    refine ⟨hpar, by rw [heq], ?_⟩
    intro r hr hrw
    rw [heq, hib]
    apply Nat.dvd_add
    · obtain ⟨q, hq⟩ := hr
      exact ⟨q, by rw [hq, Nat.pow_succ, Nat.mul_assoc, Nat.mul_comm 2 q, ← Nat.mul_assoc,
        Nat.mul_div_cancel _ (by decide)]⟩
    · exact Dvd.dvd.mul_right (Nat.pow_dvd_pow 2 (by omega)) _
  · right
    refine ⟨hpar, st.window, w - 1, hpar, hlt hpar, by rw [heq], ?_, by omega, le_refl _⟩
    rw [heq, hib]; exact Dvd.intro _ rfl
  · right
    have := hlt hpar
    refine ⟨hpar, 3 * 2 ^ (w - 1) - st.window, w - 1, by omega, by omega, by rw [heq], ?_,
      by omega, le_refl _⟩
    rw [heq, hib]
    exact Nat.dvd_add (dvd_refl _) (Dvd.intro _ rfl)
  · right
    have := hlt hpar
    refine ⟨hpar, st.window - 2 ^ (w - 1), w - 2, by omega, by omega, by rw [heq], ?_,
      le_refl _, by omega⟩
    rw [heq, inBit_of_ge hi, h2]
    simp

/-- the length invariant at the head of the loop -/
structure LenInv (d w : Nat) (st : NafSt) (len : Nat) : Prop where
  inv : NafInv d w st
  sz : st.size + mu d w st ≤ bitSize d + 1
  amort : ∃ r, len ≤ 2 * st.size + r ∧ r ≤ w - 1 ∧ 2 ^ r ∣ st.window
  packed : st.naf < 2 ^ len
  dlen : len = digitsLen w (decode w st.naf st.size 0)
  fin : st.window = 0 → bitSize d ≤ w + st.size → len + 2 ≤ 2 * st.size + w

theorem lenInv_step {d w : Nat} (hw : 2 ≤ w) {st : NafSt} {len : Nat} (h : LenInv d w st len)
    (hnt : ¬(st.window = 0 ∧ w + st.size ≥ bitSize d)) :
    LenInv d w (nafStep d w (bitSize d) (w + st.size) st) (nafStepLen w st len) := by
  have inv' := nafInv_step hw h.inv hnt
  have hmu := mu_step hw h.inv.win hnt
  obtain ⟨r, hr1, hr2, hr3⟩ := h.amort
  have hpk := h.packed
  have hsz := h.sz
  have hpw := Nat.two_pow_pos w
  rcases nafStep_shape (d := d) hw (w + st.size) st h.inv.win with
    ⟨hpar, hnaf, hdvd⟩ | ⟨hpar, c, r', hco, hc, hnaf, hdvd, hr'1, hr'2⟩
  · -- zero digit
    have hl : nafStepLen w st len = len + 1 := by unfold nafStepLen; rw [if_neg (by omega)]
    rw [hl]
    refine ⟨inv', by rw [nafStep_size]; omega, ?_, ?_, ?_, ?_⟩
    · rcases r with _ | r
      · exact ⟨0, by rw [nafStep_size]; omega, by omega, by simp⟩
      · exact ⟨r, by rw [nafStep_size]; omega, by omega, hdvd r hr3 hr2⟩
    · rw [hnaf, Nat.pow_succ]; omega
    · rw [hnaf, nafStep_size, decode_push0 w _ _ (by omega), digitsLen, if_pos rfl, ← h.dlen]; omega
    · intro hz hb
      exfalso
      have := (inv'.top hz hb).2.1
      rw [hnaf] at this
      unfold getBits at this
      rw [Nat.shiftRight_zero, Nat.mod_mod_of_dvd _ (dvd_pow_self 2 (by omega))] at this
      omega
  · -- non-zero digit: the window is odd, hence `r = 0`
    have hl : nafStepLen w st len = len + w := by unfold nafStepLen; rw [if_pos hpar]
    have hr0 : r = 0 := by
      rcases r with _ | r
      · rfl
      · exfalso
        have : 2 ∣ st.window := Dvd.dvd.trans (Dvd.intro_left (2 ^ r) (by rw [Nat.pow_succ])) hr3
        omega
    subst hr0
    rw [hl]
    refine ⟨inv', by rw [nafStep_size]; omega, ⟨r', by rw [nafStep_size]; omega, hr'2, hdvd⟩, ?_, ?_, ?_⟩
    · rw [hnaf, Nat.pow_add]
      calc st.naf * 2 ^ w + c < st.naf * 2 ^ w + 2 ^ w := by omega
        _ = (st.naf + 1) * 2 ^ w := by ring
        _ ≤ 2 ^ len * 2 ^ w := Nat.mul_le_mul_right _ hpk
    · rw [hnaf, nafStep_size, decode_push w _ _ _ hc hco, digitsLen, if_neg (sval_ne_zero hw hco),
        ← h.dlen]; omega
    · intro _ _; rw [nafStep_size]; omega

theorem lenInv_init {d w : Nat} (hw : 2 ≤ w) (hd : d ≠ 0) :
    LenInv d w { window := d % 2 ^ w, naf := 0, size := 0 } 0 := by
  refine ⟨nafInv_init hd, ?_, ⟨0, by simp, by omega, by simp⟩, by simp, by simp [decode, digitsLen], ?_⟩
  · -- tight initial measure: at most `bitSize d + 1` iterations
    obtain ⟨_, h2, _⟩ := two_pow_split hw
    unfold mu
    simp only [Nat.add_zero, Nat.zero_add]
    split
    · omega
    · rename_i hge
      have hdw : d < 2 ^ w := (bitSize_le_iff d w).1 (by omega)
      rw [Nat.mod_eq_of_lt hdw]
      split
      · rename_i hc
        have : ¬ bitSize d ≤ w - 1 := by rw [bitSize_le_iff]; omega
        omega
      · omega
  · intro h0 hb
    exfalso
    exact (nafInv_init (w := w) hd).top h0 hb |>.1 |> Nat.lt_irrefl 0

end Bee2V.C06.MulL
