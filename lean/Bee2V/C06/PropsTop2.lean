/-
C06, stage 2 — composition for binary curves: the function table that `ec2CreateLD` installs
(over any field of characteristic 2) implements Mathlib's group of points of
`y² + xy = x³ + Ax² + B`, hence `ecMulA`, `ecHasOrderA`, `ecAddMulA` (ec.c) run on it return `d • P`,
`Σ dᵢ • Pᵢ` and FALSE exactly for the point at infinity, for every scalar, length and window width.
(What the driver executes for binary curves, `gf2Fld`, is tied to gf2.c by the differential run only:
there is no simulation theorem `gf2Fld ~ field` — see docs/C06.md.)
-/
import Bee2V.C06.PropsMul
import Bee2V.C06.PropsBUn
import Bee2V.C06.PropsBAdd
import Bee2V.C06.PropsBAddA
import Bee2V.C06.PropsBAA
import Bee2V.C06.LemmasTop2
import Bee2V.C06.Core2
import Mathlib.Algebra.Field.ZMod
namespace Bee2V.C06
open WeierstrassCurve

variable {F : Type} [Field F] [DecidableEq F] [CharP F 2] {A B : F}

/-- the table of `ec2CreateLD` is a correct operation table for the group of points -/
theorem ecOps2_correct : (ecOps2 (curveB A B)).Correct (RepB3 A B) (RepB2 A B) where
  froma h := fromaB_correct (Or.inl rfl) h
  view_froma {a g} h := by rw [viewB_froma]; exact h
  toa_none h := (toaB_correct (Or.inl rfl) h).1
  toa_some h hb := (toaB_correct (Or.inl rfl) h).2 _ hb
  setO := setOB_correct
  dbl_ca h := dblB_correct (Or.inr rfl) h
  dbla h := dblaB_correct (Or.inl rfl) h
  add_n hp hq := addB_correct (Or.inl rfl) hp hq
  add_ca hp hq := addB_correct (Or.inr (Or.inl rfl)) hp hq
  sub_ca hp hq := subB_correct (Or.inr (Or.inl rfl)) hp hq
  adda_n hp hq := addaB_correct (Or.inl rfl) hp hq
  adda_ca hp hq := addaB_correct (Or.inr (Or.inl rfl)) hp hq
  suba_ca hp hq := subaB_correct (Or.inr (Or.inl rfl)) hp hq

theorem ecMulA_curveB {a : P2 F} {P : (Wb A B).Point} (ha : RepB2 A B a P) (W m d : Nat) :
    (ecMulA (ecOps2 (curveB A B)) W a d m = none ↔ d • P = 0) ∧
    ∀ b, ecMulA (ecOps2 (curveB A B)) W a d m = some b → RepB2 A B b (d • P) :=
  ecMulA_spec ecOps2_correct ha W m d

theorem ecHasOrderA_curveB {a : P2 F} {P : (Wb A B).Point} (ha : RepB2 A B a P) (W m q : Nat) :
    ecHasOrderA (ecOps2 (curveB A B)) W a q m = true ↔ q • P = 0 :=
  ecHasOrderA_spec ecOps2_correct ha W m q

theorem ecAddMulA_curveB (args : List (P2 F × Nat)) (Ps : List (Wb A B).Point)
    (h : List.Forall₂ (fun ad P => RepB2 A B ad.1 P) args Ps) (W : Nat) :
    let s := (List.zipWith (fun ad P => ad.2 • P) args Ps).sum
    (ecAddMulA (ecOps2 (curveB A B)) W args = none ↔ s = 0) ∧
    ∀ b, ecAddMulA (ecOps2 (curveB A B)) W args = some b → RepB2 A B b s :=
  ecAddMulA_spec ecOps2_correct args Ps h W


/-! ### what the driver runs for binary curves, under the explicit arithmetic assumption

`…_partial`: for ANY executable record `f` of field operations that simulates `fieldFld F` (`F` a field of characteristic 2)
through a map `φ` on values satisfying `R` (`Sim.FldSim`).  The instance for `gf2Fld md m`, `md` irreducible — xor, carry-less
multiplication with reduction and the polynomial extended Euclid of `Core2.lean` are the arithmetic of a field — is
`C05.gf2Fld_sim`; PropsTop3 states the theorems with it, without hypothesis. -/

section sim
variable {α : Type} {f : Fld α} {φ : α → F} {R : α → Prop}

theorem ecOps2_sim_correct_partial (H : Sim.FldSim f (fieldFld F) φ R) {A B : α} (hA : R A) (hB : R B) :
    (ecOps2 (mkCurve2 f A B)).Correct
      (fun q P => Sim.R3 R q ∧ RepB3 (φ A) (φ B) (Sim.map3 φ q) P)
      (fun q P => Sim.R2 R q ∧ RepB2 (φ A) (φ B) (Sim.map2 φ q) P) :=
  ecOps2_correct.of_sim (Sim.ecOps2_sim (Sim.mkCurve2_sim H hA hB))

/-- `ecMulA` on what the driver runs for a binary curve, given the arithmetic assumption `H` -/
theorem ecMulA_gf2_partial (H : Sim.FldSim f (fieldFld F) φ R) {A B : α} (hA : R A) (hB : R B)
    {a : P2 α} {P : (Wb (φ A) (φ B)).Point} (hr : Sim.R2 R a) (ha : RepB2 (φ A) (φ B) (Sim.map2 φ a) P)
    (W m d : Nat) :
    (ecMulA (ecOps2 (mkCurve2 f A B)) W a d m = none ↔ d • P = 0) ∧
    ∀ b, ecMulA (ecOps2 (mkCurve2 f A B)) W a d m = some b →
      Sim.R2 R b ∧ RepB2 (φ A) (φ B) (Sim.map2 φ b) (d • P) :=
  ecMulA_spec (ecOps2_sim_correct_partial H hA hB) ⟨hr, ha⟩ W m d

end sim

/-! ## non-vacuity -/

/-- the assumption of the `_partial` theorems is satisfiable (identity simulation of a field by itself) -/
example : Sim.FldSim (fieldFld (ZMod 2)) (fieldFld (ZMod 2)) id (fun _ => True) :=
  { zero := ⟨trivial, rfl⟩, one := ⟨trivial, rfl⟩, add := fun _ _ _ _ => ⟨trivial, rfl⟩,
    sub := fun _ _ _ _ => ⟨trivial, rfl⟩, mul := fun _ _ _ _ => ⟨trivial, rfl⟩,
    neg := fun _ _ => ⟨trivial, rfl⟩, dbl := fun _ _ => ⟨trivial, rfl⟩, half := fun _ _ => ⟨trivial, rfl⟩,
    inv := fun _ _ => ⟨trivial, rfl⟩, pow := fun _ _ _ => ⟨trivial, rfl⟩, eqb := fun _ _ _ _ => rfl }

-- `y² + xy = x³ + 1` over GF(2): cyclic of order 4 generated by (1, 0); (0, 1) has order two
example : ecMulA (ecOps2 (curveB (0 : ZMod 2) 1)) 64 ((1 : ZMod 2), (0 : ZMod 2)) 2 1 = some (0, 1) := by decide +kernel
example : ecMulA (ecOps2 (curveB (0 : ZMod 2) 1)) 64 ((1 : ZMod 2), (0 : ZMod 2)) 4 1 = none := by decide +kernel
-- the same point on what the driver runs: GF(2^4) = GF(2)[x]/(x^4 + x + 1), modulus 0b10011
example : ecMulA (ecOps2 (mkCurve2 (gf2Fld 19 4) 0 1)) 64 (1, 0) 3 1 = some (1, 1) := by decide +kernel
example : ecHasOrderA (ecOps2 (mkCurve2 (gf2Fld 19 4) 0 1)) 64 (1, 0) 4 1 = true := by decide +kernel
example : ecAddMulA (ecOps2 (mkCurve2 (gf2Fld 19 4) 0 1)) 64 [((1, 0), 3), ((1, 0), 3)] = some (0, 1) := by
  decide +kernel

end Bee2V.C06
