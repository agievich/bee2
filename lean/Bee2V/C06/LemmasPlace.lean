/-
C06, phase 3 — placement independence of the programs.  `Prog.run_map`: running the renamed program `P.map ρ` on a store
that agrees (through `ρ`) with `st` on the declared inputs gives the flag and the outputs of running `P` on `st`.  `ρ` may
identify registers that `σ` identifies (`σ` = the aliasing of the call; `σ = id` for an injective `ρ`), provided none is
read after one identified with it was written; with def-use this is the computable check `Prog.safe`.  No Mathlib.
-/
import Bee2V.C06.Core
namespace Bee2V.C06

/-! ### renaming -/

def Instr.map (ρ : Nat → Nat) : Instr → Instr
  | .sqr d a => .sqr (ρ d) (ρ a)
  | .mul d a b => .mul (ρ d) (ρ a) (ρ b)
  | .add d a b => .add (ρ d) (ρ a) (ρ b)
  | .sub d a b => .sub (ρ d) (ρ a) (ρ b)
  | .neg d a => .neg (ρ d) (ρ a)
  | .dbl d a => .dbl (ρ d) (ρ a)
  | .half d a => .half (ρ d) (ρ a)
  | .copy d a => .copy (ρ d) (ρ a)
  | .zero d => .zero (ρ d)
  | .one d => .one (ρ d)
  | .inv d a => .inv (ρ d) (ρ a)
  | .div d a b => .div (ρ d) (ρ a) (ρ b)
  | .pow d a e => .pow (ρ d) (ρ a) e

def Prog.map (ρ : Nat → Nat) : Prog → Prog
  | .ret b => .ret b
  | .seq i k => .seq (i.map ρ) (k.map ρ)
  | .ifz r t e => .ifz (ρ r) (t.map ρ) (e.map ρ)
  | .ifeq r s t e => .ifeq (ρ r) (ρ s) (t.map ρ) (e.map ρ)
  | .ifone r t e => .ifone (ρ r) (t.map ρ) (e.map ρ)

theorem Prog.map_block (ρ : Nat → Nat) (is : List Instr) (k : Prog) :
    (Prog.block is k).map ρ = Prog.block (is.map (Instr.map ρ)) (k.map ρ) := by
  induction is with
  | nil => rfl
  | cons i is ih => simp [Prog.block, Prog.map, ih]

/-- destination register -/
def Instr.dst : Instr → Nat
  | .sqr d _ | .mul d _ _ | .add d _ _ | .sub d _ _ | .neg d _ | .dbl d _ | .half d _ | .copy d _
  | .zero d | .one d | .inv d _ | .div d _ _ | .pow d _ _ => d

/-- source registers -/
def Instr.srcs : Instr → List Nat
  | .sqr _ a | .neg _ a | .dbl _ a | .half _ a | .copy _ a | .inv _ a | .pow _ a _ => [a]
  | .mul _ a b | .add _ a b | .sub _ a b | .div _ a b => [a, b]
  | .zero _ | .one _ => []

/-- the value an instruction writes, as a function of the values of its sources (in order) -/
def Instr.val {F : Type} (f : Fld F) (i : Instr) (l : List F) : F :=
  let x := l.headD f.zero
  let y := (l.drop 1).headD f.zero
  match i with
  | .sqr _ _ => f.mul x x
  | .mul _ _ _ => f.mul x y
  | .add _ _ _ => f.add x y
  | .sub _ _ _ => f.sub x y
  | .neg _ _ => f.neg x
  | .dbl _ _ => f.dbl x
  | .half _ _ => f.half x
  | .copy _ _ => x
  | .zero _ => f.zero
  | .one _ => f.one
  | .inv _ _ => f.inv x
  | .div _ _ _ => f.mul x (f.inv y)
  | .pow _ _ e => f.pow x e

theorem Instr.exec_eq {F : Type} (f : Fld F) (st : Store F) (i : Instr) :
    i.exec f st = upd st i.dst (i.val f (i.srcs.map st.get)) := by
  cases i <;> rfl

theorem Instr.map_dst (ρ : Nat → Nat) (i : Instr) : (i.map ρ).dst = ρ i.dst := by cases i <;> rfl
theorem Instr.map_srcs (ρ : Nat → Nat) (i : Instr) : (i.map ρ).srcs = i.srcs.map ρ := by cases i <;> rfl
theorem Instr.map_val {F : Type} (f : Fld F) (ρ : Nat → Nat) (i : Instr) (l : List F) :
    (i.map ρ).val f l = i.val f l := by cases i <;> rfl

/-- the registers still in agreement after a write to `d`: `d`, and those of `L` that `σ` keeps apart from `d` -/
def Prog.live (σ : Nat → Nat) (L : List Nat) (d : Nat) : List Nat := d :: L.filter fun j => σ j != σ d

/-- `L`: the declared inputs, then what was written, less what a later write has overwritten through the aliasing `σ`;
    `q` = the flags for which nothing is claimed about `out`. -/
def Prog.safe (q : Bool → Bool) (out : List Nat) (σ : Nat → Nat) (S : Nat → Bool) : List Nat → Prog → Bool
  | L, .ret b => q b || out.all (L.contains ·)
  | L, .seq i k => S i.dst && i.srcs.all (L.contains ·) && k.safe q out σ S (Prog.live σ L i.dst)
  | L, .ifz r t e => L.contains r && t.safe q out σ S L && e.safe q out σ S L
  | L, .ifeq r s t e => L.contains r && L.contains s && t.safe q out σ S L && e.safe q out σ S L
  | L, .ifone r t e => L.contains r && t.safe q out σ S L && e.safe q out σ S L



variable {F : Type} (f : Fld F)

/-- `st` is any store, in particular the canonical one: only its `L` registers matter. -/
theorem Prog.run_map {ρ σ : Nat → Nat} {S : Nat → Bool}
    (hρ : ∀ i j, S i = true → S j = true → ρ i = ρ j → σ i = σ j)
    (q : Bool → Bool) (out : List Nat) (P : Prog) (L : List Nat) (hL : ∀ i, i ∈ L → S i = true)
    (hP : P.safe q out σ S L = true) {st' st : Store F} (h : ∀ i, i ∈ L → st'.get (ρ i) = st.get i) :
    ((P.map ρ).run f st').2 = (P.run f st).2 ∧
    (q (P.run f st).2 = false → ∀ i, i ∈ out → ((P.map ρ).run f st').1.get (ρ i) = (P.run f st).1.get i) := by
  induction P generalizing L st' st with
  | ret b =>
    simp only [Prog.safe, Bool.or_eq_true, List.all_eq_true, List.contains_iff_mem] at hP
    refine ⟨rfl, fun hb i hi => ?_⟩
    simp only [Prog.run] at hb
    rcases hP with hP | hP
    · rw [hP] at hb; cases hb
    · exact h i (hP i hi)
  | seq i k ih =>
    simp only [Prog.safe, Bool.and_eq_true, List.all_eq_true, List.contains_iff_mem] at hP
    simp only [Prog.map, Prog.run]
    have hsrc : (i.srcs.map ρ).map st'.get = i.srcs.map st.get := by
      rw [List.map_map]; exact List.map_congr_left fun a ha => h a (hP.1.2 a ha)
    rw [Instr.exec_eq, Instr.exec_eq, Instr.map_dst, Instr.map_srcs, Instr.map_val, hsrc]
    refine ih (Prog.live σ L i.dst) ?_ hP.2 ?_
    · intro j hj
      simp only [Prog.live, List.mem_cons, List.mem_filter] at hj
      rcases hj with rfl | hj
      · exact hP.1.1
      · exact hL j hj.1
    · intro j hj
      simp only [Prog.live, List.mem_cons, List.mem_filter, bne_iff_ne] at hj
      simp only [upd]
      by_cases e : j = i.dst
      · subst e; simp
      · rcases hj with hj | hj
        · exact absurd hj e
        · -- `j` stays in agreement: `σ` keeps it apart from the destination, hence so does `ρ`
          have hne : ρ j ≠ ρ i.dst := fun e' => hj.2 (hρ j i.dst (hL j hj.1) hP.1.1 e')
          simp [e, hne, h j hj.1]
  | ifz r t e iht ihe =>
    simp only [Prog.safe, Bool.and_eq_true, List.contains_iff_mem] at hP
    simp only [Prog.map, Prog.run, h r hP.1.1]
    split
    · exact iht L hL hP.1.2 h
    · exact ihe L hL hP.2 h
  | ifeq r s t e iht ihe =>
    simp only [Prog.safe, Bool.and_eq_true, List.contains_iff_mem] at hP
    simp only [Prog.map, Prog.run, h r hP.1.1.1, h s hP.1.1.2]
    split
    · exact iht L hL hP.1.2 h
    · exact ihe L hL hP.2 h
  | ifone r t e iht ihe =>
    simp only [Prog.safe, Bool.and_eq_true, List.contains_iff_mem] at hP
    simp only [Prog.map, Prog.run, h r hP.1.1]
    split
    · exact iht L hL hP.1.2 h
    · exact ihe L hL hP.2 h

end Bee2V.C06
