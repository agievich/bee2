/-
C06, stage 2 — concrete points used by the non-vacuity examples of PropsBAA / PropsBAddA:
`y² + xy = x³ + 1` over `ZMod 2` (cyclic group of order 4: O, (1,0), (0,1) of order two, (1,1)).
-/
import Bee2V.C06.LemmasBAddA
import Mathlib.Algebra.Field.ZMod
namespace Bee2V.C06.BEx
open WeierstrassCurve

theorem ns01 : (Wb (0 : ZMod 2) 1).Nonsingular 0 1 := (Wb_nonsingular ..).2 (by decide)
theorem ns10 : (Wb (0 : ZMod 2) 1).Nonsingular 1 0 := (Wb_nonsingular ..).2 (by decide)
theorem ns11 : (Wb (0 : ZMod 2) 1).Nonsingular 1 1 := (Wb_nonsingular ..).2 (by decide)

theorem rep10 : RepB3 (0 : ZMod 2) 1 (1, 0, 1) (.some 1 0 ns10) :=
  BAddA.rep3_of_rep2 (by decide) (RepB2_of_eq ⟨ns10, rfl⟩ (by simp) (by simp))
theorem rep01 : RepB3 (0 : ZMod 2) 1 (0, 1, 1) (.some 0 1 ns01) :=
  BAddA.rep3_of_rep2 (by decide) (RepB2_of_eq ⟨ns01, rfl⟩ (by simp) (by simp))

end Bee2V.C06.BEx
