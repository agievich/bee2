-- Root of the `Bee2V` library: the obligation modules of every registered check
-- (GENERATED by tools_manifest.py; `./check --setup` builds this).
import Bee2V.C01.Props
import Bee2V.C01.PropsAead
import Bee2V.C01.PropsChunk
import Bee2V.C01.PropsFmt
import Bee2V.C01.PropsFmt2
import Bee2V.C01.PropsFmt3
import Bee2V.C01.PropsLcl
import Bee2V.C01.PropsLen
import Bee2V.C01.PropsModes
import Bee2V.C01.PropsPoly
import Bee2V.C01.PropsSpec
import Bee2V.C01.PropsSpecHash
import Bee2V.C01.PropsStream
import Bee2V.C01.PropsTag
import Bee2V.C01.PropsWbl
import Bee2V.C01.PropsWblR
import Bee2V.C02.Props
import Bee2V.C02.PropsBelt
import Bee2V.C02.PropsC06
import Bee2V.C02.PropsIbs
import Bee2V.C02.PropsKeyt
import Bee2V.C02.PropsNonce
import Bee2V.C02.PropsSkel
import Bee2V.C02.Toy
import Bee2V.C03.Props
import Bee2V.C04.Props
import Bee2V.C04.PropsBauth
import Bee2V.C04.PropsBelt
import Bee2V.C04.PropsBmqv
import Bee2V.C04.PropsBpace
import Bee2V.C04.PropsBsts
import Bee2V.C04.PropsDrv
import Bee2V.C04.PropsDrv2
import Bee2V.C04.PropsReject
import Bee2V.C04.PropsTamperBauth
import Bee2V.C04.PropsTamperBmqv
import Bee2V.C04.PropsTamperBpace
import Bee2V.C04.PropsTamperBsts
import Bee2V.C04.Toy
import Bee2V.C05.Props
import Bee2V.C05.PropsAdd
import Bee2V.C05.PropsAlias
import Bee2V.C05.PropsBits
import Bee2V.C05.PropsDiv
import Bee2V.C05.PropsEtc
import Bee2V.C05.PropsEtcW
import Bee2V.C05.PropsFld
import Bee2V.C05.PropsGcd
import Bee2V.C05.PropsGcdW
import Bee2V.C05.PropsGf2
import Bee2V.C05.PropsGf2Ops
import Bee2V.C05.PropsMinPoly
import Bee2V.C05.PropsMisc
import Bee2V.C05.PropsMul
import Bee2V.C05.PropsPp
import Bee2V.C05.PropsPpDiv
import Bee2V.C05.PropsPpModOps
import Bee2V.C05.PropsPpMul
import Bee2V.C05.PropsPpRed
import Bee2V.C05.PropsPpW
import Bee2V.C05.PropsRed
import Bee2V.C05.PropsZm
import Bee2V.C06.Props
import Bee2V.C06.PropsAA
import Bee2V.C06.PropsAddAJ
import Bee2V.C06.PropsAddJ
import Bee2V.C06.PropsBAA
import Bee2V.C06.PropsBAdd
import Bee2V.C06.PropsBAddA
import Bee2V.C06.PropsBUn
import Bee2V.C06.PropsGen
import Bee2V.C06.PropsGen2
import Bee2V.C06.PropsMul
import Bee2V.C06.PropsNafLen
import Bee2V.C06.PropsPlace
import Bee2V.C06.PropsPlace2
import Bee2V.C06.PropsPlace3
import Bee2V.C06.PropsPlace4
import Bee2V.C06.PropsPlace5
import Bee2V.C06.PropsSWU
import Bee2V.C06.PropsSWU2
import Bee2V.C06.PropsSim
import Bee2V.C06.PropsTop
import Bee2V.C06.PropsTop2
import Bee2V.C06.PropsTop3
import Bee2V.C06.PropsTpl
import Bee2V.C06.PropsUn
import Bee2V.C06.PropsValid
import Bee2V.C07.Props
import Bee2V.C07.PropsBlob
import Bee2V.C08.Props
import Bee2V.C08.Props2
import Bee2V.C08.Props3
import Bee2V.C08.Props4
import Bee2V.C08.Props5
import Bee2V.C08.Props6
import Bee2V.C08.Props7
import Bee2V.C08.Props8
import Bee2V.C08.Props9
import Bee2V.C09.Cascade
import Bee2V.C09.Props
import Bee2V.C10.Props
import Bee2V.C10.PropsAbsorb
import Bee2V.C10.PropsAead
import Bee2V.C10.PropsBrng
import Bee2V.C10.PropsGen
import Bee2V.C10.PropsModes
import Bee2V.C10.PropsRefined
import Bee2V.C10.PropsStd
import Bee2V.C10.PropsStructs
import Bee2V.C11.Props
import Bee2V.C11.PropsConc
import Bee2V.C11.PropsHL
import Bee2V.C11.PropsMath
import Bee2V.C12.Props
import Bee2V.C12.PropsEc2
import Bee2V.C12.PropsObj
import Bee2V.C12.PropsPp
import Bee2V.C12.PropsPri
import Bee2V.C12.PropsSprp
import Bee2V.C12.PropsVal
import Bee2V.C12.PropsVal2
import Bee2V.C13.Props
import Bee2V.C13.PropsKeys
import Bee2V.C13.PropsRec
import Bee2V.C14.Props
import Bee2V.C14.PropsCmp
import Bee2V.C15.Props
import Bee2V.C16.Props
import Bee2V.C16.PropsB96
import Bee2V.C16.PropsC06
import Bee2V.C16.PropsDstuPoint
import Bee2V.C16.PropsDstuSig
import Bee2V.C16.PropsDstuSub
import Bee2V.C16.PropsG12
import Bee2V.C16.PropsPfok
import Bee2V.C17.PropsBpki
import Bee2V.C17.PropsCVC
import Bee2V.C17.PropsSM
import Bee2V.C18.Props
import Bee2V.C18.Statics
import Bee2V.C19.Props
import Bee2V.C19.Props2
import Bee2V.C20.Props
import Bee2V.Gen.C07UseW32_0
import Bee2V.Gen.C07UseW32_1
import Bee2V.Gen.C07UseW32_2
import Bee2V.Gen.C07UseW32_3
import Bee2V.Gen.C07UseW32_4
import Bee2V.Gen.C07UseW32_5
import Bee2V.Gen.C07UseW32_6
import Bee2V.Gen.C07UseW32_7
import Bee2V.Gen.C07UseW64_0
import Bee2V.Gen.C07UseW64_1
import Bee2V.Gen.C07UseW64_2
import Bee2V.Gen.C07UseW64_3
import Bee2V.Gen.C07UseW64_4
import Bee2V.Gen.C07UseW64_5
import Bee2V.Gen.C07UseW64_6
import Bee2V.Gen.C07UseW64_7
import Bee2V.Gen.C09Obl
import Bee2V.Gen.C14Obl
import Bee2V.Gen.C14Obl32
import Bee2V.Gen.C14OblPrim
import Bee2V.Gen.C15Obl
